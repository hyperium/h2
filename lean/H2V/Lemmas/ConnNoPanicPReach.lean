import H2V.Lemmas.ConnNoPanicPHandles
import H2V.Lemmas.ConnNoPanicPTearSettings
/-
  C08 (no panic): reachable states.  `Step s s'`: one call of a stream-layer function that
  ConnProto / ConnDriver make on `Conn.streams`, within the documented preconditions; `Reach`: closure
  from a blank stream layer (empty store, zero counters, any configuration).  `reach_npi`: the full
  invariant, in particular `panicked = none`, holds in every reachable state as long as the
  local-error-reset quota is not exhausted.
-/
namespace H2V.Lemmas.ConnNoPanicP
open H2V H2V.Model H2V.Model.Conn H2V.Lemmas.ConnCountsP

/-- the frame length the decoder can deliver -/
def FrameLenOK (payload : Bytes) (pad : Option Nat) : Prop :=
  payload.length + (match pad with | some p => p + 1 | none => 0) ≤ Generated.Consts.MAX_WINDOW_SIZE

inductive Step : Streams → Streams → Prop
  | recvHeaders (s : Streams) (hd : HeadersIn) (href : s.recv.refused = none) : Step s (s.recvHeaders hd).1
  | recvData (s : Streams) (id : Nat) (p : Bytes) (eos : Bool) (pad : Option Nat) (hlen : FrameLenOK p pad) :
      Step s (s.recvData id p eos pad).1
  | recvReset (s : Streams) (id : Nat) (r : Reason) : Step s (s.recvReset id r).1
  | recvWindowUpdate (s : Streams) (id inc : Nat) : Step s (s.recvWindowUpdate id inc).1
  | innerSendReset (s : Streams) (id : Nat) (r : Reason) : Step s (s.innerSendReset id r).1
  | recvGoAway (s : Streams) (l : Nat) (hl : s.recv.maxStreamId ≥ l) : Step s (s.recvGoAway l)
  | wake (s : Streams) (t : List String) : Step s (s.wake t)
  | handleError (s : Streams) (e : PErr) : Step s (s.handleError e).1
  | recvGoAwayFrame (s : Streams) (last : Nat) (r : Reason) (d : Bytes) : Step s (s.recvGoAwayFrame last r d).1
  | recvEof (s : Streams) (b : Bool) (ha : b = true → AccOK s) : Step s (s.recvEof b)
  | clearExpiredResetStreams (s : Streams) (n : Nat) : Step s (Streams.clearExpiredResetStreams n s)
  | applyRemoteSettings (s : Streams) (vals : List (Nat × Nat)) (b : Bool) : Step s (s.applyRemoteSettings vals b).1
  | applyLocalSettingsFrame (s : Streams) (vals : List (Nat × Nat)) : Step s (s.applyLocalSettingsFrame vals).1
  | cloneHandle (s : Streams) : Step s s.cloneHandle
  | dropHandle (s : Streams) : Step s s.dropHandle
  | sendRequest (s : Streams) (isHead : Bool) (f : List Hpack.Field) (eos : Bool) (p : Option Nat)
      (hfree : ∀ id, s.actions.send.nextStreamId = some id → s.store.contains id = false) :
      Step s (s.sendRequest isHead f eos p).1
  | pollPendingOpen (s : Streams) (p : Option Nat) (t : String) (hp : ∀ k, p = some k → Live s k) :
      Step s (s.pollPendingOpen p t).1
  -- handles of a stream (`k` is the key a live handle holds)
  | cloneStreamRef (s : Streams) (k : Nat) (hk : Live s k) : Step s (s.cloneStreamRef k)
  | dropStreamRef (s : Streams) (k : Nat) (hk : Live s k) (hr : (s.stream k).refCount > 0) (hp : dropPPP s k = []) :
      Step s (s.dropStreamRef k)
  | refSendResponse (s : Streams) (k : Nat) (hk : Live s k) (f : List Hpack.Field) (eos : Bool) : Step s (s.refSendResponse k f eos).1
  | refSendInformationalHeaders (s : Streams) (k : Nat) (hk : Live s k) (f : List Hpack.Field) :
      Step s (s.refSendInformationalHeaders k f).1
  | refSendData (s : Streams) (k : Nat) (hk : Live s k) (len : Nat) (eos : Bool) : Step s (s.refSendData k len eos).1
  | refSendTrailers (s : Streams) (k : Nat) (hk : Live s k) (f : List Hpack.Field) : Step s (s.refSendTrailers k f).1
  | refSendReset (s : Streams) (k : Nat) (hk : Live s k) (r : Reason) : Step s (s.refSendReset k r)
  | refReserveCapacity (s : Streams) (k : Nat) (hk : Live s k) (c : Nat) : Step s (s.refReserveCapacity k c)
  | pollCapacity (s : Streams) (k : Nat) (hk : Live s k) (t : String) : Step s (s.pollCapacity k t).1
  | pollReset (s : Streams) (k : Nat) (hk : Live s k) (m : PollReset) (t : String) : Step s (s.pollReset k m t).1
  | refPollData (s : Streams) (k : Nat) (hk : Live s k) (t : String) : Step s (s.refPollData k t).1
  | recvPollTrailers (s : Streams) (k : Nat) (hk : Live s k) (t : String) : Step s (s.recvPollTrailers k t).1
  | recvPollInformational (s : Streams) (k : Nat) (hk : Live s k) (t : String) : Step s (s.recvPollInformational k t).1
  | refReleaseCapacity (s : Streams) (k : Nat) (hk : Live s k) (c : Nat) : Step s (s.refReleaseCapacity k c).1
  | refClearRecvBuffer (s : Streams) (k : Nat) (hk : Live s k) : Step s (s.refClearRecvBuffer k)

theorem ErrOK.backT {a b : Streams} (e : EvT a b) (h : ErrOK b) : ErrOK a := by
  induction e with
  | ev e => exact ErrOK.back e h
  | trans _ _ ih1 ih2 => exact ih1 (ih2 h)
  | resetPop =>
    rename_i s0
    have h1 := qPop_errSame s0 .pendingResetExpired
    cases hq : s0.qPop .pendingResetExpired with
    | mk s1 o =>
      rw [hq] at h h1
      cases o with
      | none => exact h1.errOK_back h
      | some id => exact h1.errOK_back ((transitionAfter_errSame _ _ _).errOK_back h)

theorem Step.ev {s s' : Streams} (h : Step s s') (hA : KeysOK s) : EvT s s' := by
  cases h
  case recvEof => exact recvEof_evT _ _
  case clearExpiredResetStreams => exact clearExpiredResetStreams_evT _ _
  case sendRequest => exact .ev (sendRequest_ev _ hA.fresh _ _ _ _)
  all_goals exact .ev (show EvB true _ _ by ev_head; exact .refl _)

/-- **every covered operation keeps the full invariant** — in particular it does not panic.  The light steps go
    through `NPI.lt` (the function's `_lt` frame × ConnCountsP's `_ev` trace), the releasing ones through their own lemma. -/
theorem Step.npi {s s' : Streams} (h : Step s s') (hn : NPI (fun _ => False) s) (he' : ErrOK s') :
    NPI (fun _ => False) s' := by
  have he : ErrOK s := ErrOK.backT (h.ev hn.keys) he'
  cases h with
  | handleError e => exact handleError_npi hn he e
  | recvGoAwayFrame l r d => exact recvGoAwayFrame_npi hn he l r d
  | recvEof b ha => exact (recvEof_npe hn he b ha).1
  | clearExpiredResetStreams n => exact (clearExpiredResetStreams_npe n hn he).1
  | applyRemoteSettings v b => exact (applyRemoteSettings_npe hn he v b).1
  | applyLocalSettingsFrame v => exact (applyLocalSettingsFrame_npe hn he v).1
  | recvHeaders hd href => exact recvHeaders_npi hn hd href he'
  | recvData id p eos pad hlen => exact recvData_npi hn id p eos pad hlen he'
  | recvReset id r => exact recvReset_npi hn id r he
  | recvWindowUpdate id inc => exact recvWindowUpdate_npi hn id inc
  | innerSendReset id r => exact innerSendReset_npi hn id r he'
  | recvGoAway l hl => exact hn.lt (recvGoAway_lt _ l hl).w (liveAll0 _) (.of_step (Streams.recvGoAway_step (by decide) _ l)) noE
  | sendRequest isHead f eos p hfree => exact sendRequest_npi hn isHead f eos p hfree
  | pollPendingOpen p t hp =>
    exact hn.lt (pollPendingOpen_lt _ p t).w (fun k hk => hp k (by cases p <;> simp_all)) (.of_step (Streams.pollPendingOpen_step (by decide) _ p t)) noE
  | cloneStreamRef k hk => exact cloneStreamRef_npi hn hk
  | dropStreamRef k hk hr hp => exact dropStreamRef_npi hn hk hr hp he
  -- `counts.transition` around a light closure
  | refSendResponse | refSendInformationalHeaders | refSendData | refSendTrailers =>
    exact transition_light_npi _ _ hn (by lt_auto) (liveAll1 ‹_›) (by ev_auto) noE he
  | refSendReset k hk r => exact refSendReset_npi hn hk r he
  -- the light steps: the function's `_lt` frame, found by name, × its step of the layer
  | _ => first
    | exact hn.lt (LT.w (by lt_auto)) (liveAll1 ‹_›) (.of_step (by stp_step <;> first | exact .refl _ | decide)) noE
    | exact hn.lt (LT.w (by lt_auto)) (liveAll0 _) (.of_step (by stp_step <;> first | exact .refl _ | decide)) noE

/-- reachable from a blank, un-panicked stream layer -/
inductive Reach : Streams → Prop
  | init {s : Streams} : Blank s → s.panicked = none → (∀ q, s.getQ q = []) → Reach s
  | step {s s' : Streams} : Reach s → Step s s' → Reach s'

theorem blank_npi {s : Streams} (h : Blank s) (hp : s.panicked = none) (hq : ∀ q, s.getQ q = []) : NPI (fun _ => False) s := by
  refine ⟨hp, ?_, h.keysOK, h.next, h.inv1, h.inv2, fun q _ => qok_of_empty h.slab hq q, ⟨?_, ?_⟩⟩
  · intro x hx; rw [h.slab] at hx; cases hx
  · rw [h.ids]; exact List.nodup_nil
  · intro e he; rw [h.ids] at he; cases he

theorem Reach.ev0 {s : Streams} (h : Reach s) : KeysOK s := by
  induction h with
  | init hb _ _ => exact hb.keysOK
  | step _ hs ih => exact (hs.ev ih).keysOK ih

/-- **No panic in any reachable state** (as long as the local-error-reset quota is not exhausted): the full
    invariant `NPI`, whose first component is `panicked = none`, holds. -/
theorem reach_npi {s : Streams} (h : Reach s) (he : ErrOK s) : NPI (fun _ => False) s := by
  induction h with
  | init hb hp hq => exact blank_npi hb hp hq
  | step hr hs ih => exact hs.npi (ih (ErrOK.backT (hs.ev hr.ev0) he)) he

theorem live_of_isSome {s : Streams} {k : Nat} (h : (s.store.get? k).isSome = true) : Live s k :=
  Option.isSome_iff_exists.mp h

/-- witness: a client that has sent a request, received the response head and DATA, sent DATA, reset the stream -/
def wBlank : Streams := { actions := { recv := { flow := { windowSize := { val := 65535 }, available := { val := 65535 } } } } }
theorem wBlank_blank : Blank wBlank :=
  ⟨rfl, rfl, rfl, rfl, rfl, rfl, rfl, rfl, rfl, rfl, by intro x hx; cases hx; rfl⟩

def wR1 : Streams := (wBlank.sendRequest false [] false none).1
def wR2 : Streams := (wR1.recvHeaders { sid := 1, eos := false, status := some [50, 48, 48] }).1
def wR3 : Streams := (wR2.recvData 1 [1, 2, 3] false none).1
def wR4 : Streams := (wR3.refSendData 0 10 false).1
def wR5 : Streams := wR4.refSendReset 0 CANCEL

theorem wR5_reach : Reach wR5 := by
  have r0 : Reach wBlank := .init wBlank_blank rfl (fun q => by cases q <;> rfl)
  have r1 : Reach wR1 := .step r0 (.sendRequest _ false [] false none (by intro id h; cases h; rfl))
  have r2 : Reach wR2 := .step r1 (.recvHeaders _ _ (by decide))
  have r3 : Reach wR3 := .step r2 (.recvData _ 1 [1, 2, 3] false none (by unfold FrameLenOK; decide))
  have r4 : Reach wR4 := .step r3 (.refSendData _ 0 (live_of_isSome (by decide)) 10 false)
  exact .step r4 (.refSendReset _ 0 (live_of_isSome (by decide)) CANCEL)

theorem wR5_facts : ErrOK wR5 ∧ (wR5.stream 0).state.isClosed = true ∧ wR5.panicked = none :=
  ⟨by unfold ErrOK; decide, by decide, by decide⟩

end H2V.Lemmas.ConnNoPanicP
