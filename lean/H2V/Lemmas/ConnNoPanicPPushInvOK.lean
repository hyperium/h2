import H2V.Lemmas.ConnNoPanicPPushInvStep
/-
  C08 (no panic) — PUSH_PROMISE bookkeeping, stage 2: the invariant `PPPOK` and `drop_stream_ref` in general.
  `PPPOK`: every `pending_push_promises` list is duplicate-free, two lists share no key, and every listed key is `Held`
  (live, `is_pending_accept` set, not in `recv.pending_accept`) — hence never released, so the loop of `drop_stream_ref`
  over the promised streams of the dropped stream resolves every key (`dropStreamRef_npi_gen`: the hypothesis
  `dropPPP s k = []` of `dropStreamRef_npi` is gone).
-/
namespace H2V.Lemmas.ConnNoPanicP
open H2V H2V.Model H2V.Model.Conn H2V.Lemmas.ConnCountsP
attribute [local irreducible] wrapSubU32 wrapSubUsize

structure PPPOK (s : Streams) : Prop where
  nodup : ∀ j, ((s.stream j).pendingPushPromises).Nodup
  disj : ∀ j j' c, c ∈ (s.stream j).pendingPushPromises → c ∈ (s.stream j').pendingPushPromises → j = j'
  held : ∀ j c, c ∈ (s.stream j).pendingPushPromises → Held s c

theorem pppok_of_nil {s : Streams} (h : ∀ j, (s.stream j).pendingPushPromises = []) : PPPOK s :=
  ⟨fun j => by rw [h j]; exact List.nodup_nil, fun j _ c hc => (by rw [h j] at hc; cases hc),
   fun j c hc => (by rw [h j] at hc; cases hc)⟩

theorem PPPOK_blank {s : Streams} (hb : Blank s) : PPPOK s := by
  refine pppok_of_nil (fun j => ?_)
  have : s.store.get? j = none := by unfold Store.get?; rw [hb.slab]; rfl
  unfold Streams.stream; rw [this]; rfl

theorem PPPOK.of_pw {s s' : Streams} (h : PPPOK s) (hw : PW s s')
    (hh : ∀ j c, c ∈ (s.stream j).pendingPushPromises → Held s' c) : PPPOK s' := by
  have sub : ∀ j c, c ∈ (s'.stream j).pendingPushPromises → c ∈ (s.stream j).pendingPushPromises := by
    intro j c hc
    rcases hw j with e | e
    · rw [e] at hc; exact hc
    · rw [e] at hc; cases hc
  refine ⟨fun j => ?_, fun j j' c h1 h2 => h.disj j j' c (sub j c h1) (sub j' c h2), fun j c hc => hh j c (sub j c hc)⟩
  rcases hw j with e | e
  · rw [e]; exact h.nodup j
  · rw [e]; exact List.nodup_nil

theorem PPPOK.step {s s' : Streams} (h : PPPOK s) (hw : PW s s') (hr : HR s s') : PPPOK s' :=
  h.of_pw hw (fun j c hc => hr.held c (h.held j c hc))
theorem PPPOK.pf {ks : List Nat} {s s' : Streams} (h : PPPOK s) (hf : PF ks s s') : PPPOK s' := h.step hf.pw hf.hr

theorem held_modStream_ne {s : Streams} {c k : Nat} (h : Held s c) (hck : c ≠ k) (f : Stream → Stream)
    (hf : ∀ x, (f x).key = x.key) : Held (s.modStream k f) c := by
  refine ⟨?_, by rw [ConnResetP.modStream_recv]; exact h.2⟩
  obtain ⟨x, hx, hq⟩ := h.1
  refine ⟨x, ?_, hq⟩
  unfold Streams.modStream
  split
  · next st hst =>
    show (s.setStream (f st)).store.get? c = some x
    rw [setStream_get?, hx]
    have : (x.key == (f st).key) = false := by
      rw [hf, get?_key hx, get?_key hst]; simpa using hck
    simp only [Option.map_some, this, Bool.false_eq_true, if_false]
  · rw [panic_store]; exact hx

theorem dropStepClosure_lt (c : Nat) (s : Streams) : LT [c] s (dropStepClosure c s).1 := by
  unfold dropStepClosure
  have hm := maybeCancel_lt s c
  dsimp only
  split
  · exact hm.trans (releaseClosedCapacity_lt _ c) (fun _ h => h)
  · exact hm
theorem dropStepClosure_ev {ρ : Bool} (c : Nat) (s : Streams) : EvB ρ s (dropStepClosure c s).1 := by
  unfold dropStepClosure
  dsimp only
  split
  · exact .trans (maybeCancel_ev _ _) (releaseClosedCapacity_ev _ _)
  · exact maybeCancel_ev _ _
/-- what the loop carries: the invariants, and the keys still to visit are held, distinct and in no list -/
structure DropI (u : Streams) (L : List Nat) : Prop where
  npi : NPI (fun _ => False) u
  err : ErrOK u
  ok : PPPOK u
  nodup : L.Nodup
  held : ∀ c ∈ L, Held u c
  out : ∀ j c, c ∈ (u.stream j).pendingPushPromises → c ∉ L

theorem dropStep_inv {u : Streams} {c : Nat} {rest : List Nat} (h : DropI u (c :: rest)) : DropI (dropStep u c) rest := by
  have hc : Held u c := h.held c (List.mem_cons_self ..)
  have hl : Live u c := held_live hc
  have h1 : NPI (fun _ => False) (u.modStream c fun st => { st with isPendingAccept := false }) :=
    h.npi.parts (SameKeys.modStream _ _ _) (Streams.modStream_ids _ _ _) (SPr.modStream _ _ _ (fun _ => rfl) (fun _ => rfl))
      (npq_modStream_flagfree h.npi.npq hl _ (fun _ => rfl) (fun _ => rfl) (fun _ => rfl)) (ρ := false) (.acceptFlag c false) noE
  have hl1 : Live (u.modStream c fun st => { st with isPendingAccept := false }) c := (SameKeys.modStream _ _ _).live.mpr hl
  have he1 : ErrOK (u.modStream c fun st => { st with isPendingAccept := false }) := by
    have : ErrSame u (u.modStream c fun st => { st with isPendingAccept := false }) := by
      unfold ErrSame; rw [Streams.modStream_counts]; exact ⟨rfl, rfl⟩
    exact this.errOK h.err
  have hp1 : PW u (u.modStream c fun st => { st with isPendingAccept := false }) := unflag_pw u c
  have hh1 : ∀ c', c' ≠ c → Held u c' → Held (u.modStream c fun st => { st with isPendingAccept := false }) c' :=
    fun c' hne hc' => held_modStream_ne hc' hne _ (fun _ => rfl)
  rw [dropStep_eq]
  generalize (u.modStream c fun st => { st with isPendingAccept := false }) = u1 at h1 hl1 he1 hp1 hh1 ⊢
  have hlt := dropStepClosure_lt c u1
  have hX : NPI (fun _ => False) (u1.transition c (dropStepClosure c)).1 :=
    transition_light_npi c _ h1 hlt (liveAll1 hl1) (dropStepClosure_ev (ρ := false) c u1) noE he1
  have hpf : PF [c] u1 (u1.transition c (dropStepClosure c)).1 :=
    transition_pf _ _ _ (fun s => dropStepClosure_pf c s (List.mem_cons_self ..))
  have hhr := hpf.hr
  have heX : ErrOK (u1.transition c (dropStepClosure c)).1 := by
    rw [Streams.transition_fst]
    exact (transitionAfter_errSame _ _ _).errOK (hlt.err.errOK he1)
  have hnd := List.nodup_cons.mp h.nodup
  have hheld : ∀ j c', c' ∈ (u.stream j).pendingPushPromises → Held (u1.transition c (dropStepClosure c)).1 c' := by
    intro j c' hm
    have hne : c' ≠ c := fun e => h.out j c' hm (e ▸ List.mem_cons_self ..)
    exact hhr.held c' (hh1 c' hne (h.ok.held j c' hm))
  have hpw : PW u (u1.transition c (dropStepClosure c)).1 := hp1.trans hpf.pw
  refine ⟨hX, heX, h.ok.of_pw hpw hheld, hnd.2, ?_, ?_⟩
  · intro c' hm
    have hne : c' ≠ c := fun e => hnd.1 (e ▸ hm)
    exact hhr.held c' (hh1 c' hne (h.held c' (List.mem_cons_of_mem _ hm)))
  · intro j c' hm hr
    have : c' ∈ (u.stream j).pendingPushPromises := by
      rcases hpw j with e | e
      · rw [e] at hm; exact hm
      · rw [e] at hm; cases hm
    exact h.out j c' this (List.mem_cons_of_mem _ hr)

theorem dropFold_inv : ∀ (L : List Nat) {u : Streams}, DropI u L → DropI (dropFold L u) [] := by
  intro L
  induction L with
  | nil => intro u h; exact h
  | cons c rest ih =>
    intro u h
    rw [dropFold_eq, List.foldl_cons, ← dropFold_eq]
    exact ih (dropStep_inv h)

theorem clearPPP_self (s : Streams) (k : Nat) :
    ((s.modStream k fun st => { st with pendingPushPromises := [] }).stream k).pendingPushPromises = [] := by
  by_cases hl : Live s k
  · rw [stream_modStream_live hl (fun st => { st with pendingPushPromises := [] }) (fun _ => rfl)]
  · have : ¬ Live (s.modStream k fun st => { st with pendingPushPromises := [] }) k :=
      fun h => hl ((SameKeys.modStream _ _ _).live.mp h)
    rw [stream_blank_of_not_live this]

theorem dropClosure_ev {ρ : Bool} (k : Nat) (s : Streams) : EvB ρ s (dropClosure k s).1 := by
  rcases dropClosure_cases k s with e | e <;> rw [e]
  · exact maybeCancel_ev _ _
  · rw [dropFold_eq]
    refine EvB.trans ?_ (Streams.foldl_rel EvB.relOK (fun s p => ?_) _ _)
    · refine EvB.trans ?_ (modStream_ev _ _ _ ?_)
      · exact .trans (maybeCancel_ev _ _) (releaseClosedCapacity_ev _ _)
      · intro _ _; same_tac
    · rw [dropStep_eq]
      exact .trans (.acceptFlag p false) (transition_ev _ _ _ (fun s => dropStepClosure_ev p s))

theorem dropClosure_inv {t : Streams} {k : Nat} (hn : NPI (fun _ => False) t) (he : ErrOK t) (hj : PPPOK t) (hk : Live t k) :
    NPI (fun _ => False) (dropClosure k t).1 ∧ ErrOK (dropClosure k t).1 ∧ PPPOK (dropClosure k t).1 := by
  have hm := maybeCancel_lt t k
  rcases dropClosure_cases k t with e | e <;> rw [e]
  · exact ⟨hn.lt hm.w (liveAll1 hk) (maybeCancel_ev (ρ := false) _ _) noE, hm.err.errOK he,
      hj.pf (maybeCancel_pf (ks := []) _ _)⟩
  · -- the last handle: the promised streams are let go
    have h2 : LT [k] t ((t.maybeCancel k).releaseClosedCapacity k) := hm.trans (releaseClosedCapacity_lt _ k) (fun _ h => h)
    have e2 : EvB false t ((t.maybeCancel k).releaseClosedCapacity k) := .trans (maybeCancel_ev _ _) (releaseClosedCapacity_ev _ _)
    have p2 := dropClosure_head k t
    have n2 : NPI (fun _ => False) ((t.maybeCancel k).releaseClosedCapacity k) := hn.lt h2.w (liveAll1 hk) e2 noE
    have he2 : ErrOK ((t.maybeCancel k).releaseClosedCapacity k) := h2.err.errOK he
    have j2 : PPPOK ((t.maybeCancel k).releaseClosedCapacity k) := hj.pf p2
    have hk2 : Live ((t.maybeCancel k).releaseClosedCapacity k) k := h2.keys.live.mpr hk
    generalize ((t.maybeCancel k).releaseClosedCapacity k) = t2 at n2 he2 j2 hk2 ⊢
    have h3 : LT [k] t2 (t2.modStream k fun st => { st with pendingPushPromises := [] }) :=
      modStream_lt _ _ _ (fun _ => by inert_tac)
    have e3 : EvB false t2 (t2.modStream k fun st => { st with pendingPushPromises := [] }) :=
      modStream_ev _ _ _ (fun st _ => by same_fields)
    have n3 := n2.lt h3.w (liveAll1 hk2) e3 noE
    have he3 := h3.err.errOK he2
    have p3 : PF [] t2 (t2.modStream k fun st => { st with pendingPushPromises := [] }) :=
      modStream_pf _ k _ (.inl fun _ => ⟨rfl, rfl, .inr rfl, rfl, .refl _⟩)
    have w3 := p3.pw
    have r3 := p3.hr
    have j3 := j2.pf p3
    have hself := clearPPP_self t2 k
    have hD : DropI (t2.modStream k fun st => { st with pendingPushPromises := [] }) (t2.stream k).pendingPushPromises := by
      refine ⟨n3, he3, j3, j2.nodup k, fun c hc => r3.held c (j2.held k c hc), ?_⟩
      intro j c hm hL
      by_cases hjk : j = k
      · rw [hjk, hself] at hm; cases hm
      · have : c ∈ (t2.stream j).pendingPushPromises := by
          rcases w3 j with e | e
          · rw [e] at hm; exact hm
          · rw [e] at hm; cases hm
        exact hjk (j2.disj j k c this hL)
    have hF := dropFold_inv _ hD
    exact ⟨hF.npi, hF.err, hF.ok⟩

/-- **`drop_stream_ref` keeps the invariant, whatever promised streams are still pending** -/
theorem dropStreamRef_npi_gen {s : Streams} (h : NPI (fun _ => False) s) (hj : PPPOK s) {k : Nat} (hk : Live s k)
    (hr : (s.stream k).refCount > 0) (he : ErrOK s) :
    NPI (fun _ => False) (s.dropStreamRef k) ∧ PPPOK (s.dropStreamRef k) := by
  rw [dropStreamRef_eq]
  obtain ⟨h1, hk1, he1⟩ := dropPre_npi h hk hr
  have j1 : PPPOK (dropPre s k) := hj.pf (dropPre_pf (ks := [k]) s k (List.mem_cons_self ..))
  have hE1 : ErrOK (dropPre s k) := he1.errOK he
  generalize dropPre s k = t at h1 hk1 j1 hE1 ⊢
  obtain ⟨hX, heX, jX⟩ := dropClosure_inv h1 hE1 j1 hk1
  refine ⟨transition_npi k _ hX (dropClosure_ev (ρ := true) k t) heX, ?_⟩
  rw [Streams.transition_fst]
  exact jX.pf (transitionAfter_pf (ks := []) _ _ _)

end H2V.Lemmas.ConnNoPanicP
