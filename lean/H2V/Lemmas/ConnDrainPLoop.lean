import H2V.Lemmas.ConnDrainPRecvFr
import H2V.Lemmas.ConnWakePConn
/-
  ConnDrainP — `Streams::poll_complete` drains everything that can be written:
  `prioLoop_complete` (the loop of `Prioritize::buffer_pending` answers "complete" only with `pending_send`
  empty), `recvBufferPending_spec` (`Recv::buffer_pending`: no connection / stream WINDOW_UPDATE owed),
  `pollComplete_ready_drained` (the state after `Ready`).
-/
namespace H2V.Lemmas.ConnDrainP
open H2V H2V.Model H2V.Model.Conn
open H2V.Lemmas.ConnFlowP (KeysOk SafeInv SafeInvG ReqOk loopPost)
open H2V.Lemmas.ConnCountsP (QOK Flagged Ev EvB QF)


theorem PStep.bufferPendingOpen (s : Streams) : PStep s s.bufferPendingOpen := by
  refine ⟨?_, (ConnFlowP.Mv.bufferPendingOpen s).weaken⟩
  unfold Streams.bufferPendingOpen; split
  · next s1 id heq =>
    exact (of_fst_eq heq (ConnCountsP.popPendingOpen_ev s)).trans
      ((ConnCountsP.qPushFront_ev _ _ _ (by decide) (by decide)).trans (.of_step (Streams.tryAssignCapacity_step (by decide) _ _)))
  · next s1 heq => exact of_fst_eq heq (ConnCountsP.popPendingOpen_ev s)

theorem PStep.popFrame (n : Nat) (s : Streams) (m : Nat) : PStep s (Streams.popFrame n s m).1 :=
  ⟨ConnCountsP.popFrame_ev n s m, (ConnFlowP.Mv.refl false s).popFrame n m⟩

theorem PStep.prioLoop (n : Nat) (s : Streams) (w : Writer) : PStep s (Streams.prioBufferPendingLoop n s w).1 :=
  ⟨ConnCountsP.prioBufferPendingLoop_ev n s w, ConnFlowP.MvG.prioBufferPendingLoop n (ConnFlowP.Mv.refl false s) w⟩

/-- **`Prioritize::buffer_pending`'s loop answers "complete" only with `pending_send` empty** — in every state
    satisfying the flow and queue invariants, with the fuel the model passes to `pop_frame` -/
theorem prioLoop_complete (n : Nat) : ∀ (s : Streams) (w : Writer) (s' : Streams) (w' : Writer), PInvG s →
    Streams.prioBufferPendingLoop n s w = (s', w', .complete) → s'.panicked = none → s'.prio.pendingSend = [] := by
  induction n with
  | zero =>
    intro s w s' w' _ h
    unfold Streams.prioBufferPendingLoop at h
    cases h
  | succ n ih =>
    intro s w s' w' g h hp
    rw [ConnFlowP.loop_eq] at h
    split at h
    · cases h
    · have g1 := g.step (.bufferPendingOpen s)
      split at h
      · next s1 f heq =>
        exact ih _ _ _ _ ((g1.step (of_fst_eq heq (PStep.popFrame _ _ _))).step (.of_step (ConnFlowP.loopPost_step (by decide) s1 w f))) h hp
      · next s1 heq =>
        cases h
        exact popFrame_none_drains (g1 (Ev.panic_none (of_fst_eq heq (PStep.popFrame _ _ _)).ev hp)) heq hp


/-- the connection receive window and its available part are `i32` values (true in every reachable state: ConnRecvP) -/
def RangeOK (s : Streams) : Prop :=
  s.recv.flow.available.val ≤ 2147483647 ∧ -2147483648 ≤ s.recv.flow.windowSize.val

theorem RangeOK.of_recv {s s' : Streams} (h : RangeOK s) (e : s'.actions.recv = s.actions.recv) : RangeOK s' := by
  unfold RangeOK Streams.recv at *; rw [e]; exact h

theorem incWindow_ok_range {f f' : FlowControl} {n : Nat} (h : f.incWindow n = (f', .ok ())) :
    f'.available = f.available ∧ -2147483648 ≤ f'.windowSize.val := by
  unfold FlowControl.incWindow at h
  simp only at h
  split at h
  · cases h
  · next hin =>
    split at h
    · cases h
    · injection h with h _
      subst h
      have hin' : inI32 (f.windowSize.val + u32AsI32 n) = true := by simpa using hin
      simp only [inI32, I32_MIN, I32_MAX, Bool.and_eq_true] at hin'
      exact ⟨rfl, of_decide_eq_true hin'.1⟩

theorem sendConnWU_spec {s s' : Streams} {w w' : Writer} {st : Streams.BufferStatus} (hr : RangeOK s)
    (h : s.sendConnectionWindowUpdate w = (s', w', st)) :
    RangeOK s' ∧ s'.recv.pendingWindowUpdates = s.recv.pendingWindowUpdates ∧
    (s'.panicked = none → st = .complete → s'.recv.flow.unclaimedCapacity = none) := by
  unfold Streams.sendConnectionWindowUpdate at h
  split at h
  · next incr hu =>
    split at h
    · cases h; exact ⟨hr, rfl, fun _ h => by cases h⟩
    · simp only at h
      split at h
      · next fl _ hi =>
        cases h
        have := incWindow_ok_range hi
        refine ⟨⟨by show fl.available.val ≤ _; rw [this.1]; exact hr.1, this.2⟩, rfl, fun _ _ => ?_⟩
        exact unclaimed_none_after_update hr.1 hr.2 hu hi
      · cases h
        exact ⟨hr.of_recv (Streams.panic_recv _ _), by rw [Streams.panic_recv],
          fun hp => absurd hp (Streams.panic_panicked_ne_none _ _)⟩
  · next hu => cases h; exact ⟨hr, rfl, fun _ _ => hu⟩

theorem sendStreamWU_spec (n : Nat) : ∀ (s : Streams) (w : Writer) (s' : Streams) (w' : Writer) (st : Streams.BufferStatus),
    Streams.sendStreamWindowUpdates n s w = (s', w', st) →
    s'.recv.flow = s.recv.flow ∧
    (st = .complete → s.recv.pendingWindowUpdates.length < n → s'.recv.pendingWindowUpdates = []) := by
  induction n with
  | zero => intro s w s' w' st h; cases h; exact ⟨rfl, fun _ h => by omega⟩
  | succ n ih =>
    intro s w s' w' st h
    unfold Streams.sendStreamWindowUpdates at h
    split at h
    · cases h; exact ⟨rfl, fun h => by cases h⟩
    · split at h
      · next s0 heq =>
        cases h
        have := Streams.qPop_eq_none heq
        rw [this.2]
        exact ⟨rfl, fun _ _ => this.1⟩
      · next s0 id heq =>
        obtain ⟨rest, hq, rfl⟩ := Streams.qPop_eq_some heq
        dsimp only at h
        have fin : ∀ (s1 : Streams) (w1 : Writer) (b : Bool), s1.recv = (s.setQ .pendingWindowUpdates rest).recv →
            Streams.sendStreamWindowUpdates n (s1.transitionAfter id b) w1 = (s', w', st) →
            s'.recv.flow = s.recv.flow ∧
            (st = .complete → s.recv.pendingWindowUpdates.length < n + 1 → s'.recv.pendingWindowUpdates = []) := by
          intro s1 w1 b h1 h
          have := ih _ _ _ _ _ h
          rw [Streams.transitionAfter_recv, h1] at this
          refine ⟨this.1, fun hc hl => this.2 hc ?_⟩
          show rest.length < n
          have : s.recv.pendingWindowUpdates = id :: rest := hq
          rw [this] at hl
          simp at hl; omega
        have e0 : ((s.setQ .pendingWindowUpdates rest).modStream id fun st => st.setQueued .pendingWindowUpdates false).recv =
            (s.setQ .pendingWindowUpdates rest).recv := Streams.modStream_recv _ _ _
        split at h
        · exact fin _ _ _ e0 h
        · split at h
          · split at h
            · exact fin _ _ _ (by rw [Streams.modStream_recv, e0]) h
            · exact fin _ _ _ (by rw [Streams.panic_recv, e0]) h
          · exact fin _ _ _ e0 h

theorem recvBufferPending_spec {s s' : Streams} {w w' : Writer} {st : Streams.BufferStatus} (hr : RangeOK s)
    (h : s.recvBufferPending w = (s', w', st)) :
    RangeOK s' ∧ (s'.panicked = none → st = .complete →
      s'.recv.flow.unclaimedCapacity = none ∧ s'.recv.pendingWindowUpdates = []) := by
  unfold Streams.recvBufferPending at h
  split at h
  · next s1 w1 heq =>
    cases h
    exact ⟨(sendConnWU_spec hr heq).1, fun _ h => by cases h⟩
  · next s1 w1 heq =>
    obtain ⟨r1, q1, u1⟩ := sendConnWU_spec hr heq
    obtain ⟨f2, q2⟩ := sendStreamWU_spec _ _ _ _ _ _ h
    refine ⟨by unfold RangeOK; rw [f2]; exact r1, fun hp hc => ⟨?_, q2 hc (Nat.lt_succ_self _)⟩⟩
    have e := ConnCountsP.sendStreamWindowUpdates_ev (ρ := true) (s1.recv.pendingWindowUpdates.length + 1) s1 w1
    rw [h] at e
    rw [f2]; exact u1 (Ev.panic_none e hp) rfl


theorem reclaimFrameInner_false {s : Streams} {f : DataFrame} (h : (s.reclaimFrameInner f).2 = false) :
    (s.reclaimFrameInner f).1.prio.pendingSend = s.prio.pendingSend := by
  unfold Streams.reclaimFrameInner at h ⊢
  dsimp only at h ⊢
  cases hin : s.prio.inFlightDataFrame with
  | nothing => dsimp only; rw [ConnFlowP.panic_prio]; rfl
  | drop => rfl
  | dataFrame k =>
    simp only [hin] at h ⊢
    split
    · next hr => rw [if_pos hr] at h; cases h
    · rfl

theorem reclaimFrame_false {s : Streams} {w : Writer} (h : (s.reclaimFrame w).2.2 = false) :
    (s.reclaimFrame w).1.prio.pendingSend = s.prio.pendingSend ∧
    (s.reclaimFrame w).2.1.next = w.next ∧ (s.reclaimFrame w).2.1.bufLen = w.bufLen := by
  unfold Streams.reclaimFrame at h ⊢
  cases hl : w.lastDataFrame with
  | none =>
    have : w.takeLastDataFrame = ({ w with lastDataFrame := none }, none) := by
      unfold Writer.takeLastDataFrame; rw [hl]
    rw [this]
    exact ⟨rfl, rfl, rfl⟩
  | some frame =>
    have : w.takeLastDataFrame = ({ w with lastDataFrame := none }, some frame) := by
      unfold Writer.takeLastDataFrame; rw [hl]
    rw [this] at h ⊢
    dsimp only at h ⊢
    exact ⟨reclaimFrameInner_false h, rfl, rfl⟩

/-- what a completed `poll_complete` leaves behind -/
structure Drained (tag : String) (s : Streams) (w : Writer) : Prop where
  /-- no stream is scheduled for sending -/
  pendingSend : s.prio.pendingSend = []
  /-- no stream WINDOW_UPDATE is owed -/
  windowUpdates : s.recv.pendingWindowUpdates = []
  /-- no connection WINDOW_UPDATE is owed (`unclaimed_capacity()` below the threshold) -/
  connWindow : s.recv.flow.unclaimedCapacity = none
  /-- the connection task is parked in `Actions.task` -/
  parked : s.actions.task = some tag
  /-- the codec's write buffer is flushed -/
  flushed : w.next = none ∧ w.bufLen = 0

/-- **`Streams::poll_complete` answers `Ready` only when everything writable has been written** -/
theorem pollComplete_ready_drained (n : Nat) : ∀ (s : Streams) (w : Writer) (io : Tio) (tag : String)
    (s' : Streams) (w' : Writer) (io' : Tio), PInvG s → RangeOK s →
    Streams.pollComplete n s w io tag = (s', w', io', .ready) → s'.panicked = none →
    Drained tag s' w' ∧ RangeOK s' := by
  induction n with
  | zero =>
    intro s w io tag s' w' io' _ _ h
    unfold Streams.pollComplete at h; cases h
  | succ n ih =>
    intro s w io tag s' w' io' g hr h hp
    rw [ConnFlowP.pollComplete_eq] at h
    split at h
    · next w1 io1 hpr =>
      have g1 := g.step ⟨ConnCountsP.recvBufferPending_ev s w1, .frame (Streams.recvBufferPending_step (by decide) s w1)⟩
      split at h
      · -- `Recv::buffer_pending` filled the codec: next round
        next s1 w2 hrb =>
        rw [hrb] at g1
        exact ih _ _ _ _ _ _ _ g1 (recvBufferPending_spec hr hrb).1 h hp
      · next s1 w2 hrb =>
        rw [hrb] at g1
        obtain ⟨r1, u1⟩ := recvBufferPending_spec hr hrb
        dsimp only at h
        have st2 : PStep s1 (s1.reclaimFrame w2).1 := .of_step (Streams.reclaimFrame_step (by decide) s1 w2)
        have g2 := g1.step st2
        have st3 := PStep.prioLoop (n + 1) (s1.reclaimFrame w2).1 (s1.reclaimFrame w2).2.1
        have hq3 := prioLoop_complete (n + 1) (s1.reclaimFrame w2).1 (s1.reclaimFrame w2).2.1
        have erecv := prioLoop_recv (n + 1) (s1.reclaimFrame w2).1 (s1.reclaimFrame w2).2.1
        generalize Streams.prioBufferPendingLoop (n + 1) (s1.reclaimFrame w2).1 (s1.reclaimFrame w2).2.1 = R at h st3 hq3 erecv
        obtain ⟨s3, w3, st3'⟩ := R
        rw [reclaimFrame_recv] at erecv
        have r3 : RangeOK s3 := r1.of_recv erecv
        cases st3' with
        | codecFull => exact ih _ _ _ _ _ _ _ (g2.step st3) r3 h hp
        | complete =>
          dsimp only at h
          split at h
          · next w4 io4 hfl =>
            -- the connection task is parked, the codec flushed; a DATA frame may still come back from the codec
            have st4 : PStep s3 _ := .of_step ((Streams.Step.setTask s3 (some tag) rfl rfl).trans (Streams.reclaimFrame_step (by decide) _ w4))
            have r4 : RangeOK (Streams.reclaimFrame { s3 with actions := { s3.actions with task := some tag } } w4).1 :=
              r3.of_recv (reclaimFrame_recv _ _)
            split at h
            · -- `Ready`
              next hrec =>
              injection h with h1 h2
              injection h2 with h2 h3
              subst h1 h2
              have hp3 : s3.panicked = none := Ev.panic_none st4.ev hp
              obtain ⟨u3, q3⟩ := u1 (Ev.panic_none (st2.trans st3).ev hp3) rfl
              obtain ⟨f1, f2, f3⟩ := reclaimFrame_false (s := { s3 with actions := { s3.actions with task := some tag } })
                (w := w4) (by simpa using hrec)
              have fl := ConnWakeP.flush_ready_capacity hfl
              refine ⟨⟨by rw [f1]; exact hq3 s3 w3 g2 rfl hp3, ?_, ?_, ?_, ⟨by rw [f2]; exact fl.1, by rw [f3]; exact fl.2.1⟩⟩, r4⟩
              · rw [reclaimFrame_recv]; show s3.recv.pendingWindowUpdates = _
                rw [erecv]; exact q3
              · rw [reclaimFrame_recv]; show s3.recv.flow.unclaimedCapacity = _
                rw [erecv]; exact u3
              · rw [ConnWakeP.reclaimFrame_task]
            · exact ih _ _ _ _ _ _ _ ((g2.step st3).step st4) r4 h hp
          · next w4 io4 r4 hne hfl =>
            injection h with _ h2
            injection h2 with _ h3
            injection h3 with _ h4
            exact absurd h4 hne
    · next w1 io1 r1 hne hpr =>
      injection h with _ h2
      injection h2 with _ h3
      injection h3 with _ h4
      exact absurd h4 hne

end H2V.Lemmas.ConnDrainP
