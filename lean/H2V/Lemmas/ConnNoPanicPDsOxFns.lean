import H2V.Lemmas.ConnNoPanicPDsOxBase
/-
  C08 (no panic) — the residual hypothesis `OH` as an invariant: `XK` for prioritize.rs / send.rs / recv.rs.
  The sites that are no frame steps carry the local fact they need: scheduling (`is_send_ready`, something queued or buffered),
  queueing a frame (the send half is open, or the entry is peer-initiated: the typing precondition), `clear_queue` (not
  send-streaming).
-/
namespace H2V.Lemmas.ConnNoPanicP
open H2V H2V.Model H2V.Model.Conn H2V.Lemmas.ConnCountsP
attribute [local irreducible] wrapSubU32 wrapSubUsize

variable {sv : Bool}

theorem su_of_streaming {st : State} (h : st.isSendStreaming = true) : suB st = false := by
  obtain ⟨inner⟩ := st
  rcases inner with _ | _ | _ | ⟨_ | _, _ | _⟩ | ⟨_ | _⟩ | ⟨_ | _⟩ | _ <;> simp [State.isSendStreaming, suB] at h ⊢

theorem get?_none_of_not_live {s : Streams} {k : Nat} (hl : ¬ Live s k) : s.store.get? k = none := by
  cases h : s.store.get? k with
  | none => rfl
  | some x => exact absurd ⟨x, h⟩ hl

theorem modStream_xk_live (s : Streams) (k : Nat) (f : Stream → Stream)
    (h : Live s k → (f (s.stream k)).key = (s.stream k).key ∧ Xp sv (s.stream k) (f (s.stream k))) :
    XK sv s (s.modStream k f) := by
  by_cases hl : Live s k
  · exact modStream_xk s k f fun _ hx => hx ▸ h hl
  · unfold Streams.modStream; rw [get?_none_of_not_live hl]; exact panic_xk _ _
theorem modStreamW_xk_live (s : Streams) (k : Nat) (f : Stream → Stream × List String)
    (h : Live s k → (f (s.stream k)).1.key = (s.stream k).key ∧ Xp sv (s.stream k) (f (s.stream k)).1) :
    XK sv s (s.modStreamW k f) := by
  by_cases hl : Live s k
  · exact modStreamW_xk s k f fun _ hx => hx ▸ h hl
  · unfold Streams.modStreamW; rw [get?_none_of_not_live hl]; exact panic_xk _ _

theorem flag_of_ready {x : Stream} (h : x.isSendReady = true) : flagB x = false := by
  unfold Stream.isSendReady at h
  unfold flagB
  cases h3 : x.isPendingOpen <;> cases h4 : x.isPendingPush <;> simp_all

theorem xp_sched (x : Stream) (h1 : x.isSendReady = true)
    (h2 : ∀ r, XEr sv r x → locId sv x.id = true → suB x.state = true → False) :
    (x.setQueued .pendingSend true).key = x.key ∧ Xp sv x (x.setQueued .pendingSend true) := by
  have hnf : ∀ hf : flagB (x.setQueued .pendingSend true) = true, False := by
    intro hf
    have : flagB x = true := hf
    rw [flag_of_ready h1] at this; cases this
  exact ⟨rfl, ⟨fun r hx => ⟨fun hl hs => (h2 r hx hl hs).elim, fun hf => (hnf hf).elim, fun hf => (hnf hf).elim⟩⟩⟩

theorem qPushSend_xk (s : Streams) (k : Nat) (h1 : (s.stream k).isSendReady = true)
    (h2 : Live s k → ∀ r, XEr sv r (s.stream k) → locId sv (s.stream k).id = true → suB (s.stream k).state = true → False) :
    XK sv s (s.qPush .pendingSend k).1 := by
  unfold Streams.qPush; split
  · exact .refl _
  · dsimp only
    exact (modStream_xk_live _ _ _ (fun hl => xp_sched _ h1 (h2 hl))).trans (setQ_xk _ _ _)

theorem scheduleSend_xk' (s : Streams) (k : Nat)
    (h2 : Live s k → ∀ r, XEr sv r (s.stream k) → locId sv (s.stream k).id = true → suB (s.stream k).state = true → False) :
    XK sv s (s.scheduleSend k) := by
  unfold Streams.scheduleSend; split
  · next h1 => exact (qPushSend_xk s k h1 h2).trans (notifyTask_xk _)
  · exact .refl _

theorem xp_append_nd (x : Stream) (f : SFrame) (hf : f.isData = false)
    (hns : ∀ r, XEr sv r x → locId sv x.id = true → suB x.state = true → False) :
    ({ x with pendingSend := x.pendingSend ++ [f] } : Stream).key = x.key ∧
    Xp sv x { x with pendingSend := x.pendingSend ++ [f] } := by
  have hd := dsum_single_of_notData hf
  have he : ∀ r, XEr sv r x → flagB x = true → x.bufferedSendData ≤ dsum (x.pendingSend ++ [f]) + r := by
    intro r hx hfl; rw [dsum_append, hd]; exact hx.e hfl
  refine ⟨rfl, ⟨fun r hx => ⟨fun hl hs => (hns r hx hl hs).elim, fun hfl => ?_, fun hfl => he r hx hfl⟩⟩⟩
  rcases hx.f hfl with hw | hd'
  · refine .inl ⟨hw.1, ?_, fun hp => absurd hp (by simp)⟩
    show dsum (x.pendingSend ++ [f]).head?.toList = 0
    cases hps : x.pendingSend with
    | nil => exact hd
    | cons g l => have := hw.2.1; unfold hnd at this; rw [hps] at this; exact this
  · refine .inr ⟨hd'.1, ?_, hd'.2.2⟩
    show dsum (x.pendingSend ++ [f]) = 0
    rw [dsum_append, hd, hd'.2.1]

theorem queueFrame_xk' (s : Streams) (k : Nat) (f : SFrame) (hf : f.isData = false)
    (hns : Live s k → ∀ r, XEr sv r (s.stream k) → locId sv (s.stream k).id = true → suB (s.stream k).state = true → False) :
    XK sv s (s.queueFrame k f) := by
  unfold Streams.queueFrame
  refine (modStream_xk_live _ _ _ (fun hl => xp_append_nd _ f hf (hns hl))).trans (scheduleSend_xk' _ _ ?_)
  intro hl r hx hloc hsu
  have hl0 : Live s k := (SameKeys.modStream s k _).live.mp hl
  have hst := stream_modStream_live hl0 (fun st => ({ st with pendingSend := st.pendingSend ++ [f] } : Stream)) (fun _ => rfl)
  rw [hst] at hx hloc hsu
  have := (hx.n hloc hsu).1
  exact absurd this (by simp)

/-- the end of `try_assign_capacity`: scheduled only with something buffered (so the entry is not one of `Nn`) and send-ready -/
theorem relink_xk (s : Streams) (k : Nat) : XK sv s (s.relink k) := by
  unfold Streams.relink
  dsimp only
  generalize hs2 : (if (s.stream k).wantsMore = true then (s.qPush .pendingCapacity k).1 else s) = s2
  have h2 : XK sv s s2 := by rw [← hs2]; xk_auto
  have hspr : ((s2.stream k).isPendingOpen, (s2.stream k).isPendingPush, (s2.stream k).bufferedSendData) =
      ((s.stream k).isPendingOpen, (s.stream k).isPendingPush, (s.stream k).bufferedSendData) := by
    rw [← hs2]; split
    · exact qPush_spr (P := fun x => (x.isPendingOpen, x.isPendingPush, x.bufferedSendData)) s .pendingCapacity k
        (fun _ _ => rfl) k
    · rfl
  simp only [Prod.mk.injEq] at hspr
  split
  · next hg =>
    simp only [Bool.and_eq_true, decide_eq_true_eq] at hg
    refine h2.trans (qPushSend_xk s2 k ?_ ?_)
    · have := hg.2
      unfold Stream.isSendReady at this ⊢
      rw [hspr.1, hspr.2.1]; exact this
    · intro _ r hx hloc hsu
      have := (hx.n hloc hsu).2.2
      rw [hspr.2.2] at this
      omega
  · exact h2

theorem tryAssignCapacity_xk (s : Streams) (k : Nat) : XK sv s (s.tryAssignCapacity k) := by
  rw [Streams.tryAssignCapacity_eq]; xk_auto

theorem scheduleSend_xk (s : Streams) (k : Nat) (h : (s.stream k).state.isClosed = true) : XK sv s (s.scheduleSend k) :=
  scheduleSend_xk' s k (fun _ _ _ _ hsu => by rw [suB_closed h] at hsu; cases hsu)

theorem assignConnectionCapacityLoop_xk (n : Nat) (s : Streams) : XK sv s (Streams.assignConnectionCapacityLoop n s) :=
  Streams.assignConnectionCapacityLoop_rel xk_relOK (fun s => qPop_xk s _) tryAssignCapacity_xk transitionAfter_xk n s
theorem assignConnectionCapacity_xk (s : Streams) (inc : Nat) : XK sv s (s.assignConnectionCapacity inc) := by
  unfold Streams.assignConnectionCapacity; xk_auto
theorem reserveCapacity_xk (s : Streams) (k cap : Nat) : XK sv s (s.reserveCapacity k cap) := by
  unfold Streams.reserveCapacity; xk_auto
theorem prioRecvStreamWindowUpdate_xk (s : Streams) (k inc : Nat) : XK sv s (s.prioRecvStreamWindowUpdate k inc).1 := by
  unfold Streams.prioRecvStreamWindowUpdate; xk_auto
theorem recvConnectionWindowUpdate_xk (s : Streams) (inc : Nat) : XK sv s (s.recvConnectionWindowUpdate inc).1 := by
  unfold Streams.recvConnectionWindowUpdate; xk_auto
theorem reclaimAllCapacity_xk (s : Streams) (k : Nat) : XK sv s (s.reclaimAllCapacity k) := by
  unfold Streams.reclaimAllCapacity; xk_auto
theorem reclaimReservedCapacity_xk (s : Streams) (k : Nat) : XK sv s (s.reclaimReservedCapacity k) := by
  unfold Streams.reclaimReservedCapacity; xk_auto
theorem recvRecvPushPromise_xk (s : Streams) (k : Nat) (h : HeadersIn) : XK sv s (s.recvRecvPushPromise k h).1 :=
  .of_step (Streams.recvRecvPushPromise_step (by decide) s k h)

end H2V.Lemmas.ConnNoPanicP
