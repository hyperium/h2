import H2V.Lemmas.ConnNoPanicPFiStep
import H2V.Lemmas.ConnCountsPWitness
/-
  C08 (no panic) — `FI` is a reachable invariant: why the typing preconditions `fiPre` are needed.
  In the untyped operation universe (`ConnResetP.Op`: any handle method on any held key) the
  `assert!(!stream.is_counted)` of `Counts::inc_num_send_streams` (reached from `Prioritize::pop_pending_open`) FIRES.
-/
namespace H2V.Lemmas.ConnNoPanicP
open H2V H2V.Model H2V.Model.Conn H2V.Lemmas.ConnCountsP
open H2V.Lemmas.ConnResetP (Op run)

/-- a new server connection -/
def fiConn : Conn := Conn.initServer {} false []
def fiS0 : Streams := fiConn.streams

/-- peer SETTINGS; `GET /` on stream 1 (accepted: key 0); `push_request` on it (promised stream 2, key 1: `ReservedLocal`,
    `is_pending_push`); **`send_informational(103)` on the PROMISED stream's handle** (accepted by
    `send_interim_informational_headers`: `ReservedLocal` is neither send-streaming nor send-closed; the HEADERS frame is
    queued on the promised stream); `poll_complete` writes the PUSH_PROMISE and finds the promised stream's queue
    non-empty: `inc_num_send_streams` — the stream is COUNTED while still `ReservedLocal`; `send_response(200)` on it:
    `send_open` succeeds from `ReservedLocal`, `is_local_init && !is_pending_push` ⇒ `queue_open`: the stream is
    `is_counted` ∧ `is_pending_open`; the next `poll_complete` pops it from `pending_open` and counts it again. -/
def fiOps : List Op :=
  [.applyRemoteSettings [] true,
   .recvHeaders { sid := 1, eos := true, status := none, method := some (Http.str "GET"), scheme := some (Http.str "http"),
                  authority := some (Http.str "a"), path := some (Http.str "/") },
   .nextIncoming,
   .refSendPushPromise 0 true wGet,
   .refSendInformationalHeaders 1 [wFld ":status" "103"],
   .pollComplete 20 fiConn.codec.w fiConn.codec.io "c",
   .refSendResponse 1 [wFld ":status" "200"] false,
   .pollComplete 20 fiConn.codec.w fiConn.codec.io "c"]

/-- **Counterexample in the untyped operation universe**: after the first seven operations the promised stream is both
    counted and in `pending_open` (no panic so far: `FI`, not `NPI`, is what fails), and the eighth makes
    `assert!(!stream.is_counted)` fire.  NOT reachable through the public API: `send_informational` (and `push_request`,
    which has the same effect) exist on `SendResponse` only; the handle of a promised stream is a `SendPushedResponse`
    (`send_response`, `send_reset`, `poll_reset`, `stream_id`; src/server.rs).  Hence the precondition `fiPre`. -/
theorem fi_untyped_counterexample :
    (run fiS0 (fiOps.take 7)).panicked = none ∧
    ((run fiS0 (fiOps.take 7)).stream 1).isCounted = true ∧ ((run fiS0 (fiOps.take 7)).stream 1).isPendingOpen = true ∧
    (run fiS0 fiOps).panicked = some "assertion failed: !stream.is_counted" := by
  decide +kernel

/-- the operation that breaks the typing discipline: the handle `1` is the promised (locally initiated) stream -/
theorem fi_untyped_counterexample_pre : ¬ fiPre (run fiS0 (fiOps.take 4)) (.refSendInformationalHeaders 1 [wFld ":status" "103"]) := by
  unfold fiPre
  decide +kernel

end H2V.Lemmas.ConnNoPanicP
