import H2V.Model.ConnProto
/-
  ConnCtlP — ghost instrumentation of the connection loop.

  The model (`H2V/Model/ConnProto.lean`) is frozen and keeps no history.  To state "exactly one
  acknowledgement per SETTINGS / PING, in arrival order" and "the last-stream-id of successive
  GOAWAYs" over whole runs, the functions of `Connection::poll` are copied here with ONE addition:
  a list of ghost events (`Ev`) emitted at the very call that hands a frame to the codec
  (`bufferSettings true []`, `bufferSimple 8 "P:0:1:…"`, the GOAWAY `bufferSimple`) and at the very
  call that takes a frame from the peer (`recvSettings`, `recvFrame`).  The erasure theorems
  (`…T_fst`) prove that the copies compute exactly the model's values, so every statement about the
  events of a `…T` run is a statement about the corresponding run of the model.
-/
set_option autoImplicit false
namespace H2V.Lemmas.ConnCtlP
open H2V H2V.Model H2V.Model.Conn

/-- ghost events of one `Connection::poll` -/
inductive Ev where
  /-- a non-ACK SETTINGS frame was handed to `Settings::recv_settings` -/
  | rxSettings (vals : List (Nat × Nat))
  /-- a SETTINGS ACK was handed to the codec; `vals` (the frame it answers) is applied right after;
      `applied = false`: `apply_remote_settings` failed (connection error) -/
  | ackSettings (vals : List (Nat × Nat)) (applied : Bool)
  /-- a SETTINGS ACK of the peer was handed to `Settings::recv_settings` -/
  | rxSettingsAck
  /-- the local SETTINGS frame was handed to the codec -/
  | txSettings (vals : List (Nat × Nat))
  /-- a non-ACK PING was handed to `PingPong::recv_ping` -/
  | rxPing (payload : Bytes)
  /-- a PING ACK with this payload was handed to the codec -/
  | pong (payload : Bytes)
  /-- the pending pong was dropped because the transport answered an I/O error -/
  | pongLost (payload : Bytes)
  /-- a GOAWAY frame was handed to the codec -/
  | goAwaySent (f : GoAwayFrame)
  /-- the pending GOAWAY was dropped because the transport answered an I/O error -/
  | goAwayLost (f : GoAwayFrame)
  /-- any other frame (or end of input) was handed to `recv_frame` -/
  | rxOther
  deriving Repr, DecidableEq

/-- `send_pending_go_away` + events -/
def sendPendingGoAwayT (c : Conn) : (Conn × Conn.GoAwayPoll) × List Ev :=
  match c.goAway.pending with
  | some frame =>
    match c.codecPollReady with
    | (c, .pending) => ((c, .pending), [])
    | (c, .err e) => (({ c with goAway := { c.goAway with pending := none } }, .err e), [.goAwayLost frame])
    | (c, .ok) =>
      let c := { c with goAway := { c.goAway with pending := none } }
      let c := c.bufferSimple (8 + frame.debugData.length)
        s!"G:0:{frame.lastStreamId}:{frame.reason}:{Hex.render frame.debugData}"
      ((c, .reason frame.reason), [.goAwaySent frame])
  | none =>
    if c.goAway.shouldCloseNow then
      match c.goAway.goingAway with
      | some ga => ((c, .reason ga.reason), [])
      | none => ((c, .none), [])
    else ((c, .none), [])

theorem sendPendingGoAwayT_fst (c : Conn) : (sendPendingGoAwayT c).1 = c.sendPendingGoAway := by
  unfold sendPendingGoAwayT Conn.sendPendingGoAway
  repeat' split
  all_goals simp_all

/-- `send_pending_pong` + events -/
def sendPendingPongT (c : Conn) : (Conn × Step) × List Ev :=
  match c.pingPong.pendingPong with
  | some pong =>
    match c.codecPollReady with
    | (c, .pending) => ((c, .pending), [])
    | (c, .err e) => (({ c with pingPong := { c.pingPong with pendingPong := none } }, .err e), [.pongLost pong])
    | (c, .ok) =>
      let c := { c with pingPong := { c.pingPong with pendingPong := none } }
      ((c.bufferSimple 8 s!"P:0:1:{Hex.ofBytes pong}", .ok), [.pong pong])
  | none => ((c, .ok), [])

theorem sendPendingPongT_fst (c : Conn) : (sendPendingPongT c).1 = c.sendPendingPong := by
  unfold sendPendingPongT Conn.sendPendingPong
  repeat' split
  all_goals simp_all

/-- `Settings::poll_send` once `dst.poll_ready` answered `Ready`: buffer the ACK, then apply the
    values of the frame it answers (a copy of that branch of the model) -/
def ackAndApply (c : Conn) (settings : List (Nat × Nat)) : Conn × Step :=
  let c := c.bufferSettings true []
  let isInitial := !c.settings.hasReceivedRemoteInitialSettings
  let c := { c with settings := { c.settings with hasReceivedRemoteInitialSettings := true } }
  match c.streams.applyRemoteSettings settings isInitial with
  | (s, .error e) => ({ c with streams := s }, .err e)
  | (s, .ok _) =>
    let c := { c with streams := s }
    let get := fun (id : Nat) => (settings.find? (·.1 = id)).map (·.2)
    let w := c.codec.w
    let w := match get 1 with | some v => { w with hpack := w.hpack.updateMaxSize v } | none => w
    let w := match get 5 with | some v => { w with maxFrameSize := v } | none => w
    ({ c with codec := { c.codec with w := w } }, .ok)

/-- first half of `Settings::poll_send` (the `if let Some(settings) = self.remote.clone()` block):
    a copy of the model's `first` -/
def settingsRemotePart (c : Conn) : Conn × Step :=
  match c.settings.remote with
  | some settings =>
    match c.codecPollReady with
    | (c, .pending) => (c, .pending)
    | (c, .err e) => (c, .err e)
    | (c, .ok) => ackAndApply c settings
  | none => (c, .ok)

/-- the `Local::ToSend` block of `Settings::poll_send` -/
def settingsLocalSend (c : Conn) : Conn × Step :=
  match c.settings.loc with
  | .toSend settings =>
    match c.codecPollReady with
    | (c, .ok) =>
      let c := c.bufferSettings false settings
      ({ c with settings := { c.settings with loc := .waitingAck settings } }, .ok)
    | r => r
  | _ => (c, .ok)

/-- second half of `Settings::poll_send` (`self.remote = None`, then the `Local::ToSend` block) -/
def settingsLocalPart (c : Conn) : Conn × Step :=
  settingsLocalSend { c with settings := { c.settings with remote := none } }

/-- the model's `settingsPollSend` is literally the two halves in sequence -/
theorem settingsPollSend_eq (c : Conn) :
    c.settingsPollSend = match settingsRemotePart c with
      | (c, .ok) => settingsLocalPart c
      | r => r := by rfl

def stepOk : Step → Bool
  | .ok => true
  | _ => false

/-- first half + events: the ACK event sits at the call of `ackAndApply`, whose first action is
    `bufferSettings true []` -/
def settingsRemotePartT (c : Conn) : (Conn × Step) × List Ev :=
  match c.settings.remote with
  | some settings =>
    match c.codecPollReady with
    | (c, .pending) => ((c, .pending), [])
    | (c, .err e) => ((c, .err e), [])
    | (c, .ok) => (ackAndApply c settings, [.ackSettings settings (stepOk (ackAndApply c settings).2)])
  | none => ((c, .ok), [])

theorem settingsRemotePartT_fst (c : Conn) : (settingsRemotePartT c).1 = settingsRemotePart c := by
  unfold settingsRemotePartT settingsRemotePart
  repeat' split
  all_goals simp_all

def settingsLocalSendT (c : Conn) : (Conn × Step) × List Ev :=
  match c.settings.loc with
  | .toSend settings =>
    match c.codecPollReady with
    | (c, .ok) =>
      let c := c.bufferSettings false settings
      (({ c with settings := { c.settings with loc := .waitingAck settings } }, .ok), [.txSettings settings])
    | r => (r, [])
  | _ => ((c, .ok), [])

theorem settingsLocalSendT_fst (c : Conn) : (settingsLocalSendT c).1 = settingsLocalSend c := by
  unfold settingsLocalSendT settingsLocalSend
  cases h : c.settings.loc with
  | toSend vals =>
    simp only []
    rcases h2 : c.codecPollReady with ⟨c1, st⟩
    cases st <;> rfl
  | waitingAck _ => rfl
  | synced => rfl

def settingsLocalPartT (c : Conn) : (Conn × Step) × List Ev :=
  settingsLocalSendT { c with settings := { c.settings with remote := none } }

theorem settingsLocalPartT_fst (c : Conn) : (settingsLocalPartT c).1 = settingsLocalPart c :=
  settingsLocalSendT_fst _

/-- `Settings::poll_send` + events -/
def settingsPollSendT (c : Conn) : (Conn × Step) × List Ev :=
  match settingsRemotePartT c with
  | ((c, .ok), e1) => let (r, e2) := settingsLocalPartT c; (r, e1 ++ e2)
  | r => r

theorem settingsPollSendT_fst (c : Conn) : (settingsPollSendT c).1 = c.settingsPollSend := by
  rw [settingsPollSend_eq, ← settingsRemotePartT_fst]
  unfold settingsPollSendT
  rcases h : settingsRemotePartT c with ⟨⟨c1, st⟩, e1⟩
  cases st <;> simp [← settingsLocalPartT_fst]

/-- `Connection::poll_ready` + events -/
def pollReadyT (c : Conn) : (Conn × Step) × List Ev :=
  match sendPendingPongT c with
  | ((c, .ok), e1) =>
    match c.sendPendingPing with
    | (c, .ok) =>
      match settingsPollSendT c with
      | ((c, .ok), e2) =>
        let (s, w, io, r) := Streams.pollSendPendingRefusal 4 c.streams c.codec.w c.codec.io c.cx
        let c := { c with streams := s, codec := { c.codec with w := w, io := io } }
        ((c, match r with | .ready => .ok | .pending => .pending | .err k => .err (.io k none)), e1 ++ e2)
      | (r, e2) => (r, e1 ++ e2)
    | r => (r, e1)
  | r => r

theorem pollReadyT_fst (c : Conn) : (pollReadyT c).1 = c.pollReady := by
  unfold pollReadyT Conn.pollReady
  rw [← sendPendingPongT_fst]
  rcases h1 : sendPendingPongT c with ⟨⟨c1, st1⟩, e1⟩
  cases st1 <;> try rfl
  simp only []
  rcases h2 : c1.sendPendingPing with ⟨c2, st2⟩
  cases st2 <;> try rfl
  simp only []
  rw [← settingsPollSendT_fst]
  rcases h3 : settingsPollSendT c2 with ⟨⟨c3, st3⟩, e2⟩
  cases st3 <;> rfl

/-- the events of taking one frame from the peer (`recv_frame` / `recv_settings`) -/
def frameEv : Option Frame.Frame → List Ev
  | some (.settings false vals) => [.rxSettings vals]
  | some (.settings true _) => [.rxSettingsAck]
  | some (.ping false payload) => [.rxPing payload]
  | _ => [.rxOther]

/-- `recv_frame` and the dispatch on its answer; `k` is the next turn of the loop (a copy of the
    model's code) -/
def poll2Dispatch (k : Conn → Conn × PollRes) (c : Conn) (frame : Option Frame.Frame) : Conn × PollRes :=
  match c.recvFrame frame with
  | (c, .error e) => (c, .ready (.error e))
  | (c, .ok .continue) => k c
  | (c, .ok .done) => (c, .ready (.ok ()))
  | (c, .ok (.settings ack vals)) =>
    match c.recvSettings ack vals with
    | (c, .error e) => (c, .ready (.error e))
    | (c, .ok _) => k c

/-- the part of the `loop` of `poll2` after `poll_ready` answered `Ready`: read one frame and
    dispatch it -/
def poll2Read (k : Conn → Conn × PollRes) (c : Conn) : Conn × PollRes :=
  let (codec, polled) := pollNext (c.codec.r.buf.length + c.codec.io.rd.length + 2) c.codec c.cx
  let c := { c with codec := codec }
  match polled with
  | .pending => (c, .pending)
  | .err e => (c, .ready (.error (Conn.rerrToPErr e)))
  | .ioErr kind msg => (c, .ready (.error (.io kind msg)))
  | other => poll2Dispatch k c (match other with | .frame f => some f | _ => none)

/-- `goOn` of the model's `poll2Loop` -/
def poll2GoOn (k : Conn → Conn × PollRes) (c : Conn) : Conn × PollRes :=
  match c.pollReady with
  | (c, .pending) => (c, PollRes.pending)
  | (c, .err e) => (c, .ready (.error e))
  | (c, .ok) => poll2Read k c

/-- one turn of the model's `poll2Loop`, literally -/
theorem poll2Loop_succ (fuel : Nat) (c : Conn) :
    Conn.poll2Loop (fuel + 1) c =
      match c.sendPendingGoAway with
      | (c, .pending) => (c, .pending)
      | (c, .err e) => (c, .ready (.error e))
      | (c, .reason reason) =>
        if c.goAway.shouldCloseNow then
          if c.goAway.isUserInitiated then (c, .ready (.ok ()))
          else (c, .ready (.error (PErr.libraryGoAway reason)))
        else poll2GoOn (Conn.poll2Loop fuel) c
      | (c, .none) => poll2GoOn (Conn.poll2Loop fuel) c := by rfl

/-- `Connection::poll` in state `Closed`: `Ready` (with the error `take_error` computes), always -/
theorem protoPoll_closed (fuel : Nat) (c : Conn) (r : Reason) (i : Initiator) (h : c.state = .closed r i) :
    Conn.protoPoll (fuel + 1) c = ((c.takeError r i).1, .ready (c.takeError r i).2) := by
  unfold Conn.protoPoll
  rw [h]

/-- `poll2Dispatch` + events: the event of the frame is emitted where `recvFrame` is called -/
def poll2DispatchT (k : Conn → (Conn × PollRes) × List Ev) (c : Conn) (frame : Option Frame.Frame) :
    (Conn × PollRes) × List Ev :=
  match c.recvFrame frame with
  | (c, .error e) => ((c, .ready (.error e)), frameEv frame)
  | (c, .ok .continue) => let (r, e2) := k c; (r, frameEv frame ++ e2)
  | (c, .ok .done) => ((c, .ready (.ok ())), frameEv frame)
  | (c, .ok (.settings ack vals)) =>
    match c.recvSettings ack vals with
    | (c, .error e) => ((c, .ready (.error e)), frameEv frame)
    | (c, .ok _) => let (r, e2) := k c; (r, frameEv frame ++ e2)

theorem poll2DispatchT_fst (k : Conn → Conn × PollRes) (kT : Conn → (Conn × PollRes) × List Ev)
    (hk : ∀ c, (kT c).1 = k c) (c : Conn) (frame : Option Frame.Frame) :
    (poll2DispatchT kT c frame).1 = poll2Dispatch k c frame := by
  unfold poll2DispatchT poll2Dispatch
  split <;> try rfl
  · simp [← hk]
  · split <;> try rfl
    simp [← hk]

def poll2ReadT (k : Conn → (Conn × PollRes) × List Ev) (c : Conn) : (Conn × PollRes) × List Ev :=
  let (codec, polled) := pollNext (c.codec.r.buf.length + c.codec.io.rd.length + 2) c.codec c.cx
  let c := { c with codec := codec }
  match polled with
  | .pending => ((c, .pending), [])
  | .err e => ((c, .ready (.error (Conn.rerrToPErr e))), [])
  | .ioErr kind msg => ((c, .ready (.error (.io kind msg))), [])
  | other => poll2DispatchT k c (match other with | .frame f => some f | _ => none)

theorem poll2ReadT_fst (k : Conn → Conn × PollRes) (kT : Conn → (Conn × PollRes) × List Ev)
    (hk : ∀ c, (kT c).1 = k c) (c : Conn) : (poll2ReadT kT c).1 = poll2Read k c := by
  unfold poll2ReadT poll2Read
  rcases h1 : pollNext (c.codec.r.buf.length + c.codec.io.rd.length + 2) c.codec c.cx with ⟨codec, polled⟩
  dsimp only
  split <;> try rfl
  exact poll2DispatchT_fst k kT hk _ _

def poll2GoOnT (k : Conn → (Conn × PollRes) × List Ev) (c : Conn) : (Conn × PollRes) × List Ev :=
  match pollReadyT c with
  | ((c, .pending), e1) => ((c, PollRes.pending), e1)
  | ((c, .err e), e1) => ((c, .ready (.error e)), e1)
  | ((c, .ok), e1) => let (r, e2) := poll2ReadT k c; (r, e1 ++ e2)

theorem poll2GoOnT_fst (k : Conn → Conn × PollRes) (kT : Conn → (Conn × PollRes) × List Ev)
    (hk : ∀ c, (kT c).1 = k c) (c : Conn) : (poll2GoOnT kT c).1 = poll2GoOn k c := by
  unfold poll2GoOnT poll2GoOn
  rw [← pollReadyT_fst]
  rcases h1 : pollReadyT c with ⟨⟨c1, st1⟩, e1⟩
  cases st1 <;> try rfl
  simp [poll2ReadT_fst k kT hk]

/-- the `loop` of `Connection::poll2` + events -/
def poll2LoopT : Nat → Conn → (Conn × PollRes) × List Ev
  | 0, c => ((c.panic "model: poll2 out of fuel", .pending), [])
  | fuel + 1, c =>
    match sendPendingGoAwayT c with
    | ((c, .pending), e0) => ((c, .pending), e0)
    | ((c, .err e), e0) => ((c, .ready (.error e)), e0)
    | ((c, .reason reason), e0) =>
      if c.goAway.shouldCloseNow then
        if c.goAway.isUserInitiated then ((c, .ready (.ok ())), e0)
        else ((c, .ready (.error (PErr.libraryGoAway reason))), e0)
      else let (r, e1) := poll2GoOnT (poll2LoopT fuel) c; (r, e0 ++ e1)
    | ((c, .none), e0) => let (r, e1) := poll2GoOnT (poll2LoopT fuel) c; (r, e0 ++ e1)

theorem poll2LoopT_fst : ∀ (fuel : Nat) (c : Conn), (poll2LoopT fuel c).1 = Conn.poll2Loop fuel c
  | 0, c => rfl
  | fuel + 1, c => by
    rw [poll2Loop_succ, ← sendPendingGoAwayT_fst]
    unfold poll2LoopT
    rcases h1 : sendPendingGoAwayT c with ⟨⟨c1, st1⟩, e0⟩
    cases st1 <;> try rfl
    · exact poll2GoOnT_fst _ _ (poll2LoopT_fst fuel) c1
    · dsimp only
      split
      · split <;> rfl
      · exact poll2GoOnT_fst _ _ (poll2LoopT_fst fuel) c1

/-- `Connection::poll2` + events -/
def poll2T (fuel : Nat) (c : Conn) : (Conn × PollRes) × List Ev :=
  let c := { c with streams := Streams.clearExpiredResetStreams (c.streams.recv.pendingResetExpired.length + 1) c.streams }
  poll2LoopT fuel c

theorem poll2T_fst (fuel : Nat) (c : Conn) : (poll2T fuel c).1 = Conn.poll2 fuel c :=
  poll2LoopT_fst fuel _

/-- `proto::Connection::poll` + events -/
def protoPollT : Nat → Conn → (Conn × PollRes) × List Ev
  | 0, c => ((c.panic "model: poll out of fuel", .pending), [])
  | fuel + 1, c =>
    match c.state with
    | .open =>
      match poll2T (fuel + 1) c with
      | ((c, .ready result), e0) =>
        match c.handlePoll2Result result with
        | (c, .ok _) => let (r, e1) := protoPollT fuel c; (r, e0 ++ e1)
        | (c, .error e) => ((c, .ready (.error e)), e0)
      | ((c, .pending), e0) =>
        let (s, w, io, r) := Streams.pollComplete (fuel + 1) c.streams c.codec.w c.codec.io c.cx
        let c := { c with streams := s, codec := { c.codec with w := w, io := io } }
        match r with
        | .pending => ((c, .pending), e0)
        | .err k => ((c, .ready (.error (.io k none))), e0)
        | .ready =>
        if (c.error.isSome || c.goAway.shouldCloseOnIdle) && !c.streams.counts.hasStreams then
          let (r, e1) := protoPollT fuel (c.goAwayNow NO_ERROR); (r, e0 ++ e1)
        else ((c, .pending), e0)
    | .closing reason init =>
      let (w, io, r) := shutdownW c.codec.w c.codec.io c.cx
      let c := { c with codec := { c.codec with w := w, io := io } }
      match r with
      | .pending => ((c, .pending), [])
      | .err k => ((c, .ready (.error (.io k none))), [])
      | .ready => protoPollT fuel { c with state := .closed reason init }
    | .closed reason init =>
      let (c, r) := c.takeError reason init
      ((c, .ready r), [])

theorem protoPollT_fst : ∀ (fuel : Nat) (c : Conn), (protoPollT fuel c).1 = Conn.protoPoll fuel c
  | 0, c => rfl
  | fuel + 1, c => by
    unfold protoPollT Conn.protoPoll
    cases hs : c.state with
    | «open» =>
      simp only []
      rw [← poll2T_fst]
      rcases h1 : poll2T (fuel + 1) c with ⟨⟨c1, r1⟩, e0⟩
      cases r1 with
      | ready result =>
        simp only []
        rcases h2 : c1.handlePoll2Result result with ⟨c2, r2⟩
        cases r2 <;> simp [protoPollT_fst fuel]
      | pending =>
        simp only []
        rcases h2 : Streams.pollComplete (fuel + 1) c1.streams c1.codec.w c1.codec.io c1.cx with ⟨s, w, io, r⟩
        cases r <;> try rfl
        simp only []
        split <;> simp [protoPollT_fst fuel]
    | closing reason init =>
      simp only []
      rcases h2 : shutdownW c.codec.w c.codec.io c.cx with ⟨w, io, r⟩
      cases r <;> try rfl
      simp [protoPollT_fst fuel]
    | closed reason init => rfl

/-- `impl Future for client::Connection` + events -/
def clientPollT (fuel : Nat) (c : Conn) : (Conn × PollRes) × List Ev :=
  let c := if !c.hasStreamsOrOtherReferences then c.goAwayNow NO_ERROR else c
  let had := c.hasStreamsOrOtherReferences
  let ((c, r), evs) := protoPollT fuel c
  let pending := match r with | .pending => true | _ => false
  let c := if pending && had && !c.hasStreamsOrOtherReferences then
      { c with streams := c.streams.wake [c.cx] }
    else c
  ((c, r), evs)

theorem clientPollT_fst (fuel : Nat) (c : Conn) : (clientPollT fuel c).1 = Conn.clientPoll fuel c := by
  unfold clientPollT Conn.clientPoll
  simp only [← protoPollT_fst]
  rfl

end H2V.Lemmas.ConnCtlP
