import H2V.Lemmas.ConnFlowPMain
import H2V.Lemmas.ConnCountsPQueueR
import H2V.Lemmas.ConnLoops
/-
  ConnDrainP — a termination measure for the loop of `Prioritize::pop_frame`.

  `Phi s` = Σ over the slab entries of
      (frames queued on the stream)
    + 2 if the stream is linked in `pending_send` and a visit would not return at once
    + 2 if the stream is linked in `pending_capacity`.
  Every `continue` of `pop_frame` makes `Phi` strictly smaller (ConnDrainPFuel.lean), so the loop runs at
  most `Phi s` times before it returns; the model's fuel `popFrameFuel s` is larger.
  This file: the measure and what the primitive updates do to it.
-/
namespace H2V.Lemmas.ConnDrainP
open H2V H2V.Model H2V.Model.Conn
open H2V.Lemmas.ConnFlowP (KeysOk SafeInv SafeInvG ReqOk)
open H2V.Lemmas.ConnCountsP (QOK Flagged)

/-- visiting this stream in `pop_frame` returns at once: nothing queued, a reset scheduled (the RST_STREAM is emitted) -/
def ret0 (x : Stream) : Bool := x.pendingSend.isEmpty && x.state.getScheduledReset.isSome

/-- the share of one slab entry in the number of `continue`s `pop_frame` can still make -/
def phi (x : Stream) : Nat :=
  x.pendingSend.length + (if x.isPendingSend && !ret0 x then 2 else 0) + (if x.isPendingSendCapacity then 2 else 0)

def phiL (l : List Stream) : Nat := (l.map phi).sum

/-- bound on the number of `continue`s of `pop_frame` from this state -/
def Phi (s : Streams) : Nat := phiL s.store.slab

theorem phiL_set {l : List Stream} {k : Nat} {a b : Stream} (hn : (l.map (·.key)).Nodup)
    (ha : l.find? (·.key == k) = some a) (hb : b.key = k) :
    phiL (l.map fun x => if x.key == b.key then b else x) + phi a = phiL l + phi b := by
  induction l with
  | nil => cases ha
  | cons x t ih =>
    simp only [List.map_cons, List.nodup_cons] at hn
    simp only [List.find?_cons] at ha
    by_cases hx : x.key == k
    · simp only [hx] at ha
      have hax : a = x := (Option.some.inj ha).symm
      subst hax
      have hid : (t.map fun y => if y.key == b.key then b else y) = t := by
        have : ∀ y ∈ t, (if y.key == b.key then b else y) = y := by
          intro y hy
          have : ¬ (y.key == b.key) = true := by
            intro h
            apply hn.1
            have e : y.key = a.key := by simp at h hx; omega
            rw [← e]; exact List.mem_map.2 ⟨y, hy, rfl⟩
          simp [this]
        conv => rhs; rw [← List.map_id t]
        exact List.map_congr_left this
      have hxb : (a.key == b.key) = true := by simp at hx ⊢; omega
      simp only [phiL, List.map_cons, hxb, if_true, List.sum_cons]
      have := congrArg phiL hid
      simp only [phiL] at this
      rw [this]; omega
    · simp only [hx] at ha
      have hxb : (x.key == b.key) = false := by
        cases h : (x.key == b.key) with
        | false => rfl
        | true => exfalso; apply hx; simp at h ⊢; omega
      have := ih hn.2 ha
      simp only [phiL, List.map_cons, hxb, List.sum_cons] at this ⊢
      simp only [Bool.false_eq_true, if_false]
      omega

theorem phiL_filter_le (l : List Stream) (p : Stream → Bool) : phiL (l.filter p) ≤ phiL l := by
  induction l with
  | nil => exact Nat.le_refl _
  | cons x t ih =>
    simp only [List.filter_cons]
    split
    · simp only [phiL, List.map_cons, List.sum_cons] at ih ⊢; omega
    · simp only [phiL, List.map_cons, List.sum_cons] at ih ⊢; omega

theorem Phi_of_slab {s s' : Streams} (h : s'.store.slab = s.store.slab) : Phi s' = Phi s := by
  unfold Phi; rw [h]

theorem Phi_panic (s : Streams) (m : String) : Phi (s.panic m) = Phi s :=
  Phi_of_slab (by rw [ConnFlowP.panic_store])

theorem Phi_setQ (s : Streams) (q : QName) (l : List Nat) : Phi (s.setQ q l) = Phi s :=
  Phi_of_slab (by rw [ConnCountsP.setQ_store])

theorem Phi_modCountsA (s : Streams) (w : String) (f : Counts → Option Counts) : Phi (s.modCountsA w f) = Phi s := by
  unfold Streams.modCountsA; split
  · rfl
  · exact Phi_panic _ _

theorem Phi_remove_le (s : Streams) (k n : Nat) :
    Phi { s with store := s.store.remove k, recvBufferLeaked := n } ≤ Phi s := phiL_filter_le _ _

theorem Phi_setStream {s : Streams} (hk : KeysOk s.store) {a b : Stream} (ha : s.store.get? b.key = some a) :
    Phi (s.setStream b) + phi a = Phi s + phi b :=
  phiL_set hk.1 ha rfl

theorem Phi_modStream {s : Streams} (hk : KeysOk s.store) (k : Nat) (f : Stream → Stream) (hkey : ∀ x, (f x).key = x.key) :
    (∀ a, s.store.get? k = some a → Phi (s.modStream k f) + phi a = Phi s + phi (f a)) ∧
    (s.store.get? k = none → Phi (s.modStream k f) = Phi s) := by
  refine ⟨fun a ha => ?_, fun hn => ?_⟩
  · unfold Streams.modStream; rw [ha]
    have hka : (f a).key = k := by rw [hkey]; exact (ConnFlowP.get?_mem ha).2
    exact Phi_setStream hk (by rw [hka]; exact ha)
  · unfold Streams.modStream; rw [hn]; exact Phi_panic _ _

theorem Phi_modStream_le {s : Streams} (hk : KeysOk s.store) (k : Nat) (f : Stream → Stream) (hkey : ∀ x, (f x).key = x.key)
    (c : Nat) (hf : ∀ a, s.store.get? k = some a → phi (f a) ≤ phi a + c) : Phi (s.modStream k f) ≤ Phi s + c := by
  cases ha : s.store.get? k with
  | none => rw [(Phi_modStream hk k f hkey).2 ha]; omega
  | some a => have := (Phi_modStream hk k f hkey).1 a ha; have := hf a ha; omega

theorem Phi_modStream_eq {s : Streams} (hk : KeysOk s.store) (k : Nat) (f : Stream → Stream) (hkey : ∀ x, (f x).key = x.key)
    (hf : ∀ a, phi (f a) = phi a) : Phi (s.modStream k f) = Phi s := by
  cases ha : s.store.get? k with
  | none => rw [(Phi_modStream hk k f hkey).2 ha]
  | some a => have := (Phi_modStream hk k f hkey).1 a ha; have := hf a; omega

theorem Phi_modStreamW_eq {s : Streams} (hk : KeysOk s.store) (k : Nat) (f : Stream → Stream × List String)
    (hkey : ∀ x, (f x).1.key = x.key) (hf : ∀ a, phi (f a).1 = phi a) : Phi (s.modStreamW k f) = Phi s := by
  unfold Streams.modStreamW
  cases ha : s.store.get? k with
  | none => exact Phi_panic _ _
  | some a =>
    show Phi ((s.setStream (f a).1).wake (f a).2) = Phi s
    have hka : (f a).1.key = k := by rw [hkey]; exact (ConnFlowP.get?_mem ha).2
    have := Phi_setStream hk (b := (f a).1) (by rw [hka]; exact ha)
    have h2 : Phi ((s.setStream (f a).1).wake (f a).2) = Phi (s.setStream (f a).1) := Phi_of_slab rfl
    have := hf a
    omega


theorem ret0_setQueued (a : Stream) (q : QName) (v : Bool) : ret0 (a.setQueued q v) = ret0 a := by cases q <;> rfl

theorem phi_setPS_false (a : Stream) (h : a.isPendingSend = true) :
    phi (a.setQueued .pendingSend false) + (if ret0 a then 0 else 2) = phi a := by
  unfold phi
  rw [ret0_setQueued]
  show a.pendingSend.length + (if (false && !ret0 a) = true then 2 else 0) + (if a.isPendingSendCapacity = true then 2 else 0) + _ = _
  rw [h]
  cases ret0 a <;> simp <;> omega

theorem phi_setPS_true_le (a : Stream) :
    phi (a.setQueued .pendingSend true) ≤ phi a + (if ret0 a then 0 else 2) := by
  unfold phi
  rw [ret0_setQueued]
  show a.pendingSend.length + (if (true && !ret0 a) = true then 2 else 0) + (if a.isPendingSendCapacity = true then 2 else 0) ≤ _
  cases ret0 a <;> cases a.isPendingSend <;> simp <;> omega

theorem phi_setPC_false (a : Stream) (h : a.isPendingSendCapacity = true) :
    phi (a.setQueued .pendingCapacity false) + 2 = phi a := by
  unfold phi
  rw [ret0_setQueued]
  show a.pendingSend.length + (if (a.isPendingSend && !ret0 a) = true then 2 else 0) + (if false = true then 2 else 0) + 2 = _
  rw [h]; simp

theorem phi_setPC_true_le (a : Stream) : phi (a.setQueued .pendingCapacity true) ≤ phi a + 2 := by
  unfold phi
  rw [ret0_setQueued]
  show a.pendingSend.length + (if (a.isPendingSend && !ret0 a) = true then 2 else 0) + (if true = true then 2 else 0) ≤ _
  cases a.isPendingSendCapacity <;> simp

export H2V.Model.Conn.Stream (setQueued_key)

end H2V.Lemmas.ConnDrainP
