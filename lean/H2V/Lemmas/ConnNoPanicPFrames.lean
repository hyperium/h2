import H2V.Lemmas.ConnNoPanicPApi
import H2V.Lemmas.ConnDataRule
/-
  C08 (no panic): the frame entry points of `Inner` (streams.rs) keep `NPI`.
  The closure of `Inner::recv_reset` is copied from the model (`recvResetClosure`, equality by `rfl`); those of `recv_headers` and
  `recv_data` are the staged ones of ConnStages, followed by the rules of ConnHeadersRule / ConnDataRule.
-/
namespace H2V.Lemmas.ConnNoPanicP
open H2V H2V.Model H2V.Model.Conn H2V.Lemmas.ConnCountsP

theorem recvDataBody_le (k : Nat) (payload : Bytes) (eos : Bool) (pad : Option Nat) (s : Streams)
    (hlen : payload.length + (match pad with | some p => p + 1 | none => 0) ≤ Generated.Consts.MAX_WINDOW_SIZE) :
    LE [k] s (s.recvDataBody k payload eos pad).1 :=
  Streams.DataBodyRule.run (I := LE [k] s) (I' := LE [k] s)
    { data := fun t ht => ht.step1 (recvRecvData_lt t k payload eos pad hlen) (EvB.of_step (Streams.recvRecvData_step (by decide) _ _ _ _ _))
      count := fun t ht => ht.step0 (setCounts_lt t _ (recordDataFrame_err _ _)) (setCounts_ev _ _ (cstep_recordDataFrame _ _))
      release := fun t _ ht => ht.step0 (releaseConnectionCapacity_lt _ _ _) (EvB.of_step (Streams.releaseConnectionCapacity_step (by decide) _ _ _))
      done := fun _ ht => ht
      rst := fun t _ ht _ => ht.trans ⟨resetOnRecvStreamErr_ltw _ _ _, resetOnRecvStreamErr_ev _ _ _⟩ (fun _ h => h) }
    s (.refl _ _)

theorem recvData_npi {s : Streams} (h : NPI (fun _ => False) s) (id : Nat) (payload : Bytes) (eos : Bool) (pad : Option Nat)
    (hlen : payload.length + (match pad with | some p => p + 1 | none => 0) ≤ Generated.Consts.MAX_WINDOW_SIZE)
    (he' : ErrOK (s.recvData id payload eos pad).1) : NPI (fun _ => False) (s.recvData id payload eos pad).1 := by
  rw [Streams.recvData_eq] at he' ⊢
  cases hfk : s.store.findKey? id with
  | none =>
    simp only []
    refine h.lt (ks := []) (LT.w ?_) (liveAll0 s) (ρ := true) (by ev_auto) (fun _ _ h => h)
    lt_auto
  | some k =>
    simp only [hfk] at he' ⊢
    have hle := recvDataBody_le k payload eos pad s hlen
    have he := errOK_of_transition he'
    exact transition_npi k _ (h.le hle (liveAll1 (h.ids.findKey hfk).1) (fun _ h => h)) hle.ev he

/-- the closure of `Inner::recv_reset` -/
def recvResetClosure (k : Nat) (reason : Reason) (s : Streams) : Streams × Except PErr Unit :=
  match s.recvRecvReset k reason with
  | (s, .error e) => (s, .error e)
  | (s, .ok _) =>
    let s := s.sendHandleError k
    let s := if (s.stream k).state.isClosed then s else s.panic "assertion failed: stream.state.is_closed()"
    (s, .ok ())

/-- **`assert!(stream.state.is_closed())` in `Inner::recv_reset` cannot fire**: `Recv::recv_reset` closes the
    state and `Send::handle_error` keeps it closed -/
theorem recvResetClosure_le (k : Nat) (r : Reason) (s : Streams) : LE [k] s (recvResetClosure k r s).1 := by
  unfold recvResetClosure
  generalize hr : s.recvRecvReset k r = p
  obtain ⟨s1, res⟩ := p
  have h1 : LE [k] s s1 := of_fst_eq hr (LE.of (recvRecvReset_lt s k r) (EvB.of_step (Streams.recvRecvReset_step (by decide) _ _ _)))
  cases res with
  | error e => exact h1
  | ok u =>
    simp only []
    have h2 : LE [k] s (s1.sendHandleError k) := h1.step1 (sendHandleError_lt _ _) (sendHandleError_ev _ _)
    refine ⟨LTw.guard _ _ h2.lt ?_, .trans h2.ev (by split; exact .refl _; exact panic_ev _ _)⟩
    intro hl hq
    have hk : Live s k := hl k (List.mem_cons_self ..)
    have hk1 : Live s1 k := h1.lt.keys.live.mpr hk
    have hq1 : NPQ s1 := h1.lt.ok hl hq
    have hc1 := recvRecvReset_closed hk hr
    exact closed_absorbing (ConnWakeP.sendHandleError_acc k (ConnWakeP.Step.refl none s1)) hq1.keys hk1
      ((sendHandleError_lt s1 k).keys.live.mpr hk1) hc1


theorem recvReset_npi {s : Streams} (h : NPI (fun _ => False) s) (id : Nat) (r : Reason) (he : ErrOK s) :
    NPI (fun _ => False) (s.recvReset id r).1 := by
  unfold Streams.recvReset
  split
  · exact h
  split
  · exact h
  cases hfk : s.store.findKey? id with
  | none => simp only []; split <;> exact h
  | some k =>
    simp only []
    split
    · exact h
    · have hk := (h.ids.findKey hfk).1
      have hle := recvResetClosure_le k r s
      have hX := h.le hle (liveAll1 hk) (fun _ h => h)
      have heX : ErrOK (recvResetClosure k r s).1 := by
        -- no library reset in this closure: the counter does not move
        unfold recvResetClosure
        generalize hr : s.recvRecvReset k r = p
        obtain ⟨s1, res⟩ := p
        have h1 : ErrOK s1 := (of_fst_eq hr (recvRecvReset_lt s k r)).err.errOK he
        cases res with
        | error e => exact h1
        | ok u =>
          simp only []
          have h2 := (sendHandleError_lt s1 k).err.errOK h1
          split
          · exact h2
          · exact (panic_errSame _ _).errOK h2
      exact transition_npi k (recvResetClosure k r) hX hle.ev heX

theorem NPI.of_ltw {E : Nat → Prop} {ρ : Bool} {s s' : Streams} (h : NPI E s) (e : EvB ρ s s') (hE : ρ = true → ∀ k, ¬ E k)
    (hlt : ∃ ks, LiveAll s ks ∧ LTw ks s s') : NPI E s' :=
  let ⟨_, hl, hlt⟩ := hlt; h.lt hlt hl e hE

theorem recvWindowUpdate_npi {s : Streams} (h : NPI (fun _ => False) s) (id inc : Nat) :
    NPI (fun _ => False) (s.recvWindowUpdate id inc).1 := by
  refine h.of_ltw (recvWindowUpdate_ev (ρ := true) s id inc) (fun _ _ h => h) ?_
  unfold Streams.recvWindowUpdate
  split
  · refine ⟨[], liveAll0 s, LT.w ?_⟩
    lt_auto
  · cases hfk : s.store.findKey? id with
    | none => exact ⟨[], liveAll0 s, by simp only []; split <;> exact .refl _ _⟩
    | some k =>
      have hk := (h.ids.findKey hfk).1
      refine ⟨[k], liveAll1 hk, ?_⟩
      simp only []
      split
      · exact .refl _ _
      · generalize hr : s.sendRecvStreamWindowUpdate k inc = p
        obtain ⟨s1, res⟩ := p
        have h1 : LT [k] s s1 := of_fst_eq hr (sendRecvStreamWindowUpdate_lt s k inc)
        exact LTw.trans (ks' := [k]) h1.w (resetOnRecvStreamErr_ltw _ _ _) (fun _ h => h)

/-- the closure of `Actions::send_reset` -/
def actionsSendResetClosure (k : Nat) (reason : Reason) (init : Initiator) (s : Streams) : Streams × Except Streams.GoAwayErr Unit :=
    let pre : Streams × Bool :=
      if init.isLibrary then
        if s.counts.canIncNumLocalErrorResets then
          (s.modCountsA "can_inc_num_local_error_resets" Counts.incNumLocalErrorResets, true)
        else (s, false)
      else (s, true)
    match pre with
    | (s, false) => (s, .error { reason := ENHANCE_YOUR_CALM, debugData := "too_many_internal_resets" })
    | (s, true) =>
      let s := s.sendSendReset k reason init
      let s := s.enqueueResetExpiration k
      (s.modStreamW k Stream.notifyRecv, .ok ())

theorem actionsSendReset_eq (s : Streams) (k : Nat) (reason : Reason) (init : Initiator) :
    s.actionsSendReset k reason init = s.transition k (actionsSendResetClosure k reason init) := rfl

theorem actionsSendResetClosure_ev (k : Nat) (reason : Reason) (init : Initiator) (s : Streams) :
    EvB ρ s (actionsSendResetClosure k reason init s).1 := by
  unfold actionsSendResetClosure
  ev_auto

theorem actionsSendResetClosure_ltw (k : Nat) (reason : Reason) (init : Initiator) (s : Streams) :
    LTw [k] s (actionsSendResetClosure k reason init s).1 := by
  unfold actionsSendResetClosure
  generalize hp : (if init.isLibrary = true then _ else (s, true) : Streams × Bool) = pre
  obtain ⟨s0, b⟩ := pre
  have h0 : LTw [k] s s0 := by
    split at hp
    · split at hp
      · next hc =>
        cases hp
        unfold Streams.modCountsA Counts.incNumLocalErrorResets
        rw [if_pos hc]
        exact setCounts_ltw s _
      · cases hp; exact .refl _ _
    · cases hp; exact .refl _ _
  cases b
  · exact h0
  · simp only []
    refine h0.trans (LT.w (ks := [k]) ?_) (fun _ h => h)
    lt_auto

/-- for a user-initiated reset the error-reset counter does not move -/
theorem actionsSendResetClosure_user_lt (k : Nat) (reason : Reason) (s : Streams) :
    LT [k] s (actionsSendResetClosure k reason .user s).1 := by
  unfold actionsSendResetClosure
  have : Initiator.user.isLibrary = false := rfl
  simp only [this, Bool.false_eq_true, if_false]
  lt_auto

theorem actionsSendReset_npi {E : Nat → Prop} {s : Streams} (h : NPI E s) {k : Nat} (hk : Live s k) (reason : Reason)
    (init : Initiator) (he' : ErrOK (s.actionsSendReset k reason init).1) : NPI E (s.actionsSendReset k reason init).1 := by
  rw [actionsSendReset_eq] at he' ⊢
  have e := actionsSendResetClosure_ev (ρ := false) k reason init s
  have he := errOK_of_transition he'
  exact transition_npi k _ (h.lt (actionsSendResetClosure_ltw k reason init s) (liveAll1 hk) e noE) e he

/-- **`StreamRef::send_reset` cannot panic**: `Actions::send_reset` with a user initiator never answers `Err`
    (the `expect`-like `panic!("Initiator::User should not error sending reset")` is dead) -/
theorem refSendReset_npi {E : Nat → Prop} {s : Streams} (h : NPI E s) {k : Nat} (hk : Live s k) (reason : Reason)
    (he : ErrOK s) : NPI E (s.refSendReset k reason) := by
  have hlt := actionsSendResetClosure_user_lt k reason s
  have hes : ErrOK (s.actionsSendReset k reason .user).1 := by
    rw [actionsSendReset_eq]
    rw [Streams.transition_fst]
    exact (transitionAfter_errSame _ _ _).errOK (hlt.err.errOK he)
  have hn := actionsSendReset_npi h hk reason .user hes
  unfold Streams.refSendReset
  have hok : ∃ u, (s.actionsSendReset k reason .user).2 = .ok u := by
    rw [actionsSendReset_eq]
    rw [Streams.transition_snd]; unfold actionsSendResetClosure
    have : Initiator.user.isLibrary = false := rfl
    simp only [this, Bool.false_eq_true, if_false]
    exact ⟨(), trivial⟩
  obtain ⟨u, hu⟩ := hok
  generalize hr : s.actionsSendReset k reason .user = p at hn hu
  obtain ⟨s1, res⟩ := p
  simp only at hu
  subst hu
  exact hn

theorem live_insert_old {s : Streams} (st : Stream) {j : Nat} (h : Live s j) :
    Live { s with store := (s.store.insert st).1 } j := by
  obtain ⟨x, hx⟩ := h; exact ⟨x, insert_get?_old _ _ _ _ hx⟩

theorem stream_insert_old {s : Streams} (st : Stream) {j : Nat} (h : Live s j) :
    ({ s with store := (s.store.insert st).1 } : Streams).stream j = s.stream j := by
  obtain ⟨x, hx⟩ := h
  unfold Streams.stream
  rw [show ({ s with store := (s.store.insert st).1 } : Streams).store.get? j = some x from insert_get?_old _ _ _ _ hx, hx]

theorem idsOK_insert {s : Streams} (h : IdsOK s) (hk : KeysOK s) (st : Stream) :
    IdsOK { s with store := (s.store.insert st).1 } := by
  have hnew : ({ s with store := (s.store.insert st).1 } : Streams).store.get? s.store.nextKey =
      some { st with key := s.store.nextKey } := insert_get?_new hk.fresh st
  have hnl : Live { s with store := (s.store.insert st).1 } s.store.nextKey := ⟨_, hnew⟩
  have hns : ({ s with store := (s.store.insert st).1 } : Streams).stream s.store.nextKey = { st with key := s.store.nextKey } :=
    stream_of_get? hnew
  have hids : ({ s with store := (s.store.insert st).1 } : Streams).store.ids =
      if s.store.ids.any (·.1 == st.id) then s.store.ids.map (fun e => if e.1 == st.id then (st.id, s.store.nextKey) else e)
      else s.store.ids ++ [(st.id, s.store.nextKey)] := rfl
  have hold : ∀ e ∈ s.store.ids, Live { s with store := (s.store.insert st).1 } e.2 ∧
      (({ s with store := (s.store.insert st).1 } : Streams).stream e.2).id = e.1 := by
    intro e he
    have := h.live e he
    exact ⟨live_insert_old st this.1, by rw [stream_insert_old st this.1]; exact this.2⟩
  have hnw : Live { s with store := (s.store.insert st).1 } (st.id, s.store.nextKey).2 ∧
      (({ s with store := (s.store.insert st).1 } : Streams).stream (st.id, s.store.nextKey).2).id = (st.id, s.store.nextKey).1 :=
    ⟨hnl, by show (Streams.stream _ s.store.nextKey).id = st.id; rw [hns]⟩
  by_cases hany : s.store.ids.any (·.1 == st.id) = true
  · rw [if_pos hany] at hids
    refine ⟨?_, ?_⟩
    · rw [hids]
      have : (s.store.ids.map fun e => if e.1 == st.id then (st.id, s.store.nextKey) else e).map (·.1) = s.store.ids.map (·.1) := by
        rw [List.map_map]; apply List.map_congr_left
        intro e _; simp only [Function.comp]; split
        · next he => simp at he; exact he.symm
        · rfl
      rw [this]; exact h.nodup
    · intro e he
      rw [hids] at he
      obtain ⟨e0, he0, rfl⟩ := List.mem_map.mp he
      split
      · exact hnw
      · exact hold e0 he0
  · rw [if_neg hany] at hids
    refine ⟨?_, ?_⟩
    · rw [hids, List.map_append]
      refine List.nodup_append.mpr ⟨h.nodup, by simp, ?_⟩
      intro a ha b hb
      simp only [List.map_cons, List.map_nil, List.mem_singleton] at hb
      subst hb
      intro hab
      obtain ⟨e, he, hea⟩ := List.mem_map.mp ha
      exact hany (List.any_eq_true.mpr ⟨e, he, by simp only [beq_iff_eq]; exact hea.trans hab⟩)
    · intro e he
      rw [hids] at he
      rcases List.mem_append.mp he with he0 | he1
      · exact hold e he0
      · rw [List.mem_singleton] at he1; subst he1
        exact hnw

/-- a freshly inserted entry: the full invariant holds with the new key allowed to be unopened -/
theorem NPI.insert {s : Streams} (h : NPI (fun _ => False) s) (st : Stream) (hf : Fresh st)
    (hav : st.sendFlow.available.val ≤ 2147483647) :
    NPI (fun j => j = s.store.nextKey) { s with store := (s.store.insert st).1 } ∧
    Live { s with store := (s.store.insert st).1 } s.store.nextKey := by
  have hnew : ({ s with store := (s.store.insert st).1 } : Streams).store.get? s.store.nextKey =
      some { st with key := s.store.nextKey } := insert_get?_new h.keys.fresh st
  refine ⟨⟨h.np, ?_, h.keys.insert st, h.nl, ?_, ?_, ?_, idsOK_insert h.ids h.keys st⟩, ⟨_, hnew⟩⟩
  · intro x hx
    have hx' : x ∈ s.store.slab ++ [({ st with key := s.store.nextKey } : Stream)] := hx
    rcases List.mem_append.mp hx' with h1 | h1
    · exact h.av x h1
    · rw [List.mem_singleton] at h1; subst h1; exact hav
  · exact ⟨by rw [cntAll_insert _ _ hf.counted]; exact h.inv1.sum, h.inv1.reset, h.inv1.recvLe, h.inv1.resetLe,
      h.inv1.remoteLe, h.inv1.errLe⟩
  · have hi := h.inv2
    have hi' : Inv2 s.counts.isServer (fun j => j = s.store.nextKey) s :=
      ⟨hi.role, hi.p1, hi.ids, hi.fr, fun herr k x hx hl he => (hi.p3 herr k x hx hl he).elim, hi.dir, hi.next⟩
    exact hi'.insert h.keys st hf (fun _ => rfl)
  · intro q hq
    exact (QF.insert q _ st (hf.fl q)).qok (h.qs q hq)

theorem new_av (id a b : Nat) : (Stream.new id a b).sendFlow.available.val ≤ 2147483647 := by
  unfold Stream.new
  dsimp only
  rw [incWindow_available]
  decide


theorem innerSendReset_npi {s : Streams} (h : NPI (fun _ => False) s) (id : Nat) (reason : Reason)
    (he' : ErrOK (s.innerSendReset id reason).1) : NPI (fun _ => False) (s.innerSendReset id reason).1 := by
  have ew := innerSendReset_ev s id reason
  unfold Streams.innerSendReset at he' ⊢ ew
  cases hfk : s.store.findKey? id with
  | some k =>
    simp only [hfk] at he' ⊢
    exact actionsSendReset_npi h (h.ids.findKey hfk).1 reason .library he'
  | none =>
    simp only [hfk] at he' ⊢ ew
    generalize hs1 : (if s.counts.isLocalInit id = true then s.sendMaybeResetNextStreamId id else s.recvMaybeResetNextStreamId id) = s1 at he' ⊢ ew
    have h1 : NPI (fun _ => False) s1 := by
      rw [← hs1]; split
      · next hloc => exact h.lt (sendMaybeResetNextStreamId_lt s id).w (liveAll0 s) (sendMaybeResetNextStreamId_ev (ρ := true) s id hloc) (fun _ _ h => h)
      · exact h.lt (recvMaybeResetNextStreamId_lt s id).w (liveAll0 s) (recvMaybeResetNextStreamId_ev (ρ := true) s id) (fun _ _ h => h)
    obtain ⟨h2, hl2⟩ := h1.insert (Stream.new id 0 0) (fresh_new id 0 0) (new_av id 0 0)
    have hX := actionsSendReset_npi h2 hl2 reason .library he'
    exact h.ev ew (fun _ _ h => h) hX.np hX.av hX.ids

end H2V.Lemmas.ConnNoPanicP
