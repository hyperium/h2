import H2V.Lemmas.ConnRecvPSend
import H2V.Lemmas.ConnHeadersRule
import H2V.Lemmas.ConnPushRule
import H2V.Lemmas.ConnSendRequestRule
/-
  C03: the entry points of `ConnStreams.lean` (streams.rs) that are `Ext` steps without being steps of the tolerated
  kinds: those that insert an entry (new streams are `Fresh`: the window of `Stream::new` is the current
  `init_window_sz`) and `apply_remote_settings`.
-/
namespace H2V.Lemmas.ConnRecvP
open H2V H2V.Model H2V.Model.Conn
open H2V.Model.Conn.Streams
attribute [local irreducible] wrapSubU32 wrapSubUsize

theorem applyRemoteSettings_ext (s : Streams) (v : List (Nat × Nat)) (b : Bool) : Ext s (s.applyRemoteSettings v b).1 := by
  unfold Streams.applyRemoteSettings; ext_auto

/-- the one update of the functions below that is not a step of the tolerated kinds: a new entry, with the windows of the moment -/
theorem insertNew_ext (s : Streams) (id : Nat) : Ext s (s.insertNew id).1 :=
  insert_ext s _ (Stream.new_infl ..) (Stream.new_recvFlow ..)

theorem recvHeaders_ext (s : Streams) (h : HeadersIn) : Ext s (s.recvHeaders h).1 :=
  Streams.recvHeaders_rel extOK h (fun s => .of_step (recvOpen_step (by decide) s _ _)) (insertNew_ext · h.sid)
    (fun s k => .of_step (recvHeadersBody_step (by decide) s k h)) (fun s k b => transitionAfter_ext s k b) s

theorem recvPushPromise_ext (s : Streams) (id : Nat) (h : HeadersIn) : Ext s (s.recvPushPromise id h).1 :=
  Streams.recvPushPromise_rel extOK (K := kindsExt) (by decide) Ext.of_step insertNew_ext
    (fun s k e => .of_step (resetOnRecvStreamErr_step (by decide) s k _ fun _ _ _ => rfl)) s id h

theorem requestStream_recv (isHead : Bool) (id a b : Nat) :
    (requestStream isHead id a b).inFlightRecvData = 0 ∧ (requestStream isHead id a b).recvFlow = newRecvFlow b := by
  unfold requestStream; split <;> exact ⟨Stream.new_infl id a b, Stream.new_recvFlow id a b⟩

theorem sendRequest_ext (s : Streams) (b : Bool) (f : List Hpack.Field) (e : Bool) (p : Option Nat) :
    Ext s (s.sendRequest b f e p).1 :=
  have opn := Ext.of_step (sendOpenId_step (by decide) s)
  SendRequestRule.run (I := Ext s) (Q := Ext s) (L := fun _ _ _ => True) (L' := fun _ _ _ => True)
    { pre := .refl s
      opn := opn
      done := fun _ h => h
      ins := fun s1 id sP hso hP => by
        -- the entry gets the window of the state `send.open` left; the `assert!` of `Store::insert` keeps it
        have h1 : Ext s sP := by subst hP; exact (of_fst_eq hso opn).trans (rel_ite (fun _ => panic_ext _ _) fun _ => .refl _)
        have hw : s1.recv.initWindowSz = sP.recv.initWindowSz := by subst hP; split <;> simp only [Streams.panic_recv]
        exact ⟨h1.trans (insert_ext sP _ (requestStream_recv ..).1 (hw ▸ (requestStream_recv ..).2)), trivial⟩
      hdr := fun t _ k h _ => ⟨h.trans (.of_step (sendHeaders_step (by decide) t k e f)), trivial⟩
      undo := fun t id k s3 _ h _ heq =>
        (h.trans (of_fst_eq heq (.of_step (sendHeaders_step (by decide) t k e f)))).trans (unlinkRemove_ext s3 id k)
      fin := fun t _ k h _ => h.trans (.of_step (.trans (.setRefs t _) (refInc_step (by decide) _ k))) } p

theorem refSendPushPromise_ext (s : Streams) (p : Nat) (v : Bool) (f : List Hpack.Field) :
    Ext s (s.refSendPushPromise p v f).1 := by
  unfold Streams.refSendPushPromise; ext_auto
  all_goals first
    | rfl
    | (intro x hx; rw [← stream_eq_of_get? hx]; exact .of_upd (.reserved _ (.reserveLocal rfl (by assumption)) rfl))
    | skip

end H2V.Lemmas.ConnRecvP
