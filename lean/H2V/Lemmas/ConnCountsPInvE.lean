import H2V.Lemmas.ConnCountsPInvD
/-
  C05 — invariants, part E: counting by direction.  `cntP P s` = number of slab entries with `P`;
  `DF`: the steps that keep, for every entry, key / stream id / `is_counted` / openedness /
  PUSH_PROMISE frames, and keep `pending_open`, the id map (up to removals) and `num_send_streams`.
-/
namespace H2V.Lemmas.ConnCountsP
open H2V H2V.Model H2V.Model.Conn

/-- what the direction invariants need of an updated entry -/
structure SameD (a b : Stream) : Prop where
  id : b.id = a.id
  counted : b.isCounted = a.isCounted
  early : Early b → Early a
  pp : ∀ f ∈ b.pendingSend, SFrame.isPP f = true → f ∈ a.pendingSend

theorem SameD.refl (a : Stream) : SameD a a := ⟨rfl, rfl, fun h => h, fun _ h _ => h⟩
theorem SameD.trans {a b c : Stream} (h1 : SameD a b) (h2 : SameD b c) : SameD a c :=
  ⟨h2.id.trans h1.id, h2.counted.trans h1.counted, fun h => h1.early (h2.early h), fun f hf hp => h1.pp f (h2.pp f hf hp) hp⟩

structure CD (c c' : Counts) : Prop where
  isServer : c'.isServer = c.isServer
  numSend : c'.numSendStreams = c.numSendStreams
  maxErr : c'.maxLocalErrorResetStreams = c.maxLocalErrorResetStreams
  err : c.numLocalErrorResetStreams ≤ c'.numLocalErrorResetStreams

theorem CD.refl (c : Counts) : CD c c := ⟨rfl, rfl, rfl, Nat.le_refl _⟩
theorem CD.trans {a b c : Counts} (h1 : CD a b) (h2 : CD b c) : CD a c :=
  ⟨h2.isServer.trans h1.isServer, h2.numSend.trans h1.numSend, h2.maxErr.trans h1.maxErr, Nat.le_trans h1.err h2.err⟩

theorem CD.errOK {c c' : Counts} (h : CD c c') (hc : c'.canIncNumLocalErrorResets = true) : c.canIncNumLocalErrorResets = true :=
  canIncErr_back h.maxErr h.err hc

/-- a step that keeps everything the direction invariants look at -/
structure DF (s s' : Streams) : Prop where
  counts : CD s.counts s'.counts
  nextKey : s'.store.nextKey = s.store.nextKey
  ids : ∀ p ∈ s'.store.ids, p ∈ s.store.ids
  openQ : ∀ k ∈ s'.prio.pendingOpen, k ∈ s.prio.pendingOpen
  desc : ∀ k x', s'.store.get? k = some x' → ∃ x, s.store.get? k = some x ∧ SameD x x'
  keys : SameKeys s s'
  cnt : KeysOK s → ∀ sv, cntP (sendCounted sv) s' = cntP (sendCounted sv) s
  next : NextOK s.counts.isServer s.actions.send.nextStreamId s'.actions.send.nextStreamId

theorem NextOK.trans {sv : Bool} {a b c : Option Nat} (h1 : NextOK sv a b) (h2 : NextOK sv b c) : NextOK sv a c := by
  intro z hz
  obtain ⟨y, hy, hyz, hp2⟩ := h2 z hz
  obtain ⟨x, hx, hxy, hp1⟩ := h1 y hy
  refine ⟨x, hx, Nat.le_trans hxy hyz, ?_⟩
  rcases hp2 with e2 | e2
  · rcases hp1 with e1 | e1
    · exact .inl (e2.trans e1)
    · right; rw [e2]; exact e1
  · exact .inr e2

theorem DF.trans {a b c : Streams} (h1 : DF a b) (h2 : DF b c) : DF a c := by
  refine ⟨h1.counts.trans h2.counts, h2.nextKey.trans h1.nextKey, fun p hp => h1.ids p (h2.ids p hp),
    fun k hk => h1.openQ k (h2.openQ k hk), ?_, h1.keys.trans h2.keys, fun h sv => (h2.cnt (h1.keys.keysOK h) sv).trans (h1.cnt h sv),
    h1.next.trans (by rw [← h1.counts.isServer]; exact h2.next)⟩
  intro k x'' hx''
  obtain ⟨x', hx', d'⟩ := h2.desc k x'' hx''
  obtain ⟨x, hx, d⟩ := h1.desc k x' hx'
  exact ⟨x, hx, d.trans d'⟩

theorem DF.of_store_eq {s s' : Streams} (hst : s'.store = s.store) (hc : CD s.counts s'.counts)
    (hq : ∀ k ∈ s'.prio.pendingOpen, k ∈ s.prio.pendingOpen)
    (hn : NextOK s.counts.isServer s.actions.send.nextStreamId s'.actions.send.nextStreamId) : DF s s' :=
  ⟨hc, by rw [hst], fun p hp => by rw [hst] at hp; exact hp, hq,
   fun k x' hx => ⟨x', by rw [← hst]; exact hx, SameD.refl _⟩, SameKeys.of_store_eq hst,
   fun _ sv => cntP_of_store_eq _ hst, hn⟩

theorem modStream_prio2 (s : Streams) (k : Nat) (f : Stream → Stream) : (s.modStream k f).prio = s.prio := s.modStream_prio k f

theorem DF.closed : PrimClosed DF SameD (fun s q l => q ≠ .pendingOpen ∨ ∀ k ∈ l, k ∈ s.prio.pendingOpen) CD where
  refl _ := ⟨CD.refl _, rfl, fun _ h => h, fun _ h => h, fun _ x' h => ⟨x', h, SameD.refl _⟩, SameKeys.refl _, fun _ _ => rfl, NextOK.refl _ _⟩
  trans := DF.trans
  frame {s s'} h := DF.of_store_eq h.store ⟨h.counts.isServer, h.counts.numSend, h.counts.maxErr, by rcases h.counts.err with e | e <;> omega⟩ (by
    have hq : s'.prio.pendingOpen = s.prio.pendingOpen := h.q .pendingOpen
    intro k hk; rw [hq] at hk; exact hk) h.next
  setStream s st' h := by
    refine ⟨CD.refl _, rfl, fun _ hp => hp, fun _ hk => hk, fun k x' hx' => ?_, SameKeys.setStream _ _, ?_, NextOK.refl _ _⟩
    · rcases setStream_get?_cases hx' with ⟨x, hx, rfl, rfl⟩ | hx
      · exact ⟨x, hx, h x hx⟩
      · exact ⟨x', hx, SameD.refl _⟩
    · intro hA sv
      cases hx : s.store.get? st'.key with
      | none => exact cntP_of_store_eq _ (setStream_dangling s st' hx)
      | some x =>
        have e := cntP_setStream (sendCounted sv) hA st' x hx
        have hd := h x hx
        have heq : sendCounted sv st' = sendCounted sv x := by unfold sendCounted; rw [hd.counted, hd.id]
        rw [heq] at e
        omega
  setQ s q l hq :=
    DF.of_store_eq (setQ_store _ _ _) (by rw [setQ_counts]; exact CD.refl _)
      (by
        cases q
        case pendingOpen =>
          rcases hq with hq | hq
          · exact absurd rfl hq
          · exact hq
        all_goals exact fun _ h => h)
      (by cases q <;> exact NextOK.refl _ _)
  setCounts _ _ h := DF.of_store_eq rfl h (fun _ h => h) (NextOK.refl _ _)

/-- the per-entry relation need only be known for the entry found -/
theorem DF.modStreamAt (s : Streams) (k : Nat) (f : Stream → Stream) (hf : ∀ x, (f x).key = x.key)
    (hd : ∀ x, s.store.get? k = some x → SameD x (f x)) : DF s (s.modStream k f) := DF.closed.modStream s k f hf hd

theorem DF.modStream (s : Streams) (k : Nat) (f : Stream → Stream) (hf : ∀ x, (f x).key = x.key)
    (hd : ∀ x, SameD x (f x)) : DF s (s.modStream k f) := DF.modStreamAt s k f hf fun x _ => hd x

theorem setQueued_sameD (x : Stream) (q : QName) (v : Bool) : SameD x (x.setQueued q v) := by
  cases q <;> exact ⟨rfl, rfl, fun h => h, fun _ h _ => h⟩

theorem DF.qPush (s : Streams) (q : QName) (k : Nat) (hq : q ≠ .pendingOpen) : DF s (s.qPush q k).1 :=
  DF.closed.qPush s q k (setQueued_sameD · q true) fun _ => .inl hq

theorem DF.qPushFront (s : Streams) (q : QName) (k : Nat) (hq : q ≠ .pendingOpen) : DF s (s.qPushFront q k).1 :=
  DF.closed.qPushFront s q k (setQueued_sameD · q true) fun _ => .inl hq

theorem DF.qPop (s : Streams) (q : QName) : DF s (s.qPop q).1 :=
  DF.closed.qPop s q (setQueued_sameD · q false) fun id rest hq => by
    by_cases h : q = .pendingOpen
    · subst h
      exact .inr fun k hk => by rw [show s.prio.pendingOpen = id :: rest from hq]; exact List.mem_cons_of_mem _ hk
    · exact .inl h

theorem DF.modCountsA (s : Streams) (w : String) (f : Counts → Option Counts) (h : ∀ c', f s.counts = some c' → CD s.counts c') :
    DF s (s.modCountsA w f) := DF.closed.modCountsA s w f h

end H2V.Lemmas.ConnCountsP
