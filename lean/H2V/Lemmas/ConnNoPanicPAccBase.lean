import H2V.Lemmas.ConnNoPanicPAccShared
import H2V.Lemmas.ConnStepLoops
import H2V.Lemmas.ConnStepWrite
/-
  C08 (no panic) — the server accept path: the frame relation `AL`.

  `Streams::next_incoming` asserts `num_remote_reset_streams > 0` for a popped stream that the peer has
  reset, `Recv::take_request` is `unreachable!` unless the popped stream's `pending_recv` starts with the
  request head.  Both need invariants about the streams queued in `recv.pending_accept`
  (ConnNoPanicPAccInv).  This file: what the functions of the stream layer that do NOT belong to the
  accept path do to the data those invariants look at (`AL ks`; `ks`: the entries whose `pending_recv` a handle call may
  shorten; `AT`: released entries may go).
  Every step of the stream layer of the kinds `kindsAL` is a step of `AL` (`AL.of_step`), of the kinds `kindsAT` one of `AT`
  (`AT.of_step`), each part by the layer's lifting for it, so a function is one by its footprint; the peeling
  tactic `al_auto` (`lt_auto` with `_al` lemmas) takes a callee without a lemma `f_al` from there.
-/
namespace H2V.Lemmas.ConnNoPanicP
open H2V H2V.Model H2V.Model.Conn H2V.Lemmas.ConnCountsP
attribute [local irreducible] wrapSubU32 wrapSubUsize

/-- a dangling key reads a blank stream on both sides -/
def SRel (R : Stream → Stream → Prop) (s s' : Streams) : Prop := ∀ j, R (s.stream j) (s'.stream j)

theorem SRel.of_store {R : Stream → Stream → Prop} (hr : ∀ a, R a a) {s s' : Streams} (h : s'.store = s.store) : SRel R s s' :=
  fun j => by unfold Streams.stream; rw [h]; exact hr _
theorem SRel.setStream {R : Stream → Stream → Prop} (hr : ∀ a, R a a) (s : Streams) (st' : Stream)
    (h : R (s.stream st'.key) st') : SRel R s (s.setStream st') := by
  intro j
  rcases setStream_stream s st' j with e | ⟨e, hj, _⟩
  · rw [e]; exact hr _
  · rw [e, hj]; exact h
theorem SRel.modStream {R : Stream → Stream → Prop} (hr : ∀ a, R a a) (s : Streams) (k : Nat) (f : Stream → Stream)
    (hk : (f (s.stream k)).key = k) (h : R (s.stream k) (f (s.stream k))) : SRel R s (s.modStream k f) := by
  unfold Streams.modStream
  split
  · next st hst =>
    rw [stream_of_get? hst] at hk h
    exact SRel.setStream hr s _ (by rw [hk]; rw [stream_of_get? hst]; exact h)
  · exact .of_store hr (panic_store _ _)

/-- a `Counts` value that may replace `c` -/
structure COK (c c' : Counts) : Prop where
  cnt : c.numRemoteResetStreams ≤ c'.numRemoteResetStreams
  srv : c'.isServer = c.isServer

theorem COK.refl (c : Counts) : COK c c := ⟨Nat.le_refl _, rfl⟩
theorem COK.trans {a b c : Counts} (h1 : COK a b) (h2 : COK b c) : COK a c := ⟨Nat.le_trans h1.1 h2.1, h2.2.trans h1.2⟩

theorem cok_incReset : ∀ c c', Counts.incNumResetStreams c = some c' → COK c c' := by
  intro c c' h; unfold Counts.incNumResetStreams at h; split at h
  · cases h; exact ⟨Nat.le_refl _, rfl⟩
  · cases h
theorem cok_decReset : ∀ c c', Counts.decNumResetStreams c = some c' → COK c c' := by
  intro c c' h; unfold Counts.decNumResetStreams at h; split at h
  · cases h; exact ⟨Nat.le_refl _, rfl⟩
  · cases h
theorem cok_incErr : ∀ c c', Counts.incNumLocalErrorResets c = some c' → COK c c' := by
  intro c c' h; unfold Counts.incNumLocalErrorResets at h; split at h
  · cases h; exact ⟨Nat.le_refl _, rfl⟩
  · cases h
theorem cok_incRemote : ∀ c c', Counts.incNumRemoteResetStreams c = some c' → COK c c' := by
  intro c c' h; unfold Counts.incNumRemoteResetStreams at h; split at h
  · cases h; exact ⟨Nat.le_succ _, rfl⟩
  · cases h
theorem cok_releaseDataFrame (c : Counts) (n : Nat) : COK c (c.releaseDataFrame n) := by
  unfold Counts.releaseDataFrame; dsimp only; split <;> exact ⟨Nat.le_refl _, rfl⟩
theorem cok_recordDataFrame (c : Counts) (n : Nat) : COK c (c.recordDataFrame n).1 := by
  unfold Counts.recordDataFrame
  dsimp only
  split
  · split <;> exact ⟨Nat.le_refl _, rfl⟩
  · split
    · split <;> exact ⟨Nat.le_refl _, rfl⟩
    · exact ⟨Nat.le_refl _, rfl⟩

theorem cok_applyRemoteSettings (c : Counts) (o : Option Nat) (b : Bool) : COK c (c.applyRemoteSettings o b) := by
  unfold Counts.applyRemoteSettings
  split
  · exact ⟨Nat.le_refl _, rfl⟩
  · split <;> exact ⟨Nat.le_refl _, rfl⟩

structure AR (a b : Stream) : Prop where
  key : b.key = a.key
  ref : b.refCount = a.refCount
  acc : b.isPendingAccept = a.isPendingAccept
  rh : a.state.isRecvHeaders = false → b.state.isRecvHeaders = false
  rr : b.state.isRemoteReset = true → a.state.isRemoteReset = true
  pr : b.pendingRecv ≠ [] → a.pendingRecv ≠ [] ∨ b.state.isRecvHeaders = false

def App (a b : Stream) : Prop := ∃ l, b.pendingRecv = a.pendingRecv ++ l

theorem AR.refl (a : Stream) : AR a a := ⟨rfl, rfl, rfl, fun h => h, fun h => h, fun h => .inl h⟩
theorem AR.trans {a b c : Stream} (h1 : AR a b) (h2 : AR b c) : AR a c :=
  ⟨h2.key.trans h1.key, h2.ref.trans h1.ref, h2.acc.trans h1.acc, fun h => h2.rh (h1.rh h), fun h => h1.rr (h2.rr h),
   fun h => by
    rcases h2.pr h with h' | h'
    · rcases h1.pr h' with h'' | h''
      · exact .inl h''
      · exact .inr (h2.rh h'')
    · exact .inr h'⟩
theorem App.refl (a : Stream) : App a a := ⟨[], (List.append_nil _).symm⟩
theorem App.trans {a b c : Stream} (h1 : App a b) (h2 : App b c) : App a c := by
  obtain ⟨l1, e1⟩ := h1
  obtain ⟨l2, e2⟩ := h2
  exact ⟨l1 ++ l2, by rw [e2, e1, List.append_assoc]⟩

/-- the strict form: what every function other than a handle call on the entry does -/
def ARs (a b : Stream) : Prop := AR a b ∧ App a b
theorem ARs.refl (a : Stream) : ARs a a := ⟨.refl _, .refl _⟩
theorem ARs.trans {a b c : Stream} (h1 : ARs a b) (h2 : ARs b c) : ARs a c := ⟨h1.1.trans h2.1, h1.2.trans h2.2⟩

theorem ARs.of_fields {a b : Stream} (h1 : b.key = a.key) (h2 : b.refCount = a.refCount)
    (h3 : b.isPendingAccept = a.isPendingAccept) (h4 : b.state = a.state) (h5 : b.pendingRecv = a.pendingRecv) : ARs a b :=
  ⟨⟨h1, h2, h3, fun h => by rw [h4]; exact h, fun h => by rw [← h4]; exact h, fun h => .inl (by rw [← h5]; exact h)⟩,
   ⟨[], by rw [h5, List.append_nil]⟩⟩

theorem ARs.of_state (a : Stream) (st' : State) (h1 : a.state.isRecvHeaders = false → st'.isRecvHeaders = false)
    (h2 : st'.isRemoteReset = true → a.state.isRemoteReset = true) : ARs a { a with state := st' } :=
  ⟨⟨rfl, rfl, rfl, h1, h2, fun h => .inl h⟩, .refl _⟩

theorem ARs.push (a : Stream) (e : REvent) (h : a.state.isRecvHeaders = false) :
    ARs a { a with pendingRecv := a.pendingRecv ++ [e] } :=
  ⟨⟨rfl, rfl, rfl, fun h => h, fun h => h, fun _ => .inr h⟩, ⟨[e], rfl⟩⟩

theorem AR.shrink (a : Stream) (l : List REvent) (h : l ≠ [] → a.pendingRecv ≠ []) : AR a { a with pendingRecv := l } :=
  ⟨rfl, rfl, rfl, fun h => h, fun h => h, fun hl => .inl (h hl)⟩

theorem sendOpen_acc {x y : State} {eos : Bool} {r : Except UserError Unit} (h : x.sendOpen eos = (y, r)) :
    (x.isRecvHeaders = false → y.isRecvHeaders = false) ∧ (y.isRemoteReset = true → x.isRemoteReset = true) := by
  rcases x with ⟨_ | _ | _ | ⟨_ | _, _ | _⟩ | ⟨_ | _⟩ | ⟨_ | _⟩ | _⟩ <;> cases eos <;> simp [State.sendOpen] at h <;>
    obtain ⟨rfl, _⟩ := h <;> simp [State.isRecvHeaders, State.isRemoteReset]

theorem recvClose_acc {x y : State} {r : Except PErr Unit} (h : x.recvClose = (y, r)) :
    (x.isRecvHeaders = false → y.isRecvHeaders = false) ∧ (y.isRemoteReset = true → x.isRemoteReset = true) := by
  rcases x with ⟨_ | _ | _ | ⟨_ | _, _ | _⟩ | ⟨_ | _⟩ | ⟨_ | _⟩ | _⟩ <;> simp [State.recvClose] at h <;>
    obtain ⟨rfl, _⟩ := h <;> simp [State.isRecvHeaders, State.isRemoteReset]

theorem reserveRemote_acc {x y : State} {r : Except PErr Unit} (h : x.reserveRemote = (y, r)) :
    (x.isRecvHeaders = false → y.isRecvHeaders = false) ∧ (y.isRemoteReset = true → x.isRemoteReset = true) := by
  rcases x with ⟨_ | _ | _ | ⟨_ | _, _ | _⟩ | ⟨_ | _⟩ | ⟨_ | _⟩ | _⟩ <;> simp [State.reserveRemote] at h <;>
    obtain ⟨rfl, _⟩ := h <;> simp [State.isRecvHeaders, State.isRemoteReset]

theorem reserveLocal_acc {x y : State} {r : Except UserError Unit} (h : x.reserveLocal = (y, r)) :
    (x.isRecvHeaders = false → y.isRecvHeaders = false) ∧ (y.isRemoteReset = true → x.isRemoteReset = true) := by
  rcases x with ⟨_ | _ | _ | ⟨_ | _, _ | _⟩ | ⟨_ | _⟩ | ⟨_ | _⟩ | _⟩ <;> simp [State.reserveLocal] at h <;>
    obtain ⟨rfl, _⟩ := h <;> simp [State.isRecvHeaders, State.isRemoteReset]

theorem sendClose_acc {x y : State} (h : x.sendClose = some y) :
    (x.isRecvHeaders = false → y.isRecvHeaders = false) ∧ y.isRemoteReset = false := by
  rcases x with ⟨_ | _ | _ | ⟨_ | _, _ | _⟩ | ⟨_ | _⟩ | ⟨_ | _⟩ | _⟩ <;> simp [State.sendClose] at h <;>
    subst h <;> simp [State.isRecvHeaders, State.isRemoteReset]

theorem recvClose_ok_acc {x y : State} {u : Unit} (h : x.recvClose = (y, .ok u)) :
    y.isRecvHeaders = false ∧ y.isRemoteReset = false := by
  rcases x with ⟨_ | _ | _ | ⟨_ | _, _ | _⟩ | ⟨_ | _⟩ | ⟨_ | _⟩ | _⟩ <;> simp [State.recvClose] at h <;>
    subst h <;> simp [State.isRecvHeaders, State.isRemoteReset]

def NotRR (e : PErr) : Prop := ∀ id r, e ≠ .reset id r .remote

theorem notRR_goAway (d : Bytes) (r : Reason) (i : Initiator) : NotRR (.goAway d r i) := fun _ _ h => by cases h
theorem notRR_io (k : String) (m : Option String) : NotRR (.io k m) := fun _ _ h => by cases h
theorem notRR_reset (id : Nat) (r : Reason) {i : Initiator} (h : i ≠ .remote) : NotRR (.reset id r i) :=
  fun _ _ e => by cases e; exact h rfl

theorem isRemoteReset_error {e : PErr} (h : NotRR e) : State.isRemoteReset { inner := .closed (.error e) } = false := by
  cases e with
  | reset id r i => cases i <;> first | rfl | exact absurd rfl (h id r)
  | goAway d r i => rfl
  | io k m => rfl
theorem isRemoteReset_errorAfter {e : PErr} (h : NotRR e) :
    State.isRemoteReset { inner := .closed (.errorAfterEndStream e) } = false := by
  cases e with
  | reset id r i => cases i <;> first | rfl | exact absurd rfl (h id r)
  | goAway d r i => rfl
  | io k m => rfl

theorem handleError_acc (x : State) {e : PErr} (h : NotRR e) :
    (x.isRecvHeaders = false → (x.handleError e).isRecvHeaders = false) ∧
    ((x.handleError e).isRemoteReset = true → x.isRemoteReset = true) := by
  unfold State.handleError
  dsimp only
  split
  · exact ⟨fun h => h, fun h => h⟩
  · refine ⟨fun _ => rfl, fun h' => ?_⟩
    split at h'
    · rw [isRemoteReset_errorAfter h] at h'; cases h'
    · rw [isRemoteReset_error h] at h'; cases h'

theorem recvEof_acc (x : State) :
    (x.isRecvHeaders = false → x.recvEof.isRecvHeaders = false) ∧ (x.recvEof.isRemoteReset = true → x.isRemoteReset = true) :=
  handleError_acc x (notRR_io _ _)

theorem ars_recvClose {a : Stream} {st' : State} {u : Unit} (h : a.state.recvClose = (st', .ok u)) : ARs a { a with state := st' } :=
  .of_state _ _ (fun _ => (recvClose_ok_acc h).1) (fun h' => by rw [(recvClose_ok_acc h).2] at h'; cases h')

theorem not_recvHeaders_of_streaming {x : State} (h : x.isRecvStreaming = true) : x.isRecvHeaders = false := by
  rcases x with ⟨_ | _ | _ | ⟨_ | _, _ | _⟩ | ⟨_ | _⟩ | ⟨_ | _⟩ | _⟩ <;> simp [State.isRecvStreaming] at h <;> rfl

theorem ARs.of_keep {a b : Stream} (h : Keep a b) : ARs a b := .of_fields h.key h.ref h.acc h.st h.pr

theorem waitSend_ars (x : Stream) (t : String) : ARs x (x.waitSend t) := .of_keep (waitSend_keep x t)
theorem waitOpen_ars (x : Stream) (t : String) : ARs x (x.waitOpen t) := .of_keep (waitOpen_keep x t)

/-- proves `ARs x (… x …)`: a state transition, an appended event, or an update neither relation looks at -/
macro "ars_tac" : tactic => `(tactic| with_reducible first
  | exact ars_recvClose (by assumption)
  | exact ARs.push _ _ (by assumption)
  | exact ARs.of_keep (by keep_tac))

structure AL (ks : List Nat) (s s' : Streams) : Prop where
  keys : SameKeys s s'
  queue : s'.recv.pendingAccept = s.recv.pendingAccept
  str : SRel AR s s'
  app : ∀ j, j ∉ ks → App (s.stream j) (s'.stream j)
  cnt : s.counts.numRemoteResetStreams ≤ s'.counts.numRemoteResetStreams
  srv : s'.counts.isServer = s.counts.isServer

theorem AL.refl (ks : List Nat) (s : Streams) : AL ks s s :=
  ⟨.refl _, rfl, fun _ => .refl _, fun _ _ => .refl _, Nat.le_refl _, rfl⟩
theorem AL.trans {ks ks' : List Nat} {a b c : Streams} (h1 : AL ks a b) (h2 : AL ks' b c) (hs : ∀ k ∈ ks', k ∈ ks) : AL ks a c :=
  ⟨h1.keys.trans h2.keys, h2.queue.trans h1.queue, fun j => (h1.str j).trans (h2.str j),
   fun j hj => (h1.app j hj).trans (h2.app j (fun h => hj (hs j h))), Nat.le_trans h1.cnt h2.cnt, h2.srv.trans h1.srv⟩
theorem AL.mono {ks ks' : List Nat} {s s' : Streams} (h : AL ks s s') (hs : ∀ k ∈ ks, k ∈ ks') : AL ks' s s' :=
  ⟨h.keys, h.queue, h.str, fun j hj => h.app j (fun hk => hj (hs j hk)), h.cnt, h.srv⟩

theorem AL.of_eqs {ks : List Nat} {s s' : Streams} (h1 : s'.store = s.store)
    (h2 : s'.recv.pendingAccept = s.recv.pendingAccept) (h3 : s.counts.numRemoteResetStreams ≤ s'.counts.numRemoteResetStreams)
    (h4 : s'.counts.isServer = s.counts.isServer) : AL ks s s' :=
  ⟨.of_store_eq h1, h2, .of_store AR.refl h1, fun j _ => by unfold Streams.stream; rw [h1]; exact .refl _, h3, h4⟩

theorem AL.live {ks : List Nat} {s s' : Streams} (h : AL ks s s') {k : Nat} : Live s' k ↔ Live s k := h.keys.live

theorem wake_al (s : Streams) (t : List String) : AL ks s (s.wake t) := .of_eqs rfl rfl (Nat.le_refl _) rfl
theorem notifyTask_al (s : Streams) : AL ks s s.notifyTask := by
  unfold Streams.notifyTask; split
  · exact .of_eqs rfl rfl (Nat.le_refl _) rfl
  · exact .refl _ _
theorem unsup_al (s : Streams) (m : String) : AL ks s (s.unsup m) := by
  unfold Streams.unsup; split
  · exact .refl _ _
  · exact .of_eqs rfl rfl (Nat.le_refl _) rfl
theorem panic_al (s : Streams) (m : String) : AL ks s (s.panic m) :=
  .of_eqs (Streams.panic_store s m) (by rw [Streams.panic_recv]) (by rw [Streams.panic_counts]; exact Nat.le_refl _)
    (by rw [Streams.panic_counts])
theorem setMisc_al (s : Streams) (a : Actions) (refs leaked : Nat) (wk : List String) (un : Option String)
    (ha : a.recv.pendingAccept = s.actions.recv.pendingAccept) :
    AL ks s { s with actions := a, refs := refs, recvBufferLeaked := leaked, wakes := wk, unsupported := un } :=
  .of_eqs rfl ha (Nat.le_refl _) rfl

theorem setCounts_al (s : Streams) (c : Counts) (h : COK s.counts c) : AL ks s { s with counts := c } := .of_eqs rfl rfl h.1 h.2

theorem modCountsA_al (s : Streams) (w : String) (f : Counts → Option Counts) (h : ∀ c c', f c = some c' → COK c c') :
    AL ks s (s.modCountsA w f) := by
  unfold Streams.modCountsA; split
  · next c hc => exact setCounts_al s c (h _ _ hc)
  · exact panic_al _ _

theorem modStream_al (s : Streams) (k : Nat) (f : Stream → Stream) (h : ARs (s.stream k) (f (s.stream k))) :
    AL ks s (s.modStream k f) := by
  have hk : (f (s.stream k)).key = k := h.1.key.trans (stream_key s k)
  refine ⟨SameKeys.modStream _ _ _, ?_, SRel.modStream AR.refl s k f hk h.1, fun j _ => SRel.modStream App.refl s k f hk h.2 j, ?_, ?_⟩
  · show Streams.getQ _ .pendingAccept = Streams.getQ _ .pendingAccept
    rw [getQ_modStream]
  · rw [Streams.modStream_counts]; exact Nat.le_refl _
  · rw [Streams.modStream_counts]

/-- a handle call on entry `k` that pops / clears its `pending_recv` -/
theorem modStream_alp (s : Streams) (k : Nat) (f : Stream → Stream) (h : AR (s.stream k) (f (s.stream k))) :
    AL [k] s (s.modStream k f) := by
  have hk : (f (s.stream k)).key = k := h.key.trans (stream_key s k)
  refine ⟨SameKeys.modStream _ _ _, ?_, SRel.modStream AR.refl s k f hk h, ?_, ?_, ?_⟩
  · show Streams.getQ _ .pendingAccept = Streams.getQ _ .pendingAccept
    rw [getQ_modStream]
  · intro j hj
    have hjk : j ≠ k := fun e => hj (by rw [e]; exact List.mem_cons_self ..)
    unfold Streams.modStream
    split
    · next st hst =>
      rcases setStream_stream s (f st) j with e | ⟨_, hj', _⟩
      · rw [e]; exact .refl _
      · rw [stream_of_get? hst] at hk; rw [hk] at hj'; exact absurd hj' hjk
    · unfold Streams.stream; rw [panic_store]; exact .refl _
  · rw [Streams.modStream_counts]; exact Nat.le_refl _
  · rw [Streams.modStream_counts]

theorem wake_store' (s : Streams) (t : List String) : (s.wake t).store = s.store := rfl

theorem modStreamW_al (s : Streams) (k : Nat) (f : Stream → Stream × List String) (h : ARs (s.stream k) (f (s.stream k)).1) :
    AL ks s (s.modStreamW k f) := by
  have h1 := modStream_al (ks := ks) s k (fun x => (f x).1) h
  unfold Streams.modStream at h1
  unfold Streams.modStreamW
  split
  · next st hst => rw [hst] at h1; exact h1.trans (wake_al (ks := ks) _ _) (fun _ h => h)
  · exact panic_al _ _

syntax "al_side" : tactic
macro_rules | `(tactic| al_side) => `(tactic| ars_tac)
macro_rules | `(tactic| al_side) => `(tactic| exact COK.mk (Nat.le_refl _) rfl)
macro_rules | `(tactic| al_side) => `(tactic| (first | exact cok_incReset | exact cok_decReset | exact cok_incErr | exact cok_incRemote | exact cok_releaseDataFrame _ _ | exact cok_recordDataFrame _ _))
macro_rules | `(tactic| al_side) => `(tactic| decide)
macro_rules | `(tactic| al_side) => `(tactic| exact List.all_eq_true.1 rfl)
macro_rules | `(tactic| al_side) => `(tactic| with_reducible assumption)
macro_rules | `(tactic| al_side) => `(tactic| lt_sub)

/-- `AL` with released entries going (`transition_after`, the write path); `App` is asked of the queued entries only -/
structure AT (s s' : Streams) : Prop where
  qf : QF .pendingAccept s s'
  sub : ∀ j, Live s' j → Live s j ∧ AR (s.stream j) (s'.stream j) ∧ (j ∈ s.recv.pendingAccept → App (s.stream j) (s'.stream j))
  cok : COK s.counts s'.counts

theorem AT.refl (s : Streams) : AT s s := ⟨.refl _ _, fun _ h => ⟨h, .refl _, fun _ => .refl _⟩, .refl _⟩
theorem AT.trans {a b c : Streams} (h1 : AT a b) (h2 : AT b c) : AT a c :=
  ⟨h1.qf.trans h2.qf, fun j hl =>
    let ⟨hb, r2, p2⟩ := h2.sub j hl
    let ⟨ha, r1, p1⟩ := h1.sub j hb
    ⟨ha, r1.trans r2, fun hq => (p1 hq).trans (p2 (by
      show j ∈ b.getQ .pendingAccept
      rw [h1.qf.queue]; exact hq))⟩, h1.cok.trans h2.cok⟩

theorem flagged_iff {q : QName} {s : Streams} {k : Nat} : Flagged q s k ↔ Live s k ∧ (s.stream k).isQueued q = true := by
  constructor
  · rintro ⟨x, hx, hf⟩; exact ⟨⟨x, hx⟩, by rw [stream_of_get? hx]; exact hf⟩
  · rintro ⟨⟨x, hx⟩, hf⟩; exact ⟨x, hx, by rw [stream_of_get? hx] at hf; exact hf⟩

theorem AL.at {ks : List Nat} {s s' : Streams} (h : AL ks s s') (hks : ∀ k ∈ ks, k ∉ s.recv.pendingAccept) : AT s s' := by
  refine ⟨⟨h.queue, fun k => ?_⟩, fun j hl => ⟨h.live.mp hl, h.str j, fun hq => h.app j fun hk => hks j hk hq⟩, ⟨h.cnt, h.srv⟩⟩
  rw [flagged_iff, flagged_iff, h.live]
  show _ ∧ (s'.stream k).isPendingAccept = true ↔ _ ∧ (s.stream k).isPendingAccept = true
  rw [(h.str k).acc]

theorem remove_at (s : Streams) (k n : Nat) (h : (s.stream k).isPendingAccept = false) :
    AT s { s with store := s.store.remove k, recvBufferLeaked := n } := by
  refine ⟨QF.remove _ s k n fun st hst => ?_, fun j hl => ?_, .refl _⟩
  · rw [stream_of_get? hst] at h; exact h
  · have hjk : j ≠ k := fun e => by
      subst e; obtain ⟨x, hx⟩ := hl
      have : (s.store.remove j).get? j = some x := hx
      rw [Store.get?_remove, if_pos rfl] at this; cases this
    have hg : ({ s with store := s.store.remove k, recvBufferLeaked := n } : Streams).store.get? j = s.store.get? j :=
      remove_get?_ne _ _ _ hjk
    refine ⟨by unfold Live at hl ⊢; rw [hg] at hl; exact hl, ?_⟩
    rw [Streams.stream_congr hg]; exact ⟨.refl _, fun _ => .refl _⟩

/-- the kinds of update `AL` tolerates.  Not: an entry that appears or goes (`SameKeys`), `pending_accept` or
    `is_pending_accept` written, `ref_count` changed, `num_remote_reset_streams` lowered, a state that records a reset
    by the peer (`rr`), `recv_open` (its callers append the head), and `pending_recv` itself: taking from it is a handle
    call on the entry (`AL [k]`), appending to it is allowed only past `is_recv_headers`, which is the caller's to know -/
def kindsAL : Kind → Bool
  | .insert | .release | .enqueue .pendingAccept | .dequeue .pendingAccept | .counterDown .remoteReset
  | .state .recvOpen | .state .recvReset | .remoteReset | .refInc | .refDec | .appendRecv | .takeRecv | .promise => false
  | _ => true

/-- … and those `AT` tolerates: a released entry may go -/
def kindsAT : Kind → Bool
  | .release => true
  | k => kindsAL k

theorem kindsAL_le (k : Kind) (h : kindsAL k = true) : kindsAT k = true := by
  cases k <;> first | exact h | cases h

section
variable {K : Kind → Bool} (hK : ∀ k, K k = true → kindsAT k = true)
include hK

theorem _root_.H2V.Model.Conn.State.Step.acc {id : Nat} {a b : State} (h : State.Step K id a b) :
    (a.isRecvHeaders = false → b.isRecvHeaders = false) ∧ (b.isRemoteReset = true → a.isRemoteReset = true) := by
  cases h with
  | sendOpen _ _ h => exact sendOpen_acc h
  | sendClose _ h => exact ⟨(sendClose_acc h).1, fun h' => by rw [(sendClose_acc h).2] at h'; cases h'⟩
  | recvOpen _ _ hk | recvReset _ _ hk => cases hK _ hk
  | recvClose _ h => exact recvClose_acc h
  | reserveRemote _ h => exact reserveRemote_acc h
  | reserveLocal _ h => exact reserveLocal_acc h
  -- the footprint says that the error is not a reset by the peer
  | handleError e _ he => exact handleError_acc _ fun i r h => by cases hK _ (he ⟨i, r, h⟩)
  | recvEof => exact recvEof_acc _
  | setScheduledReset => exact ⟨fun _ => rfl, fun h => by cases h⟩
  | setReset r i _ hi =>
    refine ⟨fun _ => rfl, fun h => ?_⟩
    have : State.isRemoteReset { inner := .closed (.error (.reset id r i)) } = false :=
      isRemoteReset_error (notRR_reset _ _ fun e => by cases hK _ (hi e))
    unfold State.setReset at h; rw [this] at h; cases h
  | setResetScheduled r =>
    refine ⟨fun _ => rfl, fun h => ?_⟩
    have : State.isRemoteReset { inner := .closed (.error (.reset id r .library)) } = false :=
      isRemoteReset_error (notRR_reset _ _ fun e => by cases e)
    unfold State.setReset at h; rw [this] at h; cases h

theorem ARs.of_updW {x : Stream} {p : Stream × List String} (h : Stream.UpdW K x p) : ARs x p.1 := by
  cases h with
  | setReset r i hs => exact ARs.trans (.of_state _ _ (hs.acc hK).1 (hs.acc hK).2) (.of_keep (setReset_keep x r i))
  | _ => exact .of_keep (by keep_tac)

theorem ARs.of_upd {x y : Stream} (h : Stream.Upd K x y) : ARs x y := by
  cases h with
  | state _ hs => exact .of_state _ _ (hs.acc hK).1 (hs.acc hK).2
  | reserved _ hs => exact ARs.trans (.of_state _ _ (hs.acc hK).1 (hs.acc hK).2) (.of_keep ⟨rfl, rfl, rfl, rfl, rfl⟩)
  | refInc hk | refDec hk | pushRecv _ hk | popRecv _ _ hk | clearRecv hk | accept _ hk | popPromise _ _ hk | pushPromise _ hk =>
    cases hK _ hk
  | waitSend | waitOpen | sendData | decContentLength => exact .of_keep (by keep_tac)
  -- the other updates write fields the frame does not read
  | _ => exact .of_keep ⟨rfl, rfl, rfl, rfl, rfl⟩

theorem COK.of_upd {c c' : Counts} (h : Counts.Upd K c c') : COK c c' := by
  induction h with
  | refl => exact .refl _
  | trans _ _ ih1 ih2 => exact ih1.trans ih2
  | incNumResetStreams _ h => exact cok_incReset _ _ h
  | decNumResetStreams _ h => exact cok_decReset _ _ h
  | incNumRemoteResetStreams _ h => exact cok_incRemote _ _ h
  | decNumRemoteResetStreams hk => cases hK _ hk
  | incNumLocalErrorResets _ h => exact cok_incErr _ _ h
  | applyRemoteSettings => exact cok_applyRemoteSettings _ _ _
  | recordDataFrame => exact cok_recordDataFrame _ _
  | releaseDataFrame => exact cok_releaseDataFrame _ _

omit hK in
theorem _root_.H2V.Model.Conn.Recv.Upd.pendingAccept {p q : Recv} (h : Recv.Upd K p q) :
    q.pendingAccept = p.pendingAccept := by
  cases h <;> rfl

theorem ARs.queued (x : Stream) (q : QName) (v : Bool) (h1 : v = true → K (.enqueue q)) (h2 : v = false → K (.dequeue q)) :
    ARs x (x.setQueued q v) :=
  .of_keep (setQueued_keep x q v fun e => by
    subst e; cases v
    · cases hK _ (h2 rfl)
    · cases hK _ (h1 rfl))

theorem ARs.of_upds {x y : Stream} (h : Stream.Upds K x y) : ARs x y :=
  h.lift ARs.refl ARs.trans (fun _ _ u => .of_upd hK u) (fun _ _ u => .of_updW hK u) (ARs.queued hK)
    fun _ _ _ => .of_keep ⟨rfl, rfl, rfl, rfl, rfl⟩

omit hK in
theorem _root_.H2V.Lemmas.ConnCountsP.SameKeys.of_step (hi : K .insert = false) (hr : K .release = false) {s s' : Streams}
    (h : Streams.Step K s s') : SameKeys s s' := ⟨(h.keys hi hr).1, (h.keys hi hr).2⟩

end

theorem pendingAccept_of_step {K : Kind → Bool} (h1 : K (.enqueue .pendingAccept) = false) (h2 : K (.dequeue .pendingAccept) = false)
    {s s' : Streams} (h : Streams.Step K s s') : s'.recv.pendingAccept = s.recv.pendingAccept :=
  h.recv_rel (r := fun p q => q.pendingAccept = p.pendingAccept) (fun _ => rfl) (fun a b => b.trans a) (fun _ _ u => u.pendingAccept)
    fun t q l hk => getQ_setQ_ne t q .pendingAccept l fun e => by
      subst e; rcases hk with hk | hk
      · rw [h1] at hk; cases hk
      · rw [h2] at hk; cases hk

/-- **every step of the stream layer of the kinds `kindsAL` is a step of `AL`**, part by part: the slab keys, `Recv`, the
    entries (`Streams.Step.stream_rel`), the counters -/
theorem AL.of_step {ks : List Nat} {s s' : Streams} (h : Streams.Step kindsAL s s') : AL ks s s' :=
  have a := fun j => h.stream_rel ARs.refl ARs.trans (fun _ _ u => .of_upd kindsAL_le u) (fun _ _ u => .of_updW kindsAL_le u)
    (ARs.queued kindsAL_le) (fun _ _ _ => .of_keep ⟨rfl, rfl, rfl, rfl, rfl⟩) (fun hr => by cases hr) rfl j
  have c := h.counts_rel COK.refl COK.trans (fun _ _ u => COK.of_upd kindsAL_le u) fun _ _ _ => ⟨Nat.le_refl _, rfl⟩
  ⟨.of_step rfl rfl h, pendingAccept_of_step rfl rfl h, fun j => (a j).1, fun j _ => (a j).2, c.cnt, c.srv⟩

theorem decNumStreams_al (s : Streams) (k : Nat) : AL ks s (s.decNumStreams k) := .of_step (.decNumStreams s k)

/-- … and of the kinds `kindsAT` one of `AT`: the entries that are still there were there, updated (`Streams.Step.lift`) -/
theorem AT.of_step {s s' : Streams} (h : Streams.Step kindsAT s s') : AT s s' := by
  refine ⟨.of_step (h.mono fun k hk => by cases k <;> first | rfl | cases hk | (rename_i q; cases q <;> first | rfl | cases hk)),
    fun j ⟨y', hy'⟩ => ?_,
    h.counts_rel COK.refl COK.trans (fun _ _ u => COK.of_upd (fun _ h => h) u) fun _ _ _ => ⟨Nat.le_refl _, rfl⟩⟩
  obtain ⟨x, hx, hu⟩ := h.lift.back rfl hy'
  have a := ARs.of_upds (fun _ h => h) hu
  rw [stream_of_get? hx, stream_of_get? hy']
  exact ⟨⟨x, hx⟩, a.1, fun _ => a.2⟩

/-- a callee without a lemma `f_al` is taken from the step layer: `f_step`, whose footprint lies inside `kindsAL` -/
syntax "al_step" : tactic
macro_rules | `(tactic| al_step) => `(tactic| open H2V.Model.Conn.Streams in rel_head AL "_al" via AL.of_step "_step" => (first
  | with_reducible refine AL.trans (ks' := []) ?_ (setMisc_al _ _ _ _ _ _ rfl) (fun _ h => absurd h List.not_mem_nil)
  | with_reducible refine AL.trans (ks' := []) ?_ (setCounts_al _ _ ?_) (fun _ h => absurd h List.not_mem_nil)))
macro_rules | `(tactic| al_step) => `(tactic| with_reducible refine of_fst_eq (P := AL _ _) (by with_reducible assumption) ?_)
macro_rules | `(tactic| al_step) => `(tactic| with_reducible assumption)
macro_rules | `(tactic| al_step) => `(tactic| with_reducible exact AL.refl _ _)

macro "al_auto" : tactic => `(tactic| repeat (first | al_step | al_side | intro _ | split | dsimp only))
macro "al_auto_ih" ih:ident : tactic =>
  `(tactic| repeat (first | al_step | with_reducible refine AL.trans ?_ ($ih ..) ?_ | al_side | intro _ | split | dsimp only))

/-- a function without `_at` lemma is taken from the step layer -/
macro "at_head" : tactic => `(tactic| open H2V.Model.Conn.Streams in rel_head AT "_at" via AT.of_step "_step" => (first
  | with_reducible refine AT.trans ?_ ((setMisc_al (ks := []) _ _ _ _ _ _ rfl).at fun _ h => absurd h List.not_mem_nil)
  | with_reducible refine AT.trans ?_ ((setCounts_al (ks := []) _ _ ?_).at fun _ h => absurd h List.not_mem_nil)))

syntax "at_step" : tactic
macro_rules | `(tactic| at_step) => `(tactic| at_head)
macro_rules | `(tactic| at_step) => `(tactic| with_reducible assumption)
macro_rules | `(tactic| at_step) => `(tactic| with_reducible exact AT.refl _)

macro "at_auto" : tactic => `(tactic| repeat (first | at_step | al_side | intro _ | split | dsimp only))
macro "at_auto_ih" ih:ident : tactic =>
  `(tactic| repeat (first | at_step | with_reducible refine AT.trans ?_ ($ih ..) | al_side | intro _ | split | dsimp only))

end H2V.Lemmas.ConnNoPanicP
