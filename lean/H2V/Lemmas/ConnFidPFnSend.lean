import H2V.Lemmas.ConnFidPLbl
/-
  ConnFidP — the functions of ConnSend.lean (prioritize.rs, send.rs) that can make a labelled step, as sequences of
  elementary steps.  Hypotheses name the labelled steps a function can make: `P.ok (.push k f)` where a
  frame is queued, `P.cut k` + `ClosedAt` where a queue is cleared, `P.write` on the write path.
  A function that makes none is a path by `Tr.of_step`; it has a lemma here (that one line) where a walk calls it, for
  `grind` to find.
  (Text after ConnWakePStepSend.lean: same proof engineering, other relation.)
  The calls that queue ONE frame (`send_data`, `send_headers`, `send_trailers`, …) are walked once, for the sharper
  statement `AccR` ("`Ok` ⇒ exactly that frame was queued, once; `Err` ⇒ none"); that they are paths follows (`AccR.tr`).
-/
set_option linter.unusedSectionVars false
namespace H2V.Lemmas.ConnFidP
open H2V H2V.Model H2V.Model.Conn H2V.Lemmas.ConnWakeP

section
variable {P : Perm} {s0 s : Streams} (hg : P.gone)
include hg

@[grind ←] theorem transitionAfter_acc (k : Nat) (b : Bool) (h : Tr P s0 s) : Tr P s0 (s.transitionAfter k b) :=
  h.step hg (Streams.transitionAfter_step (by decide) s k b)

@[grind ←] theorem scheduleSend_acc (k : Nat) (h : Tr P s0 s) : Tr P s0 (s.scheduleSend k) :=
  h.step hg (Streams.scheduleSend_step (by decide) s k)
@[grind ←] theorem queueFrame_acc (k : Nat) (f : SFrame) (hA : P.ok (.push k f)) (h : Tr P s0 s) :
    Tr P s0 (s.queueFrame k f) := by
  unfold Streams.queueFrame; fid_fold; fid_grind
@[grind ←] theorem queueOpen_acc (k : Nat) (h : Tr P s0 s) : Tr P s0 (s.queueOpen k) :=
  h.step hg (Streams.queueOpen_step (by decide) s k)
@[grind ←] theorem tryAssignCapacity_acc (k : Nat) (h : Tr P s0 s) : Tr P s0 (s.tryAssignCapacity k) :=
  h.step hg (Streams.tryAssignCapacity_step (by decide) s k)
@[grind ←] theorem assignConnectionCapacity_acc (inc : Nat) (h : Tr P s0 s) : Tr P s0 (s.assignConnectionCapacity inc) :=
  h.step hg (Streams.assignConnectionCapacity_step (by decide) s inc)
@[grind ←] theorem reserveCapacity_acc (k c : Nat) (h : Tr P s0 s) : Tr P s0 (s.reserveCapacity k c) :=
  h.step hg (Streams.reserveCapacity_step (by decide) s k c)

@[grind ←] theorem prioRecvStreamWindowUpdate_acc (k inc : Nat) (h : Tr P s0 s) :
    Tr P s0 (s.prioRecvStreamWindowUpdate k inc).1 :=
  h.step hg (Streams.prioRecvStreamWindowUpdate_step (by decide) s k inc)
@[grind ←] theorem recvConnectionWindowUpdate_acc (inc : Nat) (h : Tr P s0 s) :
    Tr P s0 (s.recvConnectionWindowUpdate inc).1 :=
  h.step hg (Streams.recvConnectionWindowUpdate_step (by decide) s inc)
@[grind ←] theorem reclaimAllCapacity_acc (k : Nat) (h : Tr P s0 s) : Tr P s0 (s.reclaimAllCapacity k) :=
  h.step hg (Streams.reclaimAllCapacity_step (by decide) s k)
/-- `self.in_flight_data_frame = m` -/
theorem mark_acc (m : InFlightData) (hw : P.write) (h : Tr P s0 s) : Tr P s0 (s.modPrio (markF m)) := by
  refine h.lbl (.mark m) ⟨Nat.le_refl _, fun _ a ha => Or.inl ⟨a, ha, ES.mark_any m a⟩, ?_, rfl, (by intro _ _ e hk; cases e; simp [Lbl.key?] at hk), (by intro _ e; cases e)⟩ hw
  intro k b hn hs
  have : s.store.get? k = some b := hs
  rw [hn] at this; cases this
grind_pattern mark_acc => Tr P s0 (s.modPrio (markF m))

@[grind ←] theorem reclaimFrameInner_acc (f : DataFrame) (hw : P.write) (h : Tr P s0 s) : Tr P s0 (s.reclaimFrameInner f).1 := by
  unfold Streams.reclaimFrameInner; fid_fold; simp only [markF_fold]; fid_grind
@[grind ←] theorem reclaimFrame_acc (w : Writer) (hw : P.write) (h : Tr P s0 s) : Tr P s0 (s.reclaimFrame w).1 := by
  unfold Streams.reclaimFrame; fid_grind
@[grind ←] theorem bufferOut_acc (w : Writer) (f : Streams.OutFrame) (hw : P.write) (h : Tr P s0 s) : Tr P s0 (s.bufferOut w f).1 := by
  unfold Streams.bufferOut; simp only [markF_fold]; fid_grind

omit hg in
@[grind =] theorem stream_key (s : Streams) (k : Nat) : (s.stream k).key = k := Streams.stream_key s k

@[grind ←] theorem pfFinish_acc (k : Nat) (b : Bool) (f : Streams.OutFrame) (h : Tr P s0 s) :
    Tr P s0 (pfFinish k b s f).1 :=
  h.step hg (Streams.pfFinish_step (by decide) k b s f)

omit hg in
/-- the part of the DATA arm of `pop_frame` after the frame was taken off the queue: windows charged -/
def pfDataTail (sd : Stream → Nat → Nat → Stream × List String × Bool) (s : Streams) (id len : Nat) : Streams :=
  let (st', w, bad) := sd (s.stream id) len s.prio.maxBufferSize
  let s := (s.setStream st').wake w
  let s := if bad then s.panic "assertion failed: self.window_size.0 >= sz as i32 (stream)" else s
  let s := s.modPrio fun p => { p with flow := (p.flow.assignCapacity len).1 }
  let (fl, r) := s.prio.flow.sendData len
  let s := s.modPrio fun p => { p with flow := fl }
  match r with
  | .error .assertFailed => s.panic "assertion failed: self.window_size.0 >= sz as i32 (connection)"
  | _ => s

omit hg in
theorem pfData_eq (sd : Stream → Nat → Nat → Stream × List String × Bool) (s : Streams) (id len : Nat) (rest : List SFrame) :
    pfData sd s id len rest = pfDataTail sd (s.modStream id (setSendF rest)) id len := by
  unfold pfData pfDataTail; rfl

omit hg in
theorem pfDataTail_acc (sd : Stream → Nat → Nat → Stream × List String × Bool)
    (hsd : ∀ a len m, ∃ b w f, sd a len m = (b, w, f) ∧ Quiet a b) (k len : Nat)
    (h : Tr P s0 s) : Tr P s0 (pfDataTail sd s k len) := by
  unfold pfDataTail
  obtain ⟨b, w, f, hb, hs⟩ := hsd (s.stream k) len s.prio.maxBufferSize
  simp only [hb]
  clear hsd hb
  fid_grind

omit hg in
@[grind →] theorem closedAt_of_scheduled {s : Streams} {k : Nat} {r : Reason}
    (h : (s.stream k).state.getScheduledReset = some r) : ClosedAt s k := by
  intro a ha
  rw [Streams.stream_of_get? ha] at h
  unfold State.getScheduledReset at h
  unfold State.isClosed
  split at h <;> simp_all

end

/-- silent steps and removals of released entries only -/
def permG : Perm := { gone := True }

theorem permG_le {P : Perm} (hg : P.gone) : ∀ l, permG.ok l → P.ok l := by
  intro l h
  cases l <;> simp only [Perm.ok, permG] at h <;> first | exact hg | exact absurd h id | (rcases h with h | ⟨_, h⟩ <;> exact absurd h id)

/-- `s'` is reached from `s` by silent steps and removals, with exactly ONE frame queued in between: `f` at the back of
    the queue of entry `k` -/
def Once (k : Nat) (f : SFrame) (s s' : Streams) : Prop :=
  ∃ s1, Tr permG s s1 ∧ Tr permG (s1.modStream k (pushF f)) s'

/-- the result of a call that accepts the frame `f` on entry `k`: `Ok` ⇒ exactly one frame was queued (`f`, at the
    back of `k`), `Err` ⇒ none -/
def AccR {ε α : Type} (k : Nat) (f : SFrame) (s0 : Streams) (p : Streams × Except ε α) : Prop :=
  match p.2 with
  | .ok _ => Once k f s0 p.1
  | .error _ => Tr permG s0 p.1

section
variable {ε α : Type} {k : Nat} {f : SFrame} {s0 s : Streams}

theorem AccR.tr {P : Perm} {p : Streams × Except ε α} (h : AccR k f s0 p) (hg : P.gone) (hA : P.ok (.push k f)) :
    Tr P s0 p.1 := by
  unfold AccR at h
  split at h
  · obtain ⟨s1, h1, h2⟩ := h
    exact (push_acc k f hA (h1.mono (permG_le hg))).trans (h2.mono (permG_le hg))
  · exact h.mono (permG_le hg)

@[grind ←] theorem accR_err (e : ε) (h : Tr permG s0 s) : AccR (α := α) k f s0 (s, .error e) := h
@[grind ←] theorem accR_push (a : α) (h : Tr permG s0 s) : AccR (ε := ε) k f s0 (s.modStream k (pushF f), .ok a) :=
  ⟨s, h, Tr.refl _ _⟩
theorem accR_step (g : Streams → Streams) (hg : ∀ {t0 t : Streams}, Tr permG t0 t → Tr permG t0 (g t)) (a : α)
    (h : AccR (ε := ε) k f s0 (s, .ok a)) : AccR (ε := ε) k f s0 (g s, .ok a) := by
  obtain ⟨s1, h1, h2⟩ := h; exact ⟨s1, h1, hg h2⟩
@[grind ←] theorem accR_scheduleSend (j : Nat) (a : α) (h : AccR (ε := ε) k f s0 (s, .ok a)) :
    AccR (ε := ε) k f s0 (s.scheduleSend j, .ok a) := accR_step _ (fun t => scheduleSend_acc (P := permG) trivial j t) a h
@[grind ←] theorem accR_queueFrame (a : α) (h : Tr permG s0 s) : AccR (ε := ε) k f s0 (s.queueFrame k f, .ok a) := by
  unfold Streams.queueFrame; simp only [pushF_fold]
  exact accR_scheduleSend k a (accR_push a h)
@[grind ←] theorem accR_reserveCapacity (j c : Nat) (a : α) (h : AccR (ε := ε) k f s0 (s, .ok a)) :
    AccR (ε := ε) k f s0 (s.reserveCapacity j c, .ok a) := accR_step _ (fun t => reserveCapacity_acc (P := permG) trivial j c t) a h
@[grind ←] theorem accR_notifyTask (a : α) (h : AccR (ε := ε) k f s0 (s, .ok a)) :
    AccR (ε := ε) k f s0 (s.notifyTask, .ok a) := accR_step _ (fun t => notifyTask_acc t) a h
end

theorem prioSendData_accR (s0 s : Streams) (k len : Nat) (eos : Bool) (h : Tr permG s0 s) :
    AccR k (.data len eos) s0 (s.prioSendData k len eos) := by
  have hg : permG.gone := trivial
  unfold Streams.prioSendData
  fid_fold
  fid_grind

theorem sendHeaders_accR (s0 s : Streams) (k : Nat) (eos : Bool) (f : List Hpack.Field) (h : Tr permG s0 s) :
    AccR k (.headers eos f) s0 (s.sendHeaders k eos f) := by
  have hg : permG.gone := trivial
  unfold Streams.sendHeaders
  fid_grind

theorem sendTrailers_accR (s0 s : Streams) (k : Nat) (f : List Hpack.Field) (h : Tr permG s0 s) :
    AccR k (.headers true f) s0 (s.sendTrailers k f) := by
  have hg : permG.gone := trivial
  unfold Streams.sendTrailers
  fid_grind

theorem sendInterim_accR (s0 s : Streams) (k : Nat) (f : List Hpack.Field) (h : Tr permG s0 s) :
    AccR k (.headers false f) s0 (s.sendInterimInformationalHeaders k f) := by
  have hg : permG.gone := trivial
  unfold Streams.sendInterimInformationalHeaders
  fid_grind

theorem sendPushPromise_accR (s0 s : Streams) (p pk pid : Nat) (f : List Hpack.Field) (h : Tr permG s0 s) :
    AccR p (.pushPromise pk pid f) s0 (s.sendPushPromise p pk pid f) := by
  have hg : permG.gone := trivial
  unfold Streams.sendPushPromise
  fid_grind

section
variable {P : Perm} {s0 s : Streams} (hg : P.gone)
include hg

@[grind ←] theorem sendHeaders_acc (k : Nat) (eos : Bool) (f : List Hpack.Field) (hA : P.ok (.push k (.headers eos f)))
    (h : Tr P s0 s) : Tr P s0 (s.sendHeaders k eos f).1 := h.trans ((sendHeaders_accR s s k eos f (Tr.refl _ _)).tr hg hA)
@[grind ←] theorem sendReserveLocal_acc (h : Tr P s0 s) : Tr P s0 s.sendReserveLocal.1 :=
  h.step hg (Streams.sendReserveLocal_step (by decide) s)
@[grind ←] theorem sendPushPromise_acc (p pk pid : Nat) (f : List Hpack.Field)
    (hA : P.ok (.push p (.pushPromise pk pid f))) (h : Tr P s0 s) :
    Tr P s0 (s.sendPushPromise p pk pid f).1 := h.trans ((sendPushPromise_accR s s p pk pid f (Tr.refl _ _)).tr hg hA)
omit hg in
theorem setReset_closed' (a : Stream) (r : Reason) (i : Initiator) : (a.setReset r i).1.state.isClosed = true := by
  unfold Stream.setReset Stream.notifySend Stream.notifyPush Stream.notifyRecv
  cases a.sendTask <;> cases a.openTask <;> cases a.recvTask <;> cases a.pushTask <;> rfl

omit hg in
theorem closedAt_setReset (s : Streams) (k : Nat) (r : Reason) (i : Initiator) :
    ClosedAt (s.modStreamW k fun st => st.setReset r i) k := by
  intro a ha
  rw [Streams.modStreamW_get? s k _ (fun a => (setReset_quiet a r i).key)] at ha
  simp only [if_true] at ha
  cases hs : s.store.get? k with
  | none => rw [hs] at ha; cases ha
  | some x => rw [hs] at ha; cases ha; exact setReset_closed' x r i

/-- the `is_pending_open` arm of `Send::send_reset`: everything but the initial HEADERS is dropped — the step `cut k 1` -/
theorem keepHead_acc (k : Nat) (hc : P.cut k) (hcl : ClosedAt s k) (h : Tr P s0 s) : Tr P s0 (s.keepOnlyHead k) :=
  cut_acc k 1 (s.keepOnlyHead_get? k) (fun _ => ⟨rfl, rfl, rfl, rfl, rfl⟩) (s.keepOnlyHead_nextKey k) (s.keepOnlyHead_marker k)
    hc hcl h

theorem sendSendReset_acc (k : Nat) (r : Reason) (i : Initiator) (hc : P.cut k) (h : Tr P s0 s) :
    Tr P s0 (s.sendSendReset k r i) := by
  rw [Streams.sendSendReset_eq]
  split
  · exact h
  · have h1 : Tr P s0 (s.modStreamW k fun st => st.setReset r i) := modStreamW_acc k _ (setReset_quiet _ _ _) h
    have hcl := closedAt_setReset s k r i
    dsimp only
    split
    · exact h1
    · refine reclaimAllCapacity_acc hg k (queueFrame_acc hg k _ (ok_push_reset r hc) ?_)
      split
      · exact keepHead_acc hg k hc hcl h1
      · exact clearQueue_acc k hc hcl h1
grind_pattern sendSendReset_acc => Tr P s0 (s.sendSendReset k r i)
@[grind ←] theorem sendRecvStreamWindowUpdate_acc (k sz : Nat) (hc : P.cut k) (h : Tr P s0 s) :
    Tr P s0 (s.sendRecvStreamWindowUpdate k sz).1 := by
  unfold Streams.sendRecvStreamWindowUpdate; fid_grind
@[grind ←] theorem sendHandleError_acc (k : Nat) (hc : P.cut k) (hcl : ClosedAt s k) (h : Tr P s0 s) :
    Tr P s0 (s.sendHandleError k) := by
  unfold Streams.sendHandleError; fid_grind

@[grind ←] theorem decStreamWindow_acc (dec acc k : Nat) (h : Tr P s0 s) :
    Tr P s0 (Streams.decStreamWindow dec acc s k).1 :=
  h.step hg (Streams.decStreamWindow_step (by decide) dec acc s k)
@[grind ←] theorem sendApplyRemoteSettings_acc (a b c : Option Nat) (hc : CutAll P) (h : Tr P s0 s) :
    Tr P s0 (s.sendApplyRemoteSettings a b c).1 := by
  unfold Streams.sendApplyRemoteSettings
  have h1 := fun s (h : Tr P s0 s) f hf n i len acc => h.trans (Streams.tryForEachAcc_rel (Tr.relOK P) f hf n i len acc s)
  have h2 := fun s (h : Tr P s0 s) f hf => h.trans (Streams.storeTryForEach_rel (Tr.relOK P) s f hf)
  fid_grind
@[grind ←] theorem sendMaybeResetNextStreamId_acc (k : Nat) (h : Tr P s0 s) :
    Tr P s0 (s.sendMaybeResetNextStreamId k) :=
  h.step hg (Streams.sendMaybeResetNextStreamId_step (by decide) s k)
end

theorem closed_sendOpen (x : State) (eos : Bool) (h : x.isClosed = true) :
    x.sendOpen eos = (x, .error .unexpectedFrameType) := by
  rcases x with ⟨_|_|_|⟨_|_,_|_⟩|⟨_|_⟩|⟨_|_⟩|_⟩ <;> simp_all [State.isClosed, State.sendOpen]

theorem prioSendData_closed (s : Streams) (k len : Nat) (eos : Bool) (h : (s.stream k).state.isClosed = true) :
    ∃ e, s.prioSendData k len eos = (s, .error e) := by
  unfold Streams.prioSendData
  split
  · exact ⟨_, rfl⟩
  · simp only [State.isSendStreaming_of_isClosed h, Bool.not_false, if_true]; exact ⟨_, rfl⟩
theorem sendTrailers_closed (s : Streams) (k : Nat) (f : List Hpack.Field) (h : (s.stream k).state.isClosed = true) :
    ∃ e, s.sendTrailers k f = (s, .error e) := by
  unfold Streams.sendTrailers
  split
  · exact ⟨_, rfl⟩
  · simp only [State.isSendStreaming_of_isClosed h, Bool.not_false, if_true]; exact ⟨_, rfl⟩
theorem sendHeaders_closed (s : Streams) (k : Nat) (eos : Bool) (f : List Hpack.Field)
    (h : (s.stream k).state.isClosed = true) : ∃ e, s.sendHeaders k eos f = (s, .error e) := by
  unfold Streams.sendHeaders
  split
  · exact ⟨_, rfl⟩
  · rw [closed_sendOpen _ eos h]; exact ⟨_, rfl⟩
theorem sendInterim_closed (s : Streams) (k : Nat) (f : List Hpack.Field) (h : (s.stream k).state.isClosed = true) :
    ∃ e, s.sendInterimInformationalHeaders k f = (s, .error e) := by
  unfold Streams.sendInterimInformationalHeaders
  split
  · exact ⟨_, rfl⟩
  · simp only [State.isSendClosed_of_isClosed _ h, Bool.or_true, if_true]; exact ⟨_, rfl⟩

end H2V.Lemmas.ConnFidP
