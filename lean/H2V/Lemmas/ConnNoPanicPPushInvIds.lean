import H2V.Lemmas.ConnNoPanicPPushInvRecv
import H2V.Lemmas.ConnNoPanicPIdsStep
/-
  C08 (no panic) — PUSH_PROMISE bookkeeping, stage 2: `IBR` (every peer-initiated slab entry has an id below
  `recv.next_stream_id`) along every operation — the receive-side analogue of ConnNoPanicPIdsStep (`IBS`).
  Steps without insertion are `DR`: look-ups descend with their ids, the role is kept, `recv.next_stream_id` moves
  forward (`DR.of_step`: every step of the stream layer but an insertion).  Insertions: `Recv::open` /
  `Recv::maybe_reset_next_stream_id` have just moved `next_stream_id` past the new id; locally initiated ids do not matter.
-/
namespace H2V.Lemmas.ConnNoPanicP
open H2V H2V.Model H2V.Model.Conn H2V.Lemmas.ConnCountsP
open H2V.Lemmas.ConnResetP (Op run)
attribute [local irreducible] wrapSubU32 wrapSubUsize

structure DR (s s' : Streams) : Prop where
  desc : ∀ k x', s'.store.get? k = some x' → ∃ x, s.store.get? k = some x ∧ x'.id = x.id
  role : s'.counts.isServer = s.counts.isServer
  next : RNext s.recv.nextStreamId s'.recv.nextStreamId

theorem DR.refl (s : Streams) : DR s s := ⟨fun _ x' h => ⟨x', h, rfl⟩, rfl, .refl _⟩
theorem DR.trans {a b c : Streams} (h1 : DR a b) (h2 : DR b c) : DR a c := by
  refine ⟨fun k x'' h => ?_, h2.role.trans h1.role, h1.next.trans h2.next⟩
  obtain ⟨x', hx', i'⟩ := h2.desc k x'' h
  obtain ⟨x, hx, i⟩ := h1.desc k x' hx'
  exact ⟨x, hx, i'.trans i⟩
theorem DR.of_ld {s s' : Streams} (h : LD s s') (hr : s'.counts.isServer = s.counts.isServer)
    (hn : RNext s.recv.nextStreamId s'.recv.nextStreamId) : DR s s' :=
  ⟨fun k x' hx' => let ⟨x, hx, _, i⟩ := h.desc k x' hx'; ⟨x, hx, i⟩, hr, hn⟩
theorem DR.of_ev {s s' : Streams} (e : EvB false s s') (hr : HR s s') : DR s s' := .of_ld e.ld e.nx.role hr.next
theorem DR.of_ltw {ks : List Nat} {s s' : Streams} (h : LTw ks s s') (hrole : s'.counts.isServer = s.counts.isServer)
    (hn : RNext s.recv.nextStreamId s'.recv.nextStreamId) : DR s s' := by
  refine ⟨fun k x' hx' => ?_, hrole, hn⟩
  obtain ⟨x, hx⟩ := h.keys.live.mp ⟨x', hx'⟩
  have := h.sid k
  simp only [stream_of_get? hx, stream_of_get? hx'] at this
  exact ⟨x, hx, this⟩

def DR.kinds : Kind → Bool
  | .insert => false
  | _ => true

theorem DR.of_step {s s' : Streams} (h : Streams.Step DR.kinds s s') : DR s s' where
  desc := fun k x' hx' =>
    let ⟨x, hx, u⟩ := h.lift.back rfl hx'
    ⟨x, hx, u.lift (r := fun a b => b.id = a.id) (fun _ => rfl) (fun a b => b.trans a) (fun _ _ u => u.id)
      (fun _ _ u => u.id) (fun x q v _ _ => x.setQueued_id q v) fun _ _ _ => rfl⟩
  role := h.isServer
  next := h.recv_rel (r := fun a b => RNext a.nextStreamId b.nextStreamId) (fun _ => .refl _) (fun a b => a.trans b)
    (fun _ _ u => .of_upd u) fun _ q _ _ => by cases q <;> exact .refl _

theorem DR.transitionAfter (s : Streams) (k : Nat) (b : Bool) : DR s (s.transitionAfter k b) :=
  .of_step (Streams.transitionAfter_step (by decide) s k b)
theorem DR.transition {α : Type} {s : Streams} (k : Nat) (f : Streams → Streams × α) (h : DR s (f s).1) :
    DR s (s.transition k f).1 := by
  have : (s.transition k f).1 = (f s).1.transitionAfter k (s.stream k).isPendingResetExpiration := by
    unfold Streams.transition; rfl
  rw [this]; exact h.trans (.transitionAfter _ _ _)

theorem IBR.of_dr {s s' : Streams} (hi : IBR s) (hk' : KeysOK s') (h : DR s s') : IBR s' := by
  intro x' hx' hloc n' hn'
  obtain ⟨x, hx, hid⟩ := h.desc x'.key x' (hk'.get?_of_mem hx')
  obtain ⟨n, hn, hle⟩ := h.next n' hn'
  rw [isLocalInit_eq, h.role, ← isLocalInit_eq, hid] at hloc
  have := hi x (get?_mem hx) hloc n hn
  omega

theorem IBR.of_ev {s s' : Streams} (hi : IBR s) (hk : KeysOK s) (e : EvB false s s') (hr : HR s s') : IBR s' :=
  hi.of_dr (e.keysOK hk) (.of_ev e hr)

theorem IBR.of_sub {s s' : Streams} (hi : IBR s) (hsub : ∀ x ∈ s'.store.slab, x ∈ s.store.slab)
    (hc : s'.counts.isServer = s.counts.isServer) (ha : s'.recv.nextStreamId = s.recv.nextStreamId) : IBR s' := by
  intro x hx hloc n hn
  rw [isLocalInit_eq, hc, ← isLocalInit_eq] at hloc
  rw [ha] at hn
  exact hi x (hsub x hx) hloc n hn

theorem IBR.insert {s : Streams} (hi : IBR s) (st : Stream)
    (hnew : s.counts.isLocalInit st.id = false → ∀ n, s.recv.nextStreamId = some n → st.id < n) :
    IBR { s with store := (s.store.insert st).1 } := by
  intro x hx hloc n hn
  have hx' : x ∈ s.store.slab ++ [({ st with key := s.store.nextKey } : Stream)] := hx
  rcases List.mem_append.mp hx' with h1 | h1
  · exact hi x h1 hloc n hn
  · rw [List.mem_singleton] at h1; subst h1
    exact hnew hloc n hn

/-- after `Recv::open(id, _) = Ok(Some)`, `next_stream_id` is past `id` -/
theorem recvOpen_true_above {s s1 : Streams} {id : Nat} {b : Bool} (h : s.recvOpen id b = (s1, .ok true)) :
    ∀ n, s1.recv.nextStreamId = some n → id < n := by
  unfold Streams.recvOpen at h
  dsimp only at h
  generalize (if s.recv.refused.isSome = true then s.panic _ else s) = s0 at h
  generalize (if s0.counts.isServer = true then _ else _ : Bool) = canOpen at h
  split at h
  · cases h
  · split at h
    · cases h
    · split at h
      · cases h
      · generalize hs2 : (s0.modRecv fun r => { r with nextStreamId := if id + 2 > 2147483647 then none else some (id + 2) }) = s2 at h
        split at h
        · cases h
        · simp only [Prod.mk.injEq, and_true] at h
          subst h; subst hs2
          intro n hn
          have : (if id + 2 > 2147483647 then none else some (id + 2)) = some n := hn
          split at this
          · cases this
          · cases this; omega

theorem recvMaybeResetNextStreamId_above (s : Streams) (id : Nat) :
    ∀ n, (s.recvMaybeResetNextStreamId id).recv.nextStreamId = some n → id < n := by
  intro n hn
  unfold Streams.recvMaybeResetNextStreamId at hn
  split at hn
  · next nxt hnx =>
    split at hn
    · have : (if id + 2 > 2147483647 then none else some (id + 2)) = some n := hn
      split at this
      · cases this
      · cases this; omega
    · rw [hnx] at hn; cases hn; omega
  · next hnx => rw [hnx] at hn; cases hn

theorem innerSendReset_ibr {s : Streams} (hn : NPI (fun _ => False) s) (hi : IBR s) (id : Nat) (reason : Reason) :
    IBR (s.innerSendReset id reason).1 := by
  unfold Streams.innerSendReset
  cases hfk : s.store.findKey? id with
  | some k =>
    simp only []
    exact hi.of_ev hn.keys (actionsSendReset_ev (ρ := false) s k reason .library) (actionsSendReset_pf (ks := []) s k reason .library).hr
  | none =>
    simp only []
    generalize hs1 : (if s.counts.isLocalInit id = true then s.sendMaybeResetNextStreamId id else s.recvMaybeResetNextStreamId id) = s1
    have h1 : IBR s1 ∧ KeysOK s1 ∧ (s1.counts.isLocalInit id = false → ∀ n, s1.recv.nextStreamId = some n → id < n) := by
      rw [← hs1]; split
      · next hloc =>
        have e := sendMaybeResetNextStreamId_ev (ρ := false) s id hloc
        refine ⟨hi.of_ev hn.keys e (PF.of_step (ks := []) (Streams.sendMaybeResetNextStreamId_step (by decide) s id)).hr, e.keysOK hn.keys, fun h => ?_⟩
        rw [isLocalInit_eq, e.nx.role, ← isLocalInit_eq, hloc] at h; cases h
      · next hloc =>
        have e := recvMaybeResetNextStreamId_ev (ρ := false) s id
        exact ⟨hi.of_ev hn.keys e (PF.of_step (ks := []) (Streams.recvMaybeResetNextStreamId_step (by decide) s id)).hr, e.keysOK hn.keys,
          fun _ => recvMaybeResetNextStreamId_above s id⟩
    have h2 : IBR { s1 with store := (s1.store.insert (Stream.new id 0 0)).1 } := h1.1.insert _ h1.2.2
    exact h2.of_ev (h1.2.1.insert _) (actionsSendReset_ev (ρ := false) _ _ reason .library) (actionsSendReset_pf (ks := []) _ _ _ _).hr

/-- `Streams::send_request` keeps `IBR`: the new id is local -/
theorem sendRequest_ibr {s : Streams} (hn : NPI (fun _ => False) s) (hi : IBR s) (isHead : Bool) (fields : List Hpack.Field)
    (eos : Bool) (pending : Option Nat) : IBR (s.sendRequest isHead fields eos pending).1 :=
  SendRequestRule.run (I := IBR) (L := fun _ _ t => KeysOK t) (L' := fun _ _ t => KeysOK t)
    { pre := hi
      done _ hi := hi
      opn := hi.of_ev hn.keys (sendOpenId_ev (ρ := false) s) (sendOpenId_pf (ks := []) s).hr
      ins s1 id sP hso hP := by
        have e1 : EvB false s s1 := of_fst_eq hso (sendOpenId_ev (ρ := false) s)
        have h1 : IBR s1 := hi.of_ev hn.keys e1 (of_fst_eq hso (sendOpenId_pf (ks := []) s)).hr
        have hk1 : KeysOK s1 := e1.keysOK hn.keys
        have hloc1 : s1.counts.isLocalInit id = true := by rw [(sendOpenId_next hso).1]; exact hn.nl id (sendOpenId_ok hso)
        have h2 : IBR sP ∧ KeysOK sP ∧ sP.counts.isLocalInit id = true := by
          rw [hP]; split
          · have e := panic_ev (ρ := false) s1 "assertion failed: self.ids.insert(id, index).is_none()"
            exact ⟨h1.of_ev hk1 e (panic_pf (ks := []) _ _).hr, e.keysOK hk1, by rw [panic_counts]; exact hloc1⟩
          · exact ⟨h1, hk1, hloc1⟩
        exact ⟨h2.1.insert _ (fun hl => by rw [request_id, h2.2.2] at hl; cases hl), h2.2.1.insert _⟩
      hdr t _ k hi hk :=
        have e3 := sendHeaders_ev (ρ := false) t k eos fields
        ⟨hi.of_ev hk e3 (sendHeaders_pf (ks := []) t k eos fields).hr, e3.keysOK hk⟩
      undo t _ k _ _ hi hk heq :=
        (hi.of_ev hk (of_fst_eq heq (sendHeaders_ev (ρ := false) t k eos fields))
          (of_fst_eq heq (sendHeaders_pf (ks := []) t k eos fields)).hr).of_sub (fun x hx => (List.mem_filter.mp hx).1) rfl rfl
      fin t _ k hi hk :=
        IBR.of_ev (s := { t with refs := t.refs + 1 }) (hi.of_sub (fun _ hx => hx) rfl rfl) ⟨hk.nodup, hk.fresh⟩
          (refInc_ev (ρ := false) _ _) (refInc_pf (ks := [k]) _ _ (List.mem_cons_self ..)).hr } pending

/-- `Inner::recv_headers` keeps `IBR`: up to the insertion of the entry along ConnCountsP's trace (`IBR.of_ev`,
    `IBR.insert`: the new id is at or above `next_stream_id`), from there on the look-ups only descend (`DR`) -/
theorem recvHeaders_ibr {s : Streams} (hn : NPI (fun _ => False) s) (hi : IBR s) (h : HeadersIn) :
    IBR (s.recvHeaders h).1 :=
  let ⟨_, hi0, dr⟩ := Streams.HeadersRule.run (I := fun t => ∃ s0, IBR s0 ∧ DR s0 t) (L := fun _ _ => True)
    { pre := ⟨s, hi, .refl s⟩
      found _ _ := trivial
      opn _ := ⟨_, hi.of_ev hn.keys (recvOpen_ev (ρ := false) s h.sid false) (recvOpen_pf (ks := []) s h.sid false).hr, .refl _⟩
      ins s1 _ hro :=
        have h1 : IBR s1 := hi.of_ev hn.keys (of_fst_eq hro (recvOpen_ev (ρ := false) s h.sid false))
          (of_fst_eq hro (recvOpen_pf (ks := []) s h.sid false)).hr
        have ha := recvOpen_true_above hro
        ⟨⟨_, h1.insert _ (fun _ => ha), .refl _⟩, trivial⟩
      body s k hi _ :=
        let ⟨s0, hi0, dr⟩ := hi
        ⟨s0, hi0, dr.trans (.of_step (Streams.recvHeadersBody_step (by decide) s k h))⟩
      ta s k b hi := let ⟨s0, hi0, dr⟩ := hi; ⟨s0, hi0, dr.trans (.transitionAfter s k b)⟩ }
  hi0.of_dr ((recvHeaders_ev s h).keysOK hn.keys) dr

theorem DR.keysOK {ks : List Nat} {s s' : Streams} (h : LTw ks s s') (hk : KeysOK s) : KeysOK s' := h.keys.keysOK hk

theorem sendPushPromise_ibr {t s5 : Streams} {parent k pid : Nat} {fields : List Hpack.Field} {r : Except UserError Unit}
    (hi : IBR t) (hk : KeysOK t) (heq : t.sendPushPromise parent k pid fields = (s5, r)) : IBR s5 ∧ KeysOK s5 :=
  have hk5 : KeysOK s5 := (of_fst_eq heq (sendPushPromise_lt t parent k pid fields)).keys.keysOK hk
  have hd : DR t s5 := by
    have := DR.of_step (Streams.sendPushPromise_step (by decide) t parent k pid fields); rw [heq] at this; exact this
  ⟨hi.of_dr hk5 hd, hk5⟩

/-- `send_push_promise` keeps `IBR`: the promised id is local; after the insertion the look-ups only descend (`DR`) -/
theorem refSendPushPromise_ibr {s : Streams} (hn : NPI (fun _ => False) s) (hi : IBR s) (parent : Nat) (valid : Bool)
    (fields : List Hpack.Field) : IBR (s.refSendPushPromise parent valid fields).1 :=
  PushRule.run (I := IBR) (L := fun _ _ t => KeysOK t) (L' := fun _ _ t => KeysOK t)
    { opn := hi.of_ev hn.keys (sendOpenId_ev (ρ := false) s) (sendOpenId_pf (ks := []) s).hr
      done _ hi := hi
      ins s1 pid sP hso hP := by
        rw [Streams.sendReserveLocal] at hso
        have e1 : EvB false s s1 := of_fst_eq hso (sendOpenId_ev (ρ := false) s)
        have h1 : IBR s1 := hi.of_ev hn.keys e1 (of_fst_eq hso (sendOpenId_pf (ks := []) s)).hr
        have hk1 : KeysOK s1 := e1.keysOK hn.keys
        have hloc1 : s1.counts.isLocalInit pid = true := by rw [(sendOpenId_next hso).1]; exact hn.nl pid (sendOpenId_ok hso)
        have h2 : IBR sP ∧ KeysOK sP ∧ sP.counts.isLocalInit pid = true := by
          rw [hP]; split
          · have e := panic_ev (ρ := false) s1 "assertion failed: self.ids.insert(id, index).is_none()"
            exact ⟨h1.of_ev hk1 e (panic_pf (ks := []) _ _).hr, e.keysOK hk1, by rw [panic_counts]; exact hloc1⟩
          · exact ⟨h1, hk1, hloc1⟩
        refine ⟨h2.1.insert _ (fun hl => ?_), h2.2.1.insert _⟩
        rw [show (Stream.new pid sP.actions.send.initWindowSz sP.recv.initWindowSz).id = pid from rfl, h2.2.2] at hl; cases hl
      reserve t _ k st' _ hi hk _ :=
        have hlt : LT [k] t (t.modStream k fun st => { st with state := st', isPendingPush := true }) :=
          modStream_lt _ _ _ (fun x => ⟨rfl, rfl, rfl, rfl, id⟩)
        ⟨hi.of_dr (hlt.keys.keysOK hk) (.of_ltw hlt.w (by rw [Streams.modStream_counts]) (by rw [ConnResetP.modStream_recv]; exact .refl _)),
          hlt.keys.keysOK hk⟩
      undo _ _ _ _ _ hi hk heq := (sendPushPromise_ibr hi hk heq).1.of_sub (fun x hx => (List.mem_filter.mp hx).1) rfl rfl
      fin _ _ k s5 _ hi hk heq :=
        have h4 := sendPushPromise_ibr hi hk heq
        IBR.of_ev (s := { s5 with refs := s5.refs + 1 }) (h4.1.of_sub (fun _ hx => hx) rfl rfl) ⟨h4.2.nodup, h4.2.fresh⟩
          (refInc_ev (ρ := false) _ _) (refInc_pf (ks := [k]) _ _ (List.mem_cons_self ..)).hr } valid

/-- every step but the insertion is a `DR` step; the insertion has the id above `recv.next_stream_id` from `Recv::open` -/
theorem recvPushPromise_ibr {s : Streams} (hn : NPI (fun _ => False) s) (hi : IBR s) (id : Nat) (h : HeadersIn) :
    IBR (s.recvPushPromise id h).1 :=
  have hkF : KeysOK (s.recvPushPromise id h).1 := (recvPushPromise_ev s id h).keysOK hn.keys
  have hopen : DR s (s.recvOpen h.sid true).1 :=
    .of_ev (recvOpen_ev (ρ := false) s h.sid true) (recvOpen_pf (ks := []) s h.sid true).hr
  (PromiseRule.run (I := fun t => ∃ t0, IBR t0 ∧ DR t0 t) (L := fun _ _ _ => True) (L' := fun _ _ _ => True)
    { pre := ⟨s, hi, .refl s⟩
      opn := ⟨s, hi, hopen⟩
      ins := fun _ s1 sP _ hro hP => by
        have h1 : DR s s1 := by have := hopen; rw [hro] at this; exact this
        have hk1 : KeysOK s1 := (of_fst_eq hro (recvOpen_ev (ρ := false) s h.sid true)).keysOK hn.keys
        have ha := recvOpen_true_above hro
        have hP' : IBR sP ∧ (∀ n, sP.recv.nextStreamId = some n → h.sid < n) := by
          rw [hP]; split
          · exact ⟨(hi.of_dr hk1 h1).of_dr ((panic_ev (ρ := false) s1 _).keysOK hk1) (.of_step (.panic _ _)),
              by rw [Streams.panic_recv]; exact ha⟩
          · exact ⟨hi.of_dr hk1 h1, ha⟩
        exact ⟨⟨_, hP'.1.insert _ (fun _ => hP'.2), .refl _⟩, trivial⟩
      body := fun _ child t ⟨t0, h0, hd⟩ _ => by
        rw [Streams.transition_eq]
        have hb := DR.of_step (Streams.pushPromiseBody_step (by decide) t child h)
        exact ⟨⟨t0, h0, hd.trans (hb.trans (.transitionAfter _ _ _))⟩, fun _ => trivial⟩
      link := fun pk child t ⟨t0, h0, hd⟩ _ =>
        ⟨t0, h0, hd.trans (.of_step (Streams.pushPromiseLink_step (by decide) t pk child))⟩ }).elim
    fun _ ⟨h0, hd⟩ => h0.of_dr hkF hd

theorem IBR_step {s : Streams} (hn : NPI (fun _ => False) s) (hj : IBR s) (op : Op) : IBR (op.apply s) := by
  have hk' := (keys_step_op hn.keys hn.nl op).1
  cases op <;> simp only [Op.apply] at hk' ⊢
  case recvHeaders h => exact recvHeaders_ibr hn hj h
  case recvPushPromise id h => exact recvPushPromise_ibr hn hj id h
  case innerSendReset id r => exact innerSendReset_ibr hn hj id r
  case sendRequest a b c d => exact sendRequest_ibr hn hj a b c d
  case refSendPushPromise p v f => exact refSendPushPromise_ibr hn hj p v f
  case clearWakes => exact hj.of_sub (s' := { s with wakes := [] }) (fun _ hx => hx) rfl rfl
  -- the rest are steps of the stream layer that do not insert
  all_goals exact hj.of_dr hk' (.of_step (by stp_step <;> first | exact .refl _ | decide | exact fun _ => rfl))

end H2V.Lemmas.ConnNoPanicP
