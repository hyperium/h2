import H2V.Lemmas.ConnFlowPHist
/-
  ConnFlowP — the history form for the connection: along any API history,

      connection send window = credit granted − DATA handed to the codec,     0 ≤ sent ≤ granted

  where `granted` = 65 535 + the increments of the WINDOW_UPDATE frames on stream 0 that were
  accepted, and `sent` = the lengths of the DATA frames `pop_frame` returned inside `poll_complete`
  (`pollLog`, `ConnFlowPHist.lean`).  `ReachH s g d` is `Reach s` with these two ghost quantities.
-/
namespace H2V.Lemmas.ConnFlowP
open H2V H2V.Model H2V.Model.Conn H2V.Lemmas.Comp

inductive ReachH : Streams → Int → Int → Prop
  | init {s} : Init s → ReachH s 65535 0
  | recvHeaders {s} {g d : Int} (hd) : ReachH s g d → ReachH (s.recvHeaders hd).1 g d
  | recvData {s} {g d : Int} (id p eos pad) : ReachH s g d → ReachH (s.recvData id p eos pad).1 g d
  | recvReset {s} {g d : Int} (id r) : ReachH s g d → ReachH (s.recvReset id r).1 g d
  | recvWindowUpdateStream {s} {g d : Int} (id inc) : id ≠ 0 → inc ≤ 2147483647 → ReachH s g d → ReachH (s.recvWindowUpdate id inc).1 g d
  | recvWindowUpdateConn {s} {g d : Int} (inc) : inc ≤ 2147483647 → ReachH s g d →
      ReachH (s.recvWindowUpdate 0 inc).1 (g + (if isOk (s.recvWindowUpdate 0 inc).2 then (inc : Int) else 0)) d
  | recvPushPromise {s} {g d : Int} (id hd) : ReachH s g d → ReachH (s.recvPushPromise id hd).1 g d
  | recvGoAwayFrame {s} {g d : Int} (l r dbg) : ReachH s g d → ReachH (s.recvGoAwayFrame l r dbg).1 g d
  | recvGoAway {s} {g d : Int} (id) : ReachH s g d → ReachH (s.recvGoAway id) g d
  | recvEof {s} {g d : Int} (b) : ReachH s g d → ReachH (s.recvEof b) g d
  | handleError {s} {g d : Int} (e) : ReachH s g d → ReachH (s.handleError e).1 g d
  | innerSendReset {s} {g d : Int} (id r) : ReachH s g d → ReachH (s.innerSendReset id r).1 g d
  | applyRemoteSettings {s} {g d : Int} (vals b) : SettingsOk vals → ReachH s g d → ReachH (s.applyRemoteSettings vals b).1 g d
  | applyLocalSettingsFrame {s} {g d : Int} (vals) : ReachH s g d → ReachH (s.applyLocalSettingsFrame vals).1 g d
  | setTargetConnectionWindow {s} {g d : Int} (n) : ReachH s g d → ReachH (s.setTargetConnectionWindow n).1 g d
  | clearExpiredResetStreams {s} {g d : Int} (fuel) : ReachH s g d → ReachH (Streams.clearExpiredResetStreams fuel s) g d
  | pollComplete {s} {g d : Int} (fuel w io tag) : ReachH s g d →
      ReachH (Streams.pollComplete fuel s w io tag).1 g (d + sentIn (pollLog fuel s w io tag))
  | pollSendPendingRefusal {s} {g d : Int} (fuel w io tag) : ReachH s g d → ReachH (Streams.pollSendPendingRefusal fuel s w io tag).1 g d
  | wake {s} {g d : Int} (w) : ReachH s g d → ReachH (s.wake w) g d
  | panic {s} {g d : Int} (m) : ReachH s g d → ReachH (s.panic m) g d
  | clearWakes {s} {g d : Int} : ReachH s g d → ReachH { s with wakes := [] } g d
  | cloneHandle {s} {g d : Int} : ReachH s g d → ReachH s.cloneHandle g d
  | dropHandle {s} {g d : Int} : ReachH s g d → ReachH s.dropHandle g d
  | cloneStreamRef {s} {g d : Int} (id) : ReachH s g d → ReachH (s.cloneStreamRef id) g d
  | dropStreamRef {s} {g d : Int} (id) : ReachH s g d → ReachH (s.dropStreamRef id) g d
  | sendRequest {s} {g d : Int} (b f eos p) : ReachH s g d → ReachH (s.sendRequest b f eos p).1 g d
  | pollPendingOpen {s} {g d : Int} (p tag) : ReachH s g d → ReachH (s.pollPendingOpen p tag).1 g d
  | nextIncoming {s} {g d : Int} : ReachH s g d → ReachH s.nextIncoming.1 g d
  | recvTakeRequest {s} {g d : Int} (id) : ReachH s g d → ReachH (s.recvTakeRequest id).1 g d
  | refSendResponse {s} {g d : Int} (k f eos) : ReachH s g d → ReachH (s.refSendResponse k f eos).1 g d
  | refSendInformationalHeaders {s} {g d : Int} (k f) : ReachH s g d → ReachH (s.refSendInformationalHeaders k f).1 g d
  | refSendPushPromise {s} {g d : Int} (k b f) : ReachH s g d → ReachH (s.refSendPushPromise k b f).1 g d
  | refSendData {s} {g d : Int} (id len eos) : ReachH s g d → ReachH (s.refSendData id len eos).1 g d
  | refSendTrailers {s} {g d : Int} (id f) : ReachH s g d → ReachH (s.refSendTrailers id f).1 g d
  | refSendReset {s} {g d : Int} (id r) : ReachH s g d → ReachH (s.refSendReset id r) g d
  | refReserveCapacity {s} {g d : Int} (id c) : ReachH s g d → ReachH (s.refReserveCapacity id c) g d
  | pollCapacity {s} {g d : Int} (id tag) : ReachH s g d → ReachH (s.pollCapacity id tag).1 g d
  | pollReset {s} {g d : Int} (id m tag) : ReachH s g d → ReachH (s.pollReset id m tag).1 g d
  | recvPollResponse {s} {g d : Int} (fuel id tag) : ReachH s g d → ReachH (Streams.recvPollResponse fuel s id tag).1 g d
  | recvPollInformational {s} {g d : Int} (id tag) : ReachH s g d → ReachH (s.recvPollInformational id tag).1 g d
  | refPollData {s} {g d : Int} (id tag) : ReachH s g d → ReachH (s.refPollData id tag).1 g d
  | recvPollTrailers {s} {g d : Int} (id tag) : ReachH s g d → ReachH (s.recvPollTrailers id tag).1 g d
  | refReleaseCapacity {s} {g d : Int} (id c) : ReachH s g d → ReachH (s.refReleaseCapacity id c).1 g d
  | refClearRecvBuffer {s} {g d : Int} (id) : ReachH s g d → ReachH (s.refClearRecvBuffer id) g d

theorem ReachH.reach {s : Streams} {g d : Int} (h : ReachH s g d) : Reach s := by
  induction h with
  | init h => exact .init h
  | recvHeaders hd _ ih => exact .recvHeaders hd ih
  | recvData id p eos pad _ ih => exact .recvData id p eos pad ih
  | recvReset id r _ ih => exact .recvReset id r ih
  | recvWindowUpdateStream id inc _ hinc _ ih => exact .recvWindowUpdate id inc hinc ih
  | recvWindowUpdateConn inc hinc _ ih => exact .recvWindowUpdate 0 inc hinc ih
  | recvPushPromise id hd _ ih => exact .recvPushPromise id hd ih
  | recvGoAwayFrame l r dbg _ ih => exact .recvGoAwayFrame l r dbg ih
  | recvGoAway id _ ih => exact .recvGoAway id ih
  | recvEof b _ ih => exact .recvEof b ih
  | handleError e _ ih => exact .handleError e ih
  | innerSendReset id r _ ih => exact .innerSendReset id r ih
  | applyRemoteSettings vals b hv _ ih => exact .applyRemoteSettings vals b hv ih
  | applyLocalSettingsFrame vals _ ih => exact .applyLocalSettingsFrame vals ih
  | setTargetConnectionWindow n _ ih => exact .setTargetConnectionWindow n ih
  | clearExpiredResetStreams fuel _ ih => exact .clearExpiredResetStreams fuel ih
  | pollComplete fuel w io tag _ ih => exact .pollComplete fuel w io tag ih
  | pollSendPendingRefusal fuel w io tag _ ih => exact .pollSendPendingRefusal fuel w io tag ih
  | wake w _ ih => exact .wake w ih
  | panic m _ ih => exact .panic m ih
  | clearWakes _ ih => exact .clearWakes ih
  | cloneHandle _ ih => exact .cloneHandle ih
  | dropHandle _ ih => exact .dropHandle ih
  | cloneStreamRef id _ ih => exact .cloneStreamRef id ih
  | dropStreamRef id _ ih => exact .dropStreamRef id ih
  | sendRequest b f eos p _ ih => exact .sendRequest b f eos p ih
  | pollPendingOpen p tag _ ih => exact .pollPendingOpen p tag ih
  | nextIncoming _ ih => exact .nextIncoming ih
  | recvTakeRequest id _ ih => exact .recvTakeRequest id ih
  | refSendResponse k f eos _ ih => exact .refSendResponse k f eos ih
  | refSendInformationalHeaders k f _ ih => exact .refSendInformationalHeaders k f ih
  | refSendPushPromise k b f _ ih => exact .refSendPushPromise k b f ih
  | refSendData id len eos _ ih => exact .refSendData id len eos ih
  | refSendTrailers id f _ ih => exact .refSendTrailers id f ih
  | refSendReset id r _ ih => exact .refSendReset id r ih
  | refReserveCapacity id c _ ih => exact .refReserveCapacity id c ih
  | pollCapacity id tag _ ih => exact .pollCapacity id tag ih
  | pollReset id m tag _ ih => exact .pollReset id m tag ih
  | recvPollResponse fuel id tag _ ih => exact .recvPollResponse fuel id tag ih
  | recvPollInformational id tag _ ih => exact .recvPollInformational id tag ih
  | refPollData id tag _ ih => exact .refPollData id tag ih
  | recvPollTrailers id tag _ ih => exact .recvPollTrailers id tag ih
  | refReleaseCapacity id c _ ih => exact .refReleaseCapacity id c ih
  | refClearRecvBuffer id _ ih => exact .refClearRecvBuffer id ih

theorem cw_step {s t : Streams} {g d : Int} (h : CW s.prio.flow.windowSize t) (ih : s.prio.flow.windowSize.val = g - d) :
    t.prio.flow.windowSize.val = g - d := by
  have : t.prio.flow.windowSize = s.prio.flow.windowSize := h
  rw [this]; exact ih

theorem recvConnectionWindowUpdate_window (s : Streams) (inc : Nat) (hinc : inc ≤ 2147483647) :
    (s.recvConnectionWindowUpdate inc).1.prio.flow.windowSize.val =
      s.prio.flow.windowSize.val + (if isOk (s.recvConnectionWindowUpdate inc).2 then (inc : Int) else 0) := by
  unfold Streams.recvConnectionWindowUpdate
  rw [Flow.incWindow_eq, u32AsI32_small hinc]
  by_cases hc : inI32 (s.prio.flow.windowSize.val + (inc : Int)) = true ∧
      s.prio.flow.windowSize.val + (inc : Int) ≤ (Generated.Consts.MAX_WINDOW_SIZE : Int)
  · rw [if_pos hc]
    have e : (Streams.assignConnectionCapacity (s.modPrio fun p =>
        { p with flow := { s.prio.flow with windowSize := ⟨s.prio.flow.windowSize.val + inc⟩ } }) inc).prio.flow.windowSize =
        ⟨s.prio.flow.windowSize.val + inc⟩ := (MvG.refl true inc _).release.win rfl
    show (Streams.assignConnectionCapacity _ inc).prio.flow.windowSize.val = _ + (if isOk (Except.ok () : Except Reason Unit) then (inc : Int) else 0)
    rw [e]; simp only [isOk_ok, if_true]
  · rw [if_neg hc]
    show s.prio.flow.windowSize.val = _ + (if isOk (Except.error _ : Except Reason Unit) then (inc : Int) else 0)
    simp only [isOk_error, Bool.false_eq_true, if_false]; omega

/-- WINDOW_UPDATE on stream 0: the window grows by the increment when the frame is accepted, not at all
    when it is refused (overflow past `2^31 - 1`: connection error) -/
theorem recvWindowUpdate_conn_window {s : Streams} {g d : Int} (hs : SafeInv s)
    (ih : s.prio.flow.windowSize.val = g - d) (inc : Nat) (hinc : inc ≤ 2147483647) :
    (s.recvWindowUpdate 0 inc).1.prio.flow.windowSize.val =
      g + (if isOk (s.recvWindowUpdate 0 inc).2 then (inc : Int) else 0) - d := by
  have h := recvConnectionWindowUpdate_window s inc hinc
  unfold Streams.recvWindowUpdate
  simp only [if_true]
  split
  · rename_i heq
    rw [heq] at h
    simp only [isOk_error, Bool.false_eq_true, if_false] at h ⊢
    omega
  · rename_i heq
    rw [heq] at h
    simp only [isOk_ok, if_true] at h ⊢
    omega

theorem pollComplete_window {s : Streams} {g d : Int} (hs : SafeInv s)
    (ih : s.prio.flow.windowSize.val = g - d) (fuel : Nat) (w : Writer) (io : Tio) (tag : String) :
    (Streams.pollComplete fuel s w io tag).1.prio.flow.windowSize.val = g - (d + sentIn (pollLog fuel s w io tag)) := by
  rw [(poll_log fuel w io tag hs).2, ih]; omega

theorem cw_op {s t : Streams} {g d : Int} (op : ConnResetP.Op) (hv : flowOk op) (hk : keepsWindow op = true)
    (ht : op.apply s = t) (ih : s.prio.flow.windowSize.val = g - d) : t.prio.flow.windowSize.val = g - d := by
  have h := Mv.op op hv s
  rw [hk, ht] at h
  rw [h.win rfl]; exact ih

/-- **window = granted − sent** along every history -/
theorem ReachH.window {s : Streams} {g d : Int} (h : ReachH s g d) : s.prio.flow.windowSize.val = g - d := by
  induction h with
  | init h => rw [h.flow, flowInit_eq]; rfl
  | recvHeaders hd _ ih => exact cw_op (.recvHeaders hd) trivial rfl rfl ih
  | recvData id p eos pad _ ih => exact cw_op (.recvData id p eos pad) trivial rfl rfl ih
  | recvReset id r _ ih => exact cw_op (.recvReset id r) trivial rfl rfl ih
  | recvWindowUpdateStream id inc hid hinc _ ih => exact cw_step (((Mv.refl true _).recvWindowUpdate_stream id inc hid hinc).win rfl) ih
  | recvWindowUpdateConn inc hinc hr ih => exact recvWindowUpdate_conn_window hr.reach.safe ih inc hinc
  | recvPushPromise id hd _ ih => exact cw_op (.recvPushPromise id hd) trivial rfl rfl ih
  | recvGoAwayFrame l r dbg _ ih => exact cw_op (.recvGoAwayFrame l r dbg) trivial rfl rfl ih
  | recvGoAway id _ ih => exact cw_op (.recvGoAway id) trivial rfl rfl ih
  | recvEof b _ ih => exact cw_op (.recvEof b) trivial rfl rfl ih
  | handleError e _ ih => exact cw_op (.handleError e) trivial rfl rfl ih
  | innerSendReset id r _ ih => exact cw_op (.innerSendReset id r) trivial rfl rfl ih
  | applyRemoteSettings vals b hv _ ih => exact cw_op (.applyRemoteSettings vals b) hv rfl rfl ih
  | applyLocalSettingsFrame vals _ ih => exact cw_op (.applyLocalSettingsFrame vals) trivial rfl rfl ih
  | setTargetConnectionWindow n _ ih => exact cw_op (.setTargetConnectionWindow n) trivial rfl rfl ih
  | clearExpiredResetStreams fuel _ ih => exact cw_op (.clearExpiredResetStreams fuel) trivial rfl rfl ih
  | pollComplete fuel w io tag hr ih => exact pollComplete_window hr.reach.safe ih fuel w io tag
  | pollSendPendingRefusal fuel w io tag _ ih => exact cw_op (.pollSendPendingRefusal fuel w io tag) trivial rfl rfl ih
  | wake w _ ih => exact cw_op (.wake w) trivial rfl rfl ih
  | panic m _ ih => exact cw_op (.panic m) trivial rfl rfl ih
  | clearWakes _ ih => exact cw_op .clearWakes trivial rfl rfl ih
  | cloneHandle _ ih => exact cw_op .cloneHandle trivial rfl rfl ih
  | dropHandle _ ih => exact cw_op .dropHandle trivial rfl rfl ih
  | cloneStreamRef id _ ih => exact cw_op (.cloneStreamRef id) trivial rfl rfl ih
  | dropStreamRef id _ ih => exact cw_op (.dropStreamRef id) trivial rfl rfl ih
  | sendRequest b f eos p _ ih => exact cw_op (.sendRequest b f eos p) trivial rfl rfl ih
  | pollPendingOpen p tag _ ih => exact cw_op (.pollPendingOpen p tag) trivial rfl rfl ih
  | nextIncoming _ ih => exact cw_op .nextIncoming trivial rfl rfl ih
  | recvTakeRequest id _ ih => exact cw_op (.recvTakeRequest id) trivial rfl rfl ih
  | refSendResponse k f eos _ ih => exact cw_op (.refSendResponse k f eos) trivial rfl rfl ih
  | refSendInformationalHeaders k f _ ih => exact cw_op (.refSendInformationalHeaders k f) trivial rfl rfl ih
  | refSendPushPromise k b f _ ih => exact cw_op (.refSendPushPromise k b f) trivial rfl rfl ih
  | refSendData id len eos _ ih => exact cw_op (.refSendData id len eos) trivial rfl rfl ih
  | refSendTrailers id f _ ih => exact cw_op (.refSendTrailers id f) trivial rfl rfl ih
  | refSendReset id r _ ih => exact cw_op (.refSendReset id r) trivial rfl rfl ih
  | refReserveCapacity id c _ ih => exact cw_op (.refReserveCapacity id c) trivial rfl rfl ih
  | pollCapacity id tag _ ih => exact cw_op (.pollCapacity id tag) trivial rfl rfl ih
  | pollReset id m tag _ ih => exact cw_op (.pollReset id m tag) trivial rfl rfl ih
  | recvPollResponse fuel id tag _ ih => exact cw_op (.recvPollResponse fuel id tag) trivial rfl rfl ih
  | recvPollInformational id tag _ ih => exact cw_op (.recvPollInformational id tag) trivial rfl rfl ih
  | refPollData id tag _ ih => exact cw_op (.refPollData id tag) trivial rfl rfl ih
  | recvPollTrailers id tag _ ih => exact cw_op (.recvPollTrailers id tag) trivial rfl rfl ih
  | refReleaseCapacity id c _ ih => exact cw_op (.refReleaseCapacity id c) trivial rfl rfl ih
  | refClearRecvBuffer id _ ih => exact cw_op (.refClearRecvBuffer id) trivial rfl rfl ih

theorem ReachH.sent_nonneg {s : Streams} {g d : Int} (h : ReachH s g d) : 0 ≤ d := by
  induction h with
  | init _ => exact Int.le_refl _
  | pollComplete fuel w io tag _ ih => omega
  | _ => assumption

/-- **sent ≤ granted**: the DATA octets handed to the codec for the whole connection never exceed
    the credit the peer has granted so far -/
theorem ReachH.sent_le_granted {s : Streams} {g d : Int} (h : ReachH s g d) : d ≤ g := by
  have hw := h.window
  have hs := h.reach.safe
  have := hs.av_le
  have := hs.a0
  omega

end H2V.Lemmas.ConnFlowP
