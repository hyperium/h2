import H2V.Model.HpackDec
import H2V.Spec.Hpack
/-
  Part A — HPACK integers (RFC 7541 §5.1): `decode_int` against the reference `Spec.Hpack.int`,
  the 5-octet bound, the shape of the consumed prefix, behaviour under extension of the buffer
  (used by `split_invariance`), and the `encode_int`/`decode_int` round trip with its exact range.
-/
namespace H2V.Lemmas.HpackDec
open H2V H2V.Model.Hpack H2V.Generated.Static

theorem and128_eq_zero_iff : ∀ b, b < 256 → ((b &&& 128 = 0) ↔ b < 128) := by decide +kernel

theorem and128_eq_128_iff : ∀ b, b < 256 → ((b &&& 128 = 128) ↔ 128 ≤ b) := by decide +kernel

theorem and127 (b : Nat) : b &&& 127 = b % 128 := Nat.and_two_pow_sub_one_eq_mod b 7

theorem enc_cont_byte : ∀ x, x < 128 →
    ((128 ||| x) &&& 127 = x ∧ (128 ||| x) &&& 128 ≠ 0 ∧ 128 ||| x < 256) := by decide +kernel

theorem Valid_cons {b : Nat} {bs : Bytes} : Bytes.Valid (b :: bs) ↔ b < 256 ∧ Bytes.Valid bs := by
  simp [Bytes.Valid]

theorem Valid_append {a b : Bytes} : Bytes.Valid (a ++ b) ↔ Bytes.Valid a ∧ Bytes.Valid b := by
  simp only [Bytes.Valid, List.mem_append]
  constructor
  · intro h; exact ⟨fun x hx => h x (Or.inl hx), fun x hx => h x (Or.inr hx)⟩
  · rintro ⟨h1, h2⟩ x (hx | hx)
    · exact h1 x hx
    · exact h2 x hx

theorem Valid_nil : Bytes.Valid [] := by simp [Bytes.Valid]

theorem Valid_take {a : Bytes} (n : Nat) (h : Bytes.Valid a) : Bytes.Valid (a.take n) :=
  fun x hx => h x (List.mem_of_mem_take hx)

theorem Valid_drop {a : Bytes} (n : Nat) (h : Bytes.Valid a) : Bytes.Valid (a.drop n) :=
  fun x hx => h x (List.mem_of_mem_drop hx)

theorem decodeIntLoop_sound (buf : Bytes) (ret bytes shift v : Nat) (rest : Bytes)
    (hv : Bytes.Valid buf) (h : decodeIntLoop buf ret bytes shift = .ok (v, rest)) :
    Spec.Hpack.intCont buf ret shift = some (v, rest) := by
  induction buf generalizing ret bytes shift with
  | nil => simp [decodeIntLoop] at h
  | cons b tl ih =>
    rw [Valid_cons] at hv
    have hb := and128_eq_zero_iff b hv.1
    simp only [decodeIntLoop, and127, Nat.shiftLeft_eq] at h
    simp only [Spec.Hpack.intCont]
    by_cases hlt : b < 128
    · rw [if_pos (hb.2 hlt)] at h
      rw [if_pos hlt]
      simpa using h
    · rw [if_neg (fun hc => hlt (hb.1 hc))] at h
      rw [if_neg hlt]
      split at h
      · cases h
      · exact ih _ _ _ hv.2 h

theorem decodeIntLoop_shape (buf : Bytes) (ret bytes shift v : Nat) (rest : Bytes) (k : Nat)
    (hk1 : 1 ≤ k) (hk : bytes + k = 5) (h : decodeIntLoop buf ret bytes shift = .ok (v, rest)) :
    ∃ pre, buf = pre ++ rest ∧ 1 ≤ pre.length ∧ pre.length ≤ k ∧
      v + 2 ^ shift ≤ ret + 2 ^ shift * 128 ^ pre.length := by
  induction buf generalizing ret bytes shift k with
  | nil => simp [decodeIntLoop] at h
  | cons b tl ih =>
    simp only [decodeIntLoop, and127, Nat.shiftLeft_eq, DECODE_INT_MAX_BYTES] at h
    have : b % 128 * 2 ^ shift ≤ 127 * 2 ^ shift := Nat.mul_le_mul_right _ (by omega)
    split at h
    · simp only [Except.ok.injEq, Prod.mk.injEq] at h
      refine ⟨[b], by simp [h.2], by simp, by simp; omega, ?_⟩
      simp only [List.length_singleton, Nat.pow_one]
      omega
    · split at h
      · cases h
      · obtain ⟨pre, hpre, h1, h2, h3⟩ := ih _ _ _ (k - 1) (by omega) (by omega) h
        refine ⟨b :: pre, by simp [hpre], by simp, by simp; omega, ?_⟩
        rw [List.length_cons, Nat.pow_succ, ← Nat.mul_assoc]
        rw [Nat.pow_add, Nat.mul_right_comm] at h3
        omega

theorem decodeIntLoop_ext (buf x : Bytes) (ret bytes shift : Nat) :
    match decodeIntLoop buf ret bytes shift with
    | .ok (v, r) => decodeIntLoop (buf ++ x) ret bytes shift = .ok (v, r ++ x)
    | .error e => e.isNeedMore = false → decodeIntLoop (buf ++ x) ret bytes shift = .error e := by
  induction buf generalizing ret bytes shift with
  | nil => exact fun hn => by cases hn
  | cons b tl ih =>
    simp only [decodeIntLoop, List.cons_append]
    by_cases hz : b &&& 128 = 0
    · rw [if_pos hz, if_pos hz]
    · rw [if_neg hz, if_neg hz]
      by_cases he : bytes + 1 = DECODE_INT_MAX_BYTES
      · rw [if_pos he, if_pos he]; exact fun _ => rfl
      · rw [if_neg he, if_neg he]; exact ih _ _ _

/-- A.1 — an integer accepted by `decode_int` is the RFC 7541 §5.1 integer -/
theorem decodeInt_sound (buf : Bytes) (p v : Nat) (rest : Bytes)
    (hv : Bytes.Valid buf)
    (h : decodeInt buf p = .ok (v, rest)) :
    Spec.Hpack.int p buf = some (v, rest) := by
  unfold decodeInt at h
  split at h
  · cases h
  · cases buf with
    | nil => simp at h
    | cons b0 tl =>
      simp only [Nat.and_two_pow_sub_one_eq_mod] at h
      simp only [Spec.Hpack.int]
      rw [Valid_cons] at hv
      split at h
      · rename_i hlt
        rw [if_pos hlt]
        simpa using h
      · rename_i hlt
        rw [if_neg hlt]
        exact decodeIntLoop_sound _ _ _ _ _ _ hv.2 h

/-- A.1 (errors) — what the reference cannot read, `decode_int` rejects -/
theorem decodeInt_spec_none (buf : Bytes) (p : Nat) (hv : Bytes.Valid buf)
    (h : Spec.Hpack.int p buf = none) : ∃ e, decodeInt buf p = .error e := by
  cases hd : decodeInt buf p with
  | error e => exact ⟨e, rfl⟩
  | ok r =>
    obtain ⟨v, rest⟩ := r
    rw [decodeInt_sound buf p v rest hv hd] at h
    cases h

theorem decodeInt_ok_prefix (buf : Bytes) (p v : Nat) (rest : Bytes)
    (h : decodeInt buf p = .ok (v, rest)) : 1 ≤ p ∧ p ≤ 8 := by
  unfold decodeInt at h
  split at h
  · cases h
  · omega

/-- A.2 — shape: `decode_int` consumes a prefix of 1..5 octets; the value is below
    `2^p - 1 + 2^28` (exact: `[2^p-1, 0xff, 0xff, 0xff, 0x7f]` decodes to `2^p - 2 + 2^28`) -/
theorem decodeInt_shape (buf : Bytes) (p v : Nat) (rest : Bytes)
    (h : decodeInt buf p = .ok (v, rest)) :
    ∃ pre, buf = pre ++ rest ∧ 1 ≤ pre.length ∧ pre.length ≤ 5 ∧ v < 2 ^ p - 1 + 2 ^ 28 := by
  unfold decodeInt at h
  split at h
  · cases h
  · cases buf with
    | nil => simp at h
    | cons b0 tl =>
      simp only [Nat.and_two_pow_sub_one_eq_mod] at h
      split at h
      · rename_i hlt
        simp only [Except.ok.injEq, Prod.mk.injEq] at h
        refine ⟨[b0], by simp [h.2], by simp, by simp, ?_⟩
        omega
      · rename_i hlt
        have hm : b0 % 2 ^ p < 2 ^ p := Nat.mod_lt _ (Nat.pos_of_ne_zero (by simp))
        obtain ⟨pre, hpre, h1, h2, h3⟩ := decodeIntLoop_shape _ _ _ _ _ _ 4 (by decide) (by rfl) h
        refine ⟨b0 :: pre, by simp [hpre], by simp, by simp; omega, ?_⟩
        have : (128:Nat) ^ pre.length ≤ 128 ^ 4 := Nat.pow_le_pow_right (by decide) h2
        simp only [Nat.pow_zero, Nat.one_mul] at h3
        omega

/-- A.2 — `decode_int` never yields a value that overflows a `usize` (in fact `< 2^28 + 2^8`),
    and never consumes more than 5 octets -/
theorem decodeInt_bounded (buf : Bytes) (p v : Nat) (rest : Bytes)
    (h : decodeInt buf p = .ok (v, rest)) :
    v < 2 ^ 28 + 2 ^ 8 ∧ rest.length < buf.length ∧ buf.length - rest.length ≤ 5 := by
  obtain ⟨pre, hpre, h1, h2, h3⟩ := decodeInt_shape buf p v rest h
  have hp := decodeInt_ok_prefix buf p v rest h
  have : (2:Nat) ^ p ≤ 2 ^ 8 := Nat.pow_le_pow_right (by decide) hp.2
  subst hpre
  simp only [List.length_append]
  omega

theorem decodeInt_ext (p : Nat) (buf x : Bytes) :
    match decodeInt buf p with
    | .ok (v, r) => (∃ pre, buf = pre ++ r ∧ 1 ≤ pre.length) ∧ decodeInt (buf ++ x) p = .ok (v, r ++ x)
    | .error e => e.isNeedMore = false → decodeInt (buf ++ x) p = .error e := by
  have g : match decodeInt buf p with
      | .ok (v, r) => decodeInt (buf ++ x) p = .ok (v, r ++ x)
      | .error e => e.isNeedMore = false → decodeInt (buf ++ x) p = .error e := by
    unfold decodeInt
    by_cases hp : p < 1 ∨ p > 8
    · rw [if_pos hp, if_pos hp]; exact fun _ => rfl
    · rw [if_neg hp, if_neg hp]
      cases buf with
      | nil => exact fun hn => by cases hn
      | cons b0 tl =>
        simp only [List.cons_append]
        by_cases hlt : b0 &&& (2 ^ p - 1) < 2 ^ p - 1
        · rw [if_pos hlt, if_pos hlt]
        · rw [if_neg hlt, if_neg hlt]; exact decodeIntLoop_ext _ x _ _ _
  cases h0 : decodeInt buf p with
  | error e => rw [h0] at g; exact g
  | ok q =>
    rw [h0] at g
    obtain ⟨pre, e0, l0, -⟩ := decodeInt_shape _ _ _ _ h0
    exact ⟨⟨pre, e0, l0⟩, g⟩

theorem decodeIntLoop_err (buf : Bytes) (ret bytes shift : Nat) (e : DErr)
    (h : decodeIntLoop buf ret bytes shift = .error e) :
    e = .needMore .integerUnderflow ∨ e = .integerOverflow := by
  induction buf generalizing ret bytes shift with
  | nil => simp only [decodeIntLoop, Except.error.injEq] at h; exact Or.inl h.symm
  | cons b tl ih =>
    simp only [decodeIntLoop] at h
    split at h
    · cases h
    · split at h
      · simp only [Except.error.injEq] at h; exact Or.inr h.symm
      · exact ih _ _ _ h

theorem decodeInt_err (buf : Bytes) (p : Nat) (e : DErr) (hp : 1 ≤ p ∧ p ≤ 8)
    (h : decodeInt buf p = .error e) :
    e = .needMore .integerUnderflow ∨ e = .integerOverflow := by
  unfold decodeInt at h
  split at h
  · omega
  · cases buf with
    | nil => simp only [Except.error.injEq] at h; exact Or.inl h.symm
    | cons b0 tl =>
      simp only at h
      split at h
      · cases h
      · exact decodeIntLoop_err _ _ _ _ _ h

theorem decodeIntLoop_encode (k : Nat) : ∀ (fuel w ret bytes shift : Nat) (rest : Bytes),
    1 ≤ k → bytes + k = 5 → k ≤ fuel →
    decodeIntLoop (encodeIntLoop fuel w ++ rest) ret bytes shift =
      if w < 128 ^ k then .ok (ret + w * 2 ^ shift, rest) else .error .integerOverflow := by
  induction k with
  | zero => intro _ _ _ _ _ _ h; omega
  | succ k ih =>
    intro fuel w ret bytes shift rest _ hb hf
    cases fuel with
    | zero => omega
    | succ fuel =>
      simp only [encodeIntLoop]
      by_cases hge : w ≥ 128
      · rw [if_pos hge]
        obtain ⟨e1, e2, _⟩ := enc_cont_byte (w % 128) (Nat.mod_lt _ (by decide))
        simp only [List.cons_append, decodeIntLoop, e1, DECODE_INT_MAX_BYTES]
        rw [if_neg e2]
        cases k with
        | zero => rw [if_pos (by omega), if_neg (by omega)]
        | succ k =>
          have hw : w >>> 7 < 128 ^ (k + 1) ↔ w < 128 ^ (k + 1 + 1) := by
            rw [Nat.shiftRight_eq_div_pow, Nat.pow_succ _ (k + 1)]
            exact Nat.div_lt_iff_lt_mul (by decide)
          rw [if_neg (by omega),
            ih fuel (w >>> 7) _ (bytes + 1) (shift + 7) rest (by omega) (by omega) (by omega)]
          simp only [hw]
          split
          · simp only [Nat.shiftLeft_eq, Nat.shiftRight_eq_div_pow, Except.ok.injEq, Prod.mk.injEq,
              and_true]
            have := Nat.div_add_mod w 128
            grind
          · rfl
      · rw [if_neg hge]
        have hz : w &&& 128 = 0 := (and128_eq_zero_iff w (by omega)).2 (by omega)
        have : (128:Nat) ^ 1 ≤ 128 ^ (k + 1) := Nat.pow_le_pow_right (by decide) (by omega)
        simp only [List.cons_append, List.nil_append, decodeIntLoop, hz, if_true, and127,
          Nat.shiftLeft_eq]
        rw [Nat.mod_eq_of_lt (by omega), if_pos (by omega)]

theorem first_or_lt (first v p : Nat) (hf : first % 2 ^ p = 0) (hv : v < 2 ^ p) :
    (first ||| v) &&& (2 ^ p - 1) = v := by
  rw [Nat.and_two_pow_sub_one_eq_mod, Nat.or_mod_two_pow, hf, Nat.zero_or, Nat.mod_eq_of_lt hv]

/-- A.3 — what `decode_int` makes of what `encode_int` wrote: `encode_int` writes any `usize`,
    `decode_int` reads back exactly the values `< 2^28 + 2^p - 1` -/
theorem decodeInt_encodeInt (v p first : Nat) (rest : Bytes)
    (hp : 1 ≤ p ∧ p ≤ 8) (hf : first % 2 ^ p = 0) :
    decodeInt (encodeInt v p first ++ rest) p =
      if v < 2 ^ 28 + 2 ^ p - 1 then .ok (v, rest) else .error .integerOverflow := by
  have hpos : 0 < 2 ^ p := Nat.pos_of_ne_zero (by simp)
  unfold encodeInt decodeInt
  rw [if_neg (by omega)]
  by_cases hlt : v < 2 ^ p - 1
  · simp only [if_pos hlt, List.cons_append, List.nil_append]
    rw [first_or_lt first v p hf (by omega), if_pos hlt, if_pos (by omega)]
  · simp only [if_neg hlt, List.cons_append]
    rw [first_or_lt first (2 ^ p - 1) p hf (by omega), if_neg (by omega),
      decodeIntLoop_encode 4 11 (v - (2 ^ p - 1)) _ 1 0 rest (by decide) (by rfl) (by decide)]
    have e : v - (2 ^ p - 1) < 128 ^ 4 ↔ v < 2 ^ 28 + 2 ^ p - 1 := by
      simp only [Nat.reducePow]; omega
    simp only [e, Nat.pow_zero, Nat.mul_one]
    split
    · congr; omega
    · rfl

/-- A.3 — `int_roundtrip` as asked: every `v < 2^28` survives, for every prefix size -/
theorem int_roundtrip (v p first : Nat) (rest : Bytes)
    (hp : 1 ≤ p ∧ p ≤ 8) (hf : first % 2 ^ p = 0) (_hfirst : first < 256) (hv : v < 2 ^ 28) :
    decodeInt (encodeInt v p first ++ rest) p = .ok (v, rest) := by
  have hpos : 0 < 2 ^ p := Nat.pos_of_ne_zero (by simp)
  rw [decodeInt_encodeInt v p first rest hp hf, if_pos (by omega)]

/-- A.3 (finding) — `encode_int` emits a 6+-octet integer for every value `≥ 2^28 + 2^p - 1`
    and `decode_int` rejects each of them with `IntegerOverflow` -/
theorem int_roundtrip_overflow (v p first : Nat) (rest : Bytes)
    (hp : 1 ≤ p ∧ p ≤ 8) (hf : first % 2 ^ p = 0) (hv : 2 ^ 28 + 2 ^ p - 1 ≤ v) :
    decodeInt (encodeInt v p first ++ rest) p = .error .integerOverflow := by
  rw [decodeInt_encodeInt v p first rest hp hf, if_neg (Nat.not_lt.2 hv)]

end H2V.Lemmas.HpackDec
