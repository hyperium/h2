import H2V.Lemmas.ConnHttpPRecv
import H2V.Lemmas.ConnDataRule
/-
  C13 (ConnHttpP) — content-length against the DATA actually received: `Recv::recv_data`,
  `Stream::dec_content_length`, `ensure_content_length_zero`.
-/
namespace H2V.Lemmas.ConnHttpP
open H2V H2V.Model H2V.Model.Conn

def clOf (s : Streams) (k : Nat) : Option ContentLength := (s.store.get? k).map (·.contentLength)

theorem clOf_some {s : Streams} {k : Nat} {cl : ContentLength} (h : clOf s k = some cl) :
    ∃ st, s.store.get? k = some st ∧ st.contentLength = cl := by
  unfold clOf at h
  cases hg : s.store.get? k with
  | none => rw [hg] at h; cases h
  | some st => rw [hg] at h; exact ⟨st, rfl, by simpa using h⟩

def SameCL (s s' : Streams) : Prop := ∀ k, clOf s' k = clOf s k

theorem SameCL.refl (s : Streams) : SameCL s s := fun _ => rfl
theorem SameCL.trans {a b c : Streams} (h1 : SameCL a b) (h2 : SameCL b c) : SameCL a c :=
  fun k => (h2 k).trans (h1 k)

theorem sameCL_modStream (s : Streams) (k : Nat) (f : Stream → Stream)
    (hf : ∀ st, (f st).key = st.key ∧ (f st).contentLength = st.contentLength) : SameCL s (s.modStream k f) := fun k' => by
  unfold clOf
  rw [Streams.modStream_get? s k f (fun st => (hf st).1)]
  split
  · rename_i e; subst e
    cases s.store.get? k' with
    | none => rfl
    | some st => simp [(hf st).2]
  · rfl

def kindsSameCL : Kind → Bool
  | .contentLength | .insert | .release => false
  | _ => true

theorem sameCL_respects : Respects kindsSameCL fun x y => y.contentLength = x.contentLength where
  refl _ := rfl
  trans h1 h2 := h2.trans h1
  upd x y u := by
    cases u
    case sendData => rw [Stream.sendData_fst]; split <;> rfl
    case contentLength hk | decContentLength hk _ => cases hk
    all_goals rfl
  updW x p u := by
    cases u
    case notifySend => rw [Stream.notifySend_fst]
    case notifyRecv => rw [Stream.notifyRecv_fst]
    case notifyPush => rw [Stream.notifyPush_fst]
    case notifyCapacity => rw [Stream.notifyCapacity_fst]
    case assignCapacity => rw [Stream.assignCapacity_fst]; split <;> rfl
    case setReset => rw [Stream.setReset_fst]
  queued x q v := by cases q <;> rfl
  counted _ _ := rfl

theorem SameCL.of_step {s0 s s' : Streams} (t : Streams.Step kindsSameCL s s') (h : SameCL s0 s) : SameCL s0 s' :=
  h.trans fun k => by
    have := entries_kept sameCL_respects rfl rfl t k
    unfold clOf
    cases hk : s.store.get? k with
    | none => simp only [hk] at this; rw [this]
    | some x =>
      simp only [hk] at this
      obtain ⟨y, hy, e⟩ := this
      rw [hy]; exact congrArg some e

theorem SameCL.mod {s0 s : Streams} (h : SameCL s0 s) (k : Nat) {f : Stream → Stream}
    (hf : ∀ st, (f st).key = st.key ∧ (f st).contentLength = st.contentLength := by exact fun _ => ⟨rfl, rfl⟩) :
    SameCL s0 (s.modStream k f) := h.trans (sameCL_modStream s k f hf)

/-- the flow-controlled length of a DATA frame: payload, padding, pad-length octet -/
def flowLenOf (payload : Bytes) (padLen : Option Nat) : Nat :=
  payload.length + (match padLen with | some p => p + 1 | none => 0)

theorem recvDataEos_rel {Q : Streams → Streams → Prop} (s : Streams) (id : Nat) (eos : Bool) (h0 : Q s s)
    (hst : ∀ st', Q s (s.modStream id fun st => { st with state := st' })) : Q s (s.recvDataEos id eos).1 := by
  unfold Streams.recvDataEos
  split
  · split
    · exact h0
    · split
      · exact h0
      · exact hst _
  · exact h0

theorem rdTail_ok_eos (s : Streams) (id : Nat) (payload : Bytes) (sz flowLen : Nat)
    (h : (Streams.recvDataTail s id payload true sz flowLen).2 = .ok ()) : (s.stream id).ensureContentLengthZero = true := by
  unfold Streams.recvDataTail Streams.recvDataEos at h
  simp only [if_true] at h
  cases hz : (s.stream id).ensureContentLengthZero with
  | true => rfl
  | false => simp [hz] at h

/-- what `recv_data` may hand over -/
def DataAccepted (payload : Bytes) (eos : Bool) (ev : REvent) : Prop := ev = .data payload (!eos)

theorem rdTail_delivers (s : Streams) (id : Nat) (payload : Bytes) (eos : Bool) (sz flowLen : Nat) :
    Delivers (fun k' ev => k' = id ∧ DataAccepted payload eos ev) s (Streams.recvDataTail s id payload eos sz flowLen).1 ∧
    (∀ e, (Streams.recvDataTail s id payload eos sz flowLen).2 = .error e → Quiet s (Streams.recvDataTail s id payload eos sz flowLen).1) := by
  unfold Streams.recvDataTail
  have h1 : Quiet s (s.recvDataEos id eos).1 := recvDataEos_rel s id eos (Quiet.refl s) fun _ => (Quiet.refl s).mod id
  generalize s.recvDataEos id eos = x at h1 ⊢
  obtain ⟨s1, o⟩ := x
  cases o with
  | some e => exact ⟨h1.delivers, fun _ _ => h1⟩
  | none =>
    dsimp -zeta only [Streams.recvDataDeliver] at h1 ⊢
    split
    · have q := Quiet.of_step (Streams.notifyPushIfRecvEnded_step _ id) (.of_step (Streams.releaseConnectionCapacity_step (by decide) _ sz false) h1)
      exact ⟨q.delivers, fun _ _ => q⟩
    · split
      · exact ⟨(h1.mod id).delivers, fun _ _ => h1.mod id⟩
      · exact ⟨(Quiet.of_step (.panic _ _) h1).delivers, fun _ _ => .of_step (.panic _ _) h1⟩
      · extract_lets s2 pad s3 s4
        have h3 : Quiet s s3 := rel_ite (fun _ => .of_step (Streams.releaseCapacity_step (by decide) _ _ _ _) (h1.mod id)) fun _ => h1.mod id
        split
        · exact ⟨h3.delivers, fun _ he => by cases he⟩
        · exact ⟨h3.then (Delivers.step (delivers_append _ s3 id _ ⟨rfl, rfl⟩)
              (.of_step (Streams.notifyPushIfRecvEnded_step _ id) (.of_step (.modStreamW _ id _ .notifyRecv) (Quiet.refl _)))),
            fun _ he => by cases he⟩


/-- `Stream::dec_content_length` on the field alone -/
def decCL : ContentLength → Nat → Option ContentLength
  | .remaining rem, len => if rem ≥ len then some (.remaining (rem - len)) else none
  | .head, len => if len ≠ 0 then none else some .head
  | .omitted, _ => some .omitted

/-- `Stream::ensure_content_length_zero().is_ok()` on the field alone -/
def zeroCL : ContentLength → Bool
  | .remaining 0 => true
  | .remaining _ => false
  | _ => true

theorem decContentLength_some (st st1 : Stream) (len : Nat) (h : st.decContentLength len = some st1) :
    decCL st.contentLength len = some st1.contentLength ∧ st1.key = st.key ∧ st1.pendingRecv = st.pendingRecv := by
  unfold Stream.decContentLength at h
  unfold decCL
  split at h
  · rename_i rem hc
    rw [hc]
    simp only
    split at h
    · rename_i hge; cases h; simp [hge]
    · cases h
  · rename_i hc
    rw [hc]
    simp only
    split at h
    · cases h
    · rename_i hne; cases h; simp [hne, hc]
  · rename_i hc
    rw [hc]
    cases h
    simp [hc]

theorem ensure_zero_eq (st : Stream) : st.ensureContentLengthZero = zeroCL st.contentLength := by
  unfold Stream.ensureContentLengthZero zeroCL
  cases st.contentLength with
  | remaining n => cases n <;> rfl
  | _ => rfl

/-- **`Recv::recv_data`, content-length side**: for every state, a DATA frame on a stream that is not
    being ignored is answered `Ok` only if its payload fits into what is left of the content-length —
    which is then reduced by exactly the payload length — and, with END_STREAM, only if nothing is left -/
theorem recvRecvData_cl (s : Streams) (id : Nat) (payload : Bytes) (eos : Bool) (padLen : Option Nat)
    (cl : ContentLength) (hk : clOf s id = some cl) (hnl : (s.stream id).state.isLocalError = false)
    (hr : (s.recvRecvData id payload eos padLen).2 = .ok ()) :
    ∃ cl', decCL cl payload.length = some cl' ∧ (eos = true → zeroCL cl' = true) ∧
      clOf (s.recvRecvData id payload eos padLen).1 id = some cl' := by
  obtain ⟨s1, ht, h⟩ := Streams.recvRecvData_cases (K := kindsSameCL) (by decide) s id payload eos padLen
  rcases h with ⟨e, he⟩ | ⟨hl, -⟩ | ⟨st1, sz, flowLen, hd, he⟩
  · rw [he] at hr; cases hr
  · rw [hnl] at hl; cases hl
  · rw [he] at hr ⊢
    have hk1 : clOf s1 id = some cl := by rw [SameCL.of_step ht (SameCL.refl s) id]; exact hk
    obtain ⟨st, hst, hcl⟩ := clOf_some hk1
    rw [Streams.stream_of_get? hst] at hd
    obtain ⟨d1, d2, -⟩ := decContentLength_some st st1 _ hd
    rw [hcl] at d1
    have hg1 : (s1.setStream st1).store.get? id = some st1 := by
      rw [Streams.setStream_get?, if_pos ((Store.get?_key hst).symm.trans d2.symm), hst]; rfl
    refine ⟨st1.contentLength, d1, fun he => ?_, ?_⟩
    · subst he
      have := rdTail_ok_eos _ _ _ _ _ hr
      rw [ensure_zero_eq, Streams.stream_of_get? hg1] at this
      exact this
    · rw [SameCL.of_step (Streams.recvDataTail_step (by decide) (s1.setStream st1) id payload eos sz flowLen) (.refl _) id]
      unfold clOf; rw [hg1]; rfl

/-- **`Recv::recv_data`, delivery side**: at most one `data` event, for this payload, to this stream;
    an error answer hands over nothing -/
theorem recvRecvData_delivers (s : Streams) (id : Nat) (payload : Bytes) (eos : Bool) (padLen : Option Nat) :
    Delivers (fun k' ev => k' = id ∧ DataAccepted payload eos ev) s (s.recvRecvData id payload eos padLen).1 ∧
    (∀ e, (s.recvRecvData id payload eos padLen).2 = .error e → Quiet s (s.recvRecvData id payload eos padLen).1) := by
  obtain ⟨s1, ht, h⟩ := Streams.recvRecvData_cases (K := kindsQuiet) (by decide) s id payload eos padLen
  have q := Quiet.of_step ht (Quiet.refl s)
  rcases h with ⟨e, he⟩ | ⟨-, r, he⟩ | ⟨st1, sz, flowLen, hd, he⟩ <;> rw [he]
  · exact ⟨q.delivers, fun _ _ => q⟩
  · exact ⟨q.delivers, fun _ _ => q⟩
  · have hk : st1.key = id := (Stream.decContentLength_key hd).trans (Streams.stream_key s1 id)
    have q2 : Quiet s (s1.setStream st1) := .of_step (.setStream s1 st1 (by rw [hk]; exact .decContentLength _ rfl hd)) q
    obtain ⟨t1, t2⟩ := rdTail_delivers (s1.setStream st1) id payload eos sz flowLen
    exact ⟨q2.then t1, fun e he => q2.trans (t2 e he)⟩

theorem zeroCL_remaining (m : Nat) : zeroCL (.remaining m) = true ↔ m = 0 := by
  cases m <;> simp [zeroCL]

/-- a history of the body of the stream behind key `k`: DATA frames that `recv_data` answered `Ok`
    while the stream was not being ignored (`t` = the payload octets so far), interleaved with ANY
    steps that leave the stream's `content_length` alone -/
inductive BodyTrace (k : Nat) : Streams → Nat → Streams → Prop
  | start (s : Streams) : BodyTrace k s 0 s
  | data {s s1 : Streams} {t : Nat} (payload : Bytes) (eos : Bool) (pad : Option Nat) :
      BodyTrace k s t s1 → (s1.stream k).state.isLocalError = false →
      (s1.recvRecvData k payload eos pad).2 = .ok () →
      BodyTrace k s (t + payload.length) (s1.recvRecvData k payload eos pad).1
  | other {s s1 s2 : Streams} {t : Nat} : BodyTrace k s t s1 → clOf s2 k = clOf s1 k → BodyTrace k s t s2

theorem decCL_add {cl cl1 cl2 : ContentLength} {a b : Nat} (h1 : decCL cl a = some cl1) (h2 : decCL cl1 b = some cl2) :
    decCL cl (a + b) = some cl2 := by
  cases cl with
  | remaining n =>
    simp only [decCL] at h1
    split at h1
    · cases h1
      simp only [decCL] at h2 ⊢
      split at h2
      · cases h2
        rw [if_pos (by omega)]
        congr 2; omega
      · cases h2
    · cases h1
  | head =>
    simp only [decCL] at h1
    split at h1
    · cases h1
    · cases h1
      simp only [decCL] at h2 ⊢
      split at h2
      · cases h2
      · rw [if_neg (by omega)]; exact h2
  | omitted => cases h1; exact h2

/-- **the ledger**, for every kind of `content_length`: along every such history the field is what
    `dec_content_length` makes of it on all the octets received so far, taken together -/
theorem bodyTrace_cl {k : Nat} {s s' : Streams} {t : Nat} {cl : ContentLength} (h : BodyTrace k s t s')
    (hcl : clOf s k = some cl) : ∃ cl', decCL cl t = some cl' ∧ clOf s' k = some cl' := by
  induction h with
  | start => exact ⟨cl, by cases cl <;> simp [decCL], hcl⟩
  | data payload eos pad _ hnl hok ih =>
    obtain ⟨cl1, i1, i2⟩ := ih
    obtain ⟨cl', d1, -, d3⟩ := recvRecvData_cl _ k payload eos pad _ i2 hnl hok
    exact ⟨cl', decCL_add i1 d1, d3⟩
  | other _ he ih =>
    obtain ⟨cl1, i1, i2⟩ := ih
    exact ⟨cl1, i1, by rw [he]; exact i2⟩

/-- an announced length: `content_length = announced − received`, never negative -/
theorem bodyTrace_ledger {k : Nat} {s s' : Streams} {t n : Nat} (h : BodyTrace k s t s')
    (hcl : clOf s k = some (.remaining n)) : t ≤ n ∧ clOf s' k = some (.remaining (n - t)) := by
  obtain ⟨cl', d, e⟩ := bodyTrace_cl h hcl
  simp only [decCL] at d
  split at d
  · cases d; exact ⟨by omega, e⟩
  · cases d

/-- a response to HEAD: every accepted DATA frame is empty -/
theorem bodyTrace_head {k : Nat} {s s' : Streams} {t : Nat} (h : BodyTrace k s t s')
    (hcl : clOf s k = some .head) : t = 0 ∧ clOf s' k = some .head := by
  obtain ⟨cl', d, e⟩ := bodyTrace_cl h hcl
  simp only [decCL] at d
  split at d
  · cases d
  · cases d; exact ⟨by omega, e⟩

/-- **a body ended by DATA(END_STREAM) is exactly as long as announced** -/
theorem body_end_by_data {k : Nat} {s s1 : Streams} {t n : Nat} (h : BodyTrace k s t s1)
    (hcl : clOf s k = some (.remaining n)) (payload : Bytes) (pad : Option Nat)
    (hnl : (s1.stream k).state.isLocalError = false) (hok : (s1.recvRecvData k payload true pad).2 = .ok ()) :
    t + payload.length = n := by
  obtain ⟨i1, i2⟩ := bodyTrace_ledger h hcl
  obtain ⟨cl', d1, d2, -⟩ := recvRecvData_cl _ k payload true pad _ i2 hnl hok
  unfold decCL at d1
  simp only at d1
  split at d1
  · cases d1
    have := (zeroCL_remaining _).mp (d2 rfl)
    omega
  · cases d1

/-- **a body ended by trailers is exactly as long as announced** -/
theorem body_end_by_trailers {k : Nat} {s s1 : Streams} {t n : Nat} (h : BodyTrace k s t s1)
    (hcl : clOf s k = some (.remaining n)) (hd : HeadersIn) (hok : (s1.recvRecvTrailers k hd).2 = .ok ()) :
    t = n := by
  obtain ⟨i1, i2⟩ := bodyTrace_ledger h hcl
  unfold Streams.recvRecvTrailers at hok
  split at hok
  · cases hok
  · rename_i st' _ _
    simp only at hok
    split at hok
    · cases hok
    · rename_i hz
      have hz' : ((s1.modStream k fun st => { st with state := st' }).stream k).ensureContentLengthZero = true := by
        simpa using hz
      rw [ensure_zero_eq] at hz'
      have hc := sameCL_modStream s1 k (fun st => { st with state := st' }) (fun _ => ⟨rfl, rfl⟩) k
      rw [i2] at hc
      obtain ⟨y, hg, hy⟩ := clOf_some hc
      rw [Streams.stream_of_get? hg, hy] at hz'
      have := (zeroCL_remaining _).mp hz'
      omega

end H2V.Lemmas.ConnHttpP
