import H2V.Model.ConnProto
/-
  A new connection: the parts of `Conn.init` / `Conn.initServer` that the connection-level invariants read, stated once.
-/
namespace H2V.Model.Conn.Conn
open H2V H2V.Model

/-! looking an identifier up in a SETTINGS list (`(l.find? (·.1 = k)).map (·.2)`: what `Settings::recv_settings` and the
    invariants do), for the builder's own list -/

theorem find_append (l r : List (Nat × Nat)) (k : Nat) :
    ((l ++ r).find? (·.1 = k)).map (·.2) = ((l.find? (·.1 = k)).map (·.2)).or ((r.find? (·.1 = k)).map (·.2)) := by
  rw [List.find?_append]
  cases l.find? (fun x => decide (x.1 = k)) <;> rfl

theorem find_skip {l r : List (Nat × Nat)} {k : Nat} (h : ∀ x ∈ l, x.1 ≠ k) :
    ((l ++ r).find? (·.1 = k)).map (·.2) = (r.find? (·.1 = k)).map (·.2) := by
  have : l.find? (fun x => decide (x.1 = k)) = none := List.find?_eq_none.2 (fun x hx => by simpa using h x hx)
  rw [find_append, this]
  rfl

theorem find_append_ecp (l : List (Nat × Nat)) (b : Bool) {k : Nat} (hk : k ≠ 8) :
    ((l ++ (if b then [(8, 1)] else []) : List (Nat × Nat)).find? (·.1 = k)).map (·.2) = (l.find? (·.1 = k)).map (·.2) := by
  rw [find_append]
  have : ((if b then [((8 : Nat), (1 : Nat))] else [] : List (Nat × Nat)).find? (·.1 = k)).map (·.2) = none := by
    cases b
    · rfl
    · simp [Ne.symm hk]
  rw [this]
  cases (l.find? (·.1 = k)).map (·.2) <;> rfl

theorem Cfg.settings_iws (g : Cfg) : (g.settings.find? (·.1 = 4)).map (·.2) = g.iws := by
  unfold Cfg.settings
  simp only [List.append_assoc]
  rw [find_skip, find_skip, find_skip]
  · cases g.iws <;> cases g.mfs <;> cases g.mhl <;> rfl
  · cases g.mcs <;> simp
  · cases g.push <;> simp
  · cases g.hts <;> simp

theorem Cfg.settings_mfs (g : Cfg) : (g.settings.find? (·.1 = 5)).map (·.2) = g.mfs := by
  unfold Cfg.settings
  simp only [List.append_assoc]
  rw [find_skip, find_skip, find_skip, find_skip]
  · cases g.mfs <;> cases g.mhl <;> rfl
  · cases g.iws <;> simp
  · cases g.mcs <;> simp
  · cases g.push <;> simp
  · cases g.hts <;> simp

/-- the reader of a new connection -/
def reader0 (g : Cfg) : CodecRead.Reader :=
  let r := CodecRead.Reader.new Generated.Consts.DEFAULT_MAX_FRAME_SIZE
  let r := match g.mfs with | some m => r.setMaxFrameSize m | none => r
  match g.mhl with | some m => r.setMaxHeaderListSize m | none => r

theorem init_parts (g : Cfg) : (init g).pingPong.pendingPing = none ∧ (init g).codec.r = reader0 g ∧
    (init g).settings.loc = .waitingAck g.settings ∧ (init g).settings.remote = none := by
  unfold init
  cases g.cws <;> exact ⟨rfl, rfl, rfl, rfl⟩

theorem initServer_parts (g : Cfg) (ecp : Bool) (pf : Bytes) :
    (initServer g ecp pf).pingPong.pendingPing = none ∧ (initServer g ecp pf).codec.r = reader0 g ∧
    (initServer g ecp pf).settings.loc =
      .waitingAck ((({ g with push := none } : Cfg).settings) ++ (if ecp then [(8, 1)] else [])) ∧
    (initServer g ecp pf).settings.remote = none := by
  unfold initServer
  dsimp only
  -- the outcome of the flush is irrelevant here; left in place it would be evaluated by every `rfl`
  generalize flush _ _ _ = x
  obtain ⟨w, io, r⟩ := x
  cases g.cws <;> exact ⟨rfl, rfl, rfl, rfl⟩

end H2V.Model.Conn.Conn
