import H2V.Lemmas.ConnFlowPSend
/-
  ConnFlowP — the *window frame* relation `WFr`: a step that leaves the connection send
  window and the send window of every surviving stream alone (it may move *capacity* around, drop
  streams, add fresh ones).  Everything except `pop_frame`'s DATA arm, WINDOW_UPDATE and a
  SETTINGS_INITIAL_WINDOW_SIZE change is such a step; in particular all the `continue` paths of
  `pop_frame`.
-/
namespace H2V.Lemmas.ConnFlowP
open H2V H2V.Model H2V.Model.Conn H2V.Lemmas.Comp

def StoreWFr (a b : Store) : Prop :=
  KeysOk a → KeysOk b ∧ a.nextKey ≤ b.nextKey ∧
    ∀ y ∈ b.slab, (∃ x ∈ a.slab, x.key = y.key ∧ x.sendFlow.windowSize = y.sendFlow.windowSize) ∨ a.nextKey ≤ y.key

def WFr (s s' : Streams) : Prop :=
  s'.prio.flow.windowSize = s.prio.flow.windowSize ∧ StoreWFr s.store s'.store

theorem StoreWFr.trans {a b c : Store} (h1 : StoreWFr a b) (h2 : StoreWFr b c) : StoreWFr a c := by
  intro ha
  obtain ⟨hb, hn1, hs1⟩ := h1 ha
  obtain ⟨hc, hn2, hs2⟩ := h2 hb
  refine ⟨hc, Nat.le_trans hn1 hn2, fun y hy => ?_⟩
  rcases hs2 y hy with ⟨x, hx, hk, hf⟩ | hk
  · rcases hs1 x hx with ⟨w, hw, hk', hf'⟩ | hk'
    · exact Or.inl ⟨w, hw, hk'.trans hk, hf'.trans hf⟩
    · exact Or.inr (hk ▸ hk')
  · exact Or.inr (Nat.le_trans hn1 hk)

theorem WFr.refl (s : Streams) : WFr s s :=
  ⟨rfl, fun h => ⟨h, Nat.le_refl _, fun y hy => Or.inl ⟨y, hy, rfl, rfl⟩⟩⟩

theorem WFr.trans {a b c : Streams} (h1 : WFr a b) (h2 : WFr b c) : WFr a c :=
  ⟨h2.1.trans h1.1, h1.2.trans h2.2⟩

theorem Fr.wfr {s s' : Streams} (h : Fr s s') : WFr s s' := by
  refine ⟨by rw [h.1], fun hk => ?_⟩
  obtain ⟨hk', hn, hm⟩ := h.2.2 hk
  refine ⟨hk', hn, fun y hy => ?_⟩
  rcases hm y hy with ⟨x, hx, hkey, hf⟩ | ⟨hkey, _⟩
  · exact Or.inl ⟨x, hx, hkey, by rw [hf]⟩
  · exact Or.inr hkey

theorem WFr.fr {s t t' : Streams} (h : WFr s t) (h2 : Fr t t') : WFr s t' := h.trans h2.wfr

@[reducible] def NoWin (f : Stream → Stream) : Prop :=
  ∀ x, (f x).key = x.key ∧ (f x).sendFlow.windowSize = x.sendFlow.windowSize
@[reducible] def NoWinW (f : Stream → Stream × List String) : Prop :=
  ∀ x, (f x).1.key = x.key ∧ (f x).1.sendFlow.windowSize = x.sendFlow.windowSize

theorem StoreWFr.set (a : Store) (st' : Stream)
    (h : ∀ x ∈ a.slab, x.key = st'.key → x.sendFlow.windowSize = st'.sendFlow.windowSize) : StoreWFr a (a.set st') := by
  intro ha
  have hkeys := set_keys a st'
  refine ⟨⟨by rw [hkeys]; exact ha.1, ?_⟩, Nat.le_refl _, ?_⟩
  · intro y hy
    obtain ⟨x, hx, hk⟩ := mem_of_map_key_eq hkeys hy
    show y.key < a.nextKey
    rw [← hk]; exact ha.2 x hx
  · intro y hy
    simp only [Store.set, List.mem_map] at hy
    obtain ⟨x, hx, rfl⟩ := hy
    split
    · rename_i hk
      exact Or.inl ⟨x, hx, beq_iff_eq.1 hk, h x hx (beq_iff_eq.1 hk)⟩
    · exact Or.inl ⟨x, hx, rfl, rfl⟩

section
variable {s t : Streams}

theorem WFr.modStream' {id : Nat} {f : Stream → Stream} (hf : NoWin f) (h : WFr s t) : WFr s (t.modStream id f) := by
  unfold Streams.modStream
  split
  · rename_i st hget
    refine h.trans ⟨rfl, ?_⟩
    intro hk
    have hm := get?_mem hget
    refine StoreWFr.set _ _ ?_ hk
    intro x hx hxk
    have : x = st := key_inj hk.1 hx hm.1 (hxk.trans (hf st).1)
    rw [this, (hf st).2]
  · exact h.fr ((Fr.refl _).panic _)

theorem WFr.modStreamW' {id : Nat} {f : Stream → Stream × List String} (hf : NoWinW f) (h : WFr s t) :
    WFr s (t.modStreamW id f) := by
  unfold Streams.modStreamW
  split
  · rename_i st hget
    show WFr s ((t.setStream (f st).1).wake (f st).2)
    refine WFr.fr (t := t.setStream (f st).1) (h.trans ⟨rfl, ?_⟩) ((Fr.refl _).wake _)
    intro hk
    have hm := get?_mem hget
    refine StoreWFr.set _ _ ?_ hk
    intro x hx hxk
    have : x = st := key_inj hk.1 hx hm.1 (hxk.trans (hf st).1)
    rw [this, (hf st).2]
  · exact h.fr ((Fr.refl _).panic _)

theorem WFr.modPrio' {f : Prioritize → Prioritize} (hf : ∀ p, (f p).flow.windowSize = p.flow.windowSize)
    (h : WFr s t) : WFr s (t.modPrio f) :=
  h.trans ⟨hf _, fun hk => ⟨hk, Nat.le_refl _, fun y hy => Or.inl ⟨y, hy, rfl, rfl⟩⟩⟩

theorem WFr.modStream_const {id : Nat} {fl : FlowControl} (hw : fl.windowSize = (t.stream id).sendFlow.windowSize)
    (h : WFr s t) : WFr s (t.modStream id fun st => { st with sendFlow := fl }) := by
  cases hget : t.store.get? id with
  | none => rw [Streams.modStream_of_none hget]; exact h.fr ((Fr.refl _).panic _)
  | some st =>
    rw [Streams.stream_of_get? hget] at hw
    unfold Streams.modStream; rw [hget]
    refine h.trans ⟨rfl, ?_⟩
    intro hk
    have hm := get?_mem hget
    refine StoreWFr.set _ _ ?_ hk
    intro x hx hxk
    have : x = st := key_inj hk.1 hx hm.1 hxk
    rw [this]; exact hw.symm

end

theorem assignCapacity_window (f : FlowControl) (n : Nat) : (f.assignCapacity n).1.windowSize = f.windowSize := by
  rw [Flow.assignCapacity_eq]; split <;> rfl

theorem claimCapacity_window (f : FlowControl) (n : Nat) : (f.claimCapacity n).1.windowSize = f.windowSize := by
  rw [Flow.claimCapacity_eq]; split <;> rfl

theorem noWinW_assignCapacity (n m : Nat) : NoWinW (fun st => st.assignCapacity n m) := by
  intro x
  have := assignCapacity_kf x n m
  exact ⟨this.1, by rw [this.2, assignCapacity_window]⟩

/-- side conditions -/
syntax "nowin" : tactic
macro_rules | `(tactic| nowin) => `(tactic| first
  | exact noWinW_assignCapacity _ _
  | (intro _; exact ⟨rfl, claimCapacity_window _ _⟩)
  | (intro _; exact ⟨rfl, assignCapacity_window _ _⟩)
  | (intro _; exact claimCapacity_window _ _)
  | (intro _; exact assignCapacity_window _ _))

syntax "wfr_peel" : tactic
macro_rules | `(tactic| wfr_peel) => `(tactic| first
  | (with_reducible apply WFr.modStream'; (· nowin))
  | (with_reducible apply WFr.modStreamW'; (· nowin))
  | (with_reducible apply WFr.modPrio'; (· nowin))
  | (with_reducible apply WFr.modStream_const; (· exact claimCapacity_window _ _))
  | (with_reducible apply WFr.modStream_const; (· rw [Streams.panic_stream]; exact claimCapacity_window _ _)))

macro "wfr_step" : tactic => `(tactic| first
  | with_reducible assumption
  | with_reducible exact WFr.refl _
  | (guard_not_mk; wfr_peel)
  | apply_ih
  | (with_reducible apply WFr.fr; rotate_left; (· fr_peel; with_reducible exact Fr.refl _))
  | (with_reducible apply of_fst_eq; (· with_reducible assumption)))

macro "wfr_auto" : tactic => `(tactic| walk_with wfr_step)
macro "wfr_by" f:ident : tactic => `(tactic| (unfold $f; wfr_auto))

section
variable {s t : Streams}

theorem WFr.assignN (h : WFr s t) (id n : Nat) : WFr s (t.assignN id n) :=
  WFr.modPrio' (fun _ => claimCapacity_window _ _) (WFr.modStreamW' (noWinW_assignCapacity _ _) h)

theorem WFr.tryAssignCapacity (h : WFr s t) (id : Nat) : WFr s (t.tryAssignCapacity id) :=
  t.tryAssignCapacity_cases id h (fun _ _ => (h.assignN id _).fr ((Fr.refl _).relink id))
    (fun _ _ => h.fr ((Fr.refl _).relink id))
macro_rules | `(tactic| wfr_peel) => `(tactic| with_reducible apply WFr.tryAssignCapacity)

theorem WFr.assignConnectionCapacityLoop (fuel : Nat) :
    ∀ {t : Streams}, WFr s t → WFr s (Streams.assignConnectionCapacityLoop fuel t) := by
  induction fuel with
  | zero => intro t h; exact h
  | succ n ih => intro t h; wfr_by Streams.assignConnectionCapacityLoop
macro_rules | `(tactic| wfr_peel) => `(tactic| with_reducible apply WFr.assignConnectionCapacityLoop)

theorem WFr.assignConnectionCapacity (h : WFr s t) (n : Nat) : WFr s (t.assignConnectionCapacity n) := by
  wfr_by Streams.assignConnectionCapacity
macro_rules | `(tactic| wfr_peel) => `(tactic| with_reducible apply WFr.assignConnectionCapacity)

theorem WFr.reclaimAllCapacity (h : WFr s t) (id : Nat) : WFr s (t.reclaimAllCapacity id) := by
  wfr_by Streams.reclaimAllCapacity
macro_rules | `(tactic| wfr_peel) => `(tactic| with_reducible apply WFr.reclaimAllCapacity)

theorem WFr.reclaimReservedCapacity (h : WFr s t) (id : Nat) : WFr s (t.reclaimReservedCapacity id) := by
  wfr_by Streams.reclaimReservedCapacity
macro_rules | `(tactic| wfr_peel) => `(tactic| with_reducible apply WFr.reclaimReservedCapacity)

theorem WFr.reserveCapacity (h : WFr s t) (id c : Nat) : WFr s (t.reserveCapacity id c) := by
  wfr_by Streams.reserveCapacity
macro_rules | `(tactic| wfr_peel) => `(tactic| with_reducible apply WFr.reserveCapacity)

end

end H2V.Lemmas.ConnFlowP
