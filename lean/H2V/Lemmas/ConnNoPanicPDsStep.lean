import H2V.Lemmas.ConnNoPanicPDsNew
/-
  C08 (no panic) — `DSum` / `Coupled` as invariants: the step theorems.

  * every operation of ConnResetP's `Op` other than the two that hand the codec's writer to the stream layer
    (`pollComplete`, `pollSendPendingRefusal`) is a `GK` step (`op_gk`), given
      - `OH s` (no stream in `pending_open` has DATA at the front of its queue): needed by the `pending_open` branch of
        `Send::send_reset`, which keeps the front frame and zeroes `buffered_send_data`;
      - for `refSendData k len _`: `buffered_send_data + len` fits a `usize` (`opLen`);
  * hence `DSum` is kept (`DSum_step`);
  * `Coupled` is NOT inductive by itself: `clear_queue k` turns the marker `DataFrame k'` into `Drop` only when `k' = k`,
    so one has to know that the marker names the stream of the frame the codec holds: `KM`.  `Coupled ∧ KM` is kept by
    every `GK` step (`Coupled_step`), by every writer step that holds no new DATA frame (`WLE`), and `KM` is kept by
    `poll_complete` / `send_pending_refusal` (ConnNoPanicPDsPoll).
-/
namespace H2V.Lemmas.ConnNoPanicP
open H2V H2V.Model H2V.Model.Conn H2V.Lemmas.ConnCountsP
open H2V.Lemmas.ConnResetP (Op run)
attribute [local irreducible] wrapSubU32 wrapSubUsize

/-- the argument bound of `send_data`: the new total fits a `usize` (in the Rust the payload is in memory) -/
def opLen (s : Streams) : Op → Prop
  | .refSendData k len _ => (s.stream k).bufferedSendData + len < USIZE_MOD
  | _ => True

/-- the operations that do not hand the codec's writer to the stream layer -/
def opNoWriter : Op → Prop
  | .pollComplete .. => False
  | .pollSendPendingRefusal .. => False
  | _ => True

/-- the operations for which the preservation of `OH` is NOT shown here -/
def opOhOpen : Op → Prop
  | .recvHeaders _ => True
  | .sendRequest .. => True
  | .refSendResponse .. => True
  | .refSendData .. => True
  | .pollComplete .. => True
  | _ => False

/-- **every operation other than the five of `opOhOpen` keeps `OH` and is a `GK` step from a state with `OH`**: its function has
    a lemma `f_go` or `f_uk`, or is a step of the kinds `UK` takes -/
theorem op_go (s : Streams) (op : Op) (hk : KeysFresh s) (hx : ¬ opOhOpen op) : GKo s (op.apply s) := by
  cases op <;> first
    | exact absurd trivial hx
    | (simp only [Op.apply]; go_auto)

/-- **every operation outside the write path is a `GK` step**: the five of `opOhOpen` one by one, the others by `op_go` -/
theorem op_gk (s : Streams) (op : Op) (hk : KeysFresh s) (ho : OH s) (hl : opLen s op) (hw : opNoWriter op) :
    GK s (op.apply s) := by
  cases op
  case recvHeaders h => exact recvHeaders_gh s h ho
  case sendRequest a b c d => exact sendRequest_gk s hk a b c d
  case refSendResponse k f eos => exact refSendResponse_gk s k f eos
  case refSendData k len eos => exact refSendData_gk s k len eos hl
  case pollComplete => exact hw.elim
  all_goals exact ((op_go s _ hk id).imp ho).1

theorem blank_streamD {s : Streams} (h : s.store.slab = []) (k : Nat) : s.stream k = { key := k, id := 0 } := by
  unfold Streams.stream Store.get?; rw [h]; rfl

theorem DSum_blank {s : Streams} (h : Blank s) : DSum s := fun k => by rw [blank_streamD h.slab k]; exact DS.blank k
theorem OH_blank {s : Streams} (h : Blank s) : OH s := fun k => by rw [blank_streamD h.slab k]; exact OHead.blank k

/-- **`DSum` is kept by every operation outside the write path** (for the write path: `pollComplete_w`,
    `pollSendPendingRefusal_w`) -/
theorem DSum_step {s : Streams} (hn : NPI (fun _ => False) s) (hd : DSum s) (ho : OH s) (op : Op)
    (hl : opLen s op) (hw : opNoWriter op) : DSum (op.apply s) :=
  (op_gk s op hn.keys.fresh ho hl hw).dsum hd

/-- the marker `in_flight_data_frame = DataFrame k` names the stream of the DATA frame the codec holds -/
def KM (s : Streams) (w : Writer) : Prop :=
  ∀ fr, held w fr → ∀ k, s.prio.inFlightDataFrame = .dataFrame k → k = fr.key

theorem KM.wle {s : Streams} {w w' : Writer} (h : KM s w) (hw : WLE w w') : KM s w' := fun fr hf => h fr (hw.sub fr hf)
theorem KM.nf {s s' : Streams} {w : Writer} (h : KM s w)
    (hn : InflLE s.prio.inFlightDataFrame s'.prio.inFlightDataFrame) : KM s' w :=
  fun fr hf k hk => h fr hf k (inflLE_back hn hk)
theorem KM.of_none {s : Streams} {w : Writer} (h1 : w.lastDataFrame = none) (h2 : w.next = none) : KM s w :=
  fun fr hf => absurd hf (held_none h1 h2 fr)
theorem KM.of_nothing {s : Streams} {w : Writer} (h : s.prio.inFlightDataFrame = .nothing) : KM s w :=
  fun _ _ k hk => by rw [h] at hk; cases hk

theorem GK.coupled {s s' : Streams} {w : Writer} (h : GK s s') (hc : Coupled s w) (hk : KM s w) :
    Coupled s' w ∧ KM s' w := by
  refine ⟨⟨hc.one, fun fr hf => ?_, fun fr hf hd => ?_⟩, hk.nf h.nf⟩
  · have := hc.inflight fr hf
    rcases h.nf with e | ⟨e, _⟩
    · rw [e]; exact this
    · rw [e]; intro h'; cases h'
  · obtain ⟨k, hk'⟩ := hd
    have hk0 := inflLE_back h.nf hk'
    have hkey : k = fr.key := hk fr hf k hk0
    subst hkey
    intro hr
    have ho := hc.ok fr hf ⟨_, hk0⟩ hr
    have := h.cov fr.key fr.rest hr hk' ⟨ho.2.1, ho.2.2⟩
    exact ⟨this.2 ho.1, this.1.1, this.1.2⟩

/-- **`Coupled` (with `KM`) is kept by every operation outside the write path** -/
theorem Coupled_step {s : Streams} {w : Writer} (hn : NPI (fun _ => False) s) (hc : Coupled s w) (hk : KM s w) (ho : OH s)
    (op : Op) (hl : opLen s op) (hw : opNoWriter op) : Coupled (op.apply s) w ∧ KM (op.apply s) w :=
  (op_gk s op hn.keys.fresh ho hl hw).coupled hc hk

theorem put_wle (w : Writer) (seg : Seg) : WLE w (w.put seg) := .of_eq rfl rfl
theorem bufferSimple_wle (w : Writer) (n : Nat) (r : String) : WLE w (w.bufferSimple n r) := .of_eq rfl rfl
theorem bufferHeaders_wle (w : Writer) (sid : Nat) (eos : Bool) (f : List Hpack.Field) : WLE w (w.bufferHeaders sid eos f) :=
  .of_eq (bufferHeaders_keeps w sid eos f).1 (bufferHeaders_keeps w sid eos f).2
theorem bufferPushPromise_wle (w : Writer) (sid p : Nat) (f : List Hpack.Field) : WLE w (w.bufferPushPromise sid p f) :=
  .of_eq (bufferPushPromise_keeps w sid p f).1 (bufferPushPromise_keeps w sid p f).2
theorem shutdownW_wle (w : Writer) (io : Tio) (tag : String) : WLE w (shutdownW w io tag).1 := by
  have hfl := (flush_wle w io tag).1
  rcases shutdownW_cases w io tag with ⟨_, e⟩ | ⟨w1, io1, r1, hf, ⟨_, e⟩ | ⟨_, e⟩⟩ <;> rw [e]
  · exact .refl _
  · rw [hf] at hfl; exact hfl.trans (.of_eq rfl rfl)
  · rw [hf] at hfl; exact hfl

/-- the invariant of the write path that the stream layer and the codec share -/
structure DSW (s : Streams) (w : Writer) : Prop where
  ds : DSum s
  cp : Coupled s w
  km : KM s w

theorem DSW_blank {s : Streams} {w : Writer} (h : Blank s) (h1 : w.lastDataFrame = none) (h2 : w.next = none) : DSW s w :=
  ⟨DSum_blank h, .of_none h1 h2, .of_none h1 h2⟩

theorem DSW_step {s : Streams} {w : Writer} (hn : NPI (fun _ => False) s) (h : DSW s w) (ho : OH s)
    (op : Op) (hl : opLen s op) (hw : opNoWriter op) : DSW (op.apply s) w :=
  have g := op_gk s op hn.keys.fresh ho hl hw
  ⟨g.dsum h.ds, (g.coupled h.cp h.km).1, (g.coupled h.cp h.km).2⟩

/-- every step of the codec that holds no new DATA frame (`put`-based writes, `flush`, `poll_ready`, `shutdown`) -/
theorem DSW.wle {s : Streams} {w w' : Writer} (h : DSW s w) (hw : WLE w w') : DSW s w' :=
  ⟨h.ds, h.cp.wle hw, h.km.wle hw⟩

end H2V.Lemmas.ConnNoPanicP
