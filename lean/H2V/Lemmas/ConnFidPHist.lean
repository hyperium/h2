import H2V.Lemmas.ConnFidPReclaim
/-
  ConnFidP — histories.  `Hist s w g`: the stream-layer state `s` and the codec `w` are reached from a
  fresh connection by model operations, `g` being the ghost log of that history:

      api       any sequence of elementary steps off the write path that `P` permits — every function of the stream
                layer other than `poll_complete` is one (ConnFidPFn*.lean) — under the side condition `ApiOK`
                (either nothing is cut, and message frames are queued only on entries that were not cut; or no
                message frame is queued at all);
      codec     the codec works on its buffer (flush, other frames buffered): the DATA frame it holds is kept;
      reclaim   `reclaim_frame`;
      popNone   `pop_frame` finds nothing to send;
      popBuffer `pop_frame` hands out a frame and `buffer_out` gives it to the codec.

  `Hist.inv`: the fidelity invariant holds in every history (as long as the `weird` flag is down).
-/
set_option linter.unusedSectionVars false
namespace H2V.Lemmas.ConnFidP
open H2V H2V.Model H2V.Model.Conn H2V.Lemmas.ConnWakeP

def ApiOK (P : Perm) (s : Streams) (g : Ghost) : Prop :=
  g.weird = true ∨ ((∀ k, ¬P.cut k) ∧ PushOK P s g) ∨ (∀ k f, isMsg f = true → ¬P.push k f)

inductive Hist : Streams → Writer → Ghost → Prop
  | init (s : Streams) (w : Writer) : s.store.slab = [] → marker s = .nothing → held w = none → Hist s w {}
  | api {s s' : Streams} {w : Writer} {g g' : Ghost} (P : Perm) : Hist s w g → ¬P.write → ¬P.pop → ApiOK P s g →
      Run P s g s' g' → Hist s' w g'
  | codec {s : Streams} {w w' : Writer} {g : Ghost} : Hist s w g → held w' = held w → WOk w' → Hist s w' g
  | reclaim {s : Streams} {w : Writer} {g : Ghost} : Hist s w g → Hist (s.reclaimFrame w).1 (s.reclaimFrame w).2.1 g
  | popNone {s s1 : Streams} {w : Writer} {g g' : Ghost} (n m : Nat) : Hist s w g → held w = none →
      Streams.popFrame n s m = (s1, none) → Run permPop s g s1 g' → Hist s1 w g'
  | popBuffer {s s1 : Streams} {w : Writer} {g g' : Ghost} (n m : Nat) (f : Streams.OutFrame) : Hist s w g →
      held w = none → m ≤ w.maxFrameSize → Streams.popFrame n s m = (s1, some f) → Run permPop s g s1 g' →
      DataLast g' m (some f) → Hist (s1.bufferOut w f).1 (s1.bufferOut w f).2 (gbuf g' f)

theorem gbuf_weird (g : Ghost) (f : Streams.OutFrame) : (gbuf g f).weird = g.weird := by
  cases f <;> rfl

theorem Hist.weird_mono {s : Streams} {w : Writer} {g : Ghost} (h : Hist s w g) : True := trivial

theorem inv_init (s : Streams) (h0 : s.store.slab = []) (hm : marker s = .nothing) : Inv s none {} := by
  have hget : ∀ k, s.store.get? k = none := by intro k; unfold Store.get?; rw [h0]; rfl
  have hsq : ∀ k, sq s k = [] := fun k => sq_of_none (hget k)
  have hcp : Coupled s none := ⟨⟨fun _ => rfl, fun _ => hm⟩, fun j hj => by rw [hm] at hj; cases hj⟩
  refine ⟨?_, hcp, ?_, ?_, ?_, ?_, ?_, ?_⟩
  · intro k a ha; rw [hget] at ha; cases ha
  · intro k hk; exact absurd (inflight_none s k) hk
  · intro _ _; exact ⟨rfl, rfl, rfl⟩
  · intro k
    refine ⟨[], ?_, fun _ => rfl⟩
    have : out s none k = [] := by unfold out; rw [inflight_none, hsq]; rfl
    rw [this]; exact .nil
  · intro k hc; cases hc
  · intro k hk; exact absurd (inflight_none s k) hk
  · intro k hk; exact absurd rfl hk

theorem Hist.wok {s : Streams} {w : Writer} {g : Ghost} (h : Hist s w g) : WOk w := by
  induction h with
  | init s w _ _ hh => exact fun _ => ((held_none_iff w).mp hh).2
  | api _ _ _ _ _ _ ih => exact ih
  | codec _ _ hwk _ => exact hwk
  | reclaim _ ih => exact reclaimFrame_wok _ _ ih
  | popNone _ _ _ _ _ _ ih => exact ih
  | popBuffer n m f _ hh hm _ _ hd _ => exact bufferOut_wok _ _ f hd hh hm

/-- **the fidelity invariant holds in every history** -/
theorem Hist.inv {s : Streams} {w : Writer} {g : Ghost} (h : Hist s w g) (hw : g.weird = false) : Inv s (held w) g := by
  induction h with
  | init s w h0 hm hh => rw [hh]; exact inv_init s h0 hm
  | api P _ hnw hnp hok r ih =>
    have hw0 := r.weird_mono hw
    rcases hok with hwt | hok
    · rw [hw0] at hwt; cases hwt
    · exact (r.inv hnw (fun hp => absurd hp hnp) hok (ih hw0) hw).1
  | codec _ hh _ ih => rw [hh]; exact ih hw
  | reclaim h' ih => exact reclaimFrame_inv _ (ih hw) h'.wok hw
  | popNone n m _ hh _ r ih =>
    have hI := ih (r.weird_mono hw)
    rw [hh] at hI ⊢
    exact r.inv_pop hI hw
  | popBuffer n m f _ hh hm _ r hd ih =>
    rw [gbuf_weird] at hw
    have hI := ih (r.weird_mono hw)
    rw [hh] at hI
    exact bufferOut_inv _ f m (r.inv_pop hI hw) hd hh hm

theorem Run.acc_grows {P : Perm} {s0 s : Streams} {g0 g : Ghost} (r : Run P s0 g0 s g) (k : Nat) :
    ∃ added, g.acc k = g0.acc k ++ added ∧ ∀ f ∈ added, isMsg f = true ∧ P.push k f := by
  induction r with
  | refl => exact ⟨[], by simp, by simp⟩
  | tau _ _ ih => exact ih
  | lbl l _ _ ok ih =>
    obtain ⟨added, h1, h2⟩ := ih
    cases l with
    | push j f =>
      simp only [gstep]
      split
      · next hm =>
        by_cases hj : j = k
        · subst hj
          refine ⟨added ++ [f], by show upd _ j _ j = _; rw [upd_same, h1, List.append_assoc], ?_⟩
          intro x hx
          rcases List.mem_append.mp hx with hx | hx
          · exact h2 x hx
          · simp only [List.mem_singleton] at hx; subst hx
            refine ⟨hm, ?_⟩
            rcases ok with h' | ⟨h', _⟩
            · exact h'
            · rw [hm] at h'; cases h'
        · exact ⟨added, by show upd _ j _ k = _; rw [upd_other _ _ (fun e => hj e.symm)]; exact h1, h2⟩
      · exact ⟨added, h1, h2⟩
    | cut j n => simp only [gstep]; split <;> exact ⟨added, h1, h2⟩
    | gone j => simp only [gstep]; split <;> exact ⟨added, h1, h2⟩
    | pop j f => simp only [gstep]; split <;> exact ⟨added, h1, h2⟩
    | _ => exact ⟨added, h1, h2⟩

theorem Run.acc_same {P : Perm} {s0 s : Streams} {g0 g : Ghost} (r : Run P s0 g0 s g)
    (hn : ∀ k f, isMsg f = true → ¬P.push k f) : g.acc = g0.acc := by
  funext k
  obtain ⟨added, h1, h2⟩ := r.acc_grows k
  cases added with
  | nil => simpa using h1
  | cons f _ => exact absurd (h2 f (List.mem_cons_self ..)).2 (hn k f (h2 f (List.mem_cons_self ..)).1)

section
variable {s : Streams} {w : Writer} {g : Ghost}

theorem Hist.tr_quiet (P : Perm) (hw : ¬P.write) (hp : ¬P.pop) (hn : ∀ k f, isMsg f = true → ¬P.push k f) {s' : Streams}
    (h : Hist s w g) (t : Tr P s s') : ∃ g', Hist s' w g' ∧ g'.acc = g.acc ∧ g'.emi = g.emi := by
  obtain ⟨g', r⟩ := t.run g
  exact ⟨g', .api P h hw hp (Or.inr (Or.inr hn)) r, r.acc_same hn, r.emi_eq hp⟩

end
end H2V.Lemmas.ConnFidP
