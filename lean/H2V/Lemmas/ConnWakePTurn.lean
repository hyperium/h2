import H2V.Lemmas.ConnWakePClone
import H2V.Lemmas.ConnCountsPBase
/-
  ConnWakeP — one turn of the loop of `Prioritize::pop_frame`, without the recursion.

  `popTurn sd s m` says what the loop does from `s`: `continue` from another state, or return.  `popFrameC` is its
  iteration (`popFrameC_turn`), so a fact about `pop_frame` is an induction over the fuel (`popFrameC_ind`,
  `popFrameC_inv`) whose step looks at one turn, arm by arm (`popTurn_cases`).  `sd` stays a variable throughout: nothing here makes the
  kernel look into `Stream.sendData` (see the head of `ConnWakePClone`).
-/
namespace H2V.Lemmas.ConnWakeP
open H2V H2V.Model H2V.Model.Conn

inductive Turn where
  | cont (s1 : Streams)
  | done (r : Streams × Option Streams.OutFrame)

/-- `let len = cmp::min(sz, max_len); let len = cmp::min(len, stream_capacity.as_size() as usize) as WindowSize` -/
def chunkLen (st : Stream) (sz maxLen : Nat) : Nat :=
  usizeAsU32 (min (min sz maxLen) st.sendFlow.available.asSize)

/-- a reset other than NO_ERROR is scheduled: queued DATA is discarded -/
def discards (st : Stream) : Bool :=
  match st.state.getScheduledReset with
  | some reason => reason != NO_ERROR
  | none => false

/-- the DATA frame at the head cannot go out now: no stream capacity, or the chunk exceeds the window -/
def stalls (st : Stream) (sz maxLen : Nat) : Bool :=
  (sz > 0 && st.sendFlow.available.eqUsize 0) ||
    (chunkLen st sz maxLen > 0 && chunkLen st sz maxLen > st.sendFlow.windowSz)

/-- the stream put back into `pending_send` if it has more to send -/
def requeue (s : Streams) (id : Nat) : Streams :=
  if !(s.stream id).pendingSend.isEmpty || (s.stream id).state.isScheduledReset then (s.qPush .pendingSend id).1 else s

/-- the frame `f`, at the head of stream `id`'s queue in `s`, with `rest` behind it -/
def popHead (sd : Stream → Nat → Nat → Stream × List String × Bool) (s : Streams) (id maxLen : Nat)
    (f : SFrame) (rest : List SFrame) : Turn :=
  let st := s.stream id
  let s' := s.modStream id fun st => { st with pendingSend := rest }
  match f with
  | .data sz eos =>
    if discards st then .cont (((s.clearQueue id).reclaimAllCapacity id).qPush .pendingSend id).1
    else if stalls st sz maxLen then .cont s
    else .done (pfFinish id st.isPendingResetExpiration (pfData sd s id (chunkLen st sz maxLen) rest)
      (.data (chunkLen st sz maxLen) (if sz > chunkLen st sz maxLen then false else eos)
        { key := id, sid := st.id, rest := sz - chunkLen st sz maxLen, eos := eos }))
  | .headers heos fields => .done (pfFinish id st.isPendingResetExpiration s' (.headers st.id heos fields))
  | .reset reason => .done (pfFinish id st.isPendingResetExpiration s' (.reset st.id reason))
  | .pushPromise _ pid fields =>
    match s'.store.findKey? pid with
    | none => .cont ((requeue s' id).transitionAfter id st.isPendingResetExpiration)
    | some pushed => .done (pfFinish id st.isPendingResetExpiration (ConnCountsP.ppActivate s' pushed) (.pushPromise st.id pid fields))

def popTurn (sd : Stream → Nat → Nat → Stream × List String × Bool) (s : Streams) (maxLen : Nat) : Turn :=
  match s.qPop .pendingSend with
  | (s, none) => .done (s, none)
  | (s, some id) =>
    let st := s.stream id
    match st.pendingSend with
    | f :: rest => popHead sd s id maxLen f rest
    | [] =>
      match st.state.getScheduledReset with
      | some reason =>
        .done (pfFinish id st.isPendingResetExpiration (s.modStreamW id fun st => st.setReset reason .library) (.reset st.id reason))
      | none => .cont (s.transitionAfter id st.isPendingResetExpiration)

theorem popFrameC_turn (sd : Stream → Nat → Nat → Stream × List String × Bool) (n : Nat) (s : Streams) (m : Nat) :
    popFrameC sd (n + 1) s m =
      match popTurn sd s m with
      | .cont s1 => popFrameC sd n s1 m
      | .done r => r := by
  rw [popFrameC_succ]
  unfold popTurn
  cases hq : s.qPop .pendingSend with
  | mk s0 o =>
  cases o with
  | none => rfl
  | some id =>
    dsimp only
    cases hps : (s0.stream id).pendingSend with
    | nil => cases hg : (s0.stream id).state.getScheduledReset <;> rfl
    | cons f rest =>
      cases f with
      | headers | reset => rfl
      | pushPromise pk pid fields =>
        dsimp only [popHead]
        cases hf : (s0.modStream id fun st => { st with pendingSend := rest }).store.findKey? pid <;> rfl
      | data sz eos =>
        dsimp only [popHead]
        show (if discards (s0.stream id) = true then _ else _) = _
        by_cases hd : discards (s0.stream id) = true
        · rw [if_pos hd, if_pos hd]
        · rw [if_neg hd, if_neg hd]
          unfold stalls
          by_cases h1 : (decide (sz > 0) && (s0.stream id).sendFlow.available.eqUsize 0) = true
          · rw [if_pos h1, h1, Bool.true_or, if_pos rfl]
          · rw [if_neg h1, Bool.eq_false_iff.2 h1, Bool.false_or]
            show (if (decide (chunkLen (s0.stream id) sz m > 0) && decide (chunkLen (s0.stream id) sz m > (s0.stream id).sendFlow.windowSz)) = true
              then _ else _) = _
            split <;> rfl

/-- induction over the fuel of `pop_frame`: `I` holds between the turns, `Q` of what is returned -/
theorem popFrameC_ind {sd : Stream → Nat → Nat → Stream × List String × Bool} {m : Nat}
    {I : Streams → Prop} {Q : Streams × Option Streams.OutFrame → Prop}
    (h0 : ∀ s, I s → Q (s, none))
    (hc : ∀ s s1, I s → popTurn sd s m = .cont s1 → I s1)
    (hd : ∀ s r, I s → popTurn sd s m = .done r → Q r)
    (n : Nat) : ∀ s, I s → Q (popFrameC sd n s m) := by
  induction n with
  | zero => intro s h; rw [popFrameC_zero]; exact h0 s h
  | succ n ih =>
    intro s h
    rw [popFrameC_turn]
    cases ht : popTurn sd s m with
    | cont s1 => exact ih s1 (hc s s1 h ht)
    | done r => exact hd s r h ht

def Turn.state : Turn → Streams
  | .cont s1 => s1
  | .done r => r.1

theorem popFrameC_inv {sd : Stream → Nat → Nat → Stream × List String × Bool} {m : Nat} {I : Streams → Prop}
    (h : ∀ s, I s → I (popTurn sd s m).state) (n : Nat) (s : Streams) (hs : I s) : I (popFrameC sd n s m).1 :=
  popFrameC_ind (Q := fun r => I r.1) (fun _ h => h) (fun s s1 hs ht => by have := h s hs; rwa [ht] at this)
    (fun s r hs ht => by have := h s hs; rwa [ht] at this) n s hs

@[simp] theorem pfFinish_snd (id : Nat) (b : Bool) (s : Streams) (f : Streams.OutFrame) : (pfFinish id b s f).2 = some f := rfl

/-- the arms of one turn.  In each, `s0` is the state after the pop from `pending_send`, `id` the popped stream. -/
theorem popTurn_cases (sd : Stream → Nat → Nat → Stream × List String × Bool) (s : Streams) (m : Nat) {P : Turn → Prop}
    (empty : ∀ s0, s.qPop .pendingSend = (s0, none) → P (.done (s0, none)))
    (discard : ∀ s0 id sz eos rest, s.qPop .pendingSend = (s0, some id) → (s0.stream id).pendingSend = .data sz eos :: rest →
      discards (s0.stream id) = true → P (.cont (((s0.clearQueue id).reclaimAllCapacity id).qPush .pendingSend id).1))
    (stall : ∀ s0 id sz eos rest, s.qPop .pendingSend = (s0, some id) → (s0.stream id).pendingSend = .data sz eos :: rest →
      discards (s0.stream id) = false → stalls (s0.stream id) sz m = true → P (.cont s0))
    (data : ∀ s0 id sz eos rest, s.qPop .pendingSend = (s0, some id) → (s0.stream id).pendingSend = .data sz eos :: rest →
      discards (s0.stream id) = false → stalls (s0.stream id) sz m = false →
      P (.done (pfFinish id (s0.stream id).isPendingResetExpiration (pfData sd s0 id (chunkLen (s0.stream id) sz m) rest)
        (.data (chunkLen (s0.stream id) sz m) (if sz > chunkLen (s0.stream id) sz m then false else eos)
          { key := id, sid := (s0.stream id).id, rest := sz - chunkLen (s0.stream id) sz m, eos := eos }))))
    (headers : ∀ s0 id heos fields rest, s.qPop .pendingSend = (s0, some id) → (s0.stream id).pendingSend = .headers heos fields :: rest →
      P (.done (pfFinish id (s0.stream id).isPendingResetExpiration (s0.modStream id fun st => { st with pendingSend := rest })
        (.headers (s0.stream id).id heos fields))))
    (reset : ∀ s0 id reason rest, s.qPop .pendingSend = (s0, some id) → (s0.stream id).pendingSend = .reset reason :: rest →
      P (.done (pfFinish id (s0.stream id).isPendingResetExpiration (s0.modStream id fun st => { st with pendingSend := rest })
        (.reset (s0.stream id).id reason))))
    (pushGone : ∀ s0 id pk pid fields rest, s.qPop .pendingSend = (s0, some id) →
      (s0.stream id).pendingSend = .pushPromise pk pid fields :: rest →
      (s0.modStream id fun st => { st with pendingSend := rest }).store.findKey? pid = none →
      P (.cont ((requeue (s0.modStream id fun st => { st with pendingSend := rest }) id).transitionAfter id
        (s0.stream id).isPendingResetExpiration)))
    (push : ∀ s0 id pk pid fields rest pushed, s.qPop .pendingSend = (s0, some id) →
      (s0.stream id).pendingSend = .pushPromise pk pid fields :: rest →
      (s0.modStream id fun st => { st with pendingSend := rest }).store.findKey? pid = some pushed →
      P (.done (pfFinish id (s0.stream id).isPendingResetExpiration
        (ConnCountsP.ppActivate (s0.modStream id fun st => { st with pendingSend := rest }) pushed)
        (.pushPromise (s0.stream id).id pid fields))))
    (sched : ∀ s0 id reason, s.qPop .pendingSend = (s0, some id) → (s0.stream id).pendingSend = [] →
      (s0.stream id).state.getScheduledReset = some reason →
      P (.done (pfFinish id (s0.stream id).isPendingResetExpiration (s0.modStreamW id fun st => st.setReset reason .library)
        (.reset (s0.stream id).id reason))))
    (idle : ∀ s0 id, s.qPop .pendingSend = (s0, some id) → (s0.stream id).pendingSend = [] →
      (s0.stream id).state.getScheduledReset = none →
      P (.cont (s0.transitionAfter id (s0.stream id).isPendingResetExpiration))) :
    P (popTurn sd s m) := by
  unfold popTurn
  split
  · next s0 hq => exact empty s0 hq
  · next s0 id hq =>
    dsimp only
    split
    · next f rest hps =>
      cases f with
      | headers heos fields => exact headers s0 id heos fields rest hq hps
      | reset reason => exact reset s0 id reason rest hq hps
      | pushPromise pk pid fields =>
        dsimp only [popHead]
        split
        · next hf => exact pushGone s0 id pk pid fields rest hq hps hf
        · next pushed hf => exact push s0 id pk pid fields rest pushed hq hps hf
      | data sz eos =>
        dsimp only [popHead]
        split
        · next hd => exact discard s0 id sz eos rest hq hps hd
        · next hd =>
          split
          · next hs => exact stall s0 id sz eos rest hq hps (Bool.eq_false_iff.2 hd) hs
          · next hs => exact data s0 id sz eos rest hq hps (Bool.eq_false_iff.2 hd) (Bool.eq_false_iff.2 hs)
    · next hps =>
      split
      · next reason hg => exact sched s0 id reason hq hps hg
      · next hg => exact idle s0 id hq hps hg

theorem popTurn_done_none {sd : Stream → Nat → Nat → Stream × List String × Bool} {s s' : Streams} {m : Nat}
    (h : popTurn sd s m = .done (s', none)) : s.qPop .pendingSend = (s', none) := by
  -- a returned frame is read off `pfFinish_snd`: `cases` on the equation would compute `pfFinish`
  have frame : ∀ {id b t f}, Turn.done (pfFinish id b t f) ≠ .done (s', none) := fun e => by
    have := congrArg Prod.snd (Turn.done.inj e); rw [pfFinish_snd] at this; cases this
  revert h
  apply popTurn_cases sd s m (P := fun t => t = .done (s', none) → s.qPop .pendingSend = (s', none))
  case empty => intro s0 hq e; cases e; exact hq
  all_goals (intros; rename_i e; first | exact absurd e frame | cases e)

end H2V.Lemmas.ConnWakeP
