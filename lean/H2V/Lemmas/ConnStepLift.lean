import H2V.Lemmas.ConnStep
/-
  What a step of the stream layer does to the slab, entry by entry (`Store.Lift`, `Streams.Step.lift`): an entry that was
  there is still there after some updates of `Stream.Upd` (`Stream.Upds`), or it has been released; an entry that was not
  there is still not there.  (Once `Store::insert` is among the kinds nothing is said: a key may be reused.)
  `Step.stream_rel` is the form a per-entry preorder uses.  The same for `Recv`, `Counts` and the id map, one component at a
  time (`Step.recv_rel`, `Step.counts_rel`, `Step.ids_rel`), and the slab keys (`Step.keys`); from them what no step writes: the role (`counts.is_server`) and
  every field of `Recv` that neither the queue operations nor an update of `Recv` of the step's kinds touch (`Step.role_recv`).
-/
namespace H2V.Model.Conn
open H2V H2V.Model
attribute [local irreducible] wrapSubU32 wrapSubUsize

/-- an entry after any number of updates: those of `Stream.Upd` / `Stream.UpdW`, and the entry's share of `Queue::push` /
    `pop` and of `inc_num_*_streams` / `dec_num_streams` (its link flag, its `is_counted`) -/
inductive Stream.Upds (K : Kind → Bool) (x : Stream) : Stream → Prop
  | refl : Upds K x x
  | tail {y z : Stream} : Upds K x y → Stream.Upd K y z → Upds K x z
  | tailW {y : Stream} {p : Stream × List String} : Upds K x y → Stream.UpdW K y p → Upds K x p.1
  | queued {y : Stream} (q : QName) (v : Bool) : Upds K x y → (v = true → K (.enqueue q)) → (v = false → K (.dequeue q)) →
      Upds K x (y.setQueued q v)
  | counted {y : Stream} : Upds K x y → K .count → Upds K x { y with isCounted := true }
  | uncounted {y : Stream} : Upds K x y → Upds K x { y with isCounted := false }

theorem Stream.Upds.trans {K : Kind → Bool} {x y z : Stream} (h1 : Upds K x y) (h2 : Upds K y z) : Upds K x z := by
  induction h2 with
  | refl => exact h1
  | tail _ u ih => exact .tail ih u
  | tailW _ u ih => exact .tailW ih u
  | queued q v _ h1 h2 ih => exact .queued q v ih h1 h2
  | counted _ h ih => exact .counted ih h
  | uncounted _ ih => exact .uncounted ih

theorem Stream.Upds.key {K : Kind → Bool} {x y : Stream} (h : Upds K x y) : y.key = x.key := by
  induction h with
  | refl => rfl
  | tail _ u ih => exact u.key.trans ih
  | tailW _ u ih => exact u.key.trans ih
  | queued q v _ _ _ ih => rw [← ih]; unfold Stream.setQueued; split <;> rfl
  | counted _ _ ih => exact ih
  | uncounted _ ih => exact ih

theorem Stream.Upds.lift {K : Kind → Bool} {r : Stream → Stream → Prop} (hrefl : ∀ x, r x x)
    (htrans : ∀ {x y z}, r x y → r y z → r x z) (hupd : ∀ x y, Stream.Upd K x y → r x y)
    (hupdW : ∀ x p, Stream.UpdW K x p → r x p.1)
    (hq : ∀ x q v, (v = true → K (.enqueue q)) → (v = false → K (.dequeue q)) → r x (x.setQueued q v))
    (hc : ∀ x v, (v = true → K .count) → r x { x with isCounted := v }) {x y : Stream}
    (h : Upds K x y) : r x y := by
  induction h with
  | refl => exact hrefl x
  | tail _ u ih => exact htrans ih (hupd _ _ u)
  | tailW _ u ih => exact htrans ih (hupdW _ _ u)
  | queued q v _ h1 h2 ih => exact htrans ih (hq _ q v h1 h2)
  | counted _ h ih => exact htrans ih (hc _ true fun _ => h)
  | uncounted _ ih => exact htrans ih (hc _ false fun e => Bool.noConfusion e)

namespace Store

/-- what a call can do to the slab -/
structure Lift (K : Kind → Bool) (a b : Store) : Prop where
  old : ∀ k x, a.get? k = some x →
    K .insert ∨ (∃ y, b.get? k = some y ∧ Stream.Upds K x y) ∨
      (K .release ∧ b.get? k = none ∧ ∃ y, Stream.Upds K x y ∧ y.isReleased = true)
  new : ∀ k, a.get? k = none → K .insert ∨ b.get? k = none

variable {K : Kind → Bool}

theorem Lift.refl (a : Store) : Lift K a a := ⟨fun _ x h => .inr (.inl ⟨x, h, .refl⟩), fun _ h => .inr h⟩

theorem Lift.of_insert (h : K .insert) (a b : Store) : Lift K a b := ⟨fun _ _ _ => .inl h, fun _ _ => .inl h⟩

theorem Lift.old' {a b : Store} (h : Lift K a b) (hi : K .insert = false) {k : Nat} {x : Stream} (hx : a.get? k = some x) :
    (∃ y, b.get? k = some y ∧ Stream.Upds K x y) ∨
      (K .release ∧ b.get? k = none ∧ ∃ y, Stream.Upds K x y ∧ y.isReleased = true) :=
  (h.old k x hx).resolve_left (by rw [hi]; exact Bool.false_ne_true)
theorem Lift.new' {a b : Store} (h : Lift K a b) (hi : K .insert = false) {k : Nat} (hx : a.get? k = none) : b.get? k = none :=
  (h.new k hx).resolve_left (by rw [hi]; exact Bool.false_ne_true)
theorem Lift.back {a b : Store} (h : Lift K a b) (hi : K .insert = false) {k : Nat} {y : Stream} (hy : b.get? k = some y) :
    ∃ x, a.get? k = some x ∧ Stream.Upds K x y := by
  cases hx : a.get? k with
  | none => rw [h.new' hi hx] at hy; cases hy
  | some x =>
    rcases h.old' hi hx with ⟨y', hy', u⟩ | ⟨_, hn, _⟩
    · rw [hy'] at hy; cases hy; exact ⟨x, rfl, u⟩
    · rw [hn] at hy; cases hy

theorem Lift.of_get? {a b : Store} (h : ∀ k, b.get? k = a.get? k) : Lift K a b :=
  ⟨fun k x hx => .inr (.inl ⟨x, (h k).trans hx, .refl⟩), fun k hk => .inr ((h k).trans hk)⟩

theorem Lift.set (a : Store) {k : Nat} {x y : Stream} (hk : a.get? k = some x) (hu : Stream.Upds K x y) :
    Lift K a (a.set y) := by
  have hget : ∀ j, (a.set y).get? j = if j = k then some y else a.get? j := by
    intro j
    rw [Store.get?_set, hu.key, Store.get?_key hk]
    split
    · next e => rw [e, hk]; rfl
    · rfl
  refine ⟨fun j z hz => .inr (.inl ?_), fun j hj => .inr ?_⟩
  · rw [hget]; split
    · next e => subst e; rw [hk] at hz; cases hz; exact ⟨_, rfl, hu⟩
    · exact ⟨z, hz, .refl⟩
  · rw [hget]; split
    · next e => subst e; rw [hk] at hj; cases hj
    · exact hj

theorem Lift.mod (a : Store) (k : Nat) (f : Stream → Stream) (hf : ∀ x, a.get? k = some x → Stream.Upds K x (f x)) :
    Lift K a (a.mod k f) := by
  cases hk : a.get? k with
  | none => rw [Store.mod_of_none hk]; exact .refl a
  | some x => rw [Store.mod_of_some hk]; exact .set a hk (hf x hk)

theorem Lift.trans {a b c : Store} (h1 : Lift K a b) (h2 : Lift K b c) : Lift K a c := by
  refine ⟨fun k x hx => ?_, fun k hk => ?_⟩
  · rcases h1.old k x hx with hi | ⟨y, hy, u1⟩ | ⟨hr, hn⟩
    · exact .inl hi
    · rcases h2.old k y hy with hi | ⟨z, hz, u2⟩ | ⟨hr, hn, z, u2, hz⟩
      · exact .inl hi
      · exact .inr (.inl ⟨z, hz, u1.trans u2⟩)
      · exact .inr (.inr ⟨hr, hn, z, u1.trans u2, hz⟩)
    · rcases h2.new k hn.1 with hi | h
      · exact .inl hi
      · exact .inr (.inr ⟨hr, h, hn.2⟩)
  · rcases h1.new k hk with hi | h
    · exact .inl hi
    · exact h2.new k h

theorem Lift.remove (a : Store) (k : Nat) (hr : K .release) (hx : ∀ x, a.get? k = some x → x.isReleased = true) :
    Lift K a (a.remove k) := by
  refine ⟨fun j x hj => .inr ?_, fun j hj => .inr ?_⟩
  · rw [Store.get?_remove]; split
    · next e => exact .inr ⟨hr, rfl, x, .refl, hx x (e ▸ hj)⟩
    · exact .inl ⟨x, hj, .refl⟩
  · rw [Store.get?_remove]; split
    · rfl
    · exact hj

end Store

namespace Streams
variable {K : Kind → Bool}

theorem Step.lift {s s' : Streams} (h : Step K s s') : Store.Lift K s.store s'.store := by
  have upd : ∀ (s : Streams) (k : Nat) (f : Stream → Stream), Stream.Upds K (s.stream k) (f (s.stream k)) →
      Store.Lift K s.store (s.store.mod k f) :=
    fun s k f hu => .mod _ k f fun x hx => by rw [stream_of_get? hx] at hu; exact hu
  induction h with
  | refl s => exact .refl _
  | trans _ _ ih1 ih2 => exact ih1.trans ih2
  | panic s m => rw [panic_store]; exact .refl _
  | unsup s m => rw [unsup_store]; exact .refl _
  | notifyTask s _ => rw [notifyTask_store]; exact .refl _
  | wake | setTask | setConnError | setRefs | modPrio | modSend | modRecv | setCounts => exact .refl _
  | qPush s q k hq =>
    rw [qPush_store]; split
    · exact .refl _
    · exact upd s k _ (.queued q true .refl (fun _ => hq) (fun e => Bool.noConfusion e))
  | qPushFront s q k hq =>
    rw [qPushFront_store]; split
    · exact .refl _
    · exact upd s k _ (.queued q true .refl (fun _ => hq) (fun e => Bool.noConfusion e))
  | qPop s q hq =>
    rw [qPop_fst]; split
    · exact .refl _
    · rw [modStream_store, setQ_store]
      exact upd s _ _ (.queued q false .refl (fun e => Bool.noConfusion e) (fun _ => hq))
  | incNumSendStreams s k hc => rw [incNumSendStreams_store]; exact upd s k _ (.counted .refl hc)
  | incNumRecvStreams s k hc => rw [incNumRecvStreams_store]; exact upd s k _ (.counted .refl hc)
  | decNumStreams s k => rw [decNumStreams_store]; exact upd s k _ (.uncounted .refl)
  | modStream s k f hu => rw [modStream_store]; exact upd s k f (.tail .refl hu)
  | modStreamW s k f hu => rw [modStreamW_store]; exact upd s k _ (.tailW .refl hu)
  | setStream s x hu =>
    show Store.Lift K s.store (s.store.set x)
    cases hk : s.store.get? x.key with
    | none => rw [Store.set_of_none hk]; exact .refl _
    | some y => rw [stream_of_get? hk] at hu; exact .set _ hk (.tail .refl hu)
  | insert s id a b hi => exact .of_insert hi _ _
  | insertWith s id a b cl hi => exact .of_insert hi _ _
  | undoInsert s id k hi => exact .of_insert hi _ _
  | unlink s id _ => exact .of_get? fun _ => rfl
  | remove s k n hr hx _ => exact .remove _ k hr fun x hk => by rw [stream_of_get? hk] at hx; exact hx

/-- `hblank`: after a release `s'.stream k` reads the blank entry -/
theorem Step.stream_rel {r : Stream → Stream → Prop} (hrefl : ∀ x, r x x) (htrans : ∀ {x y z}, r x y → r y z → r x z)
    (hupd : ∀ x y, Stream.Upd K x y → r x y) (hupdW : ∀ x p, Stream.UpdW K x p → r x p.1)
    (hq : ∀ x q v, (v = true → K (.enqueue q)) → (v = false → K (.dequeue q)) → r x (x.setQueued q v))
    (hc : ∀ x v, (v = true → K .count) → r x { x with isCounted := v })
    (hblank : K .release → ∀ y, y.isReleased = true → r y { key := y.key, id := 0 })
    (hi : K .insert = false) {s s' : Streams} (h : Step K s s') (j : Nat) : r (s.stream j) (s'.stream j) := by
  have hl := h.lift
  cases hj : s.store.get? j with
  | none => rw [stream_of_none hj, stream_of_none (hl.new' hi hj)]; exact hrefl _
  | some x =>
    rw [stream_of_get? hj]
    rcases hl.old' hi hj with ⟨y, hy, hu⟩ | ⟨hr, hn, y, hu, hy⟩
    · rw [stream_of_get? hy]; exact hu.lift hrefl htrans hupd hupdW hq hc
    · rw [stream_of_none hn, ← Store.get?_key hj, ← hu.key]
      exact htrans (hu.lift hrefl htrans hupd hupdW hq hc) (hblank hr y hy)

end Streams
namespace Streams
variable {K : Kind → Bool} {s s' : Streams}

theorem Step.recv_rel {r : Recv → Recv → Prop} (hrefl : ∀ p, r p p) (htrans : ∀ {a b c}, r a b → r b c → r a c)
    (hupd : ∀ p q, Recv.Upd K p q → r p q)
    (hq : ∀ (t : Streams) (q : QName) (l : List Nat), K (.enqueue q) ∨ K (.dequeue q) → r t.recv (t.setQ q l).recv)
    (h : Step K s s') : r s.recv s'.recv := by
  induction h with
  | refl s => exact hrefl _
  | trans _ _ ih1 ih2 => exact htrans ih1 ih2
  | panic s m => rw [panic_recv]; exact hrefl _
  | unsup s m => rw [recv_congr (unsup_actions s m)]; exact hrefl _
  | notifyTask s _ => rw [notifyTask_recv']; exact hrefl _
  | modRecv s f h => exact hupd _ _ h
  | qPush s q k hk =>
    rw [qPush_fst]; split
    · exact hrefl _
    · have := hq (s.modStream k fun st => st.setQueued q true) q (s.getQ q ++ [k]) (.inl hk)
      rwa [modStream_recv] at this
  | qPushFront s q k hk =>
    rw [qPushFront_fst]; split
    · exact hrefl _
    · have := hq (s.modStream k fun st => st.setQueued q true) q (k :: s.getQ q) (.inl hk)
      rwa [modStream_recv] at this
  | qPop s q hk =>
    rw [qPop_fst]; split
    · exact hrefl _
    · rw [modStream_recv]; exact hq s q _ (.inr hk)
  | incNumSendStreams s k _ => rw [recv_congr (incNumSendStreams_actions s k)]; exact hrefl _
  | incNumRecvStreams s k _ => rw [recv_congr (incNumRecvStreams_actions s k)]; exact hrefl _
  | decNumStreams s k => rw [recv_congr (decNumStreams_actions s k)]; exact hrefl _
  | modStream s k f _ => rw [modStream_recv]; exact hrefl _
  | modStreamW s k f _ => rw [modStreamW_recv]; exact hrefl _
  | _ => exact hrefl _

/-- `hnum`: the two stream counters are written by `inc_num_*_streams` / `dec_num_streams`, steps of their own and not `Counts.Upd` -/
theorem Step.counts_rel {r : Counts → Counts → Prop} (hrefl : ∀ c, r c c) (htrans : ∀ {a b c}, r a b → r b c → r a c)
    (hupd : ∀ c c', Counts.Upd K c c' → r c c') (hnum : ∀ c a b, r c { c with numSendStreams := a, numRecvStreams := b })
    (h : Step K s s') : r s.counts s'.counts := by
  induction h with
  | refl s => exact hrefl _
  | trans _ _ ih1 ih2 => exact htrans ih1 ih2
  | panic s m => rw [panic_counts]; exact hrefl _
  | unsup s m => rw [unsup_counts]; exact hrefl _
  | notifyTask s _ => rw [notifyTask_counts]; exact hrefl _
  | setCounts s c h => exact hupd _ _ h
  | qPush s q k _ => rw [qPush_counts]; exact hrefl _
  | qPushFront s q k _ => rw [qPushFront_counts]; exact hrefl _
  | qPop s q _ => rw [qPop_counts]; exact hrefl _
  | incNumSendStreams s k _ =>
    rw [incNumSendStreams_eq, modStream_counts]; unfold incNumSendStreamsC
    simp only [modCounts_counts, ite_panic_counts, ite_panic_counts']; exact hnum _ _ _
  | incNumRecvStreams s k _ =>
    rw [incNumRecvStreams_eq, modStream_counts]; unfold incNumRecvStreamsC
    simp only [modCounts_counts, ite_panic_counts, ite_panic_counts']; exact hnum _ _ _
  | decNumStreams s k =>
    rw [decNumStreams_eq, modStream_counts]; unfold decNumStreamsC; dsimp only
    split <;> split <;> simp only [modCounts_counts, ite_panic_counts, panic_counts] <;> exact hnum _ _ _
  | modStream s k f _ => rw [modStream_counts]; exact hrefl _
  | modStreamW s k f _ => rw [modStreamW_counts]; exact hrefl _
  | _ => exact hrefl _

theorem Step.ids_rel {r : List (Nat × Nat) → List (Nat × Nat) → Prop} (hrefl : ∀ l, r l l)
    (htrans : ∀ {a b c}, r a b → r b c → r a c) (hunlink : K .unlink → ∀ l id, r l (Store.swapRemove l id))
    (hi : K .insert = false) (h : Step K s s') : r s.store.ids s'.store.ids := by
  induction h with
  | refl s => exact hrefl _
  | trans _ _ ih1 ih2 => exact htrans ih1 ih2
  | panic s m => rw [panic_store]; exact hrefl _
  | unsup s m => rw [unsup_store]; exact hrefl _
  | notifyTask s _ => rw [notifyTask_store]; exact hrefl _
  | qPush s q k _ => rw [qPush_ids]; exact hrefl _
  | qPushFront s q k _ => rw [qPushFront_ids]; exact hrefl _
  | qPop s q _ => rw [qPop_ids]; exact hrefl _
  | incNumSendStreams s k _ => rw [incNumSendStreams_store, Store.mod_ids]; exact hrefl _
  | incNumRecvStreams s k _ => rw [incNumRecvStreams_store, Store.mod_ids]; exact hrefl _
  | decNumStreams s k => rw [decNumStreams_ids]; exact hrefl _
  | modStream s k f _ => rw [modStream_ids]; exact hrefl _
  | modStreamW s k f _ => rw [modStreamW_store, Store.mod_ids]; exact hrefl _
  | setStream s x _ => exact hrefl _
  | insert _ _ _ _ h | insertWith _ _ _ _ _ h | undoInsert _ _ _ h => rw [hi] at h; cases h
  | unlink s id hk => exact hunlink hk _ _
  | _ => exact hrefl _

/-- the slab keys: only an insertion or a release changes them -/
theorem Step.keys (hi : K .insert = false) (hr : K .release = false) (h : Step K s s') :
    s'.store.slab.map (·.key) = s.store.slab.map (·.key) ∧ s'.store.nextKey = s.store.nextKey := by
  induction h with
  | refl s => exact ⟨rfl, rfl⟩
  | trans _ _ ih1 ih2 => exact ⟨ih2.1.trans ih1.1, ih2.2.trans ih1.2⟩
  | panic s m => rw [panic_store]; exact ⟨rfl, rfl⟩
  | unsup s m => rw [unsup_store]; exact ⟨rfl, rfl⟩
  | notifyTask s _ => rw [notifyTask_store]; exact ⟨rfl, rfl⟩
  | qPush s q k _ => exact ⟨qPush_keys s q k, qPush_nextKey s q k⟩
  | qPushFront s q k _ =>
    rw [qPushFront_store]; split
    · exact ⟨rfl, rfl⟩
    · exact ⟨Store.mod_keys _ _ _, Store.mod_nextKey _ _ _⟩
  | qPop s q _ => exact ⟨qPop_keys s q, qPop_nextKey s q⟩
  | incNumSendStreams s k _ => rw [incNumSendStreams_store]; exact ⟨Store.mod_keys _ _ _, Store.mod_nextKey _ _ _⟩
  | incNumRecvStreams s k _ => rw [incNumRecvStreams_store]; exact ⟨Store.mod_keys _ _ _, Store.mod_nextKey _ _ _⟩
  | decNumStreams s k => exact ⟨decNumStreams_keys s k, decNumStreams_nextKey s k⟩
  | modStream s k f _ => exact ⟨modStream_keys s k f, modStream_nextKey s k f⟩
  | modStreamW s k f _ => rw [modStreamW_store]; exact ⟨Store.mod_keys _ _ _, Store.mod_nextKey _ _ _⟩
  | setStream s x _ => exact ⟨Store.set_keys _ _, rfl⟩
  | insert _ _ _ _ hk | insertWith _ _ _ _ _ hk | undoInsert _ _ _ hk => rw [hi] at hk; cases hk
  | remove _ _ _ hk => rw [hr] at hk; cases hk
  | _ => exact ⟨rfl, rfl⟩

theorem Step.role_recv {α : Type} (p : Recv → α) (hq : ∀ (s : Streams) q l, p (s.setQ q l).recv = p s.recv)
    (hu : ∀ r r', Recv.Upd K r r' → p r' = p r) (h : Step K s s') :
    s'.counts.isServer = s.counts.isServer ∧ p s'.recv = p s.recv :=
  ⟨h.counts_rel (r := fun c c' => c'.isServer = c.isServer) (fun _ => rfl) (fun a b => b.trans a) (fun _ _ u => u.isServer)
      fun _ _ _ => rfl,
    h.recv_rel (r := fun a b => p b = p a) (fun _ => rfl) (fun a b => b.trans a) hu fun t q l _ => hq t q l⟩

theorem Step.isServer (h : Step K s s') : s'.counts.isServer = s.counts.isServer :=
  (h.role_recv (fun _ => ()) (fun _ _ _ => rfl) (fun _ _ _ => rfl)).1

end Streams
end H2V.Model.Conn
