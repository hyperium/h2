import H2V.Lemmas.ConnResetPFrame
import H2V.Lemmas.CompState
/-
  ConnResetP — the per-stream step relation `SRel` used for the whole-history theorems about
  RST_STREAM (C17) and the send life cycle (C04).

  * `resetCount` : number of RST_STREAM frames sitting in a stream's `pending_send`;
  * `RInv`       : at most one, and only on a stream whose state is "closed by an error"
                   (`Closed(Error | ErrorAfterEndStream)`, not a scheduled reset);
  * `rank`       : 0 = not reset, 1 = an RST_STREAM is owed (queued, or implicit reset scheduled),
                   2 = reset and nothing owed any more;
  * `SRel D a b` : same key and id, (handle count not decreased unless `D key`), `RInv` preserved, `rank` never decreases, a stream never
                   returns to idle, a closed stream stays closed, and a recorded error cause can
                   only be replaced by a later RST_STREAM of the peer.
-/
namespace H2V.Lemmas.ConnResetP
open H2V H2V.Model H2V.Model.Conn

def isResetFrame : SFrame → Bool
  | .reset _ => true
  | _ => false

def resetCount (l : List SFrame) : Nat := (l.filter isResetFrame).length

@[simp] theorem resetCount_nil : resetCount [] = 0 := rfl
@[simp] theorem resetCount_cons (f : SFrame) (l : List SFrame) :
    resetCount (f :: l) = (if isResetFrame f then 1 else 0) + resetCount l := by
  unfold resetCount; simp only [List.filter_cons]; split <;> simp <;> omega
@[simp] theorem resetCount_append (l m : List SFrame) : resetCount (l ++ m) = resetCount l + resetCount m := by
  unfold resetCount; simp

theorem resetCount_drop_le (l : List SFrame) (n : Nat) : resetCount (l.drop n) ≤ resetCount l := by
  induction l generalizing n with
  | nil => simp
  | cons f l ih =>
    cases n with
    | zero => simp
    | succ n => simp only [List.drop_succ_cons, resetCount_cons]; have := ih n; omega

theorem resetCount_take_le (l : List SFrame) (n : Nat) : resetCount (l.take n) ≤ resetCount l := by
  unfold resetCount; exact ((List.take_sublist n l).filter _).length_le

theorem resetCount_head?_le (l : List SFrame) : resetCount l.head?.toList ≤ resetCount l := by
  cases l <;> simp

/-- closed by an error (local or remote), not by END_STREAM and not a scheduled implicit reset -/
def isErr (s : State) : Bool := s.isReset && !s.isScheduledReset

structure RInv (st : Stream) : Prop where
  le : resetCount st.pendingSend ≤ 1
  err : resetCount st.pendingSend = 1 → isErr st.state = true

def rank (st : Stream) : Nat :=
  if st.state.isReset then (if st.state.isScheduledReset || decide (1 ≤ resetCount st.pendingSend) then 1 else 2) else 0

/-- how the error cause of a closed stream may change: only a later RST_STREAM of the peer replaces it -/
def causeStable (id : Nat) (a b : State) : Prop :=
  (∀ e, a.inner = .closed (.error e) →
      b.inner = .closed (.error e) ∨ ∃ r, b.inner = .closed (.error (.reset id r .remote))) ∧
  (∀ e, a.inner = .closed (.errorAfterEndStream e) →
      b.inner = .closed (.errorAfterEndStream e) ∨ ∃ r, b.inner = .closed (.errorAfterEndStream (.reset id r .remote)))

structure SRel (D : Nat → Prop) (a b : Stream) : Prop where
  key : b.key = a.key
  id : b.id = a.id
  inv : RInv a → RInv b
  mono : RInv a → rank a ≤ rank b
  nonIdle : a.state.isIdle = false → b.state.isIdle = false
  closed : a.state.isClosed = true → b.state.isClosed = true
  cause : causeStable a.id a.state b.state
  /-- the handle count of an entry only goes down when a handle of that entry is dropped (`D key`) -/
  refs : ¬ D a.key → a.refCount ≤ b.refCount

theorem causeStable.rfl' (id : Nat) (a : State) : causeStable id a a :=
  ⟨fun _ h => .inl h, fun _ h => .inl h⟩

theorem causeStable.trans {id : Nat} {a b c : State} (h1 : causeStable id a b) (h2 : causeStable id b c) :
    causeStable id a c := by
  constructor
  · intro e he
    rcases h1.1 e he with hb | ⟨r, hb⟩
    · exact h2.1 e hb
    · rcases h2.1 _ hb with hc | ⟨r', hc⟩
      · exact .inr ⟨r, hc⟩
      · exact .inr ⟨r', hc⟩
  · intro e he
    rcases h1.2 e he with hb | ⟨r, hb⟩
    · exact h2.2 e hb
    · rcases h2.2 _ hb with hc | ⟨r', hc⟩
      · exact .inr ⟨r, hc⟩
      · exact .inr ⟨r', hc⟩

variable {D : Nat → Prop}

theorem SRel.of_core4 {a b : Stream} (hk : b.key = a.key) (hi : b.id = a.id) (hs : b.state = a.state)
    (hp : b.pendingSend = a.pendingSend) (hr : ¬ D a.key → a.refCount ≤ b.refCount) : SRel D a b := by
  refine ⟨hk, hi, fun i => ⟨?_, ?_⟩, fun _ => ?_, ?_, ?_, ?_, hr⟩
  · rw [hp]; exact i.le
  · rw [hp, hs]; exact i.err
  · unfold rank; rw [hp, hs]; exact Nat.le_refl _
  · rw [hs]; exact fun h => h
  · rw [hs]; exact fun h => h
  · rw [hs]; exact causeStable.rfl' _ _

theorem SRel.of_coreEq {a b : Stream} (h : CoreEq a b) : SRel D a b :=
  SRel.of_core4 h.key h.id h.state h.pendingSend fun _ => Nat.le_of_eq h.refCount.symm

instance : Good (SRel D) RInv where
  trans := fun {a b c} h1 h2 =>
    ⟨h2.key.trans h1.key, h2.id.trans h1.id, fun i => h2.inv (h1.inv i),
     fun i => Nat.le_trans (h1.mono i) (h2.mono (h1.inv i)),
     fun h => h2.nonIdle (h1.nonIdle h), fun h => h2.closed (h1.closed h),
     causeStable.trans h1.cause (by rw [← h1.id]; exact h2.cause),
     fun hd => Nat.le_trans (h1.refs hd) (h2.refs (by rw [h1.key]; exact hd))⟩
  new := fun n h => h.inv n
  core := SRel.of_coreEq
  key := SRel.key

theorem SRel.refInc (a : Stream) : SRel D a { a with refCount := a.refCount + 1 } :=
  SRel.of_core4 rfl rfl rfl rfl fun _ => Nat.le_succ _

/-- the relation with every drop allowed -/
abbrev SRelAny := SRel (fun _ => True)

/-- any change of `pending_send` that does not add an RST_STREAM (pop, drop, clear, push of DATA…) -/
theorem SRel.queue_le {a b : Stream} (hk : b.key = a.key) (hi : b.id = a.id) (hs : b.state = a.state)
    (hrc : b.refCount = a.refCount)
    (hq : resetCount b.pendingSend ≤ resetCount a.pendingSend) : SRel D a b := by
  refine ⟨hk, hi, fun i => ⟨Nat.le_trans hq i.le, fun h1 => ?_⟩, fun i => ?_, ?_, ?_, ?_, fun _ => Nat.le_of_eq hrc.symm⟩
  · rw [hs]; exact i.err (by have := i.le; omega)
  · unfold rank; rw [hs]
    split
    · split
      · next h1 =>
        split
        · exact Nat.le_refl _
        · omega
      · next h1 =>
        split
        · next h2 =>
          simp only [Bool.or_eq_true, decide_eq_true_eq, not_or] at h1
          simp only [Bool.or_eq_true, decide_eq_true_eq] at h2
          rcases h2 with h2 | h2
          · exact absurd h2 h1.1
          · omega
        · exact Nat.le_refl _
    · exact Nat.le_refl _
  · rw [hs]; exact fun h => h
  · rw [hs]; exact fun h => h
  · rw [hs]; exact causeStable.rfl' _ _

theorem isErr_closed {x : State} (h : isErr x = true) : x.isClosed = true ∧ x.isIdle = false := by
  revert h; rcases x with ⟨_ | _ | _ | _ | _ | _ | ⟨_ | _ | _ | _⟩⟩ <;>
    simp [isErr, State.isClosed, State.isIdle, State.isReset, State.isScheduledReset, State.getScheduledReset]

theorem notReset_of_notClosed {x : State} (h : x.isClosed = false) : x.isReset = false := by
  revert h; rcases x with ⟨_ | _ | _ | _ | _ | _ | ⟨_ | _ | _ | _⟩⟩ <;> simp [State.isClosed, State.isReset]

theorem facts_of_scheduled {x : State} (h : x.isScheduledReset = true) :
    x.isReset = true ∧ x.isClosed = true ∧ x.isIdle = false := by
  revert h; rcases x with ⟨_ | _ | _ | _ | _ | _ | ⟨_ | _ | _ | _⟩⟩ <;>
    simp [State.isReset, State.isClosed, State.isIdle, State.isScheduledReset, State.getScheduledReset]

theorem facts_of_error {x : State} {e : PErr} (h : x.inner = .closed (.error e)) :
    x.isReset = true ∧ x.isClosed = true ∧ x.isScheduledReset = false ∧ x.isRecvEndStream = false := by
  rcases x with ⟨i⟩; simp only at h; subst h
  simp [State.isReset, State.isClosed, State.isScheduledReset, State.getScheduledReset, State.isRecvEndStream]

theorem facts_of_errorAES {x : State} {e : PErr} (h : x.inner = .closed (.errorAfterEndStream e)) :
    x.isReset = true ∧ x.isClosed = true ∧ x.isScheduledReset = false ∧ x.isRecvEndStream = true := by
  rcases x with ⟨i⟩; simp only at h; subst h
  simp [State.isReset, State.isClosed, State.isScheduledReset, State.getScheduledReset, State.isRecvEndStream]

theorem RInv.count_zero {st : Stream} (i : RInv st) (h : isErr st.state = false) : resetCount st.pendingSend = 0 := by
  have := i.le
  rcases Nat.lt_or_ge (resetCount st.pendingSend) 1 with h1 | h1
  · omega
  · rw [i.err (by omega)] at h; cases h

theorem causeStable.of_no_cause {id : Nat} {a b : State}
    (h : a.isReset = false ∨ a.isClosed = false ∨ a.isScheduledReset = true) : causeStable id a b := by
  constructor <;> intro e he
  · have f := facts_of_error he
    rcases h with h | h | h
    · rw [f.1] at h; cases h
    · rw [f.2.1] at h; cases h
    · rw [f.2.2.1] at h; cases h
  · have f := facts_of_errorAES he
    rcases h with h | h | h
    · rw [f.1] at h; cases h
    · rw [f.2.1] at h; cases h
    · rw [f.2.2.1] at h; cases h

/-- a stream that was not reset is closed by an error and its queue rewritten in one step (`send_reset`); the
    bound on the new queue may use the invariant of the old entry -/
theorem SRel.reset_atomic' {a b : Stream} (hk : b.key = a.key) (hi : b.id = a.id) (hrc : b.refCount = a.refCount)
    (ha : a.state.isReset = false) (hb : isErr b.state = true) (hq : RInv a → resetCount b.pendingSend ≤ 1) : SRel D a b := by
  refine ⟨hk, hi, fun i => ⟨hq i, fun _ => hb⟩, fun _ => ?_, fun _ => (isErr_closed hb).2, fun _ => (isErr_closed hb).1, ?_,
    fun _ => Nat.le_of_eq hrc.symm⟩
  · unfold rank; rw [ha]; simp
  · exact .of_no_cause (.inl ha)

/-- a stream that was not reset is closed by an error and its queue rewritten in one step (`send_reset`):
    at most one RST_STREAM may be in the new queue -/
theorem SRel.reset_atomic {a b : Stream} (hk : b.key = a.key) (hi : b.id = a.id) (hrc : b.refCount = a.refCount)
    (ha : a.state.isReset = false) (hb : isErr b.state = true) (hq : resetCount b.pendingSend ≤ 1) : SRel D a b :=
  SRel.reset_atomic' hk hi hrc ha hb fun _ => hq

open H2V.Lemmas.Comp in
/-- the transitions of the state machine as the stream layer uses them -/
inductive StateStep (id : Nat) (a : State) : State → Prop where
  | same : StateStep id a a
  /-- the ordinary life cycle: a stream that is not closed moves to a state that is not a reset -/
  | normal {b : State} : a.isClosed = false → b.isReset = false → b.isIdle = false → StateStep id a b
  /-- the first error -/
  | error {b : State} : a.isReset = false → isErr b = true → StateStep id a b
  /-- the scheduled implicit reset is sent or dropped: `Closed(ScheduledLibraryReset)` becomes an error -/
  | unschedule {b : State} : a.isScheduledReset = true → isErr b = true → StateStep id a b
  /-- an implicit reset is scheduled on a stream that is not closed -/
  | schedule {b : State} : a.isClosed = false → b.isScheduledReset = true → StateStep id a b
  /-- RST_STREAM from the peer on a stream that is already closed with a cause -/
  | remote (r : Reason) (eos : Bool) : a.isReset = true → a.isRecvEndStream = eos →
      StateStep id a ⟨.closed (if eos then .errorAfterEndStream (.reset id r .remote) else .error (.reset id r .remote))⟩

theorem SRel.state_step {a b : Stream} (hk : b.key = a.key) (hi : b.id = a.id) (hq : b.pendingSend = a.pendingSend)
    (hrc : b.refCount = a.refCount)
    (hs : StateStep a.id a.state b.state) : SRel D a b := by
  have hrefs : ¬ D a.key → a.refCount ≤ b.refCount := fun _ => Nat.le_of_eq hrc.symm
  have hc0 : ∀ i : RInv a, a.state.isReset = false → resetCount a.pendingSend = 0 :=
    fun i hr => i.count_zero (by unfold isErr; rw [hr]; rfl)
  have hc1 : ∀ i : RInv a, a.state.isScheduledReset = true → resetCount a.pendingSend = 0 :=
    fun i hr => i.count_zero (by unfold isErr; rw [hr]; simp)
  generalize hb : b.state = bs at hs
  cases hs with
  | same => exact SRel.of_coreEq ⟨hk, hi, hb, hq, hrc⟩
  | normal h1 h2 h3 =>
    have hr := notReset_of_notClosed h1
    refine ⟨hk, hi, fun i => ⟨by rw [hq]; exact i.le, fun h => ?_⟩, fun i => ?_, fun _ => ?_, fun h => ?_,
      .of_no_cause (.inr (.inl h1)), hrefs⟩
    · rw [hq, hc0 i hr] at h; cases h
    · unfold rank; rw [hr]; simp
    · rw [hb]; exact h3
    · rw [h1] at h; cases h
  | error h1 h2 =>
    refine ⟨hk, hi, fun i => ⟨by rw [hq]; exact i.le, fun _ => by rw [hb]; exact h2⟩, fun i => ?_, fun _ => ?_, fun _ => ?_,
      .of_no_cause (.inl h1), hrefs⟩
    · unfold rank; rw [h1]; simp
    · rw [hb]; exact (isErr_closed h2).2
    · rw [hb]; exact (isErr_closed h2).1
  | unschedule h1 h2 =>
    have hra := (facts_of_scheduled h1).1
    refine ⟨hk, hi, fun i => ⟨by rw [hq]; exact i.le, fun _ => by rw [hb]; exact h2⟩, fun i => ?_, fun _ => ?_, fun _ => ?_,
      .of_no_cause (.inr (.inr h1)), hrefs⟩
    · unfold rank; rw [hb, hq, hc1 i h1, hra, h1]
      unfold isErr at h2; simp only [Bool.and_eq_true, Bool.not_eq_true'] at h2
      simp [h2.1, h2.2]
    · rw [hb]; exact (isErr_closed h2).2
    · rw [hb]; exact (isErr_closed h2).1
  | schedule h1 h2 =>
    have hr := notReset_of_notClosed h1
    have hb2 := (facts_of_scheduled h2).2
    refine ⟨hk, hi, fun i => ⟨by rw [hq]; exact i.le, fun h => ?_⟩, fun i => ?_, fun _ => ?_, fun h => ?_,
      .of_no_cause (.inr (.inl h1)), hrefs⟩
    · rw [hq, hc0 i hr] at h; cases h
    · unfold rank; rw [hr]; simp
    · rw [hb]; exact hb2.2
    · rw [h1] at h; cases h
  | remote r eos h1 h2 =>
    have herr : isErr b.state = true := by rw [hb]; cases eos <;> rfl
    have hrb : b.state.isReset = true ∧ b.state.isScheduledReset = false := by
      unfold isErr at herr; simpa using herr
    refine ⟨hk, hi, fun i => ⟨by rw [hq]; exact i.le, fun _ => herr⟩, fun i => ?_,
      fun _ => (isErr_closed herr).2, fun _ => (isErr_closed herr).1, ?_, hrefs⟩
    · unfold rank; rw [h1, hq, hrb.1, hrb.2]
      simp only [if_true, Bool.false_or]
      by_cases hs : a.state.isScheduledReset = true
      · simp [hs, hc1 i hs]
      · simp only [hs, Bool.false_or]; exact Nat.le_refl _
    · rw [hb]; constructor <;> intro e he
      · rw [(facts_of_error he).2.2.2] at h2; subst h2; exact .inr ⟨r, rfl⟩
      · rw [(facts_of_errorAES he).2.2.2] at h2; subst h2; exact .inr ⟨r, rfl⟩

end H2V.Lemmas.ConnResetP
