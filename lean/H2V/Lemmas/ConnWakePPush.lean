import H2V.Lemmas.ConnWakePTask2
import H2V.Lemmas.CompBasic
import H2V.Lemmas.ConnDataRule
/-
  ConnWakeP — F32 (positive): the waker of `poll_pushed` (`push_task`) is woken when END_STREAM
  closes the receive side; `poll_pushed` `Pending` ⇒ registered ∧ receive side open.
  And the case the repair does NOT cover (W3): `recv_data` returns early when the `RecvStream` was dropped
  (`!stream.is_recv`), before the new `notify_push`.
-/
namespace H2V.Lemmas.ConnWakeP
open H2V H2V.Model H2V.Model.Conn H2V.Lemmas.Comp

theorem modStreamW_wakes_eq {s : Streams} {k : Nat} {a : Stream} (f : Stream → Stream × List String)
    (ha : s.store.get? k = some a) : (s.modStreamW k f).wakes = s.wakes ++ (f a).2 := by
  simp only [Streams.modStreamW, ha, Streams.wake, Streams.setStream]

theorem notifyPush_post {s : Streams} {k : Nat} {a : Stream} (ha : s.store.get? k = some a) :
    ((s.modStreamW k Stream.notifyPush).stream k).pushTask = none ∧
    ∀ t, a.pushTask = some t → t ∈ newWakes s (s.modStreamW k Stream.notifyPush) := by
  refine ⟨?_, fun t ht => ?_⟩
  · rw [Streams.stream_modStreamW_self ha fun x => by rw [Stream.notifyPush_fst], Stream.notifyPush_fst]
  · rw [newWakes_of_eq (modStreamW_wakes_eq _ ha)]
    simp [Stream.notifyPush, ht]

/-- the step added by repair F32: when the stream's receive side has ended, `push_task` is taken and woken -/
theorem notifyPushIfRecvEnded_post {s : Streams} {k : Nat} {a : Stream} (ha : s.store.get? k = some a)
    (he : a.state.isRecvEndStream = true) :
    ((s.notifyPushIfRecvEnded k).stream k).pushTask = none ∧
    ∀ t, a.pushTask = some t → t ∈ newWakes s (s.notifyPushIfRecvEnded k) := by
  unfold Streams.notifyPushIfRecvEnded
  rw [stream_eq_of_get? ha, he]
  simp only [if_true]
  exact notifyPush_post ha

theorem pushTask_woken_of_none {s s' : Streams} (hs : Step none s s') (hb : KeysBounded s.store) {k : Nat} {a : Stream}
    (ha : s.store.get? k = some a) (hn : (s'.stream k).pushTask = none) (hex : (s'.store.get? k).isSome = true) :
    ∀ t, a.pushTask = some t → t ∈ newWakes s s' := by
  intro t ht
  rcases hs.keep k a (hb.get? ha) ha with h | ⟨b, hb', hab⟩
  · rw [h] at hex; cases hex
  · rw [stream_eq_of_get? hb'] at hn
    exact SlotStep.woken_of_none (hn ▸ hab.pushTask) ht

/-- **trailers** (`Recv::recv_trailers`, always END_STREAM): accepted ⇒ `push_task` empty, its tag woken -/
theorem recvRecvTrailers_wakes_push {s : Streams} {k : Nat} {h : HeadersIn} {a : Stream} (hb : KeysBounded s.store)
    (ha : s.store.get? k = some a) (hok : (s.recvRecvTrailers k h).2 = .ok ()) :
    ((s.recvRecvTrailers k h).1.stream k).pushTask = none ∧
    ∀ t, a.pushTask = some t → t ∈ newWakes s (s.recvRecvTrailers k h).1 := by
  have hstep : Step none s (s.recvRecvTrailers k h).1 := (recvRecvTrailers_i s k h)
  have key : ((s.recvRecvTrailers k h).1.stream k).pushTask = none ∧ ((s.recvRecvTrailers k h).1.store.get? k).isSome = true := by
    unfold Streams.recvRecvTrailers at hok ⊢
    rcases hrc : (s.stream k).state.recvClose with ⟨st', e | u⟩
    · simp [hrc] at hok
    · simp only [hrc] at hok ⊢
      split
      · next hh => simp [hh] at hok
      · split
        · next hh => simp [hh] at hok
        · have h1 := get?_modStream_same (fun st => { st with state := st' }) ha rfl
          have h2 := get?_modStream_same (fun st => { st with pendingRecv := st.pendingRecv ++ [REvent.trailers h.fields] }) h1 rfl
          have h3 := get?_modStreamW_same Stream.notifyRecv h2 (by rw [Stream.notifyRecv_fst])
          have h4 := get?_modStreamW_same Stream.notifyPush h3 (by rw [Stream.notifyPush_fst])
          exact ⟨(notifyPush_post h3).1, by rw [h4]; rfl⟩
  exact ⟨key.1, pushTask_woken_of_none hstep hb ha key.1 key.2⟩

/-- **`poll_pushed`** answers `Pending` only with no promised stream queued, on a stream whose receive side is
    still open, after parking the caller in `push_task` -/
theorem recvPollPushed_pending {s s' : Streams} {k : Nat} {tag : String} {a : Stream}
    (ha : s.store.get? k = some a) (h : s.recvPollPushed k tag = (s', .pending)) :
    (s'.stream k).pushTask = some tag ∧ a.pendingPushPromises = [] ∧ a.state.ensureRecvOpen = .ok true ∧
    s'.wakes = s.wakes := by
  have hst : s.stream k = a := stream_eq_of_get? ha
  unfold Streams.recvPollPushed at h
  simp only [hst] at h
  split at h
  · try simp only at h
    split at h <;> cases h
  · next hq =>
    split at h
    · cases h
    · next hr =>
      obtain ⟨rfl, _⟩ := Prod.mk.inj h
      rw [stream_modStream_same _ ha rfl]
      exact ⟨rfl, hq, hr, Streams.modStream_wakes _ _ _⟩
    · cases h

/-- … also through the handle (`OpaqueStreamRef::poll_pushed`) -/
theorem refPollPushed_pending {s s' : Streams} {k : Nat} {tag : String} {a : Stream}
    (ha : s.store.get? k = some a) (h : s.refPollPushed k tag = (s', .pending)) :
    (s'.stream k).pushTask = some tag ∧ a.pendingPushPromises = [] ∧ a.state.ensureRecvOpen = .ok true ∧
    s'.wakes = s.wakes := by
  unfold Streams.refPollPushed at h
  split at h
  · cases h
  · rcases hr : s.recvPollPushed k tag with ⟨s1, r1⟩
    rw [hr] at h; cases h
    exact recvPollPushed_pending ha hr

/-- on a stream whose receive side has ended (or that is closed) `poll_pushed` never waits -/
theorem recvPollPushed_ended {s : Streams} {k : Nat} {tag : String}
    (h : (s.stream k).state.isRecvEndStream = true ∨ (s.stream k).state.isClosed = true) :
    ∀ s', s.recvPollPushed k tag ≠ (s', .pending) := by
  intro s' hp
  have hne : (s.stream k).state.ensureRecvOpen ≠ .ok true := by
    rcases h with h | h
    · rw [ensureRecvOpen_of_eos h]; intro hh; cases hh
    · exact ensureRecvOpen_of_closed h
  cases hg : s.store.get? k with
  | some a =>
    have := (recvPollPushed_pending hg hp).2.2.1
    rw [stream_eq_of_get? hg] at hne; exact hne this
  | none =>
    simp [Streams.stream, hg, State.isRecvEndStream, State.isClosed] at h

structure StSame (a b : Stream) : Prop where
  key : b.key = a.key
  id : b.id = a.id
  state : b.state = a.state

instance : IsPre StSame where
  refl _ := ⟨rfl, rfl, rfl⟩
  trans h1 h2 := ⟨h2.key.trans h1.key, h2.id.trans h1.id, h2.state.trans h1.state⟩
  key h := h.key

abbrev SS := GStep False StSame

theorem stSame_notifyRecv (x : Stream) : StSame x x.notifyRecv.1 := by
  rw [Stream.notifyRecv_fst]; exact ⟨rfl, rfl, rfl⟩

/-- a step that keeps the fields `Stream::is_closed` looks at keeps `state` -/
theorem GStep.of_step_ss {s s' : Streams} (h : Streams.Step Frame.kinds s s') : SS s s' :=
  (GStep.of_step_fs h).mono id fun _ _ f => ⟨f.key, f.id, f.state⟩

section
variable {s0 s : Streams}
theorem ss_releaseCapacity (k c : Nat) (u : Bool) (h : SS s0 s) : SS s0 (s.releaseCapacity k c u).1 :=
  h.trans (.of_step_ss (Streams.releaseCapacity_step (by decide) s k c u))
end

/-- after the step added by F32 the push slot cannot be occupied on a stream whose receive side has ended -/
theorem notifyPushIfRecvEnded_quiet (s : Streams) (k : Nat)
    (he : ((s.notifyPushIfRecvEnded k).stream k).state.isRecvEndStream = true) :
    ((s.notifyPushIfRecvEnded k).stream k).pushTask = none := by
  cases hg : s.store.get? k with
  | none =>
    have : s.notifyPushIfRecvEnded k = s := by
      unfold Streams.notifyPushIfRecvEnded; simp [Streams.stream, hg, State.isRecvEndStream]
    rw [this]; simp [Streams.stream, hg]
  | some a =>
    by_cases hea : a.state.isRecvEndStream = true
    · exact (notifyPushIfRecvEnded_post hg hea).1
    · have : s.notifyPushIfRecvEnded k = s := by
        unfold Streams.notifyPushIfRecvEnded; rw [stream_eq_of_get? hg]; simp [hea]
      rw [this] at he; rw [stream_eq_of_get? hg] at he; exact absurd he hea

/-- every `Ok` end of `recv_data`'s last stages without a panic runs the step added by F32 last -/
theorem recvDataTail_quiet (s : Streams) (k : Nat) (p : Bytes) (sz fl : Nat)
    (hok : (s.recvDataTail k p true sz fl).2 = .ok ()) (hp : (s.recvDataTail k p true sz fl).1.panicked = none)
    (he : ((s.recvDataTail k p true sz fl).1.stream k).state.isRecvEndStream = true) :
    ((s.recvDataTail k p true sz fl).1.stream k).pushTask = none := by
  revert hok hp he
  unfold Streams.recvDataTail
  split
  · intro hok; cases hok
  unfold Streams.recvDataDeliver
  simp only [Bool.not_true, Bool.and_false, Bool.false_eq_true, if_false]
  split
  · intro _ _ he; exact notifyPushIfRecvEnded_quiet _ _ he
  · split
    · intro hok; cases hok
    · intro _ hp; exact absurd hp (Streams.panic_panicked_ne_none _ _)
    · intro _ _ he; exact notifyPushIfRecvEnded_quiet _ _ he

/-- the post-condition of `recv_data`: an `Ok` answer without a panic leaves the push slot empty whenever
    END_STREAM has just ended the receive side (it had not ended before) -/
theorem recvRecvData_quiet (s : Streams) (k : Nat) (p : Bytes) (pad : Option Nat)
    (hne : (s.stream k).state.isRecvEndStream = false)
    (hok : (s.recvRecvData k p true pad).2 = .ok ()) (hp : (s.recvRecvData k p true pad).1.panicked = none)
    (he : ((s.recvRecvData k p true pad).1.stream k).state.isRecvEndStream = true) :
    ((s.recvRecvData k p true pad).1.stream k).pushTask = none := by
  obtain ⟨t, ht, h⟩ := Streams.recvRecvData_cases (K := Frame.kinds) (by decide) s k p true pad
  rcases h with ⟨e, h⟩ | ⟨-, r, h⟩ | ⟨st1, sz, fl, -, h⟩
  · rw [h] at hok; cases hok
  · -- the frame is ignored: the state does not move
    rw [h, ((GStep.of_step_fs (rm := False) ht).stream k).state, hne] at he; cases he
  · rw [h] at hok hp he ⊢; exact recvDataTail_quiet _ _ _ _ _ hok hp he

/-- **`Recv::recv_data` with END_STREAM** (`Ok`, no panic flag, the receive side had not ended before): in the result
    the receive side has ended ⇒ `push_task` is empty and the tag that was parked there is in the wake log — on EVERY
    `Ok` path (also when the `RecvStream` was dropped: W3 repaired) -/
theorem recvRecvData_eos_wakes_push {s : Streams} {k : Nat} {p : Bytes} {pad : Option Nat} {a : Stream}
    (hb : KeysBounded s.store) (ha : s.store.get? k = some a) (hne : a.state.isRecvEndStream = false)
    (hok : (s.recvRecvData k p true pad).2 = .ok ()) (hp : (s.recvRecvData k p true pad).1.panicked = none)
    (he : ((s.recvRecvData k p true pad).1.stream k).state.isRecvEndStream = true) :
    ((s.recvRecvData k p true pad).1.stream k).pushTask = none ∧
    ∀ t, a.pushTask = some t → t ∈ newWakes s (s.recvRecvData k p true pad).1 := by
  have hq := recvRecvData_quiet s k p pad (by rw [stream_eq_of_get? ha]; exact hne) hok hp he
  have hstep : Step none s (s.recvRecvData k p true pad).1 := (recvRecvData_i s k p true pad)
  refine ⟨hq, pushTask_woken_of_none hstep hb ha hq ?_⟩
  cases hg : (s.recvRecvData k p true pad).1.store.get? k with
  | some _ => rfl
  | none => simp [Streams.stream, hg, State.isRecvEndStream] at he

namespace W3
/-- request without END_STREAM on stream key 0 (id 1), opened and its HEADERS popped -/
def p0 : Streams := ((Conn.init {}).streams.sendRequest false [] false none).1
def p1 : Streams :=
  let s := p0.popPendingOpen.1
  let s := ((s.qPushFront .pendingSend 0).1).tryAssignCapacity 0
  (Streams.popFrame 4 s 16384).1
/-- the response head (no END_STREAM) arrives and is taken by the application -/
def p2 : Streams := (p1.recvHeaders { sid := 1, eos := false, status := some [50, 48, 48] }).1
def p3 : Streams := (Streams.recvPollResponse 2 p2 0 "p0").1
/-- `PushPromises::poll_push_promise` parks `q0` -/
def p4 : Streams := (p3.refPollPushed 0 "q0").1
/-- DATA with END_STREAM arrives: `q0` is woken, the slot is empty, a new poll says "no more" -/
def p5 : Streams := (p4.recvData 1 [1, 2, 3] true none).1

theorem data_end_stream_wakes_push_example :
    (match (p3.refPollPushed 0 "q0").2 with | .pending => true | _ => false) = true ∧ (p4.stream 0).pushTask = some "q0" ∧
    (p5.stream 0).state.isRecvEndStream = true ∧ "q0" ∈ p5.wakes ∧ (p5.stream 0).pushTask = none ∧
    (match (p5.refPollPushed 0 "q0").2 with | .none => true | _ => false) = true := by decide

/-- the same with the END_STREAM on the response head itself -/
def h4 : Streams := (p1.refPollPushed 0 "q0").1
def h5 : Streams := (h4.recvHeaders { sid := 1, eos := true, status := some [50, 48, 48] }).1
theorem headers_end_stream_wakes_push_example :
    (h4.stream 0).pushTask = some "q0" ∧ "q0" ∈ h5.wakes ∧ (h5.stream 0).pushTask = none := by decide

/-- **W3 (residual of F32, repaired by 334158d).**  The application dropped the `RecvStream` (`clear_recv_buffer`:
    `is_recv = false`) and waits in `poll_pushed`; DATA with END_STREAM arrives.  Before the repair `recv_data`
    returned at `if !stream.is_recv` without `notify_push`; now `q0` is woken there too. -/
def d4 : Streams := p3.refClearRecvBuffer 0
def d5 : Streams := (d4.refPollPushed 0 "q0").1
def d6 : Streams := (d5.recvData 1 [1, 2, 3] true none).1
theorem dropped_body_end_stream_wakes_push_example :
    (d5.stream 0).pushTask = some "q0" ∧ (d5.stream 0).isRecv = false ∧ (d5.recvData 1 [1, 2, 3] true none).2 = .ok () ∧
    (d6.stream 0).state.isRecvEndStream = true ∧ "q0" ∈ d6.wakes ∧ (d6.stream 0).pushTask = none := by decide
end W3

end H2V.Lemmas.ConnWakeP
