import H2V.Lemmas.ConnStepLoops
/-
  The handle calls that pop or clear `pending_recv` of their own stream (`RecvStream::poll_data`, `poll_trailers`,
  `poll_response`, `take_request`, `clear_recv_buffer`, `release_closed_capacity` …).  Their `f_step` has the kind `.takeRecv`,
  which says that an event is taken but not from WHICH entry; `Streams.Takes K k` keeps the key: steps of the kinds `K`
  (without `.takeRecv`) around rewrites of `pending_recv` of the one entry `k`.  A relation that says the same of every
  entry uses `f_step`; one that lets the queue of entry `k` alone shrink (ConnNoPanicP's `AL [k]`, `RP`) uses `f_takes`.
-/
namespace H2V.Model.Conn.Streams
open H2V H2V.Model H2V.Model.Conn
attribute [local irreducible] wrapSubU32 wrapSubUsize
variable {K : Kind → Bool}

/-- `take`: the queue is left empty, or something is taken from a non-empty one; `noRecv`: a `RecvStream` is dropped -/
inductive Takes (K : Kind → Bool) (k : Nat) : Streams → Streams → Prop
  | step {s s' : Streams} : Step K s s' → Takes K k s s'
  | take (s : Streams) (l : List REvent) : (l ≠ [] → (s.stream k).pendingRecv ≠ []) →
      Takes K k s (s.modStream k fun st => { st with pendingRecv := l })
  | noRecv (s : Streams) : Takes K k s (s.modStream k fun st => { st with isRecv := false })
  | trans {a b c : Streams} : Takes K k a b → Takes K k b c → Takes K k a c

theorem Takes.pop {k : Nat} {s : Streams} {e : REvent} {l : List REvent} (h : (s.stream k).pendingRecv = e :: l) :
    Takes K k s (s.modStream k fun st => { st with pendingRecv := l }) :=
  .take s l fun _ => by rw [h]; exact List.cons_ne_nil _ _

theorem clearRecvBuffer_takes (hK : Kind.Has K [.counterDown .dataFrames, .recvFlow, .connRecvFlow, .connTask]) (s : Streams)
    (k : Nat) (b : Bool) : Takes K k s (s.clearRecvBuffer k b) := by
  unfold Streams.clearRecvBuffer
  dsimp only
  have h0 : Takes K k s (Streams.modStream { s with counts :=
      (clearRecvBufferLoop (s.stream k).inFlightRecvData (s.stream k).pendingRecv 0 s.counts).2 } k fun st => { st with pendingRecv := [] }) :=
    .trans (.step (.setCounts _ _ (Counts.Upd.clearRecvBufferLoop (by stp_side) _ _ _ _))) (.take _ [] fun h => absurd rfl h)
  split
  · exact h0.trans (.step (by stp_auto))
  · exact h0

theorem releaseClosedCapacity_takes (hK : Kind.Has K [.counterDown .dataFrames, .recvFlow, .connRecvFlow, .connTask]) (s : Streams)
    (k : Nat) : Takes K k s (s.releaseClosedCapacity k) := by
  unfold Streams.releaseClosedCapacity
  exact .trans (.step (by stp_auto)) (clearRecvBuffer_takes hK _ k true)

theorem refClearRecvBuffer_takes (hK : Kind.Has K [.counterDown .dataFrames, .recvFlow, .connRecvFlow, .connTask])
    (s : Streams) (k : Nat) : Takes K k s (s.refClearRecvBuffer k) := by
  unfold Streams.refClearRecvBuffer
  exact .trans (.noRecv s) (clearRecvBuffer_takes hK _ k true)

theorem recvPollData_takes (hK : Kind.Has K [.park]) (s : Streams) (k : Nat) (t : String) : Takes K k s (s.recvPollData k t).1 := by
  unfold Streams.recvPollData
  split
  · next h => exact .pop h
  · exact .step (by stp_auto)
  · exact .step (by stp_auto)

theorem recvPollTrailers_takes (hK : Kind.Has K [.park]) (s : Streams) (k : Nat) (t : String) :
    Takes K k s (s.recvPollTrailers k t).1 := by
  unfold Streams.recvPollTrailers
  split
  · next h => exact .pop h
  · exact .step (by stp_auto)
  · exact .step (by stp_auto)

theorem recvPollInformational_takes (hK : Kind.Has K [.park]) (s : Streams) (k : Nat) (t : String) :
    Takes K k s (s.recvPollInformational k t).1 := by
  unfold Streams.recvPollInformational
  dsimp only
  split
  · next heq =>
    split at heq
    · cases heq; exact .step (.refl _)
    · next h => cases heq; exact .pop h
    · cases heq
  · exact .step (by stp_auto)

theorem recvPollResponse_takes (hK : Kind.Has K [.park]) (n : Nat) (s : Streams) (k : Nat) (t : String) :
    Takes K k s (Streams.recvPollResponse n s k t).1 := by
  induction n generalizing s with
  | zero => exact .step (.refl _)
  | succ n ih =>
    unfold Streams.recvPollResponse
    split
    · next h => exact .pop h
    · next h => exact .trans (.pop h) (ih _)
    · next h => exact .trans (.pop h) (.step (panic_step _ _))
    · exact .step (by stp_auto)

theorem recvTakeRequest_takes (s : Streams) (k : Nat) : Takes K k s (s.recvTakeRequest k).1 := by
  unfold Streams.recvTakeRequest
  split
  · next h => exact .pop h
  · next h => exact .trans (.pop h) (.step (panic_step _ _))
  · exact .step (panic_step _ _)

theorem refPollData_takes (hK : Kind.Has K [.counterDown .dataFrames, .park]) (s : Streams) (k : Nat) (t : String) :
    Takes K k s (s.refPollData k t).1 := by
  unfold Streams.refPollData
  split
  · next h => exact .trans (of_fst_eq h (recvPollData_takes (hK.sub rfl) s k t)) (.step (by stp_auto))
  · exact recvPollData_takes (hK.sub rfl) s k t

end H2V.Model.Conn.Streams
