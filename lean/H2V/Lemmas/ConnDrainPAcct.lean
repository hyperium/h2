import H2V.Lemmas.ConnDrainPCore
/-
  ConnDrainP — what the queue operations, `transition_after`, `try_assign_capacity` and the loop of
  `assign_connection_capacity` do to the measure `Phi`; the invariant `PInv` carried through `pop_frame`.
-/
namespace H2V.Lemmas.ConnDrainP
open H2V H2V.Model H2V.Model.Conn
open H2V.Lemmas.ConnFlowP (KeysOk SafeInv SafeInvG ReqOk stream_modStream_self stream_modStream_other)
open H2V.Lemmas.ConnCountsP (QOK Flagged Ev EvB)


theorem qPush_PS_phi {s : Streams} (hk : KeysOk s.store) (k : Nat) :
    Phi (s.qPush .pendingSend k).1 ≤ Phi s + (if ret0 (s.stream k) then 0 else 2) := by
  unfold Streams.qPush
  split
  · exact Nat.le_add_right _ _
  · show Phi ((s.modStream k _).setQ _ _) ≤ _
    rw [Phi_setQ]
    refine Phi_modStream_le hk k _ (fun x => setQueued_key x _ _) _ ?_
    intro a ha
    rw [Streams.stream_of_get? ha]
    exact phi_setPS_true_le a

theorem qPush_PC_phi {s : Streams} (hk : KeysOk s.store) (k : Nat) :
    Phi (s.qPush .pendingCapacity k).1 ≤ Phi s + (if (s.qPush .pendingCapacity k).1.prio.pendingCapacity = s.prio.pendingCapacity then 0 else 2) := by
  unfold Streams.qPush
  split
  · simp
  · have hne : ¬ ((((s.modStream k fun st => st.setQueued .pendingCapacity true).setQ .pendingCapacity
        (s.getQ .pendingCapacity ++ [k])), true).1.prio.pendingCapacity = s.prio.pendingCapacity) := by
      show ¬ (s.getQ .pendingCapacity ++ [k] = s.prio.pendingCapacity)
      intro h
      have := congrArg List.length h
      simp [Streams.getQ] at this
    rw [if_neg hne]
    show Phi ((s.modStream k _).setQ _ _) ≤ _
    rw [Phi_setQ]
    refine Phi_modStream_le hk k _ (fun x => setQueued_key x _ _) _ ?_
    intro a _
    exact phi_setPC_true_le a

theorem qPop_PS_phi {s s0 : Streams} {k : Nat} (hk : KeysOk s.store) (hq : QOK .pendingSend s)
    (h : s.qPop .pendingSend = (s0, some k)) :
    Phi s0 + (if ret0 (s.stream k) then 0 else 2) = Phi s := by
  obtain ⟨rest, hg, rfl⟩ := Streams.qPop_eq_some h
  obtain ⟨a, ha, hfl⟩ := (hq.mem k).mp (by rw [hg]; exact List.mem_cons_self ..)
  have hk' : KeysOk (s.setQ .pendingSend rest).store := by rw [ConnCountsP.setQ_store]; exact hk
  have ha' : (s.setQ .pendingSend rest).store.get? k = some a := by rw [ConnCountsP.setQ_store]; exact ha
  have := (Phi_modStream hk' k (fun st => st.setQueued .pendingSend false) (fun x => setQueued_key x _ _)).1 a ha'
  rw [Phi_setQ] at this
  have h2 := phi_setPS_false a hfl
  rw [Streams.stream_of_get? ha]
  omega

theorem qPop_PC_phi {s s0 : Streams} {k : Nat} (hk : KeysOk s.store) (hq : QOK .pendingCapacity s)
    (h : s.qPop .pendingCapacity = (s0, some k)) : Phi s0 + 2 = Phi s := by
  obtain ⟨rest, hg, rfl⟩ := Streams.qPop_eq_some h
  obtain ⟨a, ha, hfl⟩ := (hq.mem k).mp (by rw [hg]; exact List.mem_cons_self ..)
  have hk' : KeysOk (s.setQ .pendingCapacity rest).store := by rw [ConnCountsP.setQ_store]; exact hk
  have ha' : (s.setQ .pendingCapacity rest).store.get? k = some a := by rw [ConnCountsP.setQ_store]; exact ha
  have := (Phi_modStream hk' k (fun st => st.setQueued .pendingCapacity false) (fun x => setQueued_key x _ _)).1 a ha'
  rw [Phi_setQ] at this
  have h2 := phi_setPC_false a hfl
  omega


theorem Phi_ite_panic' (c : Prop) [Decidable c] (t : Streams) (m : String) : Phi (if c then t.panic m else t) = Phi t := by
  split
  · exact Phi_panic _ _
  · rfl

theorem decNumStreams_phi {s : Streams} (hk : KeysOk s.store) (k : Nat) : Phi (s.decNumStreams k) = Phi s := by
  rw [Streams.decNumStreams_eq]
  refine (Phi_modStream_eq (s := s.decNumStreamsC k) (by rw [Streams.decNumStreamsC_store]; exact hk) k
    (fun st => { st with isCounted := false }) (fun _ => rfl) (fun _ => rfl)).trans ?_
  exact Phi_of_slab (by rw [Streams.decNumStreamsC_store])

theorem keysOk_of_fr {s s' : Streams} (h : ConnFlowP.Fr s s') (hk : KeysOk s.store) : KeysOk s'.store := (h.2.2 hk).1

theorem transitionAfter_phi_le {s : Streams} (hk : KeysOk s.store) (k : Nat) (b : Bool) :
    Phi (s.transitionAfter k b) ≤ Phi s := by
  unfold Streams.transitionAfter
  dsimp only
  generalize hS1 : (if (b && !(s.stream k).isPendingResetExpiration) = true then _ else s) = S1
  have h1 : Phi S1 = Phi s ∧ KeysOk S1.store := by
    subst hS1; split
    · refine ⟨Phi_modCountsA _ _ _, ?_⟩
      unfold Streams.modCountsA; split
      · exact hk
      · rw [ConnFlowP.panic_store]; exact hk
    · exact ⟨rfl, hk⟩
  generalize hS2 : (if (s.stream k).isClosed = true then _ else S1) = S2
  have h2 : Phi S2 = Phi s ∧ KeysOk S2.store := by
    subst hS2
    split
    · generalize hS3 : (if (!(s.stream k).isPendingResetExpiration) = true then _ else S1) = S3
      have h3 : Phi S3 = Phi s ∧ KeysOk S3.store := by
        subst hS3; split
        · exact ⟨(Phi_of_slab rfl).trans h1.1, h1.2⟩
        · exact h1
      split
      · exact ⟨(decNumStreams_phi h3.2 k).trans h3.1, keysOk_of_fr (ConnFlowP.Fr.of_step (.decNumStreams _ k)) h3.2⟩
      · exact h3
    · exact h1
  split
  · refine Nat.le_trans (Phi_remove_le _ _ _) ?_
    split
    · rw [decNumStreams_phi h2.2, h2.1]; exact Nat.le_refl _
    · rw [h2.1]; exact Nat.le_refl _
  · exact Nat.le_of_eq h2.1


theorem keysOk_of_keys {st st' : Store} (h : KeysOk st) (hk : st'.slab.map (·.key) = st.slab.map (·.key))
    (hn : st'.nextKey = st.nextKey) : KeysOk st' := by
  refine ⟨hk ▸ h.1, fun x hx => ?_⟩
  have : x.key ∈ st'.slab.map (·.key) := List.mem_map.2 ⟨x, hx, rfl⟩
  rw [hk] at this
  obtain ⟨y, hy, e⟩ := List.mem_map.1 this
  rw [← e, hn]; exact h.2 y hy

theorem keysOk_modStream {s : Streams} (h : KeysOk s.store) (k : Nat) (f : Stream → Stream) : KeysOk (s.modStream k f).store := by
  rw [Streams.modStream_store]; exact keysOk_of_keys h (Store.mod_keys _ _ _) (Store.mod_nextKey _ _ _)

theorem keysOk_modStreamW {s : Streams} (h : KeysOk s.store) (k : Nat) (f : Stream → Stream × List String) :
    KeysOk (s.modStreamW k f).store := by
  rw [Streams.modStreamW_store]; exact keysOk_of_keys h (Store.mod_keys _ _ _) (Store.mod_nextKey _ _ _)


theorem phi_assignCapacity (x : Stream) (a b : Nat) : phi (x.assignCapacity a b).1 = phi x := by
  rw [Stream.assignCapacity_fst]; split <;> rfl

theorem qPush_PC_phi_len {s : Streams} (hk : KeysOk s.store) (k : Nat) :
    Phi (s.qPush .pendingCapacity k).1 + 2 * s.prio.pendingCapacity.length ≤
      Phi s + 2 * (s.qPush .pendingCapacity k).1.prio.pendingCapacity.length := by
  unfold Streams.qPush
  split
  · exact Nat.le_refl _
  · have e : (((s.modStream k fun st => st.setQueued .pendingCapacity true).setQ .pendingCapacity
        (s.getQ .pendingCapacity ++ [k])), true).1.prio.pendingCapacity = s.prio.pendingCapacity ++ [k] := rfl
    rw [e, List.length_append]
    show Phi ((s.modStream k _).setQ _ _) + _ ≤ _
    rw [Phi_setQ]
    have := Phi_modStream_le hk k (fun st => st.setQueued .pendingCapacity true) (fun x => setQueued_key x _ _) 2
      (fun a _ => phi_setPC_true_le a)
    simp only [List.length_singleton]
    omega

theorem ite_qPush_PS_phi (c : Prop) [Decidable c] {s : Streams} (hk : KeysOk s.store) (k : Nat) :
    Phi (if c then (s.qPush .pendingSend k).1 else s) ≤ Phi s + 2 ∧
    (if c then (s.qPush .pendingSend k).1 else s).prio.pendingCapacity = s.prio.pendingCapacity := by
  split
  · refine ⟨Nat.le_trans (qPush_PS_phi hk k) ?_, ConnFlowP.qPush_pc_other _ _⟩
    split <;> omega
  · exact ⟨Nat.le_add_right _ _, rfl⟩

theorem ite_qPush_PC_phi (c : Prop) [Decidable c] {s : Streams} (hk : KeysOk s.store) (k : Nat) :
    Phi (if c then (s.qPush .pendingCapacity k).1 else s) + 2 * s.prio.pendingCapacity.length ≤
      Phi s + 2 * (if c then (s.qPush .pendingCapacity k).1 else s).prio.pendingCapacity.length ∧
    KeysOk (if c then (s.qPush .pendingCapacity k).1 else s).store := by
  split
  · exact ⟨qPush_PC_phi_len hk k, keysOk_of_fr ((ConnFlowP.Fr.refl _).qPush _ _) hk⟩
  · exact ⟨Nat.le_refl _, hk⟩

theorem assignN_phi {s : Streams} (hk : KeysOk s.store) (j n : Nat) :
    Phi (s.assignN j n) = Phi s ∧ KeysOk (s.assignN j n).store := by
  refine ⟨(Phi_of_slab rfl).trans ?_, keysOk_modStreamW hk _ _⟩
  exact Phi_modStreamW_eq hk j _ (fun x => key_assignCapacity x _ _) (fun x => phi_assignCapacity x _ _)

/-- the links cost 2 for `pending_send`, and 2 for each stream that enters `pending_capacity` -/
theorem relink_phi_len {s : Streams} (hk : KeysOk s.store) (j : Nat) :
    Phi (s.relink j) + 2 * s.prio.pendingCapacity.length ≤ Phi s + 2 + 2 * (s.relink j).prio.pendingCapacity.length := by
  have h2 := ite_qPush_PC_phi ((s.stream j).wantsMore = true) hk j
  have h3 := ite_qPush_PS_phi ((decide ((s.stream j).bufferedSendData > 0) && (s.stream j).isSendReady) = true) h2.2 j
  have e : (s.relink j).prio.pendingCapacity =
      (if (s.stream j).wantsMore = true then (s.qPush .pendingCapacity j).1 else s).prio.pendingCapacity := h3.2
  rw [e]
  have h31 : Phi (s.relink j) ≤ _ := h3.1
  have := h2.1
  omega

theorem tryAssign_phi_len {s : Streams} (hk : KeysOk s.store) (j : Nat) :
    Phi (s.tryAssignCapacity j) + 2 * s.prio.pendingCapacity.length ≤
      Phi s + 2 + 2 * (s.tryAssignCapacity j).prio.pendingCapacity.length := by
  refine s.tryAssignCapacity_cases j (P := fun t => Phi t + 2 * s.prio.pendingCapacity.length ≤
    Phi s + 2 + 2 * t.prio.pendingCapacity.length) (by omega) (fun _ _ => ?_) (fun _ _ => relink_phi_len hk j)
  have h1 := assignN_phi hk j (min s.prio.flow.available.asSize (s.stream j).assignWant)
  have := relink_phi_len h1.2 j
  rw [h1.1, ConnFlowP.assignN_pc] at this
  exact this

theorem tryAssign_phi {s : Streams} (h : SafeInv s) (hr : ReqOk s) (j : Nat) :
    Phi (s.tryAssignCapacity j) ≤ Phi s + 2 ∨
    (Phi (s.tryAssignCapacity j) ≤ Phi s + 4 ∧ (s.tryAssignCapacity j).prio.flow.available.val ≤ 0) := by
  have hl := tryAssign_phi_len h.keys j
  rcases (ConnFlowP.tryAssign_queue h hr j).1 with e | ⟨e, ha⟩
  · left; rw [e] at hl; omega
  · right; rw [e, List.length_append] at hl; simp only [List.length_singleton] at hl; exact ⟨by omega, ha⟩


/-- what the measure argument needs of a state: the send-flow safety invariant and `u32` requests (ConnFlowP),
    queue ↔ flag consistency of `pending_send` and `pending_capacity` (ConnCountsP) -/
structure PInv (s : Streams) : Prop where
  safe : SafeInv s
  req : ReqOk s
  qs : QOK .pendingSend s
  qc : QOK .pendingCapacity s

theorem Ev.panic_none {s s' : Streams} (e : Ev s s') (hp : s'.panicked = none) : s.panicked = none :=
  ConnCountsP.noPanic_of_mono e.mono.panic hp

/-- a transition along which `PInv` is carried: its queue events (ConnCountsP) and what it moves (ConnFlowP) -/
structure PStep (s s' : Streams) : Prop where
  ev : Ev s s'
  mv : ConnFlowP.Mv false s s'

theorem PStep.trans {a b c : Streams} (h1 : PStep a b) (h2 : PStep b c) : PStep a c := ⟨h1.ev.trans h2.ev, h1.mv.trans h2.mv⟩

/-- the kinds of update that are both a queue event and a strong frame step of the send flow -/
def pK (k : Kind) : Bool := ConnCountsP.evK k && ConnFlowP.sfrK k

theorem PStep.of_step {s s' : Streams} (h : Streams.Step pK s s') : PStep s s' :=
  ⟨.of_step (h.mono fun _ hk => (Bool.and_eq_true _ _ ▸ hk).1), .frame (h.mono fun _ hk => (Bool.and_eq_true _ _ ▸ hk).2)⟩

/-- `PInv` unless a panic was recorded.  A recorded panic is never taken back (`Ev.panic_none`), so in this form the
    invariant goes forwards along a `PStep` with nothing to be shown about the states passed on the way; the
    hypothesis "no panic" is used once, at the state one asks about. -/
def PInvG (s : Streams) : Prop := s.panicked = none → PInv s

theorem PInv.g {s : Streams} (h : PInv s) : PInvG s := fun _ => h

theorem PInvG.step {s s' : Streams} (g : PInvG s) (st : PStep s s') : PInvG s' := fun hp =>
  have i := g (Ev.panic_none st.ev hp)
  ⟨st.mv.safe i.safe, st.mv.req i.req, (st.ev.qstep _ (by decide)).ok hp i.qs, (st.ev.qstep _ (by decide)).ok hp i.qc⟩

theorem gtUsize_false_of_le {w : Window} (h : w.val ≤ 0) : w.gtUsize 0 = false := by
  unfold Window.gtUsize; split
  · rfl
  · simp; omega

/-- **the loop of `assign_connection_capacity` raises the measure by at most 2**: every stream it moves
    into `pending_send` left `pending_capacity`, except the last one, which used up the connection window -/
theorem loop_phi (n : Nat) : ∀ s : Streams, PInvG s → (Streams.assignConnectionCapacityLoop n s).panicked = none →
    Phi (Streams.assignConnectionCapacityLoop n s) ≤ Phi s + 2 := by
  induction n with
  | zero => intro s _ _; exact Nat.le_add_right _ _
  | succ n ih =>
    intro s g hp
    have h := g (Ev.panic_none (.of_step (Streams.assignConnectionCapacityLoop_step (by decide) _ s)) hp)
    unfold Streams.assignConnectionCapacityLoop at hp ⊢
    split
    · rename_i hav
      rw [if_pos hav] at hp
      split
      · next s0 heq =>
        rw [(Streams.qPop_eq_none heq).2]; exact Nat.le_add_right _ _
      · next s0 j heq =>
        rw [heq] at hp
        dsimp only at hp ⊢
        have st0 : PStep s s0 := of_fst_eq heq (.of_step (Streams.qPop_step _ _ (by decide)))
        have hs0 : SafeInv s0 := st0.mv.safe h.safe
        have hphi0 := qPop_PC_phi h.safe.keys h.qc heq
        split
        · next hf =>
          rw [if_pos hf] at hp
          have := ih s0 (g.step st0) hp
          omega
        · next hf =>
          rw [if_neg hf] at hp
          have st1 : PStep s0 ((s0.tryAssignCapacity j).transitionAfter j (s0.stream j).isPendingResetExpiration) :=
            ⟨ConnCountsP.transitionAfter_after j (.of_step (Streams.tryAssignCapacity_step (by decide) _ _)),
             ((ConnFlowP.Mv.refl false s0).tryAssignCapacity j).trans (ConnFlowP.Mv.frame (Streams.transitionAfter_step (by decide) _ _ _))⟩
          have hta := transitionAfter_phi_le (hs0.tryAssignCapacity j).keys j (s0.stream j).isPendingResetExpiration
          rcases tryAssign_phi hs0 (st0.mv.req h.req) j with hA | ⟨hB, hav1⟩
          · have := ih _ ((g.step st0).step st1) hp
            omega
          · rw [ConnFlowP.loop_stop n (by rw [ConnFlowP.transitionAfter_prio]; exact gtUsize_false_of_le hav1)]
            omega
    · exact Nat.le_add_right _ _

end H2V.Lemmas.ConnDrainP
