import H2V.Lemmas.ConnPartPGaRel
import H2V.Lemmas.ConnBasicsFns
/-
  C15: what the per-stream closure of `Inner::recv_go_away`
      counts.transition(stream, |counts, stream| {
          actions.recv.handle_error(&err, stream);
          actions.send.handle_error(send_buffer, stream, counts); })
  does to the store, exactly:
    * the entry it is called on (`k`) is released, or ends as `Failed err a b`: state = `failState err a`
      (for a stream that was not closed: `Closed(Error(err))`, `Closed(ErrorAfterEndStream(err))` when
      the peer had already ended it), send queue empty, nothing buffered, nothing requested, nobody
      parked, all other fields (receive side, handle count, `is_pending_open`, …) as before;
    * every OTHER entry is still there and `Unt` (only the six capacity-assignment fields may differ);
    * an absent key stays absent.
-/
namespace H2V.Lemmas.ConnPartP
open H2V H2V.Model H2V.Model.Conn H2V.Lemmas.ConnWakeP

theorem get?_modStreamW (s : Streams) (k : Nat) (f : Stream → Stream × List String) (hf : ∀ a, (f a).1.key = a.key)
    (k' : Nat) :
    (s.modStreamW k f).store.get? k' = if k' = k then (s.store.get? k).map (fun a => (f a).1) else s.store.get? k' :=
  Streams.modStreamW_get? s k f hf k'

def CntEq (a b : Stream) : Prop := { b with isCounted := a.isCounted } = a

theorem CntEq.refl (a : Stream) : CntEq a a := rfl

theorem transitionAfter_get? (s : Streams) (k : Nat) (b : Bool) :
    (∀ k', k' ≠ k → (s.transitionAfter k b).store.get? k' = s.store.get? k') ∧
    ((s.transitionAfter k b).store.get? k = none ∨
      ∃ a c, s.store.get? k = some a ∧ (s.transitionAfter k b).store.get? k = some c ∧ CntEq a c) := by
  unfold Streams.transitionAfter
  simp only
  generalize hs1 : (if (b && !(s.stream k).isPendingResetExpiration) = true then
      s.modCountsA "self.num_local_reset_streams > 0" Counts.decNumResetStreams else s) = s1
  have h1 : s1.store = s.store := by subst hs1; split; exact Streams.modCountsA_store _ _ _; rfl
  generalize hs2 : (if (s.stream k).isClosed = true then
      if (!(s.stream k).state.isScheduledReset && (s.stream k).isCounted) = true then
        (if (!(s.stream k).isPendingResetExpiration) = true then
          ({ s1 with store := s1.store.unlink (s.stream k).id } : Streams) else s1).decNumStreams k
      else if (!(s.stream k).isPendingResetExpiration) = true then
        ({ s1 with store := s1.store.unlink (s.stream k).id } : Streams) else s1
    else s1) = s2
  have h2 : ∀ k', s2.store.get? k' = s.store.get? k' ∨
      (k' = k ∧ s2.store.get? k' = (s.store.get? k).map (fun a => { a with isCounted := false })) := by
    intro k'
    subst hs2
    have hu : ∀ k', (if (!(s.stream k).isPendingResetExpiration) = true then
          ({ s1 with store := s1.store.unlink (s.stream k).id } : Streams) else s1).store.get? k' = s.store.get? k' := by
      intro k'; split
      · show (s1.store.unlink _).get? k' = _; rw [Conn.Store.get?_unlink, h1]
      · rw [h1]
    split
    · split
      · rw [Streams.decNumStreams_get?]
        split
        · next hk => right; exact ⟨hk, by rw [hu]⟩
        · left; exact hu k'
      · left; exact hu k'
    · left; rw [h1]
  have h3 : ∀ t : Streams, ∀ k', (if (t.stream k).isCounted = true then t.decNumStreams k else t).store.get? k' =
      t.store.get? k' ∨ (k' = k ∧ (if (t.stream k).isCounted = true then t.decNumStreams k else t).store.get? k' =
        (t.store.get? k).map (fun a => { a with isCounted := false })) := by
    intro t k'
    split
    · rw [Streams.decNumStreams_get?]
      split
      · next hk => right; exact ⟨hk, rfl⟩
      · left; rfl
    · left; rfl
  refine ⟨fun k' hk' => ?_, ?_⟩
  · split
    · show (Store.remove _ k).get? k' = _
      rw [Conn.Store.get?_remove, if_neg hk']
      rcases h3 s2 k' with h | ⟨h, _⟩
      · rw [h]
        rcases h2 k' with h | ⟨h, _⟩
        · exact h
        · exact absurd h hk'
      · exact absurd h hk'
    · rcases h2 k' with h | ⟨h, _⟩
      · exact h
      · exact absurd h hk'
  · split
    · left
      show (Store.remove _ k).get? k = none
      rw [Conn.Store.get?_remove, if_pos rfl]
    · cases ha : s.store.get? k with
      | none =>
        left
        rcases h2 k with h | ⟨_, h⟩
        · rw [h, ha]
        · rw [h, ha]; rfl
      | some a =>
        right
        rcases h2 k with h | ⟨_, h⟩
        · exact ⟨a, a, rfl, by rw [h, ha], CntEq.refl a⟩
        · exact ⟨a, { a with isCounted := false }, rfl, by rw [h, ha]; rfl, rfl⟩

/-- the state `recv_go_away` (and `handle_error`) leaves a stream in: `State::handle_error(err)` — a
    state that is already `Closed` stays what it is —, except that a stream still waiting in
    `pending_open` whose implicit reset was only scheduled becomes a plain library reset (`Send::handle_error`) -/
def failState (err : PErr) (a : Stream) : State :=
  if a.isPendingOpen then
    match (a.state.handleError err).getScheduledReset with
    | some r => (a.state.handleError err).setReset a.id r .library
    | none => a.state.handleError err
  else a.state.handleError err

/-- a stream with the fields blanked that the closure may write on its own stream -/
def maskF (x : Stream) : Stream :=
  { mask x with state := {}, recvTask := none, pushTask := none, pendingSend := [], bufferedSendData := 0,
                requestedSendCapacity := 0, isCounted := false }

theorem maskF_of_mask {a b : Stream} (h : mask b = mask a) : maskF b = maskF a :=
  congrArg (fun m : Stream =>
    ({ m with state := {}, recvTask := none, pushTask := none, pendingSend := [], bufferedSendData := 0,
              requestedSendCapacity := 0, isCounted := false } : Stream)) h

structure Cleared (b : Stream) : Prop where
  pendingSend : b.pendingSend = []
  buffered : b.bufferedSendData = 0
  requested : b.requestedSendCapacity = 0

/-- what a failed stream looks like, in terms of the entry `a` it was before -/
structure Failed (err : PErr) (a b : Stream) : Prop where
  /-- everything the closure does not write is as before (key, id, `is_pending_open`, handle count,
      receive queue, receive flow control, content-length bookkeeping, …) -/
  rest : maskF b = maskF a
  state : b.state = failState err a
  cleared : Cleared b
  resolved : Resolved b

theorem failState_isClosed (err : PErr) (a : Stream) : (failState err a).isClosed = true := by
  unfold failState
  split
  · split
    · rfl
    · exact State.handleError_isClosed _ _
  · exact State.handleError_isClosed _ _

theorem failState_of_closed (err : PErr) (a : Stream) (hc : a.state.isClosed = true)
    (hs : a.isPendingOpen = true → a.state.getScheduledReset = none) : failState err a = a.state := by
  have h1 : a.state.handleError err = a.state := by
    have := hc
    unfold State.isClosed at this
    unfold State.handleError
    split
    · rfl
    · next h => cases hi : a.state.inner <;> simp_all
  unfold failState
  rw [h1]
  split
  · next hp => rw [hs hp]
  · rfl

section
variable {a b c : Stream}

theorem Failed.key {err : PErr} (h : Failed err a b) : b.key = a.key := (congrArg Stream.key h.rest :)
theorem Failed.id {err : PErr} (h : Failed err a b) : b.id = a.id := (congrArg Stream.id h.rest :)
theorem Failed.isPendingOpen {err : PErr} (h : Failed err a b) : b.isPendingOpen = a.isPendingOpen := (congrArg Stream.isPendingOpen h.rest :)
theorem Failed.refCount {err : PErr} (h : Failed err a b) : b.refCount = a.refCount := (congrArg Stream.refCount h.rest :)
theorem Failed.pendingRecv {err : PErr} (h : Failed err a b) : b.pendingRecv = a.pendingRecv := (congrArg Stream.pendingRecv h.rest :)
theorem Failed.recvFlow {err : PErr} (h : Failed err a b) : b.recvFlow = a.recvFlow := (congrArg Stream.recvFlow h.rest :)
theorem Failed.inFlightRecvData {err : PErr} (h : Failed err a b) : b.inFlightRecvData = a.inFlightRecvData := (congrArg Stream.inFlightRecvData h.rest :)
theorem Failed.resetAt {err : PErr} (h : Failed err a b) : b.resetAt = a.resetAt := (congrArg Stream.resetAt h.rest :)
theorem Failed.isPendingAccept {err : PErr} (h : Failed err a b) : b.isPendingAccept = a.isPendingAccept := (congrArg Stream.isPendingAccept h.rest :)
theorem Failed.pendingPushPromises {err : PErr} (h : Failed err a b) : b.pendingPushPromises = a.pendingPushPromises := (congrArg Stream.pendingPushPromises h.rest :)
theorem Failed.window {err : PErr} (h : Failed err a b) : b.sendFlow.windowSize = a.sendFlow.windowSize := (congrArg (fun x => x.sendFlow.windowSize) h.rest :)

/-- `Failed` field by field, with a clause `P` (who was woken) where the property files state it -/
theorem Failed.spelled {err : PErr} (h : Failed err a b) {P : Prop} (hw : P) :
    b.state = failState err a ∧ b.pendingSend = [] ∧ b.bufferedSendData = 0 ∧ b.requestedSendCapacity = 0 ∧
    b.sendTask = none ∧ b.openTask = none ∧ b.recvTask = none ∧ b.pushTask = none ∧ P ∧
    b.id = a.id ∧ b.refCount = a.refCount ∧ b.pendingRecv = a.pendingRecv ∧ b.recvFlow = a.recvFlow ∧
    b.inFlightRecvData = a.inFlightRecvData ∧ b.isPendingOpen = a.isPendingOpen :=
  ⟨h.state, h.cleared.1, h.cleared.2, h.cleared.3, h.resolved.2.1, h.resolved.2.2.1, h.resolved.2.2.2.1,
    h.resolved.2.2.2.2, hw, h.id, h.refCount, h.pendingRecv, h.recvFlow, h.inFlightRecvData, h.isPendingOpen⟩

/-- a failed stream stays failed when freed capacity is handed out afterwards (it asks for none) -/
theorem Failed.unt {err : PErr} (h : Failed err a b) (hu : Unt b c) (hr : Resolved c) : Failed err a c :=
  ⟨(maskF_of_mask hu).trans h.rest, hu.state.trans h.state,
   ⟨hu.pendingSend.trans h.cleared.pendingSend, hu.buffered.trans h.cleared.buffered,
    hu.requested.trans h.cleared.requested⟩, hr⟩

theorem Failed.of_unt {err : PErr} (hu : Unt a b) (hr : Resolved b) (hc : Cleared b)
    (hs : b.isPendingOpen = true → b.state.getScheduledReset = none) : Failed err a b := by
  refine ⟨maskF_of_mask hu, ?_, hc, hr⟩
  rw [failState_of_closed err a (by rw [← hu.state]; exact hr.1)
    (by rw [← hu.isPendingOpen, ← hu.state]; exact hs)]
  exact hu.state

theorem Failed.sched {err : PErr} (h : Failed err a b) (hp : b.isPendingOpen = true) :
    b.state.getScheduledReset = none := by
  rw [h.state]
  unfold failState
  rw [← h.isPendingOpen, if_pos hp]
  split
  · rfl
  · next hn => exact hn

theorem Failed.again {err : PErr} (h1 : Failed err a b) (h2 : Failed err b c) : Failed err a c := by
  refine ⟨h2.rest.trans h1.rest, ?_, h2.cleared, h2.resolved⟩
  rw [h2.state, failState_of_closed err b h1.resolved.1 h1.sched]
  exact h1.state
end

theorem maskF_notifySend (x : Stream) : maskF x.notifySend.1 = maskF x := maskF_of_mask (unt_notifySend x)
theorem maskF_notifyRecv (x : Stream) : maskF x.notifyRecv.1 = maskF x := by rw [Stream.notifyRecv_fst]; rfl
theorem maskF_notifyPush (x : Stream) : maskF x.notifyPush.1 = maskF x := by rw [Stream.notifyPush_fst]; rfl

theorem setReset_more (x : Stream) (r : Reason) (i : Initiator) :
    maskF (x.setReset r i).1 = maskF x ∧ (x.setReset r i).1.state = x.state.setReset x.id r i ∧
    (x.setReset r i).1.pendingSend = x.pendingSend ∧ (x.setReset r i).1.bufferedSendData = x.bufferedSendData ∧
    (x.setReset r i).1.requestedSendCapacity = x.requestedSendCapacity := by
  rw [Stream.setReset_fst]; exact ⟨rfl, rfl, rfl, rfl, rfl⟩

theorem recvHandleError_get? {t : Streams} {k : Nat} {a : Stream} (err : PErr) (ha : t.store.get? k = some a) :
    ∃ a1, (t.recvHandleError k err).store.get? k = some a1 ∧ a1.state = a.state.handleError err ∧
      a1.pendingSend = a.pendingSend ∧ maskF a1 = maskF a := by
  refine ⟨_, get?_notified (fun st => { st with state := st.state.handleError err }) rfl ha, ?_, ?_, ?_⟩
  · rw [Stream.notifyPush_fst, Stream.notifyRecv_fst, Stream.notifySend_fst]
  · rw [Stream.notifyPush_fst, Stream.notifyRecv_fst, Stream.notifySend_fst]
  · rw [maskF_notifyPush, maskF_notifyRecv, maskF_notifySend]; rfl

/-- `Send::handle_error(stream)` on its own entry: the send side is cleared; a scheduled reset of a
    stream still in `pending_open` becomes a plain library reset -/
theorem sendHandleError_get? {t : Streams} {k : Nat} {a1 : Stream} (ha : t.store.get? k = some a1) :
    ∃ a4, (t.sendHandleError k).store.get? k = some a4 ∧ Cleared a4 ∧ maskF a4 = maskF a1 ∧
      a4.state = (if a1.isPendingOpen then
                    match a1.state.getScheduledReset with
                    | some r => a1.state.setReset a1.id r .library
                    | none => a1.state
                  else a1.state) := by
  unfold Streams.sendHandleError
  have h2 : (t.clearQueue k).store.get? k =
      some { a1 with pendingSend := [], bufferedSendData := 0, requestedSendCapacity := 0 } := by
    rw [Streams.clearQueue_get?, if_pos rfl, ha]; rfl
  obtain ⟨a3, h3, hu⟩ : ∃ a3, ((t.clearQueue k).reclaimAllCapacity k).store.get? k = some a3 ∧
      Unt { a1 with pendingSend := [], bufferedSendData := 0, requestedSendCapacity := 0 } a3 := by
    rcases (u_reclaimAllCapacity k (GStep.refl (t.clearQueue k))).keep k _ h2 with ⟨f, _⟩ | r
    · exact f.elim
    · exact r
  have hst : ((t.clearQueue k).reclaimAllCapacity k).stream k = a3 := stream_eq_of_get? h3
  have hc3 : Cleared a3 := ⟨hu.pendingSend, hu.buffered, hu.requested⟩
  have hm3 : maskF a3 = maskF a1 := (maskF_of_mask hu).trans rfl
  have hs3 : a3.state = a1.state := hu.state
  have hp3 : a3.isPendingOpen = a1.isPendingOpen := hu.isPendingOpen
  have hi3 : a3.id = a1.id := hu.id
  simp only [hst]
  rw [← hp3, ← hs3, ← hi3]
  by_cases hp : a3.isPendingOpen = true
  · cases hr : a3.state.getScheduledReset with
    | some r =>
      simp only [hp, if_true]
      obtain ⟨m1, m2, m3, m4, m5⟩ := setReset_more a3 r .library
      exact ⟨_, get?_modStreamW_same _ h3 (by rw [Stream.setReset_fst]), ⟨m3.trans hc3.1, m4.trans hc3.2, m5.trans hc3.3⟩,
        m1.trans hm3, m2⟩
    | none =>
      simp only [hp, if_true]
      exact ⟨a3, h3, hc3, hm3, rfl⟩
  · simp only [hp, if_false]
    exact ⟨a3, h3, hc3, hm3, rfl⟩

/-- the per-stream closure of `recv_go_away` / `handle_error` -/
def errClosure (err : PErr) (t : Streams) (k : Nat) : Streams :=
  (t.transition k fun s => ((s.recvHandleError k err).sendHandleError k, ())).1

theorem errClosure_eq (err : PErr) (t : Streams) (k : Nat) :
    errClosure err t k =
      ((t.recvHandleError k err).sendHandleError k).transitionAfter k (t.stream k).isPendingResetExpiration := by
  unfold errClosure Streams.transition; simp only

theorem errClosure_isClosure (err : PErr) : Closure (errClosure err) := errClosure_closure err

theorem errClosure_done (err : PErr) (t : Streams) (k : Nat) : Done k (errClosure err t k) :=
  (errClosure_isClosure err).done t k
theorem errClosure_rs (err : PErr) (t : Streams) (k : Nat) : RS t (errClosure err t k) :=
  (errClosure_isClosure err).rs t k

theorem CntEq.maskF {a c : Stream} (h : CntEq a c) : maskF c = maskF a := by
  unfold CntEq at h; rw [← h]; rfl

theorem errClosure_self {t : Streams} {k : Nat} {a : Stream} (err : PErr) (ha : t.store.get? k = some a) :
    (errClosure err t k).store.get? k = none ∨ ∃ b, (errClosure err t k).store.get? k = some b ∧ Failed err a b := by
  obtain ⟨a1, h1, hs1, _, hm1⟩ := recvHandleError_get? err ha
  obtain ⟨a4, h4, hc4, hm4, hs4⟩ := sendHandleError_get? h1
  have hp1 : a1.isPendingOpen = a.isPendingOpen := by have e := congrArg Stream.isPendingOpen hm1; exact e
  have hi1 : a1.id = a.id := by have e := congrArg Stream.id hm1; exact e
  have hst : a4.state = failState err a := by
    rw [hs4, hp1, hs1, hi1]; rfl
  rcases errClosure_done err t k with hn | ⟨b, hb, hres⟩
  · exact Or.inl hn
  · right
    refine ⟨b, hb, ?_⟩
    rw [errClosure_eq] at hb
    rcases (transitionAfter_get? ((t.recvHandleError k err).sendHandleError k) k (t.stream k).isPendingResetExpiration).2
      with hn | ⟨x, c, hx, hc, hxc⟩
    · rw [hn] at hb; cases hb
    · rw [h4] at hx; cases hx
      rw [hc] at hb; cases hb
      have e1 : b.state = a4.state := by have e := congrArg Stream.state hxc; exact e
      have e2 : b.pendingSend = a4.pendingSend := by have e := congrArg Stream.pendingSend hxc; exact e
      have e3 : b.bufferedSendData = a4.bufferedSendData := by have e := congrArg Stream.bufferedSendData hxc; exact e
      have e4 : b.requestedSendCapacity = a4.requestedSendCapacity := by
        have e := congrArg Stream.requestedSendCapacity hxc; exact e
      have e5 : maskF b = maskF a4 := hxc.maskF
      exact ⟨e5.trans (hm4.trans hm1), e1.trans hst, ⟨e2.trans hc4.1, e3.trans hc4.2, e4.trans hc4.3⟩, hres⟩

theorem errClosure_other {t : Streams} {k k' : Nat} {a' : Stream} (err : PErr) (hk : k' ≠ k)
    (ha : t.store.get? k' = some a') :
    ∃ b', (errClosure err t k).store.get? k' = some b' ∧ Unt a' b' ∧ (Resolved a' → Resolved b') := by
  have hmid : OS k t ((t.recvHandleError k err).sendHandleError k) :=
    o_sendHandleError k (o_recvHandleError k err (GStep.refl t))
  rcases hmid.keep k' a' ha with ⟨f, _⟩ | ⟨b', hb', hab⟩
  · exact f.elim
  · have hb : (errClosure err t k).store.get? k' = some b' := by
      rw [errClosure_eq, (transitionAfter_get? _ k _).1 k' hk]; exact hb'
    refine ⟨b', hb, hab.unt (by rw [Conn.Store.get?_key ha]; exact hk), fun hr => ?_⟩
    rcases (errClosure_rs err t k).keep k' a' ha with ⟨_, hn⟩ | ⟨c, hc, hac⟩
    · rw [hn] at hb; cases hb
    · rw [hc] at hb; cases hb; exact hac.res hr

theorem errClosure_fresh {t : Streams} {k k' : Nat} (err : PErr) (hn : t.store.get? k' = none) :
    (errClosure err t k).store.get? k' = none := (errClosure_rs err t k).fresh k' hn

end H2V.Lemmas.ConnPartP
