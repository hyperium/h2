import H2V.Lemmas.ConnFlowPSend
/-
  ConnFlowP — `Store::for_each` / `try_for_each` and `Send::apply_remote_settings`
  (SETTINGS_INITIAL_WINDOW_SIZE up and down, all streams).
-/
namespace H2V.Lemmas.ConnFlowP
open H2V H2V.Model H2V.Model.Conn H2V.Lemmas.Comp

/- (the walker enters `for_each` / `try_for_each` by `Streams.storeTryForEach_inv` / `storeForEach_inv`
   itself; these are the forms a hand proof applies) -/
theorem SafeInv.storeTryForEach' {t : Streams} {f : Streams → Nat → Streams × Option PErr}
    (hf : ∀ t id, SafeInv t → SafeInv (f t id).1) (h : SafeInv t) : SafeInv (t.storeTryForEach f).1 :=
  Streams.storeTryForEach_inv (fun _ m ht => ht.fr ((Fr.refl _).panic m)) (fun t e _ ht => hf t e.2 ht) h
theorem SafeInv.storeForEach' {t : Streams} {f : Streams → Nat → Streams}
    (hf : ∀ t id, SafeInv t → SafeInv (f t id)) (h : SafeInv t) : SafeInv (t.storeForEach f) :=
  Streams.storeForEach_inv (fun _ m ht => ht.fr ((Fr.refl _).panic m)) (fun t e _ ht => hf t e.2 ht) h
theorem Fr.storeForEach' {s t : Streams} {f : Streams → Nat → Streams}
    (hf : ∀ t id, Fr s t → Fr s (f t id)) (h : Fr s t) : Fr s (t.storeForEach f) :=
  Streams.storeForEach_inv (P := Fr s) (fun _ m ht => ht.panic m) (fun t e _ ht => hf t e.2 ht) h

/-- one stream of the `Ordering::Less` loop: the window shrinks (possibly below zero), what the stream
    holds above the new window goes into the accumulator `acc` (= the pending credit `g`) -/
theorem SafeInvG.decStreamWindow {s : Streams} {acc : Nat} (h : SafeInvG acc s) (dec id : Nat) :
    SafeInvG ((Streams.decStreamWindow dec acc s id).2.1 : Nat) (Streams.decStreamWindow dec acc s id).1 := by
  unfold Streams.decStreamWindow
  dsimp only
  split
  · exact h
  cases hget : s.store.get? id with
  | none =>
    have hb : s.stream id = { key := id, id := 0 } := by unfold Streams.stream; rw [hget]; rfl
    rw [hb]
    split
    · exact h
    · rename_i fl _ he
      have hav : fl.available = ({ key := id, id := 0 } : Stream).sendFlow.available := by
        rw [Flow.decSendWindow_eq] at he
        split at he <;> simp only [Prod.mk.injEq] at he <;> (obtain ⟨rfl, _⟩ := he; rfl)
      have hz : fl.available.asSize = 0 := by rw [hav]; rfl
      rw [Streams.modStream_of_none hget]
      split
      · omega
      · exact h.fr ((Fr.refl _).panic _)
  | some st =>
    have hm := get?_mem hget
    rw [Streams.stream_of_get? hget]
    have hok := h.st st hm.1
    have h0 := hok.av0; have hw := hok.avw; have hlo := hok.wlo; have hhi := hok.whi
    have hle := h.st_le hm.1
    have hA0 := h.a0
    have hW := h.whi
    split
    · exact h
    · rename_i fl _ he
      rw [Flow.decSendWindow_eq] at he
      split at he
      · rename_i hin
        simp only [Prod.mk.injEq, and_true] at he
        subst he
        have hin' := (inI32_iff _).1 hin
        simp only [FlowControl.windowSz, asSize_eq]
        split
        · rename_i hgt
          -- the stream holds more than its new window: the excess is reclaimed
          have hrec : ((st.sendFlow.available.val.toNat - (st.sendFlow.windowSize.val - u32AsI32 dec).toNat : Nat) : Int) =
              st.sendFlow.available.val - ((st.sendFlow.windowSize.val - u32AsI32 dec).toNat : Int) := by omega
          have hsmall : st.sendFlow.available.val.toNat - (st.sendFlow.windowSize.val - u32AsI32 dec).toNat ≤ 2147483647 := by
            omega32
          split
          · rename_i he2
            exfalso
            rw [Flow.claimCapacity_eq, u32AsI32_small hsmall] at he2
            have : inI32 (st.sendFlow.available.val -
                ((st.sendFlow.available.val.toNat - (st.sendFlow.windowSize.val - u32AsI32 dec).toNat : Nat) : Int)) = true :=
              (inI32_iff _).2 (by omega32)
            simp only [this, if_true, Prod.mk.injEq] at he2
            exact absurd he2.2 (by simp)
          · rename_i fl2 _ he2
            rw [Flow.claimCapacity_eq, u32AsI32_small hsmall] at he2
            have hin2 : inI32 (st.sendFlow.available.val -
                ((st.sendFlow.available.val.toNat - (st.sendFlow.windowSize.val - u32AsI32 dec).toNat : Nat) : Int)) = true :=
              (inI32_iff _).2 (by omega32)
            simp only [hin2, if_true, Prod.mk.injEq, and_true] at he2
            subst he2
            have hu := Upd.modStream hget (fun x : Stream => { x with sendFlow :=
              ({ st.sendFlow with windowSize := ⟨st.sendFlow.windowSize.val - u32AsI32 dec⟩,
                                  available := ⟨st.sendFlow.available.val -
                ((st.sendFlow.available.val.toNat - (st.sendFlow.windowSize.val - u32AsI32 dec).toNat : Nat) : Int)⟩ } : FlowControl) }) rfl
            have hacc : wrapAddU32 acc (st.sendFlow.available.val.toNat - (st.sendFlow.windowSize.val - u32AsI32 dec).toNat) =
                acc + (st.sendFlow.available.val.toNat - (st.sendFlow.windowSize.val - u32AsI32 dec).toNat) :=
              wrapAddU32_of_lt (by omega32)
            rw [hacc]
            refine h.upd hu (Int.natCast_nonneg _) ⟨?_, ?_, ?_, ?_⟩ ?_ ?_ ?_
            · simp only at hgt ⊢; omega
            · simp only at hgt ⊢; omega
            · simp only; omega32
            · simp only; omega32
            · rw [modStream_prio]; exact hA0
            · rw [modStream_prio]; exact hW
            · rw [modStream_prio]; simp only at hgt ⊢; omega
        · rename_i hng
          have hu := Upd.modStream hget (fun x : Stream => { x with sendFlow :=
              ({ st.sendFlow with windowSize := ⟨st.sendFlow.windowSize.val - u32AsI32 dec⟩ } : FlowControl) }) rfl
          refine h.upd hu (Int.natCast_nonneg _) ⟨h0, ?_, ?_, ?_⟩ ?_ ?_ ?_
          · simp only at hng ⊢; omega
          · simp only; omega32
          · simp only; omega32
          · rw [modStream_prio]; exact hA0
          · rw [modStream_prio]; exact hW
          · rw [modStream_prio]; simp only; omega
      · simp at he

theorem SafeInvG.tryForEachAcc (dec : Nat) (fuel : Nat) :
    ∀ (i len acc : Nat) {t : Streams}, SafeInvG acc t →
      SafeInvG ((Streams.tryForEachAcc (Streams.decStreamWindow dec) fuel i len acc t).2.1 : Nat)
        (Streams.tryForEachAcc (Streams.decStreamWindow dec) fuel i len acc t).1 := by
  induction fuel with
  | zero => intro i len acc t h; exact h
  | succ n ih =>
    intro i len acc t h
    unfold Streams.tryForEachAcc
    split
    · split
      · exact h.fr ((Fr.refl _).panic _)
      · rename_i id _
        have := h.decStreamWindow dec id
        split
        · rename_i heq; rw [heq] at this; exact this
        · rename_i heq; rw [heq] at this
          dsimp only
          split
          · exact ih _ _ _ this
          · exact ih _ _ _ this
    · exact h

end H2V.Lemmas.ConnFlowP
