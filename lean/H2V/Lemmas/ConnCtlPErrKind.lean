import H2V.Lemmas.ConnCtlPTrace
import H2V.Lemmas.ConnLoops
import H2V.Lemmas.ConnStages
/-
  ConnCtlP — `Streams::apply_remote_settings` can only fail with a connection error
  (`Error::GoAway`, FLOW_CONTROL_ERROR), never with a stream error: errors of `try_for_each` are
  errors of its closure.
-/
set_option autoImplicit false
set_option linter.unusedSimpArgs false
namespace H2V.Lemmas.ConnCtlP
open H2V H2V.Model H2V.Model.Conn

theorem tryForEachAcc_err (f : Nat → Streams → Nat → Streams × Nat × Option PErr) (P : PErr → Prop)
    (hf : ∀ acc s id e, (f acc s id).2.2 = some e → P e) :
    ∀ (fuel i len acc : Nat) (s : Streams) (e : PErr), (Streams.tryForEachAcc f fuel i len acc s).2.2 = some e → P e := by
  intro fuel
  induction fuel with
  | zero => intro i len acc s e h; simp [Streams.tryForEachAcc] at h
  | succ n ih =>
    intro i len acc s e h
    unfold Streams.tryForEachAcc at h
    split at h
    · split at h
      · simp [Streams.panic] at h
      · rename_i id _
        rcases hfs : f acc s id with ⟨s', acc', r⟩
        rw [hfs] at h
        cases r with
        | some e' =>
          simp at h
          subst h
          exact hf acc s id e' (by rw [hfs])
        | none =>
          dsimp only at h
          split at h
          · exact ih _ _ _ _ _ h
          · exact ih _ _ _ _ _ h
    · simp at h

def IsGoAwayErr (e : PErr) : Prop := ∃ d r i, e = .goAway d r i

theorem decStreamWindow_err (dec acc : Nat) (s : Streams) (id : Nat) (e : PErr)
    (h : (Streams.decStreamWindow dec acc s id).2.2 = some e) : IsGoAwayErr e := by
  unfold Streams.decStreamWindow at h
  dsimp only at h
  (repeat' split at h) <;> simp at h <;> exact ⟨_, _, _, h.symm⟩

/-- the SETTINGS_INITIAL_WINDOW_SIZE part of `Send::apply_remote_settings` (`Streams.sarsWindow`, ConnStages): both loops over
    the streams fail only with the error of their closure -/
theorem sarsWindow_err (s : Streams) (val : Nat) (e : PErr) (h : (s.sarsWindow val).2 = some e) : IsGoAwayErr e := by
  unfold Streams.sarsWindow at h
  dsimp only at h
  split at h
  · unfold Streams.sarsLess at h
    split at h
    · rename_i s2 acc2 e2 htf
      cases h
      exact tryForEachAcc_err _ IsGoAwayErr (fun acc s id e h => decStreamWindow_err _ acc s id e h) _ _ _ _ _ _ (by rw [htf])
    · cases h
  · split at h
    · refine Streams.storeTryForEach_err (Q := IsGoAwayErr) ?_ h
      intro s id e he
      split at he
      · cases he; exact ⟨_, _, _, rfl⟩
      · cases he
    · cases h

theorem sendApplyRemoteSettings_err (s : Streams) (a b c : Option Nat) (e : PErr)
    (h : (s.sendApplyRemoteSettings a b c).2 = .error e) : IsGoAwayErr e := by
  rw [Streams.sendApplyRemoteSettings_eq] at h
  cases a with
  | none => cases h
  | some val =>
    dsimp only at h
    rcases hw : (s.sarsConnect c).sarsWindow val with ⟨s1, r⟩
    rw [hw] at h
    cases r with
    | none => cases h
    | some e' =>
      cases h
      exact sarsWindow_err _ val _ (by rw [hw])

theorem ackAndApply_err (c : Conn) (v : List (Nat × Nat)) (e : PErr) (h : (ackAndApply c v).2 = .err e) :
    IsGoAwayErr e := by
  unfold ackAndApply at h
  dsimp only at h
  split at h
  · rename_i s e' hres
    simp at h
    subst h
    exact sendApplyRemoteSettings_err _ _ _ _ e' (by unfold Streams.applyRemoteSettings at hres; rw [hres])
  · simp at h

theorem applyRemoteSettings_err (s : Streams) (vals : List (Nat × Nat)) (b : Bool) (e : PErr)
    (h : (s.applyRemoteSettings vals b).2 = .error e) : IsGoAwayErr e :=
  sendApplyRemoteSettings_err _ _ _ _ e h

end H2V.Lemmas.ConnCtlP
