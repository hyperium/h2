import H2V.Model.ConnProto
import H2V.Lemmas.ConnLoops
import H2V.Lemmas.ConnStages
import H2V.Lemmas.ConnStepLift
/-
  C13 (ConnHttpP) — the store as the receive path sees it: the relations `Delivers P` (at most ONE new event, satisfying
  `P`, reaches a receive queue), `Quiet` (none does), `Still` (no state changes); and what a step of the stream layer does
  to the entries of the store, for a per-entry preorder that the updates of its kinds respect (`entries_of_step`, from
  `Streams.Step.lift`).
-/
namespace H2V.Lemmas.ConnHttpP
open H2V H2V.Model H2V.Model.Conn

theorem modStream_entry {s : Streams} {k : Nat} {f : Stream → Stream} {k' : Nat} {st' : Stream}
    (g : (s.modStream k f).store.get? k' = some st') (hf : ∀ st, (f st).key = st.key) :
    s.store.get? k' = some st' ∨ k' = k ∧ ∃ st, s.store.get? k' = some st ∧ st' = f st := by
  rw [Streams.modStream_get? s k f hf] at g
  split at g
  · rename_i e
    subst e
    cases hg : s.store.get? k' with
    | none => rw [hg] at g; cases g
    | some st => rw [hg] at g; cases g; exact Or.inr ⟨rfl, st, rfl, rfl⟩
  · exact Or.inl g

def prOf (s : Streams) (k : Nat) : List REvent := ((s.store.get? k).map (·.pendingRecv)).getD []

/-- every receive queue of `s'` is empty, or what it was in `s`, or that followed by ONE new event
    satisfying `P` (a stream created on the way starts with an empty queue) -/
def Delivers (P : Nat → REvent → Prop) (s s' : Streams) : Prop :=
  ∀ k st', s'.store.get? k = some st' →
    st'.pendingRecv = [] ∨ st'.pendingRecv = prOf s k ∨
    ∃ ev, P k ev ∧ (st'.pendingRecv = prOf s k ++ [ev] ∨ st'.pendingRecv = [ev])

/-- nothing is handed over: every receive queue of `s'` is empty or what it was in `s` -/
def Quiet (s s' : Streams) : Prop :=
  ∀ k st', s'.store.get? k = some st' →
    st'.pendingRecv = [] ∨ ∃ st, s.store.get? k = some st ∧ st'.pendingRecv = st.pendingRecv

theorem Quiet.refl (s : Streams) : Quiet s s := fun _ st' h => Or.inr ⟨st', h, rfl⟩

theorem Quiet.trans {a b c : Streams} (h1 : Quiet a b) (h2 : Quiet b c) : Quiet a c := fun k st'' h => by
  rcases h2 k st'' h with e | ⟨st', g', e'⟩
  · exact Or.inl e
  · rcases h1 k st' g' with e | ⟨st, g, e⟩
    · exact Or.inl (e'.trans e)
    · exact Or.inr ⟨st, g, e'.trans e⟩

theorem Quiet.delivers {P : Nat → REvent → Prop} {s s' : Streams} (h : Quiet s s') : Delivers P s s' := fun k st' g => by
  rcases h k st' g with e | ⟨st, g0, e⟩
  · exact Or.inl e
  · exact Or.inr (Or.inl (by rw [e]; simp [prOf, g0]))

/-- bookkeeping after a delivery -/
theorem Delivers.step {P : Nat → REvent → Prop} {s0 s s' : Streams} (h : Delivers P s0 s) (q : Quiet s s') :
    Delivers P s0 s' := fun k st'' g => by
  rcases q k st'' g with e | ⟨st', g', e'⟩
  · exact Or.inl e
  · rw [e']; exact h k st' g'

/-- bookkeeping before a delivery -/
theorem Quiet.then {P : Nat → REvent → Prop} {s0 s s' : Streams} (q : Quiet s0 s) (h : Delivers P s s') :
    Delivers P s0 s' := fun k st'' g => by
  have hp : prOf s k = [] ∨ prOf s k = prOf s0 k := by
    unfold prOf
    cases hg : s.store.get? k with
    | none => exact Or.inl rfl
    | some st' =>
      rcases q k st' hg with e | ⟨st, g0, e⟩
      · exact Or.inl (by simp [e])
      · exact Or.inr (by simp [e, g0])
  rcases h k st'' g with e | e | ⟨ev, pe, e | e⟩
  · exact Or.inl e
  · rcases hp with p | p
    · exact Or.inl (e.trans p)
    · exact Or.inr (Or.inl (e.trans p))
  · rcases hp with p | p
    · exact Or.inr (Or.inr ⟨ev, pe, Or.inr (by rw [e, p]; rfl)⟩)
    · exact Or.inr (Or.inr ⟨ev, pe, Or.inl (by rw [e, p])⟩)
  · exact Or.inr (Or.inr ⟨ev, pe, Or.inr e⟩)

theorem Delivers.mono {P Q : Nat → REvent → Prop} {s s' : Streams} (h : Delivers P s s')
    (hpq : ∀ k ev, P k ev → Q k ev) : Delivers Q s s' := fun k st' g => by
  rcases h k st' g with e | e | ⟨ev, pe, e⟩
  · exact Or.inl e
  · exact Or.inr (Or.inl e)
  · exact Or.inr (Or.inr ⟨ev, hpq k ev pe, e⟩)

/-- every stream of `s'` was there in `s`, in the same state (no stream is created; streams may be removed) -/
def Still (s s' : Streams) : Prop :=
  ∀ k st', s'.store.get? k = some st' → ∃ st, s.store.get? k = some st ∧ st'.state = st.state

/-- a per-entry preorder that every update of the kinds in `K` respects (what `Stream.Upds.lift` asks for) -/
structure Respects (K : Kind → Bool) (r : Stream → Stream → Prop) : Prop where
  refl : ∀ x, r x x
  trans : ∀ {x y z}, r x y → r y z → r x z
  upd : ∀ x y, Stream.Upd K x y → r x y
  updW : ∀ x p, Stream.UpdW K x p → r x p.1
  queued : ∀ x q v, r x (x.setQueued q v)
  counted : ∀ x v, r x { x with isCounted := v }

theorem entries_of_step {K : Kind → Bool} {r : Stream → Stream → Prop} (R : Respects K r) (hi : K .insert = false)
    {s s' : Streams} (t : Streams.Step K s s') (k : Nat) (y : Stream) (hy : s'.store.get? k = some y) :
    ∃ x, s.store.get? k = some x ∧ r x y :=
  let ⟨x, hx, hu⟩ := t.lift.back hi hy
  ⟨x, hx, hu.lift R.refl R.trans R.upd R.updW (fun x q v _ _ => R.queued x q v) (fun x v _ => R.counted x v)⟩

theorem entries_kept {K : Kind → Bool} {r : Stream → Stream → Prop} (R : Respects K r) (hi : K .insert = false)
    (hr : K .release = false) {s s' : Streams} (t : Streams.Step K s s') (k : Nat) :
    match s.store.get? k with
    | some x => ∃ y, s'.store.get? k = some y ∧ r x y
    | none => s'.store.get? k = none := by
  cases hk : s.store.get? k with
  | none => exact t.lift.new' hi hk
  | some x =>
    rcases t.lift.old' hi hk with ⟨y, hy, hu⟩ | ⟨h, _⟩
    · exact ⟨y, hy, hu.lift R.refl R.trans R.upd R.updW (fun x q v _ _ => R.queued x q v) (fun x v _ => R.counted x v)⟩
    · rw [hr] at h; cases h

theorem get?_of_slab {s s' : Streams} (h : s'.store.slab = s.store.slab) (k : Nat) : s'.store.get? k = s.store.get? k := by
  unfold Store.get?; rw [h]

def KeepsAt (x y : Stream) : Prop := y.key = x.key ∧ (y.pendingRecv = x.pendingRecv ∨ y.pendingRecv = [])

@[reducible] def Keeps (f : Stream → Stream) : Prop := ∀ st, KeepsAt st (f st)

theorem quiet_setAt (s : Streams) (x : Stream) (hx : KeepsAt (s.stream x.key) x) : Quiet s (s.setStream x) :=
    fun k st' g => by
  rw [Streams.setStream_get?] at g
  split at g
  · rename_i e
    subst e
    cases hg : s.store.get? x.key with
    | none => rw [hg] at g; cases g
    | some y =>
      rw [hg] at g
      cases g
      rw [Streams.stream_of_get? hg] at hx
      exact hx.2.elim (fun e => .inr ⟨y, rfl, e⟩) .inl
  · exact Or.inr ⟨st', g, rfl⟩

theorem quiet_modAt (s : Streams) (k : Nat) (f : Stream → Stream) (hf : KeepsAt (s.stream k) (f (s.stream k))) :
    Quiet s (s.modStream k f) := by
  cases hg : s.store.get? k with
  | none => rw [Streams.modStream_of_none hg]; exact fun k' st' g => .inr ⟨st', by rw [Streams.panic_store] at g; exact g, rfl⟩
  | some x =>
    rw [Streams.stream_of_get? hg] at hf
    rw [Streams.modStream_of_some hg]
    refine quiet_setAt s _ ?_
    rw [hf.1, Store.get?_key hg, Streams.stream_of_get? hg]
    exact hf

theorem Quiet.out {s0 s s' : Streams} (h : Quiet s0 s) (e : s'.store.slab = s.store.slab) : Quiet s0 s' :=
  h.trans fun k st' g => Or.inr ⟨st', get?_of_slab e k ▸ g, rfl⟩

theorem quiet_insert (s : Streams) (x : Stream) (hx : x.pendingRecv = []) :
    Quiet s { s with store := (s.store.insert x).1 } := fun k' st' g => by
  simp only [Store.get?_insert] at g
  cases hg : s.store.get? k' with
  | some y =>
    rw [hg] at g
    simp only [Option.orElse_some, Option.some.injEq] at g
    subst g
    exact Or.inr ⟨_, rfl, rfl⟩
  | none =>
    rw [hg] at g
    simp only [Option.orElse_none] at g
    split at g
    · cases g; exact Or.inl hx
    · cases g

end H2V.Lemmas.ConnHttpP
