import H2V.Lemmas.ConnInit
import H2V.Lemmas.ConnRecvPReach
/-
  C03: the initial states of the two roles are initial states of `Reach` (`Conn.init` / `Conn.initServer`), a checker
  for concrete op histories, and the history of F30: DATA received on a pushed stream that the application never polls
  is credited back to the connection window when the parent's last handle goes away
  (`pushed_stream_data_credited_back`).
-/
namespace H2V.Lemmas.ConnRecvP
open H2V H2V.Model H2V.Model.Conn
open H2V.Model.Conn.Streams

theorem flowInit_eq : ((FlowControl.new.incWindow Generated.Consts.DEFAULT_INITIAL_WINDOW_SIZE).1.assignCapacity
    Generated.Consts.DEFAULT_INITIAL_WINDOW_SIZE).1 = ⟨⟨65535⟩, ⟨65535⟩⟩ := by decide

theorem init_client (cfg : Conn.Cfg) (h : cfg.cws = none) : Init (Conn.init cfg).streams := by
  unfold Conn.init
  simp only [h]
  exact ⟨rfl, rfl, flowInit_eq, rfl, rfl⟩

theorem init_client_cws (cfg : Conn.Cfg) (sz : Nat) (h : cfg.cws = some sz) (hsz : sz ≤ 2147483647) :
    Reach (Ghost.init.setTarget sz) (Conn.init cfg).streams := by
  unfold Conn.init
  simp only [h]
  refine Reach.step (.setTargetConnectionWindow sz) (.init ?_) hsz
  exact ⟨rfl, rfl, flowInit_eq, rfl, rfl⟩

theorem init_server (cfg : Conn.Cfg) (ecp : Bool) (pf : Bytes) (h : cfg.cws = none) :
    Init (Conn.initServer cfg ecp pf).streams := by
  unfold Conn.initServer
  simp only [h]
  exact ⟨rfl, rfl, flowInit_eq, rfl, rfl⟩

theorem init_server_cws (cfg : Conn.Cfg) (ecp : Bool) (pf : Bytes) (sz : Nat) (h : cfg.cws = some sz)
    (hsz : sz ≤ 2147483647) : Reach (Ghost.init.setTarget sz) (Conn.initServer cfg ecp pf).streams := by
  unfold Conn.initServer
  simp only [h]
  refine Reach.step (.setTargetConnectionWindow sz) (.init ?_) hsz
  exact ⟨rfl, rfl, flowInit_eq, rfl, rfl⟩


def runOps (s : Streams) (ops : List Op) : Streams := ops.foldl (fun s op => op.apply s) s
def runGhost (g : Ghost) (ops : List Op) : Ghost := ops.foldl (fun g op => op.ghost g) g

/-- executable form of `Op.valid` / `Op.ok` -/
def Op.validB (_s : Streams) : Op → Bool
  | .setTargetConnectionWindow t => decide (t ≤ 2147483647)
  | .applyLocalSettings vals => match settingsIws vals with
    | some t => decide (t ≤ 2147483647)
    | none => true
  | _ => true

theorem Op.valid_of_validB {s : Streams} {op : Op} (h : op.validB s = true) : op.valid s := by
  cases op <;> simp only [Op.valid] <;> (try trivial)
  · next vals =>
    intro t ht
    simp only [Op.validB, ht] at h
    simpa using h
  · simpa [Op.validB] using h

def isOkB {ε : Type} : Except ε Unit → Bool
  | .ok _ => true
  | .error _ => false

def Op.okB (s : Streams) : Op → Bool
  | .applyLocalSettings vals => isOkB (s.applyLocalSettingsFrame vals).2
  | .innerSendReset id r => isOkB (s.innerSendReset id r).2
  | _ => true

theorem isOkB_iff {ε : Type} (r : Except ε Unit) : isOkB r = true ↔ r = .ok () := by
  cases r <;> simp [isOkB]

theorem Op.ok_of_okB {s : Streams} {op : Op} (h : op.okB s = true) : op.ok s := by
  cases op <;> simp only [Op.ok] <;> (try trivial)
  · exact (isOkB_iff _).1 h
  · exact (isOkB_iff _).1 h

def allValidOk : Streams → List Op → Bool
  | _, [] => true
  | s, op :: ops => op.validB s && op.okB s && allValidOk (op.apply s) ops

theorem reachOk_runOps {g : Ghost} {s : Streams} (h : ReachOk g s) (ops : List Op) (hv : allValidOk s ops = true) :
    ReachOk (runGhost g ops) (runOps s ops) := by
  induction ops generalizing g s with
  | nil => exact h
  | cons op ops ih =>
    simp only [allValidOk, Bool.and_eq_true] at hv
    exact ih (.step op h (Op.valid_of_validB hv.1.1) (Op.ok_of_okB hv.1.2)) hv.2


/-- a new client connection whose reset-stream queue is disabled (`max_concurrent_reset_streams(0)`;
    with the default queue the same happens when the entry expires) -/
def leakStart : Streams :=
  { counts := { maxLocalResetStreams := 0 },
    actions := { recv := { flow := ⟨⟨65535⟩, ⟨65535⟩⟩ } } }

/-- the promised request `GET http://a/` on stream 2 -/
def leakPromised : HeadersIn :=
  { sid := 2, eos := false, status := none, method := some [71, 69, 84], scheme := some [104, 116, 116, 112],
    authority := some [97], path := some [47] }

/-- request on stream 1; the peer promises stream 2 (PUSH_PROMISE), answers on it (HEADERS 200) and
    sends 10 octets of DATA; the peer resets stream 2; the application, which never polled the
    pushed stream, drops its two handles of stream 1 -/
def leakOps : List Op :=
  [ .sendRequest false [] false none, .cloneStreamRef 0,
    .recvPushPromise 1 leakPromised,
    .recvHeaders { sid := 2, eos := false, status := some [50, 48, 48] },
    .recvData 2 [1, 2, 3, 4, 5, 6, 7, 8, 9, 10] false none,
    .recvReset 2 8,
    .dropStreamRef 0, .dropStreamRef 0 ]

theorem leakStart_init : Init leakStart := ⟨rfl, rfl, rfl, rfl, rfl⟩

/-- **F30** (`drop_stream_ref` calls `release_closed_capacity` on the promised streams of the stream that goes away,
    besides cancelling them).  The 10 octets received on the never-polled pushed stream are given back when the last
    handle of the parent goes away: nothing is in flight, `available` is back at the target, no stream holds anything,
    the pushed stream has left the store.  (Without that call the same history ends with `in_flight_data = 10`,
    `available = 65525`, for ever.) -/
theorem pushed_stream_data_credited_back :
    ReachOk Ghost.init (runOps leakStart leakOps) ∧
    cI (runOps leakStart leakOps) = 0 ∧ cA (runOps leakStart leakOps) = 65535 ∧
    sumInfl (runOps leakStart leakOps).store.slab = 0 ∧
    (runOps leakStart leakOps).store.slab.map (fun x => (x.id, x.refCount, x.inFlightRecvData)) = [(1, 0, 0)] ∧
    (runOps leakStart leakOps).panicked = none := by
  refine ⟨reachOk_runOps (.init leakStart_init) leakOps (by decide +kernel), ?_⟩
  decide +kernel

/-- the octets were really in flight before the handles went away (the history is not trivial) -/
theorem pushed_stream_data_in_flight :
    cI (runOps leakStart (leakOps.take 6)) = 10 ∧ cA (runOps leakStart (leakOps.take 6)) = 65525 ∧
    (runOps leakStart (leakOps.take 6)).store.slab.map (fun x => (x.id, x.refCount, x.inFlightRecvData)) =
      [(1, 2, 0), (2, 0, 10)] := by
  decide +kernel

end H2V.Lemmas.ConnRecvP
