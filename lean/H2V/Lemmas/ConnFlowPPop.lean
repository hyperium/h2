import H2V.Lemmas.ConnFlowPMovers
/-
  ConnFlowP — what `pop_frame` does to the windows: the relational specification `PopRel`.

  If `pop_frame` hands out a DATA frame of `len` octets for the stream with store key `k`, there is
  the state `s1` at the moment the chunk was cut (reached from the entry state by window-frame steps
  only: queue handling, discarded frames of reset streams, capacity handed back) such that
    * `len ≤ max_len`, `len ≤` the stream's assigned capacity, and `len = 0` or `len ≤` the stream's
      send window (`DataCut`);
    * the connection window and the stream's window and capacity are charged exactly `len`, nothing
      else changes (`Charged`).
  If it hands out anything else (or nothing), no window changed at all.
-/
namespace H2V.Lemmas.ConnFlowP
open H2V H2V.Model H2V.Model.Conn H2V.Lemmas.Comp
open H2V.Lemmas.ConnWakeP (popFrameC pfData)

/-- the chunk cut off the front DATA frame fits -/
structure DataCut (s1 : Streams) (k len maxLen : Nat) : Prop where
  le_max : len ≤ maxLen
  le_cap : len ≤ (s1.stream k).sendFlow.available.asSize
  le_win : len = 0 ∨ len ≤ (s1.stream k).sendFlow.windowSz

/-- `len` octets charged to stream `k` and to the connection, nothing else touched -/
structure Charged (s1 s' : Streams) (k len : Nat) : Prop where
  conn_window : s'.prio.flow.windowSize.val = s1.prio.flow.windowSize.val - len
  conn_avail : s'.prio.flow.available = s1.prio.flow.available
  streams : KeysOk s1.store → KeysOk s'.store ∧
    ∀ y ∈ s'.store.slab,
      (∃ x ∈ s1.store.slab, x.key = y.key ∧
        y.sendFlow.windowSize.val = x.sendFlow.windowSize.val - (if x.key = k then (len : Int) else 0) ∧
        y.sendFlow.available.val = x.sendFlow.available.val - (if x.key = k then (len : Int) else 0)) ∨
      s1.store.nextKey ≤ y.key

theorem Charged.fr {s1 s2 s' : Streams} {k len : Nat} (h : Charged s1 s2 k len) (hn : s2.store.nextKey = s1.store.nextKey)
    (hf : Fr s2 s') : Charged s1 s' k len := by
  refine ⟨by rw [hf.1]; exact h.conn_window, by rw [hf.1]; exact h.conn_avail, fun hk => ?_⟩
  obtain ⟨hk2, hm2⟩ := h.streams hk
  obtain ⟨hk', hn', hm'⟩ := hf.2.2 hk2
  refine ⟨hk', fun y hy => ?_⟩
  rcases hm' y hy with ⟨x, hx, hkey, hfl⟩ | ⟨hkey, _⟩
  · rcases hm2 x hx with ⟨w, hw, hk1, hw1, ha1⟩ | hfresh
    · exact Or.inl ⟨w, hw, hk1.trans hkey, by rw [← hfl]; exact hw1, by rw [← hfl]; exact ha1⟩
    · exact Or.inr (hkey ▸ hfresh)
  · exact Or.inr (hn ▸ hkey)

def PopRel (s : Streams) (maxLen : Nat) (r : Streams × Option Streams.OutFrame) : Prop :=
  match r.2 with
  | some (.data len _ fr) =>
    ∃ s1, WFr s s1 ∧ SafeInv s1 ∧ DataCut s1 fr.key len maxLen ∧ Charged s1 r.1 fr.key len
  | _ => WFr s r.1

theorem set_set (a : Store) {st1 st' : Stream} (hk : st1.key = st'.key) : (a.set st1).set st' = a.set st' := by
  unfold Store.set
  simp only [List.map_map]
  congr 1
  apply List.map_congr_left
  intro x _
  simp only [Function.comp]
  by_cases hx : x.key = st1.key
  · have e1 : (x.key == st1.key) = true := by simpa using hx
    have e2 : (st1.key == st'.key) = true := by simpa using hk
    have e3 : (x.key == st'.key) = true := by simpa using hx.trans hk
    simp only [e1, if_true, e2, e3]
  · have e1 : (x.key == st1.key) = false := by simpa using hx
    have e3 : (x.key == st'.key) = false := by rw [← hk]; exact e1
    simp only [e1, Bool.false_eq_true, if_false, e3]

theorem charged_pfData {sd : Stream → Nat → Nat → Stream × List String × Bool} (hsd : SdOk sd) {s : Streams}
    (h : SafeInv s) (id len : Nat) (rest : List SFrame)
    (h1 : len ≤ (s.stream id).sendFlow.available.asSize)
    (h2 : len = 0 ∨ len ≤ (s.stream id).sendFlow.windowSz) :
    Charged s (pfData sd s id len rest) id len ∧ (pfData sd s id len rest).store.nextKey = s.store.nextKey := by
  have hstore := pfData_store sd s id len rest
  have hflow := pfData_flow sd s id len rest
  have hA := h.av_le
  have hA0 := h.a0
  have hW := h.whi
  cases hget : s.store.get? id with
  | none =>
    have hb : s.stream id = { key := id, id := 0 } := by unfold Streams.stream; rw [hget]; rfl
    have hl0 : len = 0 := by
      rw [hb] at h1
      have : ({ key := id, id := 0 } : Stream).sendFlow.available.asSize = 0 := rfl
      omega
    subst hl0
    rw [Streams.modStream_of_none hget, panic_store, Streams.panic_stream, hb] at hstore
    have hk := hsd ((s.panic s!"dangling store key {id}").stream id) 0 (s.panic s!"dangling store key {id}").prio.maxBufferSize
    rw [Streams.panic_stream, hb] at hk
    have hslab : (pfData sd s id 0 rest).store.slab = s.store.slab := by
      rw [hstore]; exact set_of_none (by rw [hk.1]; exact hget)
    have hnext : (pfData sd s id 0 rest).store.nextKey = s.store.nextKey := by rw [hstore]; rfl
    have hc := conn_assign (f := s.prio.flow) hA0 (n := 0) (by omega32)
    refine ⟨⟨?_, ?_, fun hko => ⟨⟨by rw [hslab]; exact hko.1, by rw [hslab, hnext]; exact hko.2⟩, fun y hy => ?_⟩⟩, hnext⟩
    · rw [hflow, sendData_zero, hc.2]; simp
    · rw [hflow, sendData_zero]
      have := hc.1
      cases hav : (s.prio.flow.assignCapacity 0).1.available
      rw [hav] at this; simp only at this
      cases hav2 : s.prio.flow.available
      rw [hav2] at this; simp only at this
      congr 1; omega
    · rw [hslab] at hy
      exact Or.inl ⟨y, hy, rfl, by split <;> simp, by split <;> simp⟩
  | some st =>
    have hm := get?_mem hget
    have hs1 : (s.modStream id fun st => { st with pendingSend := rest }).stream id = { st with pendingSend := rest } :=
      stream_modStream_self hget _ rfl
    have hk := hsd ((s.modStream id fun st => { st with pendingSend := rest }).stream id) len
      (s.modStream id fun st => { st with pendingSend := rest }).prio.maxBufferSize
    rw [hs1] at hk hstore
    rw [Streams.stream_of_get? hget] at h1 h2
    have hok := h.st st hm.1
    have hsend := flOk_send hok h1 h2
    have hle := h.st_le hm.1
    have hl : (len : Int) ≤ st.sendFlow.available.val := by
      rw [asSize_eq] at h1; have := hok.av0; omega
    have hc := conn_send (f := s.prio.flow) hA0 (n := len) (by omega) hW
    have hstore1 : (s.modStream id fun st => { st with pendingSend := rest }).store =
        s.store.set { st with pendingSend := rest } := by
      unfold Streams.modStream; rw [hget]; rfl
    rw [hstore1] at hstore
    generalize hst' : (sd { st with pendingSend := rest } len
      (s.modStream id fun st => { st with pendingSend := rest }).prio.maxBufferSize).1 = st' at hk hstore
    have hk1 : st'.key = id := by rw [hk.1]; exact hm.2
    rw [set_set _ (show ({ st with pendingSend := rest } : Stream).key = st'.key by rw [hk1]; exact hm.2)] at hstore
    have hnext : (pfData sd s id len rest).store.nextKey = s.store.nextKey := by rw [hstore]; rfl
    refine ⟨⟨?_, ?_, fun hko => ?_⟩, hnext⟩
    · rw [hflow, hc.2.1]
    · rw [hflow]
      have := hc.1
      cases hav : ((s.prio.flow.assignCapacity len).1.sendData len).1.available
      rw [hav] at this; simp only at this
      cases hav2 : s.prio.flow.available
      rw [hav2] at this; simp only at this
      congr 1
    · have hkeys : (pfData sd s id len rest).store.slab.map (·.key) = s.store.slab.map (·.key) := by
        rw [hstore, set_keys]
      refine ⟨⟨by rw [hkeys]; exact hko.1, fun y hy => ?_⟩, fun y hy => ?_⟩
      · obtain ⟨x, hx, hkx⟩ := mem_of_map_key_eq hkeys hy
        rw [hnext, ← hkx]; exact hko.2 x hx
      · rw [hstore] at hy
        simp only [Store.set, List.mem_map] at hy
        obtain ⟨x, hx, rfl⟩ := hy
        refine Or.inl ⟨x, hx, ?_⟩
        by_cases hxk : x.key = id
        · have hxst : x = st := key_inj hko.1 hx hm.1 (hxk.trans hm.2.symm)
          have e1 : (x.key == st'.key) = true := by simp [hxk, hk1]
          simp only [e1, if_true, if_pos hxk]
          rw [hk.2, hxst]
          exact ⟨hm.2.trans hk1.symm, hsend.2.2.1, hsend.2.1⟩
        · have e1 : (x.key == st'.key) = false := by simp [hk1, hxk]
          simp only [e1, Bool.false_eq_true, if_false, if_neg hxk]
          exact ⟨trivial, by simp, by simp⟩

theorem PopRel.other {s t : Streams} {m : Nat} {o : Option Streams.OutFrame} (h : WFr s t)
    (ho : ∀ len e fr, o ≠ some (.data len e fr)) : PopRel s m (t, o) := by
  unfold PopRel
  split
  · rename_i heq; exact absurd heq (ho _ _ _)
  · exact h

theorem PopRel.data {s s1 t : Streams} {m len : Nat} {e : Bool} {fr : DataFrame} (h : WFr s s1) (hs : SafeInv s1)
    (hc : DataCut s1 fr.key len m) (hch : Charged s1 t fr.key len) : PopRel s m (t, some (.data len e fr)) :=
  ⟨s1, h, hs, hc, hch⟩

/-- `pop_frame` for `PopRel`: between two rounds the state is safe and a window-frame step away from the entry state -/
theorem popRel_popRule {sd : Stream → Nat → Nat → Stream × List String × Bool} (hsd : SdOk sd) (s0 : Streams) (maxLen : Nat) :
    PopRule sd maxLen (fun t => SafeInv t ∧ WFr s0 t) (fun _ _ t => SafeInv t ∧ WFr s0 t)
      (fun t => SafeInv t ∧ WFr s0 t) (fun _ _ t => SafeInv t ∧ WFr s0 t) (PopRel s0 maxLen) :=
  have fr : ∀ {t t' : Streams}, Fr t t' → SafeInv t ∧ WFr s0 t → SafeInv t' ∧ WFr s0 t' :=
    fun hf h => ⟨h.1.fr hf, h.2.fr hf⟩
  have finish : ∀ (t : Streams) (id : Nat) (c : Prop) [Decidable c] (b : Bool),
      Fr t ((if c then (t.qPush .pendingSend id).1 else t).transitionAfter id b) := by
    intro t id c _ b
    refine Fr.trans ?_ (transitionAfter_sfr _ _ _).fr
    split
    · exact (Fr.refl t).qPush _ _
    · exact Fr.refl t
  { stop := fun _ h => PopRel.other h.2 (by intros; simp)
    q := fun s h => fr ((Fr.refl s).qPop _) h
    pop := fun _ _ _ _ h' _ => h'
    skip := fun _ _ h => h
    discard := fun id s _ _ _ h _ _ =>
      fr ((Fr.refl _).qPush _ _) ⟨((MvG.refl true 0 _).reclaimAllCapacity id).safe (h.1.fr (.of_step (Streams.clearQueue_step (by decide) s id))),
        (h.2.fr (.of_step (Streams.clearQueue_step (by decide) s id))).reclaimAllCapacity id⟩
    emit := fun id s _ _ rest len c _ _ h _ _ hmax hav hwin =>
      have hch := charged_pfData hsd h.1 id len rest hav hwin
      PopRel.data h.2 h.1 ⟨hmax, hav, hwin⟩ (hch.1.fr hch.2 (finish _ id c _))
    rest := fun id s _ rest h _ => fr ((Fr.refl s).modStream id _ (fun _ => ⟨rfl, rfl⟩)) h
    pp := fun id s _ _ _ rest pushed h _ _ =>
      fr (Fr.of_step (Streams.ppActivate_step (by decide) _ pushed)) (fr ((Fr.refl s).modStream id _ (fun _ => ⟨rfl, rfl⟩)) h)
    reset := fun id s r h _ => fr ((Fr.refl s).modStreamW id _ (noFlowW_setReset r .library)) h
    fin := fun id _ t c _ h =>
      ⟨fr (finish t id c _) h, fun f hf => PopRel.other (h.2.fr (finish t id c _)) (by
        intro len e fr' he; exact hf len e fr' (Option.some.inj he))⟩
    ta := fun id s h _ => fr (transitionAfter_sfr s id _).fr h }

theorem popFrameC_spec {sd : Stream → Nat → Nat → Stream × List String × Bool} (hsd : SdOk sd) (fuel : Nat) :
    ∀ {s : Streams}, SafeInv s → ∀ maxLen, PopRel s maxLen (popFrameC sd fuel s maxLen) :=
  fun h maxLen => (popRel_popRule hsd _ maxLen).run fuel _ ⟨h, WFr.refl _⟩

theorem popFrame_spec {s : Streams} (h : SafeInv s) (fuel maxLen : Nat) :
    PopRel s maxLen (Streams.popFrame fuel s maxLen) := by
  rw [ConnWakeP.popFrameC.eq]; exact popFrameC_spec sdOk_sendData fuel h maxLen

end H2V.Lemmas.ConnFlowP
