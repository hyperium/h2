import H2V.Lemmas.HpackDecInv
/-
  Part D — split invariance: decoding a header block fragment by fragment (HEADERS then
  CONTINUATION frames, `continue_block` in between, the undecoded tail carried over) is the same as
  decoding the concatenation.
-/
namespace H2V.Lemmas.HpackDec
open H2V H2V.Model.Hpack H2V.Generated.Static

/-- P6 — the decoder a turn returns with restarts the representation exactly like the decoder that
    entered the turn (the only difference, `seen_field` already set by a field representation, is
    set again by the same representation) -/
theorem step_stop_restart (d : Decoder) (a : Bytes) (d' : Decoder) (tl : Bytes)
    (res : Except DErr Unit) (h : step d (!d.seenField) a = .stop d' tl res) (b : Bytes) :
    step d' (!d'.seenField) (a ++ b) = step d (!d.seenField) (a ++ b) := by
  have ht := step_cases d (!d.seenField) a
  rw [h] at ht
  cases ht with
  | done => rfl
  | early => rfl
  | field _ _ ha hr hne => subst ha; exact step_field hr hne d _ _ _

theorem decodeLoop_fuel : ∀ (f1 f2 : Nat) (d : Decoder) (c : Bool) (buf : Bytes) (acc : List Header),
    buf.length < f1 → buf.length < f2 → decodeLoop f1 d c buf acc = decodeLoop f2 d c buf acc := by
  intro f1
  induction f1 with
  | zero => intro f2 d c buf acc h; omega
  | succ f1 ih =>
    intro f2 d c buf acc h1 h2
    cases f2 with
    | zero => omega
    | succ f2 =>
      rw [decodeLoop_succ, decodeLoop_succ]
      cases hs : step d c buf with
      | stop d' tl res => rfl
      | next d' c' rest emit =>
        simp only
        obtain ⟨⟨pre, hpre, hl⟩, -⟩ := step_next_props _ _ _ _ _ _ _ hs
        rw [hpre, List.length_append] at h1 h2
        exact ih f2 _ _ _ _ (by omega) (by omega)

/-- the loop of `Decoder::decode` with `can_resize = !seen_field` and enough fuel -/
def loop (d : Decoder) (buf : Bytes) (acc : List Header) : DecodeOut :=
  decodeLoop (buf.length + 1) d (!d.seenField) buf acc

theorem loop_unfold (d : Decoder) (buf : Bytes) (acc : List Header) :
    loop d buf acc =
      match step d (!d.seenField) buf with
      | .stop d' tl res => ⟨acc, d', tl, res⟩
      | .next d' _ rest emit => loop d' rest (acc ++ emit) := by
  unfold loop
  rw [decodeLoop_succ]
  cases hs : step d (!d.seenField) buf with
  | stop d' tl res => rfl
  | next d' c' rest emit =>
    simp only
    obtain ⟨⟨pre, hpre, hl⟩, -, hc, -⟩ := step_next_props _ _ _ _ _ _ _ hs
    rw [hc rfl]
    apply decodeLoop_fuel
    · rw [hpre, List.length_append]; omega
    · omega

theorem decode_eq_loop (d : Decoder) (src : Bytes) : d.decode src = loop (prep d) src [] :=
  decode_eq d src

theorem decodeLoop_acc : ∀ (fuel : Nat) (d : Decoder) (c : Bool) (buf : Bytes) (acc : List Header),
    decodeLoop fuel d c buf acc =
      ⟨acc ++ (decodeLoop fuel d c buf []).fields, (decodeLoop fuel d c buf []).dec,
        (decodeLoop fuel d c buf []).tail, (decodeLoop fuel d c buf []).result⟩ := by
  intro fuel
  induction fuel with
  | zero => intro d c buf acc; rw [decodeLoop_zero, decodeLoop_zero]; simp
  | succ fuel ih =>
    intro d c buf acc
    rw [decodeLoop_succ, decodeLoop_succ _ _ _ _ []]
    cases step d c buf with
    | stop d' tl res => simp
    | next d' c' rest emit =>
      simp only [List.nil_append]
      rw [ih d' c' rest (acc ++ emit), ih d' c' rest emit]
      simp only [List.append_assoc]

/-- a result after which the framing layer goes on with the next fragment -/
def resumable : Except DErr Unit → Bool
  | .ok _ => true
  | .error e => e.isNeedMore

/-- D (core) — decoding `a ++ b` from `d` is: decode `a`; if that ended with `Ok` or `NeedMore`,
    go on from the returned decoder on the undecoded tail followed by `b`; otherwise the same
    error, with `b` left in the buffer -/
theorem loop_split : ∀ (n : Nat) (d : Decoder) (a : Bytes) (acc : List Header) (b : Bytes),
    a.length < n →
    loop d (a ++ b) acc =
      (if resumable (loop d a acc).result then
        loop (loop d a acc).dec ((loop d a acc).tail ++ b) (loop d a acc).fields
      else ⟨(loop d a acc).fields, (loop d a acc).dec, (loop d a acc).tail ++ b, (loop d a acc).result⟩) := by
  intro n
  induction n with
  | zero => intro d a acc b hn; omega
  | succ n ih =>
    intro d a acc b hn
    rw [loop_unfold d a acc]
    cases hs : step d (!d.seenField) a with
    | stop d' tl res =>
      simp only
      obtain ⟨-, hok, hnm⟩ := step_stop_props _ _ _ _ _ _ hs
      cases res with
      | ok u =>
        obtain ⟨h1, h2, h3⟩ := hok rfl
        subst h1 h2 h3
        simp [resumable]
      | error e =>
        cases hn' : e.isNeedMore with
        | true =>
          have htl := hnm e rfl hn'
          subst htl
          simp only [resumable, hn', if_true]
          rw [loop_unfold d (tl ++ b) acc, loop_unfold d' (tl ++ b) acc,
            step_stop_restart d tl d' tl _ hs b]
        | false =>
          simp only [resumable, hn', Bool.false_eq_true, if_false]
          have hx := step_good d (!d.seenField) a b
          rw [hs] at hx
          simp only [Step.Good, hn', Bool.false_eq_true, if_false] at hx
          rw [loop_unfold d (a ++ b) acc, hx]
    | next d' c' rest emit =>
      simp only
      obtain ⟨⟨pre, hpre, hl⟩, -⟩ := step_next_props _ _ _ _ _ _ _ hs
      have hlen : rest.length < n := by rw [hpre, List.length_append] at hn; omega
      have hx := step_good d (!d.seenField) a b
      rw [hs] at hx
      rw [loop_unfold d (a ++ b) acc, hx.2]
      simp only
      exact ih d' rest (acc ++ emit) b hlen

theorem prep_continueBlock_decode (d : Decoder) (a : Bytes) :
    prep (d.decode a).dec.continueBlock = (d.decode a).dec := by
  have h := (decodeLoop_inv (a.length + 1) (prep d) (!(prep d).seenField) a []).1
  rw [← decode_eq] at h
  have h1 := h.msu
  have h2 := h.cont
  rw [prep_maxSizeUpdate] at h1
  rw [prep_continuing] at h2
  generalize (d.decode a).dec = x at h1 h2
  obtain ⟨msu, lmu, t, cont, seen⟩ := x
  simp only at h1 h2
  subst h1 h2
  rfl

/-- what the framing layer does with the next fragment of the header block: after `Ok` or
    `NeedMore`, `continue_block` and `decode` on the undecoded tail followed by the fragment (the
    fields add up); after any other error nothing more is decoded -/
def feed (o : DecodeOut) (frag : Bytes) : DecodeOut :=
  if resumable o.result then
    let o2 := o.dec.continueBlock.decode (o.tail ++ frag)
    ⟨o.fields ++ o2.fields, o2.dec, o2.tail, o2.result⟩
  else ⟨o.fields, o.dec, o.tail ++ frag, o.result⟩

/-- D — `split_invariance`, two fragments: for every decoder state and every cut of the input,
    decoding fragment by fragment yields the same fields, decoder, tail and result as decoding the
    concatenation (no hypothesis on the input, the table or the Huffman decoder is needed) -/
theorem split_invariance (d : Decoder) (a b : Bytes) :
    d.decode (a ++ b) = feed (d.decode a) b := by
  unfold feed
  rw [decode_eq_loop d (a ++ b), loop_split (a.length + 1) (prep d) a [] b (Nat.lt_succ_self _),
    ← decode_eq_loop d a]
  split
  · simp only
    rw [decode_eq_loop (d.decode a).dec.continueBlock, prep_continueBlock_decode]
    exact decodeLoop_acc _ _ _ _ _
  · rfl

/-- D — `split_invariance` spelled out, resumable case: if the first fragment ends with `Ok` or a
    `NeedMore` error, then `continue_block` + `decode` on the tail followed by the second fragment
    completes to exactly what `decode` does on the concatenation -/
theorem split_invariance_resume (d : Decoder) (a b : Bytes)
    (h : (d.decode a).result = .ok () ∨ ∃ k, (d.decode a).result = .error (.needMore k)) :
    let o1 := d.decode a
    let o2 := o1.dec.continueBlock.decode (o1.tail ++ b)
    (d.decode (a ++ b)).fields = o1.fields ++ o2.fields ∧
    (d.decode (a ++ b)).dec = o2.dec ∧
    (d.decode (a ++ b)).tail = o2.tail ∧
    (d.decode (a ++ b)).result = o2.result := by
  have hr : resumable (d.decode a).result = true := by
    rcases h with h | ⟨k, h⟩ <;> rw [h] <;> rfl
  simp only [split_invariance d a b, feed, hr, if_true, and_self]

/-- D — `split_invariance` spelled out, fatal case: an error other than `NeedMore` on the first
    fragment is the error of the whole block (same fields before it, same decoder) -/
theorem split_invariance_error (d : Decoder) (a b : Bytes) (e : DErr)
    (h : (d.decode a).result = .error e) (hn : e.isNeedMore = false) :
    (d.decode (a ++ b)).result = .error e ∧
    (d.decode (a ++ b)).fields = (d.decode a).fields ∧
    (d.decode (a ++ b)).dec = (d.decode a).dec ∧
    (d.decode (a ++ b)).tail = (d.decode a).tail ++ b := by
  have hr : ¬ resumable (d.decode a).result = true := by rw [h]; simp [resumable, hn]
  rw [split_invariance d a b]
  unfold feed
  rw [if_neg hr]
  exact ⟨h, rfl, rfl, rfl⟩

/-- D — `split_invariance_list`: any number of fragments -/
theorem split_invariance_list (d : Decoder) (a : Bytes) (frags : List Bytes) :
    d.decode (a ++ frags.flatten) = frags.foldl feed (d.decode a) := by
  induction frags generalizing a with
  | nil => simp
  | cons f fs ih =>
    rw [List.flatten_cons, ← List.append_assoc, ih (a ++ f), split_invariance d a f]
    rfl

/-- D (the NOTE of the task) — whenever the loop of `decode` returns a `NeedMore` error, the tail
    it leaves is the whole buffer it was looking at when the incomplete representation started:
    nothing of that representation has been consumed (the part about raw strings split off before
    validation is in `decodeLiteral_good`: the errors raised after a split are those of
    `Header::new` / `into_entry`, never `NeedMore`) -/
theorem step_needMore_tail (d : Decoder) (c : Bool) (buf : Bytes) (d' : Decoder) (tl : Bytes)
    (e : DErr) (h : step d c buf = .stop d' tl (.error e)) (hn : e.isNeedMore = true) : tl = buf :=
  (step_stop_props _ _ _ _ _ _ h).2.2 e rfl hn

theorem decode_continuing_false (d : Decoder) (src : Bytes) : (d.decode src).dec.continuing = false := by
  rw [decode_eq, (decodeLoop_inv _ _ _ _ _).1.cont]
  exact prep_continuing d

theorem fragments_ready (d : Decoder) (a : Bytes) (frags : List Bytes) (hi : Table.Inv d.table) :
    Table.Inv (frags.foldl feed (d.decode a)).dec.table ∧
      (frags.foldl feed (d.decode a)).dec.continuing = false := by
  rw [← split_invariance_list d a frags]
  exact ⟨decode_preserves_inv d _ hi, decode_continuing_false d _⟩

end H2V.Lemmas.HpackDec
