import H2V.Lemmas.ConnStepLoops
import H2V.Lemmas.ConnStepWrite
import H2V.Lemmas.ConnResetPHist
/-
  Every operation of ConnResetP's `Op` (peer frames, connection progress, user calls) is a step of the stream layer,
  for a `K` that allows every kind.  `clearWakes` is the test harness emptying the list of woken tasks, not a call.
-/
namespace H2V.Model.Conn.Streams
open H2V H2V.Model H2V.Model.Conn
open H2V.Lemmas.ConnResetP (Op)

theorem op_step {K : Kind → Bool} (hK : ∀ k, K k) (s : Streams) (op : Op) (h : op ≠ .clearWakes) : Step K s (op.apply s) := by
  cases op <;> first
    | exact absurd rfl h
    | (simp only [Op.apply]; stp_step <;> first | exact .refl _ | exact fun k _ => hK k | exact fun _ => hK _)

end H2V.Model.Conn.Streams
