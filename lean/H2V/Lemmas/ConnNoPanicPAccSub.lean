import H2V.Lemmas.ConnNoPanicPAccInv
/-
  C08 (no panic) — the server accept path: `J` along the steps that release or create slab
  entries (`transition_after`, `Store::insert`, the unlink/remove of a failed `send_request`) and along the
  pop of `pending_accept`.
-/
namespace H2V.Lemmas.ConnNoPanicP
open H2V H2V.Model H2V.Model.Conn H2V.Lemmas.ConnCountsP
attribute [local irreducible] wrapSubU32 wrapSubUsize

theorem J.transitionAfter {s : Streams} (hj : J s) (k : Nat) (b : Bool) : J (s.transitionAfter k b) :=
  hj.at (.of_step (Streams.transitionAfter_step (by decide) s k b))

theorem J.transition {α : Type} {s : Streams} (k : Nat) (f : Streams → Streams × α) (hj : J (f s).1) : J (s.transition k f).1 := by
  rw [Streams.transition_fst]; exact hj.transitionAfter _ _

theorem J.insert {s : Streams} (hj : J s) (st : Stream) (hf : st.isPendingAccept = false)
    (h1 : st.refCount = 0) (h2 : st.pendingRecv = []) : J { s with store := (s.store.insert st).1 } := by
  have hold : ∀ j, Live s j → ({ s with store := (s.store.insert st).1 } : Streams).stream j = s.stream j :=
    fun j hl => stream_insert_old st hl
  have hacc := AccOK.of_qf (QF.insert .pendingAccept s st hf) hj.acc
  refine ⟨hacc, fun k hkq => ?_, ?_, fun hs j hl => ?_, hj.cl⟩
  · rw [hold k (hj.acc.live hkq)]; exact hj.qd k hkq
  · refine Nat.le_trans ?_ hj.rr
    unfold rrCount
    exact countP_mono' (fun j hjq hfj => by rw [hold j (hj.acc.live hjq)] at hfj; exact hfj)
  · rcases insert_get?_cases s.store st j with e | ⟨_, hjn, e⟩
    · have hl' : Live s j := by unfold Live at hl ⊢; rw [← e]; exact hl
      rw [hold j hl']; exact hj.si hs j hl'
    · have : ({ s with store := (s.store.insert st).1 } : Streams).stream j = { st with key := s.store.nextKey } := stream_of_get? e
      rw [this]
      intro _; exact ⟨h1, h2⟩

/-- what `Recv::next_incoming` leaves: `J`, and the facts about the popped stream -/
theorem J.qPopAcc {s : Streams} (hj : J s) {s1 : Streams} {id : Nat} (h : s.qPop .pendingAccept = (s1, some id)) :
    J s1 ∧ Live s id ∧ Live s1 id ∧ s1.counts = s.counts ∧ id ∉ s1.recv.pendingAccept ∧
    (s.stream id).refCount = 0 ∧ ReqHead (s.stream id) ∧ s.counts.isServer = true ∧
    (s1.stream id).refCount = 0 ∧ (s1.stream id).pendingRecv = (s.stream id).pendingRecv ∧
    (s1.stream id).state = (s.stream id).state ∧
    ((s.stream id).state.isRemoteReset = true → rrCount s1 + 1 ≤ s.counts.numRemoteResetStreams) := by
  have hacc1 : AccOK s1 := by have := hj.acc.qPop; rw [h] at this; exact this
  obtain ⟨rest, heq, h⟩ := Streams.qPop_eq_some h
  have heq' : s.recv.pendingAccept = id :: rest := heq
  have hmem : id ∈ s.recv.pendingAccept := by rw [heq']; exact List.mem_cons_self ..
  have hl : Live s id := hj.acc.live hmem
  have hl0 : Live (s.setQ .pendingAccept rest) id := live_setQ.mpr hl
  have hnd := hj.acc.nodup
  rw [heq'] at hnd
  have hnd' := List.nodup_cons.mp hnd
  have hq1 : s1.recv.pendingAccept = rest := by
    rw [h]
    show Streams.getQ _ .pendingAccept = rest
    rw [getQ_modStream, getQ_setQ]
  have hst1 : s1.stream id = (s.stream id).setQueued .pendingAccept false := by
    rw [h, stream_modStream_live hl0 _ (fun x => setQueued_key x _ _), Streams.setQ_stream]
  have hoth : ∀ j, j ≠ id → s1.stream j = s.stream j := by
    intro j hj'
    rw [h, Streams.stream_modStream_ne _ _ (fun x => setQueued_key x _ _) hj', Streams.setQ_stream]
  have hc1 : s1.counts = s.counts := by rw [h, Streams.modStream_counts, setQ_counts]
  have hkeys : SameKeys s s1 := by
    rw [h]; exact (SameKeys.setQ _ _ _).trans (SameKeys.modStream _ _ _)
  have hsrv : s.counts.isServer = true := by
    cases hh : s.counts.isServer with
    | true => rfl
    | false => have := hj.cl hh; rw [this] at hmem; cases hmem
  have hrrle : rrCount s1 + (if (s.stream id).state.isRemoteReset = true then 1 else 0) ≤ rrCount s := by
    unfold rrCount
    rw [hq1, heq', List.countP_cons]
    have : rest.countP (fun k => (s1.stream k).state.isRemoteReset) = rest.countP (fun k => (s.stream k).state.isRemoteReset) := by
      apply List.countP_congr
      intro j hjr
      rw [hoth j (fun e => hnd'.1 (e ▸ hjr))]
    rw [this]
    exact Nat.le_refl _
  refine ⟨⟨hacc1, fun k hkq => ?_, ?_, fun hs j hlj => ?_, fun hs => ?_⟩, hl, hkeys.live.mpr hl, hc1, by rw [hq1]; exact hnd'.1,
    (hj.qd id hmem).1, (hj.qd id hmem).2, hsrv, by rw [hst1]; exact (hj.qd id hmem).1, by rw [hst1]; rfl, by rw [hst1]; rfl, ?_⟩
  · rw [hq1] at hkq
    rw [hoth k (fun e => hnd'.1 (e ▸ hkq))]
    exact hj.qd k (by rw [heq']; exact List.mem_cons_of_mem _ hkq)
  · rw [hc1]; exact Nat.le_trans (by omega) (Nat.le_trans hrrle hj.rr)
  · rw [hc1] at hs
    by_cases hjk : j = id
    · subst hjk
      rw [hst1]
      exact hj.si hs j hl
    · rw [hoth j hjk]; exact hj.si hs j (hkeys.live.mp hlj)
  · rw [hc1, hsrv] at hs; cases hs
  · intro hr
    rw [if_pos hr] at hrrle
    exact Nat.le_trans hrrle hj.rr

end H2V.Lemmas.ConnNoPanicP
