import H2V.Lemmas.ConnRelHead
import H2V.Lemmas.ConnLoops
import H2V.Lemmas.ConnBasicsSendData
/-
  What one call of the stream layer can do to the state: `Streams.Step K s s'`, the reflexive-transitive closure of the
  updates the model makes.  An update of a slab entry is one of the shapes listed by `Stream.Upd` (`Stream.UpdW` for the
  methods that also return wakers), an update of `Prioritize` / `Send` / `Recv` / `Counts` one of those of
  `Prioritize.Upd` …; each carries the equation that produced its argument where the code has just tested one
  (`x.pendingSend = f :: rest` for a pop, `x.state.recvOpen … = (st', _)` for a change of state).  `K : Kind → Bool` says which kinds of
  update are allowed (`Kind`: the vocabulary in which a function's footprint is stated); an update of a kind asks for
  `K kind`.  Every model function is a step with its footprint (`f_step`, ConnStepFns), and a two-state relation that
  is a preorder and holds of every update of the kinds in `K` holds of every `Step K` (its `of_step`, one induction).
  Some updates ask for no kind, and every `of_step` has to hold of them whatever `K` is: `panic`, `unsup`, `wake` (they
  only record: the first panic, an unsupported path, the woken tasks), the `notify_*` methods (a parked task is taken out and
  returned as a waker), `setRefs` (the count of handles), `dec_num_streams` (a counter goes down, `is_counted` is cleared);
  `Stream.Upd.requested` asks for the `u32` bound on the new value instead of a kind.
-/
namespace H2V.Model.Conn
open H2V H2V.Model
attribute [local irreducible] wrapSubU32 wrapSubUsize

/-- the functions of state.rs that change a stream's state -/
inductive StateFn where
  | sendOpen | sendClose | recvOpen | recvClose | reserveRemote | reserveLocal | recvReset | handleError | recvEof
  | setScheduledReset | setReset
  /-- `set_reset` with the reason of a scheduled implicit reset (the test `get_scheduled_reset` has just given it) -/
  | setResetScheduled
  deriving DecidableEq, Repr

/-- the frames of `pending_send` by kind -/
inductive FrameClass where
  | headers | data | reset | pushPromise
  deriving DecidableEq, Repr

def SFrame.cls : SFrame → FrameClass
  | .headers .. => .headers
  | .data .. => .data
  | .reset .. => .reset
  | .pushPromise .. => .pushPromise

/-- the counters of counts.rs that are not tied to an entry's `is_counted` flag -/
inductive Counter where
  | localReset | remoteReset | localErrorReset | dataFrames
  deriving DecidableEq, Repr

/-- the kinds of update: what a footprint is made of -/
inductive Kind where
  /-- `Store::insert` of a `Stream::new`, and its roll-back when the first frame cannot be queued -/
  | insert
  /-- `transition_after` forgets a released entry -/
  | release
  /-- the id leaves the id map (`Ptr::unlink`) -/
  | unlink
  /-- `is_counted` is raised (`inc_num_send_streams`, `inc_num_recv_streams`) -/
  | count
  /-- the entry enters / leaves an intrusive queue -/
  | enqueue (q : QName)
  | dequeue (q : QName)
  /-- a counter goes up / down -/
  | counterUp (c : Counter)
  | counterDown (c : Counter)
  /-- a function of state.rs is applied to the entry's state -/
  | state (f : StateFn)
  /-- the state records a reset by the peer (`recv_reset`; `handle_error` / `set_reset` with a remote initiator) -/
  | remoteReset
  /-- a frame is put on `pending_send` -/
  | frame (c : FrameClass)
  /-- `buffered_send_data` goes up (`send_data`) -/
  | buffer
  /-- the front of `pending_send` is taken (`pop_frame`; `send_reset` keeping only the head) -/
  | popFrame
  /-- `Stream::send_data` charges a chunk of DATA to the stream (`pop_frame`) -/
  | chargeData
  /-- `clear_queue` -/
  | clearSend
  /-- `is_pending_push` is raised (`push_request`) / lowered (`pop_frame` sends the PUSH_PROMISE) -/
  | pendPush
  | activatePush
  /-- the stream's send window or assigned capacity changes -/
  | sendFlow
  /-- the connection's send window or unassigned capacity changes -/
  | connSendFlow
  /-- `in_flight_data_frame := DataFrame | Nothing` -/
  | mark
  /-- `in_flight_data_frame := Drop` -/
  | markDrop
  /-- an event is appended to / taken from `pending_recv` -/
  | appendRecv
  | takeRecv
  /-- the stream's receive window or its data in flight changes -/
  | recvFlow
  /-- the connection's receive window or its data in flight changes -/
  | connRecvFlow
  | contentLength
  /-- `ref_count` ± 1 -/
  | refInc
  | refDec
  /-- a task is parked: on the entry (`wait_send`, `recv_task`, `push_task`, `open_task`; `poll_capacity` clears
      `send_capacity_inc`) or as the connection task (`poll_complete`) -/
  | park
  /-- `is_pending_accept` or `pending_push_promises` written outside `Queue::push` / `pop` -/
  | promise
  /-- a setting: `init_window_sz`, `max_send_streams`, `is_push_enabled`, `is_extended_connect_protocol_enabled` -/
  | config
  /-- `max_stream_id`, `last_processed_id` -/
  | ids
  /-- `next_stream_id`, `refused` -/
  | nextId
  /-- `conn_error`, the connection task -/
  | connError
  | connTask
  deriving DecidableEq, Repr

abbrev Kind.Has (K : Kind → Bool) (fp : List Kind) : Prop := ∀ k ∈ fp, K k

theorem Kind.Has.mono {K : Kind → Bool} {fp fp' : List Kind} (h : Kind.Has K fp) (hs : ∀ k ∈ fp', k ∈ fp) : Kind.Has K fp' :=
  fun k hk => h k (hs k hk)

/-- a number for every kind: footprints are compared through it (`Kind.Has.sub`, `Kind.Has.at`), which costs a tenth of
    comparing kinds with their derived `DecidableEq`.  A new kind gets a number here and in `Kind.ofCode`. -/
def Kind.code : Kind → Nat
  | .insert => 0
  | .release => 1
  | .unlink => 2
  | .count => 3
  | .enqueue .pendingSend => 4
  | .enqueue .pendingCapacity => 5
  | .enqueue .pendingOpen => 6
  | .enqueue .pendingWindowUpdates => 7
  | .enqueue .pendingAccept => 8
  | .enqueue .pendingResetExpired => 9
  | .dequeue .pendingSend => 10
  | .dequeue .pendingCapacity => 11
  | .dequeue .pendingOpen => 12
  | .dequeue .pendingWindowUpdates => 13
  | .dequeue .pendingAccept => 14
  | .dequeue .pendingResetExpired => 15
  | .counterUp .localReset => 16
  | .counterUp .remoteReset => 17
  | .counterUp .localErrorReset => 18
  | .counterUp .dataFrames => 19
  | .counterDown .localReset => 20
  | .counterDown .remoteReset => 21
  | .counterDown .localErrorReset => 22
  | .counterDown .dataFrames => 23
  | .state .sendOpen => 24
  | .state .sendClose => 25
  | .state .recvOpen => 26
  | .state .recvClose => 27
  | .state .reserveRemote => 28
  | .state .reserveLocal => 29
  | .state .recvReset => 30
  | .state .handleError => 31
  | .state .recvEof => 32
  | .state .setScheduledReset => 33
  | .state .setReset => 34
  | .state .setResetScheduled => 35
  | .remoteReset => 36
  | .frame .headers => 37
  | .frame .data => 38
  | .frame .reset => 39
  | .frame .pushPromise => 40
  | .buffer => 41
  | .popFrame => 42
  | .chargeData => 43
  | .clearSend => 44
  | .pendPush => 45
  | .activatePush => 46
  | .sendFlow => 47
  | .connSendFlow => 48
  | .mark => 49
  | .markDrop => 50
  | .appendRecv => 51
  | .takeRecv => 52
  | .recvFlow => 53
  | .connRecvFlow => 54
  | .contentLength => 55
  | .refInc => 56
  | .refDec => 57
  | .park => 58
  | .promise => 59
  | .config => 60
  | .ids => 61
  | .nextId => 62
  | .connError => 63
  | .connTask => 64

/-- `Kind.ofCode_code` reads it on codes of kinds only, so the default arm is never looked at -/
def Kind.ofCode : Nat → Kind
  | 1 => .release
  | 2 => .unlink
  | 3 => .count
  | 4 => .enqueue .pendingSend
  | 5 => .enqueue .pendingCapacity
  | 6 => .enqueue .pendingOpen
  | 7 => .enqueue .pendingWindowUpdates
  | 8 => .enqueue .pendingAccept
  | 9 => .enqueue .pendingResetExpired
  | 10 => .dequeue .pendingSend
  | 11 => .dequeue .pendingCapacity
  | 12 => .dequeue .pendingOpen
  | 13 => .dequeue .pendingWindowUpdates
  | 14 => .dequeue .pendingAccept
  | 15 => .dequeue .pendingResetExpired
  | 16 => .counterUp .localReset
  | 17 => .counterUp .remoteReset
  | 18 => .counterUp .localErrorReset
  | 19 => .counterUp .dataFrames
  | 20 => .counterDown .localReset
  | 21 => .counterDown .remoteReset
  | 22 => .counterDown .localErrorReset
  | 23 => .counterDown .dataFrames
  | 24 => .state .sendOpen
  | 25 => .state .sendClose
  | 26 => .state .recvOpen
  | 27 => .state .recvClose
  | 28 => .state .reserveRemote
  | 29 => .state .reserveLocal
  | 30 => .state .recvReset
  | 31 => .state .handleError
  | 32 => .state .recvEof
  | 33 => .state .setScheduledReset
  | 34 => .state .setReset
  | 35 => .state .setResetScheduled
  | 36 => .remoteReset
  | 37 => .frame .headers
  | 38 => .frame .data
  | 39 => .frame .reset
  | 40 => .frame .pushPromise
  | 41 => .buffer
  | 42 => .popFrame
  | 43 => .chargeData
  | 44 => .clearSend
  | 45 => .pendPush
  | 46 => .activatePush
  | 47 => .sendFlow
  | 48 => .connSendFlow
  | 49 => .mark
  | 50 => .markDrop
  | 51 => .appendRecv
  | 52 => .takeRecv
  | 53 => .recvFlow
  | 54 => .connRecvFlow
  | 55 => .contentLength
  | 56 => .refInc
  | 57 => .refDec
  | 58 => .park
  | 59 => .promise
  | 60 => .config
  | 61 => .ids
  | 62 => .nextId
  | 63 => .connError
  | 64 => .connTask
  | _ => .insert

theorem Kind.ofCode_code (k : Kind) : Kind.ofCode k.code = k := by
  cases k <;> first | rfl | (rename_i x; cases x <;> rfl)

theorem Kind.Has.at {K : Kind → Bool} {fp : List Kind} (h : Kind.Has K fp) {k : Kind}
    (hk : (fp.map Kind.code).contains k.code = true) : K k := by
  obtain ⟨j, hj, e⟩ := List.mem_map.1 (List.contains_iff_mem.1 hk)
  have : j = k := by rw [← Kind.ofCode_code j, e, Kind.ofCode_code]
  exact this ▸ h j hj

theorem Kind.Has.sub {K : Kind → Bool} {fp fp' : List Kind} (h : Kind.Has K fp)
    (hs : ((fp'.map Kind.code).all fun c => (fp.map Kind.code).contains c) = true) : Kind.Has K fp' :=
  fun _ hk => h.at (List.all_eq_true.1 hs _ (List.mem_map_of_mem hk))

/-- the changes of `state` the stream layer makes, each with the equation or the test the code has at that point -/
inductive State.Step (K : Kind → Bool) (id : Nat) (a : State) : State → Prop
  | sendOpen (eos : Bool) {b : State} {r : Except UserError Unit} :
      K (.state .sendOpen) → a.sendOpen eos = (b, r) → Step K id a b
  | sendClose {b : State} : K (.state .sendClose) → a.sendClose = some b → Step K id a b
  | recvOpen (eos inf : Bool) {b : State} {r : Except PErr Bool} :
      K (.state .recvOpen) → a.recvOpen eos inf = (b, r) → Step K id a b
  | recvClose {b : State} {r : Except PErr Unit} : K (.state .recvClose) → a.recvClose = (b, r) → Step K id a b
  | reserveRemote {b : State} {r : Except PErr Unit} :
      K (.state .reserveRemote) → a.reserveRemote = (b, r) → Step K id a b
  | reserveLocal {b : State} {r : Except UserError Unit} :
      K (.state .reserveLocal) → a.reserveLocal = (b, r) → Step K id a b
  | recvReset (r : Reason) (q : Bool) : K (.state .recvReset) → K .remoteReset → Step K id a (a.recvReset id r q)
  | handleError (e : PErr) : K (.state .handleError) → ((∃ i r, e = .reset i r .remote) → K .remoteReset) →
      Step K id a (a.handleError e)
  | recvEof : K (.state .recvEof) → Step K id a a.recvEof
  | setScheduledReset (r : Reason) : K (.state .setScheduledReset) → a.isClosed = false → Step K id a (a.setScheduledReset r)
  | setReset (r : Reason) (i : Initiator) : K (.state .setReset) → (i = .remote → K .remoteReset) → a.isReset = false →
      Step K id a (a.setReset id r i)
  | setResetScheduled (r : Reason) : K (.state .setResetScheduled) → a.getScheduledReset = some r →
      Step K id a (a.setReset id r .library)

/-- what a method of stream.rs that may wake tasks does to an entry: the new entry with the wakers -/
inductive Stream.UpdW (K : Kind → Bool) (x : Stream) : Stream × List String → Prop
  | notifySend : UpdW K x x.notifySend
  | notifyRecv : UpdW K x x.notifyRecv
  | notifyPush : UpdW K x x.notifyPush
  | notifyCapacity : UpdW K x x.notifyCapacity
  | assignCapacity (c m : Nat) : K .sendFlow → UpdW K x (x.assignCapacity c m)
  | setReset (r : Reason) (i : Initiator) : State.Step K x.id x.state (x.state.setReset x.id r i) → UpdW K x (x.setReset r i)

/-- what the stream layer does to one slab entry -/
inductive Stream.Upd (K : Kind → Bool) (x : Stream) : Stream → Prop
  | waitSend (t : String) : K .park → Upd K x (x.waitSend t)
  | waitOpen (t : String) : K .park → Upd K x (x.waitOpen t)
  | recvTask (t : String) : K .park → Upd K x { x with recvTask := some t }
  | pushTask (t : String) : K .park → Upd K x { x with pushTask := some t }
  | state (v : State) : State.Step K x.id x.state v → Upd K x { x with state := v }
  | reserved (v : State) : State.Step K x.id x.state v → K .pendPush → Upd K x { x with state := v, isPendingPush := true }
  | activated : K .activatePush → Upd K x { x with isPendingPush := false }
  | refInc : K .refInc → Upd K x { x with refCount := x.refCount + 1 }
  | refDec : K .refDec → Upd K x { x with refCount := x.refCount - 1 }
  | sendFlow (v : FlowControl) : K .sendFlow → Upd K x { x with sendFlow := v }
  | sendData (n m : Nat) : K .chargeData → K .sendFlow → Upd K x (x.sendData n m).1
  | requested (v : Nat) : v < 4294967296 → Upd K x { x with requestedSendCapacity := v }
  | buffered (n : Nat) : K .buffer → Upd K x { x with bufferedSendData := x.bufferedSendData + n }
  | capacityIncSeen : K .park → Upd K x { x with sendCapacityInc := false }
  | pushSend (f : SFrame) : K (.frame f.cls) → Upd K x { x with pendingSend := x.pendingSend ++ [f] }
  | unpopData (n : Nat) (eos : Bool) : K (.frame .data) → Upd K x { x with pendingSend := .data n eos :: x.pendingSend }
  | popSend (f : SFrame) (rest : List SFrame) : K .popFrame → x.pendingSend = f :: rest → Upd K x { x with pendingSend := rest }
  | dropSend : K .popFrame → Upd K x { x with pendingSend := x.pendingSend.drop 1 }
  | clearSend : K .clearSend → Upd K x { x with pendingSend := [], bufferedSendData := 0, requestedSendCapacity := 0 }
  /-- `send_reset` on a stream in `pending_open`: as `clear_queue`, but the frame at the front stays -/
  | keepOnlyHead : K .clearSend →
      Upd K x { x with pendingSend := x.pendingSend.take 1, bufferedSendData := 0, requestedSendCapacity := 0 }
  | recvFlow (v : FlowControl) : K .recvFlow → Upd K x { x with recvFlow := v }
  | recvFlowIn (v : FlowControl) (n : Nat) : K .recvFlow → Upd K x { x with recvFlow := v, inFlightRecvData := n }
  | inFlight (n : Nat) : K .recvFlow → Upd K x { x with inFlightRecvData := n }
  | pushRecv (e : REvent) : K .appendRecv → Upd K x { x with pendingRecv := x.pendingRecv ++ [e] }
  | popRecv (e : REvent) (rest : List REvent) : K .takeRecv → x.pendingRecv = e :: rest → Upd K x { x with pendingRecv := rest }
  | clearRecv : K .takeRecv → Upd K x { x with pendingRecv := [] }
  | noRecv : K .takeRecv → Upd K x { x with isRecv := false }
  | accept (v : Bool) : K .promise → Upd K x { x with isPendingAccept := v }
  | popPromise (c : Nat) (rest : List Nat) : K .promise → x.pendingPushPromises = c :: rest →
      Upd K x { x with pendingPushPromises := rest }
  | clearPromises : K .promise → Upd K x { x with pendingPushPromises := [] }
  | pushPromise (c : Nat) : K .promise → Upd K x { x with pendingPushPromises := x.pendingPushPromises ++ [c] }
  | contentLength (v : ContentLength) : K .contentLength → Upd K x { x with contentLength := v }
  | decContentLength (n : Nat) {y : Stream} : K .contentLength → x.decContentLength n = some y → Upd K x y

/-- the updates of `Prioritize` outside the queues -/
inductive Prioritize.Upd (K : Kind → Bool) (p : Prioritize) : Prioritize → Prop
  | flow (v : FlowControl) : K .connSendFlow → Upd K p { p with flow := v }
  | mark (v : InFlightData) : K .mark → Upd K p { p with inFlightDataFrame := v }
  | markDrop (k : Nat) : K .markDrop → p.inFlightDataFrame = .dataFrame k → Upd K p { p with inFlightDataFrame := .drop }

/-- the updates of `Send` outside `prioritize` -/
inductive Send.Upd (K : Kind → Bool) (p : Send) : Send → Prop
  | initWindowSz (v : Nat) : K .config → Upd K p { p with initWindowSz := v }
  | extendedConnect (v : Bool) : K .config → Upd K p { p with isExtendedConnectProtocolEnabled := v }
  | pushEnabled (v : Bool) : K .config → Upd K p { p with isPushEnabled := v }
  | maxStreamId (v : Nat) : K .ids → Upd K p { p with maxStreamId := v }
  | bumpNext (n id : Nat) : K .nextId → p.nextStreamId = some n → n ≤ id →
      Upd K p { p with nextStreamId := if id + 2 > 2147483647 then none else some (id + 2) }

/-- the updates of `Recv` outside the queues -/
inductive Recv.Upd (K : Kind → Bool) (p : Recv) : Recv → Prop
  | flow (v : FlowControl) : K .connRecvFlow → Upd K p { p with flow := v }
  | flowIn (v : FlowControl) (n : Nat) : K .connRecvFlow → Upd K p { p with flow := v, inFlightData := n }
  | initWindowSz (v : Nat) : K .config → Upd K p { p with initWindowSz := v }
  | extendedConnect (v : Bool) : K .config → Upd K p { p with isExtendedConnectProtocolEnabled := v }
  | lastProcessedId (v : Nat) : K .ids → Upd K p { p with lastProcessedId := v }
  | maxStreamId (v : Nat) : K .ids → Upd K p { p with maxStreamId := v }
  | refused (v : Option Nat) : K .nextId → Upd K p { p with refused := v }
  | bumpNext (n id : Nat) : K .nextId → p.nextStreamId = some n → n ≤ id →
      Upd K p { p with nextStreamId := if id + 2 > 2147483647 then none else some (id + 2) }

/-- the updates of `Counts` that are not tied to an entry (those are `inc_num_*_streams` / `dec_num_streams`) -/
inductive Counts.Upd (K : Kind → Bool) : Counts → Counts → Prop
  | refl (c : Counts) : Upd K c c
  | trans {c c' c'' : Counts} : Upd K c c' → Upd K c' c'' → Upd K c c''
  | incNumResetStreams {c c' : Counts} : K (.counterUp .localReset) → c.incNumResetStreams = some c' → Upd K c c'
  | decNumResetStreams {c c' : Counts} : K (.counterDown .localReset) → c.decNumResetStreams = some c' → Upd K c c'
  | incNumRemoteResetStreams {c c' : Counts} : K (.counterUp .remoteReset) → c.incNumRemoteResetStreams = some c' → Upd K c c'
  | decNumRemoteResetStreams {c c' : Counts} : K (.counterDown .remoteReset) → c.decNumRemoteResetStreams = some c' → Upd K c c'
  | incNumLocalErrorResets {c c' : Counts} : K (.counterUp .localErrorReset) → c.incNumLocalErrorResets = some c' → Upd K c c'
  | applyRemoteSettings (c : Counts) (m : Option Nat) (i : Bool) : K .config → Upd K c (c.applyRemoteSettings m i)
  | recordDataFrame (c : Counts) (n : Nat) : K (.counterUp .dataFrames) → Upd K c (c.recordDataFrame n).1
  | releaseDataFrame (c : Counts) (n : Nat) : K (.counterDown .dataFrames) → Upd K c (c.releaseDataFrame n)

namespace Streams

inductive Step (K : Kind → Bool) : Streams → Streams → Prop
  | refl (s : Streams) : Step K s s
  | trans {a b c : Streams} : Step K a b → Step K b c → Step K a c
  | panic (s : Streams) (m : String) : Step K s (s.panic m)
  | unsup (s : Streams) (m : String) : Step K s (s.unsup m)
  | wake (s : Streams) (t : List String) : Step K s (s.wake t)
  | notifyTask (s : Streams) : K .connTask → Step K s s.notifyTask
  | setTask (s : Streams) (t : Option String) : K .connTask → K .park → Step K s { s with actions := { s.actions with task := t } }
  | setConnError (s : Streams) (e : PErr) : K .connError →
      Step K s { s with actions := { s.actions with connError := some e } }
  | setRefs (s : Streams) (n : Nat) : Step K s { s with refs := n }
  | modPrio (s : Streams) (f : Prioritize → Prioritize) : Prioritize.Upd K s.actions.send.prioritize (f s.actions.send.prioritize) →
      Step K s (s.modPrio f)
  | modSend (s : Streams) (f : Send → Send) : Send.Upd K s.actions.send (f s.actions.send) → Step K s (s.modSend f)
  | modRecv (s : Streams) (f : Recv → Recv) : Recv.Upd K s.actions.recv (f s.actions.recv) → Step K s (s.modRecv f)
  | setCounts (s : Streams) (c : Counts) : Counts.Upd K s.counts c → Step K s { s with counts := c }
  | qPush (s : Streams) (q : QName) (k : Nat) : K (.enqueue q) → Step K s (s.qPush q k).1
  | qPushFront (s : Streams) (q : QName) (k : Nat) : K (.enqueue q) → Step K s (s.qPushFront q k).1
  | qPop (s : Streams) (q : QName) : K (.dequeue q) → Step K s (s.qPop q).1
  | incNumSendStreams (s : Streams) (k : Nat) : K .count → Step K s (s.incNumSendStreams k)
  | incNumRecvStreams (s : Streams) (k : Nat) : K .count → Step K s (s.incNumRecvStreams k)
  | decNumStreams (s : Streams) (k : Nat) : Step K s (s.decNumStreams k)
  | modStream (s : Streams) (k : Nat) (f : Stream → Stream) :
      Stream.Upd K (s.stream k) (f (s.stream k)) → Step K s (s.modStream k f)
  | modStreamW (s : Streams) (k : Nat) (f : Stream → Stream × List String) :
      Stream.UpdW K (s.stream k) (f (s.stream k)) → Step K s (s.modStreamW k f)
  | setStream (s : Streams) (x : Stream) : Stream.Upd K (s.stream x.key) x → Step K s (s.setStream x)
  | insert (s : Streams) (id a b : Nat) : K .insert → Step K s { s with store := (s.store.insert (Stream.new id a b)).1 }
  /-- `send_request`: the new entry with its `content_length` preset (a HEAD request) -/
  | insertWith (s : Streams) (id a b : Nat) (cl : ContentLength) : K .insert →
      Step K s { s with store := (s.store.insert { Stream.new id a b with contentLength := cl }).1 }
  | undoInsert (s : Streams) (id k : Nat) : K .insert → Step K s { s with store := (s.store.unlink id).remove k }
  | unlink (s : Streams) (id : Nat) : K .unlink → Step K s { s with store := s.store.unlink id }
  /-- the end of `transition_after`, which has just tested `is_released` and run `dec_num_streams`; `recvBufferLeaked` is the
      model's own count of the events that went with removed entries, and the step does not say what it becomes -/
  | remove (s : Streams) (k n : Nat) : K .release → (s.stream k).isReleased = true → (s.stream k).isCounted = false →
      Step K s { s with store := s.store.remove k, recvBufferLeaked := n }

namespace Step
variable {K : Kind → Bool}

theorem ok : RelOK (Step K) := ⟨.refl, .trans, .panic⟩

theorem ite {s a b : Streams} {c : Prop} [Decidable c] (h1 : Step K s a) (h2 : Step K s b) :
    Step K s (if c then a else b) := by split <;> assumption
theorem ite_fst {α : Type} {s : Streams} {a b : Streams × α} {c : Prop} [Decidable c] (h1 : Step K s a.1)
    (h2 : Step K s b.1) : Step K s (if c then a else b).1 := by split <;> assumption

end Step
end Streams

/-! more kinds allowed, more steps: one `f_step` at `fun k => K₁ k && K₂ k` serves two relations -/

theorem State.Step.mono {K K' : Kind → Bool} (hK : ∀ k, K k → K' k) {id : Nat} {a b : State} (h : State.Step K id a b) :
    State.Step K' id a b := by
  cases h with
  | sendOpen eos h e => exact .sendOpen eos (hK _ h) e
  | sendClose h e => exact .sendClose (hK _ h) e
  | recvOpen eos inf h e => exact .recvOpen eos inf (hK _ h) e
  | recvClose h e => exact .recvClose (hK _ h) e
  | reserveRemote h e => exact .reserveRemote (hK _ h) e
  | reserveLocal h e => exact .reserveLocal (hK _ h) e
  | recvReset r q h h' => exact .recvReset r q (hK _ h) (hK _ h')
  | handleError e h h' => exact .handleError e (hK _ h) fun x => hK _ (h' x)
  | recvEof h => exact .recvEof (hK _ h)
  | setScheduledReset r h e => exact .setScheduledReset r (hK _ h) e
  | setReset r i h h' e => exact .setReset r i (hK _ h) (fun x => hK _ (h' x)) e
  | setResetScheduled r h e => exact .setResetScheduled r (hK _ h) e

theorem Stream.UpdW.mono {K K' : Kind → Bool} (hK : ∀ k, K k → K' k) {x : Stream} {p : Stream × List String}
    (h : Stream.UpdW K x p) : Stream.UpdW K' x p := by
  cases h with
  | notifySend => exact .notifySend
  | notifyRecv => exact .notifyRecv
  | notifyPush => exact .notifyPush
  | notifyCapacity => exact .notifyCapacity
  | assignCapacity c m h => exact .assignCapacity c m (hK _ h)
  | setReset r i h => exact .setReset r i (h.mono hK)

theorem Stream.Upd.mono {K K' : Kind → Bool} (hK : ∀ k, K k → K' k) {x y : Stream} (h : Stream.Upd K x y) :
    Stream.Upd K' x y := by
  cases h with
  | waitSend t h => exact .waitSend t (hK _ h)
  | waitOpen t h => exact .waitOpen t (hK _ h)
  | recvTask t h => exact .recvTask t (hK _ h)
  | pushTask t h => exact .pushTask t (hK _ h)
  | state v h => exact .state v (h.mono hK)
  | reserved v h h' => exact .reserved v (h.mono hK) (hK _ h')
  | activated h => exact .activated (hK _ h)
  | refInc h => exact .refInc (hK _ h)
  | refDec h => exact .refDec (hK _ h)
  | sendFlow v h => exact .sendFlow v (hK _ h)
  | sendData n m h h' => exact .sendData n m (hK _ h) (hK _ h')
  | requested v h => exact .requested v h
  | buffered n h => exact .buffered n (hK _ h)
  | capacityIncSeen h => exact .capacityIncSeen (hK _ h)
  | pushSend f h => exact .pushSend f (hK _ h)
  | unpopData n eos h => exact .unpopData n eos (hK _ h)
  | popSend f rest h e => exact .popSend f rest (hK _ h) e
  | dropSend h => exact .dropSend (hK _ h)
  | clearSend h => exact .clearSend (hK _ h)
  | keepOnlyHead h => exact .keepOnlyHead (hK _ h)
  | recvFlow v h => exact .recvFlow v (hK _ h)
  | recvFlowIn v n h => exact .recvFlowIn v n (hK _ h)
  | inFlight n h => exact .inFlight n (hK _ h)
  | pushRecv e h => exact .pushRecv e (hK _ h)
  | popRecv e rest h e' => exact .popRecv e rest (hK _ h) e'
  | clearRecv h => exact .clearRecv (hK _ h)
  | noRecv h => exact .noRecv (hK _ h)
  | accept v h => exact .accept v (hK _ h)
  | popPromise c rest h e => exact .popPromise c rest (hK _ h) e
  | clearPromises h => exact .clearPromises (hK _ h)
  | pushPromise c h => exact .pushPromise c (hK _ h)
  | contentLength v h => exact .contentLength v (hK _ h)
  | decContentLength n h e => exact .decContentLength n (hK _ h) e

theorem Prioritize.Upd.mono {K K' : Kind → Bool} (hK : ∀ k, K k → K' k) {p p' : Prioritize} (h : Prioritize.Upd K p p') :
    Prioritize.Upd K' p p' := by
  cases h with
  | flow v h => exact .flow v (hK _ h)
  | mark v h => exact .mark v (hK _ h)
  | markDrop k h e => exact .markDrop k (hK _ h) e

theorem Send.Upd.mono {K K' : Kind → Bool} (hK : ∀ k, K k → K' k) {p p' : Send} (h : Send.Upd K p p') : Send.Upd K' p p' := by
  cases h with
  | initWindowSz v h => exact .initWindowSz v (hK _ h)
  | extendedConnect v h => exact .extendedConnect v (hK _ h)
  | pushEnabled v h => exact .pushEnabled v (hK _ h)
  | maxStreamId v h => exact .maxStreamId v (hK _ h)
  | bumpNext n id h e l => exact .bumpNext n id (hK _ h) e l

theorem Recv.Upd.mono {K K' : Kind → Bool} (hK : ∀ k, K k → K' k) {p p' : Recv} (h : Recv.Upd K p p') : Recv.Upd K' p p' := by
  cases h with
  | flow v h => exact .flow v (hK _ h)
  | flowIn v n h => exact .flowIn v n (hK _ h)
  | initWindowSz v h => exact .initWindowSz v (hK _ h)
  | extendedConnect v h => exact .extendedConnect v (hK _ h)
  | lastProcessedId v h => exact .lastProcessedId v (hK _ h)
  | maxStreamId v h => exact .maxStreamId v (hK _ h)
  | refused v h => exact .refused v (hK _ h)
  | bumpNext n id h e l => exact .bumpNext n id (hK _ h) e l

theorem Counts.Upd.mono {K K' : Kind → Bool} (hK : ∀ k, K k → K' k) {c c' : Counts} (h : Counts.Upd K c c') :
    Counts.Upd K' c c' := by
  induction h with
  | refl c => exact .refl c
  | trans _ _ ih1 ih2 => exact .trans ih1 ih2
  | incNumResetStreams h e => exact .incNumResetStreams (hK _ h) e
  | decNumResetStreams h e => exact .decNumResetStreams (hK _ h) e
  | incNumRemoteResetStreams h e => exact .incNumRemoteResetStreams (hK _ h) e
  | decNumRemoteResetStreams h e => exact .decNumRemoteResetStreams (hK _ h) e
  | incNumLocalErrorResets h e => exact .incNumLocalErrorResets (hK _ h) e
  | applyRemoteSettings c m i h => exact .applyRemoteSettings c m i (hK _ h)
  | recordDataFrame c n h => exact .recordDataFrame c n (hK _ h)
  | releaseDataFrame c n h => exact .releaseDataFrame c n (hK _ h)

theorem Streams.Step.mono {K K' : Kind → Bool} (hK : ∀ k, K k → K' k) {s s' : Streams} (h : Streams.Step K s s') :
    Streams.Step K' s s' := by
  induction h with
  | refl s => exact .refl s
  | trans _ _ ih1 ih2 => exact .trans ih1 ih2
  | panic s m => exact .panic s m
  | unsup s m => exact .unsup s m
  | wake s t => exact .wake s t
  | notifyTask s h => exact .notifyTask s (hK _ h)
  | setTask s t h h' => exact .setTask s t (hK _ h) (hK _ h')
  | setConnError s e h => exact .setConnError s e (hK _ h)
  | setRefs s n => exact .setRefs s n
  | modPrio s f h => exact .modPrio s f (h.mono hK)
  | modSend s f h => exact .modSend s f (h.mono hK)
  | modRecv s f h => exact .modRecv s f (h.mono hK)
  | setCounts s c h => exact .setCounts s c (h.mono hK)
  | qPush s q k h => exact .qPush s q k (hK _ h)
  | qPushFront s q k h => exact .qPushFront s q k (hK _ h)
  | qPop s q h => exact .qPop s q (hK _ h)
  | incNumSendStreams s k h => exact .incNumSendStreams s k (hK _ h)
  | incNumRecvStreams s k h => exact .incNumRecvStreams s k (hK _ h)
  | decNumStreams s k => exact .decNumStreams s k
  | modStream s k f h => exact .modStream s k f (h.mono hK)
  | modStreamW s k f h => exact .modStreamW s k f (h.mono hK)
  | setStream s x h => exact .setStream s x (h.mono hK)
  | insert s id a b h => exact .insert s id a b (hK _ h)
  | insertWith s id a b cl h => exact .insertWith s id a b cl (hK _ h)
  | undoInsert s id k h => exact .undoInsert s id k (hK _ h)
  | unlink s id h => exact .unlink s id (hK _ h)
  | remove s k n h e e' => exact .remove s k n (hK _ h) e e'

theorem State.Step.kind {K : Kind → Bool} {id : Nat} {a b : State} (h : State.Step K id a b) : ∃ f, K (.state f) = true := by
  cases h <;> exact ⟨_, ‹K (.state _) = true›⟩

theorem State.eq_closed_of_isClosed {st : State} (h : st.isClosed = true) : ∃ c, st = ⟨.closed c⟩ := by
  obtain ⟨inner⟩ := st
  cases inner <;> simp [State.isClosed] at h
  exact ⟨_, rfl⟩

theorem State.Step.closed {K : Kind → Bool} {id : Nat} {a b : State} (h : State.Step K id a b) (hc : a.isClosed = true) :
    b.isClosed = true := by
  obtain ⟨c, rfl⟩ := State.eq_closed_of_isClosed hc
  cases h with
  | sendOpen eos _ e | recvOpen eos inf _ e | recvClose _ e | reserveRemote _ e | reserveLocal _ e => cases e; rfl
  | sendClose _ e => cases e
  | recvReset r q => unfold State.recvReset; dsimp only; split <;> rfl
  | handleError | recvEof | setScheduledReset | setReset | setResetScheduled => rfl

theorem Prioritize.Upd.queues {K : Kind → Bool} {p p' : Prioritize} (h : Prioritize.Upd K p p') :
    p'.pendingSend = p.pendingSend ∧ p'.pendingCapacity = p.pendingCapacity ∧ p'.pendingOpen = p.pendingOpen := by
  cases h <;> exact ⟨rfl, rfl, rfl⟩
theorem Send.Upd.prioritize {K : Kind → Bool} {p p' : Send} (h : Send.Upd K p p') : p'.prioritize = p.prioritize := by
  cases h <;> rfl
theorem Recv.Upd.queues {K : Kind → Bool} {p p' : Recv} (h : Recv.Upd K p p') :
    p'.pendingWindowUpdates = p.pendingWindowUpdates ∧ p'.pendingAccept = p.pendingAccept ∧
      p'.pendingResetExpired = p.pendingResetExpired := by
  cases h <;> exact ⟨rfl, rfl, rfl⟩
theorem Recv.Upd.extendedConnect_eq {K : Kind → Bool} {p p' : Recv} (h : Recv.Upd K p p') (hK : K .config = false) :
    p'.isExtendedConnectProtocolEnabled = p.isExtendedConnectProtocolEnabled := by
  cases h <;> first | rfl | (rename_i c; rw [hK] at c; cases c)

theorem Recv.Upd.isPushEnabled {K : Kind → Bool} {p p' : Recv} (h : Recv.Upd K p p') : p'.isPushEnabled = p.isPushEnabled := by
  cases h <;> rfl

theorem Stream.decContentLength_eq {x y : Stream} {n : Nat} (h : x.decContentLength n = some y) :
    ∃ cl, y = { x with contentLength := cl } := by
  unfold Stream.decContentLength at h
  split at h
  · split at h
    · cases h; exact ⟨_, rfl⟩
    · cases h
  · split at h
    · cases h
    · cases h; exact ⟨_, rfl⟩
  · cases h; exact ⟨_, rfl⟩

theorem Stream.UpdW.isQueued {K : Kind → Bool} {x : Stream} {p : Stream × List String} (h : UpdW K x p) (q : QName) :
    p.1.isQueued q = x.isQueued q := by
  cases h <;> first
    | (simp only [Stream.notifySend_fst, Stream.notifyRecv_fst, Stream.notifyPush_fst, Stream.notifyCapacity_fst,
        Stream.setReset_fst]; cases q <;> rfl)
    | (rw [Stream.assignCapacity_fst]; split <;> cases q <;> rfl)

theorem Stream.UpdW.id {K : Kind → Bool} {x : Stream} {p : Stream × List String} (h : UpdW K x p) : p.1.id = x.id := by
  cases h <;> first
    | (simp only [Stream.notifySend_fst, Stream.notifyRecv_fst, Stream.notifyPush_fst, Stream.notifyCapacity_fst,
        Stream.setReset_fst])
    | (rw [Stream.assignCapacity_fst]; split <;> rfl)

theorem Stream.Upd.id {K : Kind → Bool} {x y : Stream} (h : Upd K x y) : y.id = x.id := by
  cases h <;> first
    | rfl
    | (rw [Stream.sendData_fst]; split <;> rfl)
    | (obtain ⟨_, rfl⟩ := Stream.decContentLength_eq ‹_›; rfl)

theorem Counts.Upd.isServer {K : Kind → Bool} {c c' : Counts} (h : Counts.Upd K c c') : c'.isServer = c.isServer := by
  induction h with
  | refl => rfl
  | trans _ _ ih1 ih2 => exact ih2.trans ih1
  | incNumResetStreams _ h => unfold Counts.incNumResetStreams at h; split at h <;> cases h; rfl
  | decNumResetStreams _ h => unfold Counts.decNumResetStreams at h; split at h <;> cases h; rfl
  | incNumRemoteResetStreams _ h => unfold Counts.incNumRemoteResetStreams at h; split at h <;> cases h; rfl
  | decNumRemoteResetStreams _ h => unfold Counts.decNumRemoteResetStreams at h; split at h <;> cases h; rfl
  | incNumLocalErrorResets _ h => unfold Counts.incNumLocalErrorResets at h; split at h <;> cases h; rfl
  | applyRemoteSettings c m i => unfold Counts.applyRemoteSettings; split <;> first | rfl | (split <;> rfl)
  | recordDataFrame c n =>
    unfold Counts.recordDataFrame
    dsimp only
    split
    · split <;> rfl
    · split
      · split <;> rfl
      · rfl
  | releaseDataFrame c n => unfold Counts.releaseDataFrame; dsimp only; split <;> rfl

variable {K : Kind → Bool}

theorem Stream.decContentLength_key {x y : Stream} {n : Nat} (h : x.decContentLength n = some y) : y.key = x.key := by
  obtain ⟨_, rfl⟩ := Stream.decContentLength_eq h; rfl

theorem Stream.UpdW.key {x : Stream} {p : Stream × List String} (h : UpdW K x p) : p.1.key = x.key := by
  cases h <;> first
    | (simp only [Stream.notifySend_fst, Stream.notifyRecv_fst, Stream.notifyPush_fst, Stream.notifyCapacity_fst,
        Stream.setReset_fst])
    | (rw [Stream.assignCapacity_fst]; split <;> rfl)

theorem Stream.Upd.key {x y : Stream} (h : Upd K x y) : y.key = x.key := by
  cases h <;> first
    | rfl
    | (rw [Stream.sendData_fst]; split <;> rfl)
    | exact Stream.decContentLength_key ‹_›

/-- `requested_send_capacity` is a `u32`: the two ways the model cuts a `usize` down to it -/
theorem Stream.Upd.requested_usize (x : Stream) (n : Nat) : Upd K x { x with requestedSendCapacity := usizeAsU32 n } :=
  .requested _ (by unfold usizeAsU32 U32_MOD; omega)
theorem Stream.Upd.requested_min (x : Stream) (n : Nat) : Upd K x { x with requestedSendCapacity := min n U32_MAX } :=
  .requested _ (by unfold U32_MAX; omega)

/-- the loop of `clear_recv_buffer` gives the budget of the DATA frames it drops back -/
theorem Counts.Upd.clearRecvBufferLoop (h : K (.counterDown .dataFrames)) (a : Nat) :
    ∀ (l : List REvent) (n : Nat) (c : Counts), Counts.Upd K c (Streams.clearRecvBufferLoop a l n c).2 := by
  intro l
  induction l with
  | nil => intro n c; exact .refl c
  | cons e l ih =>
    intro n c
    cases e <;> unfold Streams.clearRecvBufferLoop <;> try exact ih _ _
    dsimp only
    split
    · exact .trans (.releaseDataFrame c _ h) (ih _ _)
    · exact ih _ _

theorem Counts.Upd.recordDataFrame_eq {c c' : Counts} {n : Nat} {ok : Bool} (h : K (.counterUp .dataFrames))
    (e : c.recordDataFrame n = (c', ok)) : Counts.Upd K c c' := by
  have := Counts.Upd.recordDataFrame c n h; rw [e] at this; exact this

/-! `inc_num_send_streams` / `inc_num_recv_streams` / `dec_num_streams` for any relation that `panic`, a counter and the
    `is_counted` flag respect: two asserts, the counter, the flag -/
section rel
variable {R : Streams → Streams → Prop} (hR : RelOK R)
include hR

theorem Streams.incNumSendStreams_rel (hcounts : ∀ s f, R s (s.modCounts f))
    (hflag : ∀ s k, R s (s.modStream k fun st => { st with isCounted := true })) (s : Streams) (k : Nat) :
    R s (s.incNumSendStreams k) := by
  rw [Streams.incNumSendStreams_eq]
  refine hR.trans ?_ (hflag _ _)
  unfold Streams.incNumSendStreamsC
  dsimp only
  generalize hs1 : (if s.counts.canIncNumSendStreams = true then s else s.panic _) = s1
  have h1 : R s s1 := by rw [← hs1]; exact hR.ite_panic _ _ _
  exact hR.trans h1 (hR.trans (hR.ite_panic' _ _ _) (hcounts _ _))

theorem Streams.incNumRecvStreams_rel (hcounts : ∀ s f, R s (s.modCounts f))
    (hflag : ∀ s k, R s (s.modStream k fun st => { st with isCounted := true })) (s : Streams) (k : Nat) :
    R s (s.incNumRecvStreams k) := by
  rw [Streams.incNumRecvStreams_eq]
  refine hR.trans ?_ (hflag _ _)
  unfold Streams.incNumRecvStreamsC
  dsimp only
  generalize hs1 : (if s.counts.canIncNumRecvStreams = true then s else s.panic _) = s1
  have h1 : R s s1 := by rw [← hs1]; exact hR.ite_panic _ _ _
  exact hR.trans h1 (hR.trans (hR.ite_panic' _ _ _) (hcounts _ _))

theorem Streams.decNumStreams_rel (hcounts : ∀ s f, R s (s.modCounts f))
    (hflag : ∀ s k, R s (s.modStream k fun st => { st with isCounted := false })) (s : Streams) (k : Nat) :
    R s (s.decNumStreams k) := by
  rw [Streams.decNumStreams_eq]
  refine hR.trans ?_ (hflag _ _)
  unfold Streams.decNumStreamsC
  dsimp only
  refine hR.trans (hR.ite_panic ((s.stream k).isCounted = true) s "assertion failed: stream.is_counted") ?_
  generalize (if (s.stream k).isCounted = true then s else s.panic _) = s1
  exact rel_ite (fun _ => hR.trans (hR.ite_panic _ _ _) (hcounts _ _)) (fun _ => hR.trans (hR.ite_panic _ _ _) (hcounts _ _))

end rel

namespace Streams

theorem Step.insert_eq {s : Streams} {id a b k : Nat} {st : Store} (h : K .insert)
    (e : s.store.insert (Stream.new id a b) = (st, k)) : Step K s { s with store := st } := by
  have := Step.insert s id a b h; rw [e] at this; exact this

theorem panic_step (s : Streams) (m : String) : Step K s (s.panic m) := .panic s m
theorem unsup_step (s : Streams) (m : String) : Step K s (s.unsup m) := .unsup s m
theorem wake_step (s : Streams) (t : List String) : Step K s (s.wake t) := .wake s t
theorem notifyTask_step (s : Streams) (h : K .connTask) : Step K s s.notifyTask := .notifyTask s h
theorem modPrio_step (s : Streams) (f : Prioritize → Prioritize)
    (h : Prioritize.Upd K s.actions.send.prioritize (f s.actions.send.prioritize)) : Step K s (s.modPrio f) := .modPrio s f h
theorem modSend_step (s : Streams) (f : Send → Send) (h : Send.Upd K s.actions.send (f s.actions.send)) :
    Step K s (s.modSend f) := .modSend s f h
theorem modRecv_step (s : Streams) (f : Recv → Recv) (h : Recv.Upd K s.actions.recv (f s.actions.recv)) :
    Step K s (s.modRecv f) := .modRecv s f h
theorem modCounts_step (s : Streams) (f : Counts → Counts) (h : Counts.Upd K s.counts (f s.counts)) :
    Step K s (s.modCounts f) := .setCounts s _ h
theorem modCountsA_step (s : Streams) (w : String) (f : Counts → Option Counts)
    (h : ∀ c', f s.counts = some c' → Counts.Upd K s.counts c') : Step K s (s.modCountsA w f) := by
  unfold modCountsA; split
  · exact .setCounts s _ (h _ ‹_›)
  · exact .panic s _
theorem modStream_step (s : Streams) (k : Nat) (f : Stream → Stream) (h : Stream.Upd K (s.stream k) (f (s.stream k))) :
    Step K s (s.modStream k f) := .modStream s k f h
theorem modStreamW_step (s : Streams) (k : Nat) (f : Stream → Stream × List String)
    (h : Stream.UpdW K (s.stream k) (f (s.stream k))) : Step K s (s.modStreamW k f) := .modStreamW s k f h
theorem setStream_step (s : Streams) (x : Stream) (h : Stream.Upd K (s.stream x.key) x) : Step K s (s.setStream x) :=
  .setStream s x h
theorem qPush_step (s : Streams) (q : QName) (k : Nat) (h : K (.enqueue q)) : Step K s (s.qPush q k).1 := .qPush s q k h
theorem qPushFront_step (s : Streams) (q : QName) (k : Nat) (h : K (.enqueue q)) : Step K s (s.qPushFront q k).1 :=
  .qPushFront s q k h
theorem qPop_step (s : Streams) (q : QName) (h : K (.dequeue q)) : Step K s (s.qPop q).1 := .qPop s q h
theorem incNumSendStreams_step (s : Streams) (k : Nat) (h : K .count) : Step K s (s.incNumSendStreams k) :=
  .incNumSendStreams s k h
theorem incNumRecvStreams_step (s : Streams) (k : Nat) (h : K .count) : Step K s (s.incNumRecvStreams k) :=
  .incNumRecvStreams s k h
theorem decNumStreams_step (s : Streams) (k : Nat) : Step K s (s.decNumStreams k) := .decNumStreams s k

end Streams

open Streams

/-- a kind of the footprint: `hK : Kind.Has K [...]` is in the context -/
macro "kind_mem" : tactic => `(tactic| (refine Kind.Has.at ‹Kind.Has _ _› ?_; rfl))

/-- proves `Stream.Upd K x (f x)`, `Prioritize.Upd K p (f p)` … for the updates the model makes: the constructor is
    found by its shape (where two fit, the special one is tried first), its equation in the context; the kinds it
    asks for are left as goals -/
macro "upd_tac" : tactic => `(tactic| with_reducible first
  | (refine (?_ : State.Step _ _ _ _); first
      | refine .sendOpen _ ?_ ‹_› | refine .sendClose ?_ ‹_› | refine .recvOpen _ _ ?_ ‹_› | refine .recvClose ?_ ‹_›
      | refine .reserveRemote ?_ ‹_› | refine .reserveLocal ?_ ‹_› | refine .recvReset _ _ ?_ ?_
      | refine .handleError _ ?_ ?_ | refine .recvEof ?_ | refine .setScheduledReset _ ?_ ‹_›
      | refine .setResetScheduled _ ?_ ‹_› | refine .setReset _ _ ?_ ?_ ‹_›)
  | (refine (?_ : Stream.UpdW _ _ _); constructor)
  | (refine (?_ : Stream.Upd _ _ _); first
      | refine .dropSend ?_ | refine .popSend _ _ ?_ ‹_› | refine .clearRecv ?_ | refine .popRecv _ _ ?_ ‹_›
      | refine .clearPromises ?_ | refine .pushPromise _ ?_ | refine .popPromise _ _ ?_ ‹_›
      | exact .requested_usize _ _ | exact .requested_min _ _
      | constructor)
  | (refine (?_ : Prioritize.Upd _ _ _); first | refine .markDrop _ ?_ ‹_› | constructor)
  | (refine (?_ : Send.Upd _ _ _); first | refine .bumpNext _ _ ?_ ‹_› (Nat.le_refl _) | refine .bumpNext _ _ ?_ ‹_› ‹_› | constructor)
  | (refine (?_ : Recv.Upd _ _ _); first | refine .bumpNext _ _ ?_ ‹_› (Nat.le_refl _) | refine .bumpNext _ _ ?_ ‹_› ‹_› | constructor)
  | (refine (?_ : Counts.Upd _ _ _); first
      | refine .applyRemoteSettings _ _ _ ?_ | refine .recordDataFrame _ _ ?_ | refine .releaseDataFrame _ _ ?_
      | refine Counts.Upd.clearRecvBufferLoop ?_ _ _ _ _ | refine Counts.Upd.recordDataFrame_eq ?_ ‹_›)
  | (refine (?_ : ∀ c', _ = some c' → Counts.Upd _ _ c'); intro _ h; first
      | refine .incNumResetStreams ?_ h | refine .decNumResetStreams ?_ h | refine .incNumRemoteResetStreams ?_ h
      | refine .decNumRemoteResetStreams ?_ h | refine .incNumLocalErrorResets ?_ h))

/-- the default of the hypotheses `i = .remote → K .remoteReset`, `∀ sid c, r = .error (.reset sid c .remote) → K .remoteReset`,
    `(∃ i r, e = .reset i r .remote) → K .remoteReset` of the step lemmas that are handed an initiator or an error: the
    initiator is not the peer, or `K` allows the kind -/
macro "stp_initiator" : tactic => `(tactic| first
  | exact fun h => Initiator.noConfusion h | (intros; decide))

/-- side goals of the walk: the shape of an update, a kind of the footprint, the footprint of a callee, an initiator that
    is not the peer (given, or inside an error the code has just built) -/
syntax "stp_side" : tactic
macro_rules | `(tactic| stp_side) => `(tactic| upd_tac)
macro_rules | `(tactic| stp_side) => `(tactic| exact fun h => Initiator.noConfusion h)
macro_rules | `(tactic| stp_side) => `(tactic| (intro _ _ h; first | cases h | (split at h <;> cases h)))
macro_rules | `(tactic| stp_side) => `(tactic|
  (refine (?_ : (∃ i r, _ = PErr.reset i r Initiator.remote) → _); rintro ⟨_, _, h⟩; cases h))
macro_rules | `(tactic| stp_side) => `(tactic| (refine Kind.Has.sub ‹Kind.Has _ _› ?_; rfl))
macro_rules | `(tactic| stp_side) => `(tactic| kind_mem)
macro_rules | `(tactic| stp_side) => `(tactic| with_reducible assumption)

syntax "stp_step" : tactic
macro_rules | `(tactic| stp_step) => `(tactic| rel_head Streams.Step "_step" => (with_reducible first
    | refine Step.trans ?_ (.setCounts _ _ ?_) | refine Step.trans ?_ (.setConnError _ _ ?_) | refine Step.trans ?_ (.setTask _ _ ?_ ?_)
    | refine Step.trans ?_ (.setRefs _ _) | refine Step.trans ?_ (.unlink _ _ ?_) | refine Step.trans ?_ (.insert _ _ _ _ ?_)
    | refine Step.trans ?_ (.insertWith _ _ _ _ _ ?_) | refine Step.trans ?_ (Step.insert_eq ?_ ‹_›)
    | refine Step.trans ?_ (.undoInsert _ _ _ ?_))
  on_ite (with_reducible first | refine Step.ite ?_ ?_ | refine Step.ite_fst ?_ ?_))
macro_rules | `(tactic| stp_step) => `(tactic| with_reducible refine of_fst_eq (P := Streams.Step _ _) (by with_reducible assumption) ?_)
macro_rules | `(tactic| stp_step) => `(tactic| with_reducible assumption)
macro_rules | `(tactic| stp_step) => `(tactic| with_reducible exact Step.refl _)

/-- `Step K s (f … s)` once `f` is unfolded (or rewritten by its `f_eq`): the outermost call `g` is peeled off (`rel_head`) and
    closed by `g_step`, a primitive by its constructor, an `if` / `match` is split, and so on inwards down to `Step.refl`; what the
    lemmas and constructors ask for goes to `stp_side`.  `stp_auto_ih ih` also closes a call by the induction hypothesis `ih`. -/
macro "stp_auto" : tactic => `(tactic| repeat (first | stp_step | stp_side | intro _ | split | dsimp only))
macro "stp_auto_ih" ih:ident : tactic =>
  `(tactic| repeat (first | stp_step | with_reducible refine Step.trans ?_ ($ih ..) | stp_side | intro _ | split | dsimp only))

end H2V.Model.Conn
