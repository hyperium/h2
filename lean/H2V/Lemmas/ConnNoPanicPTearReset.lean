import H2V.Lemmas.ConnNoPanicPTearEach
/-
  C08 (no panic): the invariant along `EvT`, and the loops that pop `pending_reset_expired`
  (`clear_expired_reset_streams`, `clear_all_reset_streams`).
-/
namespace H2V.Lemmas.ConnNoPanicP
open H2V H2V.Model H2V.Model.Conn H2V.Lemmas.ConnCountsP

theorem NPI.evT {s s' : Streams} (h : NPI (fun _ => False) s) (e : EvT s s')
    (hp : s'.panicked = none) (hav : AvOK s') (hids : IdsOK s') : NPI (fun _ => False) s' := by
  refine ⟨hp, hav, e.keysOK h.keys, e.nx.nextLocal h.nl, e.inv1 hp h.keys h.inv1, ?_, ?_, hids⟩
  · rw [e.nx.role]; exact e.inv2 _ hp h.keys h.inv2
  · intro q hq; exact (e.qstep q hq).ok hp (h.qs q hq)

/-- one round of `clear_expired_reset_streams` / `clear_all_reset_streams`: the popped stream is let go with
    `is_reset_counted = true`; `num_local_reset_streams` is positive because it is the length of the queue -/
theorem resetPop_npe {s t : Streams} {id : Nat} (h : NPE (fun _ => False) s)
    (heq : s.qPop .pendingResetExpired = (t, some id)) : NPE (fun _ => False) (t.transitionAfter id true) := by
  have hev := EvT.resetPop (s := s)
  have hlt := qPop_lt s .pendingResetExpired fun _ => (h.1.qs .pendingResetExpired (by decide)).live
  have hp1 := (hlt.ok (liveAll0 s) h.1.npq).np
  have hav1 := (hlt.ok (liveAll0 s) h.1.npq).av
  have hids1 := hlt.w.idsOK h.1.ids
  have he1 := (qPop_errSame s .pendingResetExpired).errOK h.2
  have hc1 := Streams.qPop_counts s .pendingResetExpired
  have hcnt := qPop_spr (P := (·.isCounted)) s .pendingResetExpired (fun x v => Stream.setQueued_isCounted x _ v) id
  have hsid := qPop_spr (P := (·.id)) s .pendingResetExpired (fun x v => setQueued_id x _ v) id
  rw [heq] at hp1 hav1 hids1 he1 hc1 hcnt hsid hev
  dsimp only at hp1 hav1 hids1 he1 hc1 hcnt hsid hev
  have hd : DecOK id t := by
    have hd0 := decOK_of_inv h.1.np h.1.inv1 h.1.inv2 h.2 id
    unfold DecOK Counts.isLocalInit at hd0 ⊢
    rw [hcnt, hsid, hc1]
    exact ⟨hp1, hd0.2⟩
  have hpos : t.counts.numLocalResetStreams > 0 := by
    obtain ⟨r, hr, _⟩ := Streams.qPop_eq_some heq
    rw [hc1, h.1.inv1.reset, show s.recv.pendingResetExpired = id :: r from hr]
    exact Nat.succ_pos _
  exact ⟨h.1.evT hev (transitionAfter_np t id true hd (fun _ => hpos)) (avOK_transitionAfter hav1 id true)
    (hids1.transitionAfter id true), (transitionAfter_errSame _ _ _).errOK he1⟩

theorem clearExpiredResetStreams_npe (n : Nat) {s : Streams} (h : NPI (fun _ => False) s) (he : ErrOK s) :
    NPE (fun _ => False) (Streams.clearExpiredResetStreams n s) := by
  induction n generalizing s with
  | zero => exact ⟨h, he⟩
  | succ n ih =>
    unfold Streams.clearExpiredResetStreams
    split
    · exact ⟨h, he⟩
    · split
      · next heq => rw [(Streams.qPop_eq_none heq).2]; exact ⟨h, he⟩
      · next heq =>
        have := resetPop_npe ⟨h, he⟩ heq
        exact ih this.1 this.2

theorem clearAllResetStreams_npe (n : Nat) {s : Streams} (h : NPE (fun _ => False) s) :
    NPE (fun _ => False) (Streams.clearAllResetStreams n s) := by
  rw [Streams.clearAllResetStreams_eq]
  exact Streams.popLoop_inv (fun _ _ _ => resetPop_npe) n s h

theorem clearExpiredResetStreams_npi (n : Nat) {s : Streams} (h : NPI (fun _ => False) s) (he : ErrOK s) :
    NPI (fun _ => False) (Streams.clearExpiredResetStreams n s) := (clearExpiredResetStreams_npe n h he).1
theorem clearAllResetStreams_npi (n : Nat) {s : Streams} (h : NPI (fun _ => False) s) (he : ErrOK s) :
    NPI (fun _ => False) (Streams.clearAllResetStreams n s) := (clearAllResetStreams_npe n ⟨h, he⟩).1

end H2V.Lemmas.ConnNoPanicP
