import H2V.Lemmas.ConnResetPBase
/-
  ConnResetP — peer errors surface intact (C17, second half): what the receive side of state.rs makes
  of RST_STREAM / GOAWAY / I/O errors, and what the handle operations answer on a stream closed by
  an error — for every error value (every 32-bit code, every initiator, every debug string).
-/
namespace H2V.Lemmas.ConnResetP
open H2V H2V.Model H2V.Model.Conn

/-- `State::recv_reset` on a stream that is not closed records exactly the peer's code, as a remote reset -/
theorem recvReset_state_open (x : State) (sid : Nat) (code : Reason) (q : Bool) (h : x.isClosed = false) :
    (x.recvReset sid code q).inner =
      .closed (if x.isRecvEndStream then .errorAfterEndStream (.reset sid code .remote) else .error (.reset sid code .remote)) := by
  rcases x with ⟨_ | _ | _ | _ | _ | _ | _⟩ <;> simp_all [State.recvReset, State.isClosed, PErr.remoteReset]

/-- `State::handle_error` (GOAWAY, I/O error, connection error) on a stream that is not closed records the error as it is -/
theorem handleError_state_open (x : State) (e : PErr) (h : x.isClosed = false) :
    (x.handleError e).inner = .closed (if x.isRecvEndStream then .errorAfterEndStream e else .error e) := by
  rcases x with ⟨_ | _ | _ | _ | _ | _ | _⟩ <;> simp_all [State.handleError, State.isClosed]

theorem ensureRecvOpen_error (x : State) (e : PErr) (h : x.inner = .closed (.error e)) : x.ensureRecvOpen = .error e := by
  unfold State.ensureRecvOpen; rw [h]

section handles
variable (s : Streams) (id : Nat) (e : PErr) (tag : String)

/-- `poll_data` on a drained stream closed by an error: the error -/
theorem refPollData_error (hq : (s.stream id).pendingRecv = []) (h : (s.stream id).state.inner = .closed (.error e)) :
    (s.refPollData id tag).2 = .err e := by
  unfold Streams.refPollData Streams.recvPollData Streams.scheduleRecv
  rw [hq, ensureRecvOpen_error _ _ h]

theorem recvPollTrailers_error (hq : (s.stream id).pendingRecv = []) (h : (s.stream id).state.inner = .closed (.error e)) :
    (s.recvPollTrailers id tag).2 = .err e := by
  unfold Streams.recvPollTrailers Streams.scheduleRecv
  rw [hq, ensureRecvOpen_error _ _ h]

theorem recvPollResponse_error (fuel : Nat) (hq : (s.stream id).pendingRecv = [])
    (h : (s.stream id).state.inner = .closed (.error e)) :
    (Streams.recvPollResponse (fuel + 1) s id tag).2 = .err e := by
  unfold Streams.recvPollResponse
  rw [hq, ensureRecvOpen_error _ _ h]

theorem recvPollInformational_error (hq : (s.stream id).pendingRecv = []) (h : (s.stream id).state.inner = .closed (.error e)) :
    (s.recvPollInformational id tag).2 = .err e := by
  unfold Streams.recvPollInformational
  rw [hq, ensureRecvOpen_error _ _ h]

/-- `poll_reset` reports the recorded reason of a reset or GOAWAY, and the error itself for an I/O error -/
theorem pollReset_reset (sid : Nat) (r : Reason) (i : Initiator) (m : PollReset)
    (h : (s.stream id).state.inner = .closed (.error (.reset sid r i)) ∨
         (s.stream id).state.inner = .closed (.errorAfterEndStream (.reset sid r i))) :
    (s.pollReset id m tag).2 = .ok (some r) := by
  unfold Streams.pollReset State.ensureReason; rcases h with h | h <;> rw [h]

theorem pollReset_goAway (d : Bytes) (r : Reason) (i : Initiator) (m : PollReset)
    (h : (s.stream id).state.inner = .closed (.error (.goAway d r i)) ∨
         (s.stream id).state.inner = .closed (.errorAfterEndStream (.goAway d r i))) :
    (s.pollReset id m tag).2 = .ok (some r) := by
  unfold Streams.pollReset State.ensureReason; rcases h with h | h <;> rw [h]

theorem pollReset_io (k : String) (msg : Option String) (m : PollReset)
    (h : (s.stream id).state.inner = .closed (.error (.io k msg)) ∨
         (s.stream id).state.inner = .closed (.errorAfterEndStream (.io k msg))) :
    (s.pollReset id m tag).2 = .error (.proto (.io k msg)) := by
  unfold Streams.pollReset State.ensureReason; rcases h with h | h <;> rw [h]

/-- sending on a closed stream is refused (`InactiveStreamId`) and queues nothing -/
theorem prioSendData_closed (len : Nat) (eos : Bool) (hl : len ≤ Generated.Consts.MAX_WINDOW_SIZE)
    (h : (s.stream id).state.isClosed = true) :
    s.prioSendData id len eos = (s, .error .inactiveStreamId) := by
  have hs : (s.stream id).state.isSendStreaming = false := by
    revert h; generalize (s.stream id).state = x
    rcases x with ⟨_ | _ | _ | _ | _ | _ | _⟩ <;> simp [State.isClosed, State.isSendStreaming]
  unfold Streams.prioSendData
  simp [Nat.not_lt.mpr hl, hs, h]

end handles

end H2V.Lemmas.ConnResetP
