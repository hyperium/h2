import H2V.Lemmas.ConnResetPRel
/-
  ConnResetP — every change of state the stream layer makes is a `StateStep` (`stateStep_of`); `SRel D` holds of every
  update of the kinds `srK`, hence `Evolves.of_step_sr`; consecutive `Store.mod`s of one entry fuse.
-/
namespace H2V.Lemmas.ConnResetP
open H2V H2V.Model H2V.Model.Conn
variable {D : Nat → Prop}

theorem step_reserveLocal (id : Nat) (s : State) : StateStep id s s.reserveLocal.1 := by
  state_cases s <;> first | exact .same | exact .normal rfl rfl rfl

section steps
variable {a S : Store}

/-- the state of entry `id` makes a `StateStep` (computed from the entry itself) -/
theorem Evolves.mod_state (h : Evolves (SRel D) RInv a S) (id : Nat) (f : Stream → Stream)
    (hk : ∀ st, (f st).key = st.key) (hi : ∀ st, (f st).id = st.id) (hq : ∀ st, (f st).pendingSend = st.pendingSend)
    (hrc : ∀ st, (f st).refCount = st.refCount)
    (hs : StateStep (Store.getD' S id).id (Store.getD' S id).state (f (Store.getD' S id)).state) :
    Evolves (SRel D) RInv a (Store.mod S id f) := by
  refine h.mod id f (fun st hg => ?_)
  rw [Store.getD'_of_get? hg] at hs
  exact SRel.state_step (hk st) (hi st) (hq st) (hrc st) hs

end steps

theorem setReset_core (st : Stream) (r : Reason) (i : Initiator) :
    CoreEq { st with state := st.state.setReset st.id r i } (st.setReset r i).1 := by
  rw [st.setReset_fst]; exact ⟨rfl, rfl, rfl, rfl, rfl⟩

theorem setReset_state (st : Stream) (r : Reason) (i : Initiator) :
    (st.setReset r i).1.state = st.state.setReset st.id r i := (setReset_core st r i).state
theorem setReset_pendingSend (st : Stream) (r : Reason) (i : Initiator) :
    (st.setReset r i).1.pendingSend = st.pendingSend := (setReset_core st r i).pendingSend
theorem SRel.setReset_fresh (st : Stream) (r : Reason) (i : Initiator) (h : st.state.isReset = false) :
    SRel D st (st.setReset r i).1 := by
  rw [st.setReset_fst]; exact SRel.state_step rfl rfl rfl rfl (.error h rfl)

/-- the kinds of update `SRel D` holds of, whatever the entry: all but a new entry, a dropped handle and a queued
    RST_STREAM (one more would break `RInv`: only `send_reset` as a whole is a step) -/
def srK : Kind → Bool
  | .insert | .refDec | .frame .reset => false
  | _ => true

theorem isScheduledReset_of_get {x : State} {r : Reason} (h : x.getScheduledReset = some r) : x.isScheduledReset = true := by
  unfold State.isScheduledReset; rw [h]; rfl

/-- every change of state the stream layer makes is a `StateStep`: the three that need a test carry it -/
theorem stateStep_of {K : Kind → Bool} {id : Nat} {x y : State} (h : State.Step K id x y) : StateStep id x y := by
  cases h with
  | sendOpen eos _ e =>
    obtain rfl : (x.sendOpen eos).1 = y := by rw [e]
    state_cases x <;> cases eos <;> first | exact .same | exact .normal rfl rfl rfl
  | recvOpen eos inf _ e =>
    obtain rfl : (x.recvOpen eos inf).1 = y := by rw [e]
    state_cases x <;> cases eos <;> cases inf <;> first | exact .same | exact .normal rfl rfl rfl
  | sendClose _ e => state_cases x <;> simp [State.sendClose] at e <;> subst e <;> exact .normal rfl rfl rfl
  | recvClose _ e =>
    obtain rfl : x.recvClose.1 = y := by rw [e]
    state_cases x <;> first | exact .same | exact .normal rfl rfl rfl
  | reserveRemote _ e =>
    obtain rfl : x.reserveRemote.1 = y := by rw [e]
    state_cases x <;> first | exact .same | exact .normal rfl rfl rfl
  | reserveLocal _ e => have := step_reserveLocal id x; rwa [e] at this
  | recvReset r q =>
    state_cases x <;> cases q <;>
      first | exact .same | exact .error rfl rfl | exact .remote r false rfl rfl | exact .remote r true rfl rfl
  | handleError e | recvEof => state_cases x <;> first | exact .same | exact .error rfl rfl
  | setScheduledReset r _ e => exact .schedule e rfl
  | setReset r i _ _ e => exact .error e rfl
  | setResetScheduled r _ e => exact .unschedule (isScheduledReset_of_get e) rfl

theorem SRel.of_updW {x : Stream} {p : Stream × List String} (w : Stream.UpdW srK x p) : SRel D x p.1 := by
  cases w with
  | notifySend => exact .of_coreEq (coreEq_notifySend x)
  | notifyRecv => exact .of_coreEq (coreEq_notifyRecv x)
  | notifyPush => exact .of_coreEq (coreEq_notifyPush x)
  | notifyCapacity => exact .of_coreEq (coreEq_notifyCapacity x)
  | assignCapacity c m _ => exact .of_coreEq (coreEq_assignCapacity x c m)
  | setReset r i h =>
    rw [x.setReset_fst]; exact .state_step rfl rfl rfl rfl (stateStep_of h)

theorem SRel.of_upd {x y : Stream} (u : Stream.Upd srK x y) : SRel D x y := by
  cases u with
  | state v h | reserved v h _ => exact .state_step rfl rfl rfl rfl (stateStep_of h)
  | sendData n m _ _ => exact .of_coreEq (coreEq_sendData x n m)
  | decContentLength n _ h => exact .of_coreEq (coreEq_decContentLength h)
  | refInc => exact .refInc x
  | refDec hk => cases hk
  | pushSend f hk =>
    have hf : isResetFrame f = false := by cases f <;> first | rfl | cases hk
    exact .queue_le rfl rfl rfl rfl (by simp [hf])
  | unpopData n eos _ => exact .queue_le rfl rfl rfl rfl (by simp [isResetFrame])
  | popSend f rest _ e => exact .queue_le rfl rfl rfl rfl (by simp [e])
  | dropSend _ => exact .queue_le rfl rfl rfl rfl (resetCount_drop_le _ 1)
  | clearSend _ => exact .queue_le rfl rfl rfl rfl (Nat.zero_le _)
  | keepOnlyHead _ => exact .queue_le rfl rfl rfl rfl (resetCount_take_le _ 1)
  | _ => exact .of_coreEq ⟨rfl, rfl, rfl, rfl, rfl⟩

theorem Evolves.of_step_sr {a : Store} {s s' : Streams} (t : Streams.Step srK s s') (h : Evolves (SRel D) RInv a s.store) :
    Evolves (SRel D) RInv a s'.store :=
  Evolves.of_step rfl (fun _ _ u => SRel.of_upd u) (fun _ _ w => SRel.of_updW w) t h

end H2V.Lemmas.ConnResetP

namespace H2V.Lemmas.ConnResetP
open H2V H2V.Model H2V.Model.Conn
variable {D : Nat → Prop}

theorem Store.mod_mod (S : Store) (id : Nat) (f g : Stream → Stream)
    (hf : ∀ x, (f x).key = x.key) (hg : ∀ x, (g x).key = x.key) :
    Store.mod (Store.mod S id f) id g = Store.mod S id (fun x => g (f x)) := by
  unfold Store.mod
  cases h : S.get? id with
  | none => simp only [h]
  | some x =>
    have hk : (f x).key = id := by rw [hf, Store.get?_key h]
    have : (S.set (f x)).get? id = some (f x) := by
      have := Store.get?_set_self S (f x); rw [hk, h] at this; exact this
    simp only [this]
    exact Store.set_set _ (hg _)

theorem qPush_store (s : Streams) (q : QName) (id : Nat) :
    (s.qPush q id).1.store =
      if (Store.getD' s.store id).isQueued q then s.store else Store.mod s.store id (fun st => st.setQueued q true) := by
  unfold Streams.qPush
  rw [stream_eq]
  split <;> simp

end H2V.Lemmas.ConnResetP
