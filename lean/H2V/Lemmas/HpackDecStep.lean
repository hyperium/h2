import H2V.Lemmas.HpackDecLit
/-
  One iteration of the `while let Some(ty) = peek_u8(src)` loop of `Decoder::decode` as a function
  (`step`), so that every loop property is a property of one step plus an induction on the fuel.
  What a turn does is said twice: `step_good` (the run on `b` against the run on `b ++ x`) and
  `step_cases` (`Turn` / `Halt`: what became of the decoder, where the emitted field came from);
  `step_next_props` and `step_stop_props` are readings of the two.
-/
namespace H2V.Lemmas.HpackDec
open H2V H2V.Model.Hpack H2V.Generated.Static

/-- outcome of one loop iteration -/
inductive Step where
  /-- the loop returns: decoder, what is left in the buffer, result -/
  | stop (d : Decoder) (tail : Bytes) (res : Except DErr Unit)
  /-- the loop goes on: decoder, `can_resize`, rest of the buffer, emitted fields (0 or 1) -/
  | next (d : Decoder) (canResize : Bool) (rest : Bytes) (emit : List Header)

/-- a field representation: sets `seen_field`, then decodes -/
def stepLiteral (d : Decoder) (buf : Bytes) (index : Bool) : Step :=
  let d := { d with seenField := true }
  match decodeLiteral d.table buf index with
  | .error (e, tl) => .stop d tl (.error e)
  | .ok (h, rest) =>
    .next (if index then { d with table := d.table.insert h } else d) false rest [h]

def step (d : Decoder) (canResize : Bool) (buf : Bytes) : Step :=
  match buf with
  | [] => .stop d [] (.ok ())
  | ty :: _ =>
    match Rep.load ty with
    | .error e => .stop d buf (.error e)
    | .ok .indexed =>
      let d := { d with seenField := true }
      match decodeInt buf 7 with
      | .error e => .stop d buf (.error e)
      | .ok (index, rest) =>
        match d.table.get index with
        | .error e => .stop d buf (.error e)
        | .ok h => .next d false rest [h]
    | .ok .literalWithIndexing => stepLiteral d buf true
    | .ok .literalWithoutIndexing => stepLiteral d buf false
    | .ok .literalNeverIndexed => stepLiteral d buf false
    | .ok .sizeUpdate =>
      if ¬ canResize then .stop d buf (.error .invalidMaxDynamicSize)
      else
        match decodeInt buf 5 with
        | .error e => .stop d buf (.error e)
        | .ok (newSize, rest) =>
          if newSize > d.lastMaxUpdate then .stop d buf (.error .invalidMaxDynamicSize)
          else
            match d.table.setMaxSize newSize with
            | none => .stop d buf (.error .panic)
            | some t => .next { d with table := t } canResize rest []

theorem decodeLoop_zero (d : Decoder) (c : Bool) (buf : Bytes) (acc : List Header) :
    decodeLoop 0 d c buf acc = ⟨acc, d, buf, if buf.isEmpty then .ok () else .error .fuel⟩ := rfl

theorem decodeLoop_succ (fuel : Nat) (d : Decoder) (c : Bool) (buf : Bytes) (acc : List Header) :
    decodeLoop (fuel + 1) d c buf acc =
      match step d c buf with
      | .stop d' tl res => ⟨acc, d', tl, res⟩
      | .next d' c' rest emit => decodeLoop fuel d' c' rest (acc ++ emit) := by
  cases buf with
  | nil => rfl
  | cons ty tl =>
    simp only [decodeLoop, step]
    cases Rep.load ty with
    | error e => rfl
    | ok r =>
      cases r with
      | indexed =>
        simp only
        cases decodeInt (ty :: tl) 7 with
        | error e => rfl
        | ok r =>
          obtain ⟨index, rest⟩ := r
          simp only
          cases d.table.get index <;> rfl
      | literalWithIndexing =>
        simp only [stepLiteral]
        cases decodeLiteral d.table (ty :: tl) true with
        | error e => rfl
        | ok r => rfl
      | literalWithoutIndexing =>
        simp only [stepLiteral]
        cases decodeLiteral d.table (ty :: tl) false with
        | error e => rfl
        | ok r => rfl
      | literalNeverIndexed =>
        simp only [stepLiteral]
        cases decodeLiteral d.table (ty :: tl) false with
        | error e => rfl
        | ok r => rfl
      | sizeUpdate =>
        simp only
        cases c with
        | false => rfl
        | true =>
          simp only
          cases decodeInt (ty :: tl) 5 with
          | error e => rfl
          | ok r =>
            obtain ⟨newSize, rest⟩ := r
            simp only
            by_cases hgt : newSize > d.lastMaxUpdate
            · simp only [if_pos hgt, not_true_eq_false, if_false]
            · simp only [if_neg hgt, not_true_eq_false, if_false]
              cases d.table.setMaxSize newSize with
              | none => rfl
              | some t => simp

/-- the RFC 7541 §6 pattern of a first octet -/
def repOf (ty : Nat) : Rep :=
  if ty ≥ 128 then .indexed else if ty ≥ 64 then .literalWithIndexing else if ty ≥ 32 then .sizeUpdate
  else if ty ≥ 16 then .literalNeverIndexed else .literalWithoutIndexing

def loadOpt (ty : Nat) : Option Rep := match Rep.load ty with | .ok r => some r | .error _ => none

theorem loadOpt_eq : ∀ ty, ty < 256 → loadOpt ty = some (repOf ty) := by decide +kernel

/-- `Representation::load` is total on octets (`InvalidRepresentation` is dead code) -/
theorem Rep_load_eq (ty : Nat) (h : ty < 256) : Rep.load ty = .ok (repOf ty) := by
  have := loadOpt_eq ty h
  unfold loadOpt at this
  split at this
  · rename_i r hr; rw [hr]; simp only [Option.some.injEq] at this; rw [this]
  · cases this

/-- the fields of the decoder that the loop never writes -/
structure SameCfg (d d' : Decoder) : Prop where
  lmu : d'.lastMaxUpdate = d.lastMaxUpdate
  msu : d'.maxSizeUpdate = d.maxSizeUpdate
  cont : d'.continuing = d.continuing

theorem SameCfg.refl (d : Decoder) : SameCfg d d := ⟨rfl, rfl, rfl⟩

theorem SameCfg.trans {a b c : Decoder} (h1 : SameCfg a b) (h2 : SameCfg b c) : SameCfg a c :=
  ⟨h2.lmu.trans h1.lmu, h2.msu.trans h1.msu, h2.cont.trans h1.cont⟩

/-- `GoodT` for one turn of the loop; the turn that ends the block found the buffer empty -/
def Step.Good (b x : Bytes) (s s' : Step) : Prop :=
  match s with
  | .next d c rest emit => (∃ pre, b = pre ++ rest ∧ 1 ≤ pre.length) ∧ s' = .next d c (rest ++ x) emit
  | .stop d tl (.error e) => if e.isNeedMore then tl = b else s' = .stop d (tl ++ x) (.error e)
  | .stop _ tl (.ok _) => b = [] ∧ tl = []

theorem Step.Good.stop {b x : Bytes} {d : Decoder} {e : DErr} {s' : Step}
    (h : e.isNeedMore = false → s' = .stop d (b ++ x) (.error e)) :
    Step.Good b x (.stop d b (.error e)) s' := by
  show if e.isNeedMore then b = b else s' = .stop d (b ++ x) (.error e)
  split
  · rfl
  · exact h (Bool.eq_false_iff.2 ‹_›)

theorem stepLiteral_good (d : Decoder) (index : Bool) (b x : Bytes) :
    Step.Good b x (stepLiteral d b index) (stepLiteral d (b ++ x) index) := by
  have g := decodeLiteral_good d.table index b x
  unfold stepLiteral
  simp only
  cases h : decodeLiteral d.table b index with
  | ok p => rw [h] at g; rw [g.2]; exact ⟨g.1, rfl⟩
  | error et =>
    rw [h] at g
    simp only [GoodT] at g
    simp only [Step.Good]
    split
    · rw [if_pos ‹_›] at g; exact g
    · rw [if_neg ‹_›] at g; rw [g]

theorem step_good (d : Decoder) (c : Bool) (b x : Bytes) :
    Step.Good b x (step d c b) (step d c (b ++ x)) := by
  cases b with
  | nil => exact ⟨rfl, rfl⟩
  | cons ty tl =>
    have int : ∀ p, match decodeInt (ty :: tl) p with
        | .ok (v, r) => (∃ pre, ty :: tl = pre ++ r ∧ 1 ≤ pre.length) ∧
          decodeInt (ty :: (tl ++ x)) p = .ok (v, r ++ x)
        | .error e => e.isNeedMore = false → decodeInt (ty :: (tl ++ x)) p = .error e :=
      fun p => decodeInt_ext p (ty :: tl) x
    rw [List.cons_append]
    unfold step
    simp only
    cases Rep.load ty with
    | error e => exact Step.Good.stop fun _ => rfl
    | ok r =>
      cases r with
      | indexed =>
        simp only
        have g := int 7
        cases h0 : decodeInt (ty :: tl) 7 with
        | error e => rw [h0] at g; exact Step.Good.stop fun hn => by rw [g hn]; rfl
        | ok p0 =>
          rw [h0] at g
          obtain ⟨⟨pre, e0, l0⟩, hx⟩ := g
          rw [hx]
          simp only
          cases d.table.get p0.1 with
          | error e => exact Step.Good.stop fun _ => rfl
          | ok h => exact ⟨⟨pre, e0, l0⟩, rfl⟩
      | literalWithIndexing => exact stepLiteral_good d true _ x
      | literalWithoutIndexing => exact stepLiteral_good d false _ x
      | literalNeverIndexed => exact stepLiteral_good d false _ x
      | sizeUpdate =>
        simp only
        cases c with
        | false => exact Step.Good.stop fun _ => rfl
        | true =>
          simp only [not_true_eq_false, if_false]
          have g := int 5
          cases h0 : decodeInt (ty :: tl) 5 with
          | error e => rw [h0] at g; exact Step.Good.stop fun hn => by rw [g hn]; rfl
          | ok p0 =>
            rw [h0] at g
            obtain ⟨⟨pre, e0, l0⟩, hx⟩ := g
            rw [hx]
            simp only
            by_cases hgt : p0.1 > d.lastMaxUpdate
            · rw [if_pos hgt, if_pos hgt]; exact Step.Good.stop fun _ => rfl
            · rw [if_neg hgt, if_neg hgt]
              cases d.table.setMaxSize p0.1 with
              | none => exact Step.Good.stop fun _ => rfl
              | some t => exact ⟨⟨pre, e0, l0⟩, rfl⟩

/-- a turn that goes on: the emitted field was found in the table or read as a literal (which may
    enter the table), or the turn was a size update -/
inductive Turn (d : Decoder) (c : Bool) : Decoder → Bool → List Header → Prop
  | indexed {i : Nat} {h : Header} (hg : d.table.get i = .ok h) :
    Turn d c { d with seenField := true } false [h]
  | literal {index : Bool} {buf rest : Bytes} {h : Header}
    (hk : decodeLiteral d.table buf index = .ok (h, rest)) :
    Turn d c (if index then { d with seenField := true, table := d.table.insert h }
      else { d with seenField := true }) false [h]
  | resize {n : Nat} {t : Table} (hc : c = true) (hn : n ≤ d.lastMaxUpdate)
    (ht : d.table.setMaxSize n = some t) : Turn d c { d with table := t } c []

/-- a turn that returns: the block is read, or an error, raised before the decoder was touched or
    by a field representation, which has set `seen_field` by then -/
inductive Halt (d : Decoder) (buf : Bytes) : Decoder → Bytes → Except DErr Unit → Prop
  | done (hb : buf = []) : Halt d buf d [] (.ok ())
  | early (e : DErr) : Halt d buf d buf (.error e)
  | field {ty : Nat} {tl0 : Bytes} {r : Rep} (tl : Bytes) (e : DErr) (hb : buf = ty :: tl0)
    (hr : Rep.load ty = .ok r) (hne : r ≠ .sizeUpdate) :
    Halt d buf { d with seenField := true } tl (.error e)

theorem step_cases (d : Decoder) (c : Bool) (buf : Bytes) :
    match step d c buf with
    | .next d' c' _ emit => Turn d c d' c' emit
    | .stop d' tl res => Halt d buf d' tl res := by
  cases buf with
  | nil => exact .done rfl
  | cons ty tl0 =>
    unfold step
    simp only
    cases hr : Rep.load ty with
    | error e => exact .early e
    | ok r =>
      have lit : ∀ index, r ≠ .sizeUpdate → match stepLiteral d (ty :: tl0) index with
          | .next d' c' _ emit => Turn d c d' c' emit
          | .stop d' tl res => Halt d (ty :: tl0) d' tl res := by
        intro index hne
        unfold stepLiteral
        simp only
        cases hk : decodeLiteral d.table (ty :: tl0) index with
        | error et => exact .field et.2 et.1 rfl hr hne
        | ok p => exact .literal hk
      cases r with
      | indexed =>
        simp only
        cases decodeInt (ty :: tl0) 7 with
        | error e => exact .field _ e rfl hr (by decide)
        | ok p =>
          simp only
          cases hg : d.table.get p.1 with
          | error e => exact .field _ e rfl hr (by decide)
          | ok h => exact .indexed hg
      | literalWithIndexing => exact lit true (by decide)
      | literalWithoutIndexing => exact lit false (by decide)
      | literalNeverIndexed => exact lit false (by decide)
      | sizeUpdate =>
        simp only
        cases c with
        | false => exact .early _
        | true =>
          simp only [not_true_eq_false, if_false]
          cases decodeInt (ty :: tl0) 5 with
          | error e => exact .early e
          | ok p =>
            simp only
            by_cases hgt : p.1 > d.lastMaxUpdate
            · rw [if_pos hgt]; exact .early _
            · rw [if_neg hgt]
              cases ht : d.table.setMaxSize p.1 with
              | none => exact .early _
              | some t => exact .resize rfl (Nat.le_of_not_gt hgt) ht

theorem step_field {ty : Nat} {r : Rep} (hr : Rep.load ty = .ok r) (hne : r ≠ .sizeUpdate)
    (d : Decoder) (c c' : Bool) (tl : Bytes) :
    step { d with seenField := true } c' (ty :: tl) = step d c (ty :: tl) := by
  unfold step
  simp only [hr]
  cases r <;> first | rfl | exact absurd rfl hne

/-- P1 — a continuing step: consumes at least one octet, keeps the configuration, keeps
    `can_resize = !seen_field`, keeps the table invariant -/
theorem step_next_props (d : Decoder) (c : Bool) (buf : Bytes) (d' : Decoder) (c' : Bool)
    (rest : Bytes) (emit : List Header) (h : step d c buf = .next d' c' rest emit) :
    (∃ pre, buf = pre ++ rest ∧ 1 ≤ pre.length) ∧ SameCfg d d' ∧
    (c = !d.seenField → c' = !d'.seenField) ∧
    (Table.Inv d.table → Table.Inv d'.table ∧
      (d'.table.maxSize = d.table.maxSize ∨ d'.table.maxSize ≤ d.lastMaxUpdate)) := by
  have hg := step_good d c buf []
  have ht := step_cases d c buf
  rw [h] at hg ht
  refine ⟨hg.1, ?_⟩
  cases ht with
  | indexed => exact ⟨⟨rfl, rfl, rfl⟩, fun _ => rfl, fun hi => ⟨hi, Or.inl rfl⟩⟩
  | @literal index =>
    cases index
    · exact ⟨⟨rfl, rfl, rfl⟩, fun _ => rfl, fun hi => ⟨hi, Or.inl rfl⟩⟩
    · exact ⟨⟨rfl, rfl, rfl⟩, fun _ => rfl, fun hi =>
        ⟨insert_preserves_inv _ _ hi, Or.inl (insert_maxSize _ _ hi.sizeOk)⟩⟩
  | resize _ hn ht =>
    refine ⟨⟨rfl, rfl, rfl⟩, fun hc => hc, fun hi => ?_⟩
    obtain ⟨i1, i2⟩ := setMaxSize_preserves_inv _ _ _ hi ht
    exact ⟨i1, Or.inr (by rw [i2]; exact hn)⟩

/-- P2 — a returning step: the table is untouched; `Ok` only on an empty buffer; a `NeedMore`
    error leaves the whole representation in the buffer -/
theorem step_stop_props (d : Decoder) (c : Bool) (buf : Bytes) (d' : Decoder)
    (tl : Bytes) (res : Except DErr Unit) (h : step d c buf = .stop d' tl res) :
    (d' = d ∨ d' = { d with seenField := true }) ∧
    (res = .ok () → buf = [] ∧ tl = [] ∧ d' = d) ∧
    (∀ e, res = .error e → e.isNeedMore = true → tl = buf) := by
  have hg := step_good d c buf []
  have ht := step_cases d c buf
  rw [h] at hg ht
  have more : ∀ e, res = .error e → e.isNeedMore = true → tl = buf := fun e he hn => by
    subst he; simpa only [Step.Good, hn, if_true] using hg
  cases ht with
  | done hb => exact ⟨Or.inl rfl, fun _ => ⟨hb, rfl, rfl⟩, more⟩
  | early => exact ⟨Or.inl rfl, nofun, more⟩
  | field => exact ⟨Or.inr rfl, nofun, more⟩

theorem step_stop_sameCfg (d : Decoder) (c : Bool) (buf : Bytes) (d' : Decoder)
    (tl : Bytes) (res : Except DErr Unit) (h : step d c buf = .stop d' tl res) :
    SameCfg d d' ∧ d'.table = d.table ∧ (c = !d.seenField → res ≠ .ok () → True) := by
  rcases (step_stop_props _ _ _ _ _ _ h).1 with rfl | rfl
  · exact ⟨⟨rfl, rfl, rfl⟩, rfl, fun _ _ => trivial⟩
  · exact ⟨⟨rfl, rfl, rfl⟩, rfl, fun _ _ => trivial⟩

end H2V.Lemmas.HpackDec
