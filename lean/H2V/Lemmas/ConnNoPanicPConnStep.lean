import H2V.Lemmas.ConnNoPanicPConnHist
import H2V.Lemmas.ConnPollRule
/-
  C08 (no panic) — connection layer: the single steps of `Connection::poll`
  (`go_away*`, `handle_go_away`, `handle_poll2_result`, `send_pending_go_away`, `poll_ready`) are
  histories of stream-layer operations satisfying `ConnPA A` (with the codec's writer tracked: `HistW`), and
  keep the connection invariant `ConnOK` and `InFlight A`, for every `A`.  None of them records a panic of the
  connection layer.
-/
namespace H2V.Lemmas.ConnNoPanicP
open H2V H2V.Model H2V.Model.Conn
open H2V.Lemmas.ConnResetP (Op run)
open H2V.Lemmas.ConnCtlP (GoAwayInv Keep15 Step15 GaLe gaLast view)

/-- a step of the connection: invariant kept, `(streams, codec.w)` moved by a history -/
structure CS (X : String → Prop) (c c' : Conn) : Prop extends OKStep c c' where
  hist : HistWX ConnP X c.streams c.codec.w c'.streams c'.codec.w

theorem CS.histS {X : String → Prop} {c c' : Conn} (h : CS X c c') : HistX ConnP X c.streams c'.streams := h.hist.hist

theorem CS.monoX {X Y : String → Prop} (hxy : ∀ m, X m → Y m) {c c' : Conn} (h : CS X c c') : CS Y c c' :=
  { h with hist := h.hist.mono (fun _ _ hp => hp) hxy }

variable {A : List (Nat × Nat) → Prop}

/-- a step of the connection relative to `A`: `InFlight A` is kept as well, and `apply_local_settings` is only called on
    values satisfying `A` -/
structure CSA (A : List (Nat × Nat) → Prop) (X : String → Prop) (c c' : Conn) : Prop extends OKStep c c' where
  fl : InFlight A c → InFlight A c'
  hist : HistWX (ConnPA A) X c.streams c.codec.w c'.streams c'.codec.w

theorem CSA.cs {X : String → Prop} {c c' : Conn} (h : CSA A X c c') : CS X c c' :=
  ⟨h.toOKStep, h.hist.mono ConnPA.plain (fun _ hm => hm)⟩

theorem CSA.ok {X : String → Prop} {c c' : Conn} (h : CSA A X c c') (hc : ConnOK c) : ConnOK c' := h.toOKStep.ok hc

/-- the connection invariant together with what is known of the local SETTINGS in flight -/
structure OKA (A : List (Nat × Nat) → Prop) (c : Conn) : Prop where
  ok : ConnOK c
  fl : InFlight A c

theorem CSA.oka {X : String → Prop} {c c' : Conn} (h : CSA A X c c') (hc : OKA A c) : OKA A c' := ⟨h.ok hc.ok, h.fl hc.fl⟩

theorem CSA.trans {X : String → Prop} {a b c : Conn} (h1 : CSA A X a b) (h2 : CSA A X b c) : CSA A X a c where
  ga := h2.ga
  gale := h1.gale.trans h2.gale
  ping := fun p hp => by
    obtain ⟨q, hq, e1⟩ := h2.ping p hp
    obtain ⟨r, hr, e2⟩ := h1.ping q hq
    exact ⟨r, hr, e1.trans e2⟩
  rd := fun h => h2.rd (h1.rd h)
  fl := fun h => h2.fl (h1.fl h)
  hist := h1.hist.trans h2.hist

theorem CSA.refl {X : String → Prop} {c : Conn} (hi : GoAwayInv c) : CSA A X c c :=
  ⟨⟨hi, GaLe.refl c, fun p h => ⟨p, h, rfl⟩, id⟩, id, .refl⟩

theorem CSA.mk' {X : String → Prop} {c c' : Conn} (h : Step15 c c') (hp : c'.pingPong.pendingPing = c.pingPong.pendingPing)
    (hr : c'.codec.r = c.codec.r) (hl : c'.settings = c.settings)
    (hh : HistW (ConnPA A) c.streams c.codec.w c'.streams c'.codec.w) : CSA A X c c' :=
  have hle : LocLe c c' := .of_eq (by rw [hl]) (by rw [hl])
  ⟨.of_step15 h hp hr hle, fun hf => hf.le hle, hh.toX connPA_noPanic⟩

theorem CSA.same {X : String → Prop} {c c' : Conn} (hi : GoAwayInv c) (hg : c'.goAway = c.goAway) (hs : c'.streams = c.streams)
    (hp : c'.pingPong.pendingPing = c.pingPong.pendingPing) (hc : c'.codec = c.codec) (hl : c'.settings = c.settings) :
    CSA A X c c' :=
  .mk' ((Keep15.of_view hg (by rw [hs])).step hi) hp (by rw [hc]) hl (.same hs (by rw [hc]))

theorem goAwayNowData_frame (c : Conn) (e : Reason) (d : Bytes) :
    (c.goAwayNowData e d).pingPong = c.pingPong ∧ (c.goAwayNowData e d).codec = c.codec ∧
    (c.goAwayNowData e d).settings = c.settings := by
  unfold Conn.goAwayNowData
  dsimp only
  split <;> exact ⟨rfl, rfl, rfl⟩

theorem handleGoAway_frame (c : Conn) (r : Reason) (d : Bytes) (i : Initiator) :
    (c.handleGoAway r d i).pingPong = c.pingPong ∧ (c.handleGoAway r d i).codec = c.codec ∧
    (c.handleGoAway r d i).settings = c.settings := by
  rcases ConnCtlP.handleGoAway_cases c r d i with ⟨-, h⟩ | h <;> rw [h]
  · exact ⟨rfl, rfl, rfl⟩
  · exact goAwayNowData_frame _ r d

/-- `DynConnection::go_away(id, e)` at its call sites (`last_processed_id ≤ id ≤ max_stream_id`, `id` not above
    the announced id): exactly `Recv::go_away(id)`, with its `assert!` true -/
theorem dynGoAway_csa {X : String → Prop} {c : Conn} (id : Nat) (e : Reason)
    (h1 : (view c.streams).lpi ≤ id) (h2 : id ≤ (view c.streams).rmax)
    (h3 : ∀ ga, c.goAway.goingAway = some ga → id ≤ ga.lastProcessedId) : CSA A X c (c.dynGoAway id e) := by
  obtain ⟨d1, d2, -, d4, -, -⟩ := ConnCtlP.dynGoAway_inv c id e h1 h2 h3
  obtain ⟨-, dv, -, -, -⟩ := ConnCtlP.recvGoAway_ok c.streams id h2
  obtain ⟨f2, -, f3, f1⟩ := Conn.dynGoAway_keeps c id e
  refine .mk' ⟨d1, ?_, ?_⟩ (by rw [f1]) (by rw [f2]) f3 (.op1 (.recvGoAway id) h2 rfl d2 (by rw [f2]))
  · intro m hm
    refine ⟨id, by unfold gaLast; rw [d4]; rfl, ?_⟩
    unfold gaLast at hm
    cases hga : c.goAway.goingAway with
    | none => rw [hga] at hm; cases hm
    | some ga =>
      rw [hga] at hm
      simp at hm
      rw [← hm]
      exact h3 ga hga
  · intro hs
    rw [d2, dv]; exact hs

/-- `DynConnection::go_away_now(e)` / `go_away_now_data(e, data)`: `streams` untouched, the `assert!` true -/
theorem goAwayNowData_csa {X : String → Prop} {c : Conn} (hi : GoAwayInv c) (e : Reason) (d : Bytes) :
    CSA A X c (c.goAwayNowData e d) := by
  obtain ⟨f1, f2, f3⟩ := goAwayNowData_frame c e d
  exact .mk' (ConnCtlP.goAwayNowData_step15 c e d hi) (by rw [f1]) (by rw [f2]) f3
    (.same (ConnCtlP.goAwayNowData_inv c e d hi).2 (by rw [f2]))

theorem goAwayNow_csa {X : String → Prop} {c : Conn} (hi : GoAwayInv c) (e : Reason) : CSA A X c (c.goAwayNow e) :=
  goAwayNowData_csa hi e []

theorem handleError_csa {X : String → Prop} {c : Conn} (hi : GoAwayInv c) (e : PErr) (he : ∀ id r, e ≠ .reset id r .remote) :
    CSA A X c { c with streams := (c.streams.handleError e).1 } :=
  .mk' ((ConnCtlP.keep15_handleError c e).step hi) rfl rfl rfl (.op1 (.handleError e) he rfl rfl rfl)

/-- `DynConnection::handle_go_away`: `Streams::handle_error`, then `go_away_now_data` -/
theorem handleGoAway_csa {X : String → Prop} {c : Conn} (hi : GoAwayInv c) (r : Reason) (d : Bytes) (i : Initiator) :
    CSA A X c (c.handleGoAway r d i) := by
  rcases ConnCtlP.handleGoAway_cases c r d i with ⟨-, h⟩ | h <;> rw [h]
  · exact .same hi rfl rfl rfl rfl rfl
  · have s1 : CSA A X c { c with streams := (c.streams.handleError (.goAway d r i)).1 } :=
      handleError_csa hi _ (fun _ _ h => by cases h)
    exact s1.trans (goAwayNowData_csa s1.ga r d)

/-- **`DynConnection::handle_poll2_result`**: `handle_error`, `send_reset` (library resets), nothing else -/
theorem handlePoll2Result_csa {X : String → Prop} {c : Conn} (hi : GoAwayInv c) (res : Except PErr Unit) :
    CSA A X c (c.handlePoll2Result res).1 := by
  unfold Conn.handlePoll2Result
  cases res with
  | ok u => exact .same hi rfl rfl rfl rfl rfl
  | error e =>
    cases e with
    | goAway d r i => exact handleGoAway_csa hi r d i
    | reset id r i =>
      dsimp only
      split
      · exact .refl hi
      · rcases hs : c.streams.innerSendReset id r with ⟨s, rr⟩
        have hv : view s = view c.streams := by
          have := ConnCtlP.view_innerSendReset c.streams id r; rw [hs] at this; exact this
        have s1 : CSA A X c { c with streams := s } :=
          .mk' ((Keep15.of_view (c := c) (c' := { c with streams := s }) rfl hv).step hi) rfl rfl rfl
            (.op1 (.innerSendReset id r) trivial rfl (by show s = (c.streams.innerSendReset id r).1; rw [hs]) rfl)
        cases rr with
        | ok u => exact s1
        | error g => exact s1.trans (handleGoAway_csa s1.ga _ _ _)
    | io kind msg =>
      dsimp only
      have s1 : CSA A X c { c with streams := (c.streams.handleError (.io kind msg)).1 } :=
        handleError_csa hi _ (fun _ _ h => by cases h)
      split
      · exact s1.trans (.same s1.ga rfl rfl rfl rfl rfl)
      · exact s1

/-- what is proved by hand for the pieces of `poll_ready`: pending PING kept up to `sent`, reader untouched,
    `(streams, codec.w)` moved by a history (the GOAWAY part comes from ConnCtlP's `Keep15`) -/
structure QS (A : List (Nat × Nat) → Prop) (c c' : Conn) : Prop where
  ping : ∀ p', c'.pingPong.pendingPing = some p' → ∃ p, c.pingPong.pendingPing = some p ∧ p'.payload = p.payload
  rd : c'.codec.r = c.codec.r
  loc : LocLe c c'
  hist : HistW (ConnPA A) c.streams c.codec.w c'.streams c'.codec.w

theorem QS.refl (c : Conn) : QS A c c := ⟨fun p h => ⟨p, h, rfl⟩, rfl, .refl c, .refl⟩
theorem QS.trans {a b c : Conn} (h1 : QS A a b) (h2 : QS A b c) : QS A a c := by
  refine ⟨fun p hp => ?_, h2.rd.trans h1.rd, h1.loc.trans h2.loc, h1.hist.trans h2.hist⟩
  obtain ⟨q, hq, e1⟩ := h2.ping p hp
  obtain ⟨r, hr, e2⟩ := h1.ping q hq
  exact ⟨r, hr, e1.trans e2⟩
theorem QS.same {c c' : Conn} (hp : c'.pingPong.pendingPing = c.pingPong.pendingPing) (hc : c'.codec = c.codec)
    (hs : c'.streams = c.streams) (hl : c'.settings = c.settings) : QS A c c' :=
  ⟨fun p h => ⟨p, by rw [← hp]; exact h, rfl⟩, by rw [hc], .of_eq (by rw [hl]) (by rw [hl]), .same hs (by rw [hc])⟩
theorem QS.wstep {c c' : Conn} (hp : c'.pingPong.pendingPing = c.pingPong.pendingPing) (hr : c'.codec.r = c.codec.r)
    (hs : c'.streams = c.streams) (hl : c'.settings = c.settings) (hw : WStep c.codec.w c'.codec.w) : QS A c c' :=
  ⟨fun p h => ⟨p, by rw [← hp]; exact h, rfl⟩, hr, .of_eq (by rw [hl]) (by rw [hl]), .w1 hw hs⟩
theorem QS.csa {X : String → Prop} {c c' : Conn} (h : QS A c c') (k : Step15 c c') : CSA A X c c' :=
  ⟨⟨k.1, k.2, h.ping, fun hn => hn.keep h.rd h.loc⟩, fun hf => hf.le h.loc, h.hist.toX connPA_noPanic⟩

/-- ConnPollRule's obligations for "`c'` is reached from `c` by the pieces of `poll_ready`": writer steps, slots, and the two
    operations of the stream layer (`apply_remote_settings` on SETTINGS that `c` already remembered) -/
theorem ready_qs (c : Conn) (hrem : ∀ v, c.settings.remote = some v → ConnFlowP.SettingsOk v) :
    ConnPoll.ReadyInv (QS A c) where
  codecPollReady _ h := h.trans (.wstep rfl rfl rfl rfl (.pollReadyW _ _ _))
  buffer _ _ _ h := h.trans (.wstep rfl rfl rfl rfl (.bufferSimple _ _ _))
  goAwayDone _ h := h.trans (.same rfl rfl rfl rfl)
  pongDone _ h := h.trans (.same rfl rfl rfl rfl)
  pingSent _ p h hp := h.trans ⟨fun p' hp' => ⟨p, hp, by cases hp'; rfl⟩, rfl, .of_eq rfl rfl, .refl⟩
  userPings _ _ h := h.trans (.same rfl rfl rfl rfl)
  remoteSeen _ h := h.trans ⟨fun p hp => ⟨p, hp, rfl⟩, rfl, .of_eq rfl rfl, .refl⟩
  applyRemote _ v i h hv := h.trans ⟨fun p hp => ⟨p, hp, rfl⟩, rfl, .of_eq rfl rfl,
    .op1 (.applyRemoteSettings v i) (hrem v (h.loc.2 v hv)) rfl rfl rfl⟩
  writer _ v1 v5 h := h.trans ⟨fun p hp => ⟨p, hp, rfl⟩, rfl, .of_eq rfl rfl, by
    cases v1 <;> cases v5
    · exact .refl
    · exact .w1 (.setMaxFrameSize _ _) rfl
    · exact .w1 (.setHpackMax _ _) rfl
    · exact (HistW.w1 (.setHpackMax _ _) rfl).trans (.w1 (.setMaxFrameSize _ _) rfl)⟩
  remoteDone _ h := h.trans ⟨fun p hp => ⟨p, hp, rfl⟩, rfl, ⟨fun v hv => hv, fun v hv => by cases hv⟩, .refl⟩
  localSent _ v h hl := h.trans ⟨fun p hp => ⟨p, hp, rfl⟩, rfl, ⟨fun v' hv' => by
    have : v' = v := by
      rcases hv' with hv' | hv'
      · cases hv'
      · injection hv' with hv'; exact hv'.symm
    subst this
    exact Or.inl hl, fun v hv => hv⟩, .refl⟩
  refusal c' h := h.trans ⟨fun p hp => ⟨p, hp, rfl⟩, rfl, .of_eq rfl rfl,
    .pollSendPendingRefusal 4 c'.codec.io c'.cx .refl trivial⟩

theorem sendPendingGoAway_qs (c : Conn) : QS A c c.sendPendingGoAway.1 :=
  ConnPoll.sendPendingGoAway_inv (I := QS A c) (fun _ h => h.trans (.wstep rfl rfl rfl rfl (.pollReadyW _ _ _)))
    (fun _ _ _ h => h.trans (.wstep rfl rfl rfl rfl (.bufferSimple _ _ _))) (fun _ h => h.trans (.same rfl rfl rfl rfl))
    (.refl c)

/-- when `poll_ready` answers `Ready(Ok)` the refused stream has been answered -/
theorem pollReady_refused (c : Conn) (h : c.pollReady.2 = .ok) : c.pollReady.1.streams.recv.refused = none := by
  unfold Conn.pollReady at h ⊢
  generalize c.sendPendingPong = p at h ⊢
  obtain ⟨c1, st⟩ := p
  cases st <;> first | cases h | dsimp only at h ⊢
  generalize c1.sendPendingPing = p at h ⊢
  obtain ⟨c2, st⟩ := p
  cases st <;> first | cases h | dsimp only at h ⊢
  generalize c2.settingsPollSend = p at h ⊢
  obtain ⟨c3, st⟩ := p
  cases st <;> first | cases h | dsimp only at h ⊢
  refine pollSendPendingRefusal_ready 4 _ _ _ _ ?_
  revert h
  generalize (Streams.pollSendPendingRefusal 4 _ _ _ _).2.2.2 = r
  cases r <;> intro h <;> first | rfl | cases h

theorem keep15_pollReady (c : Conn) : Keep15 c c.pollReady.1 := by
  rw [← ConnCtlP.pollReadyT_fst]; exact (ConnCtlP.pollReadyT_keep c).1

theorem step15_sendPendingGoAway {c : Conn} (hi : GoAwayInv c) : Step15 c c.sendPendingGoAway.1 := by
  rw [← ConnCtlP.sendPendingGoAwayT_fst]
  exact ⟨(ConnCtlP.sendPendingGoAwayT_sent c hi).1, (ConnCtlP.sendPendingGoAwayT_sent c hi).2.1.mono⟩

/-- `GoAway::send_pending_go_away`: `streams` untouched; the writer: `poll_ready`, then the GOAWAY frame -/
theorem sendPendingGoAway_csa {X : String → Prop} {c : Conn} (hi : GoAwayInv c) : CSA A X c c.sendPendingGoAway.1 :=
  (sendPendingGoAway_qs c).csa (step15_sendPendingGoAway hi)

/-- **`Connection::poll_ready`** is a history (`apply_remote_settings`, `send_pending_refusal`); when it answers
    `Ready(Ok)` no refused stream is left (`recv.refused = none`), no SETTINGS is unanswered, no PONG is owed -/
theorem pollReady_csa {X : String → Prop} {c : Conn} (hi : GoAwayInv c)
    (hrem : ∀ v, c.settings.remote = some v → ConnFlowP.SettingsOk v) :
    CSA A X c c.pollReady.1 ∧ c.pollReady.1.goAway = c.goAway ∧
    (c.pollReady.2 = .ok → c.pollReady.1.streams.recv.refused = none ∧ c.pollReady.1.settings.remote = none ∧
      c.pollReady.1.pingPong.pendingPong = none) := by
  have q := (ready_qs (A := A) c hrem).pollReady (.refl c)
  have hr := pollReady_refused c
  refine ⟨q.csa ((keep15_pollReady c).step hi), (keep15_pollReady c).1, fun hok => ?_⟩
  have := (ConnCtlP.pollReadyT_spec c).2
  rw [ConnCtlP.pollReadyT_fst] at this
  exact ⟨hr hok, this (by rw [hok]; rfl)⟩

end H2V.Lemmas.ConnNoPanicP
