import H2V.Lemmas.ConnFidPOps
/-
  ConnFidP — `Streams::poll_complete` (the connection task's write loop: `poll_ready`, window updates,
  `pop_pending_open`, `pop_frame`, `buffer_out`, `reclaim_frame`, `flush`) maps a history to a history.
-/
set_option linter.unusedSectionVars false
namespace H2V.Lemmas.ConnFidP
open H2V H2V.Model H2V.Model.Conn H2V.Lemmas.ConnWakeP

def HistP (s : Streams) (w : Writer) : Prop := ∃ g, Hist s w g

theorem HistP.codec {s : Streams} {w w' : Writer} (h : HistP s w) (hh : held w' = held w) (hk : WOk w → WOk w') :
    HistP s w' := by
  obtain ⟨g, h⟩ := h
  exact ⟨g, .codec h hh (hk h.wok)⟩

theorem HistP.any {s s' : Streams} {w : Writer} (h : HistP s w) (t : Tr permAny s s') : HistP s' w := by
  obtain ⟨g, h⟩ := h
  obtain ⟨g', h', _⟩ := h.any t
  exact ⟨g', h'⟩

theorem HistP.wok {s : Streams} {w : Writer} (h : HistP s w) : WOk w := by
  obtain ⟨g, h⟩ := h; exact h.wok

theorem held_recvBufferPending (s : Streams) (w : Writer) : SameHeld w (s.recvBufferPending w).2.1 :=
  Streams.recvBufferPending_writer (P := SameHeld w) (fun _ n r h => h.bufferSimple n r) s w (.refl w)

theorem HistP.reclaim {s : Streams} {w : Writer} (h : HistP s w) : HistP (s.reclaimFrame w).1 (s.reclaimFrame w).2.1 := by
  obtain ⟨g, h⟩ := h; exact ⟨g, .reclaim h⟩

theorem HistP.popStep {s : Streams} {w : Writer} (h : HistP s w) (hh : held w = none) (n : Nat) :
    (∀ s1, Streams.popFrame n s w.maxFrameSize = (s1, none) → HistP s1 w) ∧
    (∀ s1 f, Streams.popFrame n s w.maxFrameSize = (s1, some f) → HistP (s1.bufferOut w f).1 (s1.bufferOut w f).2) := by
  obtain ⟨g, h⟩ := h
  obtain ⟨g', r, o⟩ := popFrame_sid n w.maxFrameSize s g
  have d := o.outLast.1
  refine ⟨fun s1 hp => ?_, fun s1 f hp => ?_⟩
  · rw [hp] at r
    exact ⟨g', .popNone n w.maxFrameSize h hh hp r⟩
  · rw [hp] at r d
    exact ⟨_, .popBuffer n w.maxFrameSize f h hh (Nat.le_refl _) hp r d⟩

/-- **`Streams::poll_complete` maps a history to a history**: every piece of the write path does (`Streams.pollComplete_inv`,
    `Streams.prioBufferPendingLoop_inv`) -/
theorem hist_pollComplete (fuel : Nat) (s : Streams) (w : Writer) (io : Tio) (tag : String) (h : HistP s w) :
    HistP (Streams.pollComplete fuel s w io tag).1 (Streams.pollComplete fuel s w io tag).2.1 :=
  have hpanic : ∀ {s : Streams} {w : Writer} (m : String), HistP s w → HistP (s.panic m) w :=
    fun m h => h.any (panic_acc m (Tr.refl _ _))
  have hstep : ∀ {s s' : Streams} {w : Writer}, HistP s w → Streams.Step kindsTr s s' → HistP s' w :=
    fun h t => h.any (.of_step trivial t)
  have hpop : ∀ {s : Streams} {w : Writer}, HistP s w → w.lastDataFrame = none → w.next = none → ∀ n,
      (∀ s1, Streams.popFrame n s w.maxFrameSize = (s1, none) → HistP s1 w) ∧
      (∀ s1 f, Streams.popFrame n s w.maxFrameSize = (s1, some f) → HistP (s1.bufferOut w f).1 (s1.bufferOut w f).2) :=
    fun h hl hn n => h.popStep ((held_none_iff _).mpr ⟨hn, hl⟩) n
  Streams.pollComplete_inv (I := fun s w _ => HistP s w) (tag := tag) (hpanic _)
    (fun {_ w io _ _ _} h e => by have hr := held_pollReadyW w io tag h.wok; rw [e] at hr; exact h.codec hr.1 fun _ => hr.2)
    (fun {s w _} h => (let hq := held_recvBufferPending s w
      (hstep h (Streams.recvBufferPending_step (by decide) s w)).codec hq.1 hq.2))
    (fun h => h.reclaim)
    (fun n h hl => Streams.prioBufferPendingLoop_inv (I := HistP) (J := HistP) (Q := HistP) (fun _ _ => hpanic _) (fun _ _ h => h)
      (fun s _ h => hstep h (Streams.bufferPendingOpen_step (by decide) s))
      (fun _ _ s' f h hl hn e => ((hpop h hl hn _).2 s' f e).reclaim) (fun _ _ s' h hl hn e => (hpop h hl hn _).1 s' e) n _ _ h hl)
    (fun {_ w io _ _ _} h e => by
      have h1 := h.any (setTask_acc (some tag) (Tr.refl _ _))
      have hf := held_flush w io tag h1.wok
      rw [e] at hf; exact h1.codec hf.1 fun _ => hf.2)
    fuel s w io h

end H2V.Lemmas.ConnFidP
