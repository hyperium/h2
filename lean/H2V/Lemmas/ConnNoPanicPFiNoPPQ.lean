import H2V.Lemmas.ConnNoPanicPFiBase
/-
  C08 (no panic) — "no PUSH_PROMISE frame is queued anywhere" (`NoPPQ`) is kept by every operation except
  `StreamRef::send_push_promise`.  `QK s s'`: the promised ids queued on every entry only get fewer.  Every step of the
  stream layer that queues no PUSH_PROMISE is `QK` (`QK.of_step`: a new entry starts with an empty queue), and that is
  every operation but the one: each has it by its footprint (`op_qk`).
-/
namespace H2V.Lemmas.ConnNoPanicP
open H2V H2V.Model H2V.Model.Conn H2V.Lemmas.ConnCountsP
open H2V.Lemmas.ConnResetP (Op run)
attribute [local irreducible] wrapSubU32 wrapSubUsize

def NoPPQ (s : Streams) : Prop := ∀ k, ppq s k = []

structure QK (s s' : Streams) : Prop where
  sub : ∀ j, (ppq s' j).Sublist (ppq s j)

theorem QK.refl (s : Streams) : QK s s := ⟨fun _ => .refl _⟩
theorem QK.trans {a b c : Streams} (h1 : QK a b) (h2 : QK b c) : QK a c := ⟨fun j => (h2.sub j).trans (h1.sub j)⟩
theorem QK.of_store {s s' : Streams} (h : s'.store = s.store) : QK s s' := ⟨fun j => by
  unfold ppq; rw [stream_of_store_eqP h]; exact .refl _⟩
theorem FK.toQK {s s' : Streams} (h : FK s s') : QK s s' := ⟨fun j => h.ppq_sub j⟩
theorem QK.noPPQ {s s' : Streams} (h : QK s s') (hn : NoPPQ s) : NoPPQ s' := fun k => by
  have := h.sub k; rw [hn k] at this; exact List.sublist_nil.mp this

theorem setCounts_qk (s : Streams) (c : Counts) : QK s { s with counts := c } := .of_store rfl
theorem unlinkRemove_qk (s : Streams) (id k : Nat) : QK s { s with store := (s.store.unlink id).remove k } :=
  (unlinkRemove_fk s id k).toQK

theorem insert_qk (s : Streams) (st : Stream) (h : ppIdsOf st.pendingSend = []) :
    QK s { s with store := (s.store.insert st).1 } := ⟨fun j => by
  unfold ppq
  rcases insert_get?_cases s.store st j with e | ⟨_, _, e⟩
  · have : ({ s with store := (s.store.insert st).1 } : Streams).stream j = s.stream j := by
      unfold Streams.stream; show ((s.store.insert st).1.get? j).getD _ = _; rw [e]
    rw [this]; exact .refl _
  · have : ({ s with store := (s.store.insert st).1 } : Streams).stream j = { st with key := s.store.nextKey } := stream_of_get? e
    rw [this]; show (ppIdsOf st.pendingSend).Sublist _; rw [h]; exact List.nil_sublist _⟩

theorem setStream_qk (s : Streams) (st' : Stream) (h : (ppIdsOf st'.pendingSend).Sublist (ppq s st'.key)) :
    QK s (s.setStream st') := ⟨fun j => by
  unfold ppq
  rcases setStream_stream s st' j with e | ⟨e, hj, _⟩
  · rw [e]; exact .refl _
  · rw [e, hj]; exact h⟩

theorem modStream_qk' (s : Streams) (k : Nat) (f : Stream → Stream) (hk : (f (s.stream k)).key = (s.stream k).key)
    (h : (ppIdsOf (f (s.stream k)).pendingSend).Sublist (ppIdsOf (s.stream k).pendingSend)) : QK s (s.modStream k f) := by
  unfold Streams.modStream
  split
  · next st hst =>
    rw [stream_of_get? hst] at hk h
    refine setStream_qk s _ ?_
    unfold ppq; rw [hk, get?_key hst, stream_of_get? hst]; exact h
  · exact (panic_fk _ _).toQK

theorem modStreamW_qk' (s : Streams) (k : Nat) (f : Stream → Stream × List String) (hk : (f (s.stream k)).1.key = (s.stream k).key)
    (h : (ppIdsOf (f (s.stream k)).1.pendingSend).Sublist (ppIdsOf (s.stream k).pendingSend)) : QK s (s.modStreamW k f) := by
  unfold Streams.modStreamW
  split
  · next st hst =>
    rw [stream_of_get? hst] at hk h
    refine (setStream_qk s _ ?_).trans (.of_store rfl)
    unfold ppq; rw [hk, get?_key hst, stream_of_get? hst]; exact h
  · exact (panic_fk _ _).toQK

theorem setQueued_pps (x : Stream) (q : QName) (v : Bool) : (ppIdsOf (x.setQueued q v).pendingSend).Sublist (ppIdsOf x.pendingSend) := by
  cases q <;> exact .refl _

theorem qPush_qk (s : Streams) (q : QName) (k : Nat) : QK s (s.qPush q k).1 := by
  unfold Streams.qPush; split
  · exact .refl _
  · exact (modStream_qk' _ _ _ (setQueued_key _ _ _) (setQueued_pps _ _ _)).trans (setQ_fk _ _ _).toQK
theorem qPushFront_qk (s : Streams) (q : QName) (k : Nat) : QK s (s.qPushFront q k).1 := by
  unfold Streams.qPushFront; split
  · exact .refl _
  · exact (modStream_qk' _ _ _ (setQueued_key _ _ _) (setQueued_pps _ _ _)).trans (setQ_fk _ _ _).toQK

theorem incNumSendStreams_qk (s : Streams) (k : Nat) : QK s (s.incNumSendStreams k) := ⟨fun j => by
  rw [(incNumSendStreams_raise s k).ppq_eq]; exact .refl _⟩
theorem incNumRecvStreams_qk (s : Streams) (k : Nat) : QK s (s.incNumRecvStreams k) := by
  unfold Streams.incNumRecvStreams
  dsimp only
  generalize hs1 : (if s.counts.canIncNumRecvStreams = true then s else s.panic _) = s1
  have h1 : QK s s1 := by rw [← hs1]; split; exact .refl _; exact (panic_fk _ _).toQK
  generalize hs2 : (if (s1.stream k).isCounted = true then s1.panic _ else s1) = s2
  have h2 : QK s1 s2 := by rw [← hs2]; split; exact (panic_fk _ _).toQK; exact .refl _
  exact ((h1.trans h2).trans (modCounts_fk _ _).toQK).trans (modStream_qk' _ k (fun st => { st with isCounted := true }) rfl (.refl _))

def QK.kinds : Kind → Bool
  | .frame .pushPromise => false
  | _ => true

theorem pps_of_upd {x y : Stream} (h : Stream.Upd QK.kinds x y) : (ppIdsOf y.pendingSend).Sublist (ppIdsOf x.pendingSend) := by
  cases h with
  | sendData n m _ _ => rw [Stream.sendData_fst]; split <;> exact .refl _
  | pushSend f h => exact (flg_append_nonpp x (by cases f <;> first | rfl | cases h)).pps
  | popSend f rest _ h => exact (popRest_flg h).pps
  | dropSend _ => exact (flg_drop x 1).pps
  | clearSend _ => exact List.nil_sublist _
  | keepOnlyHead _ => unfold ppIdsOf; exact (List.take_sublist 1 _).filterMap _
  | decContentLength n _ h => exact (decContentLength_flg h).pps
  | _ => exact .refl _

theorem QK.of_step {s s' : Streams} (h : Streams.Step QK.kinds s s') : QK s s' := by
  induction h with
  | refl s => exact .refl s
  | trans _ _ ih1 ih2 => exact ih1.trans ih2
  | panic s m => exact (panic_fk s m).toQK
  | unsup s m => exact (unsup_fk s m).toQK
  | notifyTask s _ => exact (notifyTask_fk s).toQK
  | wake | setTask | setConnError | setRefs | modPrio | modSend | modRecv | setCounts => exact .of_store rfl
  | qPush s q k _ => exact qPush_qk s q k
  | qPushFront s q k _ => exact qPushFront_qk s q k
  | qPop s q _ => exact (qPop_fk s q).toQK
  | incNumSendStreams s k _ => exact incNumSendStreams_qk s k
  | incNumRecvStreams s k _ => exact incNumRecvStreams_qk s k
  | decNumStreams s k => exact (decNumStreams_fk s k).toQK
  | modStream s k f h => exact modStream_qk' s k f h.key (pps_of_upd h)
  | modStreamW s k f h => exact modStreamW_qk' s k f h.key (Flg.of_updW h).pps
  | setStream s x h => exact setStream_qk s x (pps_of_upd h)
  | insert s id a b _ => exact insert_qk s _ rfl
  | insertWith s id a b cl _ => exact insert_qk s _ rfl
  | undoInsert s id k _ => exact unlinkRemove_qk s id k
  | unlink s id _ => exact (unlink_fk s id).toQK
  | remove s k n _ _ _ => exact (remove_fk s k n).toQK

syntax "qk_side" : tactic
macro_rules | `(tactic| qk_side) => `(tactic| fk_side)
macro_rules | `(tactic| qk_side) => `(tactic| exact Eq.refl _)

syntax "qk_step" : tactic
macro_rules | `(tactic| qk_step) => `(tactic| open H2V.Model.Conn.Streams in rel_head QK "_qk" via QK.of_step "_step" =>
  with_reducible refine QK.trans ?_ (setCounts_qk _ _))
macro_rules | `(tactic| qk_step) => `(tactic| with_reducible exact QK.refl _)
macro_rules | `(tactic| qk_step) => `(tactic| with_reducible assumption)

macro "qk_auto_ih" ih:ident : tactic =>
  `(tactic| repeat (first | qk_step | with_reducible refine QK.trans ?_ ($ih ..) | qk_side | intro _ | split | dsimp only))

theorem NoPPQ_blank {s : Streams} (h : Blank s) : NoPPQ s := fun k => by
  unfold ppq Streams.stream Store.get?; rw [h.slab]; rfl

/-- every operation except `send_push_promise` is `QK`: by its footprint (`f_step`, found by name) -/
theorem op_qk (s : Streams) (op : Op) (hne : ∀ p v f, op ≠ .refSendPushPromise p v f) : QK s (op.apply s) := by
  cases op
  case refSendPushPromise p v f => exact absurd rfl (hne p v f)
  case clearWakes => exact .of_store rfl
  all_goals (dsimp only [Op.apply]; qk_step <;> first | exact .refl _ | decide | exact fun _ => rfl)

/-- **`NoPPQ` is kept by every operation except `send_push_promise`** (no hypothesis on the state is needed) -/
theorem NoPPQ_step {s : Streams} (h : NoPPQ s) (op : Op) (hne : ∀ p v f, op ≠ .refSendPushPromise p v f) :
    NoPPQ (op.apply s) := (op_qk s op hne).noPPQ h

end H2V.Lemmas.ConnNoPanicP
