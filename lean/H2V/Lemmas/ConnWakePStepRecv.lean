import H2V.Lemmas.ConnWakePStepSend
import H2V.Lemmas.ConnHeadersRule
/-
  ConnWakeP — the functions of recv.rs that hand an event to the application: "push it onto `pending_recv`, then
  `notify_recv`" is a step only as a pair (`modStreamW_pushed_i`: the "event ⇒ wake" clause of `SStep`), so these are
  walked by hand, everything else they call coming from `Step.of_step`.
-/
namespace H2V.Lemmas.ConnWakeP
open H2V H2V.Model H2V.Model.Conn

section
variable {cx : Option String}

theorem modStream_modStreamW_step (cx : Option String) (s : Streams) (k : Nat) (g : Stream → Stream)
    (f : Stream → Stream × List String) (hgk : (g (s.stream k)).key = (s.stream k).key)
    (hf : SStep (f (g (s.stream k))).2 (s.stream k) (f (g (s.stream k))).1) :
    Step cx s ((s.modStream k g).modStreamW k f) := by
  cases ha : s.store.get? k with
  | none =>
    have hp : ∀ m, (s.panic m).store.get? k = none := by
      intro m; unfold Streams.panic; split <;> exact ha
    simp only [Streams.modStream, Streams.modStreamW, ha, hp]
    exact (panic_i _ _).trans (panic_i _ _)
  | some a =>
    rw [stream_eq_of_get? ha] at hgk hf
    have hk : (g a).key = k := by rw [hgk]; exact Store.get?_key ha
    have hget : (s.setStream (g a)).store.get? k = some (g a) := by rw [Streams.setStream_get?, if_pos hk.symm, ha]; rfl
    rw [Streams.modStream_of_some ha, Streams.modStreamW_of_some hget, Streams.setStream_setStream _ (hf.key.trans hgk.symm)]
    exact setStream_wake_i k _ _ (by rw [stream_eq_of_get? ha]; exact hf)

/-- everything `SStep` talks about untouched, except `pending_recv` -/
structure InertR (a b : Stream) : Prop where
  key : b.key = a.key
  id : b.id = a.id
  state : b.state = a.state
  sendTask : b.sendTask = a.sendTask
  openTask : b.openTask = a.openTask
  recvTask : b.recvTask = a.recvTask
  pushTask : b.pushTask = a.pushTask
  cap : b.sendCapacityInc = a.sendCapacityInc

theorem pushed_notifyRecv_sstep {a b : Stream} (h : InertR a b) : SStep b.notifyRecv.2 a b.notifyRecv.1 := by
  have tags : ∀ t, a.recvTask = some t → t ∈ b.recvTask.toList := fun t ht => by rw [h.recvTask]; simp [ht]
  rw [Stream.notifyRecv_fst, Stream.notifyRecv_snd]
  refine ⟨h.key, h.id, ?_, ?_, ?_, Or.inl h.sendTask, Or.inl h.openTask, .take tags, Or.inl h.pushTask, ?_, Or.inl h.cap,
    Or.inr ⟨rfl, tags⟩⟩
  · show _ → b.state.isClosed = true; rw [h.state]; exact id
  · show _ → lostEos b.state = true; rw [h.state]; exact id
  · show _ → b.state.isRecvEndStream = true ∨ _; rw [h.state]; exact Or.inl
  · show _ → b.sendCapacityInc = true; rw [h.cap]; exact id

/-- `stream.pending_recv.push_back(event); stream.notify_recv()` -/
theorem modStreamW_pushed_i (s : Streams) (k : Nat) (g : Stream → Stream) (hg : InertR (s.stream k) (g (s.stream k))) :
    Step cx s ((s.modStream k g).modStreamW k Stream.notifyRecv) :=
  modStream_modStreamW_step cx s k g _ hg.key (pushed_notifyRecv_sstep hg)

-- a `modStreamW` is looked up as `modStreamW_pushed_i` first: it applies when the `notify_recv` follows an update of the same entry
macro_rules | `(tactic| i_step) => `(tactic| rel_head Step "_pushed_i" => fail)
macro_rules | `(tactic| i_side) => `(tactic| (with_reducible (show InertR _ _); exact ⟨rfl, rfl, rfl, rfl, rfl, rfl, rfl, rfl⟩))

theorem recvRecvHeaders_i (s : Streams) (k : Nat) (hd : HeadersIn) : Step cx s (s.recvRecvHeaders k hd).1 := by
  have hst : ∀ st' ini, (s.stream k).state.recvOpen hd.eos hd.isInformational = (st', .ok ini) →
      Step cx s (s.recvHeadersSt k st') :=
    fun st' ini heq => .of_step (Streams.recvHeadersSt_step s k st' (.recvOpen _ _ (by decide) heq))
  exact Streams.RecvHeadersRule.run (I := Step cx s) (P := fun _ _ t => Step cx s t)
    { err := .refl _ _
      refuse := hst
      stc := fun st' ini heq _ => (hst st' ini heq).trans (.of_step (Streams.recvHeadersCount_step (by decide) _ k hd ini))
      out := fun _ _ _ h => h
      cl := fun _ _ t h => h.trans (.of_step (Streams.recvHeadersCl_step (by decide) t k hd))
      queue := fun _ _ t h => h.trans (by unfold Streams.recvHeadersQueue; i_auto) }

theorem recvRecvTrailers_i (s : Streams) (k : Nat) (hd : HeadersIn) : Step cx s (s.recvRecvTrailers k hd).1 := by
  unfold Streams.recvRecvTrailers; i_auto

theorem recvDataDeliver_i (s : Streams) (k : Nat) (p : Bytes) (eos : Bool) (flowLen sz : Nat) :
    Step cx s (s.recvDataDeliver k p eos flowLen sz).1 := by
  unfold Streams.recvDataDeliver; i_auto
theorem recvDataTail_i (s : Streams) (k : Nat) (p : Bytes) (eos : Bool) (sz flowLen : Nat) :
    Step cx s (s.recvDataTail k p eos sz flowLen).1 := by
  unfold Streams.recvDataTail; i_auto
theorem recvDataCore_i (s : Streams) (k : Nat) (p : Bytes) (eos : Bool) (flowLen : Nat) :
    Step cx s (s.recvDataCore k p eos flowLen).1 := by
  unfold Streams.recvDataCore; i_auto

theorem recvRecvData_i (s : Streams) (k : Nat) (p : Bytes) (eos : Bool) (pad : Option Nat) :
    Step cx s (s.recvRecvData k p eos pad).1 := by
  rw [Streams.recvRecvData_eq]; i_auto

theorem recvRecvPushPromise_i (s : Streams) (k : Nat) (hd : HeadersIn) : Step cx s (s.recvRecvPushPromise k hd).1 := by
  unfold Streams.recvRecvPushPromise; i_auto
end
end H2V.Lemmas.ConnWakeP
