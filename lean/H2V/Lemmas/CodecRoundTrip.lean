import H2V.Lemmas.CodecDecode
/-
  Codec lemmas (corollary of A + B): h2's reader reads back what h2's writer wrote — for the
  frames `encodeSimple` emits, `decode_frame` on the serialisation delivers the same frame value.
-/
namespace H2V.Lemmas.Codec
open H2V H2V.Model.Frame H2V.Model.CodecRead

theorem find?_reverse_of_pairwise (L : List (Nat × Nat)) (id : Nat)
    (hp : L.Pairwise (fun a b => a.1 ≠ b.1)) :
    L.reverse.find? (·.1 = id) = L.find? (·.1 = id) := by
  induction L with
  | nil => rfl
  | cons x xs ih =>
    rw [List.reverse_cons, List.find?_append]
    obtain ⟨hx, hxs⟩ := List.pairwise_cons.1 hp
    by_cases hid : x.1 = id
    · have : xs.reverse.find? (·.1 = id) = none := by
        rw [List.find?_eq_none]
        intro y hy
        have := hx y (List.mem_reverse.1 hy)
        simp only [decide_eq_true_eq]
        omega
      rw [this]
      simp [hid]
    · rw [ih hxs]
      simp [hid]

theorem settingsOrder_pairwise (vals : List (Nat × Nat)) :
    (settingsOrder vals).Pairwise (fun a b => a.1 ≠ b.1) := by
  unfold settingsOrder
  apply List.Pairwise.filterMap (R := fun a b : Nat => a ≠ b)
  · intro a a' hne b hb b' hb'
    have h1 := List.find?_some hb
    have h2 := List.find?_some hb'
    simp only [decide_eq_true_eq] at h1 h2
    omega
  · decide

theorem find?_filterMap_key (K : List Nat) (g : Nat → Option (Nat × Nat))
    (hg : ∀ i x, g i = some x → x.1 = i) (hK : K.Pairwise (· ≠ ·)) (id : Nat) (hid : id ∈ K) :
    (K.filterMap g).find? (·.1 = id) = g id := by
  induction K with
  | nil => cases hid
  | cons k ks ih =>
    obtain ⟨hk, hks⟩ := List.pairwise_cons.1 hK
    rw [List.filterMap_cons]
    by_cases hidk : id = k
    · subst hidk
      have hnone : (ks.filterMap g).find? (·.1 = id) = none := by
        rw [List.find?_eq_none]
        intro y hy
        obtain ⟨i, hi, hgi⟩ := List.mem_filterMap.1 hy
        have := hg i y hgi
        have := hk i hi
        simp only [decide_eq_true_eq]
        omega
      cases hgk : g id with
      | none => simpa using hnone
      | some x => simp [hg id x hgk]
    · have hmem : id ∈ ks := by
        rcases List.mem_cons.1 hid with h | h
        · exact absurd h hidk
        · exact h
      cases hgk : g k with
      | none => simpa using ih hks hmem
      | some x =>
        have := hg k x hgk
        simp only
        rw [List.find?_cons]
        have : decide (x.1 = id) = false := by simp; omega
        rw [this]
        exact ih hks hmem

theorem lastWins_settingsOrder (vals : List (Nat × Nat)) : lastWins (settingsOrder vals) = settingsOrder vals := by
  unfold lastWins
  conv => rhs; unfold settingsOrder
  apply filterMap_congr'
  intro id hid
  rw [find?_reverse_of_pairwise _ _ (settingsOrder_pairwise vals)]
  unfold settingsOrder
  apply find?_filterMap_key _ _ _ (by decide) id hid
  intro i x hx
  simpa using List.find?_some hx

theorem toSpec_inj {f g : Model.Frame.Frame} {f' : Spec.Frame.Frame} (hf : toSpec f = some f')
    (hg : toSpec g = some f') : f = g := by
  cases f <;> cases hf <;> cases g <;> cases hg <;> rfl

theorem ofParts_of_parse {h : Head} {p : Bytes} {x : Except Spec.Frame.Violation Spec.Frame.Frame}
    (hs : h.sid < 2 ^ 31) (hp : p.length < 2 ^ 24)
    (hx : Spec.Frame.parse (h.encode p.length ++ p) = some x) : Spec.Frame.ofParts h.kind h.flag h.sid p = x := by
  rw [parse_head_encode h p hs hp] at hx
  exact Option.some.inj hx

/-- what the round trips of the fixed-format frames share: on a serialised frame `decode_frame` runs the loader `ld`
    of its type on exactly the head and payload written; the reference parser accepts the octets as `f'` (goal A); the
    loader agrees with the reference parser (goal B); so the loader answers the model frame that stands for `f'` -/
theorem roundtrip_of_agree {r : Reader} {h : Head} {p : Bytes} {n : Nat} {ld : Head → Bytes → Except FErr Frame}
    {f : Model.Frame.Frame} {f' : Spec.Frame.Frame} (hn : p.length = n) (hs : h.sid < 2 ^ 31) (hp : p.length < 2 ^ 24)
    (harm : decodeFrame r (h.encode n ++ p) =
      simpleDF r (ld (Head.parse (h.encode n ++ p)) ((h.encode n ++ p).drop 9)))
    (ha : Agree (ld h p) (Spec.Frame.ofParts h.kind h.flag h.sid p))
    (hparse : Spec.Frame.parse (h.encode n ++ p) = some (.ok f')) (hf : toSpec f = some f') :
    decodeFrame r (h.encode n ++ p) = (r, .frame f) := by
  subst hn
  obtain ⟨g, hg, hgf⟩ := ha.complete (ofParts_of_parse hs hp hparse) id
  rw [harm, Head.parse_encode h _ hs p]
  show simpleDF r (ld h p) = _
  rw [hg, toSpec_inj hgf hf]
  rfl

theorem roundtrip_data (r : Reader) (hpb : r.partialBlk = none) (sid : Nat) (payload : Bytes) (eos : Bool)
    (hs0 : sid ≠ 0) (hs : sid < 2 ^ 31) (hp : payload.length < 2 ^ 24) :
    decodeFrame r ((Head.mk 0 (if eos then 1 else 0) sid).encode payload.length ++ payload) =
      (r, .frame (.data sid payload eos none)) := by
  obtain ⟨_, ⟨⟩, hparse⟩ := parse_encode_data sid payload eos none hs0 hs hp
  exact roundtrip_of_agree rfl hs hp (decodeFrame_data hpb rfl) (loadData_agree _ _) hparse rfl

theorem roundtrip_ping (r : Reader) (hpb : r.partialBlk = none) (ack : Bool) (p : Bytes) (hp : p.length = 8) :
    decodeFrame r ((Head.mk 6 (if ack then 1 else 0) 0).encode 8 ++ p) = (r, .frame (.ping ack p)) := by
  obtain ⟨_, ⟨⟩, hparse⟩ := parse_encode_ping ack p hp
  exact roundtrip_of_agree hp (by simp) (by omega) (decodeFrame_ping hpb rfl) (loadPing_agree _ _) hparse rfl

theorem roundtrip_goaway (r : Reader) (hpb : r.partialBlk = none) (last code : Nat) (dbg : Bytes)
    (hl : last < 2 ^ 31) (hc : code < 2 ^ 32) (hd : 8 + dbg.length < 2 ^ 24) :
    ∃ bytes, encodeSimple (.goAway last code dbg) = some bytes ∧
      decodeFrame r bytes = (r, .frame (.goAway last code dbg)) := by
  obtain ⟨_, ⟨⟩, hparse⟩ := parse_encode_goaway last code dbg hl hc hd
  refine ⟨_, rfl, ?_⟩
  have hlen : (be32 last ++ be32 code ++ dbg).length = 8 + dbg.length := by simp; omega
  simp only [List.append_assoc] at hparse hlen ⊢
  exact roundtrip_of_agree (ld := fun _ p => loadGoAway p) hlen (by simp) (by omega)
    ((decodeFrame_goAway hpb rfl).trans
      (if_neg (Decidable.not_not.2 (congrArg Head.sid (Head.parse_encode ⟨7, 0, 0⟩ _ (by simp) _)))))
    (loadGoAway_agree ⟨7, 0, 0⟩ _ rfl) hparse rfl

theorem roundtrip_window_update (r : Reader) (hpb : r.partialBlk = none) (sid inc : Nat)
    (hs : sid < 2 ^ 31) (hi0 : inc ≠ 0) (hi : inc < 2 ^ 31) :
    decodeFrame r ((Head.mk 8 0 sid).encode 4 ++ be32 inc) = (r, .frame (.windowUpdate sid inc)) := by
  obtain ⟨_, ⟨⟩, hparse⟩ := parse_encode_window_update sid inc hs hi0 hi
  exact roundtrip_of_agree rfl hs (by simp) (decodeFrame_windowUpdate hpb rfl) (loadWindowUpdate_agree _ _) hparse rfl

theorem roundtrip_reset (r : Reader) (hpb : r.partialBlk = none) (sid code : Nat)
    (hs0 : sid ≠ 0) (hs : sid < 2 ^ 31) (hc : code < 2 ^ 32) :
    decodeFrame r ((Head.mk 3 0 sid).encode 4 ++ be32 code) = (r, .frame (.reset sid code)) := by
  obtain ⟨_, ⟨⟩, hparse⟩ := parse_encode_reset sid code hs0 hs hc
  exact roundtrip_of_agree rfl hs (by simp) (decodeFrame_reset hpb rfl) (loadReset_agree ⟨3, 0, sid⟩ _ hs0) hparse rfl

theorem roundtrip_settings (r : Reader) (hpb : r.partialBlk = none) (vals : List (Nat × Nat))
    (hv : ∀ p ∈ vals, SettingOK p) :
    decodeFrame r ((Head.mk 4 0 0).encode (settingsPayload vals).length ++ settingsPayload vals) =
      (r, .frame (.settings false (settingsOrder vals))) := by
  obtain ⟨_, ⟨⟩, hparse⟩ := parse_encode_settings vals hv
  have hlen := settingsPayload_length vals
  have hle := settingsOrder_length_le vals
  have hl := loadSettings_complete ⟨4, 0, 0⟩ _ _ _ (ofParts_of_parse (h := ⟨4, 0, 0⟩) (by simp) (by omega) hparse)
  rw [lastWins_settingsOrder] at hl
  rw [decodeFrame_settings hpb rfl, Head.parse_encode _ _ (by simp)]
  show simpleDF r (loadSettings ⟨4, 0, 0⟩ (settingsPayload vals)) = _
  rw [hl]
  rfl

theorem roundtrip_settings_ack (r : Reader) (hpb : r.partialBlk = none) :
    ∃ bytes, encodeSimple (.settings true []) = some bytes ∧
      decodeFrame r bytes = (r, .frame (.settings true [])) := by
  exact ⟨_, rfl, decodeFrame_settings hpb rfl⟩

end H2V.Lemmas.Codec
