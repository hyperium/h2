import H2V.Lemmas.ConnNoPanicPPushInvOK
import H2V.Lemmas.ConnPushRule
/-
  C08 (no panic) — PUSH_PROMISE bookkeeping, stage 2: `Inner::recv_push_promise` on a push-enabled client.
  `IBR`: every peer-initiated slab entry has an id below `recv.next_stream_id` (receive-side analogue of `IBS`); with
  `IdsOK` it discharges `assert!(self.ids.insert(id, index).is_none())` for the promised id, which `Recv::open` has just
  checked to be `≥ next_stream_id`.  The promised stream is inserted (`NPI.insert_remote`), `Recv::recv_push_promise`
  runs under `counts.transition` (a light closure); on success the stream is `ReservedRemote`, hence not released, and it
  is linked into the parent's `pending_push_promises` (`PPPOK` is kept: the key is fresh).
-/
namespace H2V.Lemmas.ConnNoPanicP
open H2V H2V.Model H2V.Model.Conn H2V.Lemmas.ConnCountsP
attribute [local irreducible] wrapSubU32 wrapSubUsize

def IBR (s : Streams) : Prop :=
  ∀ x ∈ s.store.slab, s.counts.isLocalInit x.id = false → ∀ n, s.recv.nextStreamId = some n → x.id < n

theorem IBR_blank {s : Streams} (h : Blank s) : IBR s := by
  intro x hx; rw [h.slab] at hx; cases hx

/-- an id at or above `recv.next_stream_id` that the peer would initiate is not in the id map -/
theorem IBR.hfree {s : Streams} (hn : NPI (fun _ => False) s) (hi : IBR s) {id n : Nat}
    (hloc : s.counts.isLocalInit id = false) (hnx : s.recv.nextStreamId = some n) (hge : n ≤ id) :
    s.store.contains id = false := by
  cases hc : s.store.contains id with
  | false => rfl
  | true =>
    exfalso
    unfold Store.contains at hc
    obtain ⟨k, hk⟩ := Option.isSome_iff_exists.mp hc
    obtain ⟨⟨x, hx⟩, hxid⟩ := hn.ids.findKey hk
    rw [stream_of_get? hx] at hxid
    have := hi x (get?_mem hx) (by rw [hxid]; exact hloc) n hnx
    omega

/-- `Recv::open(id, PushPromise)` answered `Ok(Some)`: a client, an even id at or above `next_stream_id`; only
    `next_stream_id` moved -/
theorem recvOpen_pp_true {s s1 : Streams} {id : Nat} (href : s.recv.refused = none) (h : s.recvOpen id true = (s1, .ok true)) :
    s.counts.isLocalInit id = false ∧ (∃ n, s.recv.nextStreamId = some n ∧ n ≤ id) ∧ s1.store = s.store ∧
    s1.counts = s.counts ∧ s1.recv.nextStreamId = (if id + 2 > 2147483647 then none else some (id + 2)) := by
  unfold Streams.recvOpen at h
  simp only [href, Option.isSome_none, Bool.false_eq_true, if_false] at h
  cases hsv : s.counts.isServer with
  | true => simp [hsv] at h
  | false =>
    simp only [hsv, Bool.false_eq_true, if_false, Bool.not_true, Bool.false_or, Bool.not_not] at h
    cases hpar : (id % 2 == 0) with
    | false => simp [hpar] at h
    | true =>
      simp only [hpar, Bool.not_true, Bool.false_eq_true, if_false] at h
      cases hnx : s.recv.nextStreamId with
      | none => simp [hnx] at h
      | some n =>
        simp only [hnx] at h
        by_cases hlt : id < n
        · simp [hlt] at h
        · simp only [hlt, if_false] at h
          generalize hs2 : (s.modRecv fun r => { r with nextStreamId := if id + 2 > 2147483647 then none else some (id + 2) }) = s2 at h
          split at h
          · cases h
          · simp only [Prod.mk.injEq, and_true] at h
            subst h
            subst hs2
            refine ⟨?_, ⟨n, rfl, by omega⟩, rfl, rfl, rfl⟩
            unfold Counts.isLocalInit; rw [hsv, hpar]; rfl

theorem notifyRecv_sp (x : Stream) : x.notifyRecv.1.state = x.state ∧ x.notifyRecv.1.pendingRecv = x.pendingRecv ∧
    x.notifyRecv.1.refCount = x.refCount ∧ x.notifyRecv.1.isPendingAccept = x.isPendingAccept := by
  unfold Stream.notifyRecv; split <;> exact ⟨rfl, rfl, rfl, rfl⟩
theorem notifyPush_sp (x : Stream) : x.notifyPush.1.state = x.state ∧ x.notifyPush.1.pendingRecv = x.pendingRecv ∧
    x.notifyPush.1.refCount = x.refCount ∧ x.notifyPush.1.isPendingAccept = x.isPendingAccept := by
  unfold Stream.notifyPush; split <;> exact ⟨rfl, rfl, rfl, rfl⟩

/-- `Recv::recv_push_promise` answered `Ok`: the promised stream is `ReservedRemote` and the promised request has been
    appended to its receive queue -/
theorem recvRecvPushPromise_ok {s s' : Streams} {k : Nat} {h : HeadersIn} (hl : Live s k)
    (he : s.recvRecvPushPromise k h = (s', .ok)) :
    (s'.stream k).state.inner = .reservedRemote ∧ (s'.stream k).refCount = (s.stream k).refCount ∧
    (s'.stream k).isPendingAccept = (s.stream k).isPendingAccept ∧
    ∃ m u, (s'.stream k).pendingRecv = (s.stream k).pendingRecv ++ [.request m u h.fields] := by
  unfold Streams.recvRecvPushPromise at he
  split at he
  · cases he
  · next st' _ hrr =>
    have hst' : st'.inner = .reservedRemote := by
      unfold State.reserveRemote at hrr
      split at hrr
      · cases hrr; rfl
      · cases hrr
    dsimp only at he
    generalize hs1 : (s.modStream k fun st => { st with state := st' }) = s1 at he
    have hl1 : Live s1 k := by rw [← hs1]; exact (SameKeys.modStream _ _ _).live.mpr hl
    have e1 : s1.stream k = { s.stream k with state := st' } := by
      rw [← hs1]; exact stream_modStream_live hl (fun st => { st with state := st' }) (fun _ => rfl)
    split at he
    · cases he
    · split at he
      · cases he
      · cases he
      · next m u _ =>
        have key : s' = ((s1.modStream k fun st => { st with pendingRecv := st.pendingRecv ++ [.request m u h.fields] }).modStreamW k
            Stream.notifyRecv).modStreamW k Stream.notifyPush := by
          repeat' split at he
          all_goals first | (cases he; done) | (cases he; rfl)
        generalize hs2 : (s1.modStream k fun st => { st with pendingRecv := st.pendingRecv ++ [.request m u h.fields] }) = s2 at key
        have hl2 : Live s2 k := by rw [← hs2]; exact (SameKeys.modStream _ _ _).live.mpr hl1
        have e2 : s2.stream k = { s1.stream k with pendingRecv := (s1.stream k).pendingRecv ++ [.request m u h.fields] } := by
          rw [← hs2]
          exact stream_modStream_live hl1 (fun st => { st with pendingRecv := st.pendingRecv ++ [.request m u h.fields] }) (fun _ => rfl)
        have hl3 : Live (s2.modStreamW k Stream.notifyRecv) k :=
          (modStreamW_lt s2 k _ (fun x => notifyRecv_inert x)).keys.live.mpr hl2
        have e3 := stream_modStreamW_live hl2 Stream.notifyRecv (fun x => (notifyRecv_inert x).key)
        have e4 := stream_modStreamW_live hl3 Stream.notifyPush (fun x => (notifyPush_inert x).key)
        rw [key, e4]
        have p4 := notifyPush_sp ((s2.modStreamW k Stream.notifyRecv).stream k)
        rw [p4.1, p4.2.1, p4.2.2.1, p4.2.2.2, e3]
        have p3 := notifyRecv_sp (s2.stream k)
        rw [p3.1, p3.2.1, p3.2.2.1, p3.2.2.2, e2, e1]
        exact ⟨hst', rfl, rfl, m, u, rfl⟩

theorem modStream_ppp_frame (s : Streams) (k : Nat) (f : Stream → Stream) (hk : ∀ x, (f x).key = x.key)
    (h : ∀ x, (f x).pendingPushPromises = x.pendingPushPromises) (j : Nat) :
    ((s.modStream k f).stream j).pendingPushPromises = (s.stream j).pendingPushPromises :=
  SPr.modStream (P := (·.pendingPushPromises)) s k f hk h j

/-- `ppp.push(child)`: a fresh key is flagged and appended to the parent's list -/
theorem pppok_link {s : Streams} (hj : PPPOK s) {child pk : Nat} (hc : Live s child) (hp : Live s pk) (hne : pk ≠ child)
    (hfresh : ∀ j, child ∉ (s.stream j).pendingPushPromises) (hq : child ∉ s.recv.pendingAccept) :
    PPPOK ((s.modStream child fun st => { st with isPendingAccept := true }).modStream pk
      fun st => { st with pendingPushPromises := st.pendingPushPromises ++ [child] }) := by
  have hl1 : ∀ j, ((s.modStream child fun st => { st with isPendingAccept := true }).stream j).pendingPushPromises =
      (s.stream j).pendingPushPromises := modStream_ppp_frame s child _ (fun _ => rfl) (fun _ => rfl)
  have hc1 : Held (s.modStream child fun st => { st with isPendingAccept := true }) child := by
    obtain ⟨y, hy⟩ := (SameKeys.modStream s child fun st => { st with isPendingAccept := true }).live.mpr hc
    refine ⟨⟨y, hy, ?_⟩, by rw [ConnResetP.modStream_recv]; exact hq⟩
    rw [← stream_of_get? hy, stream_modStream_live hc (fun st => { st with isPendingAccept := true }) (fun _ => rfl)]; rfl
  have hh1 : ∀ c, c ≠ child → Held s c → Held (s.modStream child fun st => { st with isPendingAccept := true }) c :=
    fun c hne' h => held_modStream_ne h hne' _ (fun _ => rfl)
  have hp1 : Live (s.modStream child fun st => { st with isPendingAccept := true }) pk := (SameKeys.modStream _ _ _).live.mpr hp
  generalize (s.modStream child fun st => { st with isPendingAccept := true }) = s1 at hl1 hc1 hh1 hp1 ⊢
  have hr2 := setPPP_hr s1 pk fun st => st.pendingPushPromises ++ [child]
  have hself : ((s1.modStream pk fun st => { st with pendingPushPromises := st.pendingPushPromises ++ [child] }).stream pk).pendingPushPromises =
      (s.stream pk).pendingPushPromises ++ [child] := by
    rw [stream_modStream_live hp1 (fun st => { st with pendingPushPromises := st.pendingPushPromises ++ [child] }) (fun _ => rfl)]
    show (s1.stream pk).pendingPushPromises ++ [child] = _
    rw [hl1]
  have hoth : ∀ j, j ≠ pk → ((s1.modStream pk fun st => { st with pendingPushPromises := st.pendingPushPromises ++ [child] }).stream j).pendingPushPromises =
      (s.stream j).pendingPushPromises := by
    intro j hjp
    rw [Streams.stream_modStream_ne s1 pk (f := fun st => { st with pendingPushPromises := st.pendingPushPromises ++ [child] }) (fun _ => rfl) hjp, hl1]
  generalize (s1.modStream pk fun st => { st with pendingPushPromises := st.pendingPushPromises ++ [child] }) = s2 at hr2 hself hoth ⊢
  have hmem : ∀ j c, c ∈ (s2.stream j).pendingPushPromises → c ∈ (s.stream j).pendingPushPromises ∨ (j = pk ∧ c = child) := by
    intro j c hm
    by_cases hjp : j = pk
    · subst hjp
      rw [hself] at hm
      rcases List.mem_append.mp hm with h | h
      · exact .inl h
      · exact .inr ⟨rfl, List.mem_singleton.mp h⟩
    · rw [hoth j hjp] at hm; exact .inl hm
  refine ⟨fun j => ?_, fun j j' c h1 h2 => ?_, fun j c hm => ?_⟩
  · by_cases hjp : j = pk
    · subst hjp
      rw [hself]
      refine List.nodup_append.mpr ⟨hj.nodup j, (List.nodup_cons.mpr ⟨List.not_mem_nil, List.nodup_nil⟩), ?_⟩
      intro a ha b hb
      rw [List.mem_singleton.mp hb]
      intro e; subst e; exact hfresh j ha
    · rw [hoth j hjp]; exact hj.nodup j
  · rcases hmem j c h1 with a | ⟨a1, a2⟩ <;> rcases hmem j' c h2 with b | ⟨b1, b2⟩
    · exact hj.disj j j' c a b
    · subst b2; exact absurd a (hfresh j)
    · subst a2; exact absurd b (hfresh j')
    · rw [a1, b1]
  · rcases hmem j c hm with a | ⟨_, a2⟩
    · have hcne : c ≠ child := fun e => hfresh j (e ▸ a)
      exact hr2.held c (hh1 c hcne (hj.held j c a))
    · subst a2; exact hr2.held c hc1

theorem pushPromiseBody_le (child : Nat) (h : HeadersIn) (s : Streams) : LE [child] s (s.pushPromiseBody child h).1 := by
  unfold Streams.pushPromiseBody
  generalize hr : s.recvRecvPushPromise child h = p
  obtain ⟨s1, res⟩ := p
  have h1 : LE [child] s s1 := of_fst_eq hr (LE.of (recvRecvPushPromise_lt s child h) (EvB.of_step (Streams.recvRecvPushPromise_step (by decide) _ _ _)))
  cases res with
  | ok => exact h1
  | unsupported => exact h1.step0 (unsup_lt _ _) (unsup_ev _ _)
  | err e =>
    simp only []
    have h2 : LE [child] s (s1.resetOnRecvStreamErr child (.error e)).1 :=
      h1.trans ⟨resetOnRecvStreamErr_ltw _ _ _, resetOnRecvStreamErr_ev _ _ _⟩ (fun _ h => h)
    generalize s1.resetOnRecvStreamErr child (.error e) = q at h2 ⊢
    obtain ⟨s2, r2⟩ := q
    cases r2 <;> exact h2
theorem pushPromiseBody_true {child : Nat} {h : HeadersIn} {s s' : Streams} (he : s.pushPromiseBody child h = (s', .ok true)) :
    s.recvRecvPushPromise child h = (s', .ok) := by
  unfold Streams.pushPromiseBody at he
  generalize s.recvRecvPushPromise child h = p at he ⊢
  obtain ⟨s1, res⟩ := p
  cases res with
  | ok => simp only [Prod.mk.injEq, and_true] at he; rw [he]
  | unsupported => cases he
  | err e =>
    simp only [] at he
    generalize s1.resetOnRecvStreamErr child (.error e) = q at he
    obtain ⟨s2, r2⟩ := q
    cases r2 <;> cases he

theorem transitionAfter_live_open {s : Streams} {k : Nat} (hl : Live s k) (hc : (s.stream k).isClosed = false) (b : Bool) :
    Live (s.transitionAfter k b) k := by
  obtain ⟨m, hfr, _, hfin⟩ := transitionAfter_shapeP (·.pendingPushPromises) (fun _ _ => rfl) s k b
  rcases hfin with e | ⟨hcl, _, _⟩
  · unfold Live; rw [e]; exact hfr.fr.keys.live.mpr hl
  · rw [hc] at hcl; cases hcl
theorem transitionAfter_live_ne {s : Streams} {j k : Nat} (hl : Live s j) (hne : j ≠ k) (b : Bool) : Live (s.transitionAfter k b) j := by
  obtain ⟨x, hx⟩ := hl
  obtain ⟨x', h1, _⟩ := transitionAfter_keeps s k j b x hx (.inl hne)
  exact ⟨x', h1⟩

/-- what the invariants need of the state `recv_push_promise` starts from, besides `NPI`/`PPPOK`/`IBR`:
    no refusal pending (as for `recv_headers`) and the keys queued for `accept` resolve (`AccOK`; on a client the queue
    is empty).  `ErrOK` comes from the state the call leaves, so the invariant of the rule is conditional on it. -/
theorem recvPushPromise_npi {s : Streams} (hn : NPI (fun _ => False) s) (hj : PPPOK s) (hi : IBR s)
    (hacc : ∀ k ∈ s.recv.pendingAccept, Live s k) (id : Nat) (h : HeadersIn) (href : s.recv.refused = none)
    (he' : ErrOK (s.recvPushPromise id h).1) :
    NPI (fun _ => False) (s.recvPushPromise id h).1 ∧ PPPOK (s.recvPushPromise id h).1 :=
  have hopen : NPI (fun _ => False) (s.recvOpen h.sid true).1 ∧ PPPOK (s.recvOpen h.sid true).1 :=
    ⟨hn.lt (recvOpen_lt s h.sid true href).w (liveAll0 s) (recvOpen_ev (ρ := true) s h.sid true) (fun _ _ h => h),
     hj.pf (recvOpen_pf (ks := []) s h.sid true)⟩
  PromiseRule.run (I := fun t => ErrOK t → NPI (fun _ => False) t ∧ PPPOK t)
    (L := fun pk child t => Live t child ∧ pk ≠ child ∧ Live t pk ∧ (∀ j, child ∉ (t.stream j).pendingPushPromises) ∧
      child ∉ t.recv.pendingAccept)
    (L' := fun pk child t => Live t child ∧ pk ≠ child ∧ Live t pk ∧ (∀ j, child ∉ (t.stream j).pendingPushPromises) ∧
      child ∉ t.recv.pendingAccept)
    { pre := fun _ => ⟨hn, hj⟩
      opn := fun _ => hopen
      ins := fun pk s1 sP hfk hro hP => by
        have hpk : Live s pk := (hn.ids.findKey hfk).1
        have hlt1 : LT [] s s1 := of_fst_eq hro (recvOpen_lt s h.sid true href)
        obtain ⟨h1, j1⟩ : NPI (fun _ => False) s1 ∧ PPPOK s1 := by have := hopen; rw [hro] at this; exact this
        obtain ⟨hloc, ⟨n, hnx, hge⟩, hst1, hc1, _⟩ := recvOpen_pp_true href hro
        have hnc : s1.store.contains h.sid = false := by rw [hst1]; exact hi.hfree hn hloc hnx hge
        simp only [hnc, Bool.false_eq_true, if_false] at hP
        have hP := hP.symm
        subst hP
        rw [Streams.insertNew_fst, Streams.insertNew_snd]
        have hrem : s1.counts.isLocalInit (Stream.new h.sid s1.actions.send.initWindowSz s1.recv.initWindowSz).id = false := by
          rw [hc1]; exact hloc
        obtain ⟨h2, hl2⟩ := h1.insert_remote _ (fresh_new _ _ _) (new_av _ _ _) hrem
        have hpf := insert_pf (ks := []) s1 (Stream.new h.sid s1.actions.send.initWindowSz s1.recv.initWindowSz) (new_acc' _ _ _) (new_ppp _ _ _)
        have hpk1 : Live s1 pk := hlt1.keys.live.mpr hpk
        refine ⟨fun _ => ⟨h2, j1.pf hpf⟩, hl2, ?_, ?_, fun j hm => ?_, fun hm => ?_⟩
        · intro e; obtain ⟨x, hx⟩ := hpk1; rw [e] at hx; exact absurd hx (by rw [get?_nextKey_none h1.keys.fresh]; exact fun e => nomatch e)
        · obtain ⟨x, hx⟩ := hpk1; exact ⟨x, insert_get?_old _ _ _ _ hx⟩
        · have hm1 : s1.store.nextKey ∈ (s1.stream j).pendingPushPromises := by
            rcases hpf.pw j with e | e
            · rw [e] at hm; exact hm
            · rw [e] at hm; cases hm
          exact not_held_nextKey h1.keys (j1.held j _ hm1)
        · have hq : s1.recv.pendingAccept = s.recv.pendingAccept :=
            (of_fst_eq hro (QF.of_step (q := .pendingAccept) (Streams.recvOpen_step (by decide) s h.sid true))).queue
          have hm : s1.store.nextKey ∈ s.recv.pendingAccept := hq ▸ hm
          obtain ⟨x, hx⟩ := hlt1.keys.live.mpr (hacc _ hm)
          rw [get?_nextKey_none h1.keys.fresh] at hx; cases hx
      body := fun pk child s2 hI ⟨hl2, hne, hpk2, hfresh2, hq2⟩ => by
        rw [Streams.transition_eq]
        have hle := pushPromiseBody_le child h s2
        have hpf : PF [] s2 ((s2.pushPromiseBody child h).1.transitionAfter child (s2.stream child).isPendingResetExpiration) :=
          (PF.of_step (Streams.pushPromiseBody_step (by decide) s2 child h)).trans (transitionAfter_pf _ _ _)
        have hqf : QF .pendingAccept s2 ((s2.pushPromiseBody child h).1.transitionAfter child (s2.stream child).isPendingResetExpiration) :=
          (QF.of_step (Streams.pushPromiseBody_step (by decide) s2 child h)).trans (QF.transitionAfter _ _ _ _)
        generalize hpc : s2.pushPromiseBody child h = q at hle hpf hqf ⊢
        obtain ⟨s3, r3⟩ := q
        dsimp only at hle hpf hqf ⊢
        refine ⟨fun hE4 => ?_, fun hr3 => ?_⟩
        · have hE3 : ErrOK s3 := (transitionAfter_errSame _ _ _).errOK_back hE4
          obtain ⟨h2, j2⟩ := hI (ErrOK.back hle.ev hE3)
          exact ⟨transitionAfter_npi (h2.le hle (liveAll1 hl2) (fun _ h => h)) hE3 child _ (fun hb => hle.ev.mono.resetAt child hb),
            j2.pf hpf⟩
        · -- the promised stream is reserved: it is still there, and so is the parent
          cases hr3
          have hok := recvRecvPushPromise_ok hl2 (pushPromiseBody_true hpc)
          have hopen : (s3.stream child).isClosed = false := by
            unfold Stream.isClosed State.isClosed; rw [hok.1]; rfl
          refine ⟨?_, hne, transitionAfter_live_ne (hle.lt.keys.live.mpr hpk2) hne _, fun j hm => ?_, ?_⟩
          · exact transitionAfter_live_open (hle.lt.keys.live.mpr hl2) hopen _
          · rcases hpf.pw j with e | e
            · rw [e] at hm; exact hfresh2 j hm
            · rw [e] at hm; cases hm
          · have : (s3.transitionAfter child (s2.stream child).isPendingResetExpiration).recv.pendingAccept = s2.recv.pendingAccept := hqf.queue
            rw [this]; exact hq2
      link := fun pk child s4 hI ⟨hl4, hne, hp4, hfresh4, hq4⟩ heF => by
        have e1 : ∀ (t : Streams) (k : Nat) (f : Stream → Stream), ErrSame t (t.modStream k f) := fun t k f => by
          unfold ErrSame; rw [Streams.modStream_counts]; exact ⟨rfl, rfl⟩
        have e2 : ∀ (t : Streams) (k : Nat), ErrSame t (t.modStreamW k Stream.notifyPush) := fun t k =>
          (modStreamW_lt t k _ (fun x => notifyPush_inert x)).err
        have hfin : ∀ t : Streams, NPI (fun _ => False) t → PPPOK t → Live t pk →
            NPI (fun _ => False) (t.modStreamW pk Stream.notifyPush) ∧ PPPOK (t.modStreamW pk Stream.notifyPush) := by
          intro t ht jt hlt
          exact ⟨ht.lt (modStreamW_lt t pk _ (fun x => notifyPush_inert x)).w (liveAll1 hlt)
              (modStreamW_ev (ρ := false) t pk _ (fun _ _ => Same.of_updW .notifyPush)) noE,
            jt.pf (modStreamW_pf (ks := []) t pk _ (.inl fun x => .of_pj (pj_notifyPush x)))⟩
        unfold Streams.pushPromiseLink at heF ⊢
        dsimp only at heF ⊢
        split at heF
        · obtain ⟨h4, j4⟩ := hI ((e2 _ _).errOK_back heF)
          rw [if_pos ‹_›]; exact hfin s4 h4 j4 hp4
        · obtain ⟨h4, j4⟩ := hI ((((e1 _ _ _).trans (e1 _ _ _)).trans (e2 _ _)).errOK_back heF)
          rw [if_neg ‹_›]
          have hA : NPI (fun _ => False) (s4.modStream child fun st => { st with isPendingAccept := true }) :=
            h4.parts (SameKeys.modStream _ _ _) (Streams.modStream_ids _ _ _) (SPr.modStream _ _ _ (fun _ => rfl) (fun _ => rfl))
              (npq_modStream_flagfree h4.npq hl4 _ (fun _ => rfl) (fun _ => rfl) (fun _ => rfl)) (ρ := false) (.acceptFlag child true) noE
          have hpA : Live (s4.modStream child fun st => { st with isPendingAccept := true }) pk := (SameKeys.modStream _ _ _).live.mpr hp4
          have hB : NPI (fun _ => False) ((s4.modStream child fun st => { st with isPendingAccept := true }).modStream pk
              fun st => { st with pendingPushPromises := st.pendingPushPromises ++ [child] }) :=
            hA.lt (modStream_lt _ pk _ (fun _ => by inert_tac)).w (liveAll1 hpA)
              (modStream_ev (ρ := false) _ pk _ (fun st _ => by same_fields)) noE
          exact hfin _ hB (pppok_link j4 hl4 hp4 hne hfresh4 hq4) ((SameKeys.modStream _ _ _).live.mpr hpA) } he'

open H2V.Lemmas.ConnResetP (Op) in
/-- **`PPPOK` is kept by every operation** (any role, push enabled or not).  Side conditions: the handle of a
    `drop_stream_ref` exists; `recv_push_promise` starts without a pending refusal, with `IBR` and resolvable
    `pending_accept` keys, and the local-error-reset quota is not exhausted by it -/
theorem PPPOK_step {s : Streams} (hn : NPI (fun _ => False) s) (hj : PPPOK s) (op : Op)
    (hdrop : ∀ k, op = .dropStreamRef k → Live s k ∧ (s.stream k).refCount > 0 ∧ ErrOK s)
    (hpp : ∀ id h, op = .recvPushPromise id h →
      IBR s ∧ (∀ k ∈ s.recv.pendingAccept, Live s k) ∧ s.recv.refused = none ∧ ErrOK (s.recvPushPromise id h).1) :
    PPPOK (op.apply s) := by
  by_cases h1 : ∃ id h, op = .recvPushPromise id h
  · obtain ⟨id, h, e⟩ := h1
    subst e
    obtain ⟨hi, hacc, href, he'⟩ := hpp id h rfl
    exact (recvPushPromise_npi hn hj hi hacc id h href he').2
  · by_cases h2 : ∃ k, op = .dropStreamRef k
    · obtain ⟨k, e⟩ := h2
      subst e
      obtain ⟨hl, hr, he⟩ := hdrop k rfl
      exact (dropStreamRef_npi_gen hn hj hl hr he).2
    · have hne : ∀ id h, op ≠ .recvPushPromise id h := fun id h e => h1 ⟨id, h, e⟩
      have hnd : ∀ k, op ≠ .dropStreamRef k := fun k e => h2 ⟨k, e⟩
      exact hj.pf (op_pf_keys hn.keys op hne hnd)

end H2V.Lemmas.ConnNoPanicP
