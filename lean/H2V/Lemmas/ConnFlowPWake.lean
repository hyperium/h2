import H2V.Lemmas.ConnFlowPDrain
/-
  ConnFlowP — the wake-up at the level of the stream layer: when `try_assign_capacity` makes
  what `capacity()` reports for a stream grow, the waker parked in the stream's `send_task` is in the
  wake log afterwards and the stream's `send_capacity_inc` flag is set (so the woken task's
  `poll_capacity` reports the capacity instead of parking again).
-/
namespace H2V.Lemmas.ConnFlowP
open H2V H2V.Model H2V.Model.Conn H2V.Lemmas.Comp

/-- what `capacity()`, the flag and the waker look at -/
def capView (x : Stream) : FlowControl × Nat × Bool × Option String :=
  (x.sendFlow, x.bufferedSendData, x.sendCapacityInc, x.sendTask)

theorem capacity_of_capView {x y : Stream} (h : capView x = capView y) (m : Nat) : x.capacity m = y.capacity m := by
  unfold capView at h
  simp only [Prod.mk.injEq] at h
  unfold Stream.capacity
  rw [h.1, h.2.1]

theorem stream_modStream_capView {s : Streams} (id k : Nat) (f : Stream → Stream)
    (hf : ∀ x, (f x).key = x.key ∧ capView (f x) = capView x) :
    capView ((s.modStream id f).stream k) = capView (s.stream k) := by
  by_cases hk : k = id
  · subst hk
    cases h : s.store.get? k with
    | none => rw [Streams.modStream_of_none h, Streams.panic_stream]
    | some st => rw [stream_modStream_self h f (hf st).1, Streams.stream_of_get? h, (hf st).2]
  · rw [stream_modStream_other f (fun x => (hf x).1) hk]

theorem qPush_capView (s : Streams) (q : QName) (id k : Nat) :
    capView ((s.qPush q id).1.stream k) = capView (s.stream k) ∧ (s.qPush q id).1.wakes = s.wakes ∧
    (s.qPush q id).1.prio.maxBufferSize = s.prio.maxBufferSize := by
  unfold Streams.qPush
  split
  · exact ⟨rfl, rfl, rfl⟩
  · have h1 := stream_modStream_capView (s := s) id k (fun st => st.setQueued q true)
      (by intro x; cases q <;> exact ⟨rfl, rfl⟩)
    have hw : (s.modStream id fun st => st.setQueued q true).wakes = s.wakes := by
      unfold Streams.modStream; split
      · rfl
      · unfold Streams.panic; split <;> rfl
    refine ⟨?_, ?_, ?_⟩
    · have : ((s.modStream id fun st => st.setQueued q true).setQ q (s.getQ q ++ [id])).stream k =
          (s.modStream id fun st => st.setQueued q true).stream k := by cases q <;> rfl
      rw [this]; exact h1
    · have : ((s.modStream id fun st => st.setQueued q true).setQ q (s.getQ q ++ [id])).wakes =
          (s.modStream id fun st => st.setQueued q true).wakes := by cases q <;> rfl
      rw [this]; exact hw
    · have : ((s.modStream id fun st => st.setQueued q true).setQ q (s.getQ q ++ [id])).prio.maxBufferSize =
          (s.modStream id fun st => st.setQueued q true).prio.maxBufferSize := by cases q <;> rfl
      rw [this, modStream_prio]

theorem notifySend_capacity (x : Stream) (m : Nat) : x.notifySend.1.capacity m = x.capacity m := by
  have h1 := notifySend_kf x
  have h2 : x.notifySend.1.bufferedSendData = x.bufferedSendData := by
    unfold Stream.notifySend
    cases x.sendTask <;> dsimp only <;> split <;> rfl
  unfold Stream.capacity; rw [h1.2, h2]

theorem relink_capView (T : Streams) (id : Nat) :
    capView ((T.relink id).stream id) = capView (T.stream id) ∧ (T.relink id).wakes = T.wakes ∧
    (T.relink id).prio.maxBufferSize = T.prio.maxBufferSize := by
  have hq : ∀ (T : Streams) (q : QName) (c : Prop) [Decidable c],
      capView ((if c then (T.qPush q id).1 else T).stream id) = capView (T.stream id) ∧
      (if c then (T.qPush q id).1 else T).wakes = T.wakes ∧
      (if c then (T.qPush q id).1 else T).prio.maxBufferSize = T.prio.maxBufferSize := by
    intro T q c _; split
    · exact qPush_capView T q id id
    · exact ⟨rfl, rfl, rfl⟩
  have a := hq T .pendingCapacity ((T.stream id).wantsMore = true)
  have b := hq (if (T.stream id).wantsMore = true then (T.qPush .pendingCapacity id).1 else T) .pendingSend
    ((decide ((T.stream id).bufferedSendData > 0) && (T.stream id).isSendReady) = true)
  exact ⟨b.1.trans a.1, b.2.1.trans a.2.1, b.2.2.trans a.2.2⟩

theorem relink_sendCapacity (T : Streams) (id : Nat) : (T.relink id).sendCapacity id = T.sendCapacity id := by
  have h := relink_capView T id
  unfold Streams.sendCapacity; rw [h.2.2]; exact capacity_of_capView h.1 _

/-- **a grown capacity wakes the waiter** (stream layer) -/
theorem tryAssign_wakes {s : Streams} {id : Nat} {st : Stream} {tag : String}
    (hget : s.store.get? id = some st) (ht : st.sendTask = some tag)
    (hgrow : s.sendCapacity id < (s.tryAssignCapacity id).sendCapacity id) :
    tag ∈ (s.tryAssignCapacity id).wakes ∧ ((s.tryAssignCapacity id).stream id).sendCapacityInc = true := by
  revert hgrow
  refine s.tryAssignCapacity_cases id (P := fun t => s.sendCapacity id < t.sendCapacity id →
    tag ∈ t.wakes ∧ (t.stream id).sendCapacityInc = true) (fun h => absurd h (Nat.lt_irrefl _)) (fun _ _ hgrow => ?_)
    (fun _ _ hgrow => absurd (relink_sendCapacity s id ▸ hgrow) (Nat.lt_irrefl _))
  generalize min s.prio.flow.available.asSize (s.stream id).assignWant = n at hgrow ⊢
  have hf := relink_capView (s.assignN id n) id
  rw [relink_sendCapacity] at hgrow
  have hinc : ((s.assignN id n).relink id |>.stream id).sendCapacityInc = ((s.assignN id n).stream id).sendCapacityInc := by
    have hx := hf.1
    unfold capView at hx
    simp only [Prod.mk.injEq] at hx
    exact hx.2.2.1
  rw [hf.2.1, hinc]
  have hkf := assignCapacity_kf st n s.prio.maxBufferSize
  have hstream : (s.assignN id n).stream id = (st.assignCapacity n s.prio.maxBufferSize).1 :=
    stream_modStreamW_self hget _ hkf.1
  have hwakes : (s.assignN id n).wakes = s.wakes ++ (st.assignCapacity n s.prio.maxBufferSize).2 := by
    unfold Streams.assignN Streams.modStreamW; rw [hget]; rfl
  have hcap : (s.assignN id n).sendCapacity id = (st.assignCapacity n s.prio.maxBufferSize).1.capacity s.prio.maxBufferSize := by
    unfold Streams.sendCapacity
    rw [hstream]
    show Stream.capacity _ (s.modStreamW id _).prio.maxBufferSize = _
    rw [modStreamW_prio]
  rw [hcap] at hgrow
  have hs0 : s.sendCapacity id = st.capacity s.prio.maxBufferSize := by
    unfold Streams.sendCapacity; rw [Streams.stream_of_get? hget]
  rw [hs0] at hgrow
  have hcap2 : (st.assignCapacity n s.prio.maxBufferSize).1.capacity s.prio.maxBufferSize =
      ({ st with sendFlow := (st.sendFlow.assignCapacity n).1 } : Stream).capacity s.prio.maxBufferSize := by
    unfold Stream.assignCapacity
    dsimp only
    split
    · unfold Stream.notifyCapacity; rw [notifySend_capacity]; rfl
    · rfl
  rw [hcap2] at hgrow
  have hnot := assignCapacity_notifies st n s.prio.maxBufferSize hgrow
  rw [hstream, hwakes]
  exact ⟨List.mem_append_right _ (hnot.2.2 tag ht), hnot.1⟩

end H2V.Lemmas.ConnFlowP
