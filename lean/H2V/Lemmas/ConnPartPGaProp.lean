import H2V.Lemmas.ConnPartPGaMain
/-
  C15: the coverage theorem of `recv_go_away` in the form quoted by
  `H2V/Props/C15Cover.lean` (relations unfolded into fields, wake-ups added from ConnWakeP's `Step`),
  the characterisation of `failState`, and a concrete history for the non-vacuity examples.
-/
namespace H2V.Lemmas.ConnPartP
open H2V H2V.Model H2V.Model.Conn H2V.Lemmas.ConnWakeP

def unmask (m b : Stream) : Stream :=
  { m with sendFlow := { m.sendFlow with available := b.sendFlow.available },
           sendTask := b.sendTask, openTask := b.openTask, sendCapacityInc := b.sendCapacityInc,
           isPendingSendCapacity := b.isPendingSendCapacity, isPendingSend := b.isPendingSend }

theorem unmask_mask (b : Stream) : unmask (mask b) b = b := rfl

theorem Unt.eq {a b : Stream} (h : Unt a b) :
    b = { a with sendFlow := { a.sendFlow with available := b.sendFlow.available },
                 sendTask := b.sendTask, openTask := b.openTask, sendCapacityInc := b.sendCapacityInc,
                 isPendingSendCapacity := b.isPendingSendCapacity, isPendingSend := b.isPendingSend } := by
  have e : b = unmask (mask a) b := (unmask_mask b).symm.trans (congrArg (fun m => unmask m b) h)
  exact e

/-- the state a failed stream ends in carries the peer's reason and debug data: a stream that was
    not closed becomes `Closed(Error(GoAway(debug, reason, Remote)))` (`ErrorAfterEndStream` when the
    peer had already ended it); a stream that was closed keeps its state, except that the scheduled
    implicit reset of a stream still waiting in `pending_open` becomes a plain library reset -/
theorem failState_remoteGoAway (a : Stream) (debug : Bytes) (reason : Reason) :
    (a.state.isClosed = false →
      (failState (PErr.remoteGoAway debug reason) a).inner =
        .closed (if a.state.isRecvEndStream then .errorAfterEndStream (.goAway debug reason .remote)
                 else .error (.goAway debug reason .remote))) ∧
    (a.state.isClosed = true →
      failState (PErr.remoteGoAway debug reason) a = a.state ∨
      (a.isPendingOpen = true ∧ ∃ r, a.state.getScheduledReset = some r ∧
        failState (PErr.remoteGoAway debug reason) a = { inner := .closed (.error (.reset a.id r .library)) })) := by
  constructor
  · intro hc
    have h1 : (a.state.handleError (PErr.remoteGoAway debug reason)).inner =
        .closed (if a.state.isRecvEndStream then .errorAfterEndStream (.goAway debug reason .remote)
                 else .error (.goAway debug reason .remote)) := by
      unfold State.handleError State.isClosed PErr.remoteGoAway at *
      cases h : a.state.inner <;> simp_all
    have h2 : (a.state.handleError (PErr.remoteGoAway debug reason)).getScheduledReset = none := by
      unfold State.getScheduledReset; rw [h1]
      by_cases hre : a.state.isRecvEndStream = true <;> simp [hre]
    unfold failState
    rw [h2]
    split <;> exact h1
  · intro hc
    have h1 : a.state.handleError (PErr.remoteGoAway debug reason) = a.state := by
      unfold State.handleError State.isClosed at *
      cases h : a.state.inner <;> simp_all
    unfold failState
    rw [h1]
    by_cases hp : a.isPendingOpen = true
    · rw [if_pos hp]
      cases hr : a.state.getScheduledReset with
      | none => exact Or.inl rfl
      | some r => exact Or.inr ⟨hp, r, rfl, rfl⟩
    · rw [if_neg hp]; exact Or.inl rfl

theorem sel_iff (s : Streams) (last : Nat) (a : Stream) :
    Sel last s.counts.isServer a ↔ (s.counts.isLocalInit a.id = true ∧ (a.id > last ∨ a.isPendingOpen = true)) := by
  unfold Sel Counts.isLocalInit
  exact ⟨fun ⟨h1, h2⟩ => ⟨h2, h1⟩, fun ⟨h1, h2⟩ => ⟨h2, h1⟩⟩

theorem recvGoAwayFrame_fails_all (s s' : Streams) (hg : Good s) (last : Nat) (reason : Reason) (debug : Bytes)
    (hok : s.recvGoAwayFrame last reason debug = (s', .ok ())) :
    ∀ e ∈ s.store.ids, ∀ a, s.store.get? e.2 = some a →
      s.counts.isLocalInit a.id = true → (a.id > last ∨ a.isPendingOpen = true) →
      s'.store.get? e.2 = none ∨
      ∃ b, s'.store.get? e.2 = some b ∧
        b.state = failState (PErr.remoteGoAway debug reason) a ∧
        b.pendingSend = [] ∧ b.bufferedSendData = 0 ∧ b.requestedSendCapacity = 0 ∧
        b.sendTask = none ∧ b.openTask = none ∧ b.recvTask = none ∧ b.pushTask = none ∧
        (∀ t, (a.sendTask = some t ∨ a.openTask = some t ∨ a.recvTask = some t ∨ a.pushTask = some t) →
          t ∈ newWakes s s') ∧
        b.id = a.id ∧ b.refCount = a.refCount ∧ b.pendingRecv = a.pendingRecv ∧ b.recvFlow = a.recvFlow ∧
        b.inFlightRecvData = a.inFlightRecvData ∧ b.isPendingOpen = a.isPendingOpen := by
  intro e he a ha hloc hsel
  have hstep : Step none s s' := (recvGoAwayFrame_acc last reason debug (Step.refl none s)).of_fst hok
  have hkeep : KS s s' := (k_recvGoAwayFrame last reason debug (GStep.refl s)).of_fst hok
  rcases (recvGoAwayFrame_cover s s' hg.ids last reason debug hok).2.2.2.1 e he a ha
      ((sel_iff s last a).mpr ⟨hloc, hsel⟩) with hn | ⟨b, hb, hf⟩
  · exact Or.inl hn
  · right
    have hdone : Done e.2 s' := Or.inr ⟨b, hb, hf.resolved⟩
    rcases endedAt_of hg.bounded ha hdone hkeep hstep with hn | ⟨b', hb', _, _, hw⟩
    · rw [hn] at hb; cases hb
    · rw [hb'] at hb; cases hb
      exact ⟨b, hb', hf.spelled hw⟩

theorem recvGoAwayFrame_keeps_others (s s' : Streams) (hg : Good s) (last : Nat) (reason : Reason) (debug : Bytes)
    (hok : s.recvGoAwayFrame last reason debug = (s', .ok ())) :
    (∀ k, s.store.get? k = none → s'.store.get? k = none) ∧
    ∀ k a, s.store.get? k = some a →
      ¬ (s.counts.isLocalInit a.id = true ∧ (a.id > last ∨ a.isPendingOpen = true)) →
      ∃ b, s'.store.get? k = some b ∧
        b = { a with sendFlow := { a.sendFlow with available := b.sendFlow.available },
                     sendTask := b.sendTask, openTask := b.openTask, sendCapacityInc := b.sendCapacityInc,
                     isPendingSendCapacity := b.isPendingSendCapacity, isPendingSend := b.isPendingSend } ∧
        SlotStep (newWakes s s') a.sendTask b.sendTask ∧ SlotStep (newWakes s s') a.openTask b.openTask ∧
        (a.sendCapacityInc = true → b.sendCapacityInc = true) ∧
        (∀ e ∈ s.store.ids, e.2 = k → e ∈ s'.store.ids) := by
  have hcov := recvGoAwayFrame_cover s s' hg.ids last reason debug hok
  refine ⟨hcov.2.1, fun k a ha hns => ?_⟩
  have hstep : Step none s s' := (recvGoAwayFrame_acc last reason debug (Step.refl none s)).of_fst hok
  obtain ⟨b, hb, hu⟩ := hcov.2.2.1 k a ha (fun h => hns ((sel_iff s last a).mp h))
  rcases hstep.keep k a (hg.bounded.get? ha) ha with hn | ⟨b', hb', hs⟩
  · rw [hn] at hb; cases hb
  · rw [hb'] at hb; cases hb
    exact ⟨b, hb', hu.eq, hs.sendTask, hs.openTask, hs.capKeep,
      fun e he hek => hcov.2.2.2.2 e he a (by rw [hek]; exact ha) (fun h => hns ((sel_iff s last a).mp h))⟩

namespace Demo
/-- client, default configuration; the peer's SETTINGS allow two concurrent streams -/
def d0 : Streams := ((Conn.init {}).streams.applyRemoteSettings [(3, 2)] true).1
/-- three requests (stream ids 1, 3, 5; keys 0, 1, 2), bodies to follow -/
def d3 : Streams :=
  (((d0.sendRequest false [] false none).1.sendRequest false [] false none).1.sendRequest false [] false none).1
/-- what `poll_complete` does for one stream: `pop_pending_open`, then `pop_frame` (its HEADERS) -/
def open1 (s : Streams) (k : Nat) : Streams :=
  let s := s.popPendingOpen.1
  let s := ((s.qPushFront .pendingSend k).1).tryAssignCapacity k
  (Streams.popFrame 4 s 16384).1
/-- streams 1 and 3 are open, stream 5 waits in `pending_open` (limit 2) -/
def d4 : Streams := open1 (open1 d3 0) 1
/-- the body sender of stream 3 waits for capacity (`s1`), the request future of stream 5 for its slot (`q`) -/
def d5 : Streams := ((d4.pollCapacity 1 "s1").1.pollPendingOpen (some 2) "q").1

theorem open1_good {s : Streams} (h : Good s) (k : Nat) : Good (open1 s k) :=
  have all : ∀ fp, Kind.Has (fun _ => true) fp := fun _ _ _ => rfl
  .of_step ((Streams.popPendingOpen_step (all _) s).trans ((Streams.qPushFront_step _ _ k rfl).trans
    ((Streams.tryAssignCapacity_step (all _) _ k).trans (Streams.popFrame_step (all _) _ _ _)))) h

theorem d5_good : Good d5 :=
  (Poll.pendingOpen _ _).good ((Poll.capacity _ _).good (open1_good (open1_good
    ((Op.sendRequest _ _ _ _).good ((Op.sendRequest _ _ _ _).good ((Op.sendRequest _ _ _ _).good
      ((Op.applyRemoteSettings _ _).good (init_good {}))))) 0) 1))

end Demo

end H2V.Lemmas.ConnPartP
