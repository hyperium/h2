import H2V.Lemmas.ConnStep
import H2V.Lemmas.ConnBasicsFns
import H2V.Lemmas.ConnStepLift
/-
  `f_step` for the functions of prioritize.rs / send.rs / recv.rs / counts.rs below the loops: `f` is unfolded and `stp_auto`
  walks it.  The footprint in `hK` is the set of kinds the walk asks for (an upper bound, not proved tight): for a new function,
  state `hK : Kind.Has K []`, run the walk, add the kinds of the goals `K kind` it leaves, and repeat until none is left;
  kinds stand in the order of `Kind`'s constructors.  A stage of
  ConnStages stands before the function it is a stage of, whose lemma rewrites by `f_eq` and finds the stages' lemmas by name.
-/
namespace H2V.Model.Conn.Streams
open H2V H2V.Model H2V.Model.Conn
attribute [local irreducible] wrapSubU32 wrapSubUsize
variable {K : Kind → Bool}

theorem taResetCount_step (hK : Kind.Has K [.counterDown .localReset]) (s : Streams) (k : Nat) (b : Bool) : Step K s
    (s.taResetCount k b) := by
  unfold Streams.taResetCount; stp_auto
theorem taClose_step (hK : Kind.Has K [.unlink]) (s : Streams) (st : Stream) (k : Nat) : Step K s (s.taClose st k) := by
  unfold Streams.taClose; stp_auto

theorem decNumStreams_isReleased (s : Streams) (k : Nat) : ((s.decNumStreams k).stream k).isReleased = (s.stream k).isReleased := by
  unfold Streams.stream; rw [decNumStreams_get?, if_pos rfl]; cases s.store.get? k <;> rfl

theorem decNumStreams_isCounted (s : Streams) (k : Nat) : ((s.decNumStreams k).stream k).isCounted = false := by
  unfold Streams.stream; rw [decNumStreams_get?, if_pos rfl]; cases s.store.get? k <;> rfl

theorem taRelease_step (hK : Kind.Has K [.release]) (s : Streams) (k : Nat) : Step K s (s.taRelease k) := by
  unfold Streams.taRelease
  split
  · next h =>
    dsimp only
    split
    · refine (decNumStreams_step s k).trans (.remove _ _ _ ?_ ?_ (decNumStreams_isCounted s k))
      · stp_side
      · rw [decNumStreams_isReleased]; exact h
    · next hc => refine .remove _ _ _ ?_ h (Bool.eq_false_iff.mpr hc); stp_side
  · exact .refl _

theorem transitionAfter_step (hK : Kind.Has K [.release, .unlink, .counterDown .localReset]) (s : Streams) (k : Nat) (b : Bool)
    : Step K s (s.transitionAfter k b) := by
  rw [Streams.transitionAfter_eq]; stp_auto

theorem scheduleSend_step (hK : Kind.Has K [.enqueue .pendingSend, .connTask]) (s : Streams) (k : Nat) : Step K s
    (s.scheduleSend k) := by
  unfold Streams.scheduleSend; stp_auto
theorem queueFrame_step {f : SFrame} (hK : Kind.Has K [.enqueue .pendingSend, .frame f.cls, .connTask]) (s : Streams) (k : Nat)
    : Step K s (s.queueFrame k f) := by
  refine (modStream_step s k _ (.pushSend f (hK _ ?_))).trans (scheduleSend_step (fun j hj => hK j ?_) _ _)
  · simp
  · simp only [List.mem_cons, List.mem_nil_iff, or_false] at hj ⊢
    rcases hj with rfl | rfl <;> simp
theorem assignN_step (hK : Kind.Has K [.sendFlow, .connSendFlow]) (s : Streams) (id n : Nat) : Step K s (s.assignN id n) := by
  unfold Streams.assignN; stp_auto
theorem relink_step (hK : Kind.Has K [.enqueue .pendingSend, .enqueue .pendingCapacity]) (s : Streams) (id : Nat) : Step K s
    (s.relink id) := by
  unfold Streams.relink; stp_auto
theorem tryAssignCapacity_step (hK : Kind.Has K [.enqueue .pendingSend, .enqueue .pendingCapacity, .sendFlow, .connSendFlow])
    (s : Streams) (k : Nat) : Step K s (s.tryAssignCapacity k) := by
  rw [Streams.tryAssignCapacity_eq]; stp_auto
theorem queueOpen_step (hK : Kind.Has K [.enqueue .pendingOpen]) (s : Streams) (k : Nat) : Step K s (s.queueOpen k) := by
  unfold Streams.queueOpen; stp_auto
theorem tryAssignCapacity_life (s : Streams) (id j : Nat) : ((s.tryAssignCapacity id).stream j).isClosed = (s.stream j).isClosed ∧ ((s.tryAssignCapacity id).stream j).resetAt = (s.stream j).resetAt :=
  Step.stream_rel (r := fun x y => y.isClosed = x.isClosed ∧ y.resetAt = x.resetAt)
    (K := fun | .enqueue .pendingSend | .enqueue .pendingCapacity | .sendFlow | .connSendFlow => true | _ => false)
    (fun _ => ⟨rfl, rfl⟩) (fun a b => ⟨b.1.trans a.1, b.2.trans a.2⟩)
    (fun _ _ u => by
      cases u <;> first
        | exact ⟨rfl, rfl⟩ | (rename_i h; obtain ⟨_, hf⟩ := h.kind; cases hf) | (rename_i h; cases h; done)
        | (rename_i h _; cases h; done))
    (fun x _ u => by
      cases u <;> first
        | (rw [Stream.notifySend_fst]; exact ⟨rfl, rfl⟩) | (rw [Stream.notifyRecv_fst]; exact ⟨rfl, rfl⟩)
        | (rw [Stream.notifyPush_fst]; exact ⟨rfl, rfl⟩) | (rw [Stream.notifyCapacity_fst]; exact ⟨rfl, rfl⟩)
        | (rw [Stream.assignCapacity_fst]; split <;> exact ⟨rfl, rfl⟩)
        | (rename_i h; obtain ⟨_, hf⟩ := h.kind; cases hf))
    (fun _ q v h1 h2 => by cases q <;> first | exact ⟨rfl, rfl⟩ | (cases v <;> first | cases h1 rfl | cases h2 rfl))
    (fun _ _ _ => ⟨rfl, rfl⟩) (fun h => nomatch h) rfl (tryAssignCapacity_step (by decide) s id) j

theorem Stream.isClosed_of_sending {x : Stream} (h : (x.state.isSendStreaming || decide (x.bufferedSendData > 0)) = true) : x.isClosed = false := by
  unfold Stream.isClosed
  rcases Bool.or_eq_true_iff.mp h with h | h
  · have : x.state.isClosed = false := by
      unfold State.isSendStreaming at h; unfold State.isClosed
      split at h <;> simp_all
    rw [this]; rfl
  · have : x.bufferedSendData ≠ 0 := by have := of_decide_eq_true h; omega
    simp [this]

/-- inside the loop `transition_after` runs on a stream the code has just seen sending or holding data: such a stream is
    not closed, so nothing is released -/
theorem assignConnectionCapacityLoop_step
    (hK : Kind.Has K [.enqueue .pendingSend, .enqueue .pendingCapacity, .dequeue .pendingCapacity, .sendFlow, .connSendFlow])
    (n : Nat) (s : Streams) : Step K s (Streams.assignConnectionCapacityLoop n s) := by
  induction n generalizing s with
  | zero => unfold Streams.assignConnectionCapacityLoop; exact .refl _
  | succ n ih =>
    unfold Streams.assignConnectionCapacityLoop
    refine Step.ite ?_ (.refl _)
    have h0 : Step K s (s.qPop .pendingCapacity).1 := by
      refine qPop_step s _ ?_; stp_side
    split
    · next s1 heq => exact of_fst_eq heq h0
    · next s1 id heq =>
      have h1 : Step K s s1 := of_fst_eq heq h0
      dsimp only
      split
      · exact h1.trans (ih s1)
      · next hc =>
        have hc' : ((s1.stream id).state.isSendStreaming || decide ((s1.stream id).bufferedSendData > 0)) = true := by
          cases hh : ((s1.stream id).state.isSendStreaming || decide ((s1.stream id).bufferedSendData > 0)) with
          | true => rfl
          | false => rw [hh] at hc; exact absurd rfl hc
        have hl := tryAssignCapacity_life s1 id id
        have hnc : ((s1.tryAssignCapacity id).stream id).isClosed = false := by
          rw [hl.1]; exact Stream.isClosed_of_sending hc'
        rw [transitionAfter_of_not_closed hnc]
        have hb : ((s1.stream id).isPendingResetExpiration &&
            !((s1.tryAssignCapacity id).stream id).isPendingResetExpiration) = false := by
          unfold Stream.isPendingResetExpiration; rw [hl.2]; exact Bool.and_not_self _
        have hnoop : (s1.tryAssignCapacity id).taResetCount id (s1.stream id).isPendingResetExpiration =
            s1.tryAssignCapacity id := by
          unfold Streams.taResetCount; rw [hb, if_neg Bool.false_ne_true]
        rw [hnoop]
        refine (h1.trans (tryAssignCapacity_step ?_ _ _)).trans (ih _)
        stp_side
theorem assignConnectionCapacity_step
    (hK : Kind.Has K [.enqueue .pendingSend, .enqueue .pendingCapacity, .dequeue .pendingCapacity, .sendFlow, .connSendFlow])
    (s : Streams) (inc : Nat) : Step K s (s.assignConnectionCapacity inc) := by
  unfold Streams.assignConnectionCapacity; stp_auto
theorem reserveCapacity_step
    (hK : Kind.Has K [.enqueue .pendingSend, .enqueue .pendingCapacity, .dequeue .pendingCapacity, .sendFlow, .connSendFlow])
    (s : Streams) (k cap : Nat) : Step K s (s.reserveCapacity k cap) := by
  unfold Streams.reserveCapacity; stp_auto
theorem recvConnectionWindowUpdate_step
    (hK : Kind.Has K [.enqueue .pendingSend, .enqueue .pendingCapacity, .dequeue .pendingCapacity, .sendFlow, .connSendFlow])
    (s : Streams) (inc : Nat) : Step K s (s.recvConnectionWindowUpdate inc).1 := by
  unfold Streams.recvConnectionWindowUpdate; stp_auto
theorem reclaimAllCapacity_step
    (hK : Kind.Has K [.enqueue .pendingSend, .enqueue .pendingCapacity, .dequeue .pendingCapacity, .sendFlow, .connSendFlow])
    (s : Streams) (k : Nat) : Step K s (s.reclaimAllCapacity k) := by
  unfold Streams.reclaimAllCapacity; stp_auto
theorem clearQueue_step (hK : Kind.Has K [.clearSend, .markDrop]) (s : Streams) (k : Nat) : Step K s (s.clearQueue k) := by
  unfold Streams.clearQueue
  dsimp only
  generalize hs1 : s.modStream k _ = s1
  have h1 : Step K s s1 := by
    rw [← hs1]; refine modStream_step _ _ _ (.clearSend ?_); stp_side
  split
  · next j hj =>
    refine Step.ite (h1.trans (modPrio_step _ _ (.markDrop j ?_ hj))) h1
    stp_side
  · exact h1
theorem sendOpenId_step (hK : Kind.Has K [.nextId]) (s : Streams) : Step K s s.sendOpenId.1 := by
  unfold Streams.sendOpenId
  split
  · exact .refl _
  · next id h =>
    dsimp only
    refine modSend_step s _ (.bumpNext _ id ?_ h (Nat.le_refl id))
    stp_side

theorem sendHeaders_step
    (hK : Kind.Has K [.enqueue .pendingSend, .enqueue .pendingOpen, .state .sendOpen, .frame .headers, .connTask]) (s : Streams)
    (k : Nat) (eos : Bool) (f : List Hpack.Field) : Step K s (s.sendHeaders k eos f).1 := by
  unfold Streams.sendHeaders; stp_auto
theorem sendReserveLocal_step (hK : Kind.Has K [.nextId]) (s : Streams) : Step K s s.sendReserveLocal.1 := by
  unfold Streams.sendReserveLocal; stp_auto
theorem sendPushPromise_step (hK : Kind.Has K [.enqueue .pendingSend, .frame .pushPromise, .connTask]) (s : Streams)
    (p pk pid : Nat) (f : List Hpack.Field) : Step K s (s.sendPushPromise p pk pid f).1 := by
  unfold Streams.sendPushPromise; stp_auto
theorem sendInterimInformationalHeaders_step (hK : Kind.Has K [.enqueue .pendingSend, .frame .headers, .connTask]) (s : Streams)
    (k : Nat) (f : List Hpack.Field) : Step K s (s.sendInterimInformationalHeaders k f).1 := by
  unfold Streams.sendInterimInformationalHeaders; stp_auto
theorem keepOnlyHead_step (hK : Kind.Has K [.clearSend, .markDrop]) (s : Streams) (k : Nat) : Step K s (s.keepOnlyHead k) := by
  have hu : Step K s (s.modStream k keepOnlyHeadF) := modStream_step s k _ (.keepOnlyHead (by stp_side))
  rw [keepOnlyHead_eq]
  split
  · next j hj =>
    exact .ite (hu.trans (modPrio_step _ _ (.markDrop j (by stp_side) (by rw [modStream_actions]; exact hj)))) hu
  · exact hu
theorem sendSendReset_step
    (hK : Kind.Has K [.enqueue .pendingSend, .enqueue .pendingCapacity, .dequeue .pendingCapacity, .state .setReset,
      .frame .reset, .clearSend, .sendFlow, .connSendFlow, .markDrop, .connTask])
    (s : Streams) (k : Nat) (r : Reason) (i : Initiator) (hi : i = .remote → K .remoteReset := by stp_initiator) : Step K s
    (s.sendSendReset k r i) := by
  rw [Streams.sendSendReset_eq]
  split
  · exact .refl _
  · next hr =>
    have hr' : (s.stream k).state.isReset = false := Bool.eq_false_iff.2 hr
    stp_auto
theorem pollCapacity_step (hK : Kind.Has K [.park]) (s : Streams) (k : Nat) (tag : String) : Step K s (s.pollCapacity k tag).1
    := by
  unfold Streams.pollCapacity; stp_auto
theorem pollReset_step (hK : Kind.Has K [.park]) (s : Streams) (k : Nat) (m : PollReset) (tag : String) : Step K s
    (s.pollReset k m tag).1 := by
  unfold Streams.pollReset; stp_auto
theorem sendRecvGoAway_step (hK : Kind.Has K [.ids]) (s : Streams) (l : Nat) : Step K s (s.sendRecvGoAway l).1 := by
  unfold Streams.sendRecvGoAway; stp_auto
theorem sendHandleError_step
    (hK : Kind.Has K [.enqueue .pendingSend, .enqueue .pendingCapacity, .dequeue .pendingCapacity, .clearSend, .sendFlow,
      .connSendFlow, .markDrop, .state .setResetScheduled])
    (s : Streams) (k : Nat) : Step K s (s.sendHandleError k) := by
  unfold Streams.sendHandleError; stp_auto
theorem sendMaybeResetNextStreamId_step (hK : Kind.Has K [.nextId]) (s : Streams) (id : Nat) : Step K s
    (s.sendMaybeResetNextStreamId id) := by
  unfold Streams.sendMaybeResetNextStreamId
  split
  · next n h =>
    split
    · next hge =>
      refine modSend_step s _ (.bumpNext _ id ?_ h hge)
      stp_side
    · exact .refl _
  · exact .refl _

theorem sendTrailers_step
    (hK : Kind.Has K [.enqueue .pendingSend, .enqueue .pendingCapacity, .dequeue .pendingCapacity, .state .sendClose,
      .frame .headers, .sendFlow, .connSendFlow, .connTask])
    (s : Streams) (k : Nat) (f : List Hpack.Field) : Step K s (s.sendTrailers k f).1 := by
  unfold Streams.sendTrailers; stp_auto
theorem prioSendData_step
    (hK : Kind.Has K [.enqueue .pendingSend, .enqueue .pendingCapacity, .dequeue .pendingCapacity, .state .sendClose,
      .frame .data, .buffer, .sendFlow, .connSendFlow, .connTask])
    (s : Streams) (k len : Nat) (eos : Bool) : Step K s (s.prioSendData k len eos).1 := by
  unfold Streams.prioSendData; stp_auto
theorem reclaimReservedCapacity_step
    (hK : Kind.Has K [.enqueue .pendingSend, .enqueue .pendingCapacity, .dequeue .pendingCapacity, .sendFlow, .connSendFlow])
    (s : Streams) (k : Nat) : Step K s (s.reclaimReservedCapacity k) := by
  unfold Streams.reclaimReservedCapacity; stp_auto
theorem scheduleImplicitReset_step
    (hK : Kind.Has K [.enqueue .pendingSend, .enqueue .pendingCapacity, .dequeue .pendingCapacity, .state .setScheduledReset,
      .sendFlow, .connSendFlow, .connTask])
    (s : Streams) (k : Nat) (r : Reason) : Step K s (s.scheduleImplicitReset k r) := by
  unfold Streams.scheduleImplicitReset
  split
  · exact .refl _
  · next hc =>
    have hc' : (s.stream k).state.isClosed = false := Bool.eq_false_iff.2 hc
    stp_auto
theorem prioRecvStreamWindowUpdate_step
    (hK : Kind.Has K [.enqueue .pendingSend, .enqueue .pendingCapacity, .sendFlow, .connSendFlow]) (s : Streams) (k inc : Nat) :
    Step K s (s.prioRecvStreamWindowUpdate k inc).1 := by
  unfold Streams.prioRecvStreamWindowUpdate; stp_auto
theorem sendRecvStreamWindowUpdate_step
    (hK : Kind.Has K [.enqueue .pendingSend, .enqueue .pendingCapacity, .dequeue .pendingCapacity, .state .setReset,
      .frame .reset, .clearSend, .sendFlow, .connSendFlow, .markDrop, .connTask])
    (s : Streams) (k sz : Nat) : Step K s (s.sendRecvStreamWindowUpdate k sz).1 := by
  unfold Streams.sendRecvStreamWindowUpdate; stp_auto
theorem decStreamWindow_step (hK : Kind.Has K [.sendFlow]) (dec acc : Nat) (s : Streams) (k : Nat) : Step K s
    (Streams.decStreamWindow dec acc s k).1 := by
  unfold Streams.decStreamWindow; stp_auto
theorem releaseConnectionCapacity_step (hK : Kind.Has K [.connRecvFlow, .connTask]) (s : Streams) (c : Nat) (b : Bool) : Step K
    s (s.releaseConnectionCapacity c b) := by
  unfold Streams.releaseConnectionCapacity; stp_auto
theorem releaseCapacity_step (hK : Kind.Has K [.enqueue .pendingWindowUpdates, .recvFlow, .connRecvFlow, .connTask])
    (s : Streams) (k c : Nat) (b : Bool) : Step K s (s.releaseCapacity k c b).1 := by
  unfold Streams.releaseCapacity; stp_auto
theorem clearRecvBuffer_step (hK : Kind.Has K [.counterDown .dataFrames, .takeRecv, .recvFlow, .connRecvFlow, .connTask])
    (s : Streams) (k : Nat) (b : Bool) : Step K s (s.clearRecvBuffer k b) := by
  unfold Streams.clearRecvBuffer; stp_auto
theorem releaseClosedCapacity_step (hK : Kind.Has K [.counterDown .dataFrames, .takeRecv, .recvFlow, .connRecvFlow, .connTask])
    (s : Streams) (k : Nat) : Step K s (s.releaseClosedCapacity k) := by
  unfold Streams.releaseClosedCapacity; stp_auto
theorem consumeConnectionWindow_step (hK : Kind.Has K [.connRecvFlow]) (s : Streams) (sz : Nat) : Step K s
    (s.consumeConnectionWindow sz).1 := by
  unfold Streams.consumeConnectionWindow; stp_auto
theorem ignoreData_step (hK : Kind.Has K [.connRecvFlow, .connTask]) (s : Streams) (sz : Nat) : Step K s (s.ignoreData sz).1 :=
    by
  unfold Streams.ignoreData; stp_auto
theorem recvOpen_step (hK : Kind.Has K [.nextId]) (s : Streams) (id : Nat) (b : Bool) : Step K s (s.recvOpen id b).1 := by
  unfold Streams.recvOpen
  dsimp only
  generalize hs0 : (if s.recv.refused.isSome = true then s.panic _ else s) = s0
  have h0 : Step K s s0 := by rw [← hs0]; exact Step.ite (panic_step _ _) (.refl _)
  refine Step.ite_fst h0 ?_
  split
  · exact h0
  · next n hn =>
    split
    · exact h0
    · next hlt =>
      generalize hs1 : s0.modRecv _ = s1
      have h1 : Step K s s1 := by
        rw [← hs1]
        refine h0.trans (modRecv_step s0 _ (.bumpNext _ id ?_ hn (Nat.le_of_not_lt hlt)))
        stp_side
      refine Step.ite_fst ?_ h1
      dsimp only
      refine h1.trans (modRecv_step _ _ (.refused _ ?_))
      stp_side

theorem notifyPushIfRecvEnded_step (s : Streams) (k : Nat) : Step K s (s.notifyPushIfRecvEnded k) := by
  unfold Streams.notifyPushIfRecvEnded; stp_auto
theorem recvRecvTrailers_step (hK : Kind.Has K [.state .recvClose, .appendRecv]) (s : Streams) (k : Nat) (h : HeadersIn) : Step
    K s (s.recvRecvTrailers k h).1 := by
  unfold Streams.recvRecvTrailers; stp_auto
theorem recvRecvPushPromise_step (hK : Kind.Has K [.state .reserveRemote, .appendRecv]) (s : Streams) (k : Nat) (h : HeadersIn)
    : Step K s (s.recvRecvPushPromise k h).1 := by
  unfold Streams.recvRecvPushPromise; stp_auto
theorem recvHandleError_step (hK : Kind.Has K [.state .handleError]) (s : Streams) (k : Nat) (e : PErr)
    (he : (∃ i r, e = .reset i r .remote) → K .remoteReset := by stp_initiator) : Step K s (s.recvHandleError k e) := by
  unfold Streams.recvHandleError; stp_auto
theorem recvGoAway_step (hK : Kind.Has K [.ids]) (s : Streams) (l : Nat) : Step K s (s.recvGoAway l) := by
  unfold Streams.recvGoAway; stp_auto
theorem recvRecvEof_step (hK : Kind.Has K [.state .recvEof]) (s : Streams) (k : Nat) : Step K s (s.recvRecvEof k) := by
  unfold Streams.recvRecvEof; stp_auto
theorem recvMaybeResetNextStreamId_step (hK : Kind.Has K [.nextId]) (s : Streams) (id : Nat) : Step K s
    (s.recvMaybeResetNextStreamId id) := by
  unfold Streams.recvMaybeResetNextStreamId
  split
  · next n h =>
    split
    · next hge =>
      refine modRecv_step s _ (.bumpNext _ id ?_ h hge)
      stp_side
    · exact .refl _
  · exact .refl _

theorem sendPendingRefusal_step (hK : Kind.Has K [.nextId]) (s : Streams) (w : Writer) : Step K s (s.sendPendingRefusal w).1 :=
    by
  unfold Streams.sendPendingRefusal; stp_auto
theorem scheduleRecv_step (hK : Kind.Has K [.park]) (s : Streams) (k : Nat) (t : String) : Step K s (s.scheduleRecv k t).1 := by
  unfold Streams.scheduleRecv; stp_auto
theorem recvPollData_step (hK : Kind.Has K [.takeRecv, .park]) (s : Streams) (k : Nat) (t : String) : Step K s
    (s.recvPollData k t).1 := by
  unfold Streams.recvPollData; stp_auto
theorem recvPollTrailers_step (hK : Kind.Has K [.takeRecv, .park]) (s : Streams) (k : Nat) (t : String) : Step K s
    (s.recvPollTrailers k t).1 := by
  unfold Streams.recvPollTrailers; stp_auto
theorem recvPollInformational_step (hK : Kind.Has K [.takeRecv, .park]) (s : Streams) (k : Nat) (t : String) : Step K s
    (s.recvPollInformational k t).1 := by
  unfold Streams.recvPollInformational; stp_auto
theorem enqueueResetExpiration_step (hK : Kind.Has K [.enqueue .pendingResetExpired, .counterUp .localReset]) (s : Streams)
    (k : Nat) : Step K s (s.enqueueResetExpiration k) := by
  unfold Streams.enqueueResetExpiration; stp_auto
theorem recvRecvReset_step (hK : Kind.Has K [.counterUp .remoteReset, .state .recvReset, .remoteReset]) (s : Streams) (k : Nat)
    (r : Reason) : Step K s (s.recvRecvReset k r).1 := by
  unfold Streams.recvRecvReset; stp_auto
theorem recvHeadersSt_step (s : Streams) (id : Nat) (st' : State) (h : State.Step K (s.stream id).id (s.stream id).state st') : Step K s (s.recvHeadersSt id st') := modStream_step s id _ (.state st' h)
theorem recvHeadersCount_step (hK : Kind.Has K [.count, .ids]) (s : Streams) (id : Nat) (h : HeadersIn) (isInitial : Bool) :
    Step K s (s.recvHeadersCount id h isInitial) := by
  unfold Streams.recvHeadersCount; stp_auto
theorem recvHeadersCl_step (hK : Kind.Has K [.contentLength]) (s : Streams) (id : Nat) (h : HeadersIn) : Step K s
    (s.recvHeadersCl id h).1 := by
  unfold Streams.recvHeadersCl; stp_auto
theorem recvHeadersQueue_step (hK : Kind.Has K [.enqueue .pendingAccept, .appendRecv]) (s : Streams) (id : Nat) (h : HeadersIn)
    (isInitial : Bool) : Step K s (s.recvHeadersQueue id h isInitial).1 := by
  unfold Streams.recvHeadersQueue; stp_auto
theorem recvRecvHeaders_step
    (hK : Kind.Has K [.count, .enqueue .pendingAccept, .state .recvOpen, .appendRecv, .contentLength, .ids]) (s : Streams)
    (k : Nat) (h : HeadersIn) : Step K s (s.recvRecvHeaders k h).1 := by
  rw [Streams.recvRecvHeaders_eq]; stp_auto
theorem recvDataEos_step (hK : Kind.Has K [.state .recvClose]) (s : Streams) (id : Nat) (eos : Bool) : Step K s
    (s.recvDataEos id eos).1 := by
  unfold Streams.recvDataEos; stp_auto
theorem recvDataDeliver_step
    (hK : Kind.Has K [.enqueue .pendingWindowUpdates, .appendRecv, .recvFlow, .connRecvFlow, .connTask]) (s : Streams)
    (id : Nat) (payload : Bytes) (eos : Bool) (flowLen sz : Nat) : Step K s (s.recvDataDeliver id payload eos flowLen sz).1 :=
    by
  unfold Streams.recvDataDeliver; stp_auto
theorem recvDataTail_step
    (hK : Kind.Has K [.enqueue .pendingWindowUpdates, .state .recvClose, .appendRecv, .recvFlow, .connRecvFlow, .connTask])
    (s : Streams) (id : Nat) (payload : Bytes) (eos : Bool) (sz flowLen : Nat) : Step K s
    (s.recvDataTail id payload eos sz flowLen).1 := by
  unfold Streams.recvDataTail; stp_auto
theorem recvDataCore_step
    (hK : Kind.Has K [.enqueue .pendingWindowUpdates, .state .recvClose, .appendRecv, .recvFlow, .connRecvFlow, .contentLength,
      .connTask])
    (s : Streams) (id : Nat) (payload : Bytes) (eos : Bool) (flowLen : Nat) : Step K s (s.recvDataCore id payload eos flowLen).1
    := by
  unfold Streams.recvDataCore
  dsimp only
  refine Step.ite_fst (.refl _) (Step.ite_fst (ignoreData_step ?_ _ _) ?_)
  · stp_side
  split
  · stp_auto
  · next s1 _ heq1 =>
    have h1 : Step K s s1 := by
      refine of_fst_eq heq1 (consumeConnectionWindow_step ?_ _ _); stp_side
    refine Step.ite_fst h1 ?_
    split
    · exact h1
    · next st1 hdc =>
      have hu : Stream.Upd K (s1.stream id) st1 := by
        refine .decContentLength _ ?_ hdc; stp_side
      have hk : st1.key = id := by rw [hu.key, stream_key]
      have h2 : Step K s (s1.setStream st1) := h1.trans (setStream_step s1 st1 (by rw [hk]; exact hu))
      generalize s1.setStream st1 = s2 at h2 ⊢
      stp_auto
theorem recvRecvData_step
    (hK : Kind.Has K [.enqueue .pendingWindowUpdates, .state .recvClose, .appendRecv, .recvFlow, .connRecvFlow, .contentLength,
      .connTask])
    (s : Streams) (k : Nat) (payload : Bytes) (eos : Bool) (pad : Option Nat) : Step K s (s.recvRecvData k payload eos pad).1 :=
    by
  rw [Streams.recvRecvData_eq]; stp_auto
theorem recvPollPushed_step (hK : Kind.Has K [.takeRecv, .park, .promise]) (s : Streams) (k : Nat) (t : String) : Step K s
    (s.recvPollPushed k t).1 := by
  unfold Streams.recvPollPushed; stp_auto
theorem maybeCancel_step
    (hK : Kind.Has K [.enqueue .pendingSend, .enqueue .pendingCapacity, .enqueue .pendingResetExpired,
      .dequeue .pendingCapacity, .counterUp .localReset, .state .setScheduledReset, .sendFlow, .connSendFlow, .connTask])
    (s : Streams) (k : Nat) : Step K s (s.maybeCancel k) := by
  unfold Streams.maybeCancel; stp_auto
theorem refReserveCapacity_step
    (hK : Kind.Has K [.enqueue .pendingSend, .enqueue .pendingCapacity, .dequeue .pendingCapacity, .sendFlow, .connSendFlow,
      .connTask])
    (s : Streams) (k c : Nat) : Step K s (s.refReserveCapacity k c) := by
  unfold Streams.refReserveCapacity; stp_auto
theorem refReleaseCapacity_step (hK : Kind.Has K [.enqueue .pendingWindowUpdates, .recvFlow, .connRecvFlow, .connTask])
    (s : Streams) (k c : Nat) : Step K s (s.refReleaseCapacity k c).1 := by
  unfold Streams.refReleaseCapacity; stp_auto
theorem refClearRecvBuffer_step (hK : Kind.Has K [.counterDown .dataFrames, .takeRecv, .recvFlow, .connRecvFlow, .connTask])
    (s : Streams) (k : Nat) : Step K s (s.refClearRecvBuffer k) := by
  unfold Streams.refClearRecvBuffer; stp_auto
theorem pollPendingOpen_step (hK : Kind.Has K [.park]) (s : Streams) (p : Option Nat) (t : String) : Step K s
    (s.pollPendingOpen p t).1 := by
  unfold Streams.pollPendingOpen; stp_auto
theorem cloneHandle_step (s : Streams) : Step K s s.cloneHandle := by
  unfold Streams.cloneHandle; stp_auto
theorem dropHandle_step (hK : Kind.Has K [.connTask]) (s : Streams) : Step K s s.dropHandle := by
  unfold Streams.dropHandle; stp_auto
theorem refPollData_step (hK : Kind.Has K [.counterDown .dataFrames, .takeRecv, .park]) (s : Streams) (k : Nat) (t : String) :
    Step K s (s.refPollData k t).1 := by
  unfold Streams.refPollData; stp_auto
theorem refInc_step (hK : Kind.Has K [.refInc]) (s : Streams) (k : Nat) : Step K s (s.refInc k) := by
  unfold Streams.refInc; stp_auto
theorem cloneStreamRef_step (hK : Kind.Has K [.refInc]) (s : Streams) (k : Nat) : Step K s (s.cloneStreamRef k) := by
  unfold Streams.cloneStreamRef; stp_auto
theorem refPollPushed_step (hK : Kind.Has K [.takeRecv, .refInc, .park, .promise]) (s : Streams) (k : Nat) (t : String) : Step K
    s (s.refPollPushed k t).1 := by
  unfold Streams.refPollPushed; stp_auto
theorem recvNextIncoming_step (hK : Kind.Has K [.dequeue .pendingAccept]) (s : Streams) : Step K s s.recvNextIncoming.1 := by
  unfold Streams.recvNextIncoming; stp_auto
theorem nextIncoming_step (hK : Kind.Has K [.dequeue .pendingAccept, .counterDown .remoteReset, .refInc]) (s : Streams) : Step K
    s s.nextIncoming.1 := by
  unfold Streams.nextIncoming; stp_auto
theorem recvTakeRequest_step (hK : Kind.Has K [.takeRecv]) (s : Streams) (k : Nat) : Step K s (s.recvTakeRequest k).1 := by
  unfold Streams.recvTakeRequest; stp_auto
theorem recvPollResponse_step (hK : Kind.Has K [.takeRecv, .park]) (n : Nat) (s : Streams) (k : Nat) (t : String) : Step K s
    (Streams.recvPollResponse n s k t).1 := by
  induction n generalizing s with
  | zero => unfold Streams.recvPollResponse; exact .refl _
  | succ n ih => unfold Streams.recvPollResponse; stp_auto_ih ih
theorem resetOnRecvStreamErr_step
    (hK : Kind.Has K [.enqueue .pendingSend, .enqueue .pendingCapacity, .enqueue .pendingResetExpired,
      .dequeue .pendingCapacity, .counterUp .localReset, .counterUp .localErrorReset, .state .setReset, .frame .reset,
      .clearSend, .sendFlow, .connSendFlow, .markDrop, .connTask])
    (s : Streams) (k : Nat) (r : Except PErr Unit)
    (hi : ∀ sid c, r = .error (.reset sid c .remote) → K .remoteReset := by stp_initiator) : Step K s
    (s.resetOnRecvStreamErr k r).1 := by
  unfold Streams.resetOnRecvStreamErr
  split
  · next sid reason init =>
    have hi' : init = .remote → K .remoteReset := fun e => hi sid reason (by rw [e])
    stp_auto
  · exact .refl _
theorem setTargetConnectionWindow_step (hK : Kind.Has K [.connRecvFlow, .connTask]) (s : Streams) (t : Nat) : Step K s
    (s.setTargetConnectionWindow t).1 := by
  unfold Streams.setTargetConnectionWindow; stp_auto
theorem recvWindowUpdate_step
    (hK : Kind.Has K [.enqueue .pendingSend, .enqueue .pendingCapacity, .enqueue .pendingResetExpired,
      .dequeue .pendingCapacity, .counterUp .localReset, .counterUp .localErrorReset, .state .setReset, .frame .reset,
      .clearSend, .sendFlow, .connSendFlow, .markDrop, .connTask])
    (s : Streams) (id inc : Nat) : Step K s (s.recvWindowUpdate id inc).1 := by
  unfold Streams.recvWindowUpdate; stp_auto

end H2V.Model.Conn.Streams
