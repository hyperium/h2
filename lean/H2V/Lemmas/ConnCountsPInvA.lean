import H2V.Lemmas.ConnCountsPStreams2
/-
  C05 / C18 / C19 — invariants, part A: keys.  One slab entry per key, keys handed out in increasing
  order, along every evolution `Ev` / `EvT`.  Everything else about the slab is stated through
  look-ups, which this invariant makes unambiguous.
-/
namespace H2V.Lemmas.ConnCountsP
open H2V H2V.Model H2V.Model.Conn
variable {ρ : Bool}

structure KeysOK (s : Streams) : Prop where
  nodup : (s.store.slab.map (·.key)).Nodup
  fresh : KeysFresh s

structure SameKeys (s s' : Streams) : Prop where
  keys : s'.store.slab.map (·.key) = s.store.slab.map (·.key)
  nextKey : s'.store.nextKey = s.store.nextKey

theorem SameKeys.refl (s : Streams) : SameKeys s s := ⟨rfl, rfl⟩
theorem SameKeys.trans {a b c : Streams} (h1 : SameKeys a b) (h2 : SameKeys b c) : SameKeys a c :=
  ⟨h2.keys.trans h1.keys, h2.nextKey.trans h1.nextKey⟩
theorem SameKeys.of_store_eq {s s' : Streams} (h : s'.store = s.store) : SameKeys s s' := ⟨by rw [h], by rw [h]⟩

theorem SameKeys.keysOK {s s' : Streams} (h : SameKeys s s') (hk : KeysOK s) : KeysOK s' := by
  refine ⟨by rw [h.keys]; exact hk.nodup, ?_⟩
  intro x hx
  have : x.key ∈ s'.store.slab.map (·.key) := List.mem_map_of_mem hx
  rw [h.keys] at this
  obtain ⟨y, hy, hyk⟩ := List.mem_map.mp this
  rw [h.nextKey, ← hyk]; exact hk.fresh y hy

theorem SameKeys.setStream (s : Streams) (st' : Stream) : SameKeys s (s.setStream st') := ⟨Store.set_keys _ _, rfl⟩

theorem SameKeys.panic' (s : Streams) (m : String) : SameKeys s (s.panic m) := .of_store_eq (panic_store _ _)
theorem SameKeys.setQ (s : Streams) (q : QName) (l : List Nat) : SameKeys s (s.setQ q l) := .of_store_eq (setQ_store _ _ _)

theorem SameKeys.modStream (s : Streams) (k : Nat) (f : Stream → Stream) : SameKeys s (s.modStream k f) :=
  ⟨s.modStream_keys k f, s.modStream_nextKey k f⟩

theorem SameKeys.modCountsA (s : Streams) (w : String) (f : Counts → Option Counts) : SameKeys s (s.modCountsA w f) :=
  .of_store_eq (s.modCountsA_store w f)

theorem SameKeys.qPush (s : Streams) (q : QName) (k : Nat) : SameKeys s (s.qPush q k).1 := ⟨s.qPush_keys q k, s.qPush_nextKey q k⟩
theorem SameKeys.qPushFront (s : Streams) (q : QName) (k : Nat) : SameKeys s (s.qPushFront q k).1 := by
  rw [Streams.qPushFront_fst]
  split
  · exact .refl _
  · exact (SameKeys.modStream _ _ _).trans (SameKeys.setQ _ _ _)
theorem SameKeys.qPop (s : Streams) (q : QName) : SameKeys s (s.qPop q).1 := ⟨s.qPop_keys q, s.qPop_nextKey q⟩
theorem SameKeys.incNumSendStreams (s : Streams) (k : Nat) : SameKeys s (s.incNumSendStreams k) := by
  rw [Streams.incNumSendStreams_eq]
  exact (SameKeys.of_store_eq (Streams.incNumSendStreamsC_store s k)).trans (SameKeys.modStream _ _ _)
theorem SameKeys.decNumStreams (s : Streams) (k : Nat) : SameKeys s (s.decNumStreams k) :=
  ⟨Streams.decNumStreams_keys s k, Streams.decNumStreams_nextKey s k⟩

theorem KeysOK.insert {s : Streams} (h : KeysOK s) (st : Stream) : KeysOK { s with store := (s.store.insert st).1 } := by
  refine ⟨?_, ?_⟩
  · show ((s.store.slab ++ [({ st with key := s.store.nextKey } : Stream)]).map (fun x : Stream => x.key)).Nodup
    rw [List.map_append, List.nodup_append]
    refine ⟨h.nodup, by simp, ?_⟩
    intro a ha b hb
    simp only [List.map_cons, List.map_nil, List.mem_singleton] at hb
    obtain ⟨y, hy, hyk⟩ := List.mem_map.mp ha
    have := h.fresh y hy
    omega
  · intro x hx
    have hx' : x ∈ s.store.slab ++ [({ st with key := s.store.nextKey } : Stream)] := hx
    show x.key < s.store.nextKey + 1
    rcases List.mem_append.mp hx' with h1 | h1
    · have := h.fresh x h1; omega
    · simp only [List.mem_singleton] at h1; rw [h1]; exact Nat.lt_succ_self _

theorem KeysOK.remove {s : Streams} (h : KeysOK s) (k n : Nat) :
    KeysOK { s with store := s.store.remove k, recvBufferLeaked := n } := by
  refine ⟨?_, ?_⟩
  · show ((s.store.slab.filter (·.key != k)).map (·.key)).Nodup
    exact ((List.filter_sublist (l := s.store.slab) (p := fun x => x.key != k)).map (fun x : Stream => x.key)).nodup h.nodup
  · intro x hx
    have hx' : x ∈ s.store.slab.filter (·.key != k) := hx
    exact h.fresh x (List.mem_filter.mp hx').1

theorem EvB.keysOK {s s' : Streams} (h : EvB ρ s s') : KeysOK s → KeysOK s' :=
  EvB.closed (R := fun s s' => KeysOK s → KeysOK s') (okS := fun _ _ => True) (okQ := fun _ _ _ => True) (okC := fun _ _ => True)
    ⟨fun _ => id, fun h1 h2 h => h2 (h1 h), fun h => (SameKeys.of_store_eq h.store).keysOK,
     fun s st' _ => (SameKeys.setStream s st').keysOK, fun s q l _ => (SameKeys.setQ s q l).keysOK,
     fun _ _ _ h => ⟨h.nodup, h.fresh⟩⟩
    (fun _ => trivial) (fun _ _ => trivial) (fun _ _ => trivial) (fun _ _ => trivial) (fun _ _ _ => trivial)
    (fun t q k => (SameKeys.qPush t q k).keysOK) (fun t q k => (SameKeys.qPushFront t q k).keysOK)
    (fun t q _ => (SameKeys.qPop t q).keysOK) (fun _ _ _ _ => trivial) (fun _ _ st _ h => h.insert st)
    (fun _ _ h => ⟨h.nodup, h.fresh⟩) (fun _ k n _ h => h.remove k n) h

theorem transitionAfter_split (s : Streams) (k : Nat) (b : Bool) :
    s.transitionAfter k b =
      (if (b && !(s.stream k).isPendingResetExpiration) = true then
        s.modCountsA "self.num_local_reset_streams > 0" Counts.decNumResetStreams else s).transitionAfter k false := by
  show _ = (((s.taResetCount k b).taResetCount k false).taClose ((s.taResetCount k b).stream k) k).taRelease k
  rw [Streams.taResetCount_stream]; rfl

/-- the tail of `EvT`'s `resetPop` -/
theorem transitionAfter_false_ev (s : Streams) (k : Nat) : Ev s (s.transitionAfter k false) :=
  transitionAfter_ev s k false (fun h => Bool.noConfusion h)

theorem EvT.keysOK {s s' : Streams} (h : EvT s s') : KeysOK s → KeysOK s' := by
  induction h with
  | ev h => exact h.keysOK
  | trans _ _ ih1 ih2 => exact fun h => ih2 (ih1 h)
  | resetPop =>
    rename_i s0
    intro h
    have := (SameKeys.qPop s0 QName.pendingResetExpired).keysOK h
    split
    · next s1 id heq =>
      rw [heq] at this
      rw [transitionAfter_split]
      refine (transitionAfter_false_ev _ _).keysOK ?_
      split
      · exact (SameKeys.modCountsA _ _ _).keysOK this
      · exact this
    · next s1 heq => rw [heq] at this; exact this

end H2V.Lemmas.ConnCountsP
