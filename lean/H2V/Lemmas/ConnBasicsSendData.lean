import H2V.Lemmas.ConnWakePClone
import H2V.Lemmas.ConnBasics
/-
  `Stream.sendData` as a record update.  The kernel cannot unfold `Stream.sendData` (see
  `ConnWakePClone.lean`); the equations are proved of the clone `sendDataC capf`, where the capacity
  function is a variable, and transported along `sendDataC.eq`.
-/
namespace H2V.Model.Conn
open H2V H2V.Model H2V.Lemmas.ConnWakeP

namespace Stream

/-- the stream once `send_data` has charged the window and the buffer counters, before the capacity
    notification -/
def sendDataCharged (x : Stream) (len : Nat) : Stream :=
  { x with sendFlow := (x.sendFlow.sendData len).1,
           bufferedSendData := wrapSubUsize x.bufferedSendData len,
           requestedSendCapacity := wrapSubU32 x.requestedSendCapacity len }

theorem sendDataC_fst (capf : Stream → Nat → Nat) (x : Stream) (len m : Nat) :
    (sendDataC capf x len m).1 =
      if capf x m < capf (x.sendDataCharged len) m then
        { x.sendDataCharged len with sendCapacityInc := true, sendTask := none, openTask := none }
      else x.sendDataCharged len := by
  rw [sendDataC_def]
  rcases h : x.sendFlow.sendData len with ⟨fl, r⟩
  simp only [sendDataCharged, h]
  split
  · rw [notifyCapacity_fst]
  · rfl

theorem sendDataC_wakes (capf : Stream → Nat → Nat) (x : Stream) (len m : Nat) :
    (sendDataC capf x len m).2.1 =
      if capf x m < capf (x.sendDataCharged len) m then x.sendTask.toList ++ x.openTask.toList else [] := by
  rw [sendDataC_def]
  rcases h : x.sendFlow.sendData len with ⟨fl, r⟩
  simp only [sendDataCharged, h]
  split
  · rw [notifyCapacity_snd]
  · rfl

theorem sendDataC_assert (capf : Stream → Nat → Nat) (x : Stream) (len m : Nat) :
    (sendDataC capf x len m).2.2 =
      match (x.sendFlow.sendData len).2 with
      | .error .assertFailed => true
      | _ => false := by
  rw [sendDataC_def]
  rcases x.sendFlow.sendData len with ⟨fl, r⟩
  rfl

theorem sendData_fst (x : Stream) (len m : Nat) :
    (x.sendData len m).1 =
      if x.capacity m < (x.sendDataCharged len).capacity m then
        { x.sendDataCharged len with sendCapacityInc := true, sendTask := none, openTask := none }
      else x.sendDataCharged len := by
  rw [sendDataC.eq]; exact sendDataC_fst _ x len m

theorem sendData_wakes (x : Stream) (len m : Nat) :
    (x.sendData len m).2.1 =
      if x.capacity m < (x.sendDataCharged len).capacity m then x.sendTask.toList ++ x.openTask.toList else [] := by
  rw [sendDataC.eq]; exact sendDataC_wakes _ x len m

theorem sendData_assert (x : Stream) (len m : Nat) :
    (x.sendData len m).2.2 =
      match (x.sendFlow.sendData len).2 with
      | .error .assertFailed => true
      | _ => false := by
  rw [sendDataC.eq]; exact sendDataC_assert _ x len m

end Stream

end H2V.Model.Conn
