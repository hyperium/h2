import H2V.Lemmas.ConnNoPanicPHist
import H2V.Lemmas.ConnRecvPReach
import H2V.Lemmas.ConnFlowPReach
/-
  C08 (no panic) — the flow-control invariants of the neighbouring families along the operations of `Op`:
  ConnRecvP's connection-level receive-window invariant (`JR`: `set_target_window_size` cannot panic); its stream-level one
  (`JF`), which survives every operation that answers Ok — the two operations that can answer an error are
  `Inner::send_reset` (only "too_many_internal_resets": excluded by `ErrOK`) and `apply_local_settings` (FLOW_CONTROL_ERROR
  while applying an acknowledged SETTINGS_INITIAL_WINDOW_SIZE: precondition `okPre`); ConnFlowP's send-side `SafeInv`.
-/
namespace H2V.Lemmas.ConnNoPanicP
open H2V H2V.Model H2V.Model.Conn H2V.Lemmas.ConnCountsP
open H2V.Lemmas.ConnResetP (Op run)

/-- ConnRecvP's connection-level receive-window invariant, for some configuration ghost -/
def JR (s : Streams) : Prop := ∃ g, ConnRecvP.Inv false g s

theorem JR_step {s : Streams} (hj : JR s) (op : Op) (hv : (ConnRecvP.Op.ofReset op).valid s) : JR (op.apply s) := by
  obtain ⟨g, hg⟩ := hj
  rw [← ConnRecvP.Op.ofReset_apply]
  exact ⟨_, ((ConnRecvP.Op.ofReset op).step_inv hg hv).1⟩

theorem JR.add_nonneg {s : Streams} (hj : JR s) :
    ∀ w, s.recv.flow.available.add s.recv.inFlightData = .ok w → 0 ≤ w.val := by
  obtain ⟨g, h⟩ := hj
  intro w hw
  have hb := h.cI_bound
  have hc := h.cons
  have hA := (H2V.Lemmas.Comp.inI32_iff _).1 h.aI32
  have ht := h.tHi
  have hm := h.hiMax
  simp only [ConnRecvP.cA, ConnRecvP.cI] at hb hc hA
  unfold Window.add checkedAdd at hw
  split at hw
  · next v hv =>
    cases hw
    split at hv
    · next hi =>
      cases hv
      have hi' := (H2V.Lemmas.Comp.inI32_iff _).1 hi
      show 0 ≤ s.recv.flow.available.val + u32AsI32 s.recv.inFlightData
      unfold u32AsI32 U32_MOD at hi' ⊢
      dsimp only at hi' ⊢
      have hmod : s.recv.inFlightData % 4294967296 = s.recv.inFlightData := Nat.mod_eq_of_lt hb.2
      rw [hmod] at hi' ⊢
      split at hi' <;> split <;> omega
    · cases hv
  · cases hw

theorem setTargetConnectionWindow_lt (s : Streams) (t : Nat)
    (hw : ∀ w, s.recv.flow.available.add s.recv.inFlightData = .ok w → 0 ≤ w.val) :
    LT [] s (s.setTargetConnectionWindow t).1 := by
  unfold Streams.setTargetConnectionWindow
  split
  · exact .refl _ _
  · next w heq =>
    have h0 := hw w heq
    split
    · next hn =>
      exfalso
      unfold Window.checkedSize at hn
      split at hn
      · omega
      · cases hn
    · lt_auto

/-- **`set_target_window_size` cannot panic**: `Window::checked_size`'s `assert!(self.0 >= 0)` ("negative Window") is
    dead because `available + in_flight_data` is the configured target (ConnRecvP's connection-level invariant) -/
theorem setTargetConnectionWindow_npi {E : Nat → Prop} {s : Streams} (hn : NPI E s) (hj : JR s) (t : Nat) :
    NPI E (s.setTargetConnectionWindow t).1 :=
  hn.lt (setTargetConnectionWindow_lt s t hj.add_nonneg).w (liveAll0 s) (setTargetConnectionWindow_ev (ρ := false) s t) noE

theorem actionsSendReset_ok {s : Streams} (he : ErrOK s) (k : Nat) (r : Reason) (i : Initiator) :
    (s.actionsSendReset k r i).2 = .ok () := by
  rw [actionsSendReset_eq]
  unfold Streams.transition actionsSendResetClosure
  unfold ErrOK at he
  simp only [he, if_true]
  cases i.isLibrary <;> rfl

theorem innerSendReset_ok {s : Streams} (he : ErrOK s) (id : Nat) (r : Reason) : (s.innerSendReset id r).2 = .ok () := by
  unfold Streams.innerSendReset
  cases hfk : s.store.findKey? id with
  | some k => exact actionsSendReset_ok he k r .library
  | none =>
    dsimp only
    apply actionsSendReset_ok
    show (if s.counts.isLocalInit id = true then s.sendMaybeResetNextStreamId id else s.recvMaybeResetNextStreamId id).counts.canIncNumLocalErrorResets = true
    have : (if s.counts.isLocalInit id = true then s.sendMaybeResetNextStreamId id else s.recvMaybeResetNextStreamId id).counts = s.counts := by
      unfold Streams.sendMaybeResetNextStreamId Streams.recvMaybeResetNextStreamId
      repeat' split
      all_goals rfl
    rw [this]; exact he

/-- the acknowledged local SETTINGS could be applied -/
def okPre (s : Streams) : Op → Prop
  | .applyLocalSettingsFrame vals => (s.applyLocalSettingsFrame vals).2 = .ok ()
  | _ => True

/-- …in particular when they carry no SETTINGS_INITIAL_WINDOW_SIZE -/
theorem applyLocalSettingsFrame_ok_of_none (s : Streams) (vals : List (Nat × Nat)) (h : ConnRecvP.settingsIws vals = none) :
    (s.applyLocalSettingsFrame vals).2 = .ok () := by
  unfold Streams.applyLocalSettingsFrame Streams.applyLocalSettings
  unfold ConnRecvP.settingsIws at h
  simp only [h]

/-- ConnRecvP's full receive-window invariant (connection and stream level), for some configuration ghost -/
def JF (s : Streams) : Prop := ∃ g, ConnRecvP.Inv true g s

theorem JF.jr {s : Streams} (h : JF s) : JR s := let ⟨g, hg⟩ := h; ⟨g, hg.drop_full⟩

theorem JF_step {s : Streams} (hj : JF s) (op : Op) (hv : (ConnRecvP.Op.ofReset op).valid s) (he : ErrOK s) (hok : okPre s op) :
    JF (op.apply s) := by
  obtain ⟨g, hg⟩ := hj
  rw [← ConnRecvP.Op.ofReset_apply]
  refine ⟨_, ((ConnRecvP.Op.ofReset op).step_inv hg hv).2 ?_⟩
  cases op <;> first
    | exact trivial
    | exact hok
    | exact innerSendReset_ok he _ _

open H2V.Lemmas.ConnFlowP (SafeInv)

/-- argument bounds the decoder guarantees (ConnFlowP's `Reach`) -/
def flowPre : Op → Prop
  | .recvWindowUpdate _ inc => inc ≤ 2147483647
  | .applyRemoteSettings vals _ => ConnFlowP.SettingsOk vals
  | _ => True

theorem safeInv_step {s : Streams} (ih : SafeInv s) (op : Op) (hv : flowPre op) : SafeInv (op.apply s) :=
  (ConnFlowP.Mv.op op hv s).safe ih

end H2V.Lemmas.ConnNoPanicP
