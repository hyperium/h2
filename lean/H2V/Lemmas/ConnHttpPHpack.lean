import H2V.Lemmas.ConnHttpPTrack
import H2V.Lemmas.HpackDecInv
/-
  C13 (ConnHttpP) — what the HPACK layer guarantees about every field it hands to
  `HeaderBlock::load`: `fieldOk` (lower-case well-formed name, only the six known pseudo-header names,
  three-digit `:status`), for every decoder state whose dynamic table holds such fields only — an
  invariant of `Decoder::decode`.
-/
namespace H2V.Lemmas.ConnHttpP
open H2V H2V.Model H2V.Model.Frame H2V.Model.Hpack H2V.Lemmas.HpackDec

/-- every entry of the dynamic table is a field the decoder once accepted -/
def TableOk (t : Table) : Prop := ∀ h ∈ t.entries, fieldOk h = true

theorem static_ok : ∀ h ∈ Generated.Static.staticL, fieldOk h = true := by decide +kernel

theorem nameChar_ok (b : Nat) (h : Http.nameCharH2 b = true) : 32 < b ∧ b < 127 ∧ ¬(65 ≤ b ∧ b ≤ 90) ∧ b ≠ 58 := by
  unfold Http.nameCharH2 Http.isDigit Http.isLower at h
  simp only [Bool.or_eq_true, Bool.and_eq_true, decide_eq_true_eq, beq_iff_eq] at h
  omega

theorem validName_ok (n : Bytes) (hp : n.head? ≠ some 58) (h : Http.validName n = true) :
    Spec.Http.nameOk n = true := by
  unfold Http.validName at h
  simp only [Bool.and_eq_true, Bool.not_eq_true', decide_eq_true_eq, List.all_eq_true] at h
  unfold Spec.Http.nameOk
  have : (n.head? == some 58) = false := by simpa using hp
  simp only [this, Bool.false_eq_true, if_false, Bool.and_eq_true, Bool.not_eq_true', List.all_eq_true]
  refine ⟨h.1.1, fun b hb => ?_⟩
  have := nameChar_ok b (h.2 b hb)
  simp only [decide_eq_true_eq, Bool.and_eq_false_iff, decide_eq_false_iff_not, bne_iff_ne, ne_eq]
  omega

theorem nameOk_known : ∀ n ∈ known, Spec.Http.nameOk n = true := by decide +kernel
theorem contains_known : ∀ n ∈ known, Spec.Http.knownPseudo.contains n = true := by decide +kernel

theorem validStatus_ok (v : Bytes) (h : Http.validStatus v = true) : Spec.Http.statusOk v = true := by
  unfold Http.validStatus at h
  unfold Spec.Http.statusOk
  split at h
  · simpa [Http.isDigit, Bool.and_assoc] using h
  · cases h

theorem pseudo_fieldOk (n : Bytes) (hn : n ∈ known) (hs : n ≠ pStatus) (v : Bytes) : fieldOk (n, v) = true := by
  rw [fieldOk_iff]
  exact ⟨nameOk_known n hn, fun _ => contains_known n hn, fun e => absurd e hs⟩

theorem status_fieldOk (v : Bytes) (hv : Http.validStatus v = true) : fieldOk (pStatus, v) = true := by
  rw [fieldOk_iff]
  exact ⟨nameOk_known _ (by simp [known]), fun _ => contains_known _ (by simp [known]), fun _ => validStatus_ok _ hv⟩

/-- `Header::new` only lets `fieldOk` fields through -/
theorem mkHeader_fieldOk (name value : Bytes) (h : Header) (hk : mkHeader name value = .ok h) :
    fieldOk h = true := by
  have e := mkHeader_ok name value h hk
  subst e
  unfold mkHeader at hk
  split at hk
  · cases hk
  · split at hk
    · rename_i hp
      split at hk
      · rename_i hn
        exact pseudo_fieldOk _ (by rcases hn with rfl | rfl | rfl | rfl <;> simp [known])
          (by rcases hn with rfl | rfl | rfl | rfl <;> decide) _
      · split at hk
        · rename_i hn; subst hn; exact pseudo_fieldOk _ (by simp [known]) (by decide) _
        · split at hk
          · rename_i hn
            subst hn
            split at hk
            · rename_i hv; exact status_fieldOk _ hv
            · cases hk
          · cases hk
    · rename_i hp
      split at hk
      · cases hk
      · rename_i hv
        split at hk
        · cases hk
        · rw [fieldOk_iff]
          refine ⟨validName_ok name hp (by simpa using hv), fun hps => ?_, fun e => ?_⟩
          · simp [Spec.Http.isPseudo] at hps; exact absurd hps hp
          · subst e; exact absurd rfl hp

/-- `Name::into_entry`: the name comes from a table entry, the value is checked -/
theorem intoEntry_fieldOk (e : Header) (value : Bytes) (h : Header) (he : fieldOk e = true)
    (hk : intoEntry e.1 value = .ok h) : fieldOk h = true := by
  have eq := intoEntry_ok e.1 value h hk
  subst eq
  by_cases hs : e.1 = pStatus
  · unfold intoEntry at hk
    rw [hs] at hk ⊢
    simp only [show ¬(pStatus = pAuthority ∨ pStatus = pScheme ∨ pStatus = pPath ∨ pStatus = pProtocol) by decide,
      show ¬(pStatus = pMethod) by decide, if_false, if_true] at hk
    split at hk
    · rename_i hv; exact status_fieldOk _ hv
    · cases hk
  · have := (fieldOk_iff e).mp he
    rw [fieldOk_iff]
    exact ⟨this.1, this.2.1, fun x => absurd x hs⟩

theorem get_fieldOk (t : Table) (i : Nat) (h : Header) (ht : TableOk t) (hg : t.get i = .ok h) :
    fieldOk h = true := by
  unfold Table.get at hg
  split at hg
  · cases hg
  · split at hg
    · split at hg
      · rename_i h' hs
        cases hg
        exact static_ok _ (List.mem_of_getElem? hs)
      · cases hg
    · split at hg
      · rename_i h' hs
        cases hg
        exact ht _ (List.mem_of_getElem? hs)
      · cases hg

theorem decodeLiteral_fieldOk (t : Table) (buf rest : Bytes) (index : Bool) (h : Header) (ht : TableOk t)
    (hk : decodeLiteral t buf index = .ok (h, rest)) : fieldOk h = true := by
  unfold decodeLiteral at hk
  split at hk
  · cases hk
  · split at hk
    · split at hk
      · cases hk
      · split at hk
        · cases hk
        · split at hk
          · cases hk
          · rename_i h' hm
            cases hk
            exact mkHeader_fieldOk _ _ _ hm
    · split at hk
      · cases hk
      · rename_i e hg
        split at hk
        · cases hk
        · split at hk
          · cases hk
          · rename_i h' hi
            cases hk
            exact intoEntry_fieldOk e _ _ (get_fieldOk t _ e ht hg) hi

theorem reserve_go_sub (n : Nat) : ∀ (fuel : Nat) (t : Table), ∀ h ∈ (Table.reserve.go n fuel t).entries, h ∈ t.entries
  | 0, t, h, hh => hh
  | fuel + 1, t, h, hh => by
    unfold Table.reserve.go at hh
    split at hh
    · split at hh
      · exact List.dropLast_subset _ (reserve_go_sub n fuel _ h hh)
      · exact hh
    · exact hh

theorem insert_tableOk (t : Table) (h : Header) (ht : TableOk t) (hh : fieldOk h = true) : TableOk (t.insert h) := by
  unfold Table.insert
  have hr : TableOk (t.reserve h.size) := fun x hx => ht x (reserve_go_sub _ _ _ x hx)
  simp only
  split
  · intro x hx
    rcases List.mem_cons.mp hx with rfl | hx'
    · exact hh
    · exact hr x hx'
  · exact hr

theorem consolidate_sub : ∀ (fuel : Nat) (t r : Table), Table.consolidate fuel t = some r →
    ∀ h ∈ r.entries, h ∈ t.entries
  | 0, t, r, hc, h, hh => by
    unfold Table.consolidate at hc
    split at hc
    · cases hc
    · cases hc; exact hh
  | fuel + 1, t, r, hc, h, hh => by
    unfold Table.consolidate at hc
    split at hc
    · split at hc
      · exact List.dropLast_subset _ (consolidate_sub fuel _ r hc h hh)
      · cases hc
    · cases hc; exact hh

theorem step_next_ok (d : Decoder) (c : Bool) (buf : Bytes) (d' : Decoder) (c' : Bool) (rest : Bytes)
    (emit : List Header) (ht : TableOk d.table) (h : step d c buf = .next d' c' rest emit) :
    TableOk d'.table ∧ ∀ x ∈ emit, fieldOk x = true := by
  have hs := step_cases d c buf
  rw [h] at hs
  cases hs with
  | indexed hg =>
    exact ⟨ht, fun x hx => by rw [List.mem_singleton.mp hx]; exact get_fieldOk _ _ _ ht hg⟩
  | @literal index _ _ _ hk =>
    have hf := decodeLiteral_fieldOk _ _ _ _ _ ht hk
    refine ⟨?_, fun x hx => by rw [List.mem_singleton.mp hx]; exact hf⟩
    cases index
    · exact ht
    · exact insert_tableOk _ _ ht hf
  | resize _ _ hs => exact ⟨fun x hx => ht x (consolidate_sub _ _ _ hs x hx), fun x hx => by cases hx⟩

theorem decodeLoop_ok : ∀ (fuel : Nat) (d : Decoder) (c : Bool) (buf : Bytes) (acc : List Header),
    TableOk d.table → (∀ x ∈ acc, fieldOk x = true) →
    TableOk (decodeLoop fuel d c buf acc).dec.table ∧ ∀ x ∈ (decodeLoop fuel d c buf acc).fields, fieldOk x = true
  | 0, d, c, buf, acc, ht, ha => by rw [decodeLoop_zero]; exact ⟨ht, ha⟩
  | fuel + 1, d, c, buf, acc, ht, ha => by
    rw [decodeLoop_succ]
    cases hs : step d c buf with
    | stop d' tl res =>
      simp only
      exact ⟨by rw [(step_stop_sameCfg _ _ _ _ _ _ hs).2.1]; exact ht, ha⟩
    | next d' c' rest emit =>
      simp only
      obtain ⟨t', e'⟩ := step_next_ok _ _ _ _ _ _ _ ht hs
      exact decodeLoop_ok fuel d' c' rest (acc ++ emit) t' fun x hx => by
        rcases List.mem_append.mp hx with h | h
        · exact ha x h
        · exact e' x h

/-- **`Decoder::decode` hands `fieldOk` fields only to its callback and keeps the table invariant** -/
theorem decode_ok (d : Decoder) (src : Bytes) (ht : TableOk d.table) :
    TableOk (d.decode src).dec.table ∧ ∀ x ∈ (d.decode src).fields, fieldOk x = true := by
  rw [decode_eq]
  exact decodeLoop_ok _ _ _ _ _ (by rw [prep_table]; exact ht) (fun x hx => by cases hx)

theorem new_tableOk (n : Nat) : TableOk (Decoder.new n).table := fun x hx => by cases hx

end H2V.Lemmas.ConnHttpP
