import H2V.Lemmas.ConnNoPanicPStreams
import H2V.Lemmas.ConnWakePForEach
import H2V.Lemmas.ConnWakePEndAll
/-
  C08 (no panic): the functions that release streams.  `transition_after` in detail (its
  effect on slab and id map, when its `assert!`s can fire), the id-map invariant `IdsOK`, and the
  full invariant `NPI` (= `NPQ` + the counting invariants of ConnCountsP + `IdsOK`).
-/
namespace H2V.Lemmas.ConnNoPanicP
open H2V H2V.Model H2V.Model.Conn H2V.Lemmas.ConnCountsP

theorem decNumStreams_inner_store (s : Streams) (k : Nat) :
    ∃ t : Streams, t.store = s.store ∧ s.decNumStreams k = t.modStream k fun st => { st with isCounted := false } :=
  ⟨_, Streams.decNumStreamsC_store s k, Streams.decNumStreams_eq s k⟩

theorem decNumStreams_spr {α : Type} {P : Stream → α} (s : Streams) (k : Nat)
    (h : ∀ x b, P ({ x with isCounted := b } : Stream) = P x) : SPr P s (s.decNumStreams k) := by
  obtain ⟨t, ht, e⟩ := decNumStreams_inner_store s k
  rw [e]
  exact (SPr.of_store ht).trans (SPr.modStream _ _ _ (fun _ => rfl) (fun x => h x false))

theorem decNumStreams_av (s : Streams) (k : Nat) (h : AvOK s) : AvOK (s.decNumStreams k) := by
  obtain ⟨t, ht, e⟩ := decNumStreams_inner_store s k
  rw [e]
  exact avOK_modStream_flow _ _ (fun _ => rfl) (by unfold AvOK; rw [ht]; exact h)

/-- a step that keeps keys, stream ids, reference counts, capacities; the id map is given separately -/
structure Fr (s m : Streams) : Prop where
  keys : SameKeys s m
  sid : SPr (·.id) s m
  ref : SPr (·.refCount) s m
  core : SPr coreOf s m
  av : AvOK s → AvOK m

theorem Fr.refl (s : Streams) : Fr s s := ⟨SameKeys.refl _, SPr.refl _ _, SPr.refl _ _, SPr.refl _ _, id⟩
theorem Fr.trans {a b c : Streams} (h1 : Fr a b) (h2 : Fr b c) : Fr a c :=
  ⟨h1.keys.trans h2.keys, h1.sid.trans h2.sid, h1.ref.trans h2.ref, h1.core.trans h2.core, fun h => h2.av (h1.av h)⟩
theorem Fr.of_store {s m : Streams} (h : m.store = s.store) : Fr s m :=
  ⟨.of_store_eq h, .of_store h, .of_store h, .of_store h, fun ha => by unfold AvOK; rw [h]; exact ha⟩
theorem Fr.of_slab {s m : Streams} (h : m.store.slab = s.store.slab) (hn : m.store.nextKey = s.store.nextKey) : Fr s m := by
  have hst : ∀ j, m.stream j = s.stream j := fun j => by unfold Streams.stream Store.get?; rw [h]
  exact ⟨⟨by rw [h], hn⟩, fun j => by rw [hst], fun j => by rw [hst], fun j => by rw [hst],
    fun ha => by unfold AvOK; rw [h]; exact ha⟩
theorem Fr.decNumStreams (s : Streams) (k : Nat) : Fr s (s.decNumStreams k) :=
  ⟨SameKeys.decNumStreams _ _, decNumStreams_spr _ _ (fun _ _ => rfl), decNumStreams_spr _ _ (fun _ _ => rfl),
   decNumStreams_spr _ _ (fun _ _ => rfl), decNumStreams_av _ _⟩

theorem isClosed_of_core' {a b : Stream} (h : coreOf b = coreOf a) : b.isClosed = a.isClosed := isClosed_of_core h

/-- `Fr` together with the frame of one more projection -/
structure FrP {α : Type} (P : Stream → α) (s m : Streams) : Prop where
  fr : Fr s m
  p : SPr P s m

theorem FrP.refl {α : Type} (P : Stream → α) (s : Streams) : FrP P s s := ⟨Fr.refl s, SPr.refl _ _⟩
theorem FrP.trans {α : Type} {P : Stream → α} {a b c : Streams} (h1 : FrP P a b) (h2 : FrP P b c) : FrP P a c :=
  ⟨h1.fr.trans h2.fr, h1.p.trans h2.p⟩
theorem FrP.of_store {α : Type} {P : Stream → α} {s m : Streams} (h : m.store = s.store) : FrP P s m :=
  ⟨Fr.of_store h, SPr.of_store h⟩
theorem FrP.of_slab {α : Type} {P : Stream → α} {s m : Streams} (h : m.store.slab = s.store.slab)
    (hn : m.store.nextKey = s.store.nextKey) : FrP P s m :=
  ⟨Fr.of_slab h hn, fun j => by
    have : m.stream j = s.stream j := by unfold Streams.stream Store.get?; rw [h]
    rw [this]⟩
theorem FrP.decNumStreams {α : Type} {P : Stream → α} (hP : ∀ x b, P ({ x with isCounted := b } : Stream) = P x)
    (s : Streams) (k : Nat) : FrP P s (s.decNumStreams k) :=
  ⟨Fr.decNumStreams s k, decNumStreams_spr s k hP⟩

/-- the second stage of `transition_after` (`st`: the stream on entry) is a frame step; the id map loses `st.id`
    exactly when `st` is closed and not remembered for reset expiration -/
theorem taClose_frP {α : Type} {P : Stream → α} (hP : ∀ x b, P ({ x with isCounted := b } : Stream) = P x)
    (s : Streams) (st : Stream) (k : Nat) :
    FrP P s (s.taClose st k) ∧ (s.taClose st k).store.ids =
      if (st.isClosed && !st.resetAt) = true then Store.swapRemove s.store.ids st.id else s.store.ids := by
  unfold Streams.taClose
  cases hc : st.isClosed
  · exact ⟨.refl _ _, rfl⟩
  · dsimp only
    generalize hs3 : (if (!st.isPendingResetExpiration) = true then
        ({ s with store := s.store.unlink st.id } : Streams) else s) = s3
    have h3 : FrP P s s3 ∧ s3.store.ids = if (true && !st.resetAt) = true
        then Store.swapRemove s.store.ids st.id else s.store.ids := by
      rw [← hs3]
      cases hr : st.resetAt
      · simp only [Stream.isPendingResetExpiration, hr, Bool.not_false, Bool.and_self, if_true]
        exact ⟨FrP.of_slab rfl rfl, rfl⟩
      · simp only [Stream.isPendingResetExpiration, hr, Bool.not_true, Bool.and_false, Bool.false_eq_true, if_false]
        exact ⟨.refl _ _, trivial⟩
    rw [if_pos rfl]
    split
    · exact ⟨h3.1.trans (FrP.decNumStreams hP _ _), by rw [Streams.decNumStreams_ids]; exact h3.2⟩
    · exact h3

/-- **what `transition_after` does to the store**: up to a frame step `m` (counters, `is_counted`) the id
    map loses the stream's id exactly when the stream is closed and not remembered for reset expiration,
    and the slab loses exactly entry `k`, and only in that case; the frame covers every projection `P` of the
    entries that does not look at `is_counted` -/
theorem transitionAfter_shapeP {α : Type} (P : Stream → α) (hP : ∀ x b, P ({ x with isCounted := b } : Stream) = P x)
    (s : Streams) (k : Nat) (b : Bool) :
    ∃ m : Streams, FrP P s m ∧
      (m.store.ids = if ((s.stream k).isClosed && !(s.stream k).resetAt) = true
                     then Store.swapRemove s.store.ids (s.stream k).id else s.store.ids) ∧
      ((s.transitionAfter k b).store = m.store ∨
       ((s.stream k).isClosed = true ∧ (s.stream k).resetAt = false ∧ (s.transitionAfter k b).store = m.store.remove k)) := by
  rw [Streams.transitionAfter_eq]
  have h1 : (s.taResetCount k b).store = s.store := Streams.taResetCount_store s k b
  obtain ⟨hf, hi⟩ := taClose_frP hP (s.taResetCount k b) (s.stream k) k
  generalize (s.taResetCount k b).taClose (s.stream k) k = s2 at hf hi
  have h2 : FrP P s s2 := (FrP.of_store h1).trans hf
  rw [h1] at hi
  unfold Streams.taRelease
  by_cases hrel : (s2.stream k).isReleased = true
  · rw [if_pos hrel]
    have hcl : (s.stream k).isClosed = true ∧ (s.stream k).resetAt = false := by
      have hc2 : (s2.stream k).isClosed = true ∧ (s2.stream k).resetAt = false := by
        unfold Stream.isReleased at hrel
        simp only [Bool.and_eq_true, Bool.not_eq_true', beq_iff_eq] at hrel
        exact ⟨hrel.1.1.1.1.1.1.1, hrel.2⟩
      rw [isClosed_of_core (h2.fr.core k), resetAt_of_core (h2.fr.core k)] at hc2
      exact hc2
    refine ⟨if (s2.stream k).isCounted = true then s2.decNumStreams k else s2, ?_, ?_, Or.inr ⟨hcl.1, hcl.2, rfl⟩⟩
    · split
      · exact h2.trans (FrP.decNumStreams hP _ _)
      · exact h2
    · split
      · rw [Streams.decNumStreams_ids]; exact hi
      · exact hi
  · rw [if_neg hrel]
    exact ⟨s2, h2, hi, Or.inl rfl⟩

theorem transitionAfter_shape (s : Streams) (k : Nat) (b : Bool) :
    ∃ m : Streams, Fr s m ∧
      (m.store.ids = if ((s.stream k).isClosed && !(s.stream k).resetAt) = true
                     then Store.swapRemove s.store.ids (s.stream k).id else s.store.ids) ∧
      ((s.transitionAfter k b).store = m.store ∨
       ((s.stream k).isClosed = true ∧ (s.stream k).resetAt = false ∧ (s.transitionAfter k b).store = m.store.remove k)) :=
  let ⟨m, hf, h⟩ := transitionAfter_shapeP (fun _ => ()) (fun _ _ => rfl) s k b
  ⟨m, hf.fr, h⟩

theorem live_of_counted {s : Streams} {k : Nat} (h : (s.stream k).isCounted = true) : Live s k := by
  unfold Streams.stream at h
  cases hx : s.store.get? k with
  | some x => exact ⟨x, hx⟩
  | none => rw [hx] at h; cases h

theorem decNumStreams_np (s : Streams) (k : Nat) (hp : s.panicked = none) (hc : (s.stream k).isCounted = true)
    (hs : s.counts.isLocalInit (s.stream k).id = true → s.counts.numSendStreams > 0)
    (hr : s.counts.isLocalInit (s.stream k).id = false → s.counts.numRecvStreams > 0) :
    (s.decNumStreams k).panicked = none ∧ ((s.decNumStreams k).stream k).isCounted = false := by
  have hl := live_of_counted hc
  obtain ⟨x, hx⟩ := hl
  unfold Streams.decNumStreams
  simp only [hc, if_true]
  cases hloc : s.counts.isLocalInit (s.stream k).id
  · simp only [Bool.false_eq_true, if_false, hr hloc, if_true]
    have hl' : Live (s.modCounts fun c => { c with numRecvStreams := c.numRecvStreams - 1 }) k := ⟨x, hx⟩
    refine ⟨by rw [modStream_panicked_live hl']; exact hp, ?_⟩
    unfold Streams.modStream Streams.stream
    have : (s.modCounts fun c => { c with numRecvStreams := c.numRecvStreams - 1 }).store.get? k = some x := hx
    rw [this]
    simp only [setStream_get?, this, Option.map_some, beq_self_eq_true, if_true, Option.getD_some]
  · simp only [if_true, hs hloc]
    have hl' : Live (s.modCounts fun c => { c with numSendStreams := c.numSendStreams - 1 }) k := ⟨x, hx⟩
    refine ⟨by rw [modStream_panicked_live hl']; exact hp, ?_⟩
    unfold Streams.modStream Streams.stream
    have : (s.modCounts fun c => { c with numSendStreams := c.numSendStreams - 1 }).store.get? k = some x := hx
    rw [this]
    simp only [setStream_get?, this, Option.map_some, beq_self_eq_true, if_true, Option.getD_some]

def DecOK (k : Nat) (t : Streams) : Prop :=
  t.panicked = none ∧ ((t.stream k).isCounted = true →
    (t.counts.isLocalInit (t.stream k).id = true → t.counts.numSendStreams > 0) ∧
    (t.counts.isLocalInit (t.stream k).id = false → t.counts.numRecvStreams > 0))

theorem DecOK.of_eq {k : Nat} {s t : Streams} (h : DecOK k s) (hp : t.panicked = s.panicked) (hst : t.store = s.store)
    (hc : t.counts.numSendStreams = s.counts.numSendStreams ∧ t.counts.numRecvStreams = s.counts.numRecvStreams ∧
      t.counts.isServer = s.counts.isServer) : DecOK k t := by
  have hs : t.stream k = s.stream k := by unfold Streams.stream; rw [hst]
  unfold DecOK Counts.isLocalInit at *
  rw [hp, hs, hc.1, hc.2.1, hc.2.2]; exact h

theorem DecOK.dec {k : Nat} {s : Streams} (h : DecOK k s) (hc : (s.stream k).isCounted = true) : DecOK k (s.decNumStreams k) := by
  have := decNumStreams_np s k h.1 hc (h.2 hc).1 (h.2 hc).2
  exact ⟨this.1, fun hc' => by rw [this.2] at hc'; cases hc'⟩

/-- **when the `assert!`s of `transition_after` / `dec_num_streams` cannot fire** -/
theorem transitionAfter_np (s : Streams) (k : Nat) (b : Bool) (hd : DecOK k s)
    (hb : (b && !(s.stream k).resetAt) = true → s.counts.numLocalResetStreams > 0) :
    (s.transitionAfter k b).panicked = none := by
  rw [Streams.transitionAfter_eq]
  have hst : (s.taResetCount k b).stream k = s.stream k := Streams.taResetCount_stream s k b k
  have h1 : DecOK k (s.taResetCount k b) := by
    unfold Streams.taResetCount; split
    · next hc =>
      have : s.modCountsA "self.num_local_reset_streams > 0" Counts.decNumResetStreams =
          { s with counts := { s.counts with numLocalResetStreams := s.counts.numLocalResetStreams - 1 } } := by
        unfold Streams.modCountsA Counts.decNumResetStreams; rw [if_pos (hb hc)]
      rw [this]
      exact hd.of_eq rfl rfl ⟨rfl, rfl, rfl⟩
    · exact hd
  rw [← hst]
  generalize s.taResetCount k b = s1 at h1
  have h2 : DecOK k (s1.taClose (s1.stream k) k) := by
    unfold Streams.taClose; dsimp only; split
    · generalize hs3 : (if (!(s1.stream k).isPendingResetExpiration) = true then
          ({ s1 with store := s1.store.unlink (s1.stream k).id } : Streams) else s1) = s3
      have h3 : DecOK k s3 ∧ s3.stream k = s1.stream k := by
        rw [← hs3]; split
        · exact ⟨h1, rfl⟩
        · exact ⟨h1, rfl⟩
      split
      · next hc =>
        refine h3.1.dec ?_
        rw [h3.2]
        simp only [Bool.and_eq_true] at hc
        exact hc.2
      · exact h3.1
    · exact h1
  generalize s1.taClose (s1.stream k) k = s2 at h2
  unfold Streams.taRelease; dsimp only
  split
  · show (if (s2.stream k).isCounted = true then s2.decNumStreams k else s2).panicked = none
    split
    · next hc => exact (h2.dec hc).1
    · exact h2.1
  · exact h2.1

theorem countP_disj {α : Type} (P Q R : α → Bool) (l : List α) (hP : ∀ x, P x = true → R x = true)
    (hQ : ∀ x, Q x = true → R x = true) (hd : ∀ x, P x = true → Q x = true → False) :
    l.countP P + l.countP Q ≤ l.countP R := by
  induction l with
  | nil => simp
  | cons a l ih =>
    simp only [List.countP_cons]
    cases hp : P a <;> cases hq : Q a <;> cases hr : R a <;> simp <;> try omega
    · exact absurd (hQ a hq) (by simp [hr])
    · exact absurd (hP a hp) (by simp [hr])
    · exact (hd a hp hq).elim
    · exact (hd a hp hq).elim

def recvCounted (sv : Bool) (x : Stream) : Bool := x.isCounted && !locId sv x.id

theorem decOK_of_inv {E : Nat → Prop} {s : Streams} (hp : s.panicked = none) (h1 : Inv1 s)
    (h2 : Inv2 s.counts.isServer E s) (he : ErrOK s) (k : Nat) : DecOK k s := by
  refine ⟨hp, fun hc => ?_⟩
  obtain ⟨x, hx⟩ := live_of_counted hc
  have hxs : s.stream k = x := stream_of_get? hx
  have hmem : x ∈ s.store.slab := get?_mem hx
  rw [hxs] at hc ⊢
  have hdir := h2.dir he
  have hsum := h1.sum
  rw [isLocalInit_eq]
  constructor
  · intro hl
    rw [hdir]
    unfold cntP
    exact List.countP_pos_iff.mpr ⟨x, hmem, by unfold sendCounted; rw [hc, hl]; rfl⟩
  · intro hl
    have hle := countP_disj (sendCounted s.counts.isServer) (recvCounted s.counts.isServer) (·.isCounted) s.store.slab
      (fun y hy => by unfold sendCounted at hy; simp only [Bool.and_eq_true] at hy; exact hy.1)
      (fun y hy => by unfold recvCounted at hy; simp only [Bool.and_eq_true] at hy; exact hy.1)
      (fun y h1 h2 => by
        unfold sendCounted at h1; unfold recvCounted at h2
        simp only [Bool.and_eq_true, Bool.not_eq_true'] at h1 h2
        rw [h1.2] at h2; cases h2.2)
    have hpos : 0 < s.store.slab.countP (recvCounted s.counts.isServer) :=
      List.countP_pos_iff.mpr ⟨x, hmem, by unfold recvCounted; rw [hc, hl]; rfl⟩
    unfold cntAll at hsum
    unfold cntP at hdir
    omega

/-- the id map is a map, and every entry names a live slab entry with that stream id
    (`store.find_mut(id)` / `find_entry(id)` hand out keys that resolve) -/
structure IdsOK (s : Streams) : Prop where
  nodup : (s.store.ids.map (·.1)).Nodup
  live : ∀ e ∈ s.store.ids, Live s e.2 ∧ (s.stream e.2).id = e.1

theorem IdsOK.of_frame {s s' : Streams} (h : IdsOK s) (hk : SameKeys s s') (hids : s'.store.ids = s.store.ids)
    (hsid : SPr (·.id) s s') : IdsOK s' :=
  ⟨by rw [hids]; exact h.nodup, fun e he => by
    rw [hids] at he
    exact ⟨hk.live.mpr (h.live e he).1, (hsid e.2).trans (h.live e he).2⟩⟩

theorem LT.idsOK {ks : List Nat} {s s' : Streams} (h : LT ks s s') (hi : IdsOK s) : IdsOK s' := hi.of_frame h.keys h.ids h.sid
theorem LTw.idsOK {ks : List Nat} {s s' : Streams} (h : LTw ks s s') (hi : IdsOK s) : IdsOK s' := hi.of_frame h.keys h.ids h.sid

theorem IdsOK.findKey {s : Streams} (h : IdsOK s) {id k : Nat} (hf : s.store.findKey? id = some k) :
    Live s k ∧ (s.stream k).id = id := by
  unfold Store.findKey? at hf
  cases hx : s.store.ids.find? (·.1 == id) with
  | none => rw [hx] at hf; cases hf
  | some e =>
    rw [hx] at hf
    simp only [Option.map_some, Option.some.injEq] at hf
    have hm := List.mem_of_find?_eq_some hx
    have he := List.find?_some hx
    simp only [beq_iff_eq] at he
    rw [← hf, ← he]
    exact h.live e hm

theorem IdsOK.transitionAfter {s : Streams} (h : IdsOK s) (k : Nat) (b : Bool) : IdsOK (s.transitionAfter k b) := by
  obtain ⟨m, hfr, hids, hfin⟩ := transitionAfter_shape s k b
  have hsub : ∀ e ∈ m.store.ids, e ∈ s.store.ids := by
    intro e he; rw [hids] at he; split at he
    · exact Store.mem_swapRemove he
    · exact he
  have hm : IdsOK m := by
    refine ⟨?_, fun e he => ?_⟩
    · rw [hids]; split
      · exact Store.swapRemove_nodup h.nodup _
      · exact h.nodup
    · have := h.live e (hsub e he)
      exact ⟨hfr.keys.live.mpr this.1, (hfr.sid e.2).trans this.2⟩
  rcases hfin with e | ⟨hc, hr, e⟩
  · exact ⟨by rw [e]; exact hm.nodup, fun x hx => by
      rw [e] at hx; have := hm.live x hx
      unfold Live Streams.stream at *; rw [e]; exact this⟩
  · have hne : ∀ x ∈ m.store.ids, x.2 ≠ k := by
      intro x hx hxk
      have h1 := (h.live x (hsub x hx)).2
      rw [hxk] at h1
      rw [hids] at hx
      simp only [hc, hr, Bool.not_false, Bool.and_self, if_true] at hx
      exact Store.swapRemove_not_mem h.nodup _ x hx h1.symm
    refine ⟨by rw [e]; exact hm.nodup, fun x hx => ?_⟩
    rw [e] at hx
    have hx' : x ∈ m.store.ids := hx
    have := hm.live x hx'
    unfold Live Streams.stream at *
    rw [e, remove_get?_ne _ _ _ (hne x hx')]; exact this

theorem avOK_transitionAfter {s : Streams} (h : AvOK s) (k : Nat) (b : Bool) : AvOK (s.transitionAfter k b) := by
  obtain ⟨m, hfr, _, hfin⟩ := transitionAfter_shape s k b
  have hm := hfr.av h
  rcases hfin with e | ⟨_, _, e⟩
  · unfold AvOK; rw [e]; exact hm
  · intro x hx
    rw [e] at hx
    exact hm x (List.mem_filter.mp hx).1

/-- `NPQ` + the counting / queue invariants of ConnCountsP + `IdsOK`.  `E`: keys of entries that may
    still be unopened although locally initiated (inside the function that has just created them). -/
structure NPI (E : Nat → Prop) (s : Streams) : Prop where
  np : s.panicked = none
  av : AvOK s
  keys : KeysOK s
  nl : NextLocal s
  inv1 : Inv1 s
  inv2 : Inv2 s.counts.isServer E s
  qs : ∀ q, q ≠ .pendingAccept → QOK q s
  ids : IdsOK s

theorem NPI.npq {E : Nat → Prop} {s : Streams} (h : NPI E s) : NPQ s := ⟨h.np, h.keys, h.qs _ (by decide), h.av⟩

/-- the counting invariants travel along `Ev`; panic-freedom, capacities and the id map are supplied -/
theorem NPI.ev {E : Nat → Prop} {ρ : Bool} {s s' : Streams} (h : NPI E s) (e : EvB ρ s s') (hE : ρ = true → ∀ k, ¬ E k)
    (hp : s'.panicked = none) (hav : AvOK s') (hids : IdsOK s') : NPI E s' := by
  refine ⟨hp, hav, e.keysOK h.keys, e.nx.nextLocal h.nl, e.inv1 hp h.keys h.inv1, ?_, ?_, hids⟩
  · rw [e.nx.role]; exact e.inv2 _ _ hp h.keys hE h.inv2
  · intro q hq; exact (e.qstep q hq).ok hp (h.qs q hq)

theorem NPI.lt {E : Nat → Prop} {ρ : Bool} {ks : List Nat} {s s' : Streams} (h : NPI E s) (hlt : LTw ks s s')
    (hl : LiveAll s ks) (e : EvB ρ s s') (hE : ρ = true → ∀ k, ¬ E k) : NPI E s' :=
  let q := hlt.ok hl h.npq
  h.ev e hE q.np q.av (hlt.idsOK h.ids)

theorem ErrOK.back {ρ : Bool} {a b : Streams} (e : EvB ρ a b) (h : ErrOK b) : ErrOK a := by
  have hm := e.mono.counts
  unfold ErrOK Counts.canIncNumLocalErrorResets at *
  rw [hm.maxErr] at h
  have := hm.err
  split at h
  · next m hmx => simp only [decide_eq_true_eq] at h ⊢; omega
  · rfl

theorem errSame_of_counts {s t : Streams} (h : t.counts.numLocalErrorResetStreams = s.counts.numLocalErrorResetStreams ∧
    t.counts.maxLocalErrorResetStreams = s.counts.maxLocalErrorResetStreams) : ErrSame s t := h

theorem decNumStreams_errSame (s : Streams) (k : Nat) : ErrSame s (s.decNumStreams k) := by
  rw [Streams.decNumStreams_eq]; unfold ErrSame Streams.decNumStreamsC
  rw [Streams.modStream_counts]; dsimp only
  split <;> split <;> simp only [Streams.modCounts_counts, Streams.ite_panic_counts, Streams.panic_counts, and_self]

theorem modCountsA_decReset_errSame (s : Streams) (m : String) : ErrSame s (s.modCountsA m Counts.decNumResetStreams) := by
  unfold Streams.modCountsA Counts.decNumResetStreams
  split
  · next c hc =>
    split at hc
    · simp only [Option.some.injEq] at hc; subst hc; exact ⟨rfl, rfl⟩
    · cases hc
  · exact panic_errSame _ _

theorem transitionAfter_errSame (s : Streams) (k : Nat) (b : Bool) : ErrSame s (s.transitionAfter k b) := by
  rw [Streams.transitionAfter_eq]
  have h1 : ErrSame s (s.taResetCount k b) := by
    unfold Streams.taResetCount; split; exact modCountsA_decReset_errSame _ _; exact .refl _
  have hdec : ∀ (t : Streams) (c : Prop) [Decidable c], ErrSame t (if c then t.decNumStreams k else t) := by
    intro t c _; split; exact decNumStreams_errSame _ _; exact .refl _
  have h2 : ∀ t st, ErrSame t (Streams.taClose t st k) := by
    intro t st; unfold Streams.taClose; dsimp only; split
    · refine ErrSame.trans ?_ (hdec _ _); split; exact ⟨rfl, rfl⟩; exact .refl _
    · exact .refl _
  have h3 : ∀ t, ErrSame t (Streams.taRelease t k) := by
    intro t; unfold Streams.taRelease; dsimp only; split
    · exact (hdec t _).trans ⟨rfl, rfl⟩
    · exact .refl _
  exact (h1.trans (h2 _ _)).trans (h3 _)

theorem transitionAfter_npi {E : Nat → Prop} {s : Streams} (h : NPI E s) (he : ErrOK s) (k : Nat) (b : Bool)
    (hb : b = true → (s.stream k).resetAt = true) : NPI E (s.transitionAfter k b) := by
  have hp : (s.transitionAfter k b).panicked = none := by
    refine transitionAfter_np s k b (decOK_of_inv h.np h.inv1 h.inv2 he k) ?_
    intro hc
    cases hbb : b
    · rw [hbb] at hc; cases hc
    · rw [hbb, hb hbb] at hc; cases hc
  exact h.ev (ρ := false) (transitionAfter_ev s k b hb) (fun h => Bool.noConfusion h) hp
    (avOK_transitionAfter h.av k b) (h.ids.transitionAfter k b)

theorem transition_npi {E : Nat → Prop} {ρ : Bool} {α : Type} {s : Streams} (k : Nat) (f : Streams → Streams × α)
    (hX : NPI E (f s).1) (e : EvB ρ s (f s).1) (heX : ErrOK (f s).1) : NPI E (s.transition k f).1 := by
  rw [Streams.transition_fst]
  exact transitionAfter_npi hX heX k _ (fun hb => e.mono.resetAt k hb)

end H2V.Lemmas.ConnNoPanicP
