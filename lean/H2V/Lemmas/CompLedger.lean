import H2V.Lemmas.CompFlow
/-
  Part 2b -- the flow-control ledger over histories: a `FlowControl` value driven by an arbitrary
  sequence of operations with arbitrary arguments, every result ignored the way the Rust callers
  may ignore it (`let _res = ...`).

    window_ledger / available_ledger   exact accounting of both fields over a history
    window_never_above_max             the window never exceeds MAX_WINDOW_SIZE
    values_stay_i32                    no silent wrap, ever
-/
namespace H2V.Lemmas.Comp
open H2V H2V.Model.Conn
open H2V.Generated.Consts (MAX_WINDOW_SIZE)

/-- the mutating operations of `FlowControl` -/
inductive FOp where
  | inc (n : Nat)      -- `inc_window`
  | decSend (n : Nat)  -- `dec_send_window`
  | decRecv (n : Nat)  -- `dec_recv_window`
  | assign (n : Nat)   -- `assign_capacity`
  | claim (n : Nat)    -- `claim_capacity`
  | send (n : Nat)     -- `send_data`
  deriving Repr, DecidableEq

namespace FOp

def arg : FOp → Nat
  | inc n | decSend n | decRecv n | assign n | claim n | send n => n

def apply (f : FlowControl) : FOp → FlowControl × FlowRes
  | inc n => f.incWindow n
  | decSend n => f.decSendWindow n
  | decRecv n => f.decRecvWindow n
  | assign n => f.assignCapacity n
  | claim n => f.claimCapacity n
  | send n => f.sendData n

/-- window: what a *successful* `inc_window` adds -/
def credit (f : FlowControl) : FOp → Int
  | inc n => if isOk (f.incWindow n).2 then u32AsI32 n else 0
  | _ => 0

/-- window: what a *successful* `dec_send_window` / `dec_recv_window` / `send_data` removes -/
def debit (f : FlowControl) : FOp → Int
  | decSend n => if isOk (f.decSendWindow n).2 then u32AsI32 n else 0
  | decRecv n => if isOk (f.decRecvWindow n).2 then u32AsI32 n else 0
  | send n => if isOk (f.sendData n).2 then u32AsI32 n else 0
  | _ => 0

/-- window: what a *failing* `dec_recv_window` / `send_data` removes all the same (the partial
    update: first `?` committed, second `?` failed); defined by the arithmetic condition, see
    `leak_ne_zero_iff` for the link with the observable behaviour -/
def leak (f : FlowControl) : FOp → Int
  | decRecv n =>
    if inI32 (f.windowSize.val - u32AsI32 n) = true ∧ inI32 (f.available.val - u32AsI32 n) = false
    then u32AsI32 n else 0
  | send n =>
    if n ≠ 0 ∧ u32AsI32 n ≤ f.windowSize.val ∧ inI32 (f.windowSize.val - u32AsI32 n) = true ∧
        inI32 (f.available.val - u32AsI32 n) = false
    then u32AsI32 n else 0
  | _ => 0

/-- available: what a *successful* `assign_capacity` adds -/
def availCredit (f : FlowControl) : FOp → Int
  | assign n => if isOk (f.assignCapacity n).2 then u32AsI32 n else 0
  | _ => 0

/-- available: what a *successful* `claim_capacity` / `dec_recv_window` / `send_data` removes
    (a failing call never touches `available`) -/
def availDebit (f : FlowControl) : FOp → Int
  | claim n => if isOk (f.claimCapacity n).2 then u32AsI32 n else 0
  | decRecv n => if isOk (f.decRecvWindow n).2 then u32AsI32 n else 0
  | send n => if isOk (f.sendData n).2 then u32AsI32 n else 0
  | _ => 0

/-- a genuine size (`< 2^31`, so `n as i32 = n ≥ 0`) -/
def small (op : FOp) : Prop := op.arg < 2147483648

end FOp

/-- apply each operation, keep the new value whatever the result -/
def run (f : FlowControl) : List FOp → FlowControl
  | [] => f
  | op :: ops => run (op.apply f).1 ops

/-- Σ over the history, each term evaluated in the state in which its operation runs -/
def sumOver (g : FlowControl → FOp → Int) (f : FlowControl) : List FOp → Int
  | [] => 0
  | op :: ops => g f op + sumOver g (op.apply f).1 ops

/-- Σ successful `inc_window` -/
def credits := sumOver FOp.credit
/-- Σ successful `dec_send_window` / `dec_recv_window` / `send_data` -/
def debits := sumOver FOp.debit
/-- Σ window parts of failed `dec_recv_window` / `send_data` (partial updates) -/
def leaks := sumOver FOp.leak
/-- Σ successful `assign_capacity` -/
def availCredits := sumOver FOp.availCredit
/-- Σ successful `claim_capacity` / `dec_recv_window` / `send_data` -/
def availDebits := sumOver FOp.availDebit

theorem run_append (f : FlowControl) (a b : List FOp) : run f (a ++ b) = run (run f a) b := by
  induction a generalizing f with
  | nil => rfl
  | cons op a ih => exact ih _

theorem sumOver_append (g : FlowControl → FOp → Int) (f : FlowControl) (a b : List FOp) :
    sumOver g f (a ++ b) = sumOver g f a + sumOver g (run f a) b := by
  induction a generalizing f with
  | nil => simp [sumOver, run]
  | cons op a ih => simp [sumOver, run, ih, Int.add_assoc]

/-- one operation, both fields: the two ledger equations, and what the new values can be -- the
    window stays, or is a checked `i32` that is either the old value minus `n as i32` or has passed
    the `MAX_WINDOW_SIZE` test; `available` stays or is a checked `i32` -/
theorem FOp.apply_step (f : FlowControl) (op : FOp) :
    ((op.apply f).1.windowSize.val = f.windowSize.val + op.credit f - op.debit f - op.leak f ∧
      (op.apply f).1.available.val = f.available.val + op.availCredit f - op.availDebit f) ∧
    ((op.apply f).1.windowSize = f.windowSize ∨
      (inI32 (op.apply f).1.windowSize.val = true ∧
        ((op.apply f).1.windowSize.val = f.windowSize.val - u32AsI32 op.arg ∨
          (op.apply f).1.windowSize.val ≤ (MAX_WINDOW_SIZE : Int)))) ∧
    ((op.apply f).1.available = f.available ∨ inI32 (op.apply f).1.available.val = true) := by
  rcases f with ⟨⟨ws⟩, ⟨av⟩⟩
  cases op with
  | inc n =>
    simp only [FOp.apply, FOp.credit, FOp.debit, FOp.leak, FOp.availCredit, FOp.availDebit,
      FOp.arg, Flow.incWindow_eq]
    generalize u32AsI32 n = d
    by_cases h : inI32 (ws + d) = true ∧ ws + d ≤ (MAX_WINDOW_SIZE : Int) <;> simp [h]
  | decSend n =>
    simp only [FOp.apply, FOp.credit, FOp.debit, FOp.leak, FOp.availCredit, FOp.availDebit,
      FOp.arg, Flow.decSendWindow_eq]
    generalize u32AsI32 n = d
    by_cases h : inI32 (ws - d) = true <;> simp [h] <;> omega
  | decRecv n =>
    simp only [FOp.apply, FOp.credit, FOp.debit, FOp.leak, FOp.availCredit, FOp.availDebit,
      FOp.arg, Flow.decRecvWindow_eq]
    generalize u32AsI32 n = d
    by_cases h1 : inI32 (ws - d) = true
    · by_cases h2 : inI32 (av - d) = true <;> simp [h1, h2] <;> omega
    · simp [h1]
  | assign n =>
    simp only [FOp.apply, FOp.credit, FOp.debit, FOp.leak, FOp.availCredit, FOp.availDebit,
      FOp.arg, Flow.assignCapacity_eq]
    generalize u32AsI32 n = d
    by_cases h : inI32 (av + d) = true <;> simp [h]
  | claim n =>
    simp only [FOp.apply, FOp.credit, FOp.debit, FOp.leak, FOp.availCredit, FOp.availDebit,
      FOp.arg, Flow.claimCapacity_eq]
    generalize u32AsI32 n = d
    by_cases h : inI32 (av - d) = true <;> simp [h] <;> omega
  | send n =>
    simp only [FOp.apply, FOp.credit, FOp.debit, FOp.leak, FOp.availCredit, FOp.availDebit,
      FOp.arg, Flow.sendData_eq]
    by_cases h0 : n = 0
    · simp [h0]
    · generalize u32AsI32 n = d
      by_cases hlt : ws < d
      · have : ¬ (d ≤ ws) := by omega
        simp [h0, hlt, this]
      · have hle : d ≤ ws := by omega
        by_cases h1 : inI32 (ws - d) = true
        · by_cases h2 : inI32 (av - d) = true <;> simp [h0, hlt, h1, h2, hle] <;> omega
        · simp [h0, hlt, h1]

/-- a failing call books nothing except, possibly, a leak: the four other terms are `0` by
    definition -/
theorem FOp.terms_of_error {f : FlowControl} {op : FOp} (h : isOk (op.apply f).2 = false) :
    op.credit f = 0 ∧ op.debit f = 0 ∧ op.availCredit f = 0 ∧ op.availDebit f = 0 := by
  cases op <;> simp only [FOp.apply] at h <;>
    simp only [FOp.credit, FOp.debit, FOp.availCredit, FOp.availDebit, h, Bool.false_eq_true,
      if_false, and_self]

/-- outside the partial update, a failing call changes nothing at all: every term of both ledger
    equations is `0` -/
theorem FOp.apply_error_unchanged (f : FlowControl) (op : FOp)
    (herr : isOk (op.apply f).2 = false) (hleak : op.leak f = 0) : (op.apply f).1 = f := by
  obtain ⟨h1, h2⟩ := (FOp.apply_step f op).1
  obtain ⟨hc, hd, hac, had⟩ := FOp.terms_of_error herr
  rw [hc, hd, hleak] at h1
  rw [hac, had] at h2
  rcases f with ⟨⟨ws⟩, ⟨av⟩⟩
  rcases hr : (op.apply _).1 with ⟨⟨ws'⟩, ⟨av'⟩⟩
  rw [hr] at h1 h2
  simp only at h1 h2
  rw [h1, h2]; simp

/-- the `leak` term is non-zero exactly when the call *fails with the window already changed* --
    the observable partial update of `decRecvWindow_partial_iff` / `sendData_partial_iff` -/
theorem FOp.leak_ne_zero_iff (f : FlowControl) (op : FOp) :
    op.leak f ≠ 0 ↔
      (isOk (op.apply f).2 = false ∧ (op.apply f).1.windowSize ≠ f.windowSize ∧
        ∃ n, op = .decRecv n ∨ op = .send n) := by
  constructor
  · intro h
    cases op with
    | decRecv n =>
      simp only [FOp.leak] at h
      split at h
      · next hc =>
        have := (decRecvWindow_partial_iff f n).2 ⟨hc.1, hc.2, h⟩
        exact ⟨this.1, this.2, n, .inl rfl⟩
      · exact absurd rfl h
    | send n =>
      simp only [FOp.leak] at h
      split at h
      · next hc =>
        have := (sendData_partial_iff f n).2 ⟨hc.1, hc.2.1, hc.2.2.1, hc.2.2.2, h⟩
        exact ⟨this.1, this.2, n, .inr rfl⟩
      · exact absurd rfl h
    | _ => exact absurd rfl h
  · rintro ⟨herr, hne, -⟩ hl
    exact hne (congrArg _ (FOp.apply_error_unchanged f op herr hl))

/-- **window_ledger**: after any history,
      window = initial + Σ successful inc − Σ successful decSend/decRecv/send − Σ partial updates.
    The last sum is what makes the naive "successful operations only" ledger false. -/
theorem window_ledger (f : FlowControl) (ops : List FOp) :
    (run f ops).windowSize.val =
      f.windowSize.val + credits f ops - debits f ops - leaks f ops := by
  induction ops generalizing f with
  | nil => simp [run, credits, debits, leaks, sumOver]
  | cons op ops ih =>
    have h1 := ih (op.apply f).1
    have h2 := (FOp.apply_step f op).1.1
    simp only [run, credits, debits, leaks, sumOver] at h1 ⊢
    omega

theorem window_ledger_no_leak (f : FlowControl) (ops : List FOp) (h : leaks f ops = 0) :
    (run f ops).windowSize.val = f.windowSize.val + credits f ops - debits f ops := by
  rw [window_ledger, h]; omega

/-- concrete history on which the naive ledger is off: from `new`, claim `2^31 - 1` (available
    becomes `-(2^31 - 1)`), open the window by 10, then `send_data(10)`: the call fails
    (`available - 10` leaves `i32`), yet the window is back to 0 -- 10 units were credited, none
    successfully debited, 10 leaked -/
example :
    let ops := [FOp.claim 2147483647, .inc 10, .send 10]
    run .new ops = ⟨⟨0⟩, ⟨-2147483647⟩⟩ ∧
    credits .new ops = 10 ∧ debits .new ops = 0 ∧ leaks .new ops = 10 := by decide

/-- **available_ledger**: `available` is only ever changed by successful calls -/
theorem available_ledger (f : FlowControl) (ops : List FOp) :
    (run f ops).available.val = f.available.val + availCredits f ops - availDebits f ops := by
  induction ops generalizing f with
  | nil => simp [run, availCredits, availDebits, sumOver]
  | cons op ops ih =>
    have h1 := ih (op.apply f).1
    have h2 := (FOp.apply_step f op).1.2
    simp only [run, availCredits, availDebits, sumOver] at h1 ⊢
    omega

theorem run_inI32 (f : FlowControl) (ops : List FOp)
    (hw : inI32 f.windowSize.val = true) (ha : inI32 f.available.val = true) :
    inI32 (run f ops).windowSize.val = true ∧ inI32 (run f ops).available.val = true := by
  induction ops generalizing f with
  | nil => exact ⟨hw, ha⟩
  | cons op ops ih =>
    obtain ⟨h1, h2⟩ := (FOp.apply_step f op).2
    exact ih _ (h1.elim (fun h => h ▸ hw) (·.1)) (h2.elim (fun h => h ▸ ha) id)

/-- **values_stay_i32**: starting from `FlowControl::new()`, whatever is called with whatever
    arguments, both fields are `i32` values for ever: the model's unbounded `Int` never leaves the
    range, i.e. the Rust `i32` fields never wrap silently -/
theorem values_stay_i32 (ops : List FOp) :
    inI32 (run .new ops).windowSize.val = true ∧ inI32 (run .new ops).available.val = true :=
  run_inI32 .new ops (by decide) (by decide)

/-- **window_never_above_max**; a checked `i32` is below the bound because
    `MAX_WINDOW_SIZE = i32::MAX` -/
theorem window_never_above_max (f : FlowControl) (ops : List FOp)
    (h : f.windowSize.val ≤ (MAX_WINDOW_SIZE : Int)) :
    (run f ops).windowSize.val ≤ (MAX_WINDOW_SIZE : Int) := by
  induction ops generalizing f with
  | nil => exact h
  | cons op ops ih =>
    refine ih _ ?_
    rcases (FOp.apply_step f op).2.1 with h' | ⟨h', -⟩
    · rwa [h']
    · rw [inI32_iff] at h'; rw [MAX_WINDOW_SIZE_eq_I32_MAX]; exact h'.2

/-- the same bound *without* using the value of the constant, for genuine sizes (`n < 2^31`): only
    `inc_window` raises the window, and it checks the bound.  (With sizes `≥ 2^31` the decreasing
    operations *add*, and the bound then rests on `MAX_WINDOW_SIZE = i32::MAX` alone; see the
    `example` below for what would go wrong with a smaller constant.) -/
theorem window_never_above_max_small (f : FlowControl) (ops : List FOp)
    (hs : ∀ op ∈ ops, op.small) (h : f.windowSize.val ≤ (MAX_WINDOW_SIZE : Int)) :
    (run f ops).windowSize.val ≤ (MAX_WINDOW_SIZE : Int) := by
  induction ops generalizing f with
  | nil => exact h
  | cons op ops ih =>
    refine ih _ (fun o ho => hs o (List.mem_cons_of_mem _ ho)) ?_
    rcases (FOp.apply_step f op).2.1 with h' | ⟨-, h' | h'⟩
    · rwa [h']
    · rw [h', u32AsI32_of_lt (hs op List.mem_cons_self)]; omega
    · exact h'

/-- a "decrease" by a size `≥ 2^31` raises the window (here from 0 to 1) -/
example : (run .new [.decSend 4294967295]).windowSize.val = 1 := by decide

/-- summary from `new`: `i32::MIN ≤ window ≤ MAX_WINDOW_SIZE`, `available` in `i32` -/
theorem window_bounds_from_new (ops : List FOp) :
    I32_MIN ≤ (run .new ops).windowSize.val ∧
    (run .new ops).windowSize.val ≤ (MAX_WINDOW_SIZE : Int) ∧
    I32_MIN ≤ (run .new ops).available.val ∧ (run .new ops).available.val ≤ I32_MAX := by
  have h := values_stay_i32 ops
  have hm := window_never_above_max .new ops (by decide)
  rw [inI32_iff, inI32_iff] at h
  simp only [I32_MIN, I32_MAX]
  omega

end H2V.Lemmas.Comp
