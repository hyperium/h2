import H2V.Lemmas.ConnFidPFnSend
/-
  ConnFidP — the functions of ConnRecv.lean (recv.rs) that can make a labelled step, as sequences of elementary steps,
  including the `poll_*` functions of the receive handles.  Hypotheses: `P.rpush k e` where an event
  is queued, `P.rpop k` where the application takes one, `P.rclear k` for `clear_recv_buffer`.
  The others are paths by `Tr.of_step`, with a lemma here where a walk calls them.
  `recv_data` / `recv_trailers` are walked once for `AccRR` (at most their one event is queued, none on failure).
  `Recv::recv_headers` is an instance of `RecvHeadersRule`; `recv_data` is walked stage by stage — `extract_lets`, the fact
  about the intermediate state, `clear_value` — because `grind` over the whole body pays for the product of the branches.
-/
set_option linter.unusedSectionVars false
namespace H2V.Lemmas.ConnFidP
open H2V H2V.Model H2V.Model.Conn H2V.Lemmas.ConnWakeP

/-- an event may be taken off the receive queue of any entry (`poll_pushed`: the promised stream's) -/
def RpopAll (P : Perm) : Prop := ∀ k, P.rpop k
theorem rpop_of_all {P : Perm} (k : Nat) (h : RpopAll P) : P.rpop k := h k
grind_pattern rpop_of_all => P.rpop k

section
variable {P : Perm} {s0 s : Streams} (hg : P.gone)
include hg

@[grind ←] theorem releaseConnectionCapacity_acc (c : Nat) (u : Bool) (h : Tr P s0 s) :
    Tr P s0 (s.releaseConnectionCapacity c u) :=
  h.step hg (Streams.releaseConnectionCapacity_step (by decide) s c u)
@[grind ←] theorem releaseCapacity_acc (k c : Nat) (u : Bool) (h : Tr P s0 s) :
    Tr P s0 (s.releaseCapacity k c u).1 :=
  h.step hg (Streams.releaseCapacity_step (by decide) s k c u)
@[grind ←] theorem clearRecvBuffer_acc (k : Nat) (u : Bool) (hr : P.rclear k) (h : Tr P s0 s) :
    Tr P s0 (s.clearRecvBuffer k u) := by
  unfold Streams.clearRecvBuffer; fid_fold; fid_grind
@[grind ←] theorem releaseClosedCapacity_acc (k : Nat) (hr : P.rclear k) (h : Tr P s0 s) :
    Tr P s0 (s.releaseClosedCapacity k) := by
  unfold Streams.releaseClosedCapacity; fid_grind
@[grind ←] theorem ignoreData_acc (sz : Nat) (h : Tr P s0 s) : Tr P s0 (s.ignoreData sz).1 :=
  h.step hg (Streams.ignoreData_step (by decide) s sz)
@[grind ←] theorem recvOpen_acc (k : Nat) (b : Bool) (h : Tr P s0 s) : Tr P s0 (s.recvOpen k b).1 :=
  h.step hg (Streams.recvOpen_step (by decide) s k b)
@[grind ←] theorem notifyPushIfRecvEnded_acc (k : Nat) (h : Tr P s0 s) : Tr P s0 (s.notifyPushIfRecvEnded k) :=
  h.step hg (Streams.notifyPushIfRecvEnded_step s k)
/-- `Recv::recv_headers` by its stages (`RecvHeadersRule`): only the last one queues an event -/
@[grind ←] theorem recvRecvHeaders_acc (k : Nat) (hd : HeadersIn) (hA : RpushAny P k) (h : Tr P s0 s) :
    Tr P s0 (s.recvRecvHeaders k hd).1 :=
  have hst : ∀ st' ini, (s.stream k).state.recvOpen hd.eos hd.isInformational = (st', .ok ini) → Tr P s0 (s.recvHeadersSt k st') :=
    fun st' ini heq => modStream_acc k _ ⟨rfl, rfl, by have := (recvOpen_ok (s.stream k).state hd.eos hd.isInformational).1; rw [heq] at this; exact this, rfl, rfl⟩ h
  Streams.RecvHeadersRule.run (I := Tr P s0) (P := fun _ _ t => Tr P s0 t)
    { err := h
      refuse := hst
      stc := fun st' ini heq _ => (hst st' ini heq).step hg (Streams.recvHeadersCount_step (by decide) _ k hd ini)
      out := fun _ _ _ ht => ht
      cl := fun _ _ t ht => ht.step hg (Streams.recvHeadersCl_step (by decide) t k hd)
      queue := fun _ ini t ht => by unfold Streams.recvHeadersQueue; fid_fold; fid_grind }

end

/-- exactly one event queued: `e` at the back of `pending_recv` of entry `k` -/
def OnceR (k : Nat) (e : REvent) (s s' : Streams) : Prop :=
  ∃ s1, Tr permG s s1 ∧ Tr permG (s1.modStream k (rpushF e)) s'

/-- the result of `recv_data` & co.: at most one event queued, `e` on `k`; none when the call fails -/
def AccRR {ε α : Type} (k : Nat) (e : REvent) (s0 : Streams) (p : Streams × Except ε α) : Prop :=
  match p.2 with
  | .ok _ => Tr permG s0 p.1 ∨ OnceR k e s0 p.1
  | .error _ => Tr permG s0 p.1

section
variable {ε α : Type} {k : Nat} {e : REvent} {s0 s : Streams}

theorem AccRR.tr {P : Perm} {p : Streams × Except ε α} (h : AccRR k e s0 p) (hg : P.gone) (hA : P.rpush k e) :
    Tr P s0 p.1 := by
  unfold AccRR at h
  split at h
  · rcases h with h | ⟨s1, h1, h2⟩
    · exact h.mono (permG_le hg)
    · exact (rpush_acc k e hA (h1.mono (permG_le hg))).trans (h2.mono (permG_le hg))
  · exact h.mono (permG_le hg)

@[grind ←] theorem accRR_of_tr (p : Streams × Except ε α) (h : Tr permG s0 p.1) : AccRR k e s0 p := by
  unfold AccRR; cases p.2 <;> first | exact h | exact Or.inl h
@[grind ←] theorem accRR_err (x : ε) (h : Tr permG s0 s) : AccRR (α := α) k e s0 (s, .error x) := h
@[grind ←] theorem accRR_quiet (a : α) (h : Tr permG s0 s) : AccRR (ε := ε) k e s0 (s, .ok a) := Or.inl h
@[grind ←] theorem accRR_push_notify (a : α) (h : Tr permG s0 s) :
    AccRR (ε := ε) k e s0 ((s.modStream k (rpushF e)).modStreamW k Stream.notifyRecv, .ok a) :=
  Or.inr ⟨s, h, modStreamW_acc k _ (notifyRecv_quiet _) (Tr.refl _ _)⟩
@[grind ←] theorem accRR_push_notify_ended (a : α) (h : Tr permG s0 s) :
    AccRR (ε := ε) k e s0 (((s.modStream k (rpushF e)).modStreamW k Stream.notifyRecv).notifyPushIfRecvEnded k, .ok a) :=
  Or.inr ⟨s, h, notifyPushIfRecvEnded_acc trivial k (modStreamW_acc k _ (notifyRecv_quiet _) (Tr.refl _ _))⟩
@[grind ←] theorem accRR_push_notify_push (a : α) (h : Tr permG s0 s) :
    AccRR (ε := ε) k e s0 (((s.modStream k (rpushF e)).modStreamW k Stream.notifyRecv).modStreamW k Stream.notifyPush, .ok a) :=
  Or.inr ⟨s, h, modStreamW_acc k _ (notifyPush_quiet _) (modStreamW_acc k _ (notifyRecv_quiet _) (Tr.refl _ _))⟩
end

theorem recvRecvData_accRR (s0 s : Streams) (k : Nat) (p : Bytes) (eos : Bool) (pad : Option Nat) (h : Tr permG s0 s) :
    AccRR k (.data p (!eos)) s0 (s.recvRecvData k p eos pad) := by
  have hg : permG.gone := trivial
  -- stage by stage (connection window, content-length, END_STREAM, queueing)
  unfold Streams.recvRecvData
  simp -zeta only [rpushF_fold]
  extract_lets flowLen s1 sz st ign
  have h1 : Tr permG s0 s1 := by fid_grind
  clear_value s1 sz
  clear h
  refine ite_elim (C := AccRR _ _ _) (fun _ => h1) fun _ =>
    ite_elim (C := AccRR _ _ _) (fun _ => accRR_of_tr _ (ignoreData_acc hg sz h1)) fun _ => ?_
  have h2 := h1.step hg (Streams.consumeConnectionWindow_step (by decide) s1 sz)
  rcases hcw : s1.consumeConnectionWindow sz with ⟨s2, e | u⟩ <;> rw [hcw] at h2 <;> simp -zeta only [] at h2 ⊢
  · exact h2
  · refine ite_elim (C := AccRR _ _ _) (fun _ => h2) fun _ => ?_
    rcases hdc : (s2.stream k).decContentLength p.length with _ | st1 <;> simp -zeta only []
    · exact h2
    · extract_lets s3 eosRes
      have h3 : Tr permG s0 s3 := setStream_acc k st1 (decContentLength_quiet hdc) h2
      clear_value s3
      have h4 : Tr permG s0 eosRes.1 := by fid_grind
      clear_value eosRes
      clear h1 h2 h3 hcw hdc
      rcases eosRes with ⟨s4, _ | e⟩ <;> simp -zeta only [] at h4 ⊢
      · fid_grind
      · exact h4

theorem recvRecvTrailers_accRR (s0 s : Streams) (k : Nat) (hd : HeadersIn) (h : Tr permG s0 s) :
    AccRR k (.trailers hd.fields) s0 (s.recvRecvTrailers k hd) := by
  have hg : permG.gone := trivial
  unfold Streams.recvRecvTrailers
  fid_fold
  fid_grind

section
variable {P : Perm} {s0 s : Streams} (hg : P.gone)
include hg

@[grind ←] theorem recvRecvTrailers_acc (k : Nat) (hd : HeadersIn) (hA : P.rpush k (.trailers hd.fields)) (h : Tr P s0 s) :
    Tr P s0 (s.recvRecvTrailers k hd).1 := h.trans ((recvRecvTrailers_accRR s s k hd (Tr.refl _ _)).tr hg hA)
@[grind ←] theorem recvRecvData_acc (k : Nat) (p : Bytes) (eos : Bool) (pad : Option Nat) (hA : P.rpush k (.data p (!eos)))
    (h : Tr P s0 s) : Tr P s0 (s.recvRecvData k p eos pad).1 :=
  h.trans ((recvRecvData_accRR s s k p eos pad (Tr.refl _ _)).tr hg hA)
@[grind ←] theorem recvRecvPushPromise_acc (k : Nat) (hd : HeadersIn) (hA : RpushAny P k) (h : Tr P s0 s) :
    Tr P s0 (s.recvRecvPushPromise k hd).1 := by
  unfold Streams.recvRecvPushPromise; fid_fold; fid_grind
@[grind ←] theorem recvTakeRequest_acc (k : Nat) (hp : P.rpop k) (h : Tr P s0 s) : Tr P s0 (s.recvTakeRequest k).1 := by
  unfold Streams.recvTakeRequest; fid_fold; fid_grind
@[grind ←] theorem recvRecvReset_acc (k : Nat) (r : Reason) (h : Tr P s0 s) : Tr P s0 (s.recvRecvReset k r).1 :=
  h.step hg (Streams.recvRecvReset_step (by decide) s k r)
@[grind ←] theorem recvMaybeResetNextStreamId_acc (k : Nat) (h : Tr P s0 s) :
    Tr P s0 (s.recvMaybeResetNextStreamId k) :=
  h.step hg (Streams.recvMaybeResetNextStreamId_step (by decide) s k)
@[grind ←] theorem enqueueResetExpiration_acc (k : Nat) (h : Tr P s0 s) : Tr P s0 (s.enqueueResetExpiration k) :=
  h.step hg (Streams.enqueueResetExpiration_step (by decide) s k)
@[grind ←] theorem scheduleRecv_acc (k : Nat) (t : String) (h : Tr P s0 s) : Tr P s0 (s.scheduleRecv k t).1 :=
  h.step hg (Streams.scheduleRecv_step (by decide) s k t)
@[grind ←] theorem recvPollData_acc (k : Nat) (t : String) (hp : P.rpop k) (h : Tr P s0 s) : Tr P s0 (s.recvPollData k t).1 := by
  unfold Streams.recvPollData; fid_fold; fid_grind
@[grind ←] theorem recvPollTrailers_acc (k : Nat) (t : String) (hp : P.rpop k) (h : Tr P s0 s) :
    Tr P s0 (s.recvPollTrailers k t).1 := by
  unfold Streams.recvPollTrailers; fid_fold; fid_grind
@[grind ←] theorem recvPollResponse_acc (n k : Nat) (t : String) (hp : P.rpop k) (h : Tr P s0 s) :
    Tr P s0 (Streams.recvPollResponse n s k t).1 := by
  induction n generalizing s with
  | zero => unfold Streams.recvPollResponse; exact h
  | succ n ih => unfold Streams.recvPollResponse; fid_fold; fid_grind
@[grind ←] theorem recvPollInformational_acc (k : Nat) (t : String) (hp : P.rpop k) (h : Tr P s0 s) :
    Tr P s0 (s.recvPollInformational k t).1 := by
  unfold Streams.recvPollInformational; fid_fold; fid_grind
@[grind ←] theorem recvPollPushed_acc (k : Nat) (t : String) (hp : RpopAll P) (h : Tr P s0 s) :
    Tr P s0 (s.recvPollPushed k t).1 := by
  unfold Streams.recvPollPushed; fid_fold; fid_grind
end
end H2V.Lemmas.ConnFidP
