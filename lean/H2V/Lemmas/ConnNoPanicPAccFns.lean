import H2V.Lemmas.ConnNoPanicPAccBase
/-
  C08 (no panic) — the server accept path: `AL` for the functions of the stream layer outside the accept path whose
  footprint alone does not say it: `reset_on_recv_stream_err` (the initiator must not be the peer: its footprint under
  that hypothesis), `recv_trailers` and `recv_data` (they append to `pending_recv`, behind a state test that puts the
  stream past `is_recv_headers`), and the handle calls that pop / clear `pending_recv` of their stream `k` (`Streams.Takes`),
  which are `AL [k]`.
-/
namespace H2V.Lemmas.ConnNoPanicP
open H2V H2V.Model H2V.Model.Conn H2V.Lemmas.ConnCountsP
attribute [local irreducible] wrapSubU32 wrapSubUsize

theorem _root_.H2V.Model.Conn.Streams.Takes.al {k : Nat} {s s' : Streams} (h : Streams.Takes kindsAL k s s') : AL [k] s s' := by
  induction h with
  | step h => exact .of_step h
  | take s l h => exact modStream_alp s k _ (AR.shrink _ l h)
  | noRecv s => exact modStream_al s k _ (by ars_tac)
  | trans _ _ h1 h2 => exact h1.trans h2 fun _ h => h

theorem recvRecvTrailers_al (s : Streams) (k : Nat) (h : HeadersIn) (hk : Live s k) : AL [] s (s.recvRecvTrailers k h).1 := by
  unfold Streams.recvRecvTrailers
  split
  · exact .refl _ _
  · next st' u heq =>
    dsimp only
    generalize hs1 : Streams.modStream s k _ = s1
    have h1 : AL [] s s1 := by rw [← hs1]; al_auto
    have hrh : (s1.stream k).state.isRecvHeaders = false := by
      rw [← hs1, stream_modStream_live hk (fun st => { st with state := st' }) (fun _ => rfl)]; exact (recvClose_ok_acc heq).1
    al_auto

theorem appendTo_al (t : Streams) (k : Nat) (e : REvent) (h : (t.stream k).state.isRecvHeaders = false) :
    AL [] t (t.appendTo k e) :=
  (modStream_al t k _ (.push _ e h)).trans (modStreamW_al _ k _ (.of_keep (notifyRecv_keep _))) fun _ h => h

/-- steps around one hand-over, which happens only when the stream was past `is_recv_headers` at the start: `AR.rh` carries
    that to the moment of the hand-over -/
theorem _root_.H2V.Model.Conn.Streams.OneAppend.al {k : Nat} {F : Prop} {s s' : Streams} (h : Streams.OneAppend kindsAL k F s s')
    (hf : F → (s.stream k).state.isRecvHeaders = false) : AL [] s s' := by
  rcases h with h | ⟨f, t, e, h1, h2⟩
  · exact .of_step h
  · have a1 : AL [] s t := .of_step h1
    exact (a1.trans (appendTo_al t k e ((a1.str k).rh (hf f))) fun _ h => h).trans (.of_step h2) fun _ h => h

theorem recvRecvData_al (s : Streams) (k : Nat) (payload : Bytes) (eos : Bool) (pad : Option Nat) :
    AL [] s (s.recvRecvData k payload eos pad).1 :=
  (Streams.recvRecvData_app (by decide) s k payload eos pad).al not_recvHeaders_of_streaming

def NotRemote (res : Except PErr Unit) : Prop := ∀ e, res = .error e → NotRR e

theorem resetOnRecvStreamErr_al (s : Streams) (k : Nat) (res : Except PErr Unit) (hr : NotRemote res) :
    AL [] s (s.resetOnRecvStreamErr k res).1 :=
  .of_step (Streams.resetOnRecvStreamErr_step (by decide) s k res fun sid c e => absurd rfl (hr _ e sid c))

theorem notRemote_goAway (r : Reason) : NotRemote (.error (PErr.libraryGoAway r)) :=
  fun _ h => by cases h; exact notRR_goAway _ _ _
theorem notRemote_goAwayData (r : Reason) (d : String) : NotRemote (.error (PErr.libraryGoAwayData r d)) :=
  fun _ h => by cases h; exact notRR_goAway _ _ _

end H2V.Lemmas.ConnNoPanicP
