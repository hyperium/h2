import H2V.Lemmas.ConnWakePStepRecv
/-
  ConnWakeP — the frame entry points of `Inner` that reach the functions of `ConnWakePStepRecv.lean` (`recv_headers`,
  `recv_data`, `recv_push_promise`), and the accumulator forms of the functions that are cited by name.
-/
namespace H2V.Lemmas.ConnWakeP
open H2V H2V.Model H2V.Model.Conn

section
variable {cx : Option String} {s0 s : Streams}

theorem transition_i {α : Type} (s : Streams) (k : Nat) (f : Streams → Streams × α) (hf : ∀ s, Step cx s (f s).1) :
    Step cx s (s.transition k f).1 :=
  Streams.transition_rel (Step.relOK cx) s k f (hf s) fun t b => .of_step (Streams.transitionAfter_step (by decide) t k b)

theorem storeForEach_i (s : Streams) (f : Streams → Nat → Streams) (hf : ∀ s k, Step cx s (f s k)) :
    Step cx s (s.storeForEach f) := Streams.storeForEach_rel (Step.relOK cx) s f hf
theorem foldl_i {β : Type} (f : Streams → β → Streams) (hf : ∀ s b, Step cx s (f s b)) (l : List β) (s : Streams) :
    Step cx s (l.foldl f s) := Streams.foldl_rel (Step.relOK cx) hf l s

theorem recvHeadersBody_i (s : Streams) (k : Nat) (hd : HeadersIn) : Step cx s (s.recvHeadersBody k hd).1 := by
  unfold Streams.recvHeadersBody Streams.recvHeadersDispatch; i_auto
theorem recvHeaders_i (s : Streams) (hd : HeadersIn) : Step cx s (s.recvHeaders hd).1 :=
  Streams.recvHeaders_rel (Step.relOK cx) hd (fun s => .of_step (Streams.recvOpen_step (by decide) s _ _)) (fun s => insert_i s _)
    (fun s k => recvHeadersBody_i s k hd) (fun s k b => .of_step (Streams.transitionAfter_step (by decide) s k b)) s

theorem recvData_i (s : Streams) (k : Nat) (p : Bytes) (eos : Bool) (pad : Option Nat) : Step cx s (s.recvData k p eos pad).1 := by
  rw [Streams.recvData_eq]; unfold Streams.recvDataBody; i_auto

theorem pushPromiseBody_i (s : Streams) (k : Nat) (hd : HeadersIn) : Step cx s (s.pushPromiseBody k hd).1 := by
  unfold Streams.pushPromiseBody; i_auto
theorem pushPromiseChild_i (s : Streams) (pk : Nat) (hd : HeadersIn) : Step cx s (s.pushPromiseChild pk hd).1 := by
  rw [Streams.pushPromiseChild_eq]; i_auto
theorem pushPromiseRest_i (s : Streams) (pk : Nat) (hd : HeadersIn) : Step cx s (s.pushPromiseRest pk hd).1 := by
  unfold Streams.pushPromiseRest; i_auto
theorem recvPushPromise_i (s : Streams) (k : Nat) (hd : HeadersIn) : Step cx s (s.recvPushPromise k hd).1 := by
  rw [Streams.recvPushPromise_eq]; i_auto

theorem sendHandleError_acc (k : Nat) (h : Step cx s0 s) : Step cx s0 (s.sendHandleError k) :=
  h.trans (.of_step (Streams.sendHandleError_step (by decide) s k))
theorem handleError_acc (e : PErr) (h : Step cx s0 s) : Step cx s0 (s.handleError e).1 :=
  h.trans (.of_step (Streams.handleError_step (by decide) s e))
theorem recvGoAwayFrame_acc (l : Nat) (r : Reason) (d : Bytes) (h : Step cx s0 s) :
    Step cx s0 (s.recvGoAwayFrame l r d).1 := h.trans (.of_step (Streams.recvGoAwayFrame_step (by decide) s l r d))

end
end H2V.Lemmas.ConnWakeP
