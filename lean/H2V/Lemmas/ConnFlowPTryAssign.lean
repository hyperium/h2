import H2V.Lemmas.ConnFlowPInv
/-
  ConnFlowP — the two stages of `Prioritize::try_assign_capacity` (`Streams.assignN`: `n` octets from the connection
  to the stream; `Streams.relink`: the stream linked into `pending_capacity` / `pending_send`; ConnStages) and what
  they do to the send-flow fields.  Every fact about `try_assign_capacity` is read off `Streams.tryAssignCapacity_cases`.
-/
namespace H2V.Lemmas.ConnFlowP
open H2V H2V.Model H2V.Model.Conn H2V.Lemmas.Comp

section
variable {s t : Streams}

theorem Fr.relink (h : Fr s t) (id : Nat) : Fr s (t.relink id) := by
  unfold Streams.relink; walk_with (first | with_reducible assumption | with_reducible apply Fr.qPush)

theorem ReqOk.relink (h : ReqOk t) (id : Nat) : ReqOk (t.relink id) := by
  unfold Streams.relink; walk_with (first | with_reducible assumption | with_reducible apply ReqOk.qPush)

theorem relink_flow (s : Streams) (id : Nat) : (s.relink id).prio.flow = s.prio.flow := ((Fr.refl s).relink id).1

theorem assignN_pc (s : Streams) (id n : Nat) : (s.assignN id n).prio.pendingCapacity = s.prio.pendingCapacity := by
  show (s.modStreamW id _).prio.pendingCapacity = _
  rw [modStreamW_prio]

theorem ReqOk.assignN (h : ReqOk t) (id n : Nat) : ReqOk (t.assignN id n) :=
  (ReqOk.modStreamWF (fun _ => Or.inl (assignCapacity_req _ _ _)) h).modPrio _

theorem ReqOk.tryAssignCapacity (h : ReqOk t) (id : Nat) : ReqOk (t.tryAssignCapacity id) :=
  t.tryAssignCapacity_cases id h (fun _ _ => (h.assignN id _).relink id) (fun _ _ => h.relink id)

end

end H2V.Lemmas.ConnFlowP
