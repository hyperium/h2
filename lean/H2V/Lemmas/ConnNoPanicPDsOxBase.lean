import H2V.Lemmas.ConnNoPanicPDsGk
import H2V.Lemmas.ConnNoPanicPFiSk
import H2V.Lemmas.ConnStepLift
/-
  C08 (no panic) — the residual hypothesis `OH` as an invariant: the per-entry invariant `XE` and its frame `XK`.

    `XE sv x` : (n) a locally initiated entry whose send half is not open (`suB`) carries nothing and is not scheduled;
                (f) an entry that waits in `pending_open` or is `is_pending_push` is "virgin" (`Wv`: not scheduled, no DATA at
                    the front, and if nothing is queued not send-streaming) or "dead" (`Dd`: closed, no DATA at all).
    `XK sv s s'` : every entry keeps `XE sv`, and a closed entry stays closed.  It holds of every step of the stream layer whose
                   kinds are in `XK.kinds` (`XK.of_step`); `xk_auto` takes a callee without a lemma `f_xk` from there.
-/
namespace H2V.Lemmas.ConnNoPanicP
open H2V H2V.Model H2V.Model.Conn H2V.Lemmas.ConnCountsP
attribute [local irreducible] wrapSubU32 wrapSubUsize

variable {sv : Bool}

def hnd (l : List SFrame) : Prop := dsum l.head?.toList = 0
def Wv (x : Stream) : Prop :=
  x.isPendingSend = false ∧ hnd x.pendingSend ∧
  (x.pendingSend = [] → x.state.isSendStreaming = false ∧ x.bufferedSendData = 0)
def Dd (x : Stream) : Prop := x.state.isClosed = true ∧ dsum x.pendingSend = 0 ∧ x.bufferedSendData = 0
def Nn (x : Stream) : Prop := x.pendingSend = [] ∧ x.isPendingSend = false ∧ x.bufferedSendData = 0
def flagB (x : Stream) : Bool := x.isPendingOpen || x.isPendingPush

/-- `r`: slack between `buffered_send_data` and the queued DATA of a flagged entry (`Prioritize::send_data` raises the
    counter before it queues the frame) -/
structure XEr (sv : Bool) (r : Nat) (x : Stream) : Prop where
  n : locId sv x.id = true → suB x.state = true → Nn x
  f : flagB x = true → Wv x ∨ Dd x
  e : flagB x = true → x.bufferedSendData ≤ dsum x.pendingSend + r

abbrev XE (sv : Bool) (x : Stream) : Prop := XEr sv 0 x

theorem dsum_head_le (l : List SFrame) : dsum l.head?.toList ≤ dsum l := by
  cases l with
  | nil => exact Nat.le_refl _
  | cons f l => cases f <;> simp [dsum]

theorem XEr.ohead {r : Nat} {x : Stream} (h : XEr sv r x) : OHead x := by
  intro hp
  rcases h.f (by unfold flagB; rw [hp]; rfl) with hw | hd
  · exact hw.2.1
  · have := dsum_head_le x.pendingSend
    have h0 := hd.2.1
    omega

theorem XEr.blank (r k : Nat) : XEr sv r { key := k, id := 0 } :=
  ⟨fun _ _ => ⟨rfl, rfl, rfl⟩, fun h => Bool.noConfusion h, fun h => Bool.noConfusion h⟩

/-- what an update of an entry keeps -/
structure Xp (sv : Bool) (a b : Stream) : Prop where
  xe : ∀ r, XEr sv r a → XEr sv r b

theorem Xp.refl (a : Stream) : Xp sv a a := ⟨fun _ h => h⟩
theorem Xp.trans {a b c : Stream} (h1 : Xp sv a b) (h2 : Xp sv b c) : Xp sv a c :=
  ⟨fun r h => h2.xe r (h1.xe r h)⟩

theorem xp_same {a b : Stream} (h1 : b.id = a.id) (h2 : b.state = a.state) (h3 : b.pendingSend = a.pendingSend)
    (h4 : b.isPendingSend = a.isPendingSend) (h5 : b.bufferedSendData = a.bufferedSendData)
    (h6 : b.isPendingOpen = a.isPendingOpen) (h7 : b.isPendingPush = a.isPendingPush) : Xp sv a b := by
  refine ⟨fun r h => ⟨?_, ?_, ?_⟩⟩
  · unfold Nn; rw [h1, h2, h3, h4, h5]; exact h.n
  · unfold flagB Wv Dd; rw [h2, h3, h4, h5, h6, h7]; exact h.f
  · unfold flagB; rw [h3, h5, h6, h7]; exact h.e

structure STR (a b : State) : Prop where
  su : suB b = true → suB a = true
  st : b.isSendStreaming = true → a.isSendStreaming = true
  cl : a.isClosed = true → b.isClosed = true

theorem xp_state (x : Stream) (st' : State) (h : STR x.state st') : Xp sv x { x with state := st' } := by
  refine ⟨fun r hx => ⟨fun hl hs => hx.n hl (h.su hs), fun hf => ?_, hx.e⟩⟩
  rcases hx.f hf with hw | hd
  · refine .inl ⟨hw.1, hw.2.1, fun hp => ⟨?_, (hw.2.2 hp).2⟩⟩
    have := (hw.2.2 hp).1
    cases hh : st'.isSendStreaming with
    | false => rfl
    | true => have := h.st hh; simp_all
  · exact .inr ⟨h.cl hd.1, hd.2⟩

theorem str_recvOpen {st st' : State} {a b : Bool} {r : Except PErr Bool} (h : st.recvOpen a b = (st', r)) : STR st st' := by
  have hc := State.Step.closed (K := fun _ => true) (id := 0) (.recvOpen a b rfl h)
  have : st' = (st.recvOpen a b).1 := by rw [h]
  subst this
  obtain ⟨inner⟩ := st
  refine ⟨?_, ?_, hc⟩ <;> rcases inner with _ | _ | _ | ⟨_ | _, _ | _⟩ | ⟨_ | _⟩ | ⟨_ | _⟩ | _ <;>
    simp [State.recvOpen, suB, State.isSendStreaming, State.isClosed] <;> (try (cases a <;> cases b <;> simp))
theorem str_recvClose {st st' : State} {r : Except PErr Unit} (h : st.recvClose = (st', r)) : STR st st' := by
  have hc := State.Step.closed (K := fun _ => true) (id := 0) (.recvClose rfl h)
  have : st' = st.recvClose.1 := by rw [h]
  subst this
  obtain ⟨inner⟩ := st
  refine ⟨?_, ?_, hc⟩ <;> rcases inner with _ | _ | _ | ⟨_ | _, _ | _⟩ | ⟨_ | _⟩ | ⟨_ | _⟩ | _ <;>
    simp [State.recvClose, suB, State.isSendStreaming, State.isClosed]
theorem str_sendClose {st st' : State} (h : st.sendClose = some st') : STR st st' := by
  have hc := State.Step.closed (K := fun _ => true) (id := 0) (.sendClose rfl h)
  obtain ⟨inner⟩ := st
  refine ⟨?_, ?_, hc⟩ <;> rcases inner with _ | _ | _ | ⟨_ | _, _ | _⟩ | ⟨_ | _⟩ | ⟨_ | _⟩ | _ <;>
    simp [State.sendClose] at h <;> subst h <;> simp [suB, State.isSendStreaming, State.isClosed]
theorem str_reserveRemote {st st' : State} {r : Except PErr Unit} (h : st.reserveRemote = (st', r)) : STR st st' := by
  have hc := State.Step.closed (K := fun _ => true) (id := 0) (.reserveRemote rfl h)
  have : st' = st.reserveRemote.1 := by rw [h]
  subst this
  obtain ⟨inner⟩ := st
  refine ⟨?_, ?_, hc⟩ <;> rcases inner with _ | _ | _ | ⟨_ | _, _ | _⟩ | ⟨_ | _⟩ | ⟨_ | _⟩ | _ <;>
    simp [State.reserveRemote, suB, State.isSendStreaming, State.isClosed]
theorem str_reserveLocal {st st' : State} {r : Except UserError Unit} (h : st.reserveLocal = (st', r)) : STR st st' := by
  have hc := State.Step.closed (K := fun _ => true) (id := 0) (.reserveLocal rfl h)
  have : st' = st.reserveLocal.1 := by rw [h]
  subst this
  obtain ⟨inner⟩ := st
  refine ⟨?_, ?_, hc⟩ <;> rcases inner with _ | _ | _ | ⟨_ | _, _ | _⟩ | ⟨_ | _⟩ | ⟨_ | _⟩ | _ <;>
    simp [State.reserveLocal, suB, State.isSendStreaming, State.isClosed]
theorem str_handleError (st : State) (e : PErr) : STR st (st.handleError e) := by
  have hc := State.Step.closed (K := fun _ => true) (id := 0) (a := st) (.handleError e rfl fun _ => rfl)
  obtain ⟨inner⟩ := st
  refine ⟨?_, ?_, hc⟩ <;> rcases inner with _ | _ | _ | ⟨_ | _, _ | _⟩ | ⟨_ | _⟩ | ⟨_ | _⟩ | _ <;>
    simp [State.handleError, suB, State.isSendStreaming, State.isClosed]
theorem str_recvEof (st : State) : STR st st.recvEof := by
  have hc := State.Step.closed (K := fun _ => true) (id := 0) (a := st) (.recvEof rfl)
  obtain ⟨inner⟩ := st
  refine ⟨?_, ?_, hc⟩ <;> rcases inner with _ | _ | _ | ⟨_ | _, _ | _⟩ | ⟨_ | _⟩ | ⟨_ | _⟩ | _ <;>
    simp [State.recvEof, suB, State.isSendStreaming, State.isClosed]
theorem str_recvReset (st : State) (sid : Nat) (r : Reason) (q : Bool) : STR st (st.recvReset sid r q) := by
  have hc := State.Step.closed (K := fun _ => true) (id := sid) (a := st) (.recvReset r q rfl rfl)
  obtain ⟨inner⟩ := st
  refine ⟨?_, ?_, hc⟩ <;> rcases inner with _ | _ | _ | ⟨_ | _, _ | _⟩ | ⟨_ | _⟩ | ⟨_ | _⟩ | _ <;>
    simp [State.recvReset, suB, State.isSendStreaming, State.isClosed] <;> (try (cases q <;> simp))
theorem str_closed (st st' : State) (h : st'.isClosed = true) : STR st st' := by
  obtain ⟨inner'⟩ := st'
  cases inner' <;> simp [State.isClosed] at h
  exact ⟨fun h => by simp [suB] at h, fun h => by simp [State.isSendStreaming] at h, fun _ => rfl⟩

macro "str_tac" : tactic => `(tactic| first
  | exact str_recvOpen (by assumption) | exact str_recvClose (by assumption) | exact str_sendClose (by assumption)
  | exact str_reserveRemote (by assumption) | exact str_reserveLocal (by assumption)
  | exact str_handleError _ _ | exact str_recvEof _ | exact str_recvReset _ _ _ _ | exact str_closed _ _ rfl)

theorem notifySend_proj7 (x : Stream) : x.notifySend.1.key = x.key ∧ x.notifySend.1.id = x.id ∧ x.notifySend.1.state = x.state ∧
    x.notifySend.1.pendingSend = x.pendingSend ∧ x.notifySend.1.isPendingSend = x.isPendingSend ∧
    x.notifySend.1.bufferedSendData = x.bufferedSendData ∧ x.notifySend.1.isPendingOpen = x.isPendingOpen ∧
    x.notifySend.1.isPendingPush = x.isPendingPush := by
  rw [Stream.notifySend_fst]; exact ⟨rfl, rfl, rfl, rfl, rfl, rfl, rfl, rfl⟩
theorem notifySend_xp (x : Stream) : x.notifySend.1.key = x.key ∧ Xp sv x x.notifySend.1 := by
  rw [Stream.notifySend_fst]; exact ⟨rfl, xp_same rfl rfl rfl rfl rfl rfl rfl⟩
theorem notifyRecv_xp (x : Stream) : x.notifyRecv.1.key = x.key ∧ Xp sv x x.notifyRecv.1 := by
  rw [Stream.notifyRecv_fst]; exact ⟨rfl, xp_same rfl rfl rfl rfl rfl rfl rfl⟩
theorem notifyPush_xp (x : Stream) : x.notifyPush.1.key = x.key ∧ Xp sv x x.notifyPush.1 := by
  rw [Stream.notifyPush_fst]; exact ⟨rfl, xp_same rfl rfl rfl rfl rfl rfl rfl⟩
theorem notifyCapacity_xp (x : Stream) : x.notifyCapacity.1.key = x.key ∧ Xp sv x x.notifyCapacity.1 := by
  rw [Stream.notifyCapacity_fst]; exact ⟨rfl, xp_same rfl rfl rfl rfl rfl rfl rfl⟩
theorem assignCapacity_xp (x : Stream) (a b : Nat) : (x.assignCapacity a b).1.key = x.key ∧ Xp sv x (x.assignCapacity a b).1 := by
  rw [Stream.assignCapacity_fst]; split <;> exact ⟨rfl, xp_same rfl rfl rfl rfl rfl rfl rfl⟩
theorem setReset_xp (x : Stream) (r : Reason) (i : Initiator) : (x.setReset r i).1.key = x.key ∧ Xp sv x (x.setReset r i).1 := by
  rw [Stream.setReset_fst]
  exact ⟨rfl, Xp.trans (b := { x with state := x.state.setReset x.id r i }) (xp_state _ _ (str_closed _ _ rfl))
    (xp_same rfl rfl rfl rfl rfl rfl rfl)⟩

theorem waitSend_xp (x : Stream) (t : String) : (x.waitSend t).key = x.key ∧ Xp sv x (x.waitSend t) :=
  ⟨rfl, xp_same rfl rfl rfl rfl rfl rfl rfl⟩
theorem waitOpen_xp (x : Stream) (t : String) : (x.waitOpen t).key = x.key ∧ Xp sv x (x.waitOpen t) :=
  ⟨rfl, xp_same rfl rfl rfl rfl rfl rfl rfl⟩

theorem setQueued_xp (x : Stream) (q : QName) (v : Bool) (h : (q ≠ .pendingSend ∧ q ≠ .pendingOpen) ∨ v = false) :
    (x.setQueued q v).key = x.key ∧ Xp sv x (x.setQueued q v) := by
  cases q <;> first | exact ⟨rfl, xp_same rfl rfl rfl rfl rfl rfl rfl⟩ | skip
  · -- pendingSend
    rcases h with h | h
    · exact absurd rfl h.1
    · subst h
      refine ⟨rfl, ⟨fun r hx => ⟨fun hl hs => ⟨(hx.n hl hs).1, rfl, (hx.n hl hs).2.2⟩, fun hf => ?_, hx.e⟩⟩⟩
      rcases hx.f hf with hw | hd
      · exact .inl ⟨rfl, hw.2.1, hw.2.2⟩
      · exact .inr hd
  · -- pendingOpen
    rcases h with h | h
    · exact absurd rfl h.2
    · subst h
      have hff : ∀ hf : flagB (x.setQueued .pendingOpen false) = true, flagB x = true := by
        intro hf
        unfold flagB at hf ⊢
        have : x.isPendingPush = true := by
          have : (false || x.isPendingPush) = true := hf
          simpa using this
        rw [this]; simp
      refine ⟨rfl, ⟨fun r hx => ⟨hx.n, fun hf => ?_, fun hf => hx.e (hff hf)⟩⟩⟩
      have hf' : flagB x = true := by
        unfold flagB at hf ⊢
        have : x.isPendingPush = true := by
          have : (false || x.isPendingPush) = true := hf
          simpa using this
        rw [this]; simp
      exact hx.f hf'

/-- proves `(f x).key = x.key ∧ Xp sv x (f x)` -/
macro "xp_tac" : tactic => `(tactic| with_reducible first
  | exact ⟨rfl, xp_same rfl rfl rfl rfl rfl rfl rfl⟩
  | exact notifyRecv_xp _
  | exact setReset_xp _ _ _
  | exact ⟨rfl, xp_state _ _ (by first | str_tac | (subst_vars; str_tac))⟩)

theorem decContentLength_xp {x y : Stream} {n : Nat} (h : x.decContentLength n = some y) : y.key = x.key ∧ Xp sv x y := by
  unfold Stream.decContentLength at h
  split at h
  · split at h
    · cases h; exact ⟨rfl, xp_same rfl rfl rfl rfl rfl rfl rfl⟩
    · cases h
  · split at h
    · cases h
    · cases h; exact ⟨rfl, .refl _⟩
  · cases h; exact ⟨rfl, .refl _⟩

/-- the kinds of update every entry's `XEr sv r` survives.  Not among them, because the caller has to know something about the
    entry: `pending_send` joined (send-ready, send half open), `pending_open` joined, a frame queued (send half open or
    peer-initiated), `buffered_send_data` raised, a frame taken, `clear_queue` (not send-streaming), `is_pending_push`
    raised, `send_open` (a virgin entry with an empty queue becomes send-streaming); and a new entry (a key may be reused:
    `Step.stream_rel` says nothing then; the operations that insert are walked by hand anyway) -/
def XK.kinds : Kind → Bool
  | .insert | .enqueue .pendingSend | .enqueue .pendingOpen | .frame _ | .buffer | .popFrame | .chargeData | .clearSend | .pendPush
  | .state .sendOpen => false
  | _ => true

theorem STR.of_step {id : Nat} {a b : State} (h : State.Step XK.kinds id a b) : STR a b := by
  cases h with
  | sendOpen _ h _ => exact absurd h (by decide)
  | sendClose _ h => exact str_sendClose h
  | recvOpen _ _ _ h => exact str_recvOpen h
  | recvClose _ h => exact str_recvClose h
  | reserveRemote _ h => exact str_reserveRemote h
  | reserveLocal _ h => exact str_reserveLocal h
  | recvReset => exact str_recvReset _ _ _ _
  | handleError => exact str_handleError _ _
  | recvEof => exact str_recvEof _
  | setScheduledReset | setReset | setResetScheduled => exact str_closed _ _ rfl

theorem Xp.of_updW {K : Kind → Bool} {x : Stream} {p : Stream × List String} (h : Stream.UpdW K x p) : Xp sv x p.1 := by
  cases h with
  | notifySend => exact (notifySend_xp x).2
  | notifyRecv => exact (notifyRecv_xp x).2
  | notifyPush => exact (notifyPush_xp x).2
  | notifyCapacity => exact (notifyCapacity_xp x).2
  | assignCapacity c m _ => exact (assignCapacity_xp x c m).2
  | setReset r i _ => exact (setReset_xp x r i).2

/-- the entry's share of `Queue::push` / `pop`: `pending_send` and `pending_open` are only left -/
theorem Xp.queued (x : Stream) (q : QName) (v : Bool) (h : v = true → XK.kinds (.enqueue q)) : Xp sv x (x.setQueued q v) := by
  refine (setQueued_xp x q v ?_).2
  cases v
  · exact .inr rfl
  · exact .inl ⟨fun e => by subst e; exact absurd (h rfl) (by decide), fun e => by subst e; exact absurd (h rfl) (by decide)⟩

theorem Xp.of_upd {x y : Stream} (h : Stream.Upd XK.kinds x y) : Xp sv x y := by
  cases h with
  | state v h => exact xp_state x v (.of_step h)
  | activated _ =>
    -- lowering `is_pending_push` can only take the entry out of the flagged ones
    have hfl : flagB ({ x with isPendingPush := false } : Stream) = true → flagB x = true := by
      intro hf
      have h' : (x.isPendingOpen || false) = true := hf
      rw [Bool.or_false] at h'
      show (x.isPendingOpen || x.isPendingPush) = true
      rw [h']; rfl
    exact ⟨fun r h => ⟨h.n, fun hf => h.f (hfl hf), fun hf => h.e (hfl hf)⟩⟩
  | decContentLength _ _ h => exact (decContentLength_xp h).2
  | pushSend f h => cases f <;> nomatch h
  | reserved _ _ h | sendData _ _ h _ | buffered _ h | unpopData _ _ h | popSend _ _ h | dropSend h | clearSend h
  | keepOnlyHead h => exact absurd h (by decide)
  | _ => exact xp_same rfl rfl rfl rfl rfl rfl rfl

structure XK (sv : Bool) (s s' : Streams) : Prop where
  xe : ∀ r j, XEr sv r (s.stream j) → XEr sv r (s'.stream j)

theorem XK.refl (s : Streams) : XK sv s s := ⟨fun _ _ h => h⟩
theorem XK.trans {a b c : Streams} (h1 : XK sv a b) (h2 : XK sv b c) : XK sv a c :=
  ⟨fun r j h => h2.xe r j (h1.xe r j h)⟩
theorem XK.of_store {s s' : Streams} (h : s'.store = s.store) : XK sv s s' :=
  ⟨fun r j hj => by rw [stream_of_store_eqP h]; exact hj⟩

theorem panic_xk (s : Streams) (m : String) : XK sv s (s.panic m) := .of_store (panic_store _ _)
theorem wake_xk (s : Streams) (t : List String) : XK sv s (s.wake t) := .of_store rfl
theorem unsup_xk (s : Streams) (m : String) : XK sv s (s.unsup m) := by
  unfold Streams.unsup; split
  · exact .refl _
  · exact .of_store rfl
theorem notifyTask_xk (s : Streams) : XK sv s s.notifyTask := by
  unfold Streams.notifyTask; split
  · exact .of_store rfl
  · exact .refl _
theorem modPrio_xk (s : Streams) (f : Prioritize → Prioritize) : XK sv s (s.modPrio f) := .of_store rfl
theorem modSend_xk (s : Streams) (f : Send → Send) : XK sv s (s.modSend f) := .of_store rfl
theorem modCounts_xk (s : Streams) (f : Counts → Counts) : XK sv s (s.modCounts f) := .of_store rfl
theorem modCountsA_xk (s : Streams) (w : String) (f : Counts → Option Counts) : XK sv s (s.modCountsA w f) := by
  unfold Streams.modCountsA; split
  · exact .of_store rfl
  · exact panic_xk _ _
theorem setQ_xk (s : Streams) (q : QName) (l : List Nat) : XK sv s (s.setQ q l) := .of_store (setQ_store _ _ _)
theorem setMisc_xk (s : Streams) (a : Actions) (refs leaked : Nat) (wk : List String) (un : Option String) :
    XK sv s { s with actions := a, refs := refs, recvBufferLeaked := leaked, wakes := wk, unsupported := un } := .of_store rfl

theorem setStream_xk (s : Streams) (st' : Stream) (h : Xp sv (s.stream st'.key) st') : XK sv s (s.setStream st') := by
  refine ⟨fun r j hj => ?_⟩
  rcases setStream_stream s st' j with e | ⟨e, hk, _⟩
  · rw [e]; exact hj
  · rw [e]; rw [hk] at hj; exact h.xe r hj

/-- a stream update, judged on the entry it is applied to (named by a variable, so that the side goal does not carry the
    whole state) -/
theorem modStream_xk (s : Streams) (k : Nat) (f : Stream → Stream)
    (h : ∀ x, x = s.stream k → (f x).key = x.key ∧ Xp sv x (f x)) : XK sv s (s.modStream k f) := by
  unfold Streams.modStream
  split
  · next st hst =>
    have h := h _ (stream_of_get? hst).symm
    refine setStream_xk s _ ?_
    rw [h.1, get?_key hst, stream_of_get? hst]; exact h.2
  · exact panic_xk _ _
theorem modStreamW_xk (s : Streams) (k : Nat) (f : Stream → Stream × List String)
    (h : ∀ x, x = s.stream k → (f x).1.key = x.key ∧ Xp sv x (f x).1) : XK sv s (s.modStreamW k f) := by
  have h1 := modStream_xk s k (fun x => (f x).1) h
  unfold Streams.modStream at h1
  unfold Streams.modStreamW
  split
  · next st hst => rw [hst] at h1; exact h1.trans (wake_xk _ _)
  · exact panic_xk _ _

theorem qPushFront_xk (s : Streams) (q : QName) (k : Nat) (hq : q ≠ .pendingSend ∧ q ≠ .pendingOpen) :
    XK sv s (s.qPushFront q k).1 := by
  unfold Streams.qPushFront; split
  · exact .refl _
  · exact (modStream_xk _ _ _ fun _ _ => setQueued_xp _ q true (.inl hq)).trans (setQ_xk _ _ _)
theorem qPop_xk (s : Streams) (q : QName) : XK sv s (s.qPop q).1 := by
  unfold Streams.qPop; split
  · exact .refl _
  · exact (setQ_xk _ _ _).trans (modStream_xk _ _ _ fun _ _ => setQueued_xp _ q false (.inr rfl))

theorem remove_xk (s : Streams) (k n : Nat) : XK sv s { s with store := s.store.remove k, recvBufferLeaked := n } := by
  refine ⟨fun r j hj => ?_⟩
  rw [stream_remove]; split
  · exact XEr.blank _ _
  · exact hj
theorem unlink_xk (s : Streams) (id : Nat) : XK sv s { s with store := s.store.unlink id } := ⟨fun _ _ hj => hj⟩

theorem insert_xk (s : Streams) (st : Stream) (h : ∀ r k, XEr sv r { st with key := k }) :
    XK sv s { s with store := (s.store.insert st).1 } := by
  refine ⟨fun r j hj => ?_⟩
  unfold Streams.stream at hj ⊢
  show XEr sv r (((s.store.insert st).1.get? j).getD _)
  rcases insert_get?_cases s.store st j with e | ⟨e0, _, e⟩
  · rw [e]; exact hj
  · rw [e]; exact h _ _
theorem insertNew_xk (s : Streams) (id a b : Nat) : XK sv s { s with store := (s.store.insert (Stream.new id a b)).1 } :=
  insert_xk s _ (fun _ _ => ⟨fun _ _ => ⟨rfl, rfl, rfl⟩, fun h => Bool.noConfusion h, fun h => Bool.noConfusion h⟩)

theorem xk_relOK : Conn.RelOK (XK sv) := ⟨XK.refl, XK.trans, panic_xk⟩

theorem XK.of_step {s s' : Streams} (h : Streams.Step XK.kinds s s') : XK sv s s' :=
  ⟨fun r j => (h.stream_rel Xp.refl Xp.trans (fun _ _ => Xp.of_upd) (fun _ _ => Xp.of_updW) (fun x q v h _ => Xp.queued x q v h)
    (fun _ _ _ => xp_same rfl rfl rfl rfl rfl rfl rfl) (fun _ _ _ => ⟨fun _ _ => XEr.blank _ _⟩) rfl j).xe r⟩

syntax "xk_side" : tactic
macro_rules | `(tactic| xk_side) => `(tactic| (intro _ _; xp_tac))
macro_rules | `(tactic| xk_side) => `(tactic| decide)

syntax "xk_step" : tactic
macro_rules | `(tactic| xk_step) => `(tactic| (intro _; with_reducible apply (id : XK _ _ _ → XK _ _ _)))
macro_rules | `(tactic| xk_step) => `(tactic| with_reducible refine of_fst_eq (P := XK _ _) (by with_reducible assumption) ?_)
macro_rules | `(tactic| xk_step) => `(tactic| open H2V.Model.Conn.Streams in rel_head XK "_xk" via XK.of_step "_step" => (first
  | with_reducible refine XK.trans ?_ (setMisc_xk _ _ _ _ _ _)
  | with_reducible refine XK.trans ?_ (insertNew_xk _ _ _ _))
  on_ite (with_reducible first | refine rel_ite (R := XK _) ?_ ?_ | refine rel_ite_fst (R := XK _) ?_ ?_))
macro_rules | `(tactic| xk_step) => `(tactic| with_reducible exact XK.refl _)
macro_rules | `(tactic| xk_step) => `(tactic| with_reducible assumption)

macro "xk_auto" : tactic => `(tactic| repeat (first | xk_step | xk_side | intro _ | split | dsimp only))
macro "xk_auto_ih" ih:ident : tactic =>
  `(tactic| repeat (first | xk_step | with_reducible refine XK.trans ?_ ($ih ..) | xk_side | intro _ | split | dsimp only))

theorem transitionAfter_xk (s : Streams) (k : Nat) (b : Bool) : XK sv s (s.transitionAfter k b) :=
  .of_step (Streams.transitionAfter_step (by decide) s k b)
theorem transition_xk' {α : Type} (s : Streams) (k : Nat) (f : Streams → Streams × α) (hf : XK sv s (f s).1) :
    XK sv s (s.transition k f).1 :=
  Streams.transition_rel xk_relOK s k f hf fun t b => transitionAfter_xk t k b
theorem transition_xk {α : Type} (s : Streams) (k : Nat) (f : Streams → Streams × α) (hf : ∀ s, XK sv s (f s).1) :
    XK sv s (s.transition k f).1 := transition_xk' s k f (hf s)
theorem storeForEach_xk (s : Streams) (f : Streams → Nat → Streams) (hf : ∀ s k, XK sv s (f s k)) :
    XK sv s (s.storeForEach f) := Streams.storeForEach_rel xk_relOK s f hf
theorem tryForEachAcc_xk (f : Nat → Streams → Nat → Streams × Nat × Option PErr) (hf : ∀ a s k, XK sv s (f a s k).1)
    (fuel i len acc : Nat) (s : Streams) : XK sv s (Streams.tryForEachAcc f fuel i len acc s).1 :=
  Streams.tryForEachAcc_rel xk_relOK f hf fuel i len acc s
theorem foldl_xk {α : Type} (f : Streams → α → Streams) (hf : ∀ s x, XK sv s (f s x)) (l : List α) (s : Streams) :
    XK sv s (l.foldl f s) := Streams.foldl_rel xk_relOK hf l s

end H2V.Lemmas.ConnNoPanicP
