import H2V.Lemmas.ConnFlush
/-
  `FramedRead::poll_next`, walked once: all it does to the frame reader is `Reader.drain` on the buffer extended by what
  was read, the write half is not touched, and a frame it yields is one `drain` cut off.  A reader invariant that does
  not look at `buf` and a property of the frames `drain` yields are therefore an invariant and a property of `poll_next`.
-/
namespace H2V.Model.Conn
open H2V H2V.Model H2V.Model.CodecRead

theorem pollNext_rule {I : Reader → Prop} {G : Frame.Frame → Prop} (hbuf : ∀ r buf, I r → I { r with buf := buf })
    (hdrain : ∀ r, I r → I (Reader.drain 1 r []).1 ∧ ∀ f, Item.frame f ∈ (Reader.drain 1 r []).2.1 → G f)
    (fuel : Nat) (c : Codec) (tag : String) (h : I c.r) :
    I (pollNext fuel c tag).1.r ∧ (pollNext fuel c tag).1.w = c.w ∧ ∀ f, (pollNext fuel c tag).2 = .frame f → G f := by
  induction fuel generalizing c with
  | zero => exact ⟨h, rfl, fun _ hf => Polled.noConfusion hf⟩
  | succ fuel ih =>
    have hd := hdrain _ (hbuf c.r (c.r.buf ++ c.io.rd) h)
    rw [← Codec.readIn_r] at hd
    rcases pollNext_cases fuel c tag with e | ⟨f, rest, hi, e⟩ | ⟨_, _, e⟩ | ⟨_, e⟩ | ⟨_, _, _, hq, e⟩ | e <;> rw [e]
    · exact ⟨h, rfl, fun _ hf => Polled.noConfusion hf⟩
    · exact ⟨hd.1, rfl, fun _ hf => by cases hf; exact hd.2 _ (hi ▸ List.mem_cons_self ..)⟩
    · exact ⟨hd.1, rfl, fun _ hf => Polled.noConfusion hf⟩
    · exact ih _ hd.1
    · exact ⟨hd.1, rfl, fun f hf => by rcases hq with rfl | ⟨_, _, rfl⟩ <;> cases hf⟩
    · exact ⟨hd.1, rfl, fun _ hf => Polled.noConfusion hf⟩

end H2V.Model.Conn
