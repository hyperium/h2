import H2V.Lemmas.ConnCtlPAck
import H2V.Lemmas.ConnFlush
/-
  ConnCtlP — C14, the single steps: what `recv_settings`, `send_settings` and `Settings::poll_send` do to the state, exactly.
-/
set_option autoImplicit false
set_option linter.unusedSimpArgs false
namespace H2V.Lemmas.ConnCtlP
open H2V H2V.Model H2V.Model.Conn

theorem codecPollReady_limits (c : Conn) :
    c.codecPollReady.1.codec.w.maxFrameSize = c.codec.w.maxFrameSize ∧
    c.codecPollReady.1.codec.w.hpack = c.codec.w.hpack ∧ c.codecPollReady.1.codec.r = c.codec.r := by
  have hf : ∀ (w : Writer) (io : Tio) (tag : String),
      (flush w io tag).1.maxFrameSize = w.maxFrameSize ∧ (flush w io tag).1.hpack = w.hpack := by
    intro w io tag
    rcases flush_cases w io tag with e | ⟨b, nx, _, _, _, _, e | e⟩ <;> rw [e]
    · exact ⟨rfl, rfl⟩
    · exact ⟨rfl, rfl⟩
    · rcases unsetFrame_cases { w with buf := b, next := nx } with ⟨_, e⟩ | ⟨_, _, e⟩ <;> rw [e] <;> exact ⟨rfl, rfl⟩
  have : (pollReadyW c.codec.w c.codec.io c.cx).1.maxFrameSize = c.codec.w.maxFrameSize ∧
      (pollReadyW c.codec.w c.codec.io c.cx).1.hpack = c.codec.w.hpack := by
    rcases pollReadyW_cases c.codec.w c.codec.io c.cx with ⟨_, e⟩ | ⟨w1, io1, r1, hf1, e⟩ <;> rw [e]
    · exact ⟨rfl, rfl⟩
    · have := hf c.codec.w c.codec.io c.cx; rw [hf1] at this; exact this
  unfold Conn.codecPollReady
  rcases h : pollReadyW c.codec.w c.codec.io c.cx with ⟨w1, io1, r⟩
  rw [h] at this
  exact ⟨this.1, this.2, rfl⟩

/-- a received SETTINGS frame is only remembered: nothing is applied, nothing is written -/
theorem recvSettings_nonack (c : Conn) (vals : List (Nat × Nat)) (h : c.settings.remote = none) :
    c.recvSettings false vals = ({ c with settings := { c.settings with remote := some vals } }, .ok ()) := by
  simp [Conn.recvSettings, h]

/-- a SETTINGS ACK while no local SETTINGS is waiting for one: connection error PROTOCOL_ERROR,
    state untouched -/
theorem recvSettings_ack_unsolicited (c : Conn) (vals : List (Nat × Nat))
    (h : ∀ l, c.settings.loc ≠ .waitingAck l) :
    c.recvSettings true vals = (c, .error (PErr.libraryGoAway PROTOCOL_ERROR)) := by
  cases hl : c.settings.loc with
  | waitingAck l => exact absurd hl (h l)
  | toSend l => simp [Conn.recvSettings, hl]
  | synced => simp [Conn.recvSettings, hl]

/-- the local values looked up in a SETTINGS frame -/
def getS (vals : List (Nat × Nat)) (id : Nat) : Option Nat := (vals.find? (·.1 = id)).map (·.2)

/-- what the peer's ACK does to the reader: a copy of the three `let r := …` of `recvSettings` -/
def applyLocalToReader (r : CodecRead.Reader) (loc : List (Nat × Nat)) : CodecRead.Reader :=
  let get := fun (id : Nat) => (loc.find? (·.1 = id)).map (·.2)
  let r := match get 5 with | some m => r.setMaxFrameSize m | none => r
  let r := match get 6 with | some m => r.setMaxHeaderListSize m | none => r
  match get 1 with | some v => { r with hpack := r.hpack.queueSizeUpdate v } | none => r

theorem applyLocalToReader_spec (r : CodecRead.Reader) (loc : List (Nat × Nat)) :
    (applyLocalToReader r loc).maxFrameLen = (getS loc 5).getD r.maxFrameLen ∧
    (applyLocalToReader r loc).maxHeaderListSize = (getS loc 6).getD r.maxHeaderListSize ∧
    (applyLocalToReader r loc).buf = r.buf := by
  unfold applyLocalToReader getS
  dsimp only
  cases List.find? (fun x => decide (x.fst = 5)) loc <;> cases List.find? (fun x => decide (x.fst = 6)) loc <;>
    cases List.find? (fun x => decide (x.fst = 1)) loc <;>
    simp [CodecRead.Reader.setMaxFrameSize, CodecRead.Reader.setMaxHeaderListSize]

theorem recvSettings_ack_eq (c : Conn) (vals loc : List (Nat × Nat)) (h : c.settings.loc = .waitingAck loc) :
    c.recvSettings true vals =
      (let c1 : Conn := { c with codec := { c.codec with r := applyLocalToReader c.codec.r loc } }
       match c1.streams.applyLocalSettingsFrame loc with
       | (s, .error e) => ({ c1 with streams := s }, .error e)
       | (s, .ok _) => ({ c1 with streams := s, settings := { c1.settings with loc := .synced } }, .ok ())) := by
  unfold Conn.recvSettings
  simp only [if_true, h]
  rfl

/-- `send_settings` only remembers the frame: neither the streams nor the codec change -/
theorem sendSettings_defers (c : Conn) (vals : List (Nat × Nat)) :
    (c.sendSettings vals).1.streams = c.streams ∧ (c.sendSettings vals).1.codec = c.codec ∧
    (c.settings.loc = .synced → (c.sendSettings vals).1.settings.loc = .toSend vals ∧ (c.sendSettings vals).2 = .ok ()) ∧
    (c.settings.loc ≠ .synced → (c.sendSettings vals) = (c, .error .sendSettingsWhilePending)) := by
  unfold Conn.sendSettings
  cases h : c.settings.loc <;> simp

/-- writing the local SETTINGS frame does not apply it: streams and reader untouched, the state
    becomes `WaitingAck` with the values sent -/
theorem settingsLocalSend_defers (c : Conn) :
    (settingsLocalSend c).1.streams = c.streams ∧ (settingsLocalSend c).1.codec.r = c.codec.r ∧
    (∀ v, (settingsLocalSend c).1.settings.loc = .waitingAck v →
        c.settings.loc = .waitingAck v ∨ c.settings.loc = .toSend v) := by
  unfold settingsLocalSend
  cases hl : c.settings.loc with
  | toSend vals =>
    dsimp only
    rcases h : c.codecPollReady with ⟨c1, st⟩
    obtain ⟨h1, h2, h3, h4, h5, h6⟩ := codecPollReady_eq c c1 st h
    have hr : c1.codec.r = c.codec.r := by
      have := congrArg Prod.fst h; subst this; rfl
    cases st with
    | ok => simp [h4, hr, Conn.bufferSettings, Conn.bufferSimple]
    | pending => simp [h4, hr, h1, hl]
    | err e => simp [h4, hr, h1, hl]
  | waitingAck v => simp [hl]
  | synced => simp [hl]

/-- **the ACK and the application of the peer's values are one step**: `ackAndApply` (the branch of
    `Settings::poll_send` taken when the codec has room) appends exactly one frame — the 9-octet
    SETTINGS ACK — to the write buffer, and the streams it leaves behind are exactly
    `apply_remote_settings(values)` of the streams it found; on success the writer's max frame size
    and HPACK table size are the frame's -/
theorem ackAndApply_spec (c : Conn) (vals : List (Nat × Nat)) :
    (ackAndApply c vals).1.codec.w.buf = c.codec.w.buf ++ [{ bytes := 9, done := some "S:0:1:-" }] ∧
    (ackAndApply c vals).1.streams =
      (c.streams.applyRemoteSettings vals (!c.settings.hasReceivedRemoteInitialSettings)).1 ∧
    (ackAndApply c vals).1.settings.hasReceivedRemoteInitialSettings = true ∧
    ((ackAndApply c vals).2 = .ok →
      (ackAndApply c vals).1.codec.w.maxFrameSize = (getS vals 5).getD c.codec.w.maxFrameSize ∧
      (ackAndApply c vals).1.codec.w.hpack =
        (match getS vals 1 with | some v => c.codec.w.hpack.updateMaxSize v | none => c.codec.w.hpack)) ∧
    (stepOk (ackAndApply c vals).2 = true ↔
      ∃ u, (c.streams.applyRemoteSettings vals (!c.settings.hasReceivedRemoteInitialSettings)).2 = .ok u) := by
  have hbuf : (c.bufferSettings true []).codec.w.buf = c.codec.w.buf ++ [{ bytes := 9, done := some "S:0:1:-" }] := by
    simp [Conn.bufferSettings, Conn.bufferSimple, Writer.bufferSimple, Writer.put, (by decide : Conn.renderSettings true [] = "S:0:1:-"),
      Frame.settingsOrder, Generated.Consts.HEADER_LEN]
  unfold ackAndApply
  dsimp only
  rcases h : Streams.applyRemoteSettings (c.bufferSettings true []).streams vals
      (!(c.bufferSettings true []).settings.hasReceivedRemoteInitialSettings) with ⟨s, r⟩
  have h' : c.streams.applyRemoteSettings vals (!c.settings.hasReceivedRemoteInitialSettings) = (s, r) := h
  rw [h']
  cases r with
  | error e =>
    dsimp only
    refine ⟨hbuf, rfl, rfl, ?_, ?_⟩
    · intro hh; cases hh
    · simp [stepOk]
  | ok u =>
    dsimp only
    refine ⟨?_, rfl, rfl, ?_, ?_⟩
    rotate_left
    · intro _; refine ⟨?_, ?_⟩
      · cases h5 : (List.find? (fun x => decide (x.fst = 5)) vals) <;>
          cases h1 : (List.find? (fun x => decide (x.fst = 1)) vals) <;>
          simp [h5, h1, getS, Conn.bufferSettings, Conn.bufferSimple, Writer.bufferSimple, Writer.put]
      · cases h5 : (List.find? (fun x => decide (x.fst = 5)) vals) <;>
          cases h1 : (List.find? (fun x => decide (x.fst = 1)) vals) <;>
          simp [h5, h1, getS, Conn.bufferSettings, Conn.bufferSimple, Writer.bufferSimple, Writer.put]
    · simp [stepOk]
    · cases h5 : (List.find? (fun x => decide (x.fst = 5)) vals) <;>
        cases h1 : (List.find? (fun x => decide (x.fst = 1)) vals) <;> simp [h5, h1, hbuf]

end H2V.Lemmas.ConnCtlP
