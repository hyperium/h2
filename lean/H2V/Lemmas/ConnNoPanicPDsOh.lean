import H2V.Lemmas.ConnNoPanicPDsPoll
import H2V.Lemmas.ConnNoPanicPAccAll
/-
  C08 (no panic) — `DSum` / `Coupled` as invariants: what is known about the residual hypothesis `OH`
  ("no stream that waits in `pending_open` has DATA at the front of its queue").

  * `OH` is kept by every operation of the stream layer EXCEPT the five that queue the first HEADERS of a locally
    initiated stream, queue DATA, or pop frames: `recvHeaders` (its 431 answer), `sendRequest`, `refSendResponse`
    (`send_headers` → `queue_open`), `refSendData`, `pollComplete` (`OH_step_partial`).
  * without the typing precondition on `refSendInformationalHeaders` (the method exists on `SendResponse` only, not on
    `SendPushedResponse`) `OH` and `DSum` are NOT invariants: `oh_counterexample`.  A 1xx head queued on a pushed stream puts
    it into `pending_send` while `send_response` then also puts it into `pending_open`; with the peer's
    `max_concurrent_streams = 0` the two HEADERS go out while the stream is still `is_pending_open`; DATA queued now is at the
    front of the queue, and `send_reset`'s `pending_open` branch keeps it while zeroing `buffered_send_data`.
-/
namespace H2V.Lemmas.ConnNoPanicP
open H2V H2V.Model H2V.Model.Conn H2V.Lemmas.ConnCountsP
open H2V.Lemmas.ConnResetP (Op run)
attribute [local irreducible] wrapSubU32 wrapSubUsize

/-- `GK` (hence `UK`, and every operation outside the write path) is a step of the frame relation `DK` of ConnNoPanicPPollAcct -/
theorem GK.toDK {s s' : Streams} (h : GK s s') : DK s s' := ⟨h.ds⟩

/-- **`OH` is kept by every operation other than the five of `opOhOpen`** -/
theorem OH_step_partial (s : Streams) (op : Op) (hk : KeysFresh s) (ho : OH s) (hx : ¬ opOhOpen op) : OH (op.apply s) :=
  ((op_go s op hk hx).imp ho).2

/-- a new server connection whose peer allows no pushed stream to be opened (`max_concurrent_streams = 0`) -/
def ohInit : Streams :=
  { counts := { isServer := true, maxSendStreams := 0 },
    actions := { recv := { nextStreamId := some 1, flow := { windowSize := { val := 65535 }, available := { val := 65535 } } },
                 send := { nextStreamId := some 2 } } }

/-- request on stream 1, accepted; stream 2 is promised and the PUSH_PROMISE written; a 1xx head is queued ON THE PUSHED
    STREAM (not possible through `SendPushedResponse`), then its response head; both go out; DATA is queued; the stream is reset -/
def ohOps : List Op :=
  [.recvHeaders cxReq, .nextIncoming, .refSendPushPromise 0 true [], .pollComplete 10 {} {} "t",
   .refSendInformationalHeaders 1 [], .refSendResponse 1 [] false, .pollComplete 10 {} {} "t",
   .refSendData 1 10 false, .refSendReset 1 8]

set_option maxRecDepth 16000 in
/-- **without the typing precondition `DSum` is not an invariant**: after `ohOps` the pushed stream (key 1) still waits in
    `pending_open`, its queue is `[DATA(10), RST_STREAM]`, and `buffered_send_data = 0`; nothing has panicked. -/
theorem oh_counterexample :
    (run ohInit ohOps).panicked = none ∧ ((run ohInit ohOps).stream 1).isPendingOpen = true ∧
    ((run ohInit ohOps).stream 1).pendingSend = [.data 10 false, .reset 8] ∧
    ((run ohInit ohOps).stream 1).bufferedSendData = 0 ∧
    ((run ohInit (ohOps.take 8)).stream 1).pendingSend = [.data 10 false] ∧
    ((run ohInit (ohOps.take 8)).stream 1).isPendingOpen = true := by
  refine ⟨?_, ?_, ?_, ?_, ?_, ?_⟩ <;> decide +kernel

theorem oh_counterexample_not_dsum : ¬ DSum (run ohInit ohOps) := by
  intro h
  have := (h 1).1
  rw [oh_counterexample.2.2.1, oh_counterexample.2.2.2.1] at this
  simp [dsum] at this

end H2V.Lemmas.ConnNoPanicP
