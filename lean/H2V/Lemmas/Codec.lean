import H2V.Lemmas.CodecBytes
import H2V.Lemmas.CodecEncode
import H2V.Lemmas.CodecSplit
import H2V.Lemmas.CodecLoad
import H2V.Lemmas.CodecLoadHeaders
import H2V.Lemmas.CodecReader
import H2V.Lemmas.CodecWriter
import H2V.Lemmas.CodecDecode
import H2V.Lemmas.CodecRoundTrip
import H2V.Lemmas.CodecWire
import H2V.Lemmas.CodecShutdown
/-
  C09 / C12 — frame codec (namespace `H2V.Lemmas.Codec`).

  A. serialise → reference parser round trip          CodecBytes, CodecEncode, CodecSplit
  B. loaders against RFC 9113 §6                        CodecLoad, CodecLoadHeaders
  C. reader chunk invariance                            CodecReader
  D. writer exactness                                   CodecWriter, CodecShutdown
  B'. `decode_frame` level                              CodecArms, CodecDecoded, CodecDecode
  A+B. h2 reads what h2 writes                          CodecRoundTrip, CodecWire
-/
