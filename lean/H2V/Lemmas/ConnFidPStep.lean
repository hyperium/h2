import H2V.Lemmas.ConnWakePPrim
import H2V.Lemmas.ConnFidPBase
import H2V.Lemmas.ConnLoops
/-
  ConnFidP — elementary steps on the two per-stream queues and the in-flight marker.

  Every function of the stream layer is shown (ConnFidPFn*.lean) to be a sequence of ELEMENTARY STEPS
  (`Path P s s' tr`), each of which either leaves every `pending_send`, every `pending_recv` and
  `Prioritize::in_flight_data_frame` alone (a silent step) or does exactly what its LABEL says:

      push k f      f appended at the BACK of `pending_send` of entry k (entry exists)
      pop k f       the HEAD f of `pending_send` of k taken off
      cut k n       `pending_send` of k truncated to its first n frames; the entry is closed; the in-flight
                    marker becomes `Drop` iff it named k
      unpop k f     f put back at the FRONT of `pending_send` of k
      rpush k e     event e appended at the BACK of `pending_recv` of k
      rpop k e      the HEAD e of `pending_recv` of k taken off
      rclear k      `pending_recv` of k emptied
      gone k        entry k removed from the slab
      mark m        in-flight marker set to m

  In every step: keys are never reused, a new entry starts with both queues empty, `Closed` is
  absorbing, key and stream id of an entry never change.  `Perm` says which labels a function may
  produce; the lemma of each model function is generic in `Perm` with one hypothesis per labelled
  primitive it can reach, so the permissions needed by an API call are exactly what it can do.
-/
namespace H2V.Lemmas.ConnFidP
open H2V H2V.Model H2V.Model.Conn H2V.Lemmas.ConnWakeP

inductive Lbl where
  | push (k : Nat) (f : SFrame)
  | pop (k : Nat) (f : SFrame)
  | cut (k n : Nat)
  | unpop (k : Nat) (f : SFrame)
  | rpush (k : Nat) (e : REvent)
  | rpop (k : Nat) (e : REvent)
  | rclear (k : Nat)
  | gone (k : Nat)
  | mark (m : InFlightData)

def Lbl.key? : Lbl → Option Nat
  | .push j _ | .pop j _ | .cut j _ | .unpop j _ | .rpush j _ | .rpop j _ | .rclear j => some j
  | _ => none

def Lbl.isCut : Lbl → Bool
  | .cut _ _ => true
  | _ => false

/-- effect of a step on `pending_send` of the entry with key `k` -/
def sendEff : Option Lbl → Nat → List SFrame → List SFrame
  | some (.push j f), k, q => if j = k then q ++ [f] else q
  | some (.pop j _), k, q => if j = k then q.tail else q
  | some (.cut j n), k, q => if j = k then q.take n else q
  | some (.unpop j f), k, q => if j = k then f :: q else q
  | _, _, q => q

/-- effect of a step on `pending_recv` of the entry with key `k` -/
def recvEff : Option Lbl → Nat → List REvent → List REvent
  | some (.rpush j e), k, q => if j = k then q ++ [e] else q
  | some (.rpop j _), k, q => if j = k then q.tail else q
  | some (.rclear j), k, q => if j = k then [] else q
  | _, _, q => q

/-- effect of a step on `Prioritize::in_flight_data_frame` -/
def markEff : Option Lbl → InFlightData → InFlightData
  | some (.mark m), _ => m
  | some (.cut j _), m => if m = .dataFrame j then .drop else m
  | _, m => m

/-- what a label demands of the entry it names (`a` before, `b` after) -/
def sideOk : Option Lbl → Stream → Stream → Prop
  | some (.pop j f), a, _ => j = a.key → a.pendingSend.head? = some f
  | some (.cut j _), _, b => j = b.key → b.state.isClosed = true
  | some (.rpop j e), a, _ => j = a.key → a.pendingRecv.head? = some e
  | _, _, _ => True

/-- one entry across an elementary step -/
structure ES (l : Option Lbl) (a b : Stream) : Prop where
  key : b.key = a.key
  id : b.id = a.id
  closed : a.state.isClosed = true → b.state.isClosed = true
  send : b.pendingSend = sendEff l a.key a.pendingSend
  recv : b.pendingRecv = recvEff l a.key a.pendingRecv
  side : sideOk l a b

abbrev marker (s : Streams) : InFlightData := s.actions.send.prioritize.inFlightDataFrame

/-- one elementary step on a `Streams` value -/
structure El (l : Option Lbl) (s s' : Streams) : Prop where
  nk : s.store.nextKey ≤ s'.store.nextKey
  keep : ∀ k a, s.store.get? k = some a →
    (∃ b, s'.store.get? k = some b ∧ ES l a b) ∨ (s'.store.get? k = none ∧ l = some (.gone k))
  new : ∀ k b, s.store.get? k = none → s'.store.get? k = some b →
    s.store.nextKey ≤ k ∧ k < s'.store.nextKey ∧ b.pendingSend = [] ∧ b.pendingRecv = []
  mark : marker s' = markEff l (marker s)
  /-- a label other than `cut` names an entry that exists -/
  pres : ∀ l' k, l = some l' → l'.key? = some k → l'.isCut = false → (s.store.get? k).isSome = true
  /-- `gone k`: the entry is not there afterwards -/
  goneAbs : ∀ k, l = some (.gone k) → s'.store.get? k = none

/-- which labels a function may produce -/
structure Perm where
  /-- frames that may be queued, per entry (RST_STREAM may also be queued wherever `cut` is permitted) -/
  push : Nat → SFrame → Prop := fun _ _ => False
  /-- `pop_frame` taking a frame off the head of a queue -/
  pop : Prop := False
  /-- the rest of the write path: `unpop` (`reclaim_frame`), `mark` -/
  write : Prop := False
  cut : Nat → Prop := fun _ => False
  rpush : Nat → REvent → Prop := fun _ _ => False
  rpop : Nat → Prop := fun _ => False
  rclear : Nat → Prop := fun _ => False
  /-- removal of a slab entry (`transition_after` releasing a stream, failed `send_request`) -/
  gone : Prop := False

def Perm.ok (P : Perm) : Lbl → Prop
  | .push k f => P.push k f ∨ (isMsg f = false ∧ P.cut k)
  | .pop _ _ => P.pop
  | .unpop _ _ => P.write
  | .mark _ => P.write
  | .cut k _ => P.cut k
  | .rpush k e => P.rpush k e
  | .rpop k _ => P.rpop k
  | .rclear k => P.rclear k
  | .gone _ => P.gone

/-- a sequence of elementary steps, with the labels it produced -/
inductive Path (P : Perm) : Streams → Streams → List Lbl → Prop
  | refl (s : Streams) : Path P s s []
  | tau {s0 s s' : Streams} {tr : List Lbl} : Path P s0 s tr → El none s s' → Path P s0 s' tr
  | lbl {s0 s s' : Streams} {tr : List Lbl} (l : Lbl) : Path P s0 s tr → El (some l) s s' → P.ok l →
      Path P s0 s' (tr ++ [l])

/-- `s` is reached from `s0` by elementary steps that `P` permits -/
def Tr (P : Perm) (s0 s : Streams) : Prop := ∃ tr, Path P s0 s tr

theorem Path.trans {P : Perm} {s0 s1 s2 : Streams} {t1 t2 : List Lbl} (h1 : Path P s0 s1 t1) (h2 : Path P s1 s2 t2) :
    Path P s0 s2 (t1 ++ t2) := by
  induction h2 with
  | refl => simpa using h1
  | tau _ e ih => exact .tau ih e
  | lbl l _ e ok ih => rw [← List.append_assoc]; exact .lbl l ih e ok

theorem Tr.refl (P : Perm) (s : Streams) : Tr P s s := ⟨[], .refl s⟩
theorem Tr.trans {P : Perm} {s0 s1 s2 : Streams} (h1 : Tr P s0 s1) (h2 : Tr P s1 s2) : Tr P s0 s2 := by
  obtain ⟨t1, p1⟩ := h1; obtain ⟨t2, p2⟩ := h2; exact ⟨_, p1.trans p2⟩
theorem Tr.tau {P : Perm} {s0 s s' : Streams} (h : Tr P s0 s) (e : El none s s') : Tr P s0 s' := by
  obtain ⟨t, p⟩ := h; exact ⟨t, .tau p e⟩
theorem Tr.lbl {P : Perm} {s0 s s' : Streams} (h : Tr P s0 s) (l : Lbl) (e : El (some l) s s') (ok : P.ok l) :
    Tr P s0 s' := by
  obtain ⟨t, p⟩ := h; exact ⟨_, .lbl l p e ok⟩

theorem Path.mono {P Q : Perm} (hPQ : ∀ l, P.ok l → Q.ok l) {s0 s : Streams} {tr : List Lbl} (h : Path P s0 s tr) :
    Path Q s0 s tr := by
  induction h with
  | refl => exact .refl _
  | tau _ e ih => exact .tau ih e
  | lbl l _ e ok ih => exact .lbl l ih e (hPQ l ok)

theorem Tr.mono {P Q : Perm} (hPQ : ∀ l, P.ok l → Q.ok l) {s s' : Streams} (t : Tr P s s') : Tr Q s s' := by
  obtain ⟨tr, p⟩ := t; exact ⟨tr, p.mono hPQ⟩

theorem Path.allowed {P : Perm} {s0 s : Streams} {tr : List Lbl} (h : Path P s0 s tr) : ∀ l ∈ tr, P.ok l := by
  induction h with
  | refl => simp
  | tau _ _ ih => exact ih
  | lbl l _ _ ok ih =>
    intro x hx
    rcases List.mem_append.mp hx with hx | hx
    · exact ih x hx
    · simp only [List.mem_singleton] at hx; subst hx; exact ok

@[grind =] theorem es_none_iff (a b : Stream) : ES none a b ↔ (b.key = a.key ∧ b.id = a.id ∧
    (a.state.isClosed = true → b.state.isClosed = true) ∧ b.pendingSend = a.pendingSend ∧ b.pendingRecv = a.pendingRecv) :=
  ⟨fun h => ⟨h.key, h.id, h.closed, h.send, h.recv⟩, fun ⟨h1, h2, h3, h4, h5⟩ => ⟨h1, h2, h3, h4, h5, trivial⟩⟩

theorem ES.rfl_none (a : Stream) : ES none a a := ⟨rfl, rfl, fun h => h, rfl, rfl, trivial⟩

theorem ES.other (l : Lbl) (a : Stream) (h : l.key? ≠ some a.key) : ES (some l) a a := by
  refine ⟨rfl, rfl, fun h => h, ?_, ?_, ?_⟩
  · cases l <;> simp only [sendEff] <;> simp_all [Lbl.key?]
  · cases l <;> simp only [recvEff] <;> simp_all [Lbl.key?]
  · cases l <;> simp only [sideOk] <;> simp_all [Lbl.key?]

theorem ES.gone_any (k : Nat) (a : Stream) : ES (some (.gone k)) a a := ⟨rfl, rfl, fun h => h, rfl, rfl, trivial⟩
theorem ES.mark_any (m : InFlightData) (a : Stream) : ES (some (.mark m)) a a := ⟨rfl, rfl, fun h => h, rfl, rfl, trivial⟩

/-- same slab (the id map may differ) -/
theorem El.of_store_eq' {s s' : Streams} (h1 : ∀ k, s'.store.get? k = s.store.get? k)
    (h3 : s'.store.nextKey = s.store.nextKey) (h2 : marker s' = marker s) : El none s s' where
  nk := by rw [h3]; exact Nat.le_refl _
  keep := fun k a h => Or.inl ⟨a, by rw [h1, h], ES.rfl_none a⟩
  new := by intro k b h h'; rw [h1, h] at h'; cases h'
  mark := h2
  pres := by intro _ _ h; cases h
  goneAbs := by intro _ h; cases h

theorem El.of_store_eq {s s' : Streams} (h1 : s'.store = s.store) (h2 : marker s' = marker s) : El none s s' :=
  .of_store_eq' (fun _ => by rw [h1]) (by rw [h1]) h2

theorem El.stays_none {l : Option Lbl} {s s' : Streams} (e : El l s s') {k : Nat} (hn : s.store.get? k = none)
    (hlt : k < s.store.nextKey) : s'.store.get? k = none := by
  cases hb : s'.store.get? k with
  | none => rfl
  | some b => exact absurd (e.new k b hn hb).1 (Nat.not_le.mpr hlt)

theorem El.refl_none (s : Streams) : El none s s := .of_store_eq rfl rfl

/-- replacing the entry of `b.key`, the marker untouched; `hl`: the label names no other entry -/
theorem El.setStream {l : Option Lbl} {s : Streams} {a b : Stream} (ha : s.store.get? b.key = some a) (hab : ES l a b)
    (hl : ∀ x : Stream, x.key ≠ b.key → ES l x x) (hm : markEff l (marker s) = marker s)
    (hp : ∀ l' k, l = some l' → l'.key? = some k → k = b.key) (hng : ∀ k, l ≠ some (.gone k)) : El l s (s.setStream b) where
  nk := Nat.le_refl _
  keep := by
    intro k x hx
    refine Or.inl ?_
    show ∃ y, (s.store.set b).get? k = some y ∧ _
    rw [Conn.Store.get?_set]
    by_cases hk : k = b.key
    · subst hk; rw [ha] at hx; cases hx
      exact ⟨b, by simp [ha], hab⟩
    · refine ⟨x, by simp [hk, hx], hl x ?_⟩
      rw [Conn.Store.get?_key hx]; exact hk
  new := by
    intro k y h h'
    have : (s.store.set b).get? k = some y := h'
    rw [Conn.Store.get?_set, h] at this
    split at this <;> cases this
  mark := hm.symm
  pres := by intro l' k e hk _; rw [hp l' k e hk, ha]; rfl
  goneAbs := by intro k e; exact absurd e (hng k)

theorem panic_marker (s : Streams) (m : String) : marker (s.panic m) = marker s := by
  unfold marker; rw [Streams.panic_actions]

theorem El.panic (s : Streams) (m : String) : El none s (s.panic m) :=
  .of_store_eq (Streams.panic_store s m) (panic_marker s m)

theorem El.modStream {l : Option Lbl} (s : Streams) (k : Nat) (f : Stream → Stream)
    (hf : ∀ a, s.store.get? k = some a → ES l a (f a))
    (hl : ∀ x : Stream, x.key ≠ k → ES l x x) (hm : markEff l (marker s) = marker s)
    (hp : ∀ l' j, l = some l' → l'.key? = some j → j = k) (hng : ∀ k, l ≠ some (.gone k)) :
    (s.store.get? k).isSome = true → El l s (s.modStream k f) := by
  intro hs
  obtain ⟨a, ha⟩ := Option.isSome_iff_exists.mp hs
  rw [Streams.modStream_of_some ha]
  have h := hf a ha
  have hk : (f a).key = k := by rw [h.key]; exact Conn.Store.get?_key ha
  exact El.setStream (by rw [hk]; exact ha) h (by rw [hk]; exact hl) hm (by rw [hk]; exact hp) hng

end H2V.Lemmas.ConnFidP
