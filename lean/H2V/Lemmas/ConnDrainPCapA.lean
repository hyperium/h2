import H2V.Lemmas.ConnFlowPCw
/-
  ConnDrainP — `KInv` = ConnFlowP's `SafeInv` ∧ `ReqOk` ∧ `CapInv` (nobody waits in `pending_capacity` while the
  connection has capacity to give; ConnFlowPMv), carried together through every model function: the capacity-moving
  functions need the first two to keep the third.  It passes along every strong frame step (`KInv.sfr`), which is all a
  function that moves no capacity needs, and along every step of the send side (`MvG.kinv`), so along every operation of
  the API (`(ConnFlowP.Mv.op op hv s).kinv`).
-/
namespace H2V.Lemmas.ConnDrainP
open H2V H2V.Model H2V.Model.Conn
open H2V.Lemmas.ConnFlowP

structure KInv (t : Streams) : Prop where
  safe : SafeInv t
  req : ReqOk t
  cap : CapInv t

section
variable {t : Streams}

/-- a strong frame step gives the connection nothing and queues nobody in `pending_capacity` -/
theorem KInv.sfr {t' : Streams} (hf : SFr t t') (h : KInv t) : KInv t' :=
  ⟨h.safe.sfr hf, hf.req h.req, by
    rcases h.cap with hc | hc
    · exact Or.inl (List.suffix_nil.1 (hc ▸ hf.pc))
    · exact Or.inr (by rw [hf.fr.1]; exact hc)⟩

theorem KInv.withStoreRemove (h : KInv t) (k : Nat) : KInv { t with store := t.store.remove k } :=
  h.sfr ((SFr.refl t).of_store (StoreFr.remove _ _) (fun _ hy => Or.inl (List.mem_filter.1 hy).1) rfl)
theorem _root_.H2V.Lemmas.ConnFlowP.MvG.kinv {w : Bool} {t' : Streams} (hm : MvG w 0 t 0 t') (h : KInv t) : KInv t' :=
  ⟨hm.safe h.safe, hm.req h.req, hm.cap h.safe h.req h.cap⟩

theorem KInv.assignConnectionCapacityLoop (fuel : Nat) :
    ∀ {t : Streams}, KInv t → KInv (Streams.assignConnectionCapacityLoop fuel t) :=
  fun h => (MvG.assignConnectionCapacityLoop fuel (MvG.refl true 0 _)).kinv h

theorem KInv.popFrame (h : KInv t) (fuel maxLen : Nat) : KInv (Streams.popFrame fuel t maxLen).1 :=
  ((MvG.refl false 0 t).popFrame fuel maxLen).kinv h

end

end H2V.Lemmas.ConnDrainP
