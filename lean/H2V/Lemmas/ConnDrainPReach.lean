import H2V.Lemmas.ConnDrainPParked
import H2V.Lemmas.ConnDrainPPushed
/-
  ConnDrainP — `DReach`: connection states reachable from a fresh connection by polls, handle calls,
  user calls on the connection and arbitrary transport events; `CInv` holds in all of them (`DReach.cinv`), hence
  `Connection::poll` `Pending` ⇒ `PollParked` in every history (`dreach_poll_pending_parked`).
-/
namespace H2V.Lemmas.ConnDrainP
open H2V H2V.Model H2V.Model.Conn

/-- the calls the user-side handles make on the stream layer (any arguments) -/
inductive HandleStep : Streams → Streams → Prop
  | cloneHandle (s : Streams)  : HandleStep s s.cloneHandle
  | dropHandle (s : Streams)  : HandleStep s s.dropHandle
  | cloneStreamRef (s : Streams) (k : Nat) : HandleStep s (s.cloneStreamRef k)
  | dropStreamRef (s : Streams) (k : Nat) : HandleStep s (s.dropStreamRef k)
  | sendRequest (s : Streams) (b : Bool) (f : List Hpack.Field) (e : Bool) (p : Option Nat) : HandleStep s (s.sendRequest b f e p).1
  | pollPendingOpen (s : Streams) (p : Option Nat) (t : String) : HandleStep s (s.pollPendingOpen p t).1
  | nextIncoming (s : Streams)  : HandleStep s s.nextIncoming.1
  | recvTakeRequest (s : Streams) (k : Nat) : HandleStep s (s.recvTakeRequest k).1
  | refSendResponse (s : Streams) (k : Nat) (f : List Hpack.Field) (e : Bool) : HandleStep s (s.refSendResponse k f e).1
  | refSendInformationalHeaders (s : Streams) (k : Nat) (f : List Hpack.Field) : HandleStep s (s.refSendInformationalHeaders k f).1
  | refSendPushPromise (s : Streams) (k : Nat) (v : Bool) (f : List Hpack.Field) : HandleStep s (s.refSendPushPromise k v f).1
  | refSendData (s : Streams) (k len : Nat) (e : Bool) : HandleStep s (s.refSendData k len e).1
  | refSendTrailers (s : Streams) (k : Nat) (f : List Hpack.Field) : HandleStep s (s.refSendTrailers k f).1
  | refSendReset (s : Streams) (k : Nat) (r : Reason) : HandleStep s (s.refSendReset k r)
  | refReserveCapacity (s : Streams) (k c : Nat) : HandleStep s (s.refReserveCapacity k c)
  | pollCapacity (s : Streams) (k : Nat) (t : String) : HandleStep s (s.pollCapacity k t).1
  | pollReset (s : Streams) (k : Nat) (m : PollReset) (t : String) : HandleStep s (s.pollReset k m t).1
  | recvPollResponse (s : Streams) (n k : Nat) (t : String) : HandleStep s (Streams.recvPollResponse n s k t).1
  | recvPollInformational (s : Streams) (k : Nat) (t : String) : HandleStep s (s.recvPollInformational k t).1
  | refPollData (s : Streams) (k : Nat) (t : String) : HandleStep s (s.refPollData k t).1
  | recvPollTrailers (s : Streams) (k : Nat) (t : String) : HandleStep s (s.recvPollTrailers k t).1
  | refReleaseCapacity (s : Streams) (k c : Nat) : HandleStep s (s.refReleaseCapacity k c).1
  | refClearRecvBuffer (s : Streams) (k : Nat) : HandleStep s (s.refClearRecvBuffer k)
  | refPollPushed (s : Streams) (k : Nat) (t : String) : HandleStep s (s.refPollPushed k t).1
  | clearWakes (s : Streams) : HandleStep s { s with wakes := [] }
  | recvEof (s : Streams) (b : Bool) : HandleStep s (s.recvEof b)
  | wake (s : Streams) (t : List String) : HandleStep s (s.wake t)

theorem SReach.handle {s s' : Streams} (h : SReach s) (hs : HandleStep s s') : SReach s' := by
  cases hs with
  | cloneHandle => exact h.op .cloneHandle trivial trivial
  | dropHandle => exact h.op .dropHandle trivial trivial
  | cloneStreamRef k => exact h.op (.cloneStreamRef k) trivial trivial
  | dropStreamRef k => exact h.op (.dropStreamRef k) trivial trivial
  | sendRequest b f e p => exact h.op (.sendRequest b f e p) trivial trivial
  | pollPendingOpen p t => exact h.op (.pollPendingOpen p t) trivial trivial
  | nextIncoming => exact h.op .nextIncoming trivial trivial
  | recvTakeRequest k => exact h.op (.recvTakeRequest k) trivial trivial
  | refSendResponse k f e => exact h.op (.refSendResponse k f e) trivial trivial
  | refSendInformationalHeaders k f => exact h.op (.refSendInformationalHeaders k f) trivial trivial
  | refSendPushPromise k v f => exact h.op (.refSendPushPromise k v f) trivial trivial
  | refSendData k len e => exact h.op (.refSendData k len e) trivial trivial
  | refSendTrailers k f => exact h.op (.refSendTrailers k f) trivial trivial
  | refSendReset k r => exact h.op (.refSendReset k r) trivial trivial
  | refReserveCapacity k c => exact h.op (.refReserveCapacity k c) trivial trivial
  | pollCapacity k t => exact h.op (.pollCapacity k t) trivial trivial
  | pollReset k m t => exact h.op (.pollReset k m t) trivial trivial
  | recvPollResponse n k t => exact h.op (.recvPollResponse n k t) trivial trivial
  | recvPollInformational k t => exact h.op (.recvPollInformational k t) trivial trivial
  | refPollData k t => exact h.op (.refPollData k t) trivial trivial
  | recvPollTrailers k t => exact h.op (.recvPollTrailers k t) trivial trivial
  | refReleaseCapacity k c => exact h.op (.refReleaseCapacity k c) trivial trivial
  | refClearRecvBuffer k => exact h.op (.refClearRecvBuffer k) trivial trivial
  | refPollPushed k t => exact h.refPollPushed k t
  | clearWakes => exact h.op .clearWakes trivial trivial
  | recvEof b => exact h.op (.recvEof b) trivial trivial
  | wake t => exact h.op (.wake t) trivial trivial


/-- connection states reachable from a fresh connection (builder options h2 accepts) by: polls of the connection
    (any fuel), calls of the user-side handles on the stream layer (any arguments), arbitrary transport events
    (input delivered, budgets, errors, wakers taken), a change of the polling task, and the user calls on the
    connection object (`set_target_window_size`, `set_initial_window_size` with sizes ≤ 2^31-1 as h2 asserts,
    ping handle, graceful / abrupt shutdown) -/
inductive DReach : Conn → Prop
  | client (g : Conn.Cfg) (hodd : g.firstId % 2 = 1) (hcws : ∀ sz, g.cws = some sz → sz ≤ 2147483647)
      (hiws : ∀ t, g.iws = some t → t ≤ 2147483647) : DReach (Conn.init g)
  | server (g : Conn.Cfg) (ecp : Bool) (pf : Bytes) (hcws : ∀ sz, g.cws = some sz → sz ≤ 2147483647)
      (hiws : ∀ t, g.iws = some t → t ≤ 2147483647) : DReach (Conn.initServer g ecp pf)
  | protoPoll (n : Nat) {c : Conn} : DReach c → DReach (Conn.protoPoll n c).1
  | clientPoll (n : Nat) {c : Conn} : DReach c → DReach (Conn.clientPoll n c).1
  | handle {c : Conn} {s' : Streams} : DReach c → HandleStep c.streams s' → DReach { c with streams := s' }
  | transport {c : Conn} (io : Tio) : DReach c → DReach { c with codec := { c.codec with io := io } }
  | setCx {c : Conn} (tag : String) : DReach c → DReach { c with cx := tag }
  | setTargetWindowSize {c : Conn} (sz : Nat) (h : sz ≤ 2147483647) : DReach c → DReach (c.setTargetWindowSize sz)
  | setInitialWindowSize {c : Conn} (sz : Nat) (h : sz ≤ 2147483647) : DReach c → DReach (c.setInitialWindowSize sz).1
  | takeUserPings {c : Conn} : DReach c → DReach c.takeUserPings.1
  | userSendPing {c : Conn} : DReach c → DReach c.userSendPing.1
  | userPollPong {c : Conn} (tag : String) : DReach c → DReach (c.userPollPong tag).1
  | dropUserPingsRx {c : Conn} : DReach c → DReach c.dropUserPingsRx
  | goAwayGracefully {c : Conn} : DReach c → DReach c.goAwayGracefully
  | goAwayFromUser {c : Conn} (e : Reason) : DReach c → DReach (c.goAwayFromUser e)

theorem CInv.setInitialWindowSize {c : Conn} (h : CInv c) (sz : Nat) (hsz : sz ≤ 2147483647) :
    CInv (c.setInitialWindowSize sz).1 := by
  unfold Conn.setInitialWindowSize Conn.sendSettings
  split
  · next hl =>
    refine ⟨h.cap, h.sr, h.remote, ?_⟩
    intro v hv
    rcases hv with hv | hv
    · cases hv
    · injection hv with e
      subst e
      intro t ht
      have : ConnRecvP.settingsIws [(4, sz)] = some sz := by
        unfold ConnRecvP.settingsIws; simp
      rw [this] at ht; cases ht; exact hsz
  · exact h

theorem CInv.userPings {c : Conn} (h : CInv c) :
    CInv c.takeUserPings.1 ∧ CInv c.userSendPing.1 ∧ (∀ t, CInv (c.userPollPong t).1) ∧ CInv c.dropUserPingsRx := by
  refine ⟨?_, ?_, ?_, ?_⟩
  · unfold Conn.takeUserPings; split
    · exact h
    · exact h.of_streams h.sr rfl rfl
  · unfold Conn.userSendPing
    split
    · exact h
    · dsimp only
      split
      · have hw : CInv ({ c with streams := c.streams.wake (‹UserPings›).pingTask.toList }) := h.of_streams (h.sr.op (.wake _) trivial trivial) rfl rfl
        exact hw.of_streams hw.sr rfl rfl
      · split <;> exact h
  · intro t
    unfold Conn.userPollPong
    split
    · exact h
    · dsimp only
      split
      · exact h.of_streams h.sr rfl rfl
      · split <;> exact h.of_streams h.sr rfl rfl
  · unfold Conn.dropUserPingsRx
    split
    · exact h
    · dsimp only
      have hw : CInv ({ c with streams := c.streams.wake (‹UserPings›).pongTask.toList }) := h.of_streams (h.sr.op (.wake _) trivial trivial) rfl rfl
      exact hw.of_streams hw.sr rfl rfl

theorem CInv.goAwayGracefully {c : Conn} (h : CInv c) : CInv c.goAwayGracefully := by
  unfold Conn.goAwayGracefully
  split
  · exact h
  · dsimp only
    have h1 := h.dynGoAway Conn.STREAM_ID_MAX NO_ERROR
    have h2 : CInv (if (c.dynGoAway Conn.STREAM_ID_MAX NO_ERROR).pingPong.pendingPing.isSome = true then
        (c.dynGoAway Conn.STREAM_ID_MAX NO_ERROR).panic "assertion failed: self.pending_ping.is_none()"
        else c.dynGoAway Conn.STREAM_ID_MAX NO_ERROR) := CInv.ite _ (h1.panic _) h1
    exact h2.of_streams h2.sr rfl rfl

theorem CInv.goAwayFromUser {c : Conn} (h : CInv c) (e : Reason) : CInv (c.goAwayFromUser e) := by
  unfold Conn.goAwayFromUser
  dsimp only
  have h1 : CInv ({ c with goAway := (c.goAway.goAwayFromUser { lastStreamId := c.streams.recv.lastProcessedId, reason := e }).1 }) :=
    h.of_streams h.sr rfl rfl
  have h2 := h1.ite_panic ((c.goAway.goAwayFromUser { lastStreamId := c.streams.recv.lastProcessedId, reason := e }).2 = true)
    "GOAWAY stream IDs shouldn't be higher"
  exact h2.of_streams (h2.sr.op (.handleError _) trivial trivial) rfl rfl

/-- **the connection invariant holds in every reachable connection state** -/
theorem DReach.cinv {c : Conn} (h : DReach c) : CInv c := by
  induction h with
  | client g hodd hcws hiws => exact cinv_init g hodd hcws hiws
  | server g ecp pf hcws hiws => exact cinv_initServer g ecp pf hcws hiws
  | protoPoll n _ ih => exact CInv.protoPoll n ih
  | clientPoll n _ ih => exact ih.clientPoll n
  | handle _ hs ih => exact ih.of_streams (ih.sr.handle hs) rfl rfl
  | transport io _ ih => exact ⟨ih.cap, ih.sr, ih.remote, ih.loc⟩
  | setCx tag _ ih => exact ⟨ih.cap, ih.sr, ih.remote, ih.loc⟩
  | setTargetWindowSize sz hsz _ ih =>
    unfold Conn.setTargetWindowSize
    exact ih.of_streams (ih.sr.op (.setTargetConnectionWindow sz) trivial hsz) rfl rfl
  | setInitialWindowSize sz hsz _ ih => exact ih.setInitialWindowSize sz hsz
  | takeUserPings _ ih => exact ih.userPings.1
  | userSendPing _ ih => exact ih.userPings.2.1
  | userPollPong tag _ ih => exact ih.userPings.2.2.1 tag
  | dropUserPingsRx _ ih => exact ih.userPings.2.2.2
  | goAwayGracefully _ ih => exact ih.goAwayGracefully
  | goAwayFromUser e _ ih => exact ih.goAwayFromUser e


/-- **no lost wake-up for the connection task, every history**: in every reachable connection state,
    `Connection::poll` answers `Pending` only with the connection task parked and nothing writable left -/
theorem dreach_poll_pending_parked {c c' : Conn} (n : Nat) (h : DReach c) (hp : c'.streams.panicked = none) :
    (Conn.protoPoll n c = (c', .pending) → PollParked c') ∧ (Conn.clientPoll n c = (c', .pending) → PollParked c') :=
  ⟨fun hq => protoPoll_pending_parked n c c' h.cinv hq hp, fun hq => clientPoll_pending_parked n c c' h.cinv hq hp⟩

/-- **the `pending_capacity` clause, in every history**: a stream waits in `pending_capacity` only while the
    connection-level send window has nothing left to hand out (`SReach.k`: `KInv` is part of the stream-layer
    invariant, kept by every call — `SReach.op`) -/
theorem dreach_capacity {c : Conn} (h : DReach c) :
    c.streams.prio.pendingCapacity = [] ∨ c.streams.prio.flow.available.val = 0 := by
  have hk := h.cinv.sr.k
  rcases hk.cap with e | e
  · exact Or.inl e
  · exact Or.inr (by have := hk.safe.a0; omega)

end H2V.Lemmas.ConnDrainP
