import H2V.Lemmas.ConnCtlPViewRecv
/-
  ConnCtlP, view lemmas — the two frame entry points of streams.rs that write an id: `recvHeaders` → `lpi` (upwards, to the
  frame's id, at most `max_stream_id`), `recvGoAwayFrame` → `send.max_stream_id` (which the invariant does not read).  Every
  other entry point writes no id, so `ids_of_step` speaks for it.
-/
set_option autoImplicit false
namespace H2V.Lemmas.ConnCtlP
open H2V H2V.Model H2V.Model.Conn

/-- from `h : s.foo … = (s1, r)` (with a `@[simp]` frame lemma for `foo`) get `hv : view s = view s1` -/
macro "view_from " h:ident " as " hv:ident : tactic =>
  `(tactic| (have $hv := congrArg (fun p => view (Prod.fst p)) $h; simp at $hv:ident))

@[simp, view_simp] theorem view_innerSendReset (s : Streams) (id : Nat) (r : Reason) : view (s.innerSendReset id r).1 = view s :=
  view_of_step (Streams.innerSendReset_step (by decide) s id r)

theorem view_recvHeadersDispatch (s : Streams) (k : Nat) (h : HeadersIn) :
    ∃ l, view (s.recvHeadersDispatch k h).1 = { view s with lpi := l } ∧
      (l = (view s).lpi ∨ (l = h.sid ∧ (view s).lpi < h.sid)) := by
  unfold Streams.recvHeadersDispatch
  split
  · obtain ⟨l, hl1, hl2, -⟩ := view_recvRecvHeaders s k h
    refine ⟨l, ?_, hl2⟩
    rw [← hl1]
    split <;> simp only [view_simp, view_of_step (Streams.sendHeaders_step (by decide) _ _ _ _),
      view_of_step (Streams.scheduleImplicitReset_step (by decide) _ _ _), view_of_step (Streams.enqueueResetExpiration_step (by decide) _ _), *]
  · exact ⟨_, by rw [view_of_step (Streams.recvRecvTrailers_step (by decide) s k h)], Or.inl rfl⟩

theorem view_recvHeadersBody (s : Streams) (k : Nat) (h : HeadersIn) :
    ∃ l, view (s.recvHeadersBody k h).1 = { view s with lpi := l } ∧
      (l = (view s).lpi ∨ (l = h.sid ∧ (view s).lpi < h.sid)) := by
  unfold Streams.recvHeadersBody
  split
  · exact ⟨_, rfl, Or.inl rfl⟩
  · obtain ⟨l, hl1, hl2⟩ := view_recvHeadersDispatch s k h
    exact ⟨l, by rw [← hl1]; exact view_of_step (Streams.resetOnRecvStreamErr_step (by decide) _ _ _ fun _ _ _ => rfl), hl2⟩

/-- **`Inner::recv_headers`** writes nothing of the view but `last_processed_id`, which it can only
    raise — to the stream id of the frame, which is at most `max_stream_id` -/
theorem view_recvHeaders (s : Streams) (h : HeadersIn) :
    ∃ l, view (s.recvHeaders h).1 = { view s with lpi := l } ∧
      (l = (view s).lpi ∨ (l = h.sid ∧ (view s).lpi < h.sid ∧ h.sid ≤ (view s).rmax)) := by
  rw [Streams.recvHeaders_eq]
  by_cases hm : h.sid > s.recv.maxStreamId
  · rw [if_pos hm]; exact ⟨_, rfl, Or.inl rfl⟩
  · rw [if_neg hm]
    have hle : h.sid ≤ (view s).rmax := Nat.le_of_not_gt hm
    have he := view_of_step (Streams.recvHeadersEntry_step (by decide) s h)
    rcases hE : s.recvHeadersEntry h with ⟨s1, r⟩
    rw [hE] at he
    dsimp only at he
    cases r with
    | error e => exact ⟨_, by rw [he], Or.inl rfl⟩
    | ok o =>
      cases o with
      | none => exact ⟨_, by rw [he], Or.inl rfl⟩
      | some k =>
        dsimp only
        split
        · exact ⟨_, by rw [he], Or.inl rfl⟩
        · split
          · exact ⟨_, by rw [he], Or.inl rfl⟩
          · obtain ⟨l, hl1, hl2⟩ := view_recvHeadersBody s1 k h
            rw [view_transition, hl1, he]
            refine ⟨l, rfl, ?_⟩
            rw [he] at hl2
            rcases hl2 with hl2 | ⟨hl2, hl3⟩
            · exact Or.inl hl2
            · exact Or.inr ⟨hl2, hl3, hle⟩

/-- `Inner::recv_go_away` writes `send.max_stream_id` and, on success, `conn_error`: after the id is lowered the rest is a
    step that writes no id -/
theorem recvGoAwayFrame_ids (s : Streams) (last : Nat) (reason : Reason) (debug : Bytes) :
    (view (s.recvGoAwayFrame last reason debug).1).lpi = (view s).lpi ∧
    (view (s.recvGoAwayFrame last reason debug).1).rmax = (view s).rmax ∧
    ((view s).connErr.isSome = true → (view (s.recvGoAwayFrame last reason debug).1).connErr.isSome = true) := by
  have hK : Kind.Has kindsNoIds [.release, .unlink, .enqueue .pendingSend, .enqueue .pendingCapacity, .dequeue .pendingCapacity,
      .counterDown .localReset, .state .handleError, .clearSend, .sendFlow, .connSendFlow, .markDrop, .connError,
      .state .setResetScheduled] := by decide
  unfold Streams.recvGoAwayFrame Streams.sendRecvGoAway
  by_cases h : last > s.actions.send.maxStreamId
  · rw [if_pos h]; exact ⟨rfl, rfl, id⟩
  · rw [if_neg h]; exact ids_of_step (s := s.modSend fun sd => { sd with maxStreamId := last }) (by stp_auto)

/-- the two calls of `Connection::poll` on the stream layer outside `poll2`'s loop -/
@[simp] theorem view_pollComplete (fuel : Nat) (s : Streams) (w : Writer) (io : Tio) (tag : String) :
    view (Streams.pollComplete fuel s w io tag).1 = view s :=
  view_of_step (Streams.pollComplete_step (by decide) fuel s w io tag)

@[simp] theorem view_clearExpiredResetStreams (fuel : Nat) (s : Streams) :
    view (Streams.clearExpiredResetStreams fuel s) = view s :=
  view_of_step (Streams.clearExpiredResetStreams_step (by decide) fuel s)

/-- the `fold` over the pending push promises of `drop_stream_ref` with a closure that only calls
    `maybeCancel`; the model's closure also releases the capacity of a promised stream nobody refers to -/
theorem view_dropPromises (l : List Nat) (s : Streams) :
    view (l.foldl (fun s promise =>
        let s := s.modStream promise fun st => { st with isPendingAccept := false }
        (s.transition promise fun s => (s.maybeCancel promise, ())).1) s) = view s :=
  Streams.foldl_rel (R := fun s s' => view s' = view s) ⟨fun _ => rfl, fun h1 h2 => h2.trans h1, view_panic⟩
    (fun s a => by simp only [view_simp, view_of_step (Streams.maybeCancel_step (by decide) _ _)]) l s

end H2V.Lemmas.ConnCtlP
