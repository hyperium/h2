import H2V.Lemmas.ConnNoPanicPAccPath
/-
  C08 (no panic) — the server accept path: **`Streams::next_incoming` and `Recv::take_request` cannot panic**.
  `next_incoming`: the popped key is live (`AccOK`), and when the popped stream was reset by the peer
  `num_remote_reset_streams > 0` (`J.rr`).  `take_request`: the handle `next_incoming` has just handed out
  names a stream whose `pending_recv` starts with the request head (`J.qd`).
-/
namespace H2V.Lemmas.ConnNoPanicP
open H2V H2V.Model H2V.Model.Conn H2V.Lemmas.ConnCountsP
attribute [local irreducible] wrapSubU32 wrapSubUsize

theorem J.decRemote {s : Streams} (hj : J s) (hsl : rrCount s + 1 ≤ s.counts.numRemoteResetStreams) :
    J { s with counts := { s.counts with numRemoteResetStreams := s.counts.numRemoteResetStreams - 1 } } := by
  refine ⟨⟨hj.acc.fl, hj.acc.nodup⟩, hj.qd, ?_, hj.si, hj.cl⟩
  show rrCount s ≤ s.counts.numRemoteResetStreams - 1
  omega

theorem nextIncoming_some {s s1 : Streams} {k : Nat} (h : s.qPop .pendingAccept = (s1, some k)) :
    s.nextIncoming = ((if (s1.stream k).state.isRemoteReset = true then
        Streams.modCountsA { s1 with refs := s1.refs + 1 } "self.num_remote_reset_streams > 0" Counts.decNumRemoteResetStreams
      else { s1 with refs := s1.refs + 1 }).refInc k, some k) := by
  unfold Streams.nextIncoming Streams.recvNextIncoming
  rw [h]
  rfl

theorem nextIncoming_none {s s1 : Streams} (h : s.qPop .pendingAccept = (s1, none)) : s.nextIncoming = (s, none) := by
  unfold Streams.nextIncoming Streams.recvNextIncoming
  rw [h, (Streams.qPop_eq_none h).2]

/-- **`Streams::next_incoming` keeps `NPI` and `J`** — `assert!(self.num_remote_reset_streams > 0)` cannot fire — and
    hands out a handle on a live stream that had none, whose `pending_recv` starts with the request head -/
theorem nextIncoming_npi {s : Streams} {H : List Nat} (hn : NPI (fun _ => False) s) (hj : J s) (hh : HOK s H) :
    NPI (fun _ => False) s.nextIncoming.1 ∧ J s.nextIncoming.1 ∧
    (s.nextIncoming.2 = none → s.nextIncoming.1 = s) ∧
    (∀ k, s.nextIncoming.2 = some k → k ∈ s.recv.pendingAccept ∧ k ∉ H ∧ HOK s.nextIncoming.1 (k :: H) ∧
      Live s.nextIncoming.1 k ∧ (s.nextIncoming.1.stream k).refCount = 1 ∧ ReqHead (s.nextIncoming.1.stream k)) := by
  cases hq : s.qPop .pendingAccept with
  | mk s1 o =>
    cases o with
    | none =>
      rw [nextIncoming_none hq]
      exact ⟨hn, hj, fun _ => rfl, fun k hk => by cases hk⟩
    | some k =>
      obtain ⟨hj1, hl, hl1, hc1, hnq1, hr0, hreq, hsrv, hr1, hp1, hst1, hsl⟩ := hj.qPopAcc hq
      have hmem : k ∈ s.recv.pendingAccept := by
        obtain ⟨r, hr, _⟩ := Streams.qPop_eq_some hq
        rw [show s.recv.pendingAccept = k :: r from hr]; exact List.mem_cons_self ..
      have hn1 : NPI (fun _ => False) s1 := by
        have := qPopAcc_npi hn hj.acc; rw [hq] at this; exact this
      have hkeys1 : SameKeys s s1 := by have := SameKeys.qPop s .pendingAccept; rw [hq] at this; exact this
      generalize hs3 : (if (s1.stream k).state.isRemoteReset = true then
        Streams.modCountsA { s1 with refs := s1.refs + 1 } "self.num_remote_reset_streams > 0" Counts.decNumRemoteResetStreams
        else { s1 with refs := s1.refs + 1 }) = s3
      have h3 : J s3 ∧ s3.store = s1.store ∧ s3.panicked = s1.panicked ∧ s3.recv.pendingAccept = s1.recv.pendingAccept ∧
          s3.counts.isServer = s1.counts.isServer := by
        have hj2 : J { s1 with refs := s1.refs + 1 } := hj1.al0 (setMisc_al (ks := []) s1 s1.actions (s1.refs + 1) _ _ _ rfl)
        rw [← hs3]
        split
        · next hrr =>
          rw [hst1] at hrr
          have hsl1 := hsl hrr
          rw [← hc1] at hsl1
          have hpos : s1.counts.numRemoteResetStreams > 0 := by omega
          have e : Streams.modCountsA { s1 with refs := s1.refs + 1 } "self.num_remote_reset_streams > 0" Counts.decNumRemoteResetStreams =
              { ({ s1 with refs := s1.refs + 1 } : Streams) with
                counts := { s1.counts with numRemoteResetStreams := s1.counts.numRemoteResetStreams - 1 } } := by
            unfold Streams.modCountsA Counts.decNumRemoteResetStreams
            simp only [hpos, if_true]
          rw [e]
          exact ⟨hj2.decRemote hsl1, rfl, rfl, rfl, rfl⟩
        · exact ⟨hj2, rfl, rfl, rfl, rfl⟩
      obtain ⟨hj3, hst3, hp3, hq3, hsv3⟩ := h3
      have hstr3 : ∀ j, s3.stream j = s1.stream j := fun j => by unfold Streams.stream; rw [hst3]
      have hl3 : Live s3 k := by unfold Live at hl1 ⊢; rw [hst3]; exact hl1
      have hnq3 : k ∉ s3.recv.pendingAccept := by rw [hq3]; exact hnq1
      have hrh3 : (s3.stream k).state.isRecvHeaders = false := by
        rw [hstr3, hst1]
        cases hh' : (s.stream k).state.isRecvHeaders with
        | false => rfl
        | true => exact absurd (hj.si hsrv k hl hh').2 hreq.ne_nil
      have hj4 := refInc_j hj3 hl3 hnq3 (fun _ => hrh3)
      have hst4 : (s3.refInc k).stream k = { s3.stream k with refCount := (s3.stream k).refCount + 1 } :=
        stream_modStream_live hl3 _ (fun _ => rfl)
      have hl4 : Live (s3.refInc k) k := (SameKeys.modStream _ _ _).live.mpr hl3
      have hnH : k ∉ H := fun hkH => by
        obtain ⟨x, hx, hc⟩ := hh k hkH
        have := count_pos_of_mem hkH
        rw [stream_of_get? hx] at hr0; omega
      rw [nextIncoming_some hq, hs3]
      refine ⟨?_, hj4, (fun h => by cases h), (fun k' hk' => ?_)⟩
      · -- `NPI`: the counting invariants travel along `Ev`
        have ev := nextIncoming_ev (ρ := false) s
        rw [nextIncoming_some hq, hs3] at ev
        have hav3 : AvOK s3 := by unfold AvOK; rw [hst3]; exact hn1.av
        have hids3 : IdsOK s3 := hn1.ids.of_frame (.of_store_eq hst3) (by rw [hst3]) (.of_store hst3)
        refine hn.ev ev noE ?_ (avOK_modStream_flow _ _ (fun _ => rfl) hav3)
          (hids3.of_frame (SameKeys.modStream _ _ _) (Streams.modStream_ids _ _ _) (SPr.modStream _ _ _ (fun _ => rfl) (fun _ => rfl)))
        unfold Streams.refInc
        rw [modStream_panicked_live hl3, hp3]; exact hn1.np
      · simp only [Option.some.injEq] at hk'
        subst hk'
        refine ⟨hmem, hnH, ?_, hl4, by rw [hst4, hstr3]; show (s1.stream k).refCount + 1 = 1; rw [hr1], ?_⟩
        · intro j hjm
          rcases List.mem_cons.mp hjm with e | e
          · subst e
            obtain ⟨y, hy⟩ := hl4
            refine ⟨y, hy, ?_⟩
            rw [List.count_cons_self, List.count_eq_zero_of_not_mem hnH, ← stream_of_get? hy, hst4]
            exact Nat.le_add_left _ _
          · have hjk : j ≠ k := fun e' => hnH (e' ▸ e)
            obtain ⟨x, hx, hc⟩ := hh j e
            have hlj3 : Live s3 j := by
              unfold Live; rw [hst3]; exact hkeys1.live.mpr ⟨x, hx⟩
            obtain ⟨y, hy⟩ := (SameKeys.modStream s3 k fun st => { st with refCount := st.refCount + 1 }).live.mpr hlj3
            refine ⟨y, hy, ?_⟩
            rw [List.count_cons_of_ne (fun e' => hjk e'.symm), ← stream_of_get? (s := s3.refInc k) hy]
            unfold Streams.refInc
            rw [show (s3.modStream k fun st => { st with refCount := st.refCount + 1 }).stream j = s3.stream j from by
              exact Streams.stream_modStream_ne _ _ (by intro _; rfl) hjk, hstr3]
            have : (s1.stream j).refCount = (s.stream j).refCount := by
              have := qPop_spr (P := (·.refCount)) s .pendingAccept (fun x v => Stream.setQueued_refCount x _ v) j
              rw [hq] at this; exact this
            rw [this, stream_of_get? hx]; exact hc
        · obtain ⟨m, u, f, rest, hr⟩ := hreq
          exact ⟨m, u, f, rest, by rw [hst4, hstr3]; show (s1.stream k).pendingRecv = _; rw [hp1, hr]⟩

/-- **`Recv::take_request` cannot reach its `unreachable!`** on a handle whose stream starts with the request head
    (what `next_incoming` has just handed out); it keeps `NPI` and `J` -/
theorem recvTakeRequest_npi {s : Streams} (hn : NPI (fun _ => False) s) (hj : J s) {k : Nat} (hk : Live s k)
    (hr : (s.stream k).refCount > 0) (hreq : ReqHead (s.stream k)) :
    NPI (fun _ => False) (s.recvTakeRequest k).1 ∧ J (s.recvTakeRequest k).1 ∧ (s.recvTakeRequest k).2.isSome = true := by
  obtain ⟨m, u, f, rest, hp⟩ := hreq
  have ev := recvTakeRequest_ev (ρ := false) s k
  unfold Streams.recvTakeRequest at ev ⊢
  rw [hp] at ev ⊢
  dsimp only at ev ⊢
  refine ⟨hn.lt (LT.w (modStream_lt _ _ _ (fun _ => by inert_tac))) (liveAll1 hk) ev noE, ?_, rfl⟩
  exact hj.al1 (Streams.Takes.pop hp).al (hj.not_mem_of_ref hr)

/-- `server::Connection::poll_accept`: `next_incoming` and, on the handle it returns, `take_request` -/
def acceptOp (s : Streams) : Streams :=
  match s.nextIncoming with
  | (s', some k) => (s'.recvTakeRequest k).1
  | (s', none) => s'

/-- **the server accept path cannot panic** -/
theorem acceptOp_npi {s : Streams} {H : List Nat} (hn : NPI (fun _ => False) s) (hj : J s) (hh : HOK s H) :
    NPI (fun _ => False) (acceptOp s) ∧ J (acceptOp s) := by
  obtain ⟨h1, h2, _, h4⟩ := nextIncoming_npi hn hj hh
  unfold acceptOp
  cases hq : s.nextIncoming with
  | mk s' o =>
    rw [hq] at h1 h2 h4
    cases o with
    | none => exact ⟨h1, h2⟩
    | some k =>
      obtain ⟨_, _, _, hl, hr, hreq⟩ := h4 k rfl
      have := recvTakeRequest_npi h1 h2 hl (by rw [hr]; exact Nat.one_pos) hreq
      exact ⟨this.1, this.2.1⟩

end H2V.Lemmas.ConnNoPanicP
