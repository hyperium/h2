import H2V.Lemmas.ConnDrainPAcct
import H2V.Lemmas.ConnWakePTurn
/-
  ConnDrainP — the fuel of `pop_frame` suffices.

  Every turn of the loop of `Prioritize::pop_frame` (ConnWakeP's `popTurn`) that `continue`s keeps `PInv` and
  lowers the measure `Phi` (`popTurn_cont_step`), so `pop_frame` called with more fuel than `Phi s` — in
  particular with `popFrameFuel s`, which `buffer_pending` passes — answers `None` only because `pending_send`
  is empty (`popFrame_none_drains`).
-/
namespace H2V.Lemmas.ConnDrainP
open H2V H2V.Model H2V.Model.Conn
open H2V.Lemmas.ConnFlowP (KeysOk SafeInv SafeInvG ReqOk stream_modStream_self stream_modStream_other)
open H2V.Lemmas.ConnCountsP (QOK Flagged Ev EvB QF)
open H2V.Lemmas.ConnWakeP (popFrameC popTurn popTurn_cases popFrameC_turn popTurn_done_none discards requeue)

theorem ret0_of_core {a b : Stream} (h : core b = core a) : ret0 b = ret0 a := by
  unfold core at h
  injection h with h1 h2
  injection h2 with h2 h3
  unfold ret0; rw [h1, h2]

theorem clearQueue_store (s : Streams) (k : Nat) :
    (s.clearQueue k).store = (s.modStream k fun st => { st with pendingSend := [], bufferedSendData := 0, requestedSendCapacity := 0 }).store := by
  unfold Streams.clearQueue
  dsimp only
  split
  · split <;> rfl
  · rfl

theorem phi_clear_le (a : Stream) :
    phi { a with pendingSend := [], bufferedSendData := 0, requestedSendCapacity := 0 } + a.pendingSend.length ≤ phi a := by
  unfold phi ret0
  cases h : a.pendingSend with
  | nil => simp
  | cons f t =>
    simp only [List.isEmpty_nil, List.isEmpty_cons, Bool.true_and, Bool.false_and, Bool.not_false, Bool.and_true, List.length_cons, List.length_nil]
    cases a.isPendingSend <;> cases a.state.getScheduledReset.isSome <;> simp <;> omega

theorem clearQueue_phi {s : Streams} (hk : KeysOk s.store) (k : Nat) (hne : (s.stream k).pendingSend ≠ []) :
    Phi (s.clearQueue k) + 1 ≤ Phi s ∧ ((s.clearQueue k).stream k).pendingSend = [] ∧
      ((s.clearQueue k).stream k).state = (s.stream k).state := by
  have hst : ∀ j, (s.clearQueue k).stream j =
      (s.modStream k fun st => { st with pendingSend := [], bufferedSendData := 0, requestedSendCapacity := 0 }).stream j := by
    intro j; unfold Streams.stream; rw [clearQueue_store]
  cases ha : s.store.get? k with
  | none =>
    exfalso; apply hne
    unfold Streams.stream; rw [ha]; rfl
  | some a =>
    rw [Streams.stream_of_get? ha] at hne ⊢
    have h1 := (Phi_modStream hk k (fun st => { st with pendingSend := [], bufferedSendData := 0, requestedSendCapacity := 0 })
      (fun _ => rfl)).1 a ha
    have h2 := phi_clear_le a
    have hlen : 1 ≤ a.pendingSend.length := by
      cases h : a.pendingSend with
      | nil => exact absurd h hne
      | cons _ _ => simp
    refine ⟨?_, ?_, ?_⟩
    · rw [Phi_of_slab (s := s.modStream k _) (by rw [clearQueue_store])]
      omega
    · rw [hst, stream_modStream_self ha _ rfl]
    · rw [hst, stream_modStream_self ha _ rfl]

theorem QOK.modPrio_flow {q : QName} {s : Streams} (h : QOK q s) (fl : FlowControl) :
    QOK q (s.modPrio fun p => { p with flow := fl }) :=
  (QF.of_store_q (q := q) (s := s) (s' := s.modPrio fun p => { p with flow := fl }) rfl (by cases q <;> rfl)).qok h

theorem QOK.modStream_flow {q : QName} {s : Streams} (h : QOK q s) (k : Nat) (g : FlowControl → FlowControl) :
    QOK q (s.modStream k fun st => { st with sendFlow := g st.sendFlow }) :=
  (QF.modStream q s k (fun st => { st with sendFlow := g st.sendFlow }) (fun _ => rfl) (fun x => by cases q <;> rfl)).qok h

theorem reclaimAll_phi {s : Streams} (g : PInvG s) (k : Nat) (hp : (s.reclaimAllCapacity k).panicked = none) :
    Phi (s.reclaimAllCapacity k) ≤ Phi s + 2 := by
  have h := g (Ev.panic_none (ConnCountsP.reclaimAllCapacity_ev s k) hp)
  unfold Streams.reclaimAllCapacity at hp ⊢
  dsimp only at hp ⊢
  split
  · rename_i hav
    rw [if_pos hav] at hp
    unfold Streams.assignConnectionCapacity at hp ⊢
    dsimp only at hp ⊢
    generalize hS : Streams.modPrio (s.modStream k _) _ = S at hp ⊢
    have hi : PInv S := by
      subst hS
      exact ⟨(ConnFlowP.claim_step h.safe k (s.stream k).sendFlow.available.asSize (Nat.le_refl _)).release,
        (h.req.modStream k (fun st => { st with sendFlow := (st.sendFlow.claimCapacity (s.stream k).sendFlow.available.asSize).1 })
          (fun _ => rfl)).modPrio _,
        QOK.modPrio_flow (QOK.modStream_flow h.qs k fun f => (f.claimCapacity (s.stream k).sendFlow.available.asSize).1) _,
        QOK.modPrio_flow (QOK.modStream_flow h.qc k fun f => (f.claimCapacity (s.stream k).sendFlow.available.asSize).1) _⟩
    have e1 : Phi S = Phi s := by
      subst hS
      exact (Phi_of_slab rfl).trans (Phi_modStream_eq h.safe.keys k _ (fun _ => rfl) (fun _ => rfl))
    have := loop_phi _ _ hi.g hp
    omega
  · exact Nat.le_add_right _ _

theorem phi_popRest_le (a : Stream) (f : SFrame) (rest : List SFrame) (h : a.pendingSend = f :: rest) :
    phi { a with pendingSend := rest } + 1 ≤ phi a := by
  unfold phi ret0
  rw [h]
  simp only [List.isEmpty_cons, Bool.false_and, Bool.not_false, Bool.and_true, List.length_cons]
  cases a.isPendingSend <;> simp <;> split <;> omega

theorem ret0_false_of_cons {x : Stream} {f : SFrame} {rest : List SFrame} (h : x.pendingSend = f :: rest) : ret0 x = false := by
  unfold ret0; rw [h]; rfl

theorem live_of_ne {s : Streams} {k : Nat} (h : (s.stream k).pendingSend ≠ []) : ∃ a, s.store.get? k = some a := by
  cases ha : s.store.get? k with
  | none => exfalso; apply h; unfold Streams.stream; rw [ha]; rfl
  | some a => exact ⟨a, rfl⟩

/-- the pop that opens a turn, when the visit of the popped stream does not return at once -/
theorem pop_live {s s0 : Streams} {k : Nat} (h : PInv s) (hq : s.qPop .pendingSend = (s0, some k))
    (hr : ret0 (s0.stream k) = false) : PStep s s0 ∧ Phi s0 + 2 = Phi s := by
  have hphi := qPop_PS_phi h.safe.keys h.qs hq
  have c0 : CoreFr s s0 := of_fst_eq hq (CoreFr.qPop s _)
  rw [← ret0_of_core (c0 k), hr] at hphi
  exact ⟨of_fst_eq hq (.of_step (Streams.qPop_step _ _ (by decide))), hphi⟩

/-- **every `continue` of `pop_frame` keeps the invariant and makes the measure strictly smaller** -/
theorem popTurn_cont_step {sd : Stream → Nat → Nat → Stream × List String × Bool} {s s1 : Streams} {m : Nat} (h : PInv s)
    (hc : popTurn sd s m = .cont s1) (hp : s1.panicked = none) : PInv s1 ∧ Phi s1 < Phi s := by
  revert s1
  apply popTurn_cases sd s m (P := fun t => ∀ s1, t = .cont s1 → s1.panicked = none → PInv s1 ∧ Phi s1 < Phi s)
  case discard =>
    -- `clear_queue`, `reclaim_all_capacity`, push back: the next visit finds the queue empty and emits the RST_STREAM
    intro s0 k sz eos rest hq hps hd s1 e hp
    cases e
    have hne : (s0.stream k).pendingSend ≠ [] := by rw [hps]; exact List.cons_ne_nil _ _
    obtain ⟨st0, hphi0⟩ := pop_live h hq (ret0_false_of_cons hps)
    have hs0 : SafeInv s0 := st0.mv.safe h.safe
    have stA : PStep s0 (s0.clearQueue k) := .of_step (Streams.clearQueue_step (by decide) _ _)
    have stB : PStep (s0.clearQueue k) ((s0.clearQueue k).reclaimAllCapacity k) :=
      ⟨ConnCountsP.reclaimAllCapacity_ev _ _, ((ConnFlowP.MvG.refl true 0 _).reclaimAllCapacity k).weaken⟩
    have stC : PStep ((s0.clearQueue k).reclaimAllCapacity k) (((s0.clearQueue k).reclaimAllCapacity k).qPush .pendingSend k).1 :=
      .of_step (Streams.qPush_step _ _ _ (by decide))
    have gA := h.g.step (st0.trans stA)
    refine ⟨gA.step (stB.trans stC) hp, ?_⟩
    obtain ⟨pA, qA, sA⟩ := clearQueue_phi hs0.keys k hne
    have pB := reclaimAll_phi gA k (Ev.panic_none stC.ev hp)
    have pC := qPush_PS_phi (stB.mv.safe (stA.mv.safe hs0)).keys k (s := (s0.clearQueue k).reclaimAllCapacity k)
    have hret : ret0 (((s0.clearQueue k).reclaimAllCapacity k).stream k) = true := by
      rw [ret0_of_core (CoreFr.reclaimAllCapacity (s0.clearQueue k) k k)]
      unfold ret0; rw [qA, sA]
      unfold discards at hd
      split at hd
      · next hg => rw [hg]; rfl
      · cases hd
    rw [hret, if_pos rfl] at pC
    omega
  case stall =>
    intro s0 k sz eos rest hq hps _ _ s1 e hp
    cases e
    obtain ⟨st0, hphi0⟩ := pop_live h hq (ret0_false_of_cons hps)
    exact ⟨h.g.step st0 hp, by omega⟩
  case pushGone =>
    -- a PUSH_PROMISE whose promised stream is gone is dropped from the queue
    intro s0 k pk pid fields rest hq hps _ s1 e hp
    cases e
    obtain ⟨st0, hphi0⟩ := pop_live h hq (ret0_false_of_cons hps)
    have hs0 : SafeInv s0 := st0.mv.safe h.safe
    have stB : PStep s0 ((requeue (s0.modStream k fun st => { st with pendingSend := rest }) k).transitionAfter k
        (s0.stream k).isPendingResetExpiration) :=
      ⟨ConnCountsP.popFrame_finish (ρ := true) k _ (ConnCountsP.modStream_ev' _ _ _ (ConnCountsP.popRest_same hps)),
       by unfold requeue; mv_auto⟩
    refine ⟨h.g.step (st0.trans stB) hp, ?_⟩
    obtain ⟨a, ha⟩ := live_of_ne (by rw [hps]; exact List.cons_ne_nil _ _)
    have kA : KeysOk (s0.modStream k fun st => { st with pendingSend := rest }).store := keysOk_modStream hs0.keys _ _
    have pA := (Phi_modStream hs0.keys k (fun st => { st with pendingSend := rest }) (fun _ => rfl)).1 a ha
    have pA' := phi_popRest_le a _ rest (by rw [← Streams.stream_of_get? ha]; exact hps)
    have pB : Phi (requeue (s0.modStream k fun st => { st with pendingSend := rest }) k) ≤ _ := (ite_qPush_PS_phi _ kA k).1
    have kB : KeysOk (requeue (s0.modStream k fun st => { st with pendingSend := rest }) k).store := by
      unfold requeue; split
      · exact keysOk_of_fr ((ConnFlowP.Fr.refl _).qPush _ _) kA
      · exact kA
    have pC := transitionAfter_phi_le kB k (s0.stream k).isPendingResetExpiration
    omega
  case idle =>
    intro s0 k hq hps hg s1 e hp
    cases e
    obtain ⟨st0, hphi0⟩ := pop_live h hq (by unfold ret0; rw [hg]; simp)
    have stB : PStep s0 (s0.transitionAfter k (s0.stream k).isPendingResetExpiration) :=
      ⟨ConnCountsP.transitionAfter_ev _ _ _ (fun hb => hb), .frame (Streams.transitionAfter_step (by decide) _ _ _)⟩
    have pC := transitionAfter_phi_le (st0.mv.safe h.safe).keys k (s0.stream k).isPendingResetExpiration
    exact ⟨h.g.step (st0.trans stB) hp, by omega⟩
  all_goals (intros; contradiction)

/-- **`pop_frame` with more fuel than `Phi` answers `None` only when `pending_send` is empty** -/
theorem popFrame_none_of_phi (n : Nat) : ∀ (s : Streams) (m : Nat) (s' : Streams), PInv s → Phi s < n →
    Streams.popFrame n s m = (s', none) → s'.panicked = none → s'.prio.pendingSend = [] := by
  induction n with
  | zero => intro s m s' _ h; omega
  | succ n ih =>
    intro s m s' h hlt hr hp
    rw [ConnWakeP.popFrameC.eq, popFrameC_turn] at hr
    cases hc : popTurn Stream.sendData s m with
    | done r =>
      rw [hc] at hr
      cases hr
      obtain ⟨hq, rfl⟩ := Streams.qPop_eq_none (popTurn_done_none hc)
      exact hq
    | cont s1 =>
      rw [hc, ← ConnWakeP.popFrameC.eq] at hr
      dsimp only at hr
      have hp1 : s1.panicked = none :=
        Ev.panic_none (ConnCountsP.popFrame_ev n s1 m) (by rw [hr]; exact hp)
      obtain ⟨i1, hlt1⟩ := popTurn_cont_step h hc hp1
      exact ih s1 m s' i1 (by omega) hr hp

theorem phiL_le (l : List Stream) :
    phiL l ≤ (l.map (·.pendingSend.length)).sum + 2 * (l.filter (·.isPendingSend)).length + 2 * l.length := by
  induction l with
  | nil => simp [phiL]
  | cons x t ih =>
    simp only [phiL, List.map_cons, List.sum_cons, List.filter_cons, List.length_cons] at ih ⊢
    have hx : phi x ≤ x.pendingSend.length + (if x.isPendingSend then 2 else 0) + 2 := by
      unfold phi
      cases x.isPendingSend <;> cases ret0 x <;> cases x.isPendingSendCapacity <;> simp <;> omega
    cases hf : x.isPendingSend
    · simp only [hf, Bool.false_eq_true, if_false] at hx ⊢; omega
    · simp only [hf, if_true, List.length_cons] at hx ⊢; omega

theorem flagged_le_queue {s : Streams} (hk : KeysOk s.store) (hq : QOK .pendingSend s) :
    (s.store.slab.filter (·.isPendingSend)).length ≤ s.prio.pendingSend.length := by
  have hsub : ∀ k ∈ (s.store.slab.filter (·.isPendingSend)).map (·.key), k ∈ s.prio.pendingSend := by
    intro k hk'
    obtain ⟨x, hx, rfl⟩ := List.mem_map.1 hk'
    have hx' := List.mem_filter.1 hx
    exact (hq.mem x.key).2 ⟨x, Store.get?_of_mem hk.1 hx'.1, hx'.2⟩
  have hnd : ((s.store.slab.filter (·.isPendingSend)).map (·.key)).Nodup :=
    (hk.1.sublist ((List.filter_sublist).map _))
  have := ConnCountsP.nodup_subset_length hnd hsub
  rwa [List.length_map] at this

theorem Phi_lt_fuel {s : Streams} (h : PInv s) : Phi s < Streams.popFrameFuel s := by
  have h1 := phiL_le s.store.slab
  have h2 := flagged_le_queue h.safe.keys h.qs
  unfold Streams.popFrameFuel Phi
  omega

/-- **the fuel of `pop_frame` suffices**: in a state satisfying the flow and queue invariants (every reachable
    state in which no `assert!` fired), `pop_frame` — called with the fuel `popFrameFuel s` that
    `buffer_pending` passes — answers `None` only when `pending_send` is empty -/
theorem popFrame_none_drains {s s' : Streams} {m : Nat} (h : PInv s)
    (hr : Streams.popFrame (Streams.popFrameFuel s) s m = (s', none)) (hp : s'.panicked = none) :
    s'.prio.pendingSend = [] :=
  popFrame_none_of_phi _ s m s' h (Phi_lt_fuel h) hr hp

end H2V.Lemmas.ConnDrainP
