import H2V.Lemmas.ConnRecvPOps
/-
  C03: reachability.  `Op` lists every function of the stream layer that the connection
  (`ConnProto.lean`) and the user-side handles (`ConnDriver.lean`) call on the `Streams` value, with
  its arguments; `Reach g s` = `s` is reached from an initial state by any sequence of such calls
  with any arguments (`g` = what the application configured on the way).
  Main theorems: `reach_inv` (connection level, every history) and `reachOk_inv` (stream level,
  histories in which `apply_local_settings` and `Inner::send_reset` did not fail).
-/
namespace H2V.Lemmas.ConnRecvP
open H2V H2V.Model H2V.Model.Conn
open H2V.Model.Conn.Streams
open H2V.Lemmas.Comp
attribute [local irreducible] wrapSubU32 wrapSubUsize

inductive Op where
  -- frames from the peer (`DynConnection::recv_frame`)
  | recvHeaders (h : HeadersIn)
  | recvData (id : Nat) (payload : Bytes) (eos : Bool) (padLen : Option Nat)
  | recvReset (id : Nat) (reason : Reason)
  | recvPushPromise (id : Nat) (h : HeadersIn)
  | recvGoAwayFrame (last : Nat) (reason : Reason) (debug : Bytes)
  | recvWindowUpdate (id inc : Nat)
  | recvEof (clearPendingAccept : Bool)
  -- SETTINGS
  | applyLocalSettings (vals : List (Nat × Nat))
  | applyRemoteSettings (vals : List (Nat × Nat)) (isInitial : Bool)
  -- the connection task
  | pollSendPendingRefusal (fuel : Nat) (w : Writer) (io : Tio) (tag : String)
  | pollComplete (fuel : Nat) (w : Writer) (io : Tio) (tag : String)
  | clearExpiredResetStreams (fuel : Nat)
  | handleError (e : PErr)
  | innerSendReset (id : Nat) (reason : Reason)
  | recvGoAway (last : Nat)
  | setTargetConnectionWindow (target : Nat)
  -- handles of the application
  | cloneHandle
  | dropHandle
  | cloneStreamRef (key : Nat)
  | dropStreamRef (key : Nat)
  | sendRequest (isHead : Bool) (fields : List Hpack.Field) (eos : Bool) (pending : Option Nat)
  | pollPendingOpen (pending : Option Nat) (tag : String)
  | nextIncoming
  | recvTakeRequest (key : Nat)
  | refSendResponse (key : Nat) (fields : List Hpack.Field) (eos : Bool)
  | refSendInformationalHeaders (key : Nat) (fields : List Hpack.Field)
  | refSendPushPromise (parent : Nat) (valid : Bool) (fields : List Hpack.Field)
  | refSendData (key len : Nat) (eos : Bool)
  | refSendTrailers (key : Nat) (fields : List Hpack.Field)
  | refSendReset (key : Nat) (reason : Reason)
  | refReserveCapacity (key cap : Nat)
  | pollCapacity (key : Nat) (tag : String)
  | pollReset (key : Nat) (mode : PollReset) (tag : String)
  | recvPollResponse (fuel key : Nat) (tag : String)
  | recvPollInformational (key : Nat) (tag : String)
  | refPollData (key : Nat) (tag : String)
  | recvPollTrailers (key : Nat) (tag : String)
  | refReleaseCapacity (key cap : Nat)
  | refClearRecvBuffer (key : Nat)
  | refPollPushed (key : Nat) (tag : String)
  -- bookkeeping of the model
  | wake (tags : List String)
  | clearWakes
  | panic (msg : String)

def settingsIws (vals : List (Nat × Nat)) : Option Nat := (vals.find? (·.1 = 4)).map (·.2)

def Op.apply (s : Streams) : Op → Streams
  | .recvHeaders h => (s.recvHeaders h).1
  | .recvData id p e pl => (s.recvData id p e pl).1
  | .recvReset id r => (s.recvReset id r).1
  | .recvPushPromise id h => (s.recvPushPromise id h).1
  | .recvGoAwayFrame l r d => (s.recvGoAwayFrame l r d).1
  | .recvWindowUpdate id inc => (s.recvWindowUpdate id inc).1
  | .recvEof b => s.recvEof b
  | .applyLocalSettings vals => (s.applyLocalSettingsFrame vals).1
  | .applyRemoteSettings vals b => (s.applyRemoteSettings vals b).1
  | .pollSendPendingRefusal n w io t => (Streams.pollSendPendingRefusal n s w io t).1
  | .pollComplete n w io t => (Streams.pollComplete n s w io t).1
  | .clearExpiredResetStreams n => Streams.clearExpiredResetStreams n s
  | .handleError e => (s.handleError e).1
  | .innerSendReset id r => (s.innerSendReset id r).1
  | .recvGoAway l => s.recvGoAway l
  | .setTargetConnectionWindow t => (s.setTargetConnectionWindow t).1
  | .cloneHandle => s.cloneHandle
  | .dropHandle => s.dropHandle
  | .cloneStreamRef k => s.cloneStreamRef k
  | .dropStreamRef k => s.dropStreamRef k
  | .sendRequest b f e p => (s.sendRequest b f e p).1
  | .pollPendingOpen p t => (s.pollPendingOpen p t).1
  | .nextIncoming => s.nextIncoming.1
  | .recvTakeRequest k => (s.recvTakeRequest k).1
  | .refSendResponse k f e => (s.refSendResponse k f e).1
  | .refSendInformationalHeaders k f => (s.refSendInformationalHeaders k f).1
  | .refSendPushPromise p v f => (s.refSendPushPromise p v f).1
  | .refSendData k l e => (s.refSendData k l e).1
  | .refSendTrailers k f => (s.refSendTrailers k f).1
  | .refSendReset k r => s.refSendReset k r
  | .refReserveCapacity k c => s.refReserveCapacity k c
  | .pollCapacity k t => (s.pollCapacity k t).1
  | .pollReset k m t => (s.pollReset k m t).1
  | .recvPollResponse n k t => (Streams.recvPollResponse n s k t).1
  | .recvPollInformational k t => (s.recvPollInformational k t).1
  | .refPollData k t => (s.refPollData k t).1
  | .recvPollTrailers k t => (s.recvPollTrailers k t).1
  | .refReleaseCapacity k c => (s.refReleaseCapacity k c).1
  | .refClearRecvBuffer k => s.refClearRecvBuffer k
  | .refPollPushed k t => (s.refPollPushed k t).1
  | .wake t => s.wake t
  | .clearWakes => { s with wakes := [] }
  | .panic m => s.panic m

def Op.ghost (g : Ghost) : Op → Ghost
  | .setTargetConnectionWindow t => g.setTarget t
  | .applyLocalSettings vals => g.afterSettings (settingsIws vals)
  | _ => g

/-- the arguments are ones the callers can pass: window sizes are at most 2^31-1 (`Connection::
    set_target_window_size` asserts it, SETTINGS_INITIAL_WINDOW_SIZE above it is refused by the peer) -/
def Op.valid (_s : Streams) : Op → Prop
  | .setTargetConnectionWindow t => t ≤ 2147483647
  | .applyLocalSettings vals => ∀ t, settingsIws vals = some t → t ≤ 2147483647
  | _ => True

/-- the call did not end in the connection errors that leave the stream-level books unbalanced:
    `apply_local_settings` → FLOW_CONTROL_ERROR, `Inner::send_reset` → ENHANCE_YOUR_CALM
    ("too_many_internal_resets") -/
def Op.ok (s : Streams) : Op → Prop
  | .applyLocalSettings vals => (s.applyLocalSettingsFrame vals).2 = .ok ()
  | .innerSendReset id r => (s.innerSendReset id r).2 = .ok ()
  | _ => True

theorem clearWakes_ext (s : Streams) : Ext s { s with wakes := [] } := Ext.of_same rfl rfl rfl rfl

theorem Op.step_inv {full : Bool} {g : Ghost} {s : Streams} (h : Inv full g s) (op : Op) (hv : op.valid s) :
    Inv false (op.ghost g) (op.apply s) ∧ (op.ok s → Inv full (op.ghost g) (op.apply s)) := by
  have ext : ∀ s', Ext s s' → Inv false g s' ∧ (True → Inv full g s') :=
    fun s' e => ⟨(h.of_ext e).drop_full, fun _ => h.of_ext e⟩
  have step : ∀ s', Step kindsExt s s' → Inv false g s' ∧ (True → Inv full g s') := fun s' t => ext s' (.of_step t)
  have inv : ∀ s', Inv full g s' → Inv false g s' ∧ (True → Inv full g s') :=
    fun s' h' => ⟨h'.drop_full, fun _ => h'⟩
  cases op with
  | recvHeaders hd => exact ext _ (recvHeaders_ext s hd)
  | recvData id p e pl => exact inv _ (recvData_inv h id p e pl)
  | recvReset id r => exact step _ (recvReset_step (by decide) s id r)
  | recvPushPromise id hd => exact ext _ (recvPushPromise_ext s id hd)
  | recvGoAwayFrame l r d => exact step _ (recvGoAwayFrame_step (by decide) s l r d)
  | recvWindowUpdate id inc => exact step _ (recvWindowUpdate_step (by decide) s id inc)
  | recvEof b => exact step _ (recvEof_step (by decide) s b)
  | applyLocalSettings vals => exact applyLocalSettingsFrame_inv h vals hv
  | applyRemoteSettings vals b => exact ext _ (applyRemoteSettings_ext s vals b)
  | pollSendPendingRefusal n w io t => exact step _ (pollSendPendingRefusal_step (by decide) n s w io t)
  | pollComplete n w io t => exact inv _ (pollComplete_inv n h w io t)
  | clearExpiredResetStreams n => exact step _ (clearExpiredResetStreams_step (by decide) n s)
  | handleError e => exact step _ (handleError_step (by decide) s e)
  | innerSendReset id r => exact innerSendReset_inv h id r
  | recvGoAway l => exact step _ (recvGoAway_step (by decide) s l)
  | setTargetConnectionWindow t =>
    have := (setTargetConnectionWindow_inv h t hv).1
    exact ⟨this.drop_full, fun _ => this⟩
  | cloneHandle => exact step _ (cloneHandle_step s)
  | dropHandle => exact step _ (dropHandle_step (by decide) s)
  | cloneStreamRef k => exact step _ (cloneStreamRef_step (by decide) s k)
  | dropStreamRef k => exact inv _ (dropStreamRef_inv h k)
  | sendRequest b f e p => exact ext _ (sendRequest_ext s b f e p)
  | pollPendingOpen p t => exact step _ (pollPendingOpen_step (by decide) s p t)
  | nextIncoming => exact step _ (nextIncoming_step (by decide) s)
  | recvTakeRequest k => exact step _ (recvTakeRequest_step (by decide) s k)
  | refSendResponse k f e => exact step _ (refSendResponse_step (by decide) s k f e)
  | refSendInformationalHeaders k f => exact step _ (refSendInformationalHeaders_step (by decide) s k f)
  | refSendPushPromise p v f => exact ext _ (refSendPushPromise_ext s p v f)
  | refSendData k l e => exact step _ (refSendData_step (by decide) s k l e)
  | refSendTrailers k f => exact step _ (refSendTrailers_step (by decide) s k f)
  | refSendReset k r => exact step _ (refSendReset_step (by decide) s k r)
  | refReserveCapacity k c => exact step _ (refReserveCapacity_step (by decide) s k c)
  | pollCapacity k t => exact step _ (pollCapacity_step (by decide) s k t)
  | pollReset k m t => exact step _ (pollReset_step (by decide) s k m t)
  | recvPollResponse n k t => exact step _ (recvPollResponse_step (by decide) n s k t)
  | recvPollInformational k t => exact step _ (recvPollInformational_step (by decide) s k t)
  | refPollData k t => exact step _ (refPollData_step (by decide) s k t)
  | recvPollTrailers k t => exact step _ (recvPollTrailers_step (by decide) s k t)
  | refReleaseCapacity k c => exact inv _ (refReleaseCapacity_inv h k c)
  | refClearRecvBuffer k => exact inv _ (refClearRecvBuffer_inv h k)
  | refPollPushed k t => exact step _ (refPollPushed_step (by decide) s k t)
  | wake t => exact ext _ (wake_ext s t)
  | clearWakes => exact ext _ (clearWakes_ext s)
  | panic m => exact ext _ (panic_ext s m)

inductive Reach : Ghost → Streams → Prop where
  | init {s : Streams} : Init s → Reach Ghost.init s
  | step {g : Ghost} {s : Streams} (op : Op) : Reach g s → op.valid s → Reach (op.ghost g) (op.apply s)

inductive ReachOk : Ghost → Streams → Prop where
  | init {s : Streams} : Init s → ReachOk Ghost.init s
  | step {g : Ghost} {s : Streams} (op : Op) : ReachOk g s → op.valid s → op.ok s → ReachOk (op.ghost g) (op.apply s)

theorem ReachOk.reach {g : Ghost} {s : Streams} (h : ReachOk g s) : Reach g s := by
  induction h with
  | init hi => exact .init hi
  | step op _ hv _ ih => exact .step op ih hv

/-- **connection-level invariant, every history** -/
theorem reach_inv {g : Ghost} {s : Streams} (h : Reach g s) : Inv false g s := by
  induction h with
  | init hi => exact Inv.init hi false
  | step op _ hv ih => exact (op.step_inv ih hv).1

/-- **connection- and stream-level invariant, histories without the two connection errors** -/
theorem reachOk_inv {g : Ghost} {s : Streams} (h : ReachOk g s) : Inv true g s := by
  induction h with
  | init hi => exact Inv.init hi true
  | step op _ hv hok ih => exact (op.step_inv ih hv).2 hok

end H2V.Lemmas.ConnRecvP
