import H2V.Lemmas.ConnNoPanicPFiOps
import H2V.Lemmas.ConnPushRule
/-
  C08 (no panic) — `FI` is a reachable invariant: the step theorem over ConnResetP's `Op`.
  `FJ s := FB s.counts.isServer (fun _ => False) s` contains `FI s` (`FJ.fi`), holds in a blank state (`FJ_blank`)
  and is kept by every operation whose `opPre` is not `False` (`FJ_step`), given the typing preconditions `fiPre`.
-/
namespace H2V.Lemmas.ConnNoPanicP
open H2V H2V.Model H2V.Model.Conn H2V.Lemmas.ConnCountsP
open H2V.Lemmas.ConnResetP (Op run)
attribute [local irreducible] wrapSubU32 wrapSubUsize

/-- the inductive invariant behind `FI` -/
def FJ (s : Streams) : Prop := FB s.counts.isServer (fun _ => False) s

theorem FJ.fi {s : Streams} (h : FJ s) : FI s := FB.fi h

theorem FJ_blank {s : Streams} (h : Blank s) (_hq : ∀ q, s.getQ q = []) : FJ s := blank_fb h.slab h.ids
theorem FI_blank {s : Streams} (h : Blank s) (hq : ∀ q, s.getQ q = []) : FI s := (FJ_blank h hq).fi

/-- **typing preconditions** (handle kinds): `send_informational` and `push_request` exist on `SendResponse` only — the
    handle of a stream the PEER initiated —, not on `SendPushedResponse` (src/server.rs); without them `FI` fails
    (`ConnNoPanicPFiWitness.lean`) -/
def fiPre (s : Streams) : Op → Prop
  | .refSendInformationalHeaders k _ => s.counts.isLocalInit (s.stream k).id = false
  | .refSendPushPromise parent _ _ => s.counts.isLocalInit (s.stream parent).id = false
  | _ => True

theorem FJ.of_role {s s' : Streams} (hr : s'.counts.isServer = s.counts.isServer) (h : FB s.counts.isServer (fun _ => False) s') : FJ s' := by
  unfold FJ; rw [hr]; exact h

theorem FJ.st {s s' : Streams} (h : FJ s) (hr : s'.counts.isServer = s.counts.isServer) (hfk : FK s s')
    (hsk : SK s.counts.isServer s s') : FJ s' := FJ.of_role hr (FB.st h hfk hsk)

theorem cloneHandle_fk' (s : Streams) : FK s s.cloneHandle := .of_step (Streams.cloneHandle_step s)

/-- **the step theorem**: every operation covered by `opPre` keeps `FJ` (hence `FI`) -/
theorem FJ_step {s : Streams} {H : List Nat} (hn : NPI (fun _ => False) s) (hh : HOK s H) (hj : FJ s) (op : Op)
    (hpre : opPre s op) (hty : fiPre s op) (hin : ∀ k, opKey op = some k → k ∈ H)
    (he : ErrOK s) (he' : ErrOK (op.apply s)) : FJ (op.apply s) := by
  have hkeys : ∀ k, opKey op = some k → Live s k ∧ (s.stream k).refCount > 0 := fun k hk => hh.held (hin k hk)
  have hrole : (op.apply s).counts.isServer = s.counts.isServer := ((op_step s op hpre hkeys).ev hn.keys).nx.role
  refine FJ.of_role hrole ?_
  have hb : FB s.counts.isServer (fun _ => False) s := hj
  cases op <;> simp only [opPre] at hpre <;> try exact hpre.elim
  case recvHeaders h => exact recvHeaders_fb hn he hb rfl h hpre
  case innerSendReset id r => exact innerSendReset_fb hn hb id r he'
  case sendRequest a b c d => exact sendRequest_fb hn hb rfl a b c d hpre
  case refSendResponse k f eos => exact refSendResponse_fb hb rfl (hkeys k rfl).1 (fun h => h) f eos
  case refSendInformationalHeaders k f =>
    have hrem : locId s.counts.isServer (s.stream k).id = false := by
      have : s.counts.isLocalInit (s.stream k).id = false := hty
      rw [isLocalInit_eq] at this; exact this
    exact hb.st (.of_step (Streams.refSendInformationalHeaders_step (by decide) _ _ _)) (refSendInformationalHeaders_sk _ _ _ (.inr (.inr hrem)))
  -- the other operations have both frames without a hypothesis: by their `_fk` / `_sk` lemma or by their footprint
  all_goals
    dsimp only [Op.apply]
    exact hb.st (by fk_step <;> first | exact .refl _ | decide | exact fun _ => rfl)
      (by sk_step <;> first | exact .refl _ | decide | exact fun _ => rfl)

/-- `FI` after the step (the form asked for) -/
theorem FI_step {s : Streams} {H : List Nat} (hn : NPI (fun _ => False) s) (hh : HOK s H) (hj : FJ s) (op : Op)
    (hpre : opPre s op) (hty : fiPre s op) (hin : ∀ k, opKey op = some k → k ∈ H)
    (he : ErrOK s) (he' : ErrOK (op.apply s)) : FI (op.apply s) := (FJ_step hn hh hj op hpre hty hin he he').fi

theorem FJ_clearWakes {s : Streams} (hj : FJ s) : FJ ({ s with wakes := [] } : Streams) :=
  hj.st rfl (.of_eqs rfl rfl rfl) (.of_store rfl rfl)

theorem FJ_setTargetConnectionWindow {s : Streams} (hj : FJ s) (t : Nat) : FJ (s.setTargetConnectionWindow t).1 :=
  hj.st (setTargetConnectionWindow_ev (ρ := true) s t).nx.role (by fk_auto) (by sk_auto)

theorem FJ_nextIncoming {s : Streams} (hj : FJ s) : FJ s.nextIncoming.1 :=
  hj.st (nextIncoming_ev (ρ := true) s).nx.role (by fk_auto) (by sk_auto)

theorem FJ_recvTakeRequest {s : Streams} (hj : FJ s) (k : Nat) : FJ (s.recvTakeRequest k).1 :=
  hj.st (recvTakeRequest_ev (ρ := true) s k).nx.role (by fk_auto) (by sk_auto)

theorem FJ_recvPollResponse {s : Streams} (hj : FJ s) (fuel k : Nat) (tag : String) : FJ (Streams.recvPollResponse fuel s k tag).1 :=
  hj.st (recvPollResponse_ev (ρ := true) fuel s k tag).nx.role (by fk_auto) (by sk_auto)

theorem FJ_pollSendPendingRefusal {s : Streams} (hj : FJ s) (fuel : Nat) (w : Writer) (io : Tio) (tag : String) :
    FJ (Streams.pollSendPendingRefusal fuel s w io tag).1 :=
  hj.st (pollSendPendingRefusal_ev (ρ := true) fuel s w io tag).nx.role (by fk_auto) (by sk_auto)

/-- no PUSH_PROMISE can be accepted: a server, or a client that disabled push -/
def FiNoPush (s : Streams) : Prop := s.counts.isServer = true ∨ s.recv.isPushEnabled = false

/-- under `FiNoPush`, `recv_push_promise` answers a connection error (or ignores the frame) without touching anything -/
theorem recvPushPromise_fiNoPush {s : Streams} (hp : FiNoPush s) (id : Nat) (h : HeadersIn) : (s.recvPushPromise id h).1 = s :=
  (Streams.recvPushPromise_refused hp id h).1

theorem FJ_recvPushPromise {s : Streams} (hj : FJ s) (hp : FiNoPush s) (id : Nat) (h : HeadersIn) : FJ (s.recvPushPromise id h).1 := by
  rw [recvPushPromise_fiNoPush hp]; exact hj

/-- **`StreamRef::send_push_promise` keeps `FJ`** (with the typing precondition: the parent is peer-initiated) -/
theorem FJ_refSendPushPromise {s : Streams} (hn : NPI (fun _ => False) s) (hi : IBS s) (hj : FJ s) {parent : Nat}
    (hk : Live s parent) (hty : s.counts.isLocalInit (s.stream parent).id = false) (valid : Bool) (fields : List Hpack.Field) :
    FJ (s.refSendPushPromise parent valid fields).1 := by
  have hrem : locId s.counts.isServer (s.stream parent).id = false := by rw [isLocalInit_eq] at hty; exact hty
  exact FJ.of_role (refSendPushPromise_ev s hn.keys.fresh hn.nl parent valid fields).nx.role
    (refSendPushPromise_fb hn hi hj rfl hk hrem valid fields)

end H2V.Lemmas.ConnNoPanicP
