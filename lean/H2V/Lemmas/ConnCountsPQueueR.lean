import H2V.Lemmas.ConnCountsPQueue
import H2V.Lemmas.ConnCountsPReach
/-
  C19 / C18 — queue ↔ flag consistency in every reachable state (`Reach.qok`), and what follows:
  no queue holds a stale key, no key is queued twice, a queue is never longer than the slab.
-/
namespace H2V.Lemmas.ConnCountsP
open H2V H2V.Model H2V.Model.Conn

theorem InitS.from_empty {s : Streams} (h : InitS s) : ∃ s0, s0.store.slab = [] ∧ (∀ q, s0.getQ q = []) ∧ Ev s0 s := by
  cases h with
  | client g hodd =>
    unfold Conn.init
    dsimp only
    split
    · next sz _ =>
      exact ⟨_, rfl, fun q => by cases q <;> rfl, .trans (cloneHandle_ev _) (setTargetConnectionWindow_ev _ sz)⟩
    · exact ⟨_, rfl, fun q => by cases q <;> rfl, cloneHandle_ev _⟩
  | server g ecp pf =>
    unfold Conn.initServer
    dsimp only
    split
    · next sz _ => exact ⟨_, rfl, fun q => by cases q <;> rfl, setTargetConnectionWindow_ev _ sz⟩
    · exact ⟨_, rfl, fun q => by cases q <;> rfl, .refl _⟩

theorem qok_of_empty {s : Streams} (h1 : s.store.slab = []) (h2 : ∀ q, s.getQ q = []) (q : QName) : QOK q s := by
  refine ⟨?_, by rw [h2]; exact List.nodup_nil⟩
  intro k
  rw [h2]
  constructor
  · intro h; cases h
  · rintro ⟨x, hx, _⟩
    unfold Store.get? at hx; rw [h1] at hx; cases hx

/-- **in every reachable state in which no `assert!` has fired, each of the five intrusive queues
    holds exactly the live slab entries whose link flag is set, each once** -/
theorem Reach.qok {s : Streams} (h : Reach s) (hp : s.panicked = none) (q : QName) (hq : q ≠ .pendingAccept) : QOK q s := by
  induction h with
  | init hi =>
    obtain ⟨s0, h1, h2, e⟩ := hi.from_empty
    exact (e.qstep q hq).ok hp (qok_of_empty h1 h2 q)
  | step hr hs ih =>
    have e := (hs.evT hr.inv.1 hr.inv.2.1).qstep q hq
    exact e.ok hp (ih (noPanic_of_mono e.mono hp))

theorem nodup_subset_length {l m : List Nat} (hn : l.Nodup) (hs : ∀ k ∈ l, k ∈ m) : l.length ≤ m.length := by
  induction l generalizing m with
  | nil => exact Nat.zero_le _
  | cons a l ih =>
    have hn' := List.nodup_cons.mp hn
    have ha : a ∈ m := hs a (List.mem_cons_self ..)
    have := ih (m := m.erase a) hn'.2 (fun k hk => by
      have hne : k ≠ a := fun e => hn'.1 (e ▸ hk)
      exact (List.mem_erase_of_ne hne).mpr (hs k (List.mem_cons_of_mem _ hk)))
    rw [List.length_erase_of_mem ha] at this
    have hpos : 0 < m.length := List.length_pos_of_mem ha
    simp only [List.length_cons]; omega

theorem get?_mem_keys {st : Store} {k : Nat} {x : Stream} (h : st.get? k = some x) : k ∈ st.slab.map (·.key) := by
  unfold Store.get? at h
  have h1 := List.mem_of_find?_eq_some h
  have h2 := get?_key (st := st) h
  exact List.mem_map.mpr ⟨x, h1, h2⟩

theorem QOK.length_le {q : QName} {s : Streams} (h : QOK q s) : (s.getQ q).length ≤ s.store.slab.length := by
  have := nodup_subset_length h.nodup (m := s.store.slab.map (·.key)) (fun k hk => by
    obtain ⟨x, hx, _⟩ := (h.mem k).mp hk
    exact get?_mem_keys hx)
  rw [List.length_map] at this; exact this

end H2V.Lemmas.ConnCountsP
