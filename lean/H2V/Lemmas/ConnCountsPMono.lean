import H2V.Lemmas.ConnCountsPClosed
/-
  C05 / C18 / C19: what never goes back along `Ev`: a panic stays, a stream that sits in
  `pending_reset_expired` keeps its `reset_at` (only `EvT`'s `resetPop` clears it) and is therefore
  not released, the configured limits and the role do not change, the local-error-reset counter does
  not decrease.
-/
namespace H2V.Lemmas.ConnCountsP
open H2V H2V.Model H2V.Model.Conn
variable {ρ : Bool}

export H2V.Model.Conn.Streams (setQ_store setQ_counts)
theorem setQ_panicked (s : Streams) (q : QName) (l : List Nat) : (s.setQ q l).panicked = s.panicked := s.setQ_panicked q l

theorem getQ_setQ (s : Streams) (q : QName) (l : List Nat) : (s.setQ q l).getQ q = l := s.getQ_setQ_self q l
theorem getQ_setQ_ne (s : Streams) (q q' : QName) (l : List Nat) (h : q' ≠ q) : (s.setQ q l).getQ q' = s.getQ q' :=
  s.getQ_setQ_ne h l

export H2V.Model.Conn.Streams (panic_store)
theorem panic_counts (s : Streams) (m : String) : (s.panic m).counts = s.counts := s.panic_counts m
theorem panic_actions (s : Streams) (m : String) : (s.panic m).actions = s.actions := s.panic_actions m
theorem panic_isSome (s : Streams) (m : String) : (s.panic m).panicked.isSome = true := by rw [Streams.panic_panicked]; rfl
theorem panic_stream (s : Streams) (m : String) (j : Nat) : (s.panic m).stream j = s.stream j := s.panic_stream m j

theorem setStream_stream (s : Streams) (st' : Stream) (j : Nat) :
    (s.setStream st').stream j = s.stream j ∨
    ((s.setStream st').stream j = st' ∧ j = st'.key ∧ (s.store.get? j).isSome = true) := by
  rw [Streams.stream_setStream]
  split
  · next h => exact .inr ⟨rfl, h⟩
  · exact .inl rfl

theorem setStream_get?_cases {s : Streams} {st' : Stream} {k : Nat} {x' : Stream}
    (h : (s.setStream st').store.get? k = some x') :
    (∃ x, s.store.get? st'.key = some x ∧ k = st'.key ∧ x' = st') ∨ s.store.get? k = some x' := by
  rw [Streams.setStream_get?] at h
  split at h
  · next hk =>
    subst hk
    cases hx : s.store.get? st'.key with
    | none => rw [hx] at h; cases h
    | some x => rw [hx] at h; cases h; exact .inl ⟨x, rfl, rfl, rfl⟩
  · exact .inr h

theorem setStream_get?_isSome (s : Streams) (st' : Stream) (j : Nat) :
    ((s.setStream st').store.get? j).isSome = (s.store.get? j).isSome := by
  rw [setStream_get?]; cases s.store.get? j <;> rfl

/-- the parts of `Counts` that only the configuration sets, and the monotone counter -/
structure CM (c c' : Counts) : Prop where
  isServer : c'.isServer = c.isServer
  maxRecv : c'.maxRecvStreams = c.maxRecvStreams
  maxReset : c'.maxLocalResetStreams = c.maxLocalResetStreams
  maxRemote : c'.maxRemoteResetStreams = c.maxRemoteResetStreams
  maxErr : c'.maxLocalErrorResetStreams = c.maxLocalErrorResetStreams
  err : c.numLocalErrorResetStreams ≤ c'.numLocalErrorResetStreams

theorem CM.refl (c : Counts) : CM c c := ⟨rfl, rfl, rfl, rfl, rfl, Nat.le_refl _⟩
theorem CM.trans {a b c : Counts} (h1 : CM a b) (h2 : CM b c) : CM a c :=
  ⟨h2.isServer.trans h1.isServer, h2.maxRecv.trans h1.maxRecv, h2.maxReset.trans h1.maxReset,
   h2.maxRemote.trans h1.maxRemote, h2.maxErr.trans h1.maxErr, Nat.le_trans h1.err h2.err⟩

theorem canIncErr_back {c c' : Counts} (hm : c'.maxLocalErrorResetStreams = c.maxLocalErrorResetStreams)
    (he : c.numLocalErrorResetStreams ≤ c'.numLocalErrorResetStreams) (hc : c'.canIncNumLocalErrorResets = true) :
    c.canIncNumLocalErrorResets = true := by
  unfold Counts.canIncNumLocalErrorResets at *
  rw [hm] at hc
  split
  · next m hm =>
    simp only [hm, decide_eq_true_eq] at hc ⊢
    omega
  · rfl

structure Mono (s s' : Streams) : Prop where
  panic : s.panicked.isSome = true → s'.panicked.isSome = true
  resetAt : ∀ j, (s.stream j).resetAt = true → (s'.stream j).resetAt = true
  counts : CM s.counts s'.counts

theorem Mono.refl (s : Streams) : Mono s s := ⟨id, fun _ h => h, CM.refl _⟩

theorem Mono.setStore (s : Streams) (st : Store) (n : Nat)
    (h : ∀ j, (s.stream j).resetAt = true → ((st.get? j).getD { key := j, id := 0 }).resetAt = true) :
    Mono s { s with store := st, recvBufferLeaked := n } :=
  ⟨id, h, CM.refl _⟩

theorem Mono.closed : PrimClosed Mono (fun x y => x.resetAt = true → y.resetAt = true) (fun _ _ _ => True) CM where
  refl := Mono.refl
  trans h1 h2 := ⟨fun h => h2.panic (h1.panic h), fun j h => h2.resetAt j (h1.resetAt j h), h1.counts.trans h2.counts⟩
  frame h := ⟨h.panic, fun j hj => by unfold Streams.stream at *; rw [h.store]; exact hj,
    h.counts.isServer, h.counts.maxRecv, h.counts.maxReset, h.counts.maxRemote, h.counts.maxErr, by rcases h.counts.err with e | e <;> omega⟩
  setStream s st' h := by
    refine ⟨id, ?_, CM.refl _⟩
    intro j hj
    rcases setStream_stream s st' j with e | ⟨e, hk, hs⟩
    · rw [e]; exact hj
    · rw [e]
      obtain ⟨x, hx⟩ := Option.isSome_iff_exists.mp hs
      rw [stream_of_get? hx] at hj
      exact h x (hk ▸ hx) hj
  setQ s q l _ :=
    ⟨fun h => by rw [setQ_panicked]; exact h, fun j h => by rw [Streams.setQ_stream]; exact h, by rw [setQ_counts]; exact CM.refl _⟩
  setCounts s c h := ⟨id, fun _ hj => hj, h⟩

theorem setQueued_resetAt (x : Stream) (q : QName) (v : Bool) (hq : q = .pendingResetExpired → v = true) :
    x.resetAt = true → (x.setQueued q v).resetAt = true := by
  intro h
  cases q <;> first | exact h | (cases hq rfl; rfl)

export H2V.Model.Conn.Stream (setQueued_key)

theorem cm_num (c : Counts) (n m r : Nat) :
    CM c { c with numSendStreams := n, numRecvStreams := m, numLocalResetStreams := r } :=
  ⟨rfl, rfl, rfl, rfl, rfl, Nat.le_refl _⟩

theorem Mono.modCountsA (s : Streams) (w : String) (f : Counts → Option Counts)
    (h : ∀ c', f s.counts = some c' → CM s.counts c') : Mono s (s.modCountsA w f) := Mono.closed.modCountsA s w f h

theorem Mono.qPush (s : Streams) (q : QName) (k : Nat) : Mono s (s.qPush q k).1 :=
  Mono.closed.qPush s q k (fun x => setQueued_resetAt x q true fun _ => rfl) fun _ => trivial

theorem Mono.qPushFront (s : Streams) (q : QName) (k : Nat) : Mono s (s.qPushFront q k).1 :=
  Mono.closed.qPushFront s q k (fun x => setQueued_resetAt x q true fun _ => rfl) fun _ => trivial

theorem Mono.qPop (s : Streams) (q : QName) (hq : q ≠ .pendingResetExpired) : Mono s (s.qPop q).1 :=
  Mono.closed.qPop s q (fun x => setQueued_resetAt x q false fun e => absurd e hq) fun _ _ _ => trivial

theorem Mono.ite {s a b : Streams} {c : Prop} [Decidable c] (h1 : Mono s a) (h2 : Mono s b) : Mono s (if c then a else b) := by
  split <;> assumption

theorem Mono.decNumStreams (s : Streams) (k : Nat) : Mono s (s.decNumStreams k) :=
  Mono.closed.decNumStreams s k (fun c n m => cm_num c n m _) fun _ h => h

theorem insert_get?_old (st : Store) (new : Stream) (j : Nat) (x : Stream) (h : st.get? j = some x) :
    (st.insert new).1.get? j = some x := by
  rw [Store.get?_insert, h]; rfl

theorem insert_get?_cases (st : Store) (new : Stream) (j : Nat) :
    (st.insert new).1.get? j = st.get? j ∨
    (st.get? j = none ∧ j = st.nextKey ∧ (st.insert new).1.get? j = some { new with key := st.nextKey }) := by
  rw [Store.get?_insert]
  cases h : st.get? j with
  | some x => exact .inl rfl
  | none =>
    by_cases hk : j = st.nextKey
    · exact .inr ⟨rfl, hk, by simp only [Option.orElse_none, if_pos hk]⟩
    · exact .inl (by simp only [Option.orElse_none, if_neg hk])

theorem remove_get?_ne (st : Store) (k j : Nat) (h : j ≠ k) : (st.remove k).get? j = st.get? j := by
  rw [Store.get?_remove, if_neg h]

theorem remove_get?_self (st : Store) (k : Nat) : (st.remove k).get? k = none := by
  rw [Store.get?_remove, if_pos rfl]

theorem stream_resetAt_live {s : Streams} {j : Nat} (h : (s.stream j).resetAt = true) :
    ∃ x, s.store.get? j = some x ∧ x.resetAt = true := by
  unfold Streams.stream at h
  cases hx : s.store.get? j with
  | none => rw [hx] at h; cases h
  | some x => rw [hx] at h; exact ⟨x, rfl, h⟩

theorem Mono.insert (s : Streams) (st : Stream) : Mono s { s with store := (s.store.insert st).1 } := by
  refine ⟨id, ?_, CM.refl _⟩
  intro j hj
  obtain ⟨x, hx, hr⟩ := stream_resetAt_live hj
  unfold Streams.stream
  simp only [insert_get?_old _ _ _ _ hx, Option.getD_some, hr]

theorem Mono.remove (s : Streams) (k n : Nat)
    (h : ∀ st, s.store.get? k = some st → st.isCounted = false ∧ (∀ q, st.isQueued q = false)) :
    Mono s { s with store := s.store.remove k, recvBufferLeaked := n } := by
  refine ⟨id, ?_, CM.refl _⟩
  intro j hj
  obtain ⟨x, hx, hr⟩ := stream_resetAt_live hj
  by_cases hjk : j = k
  · subst hjk
    have := (h x hx).2 .pendingResetExpired
    simp only [Stream.isQueued] at this
    rw [this] at hr; cases hr
  · unfold Streams.stream
    simp only [remove_get?_ne _ _ _ hjk, hx, Option.getD_some, hr]

theorem Same.resetAt {x y : Stream} (h : Same x y) (hr : x.resetAt = true) : y.resetAt = true := by
  have := h.fl .pendingResetExpired
  simp only [Stream.isQueued] at this
  rw [this]; exact hr

theorem EvB.mono {s s' : Streams} (h : EvB ρ s s') : Mono s s' :=
  EvB.closed Mono.closed Same.resetAt
    (fun _ _ h => h) (fun _ _ h => h) (fun _ _ h => h) (fun _ _ _ h => h) Mono.qPush Mono.qPushFront Mono.qPop
    cm_num (fun _ s st _ => Mono.insert s st) (fun _ _ => ⟨fun h => h, fun _ hj => hj, CM.refl _⟩) Mono.remove h

theorem noPanic_of_mono {s s' : Streams} (h : s.panicked.isSome = true → s'.panicked.isSome = true) (hp : s'.panicked = none) :
    s.panicked = none := by
  cases hs : s.panicked with
  | none => rfl
  | some m =>
    have := h (by simp [hs])
    rw [hp] at this; cases this

theorem EvB.panic_mono {s s' : Streams} (h : EvB ρ s s') (hp : s'.panicked = none) : s.panicked = none :=
  noPanic_of_mono h.mono.panic hp

end H2V.Lemmas.ConnCountsP
