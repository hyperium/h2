import H2V.Lemmas.ConnWakePFindings
/-
  ConnWakeP — the operations of the stream layer as one inductive type, `Reachable`, and the
  invariants that hold in every reachable state.

  `Op` lists every function of `Streams` that `ConnProto.lean` (the connection task) and
  `ConnDriver.lean` (the handles) call and that is not a `poll_*` function; `Poll` lists the `poll_*`
  functions (the only ones that park wakers).  A state is `Reachable` when it is obtained from an
  initial state of either role (`Conn.init g`, `Conn.initServer g ecp first`) by any sequence of `Op`s
  and `Poll`s with ANY arguments, interleaved with the driver's clearing of the wake log — an
  over-approximation of what the connection and the harness can do (arguments are not restricted to
  the ones the callers compute, e.g. the writer handed to `buffer_pending` is arbitrary).
-/
namespace H2V.Lemmas.ConnWakeP
open H2V H2V.Model H2V.Model.Conn

inductive Op where
  | recvHeaders (h : HeadersIn)
  | recvData (sid : Nat) (p : Bytes) (eos : Bool) (pad : Option Nat)
  | recvReset (sid : Nat) (r : Reason)
  | recvWindowUpdate (sid inc : Nat)
  | recvPushPromise (sid : Nat) (h : HeadersIn)
  | recvGoAwayFrame (last : Nat) (r : Reason) (d : Bytes)
  | recvEof (clearPendingAccept : Bool)
  | handleError (e : PErr)
  | applyRemoteSettings (v : List (Nat × Nat)) (isInitial : Bool)
  | applyLocalSettingsFrame (v : List (Nat × Nat))
  | innerSendReset (sid : Nat) (r : Reason)
  | recvGoAway (last : Nat)
  | clearExpiredResetStreams (n : Nat)
  | bufferPending (n : Nat) (w : Writer)
  | reclaimFrame (w : Writer)
  | pollSendPendingRefusal (n : Nat) (w : Writer) (io : Tio) (tag : String)
  | setTargetConnectionWindow (t : Nat)
  | wake (tags : List String)
  | panic (m : String)
  | sendRequest (isHead : Bool) (f : List Hpack.Field) (eos : Bool) (pending : Option Nat)
  | refSendData (k len : Nat) (eos : Bool)
  | refSendTrailers (k : Nat) (f : List Hpack.Field)
  | refSendReset (k : Nat) (r : Reason)
  | refReserveCapacity (k c : Nat)
  | refReleaseCapacity (k c : Nat)
  | refClearRecvBuffer (k : Nat)
  | dropStreamRef (k : Nat)
  | cloneStreamRef (k : Nat)
  | cloneHandle
  | dropHandle
  | nextIncoming
  | recvTakeRequest (k : Nat)
  | refSendResponse (k : Nat) (f : List Hpack.Field) (eos : Bool)
  | refSendInformationalHeaders (k : Nat) (f : List Hpack.Field)
  | refSendPushPromise (k : Nat) (valid : Bool) (f : List Hpack.Field)

def Op.apply : Op → Streams → Streams
  | .recvHeaders h, s => (s.recvHeaders h).1
  | .recvData sid p eos pad, s => (s.recvData sid p eos pad).1
  | .recvReset sid r, s => (s.recvReset sid r).1
  | .recvWindowUpdate sid inc, s => (s.recvWindowUpdate sid inc).1
  | .recvPushPromise sid h, s => (s.recvPushPromise sid h).1
  | .recvGoAwayFrame l r d, s => (s.recvGoAwayFrame l r d).1
  | .recvEof b, s => s.recvEof b
  | .handleError e, s => (s.handleError e).1
  | .applyRemoteSettings v b, s => (s.applyRemoteSettings v b).1
  | .applyLocalSettingsFrame v, s => (s.applyLocalSettingsFrame v).1
  | .innerSendReset sid r, s => (s.innerSendReset sid r).1
  | .recvGoAway l, s => s.recvGoAway l
  | .clearExpiredResetStreams n, s => Streams.clearExpiredResetStreams n s
  | .bufferPending n w, s => (Streams.bufferPending n s w).1
  | .reclaimFrame w, s => (s.reclaimFrame w).1
  | .pollSendPendingRefusal n w io t, s => (Streams.pollSendPendingRefusal n s w io t).1
  | .setTargetConnectionWindow t, s => (s.setTargetConnectionWindow t).1
  | .wake tags, s => s.wake tags
  | .panic m, s => s.panic m
  | .sendRequest b f eos p, s => (s.sendRequest b f eos p).1
  | .refSendData k len eos, s => (s.refSendData k len eos).1
  | .refSendTrailers k f, s => (s.refSendTrailers k f).1
  | .refSendReset k r, s => s.refSendReset k r
  | .refReserveCapacity k c, s => s.refReserveCapacity k c
  | .refReleaseCapacity k c, s => (s.refReleaseCapacity k c).1
  | .refClearRecvBuffer k, s => s.refClearRecvBuffer k
  | .dropStreamRef k, s => s.dropStreamRef k
  | .cloneStreamRef k, s => s.cloneStreamRef k
  | .cloneHandle, s => s.cloneHandle
  | .dropHandle, s => s.dropHandle
  | .nextIncoming, s => s.nextIncoming.1
  | .recvTakeRequest k, s => (s.recvTakeRequest k).1
  | .refSendResponse k f eos, s => (s.refSendResponse k f eos).1
  | .refSendInformationalHeaders k f, s => (s.refSendInformationalHeaders k f).1
  | .refSendPushPromise k v f, s => (s.refSendPushPromise k v f).1

/-- **every non-`poll_*` operation is a `Step`**: no waker slot is emptied without its tag being
    written to the wake log, none is filled, `Closed` is absorbing, `conn_error` is sticky, the
    capacity flag only rises together with a wake of the send/open wakers, `pending_recv` only
    grows together with a wake of the receive waker -/
theorem Op.step (op : Op) (s : Streams) : Step none s (op.apply s) := by
  cases op <;> (simp only [Op.apply]; i_auto)

/-- every operation is a step of the stream layer, so it keeps the store invariant: `Good.of_step` -/
theorem Op.good (op : Op) {s : Streams} (h : Good s) : Good (op.apply s) := by
  refine .of_step (K := fun _ => true) ?_ h
  open H2V.Model.Conn.Streams in
  cases op <;> (simp only [Op.apply]; stp_step <;> first | exact .refl _ | exact fun _ _ => rfl | exact fun _ => rfl)

/-- the operations that park a waker -/
inductive Poll where
  | capacity (k : Nat) (tag : String)
  | reset (k : Nat) (mode : PollReset) (tag : String)
  | response (n k : Nat) (tag : String)
  | informational (k : Nat) (tag : String)
  | data (k : Nat) (tag : String)
  | trailers (k : Nat) (tag : String)
  | pendingOpen (p : Option Nat) (tag : String)
  /-- `poll_complete` registering the connection task -/
  | parkConnection (tag : String)

def Poll.apply : Poll → Streams → Streams
  | .capacity k t, s => (s.pollCapacity k t).1
  | .reset k m t, s => (s.pollReset k m t).1
  | .response n k t, s => (Streams.recvPollResponse n s k t).1
  | .informational k t, s => (s.recvPollInformational k t).1
  | .data k t, s => (s.refPollData k t).1
  | .trailers k t, s => (s.recvPollTrailers k t).1
  | .pendingOpen p t, s => (s.pollPendingOpen p t).1
  | .parkConnection t, s => { s with actions := { s.actions with task := some t } }

/-- the `poll_*` functions are steps of the stream layer too (they park a task): `Good.of_step` -/
theorem Poll.good (p : Poll) {s : Streams} (h : Good s) : Good (p.apply s) := by
  refine .of_step (K := fun _ => true) ?_ h
  open H2V.Model.Conn.Streams in
  cases p <;> (simp only [Poll.apply]; first | exact .setTask _ _ rfl rfl |
    (stp_step <;> first | exact .refl _ | exact fun _ _ => rfl | exact fun _ => rfl))

theorem init_good (g : Conn.Cfg) : Good (Conn.init g).streams := by
  unfold Conn.init
  simp only
  split
  · unfold Conn.setTargetWindowSize
    exact .of_step ((Streams.cloneHandle_step (K := fun _ => true) _).trans
      (Streams.setTargetConnectionWindow_step (fun _ _ => rfl) _ _)) (good_of_empty rfl rfl)
  · exact .of_step (Streams.cloneHandle_step (K := fun _ => true) _) (good_of_empty rfl rfl)

theorem initServer_good (g : Conn.Cfg) (ecp : Bool) (first : Bytes) : Good (Conn.initServer g ecp first).streams := by
  unfold Conn.initServer
  simp only
  split
  · unfold Conn.setTargetWindowSize
    exact .of_step (Streams.setTargetConnectionWindow_step (K := fun _ => true) (fun _ _ => rfl) _ _) (good_of_empty rfl rfl)
  · exact good_of_empty rfl rfl

/-- the states of the stream layer that a connection of either role can be in -/
inductive Reachable : Streams → Prop
  | client (g : Conn.Cfg) : Reachable (Conn.init g).streams
  | server (g : Conn.Cfg) (ecp : Bool) (first : Bytes) : Reachable (Conn.initServer g ecp first).streams
  | op {s : Streams} (o : Op) : Reachable s → Reachable (o.apply s)
  | poll {s : Streams} (p : Poll) : Reachable s → Reachable (p.apply s)
  /-- the driver empties the wake log between two operations -/
  | clearWakes {s : Streams} : Reachable s → Reachable { s with wakes := [] }

theorem reachable_good {s : Streams} (h : Reachable s) : Good s := by
  induction h with
  | client g => exact init_good g
  | server g ecp first => exact initServer_good g ecp first
  | op o _ ih => exact o.good ih
  | poll p _ ih => exact p.good ih
  | clearWakes _ ih => exact ih.of_store_eq rfl

theorem exOpen_good : Good exOpen := by
  refine ⟨fun a ha => ?_, ⟨by decide, fun e he a ha => ?_⟩, fun e he => ?_⟩
  · simp [exOpen] at ha; subst ha; decide
  · simp [exOpen] at he; subst he
    simp [exOpen, Store.get?] at ha; subst ha; rfl
  · simp [exOpen] at he; subst he; decide

end H2V.Lemmas.ConnWakeP
