import H2V.Lemmas.ConnCountsPInvH
/-
  C05 — invariants, part I: `Inv2` along `EvB` and `EvT`.
-/
namespace H2V.Lemmas.ConnCountsP
open H2V H2V.Model H2V.Model.Conn

theorem cd_incReset {c c' : Counts} (h : c.incNumResetStreams = some c') : CD c c' := by
  unfold Counts.incNumResetStreams at h
  split at h
  · cases h; exact ⟨rfl, rfl, rfl, Nat.le_refl _⟩
  · cases h

theorem cd_decReset {c c' : Counts} (h : c.decNumResetStreams = some c') : CD c c' := by
  unfold Counts.decNumResetStreams at h
  split at h
  · cases h; exact ⟨rfl, rfl, rfl, Nat.le_refl _⟩
  · cases h

theorem EvB.inv2 {ρ : Bool} {s s' : Streams} (h : EvB ρ s s') :
    ∀ (sv : Bool) (E : Nat → Prop), s'.panicked = none → KeysOK s → (ρ = true → ∀ k, ¬ E k) → Inv2 sv E s → Inv2 sv E s' := by
  induction h with
  | refl s => exact fun _ _ _ _ _ h => h
  | trans e1 e2 ih1 ih2 =>
    intro sv E hp hA hE hi
    have hpb := noPanic_of_mono e2.mono.panic hp
    exact ih2 sv E hp (e1.keysOK hA) hE (ih1 sv E hpb hA hE hi)
  | free h => exact fun _ _ _ hA _ hi => (DF.closed.frame h).inv2 hA hi
  | setStream st' h => exact fun _ _ _ hA _ hi => (DF.closed.setStream _ _ fun x hx => ⟨(h x hx).id, (h x hx).counted, (h x hx).early, (h x hx).pp⟩).inv2 hA hi
  | qPush q k _ hq => exact fun _ _ _ hA _ hi => (DF.qPush _ _ _ hq).inv2 hA hi
  | qPushFront q k _ hq => exact fun _ _ _ hA _ hi => (DF.qPushFront _ _ _ hq).inv2 hA hi
  | qPushOpen k hl => exact fun _ _ hp hA _ hi => hi.qPushOpen hA hp hl
  | qPop q _ _ => exact fun _ _ _ hA _ hi => (DF.qPop _ _).inv2 hA hi
  | qPopOpen => exact fun _ _ _ hA _ hi => (DF.qPop _ _).inv2 hA hi
  | resetEnq k _ _ _ =>
    exact fun _ _ _ hA _ hi => ((DF.modCountsA _ _ _ (fun _ hc => cd_incReset hc)).trans (DF.qPush _ _ _ (by decide))).inv2 hA hi
  | insert st hf hrem =>
    intro sv E _ hA _ hi
    refine hi.insert hA st hf ?_
    intro hl
    rw [isLocalInit_eq, hi.role] at hrem
    rw [hrem] at hl; cases hl
  | bracket st hf body post ih =>
    rename_i s0 s1
    intro sv E hp hA hE hi
    -- inside the bracket the new entry may be unopened although locally initiated
    have hi1 : Inv2 sv (fun j => j = s0.store.nextKey) { s0 with store := (s0.store.insert st).1 } := by
      have hi' : Inv2 sv (fun j => j = s0.store.nextKey) s0 :=
        ⟨hi.role, hi.p1, hi.ids, hi.fr, fun herr k x hx hl he => absurd (hi.p3 herr k x hx hl he) (hE rfl k), hi.dir, hi.next⟩
      exact hi'.insert hA st hf (fun _ => rfl)
    have hi2 := ih sv _ hp (hA.insert st) (fun h => nomatch h) hi1
    refine ⟨hi2.role, hi2.p1, hi2.ids, hi2.fr, ?_, hi2.dir, hi2.next⟩
    intro herr k x hx hl he
    have hk := hi2.p3 herr k x hx hl he
    subst hk
    exact absurd he (post herr x hx)
  | unlink id => exact fun _ _ _ hA _ hi => (DF.unlink _ id).inv2 hA hi
  | remove k n hg => exact fun _ _ _ hA _ hi => hi.remove hA k n (fun st hst => (hg st hst).1)
  | popOpen _ =>
    rename_i s0 _
    intro sv E hp hA _ hi
    have hdf := DF.qPop s0 QName.pendingOpen
    unfold Streams.qPop at hdf hp ⊢
    cases hq : s0.getQ .pendingOpen with
    | nil => simp only [hq] at hdf hp ⊢; exact hi
    | cons id rest =>
      simp only [hq] at hdf hp ⊢
      have hmem : id ∈ s0.prio.pendingOpen := by
        have : s0.prio.pendingOpen = id :: rest := hq
        rw [this]; exact List.mem_cons_self
      have hp1 := (hi.p1 id hmem).2
      generalize ((s0.setQ .pendingOpen rest).modStream id fun st => st.setQueued .pendingOpen false) = s1 at hdf hp ⊢
      refine (hdf.inv2 hA hi).incSend (hdf.keys.keysOK hA) hp ?_
      intro y hy
      obtain ⟨y0, hy0, d⟩ := hdf.desc id y hy
      rw [d.id]; exact hp1 y0 hy0
  | acceptFlag k v =>
    exact fun _ _ _ hA _ hi => (DF.modStream _ k (fun st => { st with isPendingAccept := v }) (fun _ => rfl)
      (fun _ => ⟨rfl, rfl, fun h => h, fun _ h _ => h⟩)).inv2 hA hi
  | queuePP k pk pid fields hl => exact fun _ _ _ hA _ hi => hi.queuePP hA k pk pid fields hl
  | ppAct sid pk pid fields rest pushed hhead hfind =>
    exact fun _ _ hp hA _ hi => hi.ppAct hA sid pk pid fields rest pushed hhead hfind hp
  | incRecv k st' s1 he hf =>
    rename_i s0
    intro sv E hp hA hE hi
    have hdf1 : DF s0 (s0.modStream k fun st => { st with state := st' }) := by
      refine DF.modStreamAt s0 k _ (fun _ => rfl) ?_
      intro x hx
      refine ⟨rfl, rfl, fun _ => ?_, fun _ h _ => h⟩
      rw [stream_of_get? hx] at he; exact he
    have hdf := hdf1.trans (DF.closed.frame hf)
    refine (hdf.inv2 hA hi).incRecvStep (hdf.keys.keysOK hA) hp ?_
    intro herr y hy
    obtain ⟨y0, hy0, d⟩ := hdf.desc k y hy
    have herr0 : ErrOK s0 := by
      have h1 := (DE.incNumRecvStreams (G := fun _ => False) s1 k).counts.errOK herr
      exact hdf.counts |> fun c => CE.errOK (CE.of_cd c) h1
    rw [d.id]
    cases hloc : locId sv y0.id with
    | false => rfl
    | true =>
      exfalso
      rw [stream_of_get? hy0] at he
      exact hE rfl k (hi.p3 herr0 k y0 hy0 hloc he)
  | decNum k => exact fun _ _ hp hA _ hi => hi.decNum hA hp

theorem EvT.inv2 {s s' : Streams} (h : EvT s s') :
    ∀ (sv : Bool), s'.panicked = none → KeysOK s → Inv2 sv (fun _ => False) s → Inv2 sv (fun _ => False) s' := by
  induction h with
  | ev h => exact fun sv hp hA hi => h.inv2 sv _ hp hA (fun _ _ h => h) hi
  | trans e1 e2 ih1 ih2 =>
    intro sv hp hA hi
    exact ih2 sv hp (e1.keysOK hA) (ih1 sv (e2.mono_panic hp) hA hi)
  | resetPop =>
    rename_i s0
    intro sv hp hA hi
    have hdf := DF.qPop s0 QName.pendingResetExpired
    cases hq : s0.qPop .pendingResetExpired with
    | mk s1 o =>
      rw [hq] at hdf
      cases o with
      | none => simp only [hq] at hp ⊢; exact hdf.inv2 hA hi
      | some id =>
        simp only [hq] at hp ⊢
        rw [transitionAfter_split] at hp ⊢
        have hi1 := hdf.inv2 hA hi
        have hA1 := hdf.keys.keysOK hA
        have e2 := transitionAfter_false_ev (if (true && !(s1.stream id).isPendingResetExpiration) = true then
            s1.modCountsA "self.num_local_reset_streams > 0" Counts.decNumResetStreams else s1) id
        refine e2.inv2 sv _ hp ?_ (fun _ _ h => h) ?_
        · split
          · exact (SameKeys.modCountsA _ _ _).keysOK hA1
          · exact hA1
        · split
          · exact (DF.modCountsA _ _ _ (fun _ hc => cd_decReset hc)).inv2 hA1 hi1
          · exact hi1

end H2V.Lemmas.ConnCountsP
