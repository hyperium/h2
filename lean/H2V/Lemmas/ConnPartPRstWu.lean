import H2V.Lemmas.ConnPartPRstClass
import H2V.Lemmas.ConnCtlPViolStreams
import H2V.Lemmas.ConnLoops
/-
  C09: `Send::send_reset` by itself leaves the RST_STREAM owed, and a following
  `reset_on_recv_stream_err` on the same (now reset) stream keeps it owed.  That is the shape of
  `Send::recv_stream_window_update`: a WINDOW_UPDATE that overflows the stream's send window resets the
  stream FIRST (`send_reset(FLOW_CONTROL_ERROR)`) and then hands the stream error to the dispatcher.

  The entry point `Inner::recv_data` as a whole: when `Recv::recv_data` answers a stream error (window overrun
  of the stream, content-length mismatch, …) the frame's octets are given back to the connection,
  `reset_on_recv_stream_err` runs inside the `transition` closure and `transition_after` follows: the result
  is `Ok(())` and the RST_STREAM is owed in the state `recv_data` returns.
-/
set_option linter.unusedSectionVars false
namespace H2V.Lemmas.ConnPartP
open H2V H2V.Model H2V.Model.Conn H2V.Lemmas.ConnResetP

theorem keysBelow_of_tail (s : Streams) (id : Nat) (r : Reason) (i : Initiator) (hkb : KeysBelow s.store) (fin : Streams)
    (ev : Evolves CoreEq (fun _ => True) (sendResetPre s id r i).store fin.store) :
    KeysBelow fin.store ∧ s.store.nextKey ≤ fin.store.nextKey := by
  obtain ⟨G, hG, hGk, _⟩ := sendResetPre_store s id r i
  rw [hG] at ev
  refine ⟨ev.keysBelow ?_, by have := ev.nk; rw [Store.nextKey_mod] at this; exact this⟩
  intro k st hk
  rw [Store.get?_mod' _ _ _ hGk k] at hk
  rw [Store.nextKey_mod]
  split at hk
  · next h =>
    cases hg : s.store.get? id with
    | none => rw [hg] at hk; cases hk
    | some x => rw [h]; exact hkb id x hg
  · exact hkb k st hk

/-- **`Send::send_reset(reason, init)`** on a stream that is not reset yet and not (closed with nothing
    unsent): the RST_STREAM is owed, the other streams are kept -/
theorem sendSendReset_owes (s : Streams) (k : Nat) (reason : Reason) (init : Initiator) (st : Stream)
    (hkb : KeysBelow s.store) (hg : s.store.get? k = some st) (hr : st.state.isReset = false)
    (hne : (st.state.isClosed && (st.pendingSend.isEmpty && st.bufferedSendData == 0)) = false) :
    OwesRst s (s.sendSendReset k reason init) k st reason init ∧ OthersKept s (s.sendSendReset k reason init) k := by
  have hs : s.stream k = st := stream_of_get? hg
  have hcore : s.sendSendReset k reason init = (sendResetPre s k reason init).reclaimAllCapacity k :=
    sendSendReset_eq s k reason init (by rw [hs]; exact hr) (by rw [hs]; exact hne)
  refine owes_of_tail s s _ k reason init st rfl hkb hg (by rw [hcore]; exact .of_step_core (Streams.reclaimAllCapacity_step (by decide) _ k) (.refl _))
    (fun hrdy c hc => ?_)
    (fun hqok hp => ((ConnCountsP.EvB.of_step (ρ := true) (Streams.sendSendReset_step (by decide) s k reason init fun _ => rfl)).qstep .pendingSend (by decide)).ok hp hqok)
  obtain ⟨y, hy, hf⟩ := sendSendReset_flag s k reason init st hg hr hne hrdy
  rw [hc] at hy
  cases hy; exact hf

/-- **`send_reset` followed by `reset_on_recv_stream_err` on the same stream** (the WINDOW_UPDATE
    overflow path): the dispatcher finds the stream reset, queues nothing more, and the RST_STREAM of the
    first call stays owed -/
theorem sendReset_then_dispatch_owes (s : Streams) (k sid : Nat) (reason reason' : Reason) (init init' : Initiator)
    (st : Stream) (hkb : KeysBelow s.store) (hg : s.store.get? k = some st) (hr : st.state.isReset = false)
    (hne : (st.state.isClosed && (st.pendingSend.isEmpty && st.bufferedSendData == 0)) = false)
    (hq : (s.sendSendReset k reason init).counts.canIncNumLocalErrorResets = true) :
    ((s.sendSendReset k reason init).resetOnRecvStreamErr k (.error (.reset sid reason' init'))).2 = .ok () ∧
    OwesRst s ((s.sendSendReset k reason init).resetOnRecvStreamErr k (.error (.reset sid reason' init'))).1 k st reason init ∧
    OthersKept s ((s.sendSendReset k reason init).resetOnRecvStreamErr k (.error (.reset sid reason' init'))).1 k := by
  obtain ⟨⟨st1, g1, i1, e1, p1, f1⟩, o2, o3⟩ := sendSendReset_owes s k reason init st hkb hg hr hne
  obtain ⟨hkb1, hnk⟩ : KeysBelow (s.sendSendReset k reason init).store ∧
      s.store.nextKey ≤ (s.sendSendReset k reason init).store.nextKey := by
    have hs : s.stream k = st := stream_of_get? hg
    have hcore : s.sendSendReset k reason init = (sendResetPre s k reason init).reclaimAllCapacity k :=
      sendSendReset_eq s k reason init (by rw [hs]; exact hr) (by rw [hs]; exact hne)
    exact keysBelow_of_tail s k reason init hkb _ (by rw [hcore]; exact .of_step_core (Streams.reclaimAllCapacity_step (by decide) _ k) (.refl _))
  have hev1 := ConnCountsP.EvB.of_step (ρ := true) (Streams.sendSendReset_step (by decide) s k reason init fun _ => rfl)
  have hev2 := ConnCountsP.resetOnRecvStreamErr_ev (ρ := true) (s.sendSendReset k reason init) k
    (.error (.reset sid reason' init'))
  generalize s.sendSendReset k reason init = t at *
  rw [resetOnRecvStreamErr_ok t k sid reason' init' hq] at hev2 ⊢
  generalize hx : t.modCountsA "can_inc_num_local_error_resets" Counts.incNumLocalErrorResets = x at hev2 ⊢
  have hxs : x.store = t.store := by subst hx; exact modCountsA_store _ _ _
  have hgx : x.store.get? k = some st1 := by rw [hxs]; exact g1
  have hsx : x.stream k = st1 := stream_of_get? hgx
  -- the second `send_reset` finds the stream reset
  have hnop : x.sendSendReset k reason' init' = x := by
    apply (sendSendReset_no_rst x k reason' init').1
    rw [hsx, e1]; rfl
  have hcore : resetCore x k reason' init' = (x.enqueueResetExpiration k).modStreamW k Stream.notifyRecv := by
    unfold resetCore; rw [hnop]
  rw [hcore] at hev2 ⊢
  have ev : Evolves CoreEq (fun _ => True) t.store ((x.enqueueResetExpiration k).modStreamW k Stream.notifyRecv).store := by
    rw [← hxs]
    exact .of_step_core ((Streams.enqueueResetExpiration_step (by decide) x k).trans (.modStreamW _ k _ .notifyRecv)) (.refl _)
  have hq1 : st1.pendingSend ≠ [] := by rw [p1]; simp
  refine ⟨rfl, ?_, ?_, ?_⟩
  · rcases ev.fwd k st1 g1 (hkb1 k st1 g1) with ⟨st2, g2, c⟩ | ⟨st'', c, d⟩
    · refine ⟨st2, g2, c.id.trans i1, c.state.trans e1, c.pendingSend.trans p1, fun hrdy => ?_⟩
      obtain ⟨hf1, hmem1⟩ := f1 hrdy
      have hys : YS x ((x.enqueueResetExpiration k).modStreamW k Stream.notifyRecv) :=
        .of_step ((Streams.enqueueResetExpiration_step (by decide) x k).trans (.modStreamW _ k _ .notifyRecv))
      have hf2 : st2.isPendingSend = true := by
        rcases hys.keep k st1 hgx with ⟨f, _⟩ | ⟨y, hy, hyy⟩
        · exact f.elim
        · rw [g2] at hy; cases hy; exact hyy.isPendingSend hf1
      refine ⟨hf2, fun hqok hp => ?_⟩
      have hpt : t.panicked = none := by
        cases hpp : t.panicked with
        | none => rfl
        | some m =>
          have := (hev2.qstep .pendingSend (by decide)).mono (by rw [hpp]; rfl)
          rw [hp] at this; cases this
      have hq1' := (hev1.qstep .pendingSend (by decide)).ok hpt hqok
      exact mem_pendingSend_of_flag ((hev2.qstep .pendingSend (by decide)).ok hp hq1') g2 hf2
    · exfalso; apply hq1; rw [← c.pendingSend]; exact d.1
  · intro k' st'' hk hlt h'
    rcases ev.back k' st'' h' with ⟨y, hy, c⟩ | ⟨hge, _, _⟩
    · obtain ⟨st0, h0, c0⟩ := o2 k' y hk hlt hy
      exact ⟨st0, h0, c0.trans c⟩
    · exfalso; omega
  · intro k' st0 hk h0 hq'
    obtain ⟨y, hy, c⟩ := o3 k' st0 hk h0 hq'
    rcases ev.fwd k' y hy (hkb1 k' y hy) with ⟨st2, g2, c2⟩ | ⟨st'', c2, d⟩
    · exact ⟨st2, g2, c.trans c2⟩
    · exfalso; apply hq'; rw [← c.pendingSend, ← c2.pendingSend]; exact d.1

namespace LerSec
open H2V.Lemmas.ConnWakeP
def Ler (b : Bool) (s : Streams) : Prop := s.counts.canIncNumLocalErrorResets = b

section
variable {b : Bool} {s : Streams}
theorem ler_of_counts_eq {t : Streams} (h : Ler b s) (e : t.counts.canIncNumLocalErrorResets = s.counts.canIncNumLocalErrorResets) :
    Ler b t := e.trans h

@[grind ←] theorem wake_ler (w : List String) (h : Ler b s) : Ler b (s.wake w) := ler_of_counts_eq h rfl
@[grind ←] theorem modCounts_ler (f : Counts → Counts)
    (hf : (f s.counts).canIncNumLocalErrorResets = s.counts.canIncNumLocalErrorResets) (h : Ler b s) :
    Ler b (s.modCounts f) := ler_of_counts_eq h hf

/-- of the counter updates only `inc_num_local_error_resets` writes the two fields the quota reads -/
theorem countsUpd_ler {K : Kind → Bool} (hK : K (.counterUp .localErrorReset) = false) {c c' : Counts}
    (h : Counts.Upd K c c') : c'.canIncNumLocalErrorResets = c.canIncNumLocalErrorResets := by
  have key : c'.maxLocalErrorResetStreams = c.maxLocalErrorResetStreams ∧
      c'.numLocalErrorResetStreams = c.numLocalErrorResetStreams := by
    induction h with
    | refl => exact ⟨rfl, rfl⟩
    | trans _ _ ih1 ih2 => exact ⟨ih2.1.trans ih1.1, ih2.2.trans ih1.2⟩
    | incNumResetStreams _ e => unfold Counts.incNumResetStreams at e; split at e <;> cases e; exact ⟨rfl, rfl⟩
    | decNumResetStreams _ e => unfold Counts.decNumResetStreams at e; split at e <;> cases e; exact ⟨rfl, rfl⟩
    | incNumRemoteResetStreams _ e => unfold Counts.incNumRemoteResetStreams at e; split at e <;> cases e; exact ⟨rfl, rfl⟩
    | decNumRemoteResetStreams _ e => unfold Counts.decNumRemoteResetStreams at e; split at e <;> cases e; exact ⟨rfl, rfl⟩
    | incNumLocalErrorResets h => rw [hK] at h; cases h
    | applyRemoteSettings c m i =>
      unfold Counts.applyRemoteSettings; split
      · exact ⟨rfl, rfl⟩
      · split <;> exact ⟨rfl, rfl⟩
    | recordDataFrame c n =>
      unfold Counts.recordDataFrame; dsimp only
      split
      · split <;> exact ⟨rfl, rfl⟩
      · split
        · split <;> exact ⟨rfl, rfl⟩
        · exact ⟨rfl, rfl⟩
    | releaseDataFrame c n => unfold Counts.releaseDataFrame; dsimp only; split <;> exact ⟨rfl, rfl⟩
  unfold Counts.canIncNumLocalErrorResets; rw [key.1, key.2]

theorem Ler.of_step {K : Kind → Bool} (hK : K (.counterUp .localErrorReset) = false) {s s' : Streams}
    (t : Streams.Step K s s') (h : Ler b s) : Ler b s' :=
  ler_of_counts_eq h (t.counts_rel (r := fun c c' => c'.canIncNumLocalErrorResets = c.canIncNumLocalErrorResets)
    (fun _ => rfl) (fun h1 h2 => h2.trans h1) (fun _ _ u => countsUpd_ler hK u) fun _ _ _ => rfl)

theorem sendSendReset_ler (k : Nat) (r : Reason) (i : Initiator) (h : Ler b s) : Ler b (s.sendSendReset k r i) :=
  .of_step (K := fun k => k != .counterUp .localErrorReset) rfl
    (Streams.sendSendReset_step (of_decide_eq_true rfl) s k r i fun _ => rfl) h
end
end LerSec
open LerSec

/-- **WINDOW_UPDATE overflowing a stream's send window** (RFC 9113 §6.9.1: stream error FLOW_CONTROL_ERROR):
    `recv_window_update` answers `Ok(())`, RST_STREAM(FLOW_CONTROL_ERROR) is owed on the stream, the other
    streams are kept -/
theorem recvWindowUpdate_overflow_owes (s : Streams) (id inc k : Nat) (st : Stream) (h0 : id ≠ 0)
    (hk : s.store.findKey? id = some k) (hg : s.store.get? k = some st) (hp : st.isPendingOpen = false)
    (hc : ¬ (st.state.isSendClosed = true ∧ st.bufferedSendData = 0))
    (ho : ¬ (inI32 (st.sendFlow.windowSize.val + u32AsI32 inc) = true ∧
            st.sendFlow.windowSize.val + u32AsI32 inc ≤ (Generated.Consts.MAX_WINDOW_SIZE : Int)))
    (hkb : KeysBelow s.store) (hr : st.state.isReset = false)
    (hq : s.counts.canIncNumLocalErrorResets = true) :
    (s.recvWindowUpdate id inc).2 = .ok () ∧
    OwesRst s (s.recvWindowUpdate id inc).1 k st FLOW_CONTROL_ERROR .library ∧
    OthersKept s (s.recvWindowUpdate id inc).1 k := by
  have hs : s.stream k = st := stream_of_get? hg
  rw [H2V.Lemmas.ConnCtlP.recvWindowUpdate_stream_overflow s id inc k h0 hk (by rw [hs]; exact hp)
    (by rw [hs]; exact hc) (by rw [hs]; exact ho)]
  have hne : (st.state.isClosed && (st.pendingSend.isEmpty && st.bufferedSendData == 0)) = false := by
    cases hcl : st.state.isClosed with
    | false => rfl
    | true =>
      have h1 := State.isSendClosed_of_isClosed _ hcl
      have h2 : st.bufferedSendData ≠ 0 := fun h => hc ⟨h1, h⟩
      simp [h2]
  exact sendReset_then_dispatch_owes s k id FLOW_CONTROL_ERROR FLOW_CONTROL_ERROR .library .library st hkb hg hr hne
    (sendSendReset_ler (b := true) k FLOW_CONTROL_ERROR .library hq)

/-- the dispatcher followed by `transition_after` (the shape of every in-place call site) -/
theorem dispatch_then_transition_owes (x : Streams) (k sid : Nat) (reason : Reason) (init : Initiator) (st : Stream) (b : Bool)
    (hkb : KeysBelow x.store) (hg : x.store.get? k = some st)
    (hq : x.counts.canIncNumLocalErrorResets = true) (hr : st.state.isReset = false)
    (hne : (st.state.isClosed && (st.pendingSend.isEmpty && st.bufferedSendData == 0)) = false) :
    (x.resetOnRecvStreamErr k (.error (.reset sid reason init))).2 = .ok () ∧
    (∃ st', ((x.resetOnRecvStreamErr k (.error (.reset sid reason init))).1.transitionAfter k b).store.get? k = some st' ∧
      st'.id = st.id ∧ st'.state = ⟨.closed (.error (.reset st.id reason init))⟩ ∧
      st'.pendingSend = (if st.isPendingOpen then st.pendingSend.head?.toList else []) ++ [.reset reason] ∧
      (st.isSendReady = true → st'.isPendingSend = true)) ∧
    OthersKept x ((x.resetOnRecvStreamErr k (.error (.reset sid reason init))).1.transitionAfter k b) k := by
  rw [resetOnRecvStreamErr_ok x k sid reason init hq]
  generalize hy : x.modCountsA "can_inc_num_local_error_resets" Counts.incNumLocalErrorResets = y
  have hys : y.store = x.store := by subst hy; exact modCountsA_store _ _ _
  have hgy : y.store.get? k = some st := by rw [hys]; exact hg
  have hsy : y.stream k = st := stream_of_get? hgy
  have hcore : resetCore y k reason init =
      ((((sendResetPre y k reason init).reclaimAllCapacity k).enqueueResetExpiration k).modStreamW k Stream.notifyRecv) := by
    unfold resetCore
    rw [sendSendReset_eq y k reason init (by rw [hsy]; exact hr) (by rw [hsy]; exact hne)]
  obtain ⟨⟨st', h1, h2, h3, h4⟩, c2, c3⟩ := reset_spec_of_tail y k reason init st (hys ▸ hkb) hgy
    ((resetCore y k reason init).transitionAfter k b) (by rw [hcore]; exact resetTail_frame _ k _)
  refine ⟨rfl, ⟨st', h1, h2, h3, h4, fun hrdy => ?_⟩, ?_, ?_⟩
  · obtain ⟨z, hz, hf⟩ := resetCore_flag y k reason init st hgy hr hne hrdy
    exact transitionAfter_flag _ k _ z st' hz hf h1
  · intro k' st'' hk hlt h'
    have := c2 k' st'' hk (by rw [hys]; exact hlt) h'
    rw [hys] at this; exact this
  · intro k' st0 hk h0 hq'
    exact c3 k' st0 hk (by rw [hys]; exact h0) hq'

theorem recvData_eq_of_stream_error (s : Streams) (id : Nat) (p : Bytes) (eos : Bool) (pad : Option Nat) (k : Nat)
    (s1 : Streams) (sid : Nat) (reason : Reason) (init : Initiator) (hf : s.store.findKey? id = some k)
    (h1 : s.recvRecvData k p eos pad = (s1, .error (.reset sid reason init))) :
    s.recvData id p eos pad =
      (((s1.releaseConnectionCapacity (usizeAsU32 (Streams.dataFlowLen p pad)) false
          ).resetOnRecvStreamErr k (.error (.reset sid reason init))).1.transitionAfter k (s.stream k).isPendingResetExpiration,
       ((s1.releaseConnectionCapacity (usizeAsU32 (Streams.dataFlowLen p pad)) false
          ).resetOnRecvStreamErr k (.error (.reset sid reason init))).2) := by
  unfold Streams.recvData Streams.transition Streams.dataFlowLen
  simp only [hf, h1]
  cases pad <;> rfl

/-- **`Inner::recv_data`: a stream error of `Recv::recv_data` leaves the RST_STREAM owed**, in the state
    `recv_data` returns; `s1`/`st1` = the stream layer / the stream's entry at the moment the error arose -/
theorem recvData_stream_error_owes (s : Streams) (id : Nat) (p : Bytes) (eos : Bool) (pad : Option Nat) (k : Nat)
    (s1 : Streams) (sid : Nat) (reason : Reason) (init : Initiator) (st1 : Stream)
    (hf : s.store.findKey? id = some k)
    (h1 : s.recvRecvData k p eos pad = (s1, .error (.reset sid reason init)))
    (hkb : KeysBelow s1.store) (hg : s1.store.get? k = some st1)
    (hq : s1.counts.canIncNumLocalErrorResets = true) (hr : st1.state.isReset = false)
    (hne : (st1.state.isClosed && (st1.pendingSend.isEmpty && st1.bufferedSendData == 0)) = false) :
    (s.recvData id p eos pad).2 = .ok () ∧
    (∃ st', (s.recvData id p eos pad).1.store.get? k = some st' ∧ st'.id = st1.id ∧
      st'.state = ⟨.closed (.error (.reset st1.id reason init))⟩ ∧
      st'.pendingSend = (if st1.isPendingOpen then st1.pendingSend.head?.toList else []) ++ [.reset reason] ∧
      (st1.isSendReady = true → st'.isPendingSend = true ∧
        (ConnCountsP.QOK .pendingSend s → (s.recvData id p eos pad).1.panicked = none →
          k ∈ (s.recvData id p eos pad).1.prio.pendingSend))) ∧
    OthersKept s1 (s.recvData id p eos pad).1 k := by
  have hev := ConnCountsP.recvData_ev (ρ := true) s id p eos pad
  rw [recvData_eq_of_stream_error s id p eos pad k s1 sid reason init hf h1] at hev ⊢
  generalize hx : s1.releaseConnectionCapacity (usizeAsU32 (Streams.dataFlowLen p pad)) false = x at hev ⊢
  have hxs : x.store = s1.store := by subst hx; exact Streams.releaseConnectionCapacity_store _ _ _
  have hxc : x.counts = s1.counts := by subst hx; exact Streams.RecvFrame.counts.releaseConnectionCapacity _ _ _
  obtain ⟨r1, ⟨st', g1, g2, g3, g4, g5⟩, ok⟩ := dispatch_then_transition_owes x k sid reason init st1
    (s.stream k).isPendingResetExpiration (hxs ▸ hkb) (by rw [hxs]; exact hg) (by rw [hxc]; exact hq) hr hne
  refine ⟨r1, ⟨st', g1, g2, g3, g4, fun hrdy => ⟨g5 hrdy, fun hqok hp => ?_⟩⟩, ?_⟩
  · exact mem_pendingSend_of_flag ((hev.qstep .pendingSend (by decide)).ok hp hqok) g1 (g5 hrdy)
  · unfold OthersKept at ok ⊢
    rw [hxs] at ok
    exact ok

end H2V.Lemmas.ConnPartP
