import H2V.Model.Huffman
import H2V.Lemmas.HuffmanPack
/-
  The model of `h2::hpack::huffman::encode` (64-bit register, 40-bit window, flush loop) produces
  exactly the octets of the reference encoder `Spec.Huffman.encode`.

  Invariant: the pending (not yet flushed) bits `P`, fewer than 8 after each symbol, sit at the top
  of the low 40 bits of the register, with zeros below them: `Win bits P`; `bits_left = 40 - |P|`.
  Bits 40..63 of the register hold already-written garbage, which is why everything is mod `2^40`.
-/
namespace H2V.Lemmas.Huffman
open H2V H2V.Spec.Rfc7541 H2V.Spec.Huffman
open H2V.Model.Huffman (encEntry flush encLoop)

def Win (bits : Nat) (Q : List Bool) : Prop :=
  bits % 2 ^ 40 = bitsVal Q 0 * 2 ^ (40 - Q.length)

theorem or_eq_add {bits y left : Nat} (h0 : bits % 2 ^ left = 0) (hy : y < 2 ^ left) :
    bits ||| y = bits + y := by
  have h := Nat.div_add_mod bits (2 ^ left)
  rw [h0, Nat.add_zero, Nat.mul_comm, ← Nat.shiftLeft_eq] at h
  rw [← h, Nat.shiftLeft_add_eq_or_of_lt hy]

/-- `bits |= code << (bits_left - nbits)` appends the code word to the pending bits; the final
    `bits |= (1 << bits_left) - 1` is the case of `bits_left` one bits. -/
theorem Win.or {bits n c : Nat} {Q : List Bool} (hw : Win bits Q) (hn : Q.length + n ≤ 40)
    (hc : c < 2 ^ n) : Win (bits ||| (c <<< (40 - Q.length - n))) (Q ++ codeBits n c) := by
  have hp := bitsVal_lt Q
  unfold Win at hw ⊢
  rw [bitsVal_append, bitsVal_codeBits, Nat.mod_eq_of_lt hc, List.length_append, codeBits_length,
    show 40 - (Q.length + n) = 40 - Q.length - n by omega]
  generalize bitsVal Q 0 = p at hw hp
  generalize hd : 40 - Q.length - n = d
  rw [show 40 - Q.length = n + d by omega] at hw
  have h40 : (p + 1) * 2 ^ (n + d) ≤ 2 ^ 40 := by
    rw [show 40 = Q.length + (n + d) by omega, Nat.pow_add 2 Q.length]
    exact Nat.mul_le_mul_right _ hp
  have hy : c <<< d < 2 ^ (n + d) := by
    rw [Nat.shiftLeft_eq, Nat.pow_add]
    exact Nat.mul_lt_mul_of_lt_of_le hc (Nat.le_refl _) (Nat.two_pow_pos _)
  have h0 : bits % 2 ^ (n + d) = 0 := by
    rw [← Nat.mod_mod_of_dvd bits (Nat.pow_dvd_pow 2 (show n + d ≤ 40 by omega)), hw,
      Nat.mul_mod_left]
  rw [Nat.add_mul, Nat.one_mul] at h40
  rw [or_eq_add h0 hy, Nat.add_mod, hw, Nat.mod_eq_of_lt (a := c <<< d) (by omega),
    Nat.mod_eq_of_lt (by omega), Nat.shiftLeft_eq, Nat.pow_add, Nat.add_mul, Nat.mul_assoc]

/-- one round of the flush loop, `put_u8((bits >> 32) as u8); bits <<= 8`, takes the first 8
    pending bits -/
theorem Win.flush {bits : Nat} {Q : List Bool} (hw : Win bits Q) (h8 : 8 ≤ Q.length)
    (h40 : Q.length ≤ 40) :
    (bits >>> 32) % 256 = bitsVal (Q.take 8) 0 ∧
      Win ((bits <<< 8) % 18446744073709551616) (Q.drop 8) := by
  have hq : (Q.drop 8).length = Q.length - 8 := List.length_drop
  have ha : bitsVal (Q.take 8) 0 < 2 ^ 8 := by
    have := bitsVal_lt (Q.take 8)
    rwa [List.length_take, Nat.min_eq_left h8] at this
  have hr := bitsVal_lt (Q.drop 8)
  have hv : bitsVal Q 0 = bitsVal (Q.take 8) 0 * 2 ^ (Q.drop 8).length + bitsVal (Q.drop 8) 0 := by
    conv => lhs; rw [← List.take_append_drop 8 Q, bitsVal_append, (bitsVal_shift _ _).1]
  obtain ⟨d, hd⟩ : ∃ d, 32 = (Q.drop 8).length + d := ⟨40 - Q.length, by omega⟩
  unfold Win at hw ⊢
  rw [hv, show 40 - Q.length = d by omega, Nat.add_mul, Nat.mul_assoc, ← Nat.pow_add, ← hd] at hw
  have hm : bitsVal (Q.drop 8) 0 * 2 ^ d < 2 ^ 32 := by
    rw [hd, Nat.pow_add]
    exact Nat.mul_lt_mul_of_lt_of_le hr (Nat.le_refl _) (Nat.two_pow_pos _)
  rw [show 40 - (Q.drop 8).length = d + 8 by omega, Nat.pow_add, ← Nat.mul_assoc]
  generalize bitsVal (Q.drop 8) 0 * 2 ^ d = m at hw hm
  generalize bitsVal (Q.take 8) 0 = a at hw ha
  rw [Nat.shiftRight_eq_div_pow, Nat.shiftLeft_eq]
  omega

theorem flush_spec : ∀ (fuel : Nat) (Q : List Bool) (bits : Nat) (out : Bytes),
    Q.length ≤ 40 → Q.length < 8 * fuel → Win bits Q →
    ∃ bits' Q' out', flush fuel bits (40 - Q.length) out = (bits', 40 - Q'.length, out') ∧
      Q'.length < 8 ∧ Win bits' Q' ∧ ∀ X, out ++ Pack (Q ++ X) = out' ++ Pack (Q' ++ X)
  | 0, Q, bits, out, _, hf, _ => by omega
  | fuel + 1, Q, bits, out, h40, hf, hw => by
    unfold flush
    by_cases hle : 40 - Q.length ≤ 32
    · simp only [hle, if_true]
      have hq : (Q.drop 8).length = Q.length - 8 := List.length_drop
      obtain ⟨hbyte, hnew⟩ := hw.flush (by omega) h40
      rw [hbyte, show 40 - Q.length + 8 = 40 - (Q.drop 8).length by omega]
      obtain ⟨bits', Q', out', hfl, hQ', hw', hX⟩ :=
        flush_spec fuel (Q.drop 8) _ (out ++ [bitsVal (Q.take 8) 0]) (by omega) (by omega) hnew
      refine ⟨bits', Q', out', hfl, hQ', hw', fun X => ?_⟩
      have := Pack_chunk (c8 := Q.take 8) (Q.drop 8 ++ X) (by simp; omega)
      rw [← List.append_assoc, List.take_append_drop] at this
      rw [← hX X, this, List.append_assoc, List.singleton_append]
    · simp only [hle, if_false]
      exact ⟨bits, Q, out, rfl, by omega, hw, fun _ => rfl⟩

theorem encEntry_code {b : Nat} (hb : b < 257) : ∃ n c, encEntry b = (n, c) ∧ Code b n c := by
  obtain ⟨n, c, hc⟩ := code_exists hb
  refine ⟨n, c, ?_, hc⟩
  unfold Code at hc
  simp only [encEntry, encL_eq, List.getD_eq_getElem?_getD, hc, Option.getD_some]

def encFin : Nat × Nat × Bytes → Bytes
  | (bits, left, out) =>
    if left ≠ 40 then out ++ [((bits ||| ((1 <<< left) - 1)) >>> 32) % 256] else out

theorem encLoop_spec : ∀ (src : Bytes), Bytes.Valid src → ∀ (P : List Bool) (bits : Nat)
    (out : Bytes), P.length < 8 → Win bits P →
    encFin (encLoop src bits (40 - P.length) out) = out ++ Pack (P ++ encodeBits src)
  | [], _, P, bits, out, hP, hw => by
    simp only [encLoop, encFin, encodeBits, List.append_nil]
    by_cases h0 : P.length = 0
    · have : P = [] := List.eq_nil_of_length_eq_zero h0
      subst this
      simp [Pack_nil]
    · have hne : 40 - P.length ≠ 40 := by omega
      have hw' := hw.or (n := 40 - P.length) (c := 2 ^ (40 - P.length) - 1) (by omega)
        (by have := Nat.two_pow_pos (40 - P.length); omega)
      rw [Nat.sub_self, Nat.shiftLeft_zero, codeBits_ones] at hw'
      simp only [hne, ne_eq, not_false_eq_true, if_true]
      rw [Pack_short (by omega) hP, Nat.one_shiftLeft, (hw'.flush (by simp; omega) (by simp; omega)).1,
        List.take_append, List.take_of_length_le (by omega), List.take_replicate,
        Nat.min_eq_left (by omega)]
  | b :: rest, hv, P, bits, out, hP, hw => by
    have hb256 : b < 256 := hv b (by simp)
    have hv' : Bytes.Valid rest := fun x hx => hv x (by simp [hx])
    obtain ⟨n, c, hentry, hc⟩ := encEntry_code (show b < 257 by omega)
    have hr := code_range hc
    have hw' := hw.or (n := n) (c := c) (by omega) hr.2.2
    obtain ⟨bits', Q', out', hfl, hQ', hwQ, hX⟩ :=
      flush_spec 5 (P ++ codeBits n c) _ out (by simp; omega) (by simp; omega) hw'
    rw [show 40 - (P ++ codeBits n c).length = 40 - P.length - n by simp; omega] at hfl
    simp only [encLoop, hentry, hfl]
    rw [encLoop_spec rest hv' Q' bits' out' hQ' hwQ, ← hX]
    simp only [encodeBits, symBits_of_code hc, List.append_assoc]

theorem encode_eq_spec (s : Bytes) (h : Bytes.Valid s) :
    Model.Huffman.encode s = Spec.Huffman.encode s := by
  have := encLoop_spec s h [] 0 [] (by simp) (by simp [Win, bitsVal])
  simp only [List.length_nil, Nat.sub_zero, List.nil_append] at this
  rw [encode_eq_Pack, ← this]
  rfl

end H2V.Lemmas.Huffman
