import H2V.Lemmas.CodecArms
/-
  Where a frame that `decode_frame` yields comes from (`Decoded`): one of the payload parsers `Frame.load*` answered it
  for this frame's head and payload (`Loaded`), or it is a completed header block.  A property of decoded frames is
  then checked on what the parser of the frame's own type answers (`cases decodeFrame_decoded h`, `Loaded.own`),
  without walking `decode_frame` again.
-/
namespace H2V.Lemmas.Codec
open H2V H2V.Model.Frame H2V.Model.CodecRead

inductive Decoded (bytes : Bytes) : Frame → Prop
  | loaded {f : Frame} : Loaded bytes f → Decoded bytes f
  /-- HEADERS or PUSH_PROMISE, with its CONTINUATION frames if any -/
  | block (c : Continuable) : Decoded bytes c.toFrame

theorem afterHpack_yields {r r' : Reader} {c : Continuable} {tail : Bytes} {count : Nat} {eh : Bool} {sid : Nat}
    {res : Except FErr Unit} {f : Frame} (h : afterHpack r c tail count eh sid res = (r', .frame f)) : f = c.toFrame := by
  unfold afterHpack at h
  dsimp only at h
  have hc : ∀ {r'' : Reader}, (if eh = true then (({ r with partialBlk := none } : Reader), DF.frame c.toFrame)
      else ({ r with partialBlk := some { frame := c, buf := tail, count := count } }, DF.none)) = (r'', DF.frame f) →
      f = c.toFrame := by
    intro r'' hh
    split at hh
    · injection hh with _ hh; injection hh with hh; exact hh.symm
    · injection hh with _ hh; cases hh
  split at h
  · exact hc h
  · split at h
    · exact hc h
    · injection h with _ h; cases h
  all_goals (injection h with _ h; cases h)

theorem decodeFrame_frame_or {r r' : Reader} {bytes : Bytes} {f : Frame} (h : decodeFrame r bytes = (r', .frame f)) :
    (r' = r ∧ Loaded bytes f) ∨ ((Head.parse bytes).kind ∈ [1, 5, 9] ∧ ∃ c : Continuable, f = c.toFrame) := by
  obtain ⟨F, a, hF⟩ := decodeFrame_arm r bytes
  rw [show decodeFrame r bytes = F r from hF r.buf r.need r.maxFrameLen] at h
  cases a with
  | loaded hp hl => cases h; exact .inl ⟨rfl, hl⟩
  | headers _ hk _ => exact .inr ⟨by rw [hk]; decide, _, afterHpack_yields h⟩
  | pushPromise _ hk _ => exact .inr ⟨by rw [hk]; decide, _, afterHpack_yields h⟩
  | continuation hk _ _ => exact .inr ⟨by rw [hk]; decide, _, afterHpack_yields h⟩
  | _ => cases h

theorem decodeFrame_decoded {r r' : Reader} {bytes : Bytes} {f : Frame} (h : decodeFrame r bytes = (r', .frame f)) :
    Decoded bytes f := by
  rcases decodeFrame_frame_or h with ⟨_, hl⟩ | ⟨_, c, rfl⟩
  · exact .loaded hl
  · exact .block c

end H2V.Lemmas.Codec
