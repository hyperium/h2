import H2V.Lemmas.ConnNoPanicPTearReset
/-
  C08 (no panic): `pending_accept`.  Its link flag `is_pending_accept` is shared with the
  parent's `pending_push_promises`, so ConnCountsP's `QOK` is not available for it; `AccOK` is the half
  that `clear_all_pending_accept` needs (queued keys are live, flagged, queued once).  It is framed by
  everything `recv_eof` does before it reaches `clear_all_pending_accept` (`QF .pendingAccept`, by `QF.of_step`).  With it:
  `Recv::clear_queues`, `Actions::clear_queues`.
-/
namespace H2V.Lemmas.ConnNoPanicP
open H2V H2V.Model H2V.Model.Conn H2V.Lemmas.ConnCountsP

structure AccOK (s : Streams) : Prop where
  fl : ∀ k ∈ s.recv.pendingAccept, Flagged .pendingAccept s k
  nodup : s.recv.pendingAccept.Nodup

theorem AccOK.of_qf {s s' : Streams} (h : QF .pendingAccept s s') (ha : AccOK s) : AccOK s' := by
  have hq : s'.recv.pendingAccept = s.recv.pendingAccept := h.queue
  exact ⟨fun k hk => (h.fl k).mpr (ha.fl k (hq ▸ hk)), hq ▸ ha.nodup⟩

theorem AccOK.live {s : Streams} (ha : AccOK s) {k : Nat} (hk : k ∈ s.recv.pendingAccept) : Live s k := by
  obtain ⟨x, hx, _⟩ := ha.fl k hk; exact ⟨x, hx⟩

theorem AccOK.qPop {s : Streams} (ha : AccOK s) : AccOK (s.qPop .pendingAccept).1 := by
  cases hg : s.getQ .pendingAccept with
  | nil => rw [Streams.qPop_nil hg]; exact ha
  | cons id rest =>
    have hg' : s.recv.pendingAccept = id :: rest := hg
    have hnd := List.nodup_cons.mp (hg' ▸ ha.nodup)
    obtain ⟨x, hx, _⟩ := ha.fl id (by rw [hg']; exact List.mem_cons_self ..)
    rw [Streams.qPop_cons hg]
    have hq : ((s.setQ .pendingAccept rest).modStream id fun st => st.setQueued .pendingAccept false).recv.pendingAccept = rest := by
      show Streams.getQ _ .pendingAccept = rest
      rw [getQ_modStream, getQ_setQ]
    refine ⟨fun j hj => ?_, by rw [hq]; exact hnd.2⟩
    rw [hq] at hj
    rw [flagged_modStream_set .pendingAccept _ id false x (by rw [setQ_store]; exact hx) j, if_neg (fun e : j = id => hnd.1 (e ▸ hj))]
    have := ha.fl j (by rw [hg']; exact List.mem_cons_of_mem _ hj)
    unfold Flagged at this ⊢
    rw [setQ_store]
    exact this

theorem qPopAcc_live {s : Streams} (ha : AccOK s) {s' : Streams} {id : Nat}
    (h : s.qPop .pendingAccept = (s', some id)) : Live s id := (qPop_live (q := .pendingAccept) (fun _ hk => ha.live hk) h).1

theorem qPopAcc_npi {E : Nat → Prop} {s : Streams} (h : NPI E s) (ha : AccOK s) : NPI E (s.qPop .pendingAccept).1 :=
  qPop_npi_of_live h (by decide) (fun _ hk => ha.live hk)

theorem clearAllPendingAccept_npe {E : Nat → Prop} (n : Nat) {s : Streams} (h : NPE E s) (ha : AccOK s) :
    NPE E (Streams.clearAllPendingAccept n s) := by
  rw [Streams.clearAllPendingAccept_eq]
  refine (Streams.popLoop_inv (P := fun s => NPE E s ∧ AccOK s) (fun s t k h heq => ?_) n s ⟨h, ha⟩).1
  have h1 : NPE E t ∧ AccOK t := Conn.of_fst_eq (P := fun t => NPE E t ∧ AccOK t) heq
    ⟨⟨qPopAcc_npi h.1.1 h.2, (qPop_errSame s _).errOK h.1.2⟩, h.2.qPop⟩
  exact ⟨⟨transitionAfter_npi h1.1.1 h1.1.2 k false (fun hb => Bool.noConfusion hb),
    (transitionAfter_errSame _ _ _).errOK h1.1.2⟩, AccOK.of_qf (QF.transitionAfter _ _ _ _) h1.2⟩

theorem clearAllPendingAccept_npi {E : Nat → Prop} (n : Nat) {s : Streams} (h : NPI E s) (he : ErrOK s) (ha : AccOK s) :
    NPI E (Streams.clearAllPendingAccept n s) := (clearAllPendingAccept_npe n ⟨h, he⟩ ha).1

/-- `Recv::clear_queues` is `clear_all_pending_accept` (when asked for) after steps of the layer that keep `NPE` -/
theorem recvClearQueues_split {K : Kind → Bool}
    (hK : Kind.Has K [.release, .unlink, .dequeue .pendingWindowUpdates, .dequeue .pendingResetExpired, .counterDown .localReset])
    (s : Streams) (b : Bool) :
    ∃ t n, s.recvClearQueues b = (if b then Streams.clearAllPendingAccept n t else t) ∧ Streams.Step K s t ∧
      (NPE (fun _ => False) s → NPE (fun _ => False) t) :=
  ⟨_, _, rfl, (Streams.clearStreamWindowUpdateQueue_step (hK.sub rfl) _ s).trans (Streams.clearAllResetStreams_step (hK.sub rfl) _ _),
    fun h => clearAllResetStreams_npe _ (clearStreamWindowUpdateQueue_npe _ h)⟩

theorem recvClearQueues_npe {s : Streams} (h : NPE (fun _ => False) s) (b : Bool) (ha : b = true → AccOK s) :
    NPE (fun _ => False) (s.recvClearQueues b) := by
  obtain ⟨t, n, e, ht, hn⟩ := recvClearQueues_split (K := QF.kinds .pendingAccept) (of_decide_eq_true rfl) s b
  rw [e]; split
  · next hb => exact clearAllPendingAccept_npe _ (hn h) (AccOK.of_qf (.of_step ht) (ha hb))
  · exact hn h

theorem clearQueues_npe {s : Streams} (h : NPE (fun _ => False) s) (b : Bool) (ha : b = true → AccOK s) :
    NPE (fun _ => False) (s.clearQueues b) :=
  sendClearQueues_npe (recvClearQueues_npe h b ha)

theorem clearAllPendingAccept_accOK (n : Nat) {s : Streams} (ha : AccOK s) : AccOK (Streams.clearAllPendingAccept n s) := by
  rw [Streams.clearAllPendingAccept_eq]
  exact Streams.popLoop_inv (fun s t k h heq => AccOK.of_qf (QF.transitionAfter _ _ _ _) (Conn.of_fst_eq heq h.qPop)) n s ha

theorem recvClearQueues_accOK {s : Streams} (ha : AccOK s) (b : Bool) : AccOK (s.recvClearQueues b) := by
  obtain ⟨t, n, e, ht, _⟩ := recvClearQueues_split (K := QF.kinds .pendingAccept) (of_decide_eq_true rfl) s b
  rw [e]; split
  · exact clearAllPendingAccept_accOK _ (AccOK.of_qf (.of_step ht) ha)
  · exact AccOK.of_qf (.of_step ht) ha

theorem clearQueues_accOK {s : Streams} (ha : AccOK s) (b : Bool) : AccOK (s.clearQueues b) := by
  unfold Streams.clearQueues
  exact AccOK.of_qf (.of_step (Streams.sendClearQueues_step (by decide) _)) (recvClearQueues_accOK ha b)

theorem clearExpiredResetStreams_accOK (n : Nat) {s : Streams} (ha : AccOK s) : AccOK (Streams.clearExpiredResetStreams n s) :=
  AccOK.of_qf (.of_step (Streams.clearExpiredResetStreams_step (by decide) n s)) ha

end H2V.Lemmas.ConnNoPanicP
