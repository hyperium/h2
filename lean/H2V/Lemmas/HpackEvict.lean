import H2V.Model.HpackDec
import H2V.Spec.Hpack
/-
  RFC 7541 §4: entry sizes, the table size, and the reference eviction `Spec.Hpack.evict` (keep the
  longest newest-first prefix that fits).  Shared by the decoder's and the encoder's table lemmas:
  both tables of h2 evict from the back while the size is over the limit.
-/
namespace H2V.Lemmas.Hpack
open H2V H2V.Model.Hpack H2V.Spec.Hpack

theorem fieldSize_eq (h : Header) : fieldSize h = h.size := by
  simp [fieldSize, Header.size]; omega

theorem fieldSize_pos (h : Header) : 32 ≤ fieldSize h := by
  simp [fieldSize]

@[simp] theorem tableSize_nil : tableSize ([] : List Header) = 0 := rfl
@[simp] theorem tableSize_cons (h : Header) (l : List Header) :
    tableSize (h :: l) = fieldSize h + tableSize l := rfl

theorem tableSize_concat (l : List Header) (x : Header) :
    tableSize (l ++ [x]) = tableSize l + fieldSize x := by
  induction l with
  | nil => simp
  | cons h t ih => simp only [List.cons_append, tableSize_cons, ih]; omega

theorem length_le_tableSize (l : List Header) : 32 * l.length ≤ tableSize l := by
  induction l with
  | nil => simp
  | cons h t ih => have := fieldSize_pos h; simp only [List.length_cons, tableSize_cons]; omega

theorem evict_of_le (l : List Header) (m : Nat) (h : tableSize l ≤ m) : evict l m = l := by
  induction l generalizing m with
  | nil => rfl
  | cons f t ih =>
    simp only [tableSize_cons] at h
    simp only [evict]
    rw [if_pos (by omega), ih _ (by omega)]

theorem evict_zero (l : List Header) : evict l 0 = [] := by
  cases l with
  | nil => rfl
  | cons f t => have := fieldSize_pos f; simp only [evict]; rw [if_neg (by omega)]

/-- dropping the oldest entry when the whole list does not fit: what h2's back-eviction does -/
theorem evict_concat (l : List Header) (x : Header) (m : Nat) :
    evict (l ++ [x]) m = if tableSize (l ++ [x]) ≤ m then l ++ [x] else evict l m := by
  induction l generalizing m with
  | nil =>
    simp only [List.nil_append, evict, tableSize_cons, tableSize_nil, Nat.add_zero]
    by_cases h : fieldSize x ≤ m <;> simp [h]
  | cons f t ih =>
    simp only [List.cons_append, evict, tableSize_cons, ih]
    by_cases h1 : fieldSize f ≤ m
    · simp only [if_pos h1]
      by_cases h2 : tableSize (t ++ [x]) ≤ m - fieldSize f
      · rw [if_pos h2, if_pos (by omega)]
      · rw [if_neg h2, if_neg (by omega)]
    · simp only [if_neg h1]
      rw [if_neg (by omega)]

theorem tableSize_evict_le (l : List Header) (m : Nat) : tableSize (evict l m) ≤ m := by
  induction l generalizing m with
  | nil => simp [evict]
  | cons f t ih =>
    simp only [evict]
    split
    · have := ih (m - fieldSize f)
      simp only [tableSize_cons]; omega
    · simp

/-- `Table::reserve`'s loop (`Table::consolidate` and the encoder's `Table::converge` run the same
    loop): with `k` octets of `size` not backed by an entry, it leaves what RFC 7541 §4 keeps in
    `maxSize - (n + k)` -/
theorem reserve_go_evict (n k : Nat) : ∀ (fuel : Nat) (t : Table),
    t.size = tableSize t.entries + k → t.entries.length ≤ fuel →
    (Table.reserve.go n fuel t).entries = evict t.entries (t.maxSize - (n + k)) ∧
    (Table.reserve.go n fuel t).size = tableSize (Table.reserve.go n fuel t).entries + k ∧
    (Table.reserve.go n fuel t).maxSize = t.maxSize := by
  intro fuel
  induction fuel with
  | zero =>
    intro t hs hl
    have he : t.entries = [] := List.eq_nil_of_length_eq_zero (by omega)
    exact ⟨by show t.entries = _; rw [he]; rfl, hs, rfl⟩
  | succ fuel ih =>
    intro t hs hl
    simp only [Table.reserve.go]
    split
    · rename_i hgt
      split
      · rename_i last hlast
        obtain ⟨ini, hini⟩ := List.getLast?_eq_some_iff.1 hlast
        have hpos := fieldSize_pos last
        rw [hini, tableSize_concat] at hs
        rw [fieldSize_eq] at hs hpos
        obtain ⟨i1, i2, i3⟩ := ih { t with entries := t.entries.dropLast, size := t.size - last.size }
          (by simp only [hini, List.dropLast_concat]; omega) (by simp [hini] at hl ⊢; omega)
        refine ⟨?_, i2, i3⟩
        rw [i1]
        simp only [hini, List.dropLast_concat]
        rw [evict_concat, if_neg]
        rw [tableSize_concat, fieldSize_eq]
        omega
      · rename_i hnone
        have he : t.entries = [] := List.getLast?_eq_none_iff.1 hnone
        exact ⟨by rw [he]; rfl, hs, rfl⟩
    · rename_i hle
      exact ⟨(evict_of_le _ _ (by omega)).symm, hs, rfl⟩

end H2V.Lemmas.Hpack
