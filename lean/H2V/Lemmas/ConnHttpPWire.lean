import H2V.Lemmas.ConnHttpPReader
import H2V.Lemmas.HpackDecSplit
/-
  C13 (ConnHttpP) — the ghost field list is what HPACK decodes from the CONCATENATION of the
  block's fragments: a second ghost (decoder at the start of the block, octets of the block so far)
  carried next to the reader, tied to `ghostNext` by `H2V.Lemmas.HpackDec.split_invariance`.
-/
namespace H2V.Lemmas.ConnHttpP
open H2V H2V.Model H2V.Model.Frame H2V.Model.Hpack H2V.Model.CodecRead H2V.Lemmas.HpackDec

/-- the reader's HPACK state, partial buffer and the ghost list are those of decoding the
    concatenated fragments from the decoder the block started with -/
structure WInv (r : Reader) (g : List Header) (w : WGhost) : Prop where
  part : ∀ p, r.partialBlk = some p → ∃ d0 src, w = some (d0, src) ∧ r.hpack = (d0.decode src).dec ∧
    p.buf = (d0.decode src).tail ∧ g = (d0.decode src).fields ∧ resumable (d0.decode src).result = true

theorem load_after_w (r : Reader) (b : HeaderBlock) (src : Bytes) (dec : Decoder)
    (mk : HeaderBlock → Continuable) (cnt : Nat) (eh : Bool) (sid : Nat) :
    (Codec.loadThen r b src dec mk cnt eh sid).1.hpack = (dec.decode src).dec ∧
    (∀ p, (Codec.loadThen r b src dec mk cnt eh sid).1.partialBlk = some p →
      p.buf = (dec.decode src).tail ∧ resumable (dec.decode src).result = true) ∧
    (∀ blk, dfBlock (Codec.loadThen r b src dec mk cnt eh sid).2 = some blk → (dec.decode src).result = .ok ()) := by
  unfold Codec.loadThen
  have hres : ∀ x, (HeaderBlock.load b src r.maxHeaderListSize dec).2.2.2 = x →
      (x = .ok () → (dec.decode src).result = .ok ()) ∧
      (∀ e, x = .error (.hpack e) → (dec.decode src).result = .error e) := by
    intro x hx
    rw [load_eq] at hx
    simp only at hx
    split at hx
    · subst hx; exact ⟨fun h => (by cases h), fun e h => (by cases h)⟩
    · cases hr : (dec.decode src).result with
      | error e' =>
        rw [hr] at hx
        subst hx
        exact ⟨fun h => (by cases h), fun e h => (by cases h; rfl)⟩
      | ok u =>
        rw [hr] at hx
        simp only at hx
        split at hx <;> (subst hx; exact ⟨fun _ => rfl, fun e h => (by cases h)⟩)
  obtain ⟨a1, a2, a3⟩ := afterHpack_cases { r with hpack := (HeaderBlock.load b src r.maxHeaderListSize dec).2.1 }
    (mk (HeaderBlock.load b src r.maxHeaderListSize dec).1) (HeaderBlock.load b src r.maxHeaderListSize dec).2.2.1
    cnt eh sid (HeaderBlock.load b src r.maxHeaderListSize dec).2.2.2
  obtain ⟨h1, h2⟩ := hres _ rfl
  refine ⟨by rw [a1]; simp only [load_eq], fun p hp => ?_, fun blk hb => h1 (a3 blk hb).2⟩
  rcases a2 with a2 | ⟨a2, e2⟩
  · rw [a2] at hp; cases hp
  rw [a2] at hp
  cases hp
  refine ⟨by simp only [load_eq], ?_⟩
  rcases e2 with e2 | ⟨e, e2, hn⟩
  · rw [h1 e2]; rfl
  · rw [h2 e e2]; exact hn

theorem winv_same (r r' : Reader) (g : List Header) (w : WGhost) (hi : WInv r g w) (h1 : r'.hpack = r.hpack)
    (h2 : r'.partialBlk = r.partialBlk) : WInv r' g w :=
  ⟨fun p hp => by rw [h1]; exact hi.part p (by rw [← h2]; exact hp)⟩

theorem winv_drop (r' : Reader) (g : List Header) (w : WGhost) (h2 : r'.partialBlk = none) : WInv r' g w :=
  ⟨fun p hp => by rw [h2] at hp; cases hp⟩

/-- **the ghost list is the HPACK decoding of the concatenated fragments** — invariant of `decode_frame`,
    and for a delivered block the decoding of the whole block succeeded -/
theorem decodeFrame_winv (r : Reader) (g : List Header) (w : WGhost) (bytes : Bytes) (hi : WInv r g w) :
    WInv (decodeFrame r bytes).1 (ghostNext g r bytes) (wireNext w r bytes) ∧
    ∀ blk, dfBlock (decodeFrame r bytes).2 = some blk →
      ∃ d0 src, wireNext w r bytes = some (d0, src) ∧ ghostNext g r bytes = (d0.decode src).fields ∧
        (d0.decode src).result = .ok () := by
  cases decodeFrame_shape r bytes with
  | inert hh hb hp =>
    refine ⟨?_, fun blk h => by rw [hb] at h; cases h⟩
    rcases hp with hp | ⟨hp, hg, hw⟩
    · exact winv_drop _ _ _ hp
    · rw [hg, hw]; exact winv_same r _ g w hi hh hp
  | first frag mk _ eh hd hg hw =>
    rw [hd, hg, hw]
    obtain ⟨l1, l2, l3⟩ := load_after_w r {} frag r.hpack mk 0 eh (Head.parse bytes).sid
    exact ⟨⟨fun p hp' => ⟨r.hpack, frag, rfl, l1, (l2 p hp').1, rfl, (l2 p hp').2⟩⟩,
      fun blk hb => ⟨r.hpack, frag, rfl, rfl, l3 blk hb⟩⟩
  | cont p cnt eh hp hd hg hw =>
    obtain ⟨d0, src0, rfl, h1, h2, h3, h4⟩ := hi.part p hp
    rw [hd, hg, hw]
    obtain ⟨l1, l2, l3⟩ := load_after_w { r with partialBlk := none } p.frame.blk (p.buf ++ List.drop 9 bytes)
      r.hpack.continueBlock (fun b => p.frame.setBlk b) cnt eh (Head.parse bytes).sid
    -- `split_invariance`: decoding `src0 ++ payload` from `d0` = going on from the partial state
    have hsplit := split_invariance d0 src0 (List.drop 9 bytes)
    unfold feed at hsplit
    rw [if_pos h4] at hsplit
    simp only at hsplit
    rw [← h1, ← h2] at hsplit
    have e_f : (d0.decode (src0 ++ List.drop 9 bytes)).fields =
        g ++ loadedFields r.hpack.continueBlock (p.buf ++ List.drop 9 bytes) := by rw [hsplit, h3]
    refine ⟨⟨fun p' hp' => ?_⟩, fun blk hb => ⟨d0, _, rfl, e_f.symm, by rw [hsplit]; exact l3 blk hb⟩⟩
    obtain ⟨b1, b2⟩ := l2 p' hp'
    exact ⟨d0, _, rfl, by rw [hsplit]; exact l1, by rw [hsplit]; exact b1, e_f.symm, by rw [hsplit]; exact b2⟩


theorem winv_queueSizeUpdate (r : Reader) (g : List Header) (w : WGhost) (v : Nat) (hn : r.partialBlk = none) :
    WInv { r with hpack := r.hpack.queueSizeUpdate v } g w := winv_drop _ _ _ hn

/-- a sequence of complete frames through `decode_frame`, with both ghosts -/
def runFrames : Reader × List Header × WGhost → List Bytes → Reader × List Header × WGhost
  | x, [] => x
  | (r, g, w), b :: rest => runFrames ((decodeFrame r b).1, ghostNext g r b, wireNext w r b) rest

theorem runFrames_inv : ∀ (frames : List Bytes) (r : Reader) (g : List Header) (w : WGhost), RInv r g → WInv r g w →
    RInv (runFrames (r, g, w) frames).1 (runFrames (r, g, w) frames).2.1 ∧
    WInv (runFrames (r, g, w) frames).1 (runFrames (r, g, w) frames).2.1 (runFrames (r, g, w) frames).2.2
  | [], _, _, _, h1, h2 => ⟨h1, h2⟩
  | b :: rest, r, g, w, h1, h2 =>
    runFrames_inv rest _ _ _ (decodeFrame_inv r g b h1).1 (decodeFrame_winv r g w b h2).1

/-- **wire to block, any fragmentation**: after ANY sequence of frames from a fresh reader, a HEADERS /
    PUSH_PROMISE block that the next frame completes (a) is unflagged, (b) stands for the field list
    `(d0.decode src).fields` where `src` is the concatenation of the block's fragments and `d0` the HPACK
    decoder state when the block began, and that decoding succeeded, (c) — unless over-size — violates
    none of the common rules and holds exactly those fields -/
theorem delivered_block_is_decoding_of_concatenation (mfs : Nat) (frames : List Bytes) (bytes : Bytes) (blk : HeaderBlock)
    (hd : dfBlock (decodeFrame (runFrames (Reader.new mfs, [], none) frames).1 bytes).2 = some blk) :
    ∃ d0 src, (d0.decode src).result = .ok () ∧ blk.isMalformed = false ∧ BlockInv blk (d0.decode src).fields ∧
      (∀ x ∈ (d0.decode src).fields, fieldOk x = true) ∧
      wireNext (runFrames (Reader.new mfs, [], none) frames).2.2 (runFrames (Reader.new mfs, [], none) frames).1 bytes
        = some (d0, src) := by
  obtain ⟨h1, h2⟩ := runFrames_inv frames _ _ _ (rinv_new mfs) (winv_drop _ _ _ rfl)
  obtain ⟨d0, src, e1, e2, e3⟩ := (decodeFrame_winv _ _ _ bytes h2).2 blk hd
  obtain ⟨a, b, c⟩ := (decodeFrame_inv _ _ bytes h1).2 blk hd
  rw [e2] at b c
  exact ⟨d0, src, e3, a, b, c, e1⟩

end H2V.Lemmas.ConnHttpP
