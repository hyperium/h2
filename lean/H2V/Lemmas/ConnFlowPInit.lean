import H2V.Model.ConnProto
import H2V.Lemmas.ConnFlowPLedger
/-
  ConnFlowP — the stream layer of a new connection (`Conn.init`, `Conn.initServer`, any
  builder configuration) is a reachable state in the sense of `Reach` / `ReachH`.
-/
namespace H2V.Lemmas.ConnFlowP
open H2V H2V.Model H2V.Model.Conn

export H2V.Model.Conn.Conn (bufferSettings_streams)

/-- the client's stream layer after `handshake2` -/
theorem init_reachH (g : Conn.Cfg) : ReachH (Conn.init g).streams 65535 0 := by
  unfold Conn.init
  dsimp only
  split
  · unfold Conn.setTargetWindowSize
    dsimp only
    refine .setTargetConnectionWindow _ (.cloneHandle ?_)
    rw [bufferSettings_streams]
    exact .init ⟨rfl, rfl⟩
  · dsimp only
    refine .cloneHandle ?_
    rw [bufferSettings_streams]
    exact .init ⟨rfl, rfl⟩

/-- the server's stream layer after the handshake -/
theorem initServer_reachH (g : Conn.Cfg) (ecp : Bool) (peerFirst : Bytes) :
    ReachH (Conn.initServer g ecp peerFirst).streams 65535 0 := by
  unfold Conn.initServer
  dsimp only
  split
  · unfold Conn.setTargetWindowSize
    dsimp only
    refine .setTargetConnectionWindow _ ?_
    rw [bufferSettings_streams]
    exact .init ⟨rfl, rfl⟩
  · dsimp only
    rw [bufferSettings_streams]
    exact .init ⟨rfl, rfl⟩

theorem init_reach (g : Conn.Cfg) : Reach (Conn.init g).streams := (init_reachH g).reach

end H2V.Lemmas.ConnFlowP
