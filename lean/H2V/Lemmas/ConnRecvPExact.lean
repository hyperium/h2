import H2V.Lemmas.ConnRecvPUpdate
/-
  C03: exact effects of the receive flow-control primitives on the connection's books
  (window / available / in_flight_data), and the consequences of the invariant that the property
  theorems quote.
-/
namespace H2V.Lemmas.ConnRecvP
open H2V H2V.Model H2V.Model.Conn
open H2V.Model.Conn.Streams
open H2V.Lemmas.Comp
attribute [local irreducible] wrapSubU32 wrapSubUsize

theorem consume_exact {full : Bool} {g : Ghost} {d : Int} {s : Streams} (h : InvD full g d s) (sz : Nat)
    (hok : (s.consumeConnectionWindow sz).2 = .ok ()) :
    cW (s.consumeConnectionWindow sz).1 = cW s - sz ∧ cA (s.consumeConnectionWindow sz).1 = cA s - sz ∧
    cI (s.consumeConnectionWindow sz).1 = cI s + sz :=
  let ⟨c, _⟩ := (consume_eq h sz).2 hok; ⟨c.w, c.a, c.i⟩

theorem release_exact {full : Bool} {g : Ghost} {d : Int} {s : Streams} (h : InvD full g d s) (cap : Nat) (b : Bool)
    (hc : cap ≤ cI s) :
    cW (s.releaseConnectionCapacity cap b) = cW s ∧ cA (s.releaseConnectionCapacity cap b) = cA s + cap ∧
    cI (s.releaseConnectionCapacity cap b) = cI s - cap :=
  let c := release_eq h cap b hc; ⟨c.w, c.a, c.i⟩

/-- **discarded DATA is credited back exactly**: after `ignore_data(sz)` = `Ok` the connection's
    `available` and `in_flight_data` are what they were; only the window the peer sees is lower by
    `sz` (the next WINDOW_UPDATE gives it back) -/
theorem ignoreData_exact {full : Bool} {g : Ghost} {s : Streams} (h : Inv full g s) (sz : Nat)
    (hok : (s.ignoreData sz).2 = .ok ()) :
    cW (s.ignoreData sz).1 = cW s - sz ∧ cA (s.ignoreData sz).1 = cA s ∧ cI (s.ignoreData sz).1 = cI s := by
  obtain ⟨-, hcok⟩ := consume_inv h sz
  unfold Streams.ignoreData at hok ⊢
  cases hc : s.consumeConnectionWindow sz with
  | mk s1 r =>
    rw [hc] at hok hcok
    cases r with
    | error e => cases hok
    | ok u =>
      have hex := consume_exact h sz (by rw [hc])
      rw [hc] at hex
      dsimp only at hex hcok ⊢
      obtain ⟨h1, -⟩ := hcok rfl
      have hcI : sz ≤ cI s1 := by rw [hex.2.2]; omega
      have hre := release_exact h1 sz false hcI
      rw [hre.1, hre.2.1, hre.2.2, hex.1, hex.2.1, hex.2.2]
      omega

/-- **the connection's WINDOW_UPDATE never over-credits**: when `send_connection_window_update`
    emits one, its increment is exactly `available − window` and the window becomes `available`
    (= target − in flight) -/
theorem connWindowUpdate_exact {full : Bool} {g : Ghost} {s : Streams} (h : Inv full g s) (w : Writer) (incr : Nat)
    (hu : s.recv.flow.unclaimedCapacity = some incr) (hcap : w.hasCapacity = true) :
    (incr : Int) = cA s - cW s ∧ 0 < incr ∧
    (s.sendConnectionWindowUpdate w).2.1 = w.bufferSimple 4 s!"W:0:{incr}" ∧
    cW (s.sendConnectionWindowUpdate w).1 = cA s ∧ cA (s.sendConnectionWindowUpdate w).1 = cA s ∧
    cI (s.sendConnectionWindowUpdate w).1 = cI s := by
  have hW := h.w0
  have hA := (inI32_iff _).1 h.aI32
  simp only [cW, cA, cI] at hW hA ⊢
  have hinc := incWindow_unclaimed h.wI32 h.aI32 hu (by omega)
  unfold Streams.sendConnectionWindowUpdate
  rw [hu]
  dsimp only
  simp only [hcap, Bool.not_true, Bool.false_eq_true, if_false]
  rw [hinc.2.2]
  exact ⟨hinc.1, hinc.2.1, rfl, rfl, rfl, rfl⟩

theorem connWindow_restored {full : Bool} {g : Ghost} {s : Streams} (h : Inv full g s) (h0 : cI s = 0)
    (hhalf : 2 * cW s ≤ (g.target : Int)) (hpos : cW s < (g.target : Int)) :
    cA s = (g.target : Int) ∧ s.recv.flow.unclaimedCapacity = some (g.target - (cW s).toNat) := by
  have hcons := h.cons
  have hw0 := h.w0
  have hA := (inI32_iff _).1 h.aI32
  have hav : cA s = (g.target : Int) := by omega
  refine ⟨hav, ?_⟩
  simp only [cW, cA, cI] at *
  have hd : inI32 (s.recv.flow.available.val - s.recv.flow.windowSize.val) = true := by
    apply inI32_of_range <;> omega
  rw [unclaimedCapacity_spec _ _ h.wI32 h.aI32 hd]
  have hthr := unclaimedThreshold_le_window (f := s.recv.flow) hw0
  refine ⟨by omega, by omega, ?_⟩
  -- threshold = window / 2 (truncated) ≤ window ≤ target − window
  unfold unclaimedThreshold at hthr ⊢
  have h2 : (Generated.Consts.UNCLAIMED_DENOMINATOR : Int) = 2 := by decide
  have h1 : (Generated.Consts.UNCLAIMED_NUMERATOR : Int) = 1 := by decide
  rw [h1, h2] at hthr ⊢
  omega

theorem qPush_get? (s : Streams) (q : QName) (id : Nat) {x : Stream} (hx : s.store.get? id = some x) :
    ∃ x', (s.qPush q id).1.store.get? id = some x' ∧ x'.recvFlow = x.recvFlow ∧
      x'.inFlightRecvData = x.inFlightRecvData := by
  unfold Streams.qPush
  split
  · exact ⟨x, hx, rfl, rfl⟩
  · refine ⟨x.setQueued q true, ?_, (setQueued_same x q true).flow, (setQueued_same x q true).infl⟩
    show ((s.modStream id fun st => st.setQueued q true).setQ q _).store.get? id = _
    rw [Streams.setQ_store, get?_modStream _ _ _ (fun y => (setQueued_same y q true).key), hx]; rfl

/-- **an application release is credited exactly once**: `release_capacity(cap)` = `Ok` moves `cap`
    octets from the connection's `in_flight_data` to its `available` and from the stream's
    `in_flight_recv_data` to the stream's `available`; the windows the peer sees do not move -/
theorem releaseCapacity_exact {full : Bool} {g : Ghost} {s : Streams} (h : Inv full g s) (id cap : Nat) (b : Bool)
    (hok : (s.releaseCapacity id cap b).2 = .ok ()) :
    cap ≤ (s.stream id).inFlightRecvData ∧
    cW (s.releaseCapacity id cap b).1 = cW s ∧ cA (s.releaseCapacity id cap b).1 = cA s + cap ∧
    cI (s.releaseCapacity id cap b).1 = cI s - cap ∧
    ∀ x, s.store.get? id = some x → ∃ x', (s.releaseCapacity id cap b).1.store.get? id = some x' ∧
      x'.inFlightRecvData = x.inFlightRecvData - cap ∧ x'.recvFlow = (x.recvFlow.assignCapacity cap).1 := by
  unfold Streams.releaseCapacity at hok ⊢
  split at hok
  · cases hok
  · next hgt =>
    rw [if_neg hgt]
    have hcap : cap ≤ (s.stream id).inFlightRecvData := by omega
    have hcI : cap ≤ cI s := Nat.le_trans hcap (h.stream_infl_le (Int.le_refl 0) id)
    have hre := release_exact h cap b hcI
    have hst1 := (release_eq h cap b hcI).store
    refine ⟨hcap, ?_⟩
    dsimp only
    have ha2 := Streams.modStream_actions (s.releaseConnectionCapacity cap b) id (fun st =>
      { st with inFlightRecvData := wrapSubU32 st.inFlightRecvData cap, recvFlow := (st.recvFlow.assignCapacity cap).1 })
    have hg2 := get?_modStream (s.releaseConnectionCapacity cap b) id (fun st =>
      { st with inFlightRecvData := wrapSubU32 st.inFlightRecvData cap, recvFlow := (st.recvFlow.assignCapacity cap).1 })
      (fun _ => rfl)
    rw [hst1] at hg2
    generalize ((s.releaseConnectionCapacity cap b).modStream id fun st =>
      { st with inFlightRecvData := wrapSubU32 st.inFlightRecvData cap, recvFlow := (st.recvFlow.assignCapacity cap).1 }) = s2
      at ha2 hg2 ⊢
    have hconn2 : cW s2 = cW s ∧ cA s2 = cA s + cap ∧ cI s2 = cI s - cap := by
      unfold cW cA cI Streams.recv at *
      rw [ha2]; exact hre
    -- the stream entry after the update
    have hstream2 : ∀ x, s.store.get? id = some x → ∃ x2, s2.store.get? id = some x2 ∧
        x2.inFlightRecvData = x.inFlightRecvData - cap ∧ x2.recvFlow = (x.recvFlow.assignCapacity cap).1 := by
      intro x hx
      rw [hx] at hg2
      refine ⟨_, hg2, ?_, rfl⟩
      rw [Streams.stream_of_get? hx] at hcap
      have hb := (h.infl_le (Int.le_refl 0) (Store.get?_mem hx))
      exact wrapSubU32_of_le (by omega) hcap
    split
    · -- queued for a WINDOW_UPDATE
      have hq := (qPush_ext s2 .pendingWindowUpdates id)
      have hconn3 : cW (s2.qPush .pendingWindowUpdates id).1 = cW s ∧ cA (s2.qPush .pendingWindowUpdates id).1 = cA s + cap ∧
          cI (s2.qPush .pendingWindowUpdates id).1 = cI s - cap := by
        unfold cW cA cI at *; rw [hq.flow, hq.infl]; exact hconn2
      have hstream3 : ∀ x, s.store.get? id = some x → ∃ x3, (s2.qPush .pendingWindowUpdates id).1.store.get? id = some x3 ∧
          x3.inFlightRecvData = x.inFlightRecvData - cap ∧ x3.recvFlow = (x.recvFlow.assignCapacity cap).1 := by
        intro x hx
        obtain ⟨x2, hx2, h1, h2⟩ := hstream2 x hx
        obtain ⟨x3, hx3, h3, h4⟩ := qPush_get? s2 .pendingWindowUpdates id hx2
        exact ⟨x3, hx3, by rw [h4, h1], by rw [h3, h2]⟩
      dsimp only
      split
      · refine ⟨?_, ?_, ?_, fun x hx => ?_⟩
        · unfold cW at *; rw [Streams.notifyTask_recv']; exact hconn3.1
        · unfold cA at *; rw [Streams.notifyTask_recv']; exact hconn3.2.1
        · unfold cI at *; rw [Streams.notifyTask_recv']; exact hconn3.2.2
        · rw [Streams.notifyTask_store]; exact hstream3 x hx
      · exact ⟨hconn3.1, hconn3.2.1, hconn3.2.2, hstream3⟩
    · exact ⟨hconn2.1, hconn2.2.1, hconn2.2.2, hstream2⟩

theorem streamWindow_restored {g : Ghost} {s : Streams} (h : Inv true g s) {x : Stream} (hx : x ∈ s.store.slab)
    (hl : linked s x.key) (hc : x.state.isClosed = false) (hr : x.isRecv = true) (h0 : x.inFlightRecvData = 0)
    (hhalf : 2 * x.recvFlow.windowSize.val ≤ (s.recv.initWindowSz : Int))
    (hlt : x.recvFlow.windowSize.val < (s.recv.initWindowSz : Int)) :
    x.recvFlow.available.val = (s.recv.initWindowSz : Int) ∧
    x.recvFlow.unclaimedCapacity = some ((s.recv.initWindowSz : Int) - x.recvFlow.windowSize.val).toNat := by
  have ok := h.streams rfl x hx
  have hM := h.initMax
  have hav : x.recvFlow.available.val = (s.recv.initWindowSz : Int) := by
    rcases ok.bud hl with hcl | hb
    · rw [hc] at hcl; cases hcl
    · have := hb.2 hr; omega
  have hlive : x.recvFlow.available.val - x.recvFlow.windowSize.val + (x.inFlightRecvData : Int) ≤ (g.hiInit : Int) := by
    rcases ok.live with hcl | hlv
    · rw [hc] at hcl; cases hcl
    · exact hlv.1
  refine ⟨hav, ?_⟩
  have hd : inI32 (x.recvFlow.available.val - x.recvFlow.windowSize.val) = true := by
    apply inI32_of_range <;> omega
  rw [unclaimedCapacity_spec _ _ ok.wI32 ok.aI32 hd]
  refine ⟨by omega, by rw [hav], ?_⟩
  by_cases hw : 0 ≤ x.recvFlow.windowSize.val
  · have := unclaimedThreshold_le_window (f := x.recvFlow) hw
    omega
  · have := unclaimedThreshold_nonpos (f := x.recvFlow) (by omega)
    omega


theorem clearRecvBuffer_zero (s : Streams) (id : Nat) (b : Bool) (h0 : (s.stream id).inFlightRecvData = 0) :
    (s.clearRecvBuffer id b).recv = s.recv ∧
    (s.clearRecvBuffer id b).store.get? id = (s.store.get? id).map fun st => { st with pendingRecv := [] } := by
  unfold Streams.clearRecvBuffer
  dsimp only
  cases hl : clearRecvBufferLoop (s.stream id).inFlightRecvData (s.stream id).pendingRecv 0 s.counts with
  | mk tr c =>
    have htr : tr ≤ (s.stream id).inFlightRecvData := by
      have := clearRecvBufferLoop_le (s.stream id).inFlightRecvData (s.stream id).pendingRecv 0 s.counts (Nat.zero_le _)
      rw [hl] at this; exact this
    dsimp only
    have : ¬ tr > 0 := by omega
    rw [if_neg this]
    exact ⟨Streams.modStream_recv _ _ _, get?_modStream _ id _ (fun _ => rfl)⟩

/-- **`Recv::release_closed_capacity(stream)`, exactly**: everything the stream has in flight — `n`
    octets — moves from `in_flight_data` to `available` on the connection, once; the window the
    peer sees does not move; afterwards the stream has nothing in flight -/
theorem releaseClosedCapacity_exact {full : Bool} {g : Ghost} {s : Streams} (h : Inv full g s) (id : Nat)
    {x : Stream} (hx : s.store.get? id = some x) :
    x.inFlightRecvData ≤ cI s ∧
    cW (s.releaseClosedCapacity id) = cW s ∧
    cA (s.releaseClosedCapacity id) = cA s + x.inFlightRecvData ∧
    cI (s.releaseClosedCapacity id) = cI s - x.inFlightRecvData ∧
    ∃ x', (s.releaseClosedCapacity id).store.get? id = some x' ∧ x'.inFlightRecvData = 0 ∧
      x'.recvFlow = x.recvFlow ∧ x'.pendingRecv = [] := by
  have hb := (h.infl_le (Int.le_refl 0) (Store.get?_mem hx))
  refine ⟨hb.1, ?_⟩
  unfold Streams.releaseClosedCapacity
  dsimp only
  rw [Streams.stream_of_get? hx]
  split
  · next hne =>
    obtain ⟨hW, hA, hI⟩ := release_exact h x.inFlightRecvData true hb.1
    have hst1 := (release_eq h x.inFlightRecvData true hb.1).store
    have hg2 := get?_modStream (s.releaseConnectionCapacity x.inFlightRecvData true) id
      (fun st => { st with inFlightRecvData := 0 }) (fun _ => rfl)
    rw [hst1, hx] at hg2
    have hr2 := Streams.modStream_recv (s.releaseConnectionCapacity x.inFlightRecvData true) id
      (fun st => { st with inFlightRecvData := 0 })
    generalize ((s.releaseConnectionCapacity x.inFlightRecvData true).modStream id fun st =>
        { st with inFlightRecvData := 0 }) = s2 at hg2 hr2 ⊢
    have h0 : (s2.stream id).inFlightRecvData = 0 := by rw [Streams.stream_of_get? hg2]
    obtain ⟨hr3, hg3⟩ := clearRecvBuffer_zero s2 id true h0
    rw [hg2] at hg3
    refine ⟨?_, ?_, ?_, _, hg3, rfl, rfl, rfl⟩
    · unfold cW at *; rw [hr3, hr2]; exact hW
    · unfold cA at *; rw [hr3, hr2]; exact hA
    · unfold cI at *; rw [hr3, hr2]; exact hI
  · next he =>
    have he' : x.inFlightRecvData = 0 := by simpa using he
    have h0 : (s.stream id).inFlightRecvData = 0 := by rw [Streams.stream_of_get? hx]; exact he'
    obtain ⟨hr3, hg3⟩ := clearRecvBuffer_zero s id true h0
    rw [hx] at hg3
    refine ⟨?_, ?_, ?_, _, hg3, he', rfl, rfl⟩
    · unfold cW; rw [hr3]
    · unfold cA; rw [hr3, he']; simp
    · unfold cI; rw [hr3, he']; simp

end H2V.Lemmas.ConnRecvP
