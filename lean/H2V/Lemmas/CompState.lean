import H2V.Model.ConnState
import H2V.Spec.Lifecycle
import H2V.Lemmas.CompBasic
/-
  Part 1 -- the stream state machine of h2 (`Model.Conn.State`, mirror of
  `src/proto/streams/state.rs`) against RFC 9113 §5.1 (`Spec.Lifecycle`).

  Layout
    §0  abstraction `phase`, the `Peer` projections, helpers
    §1  refinement theorems, one block per transition, including the exact exceptions
    §2  predicate characterisations
    §3  `sendClose_none_iff`
    §4  end-of-stream is never forgotten / closed is absorbing
    §5  reachability, ghost history and well-formedness
-/
namespace H2V.Lemmas.Comp
open H2V H2V.Model.Conn
open H2V.Spec.Lifecycle (Phase Ev step)

/-- the obvious abstraction `Inner → Phase` (forget the `Peer` sub-states and the `Cause`) -/
def phase (s : State) : Phase :=
  match s.inner with
  | .idle => .idle
  | .reservedLocal => .reservedLocal
  | .reservedRemote => .reservedRemote
  | .open _ _ => .open
  | .halfClosedLocal _ => .halfClosedLocal
  | .halfClosedRemote _ => .halfClosedRemote
  | .closed _ => .closed

/-- the `Peer` sub-state of our sending half, where it exists -/
def localPeer (s : State) : Option Peer :=
  match s.inner with
  | .open l _ => some l
  | .halfClosedRemote p => some p
  | _ => none

/-- the `Peer` sub-state of the peer's sending half, where it exists -/
def remotePeer (s : State) : Option Peer :=
  match s.inner with
  | .open _ r => some r
  | .halfClosedLocal p => some p
  | _ => none

/-- full case split of a `State`: 3 + 4 + 2 + 2 + 4 shapes -/
macro "state_cases " s:ident : tactic =>
  `(tactic| rcases $s:ident with ⟨_ | _ | _ | ⟨_ | _, _ | _⟩ | ⟨_ | _⟩ | ⟨_ | _⟩ | ⟨_ | _ | _ | _⟩⟩)

/-- the state of phase `p` whose halves, where `p` has them, are `l` (ours) and `r` (the peer's);
    the closed one has ended cleanly -/
def build (p : Phase) (l r : Peer) : State :=
  match p with
  | .idle => ⟨.idle⟩
  | .reservedLocal => ⟨.reservedLocal⟩
  | .reservedRemote => ⟨.reservedRemote⟩
  | .open => ⟨.open l r⟩
  | .halfClosedLocal => ⟨.halfClosedLocal r⟩
  | .halfClosedRemote => ⟨.halfClosedRemote l⟩
  | .closed => ⟨.closed .endStream⟩

theorem phase_build (p : Phase) (l r : Peer) : phase (build p l r) = p := by
  cases p <;> rfl

/-- a fallible transition: along the arrow `a` of Figure 2 if there is one, else refused with `e` -/
def along {ε α : Type} (s : State) (a : Option Phase) (mk : Phase → State) (v : α) (e : ε) :
    State × Except ε α :=
  match a with
  | some p => (mk p, .ok v)
  | none => (s, .error e)

section along
variable {ε α : Type} {s s' : State} {a : Option Phase} {mk : Phase → State} {v v' : α} {e : ε}

theorem along_isOk : isOk (along s a mk v e).2 = a.isSome := by
  cases a <;> rfl

theorem along_error (h : isOk (along s a mk v e).2 = false) : along s a mk v e = (s, .error e) := by
  cases a
  · rfl
  · cases h

theorem along_ok (h : along s a mk v e = (s', .ok v')) : ∃ p, a = some p ∧ s' = mk p ∧ v' = v := by
  cases a
  · cases h
  · cases h; exact ⟨_, rfl, rfl, rfl⟩

end along

/-- the arrow `send_open` takes: the RFC's for `send H`, unless (h2 stricter than Figure 2) our
    half is already `Streaming` -- a second header block is a trailer and goes through `send_close` -/
def sendArrow (s : State) (eos : Bool) : Option Phase :=
  if localPeer s = some .streaming then none else step (phase s) (.sendH eos)

/-- likewise for `recv_open`: a second header block from the peer is routed to `recv_close` -/
def recvArrow (s : State) (eos : Bool) : Option Phase :=
  if remotePeer s = some .streaming then none else step (phase s) (.recvH eos)

theorem sendOpen_eq (s : State) (eos : Bool) :
    s.sendOpen eos =
      along s (sendArrow s eos) (build · .streaming ((remotePeer s).getD .awaitingHeaders)) ()
        .unexpectedFrameType := by
  state_cases s <;> cases eos <;> rfl

/-- a 1xx without END_STREAM opens an idle stream and moves nothing else -/
theorem recvOpen_eq (s : State) (eos info : Bool) :
    s.recvOpen eos info =
      along s (recvArrow s eos)
        (fun p => build (if info && !eos && phase s != .idle then phase s else p)
          ((localPeer s).getD .awaitingHeaders) (if info then .awaitingHeaders else .streaming))
        (phase s == .idle || phase s == .reservedRemote) (PErr.libraryGoAway PROTOCOL_ERROR) := by
  state_cases s <;> cases eos <;> cases info <;> rfl

theorem reserveRemote_eq (s : State) :
    s.reserveRemote = along s (step (phase s) .recvPP) (build · .streaming .streaming) ()
      (PErr.libraryGoAway PROTOCOL_ERROR) := by
  state_cases s <;> rfl

theorem reserveLocal_eq (s : State) :
    s.reserveLocal = along s (step (phase s) .sendPP) (build · .streaming .streaming) ()
      .unexpectedFrameType := by
  state_cases s <;> rfl

theorem recvClose_eq (s : State) :
    s.recvClose = along s (step (phase s) .recvES) (build · ((localPeer s).getD .streaming) .streaming) ()
      (PErr.libraryGoAway PROTOCOL_ERROR) := by
  state_cases s <;> rfl

theorem sendClose_eq (s : State) :
    s.sendClose = (step (phase s) .sendES).map (build · .streaming ((remotePeer s).getD .streaming)) := by
  state_cases s <;> rfl

/-- how the three closing transitions close a live stream: the cause remembers END_STREAM -/
def closeWith (s : State) (e : PErr) : State :=
  ⟨.closed (if s.isRecvEndStream then .errorAfterEndStream e else .error e)⟩

theorem closeWith_eos (s : State) (e : PErr) : (closeWith s e).isRecvEndStream = s.isRecvEndStream := by
  unfold closeWith; cases s.isRecvEndStream <;> rfl

theorem recvReset_spec (s : State) (sid : Nat) (r : Reason) (q : Bool) :
    s.recvReset sid r q = if s.isClosed && !q then s else closeWith s (PErr.remoteReset sid r) := by
  state_cases s <;> cases q <;> rfl

theorem handleError_spec (s : State) (e : PErr) :
    s.handleError e = if s.isClosed then s else closeWith s e := by
  state_cases s <;> rfl

theorem recvEof_spec (s : State) :
    s.recvEof = if s.isClosed then s
      else closeWith s (.io "BrokenPipe" (some "stream closed because of a broken pipe")) := by
  state_cases s <;> rfl

theorem isClosed_iff (s : State) : s.isClosed = true ↔ phase s = .closed := by
  state_cases s <;> simp [State.isClosed, phase]

theorem isIdle_iff (s : State) : s.isIdle = true ↔ phase s = .idle := by
  state_cases s <;> simp [State.isIdle, phase]

/-- a successful `send_open` in full: it follows Figure 2 along `send H`, our half was not yet
    `Streaming` and is afterwards (where the new phase has one) -/
theorem sendOpen_ok {s s' : State} {eos : Bool} (h : s.sendOpen eos = (s', .ok ())) :
    ∃ p, step (phase s) (.sendH eos) = some p ∧ localPeer s ≠ some .streaming ∧
      s' = build p .streaming ((remotePeer s).getD .awaitingHeaders) := by
  rw [sendOpen_eq] at h
  obtain ⟨p, hp, rfl, -⟩ := along_ok h
  rw [sendArrow] at hp
  split at hp
  · cases hp
  · exact ⟨p, hp, ‹_›, rfl⟩

theorem sendOpen_refines {s s' : State} {eos : Bool} (h : s.sendOpen eos = (s', .ok ())) :
    step (phase s) (.sendH eos) = some (phase s') := by
  obtain ⟨p, hp, -, rfl⟩ := sendOpen_ok h
  rw [hp, phase_build]

theorem sendOpen_forbidden {s : State} {eos : Bool} (h : step (phase s) (.sendH eos) = none) :
    s.sendOpen eos = (s, .error .unexpectedFrameType) := by
  rw [sendOpen_eq, sendArrow, h, ite_self]; rfl

theorem sendOpen_error (s : State) (eos : Bool) (h : isOk (s.sendOpen eos).2 = false) :
    s.sendOpen eos = (s, .error .unexpectedFrameType) := by
  rw [sendOpen_eq] at h ⊢; exact along_error h

/-- exactly when `send_open` fails: the RFC forbids `send H`, **or** (h2 stricter than Figure 2)
    our half is already `Streaming` -- a second header block is a trailer and must go through
    `send_close`, never `send_open` -/
theorem sendOpen_error_iff (s : State) (eos : Bool) :
    isOk (s.sendOpen eos).2 = false ↔
      step (phase s) (.sendH eos) = none ∨ localPeer s = some .streaming := by
  rw [sendOpen_eq, along_isOk, sendArrow]
  split <;> simp [*]

/-- the exception, with the concrete states: `Open{local: Streaming, ..}` and
    `HalfClosedRemote(Streaming)` reject `send_open` although RFC 9113 lets an endpoint send
    HEADERS there -/
theorem sendOpen_stricter_than_rfc (rem : Peer) (eos : Bool) :
    (State.sendOpen ⟨.open .streaming rem⟩ eos = (⟨.open .streaming rem⟩, .error .unexpectedFrameType)
      ∧ step .open (.sendH eos) ≠ none)
    ∧ (State.sendOpen ⟨.halfClosedRemote .streaming⟩ eos
          = (⟨.halfClosedRemote .streaming⟩, .error .unexpectedFrameType)
      ∧ step .halfClosedRemote (.sendH eos) ≠ none) := by
  cases rem <;> cases eos <;> simp [State.sendOpen, step]

theorem sendOpen_local_streaming {s s' : State} {eos : Bool} (h : s.sendOpen eos = (s', .ok ())) :
    if eos then s'.isSendClosed = true else localPeer s' = some .streaming := by
  obtain ⟨p, hp, -, rfl⟩ := sendOpen_ok h
  generalize phase s = q at hp
  cases q <;> cases eos <;> cases hp <;> rfl

theorem recvOpen_ok {s s' : State} {eos info initial : Bool}
    (h : s.recvOpen eos info = (s', .ok initial)) :
    ∃ p, step (phase s) (.recvH eos) = some p ∧ remotePeer s ≠ some .streaming ∧
      s' = build (if info && !eos && phase s != .idle then phase s else p)
        ((localPeer s).getD .awaitingHeaders) (if info then .awaitingHeaders else .streaming) ∧
      initial = (phase s == .idle || phase s == .reservedRemote) := by
  rw [recvOpen_eq] at h
  obtain ⟨p, hp, rfl, rfl⟩ := along_ok h
  rw [recvArrow] at hp
  split at hp
  · cases hp
  · exact ⟨p, hp, ‹_›, rfl, rfl⟩

/-- `recv_open` succeeds exactly when the state `is_recv_headers` (whatever the flags) -/
theorem recvOpen_ok_iff (s : State) (eos info : Bool) :
    isOk (s.recvOpen eos info).2 = s.isRecvHeaders := by
  rw [recvOpen_eq, along_isOk]
  state_cases s <;> cases eos <;> rfl

theorem recvOpen_refines {s s' : State} {eos initial : Bool}
    (h : s.recvOpen eos false = (s', .ok initial)) :
    step (phase s) (.recvH eos) = some (phase s') := by
  obtain ⟨p, hp, -, rfl, -⟩ := recvOpen_ok h
  rw [hp, phase_build]; rfl

/-- the `Ok(initial)` payload: `true` iff these HEADERS are what opens the stream -/
theorem recvOpen_initial {s s' : State} {eos info initial : Bool}
    (h : s.recvOpen eos info = (s', .ok initial)) :
    initial = true ↔ (phase s = .idle ∨ phase s = .reservedRemote) := by
  obtain ⟨-, -, -, -, rfl⟩ := recvOpen_ok h
  simp

theorem recvOpen_forbidden {s : State} {eos : Bool} (info : Bool)
    (h : step (phase s) (.recvH eos) = none) :
    s.recvOpen eos info = (s, .error (PErr.libraryGoAway PROTOCOL_ERROR)) := by
  rw [recvOpen_eq, recvArrow, h, ite_self]; rfl

theorem recvOpen_error (s : State) (eos info : Bool) (h : isOk (s.recvOpen eos info).2 = false) :
    s.recvOpen eos info = (s, .error (PErr.libraryGoAway PROTOCOL_ERROR)) := by
  rw [recvOpen_eq] at h ⊢; exact along_error h

/-- exactly when `recv_open` fails: the RFC forbids `recv H`, **or** (h2 stricter than Figure 2)
    the peer's half is already `Streaming` -- a second header block from the peer is a trailer and
    is routed to `recv_close` (`recv_trailers`), never to `recv_open` -/
theorem recvOpen_error_iff (s : State) (eos info : Bool) :
    isOk (s.recvOpen eos info).2 = false ↔
      step (phase s) (.recvH eos) = none ∨ remotePeer s = some .streaming := by
  rw [recvOpen_eq, along_isOk, recvArrow]
  split <;> simp [*]

/-- the exception, with the concrete states -/
theorem recvOpen_stricter_than_rfc (loc : Peer) (eos info : Bool) :
    (State.recvOpen ⟨.open loc .streaming⟩ eos info
        = (⟨.open loc .streaming⟩, .error (PErr.libraryGoAway PROTOCOL_ERROR))
      ∧ step .open (.recvH eos) ≠ none)
    ∧ (State.recvOpen ⟨.halfClosedLocal .streaming⟩ eos info
        = (⟨.halfClosedLocal .streaming⟩, .error (PErr.libraryGoAway PROTOCOL_ERROR))
      ∧ step .halfClosedLocal (.recvH eos) ≠ none) := by
  cases loc <;> cases eos <;> cases info <;> simp [State.recvOpen, step]

/-- informational (1xx) HEADERS **with** END_STREAM: the `informational` flag is ignored, the frame
    is handled exactly like a final header block with END_STREAM (so `recvOpen_refines` applies).
    RFC 9113 §8.1 calls such a frame malformed; `State::recv_open` does not look at that. -/
theorem recvOpen_informational_eos (s : State) (info : Bool) :
    s.recvOpen true info = s.recvOpen true false := by
  state_cases s <;> cases info <;> rfl

/-- informational (1xx) HEADERS without END_STREAM, exactly what the code does: on success the
    state is unchanged, except that an `Idle` stream becomes `Open{AwaitingHeaders, AwaitingHeaders}`
    (the peer's half keeps waiting for the final header block) -/
theorem recvOpen_informational {s s' : State} {initial : Bool}
    (h : s.recvOpen false true = (s', .ok initial)) :
    (s.inner = .idle ∧ s' = ⟨.open .awaitingHeaders .awaitingHeaders⟩) ∨ (s.inner ≠ .idle ∧ s' = s) := by
  obtain ⟨rfl, h2⟩ := pair_ok h
  state_cases s <;> simp_all [State.recvOpen]

/-- ... in terms of phases: unchanged, or idle → open -/
theorem recvOpen_informational_phase {s s' : State} {initial : Bool}
    (h : s.recvOpen false true = (s', .ok initial)) :
    (phase s = .idle ∧ phase s' = .open) ∨ (phase s ≠ .idle ∧ phase s' = phase s) := by
  obtain ⟨p, hp, -, rfl, -⟩ := recvOpen_ok h
  rw [phase_build]
  generalize phase s = q at hp
  cases q <;> cases hp <;> simp

/-- after a 1xx the peer's half is still `AwaitingHeaders` (a final header block must follow) -/
theorem recvOpen_informational_still_awaiting {s s' : State} {initial : Bool}
    (h : s.recvOpen false true = (s', .ok initial)) : s'.isRecvHeaders = true := by
  obtain ⟨p, hp, -, rfl, -⟩ := recvOpen_ok h
  generalize phase s = q at hp
  cases q <;> cases hp <;> rfl

theorem recvOpen_remote_streaming {s s' : State} {eos initial : Bool}
    (h : s.recvOpen eos false = (s', .ok initial)) :
    if eos then s'.isRecvEndStream = true else remotePeer s' = some .streaming := by
  obtain ⟨p, hp, -, rfl, -⟩ := recvOpen_ok h
  generalize phase s = q at hp
  cases q <;> cases eos <;> cases hp <;> rfl

theorem reserveRemote_refines {s s' : State} (h : s.reserveRemote = (s', .ok ())) :
    step (phase s) .recvPP = some (phase s') := by
  rw [reserveRemote_eq] at h
  obtain ⟨p, hp, rfl, -⟩ := along_ok h
  rw [hp, phase_build]

theorem reserveRemote_forbidden {s : State} (h : step (phase s) .recvPP = none) :
    s.reserveRemote = (s, .error (PErr.libraryGoAway PROTOCOL_ERROR)) := by
  rw [reserveRemote_eq, h]; rfl

theorem reserveRemote_exact (s : State) :
    isOk (s.reserveRemote).2 = (step (phase s) .recvPP).isSome := by
  rw [reserveRemote_eq, along_isOk]

theorem reserveLocal_refines {s s' : State} (h : s.reserveLocal = (s', .ok ())) :
    step (phase s) .sendPP = some (phase s') := by
  rw [reserveLocal_eq] at h
  obtain ⟨p, hp, rfl, -⟩ := along_ok h
  rw [hp, phase_build]

theorem reserveLocal_forbidden {s : State} (h : step (phase s) .sendPP = none) :
    s.reserveLocal = (s, .error .unexpectedFrameType) := by
  rw [reserveLocal_eq, h]; rfl

theorem reserveLocal_exact (s : State) :
    isOk (s.reserveLocal).2 = (step (phase s) .sendPP).isSome := by
  rw [reserveLocal_eq, along_isOk]

theorem recvClose_refines {s s' : State} (h : s.recvClose = (s', .ok ())) :
    step (phase s) .recvES = some (phase s') := by
  rw [recvClose_eq] at h
  obtain ⟨p, hp, rfl, -⟩ := along_ok h
  rw [hp, phase_build]

theorem recvClose_forbidden {s : State} (h : step (phase s) .recvES = none) :
    s.recvClose = (s, .error (PErr.libraryGoAway PROTOCOL_ERROR)) := by
  rw [recvClose_eq, h]; rfl

/-- `recv_close` is exactly as strict as the RFC (no exception in either direction) -/
theorem recvClose_exact (s : State) :
    isOk (s.recvClose).2 = (step (phase s) .recvES).isSome := by
  rw [recvClose_eq, along_isOk]

theorem sendClose_refines {s s' : State} (h : s.sendClose = some s') :
    step (phase s) .sendES = some (phase s') := by
  rw [sendClose_eq, Option.map_eq_some_iff] at h
  obtain ⟨p, hp, rfl⟩ := h
  rw [hp, phase_build]

theorem sendClose_forbidden {s : State} (h : step (phase s) .sendES = none) : s.sendClose = none := by
  rw [sendClose_eq, h]; rfl

theorem sendClose_exact (s : State) : (s.sendClose).isSome = (step (phase s) .sendES).isSome := by
  rw [sendClose_eq, Option.isSome_map]

theorem recvReset_closed (s : State) (sid : Nat) (r : Reason) (q : Bool) :
    phase (s.recvReset sid r q) = .closed := by
  rw [recvReset_spec]
  split
  · exact (isClosed_iff s).1 (by simp_all)
  · rfl

/-- **recvReset_refines**: for every stream that is not idle the model follows `recv R`
    (including the tolerated late RST_STREAM on a closed stream) -/
theorem recvReset_refines (s : State) (sid : Nat) (r : Reason) (q : Bool) (h : phase s ≠ .idle) :
    step (phase s) .recvR = some (phase (s.recvReset sid r q)) := by
  rw [recvReset_closed]
  generalize phase s = p at h
  cases p <;> first | rfl | exact (h rfl).elim

/-- the only phase in which the RFC forbids `recv R` is idle ... -/
theorem recvR_forbidden_iff (s : State) : step (phase s) .recvR = none ↔ s.inner = .idle := by
  state_cases s <;> simp [phase, step]

/-- ... and there (exception, h2 more lenient at this level) `State::recv_reset` does *not* refuse:
    it closes the idle stream with `Cause::Error(remote reset)`.  RFC 9113 §5.1 wants a connection
    error PROTOCOL_ERROR; in h2 that check is made by the caller on the stream id
    (`Streams::recv_reset`), not by the state machine. -/
theorem recvReset_idle_exception (sid : Nat) (r : Reason) (q : Bool) :
    step (phase ⟨.idle⟩) .recvR = none ∧
    State.recvReset ⟨.idle⟩ sid r q = ⟨.closed (.error (PErr.remoteReset sid r))⟩ :=
  ⟨rfl, rfl⟩

theorem setReset_spec (s : State) (sid : Nat) (r : Reason) (i : Initiator) :
    s.setReset sid r i = ⟨.closed (.error (.reset sid r i))⟩ := rfl

/-- **setReset_refines**: for every stream that is neither idle nor closed the model follows
    `send R` -/
theorem setReset_refines (s : State) (sid : Nat) (r : Reason) (i : Initiator)
    (hi : phase s ≠ .idle) (hc : phase s ≠ .closed) :
    step (phase s) .sendR = some (phase (s.setReset sid r i)) :=
  (Spec.Lifecycle.rst_closes _ hi hc).1

/-- the RFC forbids `send R` exactly in idle (§6.4) and in closed (§5.1 "MUST NOT send frames other
    than PRIORITY on a closed stream") -/
theorem sendR_forbidden_iff (s : State) :
    step (phase s) .sendR = none ↔ (phase s = .idle ∨ phase s = .closed) := by
  generalize phase s = p
  cases p <;> simp [step]

/-- forbidden case 1: a closed stream stays closed (but its `Cause` is overwritten, see
    `setReset_forgets_eos`) -/
theorem setReset_on_closed (s : State) (sid : Nat) (r : Reason) (i : Initiator)
    (_h : phase s = .closed) : phase (s.setReset sid r i) = .closed := rfl

/-- forbidden case 2 (exception, h2 more lenient at this level): `set_reset` closes an *idle*
    stream although "RST_STREAM frames MUST NOT be sent for a stream in the idle state" (§6.4).
    In h2 the guard is in the callers (`Send::send_reset` / `Streams::send_reset` look at
    `is_idle`/the stream id), not in the state machine. -/
theorem setReset_idle_exception (sid : Nat) (r : Reason) (i : Initiator) :
    step (phase ⟨.idle⟩) .sendR = none ∧
    State.setReset ⟨.idle⟩ sid r i = ⟨.closed (.error (.reset sid r i))⟩ :=
  ⟨rfl, rfl⟩

/-- `set_scheduled_reset`, `handle_error`, `recv_eof` are not events of Figure 2 (no frame crosses
    the wire at that moment); all of them end in `closed` -/
theorem setScheduledReset_closed (s : State) (r : Reason) :
    phase (s.setScheduledReset r) = .closed := rfl

theorem handleError_closed (s : State) (e : PErr) : phase (s.handleError e) = .closed := by
  rw [handleError_spec]
  split
  · exact (isClosed_iff s).1 ‹_›
  · rfl

theorem recvEof_closed (s : State) : phase s.recvEof = .closed := by
  rw [recvEof_spec]
  split
  · exact (isClosed_iff s).1 ‹_›
  · rfl

/-- `is_send_closed`: our half can no longer carry HEADERS/DATA.  (Figure 2: exactly the phases in
    which `send H` is forbidden.) -/
theorem isSendClosed_iff (s : State) :
    s.isSendClosed = true ↔
      (phase s = .closed ∨ phase s = .halfClosedLocal ∨ phase s = .reservedRemote) := by
  state_cases s <;> simp [State.isSendClosed, phase]

theorem isSendClosed_iff_sendH_forbidden (s : State) (eos : Bool) :
    s.isSendClosed = true ↔ step (phase s) (.sendH eos) = none := by
  rw [isSendClosed_iff]
  generalize phase s = p
  cases p <;> cases eos <;> simp [step]

theorem isSendStreaming_iff (s : State) :
    s.isSendStreaming = true ↔
      ((phase s = .open ∨ phase s = .halfClosedRemote) ∧ localPeer s = some .streaming) := by
  state_cases s <;> simp [State.isSendStreaming, phase, localPeer]

/-- shorter: the local `Peer` exists only in the phases that can send -/
theorem isSendStreaming_iff' (s : State) :
    s.isSendStreaming = true ↔ localPeer s = some .streaming := by
  state_cases s <;> simp [State.isSendStreaming, localPeer]

theorem localPeer_isSome_iff (s : State) :
    (localPeer s).isSome = Spec.Lifecycle.canSend (phase s) := by
  state_cases s <;> simp [localPeer, phase, Spec.Lifecycle.canSend]

theorem remotePeer_isSome_iff (s : State) :
    (remotePeer s).isSome = Spec.Lifecycle.canRecv (phase s) := by
  state_cases s <;> simp [remotePeer, phase, Spec.Lifecycle.canRecv]

theorem isRecvStreaming_iff (s : State) :
    s.isRecvStreaming = true ↔
      ((phase s = .open ∨ phase s = .halfClosedLocal) ∧ remotePeer s = some .streaming) := by
  state_cases s <;> simp [State.isRecvStreaming, phase, remotePeer]

theorem isRecvStreaming_iff' (s : State) :
    s.isRecvStreaming = true ↔ remotePeer s = some .streaming := by
  state_cases s <;> simp [State.isRecvStreaming, remotePeer]

theorem isRecvHeaders_iff (s : State) :
    s.isRecvHeaders = true ↔
      (phase s = .idle ∨ phase s = .reservedRemote ∨
        ((phase s = .open ∨ phase s = .halfClosedLocal) ∧ remotePeer s = some .awaitingHeaders)) := by
  state_cases s <;> simp [State.isRecvHeaders, phase, remotePeer]

/-- `is_recv_headers` / `is_recv_streaming` / "`recv H` forbidden" partition the states -/
theorem recv_trichotomy (s : State) (eos : Bool) :
    (s.isRecvHeaders = true ∧ s.isRecvStreaming = false ∧ step (phase s) (.recvH eos) ≠ none) ∨
    (s.isRecvHeaders = false ∧ s.isRecvStreaming = true ∧ step (phase s) (.recvH eos) ≠ none) ∨
    (s.isRecvHeaders = false ∧ s.isRecvStreaming = false ∧ step (phase s) (.recvH eos) = none) := by
  state_cases s <;> cases eos <;> simp [State.isRecvHeaders, State.isRecvStreaming, phase, step]

theorem isRecvEndStream_iff (s : State) :
    s.isRecvEndStream = true ↔
      (phase s = .halfClosedRemote ∨ s.inner = .closed .endStream ∨
        ∃ e, s.inner = .closed (.errorAfterEndStream e)) := by
  state_cases s <;> simp [State.isRecvEndStream, phase]

/-- `ensure_recv_open = Ok(true)`: the peer may still send on this stream -/
theorem ensureRecvOpen_true_iff (s : State) :
    s.ensureRecvOpen = .ok true ↔
      (phase s = .idle ∨ phase s = .reservedRemote ∨ phase s = .open ∨ phase s = .halfClosedLocal) := by
  state_cases s <;> simp [State.ensureRecvOpen, phase]

/-- `ensure_recv_open = Ok(false)`: the receive half ended cleanly (END_STREAM), or the stream is
    `ReservedLocal` (a pushed stream never has a receive half) -/
theorem ensureRecvOpen_false_iff (s : State) :
    s.ensureRecvOpen = .ok false ↔ (s.isRecvEndStream = true ∨ phase s = .reservedLocal) := by
  state_cases s <;> simp [State.ensureRecvOpen, State.isRecvEndStream, phase]

/-- `ensure_recv_open = Err(e)`: the stream was closed by an error *before* END_STREAM arrived -/
theorem ensureRecvOpen_error_iff (s : State) (e : PErr) :
    s.ensureRecvOpen = .error e ↔
      (s.inner = .closed (.error e) ∨
        ∃ r, s.inner = .closed (.scheduledLibraryReset r) ∧ e = PErr.libraryGoAway r) := by
  state_cases s <;> simp [State.ensureRecvOpen] <;> exact eq_comm

/-- summary: `ensure_recv_open` is an error iff closed and `¬ is_recv_end_stream` -/
theorem ensureRecvOpen_isOk (s : State) :
    isOk s.ensureRecvOpen = (!s.isClosed || s.isRecvEndStream) := by
  state_cases s <;> simp [State.ensureRecvOpen, State.isClosed, State.isRecvEndStream]

theorem isReset_iff (s : State) :
    s.isReset = true ↔ (phase s = .closed ∧ s.inner ≠ .closed .endStream) := by
  state_cases s <;> simp [State.isReset, phase]

/-- **sendClose_none_iff**: the Rust `panic!("send_close: unexpected state")` is reached exactly
    outside `open` / `half-closed (remote)` -/
theorem sendClose_none_iff (s : State) :
    s.sendClose = none ↔ ¬ (phase s = .open ∨ phase s = .halfClosedRemote) := by
  state_cases s <;> simp [State.sendClose, phase]

/-- ... equivalently, exactly when there is no local `Peer` -/
theorem sendClose_none_iff_localPeer (s : State) : s.sendClose = none ↔ localPeer s = none := by
  state_cases s <;> simp [State.sendClose, localPeer]

/-- a sufficient guard that the callers can check: `is_send_streaming` -/
theorem sendClose_some_of_isSendStreaming (s : State) (h : s.isSendStreaming = true) :
    (s.sendClose).isSome = true := by
  state_cases s <;> simp_all [State.sendClose, State.isSendStreaming]


/-- the three closing transitions neither forget nor invent an END_STREAM -/
theorem recvReset_eos_iff (s : State) (sid : Nat) (r : Reason) (q : Bool) :
    (s.recvReset sid r q).isRecvEndStream = s.isRecvEndStream := by
  rw [recvReset_spec]
  split
  · rfl
  · exact closeWith_eos ..

theorem handleError_eos_iff (s : State) (e : PErr) :
    (s.handleError e).isRecvEndStream = s.isRecvEndStream := by
  rw [handleError_spec]
  split
  · rfl
  · exact closeWith_eos ..

theorem recvEof_eos_iff (s : State) : s.recvEof.isRecvEndStream = s.isRecvEndStream := by
  rw [recvEof_spec]
  split
  · rfl
  · exact closeWith_eos ..

theorem recvReset_preserves_eos (s : State) (sid : Nat) (r : Reason) (q : Bool)
    (h : s.isRecvEndStream = true) : (s.recvReset sid r q).isRecvEndStream = true := by
  rw [recvReset_eos_iff, h]

theorem handleError_preserves_eos (s : State) (e : PErr)
    (h : s.isRecvEndStream = true) : (s.handleError e).isRecvEndStream = true := by
  rw [handleError_eos_iff, h]

theorem recvEof_preserves_eos (s : State) (h : s.isRecvEndStream = true) :
    s.recvEof.isRecvEndStream = true := by
  rw [recvEof_eos_iff, h]

/-- the fallible transitions keep it too (they either fail, or move HCR → HCR/closed(EndStream)) -/
theorem sendOpen_preserves_eos (s : State) (eos : Bool) (h : s.isRecvEndStream = true) :
    (s.sendOpen eos).1.isRecvEndStream = true := by
  state_cases s <;> cases eos <;> simp_all [State.sendOpen, State.isRecvEndStream]

theorem sendClose_preserves_eos {s s' : State} (h : s.isRecvEndStream = true)
    (hs : s.sendClose = some s') : s'.isRecvEndStream = true := by
  state_cases s <;> simp_all [State.sendClose, State.isRecvEndStream] <;> subst hs <;> rfl

/-- **the two transitions that DO forget END_STREAM**: `set_reset` and `set_scheduled_reset`
    overwrite the cause unconditionally.  Concrete witness: `Closed(EndStream)` (or
    `HalfClosedRemote`, or `Closed(ErrorAfterEndStream)`) has `is_recv_end_stream`, after
    `set_reset` it has not, and `ensure_recv_open` flips from `Ok(false)` to `Err(..)`. -/
theorem setReset_forgets_eos (s : State) (sid : Nat) (r : Reason) (i : Initiator) :
    (s.setReset sid r i).isRecvEndStream = false := rfl

theorem setScheduledReset_forgets_eos (s : State) (r : Reason) :
    (s.setScheduledReset r).isRecvEndStream = false := rfl

example :
    (State.mk (.closed .endStream)).isRecvEndStream = true ∧
    (State.mk (.closed .endStream)).ensureRecvOpen = .ok false ∧
    ((State.mk (.closed .endStream)).setReset 1 CANCEL .user).isRecvEndStream = false ∧
    ((State.mk (.closed .endStream)).setReset 1 CANCEL .user).ensureRecvOpen
      = .error (.reset 1 CANCEL .user) := ⟨rfl, rfl, rfl, rfl⟩

/-- **closed_is_absorbing**: once `is_closed`, every transition except `recv_reset(.., queued =
    true)`, `set_reset`, `set_scheduled_reset` fails (where it can fail) and leaves the state
    untouched -/
theorem closed_is_absorbing (s : State) (h : s.isClosed = true) :
    (∀ eos, s.sendOpen eos = (s, .error .unexpectedFrameType)) ∧
    (∀ eos info, s.recvOpen eos info = (s, .error (PErr.libraryGoAway PROTOCOL_ERROR))) ∧
    s.reserveRemote = (s, .error (PErr.libraryGoAway PROTOCOL_ERROR)) ∧
    s.reserveLocal = (s, .error .unexpectedFrameType) ∧
    s.recvClose = (s, .error (PErr.libraryGoAway PROTOCOL_ERROR)) ∧
    s.sendClose = none ∧
    (∀ sid r, s.recvReset sid r false = s) ∧
    (∀ e, s.handleError e = s) ∧
    s.recvEof = s := by
  -- Figure 2 has no arrow out of closed but `recv R`
  have hp (ev : Ev) (hev : ev ≠ .recvR) : step (phase s) ev = none := by
    rw [(isClosed_iff s).1 h]; cases ev <;> first | rfl | exact (hev rfl).elim
  exact ⟨fun _ => sendOpen_forbidden (hp _ nofun), fun _ info => recvOpen_forbidden info (hp _ nofun),
    reserveRemote_forbidden (hp _ nofun), reserveLocal_forbidden (hp _ nofun),
    recvClose_forbidden (hp _ nofun), sendClose_forbidden (hp _ nofun),
    fun _ _ => by rw [recvReset_spec, h]; rfl, fun _ => by rw [handleError_spec, h]; rfl,
    by rw [recvEof_spec, h]; rfl⟩

/-- the three that can still change a closed state, and exactly how: only the `Cause` changes.
    `recv_reset(queued = true)` keeps the END_STREAM bit of the cause; the two local ones drop it. -/
theorem closed_still_changes (s : State) (_h : s.isClosed = true) :
    (∀ sid r, s.recvReset sid r true =
        ⟨.closed (if s.isRecvEndStream then .errorAfterEndStream (PErr.remoteReset sid r)
                  else .error (PErr.remoteReset sid r))⟩) ∧
    (∀ sid r i, s.setReset sid r i = ⟨.closed (.error (.reset sid r i))⟩) ∧
    (∀ r, s.setScheduledReset r = ⟨.closed (.scheduledLibraryReset r)⟩) := by
  refine ⟨fun sid r => ?_, fun _ _ _ => rfl, fun _ => rfl⟩
  rw [recvReset_spec, Bool.not_true, Bool.and_false]; rfl

/-- consequence worth knowing: a late RST_STREAM from the peer, arriving while frames of the
    stream are still queued, erases a *scheduled library reset* (the state no longer
    `is_scheduled_reset`, the reason that was to be sent is gone) -/
example (r : Reason) (sid : Nat) (r' : Reason) :
    (State.mk (.closed (.scheduledLibraryReset r))).isScheduledReset = true ∧
    ((State.mk (.closed (.scheduledLibraryReset r))).recvReset sid r' true).isScheduledReset = false :=
  ⟨rfl, rfl⟩

theorem closed_stays_closed (s : State) (h : phase s = .closed) :
    (∀ eos, phase (s.sendOpen eos).1 = .closed) ∧
    (∀ eos info, phase (s.recvOpen eos info).1 = .closed) ∧
    phase s.reserveRemote.1 = .closed ∧ phase s.reserveLocal.1 = .closed ∧
    phase s.recvClose.1 = .closed ∧
    (∀ sid r q, phase (s.recvReset sid r q) = .closed) ∧
    (∀ e, phase (s.handleError e) = .closed) ∧ phase s.recvEof = .closed ∧
    (∀ sid r i, phase (s.setReset sid r i) = .closed) ∧
    (∀ r, phase (s.setScheduledReset r) = .closed) := by
  have hc := (isClosed_iff s).2 h
  obtain ⟨a, b, c, d, e, -, -, -, -⟩ := closed_is_absorbing s hc
  refine ⟨fun eos => by rw [a]; exact h, fun eos info => by rw [b]; exact h, by rw [c]; exact h,
    by rw [d]; exact h, by rw [e]; exact h, fun _ _ _ => recvReset_closed .., fun _ => handleError_closed ..,
    recvEof_closed _, fun _ _ _ => rfl, fun _ => rfl⟩

/-- every transition of `State`, with its arguments -/
inductive Op where
  | sendOpen (eos : Bool)
  | recvOpen (eos informational : Bool)
  | reserveRemote
  | reserveLocal
  | recvClose
  | sendClose
  | recvReset (sid : Nat) (reason : Reason) (queued : Bool)
  | handleError (e : PErr)
  | recvEof
  | setReset (sid : Nat) (reason : Reason) (init : Initiator)
  | setScheduledReset (reason : Reason)
  deriving Repr, DecidableEq

/-- the state after the call, whatever it answered (a failing call leaves the state alone; the
    `send_close` panic has no successor, we keep `s`) -/
def Op.apply (s : State) : Op → State
  | .sendOpen eos => (s.sendOpen eos).1
  | .recvOpen eos info => (s.recvOpen eos info).1
  | .reserveRemote => s.reserveRemote.1
  | .reserveLocal => s.reserveLocal.1
  | .recvClose => s.recvClose.1
  | .sendClose => s.sendClose.getD s
  | .recvReset sid r q => s.recvReset sid r q
  | .handleError e => s.handleError e
  | .recvEof => s.recvEof
  | .setReset sid r i => s.setReset sid r i
  | .setScheduledReset r => s.setScheduledReset r

/-- the call answered `Ok` / did not panic (the infallible ones always "succeed") -/
def Op.succeeds (s : State) : Op → Bool
  | .sendOpen eos => isOk (s.sendOpen eos).2
  | .recvOpen eos info => isOk (s.recvOpen eos info).2
  | .reserveRemote => isOk s.reserveRemote.2
  | .reserveLocal => isOk s.reserveLocal.2
  | .recvClose => isOk s.recvClose.2
  | .sendClose => s.sendClose.isSome
  | _ => true

theorem op_fail_unchanged (s : State) (op : Op) (h : op.succeeds s = false) : op.apply s = s := by
  cases op with
  | sendOpen eos => exact congrArg Prod.fst (sendOpen_error s eos h)
  | recvOpen eos info => exact congrArg Prod.fst (recvOpen_error s eos info h)
  | reserveRemote =>
    rw [Op.succeeds, reserveRemote_exact, Option.isSome_eq_false_iff, Option.isNone_iff_eq_none] at h
    exact congrArg Prod.fst (reserveRemote_forbidden h)
  | reserveLocal =>
    rw [Op.succeeds, reserveLocal_exact, Option.isSome_eq_false_iff, Option.isNone_iff_eq_none] at h
    exact congrArg Prod.fst (reserveLocal_forbidden h)
  | recvClose =>
    rw [Op.succeeds, recvClose_exact, Option.isSome_eq_false_iff, Option.isNone_iff_eq_none] at h
    exact congrArg Prod.fst (recvClose_forbidden h)
  | sendClose =>
    rw [Op.succeeds, Option.isSome_eq_false_iff, Option.isNone_iff_eq_none] at h
    rw [Op.apply, h]; rfl
  | recvReset sid r q => cases h
  | handleError e => cases h
  | recvEof => cases h
  | setReset sid r i => cases h
  | setScheduledReset r => cases h

/-- what a successful fallible transition does to the facts the history invariant `WF` reads off
    a state (closed, idle, `ReservedLocal`, `is_recv_end_stream`).  `Advance`: a move between live
    states after which `is_recv_end_stream` holds iff it held before or the stream was pushed by
    us.  `AcceptEos`: the peer's END_STREAM arrives on a live stream that has a receive half.
    Neither ends in a reset. -/
def Advance (s s' : State) : Prop :=
  s.isClosed = false ∧ s'.inner ≠ .idle ∧ s'.inner ≠ .reservedLocal ∧ s'.isReset = false ∧
    s'.isRecvEndStream = (s.isRecvEndStream || decide (s.inner = .reservedLocal))

def AcceptEos (s s' : State) : Prop :=
  s.isClosed = false ∧ s.isRecvEndStream = false ∧ s.inner ≠ .reservedLocal ∧
    s'.isRecvEndStream = true ∧ s'.inner ≠ .idle ∧ s'.inner ≠ .reservedLocal ∧ s'.isReset = false

theorem sendOpen_advance (s : State) (eos : Bool) (h : isOk (s.sendOpen eos).2 = true) :
    Advance s (s.sendOpen eos).1 := by
  state_cases s <;> cases eos <;>
    simp_all [Advance, State.sendOpen, State.isClosed, State.isRecvEndStream, State.isReset]

theorem recvOpen_advance (s : State) (info : Bool) (h : isOk (s.recvOpen false info).2 = true) :
    Advance s (s.recvOpen false info).1 := by
  state_cases s <;> cases info <;>
    simp_all [Advance, State.recvOpen, State.isClosed, State.isRecvEndStream, State.isReset]

theorem reserveRemote_advance (s : State) (h : isOk s.reserveRemote.2 = true) :
    Advance s s.reserveRemote.1 := by
  state_cases s <;>
    simp_all [Advance, State.reserveRemote, State.isClosed, State.isRecvEndStream, State.isReset]

theorem sendClose_advance (s s' : State) (h : s.sendClose = some s') : Advance s s' := by
  state_cases s <;> simp_all [State.sendClose] <;> subst h <;>
    simp [Advance, State.isClosed, State.isRecvEndStream, State.isReset]

theorem recvOpen_acceptEos (s : State) (info : Bool) (h : isOk (s.recvOpen true info).2 = true) :
    AcceptEos s (s.recvOpen true info).1 := by
  state_cases s <;>
    simp_all [AcceptEos, State.recvOpen, State.isClosed, State.isRecvEndStream, State.isReset]

theorem recvClose_acceptEos (s : State) (h : isOk s.recvClose.2 = true) :
    AcceptEos s s.recvClose.1 := by
  state_cases s <;>
    simp_all [AcceptEos, State.recvClose, State.isClosed, State.isRecvEndStream, State.isReset]

theorem reserveLocal_idle (s : State) (h : isOk s.reserveLocal.2 = true) : s = ⟨.idle⟩ := by
  state_cases s <;> simp_all [State.reserveLocal]

/-- reachable from `State::default()` by any events with any arguments -/
inductive Reachable : State → Prop where
  | init : Reachable {}
  | step {s : State} (op : Op) : Reachable s → Reachable (op.apply s)

def runOps (s : State) (ops : List Op) : State := ops.foldl Op.apply s

theorem reachable_runOps (ops : List Op) {s : State} (h : Reachable s) : Reachable (runOps s ops) := by
  induction ops generalizing s with
  | nil => exact h
  | cons op ops ih => exact ih (.step op h)

theorem reachable_iff_runOps (s : State) : Reachable s ↔ ∃ ops, s = runOps {} ops := by
  constructor
  · intro h
    induction h with
    | init => exact ⟨[], rfl⟩
    | step op _ ih =>
      obtain ⟨ops, rfl⟩ := ih
      exact ⟨ops ++ [op], by simp [runOps, List.foldl_append]⟩
  · rintro ⟨ops, rfl⟩; exact reachable_runOps ops .init

/-- **every** value of the type is reachable: the type `State` carries no hidden invariant, so a
    state-only well-formedness predicate would be vacuous.  (`handle_error` accepts an arbitrary
    `proto::Error`.)  The real invariants relate the state to its *history*; see `WF` below. -/
theorem reachable_all (s : State) : Reachable s := by
  rw [reachable_iff_runOps]
  state_cases s
  · exact ⟨[], rfl⟩
  · exact ⟨[.reserveLocal], rfl⟩
  · exact ⟨[.reserveRemote], rfl⟩
  · exact ⟨[.recvOpen false true], rfl⟩
  · exact ⟨[.recvOpen false false], rfl⟩
  · exact ⟨[.sendOpen false], rfl⟩
  · exact ⟨[.sendOpen false, .recvOpen false false], rfl⟩
  · exact ⟨[.sendOpen true], rfl⟩
  · exact ⟨[.sendOpen true, .recvOpen false false], rfl⟩
  · exact ⟨[.recvOpen true false], rfl⟩
  · exact ⟨[.reserveLocal, .sendOpen false], rfl⟩
  · exact ⟨[.sendOpen true, .recvClose], rfl⟩
  · next e => exact ⟨[.handleError e], rfl⟩
  · next e => exact ⟨[.recvOpen true false, .handleError e], rfl⟩
  · next r => exact ⟨[.setScheduledReset r], rfl⟩

/-- step-level well-formedness: a `Closed(ErrorAfterEndStream(_))` only ever comes out of a state
    that has `is_recv_end_stream` -/
theorem errorAfterEndStream_only_after_eos (s : State) (op : Op) (e : PErr)
    (h : (op.apply s).inner = .closed (.errorAfterEndStream e)) : s.isRecvEndStream = true := by
  cases hs : op.succeeds s
  · rw [op_fail_unchanged s op hs] at h; simp [State.isRecvEndStream, h]
  have hr : (op.apply s).isReset = true := by simp [State.isReset, h]
  have he : (op.apply s).isRecvEndStream = true := by simp [State.isRecvEndStream, h]
  cases op with
  | sendOpen eos => simp [Op.apply, (sendOpen_advance s eos hs).2.2.2.1] at hr
  | recvOpen eos info =>
    cases eos
    · simp [Op.apply, (recvOpen_advance s info hs).2.2.2.1] at hr
    · simp [Op.apply, (recvOpen_acceptEos s info hs).2.2.2.2.2.2] at hr
  | reserveRemote => simp [Op.apply, (reserveRemote_advance s hs).2.2.2.1] at hr
  | reserveLocal =>
    rw [reserveLocal_idle s hs] at h; cases h
  | recvClose => simp [Op.apply, (recvClose_acceptEos s hs).2.2.2.2.2.2] at hr
  | sendClose =>
    obtain ⟨s', hs'⟩ := Option.isSome_iff_exists.1 hs
    simp [Op.apply, hs', (sendClose_advance s s' hs').2.2.2.1] at hr
  | recvReset sid r q => rwa [Op.apply, recvReset_eos_iff] at he
  | handleError e' => rwa [Op.apply, handleError_eos_iff] at he
  | recvEof => rwa [Op.apply, recvEof_eos_iff] at he
  | setReset sid r i => cases he
  | setScheduledReset r => cases he

/-- conversely a plain `Closed(Error(_))` produced by `recv_reset`/`handle_error`/`recv_eof` out of
    a non-closed state means END_STREAM had *not* been received -/
theorem error_only_without_eos (s : State) (e : PErr) (hc : s.isClosed = false) :
    (∀ sid r q, (s.recvReset sid r q).inner = .closed (.error e) → s.isRecvEndStream = false) ∧
    ((s.handleError e).inner = .closed (.error e) → s.isRecvEndStream = false) ∧
    (s.recvEof.inner = .closed (.error e) → s.isRecvEndStream = false) := by
  have hw (e' : PErr) (h : (closeWith s e').inner = .closed (.error e)) : s.isRecvEndStream = false := by
    unfold closeWith at h
    cases hs : s.isRecvEndStream
    · rfl
    · rw [hs] at h; cases h
  rw [handleError_spec, recvEof_spec, hc]
  refine ⟨fun sid r q => ?_, hw _, hw _⟩
  rw [recvReset_spec, hc]
  exact hw _

/-- ghost history of one stream -/
structure Ghost where
  /-- an END_STREAM from the peer was accepted (`recv_open` with eos, or `recv_close`, returned Ok) -/
  eosRecv : Bool := false
  /-- `reserve_local` succeeded (we promised this stream; it never has a receive half) -/
  pushedLocal : Bool := false
  /-- `set_reset` or `set_scheduled_reset` was applied -/
  localReset : Bool := false
  deriving Repr, DecidableEq

def Op.ghost (s : State) (g : Ghost) : Op → Ghost
  | .recvOpen eos info => if eos && isOk (s.recvOpen eos info).2 then { g with eosRecv := true } else g
  | .recvClose => if isOk s.recvClose.2 then { g with eosRecv := true } else g
  | .reserveLocal => if isOk s.reserveLocal.2 then { g with pushedLocal := true } else g
  | .setReset .. => { g with localReset := true }
  | .setScheduledReset _ => { g with localReset := true }
  | _ => g

/-- reachability with the ghost history alongside -/
inductive ReachableG : State → Ghost → Prop where
  | init : ReachableG {} {}
  | step {s : State} {g : Ghost} (op : Op) : ReachableG s g → ReachableG (op.apply s) (op.ghost s g)

theorem ReachableG.reachable {s : State} {g : Ghost} (h : ReachableG s g) : Reachable s := by
  induction h with
  | init => exact .init
  | step op _ ih => exact .step op ih

theorem Reachable.withGhost {s : State} (h : Reachable s) : ∃ g, ReachableG s g := by
  induction h with
  | init => exact ⟨{}, .init⟩
  | step op _ ih => obtain ⟨g, hg⟩ := ih; exact ⟨_, .step op hg⟩

/-- the well-formedness of a state w.r.t. its history -/
structure WF (s : State) (g : Ghost) : Prop where
  /-- `is_recv_end_stream` is never invented: either the peer's END_STREAM was accepted, or the
      stream was pushed by us (no receive half at all) -/
  eos_sound : s.isRecvEndStream = true → (g.eosRecv = true ∨ g.pushedLocal = true)
  /-- an accepted END_STREAM is never forgotten, unless a *local* reset overwrote the cause -/
  eos_kept : g.eosRecv = true → g.localReset = false → s.isRecvEndStream = true
  /-- `ReservedLocal` only via `reserve_local` -/
  reserved_pushed : s.inner = .reservedLocal → g.pushedLocal = true
  /-- a pushed stream is `ReservedLocal`, or `is_recv_end_stream` (implicitly half-closed
      (remote)), or closed -/
  pushed_shape : g.pushedLocal = true →
    (s.inner = .reservedLocal ∨ s.isRecvEndStream = true ∨ s.isClosed = true)
  /-- a pushed stream never accepts an END_STREAM from the peer -/
  pushed_no_eos : g.pushedLocal = true → g.eosRecv = false
  /-- after a local reset the stream is closed -/
  reset_closed : g.localReset = true → s.isClosed = true
  /-- an idle stream has no history -/
  idle_fresh : s.inner = .idle → g = {}

/-- after an accepted END_STREAM the receive half is over for good -/
theorem WF.eos_done {s : State} {g : Ghost} (h : WF s g) (hg : g.eosRecv = true) :
    s.isRecvEndStream = true ∨ s.isClosed = true := by
  cases hl : g.localReset
  · exact .inl (h.eos_kept hg hl)
  · exact .inr (h.reset_closed hl)

theorem WF.init : WF {} {} := by
  constructor <;> simp [State.isRecvEndStream, State.isClosed]

/-- the simp set that evaluates one transition on a concrete state shape -/
macro "wf_step " f:ident : tactic =>
  `(tactic| first
    | assumption
    | (rename_i h
       obtain ⟨h1, h2, h3, h4, h5, h6, h7, h8⟩ := h
       constructor <;>
         simp_all [Op.apply, Op.ghost, $f:ident, State.isRecvEndStream, State.isClosed]))

theorem ghost_fail_unchanged (s : State) (g : Ghost) (op : Op) (h : op.succeeds s = false) :
    op.ghost s g = g := by
  cases op <;> simp_all [Op.ghost, Op.succeeds]

/-- the transitions act in four ways on what `WF` reads off a state, one lemma each: close keeping
    the END_STREAM bit, close by a local reset, `Advance`, `AcceptEos` -/
theorem WF.closing {s s' : State} {g : Ghost} (h : WF s g)
    (he : s'.isRecvEndStream = s.isRecvEndStream) (hc : s'.isClosed = true) : WF s' g where
  eos_sound := he ▸ h.eos_sound
  eos_kept := he ▸ h.eos_kept
  reserved_pushed hr := by simp [State.isClosed, hr] at hc
  pushed_shape _ := .inr (.inr hc)
  pushed_no_eos := h.pushed_no_eos
  reset_closed _ := hc
  idle_fresh hi := by simp [State.isClosed, hi] at hc

theorem WF.localReset {s s' : State} {g : Ghost} (h : WF s g)
    (he : s'.isRecvEndStream = false) (hc : s'.isClosed = true) :
    WF s' { g with localReset := true } where
  eos_sound h' := by simp [he] at h'
  eos_kept _ h' := by simp at h'
  reserved_pushed hr := by simp [State.isClosed, hr] at hc
  pushed_shape _ := .inr (.inr hc)
  pushed_no_eos := h.pushed_no_eos
  reset_closed _ := hc
  idle_fresh hi := by simp [State.isClosed, hi] at hc

theorem WF.advance {s s' : State} {g : Ghost} (h : WF s g) (m : Advance s s') : WF s' g := by
  obtain ⟨hc, hi, hr, -, he⟩ := m
  have hl : g.localReset = false := by
    cases hg : g.localReset
    · rfl
    · simp [h.reset_closed hg] at hc
  rw [Bool.eq_iff_iff, Bool.or_eq_true, decide_eq_true_eq] at he
  refine ⟨fun h' => (he.1 h').elim h.eos_sound fun hr' => .inr (h.reserved_pushed hr'),
    fun ha _ => he.2 (.inl (h.eos_kept ha hl)), fun hr' => (hr hr').elim, fun hb => ?_,
    h.pushed_no_eos, fun hg => by simp [hl] at hg, fun hi' => (hi hi').elim⟩
  rcases h.pushed_shape hb with h' | h' | h'
  · exact .inr (.inl (he.2 (.inr h')))
  · exact .inr (.inl (he.2 (.inl h')))
  · simp [h'] at hc

theorem WF.acceptEos {s s' : State} {g : Ghost} (h : WF s g) (m : AcceptEos s s') :
    WF s' { g with eosRecv := true } := by
  obtain ⟨hc, he, hr, he', hi', hr', -⟩ := m
  have hb : g.pushedLocal = false := by
    cases hg : g.pushedLocal
    · rfl
    · rcases h.pushed_shape hg with h' | h' | h'
      · exact (hr h').elim
      · simp [he] at h'
      · simp [hc] at h'
  refine ⟨fun _ => .inl rfl, fun _ _ => he', fun h' => (hr' h').elim, fun h' => ?_, fun h' => ?_,
    fun hg => ?_, fun h' => (hi' h').elim⟩
  · simp [hb] at h'
  · simp [hb] at h'
  · simp [h.reset_closed hg] at hc

theorem WF.step {s : State} {g : Ghost} (op : Op) (h : WF s g) : WF (op.apply s) (op.ghost s g) := by
  cases hs : op.succeeds s
  · rw [op_fail_unchanged s op hs, ghost_fail_unchanged s g op hs]; exact h
  cases op with
  | sendOpen eos => exact h.advance (sendOpen_advance s eos hs)
  | recvOpen eos info =>
    cases eos
    · exact h.advance (recvOpen_advance s info hs)
    · simp only [Op.succeeds] at hs
      simpa only [Op.apply, Op.ghost, hs, Bool.and_self, if_true]
        using h.acceptEos (recvOpen_acceptEos s info hs)
  | reserveRemote => exact h.advance (reserveRemote_advance s hs)
  | reserveLocal =>
    -- succeeds only on the idle stream, whose history is empty
    obtain rfl := reserveLocal_idle s hs
    rw [h.idle_fresh rfl]
    constructor <;> simp [Op.apply, Op.ghost, State.reserveLocal, State.isRecvEndStream]
  | recvClose =>
    simp only [Op.succeeds] at hs
    simpa only [Op.apply, Op.ghost, hs, if_true] using h.acceptEos (recvClose_acceptEos s hs)
  | sendClose =>
    obtain ⟨s', hs'⟩ := Option.isSome_iff_exists.1 hs
    simpa only [Op.apply, Op.ghost, hs', Option.getD_some] using h.advance (sendClose_advance s s' hs')
  | recvReset sid r q =>
    exact h.closing (recvReset_eos_iff ..) ((isClosed_iff _).2 (recvReset_closed ..))
  | handleError e =>
    exact h.closing (handleError_eos_iff ..) ((isClosed_iff _).2 (handleError_closed ..))
  | recvEof => exact h.closing (recvEof_eos_iff s) ((isClosed_iff _).2 (recvEof_closed s))
  | setReset sid r i => exact h.localReset rfl rfl
  | setScheduledReset r => exact h.localReset rfl rfl

theorem reachable_states {s : State} {g : Ghost} (h : ReachableG s g) : WF s g := by
  induction h with
  | init => exact WF.init
  | step op _ ih => exact WF.step op ih

/-- corollary: a reachable `Closed(ErrorAfterEndStream(_))` has a real END_STREAM (or a push) in
    its history -/
theorem reachable_errorAfterEndStream {s : State} {g : Ghost} (h : ReachableG s g) (e : PErr)
    (hs : s.inner = .closed (.errorAfterEndStream e)) : g.eosRecv = true ∨ g.pushedLocal = true :=
  (reachable_states h).eos_sound (by rcases s with ⟨i⟩; subst hs; rfl)

/-- corollary: END_STREAM from the peer is accepted at most once per stream -/
theorem eos_accepted_at_most_once {s : State} {g : Ghost} (h : ReachableG s g)
    (hg : g.eosRecv = true) :
    (∀ eos info, isOk (s.recvOpen eos info).2 = false) ∧ isOk s.recvClose.2 = false := by
  have := (reachable_states h).eos_done hg
  state_cases s <;> simp_all [State.isRecvEndStream, State.isClosed, State.recvOpen, State.recvClose]

/-- corollary: as long as no local reset happened, an error that closes the stream after the
    peer's END_STREAM is recorded as `ErrorAfterEndStream` / the stream reads as cleanly ended:
    `ensure_recv_open` never turns into `Err` -/
theorem eos_then_ensureRecvOpen_ok {s : State} {g : Ghost} (h : ReachableG s g)
    (hg : g.eosRecv = true) (hr : g.localReset = false) : s.ensureRecvOpen = .ok false :=
  (ensureRecvOpen_false_iff s).2 (.inl ((reachable_states h).eos_kept hg hr))

/-- the Figure-2 event an operation stands for.  `none`: no frame of Figure 2 crosses the wire
    (`handle_error`, `recv_eof`, `set_scheduled_reset`), or the frame is a 1xx HEADERS without
    END_STREAM (not an `H` of the figure).  A 1xx *with* END_STREAM is treated by the code as a final
    header block (`recvOpen_informational_eos`). -/
def Op.ev : Op → Option Ev
  | .sendOpen eos => some (.sendH eos)
  | .recvOpen true _ => some (.recvH true)
  | .recvOpen false false => some (.recvH false)
  | .recvOpen false true => none
  | .reserveRemote => some .recvPP
  | .reserveLocal => some .sendPP
  | .recvClose => some .recvES
  | .sendClose => some .sendES
  | .recvReset .. => some .recvR
  | .setReset .. => some .sendR
  | .handleError _ | .recvEof | .setScheduledReset _ => none

/-- the complete list of places where `State` accepts what Figure 2 forbids:
    `recv_reset` on an idle stream, `set_reset` on an idle or closed stream -/
def Op.lenient (s : State) : Op → Bool
  | .recvReset .. => s.isIdle
  | .setReset .. => s.isIdle || s.isClosed
  | _ => false

/-- **op_refines**: every successful operation that stands for a Figure-2 event, outside the three
    lenient spots, is a legal RFC 9113 transition between the abstracted states -/
theorem op_refines (s : State) (op : Op) (ev : Ev) (hev : op.ev = some ev)
    (hok : op.succeeds s = true) (hl : op.lenient s = false) :
    step (phase s) ev = some (phase (op.apply s)) := by
  cases op with
  | sendOpen eos =>
    simp only [Op.ev, Option.some.injEq] at hev; subst hev
    obtain ⟨_, h⟩ := ok_pair hok
    exact sendOpen_refines h
  | recvOpen eos info =>
    obtain ⟨_, h⟩ := ok_pair hok
    cases eos <;> cases info <;> simp only [Op.ev, Option.some.injEq, reduceCtorEq] at hev <;> subst hev
    · exact recvOpen_refines h
    · exact recvOpen_refines h
    · rw [recvOpen_informational_eos] at h
      simpa only [Op.apply, recvOpen_informational_eos] using recvOpen_refines h
  | reserveRemote =>
    simp only [Op.ev, Option.some.injEq] at hev; subst hev
    exact reserveRemote_refines (Prod.ext rfl ((isOk_unit_iff _).1 hok))
  | reserveLocal =>
    simp only [Op.ev, Option.some.injEq] at hev; subst hev
    exact reserveLocal_refines (Prod.ext rfl ((isOk_unit_iff _).1 hok))
  | recvClose =>
    simp only [Op.ev, Option.some.injEq] at hev; subst hev
    exact recvClose_refines (Prod.ext rfl ((isOk_unit_iff _).1 hok))
  | sendClose =>
    simp only [Op.ev, Option.some.injEq] at hev; subst hev
    obtain ⟨s', hs'⟩ := Option.isSome_iff_exists.1 hok
    simpa only [Op.apply, hs', Option.getD_some] using sendClose_refines hs'
  | recvReset sid r q =>
    simp only [Op.ev, Option.some.injEq] at hev; subst hev
    have : phase s ≠ .idle := by
      intro hp; rw [← isIdle_iff] at hp; simp [Op.lenient, hp] at hl
    exact recvReset_refines s sid r q this
  | setReset sid r i =>
    simp only [Op.ev, Option.some.injEq] at hev; subst hev
    simp only [Op.lenient, Bool.or_eq_false_iff] at hl
    have h1 : phase s ≠ .idle := by
      intro hp; rw [← isIdle_iff] at hp; simp [hp] at hl
    have h2 : phase s ≠ .closed := by
      intro hp; rw [← isClosed_iff] at hp; simp [hp] at hl
    exact setReset_refines s sid r i h1 h2
  | handleError e => simp [Op.ev] at hev
  | recvEof => simp [Op.ev] at hev
  | setScheduledReset r => simp [Op.ev] at hev

/-- **op_forbidden**: when the RFC forbids the event, the operation fails (state unchanged, see
    `op_fail_unchanged`) -- or it is one of the three lenient spots -/
theorem op_forbidden (s : State) (op : Op) (ev : Ev) (hev : op.ev = some ev)
    (h : step (phase s) ev = none) : op.succeeds s = false ∨ op.lenient s = true := by
  cases hs : op.succeeds s
  · exact .inl rfl
  · right
    cases hl : op.lenient s
    · have := op_refines s op ev hev hs hl
      rw [h] at this; cases this
    · rfl

/-- a 1xx HEADERS without END_STREAM is a stutter step of the life cycle, except on an idle stream
    (which it opens) -/
theorem op_interim_stutter (s : State) (hok : (Op.recvOpen false true).succeeds s = true)
    (hi : s.isIdle = false) : (Op.recvOpen false true).apply s = s := by
  obtain ⟨_, h⟩ := ok_pair hok
  rcases recvOpen_informational h with ⟨h1, -⟩ | ⟨-, h2⟩
  · simp [State.isIdle, h1] at hi
  · exact h2

/-- a history made of successful Figure-2 operations outside the lenient spots -/
def Legal (s : State) : List Op → Prop
  | [] => True
  | op :: ops => (op.ev).isSome = true ∧ op.succeeds s = true ∧ op.lenient s = false ∧ Legal (op.apply s) ops

/-- **trace_refines**: along such a history the abstracted state follows `Spec.Lifecycle.steps`
    on the corresponding event sequence; in particular that event sequence is RFC-legal -/
theorem trace_refines (s : State) (ops : List Op) (h : Legal s ops) :
    Spec.Lifecycle.steps (phase s) (ops.filterMap Op.ev) = some (phase (runOps s ops)) := by
  induction ops generalizing s with
  | nil => rfl
  | cons op ops ih =>
    obtain ⟨h1, h2, h3, h4⟩ := h
    obtain ⟨ev, hev⟩ := Option.isSome_iff_exists.1 h1
    have hstep := op_refines s op ev hev h2 h3
    simp only [List.filterMap_cons, hev, Spec.Lifecycle.steps, hstep, Option.bind_some]
    exact ih _ h4

end H2V.Lemmas.Comp
