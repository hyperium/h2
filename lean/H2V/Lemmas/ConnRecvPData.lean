import H2V.Lemmas.ConnRecvPFlow
import H2V.Lemmas.ConnStepLoops
/-
  C03: `Recv::recv_data` preserves the invariant.  When it answers a stream error
  (`Error::Reset`), the octets of the frame have been taken from the connection window and are not
  accounted for by any stream: slack, which the caller (`Inner::recv_data`) gives back with
  `release_connection_capacity`.
-/
namespace H2V.Lemmas.ConnRecvP
open H2V H2V.Model H2V.Model.Conn
open H2V.Model.Conn.Streams
open H2V.Lemmas.Comp
attribute [local irreducible] wrapSubU32 wrapSubUsize

def NotReset (r : Except PErr Unit) : Prop := ∀ sid reason init, r ≠ .error (.reset sid reason init)

theorem notReset_ok : NotReset (.ok ()) := fun _ _ _ h => nomatch h
theorem notReset_goAway (r : Reason) : NotReset (.error (PErr.libraryGoAway r)) := fun _ _ _ h => nomatch h

/-- the tail of `recv_data` once the stream has been charged: release the padding, queue the event -/
theorem recvData_tail_inv {full : Bool} {g : Ghost} {s : Streams} (h : Inv full g s) (id padding : Nat)
    (payload : Bytes) (eos : Bool) :
    Inv full g
      (let s := if padding > 0 then (s.releaseCapacity id padding false).1 else s
       if payload.isEmpty && !eos then (s, (Except.ok () : Except PErr Unit))
       else
         let s := s.modStream id fun st => { st with pendingRecv := st.pendingRecv ++ [.data payload (!eos)] }
         ((s.modStreamW id Stream.notifyRecv).notifyPushIfRecvEnded id, .ok ())).1 := by
  inv_auto

/-- what `recv_data` guarantees about the pair it returns: the invariant, with `sz` octets of slack
    when the answer is a stream error -/
def DataPost (full : Bool) (g : Ghost) (sz : Nat) (p : Streams × Except PErr Unit) : Prop :=
  (NotReset p.2 → Inv full g p.1) ∧ (¬ NotReset p.2 → InvD full g sz p.1)

theorem DataPost.of_slack {full : Bool} {g : Ghost} {sz : Nat} {s : Streams} (h : InvD full g sz s)
    (r : Except PErr Unit) : DataPost full g sz (s, r) :=
  ⟨fun _ => h.weaken (by omega), fun _ => h⟩

theorem DataPost.of_inv {full : Bool} {g : Ghost} {sz : Nat} {s : Streams} (h : Inv full g s)
    {r : Except PErr Unit} (hr : NotReset r) : DataPost full g sz (s, r) :=
  ⟨fun _ => h, fun hn => absurd hr hn⟩

theorem recvDataDeliver_post {full : Bool} {g : Ghost} {sz : Nat} {s : Streams} (her : InvD full g sz s) (hszM : sz ≤ 2147483647)
    (id : Nat) (payload : Bytes) (eos : Bool) (flowLen : Nat) :
    DataPost full g sz (s.recvDataDeliver id payload eos flowLen sz) := by
  unfold Streams.recvDataDeliver
  have hsum3 := her.sum
  have hcI3 : sz ≤ cI s := by have := sumInfl s.store.slab; omega
  split
  · -- no `RecvStream` any more: the octets go straight back to the connection window
    have h4 := releaseConnectionCapacity_inv her sz false hcI3
    have : (sz : Int) - sz = 0 := by omega
    rw [this] at h4
    exact DataPost.of_inv (h4.of_ext (.of_step (Streams.notifyPushIfRecvEnded_step _ id))) notReset_ok
  -- charge the stream
  cases hsd : (s.stream id).recvFlow.sendData sz with
  | mk fl r =>
  cases r with
  | error e =>
    cases e with
    | assertFailed => exact DataPost.of_inv ((her.weaken (by omega)).of_ext (panic_ext _ _)) notReset_ok
    | reason rr =>
      dsimp only
      refine DataPost.of_inv ?_ (notReset_goAway _)
      refine (her.weaken (d' := 0) (by omega)).modStream id _ (fun _ => Int.le_refl _) (fun _ => rfl)
        (fun _ _ => Int.le_refl _) ?_
      intro hf x hx ok
      rw [Streams.stream_of_get? hx] at hsd
      have he := sendData_err hsd
      have hwa := ok.wa
      have hA := (inI32_iff _).1 ok.aI32
      rcases he.2 with rfl | hpart
      · exact ok
      · exfalso
        have hu : u32AsI32 sz = (sz : Int) := u32AsI32_of_lt (by omega)
        have h5 := hpart.2.2.2.2
        rw [hu] at hpart h5
        have : inI32 (x.recvFlow.available.val - (sz : Int)) = true := by
          apply inI32_of_range <;> omega
        rw [this] at h5; cases h5
  | ok u' =>
    dsimp only
    have h4 : Inv full g (s.modStream id fun st =>
        { st with recvFlow := fl, inFlightRecvData := wrapAddU32 st.inFlightRecvData sz }) := by
      refine her.modStream id _ (fun _ => by omega) (fun _ => rfl) ?_ ?_
      · intro x hx
        have hb := le_sumInfl_of_mem (Store.get?_mem hx)
        have hI := (her.infl_le (by omega) (Store.get?_mem hx)).2
        have : wrapAddU32 x.inFlightRecvData sz = x.inFlightRecvData + sz := by
          apply wrapAddU32_of_lt; omega
        show ((wrapAddU32 x.inFlightRecvData sz : Nat) : Int) + 0 ≤ _
        rw [this]; omega
      · intro hf x hx ok
        rw [Streams.stream_of_get? hx] at hsd
        have hb := le_sumInfl_of_mem (Store.get?_mem hx)
        have hI := (her.infl_le (by omega) (Store.get?_mem hx)).2
        exact ok.charge sz fl hsd hszM (by omega)
    generalize (s.modStream id fun st =>
        { st with recvFlow := fl, inFlightRecvData := wrapAddU32 st.inFlightRecvData sz }) = s4 at h4 ⊢
    refine ⟨fun _ => recvData_tail_inv h4 id _ payload eos, fun hn => ?_⟩
    exfalso; apply hn
    split <;> exact notReset_ok

/-- `Recv::recv_data` behind its `assert!`: the connection window is charged first, so whatever happens after that
    happens with the frame's octets as slack -/
theorem recvDataCore_post {full : Bool} {g : Ghost} {s : Streams} (h0 : Inv full g s) (id : Nat) (payload : Bytes) (eos : Bool)
    (flowLen : Nat) : DataPost full g (usizeAsU32 flowLen) (s.recvDataCore id payload eos flowLen) := by
  unfold Streams.recvDataCore
  dsimp only
  generalize usizeAsU32 flowLen = sz
  split
  · exact DataPost.of_inv h0 (notReset_goAway _)
  split
  · -- the stream was reset locally: the frame is ignored
    refine ⟨fun _ => ignoreData_inv h0 sz, fun hn => ?_⟩
    exfalso; apply hn
    intro sid r i he
    obtain ⟨r', hr'⟩ := ignoreData_err_goaway h0 _ _ he
    cases hr'
  -- the connection window
  obtain ⟨herr, hok⟩ := consume_inv h0 sz
  cases hc : s.consumeConnectionWindow sz with
  | mk s1 r =>
  rw [hc] at herr hok
  dsimp only at herr hok ⊢
  cases r with
  | error e =>
    obtain ⟨r', rfl⟩ := consume_err_goaway h0 sz e (by rw [hc])
    exact DataPost.of_inv (herr _ rfl) (notReset_goAway _)
  | ok u =>
  obtain ⟨h1', hszM⟩ := hok rfl
  have h1 : InvD full g sz s1 := by
    have : (0 : Int) + sz = sz := by omega
    rw [this] at h1'; exact h1'
  dsimp only
  split
  · exact DataPost.of_slack h1 _
  split
  · exact DataPost.of_slack h1 _
  next st1 heq =>
  have h2 : InvD full g sz (s1.setStream st1) :=
    h1.of_ext (setStream_stream_ext s1 id st1 (decContentLength_same _ _ _ heq))
  generalize s1.setStream st1 = s2 at h2 ⊢
  -- END_STREAM changes the state only: the slack is still there
  unfold Streams.recvDataTail
  have her := h2.of_ext (.of_step (Streams.recvDataEos_step (by decide) s2 id eos))
  generalize s2.recvDataEos id eos = p at her ⊢
  obtain ⟨s3, o⟩ := p
  cases o with
  | some e => exact DataPost.of_slack her _
  | none => exact recvDataDeliver_post her hszM id payload eos flowLen

theorem recvRecvData_post {full : Bool} {g : Ghost} {s : Streams} (h : Inv full g s) (id : Nat) (payload : Bytes)
    (eos : Bool) (padLen : Option Nat) :
    DataPost full g (usizeAsU32 (payload.length + (match padLen with | some p => p + 1 | none => 0)))
      (s.recvRecvData id payload eos padLen) := by
  rw [Streams.recvRecvData_eq]
  refine recvDataCore_post (?_ : Inv full g _) id payload eos _
  split
  · exact h.of_ext (panic_ext _ _)
  · exact h

end H2V.Lemmas.ConnRecvP
