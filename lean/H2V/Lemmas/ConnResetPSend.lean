import H2V.Lemmas.ConnResetPState
/-
  ConnResetP — `Send::send_reset`: the exact effect on the store of the part before `reclaim_all_capacity`
  (`sendResetPre_store`, `ResetSpec`), that it is one step of `SRel` (`sendSendReset_sr`: the queued RST_STREAM is the
  only one because the stream was not reset before), and the functions of send.rs that call it.
-/
set_option linter.unusedSectionVars false
namespace H2V.Lemmas.ConnResetP
open H2V H2V.Model H2V.Model.Conn
variable {D : Nat → Prop}

section
variable {a : Store} {s : Streams}

theorem clearQueue_store (s : Streams) (id : Nat) :
    (s.clearQueue id).store =
      Store.mod s.store id (fun st => { st with pendingSend := [], bufferedSendData := 0, requestedSendCapacity := 0 }) := by
  unfold Streams.clearQueue
  extract_lets s1
  split
  · split <;> simp [s1]
  · simp [s1]

theorem queueFrame_store (s : Streams) (id : Nat) (f : SFrame) :
    ∃ g : Stream → Stream, ((∀ x, g x = x) ∨ (∀ x, g x = x.setQueued .pendingSend true)) ∧
      (s.queueFrame id f).store = Store.mod s.store id (fun st => g { st with pendingSend := st.pendingSend ++ [f] }) := by
  unfold Streams.queueFrame Streams.scheduleSend
  split
  · simp only [crp_store, qPush_store]
    split
    · exact ⟨fun x => x, .inl fun _ => rfl, by simp⟩
    · refine ⟨fun x => x.setQueued .pendingSend true, .inr fun _ => rfl, ?_⟩
      rw [Store.mod_mod _ _ _ _ (by intro; rfl) (by intro x; exact Stream.setQueued_key x _ _)]
  · exact ⟨fun x => x, .inl fun _ => rfl, by simp⟩

theorem Store.getD'_mod {S : Store} {id : Nat} {st : Stream} (f : Stream → Stream) (hf : ∀ x, (f x).key = x.key)
    (h : S.get? id = some st) : Store.getD' (Store.mod S id f) id = f st := by
  unfold Store.getD'
  rw [Store.get?_mod' _ _ _ hf, if_pos rfl, h]; rfl

/-- what `send_reset` makes of the stream it resets -/
structure ResetSpec (st y : Stream) (r : Reason) (i : Initiator) : Prop where
  key : y.key = st.key
  id : y.id = st.id
  state : y.state = st.state.setReset st.id r i
  pendingSend : y.pendingSend = (if st.isPendingOpen then st.pendingSend.head?.toList else []) ++ [.reset r]
  refCount : y.refCount = st.refCount

/-- the part of `send_reset` before `reclaim_all_capacity`, on a stream that is not reset yet and has
    something unsent (or is not closed) -/
def sendResetPre (s : Streams) (id : Nat) (reason : Reason) (init : Initiator) : Streams :=
  let s := s.modStreamW id fun st => st.setReset reason init
  let s :=
    if (s.stream id).isPendingOpen then
      let headers := (s.stream id).pendingSend.head?
      let s := s.modStream id fun st => { st with pendingSend := st.pendingSend.drop 1 }
      let s := s.clearQueue id
      match headers with
      | some f => s.modStream id fun st => { st with pendingSend := st.pendingSend ++ [f] }
      | none => s
    else s.clearQueue id
  s.queueFrame id (.reset reason)

theorem sendSendReset_eq (s : Streams) (id : Nat) (r : Reason) (i : Initiator)
    (hr : (s.stream id).state.isReset = false)
    (hne : ((s.stream id).state.isClosed && ((s.stream id).pendingSend.isEmpty && (s.stream id).bufferedSendData == 0)) = false) :
    s.sendSendReset id r i = (sendResetPre s id r i).reclaimAllCapacity id := by
  unfold Streams.sendSendReset sendResetPre
  simp only [hr, hne, Bool.false_eq_true, if_false]
  rfl

theorem resetSpec_close (st : Stream) (r : Reason) (i : Initiator) (g : Stream → Stream) (L : List SFrame)
    (hg : (∀ x, g x = x) ∨ (∀ x, g x = x.setQueued .pendingSend true))
    (hL : L = if st.isPendingOpen then st.pendingSend.head?.toList else []) :
    ResetSpec st (g { ({ (st.setReset r i).1 with pendingSend := L, bufferedSendData := 0, requestedSendCapacity := 0 } : Stream)
      with pendingSend := L ++ [SFrame.reset r] }) r i := by
  subst hL
  rw [st.setReset_fst]
  rcases hg with hg | hg <;> rw [hg] <;> exact ⟨rfl, rfl, rfl, rfl, rfl⟩

theorem sendResetPre_store (s : Streams) (id : Nat) (r : Reason) (i : Initiator) :
    ∃ G : Stream → Stream, (sendResetPre s id r i).store = Store.mod s.store id G ∧ (∀ x, (G x).key = x.key) ∧
      ∀ st, s.store.get? id = some st → ResetSpec st (G st) r i := by
  unfold sendResetPre
  extract_lets s1 headers sA sB s2
  have hs1 : s1.store = Store.mod s.store id (fun st => (st.setReset r i).1) := by simp [s1]
  have hk1 : ∀ x : Stream, (x.setReset r i).1.key = x.key := fun x => x.setReset_key r i
  have h1 : ∀ st, s.store.get? id = some st → s1.stream id = (st.setReset r i).1 := by
    intro st hg; rw [stream_eq, hs1]; exact Store.getD'_mod _ hk1 hg
  obtain ⟨g, hg1, hg2⟩ := queueFrame_store s2 id (.reset r)
  have hgk : ∀ x, (g x).key = x.key := by
    intro x; rcases hg1 with h | h <;> rw [h]; exact Stream.setQueued_key _ _ _
  rw [hg2]
  -- the store of `s2` in every case: the reset stream with the queue `L`
  have key : ∀ L : List SFrame,
      s2.store = Store.mod s.store id (fun st =>
        ({ (st.setReset r i).1 with pendingSend := L, bufferedSendData := 0, requestedSendCapacity := 0 } : Stream)) →
      (∀ st, s.store.get? id = some st → L = if st.isPendingOpen then st.pendingSend.head?.toList else []) →
      ∃ G : Stream → Stream, Store.mod s2.store id (fun st => g { st with pendingSend := st.pendingSend ++ [SFrame.reset r] })
          = Store.mod s.store id G ∧ (∀ x, (G x).key = x.key) ∧
        ∀ st, s.store.get? id = some st → ResetSpec st (G st) r i := by
    intro L hs2 hL
    rw [hs2, Store.mod_mod _ _ _ _ (by intro x; exact hk1 x) (by intro x; exact hgk _)]
    exact ⟨_, rfl, fun x => (hgk _).trans (hk1 x), fun st hst => resetSpec_close st r i g L hg1 (hL st hst)⟩
  by_cases hpo : (s1.stream id).isPendingOpen = true
  · cases hh : headers with
    | none =>
      refine key [] ?_ ?_
      · have e2 : s2 = sB := by simp only [s2, hpo, if_true, hh]
        rw [e2]
        simp only [sB, sA, clearQueue_store, modStream_store, hs1, Store.mod_mod, Stream.setReset_key, implies_true]
      · intro st hst
        have e := h1 st hst
        rw [st.setReset_fst] at e
        simp only [headers, e] at hh
        simp only [e] at hpo
        simp [hpo, hh]
    | some f =>
      refine key [f] ?_ ?_
      · have e2 : s2 = sB.modStream id fun st => { st with pendingSend := st.pendingSend ++ [f] } := by
          simp only [s2, hpo, if_true, hh]
        rw [e2]
        simp only [sB, sA, clearQueue_store, modStream_store, hs1, Store.mod_mod, Stream.setReset_key, implies_true]
        rfl
      · intro st hst
        have e := h1 st hst
        rw [st.setReset_fst] at e
        simp only [headers, e] at hh
        simp only [e] at hpo
        simp [hpo, hh]
  · refine key [] ?_ ?_
    · have e2 : s2 = s1.clearQueue id := by simp only [s2, hpo, Bool.false_eq_true, if_false]
      rw [e2]
      simp only [clearQueue_store, hs1, Store.mod_mod, Stream.setReset_key, implies_true]
    · intro st hst
      have e := h1 st hst
      rw [st.setReset_fst] at e
      simp only [e] at hpo
      simp [hpo]

theorem resetCount_zero_of_fresh {st : Stream} (i : RInv st) (hr : st.state.isReset = false) :
    resetCount st.pendingSend = 0 := i.count_zero (by unfold isErr; rw [hr]; rfl)

theorem ResetSpec.srel {st y : Stream} {r : Reason} {i : Initiator} (h : ResetSpec st y r i)
    (hr : st.state.isReset = false) : SRel D st y := by
  refine SRel.reset_atomic' h.key h.id h.refCount hr (by rw [h.state]; rfl) (fun inv => ?_)
  rw [h.pendingSend]
  have h0 := resetCount_zero_of_fresh inv hr
  have h1 := resetCount_head?_le st.pendingSend
  simp only [resetCount_append, resetCount_cons, resetCount_nil, isResetFrame]
  split <;> simp <;> omega

theorem sendSendReset_sr (h : Evolves (SRel D) RInv a s.store) (id : Nat) (r : Reason) (i : Initiator) :
    Evolves (SRel D) RInv a (s.sendSendReset id r i).store := by
  by_cases hr : (s.stream id).state.isReset = true
  · unfold Streams.sendSendReset; simp only [hr, if_true]; exact h
  · have hr' : (s.stream id).state.isReset = false := by simpa using hr
    by_cases hne : ((s.stream id).state.isClosed &&
        ((s.stream id).pendingSend.isEmpty && (s.stream id).bufferedSendData == 0)) = true
    · unfold Streams.sendSendReset
      simp only [hr', hne, Bool.false_eq_true, if_false, if_true]
      simp only [crp_store]
      refine h.mod _ _ (fun st hg => ?_)
      rw [stream_of_get? hg] at hr'
      exact SRel.setReset_fresh st r i hr'
    · have hne' : ((s.stream id).state.isClosed &&
          ((s.stream id).pendingSend.isEmpty && (s.stream id).bufferedSendData == 0)) = false := by simpa using hne
      rw [sendSendReset_eq s id r i hr' hne']
      refine Evolves.of_step_core (Streams.reclaimAllCapacity_step (by decide) _ _) ?_
      obtain ⟨G, hG, _, hspec⟩ := sendResetPre_store s id r i
      rw [hG]
      refine h.mod _ _ (fun st hg => ?_)
      rw [stream_of_get? hg] at hr'
      exact (hspec st hg).srel hr'

theorem sendRecvStreamWindowUpdate_sr (h : Evolves (SRel D) RInv a s.store) (id sz : Nat) :
    Evolves (SRel D) RInv a (s.sendRecvStreamWindowUpdate id sz).1.store := by
  unfold Streams.sendRecvStreamWindowUpdate; ev

theorem sarsMore_sr (h : Evolves (SRel D) RInv a s.store) (inc : Nat) : Evolves (SRel D) RInv a (s.sarsMore inc).1.store := by
  unfold Streams.sarsMore; ev

theorem sarsWindow_sr (h : Evolves (SRel D) RInv a s.store) (val : Nat) : Evolves (SRel D) RInv a (s.sarsWindow val).1.store := by
  unfold Streams.sarsWindow; ev

theorem sendApplyRemoteSettings_sr (h : Evolves (SRel D) RInv a s.store) (i p c : Option Nat) :
    Evolves (SRel D) RInv a (s.sendApplyRemoteSettings i p c).1.store := by
  rw [Streams.sendApplyRemoteSettings_eq]; ev

end
end H2V.Lemmas.ConnResetP
