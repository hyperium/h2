import H2V.Lemmas.HpackDecInt
import H2V.Lemmas.HpackDecTable
/-
  String literals (`try_decode_string`) and literal field representations (`decode_literal`).
  Each function gets two statements, each about two runs walked side by side, stage by stage:
  the run on `b` against the run on `b ++ x` (`_ext`, `_good`: a prefix is read, an outcome other
  than `NeedMore` does not depend on what follows, a `NeedMore` leaves the whole buffer), and the
  run of the model against the run of the reference (`_refines`: what is accepted the reference
  reads the same way, what is rejected is rejected with a Rust error).
-/
namespace H2V.Lemmas.HpackDec
open H2V H2V.Model.Hpack H2V.Generated.Static

/-- the statement proved in `H2V.Lemmas.Huffman` (`decode_eq_spec`), taken as a hypothesis here -/
def HuffSpec : Prop :=
  ∀ bs : Bytes, Bytes.Valid bs →
    Model.Huffman.decode bs =
      (match Spec.Huffman.decode bs with | some out => Res.ok out | none => Res.err ())

/-- errors that exist only in the model (`fuel`, `panic`), never in the Rust -/
def _root_.H2V.Model.Hpack.DErr.isModelOnly : DErr → Bool
  | .fuel => true
  | .panic => true
  | _ => false

theorem ite_elim {α : Sort _} {P : α → Prop} {c : Prop} [Decidable c] {a b : α}
    (ha : P a) (hb : P b) : P (if c then a else b) := by
  split <;> assumption

theorem mkHeader_cases (name value : Bytes) :
    mkHeader name value = .ok (name, value) ∨ mkHeader name value = .error .invalidUtf8 ∨
      mkHeader name value = .error .invalidPseudoheader := by
  unfold mkHeader
  repeat' refine ite_elim (P := fun r : Except DErr Header => r = .ok (name, value) ∨ r = .error .invalidUtf8 ∨
      r = .error .invalidPseudoheader) ?_ ?_
  all_goals simp

theorem mkHeader_ok (name value : Bytes) (h : Header) (hk : mkHeader name value = .ok h) :
    h = (name, value) := by
  rcases mkHeader_cases name value with h' | h' | h' <;> rw [h'] at hk <;> cases hk
  rfl

theorem mkHeader_err (name value : Bytes) (e : DErr) (hk : mkHeader name value = .error e) :
    e = .invalidUtf8 ∨ e = .invalidPseudoheader := by
  rcases mkHeader_cases name value with h' | h' | h' <;> rw [h'] at hk <;> cases hk
  · exact .inl rfl
  · exact .inr rfl

theorem intoEntry_cases (name value : Bytes) :
    intoEntry name value = .ok (name, value) ∨ intoEntry name value = .error .invalidUtf8 ∨
      intoEntry name value = .error .invalidStatusCode := by
  unfold intoEntry
  repeat' refine ite_elim (P := fun r : Except DErr Header => r = .ok (name, value) ∨ r = .error .invalidUtf8 ∨
      r = .error .invalidStatusCode) ?_ ?_
  all_goals simp

theorem intoEntry_ok (name value : Bytes) (h : Header) (hk : intoEntry name value = .ok h) :
    h = (name, value) := by
  rcases intoEntry_cases name value with h' | h' | h' <;> rw [h'] at hk <;> cases hk
  rfl

theorem intoEntry_err (name value : Bytes) (e : DErr) (hk : intoEntry name value = .error e) :
    e = .invalidUtf8 ∨ e = .invalidStatusCode := by
  rcases intoEntry_cases name value with h' | h' | h' <;> rw [h'] at hk <;> cases hk
  · exact .inl rfl
  · exact .inr rfl

theorem decodeInt_valid_rest (buf : Bytes) (p v : Nat) (rest : Bytes) (hv : Bytes.Valid buf)
    (h : decodeInt buf p = .ok (v, rest)) : Bytes.Valid rest := by
  obtain ⟨pre, hpre, -⟩ := decodeInt_shape _ _ _ _ h
  rw [hpre] at hv; exact (Valid_append.1 hv).2

theorem decodeString_ext (b x : Bytes) :
    match decodeString b with
    | .ok (s, r, raw) =>
      (∃ pre, b = pre ++ r ∧ 1 ≤ pre.length) ∧ decodeString (b ++ x) = .ok (s, r ++ x, raw)
    | .error e => e.isNeedMore = false → decodeString (b ++ x) = .error e := by
  cases b with
  | nil => exact fun hn => by cases hn
  | cons hdr tl =>
    unfold decodeString
    simp only [List.cons_append]
    have g := decodeInt_ext 7 (hdr :: tl) x
    rw [List.cons_append] at g
    cases h0 : decodeInt (hdr :: tl) 7 with
    | error e => rw [h0] at g; exact fun hn => by rw [g hn]
    | ok p0 =>
      obtain ⟨len, r0⟩ := p0
      rw [h0] at g
      obtain ⟨⟨pre, e0, l0⟩, g⟩ := g
      rw [g]
      simp only
      by_cases hlen : len > r0.length
      · rw [if_pos hlen]; exact fun hn => by cases hn
      · have key : ∃ pre', hdr :: tl = pre' ++ r0.drop len ∧ 1 ≤ pre'.length :=
          ⟨pre ++ r0.take len, by rw [List.append_assoc, List.take_append_drop]; exact e0,
            by rw [List.length_append]; omega⟩
        have hlen' : ¬ len > (r0 ++ x).length := by rw [List.length_append]; omega
        rw [if_neg hlen, if_neg hlen', List.take_append_of_le_length (by omega),
          List.drop_append_of_le_length (by omega)]
        by_cases hh : hdr &&& 128 = 128
        · rw [if_pos hh, if_pos hh]
          cases Model.Huffman.decode (r0.take len) with
          | ok s => exact ⟨key, rfl⟩
          | err u => exact fun _ => rfl
          | loop => exact fun _ => rfl
        · rw [if_neg hh, if_neg hh]; exact ⟨key, rfl⟩

theorem decodeString_shape (buf s rest : Bytes) (raw : Bool)
    (h : decodeString buf = .ok (s, rest, raw)) : ∃ pre, buf = pre ++ rest ∧ 1 ≤ pre.length := by
  have := decodeString_ext buf []
  rw [h] at this
  exact this.1

theorem decodeString_valid_rest (buf s rest : Bytes) (raw : Bool) (hv : Bytes.Valid buf)
    (h : decodeString buf = .ok (s, rest, raw)) : Bytes.Valid rest := by
  obtain ⟨pre, hpre, hl⟩ := decodeString_shape _ _ _ _ h
  rw [hpre] at hv; exact (Valid_append.1 hv).2

theorem decodeString_refines (hHuff : HuffSpec) (b : Bytes) (hv : Bytes.Valid b) :
    match decodeString b with
    | .ok (s, r, _) => Spec.Hpack.str b = .ok (s, r)
    | .error e => e.isModelOnly = false := by
  cases b with
  | nil => rfl
  | cons hdr tl =>
    unfold decodeString
    simp only [Spec.Hpack.str]
    cases h0 : decodeInt (hdr :: tl) 7 with
    | error e => rcases decodeInt_err _ _ _ (by decide) h0 with rfl | rfl <;> rfl
    | ok p0 =>
      obtain ⟨len, r0⟩ := p0
      rw [decodeInt_sound _ _ _ _ hv h0]
      have hv0 := decodeInt_valid_rest _ _ _ _ hv h0
      have hb := and128_eq_128_iff hdr (Valid_cons.1 hv).1
      simp only
      by_cases hlen : len > r0.length
      · rw [if_pos hlen]; rfl
      · rw [if_neg hlen, if_neg hlen]
        by_cases hh : hdr &&& 128 = 128
        · rw [if_pos hh, if_pos (hb.1 hh), hHuff _ (Valid_take _ hv0)]
          cases Spec.Huffman.decode (r0.take len) <;> rfl
        · rw [if_neg hh, if_neg (fun hc => hh (hb.2 hc))]

/-- `s` is the outcome on `b`, `s'` the outcome on `b ++ x`; the error carries what is left of the
    buffer, which after a validation error may start behind a raw string already split off -/
def GoodT {α : Type} (b x : Bytes) (s s' : Except (DErr × Bytes) (α × Bytes)) : Prop :=
  match s with
  | .ok (a, rest) => (∃ pre, b = pre ++ rest ∧ 1 ≤ pre.length) ∧ s' = .ok (a, rest ++ x)
  | .error (e, tl) => if e.isNeedMore then tl = b else s' = .error (e, tl ++ x)

/-- an error raised before anything is taken off the buffer -/
theorem GoodT.stop {α : Type} {b x : Bytes} {e : DErr} {s' : Except (DErr × Bytes) (α × Bytes)}
    (h : e.isNeedMore = false → s' = .error (e, b ++ x)) : GoodT b x (.error (e, b)) s' := by
  show if e.isNeedMore then b = b else s' = .error (e, b ++ x)
  split
  · rfl
  · exact h (Bool.eq_false_iff.2 ‹_›)

theorem decodeLiteral_good (t : Table) (index : Bool) (b x : Bytes) :
    GoodT b x (decodeLiteral t b index) (decodeLiteral t (b ++ x) index) := by
  unfold decodeLiteral
  have g := decodeInt_ext (if index then 6 else 4) b x
  cases h0 : decodeInt b (if index then 6 else 4) with
  | error e => rw [h0] at g; exact GoodT.stop fun hn => by rw [g hn]
  | ok p0 =>
    obtain ⟨idx, r0⟩ := p0
    rw [h0] at g
    obtain ⟨⟨pre0, e0, l0⟩, g⟩ := g
    rw [g]
    simp only
    have str : ∀ r, (match decodeString r with
        | .ok (s, r', raw) =>
          (∃ pre, r = pre ++ r' ∧ 1 ≤ pre.length) ∧ decodeString (r ++ x) = .ok (s, r' ++ x, raw)
        | .error e => e.isNeedMore = false → decodeString (r ++ x) = .error e) :=
      fun r => decodeString_ext r x
    by_cases hz : idx = 0
    · rw [if_pos hz, if_pos hz]
      have g1 := str r0
      cases h1 : decodeString r0 with
      | error e => rw [h1] at g1; exact GoodT.stop fun hn => by rw [g1 hn]
      | ok p1 =>
        obtain ⟨name, r1, nameRaw⟩ := p1
        rw [h1] at g1
        obtain ⟨⟨pre1, e1, -⟩, g1⟩ := g1
        rw [g1]
        simp only
        have g2 := str r1
        cases h2 : decodeString r1 with
        | error e => rw [h2] at g2; exact GoodT.stop fun hn => by rw [g2 hn]
        | ok p2 =>
          obtain ⟨value, r2, valueRaw⟩ := p2
          rw [h2] at g2
          obtain ⟨⟨pre2, e2, -⟩, g2⟩ := g2
          rw [g2]
          simp only
          cases hm : mkHeader name value with
          | ok h =>
            exact ⟨⟨pre0 ++ pre1 ++ pre2, by rw [e0, e1, e2]; simp,
              by simp only [List.length_append]; omega⟩, rfl⟩
          | error e =>
            have hn : e.isNeedMore = false := by rcases mkHeader_err _ _ _ hm with rfl | rfl <;> rfl
            simp only [GoodT, hn, Bool.false_eq_true, if_false]
            cases valueRaw <;> cases nameRaw <;> rfl
    · rw [if_neg hz, if_neg hz]
      cases hg : t.get idx with
      | error e => exact GoodT.stop fun _ => rfl
      | ok ent =>
        simp only
        have g1 := str r0
        cases h1 : decodeString r0 with
        | error e => rw [h1] at g1; exact GoodT.stop fun hn => by rw [g1 hn]
        | ok p1 =>
          obtain ⟨value, r1, valueRaw⟩ := p1
          rw [h1] at g1
          obtain ⟨⟨pre1, e1, -⟩, g1⟩ := g1
          rw [g1]
          simp only
          cases hm : intoEntry ent.1 value with
          | ok h =>
            exact ⟨⟨pre0 ++ pre1, by rw [e0, e1]; simp, by simp only [List.length_append]; omega⟩, rfl⟩
          | error e =>
            have hn : e.isNeedMore = false := by rcases intoEntry_err _ _ _ hm with rfl | rfl <;> rfl
            simp only [GoodT, hn, Bool.false_eq_true, if_false]
            cases valueRaw <;> rfl

theorem decodeLiteral_shape (t : Table) (buf rest : Bytes) (index : Bool) (h : Header)
    (hk : decodeLiteral t buf index = .ok (h, rest)) : ∃ pre, buf = pre ++ rest ∧ 1 ≤ pre.length := by
  have := decodeLiteral_good t index buf []
  rw [hk] at this
  exact this.1

theorem decodeLiteral_length (t : Table) (buf rest : Bytes) (index : Bool) (h : Header)
    (hk : decodeLiteral t buf index = .ok (h, rest)) : rest.length < buf.length := by
  obtain ⟨pre, hpre, hl⟩ := decodeLiteral_shape _ _ _ _ _ hk
  rw [hpre, List.length_append]; omega

theorem decodeLiteral_valid_rest (t : Table) (buf rest : Bytes) (index : Bool) (h : Header)
    (hv : Bytes.Valid buf)
    (hk : decodeLiteral t buf index = .ok (h, rest)) : Bytes.Valid rest := by
  obtain ⟨pre, hpre, hl⟩ := decodeLiteral_shape _ _ _ _ _ hk
  rw [hpre] at hv; exact (Valid_append.1 hv).2

theorem decodeLiteral_refines (hHuff : HuffSpec) (t : Table) (st : Spec.Hpack.St)
    (he : st.entries = t.entries) (b : Bytes) (index : Bool) (hv : Bytes.Valid b) :
    match decodeLiteral t b index with
    | .ok y => Spec.Hpack.literal st (if index then 6 else 4) b = .ok y
    | .error (e, _) => e.isModelOnly = false := by
  unfold decodeLiteral Spec.Hpack.literal
  cases h0 : decodeInt b (if index then 6 else 4) with
  | error e => rcases decodeInt_err _ _ _ (by cases index <;> decide) h0 with rfl | rfl <;> rfl
  | ok p0 =>
    obtain ⟨idx, r0⟩ := p0
    rw [decodeInt_sound _ _ _ _ hv h0]
    have hv0 := decodeInt_valid_rest _ _ _ _ hv h0
    simp only
    by_cases hz : idx = 0
    · rw [if_pos hz, if_pos hz]
      have g1 := decodeString_refines hHuff r0 hv0
      cases h1 : decodeString r0 with
      | error e => rw [h1] at g1; exact g1
      | ok p1 =>
        obtain ⟨name, r1, nameRaw⟩ := p1
        rw [h1] at g1
        have g2 := decodeString_refines hHuff r1 (decodeString_valid_rest _ _ _ _ hv0 h1)
        rw [g1]
        simp only
        cases h2 : decodeString r1 with
        | error e => rw [h2] at g2; exact g2
        | ok p2 =>
          obtain ⟨value, r2, valueRaw⟩ := p2
          rw [h2] at g2
          rw [g2]
          simp only
          cases hm : mkHeader name value with
          | ok h => rw [mkHeader_ok _ _ _ hm]
          | error e => rcases mkHeader_err _ _ _ hm with rfl | rfl <;> rfl
    · rw [if_neg hz, if_neg hz, get_eq_lookup t st idx he]
      cases Spec.Hpack.lookup st idx with
      | none => rfl
      | some ent =>
        simp only
        have g1 := decodeString_refines hHuff r0 hv0
        cases h1 : decodeString r0 with
        | error e => rw [h1] at g1; exact g1
        | ok p1 =>
          obtain ⟨value, r1, valueRaw⟩ := p1
          rw [h1] at g1
          rw [g1]
          simp only
          cases hm : intoEntry ent.1 value with
          | ok h => rw [intoEntry_ok _ _ _ hm]
          | error e => rcases intoEntry_err _ _ _ hm with rfl | rfl <;> rfl

end H2V.Lemmas.HpackDec
