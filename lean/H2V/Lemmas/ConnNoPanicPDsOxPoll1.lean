import H2V.Lemmas.ConnNoPanicPDsOxStep
import H2V.Lemmas.ConnNoPanicPFiNoPPQ
import H2V.Lemmas.ConnNoPanicPFiPoll1
/-
  C08 (no panic) — the residual hypothesis `OH` as an invariant: the write path keeps `XE` for every entry, given that
  no PUSH_PROMISE frame is queued (`NoPPQ`: every client, and a server that never calls `push_request`).
  The entry `pop_frame` takes from `pending_send` was scheduled, hence — if it waits in `pending_open` or is
  `is_pending_push` — "dead" (`PE`): only frames without DATA octets are popped from it, and it may be scheduled again.
  Then `reclaim_frame`, `pop_pending_open`, the loops of `buffer_pending` / `poll_complete`; `Streams::poll_complete`
  keeps `OXs`.
-/
namespace H2V.Lemmas.ConnNoPanicP
open H2V H2V.Model H2V.Model.Conn H2V.Lemmas.ConnCountsP
attribute [local irreducible] wrapSubU32 wrapSubUsize

variable {sv : Bool} {E E' : Nat → Prop}

def XEs (sv : Bool) (s : Streams) : Prop := ∀ k, XE sv (s.stream k)
theorem XK.xes {s s' : Streams} (h : XK sv s s') (hx : XEs sv s) : XEs sv s' := fun k => h.xe 0 k (hx k)
theorem XEs.of_store {s t : Streams} (h : t.store = s.store) (hx : XEs sv s) : XEs sv t :=
  fun k => by rw [stream_of_store_eqP h]; exact hx k

theorem FK.noppq {s s' : Streams} (h : FK s s') (hp : NoPPQ s) : NoPPQ s' := h.toQK.noPPQ hp

/-- the entry taken from `pending_send`: dead if flagged, and not a send-unopened local entry -/
structure PE (sv : Bool) (x : Stream) : Prop where
  df : flagB x = true → Dd x
  ns : locId sv x.id = true → suB x.state = true → False

theorem pe_of_scheduled {x : Stream} (hx : XE sv x) (hs : x.isPendingSend = true) : PE sv x := by
  refine ⟨fun hf => ?_, fun hl hsu => ?_⟩
  · rcases hx.f hf with hw | hd
    · have := hw.1; rw [hs] at this; cases this
    · exact hd
  · have := (hx.n hl hsu).2.1; rw [hs] at this; cases this

theorem popped_pe {s s' : Streams} {id : Nat} (hq : QOK .pendingSend s) (heq : s.qPop .pendingSend = (s', some id))
    (hx : XEs sv s) : PE sv (s'.stream id) := by
  unfold Streams.qPop at heq
  split at heq
  · cases heq
  · next id' rest hget =>
    cases heq
    obtain ⟨x, hx0, hfl⟩ := (hq.mem id).mp (by rw [hget]; exact List.mem_cons_self ..)
    have hx' : (s.setQ .pendingSend rest).store.get? id = some x := by rw [setQ_store]; exact hx0
    have := modStream_get?_self (s.setQ .pendingSend rest) id (fun st => st.setQueued .pendingSend false) x hx' (setQueued_key _ _ _)
    rw [stream_of_get? this]
    have hp : PE sv x := pe_of_scheduled (by have := hx id; rw [stream_of_get? hx0] at this; exact this) hfl
    exact ⟨fun hf => hp.df hf, hp.ns⟩

theorem xp_rest (x : Stream) (f : SFrame) (rest : List SFrame) (hps : x.pendingSend = f :: rest) (hp : PE sv x) :
    ({ x with pendingSend := rest } : Stream).key = x.key ∧ Xp sv x { x with pendingSend := rest } := by
  have hdd : flagB x = true → Dd ({ x with pendingSend := rest } : Stream) := by
    intro hf
    have hd := hp.df hf
    refine ⟨hd.1, ?_, hd.2.2⟩
    have := dsum_tail_le f rest
    have h0 := hd.2.1
    rw [hps] at h0
    show dsum rest = 0
    omega
  refine ⟨rfl, ⟨fun r _ => ⟨fun hl hs => (hp.ns hl hs).elim, fun hf => .inr (hdd hf), fun hf => ?_⟩⟩⟩
  show x.bufferedSendData ≤ _
  rw [(hp.df hf).2.2]; exact Nat.zero_le _

theorem pe_rest (x : Stream) (f : SFrame) (rest : List SFrame) (hps : x.pendingSend = f :: rest) (hp : PE sv x) :
    PE sv { x with pendingSend := rest } := by
  refine ⟨fun hf => ?_, hp.ns⟩
  have hd := hp.df hf
  refine ⟨hd.1, ?_, hd.2.2⟩
  have := dsum_tail_le f rest
  have h0 := hd.2.1
  rw [hps] at h0
  show dsum rest = 0
  omega

theorem xp_sched_pe (x : Stream) (hp : PE sv x) :
    (x.setQueued .pendingSend true).key = x.key ∧ Xp sv x (x.setQueued .pendingSend true) :=
  ⟨rfl, ⟨fun _ hx => ⟨fun hl hs => (hp.ns hl hs).elim, fun hf => .inr (hp.df hf), fun hf => hx.e hf⟩⟩⟩

theorem qPushPE_xk (t : Streams) (id : Nat) (hp : Live t id → PE sv (t.stream id)) : XK sv t (t.qPush .pendingSend id).1 := by
  unfold Streams.qPush; split
  · exact .refl _
  · dsimp only
    exact (modStream_xk_live _ _ _ (fun hl => xp_sched_pe _ (hp hl))).trans (setQ_xk _ _ _)

theorem finish_xes {t : Streams} (id : Nat) (c : Prop) [Decidable c] (b : Bool) (hx : XEs sv t)
    (hp : Live t id → PE sv (t.stream id)) :
    XEs sv ((if c then (t.qPush .pendingSend id).1 else t).transitionAfter id b) := by
  refine (transitionAfter_xk _ _ _).xes ?_
  split
  · exact (qPushPE_xk t id hp).xes hx
  · exact hx

theorem finish_noppq {t : Streams} (id : Nat) (c : Prop) [Decidable c] (b : Bool) (hp : NoPPQ t) :
    NoPPQ ((if c then (t.qPush .pendingSend id).1 else t).transitionAfter id b) := by
  refine (transitionAfter_fk _ _ _).noppq ?_
  split
  · exact (qPush_fk _ _ _ (by decide)).noppq hp
  · exact hp

theorem popRest_xes {s : Streams} {id : Nat} {f : SFrame} {rest : List SFrame} (hl : Live s id)
    (hps : (s.stream id).pendingSend = f :: rest) (hx : XEs sv s) (hp : PE sv (s.stream id)) :
    XEs sv (s.modStream id fun st => { st with pendingSend := rest }) ∧
    PE sv ((s.modStream id fun st => { st with pendingSend := rest }).stream id) := by
  refine ⟨(modStream_xk s id _ fun _ hx => hx ▸ xp_rest _ f rest hps hp).xes hx, ?_⟩
  have := stream_modStream_live hl (fun st => ({ st with pendingSend := rest } : Stream)) (fun _ => rfl)
  rw [this]; exact pe_rest _ f rest hps hp

theorem reclaimAllCapacity_sp (s : Streams) (k : Nat) : SP s (s.reclaimAllCapacity k) :=
  .of_step (Streams.reclaimAllCapacity_step (by decide) s k)

theorem closed_of_scheduled {st : State} {r : Reason} (h : st.getScheduledReset = some r) : st.isClosed = true := by
  unfold State.getScheduledReset at h
  obtain ⟨inner⟩ := st
  rcases inner with _ | _ | _ | ⟨_ | _, _ | _⟩ | ⟨_ | _⟩ | ⟨_ | _⟩ | c <;> simp at h ⊢ <;> rfl

theorem closed_of_discard {st : State}
    (h : (match st.getScheduledReset with | some reason => reason != NO_ERROR | none => false) = true) :
    st.isClosed = true := by
  cases hs : st.getScheduledReset with
  | none => rw [hs] at h; cases h
  | some r => exact closed_of_scheduled hs

theorem discard_xes {s : Streams} {id : Nat} (hc : Live s id → (s.stream id).state.isClosed = true) (hx : XEs sv s) :
    XEs sv ((((s.clearQueue id).reclaimAllCapacity id).qPush .pendingSend id).1) := by
  have hca : ClosedAt s id := hc
  have x0 : XK sv s (s.clearQueue id) := clearQueue_xk s id (fun hl => State.isSendStreaming_of_isClosed (hc hl))
  have c0 := clearQueue_closedAt hca
  have f0 := clearQueue_self s id
  generalize s.clearQueue id = t0 at x0 c0 f0 ⊢
  have x1 : XK sv t0 (t0.reclaimAllCapacity id) := reclaimAllCapacity_xk t0 id
  have sp := reclaimAllCapacity_sp t0 id id
  have lk := (reclaimAllCapacity_lt t0 id).keys
  generalize t0.reclaimAllCapacity id = t at x1 sp lk ⊢
  refine (qPushPE_xk t id (fun hl => ?_)).xes (x1.xes (x0.xes hx))
  have hl0 : Live t0 id := lk.live.mp hl
  unfold coreOf at sp
  simp only [Prod.mk.injEq] at sp
  have hcl : (t.stream id).state.isClosed = true := by rw [sp.1]; exact c0 hl0
  refine ⟨fun _ => ⟨hcl, by rw [sp.2.2.1, f0.1]; rfl, by rw [sp.2.1, f0.2]⟩, fun _ hsu => ?_⟩
  rw [suB_closed hcl] at hsu; cases hsu

theorem emitC_xes (sd : Stream → Nat → Nat → Stream × List String × Bool) (hsd : SdNP sd) (hsk : SdSK sd) {s : Streams}
    {id len sz : Nat} {eos : Bool} {rest : List SFrame} (hl : Live s id)
    (hps : (s.stream id).pendingSend = .data sz eos :: rest) (hlen : len ≤ sz) (hx : XEs sv s) (hp : PE sv (s.stream id)) :
    XEs sv (ConnWakeP.pfData sd s id len rest) ∧
    (Live (ConnWakeP.pfData sd s id len rest) id → PE sv ((ConnWakeP.pfData sd s id len rest).stream id)) := by
  have hz : flagB (s.stream id) = true → len = 0 := by
    intro hf
    have := (hp.df hf).2.1
    rw [hps] at this; simp only [dsum] at this; omega
  have h1 := popRest_xes hl hps hx hp
  have hst1 := stream_modStream_live hl (fun st => ({ st with pendingSend := rest } : Stream)) (fun _ => rfl)
  have hl1 : Live (s.modStream id fun st => { st with pendingSend := rest }) id := (SameKeys.modStream _ _ _).live.mpr hl
  have hstore := ConnFlowP.pfData_store sd s id len rest
  generalize (s.modStream id fun st => { st with pendingSend := rest }) = s1 at h1 hst1 hl1 hstore
  have k1 := hsk (s1.stream id) len s1.prio.maxBufferSize
  have hsend := hsd.send (s1.stream id) len s1.prio.maxBufferSize
  have hbuf := hsd.buf (s1.stream id) len s1.prio.maxBufferSize
  have hfs := (hsd.same (s1.stream id) len s1.prio.maxBufferSize).fl .pendingSend
  have hfo := (hsd.same (s1.stream id) len s1.prio.maxBufferSize).fl .pendingOpen
  generalize (sd (s1.stream id) len s1.prio.maxBufferSize).1 = st' at k1 hsend hbuf hfs hfo hstore
  have hkey : st'.key = id := k1.1.trans (stream_key _ _)
  have hflag : flagB st' = flagB (s1.stream id) := by
    unfold flagB
    have : st'.isPendingOpen = (s1.stream id).isPendingOpen := hfo
    rw [this, k1.2.2.2]
  have hflag0 : flagB (s1.stream id) = flagB (s.stream id) := by rw [hst1]; rfl
  have hdd : flagB st' = true → Dd st' := by
    intro hf
    have hf1 : flagB (s1.stream id) = true := by rw [← hflag]; exact hf
    have hd := h1.2.df hf1
    have hl0 : len = 0 := hz (by rw [← hflag0]; exact hf1)
    refine ⟨by rw [k1.2.2.1]; exact hd.1, by rw [hsend]; exact hd.2.1, ?_⟩
    rw [hbuf, hd.2.2, hl0]
    exact wrapSubUsize_of_le (Nat.le_refl 0) (by decide)
  have hpe' : PE sv st' := ⟨hdd, fun hl' hs' => h1.2.ns (by rw [← k1.2.1]; exact hl') (by rw [← k1.2.2.1]; exact hs')⟩
  have hxp : Xp sv (s1.stream st'.key) st' := by
    rw [hkey]
    refine ⟨fun r _ => ⟨fun hl' hs' => (hpe'.ns hl' hs').elim, fun hf => .inr (hdd hf), fun hf => ?_⟩⟩
    rw [(hdd hf).2.2]; exact Nat.zero_le _
  have h2 : XEs sv (s1.setStream st') := (setStream_xk s1 st' hxp).xes h1.1
  refine ⟨h2.of_store hstore, fun hle => ?_⟩
  have hget : (s1.setStream st').store.get? id = some st' := by
    obtain ⟨y, hy⟩ := hl1
    rw [setStream_get?, hy]; simp [hkey, get?_key hy]
  have : (ConnWakeP.pfData sd s id len rest).stream id = st' := by
    rw [stream_of_store_eqP (s := s1.setStream st') hstore, stream_of_get? hget]
  rw [this]; exact hpe'

theorem setReset_fields (x : Stream) (r : Reason) (i : Initiator) :
    (x.setReset r i).1.id = x.id ∧ (x.setReset r i).1.pendingSend = x.pendingSend ∧
    (x.setReset r i).1.bufferedSendData = x.bufferedSendData ∧ (x.setReset r i).1.isPendingOpen = x.isPendingOpen ∧
    (x.setReset r i).1.isPendingPush = x.isPendingPush ∧ (x.setReset r i).1.state.isClosed = true := by
  rw [Stream.setReset_fst]; exact ⟨rfl, rfl, rfl, rfl, rfl, by rfl⟩

theorem pe_setReset {x : Stream} (r : Reason) (i : Initiator) (hp : PE sv x) : PE sv (x.setReset r i).1 := by
  have f := setReset_fields x r i
  refine ⟨fun hf => ?_, fun _ hsu => ?_⟩
  · have hf' : flagB x = true := by
      unfold flagB at hf ⊢; rw [f.2.2.2.1, f.2.2.2.2.1] at hf; exact hf
    have hd := hp.df hf'
    exact ⟨f.2.2.2.2.2, by rw [f.2.1]; exact hd.2.1, by rw [f.2.2.1]; exact hd.2.2⟩
  · rw [suB_closed f.2.2.2.2.2] at hsu; cases hsu

/-- `XEs` and `NoPPQ` along `pop_frame`, next to `PI` (`pi_popRule`); inside a round the popped entry is `PE` -/
theorem xb_popRule {sd : Stream → Nat → Nat → Stream × List String × Bool} (hsd : SdNP sd) (hsk : SdSK sd) (maxLen : Nat) :
    PopRule sd maxLen (fun s => PopI E' s ∧ XEs sv s ∧ NoPPQ s)
      (fun id s t => PopP E' id s t ∧ XEs sv t ∧ NoPPQ t ∧ PE sv (t.stream id))
      (fun s => XEs sv s ∧ NoPPQ s) (fun id _ t => XEs sv t ∧ NoPPQ t ∧ PE sv (t.stream id))
      (fun r => XEs sv r.1 ∧ NoPPQ r.1) where
  stop _ h := h.2
  q s h := ⟨(qPop_xk s _).xes h.2.1, (qPop_fk s _).noppq h.2.2⟩
  pop _ _ _ h h' heq := ⟨h'.2.1, h'.2.2, popped_pe (h.1.1.npi.qs .pendingSend (by decide)) heq h.2.1⟩
  skip _ _ h := ⟨h.2.1, h.2.2.1⟩
  discard _ _ _ _ _ h _ hd := ⟨discard_xes (fun _ => closed_of_discard hd) h.2.1, FK.noppq (by fk_auto) h.2.2.1⟩
  emit id _ _ _ _ _ c _ _ h hps hle _ h1 h2 :=
    have hem := emitC_xes sd hsd hsk h.1.2.2.1 hps hle h.2.1 h.2.2.2
    ⟨finish_xes id c _ hem.1 hem.2, finish_noppq id c _ ((emitC_st hsd h.1.2.1 hps h1 h2).fk.noppq h.2.2.1)⟩
  rest _ _ _ _ h hps :=
    have hr := popRest_xes h.1.2.2.1 hps h.2.1 h.2.2.2
    ⟨hr.1, (modStream_fk' _ _ _ (popRest_flg hps)).noppq h.2.2.1, hr.2⟩
  pp id _ _ _ _ _ _ h hps _ := by
    -- no PUSH_PROMISE is queued
    exfalso
    have := h.2.2.1 id
    unfold ppq at this
    rw [hps, mem_ppIdsOf_cons] at this
    cases this
  reset id s reason h _ := by
    refine ⟨(modStreamW_xk _ _ _ fun _ _ => setReset_xp _ _ _).xes h.2.1,
      (modStreamW_fk _ _ _ (fun _ => by flg_tac)).noppq h.2.2.1, ?_⟩
    rw [stream_modStreamW_live h.1.2.2.1 _ (fun x => (ConnFlowP.setReset_state x reason .library).2)]
    exact pe_setReset _ _ h.2.2.2
  fin id _ _ c _ h :=
    have r := And.intro (finish_xes id c _ h.2.1 (fun _ => h.2.2.2)) (finish_noppq id c _ h.2.2.1)
    ⟨r, fun _ _ => r⟩
  ta _ _ h _ := ⟨(transitionAfter_xk _ _ _).xes h.2.1, (transitionAfter_fk _ _ _).noppq h.2.2.1⟩

theorem popFrame_xb {s : Streams} (h : PI E' s) (hs : ConnFlowP.SafeInv s) (hp : NoPPQ s) (hx : XEs sv s)
    (fuel maxLen : Nat) : XEs sv (Streams.popFrame fuel s maxLen).1 ∧ NoPPQ (Streams.popFrame fuel s maxLen).1 := by
  rw [ConnWakeP.popFrameC.eq]
  exact (((pi_popRule sdNP_sendData maxLen).and (xb_popRule sdNP_sendData sdSK_sendData maxLen)).run fuel s ⟨⟨h, hs⟩, hx, hp⟩).2

/-- the bundle carried next to `WI` and `FB` -/
structure XB (sv : Bool) (s : Streams) : Prop where
  xe : XEs sv s
  pq : NoPPQ s

theorem XB.of_store {s t : Streams} (h : XB sv s) (hst : t.store = s.store) : XB sv t :=
  ⟨h.xe.of_store hst, fun k => by unfold ppq; rw [stream_of_store_eqP hst]; exact h.pq k⟩

theorem XB.st {s t : Streams} (h : XB sv s) (hx : XK sv s t) (hf : FK s t) : XB sv t := ⟨hx.xes h.xe, hf.noppq h.pq⟩

theorem xes_modStream {s : Streams} {k : Nat} (f : Stream → Stream) (hk : ∀ x, (f x).key = x.key) (hx : XEs sv s)
    (h : Live s k → XE sv (s.stream k) → XE sv (f (s.stream k))) : XEs sv (s.modStream k f) := by
  intro j
  by_cases hj : j = k
  · subst hj
    by_cases hl : Live s j
    · rw [stream_modStream_live hl f hk]; exact h hl (hx j)
    · rw [stream_modStream_dead hl]; exact hx j
  · rw [ConnFlowP.stream_modStream_other f hk hj]; exact hx j

/-- **`Prioritize::reclaim_frame_inner`**: the remainder goes back to the front of the queue of an entry with
    `rest + Σ queued DATA ≤ buffered_send_data` — which a flagged entry (`buffered ≤ Σ queued DATA`) cannot be -/
theorem reclaimFrameInner_xb {s : Streams} {fr : DataFrame} (hb : XB sv s)
    (hok : (∃ k, s.prio.inFlightDataFrame = .dataFrame k) → HeldOK s fr) : XB sv (s.reclaimFrameInner fr).1 := by
  unfold Streams.reclaimFrameInner
  dsimp only
  have hb0 : XB sv (s.modPrio fun p => { p with inFlightDataFrame := .nothing }) := hb.of_store rfl
  generalize hs0 : (s.modPrio fun p => { p with inFlightDataFrame := .nothing }) = s0 at hb0
  have hst0 : ∀ j, s0.stream j = s.stream j := fun j => by rw [← hs0]; rfl
  have hl0 : ∀ j, Live s0 j ↔ Live s j := fun j => by rw [← hs0]; exact Iff.rfl
  cases hin : s.prio.inFlightDataFrame with
  | nothing => exact hb0.of_store (panic_store _ _)
  | drop => exact hb0
  | dataFrame k =>
    dsimp only
    split
    · next hr =>
      have ho := hok ⟨k, hin⟩ hr
      have hnf : flagB (s0.stream fr.key) = false := by
        cases hf : flagB (s0.stream fr.key) with
        | false => rfl
        | true =>
          have := (hb0.xe fr.key).e hf
          rw [hst0] at this
          have := ho.2.1
          omega
      have hx1 : XEs sv (s0.modStream fr.key fun st => { st with pendingSend := .data fr.rest fr.eos :: st.pendingSend }) := by
        refine xes_modStream _ (fun _ => rfl) hb0.xe (fun _ hx => ?_)
        refine ⟨fun hl hs => ?_, fun hf => ?_, fun hf => ?_⟩
        · have := (hx.n hl hs).2.2
          rw [hst0] at this
          have := ho.2.1
          omega
        · have : flagB (s0.stream fr.key) = true := hf
          rw [hnf] at this; cases this
        · have : flagB (s0.stream fr.key) = true := hf
          rw [hnf] at this; cases this
      have hfk1 : FK s0 (s0.modStream fr.key fun st => { st with pendingSend := .data fr.rest fr.eos :: st.pendingSend }) :=
        modStream_fk _ _ _ (fun x => ⟨rfl, id, id, id, by
            show (ppIdsOf (.data fr.rest fr.eos :: x.pendingSend)).Sublist _
            rw [ppIdsOf_data]; exact .refl _⟩)
      have hb1 : XB sv (s0.modStream fr.key fun st => { st with pendingSend := .data fr.rest fr.eos :: st.pendingSend }) :=
        ⟨hx1, hfk1.noppq hb0.pq⟩
      have hlk : Live s0 fr.key := (hl0 _).mpr ho.1
      have hst1 := stream_modStream_live hlk
        (fun st => ({ st with pendingSend := .data fr.rest fr.eos :: st.pendingSend } : Stream)) (fun _ => rfl)
      generalize (s0.modStream fr.key fun st => { st with pendingSend := .data fr.rest fr.eos :: st.pendingSend }) = s1
        at hb1 hst1 ⊢
      split
      · refine hb1.st (qPushSend_xk s1 fr.key ?_ ?_) (qPush_fk _ _ _ (by decide))
        · rw [hst1]
          unfold flagB at hnf
          unfold Stream.isSendReady
          show (!(s0.stream fr.key).isPendingOpen && !(s0.stream fr.key).isPendingPush) = true
          cases h1 : (s0.stream fr.key).isPendingOpen <;> cases h2 : (s0.stream fr.key).isPendingPush <;> simp_all
        · intro _ r hx hl hs
          have := (hx.n hl hs).1
          rw [hst1] at this
          cases this
      · exact hb1
    · exact hb0

theorem reclaimFrame_xb {s : Streams} {w : Writer} (hb : XB sv s) (hc : Coupled s w) : XB sv (s.reclaimFrame w).1 := by
  unfold Streams.reclaimFrame Writer.takeLastDataFrame
  cases hld : w.lastDataFrame with
  | none => exact hb
  | some fr =>
    dsimp only
    exact reclaimFrameInner_xb hb (hc.ok fr (.inl hld))

theorem bufferReclaim_xb {s : Streams} {w : Writer} {f : Streams.OutFrame} (h : PI E' s) (hb : XB sv s)
    (hw1 : w.lastDataFrame = none) (hw2 : w.next = none)
    (hlen : ∀ len e fr, f = .data len e fr → len ≤ w.maxFrameSize)
    (hheld : ∀ len e fr, f = .data len e fr → HeldOK s fr) :
    XB sv ((s.bufferOut w f).1.reclaimFrame (s.bufferOut w f).2).1 :=
  reclaimFrame_xb (hb.of_store (bufferOut_pi h w f hlen).2.1) (bufferOut_coupled h hw1 hw2 hlen hheld)

theorem popPendingOpen_noppq (s : Streams) (hp : NoPPQ s) : NoPPQ s.popPendingOpen.1 := by
  unfold Streams.popPendingOpen
  split
  · split
    · next s1 id heq =>
      dsimp only
      have h1 : NoPPQ s1 := (of_fst_eq heq (qPop_fk s _)).noppq hp
      have h2 : NoPPQ (s1.incNumSendStreams id) := fun k => by rw [(incNumSendStreams_raise s1 id).ppq_eq k]; exact h1 k
      exact (modStreamW_fk _ _ _ (fun _ => by flg_tac)).noppq h2
    · next s1 heq => exact (of_fst_eq heq (qPop_fk s _)).noppq hp
  · exact hp

theorem qPushFrontSend_xk (s : Streams) (k : Nat) (h1 : (s.stream k).isSendReady = true)
    (h2 : Live s k → ∀ r, XEr sv r (s.stream k) → locId sv (s.stream k).id = true → suB (s.stream k).state = true → False) :
    XK sv s (s.qPushFront .pendingSend k).1 := by
  unfold Streams.qPushFront; split
  · exact .refl _
  · dsimp only
    exact (modStream_xk_live _ _ _ (fun hl => xp_sched _ h1 (h2 hl))).trans (setQ_xk _ _ _)

theorem popPendingOpen_ready {s : Streams} (hn : NPI E' s) (hb : FB sv E s) (id : Nat) (h : s.popPendingOpen.2 = some id) :
    ((s.popPendingOpen.1).stream id).isSendReady = true ∧ Opn sv s.popPendingOpen.1 id := by
  have hq := hn.qs .pendingOpen (by decide)
  unfold Streams.popPendingOpen at h ⊢
  split at h
  · next hcan =>
    rw [if_pos hcan]
    split at h
    · next s1 id' heq =>
      dsimp only at h ⊢
      cases h
      have hl := qPopQ_live hq heq
      have hf := popOpen_flags hq hb.fi.unc heq
      have hsk : SK sv s s1 := of_fst_eq heq (qPop_sk s _)
      have hloc := hb.fx.ol id hf.1
      have hnsu : suB (s.stream id).state = false := by
        cases hsu : suB (s.stream id).state with
        | false => rfl
        | true => have := (hb.fx.q id hloc hsu).po; rw [hf.1] at this; cases this
      have hnsu1 : suB (s1.stream id).state = false := by
        rcases (Cl.sk (s := s) (k := id) (.inr hnsu) hsk) with h' | h'
        · exact absurd hl.2.1 h'
        · exact h'
      have hcan1 : s1.counts.canIncNumSendStreams = true := by
        have := Streams.qPop_counts s .pendingOpen; rw [heq] at this
        show s1.counts.canIncNumSendStreams = true
        rw [this]; exact hcan
      have hst2 := incNumSendStreams_stream hl.2.1 hcan1 hf.2.1
      have hl2 : Live (s1.incNumSendStreams id) id := (SameKeys.incNumSendStreams s1 id).live.mpr hl.2.1
      have hst3 := stream_modStreamW_live hl2 Stream.notifySend (fun x => (notifySend_proj7 x).1)
      have pj := notifySend_proj7 ((s1.incNumSendStreams id).stream id)
      have hpo : (s1.stream id).isPendingOpen = false := hl.2.2
      refine ⟨?_, .inr (.inl ?_)⟩
      · rw [hst3]
        unfold Stream.isSendReady
        rw [pj.2.2.2.2.2.2.1, pj.2.2.2.2.2.2.2, hst2]
        show (!(s1.stream id).isPendingOpen && !(s1.stream id).isPendingPush) = true
        rw [hpo, hf.2.2]; rfl
      · rw [hst3, pj.2.2.1, hst2]; exact hnsu1
    · next s1 heq => cases h
  · cases h

theorem loopOpen_xb {s : Streams} (h : PI E' s) (hb : FB sv E s) (hx : XB sv s) :
    XB sv s.bufferPendingOpen := by
  unfold Streams.bufferPendingOpen
  have hpx : XEs sv s.popPendingOpen.1 := (XK.of_step (Streams.popPendingOpen_step (by decide) s)).xes hx.xe
  have hpp := popPendingOpen_noppq s hx.pq
  have hrd := popPendingOpen_ready h.npi hb
  generalize s.popPendingOpen = p at hpx hpp hrd ⊢
  obtain ⟨s0, o⟩ := p
  cases o with
  | some id =>
    dsimp only at hpx hpp hrd ⊢
    have hf := hrd id rfl
    refine ⟨(tryAssignCapacity_xk _ _).xes ((qPushFrontSend_xk s0 id hf.1 hf.2.nsu).xes hpx), FK.noppq ?_ hpp⟩
    fk_auto
  | none => exact ⟨hpx, hpp⟩

theorem prioBufferPendingLoop_wxx {g : ConnRecvP.Ghost} (fuel : Nat) {s : Streams} {w : Writer} (h : WI E' g s w) (hb : FB sv E s)
    (hx : XB sv s) (hw : w.lastDataFrame = none) :
    OutOfFuel (Streams.prioBufferPendingLoop fuel s w).1 ∨
    (WI E' g (Streams.prioBufferPendingLoop fuel s w).1 (Streams.prioBufferPendingLoop fuel s w).2.1 ∧
     FB sv E (Streams.prioBufferPendingLoop fuel s w).1 ∧ XB sv (Streams.prioBufferPendingLoop fuel s w).1) := by
  refine prioBufferPendingLoop_inv (I := fun s w => WI E' g s w ∧ FB sv E s ∧ XB sv s)
    (J := fun s => (PI E' s ∧ ConnFlowP.SafeInv s ∧ ConnRecvP.Inv true g s ∧ DSum s) ∧ FB sv E s ∧ XB sv s)
    (fun _ _ h => h.1.pi.npi.np)
    (fun s _ h => ⟨loopOpen_w h.1.pi h.1.safe h.1.recv h.1.ds, loopOpen_fb h.1.pi h.2.1, loopOpen_xb h.1.pi h.2.1 h.2.2⟩)
    ?_ ?_ fuel s w ⟨h, hb, hx⟩ hw
  · intro s w s' f ho hw1 hw2 heq
    have hp := popFrame_wi ho.1.1 ho.1.2.1 ho.1.2.2.1 ho.1.2.2.2 _ _ heq
    have hpf := popFrame_fb ho.1.1 ho.2.1 ho.1.2.1 s.popFrameFuel w.maxFrameSize
    have hpx := popFrame_xb ho.1.1 ho.1.2.1 ho.2.2.pq ho.2.2.xe s.popFrameFuel w.maxFrameSize
    rw [heq] at hpf hpx
    have hlen : ∀ len e fr, f = .data len e fr → len ≤ w.maxFrameSize :=
      fun len e fr hf => by subst hf; exact popFrame_len_le ho.1.2.1 heq
    have hheld : ∀ len e fr, f = .data len e fr → HeldOK s' fr := fun len e fr hf => hp.2.2.2.2 len e fr (by rw [hf])
    exact ⟨(bufferReclaim_w (f := f) hp.1 hp.2.1 hp.2.2.1 hp.2.2.2.1 hw1 hw2 hlen hheld).1,
      bufferReclaim_fb (f := f) hp.1 hpf hw1 hw2 hlen hheld, bufferReclaim_xb (f := f) hp.1 ⟨hpx.1, hpx.2⟩ hw1 hw2 hlen hheld⟩
  · intro s w s' ho hw1 hw2 heq
    have hp := popFrame_wi ho.1.1 ho.1.2.1 ho.1.2.2.1 ho.1.2.2.2 _ _ heq
    have hpf := popFrame_fb ho.1.1 ho.2.1 ho.1.2.1 s.popFrameFuel w.maxFrameSize
    have hpx := popFrame_xb ho.1.1 ho.1.2.1 ho.2.2.pq ho.2.2.xe s.popFrameFuel w.maxFrameSize
    rw [heq] at hpf hpx
    exact ⟨⟨hp.1, hp.2.1, hp.2.2.1, hp.2.2.2.1, .of_none hw1 hw2⟩, hpf, ⟨hpx.1, hpx.2⟩⟩

theorem pollComplete_wxx {g : ConnRecvP.Ghost} (fuel : Nat) {s : Streams} {w : Writer} (h : WI E' g s w) (hb : FB sv E s)
    (hx : XB sv s) (io : Tio) (tag : String) :
    OutOfFuel (Streams.pollComplete fuel s w io tag).1 ∨
    (WI E' g (Streams.pollComplete fuel s w io tag).1 (Streams.pollComplete fuel s w io tag).2.1 ∧
     FB sv E (Streams.pollComplete fuel s w io tag).1 ∧ XB sv (Streams.pollComplete fuel s w io tag).1) :=
  pollComplete_inv (I := fun s w => WI E' g s w ∧ FB sv E s ∧ XB sv s) (fun _ _ h => h.1.pi.npi.np)
    (fun _ _ _ h hw => ⟨h.1.wle hw, h.2⟩)
    (fun s w h => ⟨recvBufferPending_w h.1, h.2.1.st (recvBufferPending_fk s w) (recvBufferPending_sk s w),
      h.2.2.st (XK.of_step (Streams.recvBufferPending_step (by decide) s w)) (recvBufferPending_fk s w)⟩)
    (fun _ _ h => ⟨(reclaimFrame_w h.1).1, reclaimFrame_fb h.2.1 h.1.cp, reclaimFrame_xb h.2.2 h.1.cp⟩)
    (fun n _ _ h hw => prioBufferPendingLoop_wxx n h.1 h.2.1 h.2.2 hw)
    (fun _ _ _ h => ⟨setTask_w h.1 _, h.2.1.of_store rfl rfl, h.2.2.of_store rfl⟩) fuel s w io tag ⟨h, hb, hx⟩

/-- **`Streams::poll_complete` keeps `OXs`** when no PUSH_PROMISE frame is queued (`NoPPQ`, kept as well) -/
theorem OXs_pollComplete {g : ConnRecvP.Ghost} {s : Streams} {w : Writer} (h : WI (fun _ => False) g s w) (hj : FJ s)
    (hx : OXs s) (hq : NoPPQ s) (fuel : Nat) (io : Tio) (tag : String)
    (hnp : (Streams.pollComplete fuel s w io tag).1.panicked = none) :
    OXs (Streams.pollComplete fuel s w io tag).1 ∧ NoPPQ (Streams.pollComplete fuel s w io tag).1 := by
  have hrole := (pollComplete_ev (ρ := true) fuel s w io tag).nx.role
  rcases pollComplete_wxx (sv := s.counts.isServer) (E := fun _ => False) fuel h hj ⟨hx, hq⟩ io tag with h1 | h1
  · rcases h1 with h1 | h1 <;> (rw [hnp] at h1; cases h1)
  · exact ⟨fun k => by rw [hrole]; exact h1.2.2.xe k, h1.2.2.pq⟩

end H2V.Lemmas.ConnNoPanicP
