import H2V.Lemmas.ConnFidPFnRecv
import H2V.Lemmas.CompState
import H2V.Lemmas.ConnSendRequestRule
/-
  ConnFidP — the functions of ConnStreams.lean (streams.rs) that can make a labelled step, as sequences of elementary
  steps: the frame entry points, the teardown functions, the handle operations that queue or take something (the others
  are paths by `Tr.of_step`; the write path stands after `pop_frame`, ConnFidPPop).  The four sending calls are walked for
  `AccR` (`refSendData_accR` …).
  `recv_headers` is an instance of `HeadersRule` / `HeadersBodyRule` for three phases (`recvHeaders_ph3`: events queued;
  possibly the library's own 431, refused by a closed stream; possibly a reset of the stream); that it is a path follows.
-/
set_option linter.unusedSectionVars false
namespace H2V.Lemmas.ConnFidP
open H2V H2V.Model H2V.Model.Conn H2V.Lemmas.ConnWakeP

section
variable {P : Perm} {s0 s : Streams} (hg : P.gone)
include hg

omit hg in
theorem closedAt_modStreamW {s : Streams} {k : Nat} (j : Nat) (f : Stream → Stream × List String)
    (hf : ∀ a, Quiet a (f a).1) (h : ClosedAt s k) : ClosedAt (s.modStreamW j f) k := by
  intro a ha
  rw [Streams.modStreamW_get? s j f (fun a => (hf a).key)] at ha
  split at ha
  · next e =>
    subst e
    cases hs : s.store.get? k with
    | none => rw [hs] at ha; cases ha
    | some x => rw [hs] at ha; cases ha; exact (hf x).closed (h x hs)
  · exact h a ha

omit hg in
theorem closedAt_modStream_state {s : Streams} (k : Nat) (f : Stream → Stream) (hk : ∀ a, (f a).key = a.key)
    (hf : ∀ a, (f a).state.isClosed = true) : ClosedAt (s.modStream k f) k := by
  intro a ha
  rw [Streams.modStream_get? s k f hk] at ha
  simp only [if_true] at ha
  cases hs : s.store.get? k with
  | none => rw [hs] at ha; cases ha
  | some x => rw [hs] at ha; cases ha; exact hf x

omit hg in
/-- the shape `handle_error`, `recv_eof`, `recv_reset` share: the state is replaced by a closed one, then the three tasks are woken -/
theorem closedAt_closeNotify (s : Streams) (k : Nat) (f : Stream → State) (hf : ∀ a, (f a).isClosed = true) :
    ClosedAt ((((s.modStream k fun st => { st with state := f st }).modStreamW k Stream.notifySend).modStreamW k
      Stream.notifyRecv).modStreamW k Stream.notifyPush) k :=
  closedAt_modStreamW _ _ notifyPush_quiet (closedAt_modStreamW _ _ notifyRecv_quiet
    (closedAt_modStreamW _ _ notifySend_quiet (closedAt_modStream_state k _ (fun _ => rfl) hf)))

omit hg in
theorem closedAt_recvHandleError (s : Streams) (k : Nat) (e : PErr) : ClosedAt (s.recvHandleError k e) k :=
  closedAt_closeNotify s k _ fun a => a.state.handleError_isClosed e

omit hg in
theorem closedAt_recvRecvEof (s : Streams) (k : Nat) : ClosedAt (s.recvRecvEof k) k :=
  closedAt_closeNotify s k _ fun a => a.state.recvEof_isClosed

omit hg in
theorem closedAt_recvRecvReset {s s' : Streams} {k : Nat} {r : Reason} {u : Unit}
    (h : s.recvRecvReset k r = (s', .ok u)) : ClosedAt s' k := by
  unfold Streams.recvRecvReset at h
  simp only at h
  split at h
  · cases h
  · next s1 heq =>
    cases h
    exact closedAt_closeNotify s1 k _ fun a =>
      a.state.recvReset_isClosed a.id r a.isPendingSend

theorem transition_acc {α : Type} (k : Nat) (f : Streams → Streams × α)
    (hf : ∀ {s' : Streams}, Tr P s0 s' → Tr P s0 (f s').1) (h : Tr P s0 s) :
    Tr P s0 (s.transition k f).1 := by
  unfold Streams.transition
  exact transitionAfter_acc hg _ _ (hf h)
grind_pattern transition_acc => Tr P s0 (Prod.fst (Streams.transition s k f))

@[grind ←] theorem resetOnRecvStreamErr_acc (k : Nat) (r : Except PErr Unit) (hc : P.cut k) (h : Tr P s0 s) :
    Tr P s0 (s.resetOnRecvStreamErr k r).1 := by
  unfold Streams.resetOnRecvStreamErr; fid_grind
@[grind ←] theorem actionsSendReset_acc (k : Nat) (r : Reason) (i : Initiator) (hc : P.cut k) (h : Tr P s0 s) :
    Tr P s0 (s.actionsSendReset k r i).1 := by
  unfold Streams.actionsSendReset; fid_grind
end

/-- phase 1 of `recv_headers`: events are queued, no send queue is touched -/
def PA0 : Perm := { rpush := fun _ _ => True, gone := True }
/-- the library's own `431` answer on entry `k` -/
def P431 (k : Nat) : Perm := { push := fun j f => j = k ∧ f = .headers true f431, gone := True }
/-- the last phase: a stream error resets the stream -/
def PB : Perm := { cut := fun _ => True, gone := True }

/-- the `431` segment started in `Y` on entry `k`: a closed stream refuses it -/
def Seg431 (Y : Streams) (k : Nat) (Z : Streams) : Prop :=
  Tr (P431 k) Y Z ∧ ((Y.stream k).state.isClosed = true → Tr permG Y Z)

/-- events queued, then possibly the `431` segment -/
def Ph2 (s0 Z : Streams) : Prop := Tr PA0 s0 Z ∨ ∃ Y k, Tr PA0 s0 Y ∧ Seg431 Y k Z

/-- … then possibly a reset of the stream -/
def Ph3 (s0 t : Streams) : Prop := ∃ Z, Ph2 s0 Z ∧ Tr PB Z t

theorem PA0_le {P : Perm} (hg : P.gone) (hA : RpushAll P) : ∀ l, PA0.ok l → P.ok l := by
  intro l h
  cases l <;> simp only [Perm.ok, PA0] at h <;> first | exact hg | exact hA _ _ | exact absurd h id | (rcases h with h | ⟨_, h⟩ <;> exact absurd h id)
theorem P431_le {P : Perm} {k : Nat} (hg : P.gone) (h431 : P.ok (.push k (.headers true f431))) : ∀ l, (P431 k).ok l → P.ok l := by
  intro l h
  cases l <;> simp only [Perm.ok, P431] at h <;> first | exact hg | exact absurd h id | skip
  rcases h with ⟨rfl, rfl⟩ | ⟨_, h⟩
  · exact h431
  · exact absurd h id
theorem PB_le {P : Perm} (hg : P.gone) (hc : CutAll P) : ∀ l, PB.ok l → P.ok l := by
  intro l h
  cases l <;> simp only [Perm.ok, PB] at h <;> first | exact hg | exact hc _ | exact absurd h id | skip
  rcases h with h | ⟨h, _⟩
  · exact absurd h id
  · exact Or.inr ⟨h, hc _⟩

theorem Ph3.tr {P : Perm} {s t : Streams} (h : Ph3 s t) (hg : P.gone) (hc : CutAll P) (hA : RpushAll P)
    (h431 : ∀ k, P.ok (.push k (.headers true f431))) : Tr P s t := by
  obtain ⟨Z, h2, h3⟩ := h
  refine Tr.trans ?_ (h3.mono (PB_le hg hc))
  rcases h2 with t | ⟨Y, k, t1, t2, _⟩
  · exact t.mono (PA0_le hg hA)
  · exact (t1.mono (PA0_le hg hA)).trans (t2.mono (P431_le hg (h431 k)))

theorem seg431_answer (Y : Streams) (k : Nat) : Seg431 Y k (Y.answer431 k) := by
  have tail : ∀ {P : Perm} {Z : Streams}, P.gone → Tr P Y Z →
      Tr P Y ((Z.scheduleImplicitReset k PROTOCOL_ERROR).enqueueResetExpiration k) := fun hg h =>
    (h.step hg (Streams.scheduleImplicitReset_step (by decide) _ k _)).step hg (Streams.enqueueResetExpiration_step (by decide) _ k)
  refine ⟨tail trivial (sendHeaders_acc (P := P431 k) trivial k true f431 (Or.inl ⟨rfl, rfl⟩) (Tr.refl _ _)), fun hc => ?_⟩
  obtain ⟨e, he⟩ := sendHeaders_closed Y k true f431 hc
  unfold Streams.answer431
  rw [show ([{ h := (Hpack.pStatus, Http.str "431"), sensitive := false, nameless := false }] : List Hpack.Field) = f431 from rfl, he]
  exact tail trivial (Tr.refl _ _)

/-- `recv_headers` of any header list (`HeadersRule`, `HeadersBodyRule`): events queued, no send queue touched; possibly
    the library's own 431, which a closed stream refuses; possibly a reset of the stream -/
theorem recvHeaders_ph3 (s : Streams) (hd : HeadersIn) : Ph3 s (s.recvHeaders hd).1 :=
  have hg : PA0.gone := trivial
  have lift : ∀ {t : Streams}, Tr PA0 s t → Ph3 s t := fun h => ⟨_, .inl h, .refl _ _⟩
  have hopn := (Tr.refl PA0 s).step hg (Streams.recvOpen_step (by decide) s hd.sid false)
  Streams.HeadersRule.run (I := Ph3 s) (L := fun _ t => Tr PA0 s t)
    { pre := lift (.refl _ _)
      found := fun _ _ => .refl _ _
      opn := fun _ => lift hopn
      ins := fun s1 _ e => by
        rw [e] at hopn
        exact ⟨lift (insert_acc _ rfl rfl hopn), insert_acc _ rfl rfl hopn⟩
      body := fun t k _ hl =>
        Streams.HeadersBodyRule.run (I := fun t => Tr PA0 s t) (L := fun _ => True) (L' := fun _ => True) (Q := Ph3 s)
          { hdrs := fun _ ht _ => ⟨recvRecvHeaders_acc hg k hd (fun _ => trivial) ht, trivial⟩
            unsup := fun _ m ht => unsup_acc m ht
            trailers := fun _ ht _ => recvRecvTrailers_acc hg k hd trivial ht
            done := fun _ ht => lift ht
            big := fun t ht _ => ⟨_, .inr ⟨t, k, ht, seg431_answer t k⟩, .refl _ _⟩
            rst := fun t e ht _ => ⟨t, .inl ht, resetOnRecvStreamErr_acc (P := PB) trivial k (.error e) trivial (.refl _ _)⟩ }
          t hl trivial
      ta := fun _ k b ⟨Z, h2, h3⟩ => ⟨Z, h2, transitionAfter_acc (P := PB) trivial k b h3⟩ }

section
variable {P : Perm} {s0 s : Streams} (hg : P.gone)
include hg

@[grind ←] theorem recvData_acc (k : Nat) (p : Bytes) (eos : Bool) (pad : Option Nat) (hc : CutAll P)
    (hA : RpushAll P) (h : Tr P s0 s) :
    Tr P s0 (s.recvData k p eos pad).1 := by
  unfold Streams.recvData; fid_grind
@[grind ←] theorem recvReset_acc (k : Nat) (r : Reason) (hc : CutAll P) (h : Tr P s0 s) : Tr P s0 (s.recvReset k r).1 := by
  unfold Streams.recvReset
  have hcl := @closedAt_recvRecvReset
  fid_grind
@[grind ←] theorem recvWindowUpdate_acc (k inc : Nat) (hc : CutAll P) (h : Tr P s0 s) :
    Tr P s0 (s.recvWindowUpdate k inc).1 := by
  unfold Streams.recvWindowUpdate; fid_grind
@[grind ←] theorem recvPushPromise_acc (k : Nat) (hd : HeadersIn) (hc : CutAll P) (hA : RpushAll P) (h : Tr P s0 s) :
    Tr P s0 (s.recvPushPromise k hd).1 := by
  -- first the initiating stream is looked up, then the promised stream is reserved
  unfold Streams.recvPushPromise
  simp -zeta only []
  extract_lets pid parent
  refine Tr.ite_fst (fun _ => h) fun _ => ?_
  have h1 : Tr P s0 parent.1 := by fid_grind
  clear_value parent
  clear h
  rcases parent with ⟨s1, e | _ | pk⟩ <;> simp -zeta only [] at h1 ⊢
  · exact h1
  · exact h1
  · fid_grind

/-- the closure `handle_error` / `recv_go_away` run on a stream -/
theorem errClosure_acc (e : PErr) (k : Nat) (hc : P.cut k) (h : Tr P s0 s) :
    Tr P s0 (s.transition k fun s => ((s.recvHandleError k e).sendHandleError k, ())).1 := by
  have h1 := sendHandleError_acc hg k hc (closedAt_recvHandleError s k e) (h.step hg (Streams.recvHandleError_step (by decide) s k e))
  simp only [Streams.transition]
  exact transitionAfter_acc hg _ _ h1
/-- the closure `recv_eof` runs on a stream -/
theorem eofClosure_acc (k : Nat) (hc : P.cut k) (h : Tr P s0 s) :
    Tr P s0 (s.transition k fun s => ((s.recvRecvEof k).sendHandleError k, ())).1 := by
  have h1 := sendHandleError_acc hg k hc (closedAt_recvRecvEof s k) (h.step hg (Streams.recvRecvEof_step (by decide) s k))
  simp only [Streams.transition]
  exact transitionAfter_acc hg _ _ h1

@[grind ←] theorem handleError_acc (e : PErr) (hc : CutAll P) (h : Tr P s0 s) : Tr P s0 (s.handleError e).1 := by
  unfold Streams.handleError
  exact setConnError_acc e (h.trans (Streams.storeForEach_rel (Tr.relOK P) _ _ fun s k => errClosure_acc hg e k (hc k) (Tr.refl P s)))
@[grind ←] theorem recvGoAwayFrame_acc (l : Nat) (r : Reason) (d : Bytes) (hc : CutAll P) (h : Tr P s0 s) :
    Tr P s0 (s.recvGoAwayFrame l r d).1 := by
  unfold Streams.recvGoAwayFrame
  have h0 := h.step hg (Streams.sendRecvGoAway_step (by decide) s l)
  split
  · next heq => rw [heq] at h0; exact h0
  · next s1 _ heq =>
    rw [heq] at h0
    refine setConnError_acc _ (h0.trans (Streams.storeForEach_rel (Tr.relOK P) _ _ fun s k => ?_))
    dsimp only
    split
    · exact errClosure_acc hg _ k (hc k) (Tr.refl P s)
    · exact Tr.refl P s
@[grind ←] theorem recvEof_acc (b : Bool) (hc : CutAll P) (h : Tr P s0 s) : Tr P s0 (s.recvEof b) := by
  unfold Streams.recvEof
  refine (Tr.trans ?_ (Streams.storeForEach_rel (Tr.relOK P) _ _ fun s k => eofClosure_acc hg k (hc k) (Tr.refl P s))).step hg
    (Streams.clearQueues_step (by decide) _ b)
  split
  · exact setConnError_acc _ h
  · exact h
@[grind ←] theorem innerSendReset_acc (k : Nat) (r : Reason) (hc : CutAll P) (h : Tr P s0 s) :
    Tr P s0 (s.innerSendReset k r).1 := by
  unfold Streams.innerSendReset; fid_grind
@[grind ←] theorem applyRemoteSettings_acc (v : List (Nat × Nat)) (b : Bool) (hc : CutAll P) (h : Tr P s0 s) :
    Tr P s0 (s.applyRemoteSettings v b).1 := by
  unfold Streams.applyRemoteSettings; fid_grind
@[grind ←] theorem refInc_acc (k : Nat) (h : Tr P s0 s) : Tr P s0 (s.refInc k) :=
  h.step hg (Streams.refInc_step (by decide) s k)
@[grind ←] theorem cloneStreamRef_acc (k : Nat) (h : Tr P s0 s) : Tr P s0 (s.cloneStreamRef k) :=
  h.step hg (Streams.cloneStreamRef_step (by decide) s k)
@[grind ←] theorem maybeCancel_acc (k : Nat) (h : Tr P s0 s) : Tr P s0 (s.maybeCancel k) :=
  h.step hg (Streams.maybeCancel_step (by decide) s k)
theorem cancelPromises_acc (l : List Nat) (hr : RclearAll P) (h : Tr P s0 s) :
    Tr P s0 (l.foldl (fun s promise =>
        let s := s.modStream promise fun st => { st with isPendingAccept := false }
        (s.transition promise fun s =>
          let s := s.maybeCancel promise
          (if (s.stream promise).refCount == 0 then s.releaseClosedCapacity promise else s, ())).1) s) :=
  h.trans (Streams.foldl_rel (Tr.relOK P) (fun s p => by have := hr p; have h := Tr.refl P s; fid_grind) l s)
@[grind ←] theorem dropStreamRef_acc (k : Nat) (hr : RclearAll P) (h : Tr P s0 s) : Tr P s0 (s.dropStreamRef k) := by
  unfold Streams.dropStreamRef
  have hc := fun s l => @cancelPromises_acc P s0 s hg l hr
  have := hr k
  fid_grind
export H2V.Model.Conn.Streams (sendOpenId_store)

/-- `send_request` queues the request head on the entry it creates, key `next_key`: up to the insertion the slab is the
    one of `s` (`SendRequestRule`) -/
theorem sendRequest_acc (b : Bool) (f : List Hpack.Field) (eos : Bool) (p : Option Nat)
    (hA : P.ok (.push s.store.nextKey (.headers eos f))) (h : Tr P s0 s) : Tr P s0 (s.sendRequest b f eos p).1 :=
  SendRequestRule.run (I := Tr P s0) (Q := Tr P s0) (L := fun _ k _ => k = s.store.nextKey) (L' := fun _ _ _ => True)
    { pre := h
      opn := h.step hg (Streams.sendOpenId_step (by decide) s)
      done := fun _ ht => ht
      ins := fun s1 id sP hso hP => by
        have h1 : Tr P s0 s1 := by have := h.step hg (Streams.sendOpenId_step (by decide) s); rw [hso] at this; exact this
        have e1 : s1.store = s.store := by have := sendOpenId_store s; rw [hso] at this; exact this
        have h2 : Tr P s0 sP ∧ sP.store = s.store := by
          subst hP; split
          · exact ⟨panic_acc _ h1, (Streams.panic_store _ _).trans e1⟩
          · exact ⟨h1, e1⟩
        exact ⟨insert_acc _ (by unfold requestStream; split <;> rfl) (by unfold requestStream; split <;> rfl) h2.1, by rw [h2.2]⟩
      hdr := fun t _ k ht hk => ⟨sendHeaders_acc hg k eos f (hk ▸ hA) ht, trivial⟩
      undo := fun t id k s3 e ht hk heq => by
        have := sendHeaders_acc hg k eos f (hk ▸ hA) ht; rw [heq] at this; exact unlinkRemove_acc id k hg this
      fin := fun t _ k ht _ => refInc_acc hg k (setRefs_acc _ ht) } p

@[grind ←] theorem refSendPushPromise_acc (k : Nat) (v : Bool) (f : List Hpack.Field)
    (hA : PushPromiseAll P k f) (h : Tr P s0 s) :
    Tr P s0 (s.refSendPushPromise k v f).1 := by
  unfold Streams.refSendPushPromise; fid_grind
@[grind ←] theorem refSendReset_acc (k : Nat) (r : Reason) (hc : P.cut k) (h : Tr P s0 s) : Tr P s0 (s.refSendReset k r) := by
  unfold Streams.refSendReset; fid_grind
@[grind ←] theorem refClearRecvBuffer_acc (k : Nat) (hr : P.rclear k) (h : Tr P s0 s) : Tr P s0 (s.refClearRecvBuffer k) := by
  unfold Streams.refClearRecvBuffer; fid_grind

@[grind ←] theorem refPollData_acc (k : Nat) (t : String) (hp : P.rpop k) (h : Tr P s0 s) : Tr P s0 (s.refPollData k t).1 := by
  unfold Streams.refPollData
  have := recvPollData_acc hg k t hp h
  fid_grind
@[grind ←] theorem refPollPushed_acc (k : Nat) (t : String) (hp : RpopAll P) (h : Tr P s0 s) : Tr P s0 (s.refPollPushed k t).1 := by
  unfold Streams.refPollPushed
  have := recvPollPushed_acc hg k t hp h
  fid_grind

end

/-- `counts.transition(stream, f)` around an accepting call -/
theorem accR_transition {ε α : Type} {k : Nat} {f : SFrame} {s0 s : Streams} (j : Nat) (g : Streams → Streams × Except ε α)
    (h : AccR k f s0 (g s)) : AccR k f s0 (s.transition j g) := by
  unfold Streams.transition
  rcases hg : g s with ⟨s', r⟩
  rw [hg] at h
  cases r with
  | error e => exact transitionAfter_acc (P := permG) trivial _ _ h
  | ok a =>
    obtain ⟨s1, h1, h2⟩ := h
    exact ⟨s1, h1, transitionAfter_acc (P := permG) trivial _ _ h2⟩

/-- **`send_data`: `Ok` ⇒ exactly `DATA(len, eos)` queued once, at the back of `k`; `Err` ⇒ nothing queued** -/
theorem refSendData_accR (s : Streams) (k len : Nat) (eos : Bool) : AccR k (.data len eos) s (s.refSendData k len eos) := by
  unfold Streams.refSendData; exact accR_transition k _ (prioSendData_accR s s k len eos (Tr.refl _ _))
theorem refSendTrailers_accR (s : Streams) (k : Nat) (f : List Hpack.Field) : AccR k (.headers true f) s (s.refSendTrailers k f) := by
  unfold Streams.refSendTrailers; exact accR_transition k _ (sendTrailers_accR s s k f (Tr.refl _ _))
theorem refSendResponse_accR (s : Streams) (k : Nat) (f : List Hpack.Field) (eos : Bool) :
    AccR k (.headers eos f) s (s.refSendResponse k f eos) := by
  unfold Streams.refSendResponse; exact accR_transition k _ (sendHeaders_accR s s k eos f (Tr.refl _ _))
theorem refSendInformationalHeaders_accR (s : Streams) (k : Nat) (f : List Hpack.Field) :
    AccR k (.headers false f) s (s.refSendInformationalHeaders k f) := by
  unfold Streams.refSendInformationalHeaders; exact accR_transition k _ (sendInterim_accR s s k f (Tr.refl _ _))

end H2V.Lemmas.ConnFidP
