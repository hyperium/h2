import H2V.Lemmas.CodecEncode
/-
  Codec lemmas (goal A, header frames): the HEADERS / PUSH_PROMISE + CONTINUATION chain that
  `splitBlock` writes is read back by the reference frame splitter `Spec.Frame.frames` as one
  HEADERS (PUSH_PROMISE) frame followed by CONTINUATION frames on the same stream, END_HEADERS on
  the last frame only, fragments concatenating to the HPACK block, no payload above `maxFrame`.
-/
namespace H2V.Lemmas.Codec
open H2V H2V.Model.Frame

theorem frames_cons (F maxSize : Nat) (h : Head) (p rest : Bytes)
    (hs : h.sid < 2 ^ 31) (hp : p.length < 2 ^ 24) (hm : p.length ≤ maxSize) :
    Spec.Frame.frames (F + 1) maxSize (h.encode p.length ++ p ++ rest) =
      (Spec.Frame.ofParts h.kind h.flag h.sid p :: (Spec.Frame.frames F maxSize rest).1,
        (Spec.Frame.frames F maxSize rest).2) := by
  have v := (Head.encode_view h _ hs hp (p ++ rest)).spec_frames F maxSize (by simp) hm
  rwa [List.take_left, List.drop_left, ← List.append_assoc] at v

theorem frames_nil (F maxSize : Nat) : Spec.Frame.frames F maxSize [] = ([], []) := by
  cases F <;> simp [Spec.Frame.frames]

def contFrames (sid : Nat) : List Bytes → List Spec.Frame.Frame
  | [] => []
  | [f] => [.continuation sid true f]
  | f :: g :: fs => .continuation sid false f :: contFrames sid (g :: fs)

theorem contFrames_cons (sid : Nat) (f : Bytes) (fs : List Bytes) :
    contFrames sid (f :: fs) = .continuation sid fs.isEmpty f :: contFrames sid fs := by
  cases fs <;> rfl

/-- a CONTINUATION frame as the chain writes it: END_HEADERS exactly when it is the last -/
theorem ofParts_continuation {sid : Nat} (hs0 : sid ≠ 0) (last : Bool) (g : Bytes) :
    Spec.Frame.ofParts 9 (if last then 4 else 4 - 4) sid ([] ++ g) = .ok (.continuation sid last g) := by
  cases last <;> simp [Spec.Frame.ofParts, hs0, Spec.Frame.flag]

theorem splitBlock_fuel (fuel fuel' maxFrame kind flags sid : Nat) (pre hpack : Bytes)
    (hpre : pre.length < maxFrame) (h1 : hpack.length < fuel) (h2 : hpack.length < fuel') :
    splitBlock fuel maxFrame kind flags sid pre hpack = splitBlock fuel' maxFrame kind flags sid pre hpack := by
  induction fuel generalizing fuel' kind flags pre hpack with
  | zero => omega
  | succ n ih =>
    cases fuel' with
    | zero => omega
    | succ m =>
      simp only [splitBlock]
      split
      · rename_i hgt
        congr 1
        apply ih
        · simpa using by omega
        · simp only [List.length_drop]; omega
        · simp only [List.length_drop]; omega
      · rfl

theorem splitBlock_length_ge (fuel maxFrame kind flags sid : Nat) (pre hpack : Bytes)
    (hpre : pre.length < maxFrame) (hf : hpack.length < fuel) :
    hpack.length ≤ (splitBlock fuel maxFrame kind flags sid pre hpack).length := by
  induction fuel generalizing kind flags pre hpack with
  | zero => omega
  | succ n ih =>
    simp only [splitBlock]
    split
    · rename_i hgt
      have := ih 9 4 [] (hpack.drop (maxFrame - pre.length)) (by simpa using by omega)
        (by simp only [List.length_drop]; omega)
      simp only [List.length_append, List.length_take, List.length_drop] at this ⊢
      omega
    · simp only [List.length_append]; omega

/-- the general statement, for an arbitrary first frame: the first frame is whatever the RFC makes of
    `(kind, flags (minus END_HEADERS if more follows), sid, pre ++ frag0)` -/
theorem frames_splitBlock (fuel : Nat) : ∀ (maxFrame kind flags sid : Nat) (pre hpack : Bytes) (F maxSize : Nat),
    pre.length < maxFrame → maxFrame < 2 ^ 24 → sid ≠ 0 → sid < 2 ^ 31 →
    hpack.length < fuel → fuel < F → maxFrame ≤ maxSize →
    ∃ frag0 frags, frag0 ++ frags.flatten = hpack ∧ pre.length + frag0.length ≤ maxFrame ∧
      (∀ f ∈ frags, f.length ≤ maxFrame) ∧
      Spec.Frame.frames F maxSize (splitBlock fuel maxFrame kind flags sid pre hpack) =
        (Spec.Frame.ofParts kind (if frags.isEmpty then flags else flags - 4) sid (pre ++ frag0)
          :: (contFrames sid frags).map .ok, []) := by
  induction fuel with
  | zero => intros; omega
  | succ n ih =>
    intro maxFrame kind flags sid pre hpack F maxSize hpre hmax hs0 hs hfuel hF hms
    obtain ⟨F', rfl⟩ : ∃ F', F = F' + 1 := ⟨F - 1, by omega⟩
    simp only [splitBlock]
    split
    · rename_i hgt
      have hlen : (pre ++ hpack.take (maxFrame - pre.length)).length = pre.length + (maxFrame - pre.length) := by
        simp only [List.length_append, List.length_take]; omega
      obtain ⟨g0, gs, hcat, hg0, hgs, hfr⟩ :=
        ih maxFrame 9 4 sid [] (hpack.drop (maxFrame - pre.length)) F' maxSize
          (by simpa using by omega) hmax hs0 hs (by simp only [List.length_drop]; omega) (by omega) hms
      refine ⟨hpack.take (maxFrame - pre.length), g0 :: gs, ?_, ?_, ?_, ?_⟩
      · rw [List.flatten_cons, hcat, List.take_append_drop]
      · simp only [List.length_take]; omega
      · intro f hf
        rcases List.mem_cons.1 hf with rfl | hf
        · simpa using hg0
        · exact hgs f hf
      · have := frames_cons F' maxSize (Head.mk kind (flags - 4) sid) (pre ++ hpack.take (maxFrame - pre.length))
          (splitBlock n maxFrame 9 4 sid [] (hpack.drop (maxFrame - pre.length))) hs (by omega) (by omega)
        rw [hlen] at this
        simp only [List.append_assoc] at this ⊢
        rw [this, hfr]
        rw [ofParts_continuation hs0]
        simp [contFrames_cons]
    · rename_i hle
      refine ⟨hpack, [], by simp, by omega, by simp, ?_⟩
      have := frames_cons F' maxSize (Head.mk kind flags sid) (pre ++ hpack) [] hs
        (by simp only [List.length_append]; omega) (by simp only [List.length_append]; omega)
      simp only [List.length_append, List.append_nil] at this
      simp only [List.append_assoc]
      rw [this, frames_nil]
      simp [contFrames]

/-- the CONTINUATION chain `unset_frame` produces for the rest of a block -/
theorem parse_split_block_continuation (fuel maxFrame sid : Nat) (hpack : Bytes) (F maxSize : Nat)
    (h0 : 0 < maxFrame) (hmax : maxFrame < 2 ^ 24) (hs0 : sid ≠ 0) (hs : sid < 2 ^ 31)
    (hfuel : hpack.length < fuel) (hF : fuel < F) (hms : maxFrame ≤ maxSize) :
    ∃ frags, frags ≠ [] ∧ frags.flatten = hpack ∧ (∀ f ∈ frags, f.length ≤ maxFrame) ∧
      Spec.Frame.frames F maxSize (splitBlock fuel maxFrame 9 4 sid [] hpack) =
        ((contFrames sid frags).map .ok, []) := by
  obtain ⟨g0, gs, hcat, hg0, hgs, hfr⟩ :=
    frames_splitBlock fuel maxFrame 9 4 sid [] hpack F maxSize (by simpa using h0) hmax hs0 hs hfuel hF hms
  refine ⟨g0 :: gs, by simp, by simpa using hcat, ?_, ?_⟩
  · intro f hf
    rcases List.mem_cons.1 hf with rfl | hf
    · simpa using hg0
    · exact hgs f hf
  · rw [hfr]
    rw [ofParts_continuation hs0]
    simp [contFrames_cons]

/-- HEADERS (as `Encoder::buffer` writes it: END_HEADERS, END_STREAM iff `eos`, no padding, no priority) -/
theorem parse_split_block_headers (fuel maxFrame sid : Nat) (eos : Bool) (hpack : Bytes) (F maxSize : Nat)
    (h0 : 0 < maxFrame) (hmax : maxFrame < 2 ^ 24) (hs0 : sid ≠ 0) (hs : sid < 2 ^ 31)
    (hfuel : hpack.length < fuel) (hF : fuel < F) (hms : maxFrame ≤ maxSize) :
    ∃ frag0 frags, frag0 ++ frags.flatten = hpack ∧ (∀ f ∈ frag0 :: frags, f.length ≤ maxFrame) ∧
      Spec.Frame.frames F maxSize (splitBlock fuel maxFrame 1 (4 + if eos then 1 else 0) sid [] hpack) =
        ((Spec.Frame.Frame.headers sid eos frags.isEmpty none frag0 :: contFrames sid frags).map .ok, []) := by
  obtain ⟨g0, gs, hcat, hg0, hgs, hfr⟩ :=
    frames_splitBlock fuel maxFrame 1 (4 + if eos then 1 else 0) sid [] hpack F maxSize
      (by simpa using h0) hmax hs0 hs hfuel hF hms
  refine ⟨g0, gs, hcat, ?_, ?_⟩
  · intro f hf
    rcases List.mem_cons.1 hf with rfl | hf
    · simpa using hg0
    · exact hgs f hf
  · rw [hfr]
    have hfirst : Spec.Frame.ofParts 1 (if gs.isEmpty then (4 + if eos then 1 else 0) else (4 + if eos then 1 else 0) - 4) sid ([] ++ g0)
        = .ok (.headers sid eos gs.isEmpty none g0) := by
      cases gs <;> cases eos <;> simp [Spec.Frame.ofParts, hs0, Spec.Frame.unpad, Spec.Frame.flag]
    rw [hfirst]
    simp

/-- PUSH_PROMISE (`pre` = the promised stream identifier; 4 octets of every frame's budget) -/
theorem parse_split_block_push_promise (fuel maxFrame sid promised : Nat) (hpack : Bytes) (F maxSize : Nat)
    (h0 : 4 < maxFrame) (hmax : maxFrame < 2 ^ 24) (hs0 : sid ≠ 0) (hs : sid < 2 ^ 31) (hp : promised < 2 ^ 31)
    (hfuel : hpack.length < fuel) (hF : fuel < F) (hms : maxFrame ≤ maxSize) :
    ∃ frag0 frags, frag0 ++ frags.flatten = hpack ∧ 4 + frag0.length ≤ maxFrame ∧ (∀ f ∈ frags, f.length ≤ maxFrame) ∧
      Spec.Frame.frames F maxSize (splitBlock fuel maxFrame 5 4 sid (be32 promised) hpack) =
        ((Spec.Frame.Frame.pushPromise sid frags.isEmpty promised frag0 :: contFrames sid frags).map .ok, []) := by
  obtain ⟨g0, gs, hcat, hg0, hgs, hfr⟩ :=
    frames_splitBlock fuel maxFrame 5 4 sid (be32 promised) hpack F maxSize
      (by simpa using h0) hmax hs0 hs hfuel hF hms
  refine ⟨g0, gs, hcat, by simpa using hg0, hgs, ?_⟩
  rw [hfr]
  have hfirst : Spec.Frame.ofParts 5 (if gs.isEmpty then 4 else 4 - 4) sid (be32 promised ++ g0)
      = .ok (.pushPromise sid gs.isEmpty promised g0) := by
    have h31 : Spec.Frame.u31 (be32 promised ++ g0) = promised := be32_u31 promised hp g0
    have hd : (be32 promised ++ g0).drop 4 = g0 := rfl
    cases gs <;> simp [Spec.Frame.ofParts, hs0, Spec.Frame.unpad, Spec.Frame.flag] <;> simp [h31, hd]
  rw [hfirst]
  simp

/-- `tx_within_max_frame_size` for header frames, in the words of the RFC: a receiver whose
    SETTINGS_MAX_FRAME_SIZE is `maxFrame` finds no frame-size violation in the chain -/
theorem splitBlock_within_max_frame_size (fuel maxFrame kind flags sid : Nat) (pre hpack : Bytes) (F : Nat)
    (hpre : pre.length < maxFrame) (hmax : maxFrame < 2 ^ 24) (hs0 : sid ≠ 0) (hs : sid < 2 ^ 31)
    (hfuel : hpack.length < fuel) (hF : fuel < F) :
    (Spec.Frame.frames F maxFrame (splitBlock fuel maxFrame kind flags sid pre hpack)).2 = [] := by
  obtain ⟨g0, gs, _, _, _, hfr⟩ :=
    frames_splitBlock fuel maxFrame kind flags sid pre hpack F maxFrame hpre hmax hs0 hs hfuel hF (Nat.le_refl _)
  rw [hfr]

end H2V.Lemmas.Codec
