import H2V.Lemmas.ConnNoPanicPFiBase
/-
  C08 (no panic) — `FI` is a reachable invariant: the invariant `FB` that contains `FI` and is inductive.
  `FX` adds to `FI`:
  * `q`  : a locally initiated entry whose send half is not open carries nothing (`Nil`);
  * `tg` : the entry a queued PUSH_PROMISE resolves to is `is_pending_push`, or its send half is open/closed
           (keys in `E` excepted: the `Idle` entry `Inner::send_reset` has just created);
  * `lt` : the promised ids of queued PUSH_PROMISE frames are below `next_stream_id`;
  * `pl` : `is_pending_push` only on locally initiated entries.
  `FB.st`: a step that is a frame for the flags (`FK`) and for the send-unopened entries and `next_stream_id` (`SK`)
  keeps `FB`.  `FB.one`: a step that changes one entry.  `FB.insert`: a new entry.
-/
namespace H2V.Lemmas.ConnNoPanicP
open H2V H2V.Model H2V.Model.Conn H2V.Lemmas.ConnCountsP
attribute [local irreducible] wrapSubU32 wrapSubUsize

variable {sv : Bool} {E : Nat → Prop}

theorem nil_blank (k : Nat) : Nil { key := k, id := 0 } := ⟨rfl, rfl, rfl, rfl⟩

structure FX (sv : Bool) (E : Nat → Prop) (s : Streams) : Prop where
  q : ∀ k, locId sv (s.stream k).id = true → suB (s.stream k).state = true → Nil (s.stream k)
  tg : ∀ k pid, pid ∈ ppq s k → ∀ pushed, s.store.findKey? pid = some pushed → Live s pushed →
    suB (s.stream pushed).state = true → (s.stream pushed).isPendingPush = true ∨ E pushed
  lt : ∀ k pid, pid ∈ ppq s k → ∀ n, s.actions.send.nextStreamId = some n → pid < n
  pl : ∀ k, (s.stream k).isPendingPush = true → locId sv (s.stream k).id = true
  ol : ∀ k, (s.stream k).isPendingOpen = true → locId sv (s.stream k).id = true
  lq : ∀ k pid, pid ∈ ppq s k → locId sv pid = true

/-- the inductive bundle: the id map is a map, `FI`, `FX` -/
structure FB (sv : Bool) (E : Nat → Prop) (s : Streams) : Prop where
  nd : (s.store.ids.map (·.1)).Nodup
  idm : ∀ id k, s.store.findKey? id = some k → Live s k → (s.stream k).id = id
  fi : FI s
  fx : FX sv E s

theorem blank_fb {s : Streams} (h : s.store.slab = []) (hi : s.store.ids = []) : FB sv E s := by
  have hb : ∀ k, s.stream k = { key := k, id := 0 } := fun k => by unfold Streams.stream Store.get?; rw [h]; rfl
  have hq : ∀ k, ppq s k = [] := fun k => by unfold ppq; rw [hb]; rfl
  refine ⟨by rw [hi]; exact List.nodup_nil, fun id k hf => (by unfold Store.findKey? at hf; rw [hi] at hf; cases hf),
    ⟨fun k => ?_, ⟨fun k => by rw [hq]; exact List.nodup_nil, fun k k' pid h1 _ => by rw [hq] at h1; cases h1⟩,
     fun k pid hp => by rw [hq] at hp; cases hp⟩,
    ⟨fun k _ _ => ?_, fun k pid hp => ?_, fun k pid hp => ?_, fun k hp => ?_, fun k hp => ?_, fun k pid hp => ?_⟩⟩
  · rw [hb]; exact ⟨fun hp => Bool.noConfusion hp, fun hp => Bool.noConfusion hp⟩
  · rw [hb]; exact nil_blank k
  · rw [hq] at hp; cases hp
  · rw [hq] at hp; cases hp
  · rw [hb] at hp; cases hp
  · rw [hb] at hp; cases hp
  · rw [hq] at hp; cases hp

theorem FB.mono {E' : Nat → Prop} {s : Streams} (h : FB sv E s) (he : ∀ j, E j → E' j) : FB sv E' s :=
  ⟨h.nd, h.idm, h.fi, ⟨h.fx.q, fun k pid hp pushed hf hl hs => (h.fx.tg k pid hp pushed hf hl hs).imp id (he pushed), h.fx.lt, h.fx.pl,
    h.fx.ol, h.fx.lq⟩⟩

theorem FB.dropE {E' : Nat → Prop} {s : Streams} (h : FB sv E' s)
    (he : ∀ j, E' j → Live s j → E j ∨ (suB (s.stream j).state = true → (s.stream j).isPendingPush = true) ∨
      (∀ k pid, pid ∈ ppq s k → s.store.findKey? pid ≠ some j)) : FB sv E s := by
  refine ⟨h.nd, h.idm, h.fi, ⟨h.fx.q, fun k pid hp pushed hf hl hs => ?_, h.fx.lt, h.fx.pl, h.fx.ol, h.fx.lq⟩⟩
  rcases h.fx.tg k pid hp pushed hf hl hs with h1 | h1
  · exact .inl h1
  · rcases he pushed h1 hl with h2 | h2 | h2
    · exact .inr h2
    · exact .inl (h2 hs)
    · exact absurd hf (h2 k pid hp)

/-- both frames at once -/
structure Sx (sv : Bool) (s s' : Streams) : Prop where
  fk : FK s s'
  sk : SK sv s s'

theorem Sx.refl (s : Streams) : Sx sv s s := ⟨.refl _, .refl _⟩
theorem Sx.trans {a b c : Streams} (h1 : Sx sv a b) (h2 : Sx sv b c) : Sx sv a c :=
  ⟨h1.fk.trans h2.fk, h1.sk.trans h2.sk⟩
theorem Sx.of_fst_eq {s : Streams} {α : Type} {p : Streams × α} {a : Streams} {x : α}
    (h : p = (a, x)) (e : Sx sv s p.1) : Sx sv s a := by subst h; exact e
theorem Sx.of_step {s s' : Streams} (h : Streams.Step (fun k => FK.kinds k && SK.kinds k) s s') : Sx sv s s' :=
  ⟨.of_step (h.mono fun _ hk => (Bool.and_eq_true_iff.mp hk).1), .of_step (h.mono fun _ hk => (Bool.and_eq_true_iff.mp hk).2)⟩

theorem FB.st {s s' : Streams} (h : FB sv E s) (hfk : FK s s') (hsk : SK sv s s') : FB sv E s' := by
  refine ⟨(hfk.ids h.nd).1, fun id k hf hl => ?_, hfk.fi h.nd h.fi, ⟨fun k hl hs => ?_, fun k pid hp pushed hf hl hs => ?_,
    fun k pid hp n' hn' => ?_, fun k hp => ?_, fun k hp => ?_, fun k pid hp => h.fx.lq k pid ((hfk.ppq_sub k).subset hp)⟩⟩
  · rw [(hsk.st k hl).id]; exact h.idm id k ((hfk.ids h.nd).2 id k hf) (hsk.live k hl)
  · by_cases hk : Live s' k
    · have r := hsk.st k hk
      exact r.nil hs (by rw [← r.id]; exact hl) (h.fx.q k (by rw [← r.id]; exact hl) (r.su hs))
    · rw [stream_blank_of_not_live hk]; exact nil_blank k
  · have r := hsk.st pushed hl
    rcases h.fx.tg k pid ((hfk.ppq_sub k).subset hp) pushed ((hfk.ids h.nd).2 pid pushed hf) (hsk.live pushed hl) (r.su hs) with h1 | h1
    · exact .inl (r.pp hs h1)
    · exact .inr h1
  · obtain ⟨n, hn, hle⟩ := hsk.nx n' hn'
    exact Nat.lt_of_lt_of_le (h.fx.lt k pid ((hfk.ppq_sub k).subset hp) n hn) hle
  · by_cases hk : Live s' k
    · have r := hsk.st k hk
      rw [r.id]; exact h.fx.pl k (r.ppu hp)
    · rw [stream_blank_of_not_live hk] at hp; cases hp
  · by_cases hk : Live s' k
    · have r := hsk.st k hk
      rw [r.id]; exact h.fx.ol k ((hfk.fl k).po hp)
    · rw [stream_blank_of_not_live hk] at hp; cases hp

theorem FB.sx {s s' : Streams} (h : FB sv E s) (hx : Sx sv s s') : FB sv E s' := h.st hx.fk hx.sk

/-- a step that changes entry `k` only, keeping its id and queue; the new entry satisfies the per-entry parts, and
    is either no target of a queued PUSH_PROMISE, or neither counted nor waiting to be opened -/
theorem FB.one {s s' : Streams} {k : Nat} (h : FB sv E s)
    (hids : s'.store.ids = s.store.ids) (hnext : s'.actions.send.nextStreamId = s.actions.send.nextStreamId)
    (hlive : ∀ j, Live s' j → Live s j)
    (hother : ∀ j, j ≠ k → s'.stream j = s.stream j)
    (hid : (s'.stream k).id = (s.stream k).id)
    (hsend : (s'.stream k).pendingSend = (s.stream k).pendingSend)
    (hsu : suB (s'.stream k).state = true → suB (s.stream k).state = true)
    (hpp : (suB (s'.stream k).state = true → (s.stream k).isPendingPush = true → (s'.stream k).isPendingPush = true) ∨
      (∀ k' pid, pid ∈ ppq s k' → s.store.findKey? pid ≠ some k))
    (hpl : (s'.stream k).isPendingPush = true → locId sv (s'.stream k).id = true)
    (hol : (s'.stream k).isPendingOpen = true → locId sv (s'.stream k).id = true)
    (hone : One (s'.stream k))
    (hq : locId sv (s'.stream k).id = true → suB (s'.stream k).state = true → Nil (s'.stream k))
    (hfresh : (∀ k' pid, pid ∈ ppq s k' → s.store.findKey? pid ≠ some k) ∨
      ((s'.stream k).isCounted = false ∧ (s'.stream k).isPendingOpen = false)) : FB sv E s' := by
  have hppq : ∀ j, ppq s' j = ppq s j := fun j => by
    unfold ppq
    by_cases hj : j = k
    · subst hj; rw [hsend]
    · rw [hother j hj]
  have hfind : ∀ id, s'.store.findKey? id = s.store.findKey? id := fun id => by unfold Store.findKey?; rw [hids]
  refine ⟨by rw [hids]; exact h.nd, fun id j hf hl => ?_,
    ⟨fun j => ?_, ⟨fun j => by rw [hppq]; exact h.fi.ppu.nodup j, fun a b pid ha hb => ?_⟩, ?_⟩,
    ⟨fun j hl hs => ?_, fun k' pid hp pushed hf hl hs => ?_, fun k' pid hp n hn => ?_, fun j hp => ?_, fun j hp => ?_,
     fun k' pid hp => h.fx.lq k' pid (by rw [← hppq]; exact hp)⟩⟩
  · rw [hfind] at hf
    by_cases hj : j = k
    · subst hj; rw [hid]; exact h.idm id j hf (hlive _ hl)
    · rw [hother j hj]; exact h.idm id j hf (hlive _ hl)
  · by_cases hj : j = k
    · subst hj; exact hone
    · rw [hother j hj]; exact h.fi.unc j
  · rw [hppq] at ha hb; exact h.fi.ppu.disj a b pid ha hb
  · intro k' pid hp pushed hf
    rw [hppq] at hp; rw [hfind] at hf
    by_cases hj : pushed = k
    · subst hj
      rcases hfresh with h1 | h1
      · exact absurd hf (h1 k' pid hp)
      · exact h1
    · rw [hother pushed hj]; exact h.fi.ppf k' pid hp pushed hf
  · by_cases hj : j = k
    · subst hj; exact hq hl hs
    · rw [hother j hj] at hl hs ⊢; exact h.fx.q j hl hs
  · rw [hppq] at hp; rw [hfind] at hf
    by_cases hj : pushed = k
    · subst hj
      rcases hpp with hpp | hpp
      · rcases h.fx.tg k' pid hp pushed hf (hlive _ hl) (hsu hs) with h1 | h1
        · exact .inl (hpp hs h1)
        · exact .inr h1
      · exact absurd hf (hpp k' pid hp)
    · rw [hother pushed hj] at hs ⊢
      exact h.fx.tg k' pid hp pushed hf (hlive _ hl) hs
  · rw [hppq] at hp; rw [hnext] at hn; exact h.fx.lt k' pid hp n hn
  · by_cases hj : j = k
    · subst hj; exact hpl hp
    · rw [hother j hj] at hp ⊢; exact h.fx.pl j hp
  · by_cases hj : j = k
    · subst hj; exact hol hp
    · rw [hother j hj] at hp ⊢; exact h.fx.ol j hp

theorem modStream_next (s : Streams) (k : Nat) (f : Stream → Stream) :
    (s.modStream k f).actions.send.nextStreamId = s.actions.send.nextStreamId := by
  unfold Streams.modStream; split
  · rfl
  · rw [panic_actions]

theorem FB.modStream {s : Streams} {k : Nat} (h : FB sv E s) (f : Stream → Stream) (hk : ∀ x, (f x).key = x.key)
    (hid : (f (s.stream k)).id = (s.stream k).id)
    (hsend : (f (s.stream k)).pendingSend = (s.stream k).pendingSend)
    (hsu : suB (f (s.stream k)).state = true → suB (s.stream k).state = true)
    (hpp : (suB (f (s.stream k)).state = true → (s.stream k).isPendingPush = true → (f (s.stream k)).isPendingPush = true) ∨
      (∀ k' pid, pid ∈ ppq s k' → s.store.findKey? pid ≠ some k))
    (hpl : (f (s.stream k)).isPendingPush = true → locId sv (f (s.stream k)).id = true)
    (hol : (f (s.stream k)).isPendingOpen = true → locId sv (f (s.stream k)).id = true)
    (hone : One (f (s.stream k)))
    (hq : locId sv (f (s.stream k)).id = true → suB (f (s.stream k)).state = true → Nil (f (s.stream k)))
    (hfresh : (∀ k' pid, pid ∈ ppq s k' → s.store.findKey? pid ≠ some k) ∨
      ((f (s.stream k)).isCounted = false ∧ (f (s.stream k)).isPendingOpen = false)) : FB sv E (s.modStream k f) := by
  by_cases hl : Live s k
  · have hst := stream_modStream_live hl f hk
    refine h.one (k := k) (Streams.modStream_ids _ _ _) (modStream_next _ _ _) (fun j hj => (SameKeys.modStream _ _ _).live.mp hj)
      (fun j hj => ?_) ?_ ?_ ?_ ?_ ?_ ?_ ?_ ?_ ?_
    · rcases modStream_streams s k f hk j with e | ⟨e, _⟩
      · exact e
      · exact absurd e hj
    all_goals rw [hst]
    · exact hid
    · exact hsend
    · exact hsu
    · exact hpp
    · exact hpl
    · exact hol
    · exact hone
    · exact hq
    · exact hfresh
  · have : s.store.get? k = none := by
      cases hx : s.store.get? k with
      | none => rfl
      | some x => exact absurd ⟨x, hx⟩ hl
    unfold Streams.modStream; rw [this]
    exact h.st (panic_fk _ _) (panic_sk _ _)

theorem findKey?_insert {s : Streams} (st : Stream) (hfree : s.store.contains st.id = false) (id : Nat) :
    (s.store.insert st).1.findKey? id = if id = st.id then some s.store.nextKey else s.store.findKey? id := by
  have hany : s.store.ids.any (·.1 == st.id) = false := by
    cases ha : s.store.ids.any (·.1 == st.id) with
    | false => rfl
    | true =>
      exfalso
      obtain ⟨e, he, hid⟩ := List.any_eq_true.mp ha
      unfold Store.contains Store.findKey? at hfree
      cases hf : s.store.ids.find? (·.1 == st.id) with
      | none => exact absurd hid (by have := List.find?_eq_none.mp hf e he; simpa using this)
      | some x => rw [hf] at hfree; cases hfree
  have hnone : s.store.ids.find? (·.1 == st.id) = none := by
    refine List.find?_eq_none.mpr (fun e he => ?_)
    intro hh
    have : s.store.ids.any (·.1 == st.id) = true := List.any_eq_true.mpr ⟨e, he, by simpa using hh⟩
    rw [hany] at this; cases this
  have hids : (s.store.insert st).1.ids = s.store.ids ++ [(st.id, s.store.nextKey)] := by
    unfold Store.insert; simp only [hany, Bool.false_eq_true, if_false]
  unfold Store.findKey?
  rw [hids, List.find?_append]
  by_cases hid : id = st.id
  · subst hid
    rw [hnone]; simp
  · rw [if_neg hid]
    have : ([(st.id, s.store.nextKey)] : List (Nat × Nat)).find? (·.1 == id) = none := by
      simp only [List.find?_cons, List.find?_nil]
      have : (st.id == id) = false := by simpa using fun e => hid e.symm
      rw [this]
    rw [this, Option.or_none]

theorem insert_nodup {s : Streams} (st : Stream) (hfree : s.store.contains st.id = false)
    (hn : (s.store.ids.map (·.1)).Nodup) : ((s.store.insert st).1.ids.map (·.1)).Nodup := by
  have hnot : st.id ∉ s.store.ids.map (·.1) := by
    intro hm
    obtain ⟨e, he, hid⟩ := List.mem_map.mp hm
    unfold Store.contains Store.findKey? at hfree
    cases hf : s.store.ids.find? (·.1 == st.id) with
    | none => exact absurd hid (by have := List.find?_eq_none.mp hf e he; simpa using this)
    | some x => rw [hf] at hfree; cases hfree
  have hany : s.store.ids.any (·.1 == st.id) = false := by
    cases ha : s.store.ids.any (·.1 == st.id) with
    | false => rfl
    | true =>
      obtain ⟨e, he, hid⟩ := List.any_eq_true.mp ha
      exact absurd (List.mem_map.mpr ⟨e, he, by simpa using hid⟩) hnot
  have hids : (s.store.insert st).1.ids = s.store.ids ++ [(st.id, s.store.nextKey)] := by
    unfold Store.insert; simp only [hany, Bool.false_eq_true, if_false]
  rw [hids, List.map_append, List.nodup_append]
  refine ⟨hn, by simp, ?_⟩
  intro a ha b hb
  simp only [List.map_cons, List.map_nil, List.mem_singleton] at hb
  subst hb
  intro e; subst e; exact hnot ha

/-- **a new entry** (fresh, blank flags) whose id is not mapped: the new key becomes an exception of `tg` -/
theorem FB.insert {s : Streams} (h : FB sv E s) (hk : KeysOK s) (st : Stream) (hf : Fresh st) (hpp : st.isPendingPush = false)
    (hbd : st.bufferedSendData = 0) (hfree : s.store.contains st.id = false)
    (hio : ∀ id k, s.store.findKey? id = some k → Live s k) :
    FB sv (fun j => E j ∨ j = s.store.nextKey) { s with store := (s.store.insert st).1 } := by
  have hnew : (s.store.insert st).1.get? s.store.nextKey = some { st with key := s.store.nextKey } := insert_get?_new hk.fresh st
  have hold : ∀ j, j ≠ s.store.nextKey → ({ s with store := (s.store.insert st).1 } : Streams).stream j = s.stream j := by
    intro j hj
    unfold Streams.stream
    rcases insert_get?_cases s.store st j with e | ⟨_, e, _⟩
    · show ((s.store.insert st).1.get? j).getD _ = _
      rw [e]
    · exact absurd e hj
  have hns : ({ s with store := (s.store.insert st).1 } : Streams).stream s.store.nextKey = { st with key := s.store.nextKey } :=
    stream_of_get? hnew
  have hbl : s.stream s.store.nextKey = { key := s.store.nextKey, id := 0 } :=
    stream_blank_of_not_live (not_live_of_none (get?_nextKey_none hk.fresh))
  have hppq : ∀ j, ppq ({ s with store := (s.store.insert st).1 } : Streams) j = ppq s j := by
    intro j
    unfold ppq
    by_cases hj : j = s.store.nextKey
    · subst hj; rw [hns, hbl]; show ppIdsOf st.pendingSend = _; rw [hf.send]
    · rw [hold j hj]
  have hfind : ∀ id pushed, ({ s with store := (s.store.insert st).1 } : Streams).store.findKey? id = some pushed →
      pushed = s.store.nextKey ∨ s.store.findKey? id = some pushed := by
    intro id pushed hfd
    have : (s.store.insert st).1.findKey? id = some pushed := hfd
    rw [findKey?_insert st hfree] at this
    split at this
    · left; cases this; rfl
    · right; exact this
  have holdl : ∀ j, j ≠ s.store.nextKey → Live ({ s with store := (s.store.insert st).1 } : Streams) j → Live s j := by
    intro j hj hl
    obtain ⟨x, hx⟩ := hl
    have hx' : (s.store.insert st).1.get? j = some x := hx
    rcases insert_get?_cases s.store st j with e' | ⟨_, e', _⟩
    · rw [e'] at hx'; exact ⟨x, hx'⟩
    · exact absurd e' hj
  refine ⟨insert_nodup st hfree h.nd, fun id j hfd hl => ?_,
    ⟨fun j => ?_, ⟨fun j => by rw [hppq]; exact h.fi.ppu.nodup j, fun a b pid ha hb => ?_⟩, ?_⟩,
    ⟨fun j hl hs => ?_, fun k' pid hp pushed hfd hl hs => ?_, fun k' pid hp n hn => ?_, fun j hp => ?_, fun j hp => ?_,
     fun k' pid hp => h.fx.lq k' pid (by rw [← hppq]; exact hp)⟩⟩
  · have hfd' : (s.store.insert st).1.findKey? id = some j := hfd
    rw [findKey?_insert st hfree] at hfd'
    split at hfd'
    · next hid => cases hfd'; rw [hns]; exact hid.symm
    · have hj : j ≠ s.store.nextKey := by
        intro e; subst e
        exact not_live_of_none (get?_nextKey_none hk.fresh) (hio id _ hfd')
      rw [hold j hj]; exact h.idm id j hfd' (holdl j hj hl)
  · by_cases hj : j = s.store.nextKey
    · subst hj; rw [hns]
      refine ⟨fun hp => ?_, fun ho => ?_⟩
      · have hp' : st.isPendingPush = true := hp
        rw [hpp] at hp'; cases hp'
      · have ho' : st.isPendingOpen = true := ho
        have h2 : st.isPendingOpen = false := hf.fl .pendingOpen
        rw [ho'] at h2; cases h2
    · rw [hold j hj]; exact h.fi.unc j
  · rw [hppq] at ha hb; exact h.fi.ppu.disj a b pid ha hb
  · intro k' pid hp pushed hfd
    rw [hppq] at hp
    rcases hfind pid pushed hfd with e | e
    · subst e; rw [hns]
      exact ⟨hf.counted, hf.fl .pendingOpen⟩
    · by_cases hj : pushed = s.store.nextKey
      · subst hj; rw [hns]; exact ⟨hf.counted, hf.fl .pendingOpen⟩
      · rw [hold pushed hj]; exact h.fi.ppf k' pid hp pushed e
  · by_cases hj : j = s.store.nextKey
    · subst hj; rw [hns]
      exact ⟨hf.counted, hf.fl .pendingOpen, hf.send, hbd⟩
    · rw [hold j hj] at hl hs ⊢; exact h.fx.q j hl hs
  · rw [hppq] at hp
    by_cases hj : pushed = s.store.nextKey
    · exact .inr (.inr hj)
    · rcases hfind pid pushed hfd with e | e
      · exact absurd e hj
      · rw [hold pushed hj] at hs ⊢
        exact (h.fx.tg k' pid hp pushed e (holdl pushed hj hl) hs).imp id .inl
  · rw [hppq] at hp; exact h.fx.lt k' pid hp n hn
  · by_cases hj : j = s.store.nextKey
    · subst hj; rw [hns] at hp
      have hp' : st.isPendingPush = true := hp
      rw [hpp] at hp'; cases hp'
    · rw [hold j hj] at hp ⊢; exact h.fx.pl j hp
  · by_cases hj : j = s.store.nextKey
    · subst hj; rw [hns] at hp
      have hp' : st.isPendingOpen = true := hp
      have h2 : st.isPendingOpen = false := hf.fl .pendingOpen
      rw [hp'] at h2; cases h2
    · rw [hold j hj] at hp ⊢; exact h.fx.ol j hp

end H2V.Lemmas.ConnNoPanicP
