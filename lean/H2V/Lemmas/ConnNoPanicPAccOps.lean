import H2V.Lemmas.ConnNoPanicPAccTear
import H2V.Lemmas.ConnDataRule
/-
  C08 (no panic) — the server accept path: every frame entry point of `Inner` keeps `J`.
-/
namespace H2V.Lemmas.ConnNoPanicP
open H2V H2V.Model H2V.Model.Conn H2V.Lemmas.ConnCountsP
attribute [local irreducible] wrapSubU32 wrapSubUsize

theorem notRemote_of_libErr {res : Except PErr Unit} (h : Streams.LibErr res) : NotRemote res :=
  fun _ he id r e => h id r (by rw [he, e])

/-- the closure of `Inner::recv_headers` keeps `J`: everything but `Recv::recv_headers` is a frame step (`AL`) -/
theorem j_headersBodyRule (k : Nat) (h : HeadersIn) : Streams.HeadersBodyRule k h J (fun s => Live s k) (fun _ => True) J where
  hdrs s hj hl := ⟨recvRecvHeaders_j hj hl h, trivial⟩
  big s hj _ := hj.al0 (by unfold Streams.answer431; al_auto)
  unsup _ _ hj := hj.al0 (unsup_al _ _)
  trailers s hj hl := hj.al0 (recvRecvTrailers_al s k h hl)
  done _ hj := hj
  rst s e hj hr := hj.al0 (resetOnRecvStreamErr_al s k _ (notRemote_of_libErr hr))

/-- `Inner::recv_headers` keeps `J`: `Recv::open` is a frame step, the new entry is `J.insert` -/
theorem recvHeaders_j {s : Streams} (hn : NPI (fun _ => False) s) (hj : J s) (h : HeadersIn) : J (s.recvHeaders h).1 :=
  Streams.HeadersRule.run (L := fun k s => Live s k)
    { pre := hj
      found _ hfk := (hn.ids.findKey hfk).1
      opn _ := hj.al0 (.of_step (Streams.recvOpen_step (by decide) s h.sid false))
      ins s1 _ hro := by
        have hal : AL [] s s1 := by
          have := AL.of_step (ks := []) (Streams.recvOpen_step (by decide) s h.sid false); rw [hro] at this; exact this
        exact ⟨(hj.al0 hal).insert _ rfl rfl rfl, ⟨_, insert_get?_new (hal.keys.keysOK hn.keys).fresh _⟩⟩
      body s k := (j_headersBodyRule k h).run s
      ta _ k b hj := hj.transitionAfter k b }

theorem j_dataBodyRule (k : Nat) (payload : Bytes) (eos : Bool) (pad : Option Nat) :
    Streams.DataBodyRule k payload eos pad J J J where
  data s hj := hj.al0 (recvRecvData_al s k payload eos pad)
  count s hj := hj.al0 (setCounts_al _ _ (cok_recordDataFrame _ _))
  release s _ hj := hj.al0 (AL.of_step (Streams.releaseConnectionCapacity_step (by decide) _ _ _))
  done _ hj := hj
  rst s e hj hr := hj.al0 (resetOnRecvStreamErr_al s k _ (notRemote_of_libErr hr))

theorem recvData_j {s : Streams} (hj : J s) (id : Nat) (payload : Bytes) (eos : Bool) (pad : Option Nat) :
    J (s.recvData id payload eos pad).1 :=
  Streams.DataRule.run (L := fun _ _ => True)
    { pre := hj
      found := fun _ _ => trivial
      ignore := fun sz => hj.al0 (.of_step (Streams.ignoreData_step (by decide) s sz))
      body := fun s k hj _ => (j_dataBodyRule k payload eos pad).run s hj
      ta := fun _ k b hj => hj.transitionAfter k b }

theorem recvResetClosure_j {s : Streams} (hj : J s) {k : Nat} (hk : Live s k) (r : Reason) : J (recvResetClosure k r s).1 := by
  unfold recvResetClosure
  have h1 := recvRecvReset_j hj hk r
  generalize s.recvRecvReset k r = p at h1
  obtain ⟨s1, res⟩ := p
  cases res with
  | error e => exact h1
  | ok u =>
    simp only []
    refine h1.al0 ?_
    al_auto

theorem recvReset_j {s : Streams} (hn : NPI (fun _ => False) s) (hj : J s) (id : Nat) (r : Reason) : J (s.recvReset id r).1 := by
  unfold Streams.recvReset
  split
  · exact hj
  split
  · exact hj
  cases hfk : s.store.findKey? id with
  | none => simp only []; split <;> exact hj
  | some k =>
    simp only []
    split
    · exact hj
    · exact J.transition k (recvResetClosure k r) (recvResetClosure_j hj (hn.ids.findKey hfk).1 r)

theorem actionsSendReset_j {s : Streams} (hj : J s) (k : Nat) (reason : Reason) (init : Initiator) (hi : init ≠ .remote) :
    J (s.actionsSendReset k reason init).1 :=
  hj.at (.of_step (Streams.actionsSendReset_step (by decide) s k reason init fun e => absurd e hi))

theorem innerSendReset_j {s : Streams} (hj : J s) (id : Nat) (reason : Reason) : J (s.innerSendReset id reason).1 := by
  unfold Streams.innerSendReset
  cases hfk : s.store.findKey? id with
  | some k =>
    simp only []
    exact actionsSendReset_j hj k reason .library (by decide)
  | none =>
    simp only []
    generalize hs1 : (if s.counts.isLocalInit id = true then s.sendMaybeResetNextStreamId id else s.recvMaybeResetNextStreamId id) = s1
    have h1 : J s1 := by
      rw [← hs1]; split
      · exact hj.al0 (AL.of_step (Streams.sendMaybeResetNextStreamId_step (by decide) s id))
      · exact hj.al0 (AL.of_step (Streams.recvMaybeResetNextStreamId_step (by decide) s id))
    exact actionsSendReset_j (h1.insert (Stream.new id 0 0) rfl rfl rfl) _ reason .library (by decide)

end H2V.Lemmas.ConnNoPanicP
