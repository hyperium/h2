import H2V.Lemmas.ConnResetPBase
import H2V.Lemmas.CompState
/-
  ConnResetP — send-side life cycle (C04): stream identifiers, what may be queued in which state.
-/
namespace H2V.Lemmas.ConnResetP
open H2V H2V.Model H2V.Model.Conn

/-- `Send::open` hands out `next_stream_id` and advances it by two, or to `Err(overflow)` past 2^31-1 -/
theorem sendOpenId_ok (s : Streams) (id : Nat) (h : s.actions.send.nextStreamId = some id) :
    s.sendOpenId.2 = .ok id ∧
    s.sendOpenId.1.actions.send.nextStreamId = (if id + 2 > 2147483647 then none else some (id + 2)) := by
  unfold Streams.sendOpenId; rw [h]; exact ⟨rfl, rfl⟩

theorem sendOpenId_overflow (s : Streams) (h : s.actions.send.nextStreamId = none) :
    s.sendOpenId = (s, .error .overflowedStreamId) := by
  unfold Streams.sendOpenId; rw [h]

/-- two consecutive identifiers: strictly increasing, same parity, never wrapped -/
theorem sendOpenId_twice (s : Streams) (id id' : Nat) (h : s.sendOpenId.2 = .ok id) (h' : s.sendOpenId.1.sendOpenId.2 = .ok id') :
    id' = id + 2 ∧ id' ≤ 2147483647 := by
  cases hn : s.actions.send.nextStreamId with
  | none => rw [sendOpenId_overflow s hn] at h; cases h
  | some n =>
    have := sendOpenId_ok s n hn
    rw [this.1] at h; cases h
    by_cases hov : id + 2 > 2147483647
    · rw [if_pos hov] at this
      rw [sendOpenId_overflow _ this.2] at h'; cases h'
    · rw [if_neg hov] at this
      have h2 := sendOpenId_ok _ _ this.2
      rw [h2.1] at h'; cases h'
      omega

/-- `send_request` with the identifiers used up: refused, nothing changes -/
theorem sendRequest_overflow (s : Streams) (isHead : Bool) (f : List Hpack.Field) (eos : Bool) (p : Option Nat)
    (hc : s.actions.connError = none) (h : s.actions.send.nextStreamId = none) :
    s.sendRequest isHead f eos p = (s, .error (.user .overflowedStreamId)) := by
  unfold Streams.sendRequest Streams.ensureNoConnError
  simp [hc, h]

/-- …and they stay used up: nothing but `Send::open` / `maybe_reset_next_stream_id` writes the field, and both keep `Err` -/
theorem sendOpenId_none_stays (s : Streams) (h : s.actions.send.nextStreamId = none) :
    s.sendOpenId.1.actions.send.nextStreamId = none := by
  rw [sendOpenId_overflow s h]; exact h

/-- DATA is only accepted while our side is streaming (HEADERS sent, END_STREAM not yet): otherwise the
    call fails and nothing changes -/
theorem prioSendData_not_streaming (s : Streams) (id len : Nat) (eos : Bool)
    (h : (s.stream id).state.isSendStreaming = false) :
    (s.prioSendData id len eos).1 = s ∧ ∃ e, (s.prioSendData id len eos).2 = .error e := by
  unfold Streams.prioSendData
  by_cases hl : len > Generated.Consts.MAX_WINDOW_SIZE
  · rw [if_pos hl]; exact ⟨rfl, _, rfl⟩
  · rw [if_neg hl, if_pos (by rw [h]; rfl)]; exact ⟨rfl, _, rfl⟩

/-- trailers likewise -/
theorem sendTrailers_not_streaming (s : Streams) (id : Nat) (f : List Hpack.Field)
    (h : (s.stream id).state.isSendStreaming = false) :
    (s.sendTrailers id f).1 = s ∧ ∃ e, (s.sendTrailers id f).2 = .error e := by
  unfold Streams.sendTrailers
  split
  · exact ⟨rfl, _, rfl⟩
  · simp only [h, Bool.not_false, if_true]; exact ⟨trivial, _, rfl⟩

/-- HEADERS through `send_headers` need a state in which RFC 9113 allows sending HEADERS
    (`State::send_open`, see `H2V.Lemmas.Comp.sendOpen_refines`): otherwise the call fails and nothing changes -/
theorem sendHeaders_refused (s : Streams) (id : Nat) (eos : Bool) (f : List Hpack.Field)
    (h : Spec.Lifecycle.step (H2V.Lemmas.Comp.phase (s.stream id).state) (.sendH eos) = none) :
    (s.sendHeaders id eos f).1 = s ∧ ∃ e, (s.sendHeaders id eos f).2 = .error e := by
  unfold Streams.sendHeaders
  split
  · exact ⟨rfl, _, rfl⟩
  · rw [H2V.Lemmas.Comp.sendOpen_forbidden h]; exact ⟨rfl, _, rfl⟩

/-- 1xx HEADERS are refused once the response was started or the stream is send-closed -/
theorem sendInformational_refused (s : Streams) (id : Nat) (f : List Hpack.Field)
    (h : ((s.stream id).state.isSendStreaming || (s.stream id).state.isSendClosed) = true) :
    (s.sendInterimInformationalHeaders id f).1 = s ∧ ∃ e, (s.sendInterimInformationalHeaders id f).2 = .error e := by
  unfold Streams.sendInterimInformationalHeaders
  split
  · exact ⟨rfl, _, rfl⟩
  · simp only [h, if_true]; exact ⟨trivial, _, rfl⟩

/-- PUSH_PROMISE on a parent whose send side is closed (END_STREAM sent or queued, reset, failed) is
    refused: the call fails, nothing is queued -/
theorem sendPushPromise_send_closed (s : Streams) (p k i : Nat) (f : List Hpack.Field)
    (h : (s.stream p).state.isSendClosed = true) :
    (s.sendPushPromise p k i f).1 = s ∧ ∃ e, (s.sendPushPromise p k i f).2 = .error e := by
  unfold Streams.sendPushPromise
  split
  · exact ⟨rfl, _, rfl⟩
  · simp only [h]; exact ⟨trivial, _, rfl⟩

/-- …so a PUSH_PROMISE is only ever queued on a parent that is not send-closed -/
theorem sendPushPromise_ok_parent (s : Streams) (p k i : Nat) (f : List Hpack.Field)
    (h : (s.sendPushPromise p k i f).2 = .ok ()) : (s.stream p).state.isSendClosed = false := by
  cases hc : (s.stream p).state.isSendClosed with
  | false => rfl
  | true =>
    obtain ⟨_, e, he⟩ := sendPushPromise_send_closed s p k i f hc
    rw [he] at h; cases h

/-- a stream that has left idle / reserved (local) and is not send-closed is in a phase in which
    RFC 9113 lets us send (`Spec.Lifecycle.canSend`: open or half-closed (remote)) -/
theorem canSend_of_not_sendClosed (x : State) (h : x.isSendClosed = false)
    (hi : H2V.Lemmas.Comp.phase x ≠ .idle) (hr : H2V.Lemmas.Comp.phase x ≠ .reservedLocal) :
    Spec.Lifecycle.canSend (H2V.Lemmas.Comp.phase x) = true := by
  rcases x with ⟨_ | _ | _ | ⟨_ | _, _ | _⟩ | ⟨_ | _⟩ | ⟨_ | _⟩ | ⟨_ | _ | _ | _⟩⟩ <;>
    simp_all [State.isSendClosed, H2V.Lemmas.Comp.phase, Spec.Lifecycle.canSend]

end H2V.Lemmas.ConnResetP
