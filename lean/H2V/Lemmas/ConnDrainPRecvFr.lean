import H2V.Lemmas.ConnDrainPFuel
import H2V.Lemmas.ConnStepOp
/-
  ConnDrainP — the send side (`Prioritize::buffer_pending` and everything below it) never touches
  `Recv`: its footprint has no kind that writes it (`recv_of_step`); the arithmetic of the connection-level WINDOW_UPDATE.
-/
namespace H2V.Lemmas.ConnDrainP
open H2V H2V.Model H2V.Model.Conn


/-- the three queues of `Prioritize` -/
def sendQ : QName → Bool
  | .pendingSend | .pendingCapacity | .pendingOpen => true
  | _ => false

@[simp] theorem recv_wake (s : Streams) (w : List String) : (s.wake w).actions.recv = s.actions.recv := rfl
@[simp] theorem recv_setStream (s : Streams) (x : Stream) : (s.setStream x).actions.recv = s.actions.recv := rfl
@[simp] theorem recv_modPrio (s : Streams) (f : Prioritize → Prioritize) : (s.modPrio f).actions.recv = s.actions.recv := rfl
@[simp] theorem recv_modCounts (s : Streams) (f : Counts → Counts) : (s.modCounts f).actions.recv = s.actions.recv := rfl
@[simp] theorem recv_notifyTask (s : Streams) : s.notifyTask.actions.recv = s.actions.recv := s.notifyTask_recv

theorem setQ_recv (s : Streams) {q : QName} (l : List Nat) (h : sendQ q = true) : (s.setQ q l).recv = s.recv := by
  cases q <;> first | rfl | cases h

/-- the kinds that write `Recv`: its flow, its settings and ids (`Recv.Upd`), and a push to / pop from one of its queues -/
def recvK : Kind → Bool
  | .connRecvFlow | .config | .ids | .nextId => false
  | .enqueue q | .dequeue q => sendQ q
  | _ => true

theorem recv_of_step {s s' : Streams} (h : Streams.Step recvK s s') : s'.recv = s.recv :=
  h.recv_rel (r := fun a b => b = a) (fun _ => rfl) (fun a b => b.trans a)
    (fun _ _ hu => by
      cases hu with
      | flow _ hK | flowIn _ _ hK | initWindowSz _ hK | extendedConnect _ hK | lastProcessedId _ hK
      | maxStreamId _ hK | refused _ hK | bumpNext _ _ hK _ _ => cases hK)
    fun t _ l hK => setQ_recv t l (hK.elim id id)

theorem reclaimFrame_recv (s : Streams) (w : Writer) : (s.reclaimFrame w).1.recv = s.recv :=
  recv_of_step (Streams.reclaimFrame_step (by decide) s w)

theorem prioLoop_recv (n : Nat) : ∀ (s : Streams) (w : Writer), (Streams.prioBufferPendingLoop n s w).1.recv = s.recv :=
  fun s w => recv_of_step (Streams.prioBufferPendingLoop_step (by decide) n s w)


theorem wrapI32_of_range (d : Int) (h0 : 0 ≤ d) (h1 : d < 4294967296) :
    wrapI32 d = if d < 2147483648 then d else d - 4294967296 := by
  have := Comp.wrapI32_spec d
  split <;> omega

theorem u32AsI32_of_lt (n : Nat) (h : n < 4294967296) :
    u32AsI32 n = if n < 2147483648 then (n : Int) else (n : Int) - 4294967296 := by
  unfold u32AsI32 U32_MOD
  simp only
  rw [Nat.mod_eq_of_lt h]
  rfl

theorem unclaimed_none_after_update {f f' : FlowControl} {incr : Nat}
    (ha : f.available.val ≤ 2147483647) (hw : -2147483648 ≤ f.windowSize.val)
    (hu : f.unclaimedCapacity = some incr) (hi : f.incWindow incr = (f', .ok ())) :
    f'.unclaimedCapacity = none := by
  unfold FlowControl.unclaimedCapacity at hu
  split at hu
  · cases hu
  · next hlt =>
    simp only at hu
    split at hu
    · cases hu
    · next hth =>
      have hd0 : 0 < f.available.val - f.windowSize.val := by omega
      have hd1 : f.available.val - f.windowSize.val < 4294967296 := by omega
      have hwr := wrapI32_of_range _ (Int.le_of_lt hd0) hd1
      have hinc : incr = (f.available.val - f.windowSize.val).toNat := by
        injection hu with hu
        rw [← hu, hwr]
        unfold U32_MOD
        split <;> omega
      have hlt32 : incr < 4294967296 := by omega
      have hu32 := u32AsI32_of_lt incr hlt32
      unfold FlowControl.incWindow at hi
      simp only at hi
      split at hi
      · cases hi
      · next hin =>
        split at hi
        · cases hi
        · next hmax =>
          injection hi with hi _
          subst hi
          have hin' : inI32 (f.windowSize.val + u32AsI32 incr) = true := by simpa using hin
          simp only [inI32, I32_MIN, I32_MAX, Bool.and_eq_true] at hin'
          have hin1 := of_decide_eq_true hin'.1
          have hin2 := of_decide_eq_true hin'.2
          clear hin'
          unfold FlowControl.unclaimedCapacity
          have : f.windowSize.val + u32AsI32 incr ≥ f.available.val := by
            have hcast : (incr : Int) = f.available.val - f.windowSize.val := by omega
            by_cases hc : incr < 2147483648
            · have hval : u32AsI32 incr = (incr : Int) := by rw [hu32, if_pos hc]
              rw [hval] at hin1 hin2 ⊢
              clear hu32 hin hmax hth hwr hu hval
              omega
            · have hval : u32AsI32 incr = (incr : Int) - 4294967296 := by rw [hu32, if_neg hc]
              rw [hval] at hin1 hin2 ⊢
              clear hu32 hin hmax hth hwr hu hval
              omega
          simp only [ge_iff_le, this, if_true]

end H2V.Lemmas.ConnDrainP
