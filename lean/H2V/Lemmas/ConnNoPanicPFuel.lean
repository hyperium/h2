import H2V.Lemmas.ConnNoPanicPBase
import H2V.Lemmas.ConnResetPFuel
/-
  C08 — fuel of the remaining silent loops: `Store::try_for_each` (both variants) and
  `Recv::send_stream_window_updates`.  With at least `len - i + 1` (resp. `queue length + 1`) units the
  result no longer depends on the fuel; the callers pass `2·len + 1` (resp. `len + 1`).
-/
namespace H2V.Lemmas.ConnNoPanicP
open H2V H2V.Model H2V.Model.Conn H2V.Lemmas.ConnCountsP

theorem tryForEach_fuel (f : Streams → Nat → Streams × Option PErr) :
    ∀ (n m i len : Nat) (s : Streams), len - i < n → len - i < m →
      Streams.tryForEach f n i len s = Streams.tryForEach f m i len s := by
  intro n
  induction n with
  | zero => intro m i len s h; omega
  | succ n ih =>
    intro m i len s hn hm
    cases m with
    | zero => omega
    | succ m =>
      unfold Streams.tryForEach
      split
      · next hlt =>
        split
        · rfl
        · split
          · rfl
          · dsimp only
            split
            · exact ih m i (len - 1) _ (by omega) (by omega)
            · exact ih m (i + 1) len _ (by omega) (by omega)
      · rfl

/-- `Store::try_for_each` passes `2·len + 1 > len - 0` -/
theorem storeTryForEach_fuel_enough (s : Streams) : s.store.ids.length - 0 < 2 * s.store.ids.length + 1 := by omega

theorem tryForEachAcc_fuel (f : Nat → Streams → Nat → Streams × Nat × Option PErr) :
    ∀ (n m i len acc : Nat) (s : Streams), len - i < n → len - i < m →
      Streams.tryForEachAcc f n i len acc s = Streams.tryForEachAcc f m i len acc s := by
  intro n
  induction n with
  | zero => intro m i len acc s h; omega
  | succ n ih =>
    intro m i len acc s hn hm
    cases m with
    | zero => omega
    | succ m =>
      unfold Streams.tryForEachAcc
      split
      · next hlt =>
        split
        · rfl
        · split
          · rfl
          · dsimp only
            split
            · exact ih m i (len - 1) _ _ (by omega) (by omega)
            · exact ih m (i + 1) len _ _ (by omega) (by omega)
      · rfl

theorem qPop_length (s : Streams) (q : QName) (s' : Streams) (id : Nat) (h : s.qPop q = (s', some id)) :
    (s'.getQ q).length + 1 = (s.getQ q).length := by
  unfold Streams.qPop at h
  split at h
  · cases h
  · next id' rest heq =>
    cases h
    rw [heq, getQ_modStream, getQ_setQ]; rfl

theorem transitionAfter_getQ (s : Streams) (k : Nat) (b : Bool) (q : QName) : (s.transitionAfter k b).getQ q = s.getQ q := by
  unfold Streams.getQ Streams.prio Streams.recv; rw [ConnResetP.transitionAfter_actions]

/-- **`Recv::send_stream_window_updates` terminates after `pending_window_updates.len()` rounds** (the caller passes `len + 1`) -/
theorem sendStreamWindowUpdates_fuel :
    ∀ (n m : Nat) (s : Streams) (w : Writer), s.recv.pendingWindowUpdates.length < n → s.recv.pendingWindowUpdates.length < m →
      Streams.sendStreamWindowUpdates n s w = Streams.sendStreamWindowUpdates m s w := by
  intro n
  induction n with
  | zero => intro m s w h; omega
  | succ n ih =>
    intro m s w hn hm
    cases m with
    | zero => omega
    | succ m =>
      unfold Streams.sendStreamWindowUpdates
      split
      · rfl
      · cases hq : s.qPop .pendingWindowUpdates with
        | mk s1 o =>
          cases o with
          | none => rfl
          | some id =>
            have hlen := qPop_length s .pendingWindowUpdates s1 id hq
            simp only []
            generalize hp : (if (!(s1.stream id).state.isRecvStreaming) = true then (s1, w) else _ : Streams × Writer) = p
            obtain ⟨s2, w2⟩ := p
            have hq2 : s2.getQ .pendingWindowUpdates = s1.getQ .pendingWindowUpdates := by
              split at hp
              · cases hp; rfl
              · split at hp
                · split at hp
                  · cases hp; exact getQ_modStream _ _ _ _
                  · cases hp; exact Streams.panic_getQ _ _ _
                · cases hp; rfl
            simp only []
            have hl2 : ((s2.transitionAfter id (s1.stream id).isPendingResetExpiration).recv.pendingWindowUpdates).length + 1 =
                s.recv.pendingWindowUpdates.length := by
              have := transitionAfter_getQ s2 id (s1.stream id).isPendingResetExpiration .pendingWindowUpdates
              show ((s2.transitionAfter id _).getQ .pendingWindowUpdates).length + 1 = (s.getQ .pendingWindowUpdates).length
              rw [this, hq2]; exact hlen
            exact ih m _ _ (by omega) (by omega)

end H2V.Lemmas.ConnNoPanicP
