import H2V.Model.HpackEnc
import H2V.Spec.Hpack
import H2V.Lemmas.Huffman
/-
  C10 — what `encode_int` / `encode_str` (h2, model) write is read back by the RFC 7541
  reference (`Spec.Hpack.int`, `Spec.Hpack.str`), whatever follows in the buffer.
-/
namespace H2V.Lemmas.HpackEnc
open H2V H2V.Model.Hpack

theorem or128 : ∀ x, x < 128 → (128 ||| x) = 128 + x := by decide +kernel

theorem intCont_encodeIntLoop : ∀ (fuel w acc m : Nat) (rest : Bytes), 0 < fuel → w < 128 ^ fuel →
    Spec.Hpack.intCont (encodeIntLoop fuel w ++ rest) acc m = some (acc + w * 2 ^ m, rest) := by
  intro fuel
  induction fuel with
  | zero => intro w acc m rest h; omega
  | succ fuel ih =>
    intro w acc m rest _ hw
    simp only [encodeIntLoop]
    by_cases hge : w ≥ 128
    · rw [if_pos hge]
      have hlt : w % 128 < 128 := Nat.mod_lt _ (by decide)
      simp only [List.cons_append, Spec.Hpack.intCont, or128 _ hlt]
      rw [if_neg (by omega)]
      have e2 : w >>> 7 = w / 128 := Nat.shiftRight_eq_div_pow w 7
      have hw' : w / 128 < 128 ^ fuel := by
        apply Nat.div_lt_of_lt_mul
        rw [Nat.pow_succ, Nat.mul_comm] at hw
        exact hw
      have hfuel : 0 < fuel := by
        cases fuel with
        | zero => simp at hw'; omega
        | succ k => omega
      rw [e2, ih (w / 128) _ (m + 7) rest hfuel hw']
      have e1 : (128 + w % 128) % 128 = w % 128 := by omega
      have e3 : 2 ^ (m + 7) = 128 * 2 ^ m := by rw [Nat.pow_add]; omega
      rw [e1, e3]
      have hdm := Nat.div_add_mod w 128
      generalize w / 128 = q at hdm ⊢
      generalize w % 128 = r at hdm ⊢
      subst hdm
      generalize 2 ^ m = X
      simp only [Option.some.injEq, Prod.mk.injEq, and_true]
      grind
    · rw [if_neg hge]
      simp only [List.cons_append, List.nil_append, Spec.Hpack.intCont]
      rw [if_pos (by omega), Nat.mod_eq_of_lt (by omega)]

theorem first_or_mod (first v p : Nat) (hf : first % 2 ^ p = 0) (hv : v < 2 ^ p) :
    (first ||| v) % 2 ^ p = v := by
  rw [Nat.or_mod_two_pow, hf, Nat.zero_or, Nat.mod_eq_of_lt hv]

/-- the reference reads back what `encode_int` wrote (every `usize`), and
    leaves what follows untouched.  (`encode_int`'s loop is unbounded in Rust; the model gives it 11
    octets, enough for every value `< 2^64`.) -/
theorem spec_int_roundtrip (v p first : Nat) (rest : Bytes)
    (hf : first % 2 ^ p = 0) (hv : v < 2 ^ 64) :
    Spec.Hpack.int p (encodeInt v p first ++ rest) = some (v, rest) := by
  have hpos : 0 < 2 ^ p := Nat.pos_of_ne_zero (by simp)
  unfold encodeInt
  by_cases hlt : v < 2 ^ p - 1
  · simp only [if_pos hlt, List.cons_append, List.nil_append, Spec.Hpack.int]
    rw [first_or_mod first v p hf (by omega), if_pos hlt]
  · simp only [if_neg hlt, List.cons_append, Spec.Hpack.int]
    rw [first_or_mod first (2 ^ p - 1) p hf (by omega), if_neg (by omega)]
    rw [intCont_encodeIntLoop 11 (v - (2 ^ p - 1)) _ 0 rest (by decide)
      (by simp only [Nat.reducePow] at hv ⊢; omega)]
    simp only [Nat.pow_zero, Nat.mul_one, Option.some.injEq, Prod.mk.injEq, and_true]
    omega

theorem encodeInt_head (v p first : Nat) (hf : first % 2 ^ p = 0) :
    ∃ b tl, encodeInt v p first = b :: tl ∧ first ≤ b ∧ b < first + 2 ^ p := by
  have hpos : 0 < 2 ^ p := Nat.pos_of_ne_zero (by simp)
  have hor : ∀ x, x < 2 ^ p → first ≤ (first ||| x) ∧ (first ||| x) < first + 2 ^ p := fun x hx => by
    rw [Huffman.or_eq_add hf hx]; omega
  unfold encodeInt
  by_cases hlt : v < 2 ^ p - 1
  · exact ⟨first ||| v, [], by simp [hlt], hor v (by omega)⟩
  · exact ⟨first ||| (2 ^ p - 1), encodeIntLoop 11 (v - (2 ^ p - 1)), by simp only [if_neg hlt],
      hor _ (by omega)⟩

theorem encodeInt_ne_nil (v p first : Nat) : encodeInt v p first ≠ [] := by
  unfold encodeInt
  by_cases h : v < 2 ^ p - 1
  · simp only [if_pos h]; exact List.cons_ne_nil _ _
  · simp only [if_neg h]; exact List.cons_ne_nil _ _

theorem pack_length_le : ∀ (fuel : Nat) (bits : List Bool),
    (Spec.Huffman.pack fuel bits).length ≤ bits.length := by
  intro fuel
  induction fuel with
  | zero => intro bits; simp [Spec.Huffman.pack]
  | succ fuel ih =>
    intro bits
    simp only [Spec.Huffman.pack]
    split
    · simp
    · rename_i hne
      have := ih (bits.drop 8)
      simp only [List.length_cons, List.length_drop] at this ⊢
      cases bits with
      | nil => simp at hne
      | cons b t => simp only [List.length_cons] at this ⊢; omega

theorem symBits_length_le (s : Nat) : (Spec.Huffman.symBits s).length ≤ 30 := by
  unfold Spec.Huffman.symBits
  split
  · rename_i l c h
    have := Huffman.code_range (s := s) (n := l) (c := c) h
    simp only [Huffman.codeBits_length]; omega
  · simp

theorem encodeBits_length_le (s : List Nat) : (Spec.Huffman.encodeBits s).length ≤ 30 * s.length := by
  induction s with
  | nil => simp [Spec.Huffman.encodeBits]
  | cons a t ih =>
    have := symBits_length_le a
    simp only [Spec.Huffman.encodeBits, List.length_append, List.length_cons]; omega

/-- a Huffman-coded string is at most 30 bits per octet -/
theorem huffman_length_le (s : Bytes) (h : Bytes.Valid s) :
    (Model.Huffman.encode s).length ≤ 30 * s.length := by
  rw [Huffman.encode_eq_spec s h]
  unfold Spec.Huffman.encode
  exact Nat.le_trans (pack_length_le _ _) (encodeBits_length_le s)

/-- the reference reads back what `encode_str` wrote (always Huffman;
    the empty string as the single octet 0), and leaves what follows untouched.
    The length bound keeps the Huffman-coded length a `usize`. -/
theorem spec_str_roundtrip (s rest : Bytes) (h : Bytes.Valid s) (hl : s.length < 2 ^ 59) :
    Spec.Hpack.str (encodeStr s ++ rest) = .ok (s, rest) := by
  unfold encodeStr
  cases s with
  | nil => simp [Spec.Hpack.str, Spec.Hpack.int]
  | cons a t =>
    simp only [List.isEmpty_cons, Bool.false_eq_true, if_false]
    have hlen := huffman_length_le (a :: t) h
    have hlen64 : (Model.Huffman.encode (a :: t)).length < 2 ^ 64 := by
      simp only [Nat.reducePow] at hl ⊢; omega
    have hint := spec_int_roundtrip (Model.Huffman.encode (a :: t)).length 7 128
      (Model.Huffman.encode (a :: t) ++ rest) (by decide) hlen64
    obtain ⟨b, tl, hb, hb1, hb2⟩ := encodeInt_head (Model.Huffman.encode (a :: t)).length 7 128
      (by decide)
    rw [List.append_assoc]
    rw [hb] at hint ⊢
    simp only [List.cons_append] at hint ⊢
    simp only [Spec.Hpack.str, hint]
    rw [if_neg (by simp), if_pos (by omega)]
    simp only [List.take_left', List.drop_left']
    rw [Huffman.encode_eq_spec _ h, Huffman.spec_roundtrip _ h]

end H2V.Lemmas.HpackEnc
