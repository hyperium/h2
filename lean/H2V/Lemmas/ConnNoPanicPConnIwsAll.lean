import H2V.Lemmas.ConnNoPanicPConnAll
/-
  C08 (no panic) — connection layer, summary for the variant "no local SETTINGS_INITIAL_WINDOW_SIZE in flight"
  (`IwsInv`, i.e. `InFlight NoIws`).  `ConnP'` = `ConnP` with the guarantee for `apply_local_settings` made visible: the
  values applied carry no INITIAL_WINDOW_SIZE (identifier 4) — then `apply_local_settings` answers `Ok` trivially.
  The constructors, every call of the application except `set_initial_window_size`, and the loops, in the form
  `ConnOK c → IwsInv c → ConnOK c' ∧ IwsInv c' ∧ HistWX ConnP' … (c.streams, c.codec.w) (c'.streams, c'.codec.w)`.
-/
namespace H2V.Lemmas.ConnNoPanicP
open H2V H2V.Model H2V.Model.Conn
open H2V.Lemmas.ConnResetP (Op run)
open H2V.Lemmas.ConnCtlP (GoAwayInv Keep15 Step15 GaLe gaLast view)

/-- no local SETTINGS_INITIAL_WINDOW_SIZE is in flight -/
def IwsInv (c : Conn) : Prop := ∀ v, LocIn c v → ConnCtlP.getS v 4 = none

/-- the values carry no INITIAL_WINDOW_SIZE: `IwsInv` is `InFlight NoIws` -/
def NoIws (v : List (Nat × Nat)) : Prop := ConnCtlP.getS v 4 = none

/-- `IwsInv` only looks at `settings.loc` (handle calls and transport events keep it) -/
theorem IwsInv.congr {c c' : Conn} (h : IwsInv c) (hl : c'.settings.loc = c.settings.loc) : IwsInv c' := by
  intro v hv; unfold LocIn at hv; rw [hl] at hv; exact h v hv

/-- `ConnP`, and `apply_local_settings` is called without an INITIAL_WINDOW_SIZE -/
def ConnP' (s : Streams) : Op → Prop
  | .applyLocalSettingsFrame vals => ConnCtlP.getS vals 4 = none
  | op => ConnP s op

theorem connPA_noIws : ConnPA NoIws = ConnP' := by
  funext s op; cases op <;> rfl

theorem HistW.iws {X : String → Prop} {s0 s : Streams} {w0 w : Writer} (h : HistW (ConnPA NoIws) s0 w0 s w) :
    HistWX ConnP' X s0 w0 s w :=
  connPA_noIws ▸ h.toX connPA_noPanic

theorem connP_of' {s : Streams} {op : Op} (h : ConnP' s op) : ConnP s op :=
  ConnPA.plain s op (connPA_noIws ▸ h)

theorem connP'_noPanic (s : Streams) (m : String) : ¬ ConnP' s (.panic m) := id

theorem Hist.toX' {X : String → Prop} {a b : Streams} (h : Hist ConnP' a b) : HistX ConnP' X a b :=
  h.mono (withPanic.intro connP'_noPanic)
theorem HistX.toHist' {a b : Streams} (h : HistX ConnP' (fun _ => False) a b) : Hist ConnP' a b :=
  HistX.toHist h

end H2V.Lemmas.ConnNoPanicP

namespace H2V.Lemmas.ConnNoPanicP.Iws
open H2V H2V.Model H2V.Model.Conn
open H2V.Lemmas.ConnResetP (Op run)
open H2V.Lemmas.ConnCtlP (GoAwayInv Keep15 Step15 GaLe gaLast view)

/-- `ConnNoPanicP.RdOK` and `IwsInv` -/
structure RdOK (c : Conn) : Prop where
  max : c.codec.r.maxFrameLen ≤ 16777215
  need : ∀ n, c.codec.r.need = some n → n ≤ 16777224
  loc : ∀ v m, LocIn c v → ConnCtlP.getS v 5 = some m → m ≤ 16777215
  rem : ∀ v, c.settings.remote = some v → ConnFlowP.SettingsOk v
  iws : IwsInv c

theorem RdOK.of {c : Conn} (h : ConnNoPanicP.RdOK c) (hi : IwsInv c) : RdOK c := ⟨h.max, h.need, h.loc, h.rem, hi⟩
theorem RdOK.plain {c : Conn} (h : RdOK c) : ConnNoPanicP.RdOK c := ⟨h.max, h.need, h.loc, h.rem⟩

/-- the connection invariant with `IwsInv` -/
structure ConnOK (c : Conn) : Prop where
  ga : GoAwayInv c
  ping : PingInv c
  rd : RdOK c

theorem ConnOK.of {c : Conn} (hc : ConnNoPanicP.ConnOK c) (hi : IwsInv c) : ConnOK c := ⟨hc.ga, hc.ping, .of hc.rd hi⟩
theorem ConnOK.toOK {c : Conn} (hc : ConnOK c) : ConnNoPanicP.ConnOK c := ⟨hc.ga, hc.ping, hc.rd.plain⟩
theorem ConnOK.iws {c : Conn} (hc : ConnOK c) : IwsInv c := hc.rd.iws

/-- a step seen from the invariant: what it must keep -/
structure OKStep (c c' : Conn) : Prop where
  ga : GoAwayInv c'
  gale : GaLe c c'
  ping : ∀ p', c'.pingPong.pendingPing = some p' → ∃ p, c.pingPong.pendingPing = some p ∧ p'.payload = p.payload
  rd : RdOK c → RdOK c'

theorem ConnOK.keep {c c' : Conn} (hc : ConnOK c) (h : Keep15 c c') (hp : c'.pingPong.pendingPing = c.pingPong.pendingPing)
    (hr : c'.codec.r = c.codec.r) (hl : LocLe c c') : ConnOK c' :=
  .of (hc.toOK.keep h hp hr hl) (InFlight.le (A := NoIws) hc.iws hl)

/-- a step of the connection: invariant kept, `(streams, codec.w)` moved by a history -/
structure CS (X : String → Prop) (c c' : Conn) : Prop extends OKStep c c' where
  hist : HistWX ConnP' X c.streams c.codec.w c'.streams c'.codec.w

theorem _root_.H2V.Lemmas.ConnNoPanicP.CSA.iws {X : String → Prop} {c c' : Conn} (h : CSA NoIws X c c') : CS X c c' :=
  ⟨⟨h.ga, h.gale, h.ping, fun hn => .of (h.rd hn.plain) (h.fl hn.iws)⟩, connPA_noIws ▸ h.hist⟩

theorem CS.ok {X : String → Prop} {c c' : Conn} (h : CS X c c') (hc : ConnOK c) : ConnOK c' :=
  ⟨h.ga, PingLe.inv ⟨h.ping, gaLe_isSome h.gale⟩ hc.ping, h.rd hc.rd⟩

theorem CS.histS {X : String → Prop} {c c' : Conn} (h : CS X c c') : HistX ConnP' X c.streams c'.streams := h.hist.hist

theorem CS.monoX {X Y : String → Prop} (hxy : ∀ m, X m → Y m) {c c' : Conn} (h : CS X c c') : CS Y c c' :=
  { h with hist := h.hist.mono (fun _ _ hp => hp) hxy }

theorem handleGoAway_frame (c : Conn) (r : Reason) (d : Bytes) (i : Initiator) :
    (c.handleGoAway r d i).pingPong = c.pingPong ∧ (c.handleGoAway r d i).codec = c.codec ∧
    (c.handleGoAway r d i).settings = c.settings := ConnNoPanicP.handleGoAway_frame c r d i

theorem recvSettings_settings_goAway (c : Conn) (ack : Bool) (vals : List (Nat × Nat)) :
    (c.recvSettings ack vals).1.goAway = c.goAway := ConnNoPanicP.recvSettings_settings_goAway c ack vals

/-- the result of a call on a connection satisfying `ConnOK`: the invariant again, and a history -/
structure CStep (X : String → Prop) (c c' : Conn) : Prop where
  ok : ConnOK c'
  hist : HistWX ConnP' X c.streams c.codec.w c'.streams c'.codec.w

theorem CS.cstep {X : String → Prop} {c c' : Conn} (h : CS X c c') (hc : ConnOK c) : CStep X c c' := ⟨h.ok hc, h.hist⟩

theorem CStep.histS {X : String → Prop} {c c' : Conn} (h : CStep X c c') : HistX ConnP' X c.streams c'.streams := h.hist.hist

theorem unsup_cs {X : String → Prop} {c : Conn} (hi : GoAwayInv c) (m : String) : CS X c (c.unsup m) :=
  (unsup_csa hi m).iws

end H2V.Lemmas.ConnNoPanicP.Iws

namespace H2V.Lemmas.ConnNoPanicP
open H2V H2V.Model H2V.Model.Conn
open H2V.Lemmas.ConnResetP (Op run)
open H2V.Lemmas.ConnCtlP (GoAwayInv Keep15 Step15 GaLe gaLast view)
open H2V.Lemmas.ConnRecvP (COp)

/-- the result of a call on a connection satisfying `ConnOK` and `IwsInv`: both again, and a `ConnP'` history -/
structure CStep' (X : String → Prop) (c c' : Conn) : Prop where
  ok : ConnOK c'
  iws : IwsInv c'
  hist : HistWX ConnP' X c.streams c.codec.w c'.streams c'.codec.w

theorem CStep'.histS {X : String → Prop} {c c' : Conn} (h : CStep' X c c') : HistX ConnP' X c.streams c'.streams := h.hist.hist
theorem CStep'.weaken {X : String → Prop} {c c' : Conn} (h : CStep' X c c') : CStep X c c' :=
  ⟨h.ok, h.hist.mono (fun _ _ => connP_of') (fun _ hm => hm)⟩

theorem CStepA.iws {X : String → Prop} {c c' : Conn} (h : CStepA NoIws X c c') : CStep' X c c' :=
  ⟨h.ok.ok, h.ok.fl, connPA_noIws ▸ h.hist⟩
theorem CSA.cstep' {X : String → Prop} {c c' : Conn} (h : CSA NoIws X c c') (hc : ConnOK c) (hi : IwsInv c) : CStep' X c c' :=
  (h.cstep ⟨hc, hi⟩).iws

/-- `recv_settings`: the peer's ACK applies exactly the values that were in flight -/
theorem recvSettings_cs' {X : String → Prop} {c : Conn} (hc : ConnOK c) (hi : IwsInv c) (ack : Bool) (vals : List (Nat × Nat))
    (hrem : ack = false → c.settings.remote = none) (hv : ack = false → ConnFlowP.SettingsOk vals) :
    CStep' X c (c.recvSettings ack vals).1 :=
  (recvSettings_csa hc.ga hi ack vals hrem hv).cstep' hc hi

theorem recvFrame_cs' {X : String → Prop} {c : Conn} (hc : ConnOK c) (hi : IwsInv c) (hcn : c.goAway.closeNow = false)
    (href : c.streams.recv.refused = none) (hpp : c.pingPong.pendingPong = none) (f : Option Frame.Frame)
    (hf : ∀ g, f = some g → WireOK g) : CStep' X c (c.recvFrame f).1 :=
  (recvFrame_csa hc hcn href hpp f hf).cstep' hc hi

theorem pollReady_cs' {X : String → Prop} {c : Conn} (hc : ConnOK c) (hi : IwsInv c) : CStep' X c c.pollReady.1 :=
  (pollReady_csa hc.ga hc.rd.rem).1.cstep' hc hi

theorem handlePoll2Result_cs' {X : String → Prop} {c : Conn} (hc : ConnOK c) (hi : IwsInv c) (res : Except PErr Unit) :
    CStep' X c (c.handlePoll2Result res).1 := (handlePoll2Result_csa hc.ga res).cstep' hc hi

theorem poll2Loop_cs' (fuel : Nat) {c : Conn} (hc : ConnOK c) (hi : IwsInv c) : CStep' FuelMsg c (Conn.poll2Loop fuel c).1 :=
  (poll2Loop_csa fuel ⟨hc, hi⟩).cstep' hc hi
theorem poll2_cs' (fuel : Nat) {c : Conn} (hc : ConnOK c) (hi : IwsInv c) : CStep' FuelMsg c (Conn.poll2 fuel c).1 :=
  (poll2_csa fuel ⟨hc, hi⟩).cstep' hc hi

/-- **every call of the application on a connection except `set_initial_window_size`** (which puts an
    INITIAL_WINDOW_SIZE in flight) keeps `ConnOK` and `IwsInv`, by a `ConnP'` history -/
theorem cop_step' {c : Conn} (hc : ConnOK c) (hi : IwsInv c) (op : COp) (hop : ∀ o, op ≠ .handle o)
    (hs : ∀ n, op ≠ .setInitialWindowSize n) (hv : ∀ size, op = .setTargetWindowSize size → size ≤ 2147483647) :
    CStep' FuelMsg c (op.apply c) :=
  (cop_csa ⟨hc, hi⟩ op hop (fun n e => absurd e (hs n)) hv).iws

/-- a new connection whose builder sets no `initial_window_size` (`Cfg.iws`, the field that feeds SETTINGS
    identifier 4) has no INITIAL_WINDOW_SIZE in flight -/
theorem init_ok' (g : Conn.Cfg) (hg : CfgOK g) (hi : g.iws = none) : ConnOK (Conn.init g) ∧ IwsInv (Conn.init g) :=
  ⟨init_ok g hg, inFlight_of_new (A := NoIws) (Conn.init_parts g).2.2.1 ((getS4_cfg g).trans hi)⟩
theorem initServer_ok' (g : Conn.Cfg) (ecp : Bool) (pf : Bytes) (hg : CfgOK g) (hi : g.iws = none) :
    ConnOK (Conn.initServer g ecp pf) ∧ IwsInv (Conn.initServer g ecp pf) :=
  ⟨initServer_ok g ecp pf hg, inFlight_of_new (A := NoIws) (Conn.initServer_parts g ecp pf).2.2.1 ((getS4_cfg_server g ecp).trans hi)⟩

end H2V.Lemmas.ConnNoPanicP
