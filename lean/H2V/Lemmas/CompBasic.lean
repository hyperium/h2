import H2V.Model.ConnState
/-
  Shared helper of the `Comp*` lemma files.
-/
namespace H2V.Lemmas.Comp

/-- `Result::is_ok` -/
def isOk {ε α : Type} : Except ε α → Bool
  | .ok _ => true
  | .error _ => false

@[simp] theorem isOk_ok {ε α : Type} (a : α) : isOk (.ok a : Except ε α) = true := rfl
@[simp] theorem isOk_error {ε α : Type} (e : ε) : isOk (.error e : Except ε α) = false := rfl

/-- core has no `DecidableEq (Except ε α)`; needed to `decide` the concrete witnesses -/
instance instDecidableEqExcept {ε α : Type} [DecidableEq ε] [DecidableEq α] : DecidableEq (Except ε α)
  | .ok a, .ok b => if h : a = b then isTrue (by rw [h]) else isFalse (by intro h'; cases h'; exact h rfl)
  | .error a, .error b => if h : a = b then isTrue (by rw [h]) else isFalse (by intro h'; cases h'; exact h rfl)
  | .ok _, .error _ => isFalse (by intro h; cases h)
  | .error _, .ok _ => isFalse (by intro h; cases h)

theorem isOk_unit_iff {ε : Type} (r : Except ε Unit) : isOk r = true ↔ r = .ok () := by
  cases r <;> simp [isOk]

theorem isOk_false_iff {ε α : Type} (r : Except ε α) : isOk r = false ↔ ∃ e, r = .error e := by
  cases r <;> simp [isOk]

/-- a call that returned `(a, Ok b)`: the new state and the fact that it succeeded -/
theorem pair_ok {α ε β : Type} {p : α × Except ε β} {a : α} {b : β} (h : p = (a, .ok b)) :
    p.1 = a ∧ isOk p.2 = true := by
  subst h; exact ⟨rfl, rfl⟩

/-- a call that answered `Ok`: the pair it returned -/
theorem ok_pair {α ε β : Type} {p : α × Except ε β} (h : isOk p.2 = true) : ∃ b, p = (p.1, .ok b) := by
  obtain ⟨a, _ | b⟩ := p
  · cases h
  · exact ⟨b, rfl⟩

section
open H2V H2V.Model H2V.Model.Conn

/-! `recv_reset`, `handle_error` and `recv_eof` leave a stream closed, whatever it was. -/

theorem _root_.H2V.Model.Conn.State.recvReset_isClosed (s : State) (sid : Nat) (r : Reason) (q : Bool) :
    (s.recvReset sid r q).isClosed = true := by
  cases s with | mk inner => cases inner <;> cases q <;> rfl

theorem _root_.H2V.Model.Conn.State.handleError_isClosed (s : State) (e : PErr) :
    (s.handleError e).isClosed = true := by
  cases s with | mk inner => cases inner <;> rfl

theorem _root_.H2V.Model.Conn.State.recvEof_isClosed (s : State) : s.recvEof.isClosed = true := by
  cases s with | mk inner => cases inner <;> rfl

end

end H2V.Lemmas.Comp
