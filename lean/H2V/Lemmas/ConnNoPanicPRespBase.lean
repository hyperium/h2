import H2V.Lemmas.ConnNoPanicPAccShared
import H2V.Lemmas.ConnStepLoops
import H2V.Lemmas.ConnStepWrite
import H2V.Lemmas.ConnStepLift
/-
  C08 (no panic) — the client response path: the shape of a request stream's `pending_recv`
  (`respShape`, `respHead`, `RGood`), the per-stream frame relation `RS` (receive queue untouched, no new
  "receive streaming" state, handle count not lowered), its lift `RP X s s'` to the entries that have a
  handle (`ref_count > 0`) and are not in the exception list `X`, `RP.of_step` (every step of the stream layer of the
  kinds `kindsRP` is a frame step, entry by entry, so a function is one by its footprint), and the peeling tactic `rp_auto`.
-/
namespace H2V.Lemmas.ConnNoPanicP
open H2V H2V.Model H2V.Model.Conn H2V.Lemmas.ConnCountsP
attribute [local irreducible] wrapSubU32 wrapSubUsize

/-- `pending_recv` of a stream whose `ResponseFuture` has not completed: interim heads, then nothing or the final head -/
def respShape : List REvent → Bool
  | [] => true
  | .informational _ _ :: r => respShape r
  | .headers _ _ :: _ => true
  | _ => false

/-- … and the final response head is queued -/
def respHead : List REvent → Bool
  | .informational _ _ :: r => respHead r
  | .headers _ _ :: _ => true
  | _ => false

theorem respShape_of_head {q : List REvent} (h : respHead q = true) : respShape q = true := by
  induction q with
  | nil => rfl
  | cons e r ih => cases e <;> first | exact ih h | rfl | cases h

theorem respHead_append {q : List REvent} (l : List REvent) (h : respHead q = true) : respHead (q ++ l) = true := by
  induction q with
  | nil => cases h
  | cons e r ih => cases e <;> first | exact ih h | rfl | cases h

theorem respShape_append_info {q : List REvent} (a : Bytes) (f : Fields) (h : respShape q = true) :
    respShape (q ++ [.informational a f]) = true := by
  induction q with
  | nil => rfl
  | cons e r ih => cases e <;> first | exact ih h | rfl | cases h

theorem respHead_append_headers {q : List REvent} (a : Bytes) (f : Fields) (h : respShape q = true) :
    respHead (q ++ [.headers a f]) = true := by
  induction q with
  | nil => rfl
  | cons e r ih => cases e <;> first | exact ih h | rfl | cases h

/-- what the invariant says about one stream -/
structure RGood (x : Stream) : Prop where
  shape : respShape x.pendingRecv = true
  head : x.state.isRecvStreaming = true → respHead x.pendingRecv = true

structure RS (a b : Stream) : Prop where
  key : b.key = a.key
  q : b.pendingRecv = a.pendingRecv
  ref : a.refCount ≤ b.refCount
  str : b.state.isRecvStreaming = true → a.state.isRecvStreaming = true

theorem RS.refl (a : Stream) : RS a a := ⟨rfl, rfl, Nat.le_refl _, fun h => h⟩
theorem RS.trans {a b c : Stream} (h1 : RS a b) (h2 : RS b c) : RS a c :=
  ⟨h2.key.trans h1.key, h2.q.trans h1.q, Nat.le_trans h1.ref h2.ref, fun h => h1.str (h2.str h)⟩
theorem RS.good {a b : Stream} (h : RS a b) (g : RGood a) : RGood b :=
  ⟨by rw [h.q]; exact g.shape, fun hs => by rw [h.q]; exact g.head (h.str hs)⟩

structure RP (X : List Nat) (s s' : Streams) : Prop where
  fr : ∀ j, j ∉ X → 0 < (s.stream j).refCount → RS (s.stream j) (s'.stream j)

theorem RP.refl (X : List Nat) (s : Streams) : RP X s s := ⟨fun _ _ _ => RS.refl _⟩
theorem RP.trans {X : List Nat} {a b c : Streams} (h1 : RP X a b) (h2 : RP X b c) : RP X a c := ⟨fun j hj hr =>
  (h1.fr j hj hr).trans (h2.fr j hj (Nat.lt_of_lt_of_le hr (h1.fr j hj hr).ref))⟩
theorem RP.of_store {X : List Nat} {s s' : Streams} (h : s'.store = s.store) : RP X s s' := ⟨fun j _ _ => by
  have : s'.stream j = s.stream j := by unfold Streams.stream; rw [h]
  rw [this]; exact RS.refl _⟩
theorem RP.of_eq {X : List Nat} {s a b : Streams} (h : a = b) (e : RP X s a) : RP X s b := h ▸ e

theorem RP.drop0 {X : List Nat} {s s' : Streams} {k : Nat} (h : RP (k :: X) s s') (h0 : (s.stream k).refCount = 0) :
    RP X s s' := ⟨fun j hj hr => by
  refine h.fr j (fun hx => ?_) hr
  rcases List.mem_cons.mp hx with e | e
  · subst e; omega
  · exact hj e⟩

theorem sendOpen_str {st st' : State} {eos : Bool} {r : Except UserError Unit} (h : st.sendOpen eos = (st', r))
    (hs : st'.isRecvStreaming = true) : st.isRecvStreaming = true := by
  obtain ⟨i⟩ := st
  unfold State.sendOpen at h
  cases i with
  | idle => simp only [Prod.mk.injEq] at h; rw [← h.1] at hs; cases eos <;> cases hs
  | reservedLocal => simp only [Prod.mk.injEq] at h; rw [← h.1] at hs; cases eos <;> cases hs
  | reservedRemote => simp only [Prod.mk.injEq] at h; rw [← h.1] at hs; exact hs
  | «open» l r =>
    cases l
    · simp only [Prod.mk.injEq] at h; rw [← h.1] at hs; cases eos <;> cases r <;> first | exact hs | cases hs
    · simp only [Prod.mk.injEq] at h; rw [← h.1] at hs; exact hs
  | halfClosedLocal p => simp only [Prod.mk.injEq] at h; rw [← h.1] at hs; exact hs
  | halfClosedRemote p =>
    cases p
    · simp only [Prod.mk.injEq] at h; rw [← h.1] at hs; cases eos <;> cases hs
    · simp only [Prod.mk.injEq] at h; rw [← h.1] at hs; exact hs
  | closed c => simp only [Prod.mk.injEq] at h; rw [← h.1] at hs; exact hs

theorem sendClose_str {st st' : State} (h : st.sendClose = some st') (hs : st'.isRecvStreaming = true) :
    st.isRecvStreaming = true := by
  obtain ⟨i⟩ := st
  unfold State.sendClose at h
  cases i with
  | «open» l r => simp only [Option.some.injEq] at h; rw [← h] at hs; cases r <;> first | rfl | cases hs
  | halfClosedRemote p => simp only [Option.some.injEq] at h; rw [← h] at hs; cases hs
  | _ => cases h

theorem recvReset_str (st : State) (sid : Nat) (r : Reason) (q : Bool) (hs : (st.recvReset sid r q).isRecvStreaming = true) :
    st.isRecvStreaming = true := by
  obtain ⟨i⟩ := st
  unfold State.recvReset at hs
  cases i <;> first | (cases q <;> first | exact hs | cases hs) | cases hs

theorem handleError_str (st : State) (e : PErr) (hs : (st.handleError e).isRecvStreaming = true) : st.isRecvStreaming = true := by
  obtain ⟨i⟩ := st
  unfold State.handleError at hs
  cases i <;> first | exact hs | cases hs

theorem recvEof_str (st : State) (hs : st.recvEof.isRecvStreaming = true) : st.isRecvStreaming = true := by
  obtain ⟨i⟩ := st
  unfold State.recvEof at hs
  cases i <;> first | exact hs | cases hs

theorem recvClose_str {st st' : State} {r : Except PErr Unit} (h : st.recvClose = (st', r)) (hs : st'.isRecvStreaming = true) :
    st.isRecvStreaming = true := by
  obtain ⟨i⟩ := st
  unfold State.recvClose at h
  cases i <;> simp only [Prod.mk.injEq] at h <;> rw [← h.1] at hs <;> first | exact hs | cases hs

theorem reserveRemote_str {st st' : State} {r : Except PErr Unit} (h : st.reserveRemote = (st', r))
    (hs : st'.isRecvStreaming = true) : st.isRecvStreaming = true := by
  obtain ⟨i⟩ := st
  unfold State.reserveRemote at h
  cases i <;> simp only [Prod.mk.injEq] at h <;> rw [← h.1] at hs <;> first | exact hs | cases hs

theorem reserveLocal_str {st st' : State} {r : Except UserError Unit} (h : st.reserveLocal = (st', r))
    (hs : st'.isRecvStreaming = true) : st.isRecvStreaming = true := by
  obtain ⟨i⟩ := st
  unfold State.reserveLocal at h
  cases i <;> simp only [Prod.mk.injEq] at h <;> rw [← h.1] at hs <;> first | exact hs | cases hs

theorem panic_rp {X : List Nat} (s : Streams) (m : String) : RP X s (s.panic m) := .of_store (panic_store _ _)
theorem wake_rp {X : List Nat} (s : Streams) (t : List String) : RP X s (s.wake t) := .of_store rfl
theorem notifyTask_rp {X : List Nat} (s : Streams) : RP X s s.notifyTask := by
  unfold Streams.notifyTask; split
  · exact .of_store rfl
  · exact .refl _ _
theorem unsup_rp {X : List Nat} (s : Streams) (m : String) : RP X s (s.unsup m) := by
  unfold Streams.unsup; split
  · exact .refl _ _
  · exact .of_store rfl
theorem modCounts_rp {X : List Nat} (s : Streams) (f : Counts → Counts) : RP X s (s.modCounts f) := .of_store rfl
theorem setMisc_rp {X : List Nat} (s : Streams) (a : Actions) (refs leaked : Nat) (wk : List String) (un : Option String) :
    RP X s { s with actions := a, refs := refs, recvBufferLeaked := leaked, wakes := wk, unsupported := un } := .of_store rfl

theorem setStream_rp {X : List Nat} (s : Streams) (st' : Stream) (h : RS (s.stream st'.key) st') : RP X s (s.setStream st') := by
  refine ⟨fun j _ _ => ?_⟩
  rcases setStream_stream s st' j with e | ⟨e, hj, _⟩
  · rw [e]; exact RS.refl _
  · rw [e, hj]; exact h

theorem modStream_rp' {X : List Nat} (s : Streams) (k : Nat) (f : Stream → Stream) (h : RS (s.stream k) (f (s.stream k))) :
    RP X s (s.modStream k f) := by
  unfold Streams.modStream
  split
  · next st hst =>
    rw [stream_of_get? hst] at h
    refine setStream_rp s _ ?_
    rw [h.key, get?_key hst, stream_of_get? hst]; exact h
  · exact panic_rp _ _

theorem modStream_rp {X : List Nat} (s : Streams) (k : Nat) (f : Stream → Stream) (h : ∀ x, RS x (f x)) : RP X s (s.modStream k f) :=
  modStream_rp' s k f (h _)

theorem modStreamW_rp' {X : List Nat} (s : Streams) (k : Nat) (f : Stream → Stream × List String)
    (h : RS (s.stream k) (f (s.stream k)).1) : RP X s (s.modStreamW k f) := by
  unfold Streams.modStreamW
  split
  · next st hst =>
    rw [stream_of_get? hst] at h
    refine (setStream_rp s _ ?_).trans (wake_rp _ _)
    rw [h.key, get?_key hst, stream_of_get? hst]; exact h
  · exact panic_rp _ _

theorem modStreamW_rp {X : List Nat} (s : Streams) (k : Nat) (f : Stream → Stream × List String) (h : ∀ x, RS x (f x).1) :
    RP X s (s.modStreamW k f) := modStreamW_rp' s k f (h _)

theorem modStream_rpx {X : List Nat} (s : Streams) (k : Nat) (f : Stream → Stream) (hk : ∀ x, (f x).key = x.key) (hX : k ∈ X) :
    RP X s (s.modStream k f) := by
  unfold Streams.modStream
  split
  · next st hst =>
    refine ⟨fun j hj _ => ?_⟩
    rcases setStream_stream s (f st) j with e | ⟨_, hjk, _⟩
    · rw [e]; exact RS.refl _
    · rw [hk, get?_key hst] at hjk; subst hjk; exact absurd hX hj
  · exact panic_rp _ _

theorem setQueued_rs (x : Stream) (q : QName) (v : Bool) : RS x (x.setQueued q v) := by
  cases q <;> exact ⟨rfl, rfl, Nat.le_refl _, fun h => h⟩

theorem RS.of_keep {a b : Stream} (h : Keep a b) : RS a b := ⟨h.key, h.pr, Nat.le_of_eq h.ref.symm, fun hs => by rw [← h.st]; exact hs⟩

theorem setState_rs (x : Stream) (st' : State) (h : st'.isRecvStreaming = true → x.state.isRecvStreaming = true) :
    RS x { x with state := st' } := ⟨rfl, rfl, Nat.le_refl _, h⟩
theorem setReset_rs (x : Stream) (r : Reason) (i : Initiator) : RS x (x.setReset r i).1 :=
  (setState_rs _ _ (fun h => by cases h)).trans (.of_keep (setReset_keep x r i))

macro "rs_tac" : tactic => `(tactic| with_reducible first
  | exact setReset_rs _ _ _ | exact RS.of_keep (by keep_tac)
  | exact ⟨by rfl, by rfl, Nat.le_refl _, fun h => h⟩)

/-- the kinds of update `RP` tolerates.  Not: a new entry (its roll-back takes an entry out unasked), `recv_open` (raises
    `is_recv_streaming`), a dropped handle, an event appended to or taken from `pending_recv` -/
def kindsRP : Kind → Bool
  | .insert | .state .recvOpen | .refDec | .appendRecv | .takeRecv => false
  | _ => true

theorem _root_.H2V.Model.Conn.State.Step.str {id : Nat} {a b : State} (h : State.Step kindsRP id a b) (hs : b.isRecvStreaming = true) :
    a.isRecvStreaming = true := by
  cases h with
  | sendOpen _ _ h => exact sendOpen_str h hs
  | sendClose _ h => exact sendClose_str h hs
  | recvOpen _ _ hk => cases hk
  | recvClose _ h => exact recvClose_str h hs
  | reserveRemote _ h => exact reserveRemote_str h hs
  | reserveLocal _ h => exact reserveLocal_str h hs
  | recvReset => exact recvReset_str _ _ _ _ hs
  | handleError => exact handleError_str _ _ hs
  | recvEof => exact recvEof_str _ hs
  | setScheduledReset => cases hs
  | setReset => cases hs
  | setResetScheduled => cases hs

theorem RS.of_updW {x : Stream} {p : Stream × List String} (h : Stream.UpdW kindsRP x p) : RS x p.1 := by
  cases h <;> rs_tac

theorem RS.of_upd {x y : Stream} (h : Stream.Upd kindsRP x y) : RS x y := by
  cases h with
  | state _ hs => exact setState_rs _ _ hs.str
  | reserved _ hs => exact (setState_rs _ _ hs.str).trans ⟨rfl, rfl, Nat.le_refl _, fun h => h⟩
  | refInc => exact ⟨rfl, rfl, Nat.le_succ _, fun h => h⟩
  | refDec hk | pushRecv _ hk | popRecv _ _ hk | clearRecv hk => cases hk
  | waitSend | waitOpen | sendData | decContentLength => exact .of_keep (by keep_tac)
  -- the other updates write fields the frame does not read
  | _ => exact ⟨rfl, rfl, Nat.le_refl _, fun h => h⟩

/-- entry by entry (`Streams.Step.stream_rel`): an entry is related to what its key reads afterwards, unless the step may
    release entries and this one has no handle (a released entry has none; one that has gone reads as a blank one) -/
theorem RS.of_step {K : Kind → Bool} (hK : ∀ k, K k = true → kindsRP k = true) {s s' : Streams} (h : Streams.Step K s s')
    (j : Nat) (hr : K .release = true → 0 < (s.stream j).refCount) : RS (s.stream j) (s'.stream j) :=
  h.stream_rel (r := fun x y => (K .release = true → 0 < x.refCount) → RS x y) (fun x _ => .refl x)
    (fun h1 h2 hr => (h1 hr).trans (h2 fun hk => Nat.lt_of_lt_of_le (hr hk) (h1 hr).ref))
    (fun _ _ u _ => .of_upd (u.mono hK)) (fun _ _ u _ => .of_updW (u.mono hK))
    (fun x q v _ _ _ => setQueued_rs x q v) (fun _ _ _ _ => ⟨rfl, rfl, Nat.le_refl _, fun h => h⟩)
    (fun hk y hy hr => absurd (hr hk) (by rw [isReleased_ref0 hy]; exact Nat.lt_irrefl 0))
    (Bool.eq_false_iff.2 fun h => by cases hK _ h) j hr

theorem RP.of_step {X : List Nat} {s s' : Streams} (h : Streams.Step kindsRP s s') : RP X s s' :=
  ⟨fun j _ hr => RS.of_step (fun _ h => h) h j fun _ => hr⟩

theorem _root_.H2V.Model.Conn.Streams.Takes.rp {X : List Nat} {k : Nat} {s s' : Streams} (h : Streams.Takes kindsRP k s s')
    (hX : k ∈ X) : RP X s s' := by
  induction h with
  | step h => exact .of_step h
  | take s l _ => exact modStream_rpx s k _ (fun _ => rfl) hX
  | noRecv s => exact modStream_rp s k _ fun _ => ⟨rfl, rfl, Nat.le_refl _, fun h => h⟩
  | trans _ _ h1 h2 => exact h1.trans h2

syntax "rp_side" : tactic
macro_rules | `(tactic| rp_side) => `(tactic| (intro _; rs_tac))
macro_rules | `(tactic| rp_side) => `(tactic| rs_tac)
macro_rules | `(tactic| rp_side) => `(tactic| exact fun _ => rfl)
macro_rules | `(tactic| rp_side) => `(tactic| exact List.all_eq_true.1 rfl)
macro_rules | `(tactic| rp_side) => `(tactic| with_reducible assumption)

/-- a callee without a lemma `f_rp` is taken from the step layer: `f_step`, whose footprint lies inside `kindsRP` (checked by
    evaluating `List.all`, which copes with a frame that is a variable) -/
macro "rp_head" : tactic => `(tactic| open H2V.Model.Conn.Streams in rel_head RP "_rp" via RP.of_step "_step" => (first
  | with_reducible refine RP.trans ?_ (setMisc_rp _ _ _ _ _ _)
  | with_reducible refine RP.trans ?_ (setCounts_rp _ _)))

syntax "rp_step" : tactic
macro_rules | `(tactic| rp_step) => `(tactic| rp_head)
macro_rules | `(tactic| rp_step) => `(tactic| with_reducible refine of_fst_eq (P := RP _ _) (by with_reducible assumption) ?_)
macro_rules | `(tactic| rp_step) => `(tactic| with_reducible assumption)
macro_rules | `(tactic| rp_step) => `(tactic| with_reducible exact RP.refl _ _)

macro "rp_auto" : tactic => `(tactic| repeat (first | rp_step | rp_side | intro _ | split | dsimp only))
macro "rp_auto_ih" ih:ident : tactic =>
  `(tactic| repeat (first | rp_step | with_reducible refine RP.trans ?_ ($ih ..) | rp_side | intro _ | split | dsimp only))

theorem transitionAfter_rp {X : List Nat} (s : Streams) (k : Nat) (b : Bool) : RP X s (s.transitionAfter k b) :=
  .of_step (Streams.transitionAfter_step (by decide) s k b)

theorem transition_rp {X : List Nat} {α : Type} (s : Streams) (k : Nat) (f : Streams → Streams × α) (hf : RP X s (f s).1) :
    RP X s (s.transition k f).1 := by
  rw [Streams.transition_fst]; exact hf.trans (transitionAfter_rp _ _ _)

end H2V.Lemmas.ConnNoPanicP
