import H2V.Lemmas.ConnStepFns
import H2V.Lemmas.ConnSendRequestRule
import H2V.Lemmas.ConnHeadersRule
import H2V.Lemmas.ConnCountsPBase
/-
  `f_step` for what stands above ConnStepFns: the loops that drain a queue (each is an instance of its `X_rel` lemma of
  ConnLoops: what holds of `qPop` and `transition_after` holds of the loop), `transition`, the iterations over the store, and
  the entry points of streams.rs — received frames, settings, handle calls — over their stages (ConnStages) and the shared
  rules (`sendRequest_cases`).  Footprints are found as in ConnStepFns.
-/
namespace H2V.Model.Conn.Streams
open H2V H2V.Model H2V.Model.Conn
attribute [local irreducible] wrapSubU32 wrapSubUsize
variable {K : Kind → Bool}

theorem clearPendingCapacity_step (hK : Kind.Has K [.release, .unlink, .dequeue .pendingCapacity, .counterDown .localReset])
    (n : Nat) (s : Streams) : Step K s (Streams.clearPendingCapacity n s) := by
  refine Streams.clearPendingCapacity_rel Step.ok (fun s => qPop_step s _ ?_) (transitionAfter_step ?_) n s <;> stp_side
theorem clearPendingSendBody_step (hK : Kind.Has K [.release, .unlink, .counterDown .localReset, .state .setResetScheduled])
    (s : Streams) (k : Nat) : Step K s (s.clearPendingSendBody k) := by
  unfold Streams.clearPendingSendBody; stp_auto
theorem clearPendingSend_step
    (hK : Kind.Has K [.release, .unlink, .dequeue .pendingSend, .counterDown .localReset, .state .setResetScheduled]) (n : Nat)
    (s : Streams) : Step K s (Streams.clearPendingSend n s) := by
  rw [Streams.clearPendingSend_eq]
  refine Streams.popLoop_rel Step.ok (fun s => qPop_step s _ ?_) (clearPendingSendBody_step ?_) n s <;> stp_side
theorem clearPendingOpen_step (hK : Kind.Has K [.release, .unlink, .dequeue .pendingOpen, .counterDown .localReset]) (n : Nat)
    (s : Streams) : Step K s (Streams.clearPendingOpen n s) := by
  refine Streams.clearPendingOpen_rel Step.ok (fun s => qPop_step s _ ?_) (transitionAfter_step ?_) n s <;> stp_side
theorem sendClearQueues_step
    (hK : Kind.Has K [.release, .unlink, .dequeue .pendingSend, .dequeue .pendingCapacity, .dequeue .pendingOpen,
      .counterDown .localReset, .state .setResetScheduled])
    (s : Streams) : Step K s s.sendClearQueues := by
  unfold Streams.sendClearQueues; stp_auto
theorem clearExpiredResetStreams_step
    (hK : Kind.Has K [.release, .unlink, .dequeue .pendingResetExpired, .counterDown .localReset]) (n : Nat) (s : Streams) :
    Step K s (Streams.clearExpiredResetStreams n s) := by
  refine Streams.clearExpiredResetStreams_rel Step.ok (fun s => qPop_step s _ ?_) (transitionAfter_step ?_) n s <;> stp_side
theorem clearStreamWindowUpdateQueue_step
    (hK : Kind.Has K [.release, .unlink, .dequeue .pendingWindowUpdates, .counterDown .localReset]) (n : Nat) (s : Streams) :
    Step K s (Streams.clearStreamWindowUpdateQueue n s) := by
  refine Streams.clearStreamWindowUpdateQueue_rel Step.ok (fun s => qPop_step s _ ?_) (transitionAfter_step ?_) n s <;> stp_side
theorem clearAllResetStreams_step (hK : Kind.Has K [.release, .unlink, .dequeue .pendingResetExpired, .counterDown .localReset])
    (n : Nat) (s : Streams) : Step K s (Streams.clearAllResetStreams n s) := by
  refine Streams.clearAllResetStreams_rel Step.ok (fun s => qPop_step s _ ?_) (transitionAfter_step ?_) n s <;> stp_side
theorem clearAllPendingAccept_step (hK : Kind.Has K [.release, .unlink, .dequeue .pendingAccept, .counterDown .localReset])
    (n : Nat) (s : Streams) : Step K s (Streams.clearAllPendingAccept n s) := by
  refine Streams.clearAllPendingAccept_rel Step.ok (fun s => qPop_step s _ ?_) (transitionAfter_step ?_) n s <;> stp_side
theorem recvClearQueues_step
    (hK : Kind.Has K [.release, .unlink, .dequeue .pendingWindowUpdates, .dequeue .pendingAccept,
      .dequeue .pendingResetExpired, .counterDown .localReset])
    (s : Streams) (b : Bool) : Step K s (s.recvClearQueues b) := by
  unfold Streams.recvClearQueues; stp_auto
theorem clearQueues_step
    (hK : Kind.Has K [.release, .unlink, .dequeue .pendingSend, .dequeue .pendingCapacity, .dequeue .pendingOpen,
      .dequeue .pendingWindowUpdates, .dequeue .pendingAccept, .dequeue .pendingResetExpired, .counterDown .localReset,
      .state .setResetScheduled])
    (s : Streams) (b : Bool) : Step K s (s.clearQueues b) := by
  unfold Streams.clearQueues; stp_auto

theorem transition_step {α : Type} (hK : Kind.Has K [.release, .unlink, .counterDown .localReset]) (s : Streams) (k : Nat)
    (f : Streams → Streams × α) (hf : ∀ s, Step K s (f s).1) : Step K s (s.transition k f).1 := by
  refine Streams.transition_rel Step.ok s k f (hf s) (fun t b => transitionAfter_step ?_ t k b); stp_side

theorem tryForEach_step (f : Streams → Nat → Streams × Option PErr) (hf : ∀ s k, Step K s (f s k).1) : ∀ (fuel i len : Nat) (s : Streams), Step K s (Streams.tryForEach f fuel i len s).1 := Streams.tryForEach_rel Step.ok f hf

theorem storeTryForEach_step (s : Streams) (f : Streams → Nat → Streams × Option PErr) (hf : ∀ s k, Step K s (f s k).1) : Step K s (s.storeTryForEach f).1 := Streams.storeTryForEach_rel Step.ok s f hf

theorem storeForEach_step (s : Streams) (f : Streams → Nat → Streams) (hf : ∀ s k, Step K s (f s k)) : Step K s (s.storeForEach f) := Streams.storeForEach_rel Step.ok s f hf

theorem tryForEachAcc_step (f : Nat → Streams → Nat → Streams × Nat × Option PErr) (hf : ∀ a s k, Step K s (f a s k).1) : ∀ (fuel i len acc : Nat) (s : Streams), Step K s (Streams.tryForEachAcc f fuel i len acc s).1 :=
  Streams.tryForEachAcc_rel Step.ok f hf

theorem foldl_step {β : Type} (f : Streams → β → Streams) (hf : ∀ s b, Step K s (f s b)) : ∀ (l : List β) (s : Streams), Step K s (l.foldl f s) :=
  Streams.foldl_rel Step.ok hf

theorem insertNew_step (hK : Kind.Has K [.insert]) (s : Streams) (id : Nat) : Step K s (s.insertNew id).1 := by
  unfold Streams.insertNew; stp_auto
theorem recvHeadersEntry_step (hK : Kind.Has K [.insert, .nextId]) (s : Streams) (h : HeadersIn) : Step K s
    (s.recvHeadersEntry h).1 := by
  unfold Streams.recvHeadersEntry; stp_auto
theorem answer431_step
    (hK : Kind.Has K [.enqueue .pendingSend, .enqueue .pendingCapacity, .enqueue .pendingOpen, .enqueue .pendingResetExpired,
      .dequeue .pendingCapacity, .counterUp .localReset, .state .sendOpen, .state .setScheduledReset, .frame .headers,
      .sendFlow, .connSendFlow, .connTask])
    (s : Streams) (k : Nat) : Step K s (s.answer431 k) := by
  unfold Streams.answer431; stp_auto
theorem recvHeadersDispatch_step
    (hK : Kind.Has K [.count, .enqueue .pendingSend, .enqueue .pendingCapacity, .enqueue .pendingOpen, .enqueue .pendingAccept,
      .enqueue .pendingResetExpired, .dequeue .pendingCapacity, .counterUp .localReset, .state .sendOpen, .state .recvOpen,
      .state .recvClose, .state .setScheduledReset, .frame .headers, .sendFlow, .connSendFlow, .appendRecv, .contentLength,
      .ids, .connTask])
    (s : Streams) (k : Nat) (h : HeadersIn) : Step K s (s.recvHeadersDispatch k h).1 := by
  unfold Streams.recvHeadersDispatch; stp_auto
theorem recvHeadersBody_step
    (hK : Kind.Has K [.count, .enqueue .pendingSend, .enqueue .pendingCapacity, .enqueue .pendingOpen, .enqueue .pendingAccept,
      .enqueue .pendingResetExpired, .dequeue .pendingCapacity, .counterUp .localReset, .counterUp .localErrorReset,
      .state .sendOpen, .state .recvOpen, .state .recvClose, .state .setScheduledReset, .state .setReset, .remoteReset,
      .frame .headers, .frame .reset, .clearSend, .sendFlow, .connSendFlow, .markDrop, .appendRecv, .contentLength, .ids,
      .connTask])
    (s : Streams) (k : Nat) (h : HeadersIn) : Step K s (s.recvHeadersBody k h).1 := by
  unfold Streams.recvHeadersBody; stp_auto
theorem recvDataBody_step
    (hK : Kind.Has K [.enqueue .pendingSend, .enqueue .pendingCapacity, .enqueue .pendingWindowUpdates,
      .enqueue .pendingResetExpired, .dequeue .pendingCapacity, .counterUp .localReset, .counterUp .localErrorReset,
      .counterUp .dataFrames, .state .recvClose, .state .setReset, .remoteReset, .frame .reset, .clearSend, .sendFlow,
      .connSendFlow, .markDrop, .appendRecv, .recvFlow, .connRecvFlow, .contentLength, .connTask])
    (s : Streams) (k : Nat) (payload : Bytes) (eos : Bool) (padLen : Option Nat) : Step K s
    (s.recvDataBody k payload eos padLen).1 := by
  unfold Streams.recvDataBody; stp_auto
theorem pushPromiseParent_step (hK : Kind.Has K [.nextId]) (s : Streams) (id : Nat) (h : HeadersIn) : Step K s
    (s.pushPromiseParent id h).1 := by
  unfold Streams.pushPromiseParent; stp_auto
theorem pushPromiseBody_step
    (hK : Kind.Has K [.enqueue .pendingSend, .enqueue .pendingCapacity, .enqueue .pendingResetExpired,
      .dequeue .pendingCapacity, .counterUp .localReset, .counterUp .localErrorReset, .state .reserveRemote, .state .setReset,
      .remoteReset, .frame .reset, .clearSend, .sendFlow, .connSendFlow, .markDrop, .appendRecv, .connTask])
    (s : Streams) (child : Nat) (h : HeadersIn) : Step K s (s.pushPromiseBody child h).1 := by
  unfold Streams.pushPromiseBody; stp_auto
theorem pushPromiseLink_step (hK : Kind.Has K [.promise]) (s : Streams) (parentKey child : Nat) : Step K s
    (s.pushPromiseLink parentKey child) := by
  unfold Streams.pushPromiseLink; stp_auto
theorem pushPromiseChild_step
    (hK : Kind.Has K [.insert, .release, .unlink, .enqueue .pendingSend, .enqueue .pendingCapacity,
      .enqueue .pendingResetExpired, .dequeue .pendingCapacity, .counterUp .localReset, .counterUp .localErrorReset,
      .counterDown .localReset, .state .reserveRemote, .state .setReset, .remoteReset, .frame .reset, .clearSend, .sendFlow,
      .connSendFlow, .markDrop, .appendRecv, .promise, .connTask])
    (s : Streams) (parentKey : Nat) (h : HeadersIn) : Step K s (s.pushPromiseChild parentKey h).1 := by
  rw [Streams.pushPromiseChild_eq]
  dsimp only
  generalize hs1 : (if s.store.contains h.sid = true then s.panic _ else s) = s1
  have h1 : Step K s s1 := by rw [← hs1]; exact Step.ite (panic_step _ _) (.refl _)
  have h2 : Step K s (s1.insertNew h.sid).1 := by
    refine h1.trans (insertNew_step ?_ _ _); stp_side
  generalize s1.insertNew h.sid = p2 at h2 ⊢
  stp_auto
theorem pushPromiseRest_step
    (hK : Kind.Has K [.insert, .release, .unlink, .enqueue .pendingSend, .enqueue .pendingCapacity,
      .enqueue .pendingResetExpired, .dequeue .pendingCapacity, .counterUp .localReset, .counterUp .localErrorReset,
      .counterDown .localReset, .state .reserveRemote, .state .setReset, .remoteReset, .frame .reset, .clearSend, .sendFlow,
      .connSendFlow, .markDrop, .appendRecv, .promise, .nextId, .connTask])
    (s : Streams) (parentKey : Nat) (h : HeadersIn) : Step K s (s.pushPromiseRest parentKey h).1 := by
  unfold Streams.pushPromiseRest; stp_auto
theorem alsConnect_step (hK : Kind.Has K [.config]) (s : Streams) (enableConnect : Option Nat) : Step K s
    (s.alsConnect enableConnect) := by
  unfold Streams.alsConnect; stp_auto
theorem alsDec_step (hK : Kind.Has K [.enqueue .pendingWindowUpdates, .recvFlow]) (dec : Nat) (s : Streams) (id : Nat) : Step K
    s (alsDec dec s id).1 := by
  unfold Streams.alsDec; stp_auto
theorem alsInc_step (hK : Kind.Has K [.recvFlow]) (inc : Nat) (s : Streams) (id : Nat) : Step K s (alsInc inc s id).1 := by
  unfold Streams.alsInc; stp_auto
theorem alsLoop_step (hK : Kind.Has K [.enqueue .pendingWindowUpdates, .recvFlow]) (s : Streams) (oldSz target : Nat) : Step K s
    (s.alsLoop oldSz target).1 := by
  unfold Streams.alsLoop; stp_auto
theorem alsWindow_step (hK : Kind.Has K [.enqueue .pendingWindowUpdates, .recvFlow, .config]) (s : Streams) (target : Nat) :
    Step K s (s.alsWindow target).1 := by
  unfold Streams.alsWindow; stp_auto
theorem sarsLess_step
    (hK : Kind.Has K [.enqueue .pendingSend, .enqueue .pendingCapacity, .dequeue .pendingCapacity, .sendFlow, .connSendFlow])
    (s : Streams) (dec : Nat) : Step K s (s.sarsLess dec).1 := by
  unfold Streams.sarsLess; stp_auto
theorem sarsMore_step
    (hK : Kind.Has K [.enqueue .pendingSend, .enqueue .pendingCapacity, .dequeue .pendingCapacity, .state .setReset,
      .frame .reset, .clearSend, .sendFlow, .connSendFlow, .markDrop, .connTask])
    (s : Streams) (inc : Nat) : Step K s (s.sarsMore inc).1 := by
  unfold Streams.sarsMore; stp_auto
theorem sarsWindow_step
    (hK : Kind.Has K [.enqueue .pendingSend, .enqueue .pendingCapacity, .dequeue .pendingCapacity, .state .setReset,
      .frame .reset, .clearSend, .sendFlow, .connSendFlow, .markDrop, .config, .connTask])
    (s : Streams) (val : Nat) : Step K s (s.sarsWindow val).1 := by
  unfold Streams.sarsWindow; stp_auto
theorem sarsConnect_step (hK : Kind.Has K [.config]) (s : Streams) (enableConnect : Option Nat) : Step K s
    (s.sarsConnect enableConnect) := by
  unfold Streams.sarsConnect; stp_auto
theorem sarsPush_step (hK : Kind.Has K [.config]) (s : Streams) (enablePush : Option Nat) : Step K s (s.sarsPush enablePush) :=
    by
  unfold Streams.sarsPush; stp_auto
theorem ppActivate_step (hK : Kind.Has K [.count, .enqueue .pendingSend, .enqueue .pendingOpen, .activatePush]) (s : Streams)
    (pushed : Nat) : Step K s (H2V.Lemmas.ConnCountsP.ppActivate s pushed) := by
  unfold H2V.Lemmas.ConnCountsP.ppActivate; stp_auto

theorem handleError_step
    (hK : Kind.Has K [.release, .unlink, .enqueue .pendingSend, .enqueue .pendingCapacity, .dequeue .pendingCapacity,
      .counterDown .localReset, .state .handleError, .clearSend, .sendFlow, .connSendFlow, .markDrop, .connError,
      .state .setResetScheduled])
    (s : Streams) (err : PErr) (he : (∃ i r, err = .reset i r .remote) → K .remoteReset := by stp_initiator) : Step K s
    (s.handleError err).1 := by
  unfold Streams.handleError; stp_auto
theorem recvGoAwayFrame_step
    (hK : Kind.Has K [.release, .unlink, .enqueue .pendingSend, .enqueue .pendingCapacity, .dequeue .pendingCapacity,
      .counterDown .localReset, .state .handleError, .clearSend, .sendFlow, .connSendFlow, .markDrop, .ids, .connError,
      .state .setResetScheduled])
    (s : Streams) (last : Nat) (r : Reason) (d : Bytes) : Step K s (s.recvGoAwayFrame last r d).1 := by
  unfold Streams.recvGoAwayFrame; stp_auto
theorem recvEof_step
    (hK : Kind.Has K [.release, .unlink, .enqueue .pendingSend, .enqueue .pendingCapacity, .dequeue .pendingSend,
      .dequeue .pendingCapacity, .dequeue .pendingOpen, .dequeue .pendingWindowUpdates, .dequeue .pendingAccept,
      .dequeue .pendingResetExpired, .counterDown .localReset, .state .recvEof, .clearSend, .sendFlow, .connSendFlow,
      .markDrop, .connError, .state .setResetScheduled])
    (s : Streams) (b : Bool) : Step K s (s.recvEof b) := by
  unfold Streams.recvEof; stp_auto

theorem sendApplyRemoteSettings_step
    (hK : Kind.Has K [.enqueue .pendingSend, .enqueue .pendingCapacity, .dequeue .pendingCapacity, .state .setReset,
      .frame .reset, .clearSend, .sendFlow, .connSendFlow, .markDrop, .config, .connTask])
    (s : Streams) (a b c : Option Nat) : Step K s (s.sendApplyRemoteSettings a b c).1 := by
  rw [Streams.sendApplyRemoteSettings_eq]; stp_auto
theorem applyRemoteSettings_step
    (hK : Kind.Has K [.enqueue .pendingSend, .enqueue .pendingCapacity, .dequeue .pendingCapacity, .state .setReset,
      .frame .reset, .clearSend, .sendFlow, .connSendFlow, .markDrop, .config, .connTask])
    (s : Streams) (vals : List (Nat × Nat)) (b : Bool) : Step K s (s.applyRemoteSettings vals b).1 := by
  unfold Streams.applyRemoteSettings; stp_auto
theorem applyLocalSettings_step (hK : Kind.Has K [.enqueue .pendingWindowUpdates, .recvFlow, .config]) (s : Streams)
    (a b : Option Nat) : Step K s (s.applyLocalSettings a b).1 := by
  rw [Streams.applyLocalSettings_eq]; stp_auto
theorem applyLocalSettingsFrame_step (hK : Kind.Has K [.enqueue .pendingWindowUpdates, .recvFlow, .config]) (s : Streams)
    (vals : List (Nat × Nat)) : Step K s (s.applyLocalSettingsFrame vals).1 := by
  unfold Streams.applyLocalSettingsFrame; stp_auto

theorem actionsSendReset_step
    (hK : Kind.Has K [.release, .unlink, .enqueue .pendingSend, .enqueue .pendingCapacity, .enqueue .pendingResetExpired,
      .dequeue .pendingCapacity, .counterUp .localReset, .counterUp .localErrorReset, .counterDown .localReset,
      .state .setReset, .frame .reset, .clearSend, .sendFlow, .connSendFlow, .markDrop, .connTask])
    (s : Streams) (k : Nat) (r : Reason) (i : Initiator) (hi : i = .remote → K .remoteReset := by stp_initiator) : Step K s
    (s.actionsSendReset k r i).1 := by
  unfold Streams.actionsSendReset; stp_auto
theorem refSendReset_step
    (hK : Kind.Has K [.release, .unlink, .enqueue .pendingSend, .enqueue .pendingCapacity, .enqueue .pendingResetExpired,
      .dequeue .pendingCapacity, .counterUp .localReset, .counterUp .localErrorReset, .counterDown .localReset,
      .state .setReset, .frame .reset, .clearSend, .sendFlow, .connSendFlow, .markDrop, .connTask])
    (s : Streams) (k : Nat) (r : Reason) : Step K s (s.refSendReset k r) := by
  unfold Streams.refSendReset; stp_auto
theorem recvData_step
    (hK : Kind.Has K [.release, .unlink, .enqueue .pendingSend, .enqueue .pendingCapacity, .enqueue .pendingWindowUpdates,
      .enqueue .pendingResetExpired, .dequeue .pendingCapacity, .counterUp .localReset, .counterUp .localErrorReset,
      .counterUp .dataFrames, .counterDown .localReset, .state .recvClose, .state .setReset, .remoteReset, .frame .reset,
      .clearSend, .sendFlow, .connSendFlow, .markDrop, .appendRecv, .recvFlow, .connRecvFlow, .contentLength, .connTask])
    (s : Streams) (id : Nat) (p : Bytes) (eos : Bool) (pad : Option Nat) : Step K s (s.recvData id p eos pad).1 := by
  rw [Streams.recvData_eq]; stp_auto
theorem recvReset_step
    (hK : Kind.Has K [.release, .unlink, .enqueue .pendingSend, .enqueue .pendingCapacity, .dequeue .pendingCapacity,
      .counterUp .remoteReset, .counterDown .localReset, .state .recvReset, .remoteReset, .clearSend, .sendFlow, .connSendFlow,
      .markDrop, .state .setResetScheduled])
    (s : Streams) (id : Nat) (r : Reason) : Step K s (s.recvReset id r).1 := by
  unfold Streams.recvReset; stp_auto
theorem refSendResponse_step
    (hK : Kind.Has K [.release, .unlink, .enqueue .pendingSend, .enqueue .pendingOpen, .counterDown .localReset,
      .state .sendOpen, .frame .headers, .connTask])
    (s : Streams) (k : Nat) (f : List Hpack.Field) (eos : Bool) : Step K s (s.refSendResponse k f eos).1 := by
  unfold Streams.refSendResponse; stp_auto
theorem refSendInformationalHeaders_step
    (hK : Kind.Has K [.release, .unlink, .enqueue .pendingSend, .counterDown .localReset, .frame .headers, .connTask])
    (s : Streams) (k : Nat) (f : List Hpack.Field) : Step K s (s.refSendInformationalHeaders k f).1 := by
  unfold Streams.refSendInformationalHeaders; stp_auto
theorem refSendData_step
    (hK : Kind.Has K [.release, .unlink, .enqueue .pendingSend, .enqueue .pendingCapacity, .dequeue .pendingCapacity,
      .counterDown .localReset, .state .sendClose, .frame .data, .buffer, .sendFlow, .connSendFlow, .connTask])
    (s : Streams) (k len : Nat) (eos : Bool) : Step K s (s.refSendData k len eos).1 := by
  unfold Streams.refSendData; stp_auto
theorem refSendTrailers_step
    (hK : Kind.Has K [.release, .unlink, .enqueue .pendingSend, .enqueue .pendingCapacity, .dequeue .pendingCapacity,
      .counterDown .localReset, .state .sendClose, .frame .headers, .sendFlow, .connSendFlow, .connTask])
    (s : Streams) (k : Nat) (f : List Hpack.Field) : Step K s (s.refSendTrailers k f).1 := by
  unfold Streams.refSendTrailers; stp_auto

theorem recvHeaders_step
    (hK : Kind.Has K [.insert, .release, .unlink, .count, .enqueue .pendingSend, .enqueue .pendingCapacity,
      .enqueue .pendingOpen, .enqueue .pendingAccept, .enqueue .pendingResetExpired, .dequeue .pendingCapacity,
      .counterUp .localReset, .counterUp .localErrorReset, .counterDown .localReset, .state .sendOpen, .state .recvOpen,
      .state .recvClose, .state .setScheduledReset, .state .setReset, .remoteReset, .frame .headers, .frame .reset, .clearSend,
      .sendFlow, .connSendFlow, .markDrop, .appendRecv, .contentLength, .ids, .nextId, .connTask])
    (s : Streams) (h : HeadersIn) : Step K s (s.recvHeaders h).1 := by
  rw [Streams.recvHeaders_eq]; stp_auto
theorem recvPushPromise_step
    (hK : Kind.Has K [.insert, .release, .unlink, .enqueue .pendingSend, .enqueue .pendingCapacity,
      .enqueue .pendingResetExpired, .dequeue .pendingCapacity, .counterUp .localReset, .counterUp .localErrorReset,
      .counterDown .localReset, .state .reserveRemote, .state .setReset, .remoteReset, .frame .reset, .clearSend, .sendFlow,
      .connSendFlow, .markDrop, .appendRecv, .promise, .nextId, .connTask])
    (s : Streams) (id : Nat) (h : HeadersIn) : Step K s (s.recvPushPromise id h).1 := by
  rw [Streams.recvPushPromise_eq]; stp_auto
theorem innerSendReset_step
    (hK : Kind.Has K [.insert, .release, .unlink, .enqueue .pendingSend, .enqueue .pendingCapacity,
      .enqueue .pendingResetExpired, .dequeue .pendingCapacity, .counterUp .localReset, .counterUp .localErrorReset,
      .counterDown .localReset, .state .setReset, .frame .reset, .clearSend, .sendFlow, .connSendFlow, .markDrop, .nextId,
      .connTask])
    (s : Streams) (id : Nat) (r : Reason) : Step K s (s.innerSendReset id r).1 := by
  unfold Streams.innerSendReset; stp_auto
/-- the states are named one by one: the term `send_request` builds repeats each of them many times -/
theorem sendRequestCore_step
    (hK : Kind.Has K [.insert, .enqueue .pendingSend, .enqueue .pendingOpen, .state .sendOpen, .frame .headers, .refInc,
      .nextId, .connTask])
    (isHead : Bool) (fields : List Hpack.Field) (eos : Bool) (s : Streams) : Step K s (sendRequestCore isHead fields eos s).1 :=
    by
  unfold sendRequestCore
  split
  · stp_auto
  · next s1 id heq =>
    have h1 : Step K s s1 := by
      refine of_fst_eq heq (sendOpenId_step ?_ _); stp_side
    dsimp only
    generalize hs2 : (if s1.store.contains id = true then s1.panic _ else s1) = s2
    have h2 : Step K s s2 := by rw [← hs2]; exact Step.ite (h1.trans (panic_step _ _)) h1
    generalize hs3 : ({ s2 with store := _ } : Streams) = s3
    have h3 : Step K s s3 := by
      rw [← hs3]; unfold requestStream
      cases isHead
      · refine h2.trans (.insert _ _ _ _ ?_); stp_side
      · refine h2.trans (.insertWith _ _ _ _ _ ?_); stp_side
    stp_auto
theorem sendRequest_step
    (hK : Kind.Has K [.insert, .enqueue .pendingSend, .enqueue .pendingOpen, .state .sendOpen, .frame .headers, .refInc,
      .nextId, .connTask])
    (s : Streams) (isHead : Bool) (fields : List Hpack.Field) (eos : Bool) (pending : Option Nat) : Step K s
    (s.sendRequest isHead fields eos pending).1 := by
  rcases sendRequest_cases s isHead fields eos pending with h | h
  · rw [h]; exact .refl _
  · rw [h]; refine sendRequestCore_step ?_ _ _ _ _; stp_side
theorem refSendPushPromise_step
    (hK : Kind.Has K [.insert, .enqueue .pendingSend, .state .reserveLocal, .frame .pushPromise, .pendPush, .refInc, .nextId,
      .connTask])
    (s : Streams) (parent : Nat) (valid : Bool) (fields : List Hpack.Field) : Step K s
    (s.refSendPushPromise parent valid fields).1 := by
  unfold Streams.refSendPushPromise
  split
  · stp_auto
  · next s1 pid heq =>
    have h1 : Step K s s1 := by
      refine of_fst_eq heq (sendReserveLocal_step ?_ _); stp_side
    dsimp only
    generalize hs2 : (if s1.store.contains pid = true then s1.panic _ else s1) = s2
    have h2 : Step K s s2 := by rw [← hs2]; exact Step.ite (h1.trans (panic_step _ _)) h1
    generalize hs3 : ({ s2 with store := _ } : Streams) = s3
    have h3 : Step K s s3 := by
      rw [← hs3]; refine h2.trans (.insert _ _ _ _ ?_); stp_side
    stp_auto
theorem dropStreamRef_step
    (hK : Kind.Has K [.release, .unlink, .enqueue .pendingSend, .enqueue .pendingCapacity, .enqueue .pendingResetExpired,
      .dequeue .pendingCapacity, .counterUp .localReset, .counterDown .localReset, .counterDown .dataFrames,
      .state .setScheduledReset, .sendFlow, .connSendFlow, .takeRecv, .recvFlow, .connRecvFlow, .refDec, .promise, .connTask])
    (s : Streams) (k : Nat) : Step K s (s.dropStreamRef k) := by
  unfold Streams.dropStreamRef; stp_auto


end H2V.Model.Conn.Streams
