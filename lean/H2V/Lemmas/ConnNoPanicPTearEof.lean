import H2V.Lemmas.ConnNoPanicPTearAcc
/-
  C08 (no panic): `Inner::recv_eof`.  The closure of its `for_each` leaves `pending_accept`
  and the `is_pending_accept` flags alone (a step of the stream layer of the kinds `QF.kinds .pendingAccept`), so `AccOK`
  of the initial state is still there when `clear_all_pending_accept` runs.
-/
namespace H2V.Lemmas.ConnNoPanicP
open H2V H2V.Model H2V.Model.Conn H2V.Lemmas.ConnCountsP
attribute [local irreducible] wrapSubU32 wrapSubUsize

theorem modCounts_af (s : Streams) (f : Counts → Counts) : QF .pendingAccept s (s.modCounts f) := .of_store_q rfl rfl
theorem wake_af (s : Streams) (t : List String) : QF .pendingAccept s (s.wake t) := .of_store_q rfl rfl
theorem qPushFront_af (s : Streams) (q : QName) (k : Nat) (h : QName.pendingAccept ≠ q) :
    QF .pendingAccept s (s.qPushFront q k).1 := QF.qPushFront _ _ _ _ h
theorem decNumStreams_af (s : Streams) (k : Nat) : QF .pendingAccept s (s.decNumStreams k) := QF.decNumStreams _ _ _

/-- the footprint of a callee against `QF.kinds` -/
syntax "af_side" : tactic
macro_rules | `(tactic| af_side) => `(tactic| exact fun _ _ _ => rfl)
macro_rules | `(tactic| af_side) => `(tactic| decide)

/-- one call peeled off: its lemma `g_af` if there is one, else `g_step` of the layer through `QF.of_step` -/
syntax "af_step" : tactic
macro_rules | `(tactic| af_step) => `(tactic| open H2V.Model.Conn.Streams in rel_head QF "_af" via QF.of_step "_step" => fail)
macro_rules | `(tactic| af_step) => `(tactic| with_reducible refine of_fst_eq (P := QF _ _) (by with_reducible assumption) ?_)
macro_rules | `(tactic| af_step) => `(tactic| with_reducible assumption)
macro_rules | `(tactic| af_step) => `(tactic| with_reducible exact QF.refl _ _)

macro "af_auto_ih" ih:ident : tactic =>
  `(tactic| repeat (first | af_step | with_reducible refine QF.trans ?_ ($ih ..) | af_side | split | dsimp only))

/-- `recv_eof` is `clear_queues` after a prefix (the error is recorded, then `recv_eof` + `handle_error` on every stream):
    steps of the layer that keep `NPE`.  They leave `pending_accept` and the `is_pending_accept` flags alone (`QF.of_step`), so
    `AccOK` of the initial state is still there when `clear_all_pending_accept` runs -/
theorem recvEof_split {K : Kind → Bool}
    (hK : Kind.Has K [.connError, .release, .unlink, .counterDown .localReset, .state .recvEof, .enqueue .pendingSend,
      .enqueue .pendingCapacity, .dequeue .pendingCapacity, .clearSend, .sendFlow, .connSendFlow, .markDrop, .state .setResetScheduled])
    (s : Streams) (b : Bool) : ∃ t, s.recvEof b = t.clearQueues b ∧ Streams.Step K s t ∧ ∀ E, NPE E s → NPE E t := by
  unfold Streams.recvEof
  refine ⟨_, rfl, ?_, fun E h => ?_⟩
  · refine .trans (.ite (.setConnError _ _ (by stp_side)) (.refl _)) (Streams.storeForEach_step _ _ fun s k =>
      Streams.transition_step (hK.sub rfl) s k _ fun s => ?_)
    -- `(x, ()).1` is reduced first: the unifier would unfold the model functions in `x` instead
    dsimp only
    exact (Streams.recvRecvEof_step (hK.sub rfl) s k).trans (Streams.sendHandleError_step (hK.sub rfl) _ k)
  · refine storeForEach_npe (fun t k => teardownClosure_npe (·.recvRecvEof k) (recvRecvEof_lt · k)
      fun s => .of_step (Streams.recvRecvEof_step (by decide) s k)) ?_
    split
    · exact setConnError_npe _ h
    · exact h

/-- `recv_eof(clear_pending_accept)`; `AccOK` is only needed when `pending_accept` is cleared -/
theorem recvEof_npe {s : Streams} (h : NPI (fun _ => False) s) (he : ErrOK s) (b : Bool) (ha : b = true → AccOK s) :
    NPE (fun _ => False) (s.recvEof b) := by
  obtain ⟨t, e, a, hn⟩ := recvEof_split (K := QF.kinds .pendingAccept) (of_decide_eq_true rfl) s b
  rw [e]
  exact clearQueues_npe (hn _ ⟨h, he⟩) b (fun hb => AccOK.of_qf (.of_step a) (ha hb))

theorem recvEof_npi {s : Streams} (h : NPI (fun _ => False) s) (he : ErrOK s) (b : Bool) (ha : b = true → AccOK s) :
    NPI (fun _ => False) (s.recvEof b) := (recvEof_npe h he b ha).1

theorem handleError_accOK {s : Streams} (ha : AccOK s) (err : PErr) : AccOK (s.handleError err).1 :=
  AccOK.of_qf (.of_step (Streams.handleError_step (by decide) s err)) ha
theorem recvGoAwayFrame_accOK {s : Streams} (ha : AccOK s) (last : Nat) (r : Reason) (d : Bytes) :
    AccOK (s.recvGoAwayFrame last r d).1 := AccOK.of_qf (.of_step (Streams.recvGoAwayFrame_step (by decide) s last r d)) ha

theorem recvEof_accOK {s : Streams} (ha : AccOK s) (b : Bool) : AccOK (s.recvEof b) := by
  obtain ⟨t, e, a, _⟩ := recvEof_split (K := QF.kinds .pendingAccept) (of_decide_eq_true rfl) s b
  rw [e]
  exact clearQueues_accOK (AccOK.of_qf (.of_step a) ha) b

end H2V.Lemmas.ConnNoPanicP
