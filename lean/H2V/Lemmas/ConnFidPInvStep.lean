import H2V.Lemmas.ConnFidPInv
/-
  ConnFidP — `Inv` is preserved by every elementary step off the write path (`El.inv`), hence by
  every model function other than `pop_frame` / `reclaim_frame` / `buffer_out` (through the path lemmas of
  ConnFidPFn*.lean).  Side conditions: a message frame is only queued on an entry that was not cut
  (`hpush`; for the API calls this is "a closed stream refuses the call", ConnFidPHist.lean), and the
  `weird` flag stays down.
-/
namespace H2V.Lemmas.ConnFidP
open H2V H2V.Model H2V.Model.Conn H2V.Lemmas.ConnWakeP

def Lbl.isWrite : Lbl → Bool
  | .unpop _ _ => true
  | .mark _ => true
  | _ => false

def gstepO (s : Streams) (l : Option Lbl) (g : Ghost) : Ghost :=
  match l with
  | none => g
  | some l => gstep s l g

theorem gstep_emi (s : Streams) (l : Lbl) (g : Ghost) (hl : ∀ k f, l ≠ .pop k f) : (gstep s l g).emi = g.emi := by
  cases l <;> simp only [gstep] <;> (try rfl) <;> (try (split <;> rfl))
  next k f => exact absurd rfl (hl k f)

section
variable {l : Option Lbl} {s s' : Streams} {h : Option DataFrame} {g : Ghost}

theorem El.marker_step (e : El l s s') (hw : ∀ l', l = some l' → l'.isWrite = false) :
    marker s' = marker s ∨ (∃ j n, l = some (.cut j n) ∧ marker s = .dataFrame j ∧ marker s' = .drop) := by
  have hm := e.mark
  cases l with
  | none => exact Or.inl hm
  | some l' =>
    cases l' with
    | cut j n =>
      simp only [markEff] at hm
      split at hm
      · next hj => exact Or.inr ⟨j, n, rfl, hj, hm⟩
      · exact Or.inl hm
    | mark m => exact absurd (hw _ rfl) (by simp [Lbl.isWrite])
    | _ => exact Or.inl hm

theorem Coupled.step (e : El l s s') (hw : ∀ l', l = some l' → l'.isWrite = false) (hc : Coupled s h) : Coupled s' h := by
  rcases e.marker_step hw with hm | ⟨j, n, _, hj, hd⟩
  · exact ⟨by rw [hm]; exact hc.nothing, by rw [hm]; exact hc.data⟩
  · obtain ⟨fr, hfr, _⟩ := hc.data j hj
    refine ⟨⟨fun h1 => ?_, fun h1 => ?_⟩, fun i hi => ?_⟩
    · rw [hd] at h1; cases h1
    · rw [hfr] at h1; cases h1
    · rw [hd] at hi; cases hi

theorem inflight_step (e : El l s s') (hw : ∀ l', l = some l' → l'.isWrite = false) (hc : Coupled s h) (k : Nat) :
    inflight s' h k = inflight s h k ∨
    (∃ n, l = some (.cut k n) ∧ marker s = .dataFrame k ∧ inflight s' h k = []) := by
  rcases e.marker_step hw with hm | ⟨j, n, hl, hj, hd⟩
  · exact Or.inl (inflight_congr k hm)
  · have h0 : inflight s' h k = [] := inflight_of_marker_ne (by rw [hd]; intro i hi; cases hi)
    by_cases hjk : j = k
    · subst hjk; exact Or.inr ⟨n, hl, hj, h0⟩
    · refine Or.inl ?_
      rw [h0]
      obtain ⟨fr, hfr, hk⟩ := hc.data j hj
      unfold inflight
      rw [hj, hfr]
      simp only
      rw [if_neg]
      intro hx; exact hjk (hk.symm.trans hx.1)

theorem out_congr (k : Nat) (h1 : sq s' k = sq s k) (h2 : inflight s' h k = inflight s h k) : out s' h k = out s h k := by
  unfold out; rw [h1, h2]

theorem sq_absent {k : Nat} (ha : s.store.get? k = none) : sq s k = [] := sq_of_none ha

end

/-- the entry whose send queue or ghost a label touches -/
def Lbl.sendKey? : Lbl → Option Nat
  | .push j _ | .pop j _ | .cut j _ | .gone j => some j
  | _ => none

theorem gstep_frame (s : Streams) (l : Lbl) (g : Ghost) (k : Nat) (hk : l.sendKey? ≠ some k) :
    (gstep s l g).acc k = g.acc k ∧ (gstep s l g).emi k = g.emi k ∧ (gstep s l g).cut k = g.cut k := by
  have hk' : ∀ j, l.sendKey? = some j → k ≠ j := fun j e e' => hk (e' ▸ e)
  cases l with
  | push j f => simp only [gstep]; split; exact ⟨upd_other _ _ (hk' j rfl), rfl, rfl⟩; exact ⟨rfl, rfl, rfl⟩
  | pop j f => simp only [gstep]; split; exact ⟨rfl, upd_other _ _ (hk' j rfl), rfl⟩; exact ⟨rfl, rfl, rfl⟩
  | cut j n => simp only [gstep]; split; exact ⟨rfl, rfl, upd_other _ _ (hk' j rfl)⟩; exact ⟨rfl, rfl, rfl⟩
  | gone j => simp only [gstep]; split; exact ⟨rfl, rfl, upd_other _ _ (hk' j rfl)⟩; exact ⟨rfl, rfl, rfl⟩
  | _ => exact ⟨rfl, rfl, rfl⟩

theorem gstep_other (s : Streams) (l : Lbl) (g : Ghost) (k : Nat) (hk : s.store.get? k = none)
    (hp : ∀ j, l.key? = some j → l.isCut = false → (s.store.get? j).isSome = true) :
    (gstep s l g).acc k = g.acc k ∧ (gstep s l g).cut k = g.cut k ∧ (gstep s l g).emi k = g.emi k := by
  by_cases hs : l.sendKey? = some k
  · have hn : (s.store.get? k).isSome = false := by rw [hk]; rfl
    cases l <;> cases hs
    · exact absurd (hp k rfl rfl) (by rw [hn]; exact Bool.false_ne_true)
    · exact absurd (hp k rfl rfl) (by rw [hn]; exact Bool.false_ne_true)
    · simp only [gstep, hn, Bool.false_eq_true, if_false, and_self]
    · simp only [gstep, hn, Bool.false_eq_true, if_false, and_self]
  · obtain ⟨ha, he, hc⟩ := gstep_frame s l g k hs
    exact ⟨ha, hc, he⟩

theorem gstep_cut_new {s : Streams} {l : Lbl} {g : Ghost} {k : Nat} (h0 : ¬g.cut k = true) (h1 : (gstep s l g).cut k = true) :
    ((∃ n, l = .cut k n) ∨ l = .gone k) ∧ (s.store.get? k).isSome = true := by
  by_cases hk : l.sendKey? = some k
  case neg => exact absurd ((gstep_frame s l g k hk).2.2 ▸ h1) h0
  cases l with
  | cut j n =>
    cases Option.some.inj hk
    simp only [gstep] at h1; split at h1
    · exact ⟨Or.inl ⟨n, rfl⟩, ‹_›⟩
    · exact absurd h1 h0
  | gone j =>
    cases Option.some.inj hk
    simp only [gstep] at h1; split at h1
    · exact ⟨Or.inr rfl, ‹_›⟩
    · exact absurd h1 h0
  | push j f => simp only [gstep] at h1; split at h1 <;> exact absurd h1 h0
  | pop j f => simp only [gstep] at h1; split at h1 <;> exact absurd h1 h0
  | _ => cases hk

theorem gstep_cut_mono (s : Streams) (l : Lbl) (g : Ghost) (k : Nat) (h : g.cut k = true) : (gstep s l g).cut k = true := by
  cases l <;> simp only [gstep] <;> (try exact h) <;> split <;> (try exact h)
  all_goals (simp only [upd]; split <;> first | rfl | exact h)

theorem gstep_weird_mono (s : Streams) (l : Lbl) (g : Ghost) (h : (gstep s l g).weird = false) : g.weird = false := by
  cases l <;> simp only [gstep] at h <;> (try exact h) <;> split at h <;> (try exact h)
  simp only [Bool.or_eq_false_iff] at h; exact h.1


section
variable {s s' : Streams} {h : Option DataFrame} {g : Ghost}

theorem ref_tau (e : El none s s') (hI : Inv s h g) (k : Nat) :
    ∃ D, Refine (g.emi k ++ msg (out s' h k) ++ D) (g.acc k) ∧ (g.cut k = false → D = []) := by
  have hq : sq s' k = sq s k := by
    rcases e.view k with ⟨hg, _⟩ | ⟨hs, _⟩
    · cases hg
    · exact hs
  have hi : inflight s' h k = inflight s h k := inflight_congr k e.mark
  rw [out_congr k hq hi]; exact hI.ref k

theorem out_frame {l : Lbl} (e : El (some l) s s') (hw : l.isWrite = false) (hc : Coupled s h) (k : Nat)
    (hk : l.sendKey? ≠ some k) : out s' h k = out s h k := by
  refine out_congr k ?_ ?_
  · rcases e.view k with ⟨hg, _⟩ | ⟨hs, _⟩
    · cases hg; exact absurd rfl hk
    · rw [hs]
      cases l <;> simp only [sendEff] <;> first | rfl | (simp [Lbl.isWrite] at hw; done) | skip
      all_goals exact if_neg fun e' => hk (by rw [e']; rfl)
  · rcases inflight_step e (by intro l' e'; cases e'; exact hw) hc k with hi | ⟨n, hl, _⟩
    · exact hi
    · cases hl; exact absurd rfl hk

/-- … for a key that names no entry, across a labelled step: its ghost is untouched and its queue stays empty; what is in
    flight for it is kept, or dropped — and then it counts as cut already -/
theorem ref_absent (l : Lbl) (e : El (some l) s s') (hw : l.isWrite = false) (hI : Inv s h g) (k : Nat)
    (hp : s.store.get? k = none) :
    ∃ D, Refine ((gstep s l g).emi k ++ msg (out s' h k) ++ D) ((gstep s l g).acc k) ∧ ((gstep s l g).cut k = false → D = []) := by
  obtain ⟨ha, hc, he⟩ := gstep_other s l g k hp (fun j hj hcut => e.pres l j rfl hj hcut)
  rw [ha, hc, he]
  obtain ⟨D, hR, hD⟩ := hI.ref k
  have hsq : sq s' k = sq s k := by
    rw [sq_of_none hp]
    cases hb : s'.store.get? k with
    | none => exact sq_of_none hb
    | some b => rw [sq_of_get? hb]; exact (e.new k b hp hb).2.2.1
  rcases inflight_step e (by intro l' e'; cases e'; exact hw) hI.cp k with hi | ⟨_, _, _, hi⟩
  · rw [out_congr k hsq hi]; exact ⟨D, hR, hD⟩
  · by_cases h0 : inflight s h k = []
    · rw [out_congr k hsq (hi.trans h0.symm)]; exact ⟨D, hR, hD⟩
    · have hcut : g.cut k = true := by
        rcases hI.infl k h0 with hpres | hcut
        · rw [hp] at hpres; cases hpres
        · exact hcut
      refine ⟨msg (out s h k) ++ D, ?_, fun hc' => by rw [hcut] at hc'; cases hc'⟩
      have : out s' h k = [] := by unfold out; rw [hi, hsq, sq_of_none hp]; rfl
      rw [this, msg_nil, List.append_nil, ← List.append_assoc]; exact hR

theorem ref_lbl (l : Lbl) (e : El (some l) s s') (hw : l.isWrite = false) (hI : Inv s h g)
    (hpush : ∀ k f, l = .push k f → isMsg f = true → g.cut k = false)
    (hweird : (gstep s l g).weird = false) (hpop : ∀ j f, l = .pop j f → h = none) (k : Nat) :
    ∃ D, Refine ((gstep s l g).emi k ++ msg (out s' h k) ++ D) ((gstep s l g).acc k) ∧ ((gstep s l g).cut k = false → D = []) := by
  by_cases hk : l.sendKey? = some k
  case neg =>
    obtain ⟨ha, he, hc⟩ := gstep_frame s l g k hk
    rw [ha, he, hc, out_frame e hw hI.cp k hk]; exact hI.ref k
  cases hp : s.store.get? k with
  | none => exact ref_absent l e hw hI k hp
  | some a =>
    obtain ⟨D, hR, hD⟩ := hI.ref k
    have hww : ∀ l', some l = some l' → l'.isWrite = false := by intro l' e'; cases e'; exact hw
    have hinf := inflight_step e hww hI.cp k
    cases l with
    | pop j f =>
      have hj : j = k := Option.some.inj hk
      subst hj
      have hn := hpop j f rfl
      subst hn
      have ho : ∀ t : Streams, out t none j = sq t j := by intro t; unfold out; rw [inflight_none]; rfl
      rw [ho] at hR ⊢
      have hv := e.view_pop
      rw [hv] at hR
      by_cases hm : isMsg f = true
      · refine ⟨D, ?_, ?_⟩
        · simp only [gstep, hm, if_true, upd_same]
          rw [msg_cons_msg hm] at hR
          simpa only [List.append_assoc, List.cons_append, List.nil_append] using hR
        · simp only [gstep, hm, if_true]; exact hD
      · have hm' : isMsg f = false := by simpa using hm
        refine ⟨D, ?_, ?_⟩
        · simp only [gstep, hm']
          have : msg (f :: sq s' j) = msg (sq s' j) := by simp [msg, hm']
          rw [this] at hR; exact hR
        · simp only [gstep, hm']; exact hD
    | push j f =>
      have hj : j = k := Option.some.inj hk
      subst hj
      rw [gstep_emi _ _ _ (by intro _ _ e'; cases e')]
      have hi : inflight s' h j = inflight s h j := by
        rcases hinf with hi | ⟨n, hl, _⟩
        · exact hi
        · cases hl
      rcases e.view j with ⟨hg, _⟩ | ⟨hs, _⟩
      · cases hg
      · simp only [sendEff, if_true] at hs
        have ho : out s' h j = out s h j ++ [f] := by unfold out; rw [hi, hs, List.append_assoc]
        rw [ho, msg_append]
        by_cases hm : isMsg f = true
        · have hc := hpush j f rfl hm
          have hD0 := hD hc
          subst hD0
          refine ⟨[], ?_, fun _ => rfl⟩
          simp only [gstep, hm, if_true, upd_same, List.append_nil] at hR ⊢
          have : msg [f] = [f] := by simp [msg, hm]
          rw [this, ← List.append_assoc]
          exact hR.snoc f
        · have hm' : isMsg f = false := by simpa using hm
          have : msg [f] = [] := by simp [msg, hm']
          simp only [gstep, hm', this, List.append_nil]
          exact ⟨D, hR, hD⟩
    | cut j n =>
      have hj : j = k := Option.some.inj hk
      subst hj
      rw [gstep_emi _ _ _ (by intro _ _ e'; cases e')]
      rcases e.view j with ⟨hg, _⟩ | ⟨hs, _⟩
      · cases hg
      · simp only [sendEff, if_true] at hs
        have hcut : (gstep s (.cut j n) g).cut j = true := by simp [gstep, hp]
        have hacc : (gstep s (.cut j n) g).acc j = g.acc j := by simp [gstep, hp]
        rw [hacc]
        rcases hinf with hi | ⟨n', hl, hmk, hi⟩
        · -- the marker does not name `j`: the in-flight part is kept, the queue keeps its first `n` frames
          refine ⟨msg ((sq s j).drop n) ++ D, ?_, fun hc => by rw [hcut] at hc; cases hc⟩
          have : msg (out s' h j) ++ (msg ((sq s j).drop n) ++ D) = msg (out s h j) ++ D := by
            unfold out
            rw [hi, hs, msg_append, msg_append, msg_take_drop (sq s j) n]
            simp only [List.append_assoc]
          rw [List.append_assoc, this, ← List.append_assoc]; exact hR
        · -- the marker names `j`: everything of `j` is dropped (n = 0, or the `weird` flag goes up)
          cases hl
          have hn : n = 0 := by
            simp only [gstep, hp, Option.isSome_some, if_true, Bool.or_eq_false_iff, Bool.and_eq_false_iff,
              decide_eq_false_iff_not] at hweird
            rcases hweird.2 with h1 | h1
            · omega
            · exact absurd hmk h1
          subst hn
          refine ⟨msg (out s h j) ++ D, ?_, fun hc => by rw [hcut] at hc; cases hc⟩
          have : out s' h j = [] := by unfold out; rw [hi, hs]; rfl
          rw [this, msg_nil, List.append_nil, ← List.append_assoc]; exact hR
    | gone j =>
      have hj : j = k := Option.some.inj hk
      subst hj
      rw [gstep_emi _ _ _ (by intro _ _ e'; cases e')]
      have hi : inflight s' h j = inflight s h j := by
        rcases hinf with hi | ⟨n, hl, _⟩
        · exact hi
        · cases hl
      have hcut : (gstep s (.gone j) g).cut j = true := by simp [gstep, hp]
      have hacc : (gstep s (.gone j) g).acc j = g.acc j := by simp [gstep, hp]
      rw [hacc]
      rcases e.view j with ⟨_, hn⟩ | ⟨hs, _⟩
      · refine ⟨msg (sq s j) ++ D, ?_, fun hc => by rw [hcut] at hc; cases hc⟩
        have : msg (out s' h j) ++ (msg (sq s j) ++ D) = msg (out s h j) ++ D := by
          unfold out
          rw [hi, sq_of_none hn, msg_append, msg_append]
          simp only [msg_nil, List.append_nil, List.append_assoc]
        rw [List.append_assoc, this, ← List.append_assoc]; exact hR
      · simp only [sendEff] at hs
        rw [out_congr j hs hi]
        exact ⟨D, hR, fun hc => by rw [hcut] at hc; cases hc⟩
    | _ => cases hk

/-- **`Inv` across one elementary step off the write path** -/
theorem El.inv (lo : Option Lbl) (e : El lo s s') (hw : ∀ l, lo = some l → l.isWrite = false) (hI : Inv s h g)
    (hpush : ∀ k f, lo = some (.push k f) → isMsg f = true → g.cut k = false)
    (hweird : (gstepO s lo g).weird = false) (hpop : ∀ j f, lo = some (.pop j f) → h = none) :
    Inv s' h (gstepO s lo g) := by
  -- the ghost at a key that has no entry
  have hgo : ∀ k, s.store.get? k = none → (gstepO s lo g).acc k = g.acc k ∧ (gstepO s lo g).cut k = g.cut k ∧
      (gstepO s lo g).emi k = g.emi k := by
    intro k hk
    cases lo with
    | none => exact ⟨rfl, rfl, rfl⟩
    | some l => exact gstep_other s l g k hk (fun j hj hc => e.pres l j rfl hj hc)
  -- an entry that exists or was cut exists or was cut after the step
  have alive : ∀ k, (s.store.get? k).isSome = true ∨ g.cut k = true →
      (s'.store.get? k).isSome = true ∨ (gstepO s lo g).cut k = true := by
    intro k hpc
    rcases hpc with hp | hc
    · obtain ⟨a, ha⟩ := Option.isSome_iff_exists.mp hp
      rcases e.keep k a ha with ⟨b, hb, _⟩ | ⟨_, hl⟩
      · exact Or.inl (by rw [hb]; rfl)
      · subst hl
        exact Or.inr (by simp [gstepO, gstep, ha])
    · refine Or.inr ?_
      cases lo with
      | none => exact hc
      | some l => exact gstep_cut_mono s l g k hc
  refine ⟨e.keysBelow hI.kb, Coupled.step e hw hI.cp, ?_, ?_, ?_, ?_, ?_, ?_⟩
  · intro k hk
    rcases inflight_step e hw hI.cp k with hi | ⟨_, _, _, hi⟩
    · rw [hi] at hk; exact Nat.lt_of_lt_of_le (hI.inflLt k hk) e.nk
    · exact absurd hi hk
  · intro k hk
    have hk0 : s.store.nextKey ≤ k := Nat.le_trans e.nk hk
    obtain ⟨h1, h2, h3⟩ := hI.ghostKey k hk0
    have hab : s.store.get? k = none := by
      cases ha : s.store.get? k with
      | none => rfl
      | some a => exact absurd (hI.kb k a ha) (Nat.not_lt.mpr hk0)
    obtain ⟨e1, e2, e3⟩ := hgo k hab
    exact ⟨e1.trans h1, e3.trans h2, e2.trans h3⟩
  · intro k
    cases lo with
    | none => exact ref_tau e hI k
    | some l =>
      exact ref_lbl l e (hw l rfl) hI (fun k f hl => hpush k f (by rw [hl])) hweird (fun j f hl => hpop j f (by rw [hl])) k
  · intro k hc b hb
    rcases e.back hb with ⟨a, ha, es⟩ | ⟨hn, hk⟩
    · by_cases hg : g.cut k = true
      · exact es.closed (hI.closed k hg a ha)
      · -- newly cut: the label is `cut k _` (the step checks that the entry is closed) or `gone k` (then it is gone)
        cases lo with
        | none => exact absurd hc hg
        | some l =>
          rcases (gstep_cut_new hg hc).1 with ⟨n, rfl⟩ | rfl
          · have := es.side
            simp only [sideOk] at this
            exact this (by rw [es.key]; exact (Conn.Store.get?_key ha).symm)
          · have := e.goneAbs k rfl
            rw [hb] at this; cases this
    · have := (hgo k hn).2.1
      rw [this, (hI.ghostKey k hk).2.2] at hc; cases hc
  · intro k hk
    have hk0 : inflight s h k ≠ [] := by
      rcases inflight_step e hw hI.cp k with hi | ⟨_, _, _, hi⟩
      · rw [hi] at hk; exact hk
      · exact absurd hi hk
    exact alive k (hI.infl k hk0)
  · intro k hk
    -- something emitted from `k`: before this step (then `k` exists or was cut), or by this very pop (then it exists)
    have hpre : (s.store.get? k).isSome = true ∨ g.cut k = true := by
      by_cases h0 : g.emi k = []
      · cases lo with
        | none => exact absurd h0 hk
        | some l =>
          cases l with
          | pop j f =>
            by_cases hj : j = k
            · subst hj; exact Or.inl (e.pres _ j rfl rfl rfl)
            · exfalso; apply hk
              simp only [gstepO, gstep]
              split
              · show upd g.emi j (g.emi j ++ [f]) k = []
                rw [upd_other _ _ (fun e' => hj e'.symm)]; exact h0
              · exact h0
          | _ =>
            exfalso; apply hk
            simp only [gstepO]
            rw [gstep_emi _ _ _ (by intro _ _ e'; cases e')]; exact h0
      · exact hI.live k h0
    exact alive k hpre

end
end H2V.Lemmas.ConnFidP
