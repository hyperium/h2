import H2V.Lemmas.ConnFlowPPrim
import H2V.Lemmas.ConnStepOp
/-
  ConnFlowP — the strong frame `SFr` from the step layer.  `SFr.of_step`: a step of the stream layer (`Streams.Step`,
  ConnStep) that writes no stream's and not the connection's send flow and pushes nobody onto `pending_capacity` is a
  strong frame step.  So a primitive of `ConnStore.lean` or a model function whose footprint has none of these three
  kinds needs no lemma here: the walker takes its `_step` lemma through `SFr.of_step` (`sfr_base`).  `Fr`, the
  connection window, `ReqOk`, `SafeInvG` and ConnDrainP's `KInv` are read off `SFr`.
-/
namespace H2V.Lemmas.ConnFlowP
open H2V H2V.Model H2V.Model.Conn H2V.Lemmas.Comp

@[reducible] def ReqF (f : Stream → Stream) : Prop :=
  ∀ x, (f x).requestedSendCapacity = x.requestedSendCapacity ∨ (f x).requestedSendCapacity < 4294967296
@[reducible] def ReqFW (f : Stream → Stream × List String) : Prop :=
  ∀ x, (f x).1.requestedSendCapacity = x.requestedSendCapacity ∨ (f x).1.requestedSendCapacity < 4294967296

theorem min_u32max_lt (x : Nat) : min x U32_MAX < 4294967296 := by unfold U32_MAX; omega
theorem wrapSubU32_lt (a b : Nat) : wrapSubU32 a b < 4294967296 := by unfold wrapSubU32 U32_MOD; omega

theorem notifySend_req (x : Stream) : x.notifySend.1.requestedSendCapacity = x.requestedSendCapacity := by
  unfold Stream.notifySend
  cases x.sendTask <;> dsimp only <;> split <;> rfl
theorem notifyRecv_req (x : Stream) : x.notifyRecv.1.requestedSendCapacity = x.requestedSendCapacity := by
  unfold Stream.notifyRecv; split <;> rfl
theorem notifyPush_req (x : Stream) : x.notifyPush.1.requestedSendCapacity = x.requestedSendCapacity := by
  unfold Stream.notifyPush; split <;> rfl
theorem notifyCapacity_req (x : Stream) : x.notifyCapacity.1.requestedSendCapacity = x.requestedSendCapacity := by
  unfold Stream.notifyCapacity; exact notifySend_req _
theorem setReset_req (x : Stream) (r : Reason) (i : Initiator) :
    (x.setReset r i).1.requestedSendCapacity = x.requestedSendCapacity := by
  unfold Stream.setReset
  simp only
  rw [notifyRecv_req, notifyPush_req, notifySend_req]
theorem assignCapacity_req (x : Stream) (n m : Nat) :
    (x.assignCapacity n m).1.requestedSendCapacity = x.requestedSendCapacity := by
  unfold Stream.assignCapacity; dsimp only; split
  · exact notifyCapacity_req _
  · rfl
theorem new_req (id a b : Nat) : (Stream.new id a b).requestedSendCapacity < 4294967296 := by
  unfold Stream.new; dsimp only; omega

/-- side conditions `ReqF f` / `ReqFW f` -/
syntax "reqf" : tactic
macro_rules | `(tactic| reqf) => `(tactic| first
  | (intro _; exact Or.inl rfl)
  | (intro x; cases ‹QName› <;> exact Or.inl rfl)
  | (intro _; exact Or.inr (usizeAsU32_lt _))
  | (intro _; exact Or.inr (min_u32max_lt _))
  | (intro _; exact Or.inr (by show (0 : Nat) < 4294967296; omega))
  | (intro _; exact Or.inl (notifySend_req _))
  | (intro _; exact Or.inl (notifyRecv_req _))
  | (intro _; exact Or.inl (notifyPush_req _))
  | (intro _; exact Or.inl (notifyCapacity_req _))
  | (intro _; exact Or.inl (setReset_req _ _ _))
  | (intro _; exact Or.inl (assignCapacity_req _ _ _)))

section
variable {t : Streams}

theorem ReqOk.modStreamF {id : Nat} {f : Stream → Stream} (hf : ReqF f) (h : ReqOk t) : ReqOk (t.modStream id f) := by
  unfold Streams.modStream
  split
  · rename_i st hget
    intro y hy
    simp only [Streams.setStream, Store.set, List.mem_map] at hy
    obtain ⟨x, hx, rfl⟩ := hy
    split
    · rcases hf st with e | e
      · rw [e]; exact h st (get?_mem hget).1
      · exact e
    · exact h x hx
  · exact h.same (by rw [panic_store])

theorem ReqOk.modStreamWF {id : Nat} {f : Stream → Stream × List String} (hf : ReqFW f) (h : ReqOk t) :
    ReqOk (t.modStreamW id f) := by
  unfold Streams.modStreamW
  split
  · rename_i st hget
    intro y hy
    simp only [Streams.wake, Streams.setStream, Store.set, List.mem_map] at hy
    obtain ⟨x, hx, rfl⟩ := hy
    split
    · rcases hf st with e | e
      · rw [e]; exact h st (get?_mem hget).1
      · exact e
    · exact h x hx
  · exact h.same (by rw [panic_store])

theorem ReqOk.modStream (h : ReqOk t) (id : Nat) (f : Stream → Stream)
    (hf : ∀ x, (f x).requestedSendCapacity = x.requestedSendCapacity) : ReqOk (t.modStream id f) :=
  ReqOk.modStreamF (fun x => Or.inl (hf x)) h
theorem ReqOk.panic (h : ReqOk t) (m : String) : ReqOk (t.panic m) := h.same (by rw [panic_store])
theorem ReqOk.modPrio (h : ReqOk t) (f : Prioritize → Prioritize) : ReqOk (t.modPrio f) := h.same rfl
theorem ReqOk.setQ (h : ReqOk t) (q : QName) (l : List Nat) : ReqOk (t.setQ q l) := h.same (by cases q <;> rfl)
theorem ReqOk.setStream (h : ReqOk t) {st1 : Stream} (hq : st1.requestedSendCapacity < 4294967296) :
    ReqOk (t.setStream st1) := by
  intro y hy
  simp only [Streams.setStream, Store.set, List.mem_map] at hy
  obtain ⟨x, hx, rfl⟩ := hy
  split
  · exact hq
  · exact h x hx

theorem ReqOk.qPush (h : ReqOk t) (q : QName) (id : Nat) : ReqOk (t.qPush q id).1 := by
  unfold Streams.qPush
  split
  · exact h
  · exact (h.modStream id (fun st => st.setQueued q true) (by intro x; cases q <;> rfl)).setQ q _
theorem ReqOk.qPushFront (h : ReqOk t) (q : QName) (id : Nat) : ReqOk (t.qPushFront q id).1 := by
  unfold Streams.qPushFront
  split
  · exact h
  · exact (h.modStream id (fun st => st.setQueued q true) (by intro x; cases q <;> rfl)).setQ q _
theorem ReqOk.qPop (h : ReqOk t) (q : QName) : ReqOk (t.qPop q).1 := by
  unfold Streams.qPop
  split
  · exact h
  · exact (h.setQ q _).modStream _ _ (by intro x; cases q <;> rfl)

theorem ReqOk.stream (h : ReqOk t) (id : Nat) : (t.stream id).requestedSendCapacity < 4294967296 := by
  cases hget : t.store.get? id with
  | none =>
    have hb : t.stream id = { key := id, id := 0 } := by unfold Streams.stream; rw [hget]; rfl
    rw [hb]; show (0 : Nat) < 4294967296; omega
  | some st => rw [Streams.stream_of_get? hget]; exact h st (get?_mem hget).1

end

/-- the kinds a strong frame step can be made of: all but a write of a stream's send flow (`sendFlow`), of the connection's
    (`connSendFlow`), and a push onto `pending_capacity` (the three things `SFr` says do not happen) -/
def sfrK : Kind → Bool
  | .sendFlow | .connSendFlow | .enqueue .pendingCapacity => false
  | _ => true

theorem fresh_new (id a b : Nat) : Fresh (Stream.new id a b) := by
  unfold Fresh Stream.new
  dsimp only
  rw [Flow.incWindow_eq]
  have hr := u32AsI32_range a
  split
  · rename_i hc
    have := (inI32_iff _).1 hc.1
    refine ⟨rfl, ?_, ?_⟩ <;> (show _ ≤ _; simp only [FlowControl.new, I32_MAX, I32_MIN] at *; omega)
  · exact ⟨rfl, by decide, by decide⟩

section
variable {s t : Streams}

theorem SFr.panic (h : SFr s t) (m : String) : SFr s (t.panic m) := h.same (panic_store t m) (panic_prio t m)

theorem SFr.of_store {t' : Streams} (h : SFr s t) (hs : StoreFr t.store t'.store)
    (hr : ∀ y ∈ t'.store.slab, y ∈ t.store.slab ∨ y.requestedSendCapacity < 4294967296) (hp : t'.prio = t.prio) : SFr s t' :=
  h.step ((Fr.refl t).of_store hs (by rw [hp]) (by rw [hp])) (fun hq y hy => (hr y hy).elim (hq y) id) (by rw [hp])

theorem SFr.setStream_at {x : Stream} (hf : x.sendFlow = (t.stream x.key).sendFlow)
    (hq : x.requestedSendCapacity = (t.stream x.key).requestedSendCapacity ∨ x.requestedSendCapacity < 4294967296)
    (h : SFr s t) : SFr s (t.setStream x) := by
  refine h.step ⟨rfl, rfl, fun hko => StoreFr.set _ _ (fun y hy hyk => ?_) hko⟩ (fun hr => hr.setStream ?_) rfl
  · cases hget : t.store.get? x.key with
    | none =>
      unfold Store.get? at hget
      have := List.find?_eq_none.1 hget y hy
      simp only [beq_iff_eq] at this
      exact absurd hyk this
    | some st =>
      rw [Streams.stream_of_get? hget] at hf
      have hm := get?_mem hget
      rw [key_inj hko.1 hy hm.1 (hyk.trans hm.2.symm), hf]
  · rcases hq with e | e
    · rw [e]; exact hr.stream _
    · exact e

theorem SFr.modStream_at {id : Nat} {f : Stream → Stream} (hk : (f (t.stream id)).key = (t.stream id).key)
    (hf : (f (t.stream id)).sendFlow = (t.stream id).sendFlow)
    (hq : (f (t.stream id)).requestedSendCapacity = (t.stream id).requestedSendCapacity ∨
      (f (t.stream id)).requestedSendCapacity < 4294967296) (h : SFr s t) : SFr s (t.modStream id f) := by
  unfold Streams.modStream
  split
  · next st hget =>
    have e := Streams.stream_of_get? hget
    rw [e] at hk hf hq
    have hid : (f st).key = id := hk.trans (get?_mem hget).2
    exact SFr.setStream_at (by rw [hid, e]; exact hf) (by rw [hid, e]; exact hq) h
  · exact h.panic _

theorem SFr.modStreamW_at {id : Nat} {f : Stream → Stream × List String} (hk : (f (t.stream id)).1.key = (t.stream id).key)
    (hf : (f (t.stream id)).1.sendFlow = (t.stream id).sendFlow)
    (hq : (f (t.stream id)).1.requestedSendCapacity = (t.stream id).requestedSendCapacity ∨
      (f (t.stream id)).1.requestedSendCapacity < 4294967296) (h : SFr s t) : SFr s (t.modStreamW id f) := by
  unfold Streams.modStreamW
  split
  · next st hget =>
    have e := Streams.stream_of_get? hget
    rw [e] at hk hf hq
    have hid : (f st).1.key = id := hk.trans (get?_mem hget).2
    exact (SFr.setStream_at (by rw [hid, e]; exact hf) (by rw [hid, e]; exact hq) h).same rfl rfl
  · exact h.panic _

/-- `modStream` / `modStreamW` with an update that keeps key and send flow, and the request a `u32`, whatever the entry:
    where the code's test for the update is not at hand (a change of `state`) -/
theorem SFr.modStream' {id : Nat} {f : Stream → Stream} (hf : NoFlow f) (hq : ReqF f) (h : SFr s t) :
    SFr s (t.modStream id f) := SFr.modStream_at (hf _).1 (hf _).2 (hq _) h
theorem SFr.modStreamW' {id : Nat} {f : Stream → Stream × List String} (hf : NoFlowW f) (hq : ReqFW f)
    (h : SFr s t) : SFr s (t.modStreamW id f) := SFr.modStreamW_at (hf _).1 (hf _).2 (hq _) h

/-- the counters' common end: a counter changes, the entry's `is_counted` flag is written -/
theorem SFr.counted (h : SFr s t) (f : Counts → Counts) (id : Nat) (v : Bool) :
    SFr s ((t.modCounts f).modStream id fun st => { st with isCounted := v }) :=
  SFr.modStream_at rfl rfl (Or.inl rfl) (h.same rfl rfl)

theorem qPush_pc_ne (q : QName) (hq : q ≠ .pendingCapacity) (id : Nat) :
    (t.qPush q id).1.prio.pendingCapacity = t.prio.pendingCapacity := by
  unfold Streams.qPush; split
  · rfl
  · show ((t.modStream id _).setQ q _).prio.pendingCapacity = _
    cases q <;> first | exact absurd rfl hq | (show (t.modStream id _).prio.pendingCapacity = _; rw [modStream_prio])
theorem qPushFront_pc_ne (q : QName) (hq : q ≠ .pendingCapacity) (id : Nat) :
    (t.qPushFront q id).1.prio.pendingCapacity = t.prio.pendingCapacity := by
  unfold Streams.qPushFront; split
  · rfl
  · show ((t.modStream id _).setQ q _).prio.pendingCapacity = _
    cases q <;> first | exact absurd rfl hq | (show (t.modStream id _).prio.pendingCapacity = _; rw [modStream_prio])

end

theorem decContentLength_kf {x st1 : Stream} {len : Nat} (h : x.decContentLength len = some st1) :
    st1.sendFlow = x.sendFlow ∧ st1.requestedSendCapacity = x.requestedSendCapacity := by
  unfold Stream.decContentLength at h
  split at h
  · split at h
    · cases h; exact ⟨rfl, rfl⟩
    · cases h
  · split at h
    · cases h
    · cases h; exact ⟨rfl, rfl⟩
  · cases h; exact ⟨rfl, rfl⟩

theorem updW_flow {x : Stream} {p : Stream × List String} (h : Stream.UpdW sfrK x p) :
    p.1.sendFlow = x.sendFlow ∧ p.1.requestedSendCapacity = x.requestedSendCapacity := by
  cases h with
  | notifySend => exact ⟨(notifySend_kf x).2, notifySend_req x⟩
  | notifyRecv => exact ⟨(notifyRecv_kf x).2, notifyRecv_req x⟩
  | notifyPush => exact ⟨(notifyPush_kf x).2, notifyPush_req x⟩
  | notifyCapacity => exact ⟨(notifyCapacity_kf x).2, notifyCapacity_req x⟩
  | assignCapacity c m hK => cases hK
  | setReset r i _ => exact ⟨(setReset_kf x r i).2, setReset_req x r i⟩

theorem upd_flow {x y : Stream} (h : Stream.Upd sfrK x y) :
    y.sendFlow = x.sendFlow ∧ (y.requestedSendCapacity = x.requestedSendCapacity ∨ y.requestedSendCapacity < 4294967296) := by
  cases h with
  | sendFlow v hK => cases hK
  | sendData n m _ hK => cases hK
  | requested v hv => exact ⟨rfl, Or.inr hv⟩
  | clearSend _ | keepOnlyHead _ => exact ⟨rfl, Or.inr (by show (0 : Nat) < 4294967296; omega)⟩
  | decContentLength n _ hd => exact ⟨(decContentLength_kf hd).1, Or.inl (decContentLength_kf hd).2⟩
  | _ => exact ⟨rfl, Or.inl rfl⟩

theorem prioUpd_frame {p q : Prioritize} (h : Prioritize.Upd sfrK p q) :
    q.flow = p.flow ∧ q.maxBufferSize = p.maxBufferSize ∧ q.pendingCapacity = p.pendingCapacity := by
  cases h with
  | flow v hK => cases hK
  | mark v => exact ⟨rfl, rfl, rfl⟩
  | markDrop k _ _ => exact ⟨rfl, rfl, rfl⟩

theorem SFr.withStoreInsert {s t : Streams} {st : Stream} (hf : Fresh st) (hq : st.requestedSendCapacity < 4294967296)
    (h : SFr s t) : SFr s { t with store := (t.store.insert st).1 } := by
  refine h.of_store (StoreFr.insert _ _ hf) (fun y hy => ?_) rfl
  simp only [Store.insert] at hy
  rcases List.mem_append.1 hy with hy | hy
  · exact Or.inl hy
  · simp only [List.mem_singleton] at hy; subst hy; exact Or.inr hq

theorem SFr.of_step {s s' : Streams} (h : Streams.Step sfrK s s') : SFr s s' := by
  induction h with
  | refl s => exact .refl s
  | trans _ _ ih1 ih2 => exact ih1.trans ih2
  | panic s m => exact (SFr.refl s).panic m
  | unsup s m => exact (SFr.refl s).same (by unfold Streams.unsup; split <;> rfl) (by unfold Streams.unsup; split <;> rfl)
  | notifyTask s _ =>
    exact (SFr.refl s).same (by unfold Streams.notifyTask; split <;> rfl) (by unfold Streams.notifyTask; split <;> rfl)
  | wake s _ | setTask s _ _ _ | setConnError s _ _ | setRefs s _ | modRecv s _ _ | setCounts s _ _ =>
    exact (SFr.refl s).same rfl rfl
  | modPrio s f hu =>
    have hp := prioUpd_frame hu
    exact (SFr.refl s).step ((Fr.refl s).of_same rfl hp.1 hp.2.1) (·.modPrio f) hp.2.2
  | modSend s f hu => exact (SFr.refl s).same rfl hu.prioritize
  | qPush s q k hK =>
    exact (SFr.refl s).step ((Fr.refl s).qPush q k) (·.qPush q k) (qPush_pc_ne q (by intro e; subst e; cases hK) k)
  | qPushFront s q k hK =>
    exact (SFr.refl s).step ((Fr.refl s).qPushFront q k) (·.qPushFront q k) (qPushFront_pc_ne q (by intro e; subst e; cases hK) k)
  | qPop s q _ =>
    -- popping any queue: `pending_capacity` can only lose its head
    refine ⟨(Fr.refl s).qPop q, (·.qPop q), ?_⟩
    unfold Streams.qPop
    split
    · exact List.suffix_refl _
    · next id rest hq =>
      show ((s.setQ q rest).modStream id _).prio.pendingCapacity <:+ _
      rw [modStream_prio]
      cases q <;> first
        | exact List.suffix_refl _
        | (show rest <:+ s.prio.pendingCapacity
           have : s.prio.pendingCapacity = id :: rest := hq
           rw [this]; exact List.suffix_cons _ _)
  | incNumSendStreams s k _ | incNumRecvStreams s k _ | decNumStreams s k =>
    first | unfold Streams.incNumSendStreams | unfold Streams.incNumRecvStreams | unfold Streams.decNumStreams
    walk_with (first | with_reducible assumption | with_reducible exact SFr.refl _ | with_reducible apply SFr.panic | with_reducible apply SFr.counted)
  | modStream s k f hu => exact SFr.modStream_at hu.key (upd_flow hu).1 (upd_flow hu).2 (SFr.refl s)
  | modStreamW s k f hu => exact SFr.modStreamW_at hu.key (updW_flow hu).1 (Or.inl (updW_flow hu).2) (SFr.refl s)
  | setStream s x hu => exact SFr.setStream_at (upd_flow hu).1 (upd_flow hu).2 (SFr.refl s)
  | insert s id a b _ => exact (SFr.refl s).withStoreInsert (fresh_new id a b) (new_req id a b)
  | insertWith s id a b cl _ =>
    exact (SFr.refl s).withStoreInsert (fresh_new id a b) (new_req id a b)
  | undoInsert s id k _ =>
    exact (SFr.refl s).of_store ((StoreFr.unlink _ _).trans (StoreFr.remove _ _)) (fun y hy => Or.inl (List.mem_filter.1 hy).1) rfl
  | unlink s id _ => exact (SFr.refl s).of_store (StoreFr.unlink _ _) (fun _ hy => Or.inl hy) rfl
  | remove s k n _ _ => exact (SFr.refl s).of_store (StoreFr.remove _ _) (fun y hy => Or.inl (List.mem_filter.1 hy).1) rfl

theorem Fr.of_step {s s' : Streams} (h : Streams.Step sfrK s s') : Fr s s' := (SFr.of_step h).fr
theorem SFr.then {s t t' : Streams} (hs : Streams.Step sfrK t t') (h : SFr s t) : SFr s t' := h.trans (.of_step hs)

theorem transitionAfter_sfr (s : Streams) (k : Nat) (b : Bool) : SFr s (s.transitionAfter k b) :=
  .of_step (Streams.transitionAfter_step (by decide) s k b)

/-- side goals of a `_step` lemma at `sfrK`: the kinds (a footprint, one kind, a kind under a hypothesis), the shape of
    an update of an entry or of a part of the state -/
macro "sfr_side" : tactic => `(tactic| with_unfolding_all first
  | exact of_decide_eq_true rfl
  | exact fun _ => rfl
  | exact fun _ _ _ => rfl
  | (upd_tac <;> with_unfolding_all first | rfl | exact fun _ => rfl | exact fun _ _ _ => rfl))

/-- one primitive of `ConnStore.lean`, one record update or one model function off an `SFr` goal: an update of an
    entry that keeps the send flow, a record update outside the store and the send side, a new entry; else the call's
    `Step` through `SFr.of_step` (which fails where that step is not of the kinds `sfrK`) -/
macro "sfr_base" : tactic => `(tactic| first
  | (with_reducible apply SFr.modStream'; (· noflow); (· reqf))
  | (with_reducible apply SFr.modStreamW'; (· noflow); (· reqf))
  | (guard_mk; with_reducible first
      | apply SFr.then (.setCounts _ _ ?_) | apply SFr.then (.setConnError _ _ ?_) | apply SFr.then (.setTask _ _ ?_ ?_)
      | apply SFr.then (.setRefs _ _);
     all_goals (first | sfr_side | with_reducible refine (?_ : SFr _ _) | with_reducible refine (?_ : Streams)))
  | (guard_mk; with_reducible apply SFr.withStoreInsert (fresh_new _ _ _) (new_req _ _ _))
  | ((open H2V.Model.Conn.Streams in
      rel_head ConnFlowP.SFr "_sfr" via ConnFlowP.SFr.of_step "_step" => fail "sfr_base: a record update");
     all_goals (first | sfr_side | with_reducible refine (?_ : SFr _ _))))

/-- one call off the outside of the goal `Fr s (f … t …)`: a push onto any queue, or a strong frame step -/
macro "fr_peel" : tactic => `(tactic| first
  | with_reducible apply Fr.setQ
  | with_reducible apply Fr.qPush
  | with_reducible apply Fr.qPushFront
  | (with_reducible apply Fr.of_sfr; (· sfr_base; with_reducible exact SFr.refl _)))

end H2V.Lemmas.ConnFlowP
