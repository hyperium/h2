import H2V.Model.Huffman
import H2V.Lemmas.HuffmanGo
/-
  Consistency of the 15 generated decode sub-tables with the RFC code and with the path witness
  `pathL`: one kernel-evaluated Boolean check per table, lifted to the semantic `EntryOK`.
-/
namespace H2V.Lemmas.Huffman
open H2V H2V.Spec.Rfc7541 H2V.Spec.Huffman
open H2V.Generated.Huffman (BRANCH TABLE_INDEX_MASK pathL decT)
open H2V.Model.Huffman (lookup)

def noPrefix : List (Nat × Nat) → Nat → Nat → Bool
  | [], _, _ => true
  | (n, c) :: rest, L, V => (if n ≤ L then V / 2 ^ (L - n) != c else true) && noPrefix rest L V

def isCode (s n c : Nat) : Bool :=
  match huffmanCode[s]? with
  | some (n', c') => n' == n && c' == c
  | none => false

def eosWithin (plen pv i : Nat) : Nat → Bool
  | 0 => false
  | k + 1 =>
    isCode 256 (plen + (k + 1)) (pv * 2 ^ (k + 1) + i / 2 ^ (8 - (k + 1))) || eosWithin plen pv i k

/-- entry `e` at index `i` of the sub-table reached by the bit string `(plen, pv)` -/
def chkEntry (plen pv i e : Nat) : Bool :=
  if e &&& BRANCH = 0 then
    decide (1 ≤ e >>> 8) && decide (e >>> 8 ≤ 8) &&
      isCode (e % 256) (plen + e >>> 8) (pv * 2 ^ (e >>> 8) + i / 2 ^ (8 - e >>> 8))
  else if (e &&& TABLE_INDEX_MASK) >>> 8 = 0 then eosWithin plen pv i 8
  else
    (pathL[(e &&& TABLE_INDEX_MASK) >>> 8]? == some (plen + 8, pv * 256 + i)) &&
      noPrefix huffmanCode (plen + 8) (pv * 256 + i)

def chkTab (plen pv : Nat) : List Nat → Nat → Bool
  | [], _ => true
  | e :: es, i => chkEntry plen pv i e && chkTab plen pv es (i + 1)

def chkTable (plen pv : Nat) (es : List Nat) : Bool := chkTab plen pv es 0 && es.length == 256

structure EntryOK (plen pv i e : Nat) : Prop where
  leaf : e &&& BRANCH = 0 →
    1 ≤ e >>> 8 ∧ e >>> 8 ≤ 8 ∧
      Code (e % 256) (plen + e >>> 8) (pv * 2 ^ (e >>> 8) + i / 2 ^ (8 - e >>> 8))
  /-- "invalid" entries are exactly where EOS gets completed -/
  invalid : e &&& BRANCH ≠ 0 → (e &&& TABLE_INDEX_MASK) >>> 8 = 0 →
    ∃ k, 1 ≤ k ∧ k ≤ 8 ∧ Code 256 (plen + k) (pv * 2 ^ k + i / 2 ^ (8 - k))
  branch : e &&& BRANCH ≠ 0 → (e &&& TABLE_INDEX_MASK) >>> 8 ≠ 0 →
    pathL[(e &&& TABLE_INDEX_MASK) >>> 8]? = some (plen + 8, pv * 256 + i) ∧
      NoPre (plen + 8) (pv * 256 + i)

theorem noPrefix_spec : ∀ {C : List (Nat × Nat)} {L V : Nat}, noPrefix C L V = true →
    ∀ {j n c : Nat}, C[j]? = some (n, c) → n ≤ L → V / 2 ^ (L - n) ≠ c
  | [], _, _, _, j, n, c, h, _ => by simp at h
  | (n1, c1) :: rest, L, V, hc, j, n, c, h, hn => by
    simp only [noPrefix, Bool.and_eq_true] at hc
    cases j with
    | zero =>
      simp only [List.getElem?_cons_zero, Option.some.injEq, Prod.mk.injEq] at h
      obtain ⟨rfl, rfl⟩ := h
      simpa [hn] using hc.1
    | succ j =>
      simp only [List.getElem?_cons_succ] at h
      exact noPrefix_spec hc.2 h hn

theorem noPrefix_NoPre {L V : Nat} (h : noPrefix huffmanCode L V = true) : NoPre L V :=
  fun _ _ _ hc hn => noPrefix_spec h hc hn

theorem isCode_spec {s n c : Nat} (h : isCode s n c = true) : Code s n c := by
  unfold isCode at h
  unfold Code
  split at h
  · rename_i n' c' heq
    simp only [Bool.and_eq_true, beq_iff_eq] at h
    rw [heq, h.1, h.2]
  · simp at h

theorem eosWithin_spec {plen pv i : Nat} : ∀ {K : Nat}, eosWithin plen pv i K = true →
    ∃ k, 1 ≤ k ∧ k ≤ K ∧ Code 256 (plen + k) (pv * 2 ^ k + i / 2 ^ (8 - k))
  | 0, h => by simp [eosWithin] at h
  | K + 1, h => by
    simp only [eosWithin, Bool.or_eq_true] at h
    rcases h with h | h
    · exact ⟨K + 1, by omega, by omega, isCode_spec h⟩
    · obtain ⟨k, h1, h2, h3⟩ := eosWithin_spec h
      exact ⟨k, h1, by omega, h3⟩

theorem chkEntry_spec {plen pv i e : Nat} (h : chkEntry plen pv i e = true) :
    EntryOK plen pv i e := by
  unfold chkEntry at h
  split at h
  · rename_i hb
    simp only [Bool.and_eq_true, decide_eq_true_eq] at h
    exact ⟨fun _ => ⟨h.1.1, h.1.2, isCode_spec h.2⟩, fun hn => absurd hb hn, fun hn => absurd hb hn⟩
  · rename_i hb
    split at h
    · rename_i ht
      exact ⟨fun hn => absurd hn hb, fun _ _ => eosWithin_spec h, fun _ hn => absurd ht hn⟩
    · rename_i ht
      simp only [Bool.and_eq_true, beq_iff_eq] at h
      exact ⟨fun hn => absurd hn hb, fun _ hn => absurd hn ht, fun _ _ => ⟨h.1, noPrefix_NoPre h.2⟩⟩

theorem chkTab_spec {plen pv : Nat} : ∀ {es : List Nat} {i0 : Nat}, chkTab plen pv es i0 = true →
    ∀ {j e : Nat}, es[j]? = some e → EntryOK plen pv (i0 + j) e
  | [], _, _, j, e, h => by simp at h
  | e1 :: es, i0, hc, j, e, h => by
    simp only [chkTab, Bool.and_eq_true] at hc
    cases j with
    | zero =>
      simp only [List.getElem?_cons_zero, Option.some.injEq] at h
      subst h
      exact chkEntry_spec hc.1
    | succ j =>
      simp only [List.getElem?_cons_succ] at h
      have := chkTab_spec hc.2 h
      rwa [show i0 + 1 + j = i0 + (j + 1) by omega] at this

theorem tables_chk : (pathL.zip decT).all (fun x => chkTable x.1.1 x.1.2 x.2) = true := by
  decide +kernel

theorem tables_ok {t plen pv i : Nat} (hp : pathL[t]? = some (plen, pv)) (hi : i < 256) :
    EntryOK plen pv i (lookup t i) := by
  have ht : t < decT.length := (List.getElem?_eq_some_iff.1 hp).1
  have hd : decT[t]? = some decT[t] := List.getElem?_eq_getElem ht
  have hc := List.all_eq_true.1 tables_chk ((plen, pv), decT[t])
    (List.mem_of_getElem? (List.getElem?_zip_eq_some.2 ⟨hp, hd⟩))
  simp only [chkTable, Bool.and_eq_true, beq_iff_eq] at hc
  have hl : lookup t i = decT[t][i]'(by omega) := by
    simp only [lookup, List.getD_eq_getElem?_getD, hd, Option.getD_some]
    rw [List.getElem?_eq_getElem (by omega), Option.getD_some]
  have := chkTab_spec hc.1 (List.getElem?_eq_getElem (show i < decT[t].length by omega))
  rw [hl]
  simpa using this

theorem pathL_length : pathL.length = 15 := rfl

/-- the Rust `while bits >= 8` loop terminates -/
theorem leaf_bits_pos {t i : Nat} (ht : t < 15) (hi : i < 256) (h : lookup t i &&& BRANCH = 0) :
    1 ≤ lookup t i >>> 8 ∧ lookup t i >>> 8 ≤ 8 := by
  have := (tables_ok (List.getElem?_eq_getElem (show t < pathL.length from ht)) hi).leaf h
  exact ⟨this.1, this.2.1⟩

theorem pathL_range {t plen pv : Nat} (h : pathL[t]? = some (plen, pv)) :
    (t ≠ 0 → 8 ≤ plen) ∧ plen ≤ 24 ∧ (t = 0 → plen = 0 ∧ pv = 0) := by
  have key : ∀ t < 15, (t ≠ 0 → 8 ≤ (pathL.getD t (0, 0)).1) ∧ (pathL.getD t (0, 0)).1 ≤ 24 ∧
      (t = 0 → (pathL.getD t (0, 0)).1 = 0 ∧ (pathL.getD t (0, 0)).2 = 0) := by decide
  have := key t (List.getElem?_eq_some_iff.mp h).1
  rwa [List.getD_eq_getElem?_getD, h] at this

end H2V.Lemmas.Huffman
