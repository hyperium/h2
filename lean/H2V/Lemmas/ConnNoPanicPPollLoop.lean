import H2V.Lemmas.ConnNoPanicPPollCoupled
/-
  C08 (no panic): the codec side of the coupling (`WLE`: `flush`, `poll_ready` and the WINDOW_UPDATE
  writers hand no new DATA frame to the codec), the bundle `WI` of everything the write path keeps, and the loop
  of `Prioritize::buffer_pending`: for an arbitrary invariant that excludes a panic (`prioBufferPendingLoop_inv`, an
  instance of ConnLoops' `Streams.prioBufferPendingLoop_inv`), then for `WI`.
-/
namespace H2V.Lemmas.ConnNoPanicP
open H2V H2V.Model H2V.Model.Conn H2V.Lemmas.ConnCountsP
attribute [local irreducible] wrapSubU32 wrapSubUsize

/-- `w'` holds no DATA frame that `w` did not hold, and at most one -/
structure WLE (w w' : Writer) : Prop where
  one : (w.lastDataFrame = none ∨ w.next = none) → (w'.lastDataFrame = none ∨ w'.next = none)
  sub : ∀ fr, held w' fr → held w fr

theorem WLE.refl (w : Writer) : WLE w w := ⟨id, fun _ h => h⟩
theorem WLE.trans {a b c : Writer} (h1 : WLE a b) (h2 : WLE b c) : WLE a c :=
  ⟨fun h => h2.one (h1.one h), fun fr h => h1.sub fr (h2.sub fr h)⟩
theorem WLE.of_eq {w w' : Writer} (h1 : w'.lastDataFrame = w.lastDataFrame) (h2 : w'.next = w.next) : WLE w w' :=
  ⟨fun h => by rw [h1, h2]; exact h, fun fr h => by unfold held at *; rw [h1, h2] at h; exact h⟩
theorem Coupled.wle {s : Streams} {w w' : Writer} (h : Coupled s w) (hw : WLE w w') : Coupled s w' :=
  h.writer (hw.one h.one) hw.sub

theorem unsetFrame_wle (w : Writer) : WLE w w.unsetFrame ∧ w.unsetFrame.next = none := by
  unfold Writer.unsetFrame
  dsimp only
  cases hn : w.next with
  | none => exact ⟨.of_eq rfl hn.symm, rfl⟩
  | some nd =>
    dsimp only
    refine ⟨⟨fun _ => .inr rfl, fun fr hf => ?_⟩, rfl⟩
    rcases hf with e | ⟨nd', e, _⟩
    · cases e; exact .inr ⟨nd, hn, rfl⟩
    · cases e

theorem wle_of_next {w w2 : Writer} (h1 : w2.lastDataFrame = w.lastDataFrame)
    (h2 : (w.next = none ∧ w2.next = none) ∨ (∃ nd nd', w.next = some nd ∧ w2.next = some nd' ∧ nd'.frame = nd.frame)) :
    WLE w w2 := by
  rcases h2 with ⟨e1, e2⟩ | ⟨nd, nd', e1, e2, e3⟩
  · exact .of_eq h1 (by rw [e1, e2])
  · refine ⟨fun h => ?_, fun fr hf => ?_⟩
    · rcases h with e | e
      · exact .inl (h1.trans e)
      · rw [e1] at e; cases e
    · rcases hf with e | ⟨x, e, e'⟩
      · exact .inl (by rw [← h1]; exact e)
      · rw [e2] at e; cases e
        exact .inr ⟨nd, e1, by rw [← e', e3]⟩

theorem flush_wle (w : Writer) (io : Tio) (tag : String) :
    WLE w (flush w io tag).1 ∧ ((flush w io tag).2.2 = .ready → (flush w io tag).1.next = none) := by
  rcases flush_cases w io tag with e | ⟨b, nx, _, _, _, hn, e⟩
  · rw [e]; exact ⟨.refl _, nofun⟩
  · -- what is written leaves `buf` and `next.remaining` changed only; a complete flush ends with `unset_frame`
    have h2 : WLE w { w with buf := b, next := nx } := by
      refine wle_of_next rfl ?_
      rcases hn with ⟨e1, e2⟩ | ⟨nd, r, e1, e2⟩
      · exact .inl ⟨e1, e2⟩
      · exact .inr ⟨nd, _, e1, e2, rfl⟩
    rcases e with e | e <;> rw [e]
    · exact ⟨h2, nofun⟩
    · exact ⟨h2.trans (unsetFrame_wle _).1, fun _ => (unsetFrame_wle _).2⟩

theorem pollReadyW_wle (w : Writer) (io : Tio) (tag : String) : WLE w (pollReadyW w io tag).1 := by
  rcases pollReadyW_cases w io tag with ⟨_, e⟩ | ⟨w1, io1, r1, hf, e⟩ <;> rw [e]
  · exact .refl _
  · have := (flush_wle w io tag).1; rw [hf] at this; exact this

theorem recvBufferPending_wle (s : Streams) (w : Writer) : WLE w (s.recvBufferPending w).2.1 :=
  Streams.recvBufferPending_writer (P := WLE w) (fun _ _ _ h => h.trans (.of_eq rfl rfl)) s w (.refl w)

/-- everything the write path keeps -/
structure WI (E : Nat → Prop) (g : ConnRecvP.Ghost) (s : Streams) (w : Writer) : Prop where
  pi : PI E s
  safe : ConnFlowP.SafeInv s
  recv : ConnRecvP.Inv true g s
  ds : DSum s
  cp : Coupled s w

theorem WI.wle {E : Nat → Prop} {g : ConnRecvP.Ghost} {s : Streams} {w w' : Writer} (h : WI E g s w) (hw : WLE w w') :
    WI E g s w' := ⟨h.pi, h.safe, h.recv, h.ds, h.cp.wle hw⟩

/-- the model's own markers: a loop of the model ran out of fuel (the Rust loops have none) -/
def OutOfFuel (t : Streams) : Prop :=
  t.panicked = some "model: buffer_pending out of fuel" ∨ t.panicked = some "model: poll_complete out of fuel"

theorem panic_of_noneP {s : Streams} (h : s.panicked = none) (m : String) : (s.panic m).panicked = some m := by
  unfold Streams.panic; rw [h]

/-- the `pop_pending_open` step at the head of the loop of `buffer_pending` -/
theorem loopOpen_w {E : Nat → Prop} {g : ConnRecvP.Ghost} {s : Streams} (h : PI E s) (hs : ConnFlowP.SafeInv s)
    (hr : ConnRecvP.Inv true g s) (hd : DSum s) :
    PI E s.bufferPendingOpen ∧ ConnFlowP.SafeInv s.bufferPendingOpen ∧ ConnRecvP.Inv true g s.bufferPendingOpen ∧
      DSum s.bufferPendingOpen := by
  unfold Streams.bufferPendingOpen
  have hp := popPendingOpen_pi h
  have hs1 : ConnFlowP.SafeInv s.popPendingOpen.1 := by safe_auto
  have hr1 := hr.of_ext (.of_step (Streams.popPendingOpen_step (by decide) s))
  have hd1 := (DK.of_step (Streams.popPendingOpen_step (by decide) s)).dsum hd
  generalize s.popPendingOpen = p at hp hs1 hr1 hd1 ⊢
  obtain ⟨s0, o⟩ := p
  cases o with
  | some id =>
    dsimp only at hp hs1 hr1 hd1 ⊢
    have hl := hp.2 id rfl
    refine ⟨hp.1.st (ks := [id]) ⟨?_, ?_, ?_⟩ (liveAll1 hl), ?_, ?_, DK.dsum ?_ hd1⟩
    · lt_auto
    · ev_auto
    · fk_auto
    · safe_auto
    · exact (hr1.of_ext (ConnRecvP.qPushFront_ext _ _ _)).of_ext (.of_step (Streams.tryAssignCapacity_step (by decide) _ _))
    · dk_auto
  | none => exact ⟨hp.1, hs1, hr1, hd1⟩

theorem reclaimFrame_none {s : Streams} {w : Writer} (h : w.lastDataFrame = none) : (s.reclaimFrame w).1 = s := by
  unfold Streams.reclaimFrame Writer.takeLastDataFrame; rw [h]

/-- `Prioritize::reclaim_frame` keeps everything, and the codec's `last_data_frame` is taken -/
theorem reclaimFrame_w {E : Nat → Prop} {g : ConnRecvP.Ghost} {s : Streams} {w : Writer} (h : WI E g s w) :
    WI E g (s.reclaimFrame w).1 (s.reclaimFrame w).2.1 ∧ (s.reclaimFrame w).2.1.lastDataFrame = none := by
  have hrc := reclaimFrame_pi h.pi h.ds h.cp
  have hs4 : ConnFlowP.SafeInv (s.reclaimFrame w).1 := by have := h.safe; safe_auto
  have hr4 := h.recv.of_ext (.of_step (Streams.reclaimFrame_step (by decide) s w))
  refine ⟨⟨hrc.1, hs4, hr4, hrc.2, ?_⟩, Streams.reclaimFrame_lastDataFrame s w⟩
  rw [Streams.reclaimFrame_writer]
  cases hld : w.lastDataFrame with
  | some fr =>
    have hn : w.next = none := by
      rcases h.cp.one with e | e
      · rw [e] at hld; cases hld
      · exact e
    exact .of_none rfl hn
  | none =>
    rw [reclaimFrame_none hld]
    refine h.cp.writer (.inl rfl) (fun fr hf => ?_)
    rcases hf with e | ⟨nd, e, e2⟩
    · cases e
    · exact .inr ⟨nd, e, e2⟩

/-- after `dst.buffer(frame)` into a codec that held no DATA frame, the codec holds at most this frame -/
theorem bufferOut_coupled {E : Nat → Prop} {s : Streams} {w : Writer} {f : Streams.OutFrame} (h : PI E s)
    (hw1 : w.lastDataFrame = none) (hw2 : w.next = none)
    (hlen : ∀ len e fr, f = .data len e fr → len ≤ w.maxFrameSize)
    (hheld : ∀ len e fr, f = .data len e fr → HeldOK s fr) : Coupled (s.bufferOut w f).1 (s.bufferOut w f).2 := by
  have hb := bufferOut_pi h w f hlen
  cases f with
  | data len e fr =>
    have hb' := hb.2.2
    dsimp only at hb'
    have hfr : ∀ fr', held (s.bufferOut w (.data len e fr)).2 fr' → fr' = fr := by
      intro fr' hf
      rcases hb'.2 with ⟨h1, h2⟩ | ⟨h1, nd, h2, h3⟩
      · rcases hf with e1 | ⟨nd', e1, _⟩
        · rw [h1] at e1; cases e1; rfl
        · rw [h2, hw2] at e1; cases e1
      · rcases hf with e1 | ⟨nd', e1, e2⟩
        · rw [h1, hw1] at e1; cases e1
        · rw [h2] at e1; cases e1; rw [← e2, h3]
    refine ⟨?_, fun fr' hf => ?_, fun fr' hf _ => ?_⟩
    · rcases hb'.2 with ⟨_, h2⟩ | ⟨h1, _⟩
      · exact .inr (h2.trans hw2)
      · exact .inl (h1.trans hw1)
    · rw [hb'.1]; intro h'; cases h'
    · rw [hfr fr' hf]
      exact (HK.of_store hb.2.1).heldOK (hheld len e fr rfl)
  | headers sid eos fields =>
    have hb' := hb.2.2; dsimp only at hb'
    exact .of_none (hb'.2.1.trans hw1) (hb'.2.2.trans hw2)
  | reset sid reason =>
    have hb' := hb.2.2; dsimp only at hb'
    exact .of_none (hb'.2.1.trans hw1) (hb'.2.2.trans hw2)
  | pushPromise sid p fields =>
    have hb' := hb.2.2; dsimp only at hb'
    exact .of_none (hb'.2.1.trans hw1) (hb'.2.2.trans hw2)

/-- one frame goes to the codec and what the codec hands back at once is reclaimed -/
theorem bufferReclaim_w {E : Nat → Prop} {g : ConnRecvP.Ghost} {s : Streams} {w : Writer} {f : Streams.OutFrame}
    (h : PI E s) (hs : ConnFlowP.SafeInv s) (hr : ConnRecvP.Inv true g s) (hd : DSum s)
    (hw1 : w.lastDataFrame = none) (hw2 : w.next = none)
    (hlen : ∀ len e fr, f = .data len e fr → len ≤ w.maxFrameSize)
    (hheld : ∀ len e fr, f = .data len e fr → HeldOK s fr) :
    WI E g ((s.bufferOut w f).1.reclaimFrame (s.bufferOut w f).2).1 ((s.bufferOut w f).1.reclaimFrame (s.bufferOut w f).2).2.1 ∧
    ((s.bufferOut w f).1.reclaimFrame (s.bufferOut w f).2).2.1.lastDataFrame = none := by
  have hb := bufferOut_pi h w f hlen
  have hs3 : ConnFlowP.SafeInv (s.bufferOut w f).1 := by safe_auto
  have hr3 := hr.of_ext (.of_step (Streams.bufferOut_step (by decide) s w f))
  have hd3 : DSum (s.bufferOut w f).1 := (DK.of_store hb.2.1).dsum hd
  exact reclaimFrame_w ⟨hb.1, hs3, hr3, hd3, bufferOut_coupled h hw1 hw2 hlen hheld⟩

/-- the loop of `Prioritize::buffer_pending` (`Streams.prioBufferPendingLoop_inv`) for an invariant that excludes a panic:
    `I` is kept by a round, `J` holds of the state `pop_frame` is called from.  Out of (model) fuel, or `I` again. -/
theorem prioBufferPendingLoop_inv {I : Streams → Writer → Prop} {J : Streams → Prop}
    (hnp : ∀ s w, I s w → s.panicked = none)
    (hpre : ∀ s w, I s w → J s.bufferPendingOpen)
    (hpost : ∀ s w s' f, J s → w.lastDataFrame = none → w.next = none →
      Streams.popFrame s.popFrameFuel s w.maxFrameSize = (s', some f) →
      I (ConnFlowP.loopPost s' w f).1 (ConnFlowP.loopPost s' w f).2)
    (hdone : ∀ s w s', J s → w.lastDataFrame = none → w.next = none →
      Streams.popFrame s.popFrameFuel s w.maxFrameSize = (s', none) → I s' w)
    (fuel : Nat) : ∀ s w, I s w → w.lastDataFrame = none →
      OutOfFuel (Streams.prioBufferPendingLoop fuel s w).1 ∨
      I (Streams.prioBufferPendingLoop fuel s w).1 (Streams.prioBufferPendingLoop fuel s w).2.1 :=
  Streams.prioBufferPendingLoop_inv (J := fun s _ => J s) (Q := fun s w => OutOfFuel s ∨ I s w)
    (fun s w h => .inl (.inl (panic_of_noneP (hnp s w h) _))) (fun _ _ h => .inr h) hpre hpost
    (fun s w s' hj h1 h2 e => .inr (hdone s w s' hj h1 h2 e)) fuel

/-- what `pop_frame` keeps, read off its result -/
theorem popFrame_wi {E : Nat → Prop} {g : ConnRecvP.Ghost} {s : Streams} (h : PI E s) (hs : ConnFlowP.SafeInv s)
    (hr : ConnRecvP.Inv true g s) (hd : DSum s) (fuel maxLen : Nat) {s' : Streams} {o : Option Streams.OutFrame}
    (heq : Streams.popFrame fuel s maxLen = (s', o)) :
    PI E s' ∧ ConnFlowP.SafeInv s' ∧ ConnRecvP.Inv true g s' ∧ PopOK (s', o) := by
  have hp := popFrame_pi h hs fuel maxLen
  have hps := hs.popFrame fuel maxLen
  have hpr := hr.of_ext (.of_step (Streams.popFrame_step (by decide) fuel s maxLen))
  have hpd := popFrame_ds h hs hd fuel maxLen
  rw [heq] at hp hps hpr hpd
  exact ⟨hp, hps, hpr, hpd⟩

/-- **the loop of `Prioritize::buffer_pending`**: out of (model) fuel, or everything is kept -/
theorem prioBufferPendingLoop_w {E : Nat → Prop} {g : ConnRecvP.Ghost} (fuel : Nat) {s : Streams} {w : Writer}
    (h : WI E g s w) (hw : w.lastDataFrame = none) :
    OutOfFuel (Streams.prioBufferPendingLoop fuel s w).1 ∨
    WI E g (Streams.prioBufferPendingLoop fuel s w).1 (Streams.prioBufferPendingLoop fuel s w).2.1 := by
  refine prioBufferPendingLoop_inv (I := WI E g)
    (J := fun s => PI E s ∧ ConnFlowP.SafeInv s ∧ ConnRecvP.Inv true g s ∧ DSum s)
    (fun _ _ h => h.pi.npi.np) (fun s _ h => loopOpen_w h.pi h.safe h.recv h.ds) ?_ ?_ fuel s w h hw
  · intro s w s' f ho hw1 hw2 heq
    have hp := popFrame_wi ho.1 ho.2.1 ho.2.2.1 ho.2.2.2 _ _ heq
    exact (bufferReclaim_w (f := f) hp.1 hp.2.1 hp.2.2.1 hp.2.2.2.1 hw1 hw2
      (fun len e fr hf => by subst hf; exact popFrame_len_le ho.2.1 heq)
      (fun len e fr hf => hp.2.2.2.2 len e fr (by rw [hf]))).1
  · intro s w s' ho hw1 hw2 heq
    have hp := popFrame_wi ho.1 ho.2.1 ho.2.2.1 ho.2.2.2 _ _ heq
    exact ⟨hp.1, hp.2.1, hp.2.2.1, hp.2.2.2.1, .of_none hw1 hw2⟩

end H2V.Lemmas.ConnNoPanicP
