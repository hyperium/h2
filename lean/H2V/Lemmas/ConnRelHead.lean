import Lean
import H2V.Model.ConnStreams
/-
  The peeling step shared by the walks over the model functions.

  A two-state relation `R p… s s'` says what a call may change.  A lemma `f_<sfx> : R p… s (f … s …)` is proved by
  unfolding `f` and peeling the calls it makes from the outside in: `R.trans ?_ (g_<sfx> …)` for the outermost call `g`.
  `rel_head` does one such step and finds `g_<sfx>` by name; where the relation has no lemma of its own for `g`, it takes
  `g`'s step lemma `g_step` (ConnStep) through the relation's `of_step` (`via`).

  The look-up is by SHORT name, in the current namespace, that of `R` and the open ones: `<function>_<sfx>` and
  `<function>_step` are reserved for these lemmas (a family lemma of that name about something else shadows the one meant),
  and a lemma that no proof names may still be used.
-/
namespace H2V.Model.Conn
open H2V H2V.Model

syntax relVia := " via " ident str
syntax relIte := " on_ite " tactic

open Lean Elab Tactic Meta in
/-- `rel_head R "_sfx" (via conv "_sfx'")? => rc (on_ite it)?` on a goal `R p… s0 (f … s …)` (the last argument possibly
    under `.1`/`.2`): `apply R.trans` and close its second goal with the lemma `f_sfx`, found by name in the current
    namespace, that of `R` or an open one; that lemma's hypotheses, and the side conditions of `R.trans`, become goals.  When there
    is no `f_sfx` but there is `f_sfx'`, that one is used through `conv : R' … a b → R … a b`.  When the last argument
    is a record update `{ s with … }`, the tactic `rc` runs; when it is a conditional, `it` does. -/
elab "rel_head " r:ident sfx:str v:(relVia)? " => " rc:tactic i:(relIte)? : tactic => withMainContext do
  let rel ← realizeGlobalConstNoOverload r
  let fb : Option (Name × String) ← match v with
    | some v => match v with
      | `(relVia| via $c:ident $s:str) => pure (some (← realizeGlobalConstNoOverload c, s.getString))
      | _ => throwUnsupportedSyntax
    | none => pure none
  let g ← getMainGoal
  let t := (← instantiateMVars (← g.getType)).cleanupAnnotations
  unless t.getAppFn.isConstOf rel do throwError "rel_head: not a goal of the relation"
  let isRel (m : MVarId) : TacticM Bool := do
    return (← instantiateMVars (← m.getType)).cleanupAnnotations.getAppFn.isConstOf rel
  let rec headOf (e : Expr) (fuel : Nat) : Option Name :=
    match fuel with
    | 0 => none
    | fuel + 1 =>
      match e with
      | .proj _ _ b => headOf b fuel
      | .mdata _ b => headOf b fuel
      | _ =>
        match e.getAppFn with
        | .const n _ =>
          if n == ``Prod.fst || n == ``Prod.snd then
            match e.getAppArgs.back? with
            | some a =>
              if a.isAppOfArity ``Prod.mk 4 then
                headOf (if n == ``Prod.fst then a.getAppArgs[2]! else a.getAppArgs[3]!) fuel
              else headOf a fuel
            | none => none
          else some n
        | _ => none
  match headOf t.appArg! 8, i with
  | none, _ => throwError "rel_head: no head constant"
  | some ``Streams.mk, _ => evalTactic rc
  | some ``ite, some i =>
    match i with
    | `(relIte| on_ite $it:tactic) => evalTactic it
    | _ => throwUnsupportedSyntax
  | some n, _ =>
    let last := match n with
      | .str _ s => s
      | _ => "?"
    let env ← getEnv
    let cur ← getCurrNamespace
    let find (x : String) : TacticM (Option Name) := do
      match [cur, rel.getPrefix].map (·.str (last ++ x)) |>.find? env.contains with
      | some n => pure (some n)
      | none => pure (((← resolveGlobalName (.mkSimple (last ++ x))).find? (·.2.isEmpty)).map (·.1))
    let direct ← find sfx.getString
    let via : Option (Name × Name) ← match direct, fb with
      | none, some (conv, sfx') => pure ((← find sfx').map (conv, ·))
      | _, _ => pure none
    unless direct.isSome || via.isSome do throwError "rel_head: no lemma {last}{sfx.getString}"
    let gs ← g.apply (← mkConstWithFreshMVarLevels (rel ++ `trans))
    let rels ← gs.filterM isRel
    let others ← gs.filterM fun m => do
      if ← isRel m then return false
      isProp (← instantiateMVars (← m.getType))
    match rels, direct, via with
    | [g1, g2], some lemmaName, _ =>
      let side ← withReducible (g2.apply (← mkConstWithFreshMVarLevels lemmaName))
      replaceMainGoal (g1 :: side ++ others)
    | [g1, g2], none, some (conv, n') =>
      match ← g2.apply (← mkConstWithFreshMVarLevels conv) with
      | [g3] =>
        let side ← withReducible (g3.apply (← mkConstWithFreshMVarLevels n'))
        replaceMainGoal (g1 :: side ++ others)
      | _ => throwError "rel_head: unexpected goals after the conversion"
    | _, _, _ => throwError "rel_head: unexpected goals after trans"

/-- a conditional call, without `split` (which would rewrite the whole unfolded goal) -/
theorem rel_ite {R : Streams → Streams → Prop} {s : Streams} {c : Prop} [Decidable c] {a b : Streams}
    (ha : c → R s a) (hb : ¬ c → R s b) : R s (if c then a else b) := by
  split
  · exact ha ‹_›
  · exact hb ‹_›

theorem rel_ite_fst {R : Streams → Streams → Prop} {s : Streams} {α : Type} {c : Prop} [Decidable c] {a b : Streams × α}
    (ha : c → R s a.1) (hb : ¬ c → R s b.1) : R s (if c then a else b).1 := by
  split
  · exact ha ‹_›
  · exact hb ‹_›

end H2V.Model.Conn
