import H2V.Lemmas.ConnFidPInvStep
/-
  ConnFidP — paths with the ghost state threaded through (`Run`), and `Inv` along every run
  that stays off the write path (`Run.inv`).
-/
namespace H2V.Lemmas.ConnFidP
open H2V H2V.Model H2V.Model.Conn H2V.Lemmas.ConnWakeP

/-- a sequence of elementary steps permitted by `P`, with the ghost updated by every label -/
inductive Run (P : Perm) : Streams → Ghost → Streams → Ghost → Prop
  | refl (s : Streams) (g : Ghost) : Run P s g s g
  | tau {s0 s s' : Streams} {g0 g : Ghost} : Run P s0 g0 s g → El none s s' → Run P s0 g0 s' g
  | lbl {s0 s s' : Streams} {g0 g : Ghost} (l : Lbl) : Run P s0 g0 s g → El (some l) s s' → P.ok l →
      Run P s0 g0 s' (gstep s l g)

theorem Path.run {P : Perm} {s0 s : Streams} {tr : List Lbl} (p : Path P s0 s tr) (g0 : Ghost) :
    ∃ g, Run P s0 g0 s g := by
  induction p with
  | refl => exact ⟨g0, .refl _ _⟩
  | tau _ e ih => obtain ⟨g, r⟩ := ih; exact ⟨g, .tau r e⟩
  | lbl l _ e ok ih => obtain ⟨g, r⟩ := ih; exact ⟨_, .lbl l r e ok⟩

theorem Tr.run {P : Perm} {s0 s : Streams} (t : Tr P s0 s) (g0 : Ghost) : ∃ g, Run P s0 g0 s g := by
  obtain ⟨tr, p⟩ := t; exact p.run g0

theorem Run.tr {P : Perm} {s0 s : Streams} {g0 g : Ghost} (r : Run P s0 g0 s g) : Tr P s0 s := by
  induction r with
  | refl => exact .refl _ _
  | tau _ e ih => exact ih.tau e
  | lbl l _ e ok ih => exact ih.lbl l e ok

theorem Run.trans' {P : Perm} {s0 s1 s2 : Streams} {g0 g1 g2 : Ghost} (h2 : Run P s1 g1 s2 g2) :
    Run P s0 g0 s1 g1 → Run P s0 g0 s2 g2 := by
  induction h2 with
  | refl => exact fun h1 => h1
  | tau _ e ih => exact fun h1 => .tau (ih h1) e
  | lbl l _ e ok ih => exact fun h1 => .lbl l (ih h1) e ok

theorem Run.trans {P : Perm} {s0 s1 s2 : Streams} {g0 g1 g2 : Ghost} (h1 : Run P s0 g0 s1 g1) (h2 : Run P s1 g1 s2 g2) :
    Run P s0 g0 s2 g2 := h2.trans' h1

theorem Run.mono {P Q : Perm} (hPQ : ∀ l, P.ok l → Q.ok l) {s0 s : Streams} {g0 g : Ghost} (h : Run P s0 g0 s g) :
    Run Q s0 g0 s g := by
  induction h with
  | refl => exact .refl _ _
  | tau _ e ih => exact .tau ih e
  | lbl l _ e ok ih => exact .lbl l ih e (hPQ l ok)

theorem Run.weird_mono {P : Perm} {s0 s : Streams} {g0 g : Ghost} (h : Run P s0 g0 s g) (hw : g.weird = false) :
    g0.weird = false := by
  induction h with
  | refl => exact hw
  | tau _ _ ih => exact ih hw
  | lbl l _ _ _ ih => exact ih (gstep_weird_mono _ l _ hw)

theorem Run.emi_eq {P : Perm} {s0 s : Streams} {g0 g : Ghost} (h : Run P s0 g0 s g) (hp : ¬P.pop) : g.emi = g0.emi := by
  induction h with
  | refl => rfl
  | tau _ _ ih => exact ih
  | lbl l _ _ ok ih =>
    rw [gstep_emi _ _ _ (by intro k f e; subst e; exact hp ok)]; exact ih

/-- message frames may only be queued on entries that were not cut (an entry that was cut and may be pushed on
    is gone) -/
def PushOK (P : Perm) (s : Streams) (g : Ghost) : Prop :=
  ∀ k f, isMsg f = true → P.push k f → g.cut k = true → s.store.get? k = none

/-- **`Inv` along a run off the write path.**  Either the run may not cut anything and message frames are only
    pushed on uncut entries at the start (an API call that accepts a frame), or it may not push message
    frames at all (everything else). -/
theorem Run.inv {P : Perm} {s0 s : Streams} {g0 g : Ghost} {h : Option DataFrame} (r : Run P s0 g0 s g) (hw : ¬P.write) (hpp : P.pop → h = none)
    (hP : ((∀ k, ¬P.cut k) ∧ PushOK P s0 g0) ∨ (∀ k f, isMsg f = true → ¬P.push k f))
    (hI : Inv s0 h g0) (hweird : g.weird = false) :
    Inv s h g ∧ (((∀ k, ¬P.cut k) ∧ PushOK P s g) ∨ (∀ k f, isMsg f = true → ¬P.push k f)) := by
  induction r with
  | refl => exact ⟨hI, hP⟩
  | @tau s1 s2 g1x g1 _ e ih =>
    obtain ⟨hI1, hP1⟩ := ih hP hI hweird
    refine ⟨El.inv none e (by intro _ h'; cases h') hI1 (by intro _ _ h'; cases h') hweird (by intro _ _ h'; cases h'), ?_⟩
    rcases hP1 with ⟨hc, hp⟩ | hn
    · refine Or.inl ⟨hc, fun k f hm hpk hck => ?_⟩
      refine e.stays_none (hp k f hm hpk hck) (Nat.lt_of_not_le fun hle => ?_)
      rw [(hI1.ghostKey k hle).2.2] at hck; cases hck
    · exact Or.inr hn
  | @lbl s1 s2 g1x g1 l _ e ok ih =>
    have hw1 := gstep_weird_mono _ l _ hweird
    obtain ⟨hI1, hP1⟩ := ih hP hI hw1
    have hlw : l.isWrite = false := by
      cases l <;> simp only [Lbl.isWrite] <;> exact absurd ok hw
    have hpush : ∀ k f, some l = some (.push k f) → isMsg f = true → g1.cut k = false := by
      intro k f hl hm
      cases hl
      have hpres := e.pres _ k rfl rfl rfl
      rcases hP1 with ⟨hc, hp⟩ | hn
      · cases hck : g1.cut k with
        | false => rfl
        | true =>
          have hpk : P.push k f := by
            rcases ok with h' | ⟨h', _⟩
            · exact h'
            · rw [hm] at h'; cases h'
          have := hp k f hm hpk hck
          rw [this] at hpres; cases hpres
      · have hpk : P.push k f := by
          rcases ok with h' | ⟨h', _⟩
          · exact h'
          · rw [hm] at h'; cases h'
        exact absurd hpk (hn k f hm)
    refine ⟨El.inv (some l) e (by intro l' h'; cases h'; exact hlw) hI1 hpush hweird
      (by intro j f h'; cases h'; exact hpp ok), ?_⟩
    rcases hP1 with ⟨hc, hp⟩ | hn
    · refine Or.inl ⟨hc, fun k f hm hpk hck => ?_⟩
      by_cases hg1 : g1.cut k = true
      · refine e.stays_none (hp k f hm hpk hg1) (Nat.lt_of_not_le fun hle => ?_)
        rw [(hI1.ghostKey k hle).2.2] at hg1; cases hg1
      · -- newly cut: only `gone k` can do that here, and then the entry is gone
        rcases (gstep_cut_new hg1 hck).1 with ⟨n, rfl⟩ | rfl
        · exact absurd ok (hc k)
        · exact e.goneAbs k rfl
    · exact Or.inr hn

end H2V.Lemmas.ConnFidP
