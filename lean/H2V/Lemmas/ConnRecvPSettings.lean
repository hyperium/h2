import H2V.Lemmas.ConnRecvPUpdate
/-
  C03: `Recv::apply_local_settings` (the peer acknowledged our SETTINGS): every stream in
  the id map has its receive window and `available` shifted by `new − old` initial window size.
  * whatever happens, the connection-level invariant holds (`Inv false`);
  * when the call succeeds, the stream-level invariant holds again with the new initial window size.
  The loop is `Store::try_for_each` over the id map by index; `LInv` is the loop invariant: the
  streams whose key has been visited balance against the new size, the others against the old one.
-/
namespace H2V.Lemmas.ConnRecvP
open H2V H2V.Model H2V.Model.Conn
open H2V.Model.Conn.Streams
open H2V.Lemmas.Comp
attribute [local irreducible] wrapSubU32 wrapSubUsize

/-- the ghost after an acknowledged SETTINGS_INITIAL_WINDOW_SIZE -/
def Ghost.setInit (g : Ghost) (target : Nat) : Ghost := { g with hiInit := max g.hiInit target }

/-- what `Inv` says about one stream apart from its budget -/
structure StreamBasic (hiInit : Nat) (x : Stream) : Prop where
  wI32 : inI32 x.recvFlow.windowSize.val = true
  aI32 : inI32 x.recvFlow.available.val = true
  wa : x.recvFlow.windowSize.val ≤ x.recvFlow.available.val
  live : x.state.isClosed = true ∨
    (x.recvFlow.available.val - x.recvFlow.windowSize.val + (x.inFlightRecvData : Int) ≤ (hiInit : Int) ∧
     x.recvFlow.available.val + (x.inFlightRecvData : Int) ≤ (hiInit : Int))

theorem StreamOK.basic {s : Streams} {g : Ghost} {x : Stream} (h : StreamOK s g x) : StreamBasic g.hiInit x :=
  ⟨h.wI32, h.aI32, h.wa, h.live⟩

/-- loop invariant of `apply_local_settings`: `done` are the keys already visited -/
structure LInv (g : Ghost) (oldSz target : Nat) (done todo : List Nat) (s : Streams) : Prop where
  base : Inv false g s
  basic : ∀ x ∈ s.store.slab, StreamBasic g.hiInit x
  hdone : ∀ x ∈ s.store.slab, x.key ∈ done → Bud x target
  htodo : ∀ x ∈ s.store.slab, x.key ∈ todo → Bud x oldSz
  keysLt : ∀ k, k ∈ done ∨ k ∈ todo → k < s.store.nextKey

theorem Bud.of_same {x x' : Stream} {init : Nat} (hs : SameR x x') (h : Bud x init) : Bud x' init := by
  rcases h with hc | hb
  · exact .inl (hs.closed hc)
  · right; rw [hs.flow, hs.infl]; exact ⟨hb.1, fun hr => hb.2 (hs.recv hr)⟩

theorem StreamBasic.of_same {x x' : Stream} {hi : Nat} (hs : SameR x x') (h : StreamBasic hi x) : StreamBasic hi x' := by
  refine ⟨by rw [hs.flow]; exact h.wI32, by rw [hs.flow]; exact h.aI32, by rw [hs.flow]; exact h.wa, ?_⟩
  rcases h.live with hc | hl
  · exact .inl (hs.closed hc)
  · exact .inr (by rw [hs.flow, hs.infl]; exact hl)

theorem LInv.of_ext {g : Ghost} {oldSz target : Nat} {done todo : List Nat} {s s' : Streams}
    (h : LInv g oldSz target done todo s) (e : Ext s s') : LInv g oldSz target done todo s' := by
  have hk := h.base.keys
  refine ⟨h.base.of_ext e, ?_, ?_, ?_, fun k hkk => Nat.lt_of_lt_of_le (h.keysLt k hkk) e.nk⟩
  · intro x' hx'
    rcases e.slab hk x' hx' with ⟨x, hx, hs⟩ | hfr
    · exact (h.basic x hx).of_same hs
    · exact (StreamOK.of_fresh (g := g) e hfr h.base.initHi h.base.initMax).basic
  · intro x' hx' hd
    rcases e.slab hk x' hx' with ⟨x, hx, hs⟩ | hfr
    · exact (h.hdone x hx (by rw [← hs.key]; exact hd)).of_same hs
    · have := h.keysLt x'.key (.inl hd)
      have := hfr.key
      omega
  · intro x' hx' hd
    rcases e.slab hk x' hx' with ⟨x, hx, hs⟩ | hfr
    · exact (h.htodo x hx (by rw [← hs.key]; exact hd)).of_same hs
    · have := h.keysLt x'.key (.inr hd)
      have := hfr.key
      omega

theorem LInv.shift {g : Ghost} {oldSz target : Nat} {done todo : List Nat} {s : Streams} {k : Nat} {fl : FlowControl}
    (h : LInv g oldSz target done (k :: todo) s) (hkd : k ∉ done) (hkt : k ∉ todo) (htg : target ≤ g.hiInit)
    (hfl : ∀ x, s.store.get? k = some x →
      fl.windowSize.val = x.recvFlow.windowSize.val + (target : Int) - (oldSz : Int) ∧
      fl.available.val = x.recvFlow.available.val + (target : Int) - (oldSz : Int) ∧
      inI32 fl.windowSize.val = true ∧ inI32 fl.available.val = true) :
    LInv g oldSz target (done ++ [k]) todo (s.modStream k fun st => { st with recvFlow := fl }) := by
  have hlt : ∀ k', k' ∈ done ++ [k] ∨ k' ∈ todo → k' < s.store.nextKey := by
    intro k' hk'
    rcases hk' with hk' | hk'
    · rcases List.mem_append.1 hk' with hk' | hk'
      · exact h.keysLt k' (.inl hk')
      · simp only [List.mem_singleton] at hk'; subst hk'; exact h.keysLt _ (.inr List.mem_cons_self)
    · exact h.keysLt k' (.inr (List.mem_cons_of_mem _ hk'))
  cases hx : s.store.get? k with
  | some x =>
    rw [Streams.modStream_of_some hx]
    have hxm : x ∈ s.store.slab ∧ x.key = k := ⟨Store.get?_mem hx, Store.get?_key hx⟩
    have hf := hfl x hx
    have hbase : Inv false g (s.setStream { x with recvFlow := fl }) :=
      h.base.setStream (x := x) (by rw [hxm.2]; exact hx) rfl (Int.le_refl _) (fun hc => by cases hc)
    have hslab : ∀ y' ∈ (s.setStream { x with recvFlow := fl }).store.slab,
        (y' = { x with recvFlow := fl } ∧ y'.key = k) ∨ (y' ∈ s.store.slab ∧ y'.key ≠ k) := fun y' hy' =>
      (mem_setStream hy').imp (fun h => ⟨h, h ▸ hxm.2⟩) fun h => ⟨h.1, hxm.2 ▸ h.2⟩
    refine ⟨hbase, ?_, ?_, ?_, ?_⟩
    · intro y' hy'
      rcases hslab y' hy' with ⟨rfl, -⟩ | ⟨hy, -⟩
      · have hb := h.basic x hxm.1
        have hbud := h.htodo x hxm.1 (by rw [hxm.2]; exact List.mem_cons_self)
        refine ⟨hf.2.2.1, hf.2.2.2, ?_, ?_⟩
        · show fl.windowSize.val ≤ fl.available.val
          rw [hf.1, hf.2.1]; have := hb.wa; omega
        · rcases hb.live with hc | hl
          · exact .inl hc
          · rcases hbud with hc | hbb
            · exact .inl hc
            · right
              show fl.available.val - fl.windowSize.val + (x.inFlightRecvData : Int) ≤ _ ∧
                fl.available.val + (x.inFlightRecvData : Int) ≤ _
              rw [hf.1, hf.2.1]
              have := hbb.1
              omega
      · exact h.basic y' hy
    · intro y' hy' hd
      rcases hslab y' hy' with ⟨rfl, -⟩ | ⟨hy, hne⟩
      · -- the visited stream now balances against the new size
        have hbud := h.htodo x hxm.1 (by rw [hxm.2]; exact List.mem_cons_self)
        rcases hbud with hc | hbb
        · exact .inl hc
        · right
          show fl.available.val + (x.inFlightRecvData : Int) ≤ _ ∧ (x.isRecv = true → fl.available.val + (x.inFlightRecvData : Int) = _)
          rw [hf.2.1]
          have h1 := hbb.1
          refine ⟨by omega, fun hr => ?_⟩
          have h2 := hbb.2 hr
          omega
      · rcases List.mem_append.1 hd with hd | hd
        · exact h.hdone y' hy hd
        · simp only [List.mem_singleton] at hd; exact absurd hd hne
    · intro y' hy' hd
      rcases hslab y' hy' with ⟨rfl, hk'⟩ | ⟨hy, -⟩
      · exfalso; apply hkt; rw [← hk']; exact hd
      · exact h.htodo y' hy (List.mem_cons_of_mem _ hd)
    · exact hlt
  | none =>
    -- a dangling id-map entry: nothing to shift, no slab entry has this key
    rw [Streams.modStream_of_none hx]
    have h' : LInv g oldSz target (done ++ [k]) todo s := by
      refine ⟨h.base, h.basic, ?_, fun y hy hd => h.htodo y hy (List.mem_cons_of_mem _ hd), hlt⟩
      intro y hy hd
      rcases List.mem_append.1 hd with hd | hd
      · exact h.hdone y hy hd
      · simp only [List.mem_singleton] at hd; exact absurd hd (Store.get?_eq_none.1 hx y hy)
    exact h'.of_ext (panic_ext _ _)

theorem tryForEach_linv (f : Streams → Nat → Streams × Option PErr) (g : Ghost) (oldSz target : Nat)
    (hstep : ∀ s k s' done todo, f s k = (s', none) → LInv g oldSz target done (k :: todo) s → k ∉ done → k ∉ todo →
      LInv g oldSz target (done ++ [k]) todo s' ∧ s'.store.ids = s.store.ids)
    (n i : Nat) (s : Streams) (hi : i ≤ s.store.ids.length) (hn : n > s.store.ids.length - i)
    (hnd : (s.store.ids.map (·.2)).Nodup)
    (h : LInv g oldSz target ((s.store.ids.take i).map (·.2)) ((s.store.ids.drop i).map (·.2)) s)
    (hres : (tryForEach f n i s.store.ids.length s).2 = none) :
    LInv g oldSz target (s.store.ids.map (·.2)) [] (tryForEach f n i s.store.ids.length s).1 ∧
    (tryForEach f n i s.store.ids.length s).1.store.ids = s.store.ids := by
  induction n generalizing i s with
  | zero => omega
  | succ n ih =>
    unfold tryForEach at hres ⊢
    by_cases hlt : i < s.store.ids.length
    · simp only [hlt, if_true] at hres ⊢
      have hget : s.store.ids[i]? = some s.store.ids[i] := List.getElem?_eq_getElem hlt
      cases hp : s.store.ids[i] with
      | mk sid k =>
        rw [hget, hp] at hres ⊢
        dsimp only at hres ⊢
        cases hfs : f s k with
        | mk s1 r =>
          rw [hfs] at hres
          cases r with
          | some e => cases hres
          | none =>
            dsimp only at hres ⊢
            have hdrop : s.store.ids.drop i = (sid, k) :: s.store.ids.drop (i + 1) := by
              rw [List.drop_eq_getElem_cons hlt, hp]
            have htake : s.store.ids.take (i + 1) = s.store.ids.take i ++ [(sid, k)] := by
              rw [List.take_succ_eq_append_getElem hlt, hp]
            -- the key is neither among the visited ones nor further down
            have hsplit : s.store.ids.map (·.2) =
                (s.store.ids.take i).map (·.2) ++ k :: (s.store.ids.drop (i + 1)).map (·.2) := by
              conv => lhs; rw [← List.take_append_drop i s.store.ids, hdrop]
              simp
            rw [hsplit] at hnd
            have hnd' := List.nodup_append.1 hnd
            have hkd : k ∉ (s.store.ids.take i).map (·.2) := fun hc => hnd'.2.2 k hc k List.mem_cons_self rfl
            have hkt : k ∉ (s.store.ids.drop (i + 1)).map (·.2) := (List.nodup_cons.1 hnd'.2.1).1
            rw [hdrop, List.map_cons] at h
            obtain ⟨h1, hids1⟩ := hstep s k s1 _ _ hfs h hkd hkt
            have hlen : ¬ (s1.store.ids.length < s.store.ids.length) := by rw [hids1]; omega
            simp only [hlen, if_false] at hres ⊢
            have key := ih (i + 1) s1 (by rw [hids1]; omega) (by rw [hids1]; omega)
              (by rw [hids1, hsplit]; exact hnd)
              (by rw [hids1, htake, List.map_append]; exact h1)
              (by rw [hids1]; exact hres)
            rw [hids1] at key
            exact key
    · simp only [hlt, if_false] at hres ⊢
      have : i = s.store.ids.length := by omega
      subst this
      rw [List.take_length, List.drop_length] at h
      first | exact ⟨h, rfl⟩ | exact ⟨h, trivial⟩

theorem Inv.false_modStream_flow {g : Ghost} {s : Streams} (h : Inv false g s) (id : Nat) (fl : FlowControl) :
    Inv false g (s.modStream id fun st => { st with recvFlow := fl }) :=
  h.modStream id _ (fun _ => Int.le_refl _) (fun _ => rfl) (fun _ _ => Int.le_refl _) (fun hc => by cases hc)

theorem alsDec_false {g : Ghost} (dec : Nat) (s : Streams) (id : Nat) (h : Inv false g s) : Inv false g (alsDec dec s id).1 := by
  unfold Streams.alsDec
  split
  · exact h.false_modStream_flow id _
  · dsimp only
    split
    · exact (h.false_modStream_flow id _).of_ext (qPush_ext _ _ _)
    · exact h.false_modStream_flow id _

theorem alsInc_false {g : Ghost} (inc : Nat) (s : Streams) (id : Nat) (h : Inv false g s) : Inv false g (alsInc inc s id).1 := by
  unfold Streams.alsInc
  split
  · exact h
  · split
    · exact h.false_modStream_flow id _
    · exact h.false_modStream_flow id _

theorem alsDec_round {g : Ghost} {oldSz target : Nat} (hlt : target < oldSz) (hM : oldSz ≤ 2147483647) (htg : target ≤ g.hiInit)
    (s : Streams) (k : Nat) (s' : Streams) (done todo : List Nat)
    (hf : alsDec (oldSz - target) s k = (s', none)) (h : LInv g oldSz target done (k :: todo) s)
    (hkd : k ∉ done) (hkt : k ∉ todo) :
    LInv g oldSz target (done ++ [k]) todo s' ∧ s'.store.ids = s.store.ids := by
  have hu : u32AsI32 (oldSz - target) = (oldSz : Int) - (target : Int) := by
    rw [u32AsI32_of_lt (by omega)]; omega
  unfold Streams.alsDec at hf
  split at hf
  · cases hf
  · next fl _ hdec =>
    have hshift : LInv g oldSz target (done ++ [k]) todo (s.modStream k fun st => { st with recvFlow := fl }) := by
      refine h.shift hkd hkt htg fun x hx => ?_
      rw [Streams.stream_of_get? hx] at hdec
      have hok := decRecvWindow_ok hdec
      rw [hu] at hok
      exact ⟨by rw [hok.1]; omega, by rw [hok.2.1]; omega, hok.2.2.1, hok.2.2.2⟩
    dsimp only at hf
    split at hf
    · cases hf
      exact ⟨hshift.of_ext (qPush_ext _ _ _), by rw [Streams.qPush_ids, Streams.modStream_ids]⟩
    · cases hf
      exact ⟨hshift, Streams.modStream_ids _ _ _⟩

theorem alsInc_round {g : Ghost} {oldSz target : Nat} (hlt : oldSz < target) (hM : target ≤ 2147483647) (htg : target ≤ g.hiInit)
    (s : Streams) (k : Nat) (s' : Streams) (done todo : List Nat)
    (hf : alsInc (target - oldSz) s k = (s', none)) (h : LInv g oldSz target done (k :: todo) s)
    (hkd : k ∉ done) (hkt : k ∉ todo) :
    LInv g oldSz target (done ++ [k]) todo s' ∧ s'.store.ids = s.store.ids := by
  have hu : u32AsI32 (target - oldSz) = (target : Int) - (oldSz : Int) := by
    rw [u32AsI32_of_lt (by omega)]; omega
  unfold Streams.alsInc at hf
  split at hf
  · cases hf
  · next fl _ hinc =>
    split at hf
    · cases hf
    · next fl2 _ hass =>
      cases hf
      refine ⟨h.shift hkd hkt htg fun x hx => ?_, Streams.modStream_ids _ _ _⟩
      rw [Streams.stream_of_get? hx] at hinc
      have h1 := incWindow_ok hinc
      have h2 := assignCapacity_ok hass
      rw [hu] at h1 h2
      refine ⟨by rw [h2.2.2, h1.1]; omega, by rw [h2.1, h1.2.2.2]; omega, by rw [h2.2.2]; exact h1.2.2.1, h2.2.1⟩

/-- the ghost after `apply_local_settings(frame)` -/
def Ghost.afterSettings (g : Ghost) : Option Nat → Ghost
  | some t => g.setInit t
  | none => g

/-- the new initial window size is recorded before the loop runs; the connection level does not care -/
theorem Inv.setInit {full : Bool} {g : Ghost} {s : Streams} (h : Inv full g s) (target : Nat) (ht : target ≤ 2147483647) :
    Inv false (g.setInit target) (s.modRecv fun r => { r with initWindowSz := target }) := by
  have h' := h.drop_full
  refine ⟨h'.keys, h'.wI32, h'.aI32, h'.cons, h'.w0, h'.wI, h'.tHi, h'.hiMax, h'.sum, ?_, ?_, fun hc => by cases hc⟩
  · show target ≤ max g.hiInit target; omega
  · show max g.hiInit target ≤ 2147483647; have := h.initMax; omega

/-- start and end of the loop: `Inv` for the old size is `LInv` with nothing visited, `LInv` with
    everything visited is `Inv` for the new size -/
theorem LInv.start {full : Bool} {g : Ghost} {s : Streams} (h : Inv full g s) (hf : full = true) (target : Nat)
    (ht : target ≤ 2147483647) :
    LInv (g.setInit target) s.recv.initWindowSz target [] (s.store.ids.map (·.2))
      (s.modRecv fun r => { r with initWindowSz := target }) := by
  refine ⟨h.setInit target ht, ?_, (fun _ _ hd => by cases hd), ?_, ?_⟩
  · intro x hx
    have ok := h.streams hf x hx
    refine ⟨ok.wI32, ok.aI32, ok.wa, ?_⟩
    rcases ok.live with hc | hl
    · exact .inl hc
    · right
      show _ ≤ ((max g.hiInit target : Nat) : Int) ∧ _ ≤ ((max g.hiInit target : Nat) : Int)
      omega
  · intro x hx hd
    exact (h.streams hf x hx).bud hd
  · intro k hk
    rcases hk with hk | hk
    · cases hk
    · obtain ⟨p, hp, rfl⟩ := List.mem_map.1 hk
      exact h.keys.idsLt p hp

theorem LInv.finish {g : Ghost} {oldSz target : Nat} {s : Streams}
    (h : LInv g oldSz target (s.store.ids.map (·.2)) [] s) (hinit : s.recv.initWindowSz = target) : Inv true g s :=
  ⟨h.base.keys, h.base.wI32, h.base.aI32, h.base.cons, h.base.w0, h.base.wI, h.base.tHi, h.base.hiMax, h.base.sum,
   h.base.initHi, h.base.initMax, fun _ x hx =>
    ⟨(h.basic x hx).wI32, (h.basic x hx).aI32, (h.basic x hx).wa, (h.basic x hx).live,
     fun hl => by rw [hinit]; exact h.hdone x hx hl⟩⟩

theorem storeTryForEach_init (f : Streams → Nat → Streams × Option PErr)
    (hf : ∀ s id, (f s id).1.recv.initWindowSz = s.recv.initWindowSz) (s : Streams) :
    (s.storeTryForEach f).1.recv.initWindowSz = s.recv.initWindowSz :=
  Streams.storeTryForEach_inv (P := fun s' => s'.recv.initWindowSz = s.recv.initWindowSz)
    (fun s' m h => by rw [Streams.panic_recv]; exact h) (fun s' e _ h => by rw [hf]; exact h) rfl

theorem alsDec_init (dec : Nat) (s : Streams) (id : Nat) : (alsDec dec s id).1.recv.initWindowSz = s.recv.initWindowSz := by
  unfold Streams.alsDec
  split
  · rw [Streams.modStream_recv]
  · dsimp only
    split
    · rw [(qPush_ext _ _ _).init, Streams.modStream_recv]
    · rw [Streams.modStream_recv]

theorem alsInc_init (inc : Nat) (s : Streams) (id : Nat) : (alsInc inc s id).1.recv.initWindowSz = s.recv.initWindowSz := by
  unfold Streams.alsInc
  split
  · rfl
  · split
    · rw [Streams.modStream_recv]
    · rw [Streams.modStream_recv]

/-- **`Recv::apply_local_settings`**: the connection-level invariant survives whatever happens; when
    the call succeeds the stream-level invariant holds for the new initial window size -/
theorem applyLocalSettings_inv {full : Bool} {g : Ghost} {s : Streams} (h : Inv full g s) (iws ec : Option Nat)
    (hv : ∀ t, iws = some t → t ≤ 2147483647) :
    Inv false (g.afterSettings iws) (s.applyLocalSettings iws ec).1 ∧
    ((s.applyLocalSettings iws ec).2 = .ok () → Inv full (g.afterSettings iws) (s.applyLocalSettings iws ec).1) := by
  rw [Streams.applyLocalSettings_eq]
  -- the extended CONNECT flag
  have h0 : Inv full g (s.alsConnect ec) := by
    unfold Streams.alsConnect; split
    · exact h.of_ext (modRecv_ext _ _ fun _ => ⟨rfl, rfl, rfl⟩)
    · exact h
  generalize s.alsConnect ec = s0 at h0 ⊢
  cases iws with
  | none => exact ⟨h0.drop_full, fun _ => h0⟩
  | some target =>
    have ht := hv target rfl
    have hold : s0.recv.initWindowSz ≤ 2147483647 := Nat.le_trans h0.initHi h0.initMax
    unfold Streams.alsWindow Streams.alsLoop
    dsimp only
    -- connection level, always
    have hA0 := h0.setInit target ht
    have hids1 : (s0.modRecv fun r => { r with initWindowSz := target }).store.ids = s0.store.ids := rfl
    have hinit1 : (s0.modRecv fun r => { r with initWindowSz := target }).recv.initWindowSz = target := rfl
    have hL0 : full = true → LInv (g.setInit target) s0.recv.initWindowSz target [] (s0.store.ids.map (·.2))
        (s0.modRecv fun r => { r with initWindowSz := target }) := fun hf => LInv.start h0 hf target ht
    have hnd : (s0.store.ids.map (·.2)).Nodup := h0.keys.idsNodup
    generalize (s0.modRecv fun r => { r with initWindowSz := target }) = s1 at hA0 hids1 hinit1 hL0 ⊢
    have htg : target ≤ (g.setInit target).hiInit := by show target ≤ max g.hiInit target; omega
    -- the two loops
    have hloop : ∀ (f : Streams → Nat → Streams × Option PErr),
        (∀ s id, Inv false (g.setInit target) s → Inv false (g.setInit target) (f s id).1) →
        (∀ s id, (f s id).1.recv.initWindowSz = s.recv.initWindowSz) →
        (∀ s k s' done todo, f s k = (s', none) → LInv (g.setInit target) s0.recv.initWindowSz target done (k :: todo) s →
          k ∉ done → k ∉ todo →
          LInv (g.setInit target) s0.recv.initWindowSz target (done ++ [k]) todo s' ∧ s'.store.ids = s.store.ids) →
        Inv false (g.setInit target) (s1.storeTryForEach f).1 ∧
        ((s1.storeTryForEach f).2 = none → Inv full (g.setInit target) (s1.storeTryForEach f).1) := by
      intro f hfA hfI hfS
      have hinitr := storeTryForEach_init f hfI s1
      unfold Streams.storeTryForEach at hinitr ⊢
      have hAr := Streams.tryForEach_inv (P := Inv false (g.setInit target)) (fun s m h => h.of_ext (panic_ext _ _))
        (fun s e _ => hfA s e.2) (2 * s1.store.ids.length + 1) 0 s1.store.ids.length s1 hA0
      refine ⟨hAr, fun hres => ?_⟩
      cases hfull : full with
      | false => exact hAr
      | true =>
        have hL := hL0 hfull
        rw [← hids1] at hL hnd
        have := tryForEach_linv f (g.setInit target) s0.recv.initWindowSz target hfS
          (2 * s1.store.ids.length + 1) 0 s1 (Nat.zero_le _) (by omega) hnd
          (by rw [List.take_zero, List.drop_zero]; exact hL) hres
        refine LInv.finish (by rw [this.2]; exact this.1) ?_
        rw [hinitr, hinit1]
    by_cases hlt : target < s0.recv.initWindowSz
    · simp only [hlt, if_true]
      obtain ⟨hA, hB⟩ := hloop (alsDec (s0.recv.initWindowSz - target)) (fun s id h => alsDec_false _ s id h)
        (alsDec_init _) (alsDec_round hlt hold htg)
      cases hr : (s1.storeTryForEach (alsDec (s0.recv.initWindowSz - target))).2 with
      | some e => exact ⟨hA, fun hc => by cases hc⟩
      | none => exact ⟨hA, fun _ => hB hr⟩
    · by_cases hgt : target > s0.recv.initWindowSz
      · simp only [hlt, hgt, if_true, if_false]
        obtain ⟨hA, hB⟩ := hloop (alsInc (target - s0.recv.initWindowSz)) (fun s id h => alsInc_false _ s id h)
          (alsInc_init _) (alsInc_round hgt ht htg)
        cases hr : (s1.storeTryForEach (alsInc (target - s0.recv.initWindowSz))).2 with
        | some e => exact ⟨hA, fun hc => by cases hc⟩
        | none => exact ⟨hA, fun _ => hB hr⟩
      · simp only [hlt, hgt, if_false]
        -- the size did not change
        have heq : target = s0.recv.initWindowSz := by omega
        refine ⟨hA0, fun _ => ?_⟩
        cases hfull : full with
        | false => exact hA0
        | true =>
          have hL := hL0 hfull
          rw [← hids1] at hL
          refine LInv.finish (oldSz := s0.recv.initWindowSz) ?_ hinit1
          refine ⟨hL.base, hL.basic, fun x hx hd => ?_, (fun _ _ hd => by cases hd), fun k hk => hL.keysLt k (.inr (by
            rcases hk with hk | hk
            · exact hk
            · cases hk))⟩
          rw [heq]; exact hL.htodo x hx hd

end H2V.Lemmas.ConnRecvP
