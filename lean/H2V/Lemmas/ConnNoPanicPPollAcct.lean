import H2V.Lemmas.ConnNoPanicPPollRecv
import H2V.Lemmas.ConnStepLift
/-
  C08 (no panic): `buffered_send_data` covers the queued DATA (`DSum`), kept by the write path.
  Needed for ONE fact: when `pop_frame` cuts a DATA frame and a remainder stays with the codec
  (`frame.rest > 0`), the stream is not closed (`buffered_send_data > 0`), so `transition_after` does not
  release it and `reclaim_frame` finds a live entry to push the remainder back to.
  `DK` is the frame relation: every entry that has the property keeps it.  A step of the stream layer has it entry by entry
  (`DK.of_step`, over `Streams.Step.stream_rel`) unless it is of a kind that queues DATA or moves `buffered_send_data`
  (`DK.kinds`); `dk_auto` walks what is left (`clear_queue`, the arms of `pop_frame`) and takes its callees from there.
-/
namespace H2V.Lemmas.ConnNoPanicP
open H2V H2V.Model H2V.Model.Conn H2V.Lemmas.ConnCountsP
attribute [local irreducible] wrapSubU32 wrapSubUsize

/-- octets of the DATA frames in a `pending_send` list -/
def dsum : List SFrame → Nat
  | [] => 0
  | .data len _ :: l => len + dsum l
  | .headers _ _ :: l => dsum l
  | .reset _ :: l => dsum l
  | .pushPromise _ _ _ :: l => dsum l

/-- `buffered_send_data` (a `usize`) covers the queued DATA -/
def DS (x : Stream) : Prop := dsum x.pendingSend ≤ x.bufferedSendData ∧ x.bufferedSendData < USIZE_MOD

def DSum (s : Streams) : Prop := ∀ k, DS (s.stream k)

theorem dsum_tail_le (f : SFrame) (l : List SFrame) : dsum l ≤ dsum (f :: l) := by
  cases f <;> simp only [dsum] <;> omega

theorem DS.blank (k : Nat) : DS { key := k, id := 0 } := ⟨Nat.le_refl _, (by decide : (0 : Nat) < USIZE_MOD)⟩

structure DK (s s' : Streams) : Prop where
  ds : ∀ j, DS (s.stream j) → DS (s'.stream j)

theorem DK.refl (s : Streams) : DK s s := ⟨fun _ h => h⟩
theorem DK.trans {a b c : Streams} (h1 : DK a b) (h2 : DK b c) : DK a c := ⟨fun j h => h2.ds j (h1.ds j h)⟩
theorem DK.of_store {s s' : Streams} (h : s'.store = s.store) : DK s s' :=
  ⟨fun j hj => by unfold Streams.stream at *; rw [h]; exact hj⟩
theorem DK.dsum {s s' : Streams} (h : DK s s') (hd : DSum s) : DSum s' := fun k => h.ds k (hd k)

theorem panic_dk (s : Streams) (m : String) : DK s (s.panic m) := .of_store (panic_store _ _)
theorem wake_dk (s : Streams) (t : List String) : DK s (s.wake t) := .of_store rfl
theorem notifyTask_dk (s : Streams) : DK s s.notifyTask := by
  unfold Streams.notifyTask; split
  · exact .of_store rfl
  · exact .refl _
theorem modPrio_dk (s : Streams) (f : Prioritize → Prioritize) : DK s (s.modPrio f) := .of_store rfl
theorem setQ_dk (s : Streams) (q : QName) (l : List Nat) : DK s (s.setQ q l) := .of_store (setQ_store _ _ _)
theorem setMisc_dk (s : Streams) (a : Actions) (refs leaked : Nat) (wk : List String) (un : Option String) :
    DK s { s with actions := a, refs := refs, recvBufferLeaked := leaked, wakes := wk, unsupported := un } := .of_store rfl
theorem setCounts_dk (s : Streams) (c : Counts) : DK s { s with counts := c } := .of_store rfl

theorem setStream_dk (s : Streams) (st' : Stream) (h : DS (s.stream st'.key) → DS st') : DK s (s.setStream st') := by
  refine ⟨fun j hj => ?_⟩
  rcases setStream_stream s st' j with e | ⟨e, hk, _⟩
  · rw [e]; exact hj
  · rw [e]; rw [hk] at hj; exact h hj

theorem modStream_dk' (s : Streams) (k : Nat) (f : Stream → Stream) (hk : ∀ x, (f x).key = x.key)
    (h : DS (s.stream k) → DS (f (s.stream k))) : DK s (s.modStream k f) := by
  unfold Streams.modStream
  split
  · next st hst =>
    rw [stream_of_get? hst] at h
    refine setStream_dk s _ ?_
    rw [hk, get?_key hst, stream_of_get? hst]; exact h
  · exact panic_dk _ _

theorem modStream_dk (s : Streams) (k : Nat) (f : Stream → Stream) (h : ∀ x, (f x).key = x.key ∧ (DS x → DS (f x))) :
    DK s (s.modStream k f) := modStream_dk' s k f (fun x => (h x).1) (h _).2

theorem modStreamW_dk (s : Streams) (k : Nat) (f : Stream → Stream × List String)
    (h : ∀ x, (f x).1.key = x.key ∧ (DS x → DS (f x).1)) : DK s (s.modStreamW k f) := by
  unfold Streams.modStreamW
  split
  · next st hst =>
    refine (setStream_dk s _ ?_).trans (wake_dk _ _)
    rw [(h st).1, get?_key hst, stream_of_get? hst]; exact (h st).2
  · exact panic_dk _ _

theorem ds_of_fields {a b : Stream} (h1 : b.pendingSend = a.pendingSend) (h2 : b.bufferedSendData = a.bufferedSendData) :
    DS a → DS b := by unfold DS; rw [h1, h2]; exact id

theorem ds_nil {b : Stream} (h1 : b.pendingSend = []) (h2 : b.bufferedSendData = 0) : DS b := by
  unfold DS; rw [h1, h2]; exact ⟨Nat.le_refl _, (by decide : (0 : Nat) < USIZE_MOD)⟩

theorem notifySend_ds (x : Stream) : x.notifySend.1.key = x.key ∧ (DS x → DS x.notifySend.1) := by
  rw [Stream.notifySend_fst]; exact ⟨rfl, ds_of_fields rfl rfl⟩
theorem notifyRecv_ds (x : Stream) : x.notifyRecv.1.key = x.key ∧ (DS x → DS x.notifyRecv.1) := by
  rw [Stream.notifyRecv_fst]; exact ⟨rfl, ds_of_fields rfl rfl⟩
theorem notifyPush_ds (x : Stream) : x.notifyPush.1.key = x.key ∧ (DS x → DS x.notifyPush.1) := by
  rw [Stream.notifyPush_fst]; exact ⟨rfl, ds_of_fields rfl rfl⟩
theorem notifyCapacity_ds (x : Stream) : x.notifyCapacity.1.key = x.key ∧ (DS x → DS x.notifyCapacity.1) := by
  rw [Stream.notifyCapacity_fst]; exact ⟨rfl, ds_of_fields rfl rfl⟩
theorem assignCapacity_ds (x : Stream) (a b : Nat) : (x.assignCapacity a b).1.key = x.key ∧ (DS x → DS (x.assignCapacity a b).1) := by
  rw [Stream.assignCapacity_fst]; split <;> exact ⟨rfl, ds_of_fields rfl rfl⟩
theorem setReset_ds (x : Stream) (r : Reason) (i : Initiator) : (x.setReset r i).1.key = x.key ∧ (DS x → DS (x.setReset r i).1) := by
  rw [Stream.setReset_fst]; exact ⟨rfl, ds_of_fields rfl rfl⟩
theorem setQueued_ds (x : Stream) (q : QName) (v : Bool) : (x.setQueued q v).key = x.key ∧ (DS x → DS (x.setQueued q v)) := by
  cases q <;> exact ⟨rfl, ds_of_fields rfl rfl⟩

macro "ds_tac" : tactic => `(tactic| with_reducible first
  | exact ⟨rfl, ds_of_fields rfl rfl⟩
  | exact ⟨rfl, fun _ => ds_nil rfl rfl⟩
  | exact notifySend_ds _ | exact notifyRecv_ds _ | exact notifyPush_ds _ | exact notifyCapacity_ds _
  | exact assignCapacity_ds _ _ _ | exact setReset_ds _ _ _ | exact setQueued_ds _ _ _)

/-- all kinds but those that can break `DS`: a DATA frame queued; `buffered_send_data` raised, or lowered by `send_data`; the
    queue cut down to its head with `buffered_send_data` zeroed (`clear_queue` is of the same kind); a new entry (its key may
    have been another entry's) -/
def DK.kinds : Kind → Bool
  | .insert | .frame .data | .buffer | .chargeData | .clearSend => false
  | _ => true

theorem dsum_append_notData (l : List SFrame) {f : SFrame} (hf : f.cls ≠ .data) : dsum (l ++ [f]) = dsum l := by
  induction l with
  | nil => cases f <;> first | rfl | exact absurd rfl hf
  | cons g l ih => cases g <;> simp only [List.cons_append, dsum, ih]

theorem decContentLength_ds {x y : Stream} {n : Nat} (h : x.decContentLength n = some y) : DS x → DS y := by
  obtain ⟨_, rfl⟩ := Stream.decContentLength_eq h; exact ds_of_fields rfl rfl

theorem DS.of_updW {K : Kind → Bool} {x : Stream} {p : Stream × List String} (h : Stream.UpdW K x p) : DS x → DS p.1 := by
  cases h with
  | notifySend => exact (notifySend_ds x).2
  | notifyRecv => exact (notifyRecv_ds x).2
  | notifyPush => exact (notifyPush_ds x).2
  | notifyCapacity => exact (notifyCapacity_ds x).2
  | assignCapacity c m _ => exact (assignCapacity_ds x c m).2
  | setReset r i _ => exact (setReset_ds x r i).2

theorem DS.of_upd {x y : Stream} (h : Stream.Upd DK.kinds x y) : DS x → DS y := by
  cases h with
  | sendData _ _ h _ | buffered _ h | unpopData _ _ h | clearSend h | keepOnlyHead h => exact absurd h (by decide)
  | pushSend f h =>
    intro hd
    refine ⟨?_, hd.2⟩
    show dsum (x.pendingSend ++ [f]) ≤ _
    rw [dsum_append_notData _ (fun e => by rw [e] at h; exact absurd h (by decide))]; exact hd.1
  | popSend f rest _ h => intro hd; exact ⟨Nat.le_trans (dsum_tail_le f rest) (h ▸ hd.1), hd.2⟩
  | dropSend _ =>
    intro hd
    refine ⟨Nat.le_trans ?_ hd.1, hd.2⟩
    show dsum (x.pendingSend.drop 1) ≤ _
    cases x.pendingSend with
    | nil => exact Nat.le_refl _
    | cons f l => exact dsum_tail_le f l
  | decContentLength n _ h => exact decContentLength_ds h
  | _ => exact ds_of_fields rfl rfl

/-- entry by entry (`Streams.Step.stream_rel`) -/
theorem DK.of_step {s s' : Streams} (h : Streams.Step DK.kinds s s') : DK s s' :=
  ⟨Streams.Step.stream_rel (r := fun x y => DS x → DS y) (fun _ h => h) (fun h1 h2 h => h2 (h1 h)) (fun _ _ => DS.of_upd)
    (fun _ _ => DS.of_updW) (fun x q v _ _ => (setQueued_ds x q v).2) (fun _ _ _ => ds_of_fields rfl rfl)
    (fun _ _ _ _ => DS.blank _) rfl h⟩

syntax "dk_side" : tactic
macro_rules | `(tactic| dk_side) => `(tactic| (intro _; ds_tac))
macro_rules | `(tactic| dk_side) => `(tactic| decide)
macro_rules | `(tactic| dk_side) => `(tactic| assumption)

syntax "dk_step" : tactic
macro_rules | `(tactic| dk_step) => `(tactic| open H2V.Model.Conn.Streams in rel_head DK "_dk" via DK.of_step "_step" => first
  | with_reducible refine DK.trans ?_ (setMisc_dk _ _ _ _ _ _)
  | with_reducible refine DK.trans ?_ (setCounts_dk _ _))
macro_rules | `(tactic| dk_step) => `(tactic| with_reducible assumption)
macro_rules | `(tactic| dk_step) => `(tactic| with_reducible exact DK.refl _)
-- an `if` between two states is taken apart without `split` (which would look at the condition)
macro_rules | `(tactic| dk_step) => `(tactic| with_reducible refine rel_ite (R := DK) (fun _ => ?_) (fun _ => ?_))

macro "dk_auto" : tactic => `(tactic| repeat (first | dk_step | dk_side | intro _ | split | dsimp only))
macro "dk_auto_ih" ih:ident : tactic =>
  `(tactic| repeat (first | dk_step | with_reducible refine DK.trans ?_ ($ih ..) | dk_side | intro _ | split | dsimp only))

theorem qPush_dk (s : Streams) (q : QName) (k : Nat) : DK s (s.qPush q k).1 := by
  unfold Streams.qPush; dk_auto
theorem qPop_dk (s : Streams) (q : QName) : DK s (s.qPop q).1 := by
  unfold Streams.qPop; dk_auto

theorem transitionAfter_dk (s : Streams) (k : Nat) (b : Bool) : DK s (s.transitionAfter k b) :=
  .of_step (Streams.transitionAfter_step (by decide) s k b)

theorem clearQueue_dk (s : Streams) (k : Nat) : DK s (s.clearQueue k) := by
  unfold Streams.clearQueue; dk_auto

end H2V.Lemmas.ConnNoPanicP
