import H2V.Lemmas.HpackDecInv
/-
  Part C — refinement: whatever `Decoder::decode` accepts as a whole header block, the RFC 7541
  reference decoder (`Spec.Hpack.decode`) decodes to the same field list and the same dynamic table;
  what it rejects it rejects with a Rust error: it never reaches the `panic!` of `consolidate` and
  never runs out of the model's fuel.
-/
namespace H2V.Lemmas.HpackDec
open H2V H2V.Model.Hpack H2V.Generated.Static

/-- abstraction: the reference state a decoder stands for -/
def abs (d : Decoder) : Spec.Hpack.St :=
  { entries := d.table.entries, maxSize := d.table.maxSize,
    limit := d.lastMaxUpdate, pendingLimit := d.maxSizeUpdate }

theorem abs_insert (d : Decoder) (h : Header) (hi : Table.Inv d.table) :
    Spec.Hpack.insert (abs d) h = abs { d with seenField := true, table := d.table.insert h } := by
  unfold Spec.Hpack.insert abs
  simp only [Hpack.fieldSize_eq, insert_entries _ _ hi, insert_maxSize _ _ hi.sizeOk]
  split <;> rfl

theorem step_refines (hHuff : HuffSpec) (d : Decoder) (c : Bool) (buf : Bytes)
    (hi : Table.Inv d.table) (hv : Bytes.Valid buf) :
    match step d c buf with
    | .next d' c' rest emit => ∀ fuel acc,
      Spec.Hpack.block (fuel + 1) (abs d) (!c) buf acc =
        Spec.Hpack.block fuel (abs d') (!c') rest (acc ++ emit)
    | .stop _ _ (.error e) => e.isModelOnly = false
    | .stop _ _ (.ok _) => True := by
  cases buf with
  | nil => trivial
  | cons ty tl0 =>
    have hty : ty < 256 := (Valid_cons.1 hv).1
    have int : ∀ p, 1 ≤ p ∧ p ≤ 8 → match decodeInt (ty :: tl0) p with
        | .ok (v, r) => Spec.Hpack.int p (ty :: tl0) = some (v, r)
        | .error e => e.isModelOnly = false := by
      intro p hp
      cases h0 : decodeInt (ty :: tl0) p with
      | ok q => exact decodeInt_sound _ _ _ _ hv h0
      | error e => rcases decodeInt_err _ _ _ hp h0 with rfl | rfl <;> rfl
    have lit : ∀ index, match stepLiteral d (ty :: tl0) index with
        | .next d' c' rest emit => ∃ hd,
          Spec.Hpack.literal (abs d) (if index then 6 else 4) (ty :: tl0) = .ok (hd, rest) ∧
            emit = [hd] ∧ c' = false ∧
            d' = (if index then { d with seenField := true, table := d.table.insert hd }
                  else { d with seenField := true })
        | .stop _ _ (.error e) => e.isModelOnly = false
        | .stop _ _ (.ok _) => True := by
      intro index
      have g := decodeLiteral_refines hHuff d.table (abs d) rfl (ty :: tl0) index hv
      unfold stepLiteral
      simp only
      cases hk : decodeLiteral d.table (ty :: tl0) index with
      | error et => rw [hk] at g; exact g
      | ok q => rw [hk] at g; exact ⟨q.1, g, rfl, rfl, by cases index <;> rfl⟩
    unfold step
    simp only [Rep_load_eq ty hty, Spec.Hpack.block]
    by_cases h128 : ty ≥ 128
    · simp only [repOf, if_pos h128]
      have g := int 7 (by decide)
      cases h0 : decodeInt (ty :: tl0) 7 with
      | error e => rw [h0] at g; exact g
      | ok q =>
        rw [h0] at g
        simp only [get_eq_lookup d.table (abs d) q.1 rfl, g]
        cases Spec.Hpack.lookup (abs d) q.1 with
        | none => rfl
        | some f => exact fun _ _ => rfl
    · by_cases h64 : ty ≥ 64
      · simp only [repOf, if_neg h128, if_pos h64]
        have g := lit true
        cases hs : stepLiteral d (ty :: tl0) true with
        | stop d' tl res => rw [hs] at g; cases res <;> exact g
        | next d' c' rest emit =>
          rw [hs] at g
          obtain ⟨hd, hk, rfl, rfl, rfl⟩ := g
          intro fuel acc
          simp only [if_true] at hk ⊢
          rw [hk]
          simp only
          rw [abs_insert _ _ hi]
          rfl
      · by_cases h32 : ty ≥ 32
        · simp only [repOf, if_neg h128, if_neg h64, if_pos h32]
          cases c with
          | false => rfl
          | true =>
            simp only [not_true_eq_false, if_false]
            have g := int 5 (by decide)
            cases h0 : decodeInt (ty :: tl0) 5 with
            | error e => rw [h0] at g; exact g
            | ok q =>
              rw [h0] at g
              simp only
              by_cases hgt : q.1 > d.lastMaxUpdate
              · rw [if_pos hgt]; rfl
              · rw [if_neg hgt]
                obtain ⟨r, hr, -, i2, i3⟩ := setMaxSize_spec d.table q.1 hi.sizeOk
                rw [hr]
                intro fuel acc
                simp only [g, Bool.not_true, Bool.false_eq_true, if_false, List.append_nil]
                rw [if_neg (show ¬ q.1 > (abs d).limit from hgt)]
                congr 1
                simp only [abs, i2, i3]
        · by_cases h16 : ty ≥ 16 <;>
            (simp only [repOf, if_neg h128, if_neg h64, if_neg h32, h16, if_true, if_false]
             have g := lit false
             cases hs : stepLiteral d (ty :: tl0) false with
             | stop d' tl res => rw [hs] at g; cases res <;> exact g
             | next d' c' rest emit =>
               rw [hs] at g
               obtain ⟨hd, hk, rfl, rfl, rfl⟩ := g
               intro fuel acc
               simp only [Bool.false_eq_true, if_false] at hk ⊢
               rw [hk]
               rfl)

/-- C — the loop against the reference: an accepted buffer the reference decodes to the same fields
    and state; a rejected one is rejected with a Rust error when the fuel exceeds its length -/
theorem decodeLoop_refines (hHuff : HuffSpec) : ∀ (fuel : Nat) (d : Decoder) (c : Bool) (buf : Bytes)
    (acc : List Header), Table.Inv d.table → Bytes.Valid buf →
    match (decodeLoop fuel d c buf acc).result with
    | .ok _ =>
      Spec.Hpack.block fuel (abs d) (!c) buf acc =
        .ok ((decodeLoop fuel d c buf acc).fields, abs (decodeLoop fuel d c buf acc).dec) ∧
      (decodeLoop fuel d c buf acc).tail = []
    | .error e => buf.length < fuel → e.isModelOnly = false := by
  intro fuel
  induction fuel with
  | zero =>
    intro d c buf acc hi hv
    rw [decodeLoop_zero]
    cases buf with
    | nil => exact ⟨rfl, rfl⟩
    | cons b tl => exact fun hf => absurd hf (Nat.not_lt_zero _)
  | succ fuel ih =>
    intro d c buf acc hi hv
    rw [decodeLoop_succ]
    have g := step_refines hHuff d c buf hi hv
    cases hs : step d c buf with
    | stop d' tl res =>
      rw [hs] at g
      cases res with
      | error e => exact fun _ => g
      | ok u =>
        obtain ⟨h1, h2, h3⟩ := (step_stop_props _ _ _ _ _ _ hs).2.1 rfl
        subst h1 h2 h3
        exact ⟨rfl, rfl⟩
    | next d' c' rest emit =>
      rw [hs] at g
      obtain ⟨⟨pre, hpre, hl⟩, -, -, hinv⟩ := step_next_props _ _ _ _ _ _ _ hs
      have hv' : Bytes.Valid rest := by rw [hpre] at hv; exact (Valid_append.1 hv).2
      have := ih d' c' rest (acc ++ emit) (hinv hi).1 hv'
      simp only
      generalize decodeLoop fuel d' c' rest (acc ++ emit) = o at this ⊢
      cases hr : o.result with
      | ok u => rw [hr] at this; rw [g]; exact this
      | error e =>
        rw [hr] at this
        exact fun hf => this (by rw [hpre, List.length_append] at hf; omega)

theorem abs_prep (d : Decoder) :
    abs (prep d) = (match (abs d).pendingLimit with
      | some n => { abs d with limit := n, pendingLimit := none }
      | none => abs d) := by
  obtain ⟨msu, lmu, t, cont, seen⟩ := d
  cases cont <;> cases msu <;> rfl

theorem prep_seenField (d : Decoder) (h : d.continuing = false) : (prep d).seenField = false := by
  obtain ⟨msu, lmu, t, cont, seen⟩ := d
  simp only at h
  subst h
  cases msu <;> rfl

/-- C — `decode_sound`: a header block that `Decoder::decode` accepts (not a continuation) is
    decoded by the RFC 7541 reference to the same field list and the same resulting state; and
    nothing is left in the buffer -/
theorem decode_sound (hHuff : HuffSpec) (d : Decoder) (src : Bytes)
    (hi : Table.Inv d.table) (hv : Bytes.Valid src) (hc : d.continuing = false)
    (hr : (d.decode src).result = .ok ()) :
    Spec.Hpack.decode (abs d) src = .ok ((d.decode src).fields, abs (d.decode src).dec) ∧
    (d.decode src).tail = [] := by
  rw [decode_eq] at hr ⊢
  have hp : Table.Inv (prep d).table := by rw [prep_table]; exact hi
  have := decodeLoop_refines hHuff (src.length + 1) (prep d) (!(prep d).seenField) src [] hp hv
  rw [hr] at this
  rw [prep_seenField d hc] at this ⊢
  have e : Spec.Hpack.decode (abs d) src =
      Spec.Hpack.block (src.length + 1) (abs (prep d)) false src [] := by
    rw [abs_prep]; rfl
  rw [e]
  exact this

/-- C — `spec_error_rejected`: a block the reference rejects is not accepted by `decode` -/
theorem spec_error_rejected (hHuff : HuffSpec) (d : Decoder) (src : Bytes) (e : Spec.Hpack.Err)
    (hi : Table.Inv d.table) (hv : Bytes.Valid src) (hc : d.continuing = false)
    (h : Spec.Hpack.decode (abs d) src = .error e) :
    (d.decode src).result ≠ .ok () := by
  intro hr
  rw [(decode_sound hHuff d src hi hv hc hr).1] at h
  cases h

/-- B — the result of `decode` is a Rust value: not the model's out-of-fuel, not a `panic!` -/
theorem decode_no_model_error (hHuff : HuffSpec) (d : Decoder) (src : Bytes) (e : DErr)
    (hv : Bytes.Valid src) (hi : Table.Inv d.table)
    (h : (d.decode src).result = .error e) : e.isModelOnly = false := by
  rw [decode_eq] at h
  have := decodeLoop_refines hHuff (src.length + 1) (prep d) (!(prep d).seenField) src []
    (by rw [prep_table]; exact hi) hv
  rw [h] at this
  exact this (Nat.lt_succ_self _)

theorem decode_never_fuel (hHuff : HuffSpec) (d : Decoder) (src : Bytes)
    (hv : Bytes.Valid src) (hi : Table.Inv d.table) :
    (d.decode src).result ≠ .error .fuel := by
  intro h
  have := decode_no_model_error hHuff d src _ hv hi h
  cases this

theorem decode_never_panic (hHuff : HuffSpec) (d : Decoder) (src : Bytes)
    (hv : Bytes.Valid src) (hi : Table.Inv d.table) :
    (d.decode src).result ≠ .error .panic := by
  intro h
  have := decode_no_model_error hHuff d src _ hv hi h
  cases this

end H2V.Lemmas.HpackDec
