import H2V.Lemmas.ConnResetPFrame
/-
  ConnResetP — the queue invariant `QInv` (C08): every key sitting in one of the six intrusive queues
  resolves to a slab entry whose `is_pending_*` flag for that queue is set, and no queue holds a key
  twice.  (This is `invQueue` of ConnInv.lean, the invariant whose violation is a "dangling store key"
  panic — quirk Q4 was one.)  The definition, the primitive steps `QInv s → QInv (op s …)` (found by
  `ev` under the name `QInv.op`), and the counters and `transition_after` prefix as first compound steps.
-/
set_option linter.unusedSectionVars false
namespace H2V.Lemmas.ConnResetP
open H2V H2V.Model H2V.Model.Conn

/-- the consistency of queues and flags -/
structure QCore (s : Streams) : Prop where
  mem : ∀ q k, k ∈ s.getQ q → ∃ st, s.store.get? k = some st ∧ st.isQueued q = true
  nodup : ∀ q, (s.getQ q).Nodup

/-- …in every state that has not panicked.  (The model goes on after a panic — e.g. `Queue::push` of a
    dangling key records the panic and still pushes the key — the real code does not; stating the
    invariant for un-panicked states is what makes it inductive without threading "this key resolves"
    through every function.) -/
def QInv (s : Streams) : Prop := s.panicked = none → QCore s

structure FlagsEq (a b : Stream) : Prop where
  key : b.key = a.key
  flags : ∀ q, b.isQueued q = a.isQueued q

theorem FlagsEq.rfl' (a : Stream) : FlagsEq a a := ⟨rfl, fun _ => rfl⟩

theorem QInv.of_same {s s' : Streams} (h : QInv s) (hs : s'.store = s.store) (hq : ∀ q, s'.getQ q = s.getQ q)
    (hp : s'.panicked = none → s.panicked = none) : QInv s' := fun hn =>
  let c := h (hp hn)
  ⟨fun q k hk => by rw [hs]; rw [hq] at hk; exact c.mem q k hk, fun q => by rw [hq]; exact c.nodup q⟩

theorem QCore.of_flags {s s' : Streams} (h : QCore s) (hq : ∀ q, s'.getQ q = s.getQ q)
    (hf : ∀ k st, s.store.get? k = some st → ∃ st', s'.store.get? k = some st' ∧ ∀ q, st'.isQueued q = st.isQueued q) :
    QCore s' := by
  refine ⟨fun q k hk => ?_, fun q => by rw [hq]; exact h.nodup q⟩
  rw [hq] at hk
  obtain ⟨st, hg, hfl⟩ := h.mem q k hk
  obtain ⟨st', hg', hfl'⟩ := hf k st hg
  exact ⟨st', hg', by rw [hfl']; exact hfl⟩

theorem QInv.of_mod {s s' : Streams} (h : QInv s) (id : Nat) (f : Stream → Stream) (hf : ∀ st, FlagsEq st (f st))
    (hs : s'.store = Store.mod s.store id f) (hq : ∀ q, s'.getQ q = s.getQ q)
    (hp : s'.panicked = none → s.panicked = none) : QInv s' := by
  intro hn
  refine (h (hp hn)).of_flags hq (fun k st hg => ?_)
  rw [hs, Store.get?_mod' _ _ _ (fun x => (hf x).key)]
  split
  · next e => subst e; rw [hg]; exact ⟨f st, rfl, (hf st).flags⟩
  · exact ⟨st, hg, fun _ => rfl⟩

/-- the flag for `q` of the entry `id` is set to `v` and the queue `q` replaced: what `Queue::push`,
    `push_front` and `pop` have in common -/
theorem QCore.setFlag {s s' : Streams} (h : QCore s) (q : QName) (id : Nat) (v : Bool) (st : Stream)
    (hst : s.store.get? id = some st) (hs : s'.store = Store.mod s.store id fun st => st.setQueued q v)
    (hq : ∀ q', q' ≠ q → s'.getQ q' = s.getQ q') (hnd : (s'.getQ q).Nodup)
    (hmem : ∀ x ∈ s'.getQ q, if x = id then v = true else x ∈ s.getQ q) : QCore s' := by
  have hget : ∀ k, s'.store.get? k = if k = id then some (st.setQueued q v) else s.store.get? k := by
    intro k
    rw [hs, Store.get?_mod' _ _ _ (fun x => x.setQueued_key q v)]
    split
    · rw [hst]; rfl
    · rfl
  refine ⟨fun q' k hk => ?_, fun q' => ?_⟩
  · rw [hget]
    by_cases hqq : q' = q
    · subst hqq
      have := hmem k hk
      split
      · next e => rw [if_pos e] at this; exact ⟨_, rfl, by rw [Stream.isQueued_setQueued_self]; exact this⟩
      · next e => rw [if_neg e] at this; exact h.mem q' k this
    · rw [hq q' hqq] at hk
      obtain ⟨st1, h1, h2⟩ := h.mem q' k hk
      split
      · next e =>
        subst e; rw [hst] at h1; cases h1
        exact ⟨_, rfl, by rw [Stream.isQueued_setQueued_ne _ hqq]; exact h2⟩
      · exact ⟨st1, h1, h2⟩
  · by_cases hqq : q' = q
    · subst hqq; exact hnd
    · rw [hq q' hqq]; exact h.nodup q'

section prim
variable {s : Streams} (h : QInv s)
include h

theorem QInv.panic (m : String) : QInv (s.panic m) := fun hn => absurd hn (s.panic_panicked_ne_none m)
theorem QInv.unsup (m : String) : QInv (s.unsup m) :=
  h.of_same (s.unsup_store m) (s.unsup_getQ m) (by rw [s.unsup_panicked m]; exact id)
theorem QInv.wake (t : List String) : QInv (s.wake t) := h.of_same rfl (fun _ => rfl) id
theorem QInv.notifyTask : QInv s.notifyTask :=
  h.of_same s.notifyTask_store s.notifyTask_getQ (by rw [s.notifyTask_panicked]; exact id)
theorem QInv.modCounts (f : Counts → Counts) : QInv (s.modCounts f) := h.of_same rfl (fun _ => rfl) id
theorem QInv.modCountsA (w : String) (f : Counts → Option Counts) : QInv (s.modCountsA w f) := by
  unfold Streams.modCountsA; split
  · exact h.of_same rfl (fun _ => rfl) id
  · exact h.panic _
theorem QInv.modSend (f : Send → Send) (hf : ∀ sd, (f sd).prioritize = sd.prioritize) : QInv (s.modSend f) :=
  h.of_same rfl (fun q => by unfold Streams.getQ Streams.prio Streams.recv Streams.modSend; cases q <;> simp [hf]) id
theorem QInv.modPrio (f : Prioritize → Prioritize) (h1 : ∀ p, (f p).pendingSend = p.pendingSend)
    (h2 : ∀ p, (f p).pendingCapacity = p.pendingCapacity) (h3 : ∀ p, (f p).pendingOpen = p.pendingOpen) :
    QInv (s.modPrio f) :=
  h.of_same rfl (fun q => by unfold Streams.getQ; cases q <;> simp [h1, h2, h3]) id
theorem QInv.modRecv (f : Recv → Recv) (h1 : ∀ r, (f r).pendingWindowUpdates = r.pendingWindowUpdates)
    (h2 : ∀ r, (f r).pendingAccept = r.pendingAccept) (h3 : ∀ r, (f r).pendingResetExpired = r.pendingResetExpired) :
    QInv (s.modRecv f) :=
  h.of_same rfl (fun q => by unfold Streams.getQ; cases q <;> simp [h1, h2, h3]) id

theorem QInv.unlink (id : Nat) : QInv { s with store := s.store.unlink id } :=
  fun hn => let c := h hn; ⟨fun q k hk => c.mem q k hk, c.nodup⟩

end prim

theorem QInv.modStream {s : Streams} (h : QInv s) (id : Nat) (f : Stream → Stream) (hf : ∀ st, FlagsEq st (f st)) : QInv (s.modStream id f) :=
  h.of_mod id f hf (modStream_store s id f) (s.modStream_getQ id f)
    fun hn => (Streams.get?_of_modStream_panicked_eq_none hn).2

theorem QInv.modStreamW' {s : Streams} (h : QInv s) (id : Nat) (f : Stream → Stream × List String)
    (hf : ∀ st, FlagsEq st (f st).1) : QInv (s.modStreamW id f) :=
  h.of_mod id _ hf (modStreamW_store s id f) (s.modStreamW_getQ id f)
    fun hn => (Streams.get?_of_modStreamW_panicked_eq_none hn).2

theorem QInv.setStream {s : Streams} (h : QInv s) (id : Nat) (x : Stream) (hk : x.key = id)
    (hf : ∀ q, x.isQueued q = (Store.getD' s.store id).isQueued q) : QInv (s.setStream x) := by
  intro hn
  refine (h hn).of_flags (fun q => rfl) (fun k st hg => ?_)
  rw [setStream_store, Store.get?_set]
  split
  · next e =>
    rw [hg]
    refine ⟨x, rfl, fun q => ?_⟩
    rw [hf, ← hk, ← e, Store.getD'_of_get? hg]
  · exact ⟨st, hg, fun _ => rfl⟩

theorem QInv.remove {s : Streams} (h : QInv s) (k n : Nat)
    (hf : ∀ st, s.store.get? k = some st → ∀ q, st.isQueued q = false) :
    QInv { s with store := s.store.remove k, recvBufferLeaked := n } := by
  intro hn
  have c := h hn
  refine ⟨fun q k' hk => ?_, c.nodup⟩
  obtain ⟨st, hg, hfl⟩ := c.mem q k' hk
  have hne : k' ≠ k := by
    intro e; subst e
    rw [hf st hg q] at hfl; cases hfl
  exact ⟨st, by show (s.store.remove k).get? k' = some st; rw [Store.get?_remove, if_neg hne]; exact hg, hfl⟩

theorem QInv.insert {s : Streams} (h : QInv s) (x : Stream) : QInv { s with store := (s.store.insert x).1 } := by
  intro hn
  have c := h hn
  refine ⟨fun q k hk => ?_, c.nodup⟩
  obtain ⟨st, hg, hfl⟩ := c.mem q k hk
  exact ⟨st, by show (s.store.insert x).1.get? k = some st; rw [Conn.Store.get?_insert, hg]; rfl, hfl⟩

/-- what `Queue::push` and `push_front` share -/
theorem QInv.enq {s : Streams} (h : QInv s) (q : QName) (id : Nat) (l : List Nat) (hfl : (s.stream id).isQueued q = false)
    (hnd : id ∉ s.getQ q → (s.getQ q).Nodup → l.Nodup) (hmem : ∀ x ∈ l, x ≠ id → x ∈ s.getQ q) :
    QInv ((s.modStream id fun st => st.setQueued q true).setQ q l) := by
  intro hn
  rw [Streams.setQ_panicked] at hn
  obtain ⟨hst, hn0⟩ := Streams.get?_of_modStream_panicked_eq_none hn
  have c := h hn0
  have hni : id ∉ s.getQ q := fun hm => by
    obtain ⟨st1, h1, h2⟩ := c.mem q id hm
    rw [Streams.stream_of_get? hst] at hfl
    rw [hst] at h1; cases h1; rw [hfl] at h2; cases h2
  refine c.setFlag q id true _ hst (by rw [setQ_store, modStream_store])
    (fun q' hqq => by rw [Streams.getQ_setQ_ne _ hqq, Streams.modStream_getQ]) ?_ (fun x hx => ?_)
  · rw [Streams.getQ_setQ_self]; exact hnd hni (c.nodup q)
  · rw [Streams.getQ_setQ_self] at hx
    split
    · rfl
    · next e => exact hmem x hx e

theorem QInv.qPush {s : Streams} (h : QInv s) (q : QName) (id : Nat) : QInv (s.qPush q id).1 := by
  cases hfl : (s.stream id).isQueued q with
  | true => rw [Streams.qPush_of_queued hfl]; exact h
  | false =>
    rw [Streams.qPush_of_not_queued hfl]
    refine h.enq q id _ hfl (fun hni hnd => ?_) (fun x hx e => by simpa [e] using hx)
    exact List.nodup_append.mpr ⟨hnd, by simp, by
      intro x hx y hy; simp only [List.mem_singleton] at hy; subst hy; exact fun e => hni (e ▸ hx)⟩

theorem QInv.qPushFront {s : Streams} (h : QInv s) (q : QName) (id : Nat) : QInv (s.qPushFront q id).1 := by
  cases hfl : (s.stream id).isQueued q with
  | true => rw [Streams.qPushFront_of_queued hfl]; exact h
  | false =>
    rw [Streams.qPushFront_of_not_queued hfl]
    exact h.enq q id _ hfl (fun hni hnd => List.nodup_cons.mpr ⟨hni, hnd⟩) (fun x hx e => by simpa [e] using hx)

theorem QInv.qPop {s : Streams} (h : QInv s) (q : QName) : QInv (s.qPop q).1 := by
  cases hq : s.getQ q with
  | nil => rw [Streams.qPop_nil hq]; exact h
  | cons id rest =>
    rw [Streams.qPop_cons hq]
    intro hn
    obtain ⟨hst, hn0⟩ := Streams.get?_of_modStream_panicked_eq_none hn
    rw [Streams.setQ_panicked] at hn0
    rw [setQ_store] at hst
    have c := h hn0
    have hnd := c.nodup q
    rw [hq] at hnd
    refine c.setFlag q id false _ hst (by rw [modStream_store, setQ_store])
      (fun q' hqq => by rw [Streams.modStream_getQ, Streams.getQ_setQ_ne _ hqq]) ?_ (fun x hx => ?_)
    · rw [Streams.modStream_getQ, Streams.getQ_setQ_self]; exact (List.nodup_cons.mp hnd).2
    · rw [Streams.modStream_getQ, Streams.getQ_setQ_self] at hx
      have hne : x ≠ id := fun e => (List.nodup_cons.mp hnd).1 (e ▸ hx)
      rw [if_neg hne, hq]; exact List.mem_cons_of_mem _ hx

syntax "flags_tac" : tactic
macro_rules | `(tactic| flags_tac) => `(tactic| exact ⟨rfl, fun q => by cases q <;> rfl⟩)

theorem flagsEq_assignCapacity (st : Stream) (c m : Nat) : FlagsEq st (st.assignCapacity c m).1 := by
  rw [st.assignCapacity_fst]; split <;> flags_tac
theorem flagsEq_setReset (st : Stream) (r : Reason) (i : Initiator) : FlagsEq st (st.setReset r i).1 := by
  rw [st.setReset_fst]; flags_tac

/-- the side goal of `QInv.modStream` / `QInv.modStreamW` -/
macro_rules | `(tactic| ev_side) => `(tactic| (intro _; flags_tac))

macro_rules | `(tactic| ev_store) => `(tactic| with_reducible apply QInv.unlink)

section
variable {s : Streams}

theorem incNumSendStreams_qi (h : QInv s) (id : Nat) : QInv (s.incNumSendStreams id) := by
  unfold Streams.incNumSendStreams; ev

theorem incNumRecvStreams_qi (h : QInv s) (id : Nat) : QInv (s.incNumRecvStreams id) := by
  unfold Streams.incNumRecvStreams; ev

theorem decNumStreams_qi (h : QInv s) (id : Nat) : QInv (s.decNumStreams id) := by
  unfold Streams.decNumStreams; ev

theorem taPrefix_qi (h : QInv s) (id : Nat) (b : Bool) : QInv (taPrefix s id b) := by
  unfold taPrefix; ev

end
end H2V.Lemmas.ConnResetP
