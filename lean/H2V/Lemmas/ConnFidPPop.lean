import H2V.Lemmas.ConnFidPRun
/-
  ConnFidP — `pop_frame` with the ghost threaded through: it is a run of pops (each recorded as
  "emitted" in full), cuts of streams whose reset is scheduled, and removals; and when it hands out a DATA
  frame `(len, flag_eos, { key, sid, rest, eos })` the LAST frame recorded for `key` is the whole queued frame
  `DATA(len + rest, eos)` it was cut from, `flag_eos` being `eos` exactly when nothing is left, and `sid` is the
  stream id of entry `key`.  The id is read in the state at the start of `pop_frame` (`IdAt`): ids of entries are
  fixed (`ES.id`) and a key below `next_key` is never handed out again (`El.new`).
  A run is a path (`Run.tr`): `pop_frame` and the write path around it (`poll_complete`) as paths, at the end.
-/
set_option linter.unusedSectionVars false
namespace H2V.Lemmas.ConnFidP
open H2V H2V.Model H2V.Model.Conn H2V.Lemmas.ConnWakeP

/-- what `pop_frame` may do -/
def permPop : Perm := { pop := True, cut := fun _ => True, gone := True }

theorem Run.inv_pop {s s' : Streams} {g g' : Ghost} (r : Run permPop s g s' g') (hI : Inv s none g) (hw : g'.weird = false) :
    Inv s' none g' :=
  (r.inv (h := none) (fun h => h) (fun _ => rfl) (Or.inr (fun _ _ _ h => h)) hI hw).1

theorem pop_run {P : Perm} (s : Streams) (g : Ghost) (k : Nat) (f : SFrame) (rest : List SFrame)
    (hq : (s.stream k).pendingSend = f :: rest) (hA : P.pop) :
    Run P s g (s.modStream k (setSendF rest)) (gstep s (.pop k f) g) := by
  cases hs : s.store.get? k with
  | none =>
    have : (s.stream k).pendingSend = [] := by unfold Streams.stream; rw [hs]; rfl
    rw [this] at hq; cases hq
  | some a =>
    exact .lbl (.pop k f) (.refl s g)
      (El.modStream_lbl _ k _ rfl (fun _ => rfl) (fun _ ha => es_pop hq ha) (by rw [hs]; rfl)) hA

/-- the entry with key `k` of `s` carries stream id `sid` (`k` being a key `s` has handed out) -/
def IdAt (s : Streams) (k sid : Nat) : Prop := k < s.store.nextKey → ∃ st, s.store.get? k = some st ∧ st.id = sid

theorem Run.nk {P : Perm} {s0 s : Streams} {g0 g : Ghost} (r : Run P s0 g0 s g) : s0.store.nextKey ≤ s.store.nextKey := by
  induction r with
  | refl => exact Nat.le_refl _
  | tau _ e ih => exact Nat.le_trans ih e.nk
  | lbl l _ e _ ih => exact Nat.le_trans ih e.nk

theorem Run.back {P : Perm} {s0 s : Streams} {g0 g : Ghost} (r : Run P s0 g0 s g) (k : Nat) (b : Stream)
    (hb : s.store.get? k = some b) (hk : k < s0.store.nextKey) : ∃ a, s0.store.get? k = some a ∧ a.id = b.id := by
  have step : ∀ (l : Option Lbl) (s1 s2 : Streams) (b : Stream), El l s1 s2 → s2.store.get? k = some b → k < s1.store.nextKey →
      ∃ a, s1.store.get? k = some a ∧ a.id = b.id := by
    intro l s1 s2 b e hb hk
    rcases e.back hb with ⟨a, ha, es⟩ | ⟨_, hle⟩
    · exact ⟨a, ha, es.id.symm⟩
    · exact absurd hle (Nat.not_le.mpr hk)
  induction r generalizing b with
  | refl => exact ⟨b, hb, rfl⟩
  | tau r e ih =>
    obtain ⟨a, ha, hid⟩ := step none _ _ b e hb (Nat.lt_of_lt_of_le hk r.nk)
    obtain ⟨a0, ha0, hid0⟩ := ih a ha
    exact ⟨a0, ha0, hid0.trans hid⟩
  | lbl l r e _ ih =>
    obtain ⟨a, ha, hid⟩ := step (some l) _ _ b e hb (Nat.lt_of_lt_of_le hk r.nk)
    obtain ⟨a0, ha0, hid0⟩ := ih a ha
    exact ⟨a0, ha0, hid0.trans hid⟩

theorem IdAt.back {P : Perm} {s s2 : Streams} {g g2 : Ghost} (r : Run P s g s2 g2) {k sid : Nat} (h : IdAt s2 k sid) :
    IdAt s k sid := by
  intro hk
  obtain ⟨b, hb, hid⟩ := h (Nat.lt_of_lt_of_le hk r.nk)
  obtain ⟨a, ha, hid'⟩ := r.back k b hb hk
  exact ⟨a, ha, hid'.trans hid⟩

theorem idAt_of_queue {s : Streams} {k : Nat} {F : SFrame} {rest : List SFrame}
    (hq : (s.stream k).pendingSend = F :: rest) : IdAt s k (s.stream k).id := by
  intro _
  cases hs : s.store.get? k with
  | none =>
    have : (s.stream k).pendingSend = [] := by unfold Streams.stream; rw [hs]; rfl
    rw [this] at hq; cases hq
  | some b => exact ⟨b, rfl, by rw [Streams.stream_of_get? hs]⟩

/-- the DATA frame handed out and the last frame recorded as emitted for its stream -/
def DataLast (g : Ghost) (m : Nat) (r : Option Streams.OutFrame) : Prop :=
  ∀ len fe fr, r = some (.data len fe fr) →
    ∃ E0, g.emi fr.key = E0 ++ [.data (len + fr.rest) fr.eos] ∧ fe = (if fr.rest > 0 then false else fr.eos) ∧ len ≤ m

/-- a HEADERS / PUSH_PROMISE frame handed out is the last frame recorded as emitted for (some entry =) its stream -/
def HeadLast (g : Ghost) (r : Option Streams.OutFrame) : Prop :=
  (∀ sid e fl, r = some (.headers sid e fl) → ∃ k E0, g.emi k = E0 ++ [.headers e fl]) ∧
  (∀ sid pid fl, r = some (.pushPromise sid pid fl) → ∃ k pk E0, g.emi k = E0 ++ [.pushPromise pk pid fl])

def OutLast (g : Ghost) (m : Nat) (r : Option Streams.OutFrame) : Prop := DataLast g m r ∧ HeadLast g r

/-- `OutLast` with the stream id: the frame handed out is labelled with the id of the entry whose queue it came from -/
def OutSid (s : Streams) (g : Ghost) (m : Nat) (r : Option Streams.OutFrame) : Prop :=
  (∀ len fe fr, r = some (.data len fe fr) → IdAt s fr.key fr.sid ∧
    ∃ E0, g.emi fr.key = E0 ++ [.data (len + fr.rest) fr.eos] ∧ fe = (if fr.rest > 0 then false else fr.eos) ∧ len ≤ m) ∧
  (∀ sid e fl, r = some (.headers sid e fl) → ∃ k E0, IdAt s k sid ∧ g.emi k = E0 ++ [.headers e fl]) ∧
  (∀ sid pid fl, r = some (.pushPromise sid pid fl) → ∃ k pk E0, IdAt s k sid ∧ g.emi k = E0 ++ [.pushPromise pk pid fl])

theorem OutSid.outLast {s : Streams} {g : Ghost} {m : Nat} {r : Option Streams.OutFrame} (h : OutSid s g m r) : OutLast g m r :=
  ⟨fun len fe fr e => (h.1 len fe fr e).2,
   fun sid e fl e' => (let ⟨k, E0, _, b⟩ := h.2.1 sid e fl e'; ⟨k, E0, b⟩),
   fun sid pid fl e => (let ⟨k, pk, E0, _, b⟩ := h.2.2 sid pid fl e; ⟨k, pk, E0, b⟩)⟩

theorem outSid_none (s : Streams) (g : Ghost) (m : Nat) : OutSid s g m none :=
  ⟨(by intro _ _ _ h; cases h), (by intro _ _ _ h; cases h), (by intro _ _ _ h; cases h)⟩
theorem outSid_reset (s : Streams) (g : Ghost) (m sid : Nat) (r : Reason) : OutSid s g m (some (.reset sid r)) :=
  ⟨(by intro _ _ _ h; cases h), (by intro _ _ _ h; cases h), (by intro _ _ _ h; cases h)⟩

theorem OutSid.back {P : Perm} {s s2 : Streams} {g g2 g' : Ghost} (r : Run P s g s2 g2) {m : Nat} {o : Option Streams.OutFrame}
    (h : OutSid s2 g' m o) : OutSid s g' m o := by
  obtain ⟨h1, h2, h3⟩ := h
  refine ⟨fun len fe fr e => ?_, fun sid e fl e' => ?_, fun sid pid fl e => ?_⟩
  · obtain ⟨a, b⟩ := h1 len fe fr e; exact ⟨a.back r, b⟩
  · obtain ⟨k, E0, a, b⟩ := h2 sid e fl e'; exact ⟨k, E0, a.back r, b⟩
  · obtain ⟨k, pk, E0, a, b⟩ := h3 sid pid fl e; exact ⟨k, pk, E0, a.back r, b⟩

theorem outSid_data {s : Streams} {g : Ghost} {m k sid len rest : Nat} {eos fe : Bool} {E0 : List SFrame}
    (hid : IdAt s k sid) (he : g.emi k = E0 ++ [.data (len + rest) eos]) (hfe : fe = if rest > 0 then false else eos)
    (hm : len ≤ m) : OutSid s g m (some (.data len fe { key := k, sid := sid, rest := rest, eos := eos })) :=
  ⟨(by intro _ _ _ h; cases Option.some.inj h; exact ⟨hid, E0, he, hfe, hm⟩), (by intro _ _ _ h; cases h),
   (by intro _ _ _ h; cases h)⟩
theorem outSid_headers {s : Streams} {g : Ghost} {m k sid : Nat} {e : Bool} {fl : List Hpack.Field} {E0 : List SFrame}
    (hid : IdAt s k sid) (he : g.emi k = E0 ++ [.headers e fl]) : OutSid s g m (some (.headers sid e fl)) :=
  ⟨(by intro _ _ _ h; cases h), (by intro _ _ _ h; cases Option.some.inj h; exact ⟨k, E0, hid, he⟩),
   (by intro _ _ _ h; cases h)⟩
theorem outSid_pushPromise {s : Streams} {g : Ghost} {m k sid pk pid : Nat} {fl : List Hpack.Field} {E0 : List SFrame}
    (hid : IdAt s k sid) (he : g.emi k = E0 ++ [.pushPromise pk pid fl]) : OutSid s g m (some (.pushPromise sid pid fl)) :=
  ⟨(by intro _ _ _ h; cases h), (by intro _ _ _ h; cases h),
   (by intro _ _ _ h; cases Option.some.inj h; exact ⟨k, pk, E0, hid, he⟩)⟩

/-- `o` is reached from `(s, g)` by a run of `pop_frame`'s steps, and what it hands out is what was emitted last -/
def PopsTo (s : Streams) (g : Ghost) (m : Nat) (o : Streams × Option Streams.OutFrame) : Prop :=
  ∃ g', Run permPop s g o.1 g' ∧ OutSid s g' m o.2

theorem popFrameC_sid (sd : Stream → Nat → Nat → Stream × List String × Bool)
    (hsd : ∀ a len m, ∃ b w f, sd a len m = (b, w, f) ∧ Quiet a b) (n m : Nat) (s : Streams) (g : Ghost) :
    ∃ g', Run permPop s g (popFrameC sd n s m).1 g' ∧ OutSid s g' m (popFrameC sd n s m).2 := by
  have hgone : permPop.gone := trivial
  have hgp : permG.gone := trivial
  show PopsTo s g m (popFrameC sd n s m)
  induction n generalizing s g with
  | zero => rw [popFrameC_zero]; exact ⟨g, .refl _ _, outSid_none _ _ _⟩
  | succ n ih =>
    rw [popFrameC_succ]
    fid_fold
    have hq0 := qPop_acc (P := permPop) .pendingSend (Tr.refl permPop s)
    split
    · next s1 heq =>
      rw [heq] at hq0
      obtain ⟨g1, r1⟩ := hq0.run g
      exact ⟨g1, r1, outSid_none _ _ _⟩
    · next s1 id heq =>
      rw [heq] at hq0
      obtain ⟨g1, r1⟩ := hq0.run g
      try simp only
      clear heq hq0
      -- continue with the loop from a state reached by permitted steps
      have cont : ∀ s2, Tr permPop s1 s2 → PopsTo s g m (popFrameC sd n s2 m) := by
        intro s2 t
        obtain ⟨g2, r2⟩ := t.run g1
        obtain ⟨g', r', d'⟩ := ih s2 g2
        exact ⟨g', (r1.trans r2).trans r', d'.back (r1.trans r2)⟩
      -- the head `F` taken off the queue of `id`, then steps that take nothing off any queue: `F` is emitted last
      have popped : ∀ (F : SFrame) (rest : List SFrame) (s3 : Streams),
          (s1.stream id).pendingSend = F :: rest → Tr permG (s1.modStream id (setSendF rest)) s3 →
          ∃ g', Run permPop s g s3 g' ∧ g'.emi = (gstep s1 (.pop id F) g1).emi ∧ IdAt s id (s1.stream id).id := by
        intro F rest s3 hps t
        obtain ⟨g3, r3⟩ := t.run (gstep s1 (.pop id F) g1)
        exact ⟨g3, (r1.trans (pop_run s1 g1 id F rest hps trivial)).trans (r3.mono (permG_le hgone)), r3.emi_eq (fun h => h),
          (idAt_of_queue hps).back r1⟩
      -- … and `f` handed out
      have emit : ∀ (F : SFrame) (rest : List SFrame) (s3 : Streams) (b : Bool) (f : Streams.OutFrame),
          (s1.stream id).pendingSend = F :: rest → Tr permG (s1.modStream id (setSendF rest)) s3 →
          (∀ g', g'.emi id = (gstep s1 (.pop id F) g1).emi id → IdAt s id (s1.stream id).id → OutSid s g' m (some f)) →
          PopsTo s g m (pfFinish id b s3 f) := by
        intro F rest s3 b f hps t ho
        obtain ⟨g', r', he, hid⟩ := popped F rest _ hps (pfFinish_acc hgp id b f t)
        exact ⟨g', r', ho g' (by rw [he]) hid⟩
      split
      · next sz eos rest hps =>
        -- the chunk of `len` octets is cut off the DATA frame at the head
        have chunk : ∀ len, len ≤ sz → len ≤ m → PopsTo s g m
            (pfFinish id (s1.stream id).isPendingResetExpiration (pfData sd s1 id len rest)
              (.data len (if sz > len then false else eos) { key := id, sid := (s1.stream id).id, rest := sz - len, eos := eos })) := by
          intro len hle hlm
          rw [pfData_eq]
          refine emit (.data sz eos) rest _ _ _ hps (pfDataTail_acc sd hsd id len (Tr.refl _ _)) fun g' he hid =>
            outSid_data hid (E0 := g1.emi id) ?_ ?_ hlm
          · rw [he]; simp only [gstep, isMsg, if_true, upd_same]; congr 3; omega
          · by_cases hgt : sz > len
            · rw [if_pos hgt, if_pos (by omega)]
            · rw [if_neg hgt, if_neg (by omega)]
        have hle : usizeAsU32 (min (min sz m) (s1.stream id).sendFlow.available.asSize) ≤ sz :=
          Nat.le_trans (usizeAsU32_le _) (Nat.le_trans (Nat.min_le_left _ _) (Nat.min_le_left _ _))
        have hlm : usizeAsU32 (min (min sz m) (s1.stream id).sendFlow.available.asSize) ≤ m :=
          Nat.le_trans (usizeAsU32_le _) (Nat.le_trans (Nat.min_le_left _ _) (Nat.min_le_right _ _))
        refine ite_elim (C := PopsTo _ _ _) (fun hd => ?_) fun _ => ite_elim (C := PopsTo _ _ _) (fun _ => cont _ (Tr.refl _ _))
          fun _ => ite_elim (C := PopsTo _ _ _) (fun _ => cont _ (Tr.refl _ _)) fun _ => chunk _ hle hlm
        -- the reset of the stream is scheduled: its queue is discarded
        split at hd
        · next r hgs =>
          exact cont _ (qPush_acc _ _ (reclaimAllCapacity_acc hgone _
            (clearQueue_acc id trivial (closedAt_of_scheduled hgs) (Tr.refl _ _))))
        · cases hd
      · next heos fields rest hps =>
        exact emit _ rest _ _ _ hps (Tr.refl _ _) fun g' he hid =>
          outSid_headers hid (E0 := g1.emi id) (by rw [he]; simp [gstep, isMsg])
      · next reason rest hps =>
        exact emit _ rest _ _ _ hps (Tr.refl _ _) fun _ _ _ => outSid_reset _ _ _ _ _
      · next pk pid fields rest hps =>
        split
        · -- the promised stream is gone: the frame is dropped, the loop goes on
          obtain ⟨g2, r2, _⟩ := popped _ rest _ hps (transitionAfter_acc hgp id (s1.stream id).isPendingResetExpiration
            (s := if (!((s1.modStream id (setSendF rest)).stream id).pendingSend.isEmpty ||
                    ((s1.modStream id (setSendF rest)).stream id).state.isScheduledReset) = true
                then ((s1.modStream id (setSendF rest)).qPush QName.pendingSend id).1
                else s1.modStream id (setSendF rest)) (by split; exact qPush_acc _ _ (Tr.refl _ _); exact Tr.refl _ _))
          obtain ⟨g', r', d'⟩ := ih _ g2
          exact ⟨g', r2.trans r', d'.back r2⟩
        · next pushed hfk =>
          refine emit _ rest _ _ _ hps ?_ fun g' he hid =>
            outSid_pushPromise hid (pk := pk) (E0 := g1.emi id) (by rw [he]; simp [gstep, isMsg])
          clear ih cont popped emit r1 hps
          have hg := hgp
          fid_grind
      · next hps =>
        split
        · next reason hgs =>
          -- the implicit reset of a scheduled stream: nothing is taken off any queue
          have t2 := pfFinish_acc (P := permPop) hgone id (s1.stream id).isPendingResetExpiration
            (.reset (s1.stream id).id reason)
            (modStreamW_acc id (fun st => st.setReset reason .library) (setReset_quiet _ _ _) (Tr.refl permPop s1))
          obtain ⟨g2, r2⟩ := t2.run g1
          exact ⟨g2, r1.trans r2, outSid_reset _ _ _ _ _⟩
        · exact cont _ (transitionAfter_acc hgone _ _ (Tr.refl _ _))

/-- **`pop_frame` labels what it hands out with the stream id of the entry whose queue it came from** -/
theorem popFrame_sid (n m : Nat) (s : Streams) (g : Ghost) :
    ∃ g', Run permPop s g (Streams.popFrame n s m).1 g' ∧ OutSid s g' m (Streams.popFrame n s m).2 := by
  rw [popFrameC.eq]; exact popFrameC_sid _ sendData_quiet' n m s g

theorem permPop_le {P : Perm} (hg : P.gone) (hp : P.pop) (hc : CutAll P) : ∀ l, permPop.ok l → P.ok l := by
  intro l h
  cases l <;> simp only [Perm.ok, permPop] at h <;>
    first | exact hg | exact hp | exact hc _ | exact absurd h id | (rcases h with h | ⟨hm, _⟩; exact absurd h id; exact Or.inr ⟨hm, hc _⟩)

section
variable {P : Perm} {s0 s : Streams} (hg : P.gone)
include hg

theorem popFrame_acc (n m : Nat) (hp : P.pop) (hc : CutAll P) (h : Tr P s0 s) :
    Tr P s0 (Streams.popFrame n s m).1 :=
  let ⟨_, r, _⟩ := popFrame_sid n m s {}
  h.trans (r.tr.mono (permPop_le hg hp hc))

/-- `Streams::poll_complete` by ConnLoops: the loops of the write path carry a path when their pieces do -/
theorem pollComplete_acc (n : Nat) (w : Writer) (io : Tio) (t : String) (hw : P.write) (hp : P.pop) (hc : CutAll P) (h : Tr P s0 s) :
    Tr P s0 (Streams.pollComplete n s w io t).1 :=
  have hR := Tr.relOK P
  have hrec : ∀ s w, Tr P s (s.reclaimFrame w).1 := fun s w => reclaimFrame_acc hg w hw (.refl P s)
  h.trans (Streams.pollComplete_rel hR
    (Streams.bufferPending_rel hR (fun s w => .of_step hg (Streams.recvBufferPending_step (by decide) s w))
      (Streams.prioBufferPending_rel hR hrec (Streams.prioBufferPendingLoop_rel hR
        (fun s => .of_step hg (Streams.bufferPendingOpen_step (by decide) s))
        (fun n s m => popFrame_acc hg n m hp hc (.refl P s)) (fun s w f => bufferOut_acc hg w f hw (.refl P s)) hrec)))
    (fun s t => setTask_acc _ (.refl P s)) hrec n s w io t)
end

end H2V.Lemmas.ConnFidP
