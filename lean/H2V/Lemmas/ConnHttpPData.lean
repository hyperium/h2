import H2V.Lemmas.ConnHttpPFail
import H2V.Lemmas.ConnHttpPBody
/-
  C13 (ConnHttpP) — `Inner::recv_data` (streams.rs): what it hands over, and that a DATA frame
  refused with a stream error (beyond / short of the content-length, flow control) fails the stream.
-/
namespace H2V.Lemmas.ConnHttpP
open H2V H2V.Model H2V.Model.Conn

/-- the closure `Inner::recv_data` hands to `counts.transition` -/
def rdBody (s : Streams) (k : Nat) (payload : Bytes) (eos : Bool) (padLen : Option Nat) : Streams × Except PErr Unit :=
  let flowLen := flowLenOf payload padLen
  let sz := flowLen
  let (s, res) := s.recvRecvData k payload eos padLen
  let (s, res) : Streams × Except PErr Unit :=
    match res with
    | .ok _ =>
      if !eos then
        let (c, ok) := s.counts.recordDataFrame payload.length
        let s := { s with counts := c }
        if ok then (s, .ok ()) else (s, .error (PErr.libraryGoAwayData ENHANCE_YOUR_CALM "too_many_data_frames"))
      else (s, .ok ())
    | .error e => (s, .error e)
  let s := match res with
    | .error (.reset ..) => s.releaseConnectionCapacity (usizeAsU32 sz) false
    | _ => s
  s.resetOnRecvStreamErr k res

theorem rdBody_delivers (s : Streams) (k : Nat) (payload : Bytes) (eos : Bool) (padLen : Option Nat) :
    Delivers (fun k' ev => k' = k ∧ DataAccepted payload eos ev) s (rdBody s k payload eos padLen).1 :=
  Streams.DataBodyRule.run (I := (· = s)) (I' := Delivers (fun k' ev => k' = k ∧ DataAccepted payload eos ev) s)
    (Q := Delivers (fun k' ev => k' = k ∧ DataAccepted payload eos ev) s)
    { data := fun _ e => e ▸ (recvRecvData_delivers s k payload eos padLen).1
      count := fun t d => d.step ((Quiet.refl t).out rfl)
      release := fun t sz d => d.step (.of_step (Streams.releaseConnectionCapacity_step (by decide) t sz false) (.refl t))
      done := fun _ d => d
      rst := fun t _ d _ => d.step ((Quiet.refl t).resetOnRecvStreamErr k _) } s rfl

/-- **`Inner::recv_data`, every state, every frame**: all that reaches any receive queue is at most
    one `data` event carrying this payload -/
theorem recvData_delivers (s : Streams) (id : Nat) (payload : Bytes) (eos : Bool) (padLen : Option Nat) :
    Delivers (fun _ ev => DataAccepted payload eos ev) s (s.recvData id payload eos padLen).1 :=
  Streams.DataRule.run (I := Delivers (fun _ ev => DataAccepted payload eos ev) s) (L := fun _ t => Quiet s t)
    { pre := (Quiet.refl s).delivers
      found := fun _ _ => .refl s
      ignore := fun sz => (Quiet.of_step (Streams.ignoreData_step (by decide) s sz) (.refl s)).delivers
      body := fun t k _ q => q.then ((rdBody_delivers t k payload eos padLen).mono fun _ _ h => h.2)
      ta := fun t k b d => d.step ((Quiet.refl t).transitionAfter k b) }

export H2V.Model.Conn.Streams (releaseConnectionCapacity_store)

/-- **a DATA frame that `Recv::recv_data` refuses with a stream error** (payload beyond the
    content-length, END_STREAM short of it, stream window exceeded) **fails the stream (or the
    connection)** -/
theorem refused_data_fails (s : Streams) (k : Nat) (payload : Bytes) (eos : Bool) (padLen : Option Nat)
    (i : Nat) (reason : Reason) (init : Initiator)
    (hr : (s.recvRecvData k payload eos padLen).2 = .error (.reset i reason init)) :
    FailsStream (s.recvRecvData k payload eos padLen).1 k reason init
      (s.transition k fun s => rdBody s k payload eos padLen) := by
  unfold Streams.transition rdBody
  simp only
  generalize s.recvRecvData k payload eos padLen = r at hr ⊢
  obtain ⟨s0, res⟩ := r
  simp only at hr
  subst hr
  simp only
  exact stream_error_fails s0 _ (releaseConnectionCapacity_store s0 _ false) k i reason init _

/-- which DATA frames are refused that way: payload beyond what is left of the content-length, and
    END_STREAM with something left (`recv_data` answers `library_reset(PROTOCOL_ERROR)`) -/
theorem data_against_content_length_refused (s : Streams) (k : Nat) (payload : Bytes) (eos : Bool)
    (padLen : Option Nat) (cl : ContentLength) (hk : clOf s k = some cl)
    (hnl : (s.stream k).state.isLocalError = false)
    (hbad : decCL cl payload.length = none ∨ (eos = true ∧ ∀ cl', decCL cl payload.length = some cl' → zeroCL cl' = false)) :
    (s.recvRecvData k payload eos padLen).2 ≠ .ok () := by
  intro hok
  obtain ⟨cl', d1, d2, -⟩ := recvRecvData_cl s k payload eos padLen cl hk hnl hok
  rcases hbad with h | ⟨he, h⟩
  · rw [h] at d1; cases d1
  · have := h cl' d1
    rw [d2 he] at this; cases this

end H2V.Lemmas.ConnHttpP
