import H2V.Lemmas.ConnNoPanicPAll5
import H2V.Lemmas.ConnNoPanicPConnIwsAll
/-
  C08 (no panic) — the connection level.  From ConnNoPanicPConn*: every function of ConnProto does to `(streams, writer)` what a history
  of guarded stream-layer operations does (`HistWX ConnP' FuelMsg`), and none of the connection layer's own asserts can
  fire (`ConnOK`).  Here: such a history is a history of the final stream-layer relation `WReach`; hence the
  stream-layer theorem holds in every reachable state of a connection.
-/
namespace H2V.Lemmas.ConnNoPanicP
open H2V H2V.Model H2V.Model.Conn H2V.Lemmas.ConnCountsP
open H2V.Lemmas.ConnResetP (Op run)
open H2V.Lemmas.ConnCtlP (view)

/-- what the connection layer guarantees at a call is what the stream-layer theorem asks for (no handle involved) -/
theorem connP'_pre {s : Streams} {T : List Nat} {op : Op} (h : ConnP' s op) (hnw : usesWriter op = false) :
    opPre5 s T op ∧ opKey3 op = none ∧ (∀ H, opHandles3 s H op = H) ∧ (∀ H, opResp s H T op = T) := by
  cases op <;> first | exact h.elim | cases hnw | skip
  case applyLocalSettingsFrame v =>
    have h4 : ConnRecvP.settingsIws v = none := h
    exact ⟨⟨fun _ => ⟨fun t ht => (by rw [h4] at ht; cases ht), applyLocalSettingsFrame_ok_of_none s v h4⟩, trivial, trivial, trivial⟩,
      rfl, fun _ => rfl, fun _ => rfl⟩
  -- the other calls: `opPre5` asks what `ConnP'` gives, or nothing
  all_goals exact ⟨⟨fun _ => by first | exact h | exact trivial, trivial, trivial, trivial⟩, rfl, fun _ => rfl, fun _ => rfl⟩

/-- **a history of the connection layer is a history of the final stream-layer relation** -/
theorem WReach.ofHistW {A : Op → Prop} (hA : ∀ s o, ConnP' s o → A o) {s0 s : Streams} {w0 w : Writer} {H T : List Nat}
    (h0 : WReach A RT s0 w0 H T) (h : HistWX ConnP' FuelMsg s0 w0 s w) : WReach A RT s w H T := by
  induction h with
  | refl => exact h0
  | @op t w o _ hp hu ih =>
    by_cases hm : ∃ m, o = .panic m
    · obtain ⟨m, rfl⟩ := hm
      exact .fuel m ih hp
    · have hc : ConnP' t o := by
        cases o <;> first | exact hp | exact absurd ⟨_, rfl⟩ hm
      obtain ⟨hpre, hk, hH, hT⟩ := connP'_pre (T := T) hc hu
      have := WReach.op o ih hu (fun m e => hm ⟨m, e⟩) hpre (by intro k hk'; rw [hk] at hk'; cases hk') (hA _ _ hc)
      rw [hH, hT] at this; exact this
  | pollComplete f io t _ _ ih => exact .pollComplete f io t ih trivial
  | pollSendPendingRefusal f io t _ _ ih => exact .pollSendPendingRefusal f io t ih
  | writer _ hw ih => exact .writer ih hw

/-- the operations the application performs through its handles (client.rs / server.rs / share.rs) -/
def isHandleOp : Op → Bool
  | .cloneHandle | .dropHandle | .sendRequest .. | .pollPendingOpen .. | .nextIncoming | .recvTakeRequest _
  | .cloneStreamRef _ | .dropStreamRef _ | .refSendResponse .. | .refSendInformationalHeaders .. | .refSendPushPromise ..
  | .refSendData .. | .refSendTrailers .. | .refReserveCapacity .. | .pollCapacity .. | .refSendReset .. | .pollReset ..
  | .recvPollResponse .. | .recvPollInformational .. | .refPollData .. | .recvPollTrailers .. | .refReleaseCapacity ..
  | .refClearRecvBuffer _ => true
  | _ => false

/-- a handle call does not touch what the connection layer's invariant reads of the stream layer (ConnCtlP) -/
theorem view_handle (s : Streams) (op : Op) (h : isHandleOp op = true) : view (op.apply s) = view s := by
  cases op <;> first | (cases h; done) | exact ConnCtlP.view_of_step (by simp only [Op.apply]; stp_step <;> first | exact .refl _ | decide)

theorem handle_noWriter {op : Op} (h : isHandleOp op = true) : usesWriter op = false ∧ ∀ m, op ≠ .panic m := by
  cases op <;> first | (cases h; done) | exact ⟨rfl, fun m e => by cases e⟩

theorem flowInit0_eq : flowInit0 = ⟨⟨65535⟩, ⟨65535⟩⟩ := by decide

theorem clientStreams0_init2 (g : Conn.Cfg) (hf : g.firstId % 2 = 1) : Init2 (clientStreams0 g) := by
  refine ⟨⟨rfl, rfl, rfl, rfl, rfl, rfl, rfl, rfl, rfl, rfl, ?_⟩, rfl, fun q => by cases q <;> rfl,
    ⟨rfl, rfl, flowInit0_eq, rfl, rfl⟩, ⟨rfl, ?_⟩⟩
  · intro x hx
    have : x = g.firstId := by cases hx; rfl
    subst this
    show (false == (g.firstId % 2 == 0)) = true
    rw [hf]; rfl
  · show flowInit0 = ConnFlowP.flowInit
    rfl

theorem clientStreams0_nopush (g : Conn.Cfg) (hp : g.push = some 0) : NoPush (clientStreams0 g) := by
  refine .inr ?_
  show (match g.push with | some v => v != 0 | none => true) = false
  rw [hp]; rfl

theorem serverStreams0_init2 (g : Conn.Cfg) (ecp : Bool) : Init2 (serverStreams0 g ecp) := by
  refine ⟨⟨rfl, rfl, rfl, rfl, rfl, rfl, rfl, rfl, rfl, rfl, ?_⟩, rfl, fun q => by cases q <;> rfl,
    ⟨rfl, rfl, flowInit0_eq, rfl, rfl⟩, ⟨rfl, ?_⟩⟩
  · intro x hx; cases hx; rfl
  · show flowInit0 = ConnFlowP.flowInit
    rfl

open H2V.Lemmas.ConnRecvP (COp) in
/-- **reachable connections** (without server push, SETTINGS_INITIAL_WINDOW_SIZE left at its default): a new client
    (`Conn.init`, ENABLE_PUSH = 0) or server (`Conn.initServer`) connection; every non-handle operation of ConnRecvP's `COp`
    (`poll`, the client's `poll`, `set_target_window_size`, graceful / abrupt shutdown, the PING handle …) except
    `set_initial_window_size`; every handle call of the application on the stream layer (`isHandleOp`; preconditions
    `opPre5`, handle discipline `H`, response futures `T`; `A`: a restriction on the calls, e.g. `NoPushReq`); the
    environment (octets arriving on / taken by the transport, the waker of the polling task). -/
inductive CReach (A : Op → Prop) : Conn → List Nat → List Nat → Prop
  | client (g : Conn.Cfg) : CfgOK g → CwsOK g → g.iws = none → g.push = some 0 → g.firstId % 2 = 1 → CReach A (Conn.init g) [] []
  | server (g : Conn.Cfg) (ecp : Bool) (pf : Bytes) : CfgOK g → CwsOK g → g.iws = none → CReach A (Conn.initServer g ecp pf) [] []
  | cop {c : Conn} {H T : List Nat} (op : COp) : CReach A c H T → (∀ o, op ≠ .handle o) → (∀ n, op ≠ .setInitialWindowSize n) →
      (∀ size, op = .setTargetWindowSize size → size ≤ 2147483647) → CReach A (op.apply c) H T
  | handle {c : Conn} {H T : List Nat} (op : Op) : CReach A c H T → isHandleOp op = true → A op → opPre5 c.streams T op →
      (∀ k, opKey3 op = some k → k ∈ H) →
      CReach A { c with streams := op.apply c.streams } (opHandles3 c.streams H op) (opResp c.streams H T op)
  | env {c : Conn} {H T : List Nat} (io : Tio) (cx : String) : CReach A c H T →
      CReach A { c with codec := { c.codec with io := io }, cx := cx } H T
  /-- the application drops the `Connection` (`Drop for Connection`: `streams.recv_eof(true)`); the handles live on -/
  | dropConn {c : Conn} {H T : List Nat} : CReach A c H T → A (.recvEof true) →
      CReach A { c with streams := c.streams.recvEof true } H T
  /-- the transport wakes tasks (the model keeps a log of wake-ups in `streams.wakes`) -/
  | wake {c : Conn} {H T : List Nat} (tags : List String) : CReach A c H T → A (.wake tags) →
      CReach A { c with streams := c.streams.wake tags } H T

theorem creach_wreach {A : Op → Prop} (hA : ∀ s o, ConnP' s o → A o) {c : Conn} {H T : List Nat} (h : CReach A c H T) :
    ConnOK c ∧ IwsInv c ∧ WReach A RT c.streams c.codec.w H T := by
  induction h with
  | client g hg hc hi hp hf =>
    have hok := init_ok' g hg hi
    exact ⟨hok.1, hok.2, WReach.ofHistW hA (.init (clientStreams0_init2 g hf) (clientStreams0_nopush g hp) rfl rfl)
      (init_hist g hc).iws⟩
  | server g ecp pf hg hc hi =>
    have hok := initServer_ok' g ecp pf hg hi
    exact ⟨hok.1, hok.2, WReach.ofHistW hA (.init (serverStreams0_init2 g ecp) (.inl rfl) rfl rfl)
      (initServer_hist g ecp pf hc).iws⟩
  | cop op _ hop hs hv ih =>
    have st := cop_step' ih.1 ih.2.1 op hop hs hv
    exact ⟨st.ok, st.iws, WReach.ofHistW hA ih.2.2 st.hist⟩
  | @handle c H T op _ hh hAop hpre hin ih =>
    have hv := view_handle c.streams op hh
    refine ⟨ConnOK.handle ih.1 (op.apply c.streams) c.codec c.cx (by rw [hv]) (by rw [hv]) (by rw [hv]; exact fun h => h) rfl,
      IwsInv.congr ih.2.1 rfl, ?_⟩
    exact .op op ih.2.2 (handle_noWriter hh).1 (handle_noWriter hh).2 hpre hin hAop
  | @env c H T io cx _ ih =>
    exact ⟨ConnOK.handle ih.1 c.streams { c.codec with io := io } cx rfl rfl (fun h => h) rfl, IwsInv.congr ih.2.1 rfl, ih.2.2⟩
  | @dropConn c H T _ hAop ih =>
    have hv := ConnCtlP.ids_of_step (Streams.recvEof_step (by decide) c.streams true)
    refine ⟨ConnOK.handle ih.1 (c.streams.recvEof true) c.codec c.cx hv.1 hv.2.1 hv.2.2 rfl,
      IwsInv.congr ih.2.1 rfl, ?_⟩
    dsimp only
    exact WReach.op (.recvEof true) ih.2.2 rfl (by intro m e; cases e) ⟨fun _ => trivial, trivial, trivial, trivial⟩
      (by intro k hk; cases hk) hAop
  | @wake c H T tags _ hAop ih =>
    refine ⟨ConnOK.handle ih.1 (c.streams.wake tags) c.codec c.cx rfl rfl (fun h => h) rfl, IwsInv.congr ih.2.1 rfl, ?_⟩
    exact WReach.op (.wake tags) ih.2.2 rfl (by intro m e; cases e) ⟨fun _ => trivial, trivial, trivial, trivial⟩
      (by intro k hk; cases hk) hAop

theorem connP'_allOps (s : Streams) (o : Op) (_ : ConnP' s o) : AllOps o := trivial

/-- the connection layer never calls `push_request` -/
theorem connP'_noPushReq (s : Streams) (o : Op) (h : ConnP' s o) : NoPushReq o := by
  intro p v f e; subst e; exact h

theorem creach_good {A : Op → Prop} {Q : Streams → Prop} (P : Plug A RT Q) (hA : ∀ s o, ConnP' s o → A o) {c : Conn} {H T : List Nat}
    (h : CReach A c H T) (he : ErrOK c.streams) :
    (c.streams.panicked = none ∧ ConnOK c ∧ GoodW Q c.streams c.codec.w H T) ∨
    ∃ m, c.streams.panicked = some m ∧ FuelAll m := by
  have hw := creach_wreach hA h
  rcases wreach_good P hw.2.2 he with ⟨hn, g⟩ | hf
  · exact .inl ⟨hn, hw.1, g⟩
  · exact .inr hf

/-- **No endpoint panic in any reachable connection** whose application does not call `push_request`: in every reachable
    state either nothing has panicked — neither one of the connection layer's own asserts nor a site of the stream layer —
    and the invariants hold, or the recorded message is one of the model's out-of-fuel markers.  NO open lemma; the one state
    hypothesis is `ErrOK` of the final state (the quota of library-initiated resets is not used up). -/
theorem creach_good_final {c : Conn} {H T : List Nat} (h : CReach NoPushReq c H T) (he : ErrOK c.streams) :
    (c.streams.panicked = none ∧ ConnOK c ∧ GoodW (fun s => OXs s ∧ NoPPQ s) c.streams c.codec.w H T) ∨
    ∃ m, c.streams.panicked = some m ∧ FuelAll m := creach_good plugFinal connP'_noPushReq h he

/-- with `push_request`: conditional on the ONE open lemma `PcOX` ("`poll_complete` keeps `OXs`") -/
theorem creach_good_pc (hpc : PcOX) {c : Conn} {H T : List Nat} (h : CReach AllOps c H T) (he : ErrOK c.streams) :
    (c.streams.panicked = none ∧ ConnOK c ∧ GoodW OXs c.streams c.codec.w H T) ∨
    ∃ m, c.streams.panicked = some m ∧ FuelAll m := creach_good (plug_of_pc hpc) connP'_allOps h he

/-- witness: a new client connection (ENABLE_PUSH = 0), polled, a request sent through the `SendRequest` handle, polled again -/
def wCfg : Conn.Cfg := { push := some 0 }
def wC1 : Conn := (ConnRecvP.COp.clientPoll 40).apply (Conn.init wCfg)
def wC2 : Conn := { wC1 with streams := (Op.sendRequest false [] true none).apply wC1.streams }
def wC3 : Conn := (ConnRecvP.COp.clientPoll 40).apply wC2

theorem wC3_creach : ∃ H T, CReach NoPushReq wC3 H T := by
  have r0 : CReach NoPushReq (Conn.init wCfg) [] [] :=
    .client wCfg (by intro m h; cases h) (by intro m h; cases h) rfl rfl rfl
  have r1 := CReach.cop (.clientPoll 40) r0 (by intro o e; cases e) (by intro n e; cases e) (by intro n e; cases e)
  have r2 := CReach.handle (.sendRequest false [] true none) r1 rfl (by intro p v f e; cases e) ⟨fun _ => trivial, trivial, trivial, trivial⟩
    (by intro k h; cases h)
  exact ⟨_, _, CReach.cop (.clientPoll 40) r2 (by intro o e; cases e) (by intro n e; cases e) (by intro n e; cases e)⟩

set_option maxRecDepth 40000 in
theorem wC3_facts : ErrOK wC3.streams ∧ wC3.streams.panicked = none ∧ wC3.streams.store.slab.length = 1 := by
  unfold ErrOK; decide +kernel

end H2V.Lemmas.ConnNoPanicP
