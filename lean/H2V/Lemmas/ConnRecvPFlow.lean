import H2V.Lemmas.ConnRecvPSend
/-
  C03 — the receive flow-control operations of `ConnRecv.lean`: `consume_connection_window`,
  `release_connection_capacity`, `release_capacity`, `clear_recv_buffer`, `release_closed_capacity`,
  `ignore_data`.  The two connection-level primitives are described by the `ConnSet` they make
  (`consume_eq`, `release_eq`); that they keep the invariant and what exactly they do to the
  connection's books are both read off from that.
-/
namespace H2V.Lemmas.ConnRecvP
open H2V H2V.Model H2V.Model.Conn
open H2V.Model.Conn.Streams
open H2V.Lemmas.Comp
attribute [local irreducible] wrapSubU32 wrapSubUsize

export H2V.Lemmas.Comp (wrapSubU32_of_le wrapAddU32_of_lt)

theorem usizeAsU32_lt (x : Nat) : usizeAsU32 x < 4294967296 := Conn.usizeAsU32_lt x

theorem asSize_of_nonneg {w : Window} (h : 0 ≤ w.val) : (w.asSize : Int) = w.val := by
  unfold Window.asSize
  have : ¬ w.val < 0 := by omega
  simp only [this, if_false]
  omega


theorem sumInfl_set_aux {l : List Stream} (hn : (l.map (·.key)).Nodup) {x x' : Stream} (k : Nat) (hx : x ∈ l)
    (hk : x.key = k) :
    sumInfl (l.map fun y => if y.key == k then x' else y) + x.inFlightRecvData =
      sumInfl l + x'.inFlightRecvData := by
  induction l with
  | nil => cases hx
  | cons z l ih =>
    simp only [List.map_cons, List.nodup_cons, List.mem_map, not_exists, not_and] at hn
    rcases List.mem_cons.1 hx with hxz | hxl
    · -- the head is the entry; the tail has no entry with this key
      subst hxz
      have htail : (l.map fun y => if y.key == k then x' else y) = l := by
        conv => rhs; rw [← List.map_id l]
        apply List.map_congr_left
        intro y hy
        have : y.key ≠ k := by rw [← hk]; exact hn.1 y hy
        simp [this]
      rw [List.map_cons, htail]
      have : (x.key == k) = true := by simp [hk]
      simp only [this, if_true, sumInfl_cons]
      omega
    · have hz : (z.key == k) = false := by
        have : z.key ≠ k := by rw [← hk]; intro hc; exact hn.1 x hxl hc.symm
        simpa using this
      have := ih hn.2 hxl
      rw [List.map_cons]
      simp only [hz, Bool.false_eq_true, if_false, sumInfl_cons]
      omega

theorem sumInfl_set {l : List Stream} (hn : (l.map (·.key)).Nodup) {x x' : Stream} (hx : x ∈ l) (hk : x'.key = x.key) :
    sumInfl (l.map fun y => if y.key == x'.key then x' else y) + x.inFlightRecvData =
      sumInfl l + x'.inFlightRecvData :=
  sumInfl_set_aux hn x'.key hx hk.symm

theorem cW_setStream (s : Streams) (x : Stream) : cW (s.setStream x) = cW s := rfl
theorem cA_setStream (s : Streams) (x : Stream) : cA (s.setStream x) = cA s := rfl
theorem cI_setStream (s : Streams) (x : Stream) : cI (s.setStream x) = cI s := rfl

/-- replace the slab entry `x` by `x'` (same key): the invariant holds again when the new entry is
    fine and the books balance (`d'` absorbs the change of `in_flight_recv_data`) -/
theorem InvD.setStream {full : Bool} {g : Ghost} {d d' : Int} {s : Streams} {x x' : Stream} (h : InvD full g d s)
    (hx : s.store.get? x.key = some x) (hk : x'.key = x.key)
    (hsum : (x'.inFlightRecvData : Int) + d' ≤ (x.inFlightRecvData : Int) + d)
    (hok : full = true → StreamOK s g x → StreamOK s g x') : InvD full g d' (s.setStream x') := by
  have hxm := Store.get?_mem hx
  have hkeys : (s.setStream x').store.slab.map (·.key) = s.store.slab.map (·.key) := Store.set_keys _ _
  refine ⟨⟨by rw [hkeys]; exact h.keys.nodup, ?_, h.keys.idsNodup, h.keys.idsIdNodup, h.keys.idsLt⟩,
    h.wI32, h.aI32, h.cons, h.w0, h.wI, h.tHi, h.hiMax, ?_, h.initHi, h.initMax, ?_⟩
  · intro y' hy'
    have : y'.key ∈ (s.setStream x').store.slab.map (·.key) := List.mem_map_of_mem hy'
    rw [hkeys] at this
    obtain ⟨y, hy, hyk⟩ := List.mem_map.1 this
    show y'.key < s.store.nextKey
    rw [← hyk]; exact h.keys.lt y hy
  · have := sumInfl_set h.keys.nodup hxm hk
    have hs := h.sum
    show (sumInfl (s.store.slab.map fun y => if y.key == x'.key then x' else y) : Int) + d' ≤ (cI s : Int)
    omega
  · intro hf y' hy'
    rcases mem_setStream hy' with rfl | ⟨hy, -⟩
    · exact StreamOK.of_same (s := s) rfl rfl (hok hf (h.streams hf x hxm))
    · exact StreamOK.of_same (s := s) rfl rfl (h.streams hf y' hy)

theorem InvD.modStream {full : Bool} {g : Ghost} {d d' : Int} {s : Streams} (id : Nat) (f : Stream → Stream)
    (h : InvD full g d s) (hd : s.store.get? id = none → d' ≤ d)
    (hk : ∀ x, (f x).key = x.key)
    (hsum : ∀ x, s.store.get? id = some x → ((f x).inFlightRecvData : Int) + d' ≤ (x.inFlightRecvData : Int) + d)
    (hok : full = true → ∀ x, s.store.get? id = some x → StreamOK s g x → StreamOK s g (f x)) :
    InvD full g d' (s.modStream id f) := by
  cases hx : s.store.get? id with
  | some x =>
    rw [Streams.modStream_of_some hx]
    exact h.setStream (by rw [Store.get?_key hx]; exact hx) (hk x) (hsum x hx) (fun hf => hok hf x hx)
  | none => rw [Streams.modStream_of_none hx]; exact (h.weaken (hd hx)).of_ext (panic_ext _ _)

theorem InvD.cI_bound {full : Bool} {g : Ghost} {d : Int} {s : Streams} (h : InvD full g d s) :
    (cI s : Int) = (g.target : Int) - cA s ∧ cI s < 4294967296 := by
  have h1 := h.cons
  have h2 := (inI32_iff _).1 h.aI32
  have h3 := h.tHi
  have h4 := h.hiMax
  constructor <;> omega

theorem InvD.infl_le {full : Bool} {g : Ghost} {d : Int} {s : Streams} (h : InvD full g d s) (hd : 0 ≤ d)
    {x : Stream} (hx : x ∈ s.store.slab) : x.inFlightRecvData ≤ cI s ∧ cI s ≤ 2147483647 := by
  have h1 := le_sumInfl_of_mem hx
  have h2 := h.sum
  have h3 := h.wI
  have h4 := h.w0
  have h5 := h.hiMax
  constructor <;> omega

theorem InvD.stream_infl_le {full : Bool} {g : Ghost} {d : Int} {s : Streams} (h : InvD full g d s) (hd : 0 ≤ d)
    (id : Nat) : (s.stream id).inFlightRecvData ≤ cI s := by
  rcases Streams.stream_cases s id with hg | ⟨-, hb⟩
  · exact (h.infl_le hd (Store.get?_mem hg)).1
  · rw [hb]; exact Nat.zero_le _


/-- **`Recv::consume_connection_window(sz)`, exactly.**  On `Err` (always a GOAWAY) `available` and
    `in_flight_data` are untouched and the window is what it was or — the partial update of
    `FlowControl::send_data` — `sz` lower; on `Ok` window and `available` went down by `sz` and
    `in_flight_data` up by `sz`.  The `assert!` inside `send_data` cannot fire: the preceding
    `window_size() < sz` check implies it. -/
theorem consume_eq {full : Bool} {g : Ghost} {d : Int} {s : Streams} (h : InvD full g d s) (sz : Nat) :
    (∀ e, (s.consumeConnectionWindow sz).2 = .error e →
      (∃ r, e = PErr.libraryGoAway r) ∧
      ∃ w, ConnSet s (s.consumeConnectionWindow sz).1 w (cA s) (cI s) ∧ 0 ≤ w ∧ w ≤ cW s) ∧
    ((s.consumeConnectionWindow sz).2 = .ok () →
      ConnSet s (s.consumeConnectionWindow sz).1 (cW s - sz) (cA s - sz) (cI s + sz) ∧ (sz : Int) ≤ cW s) := by
  have hb := h.cI_bound
  have hA := (inI32_iff _).1 h.aI32
  have hw0 := h.w0
  have hwhi := h.wI
  have hhi := h.hiMax
  simp only [cW, cA, cI] at hb hA hw0 hwhi ⊢
  unfold Streams.consumeConnectionWindow
  split
  · exact ⟨fun e he => ⟨⟨_, (Except.error.inj he).symm⟩, _, ConnSet.refl s, hw0, Int.le_refl _⟩, fun hc => nomatch hc⟩
  · next hlt =>
    have hsz : (sz : Int) ≤ s.recv.flow.windowSize.val := by
      have h1 : (s.recv.flow.windowSize.asSize : Int) = s.recv.flow.windowSize.val := asSize_of_nonneg hw0
      have h2 : ¬ (s.recv.flow.windowSize.asSize < sz) := hlt
      omega
    have hu : u32AsI32 sz = (sz : Int) := u32AsI32_of_lt (by omega)
    cases hp : s.recv.flow.sendData sz with
    | mk fl r =>
      cases r with
      | error e =>
        cases e with
        | assertFailed =>
          exfalso
          have := (sendData_assert_iff s.recv.flow sz).1 (by rw [hp])
          rw [hu] at this
          omega
        | reason rr =>
          dsimp only
          refine ⟨fun e he => ⟨⟨_, (Except.error.inj he).symm⟩, fl.windowSize.val, ⟨rfl, rfl, rfl, ?_, rfl⟩, ?_⟩,
            fun hc => nomatch hc⟩
          · show fl.available.val = _
            rw [(sendData_err hp).1]
          · rcases (sendData_err hp).2 with rfl | hpart
            · exact ⟨hw0, Int.le_refl _⟩
            · rw [hpart.2.1, hu]; omega
      | ok u =>
        dsimp only
        refine ⟨fun _ hc => (nomatch hc), fun _ => ⟨?_, hsz⟩⟩
        by_cases h0 : sz = 0
        · subst h0
          rw [sendData_zero] at hp
          cases hp
          exact ⟨rfl, rfl, by show s.recv.flow.windowSize.val = _; omega, by show s.recv.flow.available.val = _; omega,
            by show wrapAddU32 s.recv.inFlightData 0 = _; exact wrapAddU32_of_lt (by omega)⟩
        · have hok := sendData_ok' (by omega) hp
          rw [hu] at hok
          have := (inI32_iff _).1 hok.2.2.2.2
          exact ⟨rfl, rfl, hok.2.1, hok.2.2.1,
            by show wrapAddU32 s.recv.inFlightData sz = _; exact wrapAddU32_of_lt (by omega)⟩

theorem consume_inv {full : Bool} {g : Ghost} {d : Int} {s : Streams} (h : InvD full g d s) (sz : Nat) :
    (∀ e, (s.consumeConnectionWindow sz).2 = .error e → InvD full g d (s.consumeConnectionWindow sz).1) ∧
    ((s.consumeConnectionWindow sz).2 = .ok () →
      InvD full g (d + sz) (s.consumeConnectionWindow sz).1 ∧ sz ≤ 2147483647) := by
  have hcons := h.cons
  have hwI := h.wI
  have hsum := h.sum
  have hhi := h.hiMax
  refine ⟨fun e he => ?_, fun hok => ?_⟩
  · obtain ⟨-, w, c, h0, hle⟩ := (consume_eq h sz).1 e he
    exact h.connSet c hcons h0 (by omega) hsum
  · obtain ⟨c, hle⟩ := (consume_eq h sz).2 hok
    have hw0 := h.w0
    exact ⟨h.connSet c (by omega) (by omega) (by omega) (by omega), by omega⟩

theorem consume_err_goaway {full : Bool} {g : Ghost} {d : Int} {s : Streams} (h : InvD full g d s) (sz : Nat) (e : PErr)
    (he : (s.consumeConnectionWindow sz).2 = .error e) : ∃ r, e = PErr.libraryGoAway r :=
  ((consume_eq h sz).1 e he).1


/-- **`Recv::release_connection_capacity(cap)`, exactly**: `available` up by `cap`, `in_flight_data`
    down by `cap`, window untouched; `in_flight_data -= cap` does not wrap and `assign_capacity`
    cannot fail -/
theorem release_eq {full : Bool} {g : Ghost} {d : Int} {s : Streams} (h : InvD full g d s) (cap : Nat) (b : Bool)
    (hc : cap ≤ cI s) : ConnSet s (s.releaseConnectionCapacity cap b) (cW s) (cA s + cap) (cI s - cap) := by
  have hb := h.cI_bound
  have hA := (inI32_iff _).1 h.aI32
  have hw0 := h.w0
  have hwhi := h.wI
  have hhi := h.hiMax
  have htHi := h.tHi
  simp only [cW, cA, cI] at hb hA hw0 hwhi hc ⊢
  have hu : u32AsI32 cap = (cap : Int) := u32AsI32_of_lt (by omega)
  have hassign : (s.recv.flow.assignCapacity cap).1 = { s.recv.flow with available := ⟨s.recv.flow.available.val + cap⟩ } := by
    rw [Flow.assignCapacity_eq, hu]
    have : inI32 (s.recv.flow.available.val + (cap : Int)) = true := by apply inI32_of_range <;> omega
    simp [this]
  have hsub : wrapSubU32 s.recv.inFlightData cap = s.recv.inFlightData - cap := wrapSubU32_of_le hb.2 hc
  have key := ConnSet.modRecv s
    (fun r => { r with inFlightData := wrapSubU32 r.inFlightData cap, flow := (r.flow.assignCapacity cap).1 }) rfl
  dsimp only at key
  rw [hassign, hsub] at key
  unfold Streams.releaseConnectionCapacity
  dsimp only
  split
  · exact key.of_eq (Streams.notifyTask_store _) (Streams.notifyTask_recv' _)
  · exact key

theorem releaseConnectionCapacity_inv {full : Bool} {g : Ghost} {d : Int} {s : Streams} (h : InvD full g d s)
    (cap : Nat) (b : Bool) (hc : cap ≤ cI s) : InvD full g (d - cap) (s.releaseConnectionCapacity cap b) := by
  have hcons := h.cons
  have hwI := h.wI
  have hsum := h.sum
  exact h.connSet (release_eq h cap b hc) (by omega) h.w0 (by omega) (by omega)

/-- the stream's books move with `available + in_flight` unchanged, and `available − window + in_flight`
    (what is not yet announced, plus what is in flight) not above what it was, or not above
    `available + in_flight`: `release_capacity`, `recv_data`, a WINDOW_UPDATE -/
theorem StreamOK.move {s : Streams} {g : Ghost} {x : Stream} (h : StreamOK s g x) (fl : FlowControl) (i' : Nat)
    (hw : inI32 fl.windowSize.val = true) (ha : inI32 fl.available.val = true)
    (hwa : fl.windowSize.val ≤ fl.available.val)
    (hsum : fl.available.val + (i' : Int) = x.recvFlow.available.val + (x.inFlightRecvData : Int))
    (hgap : fl.available.val - fl.windowSize.val + (i' : Int) ≤
        x.recvFlow.available.val - x.recvFlow.windowSize.val + (x.inFlightRecvData : Int) ∨
      fl.available.val - fl.windowSize.val + (i' : Int) ≤ x.recvFlow.available.val + (x.inFlightRecvData : Int)) :
    StreamOK s g { x with recvFlow := fl, inFlightRecvData := i' } :=
  ⟨hw, ha, hwa,
   h.live.imp_right fun hl => by
    show fl.available.val - fl.windowSize.val + (i' : Int) ≤ _ ∧ fl.available.val + (i' : Int) ≤ _
    omega,
   fun hl => (h.bud hl).imp_right fun hb => by
    show fl.available.val + (i' : Int) ≤ _ ∧ (x.isRecv = true → fl.available.val + (i' : Int) = _)
    rw [hsum]; exact hb⟩

/-- the stream part of `release_capacity(cap)`: `in_flight_recv_data -= cap`, `available += cap` -/
theorem StreamOK.release {s : Streams} {g : Ghost} {x : Stream} (h : StreamOK s g x) (cap : Nat)
    (hc : cap ≤ x.inFlightRecvData) (hi : x.inFlightRecvData ≤ 2147483647) (hM : g.hiInit ≤ 2147483647) :
    StreamOK s g { x with inFlightRecvData := wrapSubU32 x.inFlightRecvData cap,
                          recvFlow := (x.recvFlow.assignCapacity cap).1 } := by
  have hu : u32AsI32 cap = (cap : Int) := u32AsI32_of_lt (by omega)
  have hA := (inI32_iff _).1 h.aI32
  have hwa := h.wa
  rw [wrapSubU32_of_le (by omega) hc, Flow.assignCapacity_eq, hu]
  by_cases hin : inI32 (x.recvFlow.available.val + (cap : Int)) = true
  · simp only [hin, if_true]
    refine h.move _ _ h.wI32 hin ?_ ?_ (.inl ?_) <;> dsimp only <;> omega
  · -- `assign_capacity` overflows: only on a closed stream, whose books nobody reads
    simp only [hin]
    have hclosed : x.state.isClosed = true := by
      rcases h.live with hcl | hl
      · exact hcl
      · exfalso; apply hin; apply inI32_of_range <;> omega
    exact ⟨h.wI32, h.aI32, h.wa, .inl hclosed, fun _ => .inl hclosed⟩

/-- the stream part of `recv_data`: `FlowControl::send_data(sz)` succeeded (so `sz ≤ window`),
    `in_flight_recv_data += sz` -/
theorem StreamOK.charge {s : Streams} {g : Ghost} {x : Stream} (h : StreamOK s g x) (sz : Nat) (fl : FlowControl)
    (hsd : x.recvFlow.sendData sz = (fl, .ok ())) (hsz : sz ≤ 2147483647)
    (hi : x.inFlightRecvData + sz < 4294967296) :
    StreamOK s g { x with recvFlow := fl, inFlightRecvData := wrapAddU32 x.inFlightRecvData sz } := by
  have hwa := h.wa
  rw [wrapAddU32_of_lt hi]
  by_cases h0 : sz = 0
  · subst h0
    rw [sendData_zero] at hsd
    cases hsd
    exact h.move _ _ h.wI32 h.aI32 hwa (by omega) (.inl (by omega))
  · have hok := sendData_ok (by omega) (by omega) hsd
    have hok' := sendData_ok' (by omega) hsd
    exact h.move fl _ hok'.2.2.2.1 hok'.2.2.2.2 (by omega) (by omega) (.inr (by omega))

/-- `in_flight_recv_data` of a closed stream, or of one whose `RecvStream` is gone, may go down
    without a stream-level credit (`clear_recv_buffer`, `release_closed_capacity`) -/
theorem StreamOK.drop {s : Streams} {g : Ghost} {x : Stream} (h : StreamOK s g x) (i' : Nat)
    (hi : i' ≤ x.inFlightRecvData) (hx : i' = x.inFlightRecvData ∨ x.state.isClosed = true ∨ x.isRecv = false) :
    StreamOK s g { x with inFlightRecvData := i' } := by
  refine ⟨h.wI32, h.aI32, h.wa, ?_, ?_⟩
  · rcases h.live with hcl | hl
    · exact .inl hcl
    · right
      show x.recvFlow.available.val - x.recvFlow.windowSize.val + (i' : Int) ≤ _ ∧ x.recvFlow.available.val + (i' : Int) ≤ _
      omega
  · intro hl
    rcases h.bud hl with hcl | hb
    · exact .inl hcl
    · rcases hx with rfl | hcl | hr
      · exact .inr hb
      · exact .inl hcl
      · right
        show x.recvFlow.available.val + (i' : Int) ≤ _ ∧ (x.isRecv = true → _)
        have h1 := hb.1
        exact ⟨by omega, fun hr' => by rw [hr] at hr'; cases hr'⟩


theorem releaseCapacity_inv {full : Bool} {g : Ghost} {s : Streams} (h : Inv full g s) (id cap : Nat) (b : Bool) :
    Inv full g (s.releaseCapacity id cap b).1 := by
  unfold Streams.releaseCapacity
  split
  · exact h
  · next hgt =>
    have hcap : cap ≤ (s.stream id).inFlightRecvData := by omega
    have hcI : cap ≤ cI s := Nat.le_trans hcap (h.stream_infl_le (Int.le_refl 0) id)
    have h1 := releaseConnectionCapacity_inv h cap b hcI
    have hst1 := (release_eq h cap b hcI).store
    dsimp only
    generalize hs2 : Streams.modStream _ id _ = s2
    have h2 : Inv full g s2 := by
      rw [← hs2]
      refine h1.modStream id _ ?_ (fun _ => rfl) ?_ ?_
      · intro hn
        rw [hst1] at hn
        rw [Streams.stream_of_none hn] at hcap
        simp at hcap; omega
      · intro x hx
        rw [hst1] at hx
        rw [Streams.stream_of_get? hx] at hcap
        have hb := (h.infl_le (Int.le_refl 0) (Store.get?_mem hx))
        have : wrapSubU32 x.inFlightRecvData cap = x.inFlightRecvData - cap := wrapSubU32_of_le (by omega) hcap
        show ((wrapSubU32 x.inFlightRecvData cap : Nat) : Int) + 0 ≤ _
        rw [this]; omega
      · intro hf x hx ok
        rw [hst1] at hx
        rw [Streams.stream_of_get? hx] at hcap
        have hb := (h.infl_le (Int.le_refl 0) (Store.get?_mem hx))
        exact ok.release cap hcap (by omega) h.initMax
    inv_auto


theorem stream_of_store_eq {s s' : Streams} (h : s'.store = s.store) (id : Nat) : s'.stream id = s.stream id :=
  Streams.stream_congr_store h id

theorem get?_modStream (s : Streams) (id : Nat) (f : Stream → Stream) (hk : ∀ x, (f x).key = x.key) :
    (s.modStream id f).store.get? id = (s.store.get? id).map f := by
  rw [Streams.modStream_get? s id f hk, if_pos rfl]

theorem clearRecvBufferLoop_le (inFlight : Nat) (l : List REvent) (acc : Nat) (c : Counts) (h : acc ≤ inFlight) :
    (clearRecvBufferLoop inFlight l acc c).1 ≤ inFlight := by
  induction l generalizing acc c with
  | nil => exact h
  | cons e l ih =>
    cases e <;> unfold clearRecvBufferLoop <;> first | exact ih _ _ h | exact ih _ _ (Nat.min_le_right _ _)

/-- `Recv::clear_recv_buffer(stream)`: buffered DATA is dropped, its octets go back to the
    CONNECTION window only.  For the stream-level books this needs a stream that is closed or whose
    `RecvStream` handle is gone (`is_recv == false`) — or nothing in flight -/
theorem clearRecvBuffer_inv {full : Bool} {g : Ghost} {s : Streams} (h : Inv full g s) (id : Nat) (b : Bool)
    (hx : full = true → ∀ x, s.store.get? id = some x →
      x.state.isClosed = true ∨ x.isRecv = false ∨ x.inFlightRecvData = 0) :
    Inv full g (s.clearRecvBuffer id b) := by
  unfold Streams.clearRecvBuffer
  dsimp only
  cases hl : clearRecvBufferLoop (s.stream id).inFlightRecvData (s.stream id).pendingRecv 0 s.counts with
  | mk tr c =>
    have htr : tr ≤ (s.stream id).inFlightRecvData := by
      have := clearRecvBufferLoop_le (s.stream id).inFlightRecvData (s.stream id).pendingRecv 0 s.counts (Nat.zero_le _)
      rw [hl] at this; exact this
    dsimp only
    have h1 : Inv full g (({ s with counts := c } : Streams).modStream id fun st => { st with pendingRecv := [] }) := by
      inv_auto
    have hg1 : (({ s with counts := c } : Streams).modStream id fun st => { st with pendingRecv := [] }).store.get? id =
        (s.store.get? id).map fun st => { st with pendingRecv := [] } := get?_modStream _ id _ (fun _ => rfl)
    generalize (({ s with counts := c } : Streams).modStream id fun st => { st with pendingRecv := [] }) = s1 at h1 hg1 ⊢
    split
    · next hpos =>
      -- something to release: the entry exists, it is `x` with the buffer emptied
      obtain ⟨x, hs⟩ : ∃ x, s.store.get? id = some x := by
        cases hs : s.store.get? id with
        | none => rw [Streams.stream_of_none hs] at htr; simp at htr; omega
        | some x => exact ⟨x, rfl⟩
      rw [hs] at hg1
      rw [Streams.stream_of_get? hs] at htr
      have hb := h.infl_le (Int.le_refl 0) (Store.get?_mem hs)
      have hsub : wrapSubU32 x.inFlightRecvData tr = x.inFlightRecvData - tr := wrapSubU32_of_le (by omega) htr
      have h2 : InvD full g tr (s1.modStream id fun st => { st with inFlightRecvData := wrapSubU32 st.inFlightRecvData tr }) := by
        refine h1.modStream id _ (fun hn => by rw [hg1] at hn; cases hn) (fun _ => rfl) ?_ ?_
        · intro x1 hx1
          rw [hg1] at hx1; cases hx1
          show ((wrapSubU32 x.inFlightRecvData tr : Nat) : Int) + tr ≤ (x.inFlightRecvData : Int) + 0
          rw [hsub]; omega
        · intro hf x1 hx1 ok
          rw [hg1] at hx1; cases hx1
          refine ok.drop _ (by show wrapSubU32 x.inFlightRecvData tr ≤ x.inFlightRecvData; rw [hsub]; omega) ?_
          rcases hx hf x hs with hc | hr | h0
          · exact .inr (.inl hc)
          · exact .inr (.inr hr)
          · exfalso; omega
      have hc : tr ≤ cI (s1.modStream id fun st => { st with inFlightRecvData := wrapSubU32 st.inFlightRecvData tr }) := by
        have hs2 := h2.sum
        have := sumInfl s1.store.slab
        omega
      have h3 := releaseConnectionCapacity_inv h2 tr b hc
      rwa [show (tr : Int) - tr = 0 by omega] at h3
    · exact h1

/-- `Recv::release_closed_capacity(stream)` (the last handle of the stream is gone): everything
    the stream still holds goes back to the connection window -/
theorem releaseClosedCapacity_inv {full : Bool} {g : Ghost} {s : Streams} (h : Inv full g s) (id : Nat)
    (hx : full = true → ∀ x, s.store.get? id = some x →
      x.state.isClosed = true ∨ x.isRecv = false ∨ x.inFlightRecvData = 0) :
    Inv full g (s.releaseClosedCapacity id) := by
  unfold Streams.releaseClosedCapacity
  dsimp only
  split
  · next hne =>
    -- something in flight: the entry exists
    cases hs : s.store.get? id with
    | none =>
      rw [Streams.stream_of_none hs] at hne
      simp at hne
    | some x =>
      have hb := (h.infl_le (Int.le_refl 0) (Store.get?_mem hs))
      rw [Streams.stream_of_get? hs]
      have h1 := releaseConnectionCapacity_inv h x.inFlightRecvData true hb.1
      have hst1 := (release_eq h x.inFlightRecvData true hb.1).store
      have h2 : Inv full g ((s.releaseConnectionCapacity x.inFlightRecvData true).modStream id fun st =>
          { st with inFlightRecvData := 0 }) := by
        refine h1.modStream id _ ?_ (fun _ => rfl) ?_ ?_
        · intro hn; rw [hst1, hs] at hn; cases hn
        · intro y hy
          rw [hst1, hs] at hy; cases hy
          show ((0 : Nat) : Int) + 0 ≤ _
          omega
        · intro hf y hy ok
          rw [hst1, hs] at hy; cases hy
          refine ok.drop 0 (Nat.zero_le _) ?_
          rcases hx hf x hs with hc | hr | h0
          · exact .inr (.inl hc)
          · exact .inr (.inr hr)
          · exact .inl h0.symm
      have hg2 := get?_modStream (s.releaseConnectionCapacity x.inFlightRecvData true) id
        (fun st => { st with inFlightRecvData := 0 }) (fun _ => rfl)
      rw [hst1, hs] at hg2
      generalize ((s.releaseConnectionCapacity x.inFlightRecvData true).modStream id fun st =>
          { st with inFlightRecvData := 0 }) = s2 at h2 hg2 ⊢
      exact clearRecvBuffer_inv h2 id true fun _ y hy => by
        rw [hg2] at hy
        simp only [Option.map_some, Option.some.injEq] at hy
        subst hy; exact .inr (.inr rfl)
  · next he =>
    have he' : (s.stream id).inFlightRecvData = 0 := by simpa using he
    exact clearRecvBuffer_inv h id true fun _ y hy => by
      rw [Streams.stream_of_get? hy] at he'; exact .inr (.inr he')


/-- `Recv::ignore_data(sz)`: DATA for a stream that no longer takes it — consumed and given back
    to the connection window at once -/
theorem ignoreData_inv {full : Bool} {g : Ghost} {s : Streams} (h : Inv full g s) (sz : Nat) :
    Inv full g (s.ignoreData sz).1 := by
  obtain ⟨herr, hok⟩ := consume_inv h sz
  unfold Streams.ignoreData
  cases hc : s.consumeConnectionWindow sz with
  | mk s1 r =>
    rw [hc] at herr hok
    dsimp only at herr hok
    cases r with
    | error e => exact herr e rfl
    | ok u =>
      obtain ⟨h1, -⟩ := hok rfl
      have hcI : sz ≤ cI s1 := by
        have := h1.sum
        have := sumInfl s1.store.slab
        omega
      have h2 := releaseConnectionCapacity_inv h1 sz false hcI
      rwa [show (0 : Int) + sz - sz = 0 by omega] at h2

theorem ignoreData_err_goaway {full : Bool} {g : Ghost} {s : Streams} (h : Inv full g s) (sz : Nat) (e : PErr)
    (he : (s.ignoreData sz).2 = .error e) : ∃ r, e = PErr.libraryGoAway r := by
  unfold Streams.ignoreData at he
  cases hc : s.consumeConnectionWindow sz with
  | mk s1 r =>
    rw [hc] at he
    cases r with
    | error e' =>
      cases he
      exact consume_err_goaway h sz _ (by rw [hc])
    | ok u => cases he

end H2V.Lemmas.ConnRecvP
