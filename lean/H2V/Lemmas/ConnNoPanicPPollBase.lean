import H2V.Lemmas.ConnNoPanicPApi
import H2V.Lemmas.ConnNoPanicPRel
import H2V.Lemmas.ConnNoPanicPStickyStep
import H2V.Lemmas.ConnStepLoops
/-
  C08 (no panic), the write path `Streams::poll_complete`, base: the frame relation
  `FK` (flags `is_counted` / `is_pending_push` / `is_pending_open` only go down, the first panic message
  is sticky, `in_flight_data_frame` stays or goes from `DataFrame` to `Drop`, the id map only loses
  entries).  Every step of the stream layer whose kinds are among `FK.kinds` is `FK` (`FK.of_step`, one induction over
  `Streams.Step`; per entry `Flg.of_upd`), so a model function has it by its footprint: `FK.of_step (f_step (by decide) …)`.
  The peeling tactic `fk_auto`, for the functions whose argument is contextual, takes its callees from there.
-/
namespace H2V.Lemmas.ConnNoPanicP
open H2V H2V.Model H2V.Model.Conn H2V.Lemmas.ConnCountsP
attribute [local irreducible] wrapSubU32 wrapSubUsize

/-- the promised ids of the PUSH_PROMISE frames in a `pending_send` list -/
def ppIdsOf (l : List SFrame) : List Nat :=
  l.filterMap fun f => match f with
    | .pushPromise _ pid _ => some pid
    | _ => none

structure Flg (a b : Stream) : Prop where
  key : b.key = a.key
  c : b.isCounted = true → a.isCounted = true
  pp : b.isPendingPush = true → a.isPendingPush = true
  po : b.isPendingOpen = true → a.isPendingOpen = true
  pps : (ppIdsOf b.pendingSend).Sublist (ppIdsOf a.pendingSend)

theorem Flg.refl (a : Stream) : Flg a a := ⟨rfl, id, id, id, .refl _⟩
theorem Flg.trans {a b c : Stream} (h1 : Flg a b) (h2 : Flg b c) : Flg a c :=
  ⟨h2.key.trans h1.key, fun h => h1.c (h2.c h), fun h => h1.pp (h2.pp h), fun h => h1.po (h2.po h), h2.pps.trans h1.pps⟩

/-- the blank stream a dangling key reads -/
theorem Flg.blank (a : Stream) (k : Nat) (hk : a.key = k) : Flg a { key := k, id := 0 } :=
  ⟨hk.symm, fun h => Bool.noConfusion h, fun h => Bool.noConfusion h, fun h => Bool.noConfusion h, List.nil_sublist _⟩

theorem Flg.of_fields {a b : Stream} (hk : b.key = a.key) (h1 : b.isCounted = a.isCounted) (h2 : b.isPendingPush = a.isPendingPush)
    (h3 : b.isPendingOpen = a.isPendingOpen) (h4 : b.pendingSend = a.pendingSend) : Flg a b :=
  ⟨hk, fun h => h1 ▸ h, fun h => h2 ▸ h, fun h => h3 ▸ h, by rw [h4]; exact .refl _⟩

macro "flg_fields" : tactic => `(tactic| with_reducible exact Flg.of_fields rfl rfl rfl rfl rfl)

theorem notifySend_flg (x : Stream) : Flg x x.notifySend.1 := by rw [Stream.notifySend_fst]; flg_fields
theorem notifyRecv_flg (x : Stream) : Flg x x.notifyRecv.1 := by rw [Stream.notifyRecv_fst]; flg_fields
theorem notifyPush_flg (x : Stream) : Flg x x.notifyPush.1 := by rw [Stream.notifyPush_fst]; flg_fields
theorem notifyCapacity_flg (x : Stream) : Flg x x.notifyCapacity.1 := by rw [Stream.notifyCapacity_fst]; flg_fields
theorem assignCapacity_flg (x : Stream) (a b : Nat) : Flg x (x.assignCapacity a b).1 := by
  rw [Stream.assignCapacity_fst]; split <;> flg_fields
theorem setReset_flg (x : Stream) (r : Reason) (i : Initiator) : Flg x (x.setReset r i).1 := by
  rw [Stream.setReset_fst]; flg_fields
theorem setQueued_flg (x : Stream) (q : QName) (v : Bool) (h : q ≠ .pendingOpen ∨ v = false) : Flg x (x.setQueued q v) := by
  cases q <;> first | exact Flg.of_fields rfl rfl rfl rfl rfl | skip
  rcases h with h | h
  · exact absurd rfl h
  · subst h; exact ⟨rfl, id, id, fun h => Bool.noConfusion h, .refl _⟩

theorem ppIdsOf_cons_sublist (f : SFrame) (l : List SFrame) : (ppIdsOf l).Sublist (ppIdsOf (f :: l)) := by
  unfold ppIdsOf
  exact (List.sublist_cons_self f l).filterMap _

theorem popRest_flg {x : Stream} {f : SFrame} {rest : List SFrame} (h : x.pendingSend = f :: rest) :
    Flg x { x with pendingSend := rest } :=
  ⟨rfl, id, id, id, by rw [h]; exact ppIdsOf_cons_sublist f rest⟩

theorem ppIdsOf_data (len : Nat) (eos : Bool) (l : List SFrame) : ppIdsOf (.data len eos :: l) = ppIdsOf l := by
  unfold ppIdsOf; rfl

theorem ppIdsOf_append_nonpp (l : List SFrame) {f : SFrame} (hf : SFrame.isPP f = false) : ppIdsOf (l ++ [f]) = ppIdsOf l := by
  unfold ppIdsOf
  rw [List.filterMap_append]
  cases f <;> first | (cases hf; done) | exact List.append_nil _

theorem flg_append_nonpp (x : Stream) {f : SFrame} (hf : SFrame.isPP f = false) :
    Flg x { x with pendingSend := x.pendingSend ++ [f] } :=
  ⟨rfl, id, id, id, by show (ppIdsOf (x.pendingSend ++ [f])).Sublist _; rw [ppIdsOf_append_nonpp _ hf]; exact .refl _⟩

theorem flg_drop (x : Stream) (n : Nat) : Flg x { x with pendingSend := x.pendingSend.drop n } :=
  ⟨rfl, id, id, id, by unfold ppIdsOf; exact (List.drop_sublist n _).filterMap _⟩

theorem decContentLength_flg {x y : Stream} {n : Nat} (h : x.decContentLength n = some y) : Flg x y := by
  obtain ⟨_, rfl⟩ := Stream.decContentLength_eq h; flg_fields

macro "flg_tac" : tactic => `(tactic| with_reducible first
  | exact Flg.of_fields rfl rfl rfl rfl rfl
  | exact ⟨rfl, fun h => Bool.noConfusion h, id, id, List.Sublist.refl _⟩
  | exact ⟨rfl, id, fun h => Bool.noConfusion h, id, List.Sublist.refl _⟩
  | exact ⟨rfl, id, id, id, List.nil_sublist _⟩
  | exact notifySend_flg _ | exact notifyRecv_flg _ | exact notifyPush_flg _ | exact notifyCapacity_flg _
  | exact assignCapacity_flg _ _ _ | exact setReset_flg _ _ _)

def IdsLE (s s' : Streams) : Prop :=
  (s.store.ids.map (·.1)).Nodup →
    (s'.store.ids.map (·.1)).Nodup ∧ ∀ id k, s'.store.findKey? id = some k → s.store.findKey? id = some k

theorem IdsLE.of_eq {s s' : Streams} (h : s'.store.ids = s.store.ids) : IdsLE s s' := by
  intro hn; unfold Store.findKey?; rw [h]; exact ⟨hn, fun _ _ h => h⟩
theorem IdsLE.trans {a b c : Streams} (h1 : IdsLE a b) (h2 : IdsLE b c) : IdsLE a c :=
  fun hn => ⟨(h2 (h1 hn).1).1, fun id k h => (h1 hn).2 id k ((h2 (h1 hn).1).2 id k h)⟩

/-- `in_flight_data_frame` stays, or goes from `DataFrame` to `Drop` (`clear_queue`) -/
def InflLE (a b : InFlightData) : Prop := b = a ∨ (b = .drop ∧ ∃ k, a = .dataFrame k)

theorem InflLE.trans {a b c : InFlightData} (h1 : InflLE a b) (h2 : InflLE b c) : InflLE a c := by
  rcases h2 with e | ⟨e, k, hk⟩
  · rw [e]; exact h1
  · rcases h1 with e1 | ⟨e1, _⟩
    · exact .inr ⟨e, k, by rw [← e1]; exact hk⟩
    · rw [e1] at hk; cases hk

structure FK (s s' : Streams) : Prop where
  fl : ∀ j, Flg (s.stream j) (s'.stream j)
  pk : ∀ m, s.panicked = some m → s'.panicked = some m
  nf : InflLE s.prio.inFlightDataFrame s'.prio.inFlightDataFrame
  ids : IdsLE s s'

theorem FK.refl (s : Streams) : FK s s := ⟨fun _ => Flg.refl _, fun _ h => h, .inl rfl, .of_eq rfl⟩
theorem FK.trans {a b c : Streams} (h1 : FK a b) (h2 : FK b c) : FK a c :=
  ⟨fun j => (h1.fl j).trans (h2.fl j), fun m h => h2.pk m (h1.pk m h), h1.nf.trans h2.nf, h1.ids.trans h2.ids⟩

theorem FK.of_eqs {s s' : Streams} (h1 : s'.store = s.store) (h2 : s'.panicked = s.panicked)
    (h3 : s'.prio.inFlightDataFrame = s.prio.inFlightDataFrame) : FK s s' :=
  ⟨fun j => by unfold Streams.stream; rw [h1]; exact Flg.refl _, fun m h => h2.trans h, .inl h3, .of_eq (by rw [h1])⟩

theorem panic_fk (s : Streams) (m : String) : FK s (s.panic m) :=
  ⟨fun j => by rw [panic_stream]; exact Flg.refl _,
   fun m' h => by unfold Streams.panic; simp only [h],
   .inl (by rw [Streams.panic_prio]), .of_eq (by rw [panic_store])⟩

theorem wake_fk (s : Streams) (t : List String) : FK s (s.wake t) := .of_eqs rfl rfl rfl
theorem unsup_fk (s : Streams) (m : String) : FK s (s.unsup m) := by
  unfold Streams.unsup; split
  · exact .refl _
  · exact .of_eqs rfl rfl rfl
theorem notifyTask_fk (s : Streams) : FK s s.notifyTask := by
  unfold Streams.notifyTask; split
  · exact .of_eqs rfl rfl rfl
  · exact .refl _
theorem modPrio_fk (s : Streams) (f : Prioritize → Prioritize) (h : ∀ p, (f p).inFlightDataFrame = p.inFlightDataFrame) :
    FK s (s.modPrio f) := .of_eqs rfl rfl (h _)
theorem modRecv_fk (s : Streams) (f : Recv → Recv) : FK s (s.modRecv f) := .of_eqs rfl rfl rfl
theorem modCounts_fk (s : Streams) (f : Counts → Counts) : FK s (s.modCounts f) := .of_eqs rfl rfl rfl
theorem setQ_fk (s : Streams) (q : QName) (l : List Nat) : FK s (s.setQ q l) :=
  .of_eqs (setQ_store _ _ _) (setQ_panicked _ _ _) (by cases q <;> rfl)
theorem setCounts_fk (s : Streams) (c : Counts) : FK s { s with counts := c } := .of_eqs rfl rfl rfl

theorem setStream_fk (s : Streams) (st' : Stream) (h : Flg (s.stream st'.key) st') : FK s (s.setStream st') := by
  refine ⟨fun j => ?_, fun _ h => h, .inl rfl, .of_eq rfl⟩
  rcases setStream_stream s st' j with e | ⟨e, hj, _⟩
  · rw [e]; exact Flg.refl _
  · rw [e, hj]; exact h

theorem modStream_fk' (s : Streams) (k : Nat) (f : Stream → Stream) (h : Flg (s.stream k) (f (s.stream k))) :
    FK s (s.modStream k f) := by
  unfold Streams.modStream
  split
  · next st hst =>
    rw [stream_of_get? hst] at h
    refine setStream_fk s _ ?_
    rw [h.key, get?_key hst, stream_of_get? hst]; exact h
  · exact panic_fk _ _

theorem modStream_fk (s : Streams) (k : Nat) (f : Stream → Stream) (h : ∀ x, Flg x (f x)) : FK s (s.modStream k f) :=
  modStream_fk' s k f (h _)

theorem modStreamW_fk' (s : Streams) (k : Nat) (f : Stream → Stream × List String) (h : Flg (s.stream k) (f (s.stream k)).1) :
    FK s (s.modStreamW k f) := by
  unfold Streams.modStreamW
  split
  · next st hst =>
    rw [stream_of_get? hst] at h
    refine (setStream_fk s _ ?_).trans (wake_fk _ _)
    rw [h.key, get?_key hst, stream_of_get? hst]; exact h
  · exact panic_fk _ _

theorem modStreamW_fk (s : Streams) (k : Nat) (f : Stream → Stream × List String) (h : ∀ x, Flg x (f x).1) :
    FK s (s.modStreamW k f) := modStreamW_fk' s k f (h _)

theorem qPush_fk (s : Streams) (q : QName) (k : Nat) (hq : q ≠ .pendingOpen) : FK s (s.qPush q k).1 := by
  unfold Streams.qPush; split
  · exact .refl _
  · exact (modStream_fk _ _ _ (fun x => setQueued_flg x q true (.inl hq))).trans (setQ_fk _ _ _)
theorem qPushFront_fk (s : Streams) (q : QName) (k : Nat) (hq : q ≠ .pendingOpen) : FK s (s.qPushFront q k).1 := by
  unfold Streams.qPushFront; split
  · exact .refl _
  · exact (modStream_fk _ _ _ (fun x => setQueued_flg x q true (.inl hq))).trans (setQ_fk _ _ _)
theorem qPop_fk (s : Streams) (q : QName) : FK s (s.qPop q).1 := by
  unfold Streams.qPop; split
  · exact .refl _
  · exact (setQ_fk _ _ _).trans (modStream_fk _ _ _ (fun x => setQueued_flg x q false (.inr rfl)))

/-- forgetting a slab entry: its key reads the blank stream from now on -/
theorem remove_fk (s : Streams) (k n : Nat) : FK s { s with store := s.store.remove k, recvBufferLeaked := n } := by
  refine ⟨fun j => ?_, fun _ h => h, .inl rfl, .of_eq rfl⟩
  show Flg (s.stream j) (((s.store.remove k).get? j).getD { key := j, id := 0 })
  rw [Store.get?_remove]
  split
  · exact Flg.blank _ _ (stream_key _ _)
  · exact Flg.refl _

theorem find?_of_mem_nodupP {l : List (Nat × Nat)} (hnd : (l.map (·.1)).Nodup) {e : Nat × Nat} (he : e ∈ l) :
    l.find? (·.1 == e.1) = some e := by
  induction l with
  | nil => cases he
  | cons a l ih =>
    simp only [List.map_cons, List.nodup_cons] at hnd
    rcases List.mem_cons.mp he with h | h
    · subst h; simp
    · have hne : a.1 ≠ e.1 := fun hh => hnd.1 (hh ▸ List.mem_map.mpr ⟨e, h, rfl⟩)
      rw [List.find?_cons]
      have : (a.1 == e.1) = false := by simpa using hne
      rw [this]; exact ih hnd.2 h

theorem unlink_fk (s : Streams) (id : Nat) : FK s { s with store := s.store.unlink id } := by
  refine ⟨fun j => ?_, fun _ h => h, .inl rfl, ?_⟩
  · have : ({ s with store := s.store.unlink id } : Streams).stream j = s.stream j := rfl
    rw [this]; exact Flg.refl _
  · intro hn
    refine ⟨Store.swapRemove_nodup hn _, fun id' k hf => ?_⟩
    unfold Store.findKey? at hf ⊢
    have hids : ({ s with store := s.store.unlink id } : Streams).store.ids = Store.swapRemove s.store.ids id := rfl
    rw [hids] at hf
    cases hx : (Store.swapRemove s.store.ids id).find? (·.1 == id') with
    | none => rw [hx] at hf; cases hf
    | some e =>
      rw [hx] at hf
      have hm := Store.mem_swapRemove (List.mem_of_find?_eq_some hx)
      have he := List.find?_some hx
      simp only [beq_iff_eq] at he
      rw [← he, find?_of_mem_nodupP hn hm]; exact hf

theorem fk_ok : Conn.RelOK FK := ⟨FK.refl, FK.trans, panic_fk⟩

theorem decNumStreams_fk (s : Streams) (k : Nat) : FK s (s.decNumStreams k) :=
  Streams.decNumStreams_rel fk_ok modCounts_fk
    (fun _ _ => modStream_fk _ _ _ (fun _ => ⟨rfl, fun h => Bool.noConfusion h, id, id, .refl _⟩)) s k

/-- all kinds but those that can break `FK`: a new id in the id map, `is_counted` / `is_pending_open` / `is_pending_push`
    raised, a PUSH_PROMISE queued, `in_flight_data_frame` set to `DataFrame` or `Nothing` -/
def FK.kinds : Kind → Bool
  | .insert | .count | .enqueue .pendingOpen | .pendPush | .frame .pushPromise | .mark => false
  | _ => true

theorem Flg.of_updW {K : Kind → Bool} {x : Stream} {p : Stream × List String} (h : Stream.UpdW K x p) : Flg x p.1 := by
  cases h with
  | notifySend => exact notifySend_flg x
  | notifyRecv => exact notifyRecv_flg x
  | notifyPush => exact notifyPush_flg x
  | notifyCapacity => exact notifyCapacity_flg x
  | assignCapacity c m _ => exact assignCapacity_flg x c m
  | setReset r i _ => exact setReset_flg x r i

theorem Flg.of_upd {x y : Stream} (h : Stream.Upd FK.kinds x y) : Flg x y := by
  cases h with
  | reserved _ _ h => exact absurd h (by decide)
  | sendData n m _ _ => rw [Stream.sendData_fst]; split <;> exact .of_fields rfl rfl rfl rfl rfl
  -- the frame's class is one `FK.kinds` has: not PUSH_PROMISE
  | pushSend f h => exact flg_append_nonpp x (by cases f <;> first | rfl | cases h)
  | unpopData n eos _ => exact ⟨rfl, id, id, id, .refl _⟩
  | popSend f rest _ h => exact popRest_flg h
  | dropSend _ => exact flg_drop x 1
  | clearSend _ => exact ⟨rfl, id, id, id, List.nil_sublist _⟩
  | keepOnlyHead _ => exact ⟨rfl, id, id, id, by unfold ppIdsOf; exact (List.take_sublist 1 _).filterMap _⟩
  | decContentLength n _ h => exact decContentLength_flg h
  | activated _ => exact ⟨rfl, id, fun h => Bool.noConfusion h, id, .refl _⟩
  | _ => exact .of_fields rfl rfl rfl rfl rfl

theorem InflLE.of_upd {p q : Prioritize} (h : Prioritize.Upd FK.kinds p q) : InflLE p.inFlightDataFrame q.inFlightDataFrame := by
  cases h with
  | flow => exact .inl rfl
  | mark _ h => exact absurd h (by decide)
  | markDrop k _ h => exact .inr ⟨rfl, k, h⟩

theorem FK.of_step {s s' : Streams} (h : Streams.Step FK.kinds s s') : FK s s' := by
  induction h with
  | refl s => exact .refl s
  | trans _ _ ih1 ih2 => exact ih1.trans ih2
  | panic s m => exact panic_fk s m
  | unsup s m => exact unsup_fk s m
  | wake s t => exact wake_fk s t
  | notifyTask s _ => exact notifyTask_fk s
  | setTask | setConnError | setRefs => exact .of_eqs rfl rfl rfl
  | modPrio s f h => exact ⟨fun _ => .refl _, fun _ h => h, .of_upd h, .of_eq rfl⟩
  | modSend s f h => exact .of_eqs rfl rfl (congrArg Prioritize.inFlightDataFrame h.prioritize)
  | modRecv s f _ => exact modRecv_fk s f
  | setCounts s c _ => exact setCounts_fk s c
  | qPush s q k h => exact qPush_fk s q k fun e => by subst e; exact absurd h (by decide)
  | qPushFront s q k h => exact qPushFront_fk s q k fun e => by subst e; exact absurd h (by decide)
  | qPop s q _ => exact qPop_fk s q
  | incNumSendStreams _ _ h | incNumRecvStreams _ _ h | insert _ _ _ _ h | insertWith _ _ _ _ _ h | undoInsert _ _ _ h =>
    exact absurd h (by decide)
  | decNumStreams s k => exact decNumStreams_fk s k
  | modStream s k f h => exact modStream_fk' s k f (.of_upd h)
  | modStreamW s k f h => exact modStreamW_fk' s k f (.of_updW h)
  | setStream s x h => exact setStream_fk s x (.of_upd h)
  | unlink s id _ => exact unlink_fk s id
  | remove s k n _ _ _ => exact remove_fk s k n

theorem transitionAfter_fk (s : Streams) (k : Nat) (b : Bool) : FK s (s.transitionAfter k b) :=
  .of_step (Streams.transitionAfter_step (by decide) s k b)

/-- the first panic message stays (what the functions that raise a flag or touch `in_flight_data_frame` keep) -/
structure PK (s s' : Streams) : Prop where
  pk : ∀ m, s.panicked = some m → s'.panicked = some m

theorem PK.trans {a b c : Streams} (h1 : PK a b) (h2 : PK b c) : PK a c := ⟨fun m h => h2.pk m (h1.pk m h)⟩
theorem PK.of_eq {s s' : Streams} (h : s'.panicked = s.panicked) : PK s s' := ⟨fun _ hm => h.trans hm⟩
theorem setCounts_pk (s : Streams) (c : Counts) : PK s { s with counts := c } := .of_eq rfl
theorem PK.of_step {K : Kind → Bool} {s s' : Streams} (h : Streams.Step K s s') : PK s s' := ⟨ST.of_step h⟩

syntax "fk_side" : tactic
macro_rules | `(tactic| fk_side) => `(tactic| (intro _; exact rfl))
macro_rules | `(tactic| fk_side) => `(tactic| (intro _; flg_tac))
macro_rules | `(tactic| fk_side) => `(tactic| decide)
macro_rules | `(tactic| fk_side) => `(tactic| with_reducible assumption)

syntax "fk_step" : tactic
macro_rules | `(tactic| fk_step) => `(tactic| open H2V.Model.Conn.Streams in rel_head FK "_fk" via FK.of_step "_step" =>
  with_reducible refine FK.trans ?_ (setCounts_fk _ _))
macro_rules | `(tactic| fk_step) => `(tactic| with_reducible refine of_fst_eq (P := FK _) (by with_reducible assumption) ?_)
macro_rules | `(tactic| fk_step) => `(tactic| with_reducible assumption)
macro_rules | `(tactic| fk_step) => `(tactic| with_reducible exact FK.refl _)

macro "fk_auto" : tactic => `(tactic| repeat (first | fk_step | fk_side | intro _ | split | dsimp only))
macro "fk_auto_ih" ih:ident : tactic =>
  `(tactic| repeat (first | fk_step | with_reducible refine FK.trans ?_ ($ih ..) | fk_side | intro _ | split | dsimp only))

syntax "pk_step" : tactic
macro_rules | `(tactic| pk_step) => `(tactic| open H2V.Model.Conn.Streams in rel_head PK "_pk" via PK.of_step "_step" =>
  with_reducible refine PK.trans ?_ (setCounts_pk _ _))

macro "pk_auto_ih" ih:ident : tactic =>
  `(tactic| repeat (first | pk_step | with_reducible refine PK.trans ?_ ($ih ..) | fk_side | intro _ | split | dsimp only))

theorem queueFrame_fk (s : Streams) (k : Nat) (f : SFrame) (hf : SFrame.isPP f = false) : FK s (s.queueFrame k f) := by
  unfold Streams.queueFrame
  exact (modStream_fk _ _ _ (fun x => flg_append_nonpp x hf)).trans (.of_step (Streams.scheduleSend_step (by decide) _ _))

theorem sendReserveLocal_fk (s : Streams) : FK s s.sendReserveLocal.1 := .of_step (Streams.sendReserveLocal_step (by decide) s)

theorem transition_fk' {α : Type} (s : Streams) (k : Nat) (f : Streams → Streams × α) (hf : FK s (f s).1) :
    FK s (s.transition k f).1 :=
  Streams.transition_rel fk_ok s k f hf fun t b => transitionAfter_fk t k b

/-- the roll-back of an insert: as a step it is of kind `insert`, which `FK` does not take; by itself it only forgets -/
theorem unlinkRemove_fk (s : Streams) (id k : Nat) : FK s { s with store := (s.store.unlink id).remove k } :=
  (unlink_fk s id).trans (remove_fk { s with store := s.store.unlink id } k s.recvBufferLeaked)

end H2V.Lemmas.ConnNoPanicP
