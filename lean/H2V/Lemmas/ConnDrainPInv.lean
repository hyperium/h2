import H2V.Lemmas.ConnDrainPSReach
import H2V.Lemmas.ConnRecvPConn
import H2V.Lemmas.ConnPollRule
import H2V.Lemmas.ConnRecvFrame
/-
  ConnDrainP — the connection invariant `CInv` (sane write buffer, `SReach` stream layer, decoder-bounded
  SETTINGS in `settings.remote`, bounded local SETTINGS): every step of `Connection::poll` keeps it (`CInv.protoPoll`,
  `CInv.clientPoll`).  That it holds for fresh connections (`cinv_init`, `cinv_initServer`) and that from any state
  satisfying it `Connection::poll` answers `Pending` only with the connection task parked and everything writable written
  (`protoPoll_pending_parked`, `clientPoll_pending_parked`) is in `ConnDrainPParked`.
-/
namespace H2V.Lemmas.ConnDrainP
open H2V H2V.Model H2V.Model.Conn
open H2V.Lemmas.ConnFlowP (FrameOk SettingsOk)
open H2V.Lemmas.ConnCtlP (ackAndApply settingsRemotePart settingsLocalSend settingsLocalPart settingsPollSend_eq poll2Dispatch poll2Read
  poll2GoOn poll2Loop_succ)

/-- local SETTINGS carry an initial window size of at most 2^31-1 (the builder and `set_initial_window_size` assert it) -/
def LocOk (v : List (Nat × Nat)) : Prop := ∀ t, ConnRecvP.settingsIws v = some t → t ≤ 2147483647

/-- the invariant of a connection between two steps of `Connection::poll` -/
structure CInv (c : Conn) : Prop where
  cap : CapOK c.codec.w
  sr : SReach c.streams
  remote : ∀ v, c.settings.remote = some v → SettingsOk v
  loc : ∀ v, (c.settings.loc = .waitingAck v ∨ c.settings.loc = .toSend v) → LocOk v

theorem CInv.of_codec {c c' : Conn} (h : CInv c) (hc : CapOK c'.codec.w) (h1 : c'.streams = c.streams)
    (h2 : c'.settings = c.settings) : CInv c' :=
  ⟨hc, h1 ▸ h.sr, by rw [h2]; exact h.remote, by rw [h2]; exact h.loc⟩

/-- `CInv` along `poll_ready` and `send_pending_go_away`: the writer keeps its capacity, the stream layer is reached only by
    `apply_remote_settings` (with the values the decoder bounded) and `send_pending_refusal` -/
theorem cinv_ready : ConnPoll.ReadyInv CInv where
  codecPollReady c h := by
    obtain ⟨cd, e, st, _⟩ := codecPollReady_spec (c1 := c.codecPollReady.1) (r := c.codecPollReady.2) rfl
    rw [e]; exact h.of_codec (st.cap h.cap) rfl rfl
  buffer c n r h := ⟨(bufferSimple_step c n r).cap h.cap, h.sr, h.remote, h.loc⟩
  goAwayDone _ h := ⟨h.cap, h.sr, h.remote, h.loc⟩
  pongDone _ h := ⟨h.cap, h.sr, h.remote, h.loc⟩
  pingSent _ _ h _ := ⟨h.cap, h.sr, h.remote, h.loc⟩
  userPings _ _ h := ⟨h.cap, h.sr, h.remote, h.loc⟩
  remoteSeen _ h := ⟨h.cap, h.sr, h.remote, h.loc⟩
  applyRemote _ v i h hv := ⟨h.cap, h.sr.op (.applyRemoteSettings v i) (h.remote v hv) trivial, h.remote, h.loc⟩
  writer c v1 v5 h :=
    ⟨CapOK.of_eq h.cap (by cases v1 <;> cases v5 <;> rfl) (by cases v1 <;> cases v5 <;> exact Nat.le_refl _), h.sr, h.remote, h.loc⟩
  remoteDone _ h := ⟨h.cap, h.sr, fun _ hv => (nomatch hv), h.loc⟩
  localSent _ v h hloc := ⟨h.cap, h.sr, h.remote, by
    rintro v' (hv' | hv')
    · cases hv'; exact h.loc _ (.inr hloc)
    · cases hv'⟩
  refusal c h :=
    ⟨CapOK.refusal 4 c.streams c.codec.w c.codec.io c.cx h.cap,
      h.sr.op (.pollSendPendingRefusal 4 _ _ _) trivial trivial, h.remote, h.loc⟩

theorem CInv.of_streams {c c' : Conn} (h : CInv c) (hs : SReach c'.streams) (hc : c'.codec = c.codec)
    (hset : c'.settings = c.settings) : CInv c' :=
  ⟨by rw [hc]; exact h.cap, hs, by rw [hset]; exact h.remote, by rw [hset]; exact h.loc⟩

theorem CInv.panic {c : Conn} (h : CInv c) (m : String) : CInv (c.panic m) :=
  h.of_streams (h.sr.op (.panic m) trivial trivial) rfl rfl

theorem CInv.ite_panic {c : Conn} (h : CInv c) (b : Prop) [Decidable b] (m : String) : CInv (if b then c else c.panic m) := by
  split
  · exact h
  · exact h.panic m

theorem CInv.dynGoAway {c : Conn} (h : CInv c) (id : Nat) (e : Reason) : CInv (c.dynGoAway id e) := by
  unfold Conn.dynGoAway
  dsimp only
  have hE : CInv ({ c with streams := c.streams.recvGoAway id }) := h.of_streams (h.sr.op (.recvGoAway _) trivial trivial) rfl rfl
  apply CInv.ite_panic
  exact hE.of_streams hE.sr rfl rfl

theorem CInv.recvFrame {c : Conn} (h : CInv c) (f : Option Frame.Frame) (hf : ∀ g, f = some g → FrameOk g) :
    CInv (c.recvFrame f).1 := by
  -- one operation of the stream layer, whatever it answers
  have lift : ∀ {x : Conn × Except PErr Conn.ReceivedFrame} (r : Streams × Except PErr Unit), SReach r.1 →
      x = Conn.recvLift c r → CInv x.1 := fun r hr hx => by subst hx; rw [Conn.recvLift_fst]; exact h.of_streams hr rfl rfl
  unfold Conn.recvFrame
  cases f with
  | none => exact ⟨h.cap, by dsimp only; exact h.sr.op (.recvEof false) trivial trivial, h.remote, h.loc⟩
  | some fr =>
    cases fr with
    | headers sid eos _ blk => exact lift _ (h.sr.op (.recvHeaders _) trivial trivial) rfl
    | data sid payload eos pad => exact lift _ (h.sr.op (.recvData ..) trivial trivial) rfl
    | reset sid code => exact lift _ (h.sr.op (.recvReset ..) trivial trivial) rfl
    | pushPromise sid promised blk => exact lift _ (h.sr.op (.recvPushPromise ..) trivial trivial) rfl
    | windowUpdate sid inc => exact lift _ (h.sr.op (.recvWindowUpdate ..) (hf _ rfl) trivial) rfl
    | settings | priority => exact h
    | goAway last code debug =>
      have : SReach (c.streams.recvGoAwayFrame last code debug).1 := h.sr.op (.recvGoAwayFrame ..) trivial trivial
      dsimp only
      split <;> next heq => (rw [heq] at this; exact h.of_streams this rfl rfl)
    | ping ack payload =>
      have hw : CInv ({ c with pingPong := (c.pingPong.recvPing ack payload).1,
                               streams := c.streams.wake (c.pingPong.recvPing ack payload).2.2.1 }) :=
        h.of_streams (h.sr.op (.wake _) trivial trivial) rfl rfl
      dsimp only
      split
      · apply CInv.dynGoAway
        apply CInv.ite_panic
        apply CInv.ite_panic
        exact hw
      · apply CInv.ite_panic
        exact hw

theorem CInv.recvSettings {c : Conn} (h : CInv c) (ack : Bool) (vals : List (Nat × Nat)) (hv : SettingsOk vals) :
    CInv (c.recvSettings ack vals).1 := by
  unfold Conn.recvSettings
  split
  · split
    · next loc hloc =>
      dsimp only
      have hl : LocOk loc := h.loc loc (Or.inl hloc)
      have : SReach (c.streams.applyLocalSettingsFrame loc).1 := h.sr.op (.applyLocalSettingsFrame _) trivial hl
      split
      · next s e heq =>
        rw [heq] at this
        refine ⟨h.cap, this, h.remote, h.loc⟩
      · next s u heq =>
        rw [heq] at this
        refine ⟨h.cap, this, h.remote, ?_⟩
        intro v hv'
        rcases hv' with hv' | hv' <;> cases hv'
    · exact h
  · dsimp only
    have hP : CInv (if c.settings.remote.isSome = true then c.panic "assertion failed: self.remote.is_none()" else c) := by
      split
      · exact h.panic _
      · exact h
    refine ⟨hP.cap, hP.sr, ?_, hP.loc⟩
    intro v hv'
    cases hv'
    exact hv


theorem CInv.withCodec {c : Conn} (h : CInv c) (codec : Codec) (hw : codec.w = c.codec.w) : CInv { c with codec := codec } :=
  ⟨by show CapOK codec.w; rw [hw]; exact h.cap, h.sr, h.remote, h.loc⟩

theorem cinv_poll2Dispatch {k : Conn → Conn × PollRes} (hk : ∀ {c}, CInv c → CInv (k c).1) {c : Conn} (h : CInv c)
    (fr : Option Frame.Frame) (hfr : ∀ g, fr = some g → FrameOk g) : CInv (poll2Dispatch k c fr).1 := by
  unfold poll2Dispatch
  have h3 := h.recvFrame fr hfr
  rcases hrf : c.recvFrame fr with ⟨c3, r3⟩
  rw [hrf] at h3
  cases r3 with
  | error e => exact h3
  | ok rf =>
    cases rf with
    | «continue» => exact hk h3
    | done => exact h3
    | settings ack vals =>
      have h4 := h3.recvSettings ack vals (hfr _ ((Conn.recvFrame_keeps c fr).2.2.2 _ _ (by rw [hrf])))
      dsimp only at h4 ⊢
      generalize c3.recvSettings ack vals = p at h4
      obtain ⟨c4, r4⟩ := p
      cases r4 with
      | error e => exact h4
      | ok u => exact hk h4

theorem CInv.goAwayNowData {c : Conn} (h : CInv c) (e : Reason) (d : Bytes) : CInv (c.goAwayNowData e d) := by
  unfold Conn.goAwayNowData
  dsimp only
  apply CInv.ite_panic
  exact h.of_streams h.sr rfl rfl

theorem CInv.ite {c1 c2 : Conn} (b : Prop) [Decidable b] (h1 : CInv c1) (h2 : CInv c2) : CInv (if b then c1 else c2) := by
  split
  · exact h1
  · exact h2

theorem CInv.ite_fst {α : Type} {x y : Conn × α} (b : Prop) [Decidable b] (h1 : CInv x.1) (h2 : CInv y.1) :
    CInv (if b then x else y).1 := by
  split
  · exact h1
  · exact h2

theorem CInv.handleGoAway {c : Conn} (h : CInv c) (r : Reason) (d : Bytes) (i : Initiator) : CInv (c.handleGoAway r d i) := by
  unfold Conn.handleGoAway
  refine CInv.ite _ (h.of_streams h.sr rfl rfl) ?_
  have : SReach (c.streams.handleError (.goAway d r i)).1 := h.sr.op (.handleError _) trivial trivial
  rcases hh : c.streams.handleError (.goAway d r i) with ⟨s, l⟩
  rw [hh] at this
  dsimp only
  have h2 : CInv ({ c with streams := s }) := h.of_streams this rfl rfl
  exact h2.goAwayNowData r d

theorem CInv.handlePoll2Result {c : Conn} (h : CInv c) (res : Except PErr Unit) : CInv (c.handlePoll2Result res).1 := by
  unfold Conn.handlePoll2Result
  cases res with
  | ok u => exact h.of_streams h.sr rfl rfl
  | error e =>
    cases e with
    | goAway debug reason init => exact h.handleGoAway _ _ _
    | reset id reason init =>
      dsimp only
      split
      · exact h
      · have : SReach (c.streams.innerSendReset id reason).1 := h.sr.op (.innerSendReset ..) trivial trivial
        split
        · next s u heq => rw [heq] at this; exact h.of_streams this rfl rfl
        · next s g heq =>
          rw [heq] at this
          have h2 : CInv ({ c with streams := s }) := h.of_streams this rfl rfl
          exact h2.handleGoAway _ _ _
    | io kind msg =>
      dsimp only
      have h1 : CInv ({ c with streams := (c.streams.handleError (.io kind msg)).1 }) :=
        h.of_streams (h.sr.op (.handleError _) trivial trivial) rfl rfl
      exact CInv.ite_fst _ (h1.of_streams h1.sr rfl rfl) h1

theorem shutdownW_cap {w w' : Writer} {io io' : Tio} {tag : String} {r : WRes} (h : CapOK w)
    (hs : shutdownW w io tag = (w', io', r)) : CapOK w' := by
  rcases shutdownW_cases w io tag with ⟨_, e⟩ | ⟨w1, io1, r1, hf, ⟨_, e⟩ | ⟨_, e⟩⟩ <;> rw [e] at hs <;> cases hs
  · exact h
  · exact (h.ofFlush hf).of_eq rfl (Nat.le_refl _)
  · exact h.ofFlush hf

/-- `CInv` through `Connection::poll`: the frame handed to `recv_frame` is one the reader accepted -/
theorem pollInv : ConnPoll.PollInv CInv (fun c f => CInv c ∧ ∀ g, f = some g → FrameOk g) where
  panic _ m _ h := h.panic m
  sendPendingGoAway _ h := cinv_ready.sendPendingGoAway h
  pollReady _ h := cinv_ready.pollReady h
  pollNext _ c n _ h _ := by
    rcases hpn : pollNext n c.codec c.cx with ⟨codec, polled⟩
    have hw := pollNext_w n c.codec c.cx
    rw [hpn] at hw
    refine ⟨h.withCodec codec hw, fun g hg => ?_⟩
    cases polled <;> cases hg
    exact pollNext_frameOk _ _ _ _ _ hpn
  ofJ _ _ j := j.1
  dispatch _ f j := cinv_poll2Dispatch (fun h => h) j.1 f j.2
  clearExpiredResetStreams _ _ h := h.of_streams (h.sr.op (.clearExpiredResetStreams _) trivial trivial) rfl rfl
  handlePoll2Result _ r h := h.handlePoll2Result r
  pollComplete c n h :=
    ⟨CapOK.pollComplete n c.streams c.codec.w c.codec.io c.cx h.cap, h.sr.op (.pollComplete n c.codec.w c.codec.io c.cx) trivial trivial,
      h.remote, h.loc⟩
  goAwayNow _ e h := h.goAwayNowData e _
  shutdown c h := ⟨shutdownW_cap h.cap rfl, h.sr, h.remote, h.loc⟩
  closed _ _ _ h := h.of_streams h.sr rfl rfl
  takeError c o i h := by
    unfold Conn.takeError
    dsimp only
    repeat' split
    all_goals exact h.of_streams h.sr rfl rfl
  wake _ h := h.of_streams (h.sr.op (.wake _) trivial trivial) rfl rfl

theorem CInv.poll2 {c : Conn} (h : CInv c) (n : Nat) : CInv (Conn.poll2 n c).1 :=
  ConnPoll.poll2_inv pollInv n h

theorem CInv.protoPoll (n : Nat) {c : Conn} (h : CInv c) : CInv (Conn.protoPoll n c).1 :=
  ConnPoll.protoPoll_inv pollInv n h

theorem CInv.clientPoll {c : Conn} (h : CInv c) (n : Nat) : CInv (Conn.clientPoll n c).1 :=
  ConnPoll.clientPoll_inv pollInv n h

end H2V.Lemmas.ConnDrainP
