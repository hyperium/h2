import H2V.Lemmas.ConnWakePGen
/-
  ConnWakeP — the frame relations of the capacity bookkeeping and of the teardown (`recv_eof`, `handle_error`,
  `recv_go_away` and what they call), as instances of `GStep.of_step`.  `Frame.kinds` are the kinds of update that
  respect `Frame` (`GStep.of_step_fs`); the bookkeeping consists of such steps.  The teardown family consists of
  steps of the kinds in `KR.kinds` (`KR.of_upd`: what each update does to `KR` = `Keep` ∧ `Res`): `GStep.of_step_ts`,
  and with the removal flag `rm` left open for a step that releases nothing `GStep.of_step_kr`; by `GStep.mono`:
    * `KS` = `GStep True Keep`: a stream that survives keeps its receive queue, its reference count and
      "END_STREAM was received";
    * `RS` = `GStep True Res`: a stream that is `Resolved` stays so.
-/
namespace H2V.Lemmas.ConnWakeP
open H2V H2V.Model H2V.Model.Conn

abbrev KS := GStep True Keep
abbrev FS := GStep False Frame
abbrev TS := GStep True KR

section
variable {rm : Prop} {s0 s : Streams}

/-- the kinds of update that leave `state`, `pending_send` and `buffered_send_data` alone (and release nothing) -/
def Frame.kinds : Kind → Bool
  | .insert | .release | .unlink | .state _ | .frame _ | .buffer | .popFrame | .chargeData | .clearSend => false
  | _ => true

theorem Frame.of_updW {x : Stream} {p : Stream × List String} (h : Stream.UpdW Frame.kinds x p) : Frame x p.1 := by
  cases h with
  | notifySend => rw [Stream.notifySend_fst]; exact ⟨rfl, rfl, rfl, rfl, rfl⟩
  | notifyRecv => rw [Stream.notifyRecv_fst]; exact ⟨rfl, rfl, rfl, rfl, rfl⟩
  | notifyPush => rw [Stream.notifyPush_fst]; exact ⟨rfl, rfl, rfl, rfl, rfl⟩
  | notifyCapacity => rw [Stream.notifyCapacity_fst]; exact ⟨rfl, rfl, rfl, rfl, rfl⟩
  | assignCapacity c m => rw [Stream.assignCapacity_fst]; split <;> exact ⟨rfl, rfl, rfl, rfl, rfl⟩
  | setReset r i t => obtain ⟨f, h⟩ := t.kind; cases h

theorem Frame.of_upd {x y : Stream} (h : Stream.Upd Frame.kinds x y) : Frame x y := by
  cases h with
  | state v t | reserved v t => obtain ⟨f, h⟩ := t.kind; cases h
  | sendData _ _ h | buffered _ h | pushSend _ h | unpopData _ _ h | popSend _ _ h | dropSend h | clearSend h
  | keepOnlyHead h => cases h
  | decContentLength n _ e => obtain ⟨_, rfl⟩ := Stream.decContentLength_eq e; exact ⟨rfl, rfl, rfl, rfl, rfl⟩
  | _ => exact ⟨rfl, rfl, rfl, rfl, rfl⟩

theorem GStep.of_step_fs {s s' : Streams} (h : Streams.Step Frame.kinds s s') : GStep rm Frame s s' :=
  GStep.of_step rfl nofun nofun (fun _ _ => Frame.of_upd) (fun _ _ => Frame.of_updW) (fun x q v _ _ => by obtain ⟨h1, h2, h3, _, _, h6, h7⟩ := setQueued_fields x q v; exact ⟨h1, h2, h3, h6, h7⟩)
    (fun _ _ _ => ⟨rfl, rfl, rfl, rfl, rfl⟩) h

theorem f_qPop (q : QName) (h : FS s0 s) : FS s0 (s.qPop q).1 :=
  h.trans (.of_step_fs (Streams.qPop_step s q (by cases q <;> rfl)))
theorem f_tryAssignCapacity (k : Nat) (h : FS s0 s) : FS s0 (s.tryAssignCapacity k) :=
  h.trans (.of_step_fs (Streams.tryAssignCapacity_step (by decide) s k))
theorem f_reclaimAllCapacity (k : Nat) (h : FS s0 s) : FS s0 (s.reclaimAllCapacity k) :=
  h.trans (.of_step_fs (Streams.reclaimAllCapacity_step (by decide) s k))

/-- `assign_connection_capacity`'s loop only hands capacity to streams that are not closed, so its
    `transition_after` removes nothing: the loop keeps whatever `Queue::pop` and `try_assign_capacity` keep -/
theorem assignConnectionCapacityLoop_of {R : Stream → Stream → Prop} [IsPre R]
    (hpop : ∀ {s : Streams}, GStep rm R s0 s → GStep rm R s0 (s.qPop .pendingCapacity).1)
    (htry : ∀ {s : Streams} (k : Nat), GStep rm R s0 s → GStep rm R s0 (s.tryAssignCapacity k))
    (n : Nat) (h : GStep rm R s0 s) : GStep rm R s0 (Streams.assignConnectionCapacityLoop n s) := by
  induction n generalizing s with
  | zero => unfold Streams.assignConnectionCapacityLoop; exact h
  | succ n ih =>
    unfold Streams.assignConnectionCapacityLoop
    split
    · split
      · next s1 heq => exact (hpop h).of_fst heq
      · next s1 id heq =>
        have h1 : GStep rm R s0 s1 := (hpop h).of_fst heq
        simp only
        split
        · exact ih h1
        · next hc =>
          have hc' : ((s1.stream id).state.isSendStreaming || decide ((s1.stream id).bufferedSendData > 0)) = true := by
            cases hh : ((s1.stream id).state.isSendStreaming || decide ((s1.stream id).bufferedSendData > 0)) with
            | true => rfl
            | false => rw [hh] at hc; simp at hc
          have hnc : ((s1.tryAssignCapacity id).stream id).isClosed = false := by
            have fr := (f_tryAssignCapacity id (GStep.refl s1)).stream id
            exact Streams.Stream.isClosed_of_sending (by rw [fr.state, fr.buffered]; exact hc')
          exact ih ((htry id h1).trans (.of_store_eq (Streams.transitionAfter_store_of_not_closed hnc _)))
    · exact h

/-- the kinds of update that keep a stream's receive queue, its handles, "END_STREAM was received" and `Resolved`: not those
    that write `pending_recv` or `ref_count`, nor parking a task; of the changes of state only failing the stream
    (`handle_error`, `recv_eof`) and the `set_reset` of a stream whose reset was scheduled (scheduling it had forgotten a
    received END_STREAM already; any other `set_reset` forgets one) -/
def KR.kinds : Kind → Bool
  | .insert | .park | .appendRecv | .takeRecv | .refInc | .refDec => false
  | .state .handleError | .state .recvEof | .state .setResetScheduled => true
  | .state _ => false
  | _ => true

theorem keepsEos_of {id : Nat} {a b : State} (h : State.Step KR.kinds id a b) :
    a.isRecvEndStream = true → b.isRecvEndStream = true := by
  cases h with
  | handleError e => state_cases a <;> simp_all [State.isRecvEndStream, State.handleError]
  | recvEof => state_cases a <;> simp_all [State.isRecvEndStream, State.recvEof]
  | setResetScheduled r _ e => state_cases a <;> simp_all [State.getScheduledReset, State.isRecvEndStream]
  | sendOpen _ h | sendClose h | recvOpen _ _ h | recvClose h | reserveRemote h | reserveLocal h | recvReset _ _ h
  | setScheduledReset _ h | setReset _ _ h => exact absurd h (by decide)

theorem KR.of_state {a b : Stream} {id : Nat} (hk : b.key = a.key) (hi : b.id = a.id) (hq : b.pendingRecv = a.pendingRecv)
    (hc : b.refCount = a.refCount) (hs : b.sendTask = a.sendTask) (ho : b.openTask = a.openTask)
    (hr : b.recvTask = a.recvTask) (hp : b.pushTask = a.pushTask) (t : State.Step KR.kinds id a.state b.state) : KR a b :=
  ⟨⟨hk, hi, hq, hc, keepsEos_of t⟩, hk, hi, fun ⟨c, s, o, r, p⟩ => ⟨t.closed c, hs.trans s, ho.trans o, hr.trans r, hp.trans p⟩⟩

theorem KR.same {x y : Stream} (hk : y.key = x.key) (hi : y.id = x.id) (hq : y.pendingRecv = x.pendingRecv)
    (hc : y.refCount = x.refCount) (hst : y.state = x.state) (hs : y.sendTask = x.sendTask) (ho : y.openTask = x.openTask)
    (hr : y.recvTask = x.recvTask) (hp : y.pushTask = x.pushTask) : KR x y :=
  ⟨⟨hk, hi, hq, hc, by rw [hst]; exact id⟩, hk, hi, fun ⟨c, s, o, r, p⟩ =>
    ⟨by rw [hst]; exact c, hs.trans s, ho.trans o, hr.trans r, hp.trans p⟩⟩

theorem KR.of_updW {x : Stream} {p : Stream × List String} (h : Stream.UpdW KR.kinds x p) : KR x p.1 := by
  cases h with
  | notifySend =>
    rw [Stream.notifySend_fst]; exact ⟨⟨rfl, rfl, rfl, rfl, id⟩, rfl, rfl, fun ⟨c, _, _, r, p⟩ => ⟨c, rfl, rfl, r, p⟩⟩
  | notifyRecv =>
    rw [Stream.notifyRecv_fst]; exact ⟨⟨rfl, rfl, rfl, rfl, id⟩, rfl, rfl, fun ⟨c, a, b, _, p⟩ => ⟨c, a, b, rfl, p⟩⟩
  | notifyPush =>
    rw [Stream.notifyPush_fst]; exact ⟨⟨rfl, rfl, rfl, rfl, id⟩, rfl, rfl, fun ⟨c, a, b, r, _⟩ => ⟨c, a, b, r, rfl⟩⟩
  | notifyCapacity =>
    rw [Stream.notifyCapacity_fst]; exact ⟨⟨rfl, rfl, rfl, rfl, id⟩, rfl, rfl, fun ⟨c, _, _, r, p⟩ => ⟨c, rfl, rfl, r, p⟩⟩
  | assignCapacity c m =>
    rw [Stream.assignCapacity_fst]; split
    · exact ⟨⟨rfl, rfl, rfl, rfl, id⟩, rfl, rfl, fun ⟨c, _, _, r, p⟩ => ⟨c, rfl, rfl, r, p⟩⟩
    · exact .same rfl rfl rfl rfl rfl rfl rfl rfl rfl
  | setReset r i t =>
    rw [Stream.setReset_fst]; exact ⟨⟨rfl, rfl, rfl, rfl, keepsEos_of t⟩, rfl, rfl, fun _ => ⟨rfl, rfl, rfl, rfl, rfl⟩⟩

theorem KR.of_upd {x y : Stream} (h : Stream.Upd KR.kinds x y) : KR x y := by
  cases h with
  | waitSend _ h | waitOpen _ h | recvTask _ h | pushTask _ h | refInc h | refDec h | pushRecv _ h | popRecv _ _ h | clearRecv h =>
    exact absurd h (by decide)
  | state v t | reserved v t => exact .of_state rfl rfl rfl rfl rfl rfl rfl rfl t
  | sendData n m _ _ =>
    rw [Stream.sendData_fst]; split
    · exact ⟨⟨rfl, rfl, rfl, rfl, id⟩, rfl, rfl, fun ⟨c, _, _, r, p⟩ => ⟨c, rfl, rfl, r, p⟩⟩
    · exact .same rfl rfl rfl rfl rfl rfl rfl rfl rfl
  | decContentLength n _ e => obtain ⟨_, rfl⟩ := Stream.decContentLength_eq e; exact .same rfl rfl rfl rfl rfl rfl rfl rfl rfl
  | _ => exact .same rfl rfl rfl rfl rfl rfl rfl rfl rfl

def KR.kindsN (k : Kind) : Bool := KR.kinds k && !(k == .release || k == .unlink)

theorem GStep.of_step_ts {s s' : Streams} (h : Streams.Step KR.kinds s s') : TS s s' :=
  GStep.of_step rfl (fun _ => trivial) (fun _ => trivial) (fun _ _ => KR.of_upd) (fun _ _ => KR.of_updW)
    (fun x q v _ _ => ⟨keep_setQueued x q v, res_setQueued x q v⟩) (fun _ _ _ => KR.same rfl rfl rfl rfl rfl rfl rfl rfl rfl) h
theorem GStep.of_step_kr {s s' : Streams} (h : Streams.Step KR.kindsN s s') : GStep rm KR s s' :=
  have sub : ∀ k, KR.kindsN k → KR.kinds k := fun _ h => (Bool.and_eq_true_iff.mp h).1
  GStep.of_step rfl nofun nofun (fun _ _ u => KR.of_upd (u.mono sub)) (fun _ _ u => KR.of_updW (u.mono sub))
    (fun x q v _ _ => ⟨keep_setQueued x q v, res_setQueued x q v⟩) (fun _ _ _ => KR.same rfl rfl rfl rfl rfl rfl rfl rfl rfl) h

theorem t_sendHandleError (k : Nat) (h : GStep rm KR s0 s) : GStep rm KR s0 (s.sendHandleError k) :=
  h.trans (.of_step_kr (Streams.sendHandleError_step (by decide) s k))

theorem GStep.keep_of_kr (h : GStep rm KR s0 s) : GStep rm Keep s0 s := h.mono id fun _ _ h => h.1
theorem GStep.res_of_kr (h : GStep rm KR s0 s) : GStep rm Res s0 s := h.mono id fun _ _ h => h.2

theorem k_handleError (e : PErr) (h : KS s0 s) : KS s0 (s.handleError e).1 := h.trans (GStep.of_step_ts (Streams.handleError_step (by decide) s e)).keep_of_kr
theorem k_recvGoAwayFrame (l : Nat) (r : Reason) (d : Bytes) (h : KS s0 s) : KS s0 (s.recvGoAwayFrame l r d).1 :=
  h.trans (GStep.of_step_ts (Streams.recvGoAwayFrame_step (by decide) s l r d)).keep_of_kr
abbrev RS := GStep True Res

theorem r_handleError (e : PErr) (h : RS s0 s) : RS s0 (s.handleError e).1 := h.trans (GStep.of_step_ts (Streams.handleError_step (by decide) s e)).res_of_kr
theorem r_recvGoAwayFrame (l : Nat) (r : Reason) (d : Bytes) (h : RS s0 s) : RS s0 (s.recvGoAwayFrame l r d).1 :=
  h.trans (GStep.of_step_ts (Streams.recvGoAwayFrame_step (by decide) s l r d)).res_of_kr
theorem r_recvEof (b : Bool) (h : RS s0 s) : RS s0 (s.recvEof b) := h.trans (GStep.of_step_ts (Streams.recvEof_step (by decide) s b)).res_of_kr
end
end H2V.Lemmas.ConnWakeP
