import H2V.Lemmas.ConnCountsPRecv
/-
  C05 / C18 / C19 — local theorems: what single functions of the stream layer do at the limits
  (no induction over histories here; the invariants over histories are in `ConnCountsPInv*.lean`).
-/
namespace H2V.Lemmas.ConnCountsP
open H2V H2V.Model H2V.Model.Conn
variable {ρ : Bool}
attribute [local irreducible] wrapSubU32 wrapSubUsize

/-- after `transition_after` the slab holds no released entry under the key it was called for -/
theorem transitionAfter_no_released (s : Streams) (k : Nat) (b : Bool) :
    ∀ st, (s.transitionAfter k b).store.get? k = some st → st.isReleased = false := by
  unfold Streams.transitionAfter
  extract_lets st0 s1 s2
  split
  · intro st h
    simp only [remove_get?_self] at h
    cases h
  · next hn =>
    intro st h
    rw [stream_of_get? h] at hn
    simpa using hn

theorem decNumStreams_get?_ne (t : Streams) (k j : Nat) (hj : j ≠ k) (x : Stream) (hx : t.store.get? j = some x) :
    (t.decNumStreams k).store.get? j = some x := by
  rw [Streams.decNumStreams_get?, if_neg hj]; exact hx

/-- `pop_pending_open` opens nothing while `num_send_streams` has reached the peer's limit -/
theorem popPendingOpen_at_limit (s : Streams) (h : s.counts.canIncNumSendStreams = false) :
    s.popPendingOpen = (s, none) := by
  unfold Streams.popPendingOpen
  simp [h]

theorem incNumSendStreams_counts (s : Streams) (k : Nat) :
    (s.incNumSendStreams k).counts = { s.counts with numSendStreams := s.counts.numSendStreams + 1 } := by
  unfold Streams.incNumSendStreams
  dsimp only
  rw [Streams.modStream_counts]
  simp only [Streams.modCounts]
  split <;> split <;> simp only [panic_counts]

/-- a stream leaves `pending_open` only into a free slot, which it then occupies -/
theorem popPendingOpen_takes_slot (s s' : Streams) (k : Nat) (h : s.popPendingOpen = (s', some k)) :
    s.counts.numSendStreams < s.counts.maxSendStreams ∧
    s'.counts.numSendStreams = s.counts.numSendStreams + 1 ∧ s'.counts.maxSendStreams = s.counts.maxSendStreams := by
  unfold Streams.popPendingOpen at h
  split at h
  · next hc =>
    refine ⟨by simpa [Counts.canIncNumSendStreams] using hc, ?_⟩
    split at h
    · next s1 id heq =>
      have h1 : s1.counts = s.counts := by
        have := Streams.qPop_counts s .pendingOpen; rw [heq] at this; exact this
      simp only [Prod.mk.injEq] at h
      rw [← h.1, Streams.modStreamW_counts, incNumSendStreams_counts, h1]
      exact ⟨rfl, rfl⟩
    · cases h
  · cases h

/-- `Recv::open` at the limit: the stream is refused (`Ok(None)`), remembered in `refused`, and
    nothing else changes -/
theorem recvOpen_refuses (s : Streams) (id : Nat) (isPP : Bool) (nextId : Nat)
    (hr : s.recv.refused = none) (hnext : s.recv.nextStreamId = some nextId) (hid : nextId ≤ id)
    (hcan : (if s.counts.isServer then !(isPP || id % 2 == 0) else !(!isPP || !(id % 2 == 0))) = true)
    (hfull : s.counts.canIncNumRecvStreams = false) :
    (s.recvOpen id isPP).2 = .ok false ∧ (s.recvOpen id isPP).1.recv.refused = some id ∧
    (s.recvOpen id isPP).1.store = s.store ∧ (s.recvOpen id isPP).1.counts = s.counts ∧
    (s.recvOpen id isPP).1.recv.pendingAccept = s.recv.pendingAccept := by
  unfold Streams.recvOpen
  simp only [hr, Option.isSome_none, Bool.false_eq_true, if_false, hcan, Bool.not_true, hnext]
  have : ¬ id < nextId := by omega
  simp only [this, if_false]
  have hc : (s.modRecv fun r => { r with nextStreamId := if id + 2 > 2147483647 then none else some (id + 2) }).counts = s.counts := rfl
  simp only [hc, hfull, Bool.not_false, if_true]
  refine ⟨?_, ?_, ?_, ?_, ?_⟩ <;> first | rfl | trivial

/-- the refusal is answered with `RST_STREAM(REFUSED_STREAM)` as soon as the codec takes a frame -/
theorem sendPendingRefusal_writes (s : Streams) (w : Writer) (sid : Nat) (hr : s.recv.refused = some sid)
    (hw : w.hasCapacity = true) :
    s.sendPendingRefusal w =
      (s.modRecv fun r => { r with refused := none }, w.bufferSimple 4 s!"R:{sid}:{REFUSED_STREAM}", .complete) := by
  unfold Streams.sendPendingRefusal
  simp [hr, hw]

/-- the local-error-reset quota: at the limit a stream error becomes a connection error
    (`GOAWAY(ENHANCE_YOUR_CALM)`), no RST_STREAM is queued, nothing is remembered -/
theorem resetOnRecvStreamErr_at_limit (s : Streams) (k sid : Nat) (r : Reason) (i : Initiator)
    (h : s.counts.canIncNumLocalErrorResets = false) :
    s.resetOnRecvStreamErr k (.error (.reset sid r i)) =
      (s, .error (PErr.libraryGoAwayData ENHANCE_YOUR_CALM "too_many_internal_resets")) := by
  unfold Streams.resetOnRecvStreamErr
  simp [h]

/-- the pending-accept reset quota: a RST_STREAM for a stream the application has not accepted yet,
    beyond `max_pending_accept_reset_streams`, kills the connection and changes nothing -/
theorem recvRecvReset_at_limit (s : Streams) (k : Nat) (r : Reason)
    (hp : (s.stream k).isPendingAccept = true) (h : s.counts.canIncNumRemoteResetStreams = false) :
    s.recvRecvReset k r = (s, .error (PErr.libraryGoAwayData ENHANCE_YOUR_CALM "too_many_resets")) := by
  unfold Streams.recvRecvReset
  simp [hp, h]

/-- `enqueue_reset_expiration` never lets `num_local_reset_streams` pass `max_concurrent_reset_streams` -/
theorem enqueueResetExpiration_bound (s : Streams) (k : Nat)
    (h : s.counts.numLocalResetStreams ≤ s.counts.maxLocalResetStreams) :
    (s.enqueueResetExpiration k).counts.numLocalResetStreams ≤ (s.enqueueResetExpiration k).counts.maxLocalResetStreams := by
  unfold Streams.enqueueResetExpiration
  dsimp only
  split
  · exact h
  · split
    · next hc =>
      have : ((s.modCountsA "can_inc_num_reset_streams" Counts.incNumResetStreams).qPush .pendingResetExpired k).1.counts =
          (s.modCountsA "can_inc_num_reset_streams" Counts.incNumResetStreams).counts := by
        unfold Streams.qPush; split
        · rfl
        · rw [setQ_counts, Streams.modStream_counts]
      rw [this]
      unfold Streams.modCountsA Counts.incNumResetStreams
      simp only [hc, if_true]
      simp only [Counts.canIncNumResetStreams, decide_eq_true_eq] at hc
      show s.counts.numLocalResetStreams + 1 ≤ s.counts.maxLocalResetStreams
      omega
    · exact h

/-- feed a sequence of DATA payload lengths (none of them END_STREAM) through `record_data_frame`:
    `none` = `Err(BudgetExhausted)`, which `recv_data` turns into `GOAWAY(ENHANCE_YOUR_CALM)` -/
def recordAll : Counts → List Nat → Option Counts
  | c, [] => some c
  | c, n :: rest => if (c.recordDataFrame n).2 then recordAll (c.recordDataFrame n).1 rest else none

/-- what small non-empty frames cost -/
def tinyCost (l : List Nat) : Nat :=
  (l.map fun n => Generated.Consts.DEFAULT_DATA_FRAME_OVERHEAD_THRESHOLD - n).sum

/-- a flood of small non-empty DATA frames whose total overhead exceeds the budget is cut off -/
theorem tiny_data_flood (l : List Nat) : ∀ (c : Counts),
    (∀ n ∈ l, n ≠ 0 ∧ n < Generated.Consts.DEFAULT_DATA_FRAME_OVERHEAD_THRESHOLD) →
    c.dataFrameBudget.available < tinyCost l → recordAll c l = none := by
  induction l with
  | nil => intro c _ h; simp [tinyCost] at h
  | cons n rest ih =>
    intro c hl hb
    have hn := hl n (List.mem_cons_self)
    have hrec : c.recordDataFrame n =
        (match c.dataFrameBudget.consume (Generated.Consts.DEFAULT_DATA_FRAME_OVERHEAD_THRESHOLD - n) with
         | some b => ({ c with dataFrameBudget := b }, true)
         | none => (c, false)) := by
      unfold Counts.recordDataFrame
      dsimp only
      rw [if_neg hn.1, if_pos hn.2]
      rfl
    unfold recordAll
    rw [hrec]
    unfold Budget.consume
    by_cases hge : c.dataFrameBudget.available ≥ Generated.Consts.DEFAULT_DATA_FRAME_OVERHEAD_THRESHOLD - n
    · simp only [hge, if_true]
      apply ih
      · intro m hm; exact hl m (List.mem_cons_of_mem _ hm)
      · simp only [tinyCost, List.map_cons, List.sum_cons] at hb ⊢
        show c.dataFrameBudget.available - (Generated.Consts.DEFAULT_DATA_FRAME_OVERHEAD_THRESHOLD - n) < _
        omega
    · simp only [hge, if_false]
      rfl

/-- empty DATA frames (without END_STREAM) beyond `MAX_RECV_EMPTY_DATA_FRAMES` are refused -/
theorem empty_data_flood (c : Counts) (h : Generated.Consts.MAX_RECV_EMPTY_DATA_FRAMES ≤ c.numRecvEmptyDataFrames) :
    (c.recordDataFrame 0).2 = false := by
  unfold Counts.recordDataFrame
  simp only [if_true]
  split
  · rfl
  · simp only [decide_eq_false_iff_not]
    omega

theorem empty_counter_grows (c : Counts) (n : Nat) :
    c.numRecvEmptyDataFrames ≤ (c.recordDataFrame n).1.numRecvEmptyDataFrames := by
  unfold Counts.recordDataFrame
  dsimp only
  split
  · split
    · exact Nat.le_refl _
    · exact Nat.le_succ _
  · split
    · split <;> exact Nat.le_refl _
    · exact Nat.le_refl _

/-- `Inner::recv_headers` for a new stream beyond the advertised limit: the frame is dropped, no
    stream is created, nothing is queued for `accept`; only `next_stream_id` and `refused` move -/
theorem recvHeaders_refuses (s : Streams) (h : HeadersIn) (nextId : Nat)
    (hsv : s.counts.isServer = true) (hmax : ¬ h.sid > s.recv.maxStreamId) (hnew : s.store.findKey? h.sid = none)
    (hr : s.recv.refused = none) (hnext : s.recv.nextStreamId = some nextId) (hid : nextId ≤ h.sid)
    (hodd : h.sid % 2 = 1) (hfull : s.counts.canIncNumRecvStreams = false) :
    (s.recvHeaders h).2 = .ok () ∧ (s.recvHeaders h).1.store = s.store ∧ (s.recvHeaders h).1.counts = s.counts ∧
    (s.recvHeaders h).1.recv.pendingAccept = s.recv.pendingAccept ∧ (s.recvHeaders h).1.recv.refused = some h.sid := by
  have hcan : (if s.counts.isServer then !(false || h.sid % 2 == 0) else !(!false || !(h.sid % 2 == 0))) = true := by
    simp [hsv, hodd]
  obtain ⟨h1, h2, h3, h4, h5⟩ := recvOpen_refuses s h.sid false nextId hr hnext hid hcan hfull
  unfold Streams.recvHeaders
  simp only [hmax, if_false, hnew, hsv, Bool.not_true, Bool.false_and, Bool.false_eq_true]
  generalize hro : s.recvOpen h.sid false = ro at h1 h2 h3 h4 h5
  obtain ⟨s1, r1⟩ := ro
  simp only at h1 h2 h3 h4 h5
  subst h1
  exact ⟨rfl, h3, h4, h5, h2⟩

/-- `Recv::recv_headers` for a stream that is still uncounted (a promised stream whose response
    arrives) when the limit is reached: the stream is refused with a stream error
    `REFUSED_STREAM`; it is not counted, and no `assert!` fires (fix F31) -/
theorem recvRecvHeaders_refuses (s : Streams) (id : Nat) (h : HeadersIn) (x : Stream) (st' : State)
    (hx : s.store.get? id = some x) (ho : x.state.recvOpen h.eos h.isInformational = (st', .ok true))
    (hc : x.isCounted = false) (hfull : s.counts.canIncNumRecvStreams = false) :
    (s.recvRecvHeaders id h).2 = .state (PErr.libraryReset x.id REFUSED_STREAM) ∧
    (s.recvRecvHeaders id h).1.counts = s.counts ∧ (s.recvRecvHeaders id h).1.panicked = s.panicked := by
  have hm := modStream_get?_self s id (fun st => { st with state := st' }) x hx rfl
  have hcnt : (s.modStream id fun st => { st with state := st' }).counts = s.counts := by
    unfold Streams.modStream; rw [hx]; rfl
  have hpan : (s.modStream id fun st => { st with state := st' }).panicked = s.panicked := by
    unfold Streams.modStream; rw [hx]; rfl
  unfold Streams.recvRecvHeaders
  rw [stream_of_get? hx, ho]
  dsimp only
  rw [stream_of_get? hm, hcnt, hfull]
  simp only [hc, Bool.not_false, Bool.and_self, if_true]
  exact ⟨by first | rfl | trivial, hcnt, hpan⟩

/-- as soon as there is room, the head of `pending_open` is opened -/
theorem popPendingOpen_opens (s : Streams) (k : Nat) (rest : List Nat) (hc : s.counts.canIncNumSendStreams = true)
    (hq : s.prio.pendingOpen = k :: rest) : s.popPendingOpen.2 = some k := by
  unfold Streams.popPendingOpen Streams.qPop
  have : s.getQ .pendingOpen = k :: rest := hq
  simp only [hc, if_true, this]

/-- `Inner::recv_data`: a DATA frame (without END_STREAM) that the stream accepts but that exhausts
    the DATA-frame budget (or the empty-frame allowance) kills the connection with
    `GOAWAY(ENHANCE_YOUR_CALM, "too_many_data_frames")` -/
theorem recvData_flood (s : Streams) (id k : Nat) (payload : Bytes) (pad : Option Nat)
    (hk : s.store.findKey? id = some k)
    (hok : (s.recvRecvData k payload false pad).2 = .ok ())
    (hbud : ((s.recvRecvData k payload false pad).1.counts.recordDataFrame payload.length).2 = false) :
    (s.recvData id payload false pad).2 = .error (PErr.libraryGoAwayData ENHANCE_YOUR_CALM "too_many_data_frames") := by
  unfold Streams.recvData
  simp only [hk]
  unfold Streams.transition
  dsimp only
  generalize hr : s.recvRecvData k payload false pad = r at hok hbud
  obtain ⟨s1, res⟩ := r
  simp only at hok hbud
  subst hok
  simp only [Bool.not_false, if_true]
  generalize hrec : s1.counts.recordDataFrame payload.length = rec at hbud
  obtain ⟨c, ok⟩ := rec
  simp only at hbud
  subst hbud
  simp only [Bool.false_eq_true, if_false]
  unfold Streams.resetOnRecvStreamErr PErr.libraryGoAwayData
  rfl

end H2V.Lemmas.ConnCountsP
