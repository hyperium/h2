import H2V.Lemmas.ConnNoPanicPPushFns
import H2V.Lemmas.ConnHeadersRule
import H2V.Lemmas.ConnPushRule
import H2V.Lemmas.ConnStepLoops
/-
  C08 (no panic) — PUSH_PROMISE bookkeeping: the operations that insert an entry (`recv_headers`,
  `Inner::send_reset`, `send_request`, `send_push_promise`) and `drop_stream_ref`.
  A new entry has no link flag and an empty list, so inserting is `PF`.  The error path `unlink; remove` of
  `send_request` / `send_push_promise` takes the new entry out again: the lists are as before (`PW`) in any case, the
  rest of the frame needs the new key to be fresh (`KeysOK`).  `drop_stream_ref` empties a list and lets the promised
  streams go: its own frame `DF` (`PW`, `recv.next_stream_id` forward, `HB` through a handle), not `HR`.
-/
namespace H2V.Lemmas.ConnNoPanicP
open H2V H2V.Model H2V.Model.Conn H2V.Lemmas.ConnCountsP
attribute [local irreducible] wrapSubU32 wrapSubUsize
variable {ks : List Nat}

theorem insert_pf (s : Streams) (st : Stream) (hf : st.isPendingAccept = false) (hp : st.pendingPushPromises = []) :
    PF ks s { s with store := (s.store.insert st).1 } := by
  have hold : ∀ c x, s.store.get? c = some x →
      ({ s with store := (s.store.insert st).1 } : Streams).stream c = s.stream c := fun c x hx => by
    rw [stream_of_get? (s := { s with store := (s.store.insert st).1 }) (insert_get?_old s.store st c x hx), stream_of_get? hx]
  refine ⟨fun j => ?_, held_iff_of_qf (QF.insert .pendingAccept s st hf), .refl _, fun c hc _ => ?_⟩
  · rcases insert_get?_cases s.store st j with e | ⟨_, _, e⟩
    · left
      have : ({ s with store := (s.store.insert st).1 } : Streams).stream j = s.stream j := by
        unfold Streams.stream; show ((s.store.insert st).1.get? j).getD _ = _; rw [e]
      rw [this]
    · right
      have : ({ s with store := (s.store.insert st).1 } : Streams).stream j = { st with key := s.store.nextKey } :=
        stream_of_get? e
      rw [this]; exact hp
  · obtain ⟨x, hx, _⟩ := ((held_iff_of_qf (QF.insert .pendingAccept s st hf) c).mp hc).1
    rw [hold c x hx]; exact ⟨rfl, .refl _⟩

/-- the error path `unlink(id); remove(key)`: the surviving entries are untouched -/
theorem unlinkRemove_stream {s : Streams} {id k j : Nat} (hl : Live ({ s with store := (s.store.unlink id).remove k } : Streams) j) :
    j ≠ k ∧ Live s j ∧ ({ s with store := (s.store.unlink id).remove k } : Streams).stream j = s.stream j := by
  have hjk : j ≠ k := by
    intro hjk; subst hjk
    obtain ⟨x, hx⟩ := hl
    have : ((s.store.unlink id).remove j).get? j = some x := hx
    rw [remove_get?_self] at this; cases this
  have e : ((s.store.unlink id).remove k).get? j = s.store.get? j := by
    rw [remove_get?_ne _ _ _ hjk]; rfl
  obtain ⟨x, hx⟩ := hl
  have hx' : s.store.get? j = some x := by rw [← e]; exact hx
  exact ⟨hjk, ⟨x, hx'⟩, by rw [stream_of_get? (s := { s with store := (s.store.unlink id).remove k }) hx, stream_of_get? hx']⟩

theorem unlinkRemove_pw (s : Streams) (id k : Nat) : PW s { s with store := (s.store.unlink id).remove k } :=
  .of_live fun j hl => .inl (by rw [(unlinkRemove_stream hl).2.2])

theorem unlinkRemove_pf (s : Streams) (id k : Nat) (hk : ¬ Held s k) : PF ks s { s with store := (s.store.unlink id).remove k } := by
  refine ⟨unlinkRemove_pw s id k, fun c => ⟨fun hc => ?_, fun hc => ?_⟩, .refl _, fun c hc _ => ?_⟩
  · obtain ⟨⟨x, hx, hq⟩, hnot⟩ := hc
    obtain ⟨_, _, e⟩ := unlinkRemove_stream ⟨x, hx⟩
    obtain ⟨y, hy⟩ := (unlinkRemove_stream ⟨x, hx⟩).2.1
    exact ⟨⟨y, hy, by rw [← stream_of_get? hy, ← e, stream_of_get? hx]; exact hq⟩, hnot⟩
  · have hck : c ≠ k := fun e => hk (e ▸ hc)
    obtain ⟨⟨x, hx, hq⟩, hnot⟩ := hc
    refine ⟨⟨x, ?_, hq⟩, hnot⟩
    show ((s.store.unlink id).remove k).get? c = some x
    rw [remove_get?_ne _ _ _ hck]; exact hx
  · rw [(unlinkRemove_stream (held_live hc)).2.2]; exact ⟨rfl, .refl _⟩

theorem not_held_nextKey {s : Streams} (hk : KeysOK s) : ¬ Held s s.store.nextKey := fun h => by
  obtain ⟨x, hx, _⟩ := h.1
  rw [get?_nextKey_none hk.fresh] at hx; cases hx

theorem new_ppp (id a b : Nat) : (Stream.new id a b).pendingPushPromises = [] := rfl
theorem new_acc' (id a b : Nat) : (Stream.new id a b).isPendingAccept = false := rfl

theorem recvHeaders_pf (s : Streams) (h : HeadersIn) : PF ks s (s.recvHeaders h).1 :=
  Streams.recvHeaders_rel pf_relOK h (recvOpen_pf · h.sid false) (fun s => insert_pf s _ (new_acc' _ _ _) (new_ppp _ _ _))
    (fun s k => .of_step (Streams.recvHeadersBody_step (by decide) s k h)) transitionAfter_pf s

theorem innerSendReset_pf (s : Streams) (id : Nat) (r : Reason) : PF ks s (s.innerSendReset id r).1 := by
  unfold Streams.innerSendReset
  dsimp only
  split
  · exact actionsSendReset_pf _ _ _ _
  · dsimp only
    generalize hs1 : (if s.counts.isLocalInit id = true then s.sendMaybeResetNextStreamId id else s.recvMaybeResetNextStreamId id) = s1
    have h1 : PF ks s s1 := by
      rw [← hs1]
      exact PF.ite (.of_step (Streams.sendMaybeResetNextStreamId_step (by decide) _ _))
        (.of_step (Streams.recvMaybeResetNextStreamId_step (by decide) _ _))
    exact (h1.trans (insert_pf s1 _ (new_acc' _ _ _) (new_ppp _ _ _))).trans (actionsSendReset_pf _ _ _ _)

/-- the new entry sits at `next_key`; the handle handed out raises its `ref_count` -/
theorem PF.fresh {s s' : Streams} (h : PF (s.store.nextKey :: ks) s s') : PW s s' ∧ (KeysOK s → PF ks s s') :=
  ⟨h.pw, fun hk => h.drop_key fun hh => not_held_nextKey hk ((h.held _).mp hh)⟩

theorem PF.fresh_undo {s s' : Streams} (h : PF (s.store.nextKey :: ks) s s') (id : Nat) :
    PW s { s' with store := (s'.store.unlink id).remove s.store.nextKey } ∧
      (KeysOK s → PF ks s { s' with store := (s'.store.unlink id).remove s.store.nextKey }) :=
  ⟨h.pw.trans (unlinkRemove_pw _ _ _), fun hk =>
    have hn : ¬ Held s' s.store.nextKey := fun hh => not_held_nextKey hk ((h.held _).mp hh)
    (h.drop_key hn).trans (unlinkRemove_pf _ _ _ hn)⟩

theorem sendRequest_pf (s : Streams) (isHead : Bool) (fields : List Hpack.Field) (eos : Bool) (pending : Option Nat) :
    PW s (s.sendRequest isHead fields eos pending).1 ∧ (KeysOK s → PF ks s (s.sendRequest isHead fields eos pending).1) :=
  SendRequestRule.run (I := PF (s.store.nextKey :: ks) s)
    (Q := fun t => PW s t ∧ (KeysOK s → PF ks s t)) (L := fun _ k _ => k = s.store.nextKey)
    (L' := fun _ k _ => k = s.store.nextKey)
    { pre := ⟨.refl _, fun _ => .refl _ _⟩
      opn := sendOpenId_pf s
      done := fun _ ht => ht.fresh
      ins := fun s1 id sP hso hP => by
        have h1 : PF (s.store.nextKey :: ks) s s1 := of_fst_eq hso (sendOpenId_pf s)
        have hst1 : s1.store = s.store := by have := sendOpenId_store s; rw [hso] at this; exact this
        have h2 : PF (s.store.nextKey :: ks) s sP ∧ sP.store = s.store := by
          rw [hP]; split
          · exact ⟨h1.trans (panic_pf _ _), by rw [panic_store, hst1]⟩
          · exact ⟨h1, hst1⟩
        refine ⟨h2.1.trans (insert_pf sP _ ?_ ?_), by rw [h2.2]⟩
        · unfold requestStream; split <;> rfl
        · unfold requestStream; split <;> rfl
      hdr := fun t _ k ht hk => ⟨ht.trans (sendHeaders_pf t k eos fields), hk⟩
      undo := fun t id k _ _ ht hk heq => hk ▸ (ht.trans (of_fst_eq heq (sendHeaders_pf t k eos fields))).fresh_undo id
      fin := fun t _ k ht hk => by
        subst hk
        refine (ht.trans (PF.trans ?_ (refInc_pf _ _ (List.mem_cons_self ..)))).fresh
        exact setMisc_pf t t.actions (t.refs + 1) t.recvBufferLeaked t.wakes t.unsupported ⟨rfl, rfl⟩ } pending

theorem sendReserveLocal_store (s : Streams) : s.sendReserveLocal.1.store = s.store := by
  unfold Streams.sendReserveLocal; exact sendOpenId_store s

theorem refSendPushPromise_pf (s : Streams) (parent : Nat) (valid : Bool) (fields : List Hpack.Field) :
    PW s (s.refSendPushPromise parent valid fields).1 ∧ (KeysOK s → PF ks s (s.refSendPushPromise parent valid fields).1) :=
  PushRule.run (I := PF (s.store.nextKey :: ks) s)
    (Q := fun t => PW s t ∧ (KeysOK s → PF ks s t)) (L := fun _ k _ => k = s.store.nextKey) (L' := fun _ k _ => k = s.store.nextKey)
    { opn := PF.of_step (Streams.sendReserveLocal_step (by decide) s)
      done := fun _ ht => ht.fresh
      ins := fun s1 pid sP hso hP => by
        have h1 : PF (s.store.nextKey :: ks) s s1 := of_fst_eq hso (PF.of_step (Streams.sendReserveLocal_step (by decide) s))
        have hst1 : s1.store = s.store := by have := sendReserveLocal_store s; rw [hso] at this; exact this
        have h2 : PF (s.store.nextKey :: ks) s sP ∧ sP.store = s.store := by
          rw [hP]; split
          · exact ⟨h1.trans (panic_pf _ _), by rw [panic_store, hst1]⟩
          · exact ⟨h1, hst1⟩
        exact ⟨h2.1.trans (insert_pf sP _ (new_acc' _ _ _) (new_ppp _ _ _)), by rw [h2.2]⟩
      reserve := fun t _ k _ _ ht hk _ => ⟨ht.trans (modStream_pf _ _ _ (.inl fun _ => ⟨rfl, rfl, .inl rfl, rfl, .refl _⟩)), hk⟩
      undo := fun t pid k _ _ ht hk heq =>
        hk ▸ (ht.trans (of_fst_eq heq (PF.of_step (Streams.sendPushPromise_step (by decide) t parent k pid fields)))).fresh_undo pid
      fin := fun t pid k s5 _ ht hk heq => by
        subst hk
        refine ((ht.trans (of_fst_eq heq (PF.of_step (Streams.sendPushPromise_step (by decide) t parent _ pid fields)))).trans
          (PF.trans ?_ (refInc_pf _ _ (List.mem_cons_self ..)))).fresh
        exact setMisc_pf s5 s5.actions (s5.refs + 1) s5.recvBufferLeaked s5.wakes s5.unsupported ⟨rfl, rfl⟩ } valid

/-- one round of the loop over the promised streams (copied from the model; `dropFold_eq` is `rfl`) -/
def dropStep (s : Streams) (promise : Nat) : Streams :=
        let s := s.modStream promise fun st => { st with isPendingAccept := false }
        (s.transition promise fun s =>
          let s := s.maybeCancel promise
          (if (s.stream promise).refCount == 0 then s.releaseClosedCapacity promise else s, ())).1

theorem dropFold_eq (l : List Nat) (s : Streams) : dropFold l s = l.foldl dropStep s := rfl

def dropStepClosure (c : Nat) (s : Streams) : Streams × Unit :=
  (if ((s.maybeCancel c).stream c).refCount == 0 then (s.maybeCancel c).releaseClosedCapacity c else s.maybeCancel c, ())

theorem dropStep_eq (s : Streams) (c : Nat) :
    dropStep s c = ((s.modStream c fun st => { st with isPendingAccept := false }).transition c (dropStepClosure c)).1 := rfl

theorem dropStepClosure_pf (c : Nat) (s : Streams) (hc : c ∈ ks) : PF ks s (dropStepClosure c s).1 := by
  unfold dropStepClosure
  dsimp only
  split
  · exact (maybeCancel_pf _ _).trans (releaseClosedCapacity_pf _ _ hc)
  · exact maybeCancel_pf _ _

theorem unflag_hb (s : Streams) (c : Nat) : HB s (s.modStream c fun st => { st with isPendingAccept := false }) ∧
    ¬ Held (s.modStream c fun st => { st with isPendingAccept := false }) c := by
  have hnot : ¬ Held (s.modStream c fun st => { st with isPendingAccept := false }) c := by
    intro hc
    obtain ⟨x, hx, hfl⟩ := hc.1
    have hl : Live s c := (SameKeys.modStream _ _ _).live.mp ⟨x, hx⟩
    have := stream_modStream_live hl (fun st => { st with isPendingAccept := false }) (fun _ => rfl)
    rw [stream_of_get? hx] at this
    rw [this] at hfl; cases hfl
  refine ⟨⟨fun c' hc' => ?_⟩, hnot⟩
  have hne : c' ≠ c := fun e => hnot (e ▸ hc')
  have hst : (s.modStream c fun st => { st with isPendingAccept := false }).stream c' = s.stream c' :=
    Streams.stream_modStream_ne s c (f := fun st => { st with isPendingAccept := false }) (fun _ => rfl) hne
  obtain ⟨⟨x, hx, hfl⟩, hq⟩ := hc'
  have hl : Live s c' := (SameKeys.modStream _ _ _).live.mp ⟨x, hx⟩
  obtain ⟨y, hy⟩ := hl
  have hxy : x = y := by rw [← stream_of_get? hx, hst, stream_of_get? hy]
  rw [hst]
  refine ⟨⟨⟨y, hy, hxy ▸ hfl⟩, ?_⟩, rfl, .refl _⟩
  rw [ConnResetP.modStream_recv] at hq; exact hq

theorem unflag_pw (s : Streams) (c : Nat) : PW s (s.modStream c fun st => { st with isPendingAccept := false }) :=
  fun j => .inl (SPr.modStream (P := (·.pendingPushPromises)) s c (fun st => { st with isPendingAccept := false })
    (fun _ => rfl) (fun _ => rfl) j)

theorem setPPP_hr (s : Streams) (k : Nat) (g : Stream → List Nat) :
    HR s (s.modStream k fun st => { st with pendingPushPromises := g st }) :=
  ⟨fun c hc => (held_iff_of_qf (QF.modStream _ s k (fun st => { st with pendingPushPromises := g st }) (fun _ => rfl) (fun _ => rfl)) c).mpr hc,
   by rw [ConnResetP.modStream_recv]; exact .refl _⟩
theorem setPPP_hb (s : Streams) (k : Nat) (g : Stream → List Nat) :
    HB s (s.modStream k fun st => { st with pendingPushPromises := g st }) := ⟨fun c hc => by
  have hqf := QF.modStream .pendingAccept s k (fun st => { st with pendingPushPromises := g st }) (fun _ => rfl) (fun _ => rfl)
  have hs := SPr.modStream (P := fun x => (x.refCount, x.pendingRecv)) s k (fun st => { st with pendingPushPromises := g st })
    (fun _ => rfl) (fun _ => rfl) c
  exact ⟨(held_iff_of_qf hqf c).mp hc, (Prod.mk.inj hs).1, [], by rw [(Prod.mk.inj hs).2, List.append_nil]⟩⟩

theorem dropClosure_head (k : Nat) (s : Streams) : PF [k] s ((s.maybeCancel k).releaseClosedCapacity k) :=
  (maybeCancel_pf s k).trans (releaseClosedCapacity_pf _ k (List.mem_cons_self ..))

/-- the closure only cancels, or it is the last handle and the promised streams are let go as well -/
theorem dropClosure_cases (k : Nat) (s : Streams) :
    (dropClosure k s).1 = s.maybeCancel k ∨
    (dropClosure k s).1 = dropFold (((s.maybeCancel k).releaseClosedCapacity k).stream k).pendingPushPromises
      (((s.maybeCancel k).releaseClosedCapacity k).modStream k fun st => { st with pendingPushPromises := [] }) := by
  unfold dropClosure
  dsimp only
  split
  · right; dsimp only
  · left; dsimp only

/-- the frame of `drop_stream_ref` through a handle on `k`: every list unchanged or emptied, `recv.next_stream_id`
    forward, and — when `k` is not held — the backward frame `HB` (promised streams are let go, so not `HR`) -/
structure DF (k : Nat) (s s' : Streams) : Prop where
  pw : PW s s'
  next : RNext s.recv.nextStreamId s'.recv.nextStreamId
  hb : ¬ Held s k → HB s s'

theorem DF.refl (k : Nat) (s : Streams) : DF k s s := ⟨.refl _, .refl _, fun _ => .refl _⟩
theorem DF.trans {k : Nat} {a b c : Streams} (h1 : DF k a b) (h2 : DF k b c) : DF k a c :=
  ⟨h1.pw.trans h2.pw, h1.next.trans h2.next, fun hk =>
    (h1.hb hk).trans (h2.hb fun h => hk ((h1.hb hk).back k h).1)⟩
theorem PF.df {k : Nat} {s s' : Streams} (h : PF ks s s') (hks : ∀ c ∈ ks, c = k) : DF k s s' :=
  ⟨h.pw, h.next, fun hk => h.hb fun c hc => by rw [hks c hc]; exact hk⟩
theorem df_relOK (k : Nat) : Conn.RelOK (DF k) :=
  ⟨DF.refl k, DF.trans, fun s m => (panic_pf (ks := []) s m).df fun _ h => nomatch h⟩

/-- one round of the loop: the promised stream is unflagged first, so what is done to it afterwards is done to an
    entry that is not held -/
theorem dropStep_df (k : Nat) (u : Streams) (c : Nat) : DF k u (dropStep u c) := by
  rw [dropStep_eq]
  obtain ⟨h1, hn1⟩ := unflag_hb u c
  have h2 := transition_pf (ks := [c]) (u.modStream c fun st => { st with isPendingAccept := false }) c _
    (fun s => dropStepClosure_pf c s (List.mem_cons_self ..))
  refine ⟨(unflag_pw u c).trans h2.pw, RNext.trans (by rw [Streams.modStream_recv]; exact .refl _) h2.next, fun _ =>
    h1.trans (h2.hb fun j hj => ?_)⟩
  rw [List.mem_singleton.mp hj]; exact hn1

theorem dropFold_df (k : Nat) (L : List Nat) (u : Streams) : DF k u (dropFold L u) := by
  rw [dropFold_eq]; exact Streams.foldl_rel (df_relOK k) (dropStep_df k) L u

theorem dropClosure_df (k : Nat) (s : Streams) : DF k s (dropClosure k s).1 := by
  rcases dropClosure_cases k s with e | e <;> rw [e]
  · exact (maybeCancel_pf (ks := []) s k).df fun _ h => nomatch h
  · refine (((dropClosure_head k s).df fun c hc => List.mem_singleton.mp hc).trans ?_).trans (dropFold_df k _ _)
    exact (modStream_pf (ks := []) _ k (fun st => { st with pendingPushPromises := [] })
      (.inl fun _ => ⟨rfl, rfl, .inr rfl, rfl, .refl _⟩)).df fun _ h => nomatch h

theorem dropStreamRef_df (s : Streams) (k : Nat) : DF k s (s.dropStreamRef k) := by
  rw [dropStreamRef_eq]
  refine ((dropPre_pf (ks := [k]) s k (List.mem_cons_self ..)).df fun c hc => List.mem_singleton.mp hc).trans ?_
  exact Streams.transition_rel (df_relOK k) _ k _ (dropClosure_df k _)
    (fun _ _ => (transitionAfter_pf (ks := []) _ _ _).df fun _ h => nomatch h)

end H2V.Lemmas.ConnNoPanicP
