import H2V.Lemmas.ConnNoPanicPDsOxFns
/-
  C08 (no panic) — the residual hypothesis `OH` as an invariant: `clear_queue`, `Send::handle_error`, `send_reset`,
  `schedule_implicit_reset`, `send_trailers`, the typed `send_push_promise` / `send_interim_informational_headers`.
-/
namespace H2V.Lemmas.ConnNoPanicP
open H2V H2V.Model H2V.Model.Conn H2V.Lemmas.ConnCountsP
attribute [local irreducible] wrapSubU32 wrapSubUsize

variable {sv : Bool}

def ClosedAt (s : Streams) (k : Nat) : Prop := Live s k → (s.stream k).state.isClosed = true

theorem ClosedAt.of_store {s t : Streams} {k : Nat} (h : t.store = s.store) (hc : ClosedAt s k) : ClosedAt t k := by
  intro hl
  rw [stream_of_store_eqP h]
  exact hc (by unfold Live at *; rw [← h]; exact hl)

theorem ClosedAt.modStream {s : Streams} {k : Nat} (g : Stream → Stream) (hk : ∀ x, (g x).key = x.key)
    (hg : ∀ x, (g x).state = x.state) (hc : ClosedAt s k) : ClosedAt (s.modStream k g) k := by
  intro hl
  have hl0 : Live s k := (SameKeys.modStream s k g).live.mp hl
  rw [stream_modStream_live hl0 g hk, hg]; exact hc hl0

theorem closedAt_setReset (s : Streams) (k : Nat) (r : Reason) (i : Initiator) :
    ClosedAt (s.modStreamW k fun st => st.setReset r i) k := by
  intro hl
  have hl0 : Live s k := by
    unfold Live at *
    by_cases h : ∃ x, s.store.get? k = some x
    · exact h
    · have hn := get?_none_of_not_live (s := s) (k := k) h
      unfold Streams.modStreamW at hl; rw [hn, panic_store] at hl; exact hl
  rw [stream_modStreamW_live hl0 _ (fun x => (ConnFlowP.setReset_state x r i).2), (ConnFlowP.setReset_state _ r i).1]
  rfl

theorem xp_clear (x : Stream) (h : x.state.isSendStreaming = false) : (fClr x).key = x.key ∧ Xp sv x (fClr x) := by
  refine ⟨rfl, ⟨fun r hx => ⟨fun hl hs => ⟨rfl, (hx.n hl hs).2.1, rfl⟩, fun hf => ?_, fun _ => Nat.zero_le _⟩⟩⟩
  rcases hx.f hf with hw | hd
  · exact .inl ⟨hw.1, rfl, fun _ => ⟨h, rfl⟩⟩
  · exact .inr ⟨hd.1, rfl, rfl⟩

theorem clearQueue_xk (s : Streams) (k : Nat) (h : Live s k → (s.stream k).state.isSendStreaming = false) :
    XK sv s (s.clearQueue k) := by
  have h1 : XK sv s (s.modStream k fClr) := modStream_xk_live _ _ _ (fun hl => xp_clear _ (h hl))
  rw [clearQueue_eq]
  split
  · split
    · exact h1.trans (modPrio_xk _ _)
    · exact h1
  · exact h1

theorem clearQueue_closedAt {s : Streams} {k : Nat} (hc : ClosedAt s k) : ClosedAt (s.clearQueue k) k := by
  have h1 : ClosedAt (s.modStream k fClr) k := hc.modStream fClr (fun _ => rfl) (fun _ => rfl)
  rw [clearQueue_eq]
  split
  · split
    · exact h1.of_store rfl
    · exact h1
  · exact h1

theorem sendHandleError_xk (s : Streams) (k : Nat) (hc : ClosedAt s k) : XK sv s (s.sendHandleError k) := by
  unfold Streams.sendHandleError
  have h1 : XK sv s ((s.clearQueue k).reclaimAllCapacity k) :=
    (clearQueue_xk s k (fun hl => State.isSendStreaming_of_isClosed (hc hl))).trans (reclaimAllCapacity_xk _ _)
  generalize ((s.clearQueue k).reclaimAllCapacity k) = t at h1 ⊢
  xk_auto

theorem xp_keep (x : Stream) (f : SFrame) (hc : x.state.isClosed = true) (hf : x.pendingSend.head? = some f) :
    (fApp f (fClr (fDrop x))).key = x.key ∧ Xp sv x (fApp f (fClr (fDrop x))) := by
  have hle : dsum [f] ≤ dsum x.pendingSend := by
    have := dsum_head_le x.pendingSend; rw [hf] at this; exact this
  refine ⟨rfl, ⟨fun r hx => ⟨fun _ hs => (by have hs' : suB x.state = true := hs; rw [suB_closed hc] at hs'; cases hs'),
    fun hfl => ?_, fun _ => Nat.zero_le _⟩⟩⟩
  have hfl' : flagB x = true := hfl
  rcases hx.f hfl' with hw | hd
  · refine .inl ⟨hw.1, ?_, fun hp => absurd hp (by show ([] ++ [f] : List SFrame) ≠ []; simp)⟩
    show dsum ([] ++ [f] : List SFrame).head?.toList = 0
    have := hw.2.1; unfold hnd at this; rw [hf] at this; exact this
  · refine .inr ⟨hd.1, ?_, rfl⟩
    show dsum ([] ++ [f] : List SFrame) = 0
    have := hd.2.1
    simp only [List.nil_append]; omega

theorem xp_dropClear (x : Stream) (hc : x.state.isClosed = true) :
    (fClr (fDrop x)).key = x.key ∧ Xp sv x (fClr (fDrop x)) := by
  refine ⟨rfl, ⟨fun r hx => ⟨fun _ hs => (by have hs' : suB x.state = true := hs; rw [suB_closed hc] at hs'; cases hs'),
    fun hfl => ?_, fun _ => Nat.zero_le _⟩⟩⟩
  have hfl' : flagB x = true := hfl
  rcases hx.f hfl' with hw | hd
  · exact .inl ⟨hw.1, rfl, fun _ => ⟨State.isSendStreaming_of_isClosed hc, rfl⟩⟩
  · exact .inr ⟨hd.1, rfl, rfl⟩

theorem ClosedAt.nsu {s : Streams} {k : Nat} (hc : ClosedAt s k) :
    Live s k → ∀ r, XEr sv r (s.stream k) → locId sv (s.stream k).id = true → suB (s.stream k).state = true → False :=
  fun hl _ _ _ hsu => by rw [suB_closed (hc hl)] at hsu; cases hsu

theorem sendSendReset_xk (s : Streams) (k : Nat) (r : Reason) (i : Initiator) : XK sv s (s.sendSendReset k r i) := by
  unfold Streams.sendSendReset
  dsimp only
  split
  · exact .refl _
  · have e1 : XK sv s (s.modStreamW k fun st => st.setReset r i) := modStreamW_xk _ _ _ fun _ _ => setReset_xp _ r i
    have hc1 := closedAt_setReset s k r i
    generalize (s.modStreamW k fun st => st.setReset r i) = s1 at e1 hc1 ⊢
    split
    · exact e1
    · have tail : ∀ t : Streams, XK sv s1 t → ClosedAt t k → XK sv s ((t.queueFrame k (.reset r)).reclaimAllCapacity k) :=
        fun t ht hct => e1.trans (ht.trans ((queueFrame_xk' t k _ rfl hct.nsu).trans (reclaimAllCapacity_xk _ _)))
      split
      · split
        · next f hf =>
          have hcomp : ((s1.modStream k fDrop).modStream k fClr).modStream k (fApp f) =
              s1.modStream k (fun x => fApp f (fClr (fDrop x))) := by
            rw [modStream_modStream s1 k fDrop fClr (fun _ => rfl) (fun _ => rfl),
                modStream_modStream s1 k (fun x => fClr (fDrop x)) (fApp f) (fun _ => rfl) (fun _ => rfl)]
          have hx : XK sv s1 (s1.modStream k (fun x => fApp f (fClr (fDrop x)))) :=
            modStream_xk_live _ _ _ (fun hl => xp_keep _ f (hc1 hl) hf)
          have hcc : ClosedAt (s1.modStream k (fun x => fApp f (fClr (fDrop x)))) k :=
            hc1.modStream _ (fun _ => rfl) (fun _ => rfl)
          show XK sv s ((Streams.queueFrame (((s1.modStream k fDrop).clearQueue k).modStream k (fApp f)) k (.reset r)).reclaimAllCapacity k)
          rw [clearQueue_eq, modStream_prio]
          split
          · split
            · rw [modPrio_modStream, hcomp]
              exact tail _ (hx.trans (modPrio_xk _ _)) (hcc.of_store rfl)
            · rw [hcomp]; exact tail _ hx hcc
          · rw [hcomp]; exact tail _ hx hcc
        · have hcomp : (s1.modStream k fDrop).modStream k fClr = s1.modStream k (fun x => fClr (fDrop x)) :=
            modStream_modStream s1 k fDrop fClr (fun _ => rfl) (fun _ => rfl)
          have hx : XK sv s1 (s1.modStream k (fun x => fClr (fDrop x))) :=
            modStream_xk_live _ _ _ (fun hl => xp_dropClear _ (hc1 hl))
          have hcc : ClosedAt (s1.modStream k (fun x => fClr (fDrop x))) k := hc1.modStream _ (fun _ => rfl) (fun _ => rfl)
          show XK sv s ((Streams.queueFrame ((s1.modStream k fDrop).clearQueue k) k (.reset r)).reclaimAllCapacity k)
          rw [clearQueue_eq, modStream_prio]
          split
          · split
            · rw [hcomp]; exact tail _ (hx.trans (modPrio_xk _ _)) (hcc.of_store rfl)
            · rw [hcomp]; exact tail _ hx hcc
          · rw [hcomp]; exact tail _ hx hcc
      · exact tail _ (clearQueue_xk s1 k (fun hl => State.isSendStreaming_of_isClosed (hc1 hl))) (clearQueue_closedAt hc1)

theorem sendRecvStreamWindowUpdate_xk (s : Streams) (k sz : Nat) : XK sv s (s.sendRecvStreamWindowUpdate k sz).1 := by
  unfold Streams.sendRecvStreamWindowUpdate; xk_auto
theorem resetOnRecvStreamErr_xk (s : Streams) (k : Nat) (res : Except PErr Unit) : XK sv s (s.resetOnRecvStreamErr k res).1 := by
  unfold Streams.resetOnRecvStreamErr; xk_auto
theorem actionsSendReset_xk (s : Streams) (k : Nat) (r : Reason) (i : Initiator) : XK sv s (s.actionsSendReset k r i).1 := by
  unfold Streams.actionsSendReset; xk_auto
theorem sarsLess_xk (s : Streams) (dec : Nat) : XK sv s (s.sarsLess dec).1 := by
  unfold Streams.sarsLess; xk_auto
theorem sarsMore_xk (s : Streams) (inc : Nat) : XK sv s (s.sarsMore inc).1 :=
  Streams.storeTryForEach_rel xk_relOK s _ (by xk_auto)
theorem sarsWindow_xk (s : Streams) (val : Nat) : XK sv s (s.sarsWindow val).1 := by
  unfold Streams.sarsWindow; xk_auto
theorem sendApplyRemoteSettings_xk (s : Streams) (a b c : Option Nat) : XK sv s (s.sendApplyRemoteSettings a b c).1 := by
  rw [Streams.sendApplyRemoteSettings_eq]; xk_auto

theorem sendPushPromise_xk (s : Streams) (p pk pid : Nat) (f : List Hpack.Field) (hty : locId sv (s.stream p).id = false) :
    XK sv s (s.sendPushPromise p pk pid f).1 := by
  unfold Streams.sendPushPromise
  split
  · exact .refl _
  · split
    · exact .refl _
    · split
      · exact .refl _
      · exact queueFrame_xk' s p _ rfl (fun _ _ _ hl _ => by rw [hty] at hl; cases hl)

theorem sendInterimInformationalHeaders_xk (s : Streams) (k : Nat) (f : List Hpack.Field)
    (hty : locId sv (s.stream k).id = false) : XK sv s (s.sendInterimInformationalHeaders k f).1 := by
  unfold Streams.sendInterimInformationalHeaders
  split
  · exact .refl _
  · dsimp only
    split
    · exact .refl _
    · exact queueFrame_xk' s k _ rfl (fun _ _ _ hl _ => by rw [hty] at hl; cases hl)

theorem scheduleImplicitReset_xk (s : Streams) (k : Nat) (r : Reason) : XK sv s (s.scheduleImplicitReset k r) := by
  unfold Streams.scheduleImplicitReset
  split
  · exact .refl _
  · dsimp only
    have h1 : XK sv s (s.modStream k fun st => { st with state := st.state.setScheduledReset r }) :=
      modStream_xk _ _ _ (by intro _ _; xp_tac)
    have hc1 : ClosedAt (s.modStream k fun st => { st with state := st.state.setScheduledReset r }) k := by
      intro hl
      have hl0 : Live s k := (SameKeys.modStream s k _).live.mp hl
      have := stream_modStream_live hl0 (fun st => ({ st with state := st.state.setScheduledReset r } : Stream)) (fun _ => rfl)
      rw [this]; rfl
    generalize (s.modStream k fun st => { st with state := st.state.setScheduledReset r }) = s1 at h1 hc1 ⊢
    have hsk : SK sv s1 (s1.reclaimReservedCapacity k) := .of_step (Streams.reclaimReservedCapacity_step (by decide) s1 k)
    refine h1.trans ((reclaimReservedCapacity_xk s1 k).trans (scheduleSend_xk' _ _ ?_))
    intro hl _ _ _ hsu
    have hl1 := hsk.live k hl
    have := (hsk.st k hl).su hsu
    rw [suB_closed (hc1 hl1)] at this; cases this

theorem sendTrailers_xk (s : Streams) (k : Nat) (f : List Hpack.Field) : XK sv s (s.sendTrailers k f).1 := by
  unfold Streams.sendTrailers
  split
  · exact .refl _
  · split
    · exact .refl _
    · next hss =>
      have hss' : (s.stream k).state.isSendStreaming = true := by
        cases h : (s.stream k).state.isSendStreaming with
        | true => rfl
        | false => rw [h] at hss; simp at hss
      dsimp only
      refine XK.trans ?_ (reserveCapacity_xk _ _ _)
      cases hsc : (s.stream k).state.sendClose with
      | none =>
        dsimp only
        refine (panic_xk s _).trans (queueFrame_xk' _ k _ rfl ?_)
        intro _ _ _ _ hsu
        rw [panic_stream, su_of_streaming hss'] at hsu; cases hsu
      | some st' =>
        dsimp only
        refine (modStream_xk s k _ (by intro _ _; xp_tac)).trans (queueFrame_xk' _ k _ rfl ?_)
        intro hl _ _ _ hsu
        have hl0 : Live s k := (SameKeys.modStream s k _).live.mp hl
        have := stream_modStream_live hl0 (fun st => ({ st with state := st' } : Stream)) (fun _ => rfl)
        rw [this] at hsu
        have hn : suB st' = false := sendClose_nsu hsc
        rw [show ({ s.stream k with state := st' } : Stream).state = st' from rfl, hn] at hsu; cases hsu

end H2V.Lemmas.ConnNoPanicP
