import H2V.Lemmas.ConnCountsPInvE
/-
  C05 — invariants, part F: `DE`, the steps under which every slab entry descends from an entry with
  the same key, the same stream id, at least as unopened, with no new PUSH_PROMISE frame — the counter
  primitives included (`is_counted` may change) —, and the invariant `Inv2`.
-/
namespace H2V.Lemmas.ConnCountsP
open H2V H2V.Model H2V.Model.Conn

/-- `G`: the PUSH_PROMISE frames that the step may add to a queue -/
structure SameE (G : SFrame → Prop) (a b : Stream) : Prop where
  id : b.id = a.id
  early : Early b → Early a
  pp : ∀ f ∈ b.pendingSend, SFrame.isPP f = true → f ∈ a.pendingSend ∨ G f

variable {G : SFrame → Prop}

theorem SameE.refl (a : Stream) : SameE G a a := ⟨rfl, fun h => h, fun _ h _ => .inl h⟩
theorem SameE.trans {a b c : Stream} (h1 : SameE G a b) (h2 : SameE G b c) : SameE G a c :=
  ⟨h2.id.trans h1.id, fun h => h1.early (h2.early h), fun f hf hp => by
    rcases h2.pp f hf hp with h | h
    · exact h1.pp f h hp
    · exact .inr h⟩

structure CE (c c' : Counts) : Prop where
  isServer : c'.isServer = c.isServer
  maxErr : c'.maxLocalErrorResetStreams = c.maxLocalErrorResetStreams
  err : c.numLocalErrorResetStreams ≤ c'.numLocalErrorResetStreams

theorem CE.refl (c : Counts) : CE c c := ⟨rfl, rfl, Nat.le_refl _⟩
theorem CE.trans {a b c : Counts} (h1 : CE a b) (h2 : CE b c) : CE a c :=
  ⟨h2.isServer.trans h1.isServer, h2.maxErr.trans h1.maxErr, Nat.le_trans h1.err h2.err⟩
theorem CE.of_cd {c c' : Counts} (h : CD c c') : CE c c' := ⟨h.isServer, h.maxErr, h.err⟩

theorem CE.errOK {c c' : Counts} (h : CE c c') (hc : c'.canIncNumLocalErrorResets = true) : c.canIncNumLocalErrorResets = true :=
  canIncErr_back h.maxErr h.err hc

structure DE (G : SFrame → Prop) (s s' : Streams) : Prop where
  counts : CE s.counts s'.counts
  nextKey : s'.store.nextKey = s.store.nextKey
  ids : ∀ p ∈ s'.store.ids, p ∈ s.store.ids
  openQ : ∀ k ∈ s'.prio.pendingOpen, k ∈ s.prio.pendingOpen
  desc : ∀ k x', s'.store.get? k = some x' → ∃ x, s.store.get? k = some x ∧ SameE G x x'
  next : NextOK s.counts.isServer s.actions.send.nextStreamId s'.actions.send.nextStreamId

theorem DE.of_df {s s' : Streams} (h : DF s s') : DE G s s' :=
  ⟨CE.of_cd h.counts, h.nextKey, h.ids, h.openQ,
   fun k x' hx => by obtain ⟨x, hx, d⟩ := h.desc k x' hx; exact ⟨x, hx, d.id, d.early, fun f hf hp => .inl (d.pp f hf hp)⟩, h.next⟩

theorem DE.of_store_eq {s s' : Streams} (hst : s'.store = s.store) (hc : CE s.counts s'.counts)
    (hq : ∀ k ∈ s'.prio.pendingOpen, k ∈ s.prio.pendingOpen)
    (hn : NextOK s.counts.isServer s.actions.send.nextStreamId s'.actions.send.nextStreamId) : DE G s s' :=
  ⟨hc, by rw [hst], fun p hp => by rw [hst] at hp; exact hp, hq, fun k x' hx => ⟨x', by rw [← hst]; exact hx, SameE.refl _⟩, hn⟩

theorem DE.setQOpen (s : Streams) (l : List Nat) (hl : ∀ k ∈ l, k ∈ s.prio.pendingOpen) : DE G s (s.setQ .pendingOpen l) :=
  DE.of_store_eq rfl (CE.refl _) hl (NextOK.refl _ _)

theorem DE.closed : PrimClosed (DE G) (SameE G) (fun s q l => q ≠ .pendingOpen ∨ ∀ k ∈ l, k ∈ s.prio.pendingOpen) CE where
  refl _ := ⟨CE.refl _, rfl, fun _ h => h, fun _ h => h, fun _ x' h => ⟨x', h, SameE.refl _⟩, NextOK.refl _ _⟩
  trans h1 h2 := by
    refine ⟨h1.counts.trans h2.counts, h2.nextKey.trans h1.nextKey, fun p hp => h1.ids p (h2.ids p hp),
      fun k hk => h1.openQ k (h2.openQ k hk), ?_, h1.next.trans (by rw [← h1.counts.isServer]; exact h2.next)⟩
    intro k x'' hx''
    obtain ⟨x', hx', d'⟩ := h2.desc k x'' hx''
    obtain ⟨x, hx, d⟩ := h1.desc k x' hx'
    exact ⟨x, hx, d.trans d'⟩
  frame h := .of_df (DF.closed.frame h)
  setStream s st' h := by
    refine ⟨CE.refl _, rfl, fun _ hp => hp, fun _ hk => hk, fun k x' hx' => ?_, NextOK.refl _ _⟩
    rcases setStream_get?_cases hx' with ⟨x, hx, rfl, rfl⟩ | hx
    · exact ⟨x, hx, h x hx⟩
    · exact ⟨x', hx, SameE.refl _⟩
  setQ s q l h := .of_df (DF.closed.setQ s q l h)
  setCounts _ _ h := DE.of_store_eq rfl h (fun _ h => h) (NextOK.refl _ _)

theorem DE.modStream (s : Streams) (k : Nat) (f : Stream → Stream) (hf : ∀ x, (f x).key = x.key)
    (hd : ∀ x, SameE G x (f x)) : DE G s (s.modStream k f) := DE.closed.modStream s k f hf fun x _ => hd x

theorem ce_num (c : Counts) (n m : Nat) : CE c { c with numSendStreams := n, numRecvStreams := m } := ⟨rfl, rfl, Nat.le_refl _⟩

theorem sameE_counted (x : Stream) (b : Bool) : SameE G x { x with isCounted := b } := ⟨rfl, fun h => h, fun _ h _ => .inl h⟩

theorem DE.incNumSendStreams (s : Streams) (k : Nat) : DE G s (s.incNumSendStreams k) :=
  DE.closed.incNumSendStreams s k (fun c => ce_num c _ _) (sameE_counted · true)
theorem DE.incNumRecvStreams (s : Streams) (k : Nat) : DE G s (s.incNumRecvStreams k) :=
  DE.closed.incNumRecvStreams s k (fun c => ce_num c _ _) (sameE_counted · true)
theorem DE.decNumStreams (s : Streams) (k : Nat) : DE G s (s.decNumStreams k) :=
  DE.closed.decNumStreams s k ce_num (sameE_counted · false)

/-- the direction invariants; `E` = keys of entries that may be unopened although locally initiated
    (inside the function that has just created them) -/
structure Inv2 (sv : Bool) (E : Nat → Prop) (s : Streams) : Prop where
  role : s.counts.isServer = sv
  p1 : ∀ k ∈ s.prio.pendingOpen, k < s.store.nextKey ∧ ∀ st, s.store.get? k = some st → locId sv st.id = true
  ids : ∀ p ∈ s.store.ids, p.2 < s.store.nextKey ∧ ∀ st, s.store.get? p.2 = some st → st.id = p.1
  fr : ∀ k st, s.store.get? k = some st → ∀ pk pid fl, SFrame.pushPromise pk pid fl ∈ st.pendingSend → locId sv pid = true
  p3 : ErrOK s → ∀ k st, s.store.get? k = some st → locId sv st.id = true → Early st → E k
  dir : ErrOK s → s.counts.numSendStreams = cntP (sendCounted sv) s
  next : ∀ x, s.actions.send.nextStreamId = some x → locId sv x = true

theorem DE.inv2 {s s' : Streams} {sv : Bool} {E : Nat → Prop} (h : DE G s s') (hi : Inv2 sv E s)
    (hG : ∀ pk pid fl, G (.pushPromise pk pid fl) → locId sv pid = true)
    (hdir : ErrOK s' → s'.counts.numSendStreams = cntP (sendCounted sv) s') : Inv2 sv E s' := by
  refine ⟨h.counts.isServer.trans hi.role, ?_, ?_, ?_, ?_, hdir, ?_⟩
  · intro k hk
    have := hi.p1 k (h.openQ k hk)
    refine ⟨by rw [h.nextKey]; exact this.1, ?_⟩
    intro st' hst'
    obtain ⟨x, hx, d⟩ := h.desc k st' hst'
    rw [d.id]; exact this.2 x hx
  · intro p hp
    have := hi.ids p (h.ids p hp)
    refine ⟨by rw [h.nextKey]; exact this.1, ?_⟩
    intro st' hst'
    obtain ⟨x, hx, d⟩ := h.desc _ st' hst'
    rw [d.id]; exact this.2 x hx
  · intro k st' hst' pk pid fl hf
    obtain ⟨x, hx, d⟩ := h.desc k st' hst'
    rcases d.pp _ hf rfl with h1 | h1
    · exact hi.fr k x hx pk pid fl h1
    · exact hG pk pid fl h1
  · intro herr k st' hst' hloc he
    obtain ⟨x, hx, d⟩ := h.desc k st' hst'
    exact hi.p3 (h.counts.errOK herr) k x hx (by rw [← d.id]; exact hloc) (d.early he)
  · intro y hy
    obtain ⟨x, hx, _, hpar⟩ := h.next y hy
    rcases hpar with e | e
    · have := hi.next x hx
      unfold locId at this ⊢
      rw [e]; exact this
    · rw [hi.role] at e; exact e

theorem DF.inv2 {s s' : Streams} {sv : Bool} {E : Nat → Prop} (h : DF s s') (hA : KeysOK s) (hi : Inv2 sv E s) : Inv2 sv E s' := by
  refine (DE.of_df (G := fun _ => False) h).inv2 hi (fun _ _ _ h => h.elim) ?_
  intro herr
  rw [h.counts.numSend, h.cnt hA sv]
  exact hi.dir (CE.errOK (CE.of_cd h.counts) herr)

end H2V.Lemmas.ConnCountsP
