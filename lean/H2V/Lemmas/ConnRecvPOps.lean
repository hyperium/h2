import H2V.Lemmas.ConnRecvPReset
import H2V.Lemmas.ConnRecvPSettings
import H2V.Lemmas.ConnDataRule
/-
  C03: the entry points of `ConnStreams.lean` that do receive flow control:
  `Inner::recv_data`, `buffer_pending` / `poll_complete`, `apply_local_settings`,
  `drop_stream_ref`, `release_capacity`, `clear_recv_buffer`.
-/
namespace H2V.Lemmas.ConnRecvP
open H2V H2V.Model H2V.Model.Conn
open H2V.Model.Conn.Streams
open H2V.Lemmas.Comp
attribute [local irreducible] wrapSubU32 wrapSubUsize

theorem transition_inv {α : Type} {full : Bool} {g : Ghost} {d : Int} (s : Streams) (id : Nat) (f : Streams → Streams × α)
    (h : InvD full g d (f s).1) : InvD full g d (s.transition id f).1 :=
  Streams.transition_inv h fun t b ht => ht.of_ext (transitionAfter_ext t id b)

/-- the closure `Inner::recv_data` hands to `counts.transition`: on a stream error the frame's octets, slack until
    then, go back to the connection window -/
theorem recvDataBody_inv {full : Bool} {g : Ghost} {s : Streams} (h : Inv full g s) (k : Nat) (payload : Bytes)
    (eos : Bool) (padLen : Option Nat) : Inv full g (s.recvDataBody k payload eos padLen).1 := by
  unfold Streams.recvDataBody
  have hp : DataPost full g (usizeAsU32 (dataFlowLen payload padLen)) _ := recvRecvData_post h k payload eos padLen
  generalize dataFlowLen payload padLen = flowLen at hp ⊢
  cases hr : s.recvRecvData k payload eos padLen with
  | mk s1 res1 =>
    rw [hr] at hp
    cases res1 with
    | ok u =>
      have h1 : Inv full g s1 := hp.1 notReset_ok
      -- not END_STREAM: the frame counts against the DATA frame budget
      dsimp only
      inv_auto
      all_goals (exfalso; simp_all [PErr.libraryGoAwayData])
    | error e =>
      dsimp only
      cases e with
      | reset sid reason init =>
        have h1 : InvD full g (usizeAsU32 flowLen) s1 := hp.2 (fun hn => hn sid reason init rfl)
        dsimp only
        have hcI : usizeAsU32 flowLen ≤ cI s1 := by
          have := h1.sum; have := sumInfl s1.store.slab; omega
        have h2 := releaseConnectionCapacity_inv h1 (usizeAsU32 flowLen) false hcI
        have : ((usizeAsU32 flowLen : Nat) : Int) - (usizeAsU32 flowLen : Nat) = 0 := by omega
        rw [this] at h2
        exact h2.of_ext (.of_step (resetOnRecvStreamErr_step (by decide) _ _ _ fun _ _ _ => rfl))
      | goAway d r i =>
        have h1 : Inv full g s1 := hp.1 (fun _ _ _ hc => nomatch hc)
        inv_auto
        all_goals (exfalso; simp_all)
      | io k m =>
        have h1 : Inv full g s1 := hp.1 (fun _ _ _ hc => nomatch hc)
        inv_auto
        all_goals (exfalso; simp_all)

/-- **`Inner::recv_data`**: a DATA frame, whatever the stream is (live, reset, refused, forgotten,
    beyond a GOAWAY) and whatever the outcome -/
theorem recvData_inv {full : Bool} {g : Ghost} {s : Streams} (h : Inv full g s) (id : Nat) (payload : Bytes)
    (eos : Bool) (padLen : Option Nat) : Inv full g (s.recvData id payload eos padLen).1 :=
  Streams.DataRule.run (I := Inv full g) (L := fun _ _ => True)
    { pre := h
      found := fun _ _ => trivial
      ignore := ignoreData_inv h
      body := fun _ k ht _ => recvDataBody_inv ht k payload eos padLen
      ta := fun t k b ht => ht.of_ext (transitionAfter_ext t k b) }

/-- **`Streams::poll_complete`** (every WINDOW_UPDATE and DATA frame goes out through here): by ConnLoops' rule for the writing
    loops, `Recv::buffer_pending` being the one piece that is not a frame step -/
theorem pollComplete_inv {full : Bool} {g : Ghost} (n : Nat) {s : Streams} (h : Inv full g s) (w : Writer) (io : Tio)
    (t : String) : Inv full g (pollComplete n s w io t).1 :=
  have hR : RelOK fun a b => Inv full g a → Inv full g b := .of_pred fun s m h => h.of_ext (panic_ext s m)
  pollComplete_rel hR
    (bufferPending_rel hR (fun _ w h => recvBufferPending_inv h w)
      fun n s w h => h.of_ext (.of_step (prioBufferPending_step (by decide) n s w)))
    (fun _ _ h => h.of_ext (setTask_ext _ _)) (fun s w h => h.of_ext (.of_step (reclaimFrame_step (by decide) s w))) n s w io t h

theorem applyLocalSettingsFrame_inv {full : Bool} {g : Ghost} {s : Streams} (h : Inv full g s) (vals : List (Nat × Nat))
    (hv : ∀ t, (vals.find? (·.1 = 4)).map (·.2) = some t → t ≤ 2147483647) :
    Inv false (g.afterSettings ((vals.find? (·.1 = 4)).map (·.2))) (s.applyLocalSettingsFrame vals).1 ∧
    ((s.applyLocalSettingsFrame vals).2 = .ok () →
      Inv full (g.afterSettings ((vals.find? (·.1 = 4)).map (·.2))) (s.applyLocalSettingsFrame vals).1) := by
  unfold Streams.applyLocalSettingsFrame
  exact applyLocalSettings_inv h _ _ hv

theorem refReleaseCapacity_inv {full : Bool} {g : Ghost} {s : Streams} (h : Inv full g s) (id cap : Nat) :
    Inv full g (s.refReleaseCapacity id cap).1 := by
  unfold Streams.refReleaseCapacity; exact releaseCapacity_inv h id cap true

/-- `OpaqueStreamRef::clear_recv_buffer` (`Drop for RecvStream`): the handle is gone, what is buffered
    goes back to the connection window -/
theorem refClearRecvBuffer_inv {full : Bool} {g : Ghost} {s : Streams} (h : Inv full g s) (id : Nat) :
    Inv full g (s.refClearRecvBuffer id) := by
  unfold Streams.refClearRecvBuffer
  have h1 : Inv full g (s.modStream id fun st => { st with isRecv := false }) :=
    h.of_ext (modStream_ext _ _ _ fun x _ => ⟨rfl, rfl, rfl, fun h => h, fun hc => by cases hc⟩)
  have hg := get?_modStream s id (fun st => { st with isRecv := false }) (fun _ => rfl)
  generalize (s.modStream id fun st => { st with isRecv := false }) = s1 at h1 hg ⊢
  refine clearRecvBuffer_inv h1 id true fun _ x hx => ?_
  rw [hg] at hx
  cases hs : s.store.get? id with
  | none => simp [hs] at hx
  | some y =>
    simp only [hs, Option.map_some, Option.some.injEq] at hx
    subst hx
    exact .inr (.inl rfl)

theorem foldl_ext (f : Streams → Nat → Streams) (hf : ∀ s p, Ext s (f s p)) (l : List Nat) (s : Streams) :
    Ext s (l.foldl f s) :=
  Streams.foldl_rel extOK hf l s

theorem scheduleImplicitReset_closed (s : Streams) (id : Nat) (r : Reason) (hk : KeysOK s.store)
    {x' : Stream} (hx' : x' ∈ (s.scheduleImplicitReset id r).store.slab)
    (hkx : x'.key = id) : x'.state.isClosed = true ∨ x'.inFlightRecvData = 0 := by
  unfold Streams.scheduleImplicitReset at hx'
  split at hx'
  · next hc =>
    have hg := Store.get?_of_mem hk.nodup hx'
    rw [hkx] at hg
    rw [Streams.stream_of_get? hg] at hc
    exact .inl hc
  · have e1 : Ext s (s.modStream id fun st => { st with state := st.state.setScheduledReset r }) :=
      modStream_ext _ _ _ fun x _ => setState_same x _ fun _ => rfl
    have hg1 := get?_modStream s id (fun st => { st with state := st.state.setScheduledReset r }) (fun _ => rfl)
    have hk1 := e1.keys hk
    generalize (s.modStream id fun st => { st with state := st.state.setScheduledReset r }) = s1 at hx' hg1 hk1
    have e2 : Ext s1 ((s1.reclaimReservedCapacity id).scheduleSend id) :=
      .of_step ((reclaimReservedCapacity_step (by decide) _ _).trans (scheduleSend_step (by decide) _ _))
    refine Ext.closed_or_empty_of_mem hk1 e2 (k := id) ?_ hx' hkx
    intro y hy
    rw [hg1] at hy
    cases hs : s.store.get? id with
    | none => simp [hs] at hy
    | some x =>
      simp only [hs, Option.map_some, Option.some.injEq] at hy
      subst hy; rfl

theorem maybeCancel_closed (s : Streams) (id : Nat) (hk : KeysOK s.store)
    {x' : Stream} (hx' : x' ∈ (s.maybeCancel id).store.slab) (hkx : x'.key = id)
    (hrc : (((s.maybeCancel id).stream id).refCount == 0) = true) :
    x'.state.isClosed = true ∨ x'.inFlightRecvData = 0 := by
  unfold Streams.maybeCancel at hx' hrc
  dsimp only at hx' hrc
  split at hx'
  · -- cancelled now
    have e1 := Ext.of_step <| scheduleImplicitReset_step (by decide) s id
      (if (s.counts.isServer && (s.stream id).state.isSendClosed && (s.stream id).state.isRecvStreaming) = true then NO_ERROR
        else CANCEL)
    have hk1 := e1.keys hk
    rcases (Ext.of_step (enqueueResetExpiration_step (by decide) _ id)).slab hk1 x' hx' with ⟨y, hy, hs⟩ | hfr
    · rcases scheduleImplicitReset_closed s id _ hk hy (by rw [← hs.key, hkx]) with hc | h0
      · exact .inl (hs.closed hc)
      · exact .inr (by rw [hs.infl]; exact h0)
    · exact .inr hfr.infl
  · next hnc =>
    rw [if_neg hnc] at hrc
    have hg := Store.get?_of_mem hk.nodup hx'
    rw [hkx] at hg
    rw [Streams.stream_of_get? hg] at hnc hrc
    unfold Stream.isCanceledInterest at hnc
    cases hcl : x'.state.isClosed with
    | true => exact .inl rfl
    | false => simp [hrc, hcl] at hnc

/-- `maybe_cancel` followed by `release_closed_capacity` when no handle is left (the stream itself and each of its
    promised streams: F30) -/
theorem cancelRelease_inv {full : Bool} {g : Ghost} {s : Streams} (h : Inv full g s) (id : Nat) :
    Inv full g (if ((s.maybeCancel id).stream id).refCount == 0 then (s.maybeCancel id).releaseClosedCapacity id
      else s.maybeCancel id) := by
  have h5 : Inv full g (s.maybeCancel id) := h.of_ext (.of_step (maybeCancel_step (by decide) _ _))
  have hcl := fun x' hx' hkx hrc => maybeCancel_closed s id h.keys (x' := x') hx' hkx hrc
  generalize s.maybeCancel id = s5 at h5 hcl ⊢
  split
  · next hrc =>
    refine releaseClosedCapacity_inv h5 id fun _ x hx => ?_
    rcases hcl x (Store.get?_mem hx) (Store.get?_key hx) hrc with hc | h0
    · exact .inl hc
    · exact .inr (.inr h0)
  · exact h5

/-- **`drop_stream_ref`** (a `StreamRef`/`OpaqueStreamRef` is dropped): when it was the last one,
    everything the stream — and every stream promised on it that nobody polled — still holds goes
    back to the connection window -/
theorem dropStreamRef_inv {full : Bool} {g : Ghost} {s : Streams} (h : Inv full g s) (id : Nat) :
    Inv full g (s.dropStreamRef id) := by
  unfold Streams.dropStreamRef
  extract_lets s1 s2 s3 st s4
  -- the handle goes: four steps off the receive side
  have h1 : Inv full g s1 := h.of_ext (setRefs_ext _ _)
  have h2 : Inv full g s2 := by
    unfold s2; split
    · exact h1
    · exact h1.of_ext (panic_ext _ _)
  have h3 : Inv full g s3 := h2.of_ext (modStream_ext s2 id _ fun x _ => ⟨rfl, rfl, rfl, fun h => h, fun h => h⟩)
  have h4 : Inv full g s4 := by
    unfold s4; split
    · exact h3.of_ext (notifyTask_ext _)
    · exact h3
  clear_value s4
  apply transition_inv
  dsimp only
  have h5 := cancelRelease_inv h4 id
  split
  · next hrc =>
    rw [if_pos hrc] at h5
    generalize (s4.maybeCancel id).releaseClosedCapacity id = s6 at h5 ⊢
    dsimp only
    have h7 : Inv full g (s6.modStream id fun st => { st with pendingPushPromises := [] }) :=
      h5.of_ext (modStream_ext s6 id (fun st => { st with pendingPushPromises := [] })
        (fun x _ => ⟨rfl, rfl, rfl, fun h => h, fun h => h⟩))
    refine Streams.foldl_inv (fun s p hs => ?_) _ _ h7
    show Inv full g (Prod.fst _)
    apply transition_inv
    exact cancelRelease_inv (hs.of_ext (modStream_ext s p (fun st => { st with isPendingAccept := false })
      (fun x _ => ⟨rfl, rfl, rfl, fun h => h, fun h => h⟩))) p
  · next hrc =>
    rw [if_neg hrc] at h5
    exact h5

end H2V.Lemmas.ConnRecvP
