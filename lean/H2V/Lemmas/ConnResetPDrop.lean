import H2V.Lemmas.ConnResetPEmit
/-
  ConnResetP — dropping the last handle (`maybe_cancel` / `schedule_implicit_reset`), resetting a stream
  that closed cleanly, and the witness of quirk Q1 (two RST_STREAM for one stream id).
-/
set_option linter.unusedSectionVars false
namespace H2V.Lemmas.ConnResetP
open H2V H2V.Model H2V.Model.Conn
/-- the code of the implicit reset: NO_ERROR for a server whose response is complete while the request
    body is still coming, CANCEL otherwise -/
def cancelReason (isServer : Bool) (x : State) : Reason :=
  if isServer && x.isSendClosed && x.isRecvStreaming then NO_ERROR else CANCEL

theorem maybeCancel_eq (s : Streams) (id : Nat) (h : (s.stream id).isCanceledInterest = true) :
    s.maybeCancel id =
      (s.scheduleImplicitReset id (cancelReason s.counts.isServer (s.stream id).state)).enqueueResetExpiration id := by
  unfold Streams.maybeCancel cancelReason; simp only [h, if_true]

theorem maybeCancel_noop (s : Streams) (id : Nat) (h : (s.stream id).isCanceledInterest = false) :
    s.maybeCancel id = s := by
  unfold Streams.maybeCancel; simp [h]

/-- **`maybe_cancel` on a stream without handles that is not closed**: its state becomes
    `Closed(ScheduledLibraryReset(reason))` with `reason = cancelReason …`, its queue is untouched
    (`pop_frame` sends what is left for NO_ERROR, discards it otherwise, then the RST_STREAM). -/
theorem maybeCancel_schedules (s : Streams) (id : Nat) (st : Stream) (hkb : KeysBelow s.store)
    (hg : s.store.get? id = some st) (hc : st.refCount = 0) (hn : st.state.isClosed = false) :
    ∀ st', (s.maybeCancel id).store.get? id = some st' →
      st'.id = st.id ∧ st'.pendingSend = st.pendingSend ∧
      st'.state = ⟨.closed (.scheduledLibraryReset (cancelReason s.counts.isServer st.state))⟩ := by
  have hs : s.stream id = st := stream_of_get? hg
  have hci : (s.stream id).isCanceledInterest = true := by
    rw [hs]; unfold Stream.isCanceledInterest; simp [hc, hn]
  rw [maybeCancel_eq s id hci, hs]
  unfold Streams.scheduleImplicitReset
  rw [hs]; simp only [hn, Bool.false_eq_true, if_false]
  generalize cancelReason s.counts.isServer st.state = reason
  have e0 : (s.modStream id fun x => { x with state := x.state.setScheduledReset reason }).store.get? id =
      some { st with state := st.state.setScheduledReset reason } := by
    rw [modStream_store, Store.get?_mod' _ _ _ (by intro; rfl), if_pos rfl, hg]; rfl
  have en : (s.modStream id fun x => { x with state := x.state.setScheduledReset reason }).store.nextKey =
      s.store.nextKey := by simp
  generalize (s.modStream id fun x => { x with state := x.state.setScheduledReset reason }) = s1 at e0 en
  have ev : Evolves CoreEq (fun _ => True) s1.store
      (((s1.reclaimReservedCapacity id).scheduleSend id).enqueueResetExpiration id).store := by
    have h : Evolves CoreEq (fun _ => True) s1.store s1.store := Evolves.refl _
    ev
  intro st' h'
  rcases ev.back id st' h' with ⟨st1, h1, c⟩ | ⟨hge, _, _⟩
  · rw [e0] at h1; cases h1
    exact ⟨c.id, c.pendingSend, c.state⟩
  · exfalso
    have := hkb id st hg
    omega

/-- **Resetting a stream that closed cleanly queues no RST_STREAM**: closed by END_STREAM in both
    directions, nothing unsent — `send_reset` only records the reason. -/
theorem refSendReset_closed_clean (s : Streams) (id : Nat) (r : Reason) (st : Stream) (hkb : KeysBelow s.store)
    (hg : s.store.get? id = some st) (hr : st.state.isReset = false) (hc : st.state.isClosed = true)
    (hq : st.pendingSend = []) (hb : st.bufferedSendData = 0) :
    ∀ st', (s.refSendReset id r).store.get? id = some st' →
      st'.pendingSend = [] ∧ st'.state = ⟨.closed (.error (.reset st.id r .user))⟩ := by
  have hs : s.stream id = st := stream_of_get? hg
  rw [refSendReset_eq]
  have e1 : s.sendSendReset id r .user = s.modStreamW id fun x => x.setReset r .user := by
    unfold Streams.sendSendReset; rw [hs]; simp [hr, hc, hq, hb]
  rw [e1]
  have e0 : (s.modStreamW id fun x => x.setReset r .user).store.get? id = some (st.setReset r .user).1 := by
    rw [modStreamW_store, Store.get?_mod' _ _ _ (by intro x; exact x.setReset_key _ _), if_pos rfl, hg]; rfl
  have en : (s.modStreamW id fun x => x.setReset r .user).store.nextKey = s.store.nextKey := by simp
  generalize (s.modStreamW id fun x => x.setReset r .user) = s1 at e0 en
  have ev : Evolves CoreEq (fun _ => True) s1.store
      (((s1.enqueueResetExpiration id).modStreamW id Stream.notifyRecv).transitionAfter id
        (s.stream id).isPendingResetExpiration).store := by
    have h : Evolves CoreEq (fun _ => True) s1.store s1.store := Evolves.refl _
    ev
  intro st' h'
  rcases ev.back id st' h' with ⟨st1, h1, c⟩ | ⟨hge, _, _⟩
  · rw [e0] at h1; cases h1
    rw [c.pendingSend, c.state, setReset_pendingSend, setReset_state, hq]
    exact ⟨rfl, rfl⟩
  · exfalso
    have := hkb id st hg
    omega

/-- a client whose reset-expiration queue is switched off (`max_concurrent_reset_streams = 0`; by
    default the same happens after 50 pending resets) -/
def q1Init : Streams := { counts := { maxLocalResetStreams := 0 } }

/-- the response head `HEADERS(1, :status 200)` -/
def q1Resp : HeadersIn := { sid := 1, eos := false, status := some [50, 48, 48] }

/-- Q1's history: request on stream 1 written; both handles dropped (implicit CANCEL scheduled, the
    stream is unlinked from the id map while its RST_STREAM is not even generated); the response HEADERS,
    already in flight, is answered `library_reset(STREAM_CLOSED)`, which `Inner::send_reset` turns into a
    SECOND slab entry for stream 1 -/
def q1State : Streams :=
  run q1Init [.sendRequest false [] false none, .cloneStreamRef 0, .pollComplete 10 {} {} "c",
    .dropStreamRef 0, .dropStreamRef 0, .recvHeaders q1Resp, .innerSendReset 1 STREAM_CLOSED]

/-- **Q1 (quirk of the real code, reproduced by the model): two RST_STREAM frames for ONE stream id.**
    In `q1State` the slab holds two entries with stream id 1 (keys 0 and 1); two consecutive
    `pop_frame`s hand the codec `RST_STREAM(1, CANCEL)` and `RST_STREAM(1, STREAM_CLOSED)`.
    So "at most one RST_STREAM per stream *id*" does NOT hold; it holds per slab entry
    (`rst_owed_at_most_once`), and per id under the hypothesis that no two slab entries share an id. -/
theorem q1_two_rst_for_one_stream_id_counterexample :
    (q1State.store.slab.map fun st => (st.key, st.id)) = [(0, 1), (1, 1)] ∧
    (match (Streams.popFrame 10 q1State 16384).2, (Streams.popFrame 10 (Streams.popFrame 10 q1State 16384).1 16384).2 with
     | some (.reset 1 8), some (.reset 1 5) => true
     | _, _ => false) = true := by
  decide +kernel

end H2V.Lemmas.ConnResetP
