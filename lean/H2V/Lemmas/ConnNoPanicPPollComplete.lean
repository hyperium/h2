import H2V.Lemmas.ConnNoPanicPPollLoop
/-
  C08 (no panic): `Streams::poll_complete` (with `Inner::buffer_pending`, `Prioritize::buffer_pending`
  inside) and `Streams::send_pending_refusal`: from a state that satisfies `WI` they end out of (model) fuel or
  in a state that satisfies `WI` again — in particular no `assert!/expect/unwrap` of the Rust code fires.
  `pollComplete_inv` is ConnLoops' `Streams.pollComplete_inv` for an invariant that excludes a panic; `pollComplete_w` is its
  instance at `WI`.
-/
namespace H2V.Lemmas.ConnNoPanicP
open H2V H2V.Model H2V.Model.Conn H2V.Lemmas.ConnCountsP
attribute [local irreducible] wrapSubU32 wrapSubUsize

theorem OutOfFuel.pk {s t : Streams} (h : OutOfFuel s) (hp : PK s t) : OutOfFuel t := by
  rcases h with h | h
  · exact .inl (hp.pk _ h)
  · exact .inr (hp.pk _ h)

/-- `Recv::buffer_pending` keeps everything -/
theorem recvBufferPending_w {E : Nat → Prop} {g : ConnRecvP.Ghost} {s : Streams} {w : Writer} (h : WI E g s w) :
    WI E g (s.recvBufferPending w).1 (s.recvBufferPending w).2.1 :=
  ⟨recvBufferPending_pi h.pi h.recv w,
   h.safe.fr (.of_step (Streams.recvBufferPending_step (by decide) s w)),
   ConnRecvP.recvBufferPending_inv h.recv w, (DK.of_step (Streams.recvBufferPending_step (by decide) s w)).dsum h.ds,
   (h.cp.step (recvBufferPending_hk s w) (recvBufferPending_fk s w).nf).wle (recvBufferPending_wle s w)⟩

theorem setTask_w {E : Nat → Prop} {g : ConnRecvP.Ghost} {s : Streams} {w : Writer} (h : WI E g s w) (t : Option String) :
    WI E g ({ s with actions := { s.actions with task := t } } : Streams) w :=
  ⟨h.pi.store (ks := []) (setMisc_lt _ _ _ _ _ _ rfl) (liveAll0 s) (by ev_auto) rfl,
   by have := h.safe; safe_auto, h.recv.of_ext (ConnRecvP.setTask_ext _ _), (DK.of_store rfl).dsum h.ds,
   h.cp.step (.of_store rfl) (.inl rfl)⟩

/-- `Streams::poll_complete` (`Streams.pollComplete_inv`) for an invariant `I` of the stream layer and the codec that excludes
    a panic and tolerates the codec losing frames (`WLE`): kept by `Recv::buffer_pending`, `reclaim_frame`, the loop of
    `Prioritize::buffer_pending` and the task registration, it holds again afterwards, unless a loop of the model ran out
    of fuel; the marker of that stays by `PK`. -/
theorem pollComplete_inv {I : Streams → Writer → Prop}
    (hnp : ∀ s w, I s w → s.panicked = none)
    (hwle : ∀ s w w', I s w → WLE w w' → I s w')
    (hrecv : ∀ s w, I s w → I (s.recvBufferPending w).1 (s.recvBufferPending w).2.1)
    (hrecl : ∀ s w, I s w → I (s.reclaimFrame w).1 (s.reclaimFrame w).2.1)
    (hloop : ∀ n s w, I s w → w.lastDataFrame = none →
      OutOfFuel (Streams.prioBufferPendingLoop n s w).1 ∨
      I (Streams.prioBufferPendingLoop n s w).1 (Streams.prioBufferPendingLoop n s w).2.1)
    (htask : ∀ s w t, I s w → I ({ s with actions := { s.actions with task := t } } : Streams) w)
    (fuel : Nat) (s : Streams) (w : Writer) (io : Tio) (tag : String) (h : I s w) :
    OutOfFuel (Streams.pollComplete fuel s w io tag).1 ∨
    I (Streams.pollComplete fuel s w io tag).1 (Streams.pollComplete fuel s w io tag).2.1 :=
  have all : ∀ {fp : List Kind}, Kind.Has (fun _ => true) fp := fun _ _ => rfl
  Streams.pollComplete_inv (I := fun s w _ => OutOfFuel s ∨ I s w) (tag := tag)
    (fun h => .inl (h.elim (fun h => h.pk (.of_step (K := fun _ => true) (.panic _ _))) fun h => .inr (panic_of_noneP (hnp _ _ h) _)))
    (fun {_ w io _ _ _} h e => h.imp id fun h => hwle _ _ _ h (by have := pollReadyW_wle w io tag; rw [e] at this; exact this))
    (fun h => h.imp (fun h => h.pk (.of_step (Streams.recvBufferPending_step all _ _))) (hrecv _ _))
    (fun h => h.imp (fun h => h.pk (.of_step (Streams.reclaimFrame_step all _ _))) (hrecl _ _))
    (fun n h hl => h.elim (fun h => .inl (h.pk (.of_step (Streams.prioBufferPendingLoop_step all n _ _)))) fun h => hloop n _ _ h hl)
    (fun {_ w io _ _ _} h e => h.imp (fun h => h.pk (.of_eq rfl)) fun h =>
      hwle _ _ _ (htask _ _ (some tag) h) (by have := (flush_wle w io tag).1; rw [e] at this; exact this))
    fuel s w io (.inr h)

/-- **`Streams::poll_complete`**: from a state in which the write path's invariants hold it ends either with the
    model's own "out of fuel" marker (the driver did not supply enough fuel; the Rust loops have none), or in a
    state in which they hold again — in particular `panicked = none`: no `assert!`, `expect`, `unwrap` or
    dangling `store::Key` of the Rust code was hit. -/
theorem pollComplete_w {E : Nat → Prop} {g : ConnRecvP.Ghost} (fuel : Nat) :
    ∀ {s : Streams} {w : Writer}, WI E g s w → ∀ (io : Tio) (tag : String),
      OutOfFuel (Streams.pollComplete fuel s w io tag).1 ∨
      WI E g (Streams.pollComplete fuel s w io tag).1 (Streams.pollComplete fuel s w io tag).2.1 :=
  fun {s w} h io tag =>
    pollComplete_inv (I := WI E g) (fun _ _ h => h.pi.npi.np) (fun _ _ _ h => h.wle) (fun _ _ => recvBufferPending_w)
      (fun _ _ h => (reclaimFrame_w h).1) (fun n _ _ h => prioBufferPendingLoop_w n h) (fun _ _ t h => setTask_w h t)
      fuel s w io tag h

theorem put_keeps (w : Writer) (seg : Seg) : (w.put seg).lastDataFrame = w.lastDataFrame ∧ (w.put seg).next = w.next := ⟨rfl, rfl⟩

theorem sendPendingRefusal_w {E : Nat → Prop} {g : ConnRecvP.Ghost} {s : Streams} {w : Writer} (h : WI E g s w) :
    WI E g (s.sendPendingRefusal w).1 (s.sendPendingRefusal w).2.1 := by
  have hst : (s.sendPendingRefusal w).1.store = s.store := by
    unfold Streams.sendPendingRefusal; split
    · split <;> rfl
    · rfl
  have hpr : (s.sendPendingRefusal w).1.prio = s.prio := by
    unfold Streams.sendPendingRefusal; split
    · split <;> rfl
    · rfl
  have hw : WLE w (s.sendPendingRefusal w).2.1 := by
    unfold Streams.sendPendingRefusal; split
    · split
      · exact .refl _
      · exact .of_eq rfl rfl
    · exact .refl _
  exact ⟨h.pi.store (sendPendingRefusal_lt s w) (liveAll0 s) (sendPendingRefusal_ev (ρ := false) s w) hst,
    by have := h.safe; unfold Streams.sendPendingRefusal; safe_auto,
    h.recv.of_ext (.of_step (Streams.sendPendingRefusal_step (by decide) s w)), (DK.of_store hst).dsum h.ds,
    (h.cp.step (.of_store hst) (.inl (by rw [hpr]))).wle hw⟩

/-- **`Streams::send_pending_refusal`** -/
theorem pollSendPendingRefusal_w {E : Nat → Prop} {g : ConnRecvP.Ghost} (fuel : Nat) {s : Streams} {w : Writer}
    (h : WI E g s w) (io : Tio) (tag : String) :
    WI E g (Streams.pollSendPendingRefusal fuel s w io tag).1 (Streams.pollSendPendingRefusal fuel s w io tag).2.1 :=
  Streams.pollSendPendingRefusal_inv (I := WI E g) (fun _ _ => sendPendingRefusal_w)
    (fun _ w io h => h.wle (pollReadyW_wle w io tag)) fuel s w io h

/-- **C08, write path.**  `Streams::poll_complete` from a state that satisfies
    * `NPI E s` (the no-panic invariant of this family) and `ErrOK s`,
    * `ConnFlowP.SafeInv s` (send-side ledger, C02), `ConnRecvP.Inv true g s` (receive windows, C03),
    * the flag facts `OpenUncounted`, `PushUncounted`, `OpenNotPush`, `PPU`, `PPFresh`,
    * `DSum s` (`buffered_send_data` covers the queued DATA) and `Coupled s w` (stream layer ↔ codec)
    does not hit any `assert!` / `expect` / `unwrap` / dangling key of the Rust code: the panic slot is empty
    afterwards, or holds one of the model's two "out of fuel" markers. -/
theorem pollComplete_no_panic {E : Nat → Prop} {g : ConnRecvP.Ghost} {s : Streams} {w : Writer}
    (h : NPI E s) (he : ErrOK s) (hs : ConnFlowP.SafeInv s) (hr : ConnRecvP.Inv true g s)
    (h1 : OpenUncounted s) (h2 : PushUncounted s) (h3 : OpenNotPush s) (h4 : PPU s) (h5 : PPFresh s)
    (hd : DSum s) (hc : Coupled s w) (fuel : Nat) (io : Tio) (tag : String) :
    (Streams.pollComplete fuel s w io tag).1.panicked = none ∨
    (Streams.pollComplete fuel s w io tag).1.panicked = some "model: buffer_pending out of fuel" ∨
    (Streams.pollComplete fuel s w io tag).1.panicked = some "model: poll_complete out of fuel" := by
  have hw : WI E g s w := ⟨⟨h, he, (unc_iff (h.qs .pendingOpen (by decide))).mpr ⟨h1, h2, h3⟩, h4, h5⟩, hs, hr, hd, hc⟩
  rcases pollComplete_w fuel hw io tag with h | h
  · exact .inr h
  · exact .inl h.pi.npi.np

/-- … and when it did not run out of fuel the full invariant holds again -/
theorem pollComplete_npi {E : Nat → Prop} {g : ConnRecvP.Ghost} {s : Streams} {w : Writer} (h : WI E g s w)
    (fuel : Nat) (io : Tio) (tag : String) (hp : (Streams.pollComplete fuel s w io tag).1.panicked = none) :
    WI E g (Streams.pollComplete fuel s w io tag).1 (Streams.pollComplete fuel s w io tag).2.1 := by
  rcases pollComplete_w fuel h io tag with h | h
  · rcases h with h | h <;> (rw [hp] at h; cases h)
  · exact h

end H2V.Lemmas.ConnNoPanicP
