import H2V.Lemmas.ConnHttpPBasic
/-
  C13 (ConnHttpP) — `HeaderBlock::load`'s callback (`loadField` / `loadFields`): what a run that
  ends with none of the three flags (malformed, way-too-large, over-size) has checked and stored.
-/
namespace H2V.Lemmas.ConnHttpP
open H2V H2V.Model H2V.Model.Frame H2V.Model.Hpack

/-- none of the three flags that keep a block from being delivered is raised -/
structure Clean (s : LoadSt) : Prop where
  m : s.malformed = false
  w : s.wayTooLarge = false
  o : s.blk.isOverSize = false

/-- the part of the callback's state that decides what is stored: (`reg`, pseudo, fields) -/
abbrev TSt := Bool × Pseudo × List (Bytes × List Bytes)

def tOf (s : LoadSt) : TSt := (s.reg, s.blk.pseudo, s.blk.fields)

/-- one field through the callback, sizes forgotten: `none` = the field raises `malformed` -/
def trackStep (st : TSt) (h : Header) : Option TSt :=
  if h.1.head? = some 58 then
    if st.1 = false ∧ getPseudo st.2.1 h.1 = none then some (false, setPseudo st.2.1 h.1 h.2, st.2.2) else none
  else if connHeaders.contains h.1 = true ∨ (h.1 = Http.str "te" ∧ h.2 ≠ Http.str "trailers") then none
  else some (true, st.2.1, appendField st.2.2 h.1 h.2)

def track : List Header → TSt → Option TSt
  | [], st => some st
  | h :: rest, st =>
    match trackStep st h with
    | none => none
    | some st' => track rest st'

/-- the `check_size!`-like closure of the callback -/
def checkSize (ml am : Nat) (s : LoadSt) : LoadSt × Bool :=
  if s.headersSize > am then ({ s with wayTooLarge := true }, true)
  else if s.headersSize ≥ ml ∧ ¬ s.blk.isOverSize then ({ s with blk := { s.blk with isOverSize := true } }, false)
  else (s, false)

theorem loadField_eq (ml am : Nat) (s : LoadSt) (h : Header) :
    loadField ml am s h =
      if h.1.head? = some 58 then
        if s.reg then ({ s with malformed := true }, false)
        else if (getPseudo s.blk.pseudo h.1).isSome then ({ s with malformed := true }, false)
        else
          let c := checkSize ml am { s with headersSize := s.headersSize + decodedHeaderSize h.1.length h.2.length }
          if c.2 then (c.1, true)
          else if ¬ c.1.blk.isOverSize then ({ c.1 with blk := { c.1.blk with pseudo := setPseudo c.1.blk.pseudo h.1 h.2 } }, false)
          else (c.1, false)
      else if connHeaders.contains h.1 then ({ s with malformed := true }, false)
      else if h.1 = Http.str "te" ∧ h.2 ≠ Http.str "trailers" then ({ s with malformed := true }, false)
      else
        let hs := decodedHeaderSize h.1.length h.2.length
        let c := checkSize ml am { s with reg := true, headersSize := s.headersSize + hs }
        if c.2 then (c.1, true)
        else if ¬ c.1.blk.isOverSize then
          ({ c.1 with blk := { c.1.blk with fieldSize := c.1.blk.fieldSize + hs, fields := appendField c.1.blk.fields h.1 h.2 } }, false)
        else (c.1, false) := rfl


/-- the common tail of both arms of the callback: size check, then (unless over-size) store -/
theorem tail_step (ml am : Nat) (s1 : LoadSt) (upd : LoadSt → LoadSt)
    (hupd : ∀ x, (upd x).malformed = x.malformed ∧ (upd x).wayTooLarge = x.wayTooLarge ∧
      (upd x).blk.isOverSize = x.blk.isOverSize) (r : LoadSt × Bool)
    (hr : r = (if (checkSize ml am s1).2 then ((checkSize ml am s1).1, true)
               else if ¬ (checkSize ml am s1).1.blk.isOverSize then (upd (checkSize ml am s1).1, false)
               else ((checkSize ml am s1).1, false))) :
    (r.2 = true → r.1.wayTooLarge = true) ∧ (Clean r.1 → r = (upd s1, false) ∧ Clean s1) ∧
      r.1.malformed = s1.malformed := by
  subst hr
  unfold checkSize
  by_cases h1 : s1.headersSize > am
  · rw [if_pos h1]
    refine ⟨fun _ => rfl, fun c => ?_, rfl⟩
    exact absurd c.w (by simp)
  · rw [if_neg h1]
    by_cases h2 : s1.headersSize ≥ ml ∧ ¬ s1.blk.isOverSize
    · rw [if_pos h2]
      refine ⟨fun x => ?_, fun c => ?_, rfl⟩
      · simp at x
      · exact absurd c.o (by simp)
    · rw [if_neg h2]
      simp only [Bool.false_eq_true, if_false]
      by_cases h3 : s1.blk.isOverSize = true
      · rw [if_neg (by simp [h3])]
        refine ⟨fun x => ?_, fun c => ?_, rfl⟩
        · simp at x
        · exact absurd c.o (by simp [h3])
      · rw [if_pos h3]
        obtain ⟨u1, u2, u3⟩ := hupd s1
        refine ⟨fun x => ?_, fun c => ?_, u1⟩
        · simp at x
        · exact ⟨rfl, u1 ▸ c.m, u2 ▸ c.w, u3 ▸ c.o⟩

theorem loadField_step (ml am : Nat) (s : LoadSt) (h : Header) :
    ((loadField ml am s h).2 = true → (loadField ml am s h).1.wayTooLarge = true) ∧
    (Clean (loadField ml am s h).1 → Clean s ∧ (loadField ml am s h).2 = false ∧
      trackStep (tOf s) h = some (tOf (loadField ml am s h).1)) ∧
    (s.malformed = true → (loadField ml am s h).1.malformed = true) := by
  rw [loadField_eq]
  unfold trackStep tOf
  have bad : ∀ (P : Prop), (({ s with malformed := true }, false) : LoadSt × Bool).2 = true → P := fun P x => by simp at x
  have bad2 : ∀ (P : Prop), Clean (({ s with malformed := true }, false) : LoadSt × Bool).1 → P :=
    fun P c => absurd c.m (by simp)
  by_cases hp : h.1.head? = some 58
  · simp only [if_pos hp]
    by_cases hr : s.reg = true
    · simp only [if_pos hr]
      exact ⟨bad _, bad2 _, fun _ => trivial⟩
    · simp only [if_neg hr]
      by_cases hg : (getPseudo s.blk.pseudo h.1).isSome = true
      · simp only [if_pos hg]
        exact ⟨bad _, bad2 _, fun _ => trivial⟩
      · simp only [if_neg hg]
        obtain ⟨t1, t2, t3⟩ := tail_step ml am { s with headersSize := s.headersSize + decodedHeaderSize h.1.length h.2.length }
          (fun x => { x with blk := { x.blk with pseudo := setPseudo x.blk.pseudo h.1 h.2 } })
          (fun x => ⟨rfl, rfl, rfl⟩) _ rfl
        refine ⟨t1, fun c => ?_, fun hm => t3.trans hm⟩
        obtain ⟨e, c1⟩ := t2 c
        rw [e]
        have hr' : s.reg = false := by simpa using hr
        have hg' : getPseudo s.blk.pseudo h.1 = none := by simpa using hg
        exact ⟨⟨c1.m, c1.w, c1.o⟩, rfl, by simp [hr', hg']⟩
  · simp only [if_neg hp]
    by_cases hcn : connHeaders.contains h.1 = true
    · simp only [if_pos hcn]
      exact ⟨bad _, bad2 _, fun _ => trivial⟩
    · simp only [if_neg hcn]
      by_cases hte : h.1 = Http.str "te" ∧ h.2 ≠ Http.str "trailers"
      · simp only [if_pos hte]
        exact ⟨bad _, bad2 _, fun _ => trivial⟩
      · simp only [if_neg hte]
        obtain ⟨t1, t2, t3⟩ := tail_step ml am
          { s with reg := true, headersSize := s.headersSize + decodedHeaderSize h.1.length h.2.length }
          (fun x => { x with blk := { x.blk with
            fieldSize := x.blk.fieldSize + decodedHeaderSize h.1.length h.2.length,
            fields := appendField x.blk.fields h.1 h.2 } })
          (fun x => ⟨rfl, rfl, rfl⟩) _ rfl
        refine ⟨t1, fun c => ?_, fun hm => t3.trans hm⟩
        obtain ⟨e, c1⟩ := t2 c
        rw [e]
        exact ⟨⟨c1.m, c1.w, c1.o⟩, rfl, by rw [if_neg (not_or.mpr ⟨hcn, hte⟩)]⟩

theorem loadFields_clean (ml am : Nat) : ∀ (fs : List Header) (s : LoadSt),
    Clean (loadFields ml am fs s) → Clean s ∧ track fs (tOf s) = some (tOf (loadFields ml am fs s))
  | [], s, c => ⟨c, rfl⟩
  | h :: rest, s, c => by
    unfold loadFields at c ⊢
    obtain ⟨b1, b2, -⟩ := loadField_step ml am s h
    generalize hl : loadField ml am s h = r at *
    obtain ⟨s', brk⟩ := r
    simp only at c b1 b2 ⊢
    cases brk with
    | true =>
      simp only [if_true] at c
      exact absurd c.w (by rw [b1 rfl]; simp)
    | false =>
      simp only [Bool.false_eq_true, if_false] at c ⊢
      obtain ⟨c', e⟩ := loadFields_clean ml am rest s' c
      obtain ⟨c0, -, e0⟩ := b2 c'
      exact ⟨c0, by simp only [track, e0, e]⟩

end H2V.Lemmas.ConnHttpP
