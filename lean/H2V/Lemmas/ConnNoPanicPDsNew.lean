import H2V.Lemmas.ConnNoPanicPDsOps
import H2V.Lemmas.ConnNoPanicPHist
import H2V.Lemmas.ConnHeadersRule
import H2V.Lemmas.ConnPushRule
/-
  C08 (no panic) — `DSum` / `Coupled` as invariants: the operations that create a slab entry
  (`recv_headers`, `send_request`, `send_push_promise`).
-/
namespace H2V.Lemmas.ConnNoPanicP
open H2V H2V.Model H2V.Model.Conn H2V.Lemmas.ConnCountsP
attribute [local irreducible] wrapSubU32 wrapSubUsize

/-- the closure of `Inner::recv_headers` from a state with `OH`: `GKo` steps; the 431 answer (`send_headers`, not
    `OH`-preserving) comes last, nothing is reset after it -/
theorem recvHeadersBody_gh (k : Nat) (h : HeadersIn) (s : Streams) (ho : OH s) : GK s (s.recvHeadersBody k h).1 :=
  Streams.HeadersBodyRule.run (I := GKo s) (L := fun _ => True) (L' := fun _ => True)
    { hdrs := fun t ht _ => ⟨ht.trans (GKo.of_step (Streams.recvRecvHeaders_step (by decide) t k h)), trivial⟩
      unsup := fun t m ht => ht.trans (unsup_uk t m).toGKo
      trailers := fun t ht _ => ht.trans (GKo.of_step (Streams.recvRecvTrailers_step (by decide) t k h))
      done := fun _ ht => (ht.imp ho).1
      big := fun t ht _ => (ht.imp ho).1.trans (by unfold Streams.answer431; gk_auto)
      rst := fun t _ ht _ => ((ht.trans (resetOnRecvStreamErr_go _ _ _)).imp ho).1 } s (.refl s) trivial

/-- **`Inner::recv_headers`**: up to the closure `UK` steps, which keep `OH` -/
theorem recvHeaders_gh (s : Streams) (h : HeadersIn) (ho : OH s) : GK s (s.recvHeaders h).1 :=
  Streams.HeadersRule.run (I := GK s) (L := fun _ t => OH t)
    { pre := .refl s
      found := fun _ _ => ho
      opn := fun _ => (UK.of_step (Streams.recvOpen_step (by decide) s h.sid false)).toGK
      ins := fun s1 _ hro => by
        have h2 := (of_fst_eq hro (UK.of_step (Streams.recvOpen_step (by decide) s h.sid false))).trans
          (insertNew_uk s1 h.sid s1.actions.send.initWindowSz s1.recv.initWindowSz)
        exact ⟨h2.toGK, h2.oh ho⟩
      body := fun t k ht hot => ht.trans (recvHeadersBody_gh k h t hot)
      ta := fun t k b ht => ht.trans (transitionAfter_gk t k b) }

theorem keysFresh_of_store {s t : Streams} (h : t.store = s.store) (hk : KeysFresh s) : KeysFresh t := by
  unfold KeysFresh at *; rw [h]; exact hk

/-- un-doing an insertion: the entry is the one that was inserted, nothing is buffered on it -/
theorem undoInsert_uk (s : Streams) (st : Stream) (id : Nat) (hk : KeysFresh s) (hb : st.bufferedSendData = 0) :
    UK { s with store := (s.store.insert st).1 }
      { s with store := (((s.store.insert st).1).unlink id).remove s.store.nextKey } := by
  have hs2 : ({ s with store := (s.store.insert st).1 } : Streams).stream s.store.nextKey = { st with key := s.store.nextKey } :=
    stream_of_get? (insert_get?_new hk st)
  exact (unlink_uk _ id).trans (remove_uk ({ s with store := (s.store.insert st).1.unlink id } : Streams) s.store.nextKey
    s.recvBufferLeaked (by
      have : ({ s with store := (s.store.insert st).1.unlink id } : Streams).stream s.store.nextKey =
          ({ s with store := (s.store.insert st).1 } : Streams).stream s.store.nextKey := rfl
      rw [this, hs2]; exact hb))

/-- **`Streams::send_request`**: `UK` steps up to `send_headers`; when that fails it has changed nothing
    (`sendHeaders_error_eq`) and the insertion is undone (`undoInsert_uk`) -/
theorem sendRequest_gk (s : Streams) (hk : KeysFresh s) (isHead : Bool) (fields : List Hpack.Field) (eos : Bool)
    (pending : Option Nat) : GK s (s.sendRequest isHead fields eos pending).1 :=
  SendRequestRule.run (I := GK s) (Q := GK s)
    (L := fun _ k t => ∃ sP st, UK s sP ∧ KeysFresh sP ∧ st.bufferedSendData = 0 ∧ k = sP.store.nextKey ∧
      t = { sP with store := (sP.store.insert st).1 })
    (L' := fun _ _ _ => True)
    { pre := .refl _
      opn := (UK.of_step (Streams.sendOpenId_step (by decide) s)).toGK
      done := fun _ ht => ht
      ins := fun s1 id sP hso hP => by
        have hst1 : s1.store = s.store := by have := sendOpenId_store s; rw [hso] at this; exact this
        have h1 : UK s s1 := of_fst_eq hso (UK.of_step (Streams.sendOpenId_step (by decide) s))
        have h2 : UK s sP ∧ sP.store = s.store := by
          rw [hP]; split
          · exact ⟨h1.trans (panic_uk _ _), by rw [panic_store, hst1]⟩
          · exact ⟨h1, hst1⟩
        have hf : ∀ a b, (requestStream isHead id a b).pendingSend = [] ∧ (requestStream isHead id a b).bufferedSendData = 0 ∧
            (requestStream isHead id a b).isPendingOpen = false := by
          intro a b; unfold requestStream; split <;> exact ⟨rfl, rfl, rfl⟩
        exact ⟨(h2.1.trans (insert_uk sP _ (hf _ _).1 (hf _ _).2.1 (hf _ _).2.2)).toGK,
          sP, _, h2.1, keysFresh_of_store h2.2 hk, (hf _ _).2.1, rfl, rfl⟩
      hdr := fun t _ k ht _ => ⟨ht.trans (sendHeaders_gk t k eos fields), trivial⟩
      undo := fun t id k s3 _ ht hl heq => by
        obtain ⟨sP, st, hP, hkP, hb, rfl, rfl⟩ := hl
        have := sendHeaders_error_eq heq
        subst this
        exact ht.trans (undoInsert_uk sP st id hkP hb).toGK
      fin := fun t _ k ht _ => ht.trans
        ((setMisc_uk t t.actions (t.refs + 1) t.recvBufferLeaked t.wakes t.unsupported rfl).trans (UK.of_step (Streams.refInc_step (by decide) _ _))).toGK }
    pending

/-- **`StreamRef::send_push_promise`**: nothing is buffered on the promised entry, so taking it out again is a `UK` step -/
theorem refSendPushPromise_uk (s : Streams) (hk : KeysFresh s) (parent : Nat) (valid : Bool) (fields : List Hpack.Field) :
    UK s (s.refSendPushPromise parent valid fields).1 :=
  PushRule.run (I := UK s) (Q := UK s)
    (L := fun _ k t => Live t k ∧ (t.stream k).bufferedSendData = 0) (L' := fun _ k t => (t.stream k).bufferedSendData = 0)
    { opn := UK.of_step (Streams.sendOpenId_step (by decide) s)
      done := fun _ ht => ht
      ins := fun s1 pid sP hso hP => by
        have hst1 : s1.store = s.store := by have := sendOpenId_store s; rw [Streams.sendReserveLocal] at hso; rw [hso] at this; exact this
        have h2 : UK s sP ∧ sP.store = s.store := by
          rw [hP]; split
          · exact ⟨(of_fst_eq hso (UK.of_step (Streams.sendOpenId_step (by decide) s))).trans (panic_uk _ _), by rw [panic_store, hst1]⟩
          · exact ⟨of_fst_eq hso (UK.of_step (Streams.sendOpenId_step (by decide) s)), hst1⟩
        have hget := insert_get?_new (keysFresh_of_store h2.2 hk) (Stream.new pid sP.actions.send.initWindowSz sP.recv.initWindowSz)
        exact ⟨h2.1.trans (insert_uk sP _ rfl rfl rfl), ⟨_, hget⟩, by rw [stream_of_get? hget]; rfl⟩
      reserve := fun t _ k st' _ ht hl _ =>
        ⟨ht.trans (modStream_uk _ _ _ (fun _ => ⟨rfl, .of_fields rfl rfl rfl⟩)), by
          rw [stream_modStream_live hl.1 (fun x => ({ x with state := st', isPendingPush := true } : Stream)) (fun _ => rfl)]
          exact hl.2⟩
      undo := fun t pid k s5 _ ht hl heq => by
        have := sendPushPromise_error_eq heq
        subst this
        exact ht.trans ((unlink_uk _ pid).trans (remove_uk ({ s5 with store := s5.store.unlink pid } : Streams) k s5.recvBufferLeaked hl))
      fin := fun t pid k s5 _ ht _ heq =>
        (ht.trans (of_fst_eq heq (UK.of_step (Streams.sendPushPromise_step (by decide) t parent k pid fields)))).trans
          ((setMisc_uk s5 s5.actions (s5.refs + 1) s5.recvBufferLeaked s5.wakes s5.unsupported rfl).trans (UK.of_step (Streams.refInc_step (by decide) _ _))) }
    valid

end H2V.Lemmas.ConnNoPanicP
