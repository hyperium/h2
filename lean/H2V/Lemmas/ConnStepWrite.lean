import H2V.Lemmas.ConnStepFns
/-
  `f_step` for the write path: `pop_frame` and what `poll_complete` runs around it.  The kernel cannot unfold `Stream.sendData`
  (ConnBasicsSendData), so `pop_frame` is walked on ConnWakeP's clone `popFrameC sd`, where `Stream::send_data` is a variable `sd`
  of which only `hsd` is asked: it is an update of the entry.  `popFrame_step` puts the real one in (kind `.chargeData`).
-/
namespace H2V.Model.Conn.Streams
open H2V H2V.Model H2V.Model.Conn
open H2V.Lemmas.ConnWakeP (popFrameC popFrameC_zero popFrameC_succ pfFinish pfData)
attribute [local irreducible] wrapSubU32 wrapSubUsize
variable {K : Kind → Bool}

theorem sendConnectionWindowUpdate_step (hK : Kind.Has K [.connRecvFlow]) (s : Streams) (w : Writer) : Step K s
    (s.sendConnectionWindowUpdate w).1 := by
  unfold Streams.sendConnectionWindowUpdate; stp_auto
theorem sendStreamWindowUpdates_step
    (hK : Kind.Has K [.release, .unlink, .dequeue .pendingWindowUpdates, .counterDown .localReset, .recvFlow]) (n : Nat) : ∀
    (s : Streams) (w : Writer), Step K s (Streams.sendStreamWindowUpdates n s w).1 := by
  refine Streams.sendStreamWindowUpdates_rel Step.ok (fun s => qPop_step s _ ?_)
    (fun s k fl => modStream_step s k _ (.recvFlow fl ?_)) (transitionAfter_step ?_) n <;> stp_side
theorem recvBufferPending_step
    (hK : Kind.Has K [.release, .unlink, .dequeue .pendingWindowUpdates, .counterDown .localReset, .recvFlow, .connRecvFlow])
    (s : Streams) (w : Writer) : Step K s (s.recvBufferPending w).1 := by
  unfold Streams.recvBufferPending; stp_auto

theorem popPendingOpen_step (hK : Kind.Has K [.count, .dequeue .pendingOpen]) (s : Streams) : Step K s s.popPendingOpen.1 := by
  unfold Streams.popPendingOpen; stp_auto

theorem pfFinish_step (hK : Kind.Has K [.release, .unlink, .enqueue .pendingSend, .counterDown .localReset]) (id : Nat)
    (b : Bool) (s : Streams) (f : Streams.OutFrame) : Step K s (pfFinish id b s f).1 := by
  unfold pfFinish; stp_auto
/-- `sd` stands for `Stream::send_data`: all that is asked of it is that it is an update of the entry -/
theorem pfData_step {sd : Stream → Nat → Nat → Stream × List String × Bool} (hK : Kind.Has K [.popFrame, .connSendFlow])
    (hsd : ∀ x a b, Stream.Upd K x (sd x a b).1) (s : Streams) (id len : Nat) {f : SFrame} {rest : List SFrame}
    (hps : (s.stream id).pendingSend = f :: rest) : Step K s (pfData sd s id len rest) := by
  unfold pfData
  dsimp only
  generalize hs1 : s.modStream id _ = s1
  have h1 : Step K s s1 := by
    rw [← hs1]; refine modStream_step _ _ _ (.popSend _ _ ?_ hps); stp_side
  have h2 : Step K s (s1.setStream (sd (s1.stream id) len s1.prio.maxBufferSize).1) := by
    have hu := hsd (s1.stream id) len s1.prio.maxBufferSize
    refine h1.trans (setStream_step _ _ ?_)
    rw [hu.key, stream_key]; exact hu
  generalize s1.setStream _ = s2 at h2 ⊢
  stp_auto

theorem popFrameC_step {sd : Stream → Nat → Nat → Stream × List String × Bool}
    (hK : Kind.Has K [.release, .unlink, .count, .enqueue .pendingSend, .enqueue .pendingCapacity, .enqueue .pendingOpen,
      .dequeue .pendingSend, .dequeue .pendingCapacity, .counterDown .localReset, .popFrame, .clearSend, .activatePush,
      .sendFlow, .connSendFlow, .markDrop, .state .setResetScheduled])
    (hsd : ∀ x a b, Stream.Upd K x (sd x a b).1) (fuel : Nat) : ∀ (s : Streams) (maxLen : Nat), Step K s
    (popFrameC sd fuel s maxLen).1 := by
  induction fuel with
  | zero => intro s m; rw [popFrameC_zero]; exact .refl _
  | succ n ih => intro s m; rw [popFrameC_succ]; stp_auto_ih ih

theorem popFrame_step
    (hK : Kind.Has K [.release, .unlink, .count, .enqueue .pendingSend, .enqueue .pendingCapacity, .enqueue .pendingOpen,
      .dequeue .pendingSend, .dequeue .pendingCapacity, .counterDown .localReset, .popFrame, .chargeData, .clearSend,
      .activatePush, .sendFlow, .connSendFlow, .markDrop, .state .setResetScheduled])
    (fuel : Nat) (s : Streams) (maxLen : Nat) : Step K s (Streams.popFrame fuel s maxLen).1 := by
  rw [popFrameC.eq]; refine popFrameC_step ?_ (fun x a b => Stream.Upd.sendData a b ?_ ?_) fuel s maxLen <;> stp_side

theorem reclaimFrameInner_step (hK : Kind.Has K [.enqueue .pendingSend, .frame .data, .mark]) (s : Streams) (fr : DataFrame) :
    Step K s (s.reclaimFrameInner fr).1 := by
  unfold Streams.reclaimFrameInner; stp_auto
theorem reclaimFrame_step (hK : Kind.Has K [.enqueue .pendingSend, .frame .data, .mark]) (s : Streams) (w : Writer) : Step K s
    (s.reclaimFrame w).1 := by
  unfold Streams.reclaimFrame; stp_auto
theorem bufferOut_step (hK : Kind.Has K [.mark]) (s : Streams) (w : Writer) (f : Streams.OutFrame) : Step K s
    (s.bufferOut w f).1 := by
  unfold Streams.bufferOut; stp_auto
theorem bufferPendingOpen_step
    (hK : Kind.Has K [.count, .enqueue .pendingSend, .enqueue .pendingCapacity, .dequeue .pendingOpen, .sendFlow,
      .connSendFlow])
    (s : Streams) : Step K s s.bufferPendingOpen := by
  unfold Streams.bufferPendingOpen; stp_auto
theorem prioBufferPendingLoop_step
    (hK : Kind.Has K [.release, .unlink, .count, .enqueue .pendingSend, .enqueue .pendingCapacity, .enqueue .pendingOpen,
      .dequeue .pendingSend, .dequeue .pendingCapacity, .dequeue .pendingOpen, .counterDown .localReset, .frame .data,
      .popFrame, .chargeData, .clearSend, .activatePush, .sendFlow, .connSendFlow, .mark, .markDrop, .state .setResetScheduled])
    (n : Nat) : ∀ (s : Streams) (w : Writer), Step K s (Streams.prioBufferPendingLoop n s w).1 := by
  induction n with
  | zero => intro s w; unfold Streams.prioBufferPendingLoop; exact panic_step _ _
  | succ n ih => intro s w; rw [Streams.prioBufferPendingLoop_succ]; stp_auto_ih ih
theorem prioBufferPending_step
    (hK : Kind.Has K [.release, .unlink, .count, .enqueue .pendingSend, .enqueue .pendingCapacity, .enqueue .pendingOpen,
      .dequeue .pendingSend, .dequeue .pendingCapacity, .dequeue .pendingOpen, .counterDown .localReset, .frame .data,
      .popFrame, .chargeData, .clearSend, .activatePush, .sendFlow, .connSendFlow, .mark, .markDrop, .state .setResetScheduled])
    (n : Nat) (s : Streams) (w : Writer) : Step K s (Streams.prioBufferPending n s w).1 := by
  unfold Streams.prioBufferPending; stp_auto
theorem bufferPending_step
    (hK : Kind.Has K [.release, .unlink, .count, .enqueue .pendingSend, .enqueue .pendingCapacity, .enqueue .pendingOpen,
      .dequeue .pendingSend, .dequeue .pendingCapacity, .dequeue .pendingOpen, .dequeue .pendingWindowUpdates,
      .counterDown .localReset, .frame .data, .popFrame, .chargeData, .clearSend, .activatePush, .sendFlow, .connSendFlow,
      .mark, .markDrop, .recvFlow, .connRecvFlow, .state .setResetScheduled])
    (n : Nat) (s : Streams) (w : Writer) : Step K s (Streams.bufferPending n s w).1 := by
  unfold Streams.bufferPending; stp_auto
theorem pollComplete_step
    (hK : Kind.Has K [.release, .unlink, .count, .enqueue .pendingSend, .enqueue .pendingCapacity, .enqueue .pendingOpen,
      .dequeue .pendingSend, .dequeue .pendingCapacity, .dequeue .pendingOpen, .dequeue .pendingWindowUpdates,
      .counterDown .localReset, .frame .data, .popFrame, .chargeData, .clearSend, .activatePush, .sendFlow, .connSendFlow,
      .mark, .markDrop, .recvFlow, .connRecvFlow, .park, .connTask, .state .setResetScheduled])
    (n : Nat) : ∀ (s : Streams) (w : Writer) (io : Tio) (t : String), Step K s (Streams.pollComplete n s w io t).1 := by
  induction n with
  | zero => intro s w io t; unfold Streams.pollComplete; exact panic_step _ _
  | succ n ih => intro s w io t; rw [Streams.pollComplete_succ]; stp_auto_ih ih
theorem pollSendPendingRefusal_step (hK : Kind.Has K [.nextId]) (n : Nat) : ∀ (s : Streams) (w : Writer) (io : Tio)
    (t : String), Step K s (Streams.pollSendPendingRefusal n s w io t).1 := by
  induction n with
  | zero => intro s w io t; unfold Streams.pollSendPendingRefusal; exact .refl _
  | succ n ih => intro s w io t; rw [Streams.pollSendPendingRefusal_succ]; stp_auto_ih ih

end H2V.Model.Conn.Streams
