import H2V.Lemmas.ConnResetPHist
/-
  ConnResetP — the exact effect of `StreamRef::send_reset` (C17, first half): what the reset stream
  looks like afterwards and that no other stream's queue is touched.
-/
set_option linter.unusedSectionVars false
namespace H2V.Lemmas.ConnResetP
open H2V H2V.Model H2V.Model.Conn

instance : Good CoreEq (fun _ => True) where
  trans := CoreEq.trans
  new := fun _ _ => trivial
  core := fun h => h
  key := CoreEq.key

theorem refSendReset_eq (s : Streams) (id : Nat) (r : Reason) :
    s.refSendReset id r =
      ((((s.sendSendReset id r .user).enqueueResetExpiration id).modStreamW id Stream.notifyRecv).transitionAfter id
        (s.stream id).isPendingResetExpiration) := rfl

/-- the reset stream keeps its core fields, and stays in the slab, through the rest of `send_reset`;
    the other streams keep theirs or (with an empty queue) are released -/
theorem resetTail_frame (x : Streams) (id : Nat) (b : Bool) :
    Evolves CoreEq (fun _ => True) x.store
      ((((x.reclaimAllCapacity id).enqueueResetExpiration id).modStreamW id Stream.notifyRecv).transitionAfter id b).store := by
  have h : Evolves CoreEq (fun _ => True) x.store x.store := Evolves.refl _
  ev

/-- **`send_reset(reason)` on a stream that is not reset yet and is not (closed with nothing unsent)**:
    afterwards the stream is still in the slab, closed with `Reset(id, reason, User)`, and its queue is
    exactly the RST_STREAM — preceded by the initial HEADERS when the stream still waits to be opened;
    every other slab entry keeps key, id, state and queue — or, if its queue was empty, may have been
    released by the capacity reassignment. -/
theorem refSendReset_spec (s : Streams) (id : Nat) (r : Reason) (st : Stream)
    (hkb : KeysBelow s.store) (hg : s.store.get? id = some st) (hr : st.state.isReset = false)
    (hne : (st.state.isClosed && (st.pendingSend.isEmpty && st.bufferedSendData == 0)) = false) :
    (∃ st', (s.refSendReset id r).store.get? id = some st' ∧ st'.id = st.id ∧
        st'.state = ⟨.closed (.error (.reset st.id r .user))⟩ ∧
        st'.pendingSend = (if st.isPendingOpen then st.pendingSend.head?.toList else []) ++ [.reset r]) ∧
    (∀ k st'', k ≠ id → k < s.store.nextKey → (s.refSendReset id r).store.get? k = some st'' →
        ∃ st0, s.store.get? k = some st0 ∧ CoreEq st0 st'') ∧
    (∀ k st0, k ≠ id → s.store.get? k = some st0 → st0.pendingSend ≠ [] →
        ∃ st'', (s.refSendReset id r).store.get? k = some st'' ∧ CoreEq st0 st'') := by
  have hs : s.stream id = st := stream_of_get? hg
  rw [refSendReset_eq, sendSendReset_eq s id r .user (by rw [hs]; exact hr) (by rw [hs]; exact hne)]
  obtain ⟨G, hG, hGk, hspec⟩ := sendResetPre_store s id r .user
  have sp := hspec st hg
  have ev := resetTail_frame (sendResetPre s id r .user) id (s.stream id).isPendingResetExpiration
  generalize ((((sendResetPre s id r .user).reclaimAllCapacity id).enqueueResetExpiration id).modStreamW id
    Stream.notifyRecv).transitionAfter id (s.stream id).isPendingResetExpiration = fin at ev ⊢
  rw [hG] at ev
  have hnk : (Store.mod s.store id G).nextKey = s.store.nextKey := Store.nextKey_mod _ _ _
  have hget : ∀ k, (Store.mod s.store id G).get? k = if k = id then (s.store.get? id).map G else s.store.get? k :=
    fun k => Store.get?_mod' _ _ _ hGk k
  refine ⟨?_, ?_, ?_⟩
  · have h3 : (Store.mod s.store id G).get? id = some (G st) := by rw [hget, if_pos rfl, hg]; rfl
    rcases ev.fwd id (G st) h3 (by rw [hnk]; exact hkb id st hg) with ⟨st', h', c⟩ | ⟨st'', c, d⟩
    · refine ⟨st', h', c.id.trans sp.id, ?_, ?_⟩
      · rw [c.state, sp.state]; rfl
      · rw [c.pendingSend, sp.pendingSend]
    · exfalso
      have : (G st).pendingSend = [] := by rw [← c.pendingSend]; exact d.1
      rw [sp.pendingSend] at this
      simp at this
  · intro k st'' hk hlt' h'
    rcases ev.back k st'' h' with ⟨st0, h0, c⟩ | ⟨hge, _, _⟩
    · rw [hget, if_neg hk] at h0; exact ⟨st0, h0, c⟩
    · exfalso; rw [hnk] at hge; omega
  · intro k st0 hk h0 hq
    have h3 : (Store.mod s.store id G).get? k = some st0 := by rw [hget, if_neg hk]; exact h0
    rcases ev.fwd k st0 h3 (by rw [hnk]; exact hkb k st0 h0) with ⟨st', h', c⟩ | ⟨st'', c, d⟩
    · exact ⟨st', h', c⟩
    · exfalso; apply hq; rw [← c.pendingSend]; exact d.1

end H2V.Lemmas.ConnResetP
