import H2V.Lemmas.ConnHttpPInner
import H2V.Lemmas.ConnHttpPReader
/-
  C13 (ConnHttpP) — assembly: a header block delivered by `decode_frame` (ghost field list `g`)
  whose head / trailers the stream layer hands to the application, against `Spec.Http`.
-/
namespace H2V.Lemmas.ConnHttpP
open H2V H2V.Model H2V.Model.Frame H2V.Model.Hpack H2V.Model.Conn H2V.Model.CodecRead

theorem block_exact (blk : HeaderBlock) (g : List Header) (hm : blk.isMalformed = false)
    (ho : blk.isOverSize = false) (hb : BlockInv blk g) (hok : ∀ x ∈ g, fieldOk x = true) :
    Spec.Http.common g = [] ∧ PseudoExact g blk.pseudo ∧ blk.fields = groupInto [] (regular g) := by
  have ht := hb hm ho
  exact ⟨track_common g _ ht hok, track_pseudoExact g _ ht hok, (tracked g _ _ ht).fields⟩

/-- **request heads**: a request event for a delivered block means NO rule of `Spec.Http.request` is
    violated by the block's field list (since the repair of findings N2 / N3 without exception), and the
    fields handed over are exactly the regular fields of the list -/
theorem accepted_request_rules (blk : HeaderBlock) (g : List Header) (sid : Nat) (eos : Bool) (cfg : Bool × Bool)
    (m u : Bytes) (f : Fields) (hm : blk.isMalformed = false) (hb : BlockInv blk g)
    (hok : ∀ x ∈ g, fieldOk x = true) (ha : HeadAccepted cfg (Conn.headersIn sid eos blk) (.request m u f)) :
    Spec.Http.request g cfg.2 = [] ∧ f = groupInto [] (regular g) ∧
    Spec.Http.get g ":method" = [m] := by
  obtain ⟨ho, -, hc, hst, hpr, hf⟩ := ha
  obtain ⟨hcm, hpe, hfl⟩ := block_exact blk g hm ho hb hok
  refine ⟨?_, by rw [hf]; exact hfl, ?_⟩
  · rw [request_eq_reqRules g blk.pseudo cfg.2 hcm hpe]
    have := convert_ok_rules (Conn.headersIn sid eos blk) cfg.2 m u hc hst hpr
    simpa only [Conn.headersIn] using this
  · rw [hpe.method]
    have := (convert_ok_guards _ m u hc).1
    simp only [Conn.headersIn] at this
    rw [this]; rfl

theorem mem_vals (g : List Header) (n v : Bytes) (h : v ∈ vals g n) : (n, v) ∈ g := by
  unfold vals at h
  obtain ⟨f, hf, rfl⟩ := List.mem_map.mp h
  have := List.mem_filter.mp hf
  have e : f.1 = n := by simpa using this.2
  rw [← e]; exact this.1

/-- **response heads (final or interim)**: the client checks nothing beyond the common rules — what may
    be violated is exactly the known findings F5b (`missing-status`, delivered as 200) and F5a
    (`request-pseudo-in-response`) -/
theorem accepted_response_rules (blk : HeaderBlock) (g : List Header) (sid : Nat) (eos : Bool) (cfg : Bool × Bool)
    (st : Bytes) (f : Fields) (hm : blk.isMalformed = false) (hb : BlockInv blk g)
    (hok : ∀ x ∈ g, fieldOk x = true)
    (ha : HeadAccepted cfg (Conn.headersIn sid eos blk) (.headers st f) ∨
          HeadAccepted cfg (Conn.headersIn sid eos blk) (.informational st f)) :
    (∀ r ∈ Spec.Http.response g, r = "missing-status" ∨ r = "request-pseudo-in-response") ∧
    f = groupInto [] (regular g) ∧
    (Spec.Http.get g ":status" = [st] ∨ (Spec.Http.get g ":status" = [] ∧ st = Http.str "200")) := by
  have hb' : blk.isOverSize = false ∧ st = blk.pseudo.status.getD (Http.str "200") ∧ f = blk.fields := by
    rcases ha with ⟨ho, -, -, h1, h2⟩ | ⟨ho, -, -, h1, h2⟩ <;> exact ⟨ho, h1, h2⟩
  obtain ⟨ho, hst, hf⟩ := hb'
  obtain ⟨hcm, hpe, hfl⟩ := block_exact blk g hm ho hb hok
  refine ⟨fun r hr => ?_, by rw [hf]; exact hfl, ?_⟩
  · unfold Spec.Http.response at hr
    rw [hcm, List.nil_append, List.mem_append] at hr
    rcases hr with hr | hr
    · rw [hpe.status] at hr
      cases hs : blk.pseudo.status with
      | none => rw [hs] at hr; simp at hr; exact Or.inl hr
      | some v =>
        rw [hs] at hr
        have hv : (pStatus, v) ∈ g := mem_vals g pStatus v (by
          have := hpe.status; rw [get_eq_vals, ascii_status, hs] at this; rw [this]; simp)
        have := ((fieldOk_iff _).mp (hok _ hv)).2.2 rfl
        simp [this] at hr
    · split at hr
      · simp at hr; exact Or.inr hr
      · cases hr
  · rw [hpe.status, hst]
    cases blk.pseudo.status with
    | none => exact Or.inr ⟨rfl, rfl⟩
    | some v => exact Or.inl rfl

/-- **trailers**: neither role looks at the pseudo-header part of trailers — what may be violated is
    exactly the known finding F5c (`pseudo-in-trailers`); over-size trailers are never handed over
    (finding N6, repaired) -/
theorem accepted_trailers_rules (blk : HeaderBlock) (g : List Header) (sid : Nat) (eos : Bool) (ev : REvent)
    (hm : blk.isMalformed = false) (hb : BlockInv blk g)
    (hok : ∀ x ∈ g, fieldOk x = true) (ha : TrailersAccepted (Conn.headersIn sid eos blk) ev) :
    (∀ r ∈ Spec.Http.trailers g, r = "pseudo-in-trailers") ∧ ev = .trailers (groupInto [] (regular g)) := by
  obtain ⟨hev, ho⟩ := ha
  obtain ⟨hcm, -, hfl⟩ := block_exact blk g hm ho hb hok
  refine ⟨fun r hr => ?_, by rw [hev]; simp only [Conn.headersIn, hfl]⟩
  unfold Spec.Http.trailers at hr
  rw [hcm, List.nil_append] at hr
  split at hr
  · simpa using hr
  · cases hr

/-- what the application may be handed for a delivered header block that stands for the field list `g`
    (the violations listed for responses and trailers are the known findings F5a–c) -/
def ValidEvent (cfg : Bool × Bool) (g : List Header) (ev : REvent) : Prop :=
  match ev with
  | .request m _ f => cfg.1 = true ∧ Spec.Http.request g cfg.2 = [] ∧
      f = groupInto [] (regular g) ∧ Spec.Http.get g ":method" = [m]
  | .headers st f => cfg.1 = false ∧
      (∀ r ∈ Spec.Http.response g, r = "missing-status" ∨ r = "request-pseudo-in-response") ∧
      f = groupInto [] (regular g) ∧
      (Spec.Http.get g ":status" = [st] ∨ (Spec.Http.get g ":status" = [] ∧ st = Http.str "200"))
  | .informational st f => cfg.1 = false ∧
      (∀ r ∈ Spec.Http.response g, r = "missing-status" ∨ r = "request-pseudo-in-response") ∧
      f = groupInto [] (regular g) ∧
      (Spec.Http.get g ":status" = [st] ∨ (Spec.Http.get g ":status" = [] ∧ st = Http.str "200"))
  | .trailers f => (∀ r ∈ Spec.Http.trailers g, r = "pseudo-in-trailers") ∧ f = groupInto [] (regular g)
  | .data .. => False

theorem frameAccepted_valid (blk : HeaderBlock) (g : List Header) (sid : Nat) (eos : Bool) (cfg : Bool × Bool)
    (ev : REvent) (hm : blk.isMalformed = false) (hb : BlockInv blk g) (hok : ∀ x ∈ g, fieldOk x = true)
    (ha : FrameAccepted cfg (Conn.headersIn sid eos blk) ev) : ValidEvent cfg g ev := by
  rcases ha with ha | ha
  · cases ev with
    | request m u f =>
      obtain ⟨r1, r2, r3⟩ := accepted_request_rules blk g sid eos cfg m u f hm hb hok ha
      exact ⟨ha.2.1, r1, r2, r3⟩
    | headers st f =>
      obtain ⟨r1, r2, r3⟩ := accepted_response_rules blk g sid eos cfg st f hm hb hok (Or.inl ha)
      exact ⟨ha.2.1, r1, r2, r3⟩
    | informational st f =>
      obtain ⟨r1, r2, r3⟩ := accepted_response_rules blk g sid eos cfg st f hm hb hok (Or.inr ha)
      exact ⟨ha.2.1, r1, r2, r3⟩
    | data p b => exact ha.2
    | trailers f => exact ha.2.elim
  · obtain ⟨r1, r2⟩ := accepted_trailers_rules blk g sid eos ev hm hb hok ha
    rw [r2]
    exact ⟨r1, rfl⟩

theorem recvHeaders_valid (s : Streams) (blk : HeaderBlock) (g : List Header) (sid : Nat) (eos : Bool)
    (hm : blk.isMalformed = false) (hb : BlockInv blk g) (hok : ∀ x ∈ g, fieldOk x = true) :
    Delivers (fun _ ev => ValidEvent (cfgOf s) g ev) s (s.recvHeaders (Conn.headersIn sid eos blk)).1 :=
  (recvHeaders_delivers s _).mono fun _ ev ha => frameAccepted_valid blk g sid eos _ ev hm hb hok ha

theorem delivered_block_common (r : Reader) (g : List Header) (bytes : Bytes) (blk : HeaderBlock)
    (hi : RInv r g) (hd : dfBlock (decodeFrame r bytes).2 = some blk) :
    blk.isMalformed = false ∧ BlockInv blk (ghostNext g r bytes) ∧ (∀ x ∈ ghostNext g r bytes, fieldOk x = true) ∧
    (blk.isOverSize = true ∨
      (Spec.Http.common (ghostNext g r bytes) = [] ∧ PseudoExact (ghostNext g r bytes) blk.pseudo ∧
        blk.fields = groupInto [] (regular (ghostNext g r bytes)))) := by
  obtain ⟨hm, hb, hok⟩ := (decodeFrame_inv r g bytes hi).2 blk hd
  refine ⟨hm, hb, hok, ?_⟩
  cases ho : blk.isOverSize with
  | true => exact Or.inl rfl
  | false => exact Or.inr (block_exact blk _ hm ho hb hok)

theorem violating_field_flag (b : HeaderBlock) (fs : List Header) (src : Bytes) (maxList : Nat) (dec : Decoder)
    (hb : BlockInv b fs) (hok : ∀ x ∈ fs ++ loadedFields dec src, fieldOk x = true)
    (hbad : Spec.Http.common (fs ++ loadedFields dec src) ≠ []) :
    (HeaderBlock.load b src maxList dec).2.2.2 = .error .headerListWayTooLarge ∨
    (HeaderBlock.load b src maxList dec).1.isMalformed = true ∨
    (HeaderBlock.load b src maxList dec).1.isOverSize = true := by
  by_cases hw : (HeaderBlock.load b src maxList dec).2.2.2 = .error .headerListWayTooLarge
  · exact Or.inl hw
  · right
    have hinv := load_inv b fs src maxList dec hb hw
    cases hm : (HeaderBlock.load b src maxList dec).1.isMalformed with
    | true => exact Or.inl rfl
    | false =>
      cases ho : (HeaderBlock.load b src maxList dec).1.isOverSize with
      | true => exact Or.inr rfl
      | false => exact absurd (block_exact _ _ hm ho hinv hok).1 hbad

end H2V.Lemmas.ConnHttpP
