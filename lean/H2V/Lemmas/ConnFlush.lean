import H2V.Model.ConnCodec
/-
  `FramedWrite::flush` (and `poll_ready`, `shutdown` over it) characterised once: the three ways it ends, with what each
  leaves of the writer and of the transport.  The facts the families need of a flush (wakers, capacity, limits, the held
  DATA frame) are read off `flush_cases` without unfolding `flush` again.  Likewise `FramedRead::poll_next`: the ways one
  round of it ends (`pollNext_cases`).
-/
namespace H2V.Model.Conn
open H2V H2V.Model

/-- what a write does to the frame the codec holds: its `remaining` count only -/
def NextW (a b : Option NextData) : Prop :=
  (a = none ∧ b = none) ∨ ∃ nd r, a = some nd ∧ b = some { nd with remaining := r }

theorem NextW.frame {a b : Option NextData} (h : NextW a b) : b.map (·.frame) = a.map (·.frame) := by
  rcases h with ⟨rfl, rfl⟩ | ⟨nd, r, rfl, rfl⟩ <;> rfl

theorem NextW.ite_fst {α : Type} {a : Option NextData} (c : Prop) [Decidable c] {x y : Option NextData × α}
    (hx : NextW a x.1) (hy : NextW a y.1) : NextW a (if c then x else y).1 := by
  by_cases h : c
  · rw [if_pos h]; exact hx
  · rw [if_neg h]; exact hy

theorem unsetFrame_cases (x : Writer) :
    (x.next = none ∧ x.unsetFrame = { x with buf := [], bufLen := 0 }) ∨
    ∃ n, x.next = some n ∧ x.unsetFrame = { x with buf := [], bufLen := 0, next := none, lastDataFrame := some n.frame } := by
  unfold Writer.unsetFrame
  cases h : x.next with
  | none => exact .inl ⟨rfl, rfl⟩
  | some n => exact .inr ⟨n, rfl, rfl⟩

/-- the two ways a write ends: some octets are left and the write waker is parked, or none and `unset_frame` -/
def FlushEnd (w : Writer) (io : Tio) (tag : String) (r : Writer × Tio × WRes) : Prop :=
  ∃ buf' next' bg p tx, NextW w.next next' ∧
    (r = ({ w with buf := buf', next := next' },
        { io with budget := bg, partialOctets := p, tx := tx, writeWaker := some tag }, .pending) ∨
     r = (({ w with buf := buf', next := next' } : Writer).unsetFrame,
        { io with budget := bg, partialOctets := p, tx := tx }, .ready))

theorem FlushEnd.ite {w : Writer} {io : Tio} {tag : String} (c : Prop) [Decidable c] {buf' : List Seg} {next' : Option NextData}
    {bg : Option Nat} {p : Nat} {tx : List String} (hn : NextW w.next next') :
    FlushEnd w io tag (if c then
        ({ w with buf := buf', next := next' },
          { io with budget := bg, partialOctets := p, tx := tx, writeWaker := some tag }, .pending)
      else (({ w with buf := buf', next := next' } : Writer).unsetFrame, { io with budget := bg, partialOctets := p, tx := tx }, .ready)) := by
  by_cases h : c
  · rw [if_pos h]; exact ⟨_, _, _, _, _, hn, .inl rfl⟩
  · rw [if_neg h]; exact ⟨_, _, _, _, _, hn, .inr rfl⟩

/-- the three ways `flush` ends: the transport's error, nothing touched; part written (buffer, `remaining` of the held frame,
    budget / partial octets / frames on the wire) and the write waker parked; all written and `unset_frame` -/
theorem flush_cases (w : Writer) (io : Tio) (tag : String) :
    flush w io tag = (w, io, .err (io.wrErr.getD "")) ∨ FlushEnd w io tag (flush w io tag) := by
  unfold flush
  dsimp only
  generalize (w.bufRemaining + match w.next with | some n => n.remaining | none => 0) = total
  by_cases hc : (decide (total > 0) && io.wrErr.isSome) = true
  · exact .inl (if_pos hc)
  · rw [if_neg hc]
    refine .inr (FlushEnd.ite _ ?_)
    cases w.next with
    | none => exact .inl ⟨rfl, rfl⟩
    | some nd =>
      exact .ite_fst _ (.inr ⟨nd, nd.remaining, rfl, rfl⟩) (.ite_fst _ (.inr ⟨nd, 0, rfl, rfl⟩) (.inr ⟨nd, _, rfl, rfl⟩))


theorem bufferData_some {w : Writer} {len : Nat} (h : len ≤ w.maxFrameSize) (e : Bool) (fr : DataFrame) :
    ∃ w', w.bufferData len e fr = some w' ∧
      ((w'.lastDataFrame = some fr ∧ w'.next = w.next) ∨
       (w'.lastDataFrame = w.lastDataFrame ∧ ∃ nd, w'.next = some nd ∧ nd.frame = fr)) := by
  unfold Writer.bufferData
  rw [if_neg (by omega)]
  dsimp only
  split
  · split
    · exact ⟨_, rfl, .inr ⟨rfl, _, rfl, rfl⟩⟩
    · exact ⟨_, rfl, .inr ⟨rfl, _, rfl, rfl⟩⟩
  · exact ⟨_, rfl, .inl ⟨rfl, rfl⟩⟩

theorem bufferHeaders_keeps (w : Writer) (sid : Nat) (eos : Bool) (f : List Hpack.Field) :
    (w.bufferHeaders sid eos f).lastDataFrame = w.lastDataFrame ∧ (w.bufferHeaders sid eos f).next = w.next := by
  unfold Writer.bufferHeaders
  split
  · dsimp only; split <;> exact ⟨rfl, rfl⟩
  · exact ⟨rfl, rfl⟩

theorem bufferPushPromise_keeps (w : Writer) (sid p : Nat) (f : List Hpack.Field) :
    (w.bufferPushPromise sid p f).lastDataFrame = w.lastDataFrame ∧ (w.bufferPushPromise sid p f).next = w.next := by
  unfold Writer.bufferPushPromise
  split
  · dsimp only; split <;> exact ⟨rfl, rfl⟩
  · exact ⟨rfl, rfl⟩

/-- `poll_ready`: with capacity nothing happens; without, it is `flush`, whose `Ready` stands only if there is capacity now -/
theorem pollReadyW_cases (w : Writer) (io : Tio) (tag : String) :
    (w.hasCapacity = true ∧ pollReadyW w io tag = (w, io, .ready)) ∨
    ∃ w1 io1 r1, flush w io tag = (w1, io1, r1) ∧
      pollReadyW w io tag = (w1, io1, if r1 = .ready ∧ w1.hasCapacity = false then .pending else r1) := by
  unfold pollReadyW
  cases hc : w.hasCapacity with
  | true => exact .inl ⟨rfl, rfl⟩
  | false =>
    refine .inr ?_
    rcases hf : flush w io tag with ⟨w1, io1, r1⟩
    refine ⟨w1, io1, r1, rfl, ?_⟩
    cases r1 with
    | ready => cases h1 : w1.hasCapacity <;> simp [h1]
    | pending => simp
    | err k => simp

theorem shutdownW_cases (w : Writer) (io : Tio) (tag : String) :
    (w.finalFlushDone = true ∧ shutdownW w io tag = (w, { io with shutdownCalled := true }, .ready)) ∨
    ∃ w1 io1 r1, flush w io tag = (w1, io1, r1) ∧
      ((r1 = .ready ∧ shutdownW w io tag = ({ w1 with finalFlushDone := true }, { io1 with shutdownCalled := true }, .ready)) ∨
       (r1 ≠ .ready ∧ shutdownW w io tag = (w1, io1, r1))) := by
  unfold shutdownW
  cases hd : w.finalFlushDone with
  | true => exact .inl ⟨rfl, rfl⟩
  | false =>
    refine .inr ?_
    rcases hf : flush w io tag with ⟨w1, io1, r1⟩
    refine ⟨w1, io1, r1, rfl, ?_⟩
    cases r1 with
    | ready => exact .inl ⟨rfl, rfl⟩
    | pending => exact .inr ⟨nofun, rfl⟩
    | err k => exact .inr ⟨nofun, rfl⟩


/-- the codec after one round of `poll_next`: what the transport held is in the buffer and `drain` has cut one item off it -/
def Codec.readIn (c : Codec) : Codec :=
  { c with r := (CodecRead.Reader.drain 1 { c.r with buf := c.r.buf ++ c.io.rd } []).1,
           eofSeen := if c.io.rd.isEmpty then c.eofSeen else false, io := { c.io with rd := [] } }

theorem Codec.readIn_r (c : Codec) : c.readIn.r = (CodecRead.Reader.drain 1 { c.r with buf := c.r.buf ++ c.io.rd } []).1 := rfl

/-- the ways one round of `poll_next` ends: it starts after an error (`Eof`, the flag cleared); `drain` yields a frame or an
    error; the buffer got shorter and it goes round again; the transport's error or end of file; `Pending`, the caller's
    waker in the read half -/
def PollNextEnd (fuel : Nat) (c : Codec) (tag : String) (p : Codec × Polled) : Prop :=
  p = ({ c with hasErrored := false }, .eof) ∨
  (∃ f rest, (CodecRead.Reader.drain 1 { c.r with buf := c.r.buf ++ c.io.rd } []).2.1 = .frame f :: rest ∧
    p = (c.readIn, .frame f)) ∨
  (∃ e he, p = ({ c.readIn with hasErrored := he }, .err e)) ∨
  (c.readIn.r.buf.length < c.r.buf.length + c.io.rd.length ∧ p = pollNext fuel c.readIn tag) ∨
  (∃ he es q, (q = .eof ∨ ∃ k m, q = .ioErr k m) ∧ p = ({ c.readIn with hasErrored := he, eofSeen := es }, q)) ∨
  p = ({ c.readIn with io := { c.readIn.io with readWaker := some tag } }, .pending)

theorem pollNext_cases (fuel : Nat) (c : Codec) (tag : String) : PollNextEnd fuel c tag (pollNext (fuel + 1) c tag) := by
  rw [pollNext]
  split
  · exact Or.inl rfl
  · simp only
    obtain ⟨r1, items, dead, hx⟩ :
        ∃ r1 items dead, CodecRead.Reader.drain 1 { c.r with buf := c.r.buf ++ c.io.rd } [] = (r1, items, dead) := ⟨_, _, _, rfl⟩
    have e : c.readIn = { c with r := r1, eofSeen := if c.io.rd.isEmpty then c.eofSeen else false, io := { c.io with rd := [] } } := by
      unfold Codec.readIn; rw [hx]
    rw [hx]
    simp only
    generalize (if c.io.rd.isEmpty = true then c.eofSeen else false) = es at e ⊢
    (repeat' split) <;> unfold PollNextEnd <;> rw [e, hx]
    all_goals first
      | exact .inr (.inl ⟨_, _, rfl, rfl⟩)
      | exact .inr (.inr (.inl ⟨_, _, rfl⟩))
      | exact .inr (.inr (.inr (.inl ⟨by rw [← List.length_append]; assumption, rfl⟩)))
      | exact .inr (.inr (.inr (.inr (.inr rfl))))
      | exact .inr (.inr (.inr (.inr (.inl ⟨_, _, _, .inl rfl, rfl⟩))))
      | exact .inr (.inr (.inr (.inr (.inl ⟨_, _, _, .inr ⟨_, _, rfl⟩, rfl⟩))))

end H2V.Model.Conn
