import H2V.Lemmas.ConnFlowPCap
/-
  ConnFlowP — capacity is *moved*, not lost, by the functions of `prioritize.rs`: `try_assign_capacity` (connection →
  stream) and the first half of `reclaim_all_capacity` / `reclaim_reserved_capacity` / a lowered `reserve_capacity`
  (stream → connection) are exact; `transition_after` is the only step that can make capacity disappear, when it
  releases a stream that still holds some (`transitionAfter_total`).
-/
namespace H2V.Lemmas.ConnFlowP
open H2V H2V.Model H2V.Model.Conn H2V.Lemmas.Comp

/-- all the send capacity there is: assigned to streams + held by the connection -/
def total (s : Streams) : Int := sumAv s.store.slab + s.prio.flow.available.val

def view (s : Streams) : List (Nat × FlowControl) := s.store.slab.map fun x => (x.key, x.sendFlow)

theorem sumAv_of_view {a b : List Stream} (h : a.map (fun x => (x.key, x.sendFlow)) = b.map (fun x => (x.key, x.sendFlow))) :
    sumAv a = sumAv b := by
  induction a generalizing b with
  | nil => cases b with
    | nil => rfl
    | cons y t => simp at h
  | cons x t ih =>
    cases b with
    | nil => simp at h
    | cons y u =>
      simp only [List.map_cons, List.cons.injEq, Prod.mk.injEq] at h
      simp only [sumAv, ih h.2, h.1.2]

theorem view_modStream {s : Streams} (hk : KeysOk s.store) (id : Nat) (f : Stream → Stream) (hf : NoFlow f) :
    view (s.modStream id f) = view s := by
  unfold Streams.modStream
  split
  · rename_i st hget
    have hm := get?_mem hget
    unfold view Streams.setStream Store.set
    simp only [List.map_map]
    apply List.map_congr_left
    intro x hx
    simp only [Function.comp]
    split
    · rename_i he
      have : x = st := key_inj hk.1 hx hm.1 ((beq_iff_eq.1 he).trans (hf st).1)
      rw [this, (hf st).1, (hf st).2]
    · rfl
  · unfold view; rw [panic_store]

theorem view_qPush {s : Streams} (hk : KeysOk s.store) (q : QName) (id : Nat) : view (s.qPush q id).1 = view s := by
  unfold Streams.qPush
  split
  · rfl
  · have : view ((s.modStream id fun st => st.setQueued q true).setQ q (s.getQ q ++ [id])) =
        view (s.modStream id fun st => st.setQueued q true) := by cases q <;> rfl
    rw [this]; exact view_modStream hk _ _ (noFlow_setQueued q true)

theorem keysOk_of_view {s t : Streams} (h : view t = view s) (hn : t.store.nextKey = s.store.nextKey)
    (hk : KeysOk s.store) : KeysOk t.store := by
  have hkeys : t.store.slab.map (·.key) = s.store.slab.map (·.key) := by
    have := congrArg (List.map Prod.fst) h
    simp only [view, List.map_map] at this
    exact this
  refine ⟨by rw [hkeys]; exact hk.1, fun y hy => ?_⟩
  obtain ⟨x, hx, hkx⟩ := mem_of_map_key_eq hkeys hy
  rw [hn, ← hkx]; exact hk.2 x hx

theorem total_of_view {s t : Streams} (h : view t = view s) (hf : t.prio.flow = s.prio.flow) : total t = total s := by
  unfold total; rw [hf, sumAv_of_view h]

theorem assignN_exact {s : Streams} (h : SafeInv s) (id n : Nat)
    (h1 : n ≤ s.prio.flow.available.asSize)
    (h2 : n ≤ wrapSubU32 (s.stream id).sendFlow.windowSz (s.stream id).sendFlow.available.asSize) :
    total (s.assignN id n) = total s ∧
    (s.assignN id n).prio.flow.windowSize = s.prio.flow.windowSize ∧
    (s.assignN id n).store.slab.map (·.key) = s.store.slab.map (·.key) ∧
    (s.assignN id n).prio.flow.available.val = s.prio.flow.available.val - n := by
  unfold Streams.assignN
  generalize s.prio.maxBufferSize = m
  have hA := h.av_le
  have hA0 := h.a0
  have hc := conn_claim h.a0 (by have := h.whi; omega32) h1
  cases hget : s.store.get? id with
  | none =>
    have hb : s.stream id = { key := id, id := 0 } := by unfold Streams.stream; rw [hget]; rfl
    rw [hb] at h2
    have hn : n = 0 := by
      have e1 : ({ key := id, id := 0 } : Stream).sendFlow.windowSz = 0 := rfl
      have e2 : ({ key := id, id := 0 } : Stream).sendFlow.available.asSize = 0 := rfl
      rw [e1, e2, wrapSubU32_of_le (by omega) (Nat.le_refl _)] at h2
      omega
    subst hn
    rw [Streams.modStreamW_of_none hget]
    unfold total
    have hc1 := hc.1
    simp only [Streams.modPrio_store, Streams.modPrio_prio, panic_store, panic_prio, hc.2]
    exact ⟨by omega, trivial, trivial, by omega⟩
  | some st =>
    have hm := get?_mem hget
    rw [Streams.stream_of_get? hget] at h2
    have hkf := assignCapacity_kf st n m
    have hf := flOk_assign (h.st st hm.1) h2
    have hslab : ((s.modStreamW id fun st => st.assignCapacity n m).modPrio
        fun p => { p with flow := (p.flow.claimCapacity n).1 }).store.slab = (s.store.set (st.assignCapacity n m).1).slab := by
      unfold Streams.modStreamW; rw [hget]; rfl
    unfold total
    rw [hslab, sumAv_set h.keys hget _ (hkf.1.trans hm.2), set_keys]
    have hc1 := hc.1
    have hf1 := hf.2.1
    simp only [Streams.modPrio_prio, modStreamW_prio, hc.2, hkf.2]
    exact ⟨by omega, trivial, trivial, by omega⟩

theorem ite_qPush_view {s : Streams} (hk : KeysOk s.store) (c : Prop) [Decidable c] (q : QName) (id : Nat) :
    view (if c then (s.qPush q id).1 else s) = view s ∧
    (if c then (s.qPush q id).1 else s).store.nextKey = s.store.nextKey := by
  split
  · exact ⟨view_qPush hk _ _, qPush_nextKey _ _ _⟩
  · exact ⟨rfl, rfl⟩

theorem relink_view {s : Streams} (hk : KeysOk s.store) (id : Nat) : view (s.relink id) = view s := by
  have h1 := ite_qPush_view hk ((s.stream id).wantsMore = true) .pendingCapacity id
  have h2 := ite_qPush_view (keysOk_of_view h1.1 h1.2 hk)
    ((decide ((s.stream id).bufferedSendData > 0) && (s.stream id).isSendReady) = true) .pendingSend id
  exact h2.1.trans h1.1

/-- `try_assign_capacity` moves capacity from the connection to the stream and loses none: the total
    is unchanged, no stream appears or disappears, no window changes -/
theorem tryAssign_exact {s : Streams} (h : SafeInv s) (id : Nat) :
    total (s.tryAssignCapacity id) = total s ∧
    (s.tryAssignCapacity id).prio.flow.windowSize = s.prio.flow.windowSize ∧
    (s.tryAssignCapacity id).store.slab.map (·.key) = s.store.slab.map (·.key) := by
  have hrel : ∀ {S : Streams}, SafeInv S → total (S.relink id) = total S ∧
      (S.relink id).prio.flow.windowSize = S.prio.flow.windowSize ∧
      (S.relink id).store.slab.map (·.key) = S.store.slab.map (·.key) := by
    intro S hS
    have hv := relink_view hS.keys id
    refine ⟨total_of_view hv (relink_flow S id), by rw [relink_flow], ?_⟩
    have := congrArg (List.map Prod.fst) hv
    simp only [view, List.map_map] at this
    exact this
  refine s.tryAssignCapacity_cases id (P := fun t => total t = total s ∧
    t.prio.flow.windowSize = s.prio.flow.windowSize ∧ t.store.slab.map (·.key) = s.store.slab.map (·.key))
    ⟨rfl, rfl, rfl⟩ (fun _ _ => ?_) (fun _ _ => hrel h)
  have hb := Nat.le_trans (Nat.min_le_right s.prio.flow.available.asSize (s.stream id).assignWant) (Nat.min_le_right ..)
  have ha := assignN_exact h id _ (Nat.min_le_left ..) hb
  have hr := hrel (h.assignN id _ (Nat.min_le_left ..) hb)
  exact ⟨hr.1.trans ha.1, hr.2.1.trans ha.2.1, hr.2.2.trans ha.2.2.1⟩

/-- the first half of `reclaim_all_capacity`, `reclaim_reserved_capacity` and of a lowered
    `reserve_capacity`: `claim_capacity(n)` on the stream, `assign_capacity(n)` on the connection -/
def giveBack (s : Streams) (id n : Nat) : Streams :=
  (s.modStream id fun st => { st with sendFlow := (st.sendFlow.claimCapacity n).1 }).modPrio
    fun p => { p with flow := (p.flow.assignCapacity n).1 }

/-- giving back `n ≤ available` is exact: the stream holds `n` less, the connection `n` more, the
    total is unchanged, nothing else moves -/
theorem giveBack_exact {s : Streams} (h : SafeInv s) {id n : Nat} {st : Stream} (hget : s.store.get? id = some st)
    (hn : n ≤ st.sendFlow.available.asSize) :
    total (giveBack s id n) = total s ∧
    ((giveBack s id n).stream id).sendFlow.available.val = st.sendFlow.available.val - n ∧
    (giveBack s id n).prio.flow.available.val = s.prio.flow.available.val + n ∧
    (giveBack s id n).prio.flow.windowSize = s.prio.flow.windowSize ∧
    (giveBack s id n).store.slab.map (·.key) = s.store.slab.map (·.key) ∧
    SafeInv (giveBack s id n) := by
  have hm := get?_mem hget
  have hok := h.st st hm.1
  have hf := flOk_claim hok hn
  have hle := h.st_le hm.1
  have hA0 := h.a0
  have hW := h.whi
  have hl : (n : Int) ≤ st.sendFlow.available.val := by
    rw [asSize_eq] at hn; have := hok.av0; omega
  have hc := conn_assign (f := s.prio.flow) hA0 (n := n) (by omega)
  have hslab : (giveBack s id n).store.slab =
      (s.store.set { st with sendFlow := (st.sendFlow.claimCapacity n).1 }).slab := by
    unfold giveBack Streams.modStream; rw [hget]; rfl
  have hflow : (giveBack s id n).prio.flow = (s.prio.flow.assignCapacity n).1 := by
    unfold giveBack; rw [Streams.modPrio_prio, modStream_prio]
  have hstream : (giveBack s id n).stream id = { st with sendFlow := (st.sendFlow.claimCapacity n).1 } := by
    have := stream_modStream_self hget (fun st => { st with sendFlow := (st.sendFlow.claimCapacity n).1 }) rfl
    unfold giveBack
    unfold Streams.stream at this ⊢
    rw [Streams.modPrio_store]; exact this
  have hc1 := hc.1
  have hf1 := hf.2.1
  have hsafe : SafeInv (giveBack s id n) := by
    have h1 : SafeInvG n (s.modStream id fun st => { st with sendFlow := (st.sendFlow.claimCapacity n).1 }) :=
      claim_step h id n (by rw [Streams.stream_of_get? hget]; exact hn)
    unfold giveBack
    refine h1.conn rfl (Int.le_refl _) ?_ ?_ ?_
    · show 0 ≤ ((s.modStream id _).prio.flow.assignCapacity n).1.available.val
      rw [modStream_prio, hc1]; omega
    · show ((s.modStream id _).prio.flow.assignCapacity n).1.windowSize.val ≤ _
      rw [modStream_prio, hc.2]; exact hW
    · show ((s.modStream id _).prio.flow.assignCapacity n).1.available.val - _ + _ ≤
        ((s.modStream id _).prio.flow.assignCapacity n).1.windowSize.val - _
      rw [modStream_prio, hc1, hc.2]; omega
  refine ⟨?_, ?_, ?_, ?_, ?_, hsafe⟩
  · unfold total
    rw [hslab, sumAv_set h.keys hget { st with sendFlow := (st.sendFlow.claimCapacity n).1 } hm.2, hflow, hc1]
    simp only [hf1]; omega
  · rw [hstream]; exact hf1
  · rw [hflow]; exact hc1
  · rw [hflow]; exact hc.2
  · rw [hslab, set_keys]

theorem reclaimAllCapacity_eq (s : Streams) (id : Nat) (h : (s.stream id).sendFlow.available.asSize > 0) :
    s.reclaimAllCapacity id =
      Streams.assignConnectionCapacityLoop
        ((giveBack s id (s.stream id).sendFlow.available.asSize).prio.pendingCapacity.length + 2)
        (giveBack s id (s.stream id).sendFlow.available.asSize) := by
  unfold Streams.reclaimAllCapacity Streams.assignConnectionCapacity giveBack
  simp only [h, if_true]

theorem giveBack_all {s : Streams} (h : SafeInv s) {id : Nat} {st : Stream} (hget : s.store.get? id = some st) :
    ((giveBack s id st.sendFlow.available.asSize).stream id).sendFlow.available.val = 0 := by
  have := (giveBack_exact h hget (Nat.le_refl _)).2.1
  have h0 := (h.st st (get?_mem hget).1).av0
  rw [asSize_eq] at this ⊢
  omega

structure XFr (s t : Streams) : Prop where
  prio : t.prio = s.prio
  next : t.store.nextKey = s.store.nextKey
  view : KeysOk s.store → view t = view s

theorem XFr.refl (s : Streams) : XFr s s := ⟨rfl, rfl, fun _ => rfl⟩

theorem XFr.keys {s t : Streams} (h : XFr s t) (hk : KeysOk s.store) : KeysOk t.store :=
  keysOk_of_view (h.view hk) h.next hk

theorem XFr.trans {a b c : Streams} (h1 : XFr a b) (h2 : XFr b c) : XFr a c :=
  ⟨h2.prio.trans h1.prio, h2.next.trans h1.next, fun hk => (h2.view (h1.keys hk)).trans (h1.view hk)⟩

theorem XFr.same {s t t' : Streams} (h : XFr s t) (hs : t'.store.slab = t.store.slab) (hn : t'.store.nextKey = t.store.nextKey)
    (hp : t'.prio = t.prio) : XFr s t' :=
  h.trans ⟨hp, hn, fun _ => by unfold ConnFlowP.view; rw [hs]⟩

theorem XFr.panic {s t : Streams} (h : XFr s t) (m : String) : XFr s (t.panic m) :=
  h.same (by rw [panic_store]) (by rw [panic_store]) (panic_prio _ _)

theorem XFr.modCountsA {s t : Streams} (h : XFr s t) (w : String) (f : Counts → Option Counts) :
    XFr s (t.modCountsA w f) := by
  unfold Streams.modCountsA
  split
  · exact h.same rfl rfl rfl
  · exact h.panic _

theorem XFr.modCounts {s t : Streams} (h : XFr s t) (f : Counts → Counts) : XFr s (t.modCounts f) :=
  h.same rfl rfl rfl

theorem XFr.withStoreUnlink {s t : Streams} (h : XFr s t) (id : Nat) : XFr s { t with store := t.store.unlink id } :=
  h.same rfl rfl rfl

theorem XFr.modStream' {s t : Streams} {id : Nat} {f : Stream → Stream} (hf : NoFlow f) (h : XFr s t) :
    XFr s (t.modStream id f) :=
  h.trans ⟨modStream_prio _ _ _, modStream_nextKey _ _ _, fun hk => view_modStream hk id f hf⟩

syntax "xfr_peel" : tactic
macro_rules | `(tactic| xfr_peel) => `(tactic| first
  | with_reducible apply XFr.panic
  | with_reducible apply XFr.modCountsA
  | with_reducible apply XFr.modCounts
  | (guard_mk; with_reducible apply XFr.withStoreUnlink)
  | (with_reducible apply XFr.modStream'; (· noflow)))
macro "xfr_auto" : tactic => `(tactic| walk_with
  (first | with_reducible assumption | with_reducible exact XFr.refl _ | (guard_not_mk; xfr_peel) | xfr_peel))

theorem XFr.decNumStreams {s t : Streams} (h : XFr s t) (id : Nat) : XFr s (t.decNumStreams id) := by
  unfold Streams.decNumStreams; dsimp only; xfr_auto
macro_rules | `(tactic| xfr_peel) => `(tactic| with_reducible apply XFr.decNumStreams)

theorem filter_set (a : Store) {st' : Stream} {k : Nat} (hk : st'.key = k) :
    (a.set st').slab.filter (fun z => z.key != k) = a.slab.filter (fun z => z.key != k) := by
  unfold Store.set
  simp only
  induction a.slab with
  | nil => rfl
  | cons x t ih =>
    simp only [List.map_cons, List.filter_cons]
    by_cases hx : x.key = k
    · have e1 : (x.key == st'.key) = true := by simpa [hk] using hx
      have e2 : (st'.key != k) = false := by simp [hk]
      have e3 : (x.key != k) = false := by simp [hx]
      simp only [e1, if_true, e2, e3, Bool.false_eq_true, if_false]
      exact ih
    · have e1 : (x.key == st'.key) = false := by simpa [hk] using hx
      simp only [e1, Bool.false_eq_true, if_false]
      rw [ih]

theorem filter_modStream (t : Streams) (id : Nat) (f : Stream → Stream) (hf : ∀ x, (f x).key = x.key) :
    (t.modStream id f).store.slab.filter (fun z => z.key != id) = t.store.slab.filter (fun z => z.key != id) := by
  unfold Streams.modStream
  split
  · rename_i st hget
    exact filter_set _ ((hf st).trans (get?_mem hget).2)
  · rw [panic_store]

theorem filter_decNumStreams (t : Streams) (id : Nat) :
    (t.decNumStreams id).store.slab.filter (fun z => z.key != id) = t.store.slab.filter (fun z => z.key != id) := by
  unfold Streams.decNumStreams
  dsimp only
  repeat' split
  all_goals (
    refine (filter_modStream _ _ _ ?_).trans ?_
    · intro _; rfl
    · simp only [Streams.modCounts, panic_store])

/-- `transition_after` either leaves keys and flows alone, or — when the stream `is_released()` —
    removes exactly that slab entry -/
theorem transitionAfter_cases (t : Streams) (id : Nat) (b : Bool) :
    ∃ t1, XFr t t1 ∧
      (t.transitionAfter id b = t1 ∨
       ((t1.stream id).isClosed = true ∧ (t1.stream id).refCount = 0 ∧ (t1.stream id).isPendingSendCapacity = false ∧
        (t.transitionAfter id b).prio = t1.prio ∧ (t.transitionAfter id b).store.nextKey = t1.store.nextKey ∧
        (t.transitionAfter id b).store.slab = t1.store.slab.filter (fun z => z.key != id))) := by
  unfold Streams.transitionAfter
  dsimp only
  -- the state before the `is_released` test
  generalize hS1 : (if (t.stream id).isClosed = true then _ else _ : Streams) = S1
  have hx : XFr t S1 := by
    subst hS1; xfr_auto
  split
  · rename_i hrel
    refine ⟨S1, hx, Or.inr ?_⟩
    have hrel' := hrel
    unfold Stream.isReleased at hrel'
    simp only [Bool.and_eq_true, beq_iff_eq, Bool.not_eq_true'] at hrel'
    have hd : XFr S1 (if (S1.stream id).isCounted = true then S1.decNumStreams id else S1) := by
      xfr_auto
    refine ⟨hrel'.1.1.1.1.1.1.1, hrel'.1.1.1.1.1.1.2, hrel'.1.1.1.1.2, hd.prio, hd.next, ?_⟩
    show ((if (S1.stream id).isCounted = true then S1.decNumStreams id else S1).store.remove id).slab = _
    rw [remove_slab]
    split
    · exact filter_decNumStreams _ _
    · rfl
  · exact ⟨S1, hx, Or.inl rfl⟩

theorem XFr.total {s t : Streams} (h : XFr s t) (hk : KeysOk s.store) : total t = total s :=
  total_of_view (h.view hk) (by rw [h.prio])

/-- **the only place where capacity can disappear**: `transition_after` keeps the total, except when
    it releases (removes from the slab) a closed, unreferenced stream that still holds capacity —
    then exactly that capacity is gone -/
theorem transitionAfter_total {t : Streams} (hk : KeysOk t.store) (id : Nat) (b : Bool) :
    total (t.transitionAfter id b) = total t ∨
    ∃ st : Stream, st.key = id ∧ st.isClosed = true ∧ st.refCount = 0 ∧
      (∃ x ∈ t.store.slab, x.key = id ∧ x.sendFlow = st.sendFlow) ∧
      total (t.transitionAfter id b) = total t - st.sendFlow.available.val := by
  obtain ⟨t1, hx, hc⟩ := transitionAfter_cases t id b
  have hk1 := hx.keys hk
  rcases hc with hc | ⟨hcl, href, _, hp, _, hslab⟩
  · exact Or.inl (by rw [hc]; exact hx.total hk)
  · cases hget : t1.store.get? id with
    | none =>
      left
      have : t1.store.slab.filter (fun z => z.key != id) = t1.store.slab := by
        apply Store.filter_ne_of_ne
        intro x hxm hxk
        unfold Store.get? at hget
        have := List.find?_eq_none.1 hget x hxm
        simp [hxk] at this
      unfold total
      rw [hslab, this, hp]
      exact hx.total hk
    | some st =>
      right
      have hm := get?_mem hget
      rw [Streams.stream_of_get? hget] at hcl href
      refine ⟨st, hm.2, hcl, href, ?_, ?_⟩
      · have hv := hx.view hk
        have : (st.key, st.sendFlow) ∈ view t1 := List.mem_map.2 ⟨st, hm.1, rfl⟩
        rw [hv] at this
        obtain ⟨x, hxm, hxe⟩ := List.mem_map.1 this
        simp only [Prod.mk.injEq] at hxe
        exact ⟨x, hxm, hxe.1.trans hm.2, hxe.2⟩
      · have hsplit := sumAv_split hk1.1 hm.1
        rw [hm.2] at hsplit
        have ht := hx.total hk
        unfold total at ht ⊢
        rw [hslab, hp]; omega

end H2V.Lemmas.ConnFlowP
