import Lean
import H2V.Lemmas.ConnCountsPReach
import H2V.Lemmas.ConnPollRule
/-
  C05 / C18 / C19 — the connection loop stays inside `Reach`.
  `Star s s'`: `s'` comes from `s` by finitely many `ApiStep`s.  Every function of `ConnProto.lean`
  (`recv_frame`, `recv_settings`, `poll_ready`, `poll2`, `proto::Connection::poll`,
  `client::Connection::poll`, the GOAWAY functions, …) moves `Conn.streams` along `Star`; hence every
  state the connection loop produces from a reachable state is reachable (`ConnReach.reach`) and
  all `Reach` theorems apply to it.
-/
namespace H2V.Lemmas.ConnCountsP
open H2V H2V.Model H2V.Model.Conn

inductive Star : Streams → Streams → Prop
  | refl (s : Streams) : Star s s
  | tail {a b c : Streams} : Star a b → ApiStep b c → Star a c

theorem Star.single {a b : Streams} (h : ApiStep a b) : Star a b := .tail (.refl a) h

theorem Star.trans {a b c : Streams} (h1 : Star a b) (h2 : Star b c) : Star a c := by
  induction h2 with
  | refl => exact h1
  | tail _ hs ih => exact .tail ih hs

theorem Reach.star {s s' : Streams} (h : Reach s) (e : Star s s') : Reach s' := by
  induction e with
  | refl => exact h
  | tail _ hs ih => exact .step ih hs

open Lean in
/-- strip `Conn.streams`, `Prod.fst` and primitive projections from the head of a term -/
def stripProj : Nat → Expr → Expr
  | 0, e => e
  | n + 1, e =>
    let e := e.cleanupAnnotations
    if e.isAppOfArity ``Conn.streams 1 then stripProj n e.appArg!
    else if e.isAppOfArity ``Prod.fst 3 then stripProj n e.appArg!
    else match e with
      | .proj _ _ s => stripProj n s
      | _ => e

open Lean Meta in
/-- for a call `Conn.f c args` the proof `f_star c args`, for a call `Streams.f s args` the proof
    `Star.single (ApiStep.f s args)`; found by name, nothing is unfolded -/
def starLemma? (core : Expr) : MetaM (Option Expr) := do
  let some name := core.getAppFn.constName? | return none
  let args := core.getAppArgs
  let .str pre last := name | return none
  try
    if pre == ``H2V.Model.Conn.Conn then
      let pf := mkAppN (mkConst (`H2V.Lemmas.ConnCountsP ++ Name.mkSimple (last ++ "_star"))) args
      let _ ← inferType pf
      Meta.check pf
      return some pf
    else if pre == ``H2V.Model.Conn.Streams then
      let pf ← mkAppM ``Star.single #[mkAppN (mkConst (``ApiStep ++ Name.mkSimple last)) args]
      return some pf
    else return none
  catch _ => return none

open Lean Elab Tactic Meta in
/-- one backward step on a goal `Star a X` where `X` is (a projection of) a call -/
elab "star_head" : tactic => withMainContext do
  let g ← getMainGoal
  let t := (← instantiateMVars (← g.getType)).cleanupAnnotations
  unless t.isAppOfArity ``Star 2 do throwError "star_head: not a Star goal"
  let X := t.appArg!
  let a := t.appFn!.appArg!
  let some pf ← starLemma? (stripProj 8 X) | throwError "star_head: no lemma"
  let ty ← whnfR (← inferType pf)
  let b := ty.appFn!.appArg!
  let newGoal ← mkFreshExprSyntheticOpaqueMVar (mkApp2 (mkConst ``Star) a b)
  let proof ← mkAppM ``Star.trans #[newGoal, pf]
  unless ← withReducible (isDefEq (← inferType proof) t) do throwError "star_head: lemma does not fit"
  g.assign proof
  replaceMainGoal [newGoal.mvarId!]

open Lean Elab Tactic Meta in
/-- for every hypothesis `Streams.f x args = (y, r)` (the result of a call, as left by `split`) add the fact `Star x y` -/
elab "star_fwd" : tactic => withMainContext do
  let lctx ← getLCtx
  let mut g ← getMainGoal
  for d in lctx do
    if d.isImplementationDetail then continue
    let ty := (← instantiateMVars d.type).cleanupAnnotations
    unless ty.isAppOfArity ``Eq 3 do continue
    let lhs := ty.appFn!.appArg!
    let some pf ← starLemma? lhs.cleanupAnnotations | continue
    try
      let pf' ← withReducible <| mkAppM ``of_fst_eq #[d.toExpr, pf]
      let ty' ← inferType pf'
      let (_, g') ← (← g.assert `hs ty' pf').intro1
      g := g'
    catch _ => pure ()
  replaceMainGoal [g]

@[simp] theorem bufferSimple_streams (c : Conn) (n : Nat) (r : String) : (c.bufferSimple n r).streams = c.streams := rfl
@[simp] theorem bufferSettings_streams (c : Conn) (a : Bool) (v : List (Nat × Nat)) : (c.bufferSettings a v).streams = c.streams := rfl
@[simp] theorem cunsup_streams (c : Conn) (m : String) : (c.unsup m).streams = c.streams := by
  unfold Conn.unsup; split <;> rfl
@[simp] theorem cpanic_streams (c : Conn) (m : String) : (c.panic m).streams = c.streams.panic m := rfl
@[simp] theorem codecPollReady_streams (c : Conn) : c.codecPollReady.1.streams = c.streams := rfl

/-- close a goal `Star a X` from the `Star` facts in the context and the calls visible in `X` -/
macro "star_close" : tactic =>
  `(tactic| repeat (first
      | with_reducible exact Star.refl _
      | with_reducible assumption
      | star_head
      | simp only [bufferSimple_streams, bufferSettings_streams, cunsup_streams, cpanic_streams, codecPollReady_streams]
      | with_reducible refine Star.trans ?_ (by with_reducible assumption)))

/-- split every `match`/`if`, turn the results of the calls into `Star` facts, close -/
macro "star_auto" : tactic =>
  `(tactic| (try dsimp only
             repeat' split
             all_goals star_fwd
             all_goals try simp only [bufferSimple_streams, bufferSettings_streams, cunsup_streams, cpanic_streams, codecPollReady_streams] at *
             all_goals star_close))

theorem dynGoAway_star (c : Conn) (id : Nat) (e : Reason) : Star c.streams (c.dynGoAway id e).streams := by
  unfold Conn.dynGoAway; star_auto
theorem goAwayNowData_star (c : Conn) (e : Reason) (d : Bytes) : Star c.streams (c.goAwayNowData e d).streams := by
  unfold Conn.goAwayNowData; star_auto
theorem goAwayNow_star (c : Conn) (e : Reason) : Star c.streams (c.goAwayNow e).streams := goAwayNowData_star c e []
theorem takeUserPings_star (c : Conn) : Star c.streams c.takeUserPings.1.streams := by
  unfold Conn.takeUserPings; star_auto
theorem userSendPing_star (c : Conn) : Star c.streams c.userSendPing.1.streams := by
  unfold Conn.userSendPing; star_auto
theorem userPollPong_star (c : Conn) (t : String) : Star c.streams (c.userPollPong t).1.streams := by
  unfold Conn.userPollPong; star_auto
theorem dropUserPingsRx_star (c : Conn) : Star c.streams c.dropUserPingsRx.streams := by
  unfold Conn.dropUserPingsRx; star_auto
theorem recvSettings_star (c : Conn) (ack : Bool) (v : List (Nat × Nat)) : Star c.streams (c.recvSettings ack v).1.streams := by
  unfold Conn.recvSettings; star_auto
theorem sendSettings_star (c : Conn) (v : List (Nat × Nat)) : Star c.streams (c.sendSettings v).1.streams := by
  unfold Conn.sendSettings; star_auto

/-- `poll_ready` and `send_pending_go_away` reach the stream layer through `apply_remote_settings` and
    `send_pending_refusal` only -/
theorem ready_star (s0 : Streams) : ConnPoll.ReadyInv (fun c => Star s0 c.streams) where
  codecPollReady _ h := h
  buffer _ _ _ h := h
  goAwayDone _ h := h
  pongDone _ h := h
  pingSent _ _ h _ := h
  userPings _ _ h := h
  remoteSeen _ h := h
  applyRemote c v i h _ := h.tail (.applyRemoteSettings c.streams v i)
  writer _ _ _ h := h
  remoteDone _ h := h
  localSent _ _ h _ := h
  refusal c h := h.tail (.pollSendPendingRefusal 4 c.streams _ _ _)

theorem setTargetWindowSize_star (c : Conn) (n : Nat) : Star c.streams (c.setTargetWindowSize n).streams := by
  unfold Conn.setTargetWindowSize; star_auto
theorem setInitialWindowSize_star (c : Conn) (n : Nat) : Star c.streams (c.setInitialWindowSize n).1.streams :=
  sendSettings_star c _
theorem takeError_star (c : Conn) (o : Reason) (i : Initiator) : Star c.streams (c.takeError o i).1.streams := by
  unfold Conn.takeError; star_auto
theorem handleGoAway_star (c : Conn) (r : Reason) (d : Bytes) (i : Initiator) : Star c.streams (c.handleGoAway r d i).streams := by
  unfold Conn.handleGoAway; star_auto
theorem handlePoll2Result_star (c : Conn) (r : Except PErr Unit) : Star c.streams (c.handlePoll2Result r).1.streams := by
  unfold Conn.handlePoll2Result; star_auto
theorem recvFrame_star (c : Conn) (f : Option Frame.Frame) : Star c.streams (c.recvFrame f).1.streams := by
  unfold Conn.recvFrame; star_auto

/-- `star_auto` inside an induction on the fuel -/
macro "star_auto_ih " ih:ident : tactic =>
  `(tactic| (try dsimp only
             repeat' split
             all_goals star_fwd
             all_goals try simp only [bufferSimple_streams, bufferSettings_streams, cunsup_streams, cpanic_streams, codecPollReady_streams] at *
             all_goals repeat (first
               | with_reducible exact Star.refl _
               | with_reducible assumption
               | star_head
               | simp only [bufferSimple_streams, bufferSettings_streams, cunsup_streams, cpanic_streams, codecPollReady_streams]
               | with_reducible refine Star.trans ?_ (by with_reducible assumption)
               | with_reducible refine Star.trans ?_ ($ih _))))

/-- every function `Connection::poll` calls moves `streams` along `Star`: the shared walk does the rest -/
theorem pollInv (s0 : Streams) : ConnPoll.PollInv (fun c => Star s0 c.streams) (fun c _ => Star s0 c.streams) :=
  .simple (fun c m _ h => h.tail (.panic c.streams m)) (fun _ => (ready_star s0).sendPendingGoAway)
    (fun _ => (ready_star s0).pollReady) (fun _ _ h => h) (fun c f h => h.trans (recvFrame_star c f))
    (fun c a v h => h.trans (recvSettings_star c a v)) (fun c n h => h.tail (.clearExpiredResetStreams n c.streams))
    (fun c r h => h.trans (handlePoll2Result_star c r))
    (fun c n h => h.tail (.pollComplete n c.streams c.codec.w c.codec.io c.cx)) (fun c e h => h.trans (goAwayNow_star c e))
    (fun _ _ _ h => h) (fun c o i h => h.trans (takeError_star c o i)) (fun c h => h.tail (.wake c.streams [c.cx]))

theorem poll2_star (fuel : Nat) (c : Conn) : Star c.streams (Conn.poll2 fuel c).1.streams :=
  ConnPoll.poll2_inv (pollInv c.streams) fuel (.refl _)

theorem protoPoll_star (fuel : Nat) (c : Conn) : Star c.streams (Conn.protoPoll fuel c).1.streams :=
  ConnPoll.protoPoll_inv (pollInv c.streams) fuel (.refl _)

theorem clientPoll_star (fuel : Nat) (c : Conn) : Star c.streams (Conn.clientPoll fuel c).1.streams :=
  ConnPoll.clientPoll_inv (pollInv c.streams) fuel (.refl _)

theorem goAwayGracefully_star (c : Conn) : Star c.streams c.goAwayGracefully.streams := by
  unfold Conn.goAwayGracefully; star_auto

theorem goAwayFromUser_star (c : Conn) (e : Reason) : Star c.streams (c.goAwayFromUser e).streams := by
  unfold Conn.goAwayFromUser; star_auto

/-- one step of a connection: a poll of the connection future (client or server, any fuel), a
    single received frame / SETTINGS, a user call on the connection, a user call on a handle
    (`ApiStep` on `streams`), or anything that leaves `streams` alone (bytes arriving on the
    transport, write budget, wakers, …) -/
inductive ConnStep : Conn → Conn → Prop
  | clientPoll (fuel : Nat) (c : Conn) : ConnStep c (c.clientPoll fuel).1
  | protoPoll (fuel : Nat) (c : Conn) : ConnStep c (c.protoPoll fuel).1
  | poll2 (fuel : Nat) (c : Conn) : ConnStep c (c.poll2 fuel).1
  | pollReady (c : Conn) : ConnStep c c.pollReady.1
  | recvFrame (c : Conn) (f : Option Frame.Frame) : ConnStep c (c.recvFrame f).1
  | recvSettings (c : Conn) (ack : Bool) (v : List (Nat × Nat)) : ConnStep c (c.recvSettings ack v).1
  | handlePoll2Result (c : Conn) (r : Except PErr Unit) : ConnStep c (c.handlePoll2Result r).1
  | goAwayGracefully (c : Conn) : ConnStep c c.goAwayGracefully
  | goAwayFromUser (c : Conn) (e : Reason) : ConnStep c (c.goAwayFromUser e)
  | setTargetWindowSize (c : Conn) (n : Nat) : ConnStep c (c.setTargetWindowSize n)
  | setInitialWindowSize (c : Conn) (n : Nat) : ConnStep c (c.setInitialWindowSize n).1
  | takeUserPings (c : Conn) : ConnStep c c.takeUserPings.1
  | userSendPing (c : Conn) : ConnStep c c.userSendPing.1
  | userPollPong (c : Conn) (t : String) : ConnStep c (c.userPollPong t).1
  | dropUserPingsRx (c : Conn) : ConnStep c c.dropUserPingsRx
  | handle (c : Conn) (s' : Streams) : ApiStep c.streams s' → ConnStep c { c with streams := s' }
  | other (c c' : Conn) : c'.streams = c.streams → ConnStep c c'

theorem ConnStep.star {c c' : Conn} (h : ConnStep c c') : Star c.streams c'.streams := by
  cases h with
  | clientPoll fuel => exact clientPoll_star fuel c
  | protoPoll fuel => exact protoPoll_star fuel c
  | poll2 fuel => exact poll2_star fuel c
  | pollReady => exact (ready_star c.streams).pollReady (.refl _)
  | recvFrame _ f => exact recvFrame_star c f
  | recvSettings _ ack v => exact recvSettings_star c ack v
  | handlePoll2Result _ r => exact handlePoll2Result_star c r
  | goAwayGracefully => exact goAwayGracefully_star c
  | goAwayFromUser _ e => exact goAwayFromUser_star c e
  | setTargetWindowSize _ n => exact setTargetWindowSize_star c n
  | setInitialWindowSize _ n => exact setInitialWindowSize_star c n
  | takeUserPings => exact takeUserPings_star c
  | userSendPing => exact userSendPing_star c
  | userPollPong _ t => exact userPollPong_star c t
  | dropUserPingsRx => exact dropUserPingsRx_star c
  | handle _ s' hs => exact .single hs
  | other _ _ he => rw [he]; exact .refl _

/-- the connection states reachable from a freshly built client or server connection -/
inductive ConnReach : Conn → Prop
  | client (g : Conn.Cfg) (hodd : g.firstId % 2 = 1) : ConnReach (Conn.init g)
  | server (g : Conn.Cfg) (ecp : Bool) (peerFirst : Bytes) : ConnReach (Conn.initServer g ecp peerFirst)
  | step {c c' : Conn} : ConnReach c → ConnStep c c' → ConnReach c'

/-- **the stream state of every reachable connection state is `Reach`able** -/
theorem ConnReach.reach {c : Conn} (h : ConnReach c) : Reach c.streams := by
  induction h with
  | client g hodd => exact .init (.client g hodd)
  | server g ecp pf => exact .init (.server g ecp pf)
  | step _ hs ih => exact ih.star hs.star

end H2V.Lemmas.ConnCountsP
