import Lean
import H2V.Lemmas.ConnCountsPQueueR
import H2V.Lemmas.ConnLoops
/-
  C08 (no panic): the "light step" relation `LT`.

  Most functions of the stream layer (everything that `counts.transition` closures call: the
  capacity machinery of prioritize.rs, the send.rs / recv.rs methods on one stream) neither create
  nor remove a slab entry.  For them ONE relation says everything the no-panic proof needs:

    `LT ks s s'` : `s'` has the same slab keys as `s`, the same local-error-reset counter, and
                   if the keys `ks` are live in `s` and `s` is in a good un-panicked state (`NPQ`),
                   so is `s'` — in particular no `assert!` / dangling `store::Key` fired on the way.

  `NPQ` is the small invariant these functions need to stay panic free: no panic so far, slab keys
  pairwise distinct, `pending_capacity` holds exactly the live flagged entries (its keys are popped by
  `assign_connection_capacity` deep inside almost every function), every stream's assigned send
  capacity is an `i32`.  The counting invariants of ConnCountsP are only needed by the functions that
  release streams (`transition_after`, the queue-draining loops): `ConnNoPanicPTop`.
-/
namespace H2V.Lemmas.ConnNoPanicP
open H2V H2V.Model H2V.Model.Conn H2V.Lemmas.ConnCountsP

/-- the slab holds an entry with key `k` (`store.resolve(key)` does not panic) -/
def Live (s : Streams) (k : Nat) : Prop := ∃ x, s.store.get? k = some x

theorem Live.mem_keys {s : Streams} {k : Nat} (h : Live s k) : k ∈ s.store.slab.map (·.key) := by
  obtain ⟨x, hx⟩ := h
  exact get?_mem_keys hx

theorem live_of_mem_keys {s : Streams} {k : Nat} (h : k ∈ s.store.slab.map (·.key)) : Live s k := by
  obtain ⟨x, hx, rfl⟩ := List.mem_map.mp h
  unfold Live Store.get?
  cases hf : s.store.slab.find? (·.key == x.key) with
  | some y => exact ⟨y, rfl⟩
  | none =>
    have := List.find?_eq_none.mp hf x hx
    simp at this

theorem live_iff_mem_keys {s : Streams} {k : Nat} : Live s k ↔ k ∈ s.store.slab.map (·.key) :=
  ⟨Live.mem_keys, live_of_mem_keys⟩

theorem _root_.H2V.Lemmas.ConnCountsP.SameKeys.live {s s' : Streams} (h : SameKeys s s') {k : Nat} : Live s' k ↔ Live s k := by
  rw [live_iff_mem_keys, live_iff_mem_keys, h.keys]

theorem Live.stream {s : Streams} {k : Nat} (h : Live s k) : s.store.get? k = some (s.stream k) := by
  obtain ⟨x, hx⟩ := h
  rw [stream_of_get? hx]; exact hx

theorem not_live_of_none {s : Streams} {k : Nat} (h : s.store.get? k = none) : ¬ Live s k := by
  rintro ⟨x, hx⟩; rw [h] at hx; cases hx

theorem stream_blank_of_not_live {s : Streams} {k : Nat} (h : ¬ Live s k) : s.stream k = { key := k, id := 0 } := by
  unfold Streams.stream
  cases hx : s.store.get? k with
  | none => rfl
  | some x => exact absurd ⟨x, hx⟩ h

/-- `P` of every stream entry is unchanged (a dangling key reads a blank stream on both sides) -/
def SPr {α : Type} (P : Stream → α) (s s' : Streams) : Prop := ∀ j, P (s'.stream j) = P (s.stream j)
theorem SPr.refl {α : Type} (P : Stream → α) (s : Streams) : SPr P s s := fun _ => rfl
theorem SPr.trans {α : Type} {P : Stream → α} {a b c : Streams} (h1 : SPr P a b) (h2 : SPr P b c) : SPr P a c :=
  fun j => (h2 j).trans (h1 j)
theorem SPr.of_store {α : Type} {P : Stream → α} {s s' : Streams} (h : s'.store = s.store) : SPr P s s' :=
  fun j => by unfold Streams.stream; rw [h]
theorem SPr.setStream {α : Type} {P : Stream → α} (s : Streams) (k : Nat) (st' : Stream) (hk : st'.key = k)
    (h : P st' = P (s.stream k)) : SPr P s (s.setStream st') := by
  intro j
  rcases setStream_stream s st' j with e | ⟨e, hj, _⟩
  · rw [e]
  · rw [e, hj, hk]; exact h
theorem SPr.modStream {α : Type} {P : Stream → α} (s : Streams) (k : Nat) (f : Stream → Stream) (hk : ∀ x, (f x).key = x.key)
    (h : ∀ x, P (f x) = P x) : SPr P s (s.modStream k f) := by
  unfold Streams.modStream
  split
  · next st hst =>
    refine SPr.setStream s k _ ((hk st).trans (get?_key hst)) ?_
    rw [stream_of_get? hst]; exact h st
  · exact .of_store (panic_store _ _)

/-- every stream's assigned send capacity fits an `i32` (it is one in the Rust) -/
def AvOK (s : Streams) : Prop := ∀ x ∈ s.store.slab, x.sendFlow.available.val ≤ 2147483647

/-- the local-error-reset counter and its limit did not move -/
def ErrSame (s s' : Streams) : Prop :=
  s'.counts.numLocalErrorResetStreams = s.counts.numLocalErrorResetStreams ∧
  s'.counts.maxLocalErrorResetStreams = s.counts.maxLocalErrorResetStreams

theorem ErrSame.refl (s : Streams) : ErrSame s s := ⟨rfl, rfl⟩
theorem ErrSame.trans {a b c : Streams} (h1 : ErrSame a b) (h2 : ErrSame b c) : ErrSame a c :=
  ⟨h2.1.trans h1.1, h2.2.trans h1.2⟩
theorem ErrSame.errOK {s s' : Streams} (h : ErrSame s s') (he : ErrOK s) : ErrOK s' := by
  unfold ErrOK Counts.canIncNumLocalErrorResets at *
  rw [h.1, h.2]; exact he
theorem ErrSame.errOK_back {s s' : Streams} (h : ErrSame s s') (he : ErrOK s') : ErrOK s :=
  canIncErr_back h.2 (Nat.le_of_eq h.1.symm) he

structure NPQ (s : Streams) : Prop where
  np : s.panicked = none
  keys : KeysOK s
  qc : QOK .pendingCapacity s
  av : AvOK s

def LiveAll (s : Streams) (ks : List Nat) : Prop := ∀ k ∈ ks, Live s k

structure LT (ks : List Nat) (s s' : Streams) : Prop where
  keys : SameKeys s s'
  ids : s'.store.ids = s.store.ids
  sid : SPr (·.id) s s'
  ref : SPr (·.refCount) s s'
  err : ErrSame s s'
  ok : LiveAll s ks → NPQ s → NPQ s'

theorem LT.refl (ks : List Nat) (s : Streams) : LT ks s s :=
  ⟨SameKeys.refl _, rfl, SPr.refl _ _, SPr.refl _ _, ErrSame.refl _, fun _ h => h⟩

theorem LT.mono {ks ks' : List Nat} {s s' : Streams} (h : LT ks s s') (hs : ∀ k ∈ ks, k ∈ ks') : LT ks' s s' :=
  ⟨h.keys, h.ids, h.sid, h.ref, h.err, fun hl hq => h.ok (fun k hk => hl k (hs k hk)) hq⟩

theorem LT.trans {ks ks' : List Nat} {a b c : Streams} (h1 : LT ks a b) (h2 : LT ks' b c) (hs : ∀ k ∈ ks', k ∈ ks) :
    LT ks a c :=
  ⟨h1.keys.trans h2.keys, h2.ids.trans h1.ids, h1.sid.trans h2.sid, h1.ref.trans h2.ref, h1.err.trans h2.err,
   fun hl hq => h2.ok (fun k hk => h1.keys.live.mpr (hl k (hs k hk))) (h1.ok hl hq)⟩

theorem LT.of_eq {ks : List Nat} {s a b : Streams} (h : a = b) (e : LT ks s a) : LT ks s b := h ▸ e
theorem LT.of_eqs {ks : List Nat} {s s' : Streams} (h1 : s'.store = s.store) (h2 : s'.counts = s.counts)
    (h3 : s'.getQ .pendingCapacity = s.getQ .pendingCapacity) (h4 : s'.panicked = s.panicked) : LT ks s s' :=
  ⟨.of_store_eq h1, by rw [h1], .of_store h1, .of_store h1, ⟨by rw [h2], by rw [h2]⟩,
   fun _ h => ⟨h4.trans h.np, (SameKeys.of_store_eq h1).keysOK h.keys, (QF.of_store_q h1 h3).qok h.qc,
     by unfold AvOK; rw [h1]; exact h.av⟩⟩

theorem wake_lt (s : Streams) (t : List String) : LT ks s (s.wake t) := .of_eqs rfl rfl rfl rfl

theorem notifyTask_lt (s : Streams) : LT ks s s.notifyTask := by
  unfold Streams.notifyTask
  split
  · exact .of_eqs rfl rfl rfl rfl
  · exact .refl _ _

theorem unsup_lt (s : Streams) (m : String) : LT ks s (s.unsup m) := by
  unfold Streams.unsup
  split
  · exact .refl _ _
  · exact .of_eqs rfl rfl rfl rfl

theorem modPrio_lt (s : Streams) (f : Prioritize → Prioritize) (h : ∀ p, (f p).pendingCapacity = p.pendingCapacity) :
    LT ks s (s.modPrio f) :=
  .of_eqs rfl rfl (by simp [Streams.getQ, Streams.prio, Streams.modPrio, h]) rfl

theorem modRecv_lt (s : Streams) (f : Recv → Recv) : LT ks s (s.modRecv f) := .of_eqs rfl rfl rfl rfl
theorem modSend_lt (s : Streams) (f : Send → Send) (h : ∀ p, (f p).prioritize = p.prioritize) : LT ks s (s.modSend f) :=
  .of_eqs rfl rfl (by simp [Streams.getQ, Streams.prio, Streams.modSend, h]) rfl

/-- a record update of the fields nothing here looks at -/
theorem setMisc_lt (s : Streams) (a : Actions) (refs leaked : Nat) (wk : List String) (un : Option String)
    (ha : a.send.prioritize = s.actions.send.prioritize) :
    LT ks s { s with actions := a, refs := refs, recvBufferLeaked := leaked, wakes := wk, unsupported := un } :=
  .of_eqs rfl rfl (by simp [Streams.getQ, Streams.prio, ha]) rfl

theorem setCounts_lt (s : Streams) (c : Counts)
    (h : c.numLocalErrorResetStreams = s.counts.numLocalErrorResetStreams ∧
         c.maxLocalErrorResetStreams = s.counts.maxLocalErrorResetStreams) : LT ks s { s with counts := c } :=
  ⟨.of_store_eq rfl, rfl, .of_store rfl, .of_store rfl, h, fun _ hq => ⟨hq.np, (SameKeys.of_store_eq (s := s) (s' := { s with counts := c }) rfl).keysOK hq.keys,
    (QF.of_store_q (s := s) (s' := { s with counts := c }) rfl rfl).qok hq.qc, hq.av⟩⟩

theorem modCounts_lt (s : Streams) (f : Counts → Counts)
    (h : (f s.counts).numLocalErrorResetStreams = s.counts.numLocalErrorResetStreams ∧
         (f s.counts).maxLocalErrorResetStreams = s.counts.maxLocalErrorResetStreams) : LT ks s (s.modCounts f) :=
  setCounts_lt s _ h

/-- `modCountsA` whose `assert!` is known to hold -/
theorem modCountsA_lt (s : Streams) (w : String) (f : Counts → Option Counts) (c : Counts) (hc : f s.counts = some c)
    (h : c.numLocalErrorResetStreams = s.counts.numLocalErrorResetStreams ∧
         c.maxLocalErrorResetStreams = s.counts.maxLocalErrorResetStreams) : LT ks s (s.modCountsA w f) := by
  unfold Streams.modCountsA
  rw [hc]
  exact setCounts_lt s c h

theorem panic_errSame (s : Streams) (m : String) : ErrSame s (s.panic m) :=
  ⟨by unfold Streams.panic; split <;> rfl, by unfold Streams.panic; split <;> rfl⟩

/-- what a panicking branch needs: it is not reached from a good state with live keys -/
theorem LT.unreachable {ks : List Nat} {s s' : Streams} (hst : s'.store = s.store) (he : ErrSame s s')
    (h : LiveAll s ks → NPQ s → False) : LT ks s s' :=
  ⟨.of_store_eq hst, by rw [hst], .of_store hst, .of_store hst, he, fun hl hq => (h hl hq).elim⟩

/-- an update of a slab entry that keeps its key, its `pending_capacity` link, and an `i32` capacity -/
structure Inert (a b : Stream) : Prop where
  key : b.key = a.key
  id : b.id = a.id
  ref : b.refCount = a.refCount
  cap : b.isPendingSendCapacity = a.isPendingSendCapacity
  av : a.sendFlow.available.val ≤ 2147483647 → b.sendFlow.available.val ≤ 2147483647

theorem Inert.refl (a : Stream) : Inert a a := ⟨rfl, rfl, rfl, rfl, fun h => h⟩
theorem Inert.trans {a b c : Stream} (h1 : Inert a b) (h2 : Inert b c) : Inert a c :=
  ⟨h2.key.trans h1.key, h2.id.trans h1.id, h2.ref.trans h1.ref, h2.cap.trans h1.cap, fun h => h2.av (h1.av h)⟩

theorem avOK_setStream {s : Streams} (st' : Stream) (h : AvOK s) (hst : st'.sendFlow.available.val ≤ 2147483647) :
    AvOK (s.setStream st') := by
  intro x hx
  simp only [Streams.setStream, Store.set, List.mem_map] at hx
  obtain ⟨y, hy, rfl⟩ := hx
  split
  · exact hst
  · exact h y hy

export H2V.Model.Conn.Store (get?_mem)

theorem setStream_lt (s : Streams) (k : Nat) (st' : Stream) (h : Inert (s.stream k) st') : LT [k] s (s.setStream st') := by
  have hkey : st'.key = k := h.key.trans (stream_key s k)
  refine ⟨SameKeys.setStream _ _, rfl, SPr.setStream s k st' hkey h.id, SPr.setStream s k st' hkey h.ref, ⟨rfl, rfl⟩, ?_⟩
  intro hl hq
  have hk : Live s k := hl k (List.mem_cons_self ..)
  refine ⟨hq.np, (SameKeys.setStream _ _).keysOK hq.keys, ?_, ?_⟩
  · refine (QF.setStream _ s st' ?_).qok hq.qc
    intro x hx
    rw [hkey] at hx
    rw [← stream_of_get? hx]; exact h.cap
  · refine avOK_setStream st' hq.av (h.av ?_)
    exact hq.av _ (get?_mem hk.stream)

theorem modStream_lt' (s : Streams) (k : Nat) (f : Stream → Stream) (h : Inert (s.stream k) (f (s.stream k))) :
    LT [k] s (s.modStream k f) := by
  unfold Streams.modStream
  split
  · next st hst =>
    rw [stream_of_get? hst] at h
    exact setStream_lt s k (f st) (by rw [stream_of_get? hst]; exact h)
  · next hn =>
    exact LT.unreachable (panic_store _ _) (panic_errSame _ _)
      (fun hl _ => absurd (hl k (List.mem_cons_self ..)) (not_live_of_none hn))

theorem modStream_lt (s : Streams) (k : Nat) (f : Stream → Stream) (h : ∀ x, Inert x (f x)) : LT [k] s (s.modStream k f) :=
  modStream_lt' s k f (h _)

theorem modStreamW_lt (s : Streams) (k : Nat) (f : Stream → Stream × List String) (h : ∀ x, Inert x (f x).1) :
    LT [k] s (s.modStreamW k f) := by
  unfold Streams.modStreamW
  split
  · next st hst =>
    have := setStream_lt s k (f st).1 (by rw [stream_of_get? hst]; exact h st)
    exact this.trans (wake_lt _ _) (fun _ h => h)
  · next hn =>
    exact LT.unreachable (panic_store _ _) (panic_errSame _ _)
      (fun hl _ => absurd (hl k (List.mem_cons_self ..)) (not_live_of_none hn))

end H2V.Lemmas.ConnNoPanicP
