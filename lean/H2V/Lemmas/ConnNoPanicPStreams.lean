import H2V.Lemmas.ConnNoPanicPRecv
/-
  C08 (no panic): `LT` for the handle functions of streams.rs that neither create nor release
  a stream, `LTw` (the light step without the error-reset counter) for `reset_on_recv_stream_err`,
  a way to build `NPQ` for a concrete state (non-vacuity witnesses), and what a light step gives from a good state
  (`LT.run0`/`run1`: the form the per-function statements of `H2V/Props/C08NoPanic.lean` use).
-/
namespace H2V.Lemmas.ConnNoPanicP
open H2V H2V.Model H2V.Model.Conn H2V.Lemmas.ConnCountsP
attribute [local irreducible] wrapSubU32 wrapSubUsize

theorem maybeCancel_lt (s : Streams) (k : Nat) : LT [k] s (s.maybeCancel k) := by
  unfold Streams.maybeCancel; lt_auto
theorem refReserveCapacity_lt (s : Streams) (k c : Nat) : LT [k] s (s.refReserveCapacity k c) := by
  unfold Streams.refReserveCapacity; lt_auto
theorem refReleaseCapacity_lt (s : Streams) (k c : Nat) : LT [k] s (s.refReleaseCapacity k c).1 := by
  unfold Streams.refReleaseCapacity; lt_auto
theorem refClearRecvBuffer_lt (s : Streams) (k : Nat) : LT [k] s (s.refClearRecvBuffer k) := by
  unfold Streams.refClearRecvBuffer; lt_auto
theorem pollPendingOpen_lt (s : Streams) (p : Option Nat) (t : String) : LT p.toList s (s.pollPendingOpen p t).1 := by
  unfold Streams.pollPendingOpen
  split
  · exact .refl _ _
  · split
    · exact .refl _ _
    · split
      · next p =>
        split
        · exact modStream_lt _ _ _ (fun _ => by inert_tac)
        · exact .refl _ _
      · exact .refl _ _
theorem cloneHandle_lt (s : Streams) : LT [] s s.cloneHandle := by
  unfold Streams.cloneHandle; lt_auto
theorem dropHandle_lt (s : Streams) : LT [] s s.dropHandle := by
  unfold Streams.dropHandle; lt_auto

theorem releaseDataFrame_err (c : Counts) (n : Nat) :
    (c.releaseDataFrame n).numLocalErrorResetStreams = c.numLocalErrorResetStreams ∧
    (c.releaseDataFrame n).maxLocalErrorResetStreams = c.maxLocalErrorResetStreams := by
  unfold Counts.releaseDataFrame; dsimp only; split <;> exact ⟨rfl, rfl⟩

theorem refPollData_lt (s : Streams) (k : Nat) (t : String) : LT [k] s (s.refPollData k t).1 := by
  unfold Streams.refPollData
  split
  · next s1 payload budgeted heq =>
    have h1 : LT [k] s s1 := of_fst_eq heq (recvPollData_lt s k t)
    dsimp only
    split
    · exact h1.trans (modCounts_lt _ _ (releaseDataFrame_err _ _)) (fun _ h => absurd h List.not_mem_nil)
    · exact h1
  · exact recvPollData_lt s k t

/-- the light step without the frame of the local-error-reset counter -/
structure LTw (ks : List Nat) (s s' : Streams) : Prop where
  keys : SameKeys s s'
  ids : s'.store.ids = s.store.ids
  sid : SPr (·.id) s s'
  ref : SPr (·.refCount) s s'
  ok : LiveAll s ks → NPQ s → NPQ s'

theorem LT.w {ks : List Nat} {s s' : Streams} (h : LT ks s s') : LTw ks s s' := ⟨h.keys, h.ids, h.sid, h.ref, h.ok⟩
theorem LTw.refl (ks : List Nat) (s : Streams) : LTw ks s s := ⟨SameKeys.refl _, rfl, SPr.refl _ _, SPr.refl _ _, fun _ h => h⟩
theorem LTw.trans {ks ks' : List Nat} {a b c : Streams} (h1 : LTw ks a b) (h2 : LTw ks' b c) (hs : ∀ k ∈ ks', k ∈ ks) :
    LTw ks a c :=
  ⟨h1.keys.trans h2.keys, h2.ids.trans h1.ids, h1.sid.trans h2.sid, h1.ref.trans h2.ref, fun hl hq => h2.ok (fun k hk => h1.keys.live.mpr (hl k (hs k hk))) (h1.ok hl hq)⟩
theorem LTw.of_fst_eq {ks : List Nat} {s : Streams} {α : Type} {p : Streams × α} {a : Streams} {x : α}
    (h : p = (a, x)) (e : LTw ks s p.1) : LTw ks s a := by subst h; exact e

theorem setCounts_ltw (s : Streams) (c : Counts) : LTw ks s { s with counts := c } :=
  ⟨.of_store_eq rfl, rfl, .of_store rfl, .of_store rfl, fun _ hq => ⟨hq.np, (SameKeys.of_store_eq (s := s) (s' := { s with counts := c }) rfl).keysOK hq.keys,
    (QF.of_store_q (s := s) (s' := { s with counts := c }) rfl rfl).qok hq.qc, hq.av⟩⟩

/-- `Actions::reset_on_recv_stream_err`: `inc_num_local_error_resets` is guarded by its `can_inc` test -/
theorem resetOnRecvStreamErr_ltw (s : Streams) (k : Nat) (res : Except PErr Unit) :
    LTw [k] s (s.resetOnRecvStreamErr k res).1 := by
  unfold Streams.resetOnRecvStreamErr
  split
  · next reason init =>
    split
    · next hc =>
      have h0 : LTw [k] s (s.modCountsA "can_inc_num_local_error_resets" Counts.incNumLocalErrorResets) := by
        unfold Streams.modCountsA Counts.incNumLocalErrorResets
        rw [if_pos hc]
        exact setCounts_ltw s _
      dsimp only
      refine h0.trans (LT.w ?_) (fun _ h => h)
      lt_auto
    · exact .refl _ _
  · exact .refl _ _

/-- a state with one slab entry that is not waiting for capacity -/
theorem npq_single {s : Streams} {x : Stream} (hp : s.panicked = none) (hs : s.store.slab = [x])
    (hk : x.key < s.store.nextKey) (hq : s.prio.pendingCapacity = []) (hf : x.isPendingSendCapacity = false)
    (ha : x.sendFlow.available.val ≤ 2147483647) : NPQ s := by
  refine ⟨hp, ⟨by rw [hs]; simp, ?_⟩, ⟨?_, ?_⟩, ?_⟩
  · intro y hy; rw [hs] at hy; simp at hy; subst hy; exact hk
  · intro k
    have : s.getQ .pendingCapacity = [] := hq
    rw [this]
    constructor
    · intro h; cases h
    · rintro ⟨y, hy, hfl⟩
      have := get?_mem hy
      rw [hs] at this; simp at this; subst this
      rw [show y.isQueued .pendingCapacity = y.isPendingSendCapacity from rfl, hf] at hfl; cases hfl
  · have : s.getQ .pendingCapacity = [] := hq
    rw [this]; exact List.nodup_nil
  · intro y hy; rw [hs] at hy; simp at hy; subst hy; exact ha

theorem LT.run1 {k : Nat} {s s' : Streams} (h : LT [k] s s') (hq : NPQ s) (hk : Live s k) : s'.panicked = none ∧ NPQ s' :=
  let r := h.ok (fun j hj => by rw [List.mem_singleton] at hj; subst hj; exact hk) hq
  ⟨r.np, r⟩
theorem LT.run0 {s s' : Streams} (h : LT [] s s') (hq : NPQ s) : s'.panicked = none ∧ NPQ s' :=
  let r := h.ok (fun j hj => absurd hj List.not_mem_nil) hq
  ⟨r.np, r⟩
theorem LTw.run1 {k : Nat} {s s' : Streams} (h : LTw [k] s s') (hq : NPQ s) (hk : Live s k) : s'.panicked = none ∧ NPQ s' :=
  let r := h.ok (fun j hj => by rw [List.mem_singleton] at hj; subst hj; exact hk) hq
  ⟨r.np, r⟩

/-- witness: one open stream (key 0, id 1) with a handle, nothing queued -/
def wStream : Stream :=
  { key := 0, id := 1, state := { inner := .open .streaming .streaming }, refCount := 1,
    sendFlow := { windowSize := { val := 65535 }, available := { val := 0 } } }
def wS : Streams := { store := { slab := [wStream], ids := [(1, 0)], nextKey := 1 } }

theorem wS_npq : NPQ wS := npq_single (x := wStream) rfl rfl (by decide) rfl rfl (by decide)
theorem wS_live : Live wS 0 := ⟨wStream, rfl⟩

end H2V.Lemmas.ConnNoPanicP
