import H2V.Lemmas.ConnCtlPGoAway
/-
  ConnCtlP — C15: the GOAWAY frames handed to the codec.  `SentOK c evs c'`: over a run from
  `c` to `c'` the last-stream-ids of the frames sent do not increase, lie below what was announced
  before the run and above what is announced after it; the announced id itself never increases.
  Algebra (composition of runs) and the step that sends (`send_pending_go_away`).
-/
set_option autoImplicit false
set_option linter.unusedSimpArgs false
namespace H2V.Lemmas.ConnCtlP
open H2V H2V.Model H2V.Model.Conn

/-- the announced last-stream-id never increases and never disappears; a recorded connection error
    (`conn_error`) is never forgotten -/
def GaLe (c c' : Conn) : Prop :=
  (∀ m, gaLast c = some m → ∃ m', gaLast c' = some m' ∧ m' ≤ m) ∧
  ((view c.streams).connErr.isSome = true → (view c'.streams).connErr.isSome = true)

theorem GaLe.refl (c : Conn) : GaLe c c := ⟨fun m h => ⟨m, h, Nat.le_refl _⟩, id⟩
theorem GaLe.trans {a b c : Conn} (h1 : GaLe a b) (h2 : GaLe b c) : GaLe a c := by
  refine ⟨?_, fun h => h2.2 (h1.2 h)⟩
  intro m hm
  obtain ⟨m1, e1, l1⟩ := h1.1 m hm
  obtain ⟨m2, e2, l2⟩ := h2.1 m1 e1
  exact ⟨m2, e2, Nat.le_trans l2 l1⟩
theorem GaLe.of_eq {c c' : Conn} (h : c'.goAway.goingAway = c.goAway.goingAway)
    (he : (view c'.streams).connErr = (view c.streams).connErr) : GaLe c c' := by
  refine ⟨?_, fun hs => by rw [he]; exact hs⟩
  intro m hm
  exact ⟨m, by unfold gaLast at *; rw [h]; exact hm, Nat.le_refl _⟩

/-- the GOAWAY frames sent during a run -/
structure SentOK (c : Conn) (evs : List Ev) (c' : Conn) : Prop where
  mono : GaLe c c'
  /-- every frame sent is at or above what is announced at the end … -/
  lower : ∀ f ∈ sentG evs, ∃ m', gaLast c' = some m' ∧ m' ≤ f.lastStreamId
  /-- … and at or below what was announced at the start -/
  upper : ∀ f ∈ sentG evs, ∀ m, gaLast c = some m → f.lastStreamId ≤ m
  /-- in the order sent, the ids do not increase -/
  sorted : (sentG evs).Pairwise (fun a b => b.lastStreamId ≤ a.lastStreamId)

theorem SentOK.quiet {c c' : Conn} {evs : List Ev} (hq : sentG evs = []) (hm : GaLe c c') : SentOK c evs c' :=
  ⟨hm, by simp [hq], by simp [hq], by simp [hq]⟩

theorem SentOK.trans {a b c : Conn} {e1 e2 : List Ev} (h1 : SentOK a e1 b) (h2 : SentOK b e2 c) :
    SentOK a (e1 ++ e2) c := by
  refine ⟨h1.mono.trans h2.mono, ?_, ?_, ?_⟩
  · intro f hf
    rw [sentG_append] at hf
    rcases List.mem_append.mp hf with hf | hf
    · obtain ⟨m1, e1', l1⟩ := h1.lower f hf
      obtain ⟨m2, e2', l2⟩ := h2.mono.1 m1 e1'
      exact ⟨m2, e2', Nat.le_trans l2 l1⟩
    · exact h2.lower f hf
  · intro f hf m hm
    rw [sentG_append] at hf
    rcases List.mem_append.mp hf with hf | hf
    · exact h1.upper f hf m hm
    · obtain ⟨m1, e1', l1⟩ := h1.mono.1 m hm
      exact Nat.le_trans (h2.upper f hf m1 e1') l1
  · rw [sentG_append, List.pairwise_append]
    refine ⟨h1.sorted, h2.sorted, ?_⟩
    intro x hx y hy
    obtain ⟨m1, e1', l1⟩ := h1.lower x hx
    exact Nat.le_trans (h2.upper y hy m1 e1') l1

theorem sentG_of_onlyRx {evs : List Ev} (h : ∀ e ∈ evs, ∀ f, e ≠ .goAwaySent f) : sentG evs = [] :=
  List.filterMap_eq_nil_iff.2 fun e he => by cases e <;> first | rfl | exact absurd rfl (h _ he _)

/-- `send_pending_go_away`: the frame handed to the codec is the one announced; invariant kept -/
theorem sendPendingGoAwayT_sent (c : Conn) (h : GoAwayInv c) :
    GoAwayInv (sendPendingGoAwayT c).1.1 ∧ SentOK c (sendPendingGoAwayT c).2 (sendPendingGoAwayT c).1.1 ∧
    (∀ f, (sendPendingGoAwayT c).1.1.goAway.pending = some f → c.goAway.pending = some f) := by
  have key : ∀ c1 : Conn, c1.goAway.closeNow = c.goAway.closeNow → c1.goAway.goingAway = c.goAway.goingAway →
      c1.streams = c.streams → (∀ f, c1.goAway.pending = some f → c.goAway.pending = some f) → GoAwayInv c1 :=
    fun c1 h1 h2 h3 h4 => h.keep h1 h2 h4 (by rw [h3]) (.inl (by rw [h3]; exact Nat.le_refl _))
  unfold sendPendingGoAwayT
  cases hp : c.goAway.pending with
  | none =>
    dsimp only
    have hc : GoAwayInv c := h
    (repeat' split) <;> exact ⟨hc, SentOK.quiet rfl (GaLe.refl c), fun f hf => by rw [hp] at hf; exact hf⟩
  | some f =>
    dsimp only
    rcases hcp : c.codecPollReady with ⟨c1, st⟩
    obtain ⟨e1, e2, e3, e4, e5, e6⟩ := codecPollReady_eq c c1 st hcp
    cases st with
    | pending =>
      refine ⟨key c1 (by rw [e3]) (by rw [e3]) e4 (by rw [e3, hp]; exact fun _ => id),
        SentOK.quiet rfl (GaLe.of_eq (by rw [e3]) (by rw [e4])), fun f' hf => ?_⟩
      dsimp only at hf; rw [e3, hp] at hf; exact hf
    | err e =>
      refine ⟨key _ (by simp [e3]) (by simp [e3]) (by simp [e4]) nofun,
        SentOK.quiet rfl (GaLe.of_eq (by simp [e3]) (by simp [e4])), fun f' hf => ?_⟩
      simp at hf
    | ok =>
      have hga := h.pend f hp
      have hgl : gaLast c = some f.lastStreamId := by simp [gaLast, hga]
      refine ⟨key _ (by simp [e3]) (by simp [e3]) (by simp [e4]) (by simp), ?_, fun f' hf => ?_⟩
      · refine ⟨GaLe.of_eq (by simp [e3]) (by simp [e4]), ?_, ?_, ?_⟩
        · intro x hx
          simp [sentG] at hx
          subst hx
          exact ⟨_, by simp [gaLast, e3, hga], Nat.le_refl _⟩
        · intro x hx m hm
          simp [sentG] at hx
          subst hx
          rw [hgl] at hm
          cases hm
          exact Nat.le_refl _
        · simp [sentG]
      · simp at hf

end H2V.Lemmas.ConnCtlP
