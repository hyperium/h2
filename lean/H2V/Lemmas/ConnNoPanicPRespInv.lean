import H2V.Lemmas.ConnNoPanicPRespSelf
/-
  C08 (no panic) — the client response path: the invariant `RJ s H T` (`T` = keys of the request streams
  whose `ResponseFuture` has not completed; `H` = the handle multiset of ConnNoPanicPHist), its preservation by
  every operation of ConnResetP's `Op` (except `.panic`), and `Recv::poll_response` cannot panic under it.
-/
namespace H2V.Lemmas.ConnNoPanicP
open H2V H2V.Model H2V.Model.Conn H2V.Lemmas.ConnCountsP
open H2V.Lemmas.ConnResetP (Op run)

/-- what is known of the streams whose response future is pending -/
structure RJ (s : Streams) (H T : List Nat) : Prop where
  sub : ∀ k ∈ T, k ∈ H
  client : T ≠ [] → s.counts.isServer = false
  good : ∀ k ∈ T, RGood (s.stream k)

theorem RJ_blank (s : Streams) : RJ s [] [] :=
  ⟨fun _ h => h, fun h => absurd rfl h, fun _ h => absurd h List.not_mem_nil⟩

theorem RJ.mono {s : Streams} {H H' T : List Nat} (h : RJ s H T) (hs : ∀ k ∈ H, k ∈ H') : RJ s H' T :=
  ⟨fun k hk => hs k (h.sub k hk), h.client, h.good⟩

/-- the ghost after an operation -/
def opResp (s : Streams) (H T : List Nat) : Op → List Nat
  | .sendRequest a b c d => match (s.sendRequest a b c d).2 with | .ok (k, _) => k :: T | .error _ => T
  | .recvPollResponse fuel k tag =>
    match (Streams.recvPollResponse fuel s k tag).2 with | .pending => T | _ => T.filter (· ≠ k)
  | .dropStreamRef k => if k ∈ H.erase k then T else T.filter (· ≠ k)
  | _ => T

/-- the discipline of the response path -/
def respPre (s : Streams) (T : List Nat) : Op → Prop
  | .recvPollResponse _ k _ => k ∈ T
  | .refClearRecvBuffer k => k ∉ T
  | .recvTakeRequest k => k ∉ T
  | .recvPushPromise _ _ => s.counts.isServer = true ∨ s.recv.isPushEnabled = false
  | _ => True

theorem op_role {s : Streams} (hn : NPI (fun _ => False) s) (op : Op) : (op.apply s).counts.isServer = s.counts.isServer :=
  ((ApiStep.op s op).evT hn.keys hn.nl).nx.role

theorem RJ.ref_pos {s : Streams} {H T : List Nat} (hj : RJ s H T) (hh : HOK s H) {k : Nat} (hk : k ∈ T) :
    0 < (s.stream k).refCount := by
  obtain ⟨x, hx, hc⟩ := hh k (hj.sub k hk)
  have := count_pos_of_mem (hj.sub k hk)
  rw [stream_of_get? hx]; omega

/-- the generic preservation step: entries of `T'` are old entries outside the exception list `X`, or known to be in
    shape afterwards -/
theorem RJ.step {s s' : Streams} {H H' T T' X : List Nat} (hj : RJ s H T) (hh : HOK s H) (hrp : RP X s s')
    (hrole : s'.counts.isServer = s.counts.isServer) (hsub : ∀ k ∈ T', k ∈ H')
    (hcl : T' ≠ [] → s.counts.isServer = false)
    (hg : ∀ k ∈ T', (k ∈ T ∧ k ∉ X) ∨ RGood (s'.stream k)) : RJ s' H' T' := by
  refine ⟨hsub, fun h => hrole.trans (hcl h), fun k hk => ?_⟩
  rcases hg k hk with ⟨hkT, hkX⟩ | g
  · exact (hrp.fr k hkX (hj.ref_pos hh hkT)).good (hj.good k hkT)
  · exact g

theorem RJ.cl {s : Streams} {H T T' : List Nat} (hj : RJ s H T) (hs : ∀ k ∈ T', k ∈ T) : T' ≠ [] → s.counts.isServer = false := by
  intro h
  cases T' with
  | nil => exact absurd rfl h
  | cons a l => exact hj.client (List.ne_nil_of_mem (hs a (List.mem_cons_self ..)))

theorem RJ.frame {s s' : Streams} {H T : List Nat} (hj : RJ s H T) (hh : HOK s H) (hrp : RP [] s s')
    (hrole : s'.counts.isServer = s.counts.isServer) : RJ s' H T :=
  hj.step hh hrp hrole hj.sub (hj.cl (fun _ h => h)) (fun _ hk => .inl ⟨hk, List.not_mem_nil⟩)

theorem RJ.frameG {s s' : Streams} {H T : List Nat} {k0 : Nat} (hj : RJ s H T) (hh : HOK s H) (hrp : RP [k0] s s')
    (hrole : s'.counts.isServer = s.counts.isServer) (hg : k0 ∈ T → RGood (s'.stream k0)) : RJ s' H T :=
  hj.step hh hrp hrole hj.sub (hj.cl (fun _ h => h)) (fun k hk => by
    by_cases e : k = k0
    · subst e; exact .inr (hg hk)
    · exact .inl ⟨hk, fun h => e (List.mem_singleton.mp h)⟩)

theorem RJ.frame1 {s s' : Streams} {H T : List Nat} {k0 : Nat} (hj : RJ s H T) (hh : HOK s H) (hrp : RP [k0] s s')
    (hrole : s'.counts.isServer = s.counts.isServer) (hk0 : k0 ∉ T) : RJ s' H T :=
  hj.frameG hh hrp hrole fun h => absurd h hk0

theorem mem_filter_ne {T : List Nat} {k k0 : Nat} : k ∈ T.filter (· ≠ k0) ↔ k ∈ T ∧ k ≠ k0 := by
  rw [List.mem_filter]; simp

theorem RGood.of_same {x y : Stream} (g : RGood x) (hq : y.pendingRecv = x.pendingRecv)
    (hs : y.state.isRecvStreaming = true → x.state.isRecvStreaming = true) : RGood y :=
  ⟨by rw [hq]; exact g.shape, fun h => by rw [hq]; exact g.head (hs h)⟩

/-- the operations that are frame steps for every entry with a handle, whatever the state: all but those that append to or
    take from a receive queue, create or clone a handle, or drop one -/
def respQuiet : Op → Prop
  | .recvHeaders _ | .recvData .. | .recvPushPromise .. | .sendRequest .. | .cloneStreamRef _ | .dropStreamRef _
  | .recvTakeRequest _ | .refClearRecvBuffer _ | .refPollData .. | .recvPollTrailers .. | .recvPollInformational ..
  | .recvPollResponse .. | .panic _ => False
  | _ => True

theorem op_rp (s : Streams) (hk : KeysOK s) (op : Op) (h : respQuiet op) : RP [] s (op.apply s) := by
  cases op <;> first
    | exact h.elim
    | (simp only [Op.apply]; rp_auto)

/-- **the invariant of the response path is kept by every operation** (all constructors of `Op` but `.panic`).
    Preconditions: the discipline `respPre`; for `drop_stream_ref` the one of `dropStreamRef_npi` (no promised
    streams left on the stream); the local-error-reset quota is not exhausted. -/
theorem RJ_step {s : Streams} {H T : List Nat} (hn : NPI (fun _ => False) s) (hh : HOK s H) (hj : RJ s H T) (op : Op)
    (hnp : ∀ m, op ≠ .panic m) (hpre : respPre s T op) (hdrop : ∀ k, op = .dropStreamRef k → dropPPP s k = [])
    (he : ErrOK s) : RJ (op.apply s) (opHandles s H op) (opResp s H T op) := by
  have hrole := op_role hn op
  cases op
  case panic m => exact absurd rfl (hnp m)
  case recvHeaders h =>
    cases hfk : s.store.findKey? h.sid with
    | none => exact hj.frame hh (recvHeaders_rp s h hn.keys (fun k hk => by rw [hfk] at hk; cases hk)) hrole
    | some k0 =>
      refine hj.frameG hh (recvHeaders_rp s h hn.keys (fun k hk => by rw [hfk] at hk; cases hk; exact List.mem_cons_self ..)) hrole
        (fun hk0 => ?_)
      exact recvHeaders_good h hfk (hj.ref_pos hh hk0) (hj.client (List.ne_nil_of_mem hk0)) he (hj.good k0 hk0)
  case recvData id p eos pad =>
    cases hfk : s.store.findKey? id with
    | none => exact hj.frame hh (recvData_rp s id p eos pad (fun k hk => by rw [hfk] at hk; cases hk)) hrole
    | some k0 =>
      refine hj.frameG hh (recvData_rp s id p eos pad (fun k hk => by rw [hfk] at hk; cases hk; exact List.mem_cons_self ..)) hrole
        (fun hk0 => ?_)
      exact recvData_good id p eos pad hfk (hj.ref_pos hh hk0) (hj.good k0 hk0)
  case recvPushPromise id h =>
    have : (s.recvPushPromise id h).1 = s := (Streams.recvPushPromise_refused hpre id h).1
    show RJ (s.recvPushPromise id h).1 H T
    rw [this]; exact hj
  case recvTakeRequest k => exact hj.frame1 hh ((Streams.recvTakeRequest_takes s k).rp (List.mem_cons_self ..)) hrole hpre
  case refClearRecvBuffer k => exact hj.frame1 hh ((Streams.refClearRecvBuffer_takes (by decide) s k).rp (List.mem_cons_self ..)) hrole hpre
  case refPollData k t =>
    by_cases hk : k ∈ T
    · exact hj.frame hh (refPollData_rp' s k t (hj.good k hk).shape) hrole
    · exact hj.frame1 hh ((Streams.refPollData_takes (by decide) s k t).rp (List.mem_cons_self ..)) hrole hk
  case recvPollTrailers k t =>
    by_cases hk : k ∈ T
    · exact hj.frame hh (recvPollTrailers_rp' s k t (hj.good k hk).shape) hrole
    · exact hj.frame1 hh ((Streams.recvPollTrailers_takes (by decide) s k t).rp (List.mem_cons_self ..)) hrole hk
  case recvPollInformational k t =>
    exact hj.frameG hh ((Streams.recvPollInformational_takes (by decide) s k t).rp (List.mem_cons_self ..)) hrole
      (fun hk => recvPollInformational_good (hj.ref_pos hh hk) (hj.good k hk) t)
  case cloneStreamRef k0 =>
    exact hj.step hh (RP.of_step (X := []) (Streams.cloneStreamRef_step (by decide) s k0)) hrole (fun k hk => List.mem_cons_of_mem _ (hj.sub k hk))
      (hj.cl (fun _ h => h)) (fun k hk => .inl ⟨hk, List.not_mem_nil⟩)
  case recvPollResponse fuel k0 tag =>
    have hk0 : k0 ∈ T := hpre
    have hsp := recvPollResponse_spec fuel hn (hj.ref_pos hh hk0) (hj.good k0 hk0) tag
    have hrp := (Streams.recvPollResponse_takes (by decide) fuel s k0 tag).rp (X := [k0]) (List.mem_cons_self ..)
    show RJ (Streams.recvPollResponse fuel s k0 tag).1 H
      (match (Streams.recvPollResponse fuel s k0 tag).2 with | .pending => T | _ => T.filter (· ≠ k0))
    have hfil : RJ (Streams.recvPollResponse fuel s k0 tag).1 H (T.filter (· ≠ k0)) :=
      hj.step hh hrp hrole (fun k hk => hj.sub k (mem_filter_ne.mp hk).1) (hj.cl (fun k hk => (mem_filter_ne.mp hk).1))
        (fun k hk => .inl ⟨(mem_filter_ne.mp hk).1, fun h => (mem_filter_ne.mp hk).2 (List.mem_singleton.mp h)⟩)
    cases hans : (Streams.recvPollResponse fuel s k0 tag).2 with
    | pending => exact hj.frameG hh hrp hrole (fun _ => hsp.2 hans)
    | response a f => exact hfil
    | err e => exact hfil
    | panic => exact hfil
  case dropStreamRef k0 =>
    have hppp := hdrop k0 rfl
    have hrp := dropStreamRef_rp (X := [k0]) s k0 (List.mem_cons_self ..) hppp
    dsimp only [Op.apply] at hrole
    have hself : ∀ k, k ∈ T → (s.stream k).refCount ≥ 2 → k = k0 → RGood ((s.dropStreamRef k0).stream k) := by
      intro k hk hr2 e
      subst e
      obtain ⟨hq, hs⟩ := dropStreamRef_self (live_of_ref_pos (by omega)) hr2 hppp
      exact (hj.good k hk).of_same hq hs
    show RJ (s.dropStreamRef k0) (H.erase k0) (if k0 ∈ H.erase k0 then T else T.filter (· ≠ k0))
    generalize s.dropStreamRef k0 = s' at hrole hrp hself ⊢
    split
    · next hmem =>
      refine hj.step hh hrp hrole (fun k hk => ?_) (hj.cl (fun _ h => h)) (fun k hk => ?_)
      · by_cases e : k = k0
        · subst e; exact hmem
        · exact (List.mem_erase_of_ne e).mpr (hj.sub k hk)
      · by_cases e : k = k0
        · subst e
          obtain ⟨x, hx, hc⟩ := hh k (hj.sub k hk)
          have hc2 : 0 < (H.erase k).count k := count_pos_of_mem hmem
          rw [List.count_erase_self] at hc2
          have hr2 : (s.stream k).refCount ≥ 2 := by rw [stream_of_get? hx]; omega
          exact .inr (hself k hk hr2 rfl)
        · exact .inl ⟨hk, fun h => e (List.mem_singleton.mp h)⟩
    · refine hj.step hh hrp hrole (fun k hk => ?_) (hj.cl (fun k hk => (mem_filter_ne.mp hk).1)) (fun k hk => ?_)
      · exact (List.mem_erase_of_ne (mem_filter_ne.mp hk).2).mpr (hj.sub k (mem_filter_ne.mp hk).1)
      · exact .inl ⟨(mem_filter_ne.mp hk).1, fun h => (mem_filter_ne.mp hk).2 (List.mem_singleton.mp h)⟩
  case sendRequest a b c d =>
    have hrp := sendRequest_rp (X := []) s hn.keys a b c d
    show RJ (s.sendRequest a b c d).1 (match (s.sendRequest a b c d).2 with | .ok (k, _) => k :: H | .error _ => H)
      (match (s.sendRequest a b c d).2 with | .ok (k, _) => k :: T | .error _ => T)
    cases hres : (s.sendRequest a b c d).2 with
    | error e => exact hj.frame hh hrp hrole
    | ok kf =>
      obtain ⟨k0, f⟩ := kf
      simp only []
      obtain ⟨hq, hns, hsv⟩ := sendRequest_new hn.keys hres
      refine hj.step hh hrp hrole (fun k hk => ?_) (fun _ => hsv) (fun k hk => ?_)
      · rcases List.mem_cons.mp hk with e | e
        · subst e; exact List.mem_cons_self ..
        · exact List.mem_cons_of_mem _ (hj.sub k e)
      · rcases List.mem_cons.mp hk with e | e
        · subst e
          exact .inr ⟨by rw [hq]; rfl, fun h => by rw [hns] at h; cases h⟩
        · exact .inl ⟨e, List.not_mem_nil⟩
  all_goals exact hj.frame hh (op_rp s hn.keys _ trivial) hrole

/-- **`Recv::poll_response` cannot panic on a stream whose `ResponseFuture` has not completed** -/
theorem recvPollResponse_npi {s : Streams} {H T : List Nat} (hn : NPI (fun _ => False) s) (hh : HOK s H) (hj : RJ s H T)
    {k : Nat} (hk : k ∈ T) (fuel : Nat) (tag : String) : NPI (fun _ => False) (Streams.recvPollResponse fuel s k tag).1 :=
  (recvPollResponse_spec fuel hn (hj.ref_pos hh hk) (hj.good k hk) tag).1

end H2V.Lemmas.ConnNoPanicP
