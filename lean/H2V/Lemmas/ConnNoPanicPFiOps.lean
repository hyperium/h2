import H2V.Lemmas.ConnNoPanicPFiInv
import H2V.Lemmas.ConnNoPanicPFiSk
import H2V.Lemmas.ConnHeadersRule
/-
  C08 (no panic) — `FI` is a reachable invariant: the operations that keep the bundle `FB` without being frame steps.
  * the two functions that RAISE a flag outside the write path: `Send::send_headers` (`is_pending_open`) and
    `Recv::recv_headers` (`is_counted`); with them `StreamRef::send_response` and `Inner::recv_headers`;
  * the operations that insert an entry (`send_request`, `Inner::send_reset`, which may insert an `Idle` entry for an
    unknown id and resets it at once, the server's `send_push_promise`) and `drop_stream_ref`.
  Typing precondition of `StreamRef::send_push_promise`: the parent is a peer-initiated stream (`push_request` exists on
  `SendResponse` only, not on `SendPushedResponse`) — see `ConnNoPanicPFiWitness.lean` for what happens without it.
-/
namespace H2V.Lemmas.ConnNoPanicP
open H2V H2V.Model H2V.Model.Conn H2V.Lemmas.ConnCountsP
attribute [local irreducible] wrapSubU32 wrapSubUsize

variable {sv : Bool} {E : Nat → Prop}

theorem modStream_counts' (s : Streams) (k : Nat) (f : Stream → Stream) : (s.modStream k f).counts = s.counts :=
  Streams.modStream_counts s k f

/-- **`Send::send_headers` keeps the bundle.**  When it puts the stream into `pending_open` (`State::send_open`
    succeeded on a locally initiated stream that is not an unannounced promised one), `FX.q` says the stream is not
    counted and `FX.tg` that no queued PUSH_PROMISE announces it. -/
theorem sendHeaders_fb {s : Streams} (hb : FB sv E s) (hr : s.counts.isServer = sv) {k : Nat} (hl : Live s k) (hnE : ¬ E k)
    (eos : Bool) (f : List Hpack.Field) : FB sv E (s.sendHeaders k eos f).1 := by
  unfold Streams.sendHeaders
  split
  · exact hb
  · split
    · exact hb
    · next st' _ heq =>
      dsimp only
      have hsu : suB (s.stream k).state = true := sendOpen_su heq
      have hnsu : suB st' = false := sendOpen_nsu heq
      have hst1 : (s.modStream k fun st => { st with state := st' }).stream k = { s.stream k with state := st' } :=
        stream_modStream_live hl (fun st => { st with state := st' }) (fun _ => rfl)
      have hfk1 : FK s (s.modStream k fun st => { st with state := st' }) := modStream_fk _ _ _ (fun _ => by flg_fields)
      have hsk1 : SK sv s (s.modStream k fun st => { st with state := st' }) :=
        modStream_sk _ _ _ (fun x => setState_sr x st' hnsu)
      have hb1 := hb.st hfk1 hsk1
      have o1 : Opn sv (s.modStream k fun st => { st with state := st' }) k := opn_setState s k st' hnsu
      have hc1 : (s.modStream k fun st => { st with state := st' }).counts = s.counts := Streams.modStream_counts _ _ _
      have hl1 : Live (s.modStream k fun st => { st with state := st' }) k := (SameKeys.modStream _ _ _).live.mpr hl
      generalize (s.modStream k fun st => { st with state := st' }) = s1 at hst1 hfk1 hsk1 hb1 o1 hc1 hl1 ⊢
      have key : FB sv E (if (s1.counts.isLocalInit (s1.stream k).id && !(s1.stream k).isPendingPush) = true then s1.queueOpen k else s1) ∧
          SK sv s1 (if (s1.counts.isLocalInit (s1.stream k).id && !(s1.stream k).isPendingPush) = true then s1.queueOpen k else s1) := by
        split
        · next hc =>
          refine ⟨?_, queueOpen_sk _ _ o1⟩
          simp only [Bool.and_eq_true, Bool.not_eq_true'] at hc
          have hloc : locId sv (s.stream k).id = true := by
            have := hc.1; rw [hst1, hc1, isLocalInit_eq, hr] at this; exact this
          have hpp : (s.stream k).isPendingPush = false := by have := hc.2; rw [hst1] at this; exact this
          have hnil := hb.fx.q k hloc hsu
          have hnt : ∀ k' pid, pid ∈ ppq s1 k' → s1.store.findKey? pid ≠ some k := by
            intro k' pid hp hf
            have hf' := (hfk1.ids hb.nd).2 pid k hf
            rcases hb.fx.tg k' pid ((hfk1.ppq_sub k').subset hp) k hf' hl hsu with h1 | h1
            · rw [hpp] at h1; cases h1
            · exact hnE h1
          unfold Streams.queueOpen Streams.qPush
          split
          · exact hb1
          · dsimp only
            refine FB.st (FB.modStream hb1 (fun st => st.setQueued .pendingOpen true) (fun _ => rfl) rfl rfl (fun h => h) (.inl (fun _ h => h))
              ?_ ?_ ?_ ?_ (.inl hnt)) (setQ_fk _ _ _) (setQ_sk _ _ _)
            all_goals rw [hst1]
            · intro _; exact hloc
            · intro _; exact hloc
            · refine ⟨fun hp' => ?_, fun _ => hnil.c⟩
              have : (s.stream k).isPendingPush = true := hp'
              rw [hpp] at this; cases this
            · intro _ hs'
              have : suB st' = true := hs'
              rw [hnsu] at this; cases this
        · exact ⟨hb1, .refl _⟩
      generalize (if (s1.counts.isLocalInit (s1.stream k).id && !(s1.stream k).isPendingPush) = true then s1.queueOpen k else s1) = s2 at key ⊢
      have hb3 : FB sv E (s2.queueFrame k (.headers eos f)) :=
        key.1.st (queueFrame_fk _ _ _ rfl) (queueFrame_sk _ _ _ (o1.sk key.2))
      split
      · exact hb3.st (notifyTask_fk _) (notifyTask_sk _)
      · exact hb3

/-- `StreamRef::send_response` -/
theorem refSendResponse_fb {s : Streams} (hb : FB sv E s) (hr : s.counts.isServer = sv) {k : Nat} (hl : Live s k) (hnE : ¬ E k)
    (f : List Hpack.Field) (eos : Bool) : FB sv E (s.refSendResponse k f eos).1 := by
  have : (s.refSendResponse k f eos).1 = (s.sendHeaders k eos f).1.transitionAfter k (s.stream k).isPendingResetExpiration := by
    unfold Streams.refSendResponse Streams.transition; rfl
  rw [this]
  exact (sendHeaders_fb hb hr hl hnE eos f).st (transitionAfter_fk _ _ _) (transitionAfter_sk _ _ _)

/-- counting entry `k`: not locally initiated, so it carries neither `is_pending_push` nor `is_pending_open` and no
    queued PUSH_PROMISE announces it -/
theorem incNumRecvStreams_fb {s : Streams} (hb : FB sv E s) {k : Nat} (hl : Live s k)
    (hrem : locId sv (s.stream k).id = false) : FB sv E (s.incNumRecvStreams k) := by
  unfold Streams.incNumRecvStreams
  dsimp only
  generalize hs1 : (if s.counts.canIncNumRecvStreams = true then s else s.panic _) = s1
  have h1 : FK s s1 ∧ SK sv s s1 ∧ s1.store = s.store := by
    rw [← hs1]; split; exact ⟨.refl _, .refl _, rfl⟩; exact ⟨panic_fk _ _, panic_sk _ _, panic_store _ _⟩
  generalize hs2 : (if (s1.stream k).isCounted = true then s1.panic _ else s1) = s2
  have h2 : FK s1 s2 ∧ SK sv s1 s2 ∧ s2.store = s1.store := by
    rw [← hs2]; split; exact ⟨panic_fk _ _, panic_sk _ _, panic_store _ _⟩; exact ⟨.refl _, .refl _, rfl⟩
  have hfk := (h1.1.trans h2.1).trans (modCounts_fk s2 fun c => { c with numRecvStreams := c.numRecvStreams + 1 })
  have hsk := (h1.2.1.trans h2.2.1).trans (modCounts_sk (sv := sv) s2 fun c => { c with numRecvStreams := c.numRecvStreams + 1 })
  have hst3 : (s2.modCounts fun c => { c with numRecvStreams := c.numRecvStreams + 1 }).store = s.store := h2.2.2.trans h1.2.2
  have hb3 := hb.st hfk hsk
  generalize (s2.modCounts fun c => { c with numRecvStreams := c.numRecvStreams + 1 }) = s3 at hfk hsk hst3 hb3 ⊢
  have hsk3 : s3.stream k = s.stream k := stream_of_store_eqP hst3 k
  have hnt : ∀ k' pid, pid ∈ ppq s3 k' → s3.store.findKey? pid ≠ some k := by
    intro k' pid hp hf
    have hl3 : Live s3 k := by unfold Live; rw [hst3]; exact hl
    have hid := hb3.idm pid k hf hl3
    have := hb3.fx.lq k' pid hp
    rw [← hid, hsk3, hrem] at this; cases this
  have hpp : (s.stream k).isPendingPush = false := by
    cases hp : (s.stream k).isPendingPush with
    | false => rfl
    | true => have := hb.fx.pl k hp; rw [hrem] at this; cases this
  have hpo : (s.stream k).isPendingOpen = false := by
    cases hp : (s.stream k).isPendingOpen with
    | false => rfl
    | true => have := hb.fx.ol k hp; rw [hrem] at this; cases this
  refine FB.modStream hb3 (fun st => { st with isCounted := true }) (fun _ => rfl) rfl rfl (fun h => h) (.inl (fun _ h => h))
    ?_ ?_ ?_ ?_ (.inl hnt)
  all_goals rw [hsk3]
  · intro hp; have : (s.stream k).isPendingPush = true := hp; rw [hpp] at this; cases this
  · intro hp; have : (s.stream k).isPendingOpen = true := hp; rw [hpo] at this; cases this
  · refine ⟨fun hp => ?_, fun hp => ?_⟩
    · have : (s.stream k).isPendingPush = true := hp; rw [hpp] at this; cases this
    · have : (s.stream k).isPendingOpen = true := hp; rw [hpo] at this; cases this
  · intro hl'; have : locId sv (s.stream k).id = true := hl'; rw [hrem] at this; cases this

theorem recvHeadersSt_fb {s : Streams} (hb : FB sv E s) {k : Nat} {st' : State} {a b : Bool} {r : Except PErr Bool}
    (heq : (s.stream k).state.recvOpen a b = (st', r)) : FB sv E (s.recvHeadersSt k st') :=
  hb.st (modStream_fk _ _ _ (fun _ => by flg_fields)) (modStream_sk' _ _ _ (setState_sr' _ _ (recvOpen_su heq)))

/-- `Recv::recv_headers` keeps the bundle: the state change is a frame step, the counting step is `incNumRecvStreams_fb`
    (the stream it counts was `Idle`/`ReservedRemote`, hence not locally initiated), the rest are frame steps -/
theorem recvRecvHeaders_fb {s : Streams} (hb : FB sv E s) {k : Nat} (hl : Live s k)
    (hE : Early (s.stream k) → locId sv (s.stream k).id = false) (h : HeadersIn) : FB sv E (s.recvRecvHeaders k h).1 :=
  Streams.RecvHeadersRule.run (P := fun _ _ t => FB sv E t)
    { err := hb
      refuse _ _ heq := recvHeadersSt_fb hb heq
      stc st' ini heq _ := by
        have hst1 : (s.recvHeadersSt k st').stream k = { s.stream k with state := st' } :=
          stream_modStream_live hl (fun st => { st with state := st' }) (fun _ => rfl)
        have hb1 := recvHeadersSt_fb hb heq
        have hl1 : Live (s.recvHeadersSt k st') k := (SameKeys.modStream _ _ _).live.mpr hl
        generalize s.recvHeadersSt k st' = s1 at hst1 hb1 hl1 ⊢
        unfold Streams.recvHeadersCount
        split
        · next hc =>
          have hi : ini = true := by
            cases ini
            · simp at hc
            · rfl
          subst hi
          have hrem := hE (recvOpen_initial_early heq)
          have hA : FB sv E (if h.sid > s1.recv.lastProcessedId then s1.modRecv fun r => { r with lastProcessedId := h.sid } else s1) ∧
              (if h.sid > s1.recv.lastProcessedId then s1.modRecv fun r => { r with lastProcessedId := h.sid } else s1).store = s1.store := by
            split
            · exact ⟨hb1.st (modRecv_fk _ _) (modRecv_sk _ _), rfl⟩
            · exact ⟨hb1, rfl⟩
          dsimp only
          generalize (if h.sid > s1.recv.lastProcessedId then s1.modRecv fun r => { r with lastProcessedId := h.sid } else s1) = sA at hA ⊢
          refine incNumRecvStreams_fb hA.1 (by unfold Live; rw [hA.2]; exact hl1) ?_
          rw [stream_of_store_eqP hA.2 k, hst1]; exact hrem
        · exact hb1
      out _ _ _ hp := hp
      cl _ _ t hp := hp.st (.of_step (Streams.recvHeadersCl_step (by decide) t k h)) (.of_step (Streams.recvHeadersCl_step (by decide) t k h))
      queue _ ini t hp :=
        hp.st (.of_step (Streams.recvHeadersQueue_step (by decide) t k h ini)) (.of_step (Streams.recvHeadersQueue_step (by decide) t k h ini)) }

theorem not_early_of_npi {s : Streams} (hn : NPI (fun _ => False) s) (he : ErrOK s) (hr : s.counts.isServer = sv) {k : Nat}
    (hl : Live s k) : Early (s.stream k) → locId sv (s.stream k).id = false := by
  intro hea
  cases hloc : locId sv (s.stream k).id with
  | false => rfl
  | true => exact (hn.inv2.p3 he k _ hl.stream (by rw [hr]; exact hloc) hea).elim

/-- the closure of `Inner::recv_headers` keeps the bundle: `Recv::recv_headers` and the 431 answer (`sendHeaders_fb`) apart,
    every piece is a frame step -/
theorem fb_headersBodyRule (k : Nat) (h : HeadersIn) :
    Streams.HeadersBodyRule k h (FB sv (fun _ => False))
      (fun s => Live s k ∧ s.counts.isServer = sv ∧ (Early (s.stream k) → locId sv (s.stream k).id = false))
      (fun s => Live s k ∧ s.counts.isServer = sv) (FB sv (fun _ => False)) where
  hdrs s hb hl :=
    ⟨recvRecvHeaders_fb hb hl.1 hl.2.2 h, (recvRecvHeaders_lt s k h).keys.live.mpr hl.1,
      (recvRecvHeaders_ev s k h).nx.role.trans hl.2.1⟩
  big s hb hl := by
    unfold Streams.answer431
    refine (sendHeaders_fb hb hl.2 hl.1 (fun h => h) true
      [{ h := (Hpack.pStatus, Http.str "431"), sensitive := false, nameless := false }]).st ?_ ?_
    · fk_auto
    · sk_auto
  unsup _ _ hb := hb.st (unsup_fk _ _) (unsup_sk _ _)
  trailers s hb _ := hb.sx (.of_step (Streams.recvRecvTrailers_step (by decide) s k h))
  done _ hb := hb
  rst s e hb _ := hb.st (FK.of_step (Streams.resetOnRecvStreamErr_step (by decide) _ _ _ fun _ _ _ => rfl)) (resetOnRecvStreamErr_sk _ _ _)

/-- `Inner::recv_headers` keeps the bundle: the new entry has a peer's id, so no queued PUSH_PROMISE announces it
    (`FB.insert`, `FB.dropE`) -/
theorem recvHeaders_fb {s : Streams} (hn : NPI (fun _ => False) s) (he : ErrOK s) (hb : FB sv (fun _ => False) s)
    (hr : s.counts.isServer = sv) (h : HeadersIn) (href : s.recv.refused = none) :
    FB sv (fun _ => False) (s.recvHeaders h).1 :=
  Streams.HeadersRule.run
    (L := fun k s => Live s k ∧ s.counts.isServer = sv ∧ (Early (s.stream k) → locId sv (s.stream k).id = false))
    { pre := hb
      found k hfk := ⟨(hn.ids.findKey hfk).1, hr, not_early_of_npi hn he hr (hn.ids.findKey hfk).1⟩
      opn _ := hb.sx (.of_step (Streams.recvOpen_step (by decide) s h.sid false))
      ins s1 hfk hro := by
        have hlt1 := of_fst_eq hro (recvOpen_lt s h.sid false href)
        have hev1 := of_fst_eq hro (recvOpen_ev (ρ := true) s h.sid false)
        have h1 : NPI (fun _ => False) s1 := hn.lt hlt1.w (liveAll0 s) hev1 (fun _ _ h => h)
        have hb1 : FB sv (fun _ => False) s1 :=
          hb.sx (of_fst_eq hro (.of_step (Streams.recvOpen_step (by decide) s h.sid false)))
        have hr1 : s1.counts.isServer = sv := by rw [hev1.nx.role]; exact hr
        have hrem' : locId sv h.sid = false := by
          have : s1.counts.isLocalInit h.sid = false := recvOpen_true_remote hro
          rw [isLocalInit_eq, hr1] at this; exact this
        have hfree : s1.store.contains (Stream.new h.sid s1.actions.send.initWindowSz s1.recv.initWindowSz).id = false := by
          show s1.store.contains h.sid = false
          unfold Store.contains Store.findKey?
          rw [hlt1.ids]
          unfold Store.findKey? at hfk
          rw [hfk]; rfl
        have hb2 := hb1.insert h1.keys _ (fresh_new _ _ _) rfl rfl hfree (fun id k hf => (h1.ids.findKey hf).1)
        have hns : ({ s1 with store := (s1.store.insert (Stream.new h.sid s1.actions.send.initWindowSz s1.recv.initWindowSz)).1 } : Streams).stream
            s1.store.nextKey = { Stream.new h.sid s1.actions.send.initWindowSz s1.recv.initWindowSz with key := s1.store.nextKey } :=
          stream_of_get? (insert_get?_new h1.keys.fresh _)
        refine ⟨hb2.dropE (fun j hj hlj => ?_), ⟨_, insert_get?_new h1.keys.fresh _⟩, hr1, fun _ => by rw [hns]; exact hrem'⟩
        rcases hj with hj | hj
        · exact hj.elim
        · subst hj
          right; right
          intro k' pid hp hf
          have hid := hb2.idm pid _ hf hlj
          rw [hns] at hid
          have : locId sv pid = true := hb2.fx.lq k' pid hp
          have hid' : h.sid = pid := hid
          rw [← hid', hrem'] at this; cases this
      body s k := (fb_headersBodyRule k h).run s
      ta _ k b hb := hb.st (transitionAfter_fk _ _ _) (transitionAfter_sk _ _ _) }

/-- **`Streams::send_request` keeps the bundle**: the new id is the old `next_stream_id`, above every queued PUSH_PROMISE's
    (`FX.lt`), so none announces it -/
theorem sendRequest_fb {s : Streams} (hn : NPI (fun _ => False) s) (hb : FB sv (fun _ => False) s) (hr : s.counts.isServer = sv)
    (isHead : Bool) (fields : List Hpack.Field) (eos : Bool) (pending : Option Nat)
    (hfree : ∀ id, s.actions.send.nextStreamId = some id → s.store.contains id = false) :
    FB sv (fun _ => False) (s.sendRequest isHead fields eos pending).1 :=
  SendRequestRule.run (I := FB sv (fun _ => False)) (L := fun _ k t => Live t k ∧ t.counts.isServer = sv)
    (L' := fun _ _ _ => True)
    { pre := hb
      opn := hb.sx (.of_step (Streams.sendOpenId_step (by decide) s))
      done _ hb := hb
      ins s1 id sP hso hP := by
        have hst1 : s1.store = s.store := by have := sendOpenId_store s; rw [hso] at this; exact this
        have hb1 : FB sv (fun _ => False) s1 := hb.sx (of_fst_eq hso (.of_step (Streams.sendOpenId_step (by decide) s)))
        have hk1 : KeysOK s1 := ⟨by rw [hst1]; exact hn.keys.nodup, by unfold KeysFresh; rw [hst1]; exact hn.keys.fresh⟩
        have hnext : s.actions.send.nextStreamId = some id := sendOpenId_ok hso
        have hnc : s1.store.contains id = false := by rw [hst1]; exact hfree id hnext
        rw [hnc, if_neg Bool.false_ne_true] at hP
        have hP := hP.symm
        subst hP
        generalize hst : requestStream isHead id s1.actions.send.initWindowSz s1.recv.initWindowSz = st
        have hid : st.id = id := by rw [← hst]; exact request_id _ _ _ _
        have hfr : Fresh st := by rw [← hst]; exact fresh_request _ _ _ _
        have hpp : st.isPendingPush = false := by rw [← hst]; unfold requestStream; split <;> rfl
        have hbd : st.bufferedSendData = 0 := by rw [← hst]; unfold requestStream; split <;> rfl
        have hio : ∀ id' k, s1.store.findKey? id' = some k → Live s1 k := by
          intro id' k hf; rw [hst1] at hf
          obtain ⟨x, hx⟩ := (hn.ids.findKey hf).1
          exact ⟨x, by rw [hst1]; exact hx⟩
        have hb2 := hb1.insert hk1 st hfr hpp hbd (by rw [hid]; exact hnc) hio
        have hns : ({ s1 with store := (s1.store.insert st).1 } : Streams).stream s1.store.nextKey = { st with key := s1.store.nextKey } :=
          stream_of_get? (insert_get?_new hk1.fresh st)
        have hl2 : Live ({ s1 with store := (s1.store.insert st).1 } : Streams) s1.store.nextKey := ⟨_, insert_get?_new hk1.fresh st⟩
        have hb2' : FB sv (fun _ => False) ({ s1 with store := (s1.store.insert st).1 } : Streams) := by
          refine hb2.dropE (fun j hj hlj => ?_)
          rcases hj with hj | hj
          · exact hj.elim
          · subst hj
            right; right
            intro k' pid hp hf
            have hid2 := hb2.idm pid _ hf hlj
            rw [hns] at hid2
            have hid3 : id = pid := hid.symm.trans hid2
            -- the queued ids are below the old `next_stream_id`
            have hp1 : pid ∈ ppq s k' := by
              have hq : ppq ({ s1 with store := (s1.store.insert st).1 } : Streams) k' = ppq s1 k' := by
                unfold ppq
                by_cases hj : k' = s1.store.nextKey
                · subst hj; rw [hns, stream_blank_of_not_live (not_live_of_none (get?_nextKey_none hk1.fresh))]
                  show ppIdsOf st.pendingSend = _; rw [hfr.send]
                · have : ({ s1 with store := (s1.store.insert st).1 } : Streams).stream k' = s1.stream k' := by
                    unfold Streams.stream
                    rcases insert_get?_cases s1.store st k' with e | ⟨_, e, _⟩
                    · show ((s1.store.insert st).1.get? k').getD _ = _; rw [e]
                    · exact absurd e hj
                  rw [this]
              rw [hq] at hp
              exact ((of_fst_eq hso (FK.of_step (Streams.sendOpenId_step (by decide) s))).ppq_sub k').subset hp
            have := hb.fx.lt k' pid hp1 id hnext
            omega
        have hr2 : ({ s1 with store := (s1.store.insert st).1 } : Streams).counts.isServer = sv := by
          show s1.counts.isServer = sv
          rw [(sendOpenId_next hso).1]; exact hr
        exact ⟨hb2', hl2, hr2⟩
      hdr t _ k hb hl := ⟨sendHeaders_fb hb hl.2 hl.1 (fun h => h) eos fields, trivial⟩
      undo t id k s3 _ hb hl heq := by
        have hb3 := sendHeaders_fb hb hl.2 hl.1 (fun h => h) eos fields
        rw [heq] at hb3
        exact hb3.st (unlinkRemove_fk _ _ _) (unlinkRemove_sk _ _ _)
      fin t _ k hb _ :=
        hb.sx (.of_step ((Streams.Step.setRefs t (t.refs + 1)).trans (Streams.refInc_step (by decide) _ _))) } pending

def Cl (s : Streams) (k : Nat) : Prop := ¬ Live s k ∨ suB (s.stream k).state = false

theorem Cl.sk {s s' : Streams} {k : Nat} (h : Cl s k) (hs : SK sv s s') : Cl s' k := by
  by_cases hl : Live s' k
  · have r := hs.st k hl
    rcases h with h | h
    · exact absurd (hs.live k hl) h
    · right
      cases hb : suB (s'.stream k).state with
      | false => rfl
      | true => rw [r.su hb] at h; cases h
  · exact .inl hl

theorem suB_of_isReset {st : State} (h : st.isReset = true) : suB st = false := by
  obtain ⟨inner⟩ := st
  cases inner <;> first | rfl | (simp [State.isReset] at h)

theorem cl_setReset (s : Streams) (k : Nat) (r : Reason) (i : Initiator) : Cl (s.modStreamW k fun st => st.setReset r i) k := by
  rcases opn_setReset (sv := true) s k r i with h | h | h
  · exact .inl h
  · exact .inr h
  · by_cases hl : Live s k
    · right
      rw [stream_modStreamW_live hl (fun st => st.setReset r i) (fun x => (setReset_inert x r i).key)]
      have : ((s.stream k).setReset r i).1.state = (s.stream k).state.setReset (s.stream k).id r i := by
        unfold Stream.setReset; simp only []
        rw [notifyRecv_state, notifyPush_state, notifySend_state]
      rw [this]; rfl
    · left; intro hl'; exact hl ((modStreamW_sk (sv := true) s k _ (fun x => setReset_sr x r i)).live k hl')

theorem sendSendReset_cl (s : Streams) (k : Nat) (r : Reason) (i : Initiator) : Cl (s.sendSendReset k r i) k := by
  unfold Streams.sendSendReset
  dsimp only
  split
  · next hr => exact .inr (suB_of_isReset hr)
  · have c1 := cl_setReset s k r i
    have o1 : Opn true (s.modStreamW k fun st => st.setReset r i) k := opn_setReset s k r i
    generalize (s.modStreamW k fun st => st.setReset r i) = s1 at c1 o1 ⊢
    split
    · exact c1
    · generalize hs2 : (if (s1.stream k).isPendingOpen = true then _ else s1.clearQueue k) = s2
      have h2 : SK true s1 s2 := by
        rw [← hs2]
        split
        · have ha : SK true s1 ((s1.modStream k fun st => { st with pendingSend := st.pendingSend.drop 1 }).clearQueue k) := by sk_auto
          split
          · exact ha.trans (modStream_sk_opn (o1.sk ha) _ (fun _ => by exact ⟨rfl, rfl, rfl, rfl⟩))
          · exact ha
        · sk_auto
      have h3 : SK true s2 (s2.queueFrame k (.reset r)) := queueFrame_sk _ _ _ (o1.sk h2)
      exact c1.sk ((h2.trans h3).trans (SK.of_step (Streams.reclaimAllCapacity_step (by decide) _ _)))

theorem actionsSendResetClosure_cl (k : Nat) (r : Reason) (s : Streams) (hc : s.counts.canIncNumLocalErrorResets = true) :
    Cl (actionsSendResetClosure k r .library s).1 k := by
  unfold actionsSendResetClosure
  simp only [Initiator.isLibrary, hc, if_true]
  exact ((sendSendReset_cl _ k r .library).sk (sv := true) (SK.of_step (Streams.enqueueResetExpiration_step (by decide) _ _))).sk (sv := true)
    (modStreamW_sk _ _ _ (fun x => notifyRecv_sr x))

theorem actionsSendReset_cl (s : Streams) (k : Nat) (r : Reason) (he' : ErrOK (s.actionsSendReset k r .library).1) :
    Cl (s.actionsSendReset k r .library).1 k := by
  have hc : s.counts.canIncNumLocalErrorResets = true := ErrOK.back (actionsSendReset_ev (ρ := true) s k r .library) he'
  have : (s.actionsSendReset k r .library).1 =
      (actionsSendResetClosure k r .library s).1.transitionAfter k (s.stream k).isPendingResetExpiration := by
    rw [actionsSendReset_eq]; unfold Streams.transition; rfl
  rw [this]
  exact (actionsSendResetClosure_cl k r s hc).sk (sv := true) (transitionAfter_sk _ _ _)

/-- **`Inner::send_reset` keeps the bundle**: the `Idle` entry it inserts for an unknown id is reset at once (the
    local-error-reset quota permitting: `he'`), so it is no send-unopened target of a queued PUSH_PROMISE -/
theorem innerSendReset_fb {s : Streams} (hn : NPI (fun _ => False) s) (hb : FB sv (fun _ => False) s) (id : Nat) (reason : Reason)
    (he' : ErrOK (s.innerSendReset id reason).1) : FB sv (fun _ => False) (s.innerSendReset id reason).1 := by
  unfold Streams.innerSendReset at he' ⊢
  cases hfk : s.store.findKey? id with
  | some k =>
    simp only [hfk] at he' ⊢
    exact hb.st (FK.of_step (Streams.actionsSendReset_step (by decide) _ _ _ _)) (actionsSendReset_sk _ _ _ _)
  | none =>
    simp only [hfk] at he' ⊢
    generalize hs1 : (if s.counts.isLocalInit id = true then s.sendMaybeResetNextStreamId id else s.recvMaybeResetNextStreamId id) = s1 at he' ⊢
    have h1 : NPI (fun _ => False) s1 := by
      rw [← hs1]; split
      · next hloc => exact hn.lt (sendMaybeResetNextStreamId_lt s id).w (liveAll0 s) (sendMaybeResetNextStreamId_ev (ρ := true) s id hloc) (fun _ _ h => h)
      · exact hn.lt (recvMaybeResetNextStreamId_lt s id).w (liveAll0 s) (recvMaybeResetNextStreamId_ev (ρ := true) s id) (fun _ _ h => h)
    have hb1 : FB sv (fun _ => False) s1 := by
      rw [← hs1]; split
      · exact hb.sx (.of_step (Streams.sendMaybeResetNextStreamId_step (by decide) _ _))
      · exact hb.sx (.of_step (Streams.recvMaybeResetNextStreamId_step (by decide) _ _))
    have hids1 : s1.store.ids = s.store.ids := by
      rw [← hs1]; split
      · exact (sendMaybeResetNextStreamId_lt s id).ids
      · exact (recvMaybeResetNextStreamId_lt s id).ids
    have hfree : s1.store.contains (Stream.new id 0 0).id = false := by
      show s1.store.contains id = false
      unfold Store.contains Store.findKey?
      rw [hids1]
      unfold Store.findKey? at hfk
      rw [hfk]; rfl
    have hb2 := hb1.insert h1.keys (Stream.new id 0 0) (fresh_new id 0 0) rfl rfl hfree (fun id' k hf => (h1.ids.findKey hf).1)
    have hkk : (s1.store.insert (Stream.new id 0 0)).2 = s1.store.nextKey := rfl
    rw [hkk] at he' ⊢
    generalize ({ s1 with store := (s1.store.insert (Stream.new id 0 0)).1 } : Streams) = s2 at hb2 he' ⊢
    have hb3 := hb2.st (FK.of_step (Streams.actionsSendReset_step (by decide) s2 s1.store.nextKey reason .library)) (actionsSendReset_sk s2 s1.store.nextKey reason .library)
    have hcl := actionsSendReset_cl s2 s1.store.nextKey reason he'
    refine hb3.dropE (fun j hj hlj => ?_)
    rcases hj with hj | hj
    · exact hj.elim
    · subst hj
      right; left
      intro hsu
      rcases hcl with h | h
      · exact absurd hlj h
      · rw [h] at hsu; cases hsu

theorem ppIdsOf_append_pp (l : List SFrame) (k pid : Nat) (f : List Hpack.Field) :
    ppIdsOf (l ++ [.pushPromise k pid f]) = ppIdsOf l ++ [pid] := by
  unfold ppIdsOf; rw [List.filterMap_append]; rfl

/-- **queueing a PUSH_PROMISE** for a fresh promised id on a parent that is not locally initiated; the promised
    entry is `is_pending_push`, neither counted nor waiting to be opened -/
theorem FB.queuePP {s : Streams} (hb : FB sv E s) {p k pid : Nat} (f : List Hpack.Field) (hlp : Live s p)
    (hrem : locId sv (s.stream p).id = false) (hnew : ∀ k' pid', pid' ∈ ppq s k' → pid' ≠ pid) (hloc : locId sv pid = true)
    (hfind : s.store.findKey? pid = some k) (hkpp : (s.stream k).isPendingPush = true)
    (hkc : (s.stream k).isCounted = false) (hko : (s.stream k).isPendingOpen = false)
    (hlt : ∀ n, s.actions.send.nextStreamId = some n → pid < n) :
    FB sv E (s.modStream p fun st => { st with pendingSend := st.pendingSend ++ [.pushPromise k pid f] }) := by
  have hstp := stream_modStream_live hlp (fun st => { st with pendingSend := st.pendingSend ++ [.pushPromise k pid f] }) (fun _ => rfl)
  have hoth : ∀ j, j ≠ p → (s.modStream p fun st => { st with pendingSend := st.pendingSend ++ [.pushPromise k pid f] }).stream j = s.stream j := by
    intro j hj
    rcases modStream_streams s p (fun st => { st with pendingSend := st.pendingSend ++ [.pushPromise k pid f] }) (fun _ => rfl) j with e | ⟨e, _⟩
    · exact e
    · exact absurd e hj
  have hids := Streams.modStream_ids s p (fun st => { st with pendingSend := st.pendingSend ++ [.pushPromise k pid f] })
  have hnx := modStream_next s p (fun st => { st with pendingSend := st.pendingSend ++ [.pushPromise k pid f] })
  have hlive : ∀ j, Live (s.modStream p fun st => { st with pendingSend := st.pendingSend ++ [.pushPromise k pid f] }) j → Live s j :=
    fun j hj => (SameKeys.modStream _ _ _).live.mp hj
  generalize (s.modStream p fun st => { st with pendingSend := st.pendingSend ++ [.pushPromise k pid f] }) = s' at hstp hoth hids hnx hlive ⊢
  -- every field but `pending_send` of every entry is unchanged
  have hfl : ∀ j, (s'.stream j).isCounted = (s.stream j).isCounted ∧ (s'.stream j).isPendingPush = (s.stream j).isPendingPush ∧
      (s'.stream j).isPendingOpen = (s.stream j).isPendingOpen ∧ (s'.stream j).state = (s.stream j).state ∧
      (s'.stream j).id = (s.stream j).id := by
    intro j
    by_cases hj : j = p
    · subst hj; rw [hstp]; exact ⟨rfl, rfl, rfl, rfl, rfl⟩
    · rw [hoth j hj]; exact ⟨rfl, rfl, rfl, rfl, rfl⟩
  have hq1 : ppq s' p = ppq s p ++ [pid] := by unfold ppq; rw [hstp]; exact ppIdsOf_append_pp _ _ _ _
  have hq2 : ∀ j, j ≠ p → ppq s' j = ppq s j := fun j hj => by unfold ppq; rw [hoth j hj]
  have hmem : ∀ j pid', pid' ∈ ppq s' j → pid' ∈ ppq s j ∨ (j = p ∧ pid' = pid) := by
    intro j pid' hm
    by_cases hj : j = p
    · subst hj; rw [hq1] at hm
      rcases List.mem_append.mp hm with h | h
      · exact .inl h
      · exact .inr ⟨rfl, List.mem_singleton.mp h⟩
    · rw [hq2 j hj] at hm; exact .inl hm
  have hfind' : ∀ id, s'.store.findKey? id = s.store.findKey? id := fun id => by unfold Store.findKey?; rw [hids]
  refine ⟨by rw [hids]; exact hb.nd, fun id j hf hl => ?_, ⟨fun j => ?_, ⟨fun j => ?_, fun a b pid' ha hb' => ?_⟩, ?_⟩,
    ⟨fun j hl hs => ?_, fun k' pid' hp pushed hf hl hs => ?_, fun k' pid' hp n hn => ?_, fun j hp => ?_, fun j hp => ?_,
     fun k' pid' hp => ?_⟩⟩
  · rw [(hfl j).2.2.2.2]; exact hb.idm id j (by rw [← hfind']; exact hf) (hlive j hl)
  · have := hb.fi.unc j
    unfold One at this ⊢
    rw [(hfl j).1, (hfl j).2.1, (hfl j).2.2.1]; exact this
  · by_cases hj : j = p
    · subst hj; rw [hq1]
      refine List.nodup_append.mpr ⟨hb.fi.ppu.nodup j, (by simp), ?_⟩
      intro a ha b hb' e
      rw [List.mem_singleton] at hb'
      subst hb'; subst e
      exact hnew j a ha rfl
    · rw [hq2 j hj]; exact hb.fi.ppu.nodup j
  · rcases hmem a pid' ha with h1 | ⟨h1, h1'⟩ <;> rcases hmem b pid' hb' with h2 | ⟨h2, h2'⟩
    · exact hb.fi.ppu.disj a b pid' h1 h2
    · exact absurd h2' (hnew a pid' h1)
    · exact absurd h1' (hnew b pid' h2)
    · rw [h1, h2]
  · intro k' pid' hp pushed hf
    rw [hfind'] at hf
    rw [(hfl pushed).1, (hfl pushed).2.2.1]
    rcases hmem k' pid' hp with h1 | ⟨_, h1⟩
    · exact hb.fi.ppf k' pid' h1 pushed hf
    · subst h1
      rw [hfind] at hf; cases hf
      exact ⟨hkc, hko⟩
  · rw [(hfl j).2.2.2.2] at hl; rw [(hfl j).2.2.2.1] at hs
    by_cases hj : j = p
    · subst hj; rw [hrem] at hl; cases hl
    · rw [hoth j hj]; exact hb.fx.q j hl hs
  · rw [hfind'] at hf
    rw [(hfl pushed).2.2.2.1] at hs; rw [(hfl pushed).2.1]
    rcases hmem k' pid' hp with h1 | ⟨_, h1⟩
    · exact hb.fx.tg k' pid' h1 pushed hf (hlive _ hl) hs
    · subst h1
      rw [hfind] at hf; cases hf
      exact .inl hkpp
  · rw [hnx] at hn
    rcases hmem k' pid' hp with h1 | ⟨_, h1⟩
    · exact hb.fx.lt k' pid' h1 n hn
    · subst h1; exact hlt n hn
  · rw [(hfl j).2.1] at hp; rw [(hfl j).2.2.2.2]; exact hb.fx.pl j hp
  · rw [(hfl j).2.2.1] at hp; rw [(hfl j).2.2.2.2]; exact hb.fx.ol j hp
  · rcases hmem k' pid' hp with h1 | ⟨_, h1⟩
    · exact hb.fx.lq k' pid' h1
    · subst h1; exact hloc

/-- **`send_push_promise` keeps the bundle** -/
theorem refSendPushPromise_fb {s : Streams} (hn : NPI (fun _ => False) s) (hi : IBS s) (hb : FB sv (fun _ => False) s)
    (hr : s.counts.isServer = sv) {parent : Nat} (hk : Live s parent) (hty : locId sv (s.stream parent).id = false)
    (valid : Bool) (fields : List Hpack.Field) :
    FB sv (fun _ => False) (s.refSendPushPromise parent valid fields).1 := by
  unfold Streams.refSendPushPromise Streams.sendReserveLocal
  generalize hso : s.sendOpenId = p
  obtain ⟨s1, r⟩ := p
  have hst1 : s1.store = s.store := by have := sendOpenId_store s; rw [hso] at this; exact this
  have hfk1 : FK s s1 := of_fst_eq hso (FK.of_step (Streams.sendOpenId_step (by decide) s))
  have hb1 : FB sv (fun _ => False) s1 := hb.st hfk1 (of_fst_eq hso (SK.of_step (Streams.sendOpenId_step (by decide) s)))
  have hk1 : KeysOK s1 := ⟨by rw [hst1]; exact hn.keys.nodup, by unfold KeysFresh; rw [hst1]; exact hn.keys.fresh⟩
  cases r with
  | error e => exact hb1
  | ok pid =>
    simp only []
    have hnext : s.actions.send.nextStreamId = some pid := sendOpenId_ok hso
    have hnc : s1.store.contains pid = false := by rw [hst1]; exact hi.hfree hn pid hnext
    simp only [hnc, Bool.false_eq_true, if_false]
    have hloc : locId sv pid = true := by
      have := hn.nl pid hnext; rw [isLocalInit_eq, hr] at this; exact this
    -- queued promised ids are below the old `next_stream_id`
    have hold : ∀ k' pid', pid' ∈ ppq s1 k' → pid' < pid := fun k' pid' hp =>
      hb.fx.lt k' pid' ((hfk1.ppq_sub k').subset hp) pid hnext
    have hlt1 : ∀ n, s1.actions.send.nextStreamId = some n → pid < n := fun n hn' => by
      have := (sendOpenId_next hso).2 n hn'; omega
    generalize hst : Stream.new pid s1.actions.send.initWindowSz s1.recv.initWindowSz = st
    have hid : st.id = pid := by rw [← hst]; rfl
    have hidle : st.state.inner = .idle := by rw [← hst]; rfl
    have hfr : Fresh st := by rw [← hst]; exact fresh_new _ _ _
    have hpp0 : st.isPendingPush = false := by rw [← hst]; rfl
    have hbd0 : st.bufferedSendData = 0 := by rw [← hst]; rfl
    have hio : ∀ id' k, s1.store.findKey? id' = some k → Live s1 k := by
      intro id' k hf; rw [hst1] at hf
      obtain ⟨x, hx⟩ := (hn.ids.findKey hf).1
      exact ⟨x, by rw [hst1]; exact hx⟩
    have hb2 := hb1.insert hk1 st hfr hpp0 hbd0 (by rw [hid]; exact hnc) hio
    have hkk : (s1.store.insert st).2 = s1.store.nextKey := rfl
    rw [hkk]
    have hns : ({ s1 with store := (s1.store.insert st).1 } : Streams).stream s1.store.nextKey = { st with key := s1.store.nextKey } :=
      stream_of_get? (insert_get?_new hk1.fresh st)
    have hl2 : Live ({ s1 with store := (s1.store.insert st).1 } : Streams) s1.store.nextKey := ⟨_, insert_get?_new hk1.fresh st⟩
    have hstr2 : ∀ j, j ≠ s1.store.nextKey → ({ s1 with store := (s1.store.insert st).1 } : Streams).stream j = s1.stream j := by
      intro j hj
      unfold Streams.stream
      rcases insert_get?_cases s1.store st j with e | ⟨_, e, _⟩
      · show ((s1.store.insert st).1.get? j).getD _ = _; rw [e]
      · exact absurd e hj
    have hq2 : ∀ k', ppq ({ s1 with store := (s1.store.insert st).1 } : Streams) k' = ppq s1 k' := by
      intro k'
      unfold ppq
      by_cases hj : k' = s1.store.nextKey
      · subst hj; rw [hns, stream_blank_of_not_live (not_live_of_none (get?_nextKey_none hk1.fresh))]
        show ppIdsOf st.pendingSend = _; rw [hfr.send]
      · rw [hstr2 k' hj]
    have hfind2 : ({ s1 with store := (s1.store.insert st).1 } : Streams).store.findKey? pid = some s1.store.nextKey := by
      show (s1.store.insert st).1.findKey? pid = _
      rw [findKey?_insert st (by rw [hid]; exact hnc), if_pos hid.symm]
    have hpar2 : Live ({ s1 with store := (s1.store.insert st).1 } : Streams) parent :=
      live_insert_old st (by obtain ⟨x, hx⟩ := hk; exact ⟨x, by rw [hst1]; exact hx⟩)
    have hparne : parent ≠ s1.store.nextKey := by
      intro e
      have : Live s1 parent := by obtain ⟨x, hx⟩ := hk; exact ⟨x, by rw [hst1]; exact hx⟩
      rw [e] at this
      exact not_live_of_none (get?_nextKey_none hk1.fresh) this
    have hpid2 : (({ s1 with store := (s1.store.insert st).1 } : Streams).stream parent).id = (s.stream parent).id := by
      rw [hstr2 parent hparne, stream_of_store_eqP hst1]
    have hb2' : FB sv (fun _ => False) ({ s1 with store := (s1.store.insert st).1 } : Streams) := by
      refine hb2.dropE (fun j hj hlj => ?_)
      rcases hj with hj | hj
      · exact hj.elim
      · subst hj
        right; right
        intro k' pid' hp hf
        have hid2 := hb2.idm pid' _ hf hlj
        rw [hns] at hid2
        have hid3 : pid = pid' := hid.symm.trans hid2
        rw [hq2] at hp
        have := hold k' pid' hp
        omega
    have hnx2 : ({ s1 with store := (s1.store.insert st).1 } : Streams).actions.send.nextStreamId = s1.actions.send.nextStreamId := rfl
    generalize hs2g : ({ s1 with store := (s1.store.insert st).1 } : Streams) = s2 at hns hl2 hq2 hfind2 hpar2 hpid2 hb2' hnx2 ⊢
    generalize hkg : s1.store.nextKey = k at hns hl2 hfind2 hparne ⊢
    rw [hns]
    have hrl : st.state.reserveLocal = ({ inner := .reservedLocal }, .ok ()) := by
      unfold State.reserveLocal; rw [hidle]
    simp only [hrl]
    -- the promised entry: `ReservedLocal`, `is_pending_push`
    have hst4 := stream_modStream_live hl2 (fun x => { x with state := ({ inner := .reservedLocal } : State), isPendingPush := true }) (fun _ => rfl)
    have hb4 : FB sv (fun _ => False) (s2.modStream k fun x => { x with state := ({ inner := .reservedLocal } : State), isPendingPush := true }) := by
      refine FB.modStream hb2' _ (fun _ => rfl) rfl rfl ?_ (.inl (fun _ _ => rfl)) ?_ ?_ ?_ ?_ (.inr ?_)
      all_goals rw [hns]
      · intro _; show suB st.state = true; unfold suB; rw [hidle]
      · intro _; show locId sv st.id = true; rw [hid]; exact hloc
      · intro ho
        have ho' : st.isPendingOpen = true := ho
        have h2 : st.isPendingOpen = false := hfr.fl .pendingOpen
        rw [ho'] at h2; cases h2
      · exact ⟨fun _ => ⟨hfr.counted, hfr.fl .pendingOpen⟩, fun _ => hfr.counted⟩
      · intro _ _; exact ⟨hfr.counted, hfr.fl .pendingOpen, hfr.send, hbd0⟩
      · exact ⟨hfr.counted, hfr.fl .pendingOpen⟩
    have hq4 : ∀ k', ppq (s2.modStream k fun x => { x with state := ({ inner := .reservedLocal } : State), isPendingPush := true }) k' = ppq s2 k' := by
      intro k'
      unfold ppq
      rcases modStream_streams s2 k (fun x => { x with state := ({ inner := .reservedLocal } : State), isPendingPush := true }) (fun _ => rfl) k' with e | ⟨e, _, e2⟩
      · rw [e]
      · subst e; rw [e2]
    have hoth4 : ∀ j, j ≠ k → (s2.modStream k fun x => { x with state := ({ inner := .reservedLocal } : State), isPendingPush := true }).stream j = s2.stream j := by
      intro j hj
      rcases modStream_streams s2 k (fun x => { x with state := ({ inner := .reservedLocal } : State), isPendingPush := true }) (fun _ => rfl) j with e | ⟨e, _⟩
      · exact e
      · exact absurd e hj
    have hfind4 : (s2.modStream k fun x => { x with state := ({ inner := .reservedLocal } : State), isPendingPush := true }).store.findKey? pid = some k := by
      unfold Store.findKey?; rw [Streams.modStream_ids]; exact hfind2
    have hnx4 := modStream_next s2 k (fun x => { x with state := ({ inner := .reservedLocal } : State), isPendingPush := true })
    have hpar4 : Live (s2.modStream k fun x => { x with state := ({ inner := .reservedLocal } : State), isPendingPush := true }) parent :=
      (SameKeys.modStream _ _ _).live.mpr hpar2
    generalize (s2.modStream k fun x => { x with state := ({ inner := .reservedLocal } : State), isPendingPush := true }) = s4 at hst4 hb4 hq4 hoth4 hfind4 hnx4 hpar4 ⊢
    cases valid with
    | false => simp only [Bool.not_false, if_true]; exact hb4
    | true =>
      simp only [Bool.not_true, Bool.false_eq_true, if_false]
      have hb5 : FB sv (fun _ => False) (s4.sendPushPromise parent k pid fields).1 := by
        unfold Streams.sendPushPromise
        split
        · exact hb4
        · split
          · exact hb4
          · split
            · exact hb4
            · unfold Streams.queueFrame
              refine FB.sx (FB.queuePP hb4 fields hpar4 ?_ ?_ hloc hfind4 ?_ ?_ ?_ ?_) (.of_step (Streams.scheduleSend_step (by decide) _ _))
              · rw [hoth4 parent hparne, hpid2]; exact hty
              · intro k' pid' hp e
                rw [hq4, hq2] at hp
                have := hold k' pid' hp
                omega
              · rw [hst4, hns]
              · rw [hst4, hns]; exact hfr.counted
              · rw [hst4, hns]; exact hfr.fl .pendingOpen
              · intro n hn'; rw [hnx4, hnx2] at hn'; exact hlt1 n hn'
      generalize hsp : s4.sendPushPromise parent k pid fields = q at hb5 ⊢
      obtain ⟨s5, r5⟩ := q
      cases r5 with
      | error e => exact FB.st hb5 (unlinkRemove_fk _ _ _) (unlinkRemove_sk _ _ _)
      | ok u =>
        simp only []
        exact hb5.sx (.of_step ((Streams.Step.setRefs s5 (s5.refs + 1)).trans (Streams.refInc_step (by decide) _ _)))

end H2V.Lemmas.ConnNoPanicP
