import H2V.Lemmas.ConnNoPanicPAccFns
/-
  C08 (no panic) — the server accept path: the invariant `J`.

    `acc` : every key queued in `recv.pending_accept` is a live entry with `is_pending_accept` set, queued once;
    `qd`  : a queued stream has no handle (`ref_count = 0`) and its `pending_recv` starts with the request head
            (what `Recv::take_request` expects);
    `rr`  : the queued streams that the peer has reset are counted by `num_remote_reset_streams`
            (what `Streams::next_incoming` asserts before it decrements);
    `si`  : (server) an entry whose first HEADERS is still expected has no handle and an empty `pending_recv`
            (so that `recv_headers` queues a stream whose `pending_recv` is exactly the request);
    `cl`  : (client) `pending_accept` is empty.
-/
namespace H2V.Lemmas.ConnNoPanicP
open H2V H2V.Model H2V.Model.Conn H2V.Lemmas.ConnCountsP
attribute [local irreducible] wrapSubU32 wrapSubUsize

def SI (x : Stream) : Prop := x.state.isRecvHeaders = true → x.refCount = 0 ∧ x.pendingRecv = []
def ReqHead (x : Stream) : Prop := ∃ m u f rest, x.pendingRecv = .request m u f :: rest
def rrCount (s : Streams) : Nat := s.recv.pendingAccept.countP fun k => (s.stream k).state.isRemoteReset

structure J (s : Streams) : Prop where
  acc : AccOK s
  qd : ∀ k ∈ s.recv.pendingAccept, (s.stream k).refCount = 0 ∧ ReqHead (s.stream k)
  rr : rrCount s ≤ s.counts.numRemoteResetStreams
  si : s.counts.isServer = true → ∀ j, Live s j → SI (s.stream j)
  cl : s.counts.isServer = false → s.recv.pendingAccept = []

theorem SI.of_ar {a b : Stream} (h : AR a b) (ha : SI a) : SI b := by
  intro hb
  have ha' : a.state.isRecvHeaders = true := by
    cases hh : a.state.isRecvHeaders with
    | true => rfl
    | false => rw [h.rh hh] at hb; cases hb
  obtain ⟨h1, h2⟩ := ha ha'
  refine ⟨h.ref.trans h1, ?_⟩
  cases hp : b.pendingRecv with
  | nil => rfl
  | cons e l =>
    rcases h.pr (by rw [hp]; exact List.cons_ne_nil _ _) with h' | h'
    · exact absurd h2 h'
    · rw [hb] at h'; cases h'

theorem ReqHead.of_app {a b : Stream} (h : App a b) (ha : ReqHead a) : ReqHead b := by
  obtain ⟨l, hl⟩ := h
  obtain ⟨m, u, f, rest, hr⟩ := ha
  exact ⟨m, u, f, rest ++ l, by rw [hl, hr]; rfl⟩

theorem ReqHead.ne_nil {a : Stream} (h : ReqHead a) : a.pendingRecv ≠ [] := by
  obtain ⟨m, u, f, rest, hr⟩ := h; rw [hr]; exact List.cons_ne_nil _ _

theorem countP_mono' {L : List Nat} {f f' : Nat → Bool} (h : ∀ j ∈ L, f' j = true → f j = true) : L.countP f' ≤ L.countP f := by
  induction L with
  | nil => exact Nat.le_refl _
  | cons a l ih =>
    have ih' := ih (fun j hj => h j (List.mem_cons_of_mem _ hj))
    have ha := h a (List.mem_cons_self ..)
    rw [List.countP_cons, List.countP_cons]
    cases hf' : f' a
    · simp only [Bool.false_eq_true, if_false]; omega
    · rw [ha hf']; simp only [if_true]; omega

theorem countP_upd {L : List Nat} (hnd : L.Nodup) {f f' : Nat → Bool} (k : Nat) (h : ∀ j, j ≠ k → f' j = f j) :
    L.countP f' ≤ L.countP f + 1 := by
  induction L with
  | nil => exact Nat.zero_le _
  | cons a l ih =>
    have hnd' := List.nodup_cons.mp hnd
    rw [List.countP_cons, List.countP_cons]
    by_cases hak : a = k
    · subst hak
      have : l.countP f' ≤ l.countP f := countP_mono' (fun j hj hf => by
        rw [h j (fun e => hnd'.1 (e ▸ hj))] at hf; exact hf)
      split <;> split <;> omega
    · have := ih hnd'.2
      rw [h a hak]
      split <;> omega

theorem J.not_mem_of_ref {s : Streams} (h : J s) {k : Nat} (hr : (s.stream k).refCount > 0) : k ∉ s.recv.pendingAccept :=
  fun hk => by have := (h.qd k hk).1; omega

theorem J.of_client {s : Streams} (h1 : s.counts.isServer = false) (h2 : s.recv.pendingAccept = []) : J s := by
  refine ⟨⟨fun k hk => ?_, by rw [h2]; exact List.nodup_nil⟩, fun k hk => ?_, ?_, fun h => ?_, fun _ => h2⟩
  · rw [h2] at hk; cases hk
  · rw [h2] at hk; cases hk
  · unfold rrCount; rw [h2]; exact Nat.zero_le _
  · rw [h1] at h; cases h

theorem J_blank {s : Streams} (h : Blank s) (hq : ∀ q, s.getQ q = []) : J s := by
  have h2 : s.recv.pendingAccept = [] := hq .pendingAccept
  refine ⟨⟨fun k hk => ?_, by rw [h2]; exact List.nodup_nil⟩, fun k hk => ?_, ?_, fun _ j hj => ?_, fun _ => h2⟩
  · rw [h2] at hk; cases hk
  · rw [h2] at hk; cases hk
  · unfold rrCount; rw [h2]; exact Nat.zero_le _
  · obtain ⟨x, hx⟩ := hj
    have := get?_mem hx
    rw [h.slab] at this; cases this

theorem J.at {s s' : Streams} (h : AT s s') (hj : J s) : J s' := by
  have hq : s'.recv.pendingAccept = s.recv.pendingAccept := h.qf.queue
  have hacc := AccOK.of_qf h.qf hj.acc
  refine ⟨hacc, fun k hk => ?_, ?_, fun hs j hl => ?_, fun hs => ?_⟩
  · obtain ⟨_, r, p⟩ := h.sub k (hacc.live hk)
    rw [hq] at hk
    obtain ⟨h1, h2⟩ := hj.qd k hk
    exact ⟨r.ref.trans h1, h2.of_app (p hk)⟩
  · refine Nat.le_trans ?_ (Nat.le_trans hj.rr h.cok.cnt)
    unfold rrCount
    rw [hq]
    exact countP_mono' (fun j hjq hf => (h.sub j (hacc.live (hq ▸ hjq))).2.1.rr hf)
  · rw [h.cok.srv] at hs
    obtain ⟨hl', r, _⟩ := h.sub j hl
    exact (hj.si hs j hl').of_ar r
  · rw [h.cok.srv] at hs; rw [hq]; exact hj.cl hs

theorem J.al {ks : List Nat} {s s' : Streams} (h : AL ks s s') (hks : ∀ k ∈ ks, k ∉ s.recv.pendingAccept) (hj : J s) : J s' :=
  hj.at (h.at hks)

theorem J.al0 {s s' : Streams} (h : AL [] s s') (hj : J s) : J s' := hj.al h (fun _ hk => absurd hk List.not_mem_nil)
theorem J.al1 {k : Nat} {s s' : Streams} (h : AL [k] s s') (hk : k ∉ s.recv.pendingAccept) (hj : J s) : J s' :=
  hj.al h (fun j hj' => by rw [List.mem_singleton] at hj'; subst hj'; exact hk)

theorem J.upd {s s' : Streams} {k : Nat} (hj : J s) (hkeys : SameKeys s s')
    (hq : s'.recv.pendingAccept = s.recv.pendingAccept) (hsrv : s'.counts.isServer = s.counts.isServer)
    (hoth : ∀ j, j ≠ k → s'.stream j = s.stream j)
    (hacc : (s'.stream k).isPendingAccept = (s.stream k).isPendingAccept)
    (hsi : s.counts.isServer = true → Live s k → SI (s'.stream k))
    (hqd : k ∈ s.recv.pendingAccept → (s'.stream k).refCount = 0 ∧ ReqHead (s'.stream k))
    (hrr : rrCount s' ≤ s'.counts.numRemoteResetStreams) : J s' := by
  refine ⟨⟨fun j hjq => ?_, by rw [hq]; exact hj.acc.nodup⟩, fun j hjq => ?_, hrr, fun hs j hl => ?_, fun hs => ?_⟩
  · rw [hq] at hjq
    have := flagged_iff.mp (hj.acc.fl j hjq)
    refine flagged_iff.mpr ⟨hkeys.live.mpr this.1, ?_⟩
    show (s'.stream j).isPendingAccept = true
    by_cases hjk : j = k
    · subst hjk; rw [hacc]; exact this.2
    · rw [hoth j hjk]; exact this.2
  · rw [hq] at hjq
    by_cases hjk : j = k
    · subst hjk; exact hqd hjq
    · rw [hoth j hjk]; exact hj.qd j hjq
  · rw [hsrv] at hs
    by_cases hjk : j = k
    · subst hjk; exact hsi hs (hkeys.live.mp hl)
    · rw [hoth j hjk]; exact hj.si hs j (hkeys.live.mp hl)
  · rw [hsrv] at hs; rw [hq]; exact hj.cl hs

theorem rrCount_upd_le {s s' : Streams} {k : Nat} (hq : s'.recv.pendingAccept = s.recv.pendingAccept)
    (hoth : ∀ j, j ≠ k → s'.stream j = s.stream j)
    (hk : k ∈ s.recv.pendingAccept → (s'.stream k).state.isRemoteReset = true → (s.stream k).state.isRemoteReset = true) :
    rrCount s' ≤ rrCount s := by
  unfold rrCount; rw [hq]
  refine countP_mono' (fun j hjq hf => ?_)
  by_cases hjk : j = k
  · subst hjk; exact hk hjq hf
  · rw [hoth j hjk] at hf; exact hf

theorem J.modStream {s : Streams} {k : Nat} (hj : J s) (hl : Live s k) (f : Stream → Stream) (hk : ∀ x, (f x).key = x.key)
    (hacc : (f (s.stream k)).isPendingAccept = (s.stream k).isPendingAccept)
    (hsi : s.counts.isServer = true → SI (f (s.stream k)))
    (hqd : k ∈ s.recv.pendingAccept → (f (s.stream k)).refCount = 0 ∧ ReqHead (f (s.stream k)))
    (hrr : k ∈ s.recv.pendingAccept → (f (s.stream k)).state.isRemoteReset = true → (s.stream k).state.isRemoteReset = true) :
    J (s.modStream k f) := by
  have hst := stream_modStream_live hl f hk
  have hoth : ∀ j, j ≠ k → (s.modStream k f).stream j = s.stream j := fun j hjk => Streams.stream_modStream_ne s k hk hjk
  have hq : (s.modStream k f).recv.pendingAccept = s.recv.pendingAccept := by
    show Streams.getQ _ .pendingAccept = Streams.getQ _ .pendingAccept
    rw [getQ_modStream]
  refine hj.upd (SameKeys.modStream _ _ _) hq (by rw [Streams.modStream_counts]) hoth (by rw [hst]; exact hacc)
    (fun hs _ => by rw [hst]; exact hsi hs) (fun hkq => by rw [hst]; exact hqd hkq) ?_
  rw [Streams.modStream_counts]
  exact Nat.le_trans (rrCount_upd_le hq hoth (fun hkq => by rw [hst]; exact hrr hkq)) hj.rr

end H2V.Lemmas.ConnNoPanicP
