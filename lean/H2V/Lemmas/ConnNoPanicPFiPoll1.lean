import H2V.Lemmas.ConnNoPanicPFiStep
/-
  C08 (no panic) — `FI` is a reachable invariant: the bundle `FB` through the write path.
  Building blocks: `pop_pending_open`, `pop_frame` (clone `ConnWakeP.popFrameC`, `Stream::send_data` abstract),
  `reclaim_frame`; then `Prioritize::buffer_pending`, `Inner::buffer_pending` and `Streams::poll_complete`, next to the
  write path's own invariants `WI` (`reclaim_frame` pushes the remainder of a DATA frame back to a stream that has data
  buffered — `Coupled`/`HeldOK` —, hence, by `FX.q`, to one whose send half is open).
-/
namespace H2V.Lemmas.ConnNoPanicP
open H2V H2V.Model H2V.Model.Conn H2V.Lemmas.ConnCountsP
attribute [local irreducible] wrapSubU32 wrapSubUsize

variable {sv : Bool} {E E' : Nat → Prop}

theorem incNumSendStreams_fb {s : Streams} (hb : FB sv E s) {k : Nat} (hpp : (s.stream k).isPendingPush = false)
    (hpo : (s.stream k).isPendingOpen = false) (hnsu : suB (s.stream k).state = false)
    (hnt : ∀ k' pid, pid ∈ ppq s k' → s.store.findKey? pid ≠ some k) : FB sv E (s.incNumSendStreams k) := by
  unfold Streams.incNumSendStreams
  dsimp only
  generalize hs1 : (if s.counts.canIncNumSendStreams = true then s else s.panic _) = s1
  have h1 : FK s s1 ∧ SK sv s s1 ∧ s1.store = s.store := by
    rw [← hs1]; split; exact ⟨.refl _, .refl _, rfl⟩; exact ⟨panic_fk _ _, panic_sk _ _, panic_store _ _⟩
  generalize hs2 : (if (s1.stream k).isCounted = true then s1.panic _ else s1) = s2
  have h2 : FK s1 s2 ∧ SK sv s1 s2 ∧ s2.store = s1.store := by
    rw [← hs2]; split; exact ⟨panic_fk _ _, panic_sk _ _, panic_store _ _⟩; exact ⟨.refl _, .refl _, rfl⟩
  have hfk := (h1.1.trans h2.1).trans (modCounts_fk s2 fun c => { c with numSendStreams := c.numSendStreams + 1 })
  have hsk := (h1.2.1.trans h2.2.1).trans (modCounts_sk (sv := sv) s2 fun c => { c with numSendStreams := c.numSendStreams + 1 })
  have hst3 : (s2.modCounts fun c => { c with numSendStreams := c.numSendStreams + 1 }).store = s.store := h2.2.2.trans h1.2.2
  have hb3 := hb.st hfk hsk
  generalize (s2.modCounts fun c => { c with numSendStreams := c.numSendStreams + 1 }) = s3 at hfk hsk hst3 hb3 ⊢
  have hsk3 : s3.stream k = s.stream k := stream_of_store_eqP hst3 k
  have hnt3 : ∀ k' pid, pid ∈ ppq s3 k' → s3.store.findKey? pid ≠ some k := by
    intro k' pid hp hf
    exact hnt k' pid ((hfk.ppq_sub k').subset hp) (by rw [← hst3]; exact hf)
  refine FB.modStream hb3 (fun st => { st with isCounted := true }) (fun _ => rfl) rfl rfl (fun h => h) (.inl (fun _ h => h))
    ?_ ?_ ?_ ?_ (.inl hnt3)
  all_goals rw [hsk3]
  · intro hp; have : (s.stream k).isPendingPush = true := hp; rw [hpp] at this; cases this
  · intro hp; have : (s.stream k).isPendingOpen = true := hp; rw [hpo] at this; cases this
  · refine ⟨fun hp => ?_, fun hp => ?_⟩
    · have : (s.stream k).isPendingPush = true := hp; rw [hpp] at this; cases this
    · have : (s.stream k).isPendingOpen = true := hp; rw [hpo] at this; cases this
  · intro _ hs'; have : suB (s.stream k).state = true := hs'; rw [hnsu] at this; cases this

theorem queueOpen_fb {s : Streams} (hb : FB sv E s) {k : Nat} (hloc : locId sv (s.stream k).id = true)
    (hpp : (s.stream k).isPendingPush = false) (hc : (s.stream k).isCounted = false) (hnsu : suB (s.stream k).state = false)
    (hnt : ∀ k' pid, pid ∈ ppq s k' → s.store.findKey? pid ≠ some k) : FB sv E (s.queueOpen k) := by
  unfold Streams.queueOpen Streams.qPush
  split
  · exact hb
  · dsimp only
    refine FB.st (FB.modStream hb (fun st => st.setQueued .pendingOpen true) (fun _ => rfl) rfl rfl (fun h => h) (.inl (fun _ h => h))
      (fun _ => hloc) (fun _ => hloc) ⟨fun hp' => ?_, fun _ => hc⟩ (fun _ hs' => ?_) (.inl hnt)) (setQ_fk _ _ _) (setQ_sk _ _ _)
    · have : (s.stream k).isPendingPush = true := hp'
      rw [hpp] at this; cases this
    · have : suB (s.stream k).state = true := hs'
      rw [hnsu] at this; cases this

/-- **`Prioritize::pop_pending_open` keeps the bundle**: a stream in `pending_open` is locally initiated (`FX.ol`) and not
    `Nil`, so its send half is open (`FX.q`) -/
theorem popPendingOpen_fb {s : Streams} (hn : NPI E' s) (hb : FB sv E s) : FB sv E s.popPendingOpen.1 := by
  have hq := hn.qs .pendingOpen (by decide)
  unfold Streams.popPendingOpen
  split
  · split
    · next s1 id heq =>
      dsimp only
      have hl := qPopQ_live hq heq
      have hf := popOpen_flags hq hb.fi.unc heq
      have hfk : FK s s1 := of_fst_eq heq (qPop_fk s _)
      have hsk : SK sv s s1 := of_fst_eq heq (qPop_sk s _)
      have hb1 := hb.st hfk hsk
      have hloc := hb.fx.ol id hf.1
      have hnsu : suB (s.stream id).state = false := by
        cases hsu : suB (s.stream id).state with
        | false => rfl
        | true => have := (hb.fx.q id hloc hsu).po; rw [hf.1] at this; cases this
      have hnsu1 : suB (s1.stream id).state = false := by
        rcases (Cl.sk (s := s) (k := id) (.inr hnsu) hsk) with h | h
        · exact absurd hl.2.1 h
        · exact h
      have hnt : ∀ k' pid, pid ∈ ppq s1 k' → s1.store.findKey? pid ≠ some id := by
        intro k' pid hp hf'
        have := (hb.fi.ppf k' pid ((hfk.ppq_sub k').subset hp) id ((hfk.ids hb.nd).2 pid id hf')).2
        rw [hf.1] at this; cases this
      exact (incNumSendStreams_fb hb1 hf.2.2 hl.2.2 hnsu1 hnt).st (modStreamW_fk _ _ _ (fun _ => by flg_tac))
        (modStreamW_sk _ _ _ (fun _ => by sr_tac))
    · next s1 heq => exact hb.st (of_fst_eq heq (qPop_fk s _)) (of_fst_eq heq (qPop_sk s _))
  · exact hb

/-- what the frame needs of `Stream::send_data` -/
def SdSK (sd : Stream → Nat → Nat → Stream × List String × Bool) : Prop :=
  ∀ x a b, (sd x a b).1.key = x.key ∧ (sd x a b).1.id = x.id ∧ (sd x a b).1.state = x.state ∧
    (sd x a b).1.isPendingPush = x.isPendingPush

theorem sdSK_sendData : SdSK Stream.sendData := fun x a b => by
  rw [Stream.sendData_fst]; split <;> exact ⟨rfl, rfl, rfl, rfl⟩

theorem setStream_dangling {s : Streams} {st' : Stream} (h : ¬ Live s st'.key) : (s.setStream st').store = s.store := by
  unfold Streams.setStream Store.set
  have : (s.store.slab.map fun x => if (x.key == st'.key) = true then st' else x) = s.store.slab := by
    conv => rhs; rw [← List.map_id s.store.slab]
    refine List.map_congr_left (fun x hx => ?_)
    have hne : x.key ≠ st'.key := by
      intro e
      exact h (live_of_mem_keys (by rw [← e]; exact List.mem_map.mpr ⟨x, hx, rfl⟩))
    have : (x.key == st'.key) = false := by simpa using hne
    rw [this]; rfl
  rw [this]

theorem emitC_sk (sd : Stream → Nat → Nat → Stream × List String × Bool) (hsd : SdSK sd) (s : Streams) (id len : Nat)
    (rest : List SFrame) (ho : Opn sv s id) : SK sv s (ConnWakeP.pfData sd s id len rest) := by
  unfold ConnWakeP.pfData
  dsimp only
  have h1 : SK sv s (s.modStream id fun st => { st with pendingSend := rest }) :=
    modStream_sk_opn ho (fun st => { st with pendingSend := rest }) (fun _ => ⟨rfl, rfl, rfl, rfl⟩)
  have o1 := ho.sk h1
  generalize (s.modStream id fun st => { st with pendingSend := rest }) = s1 at h1 o1 ⊢
  have hk := hsd (s1.stream id) len s1.prio.maxBufferSize
  generalize sd (s1.stream id) len s1.prio.maxBufferSize = p at hk ⊢
  obtain ⟨st', w, bad⟩ := p
  dsimp only at hk ⊢
  have hkey : st'.key = id := hk.1.trans (stream_key _ _)
  have h2 : SK sv s (s1.setStream st') := by
    refine h1.trans ?_
    rcases o1 with o | o
    · exact .of_store (setStream_dangling (by rw [hkey]; exact o)) rfl
    · exact setStream_sk s1 st' (by rw [hkey]; exact SR.of_opn hk.1 hk.2.1 hk.2.2.1 hk.2.2.2 o)
  sk_auto

theorem FB.finish {t : Streams} (hb : FB sv E t) (id : Nat) (c : Prop) [Decidable c] (b : Bool) :
    FB sv E ((if c then (t.qPush .pendingSend id).1 else t).transitionAfter id b) := by
  refine FB.st ?_ (transitionAfter_fk _ _ _) (transitionAfter_sk _ _ _)
  split
  · exact hb.st (qPush_fk _ _ _ (by decide)) (qPush_sk _ _ _ (by decide))
  · exact hb

theorem opn_of_queued {s : Streams} (hb : FB sv E s) {id : Nat} {f : SFrame} {rest : List SFrame}
    (hps : (s.stream id).pendingSend = f :: rest) : Opn sv s id := by
  cases hloc : locId sv (s.stream id).id with
  | false => exact .inr (.inr hloc)
  | true =>
    cases hsu : suB (s.stream id).state with
    | false => exact .inr (.inl hsu)
    | true => have := (hb.fx.q id hloc hsu).ps; rw [hps] at this; cases this

theorem popRest_sk {s : Streams} (hb : FB sv E s) {id : Nat} {f : SFrame} {rest : List SFrame}
    (hps : (s.stream id).pendingSend = f :: rest) : SK sv s (s.modStream id fun st => { st with pendingSend := rest }) :=
  modStream_sk_opn (opn_of_queued hb hps) (fun st => { st with pendingSend := rest }) (fun _ => ⟨rfl, rfl, rfl, rfl⟩)

theorem popRest_fb {s : Streams} (hb : FB sv E s) {id : Nat} {f : SFrame} {rest : List SFrame}
    (hps : (s.stream id).pendingSend = f :: rest) : FB sv E (s.modStream id fun st => { st with pendingSend := rest }) :=
  hb.st (modStream_fk' _ _ _ (popRest_flg hps)) (popRest_sk hb hps)

/-- the PUSH_PROMISE frame leaves the parent's queue and the promised stream is activated: `is_pending_push` is cleared
    (no queued PUSH_PROMISE announces the stream any more: `PPU`), and if something is queued on it its send half is
    open (`FX.q`), so counting it / putting it into `pending_open` is fine -/
theorem ppArm_fb {s : Streams} (hn : NPI E' s) (hb : FB sv E s) {id pk pid pushed : Nat} {fields : List Hpack.Field}
    {rest : List SFrame} (hl : Live s id) (hps : (s.stream id).pendingSend = .pushPromise pk pid fields :: rest)
    (hfind : (s.modStream id fun st => { st with pendingSend := rest }).store.findKey? pid = some pushed) :
    FB sv E (ppActivate (s.modStream id fun st => { st with pendingSend := rest }) pushed) := by
  have hfind' : s.store.findKey? pid = some pushed := by
    unfold Store.findKey? at hfind ⊢; rw [Streams.modStream_ids] at hfind; exact hfind
  have hlp := hn.ids.findKey hfind'
  have hmem : pid ∈ ppq s id := by unfold ppq; rw [hps, mem_ppIdsOf_cons]; exact List.mem_cons_self ..
  have hfr := hb.fi.ppf id pid hmem pushed hfind'
  have hlocp : locId sv pid = true := hb.fx.lq id pid hmem
  have hfk1 : FK s (s.modStream id fun st => { st with pendingSend := rest }) := modStream_fk' _ _ _ (popRest_flg hps)
  have hsk1 : SK sv s (s.modStream id fun st => { st with pendingSend := rest }) := popRest_sk hb hps
  have hb1 := hb.st hfk1 hsk1
  have hget1 : (s.modStream id fun st => { st with pendingSend := rest }).store.get? id =
      some { s.stream id with pendingSend := rest } := modStream_get?_self s id _ _ hl.stream rfl
  have hlp1 : Live (s.modStream id fun st => { st with pendingSend := rest }) pushed := (SameKeys.modStream _ _ _).live.mpr hlp.1
  generalize hs1 : (s.modStream id fun st => { st with pendingSend := rest }) = s1 at hfind hfk1 hsk1 hb1 hget1 hlp1 ⊢
  have hc1 : (s1.stream pushed).isCounted = false := bool_false_of_impP (hfk1.fl pushed).c hfr.1
  have ho1 : (s1.stream pushed).isPendingOpen = false := bool_false_of_impP (hfk1.fl pushed).po hfr.2
  -- no queued PUSH_PROMISE announces it any more
  have hr1 : ∀ k' pid', pid' ∈ ppq s1 k' → s1.store.findKey? pid' ≠ some pushed := by
    intro k' pid' hp hf
    have hf' : s.store.findKey? pid' = some pushed := (hfk1.ids hb.nd).2 pid' pushed hf
    have hpid : pid' = pid := (hb.idm pid' pushed hf' hlp.1).symm.trans hlp.2
    subst hpid
    have hk : k' = id := hb.fi.ppu.disj k' id pid' ((hfk1.ppq_sub k').subset hp) hmem
    subst hk
    have hnd := hb.fi.ppu.nodup k'
    unfold ppq at hnd hp
    rw [hps, mem_ppIdsOf_cons] at hnd
    rw [stream_of_get? hget1] at hp
    exact (List.nodup_cons.mp hnd).1 hp
  unfold ppActivate
  dsimp only
  have hst2 := stream_modStream_live hlp1 (fun st => { st with isPendingPush := false }) (fun _ => rfl)
  have hb2 : FB sv E (s1.modStream pushed fun st => { st with isPendingPush := false }) := by
    refine FB.modStream hb1 (fun st => { st with isPendingPush := false }) (fun _ => rfl) rfl rfl (fun h => h) (.inr hr1)
      (fun hp => (by cases hp)) (fun ho => hb1.fx.ol pushed ho) ⟨fun hp => (by cases hp), fun ho => (hb1.fi.unc pushed).2 ho⟩ ?_ (.inl hr1)
    intro hl' hs'
    have := hb1.fx.q pushed hl' hs'
    exact ⟨this.c, this.po, this.ps, this.bd⟩
  have hfk2 : FK s1 (s1.modStream pushed fun st => { st with isPendingPush := false }) := modStream_fk _ _ _ (fun _ => by flg_tac)
  have hl2 : Live (s1.modStream pushed fun st => { st with isPendingPush := false }) pushed := (SameKeys.modStream _ _ _).live.mpr hlp1
  have hfind2 : (s1.modStream pushed fun st => { st with isPendingPush := false }).store.findKey? pid = some pushed := by
    unfold Store.findKey? at hfind ⊢; rw [Streams.modStream_ids]; exact hfind
  generalize (s1.modStream pushed fun st => { st with isPendingPush := false }) = s2 at hst2 hb2 hfk2 hl2 hfind2 ⊢
  have hr2 : ∀ k' pid', pid' ∈ ppq s2 k' → s2.store.findKey? pid' ≠ some pushed := fun k' pid' hp hf =>
    hr1 k' pid' ((hfk2.ppq_sub k').subset hp) ((hfk2.ids hb1.nd).2 pid' pushed hf)
  have hpp2 : (s2.stream pushed).isPendingPush = false := by rw [hst2]
  have hc2 : (s2.stream pushed).isCounted = false := by rw [hst2]; exact hc1
  have ho2 : (s2.stream pushed).isPendingOpen = false := by rw [hst2]; exact ho1
  have hloc2 : locId sv (s2.stream pushed).id = true := by rw [hb2.idm pid pushed hfind2 hl2]; exact hlocp
  split
  · next hne =>
    have hnsu2 : suB (s2.stream pushed).state = false := by
      cases hsu : suB (s2.stream pushed).state with
      | false => rfl
      | true =>
        have := (hb2.fx.q pushed hloc2 hsu).ps
        rw [this] at hne; simp at hne
    split
    · exact (incNumSendStreams_fb hb2 hpp2 ho2 hnsu2 hr2).st (qPush_fk _ _ _ (by decide)) (qPush_sk _ _ _ (by decide))
    · exact queueOpen_fb hb2 hloc2 hpp2 hc2 hnsu2 hr2
  · exact hb2

/-- the bundle `FB`'s share of `pop_frame`, next to `PI`'s (`pi_popRule`) -/
theorem fb_popRule {sd : Stream → Nat → Nat → Stream × List String × Bool} (hsd : SdNP sd) (hsk : SdSK sd) (maxLen : Nat) :
    PopRule sd maxLen (fun s => PopI E' s ∧ FB sv E s) (fun id s t => PopP E' id s t ∧ FB sv E t)
      (FB sv E) (fun _ _ t => FB sv E t) (fun r => FB sv E r.1) where
  stop _ h := h.2
  q s h := h.2.st (qPop_fk s _) (qPop_sk s _)
  pop _ _ _ _ h' _ := h'.2
  skip _ _ h := h.2
  discard _ _ _ _ _ h _ _ := h.2.st (by fk_auto) (by sk_auto)
  emit id s _ _ _ _ c _ _ h hps _ _ h1 h2 :=
    FB.finish (h.2.st (emitC_st hsd h.1.2.1 hps h1 h2).fk (emitC_sk _ hsk _ _ _ _ (opn_of_queued h.2 hps))) id c _
  rest _ _ _ _ h hps := popRest_fb h.2 hps
  pp _ _ _ _ _ _ _ h hps hf := ppArm_fb h.1.1.npi h.2 h.1.2.2.1 hps hf
  reset _ _ _ h _ := h.2.st (modStreamW_fk _ _ _ (fun _ => by flg_tac)) (modStreamW_sk _ _ _ (fun _ => by sr_tac))
  fin id _ _ c _ h := ⟨FB.finish h.2 id c _, fun _ _ => FB.finish h.2 id c _⟩
  ta _ _ h _ := h.2.st (transitionAfter_fk _ _ _) (transitionAfter_sk _ _ _)

/-- **`Prioritize::pop_frame` keeps the bundle** -/
theorem popFrame_fb {s : Streams} (h : PI E' s) (hb : FB sv E s) (hs : ConnFlowP.SafeInv s) (fuel maxLen : Nat) :
    FB sv E (Streams.popFrame fuel s maxLen).1 := by
  rw [ConnWakeP.popFrameC.eq]
  exact (((pi_popRule sdNP_sendData maxLen).and (fb_popRule sdNP_sendData sdSK_sendData maxLen)).run fuel s ⟨⟨h, hs⟩, hb⟩).2

/-- `FB` only looks at the store and `next_stream_id` -/
theorem FB.of_store {s t : Streams} (hb : FB sv E s) (hst : t.store = s.store)
    (hn : t.actions.send.nextStreamId = s.actions.send.nextStreamId) : FB sv E t := by
  have hs : ∀ j, t.stream j = s.stream j := stream_of_store_eqP hst
  have hq : ∀ j, ppq t j = ppq s j := fun j => by unfold ppq; rw [hs]
  have hl : ∀ j, Live t j → Live s j := fun j h => by unfold Live at *; rw [← hst]; exact h
  refine ⟨by rw [hst]; exact hb.nd, fun id k hf hlk => ?_, hb.fi.of_store hst,
    ⟨fun k h1 h2 => ?_, fun k pid hp pushed hf hlk h2 => ?_, fun k pid hp n hn' => ?_, fun k hp => ?_, fun k hp => ?_,
     fun k pid hp => hb.fx.lq k pid (by rw [← hq]; exact hp)⟩⟩
  · rw [hs]; exact hb.idm id k (by rw [← hst]; exact hf) (hl k hlk)
  · rw [hs] at h1 h2 ⊢; exact hb.fx.q k h1 h2
  · rw [hs] at h2 ⊢; rw [hq] at hp; rw [hst] at hf; exact hb.fx.tg k pid hp pushed hf (hl _ hlk) h2
  · rw [hq] at hp; rw [hn] at hn'; exact hb.fx.lt k pid hp n hn'
  · rw [hs] at hp ⊢; exact hb.fx.pl k hp
  · rw [hs] at hp ⊢; exact hb.fx.ol k hp

theorem panic_next (s : Streams) (m : String) : (s.panic m).actions.send.nextStreamId = s.actions.send.nextStreamId := by
  rw [panic_actions]

/-- **`Prioritize::reclaim_frame_inner`**: the remainder goes back to a stream with buffered data, whose send half
    is therefore open -/
theorem reclaimFrameInner_fb {s : Streams} {fr : DataFrame} (hb : FB sv E s)
    (hok : (∃ k, s.prio.inFlightDataFrame = .dataFrame k) → HeldOK s fr) : FB sv E (s.reclaimFrameInner fr).1 := by
  unfold Streams.reclaimFrameInner
  dsimp only
  have hb0 : FB sv E (s.modPrio fun p => { p with inFlightDataFrame := .nothing }) := hb.of_store rfl rfl
  generalize hs0 : (s.modPrio fun p => { p with inFlightDataFrame := .nothing }) = s0 at hb0
  have hst0 : ∀ j, s0.stream j = s.stream j := fun j => by rw [← hs0]; rfl
  cases hin : s.prio.inFlightDataFrame with
  | nothing => exact hb0.of_store (panic_store _ _) (panic_next _ _)
  | drop => exact hb0
  | dataFrame k =>
    dsimp only
    split
    · next hr =>
      have ho := hok ⟨k, hin⟩ hr
      have hbd : (s0.stream fr.key).bufferedSendData ≠ 0 := by rw [hst0]; omega
      have hopn : Opn sv s0 fr.key := by
        cases hloc : locId sv (s0.stream fr.key).id with
        | false => exact .inr (.inr hloc)
        | true =>
          cases hsu : suB (s0.stream fr.key).state with
          | false => exact .inr (.inl hsu)
          | true => exact absurd (hb0.fx.q fr.key hloc hsu).bd hbd
      have hb1 : FB sv E (s0.modStream fr.key fun st => { st with pendingSend := .data fr.rest fr.eos :: st.pendingSend }) :=
        hb0.st (modStream_fk _ _ _ (fun x => ⟨rfl, id, id, id, by
            show (ppIdsOf (.data fr.rest fr.eos :: x.pendingSend)).Sublist _
            rw [ppIdsOf_data]; exact .refl _⟩))
          (modStream_sk_opn hopn (fun st => { st with pendingSend := .data fr.rest fr.eos :: st.pendingSend })
            (fun _ => ⟨rfl, rfl, rfl, rfl⟩))
      split
      · exact hb1.st (qPush_fk _ _ _ (by decide)) (qPush_sk _ _ _ (by decide))
      · exact hb1
    · exact hb0

theorem reclaimFrame_fb {s : Streams} {w : Writer} (hb : FB sv E s) (hc : Coupled s w) : FB sv E (s.reclaimFrame w).1 := by
  unfold Streams.reclaimFrame Writer.takeLastDataFrame
  cases hld : w.lastDataFrame with
  | none => exact hb
  | some fr =>
    dsimp only
    exact reclaimFrameInner_fb hb (hc.ok fr (.inl hld))

theorem bufferOut_next (s : Streams) (w : Writer) (f : Streams.OutFrame) :
    (s.bufferOut w f).1.actions.send.nextStreamId = s.actions.send.nextStreamId := by
  unfold Streams.bufferOut
  cases f with
  | data len e fr =>
    dsimp only
    split
    · rfl
    · exact panic_next _ _
  | headers sid eos fields => rfl
  | reset sid reason => rfl
  | pushPromise sid p fields => rfl

/-- one frame goes to the codec and what the codec hands back at once is reclaimed -/
theorem bufferReclaim_fb {s : Streams} {w : Writer} {f : Streams.OutFrame} (h : PI E' s) (hb : FB sv E s)
    (hw1 : w.lastDataFrame = none) (hw2 : w.next = none)
    (hlen : ∀ len e fr, f = .data len e fr → len ≤ w.maxFrameSize)
    (hheld : ∀ len e fr, f = .data len e fr → HeldOK s fr) :
    FB sv E ((s.bufferOut w f).1.reclaimFrame (s.bufferOut w f).2).1 :=
  reclaimFrame_fb (hb.of_store (bufferOut_pi h w f hlen).2.1 (bufferOut_next s w f)) (bufferOut_coupled h hw1 hw2 hlen hheld)

theorem loopOpen_fb {s : Streams} (h : PI E' s) (hb : FB sv E s) :
    FB sv E s.bufferPendingOpen := by
  unfold Streams.bufferPendingOpen
  have hp := popPendingOpen_fb h.npi hb
  generalize s.popPendingOpen = p at hp ⊢
  obtain ⟨s0, o⟩ := p
  cases o with
  | some id =>
    dsimp only at hp ⊢
    refine hp.st ?_ ?_
    · fk_auto
    · sk_auto
  | none => exact hp

/-- **the loop of `Prioritize::buffer_pending`** keeps `WI` and the bundle `FB` -/
theorem prioBufferPendingLoop_wx {g : ConnRecvP.Ghost} (fuel : Nat) {s : Streams} {w : Writer} (h : WI E' g s w) (hb : FB sv E s)
    (hw : w.lastDataFrame = none) :
    OutOfFuel (Streams.prioBufferPendingLoop fuel s w).1 ∨
    (WI E' g (Streams.prioBufferPendingLoop fuel s w).1 (Streams.prioBufferPendingLoop fuel s w).2.1 ∧
     FB sv E (Streams.prioBufferPendingLoop fuel s w).1) := by
  refine prioBufferPendingLoop_inv (I := fun s w => WI E' g s w ∧ FB sv E s)
    (J := fun s => (PI E' s ∧ ConnFlowP.SafeInv s ∧ ConnRecvP.Inv true g s ∧ DSum s) ∧ FB sv E s)
    (fun _ _ h => h.1.pi.npi.np)
    (fun s _ h => ⟨loopOpen_w h.1.pi h.1.safe h.1.recv h.1.ds, loopOpen_fb h.1.pi h.2⟩)
    ?_ ?_ fuel s w ⟨h, hb⟩ hw
  · intro s w s' f ho hw1 hw2 heq
    have hp := popFrame_wi ho.1.1 ho.1.2.1 ho.1.2.2.1 ho.1.2.2.2 _ _ heq
    have hpf := popFrame_fb ho.1.1 ho.2 ho.1.2.1 s.popFrameFuel w.maxFrameSize
    rw [heq] at hpf
    have hlen : ∀ len e fr, f = .data len e fr → len ≤ w.maxFrameSize :=
      fun len e fr hf => by subst hf; exact popFrame_len_le ho.1.2.1 heq
    have hheld : ∀ len e fr, f = .data len e fr → HeldOK s' fr := fun len e fr hf => hp.2.2.2.2 len e fr (by rw [hf])
    exact ⟨(bufferReclaim_w (f := f) hp.1 hp.2.1 hp.2.2.1 hp.2.2.2.1 hw1 hw2 hlen hheld).1,
      bufferReclaim_fb (f := f) hp.1 hpf hw1 hw2 hlen hheld⟩
  · intro s w s' ho hw1 hw2 heq
    have hp := popFrame_wi ho.1.1 ho.1.2.1 ho.1.2.2.1 ho.1.2.2.2 _ _ heq
    have hpf := popFrame_fb ho.1.1 ho.2 ho.1.2.1 s.popFrameFuel w.maxFrameSize
    rw [heq] at hpf
    exact ⟨⟨hp.1, hp.2.1, hp.2.2.1, hp.2.2.2.1, .of_none hw1 hw2⟩, hpf⟩

theorem recvBufferPending_sk (s : Streams) (w : Writer) : SK sv s (s.recvBufferPending w).1 :=
  .of_step (Streams.recvBufferPending_step (by decide) s w)

/-- **`Streams::poll_complete` keeps the write path's invariants AND the bundle `FB`** (or ends with the model's own
    out-of-fuel marker) -/
theorem pollComplete_wx {g : ConnRecvP.Ghost} (fuel : Nat) {s : Streams} {w : Writer} (h : WI E' g s w) (hb : FB sv E s)
    (io : Tio) (tag : String) :
    OutOfFuel (Streams.pollComplete fuel s w io tag).1 ∨
    (WI E' g (Streams.pollComplete fuel s w io tag).1 (Streams.pollComplete fuel s w io tag).2.1 ∧
     FB sv E (Streams.pollComplete fuel s w io tag).1) :=
  pollComplete_inv (I := fun s w => WI E' g s w ∧ FB sv E s) (fun _ _ h => h.1.pi.npi.np) (fun _ _ _ h hw => ⟨h.1.wle hw, h.2⟩)
    (fun s w h => ⟨recvBufferPending_w h.1, h.2.st (recvBufferPending_fk s w) (recvBufferPending_sk s w)⟩)
    (fun _ _ h => ⟨(reclaimFrame_w h.1).1, reclaimFrame_fb h.2 h.1.cp⟩)
    (fun n _ _ h hw => prioBufferPendingLoop_wx n h.1 h.2 hw)
    (fun _ _ t h => ⟨setTask_w h.1 t, h.2.of_store rfl rfl⟩) fuel s w io tag ⟨h, hb⟩

/-- **`Streams::poll_complete` keeps `FJ`** (hence `FI`): from a state in which the write path's invariants `WI` and `FJ`
    hold it ends with the model's out-of-fuel marker, or in a state in which both hold again -/
theorem FJ_pollComplete {g : ConnRecvP.Ghost} {s : Streams} {w : Writer} (h : WI E' g s w) (hj : FJ s) (fuel : Nat) (io : Tio)
    (tag : String) :
    OutOfFuel (Streams.pollComplete fuel s w io tag).1 ∨
    (WI E' g (Streams.pollComplete fuel s w io tag).1 (Streams.pollComplete fuel s w io tag).2.1 ∧
     FJ (Streams.pollComplete fuel s w io tag).1) := by
  rcases pollComplete_wx (sv := s.counts.isServer) (E := fun _ => False) fuel h hj io tag with h1 | h1
  · exact .inl h1
  · exact .inr ⟨h1.1, FJ.of_role (pollComplete_ev (ρ := true) fuel s w io tag).nx.role h1.2⟩

end H2V.Lemmas.ConnNoPanicP
