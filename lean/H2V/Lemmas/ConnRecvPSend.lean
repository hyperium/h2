import H2V.Lemmas.ConnRecvPTac
/-
  C03: every step of the stream layer whose kinds `Ext` tolerates (`kindsExt`) is an `Ext` step (`Ext.of_step`, one
  induction; the per-entry part is `SameR.of_upd`): so every model function whose footprint has none of the receive
  windows, no setting and no insertion is one, `Ext.of_step (Streams.f_step (by decide) s …)`.  What is left here are
  the queue and counter primitives the induction uses, the store iterators, and `Send::apply_remote_settings`
  (a setting, but not one of `Recv`).
-/
namespace H2V.Lemmas.ConnRecvP
open H2V H2V.Model H2V.Model.Conn
open H2V.Model.Conn.Streams
attribute [local irreducible] wrapSubU32 wrapSubUsize

theorem qPush_ext (s : Streams) (q : QName) (id : Nat) : Ext s (s.qPush q id).1 := by
  unfold Streams.qPush; ext_auto

theorem qPushFront_ext (s : Streams) (q : QName) (id : Nat) : Ext s (s.qPushFront q id).1 := by
  unfold Streams.qPushFront; ext_auto

theorem qPop_ext (s : Streams) (q : QName) : Ext s (s.qPop q).1 := by
  unfold Streams.qPop; ext_auto

theorem incNumSendStreams_ext (s : Streams) (id : Nat) : Ext s (s.incNumSendStreams id) := by
  unfold Streams.incNumSendStreams; ext_auto

theorem incNumRecvStreams_ext (s : Streams) (id : Nat) : Ext s (s.incNumRecvStreams id) := by
  unfold Streams.incNumRecvStreams; ext_auto

theorem decNumStreams_ext (s : Streams) (id : Nat) : Ext s (s.decNumStreams id) := by
  unfold Streams.decNumStreams; ext_auto

theorem Ext.of_step {s s' : Streams} (h : Step kindsExt s s') : Ext s s' := by
  induction h with
  | refl s => exact .refl s
  | trans _ _ ih1 ih2 => exact ih1.trans ih2
  | panic s m => exact panic_ext s m
  | unsup s m => exact unsup_ext s m
  | wake s t => exact wake_ext s t
  | notifyTask s _ => exact notifyTask_ext s
  | setTask s t _ => exact setTask_ext s t
  | setConnError s e _ => exact setConnError_ext s (some e)
  | setRefs s n => exact setRefs_ext s n
  | modPrio s f _ => exact modPrio_ext s f
  | modSend s f _ => exact modSend_ext s f
  | modRecv s f u =>
    obtain ⟨h1, h2, h3⟩ := recv_of_upd u
    exact .of_same rfl h1 h2 h3
  | setCounts s c _ => exact setCounts_ext s c
  | qPush s q k _ => exact qPush_ext s q k
  | qPushFront s q k _ => exact qPushFront_ext s q k
  | qPop s q _ => exact qPop_ext s q
  | incNumSendStreams s k _ => exact incNumSendStreams_ext s k
  | incNumRecvStreams s k _ => exact incNumRecvStreams_ext s k
  | decNumStreams s k => exact decNumStreams_ext s k
  | modStream s k f u =>
    refine modStream_ext s k f fun x hx => ?_
    rw [← stream_eq_of_get? hx]; exact .of_upd u
  | modStreamW s k f u =>
    refine modStreamW_ext s k f fun x hx => ?_
    rw [← stream_eq_of_get? hx]; exact .of_updW u
  | setStream s x u => exact setStream_stream_ext s x.key x (.of_upd u)
  | insert _ _ _ _ hk | insertWith _ _ _ _ _ hk | undoInsert _ _ _ hk => exact nomatch hk
  | unlink s id _ => exact unlink_ext s id
  | remove s k n _ _ => exact remove_ext s k n

/-- `Ext.trans ?_ (Ext.of_step (Streams.f_step ..))`, when the footprint of `f` lies inside `kindsExt` (checked by evaluation,
    not by `decide`: a frame argument may be a variable); the kind `remoteReset` is allowed, whoever the initiator -/
macro_rules | `(tactic| ext_via_step) => `(tactic|
  (open H2V.Model.Conn.Streams in rel_head Ext "_ext" via Ext.of_step "_step" => fail) <;>
    first
      | (with_reducible refine (?_ : Kind.Has _ _); exact of_decide_eq_true rfl)
      | with_reducible refine (?_ : Ext _ _)
      | exact fun _ _ _ => rfl)

theorem transitionAfter_ext (s : Streams) (id : Nat) (b : Bool) : Ext s (s.transitionAfter id b) :=
  .of_step (transitionAfter_step (by decide) s id b)

theorem tryForEach_ext (f : Streams → Nat → Streams × Option PErr) (hf : ∀ s id, Ext s (f s id).1)
    (n i len : Nat) (s : Streams) : Ext s (tryForEach f n i len s).1 :=
  Streams.tryForEach_rel extOK f hf n i len s

theorem storeTryForEach_ext (s : Streams) (f : Streams → Nat → Streams × Option PErr) (hf : ∀ s id, Ext s (f s id).1) :
    Ext s (s.storeTryForEach f).1 := by
  unfold Streams.storeTryForEach; exact tryForEach_ext f hf _ _ _ _

theorem tryForEachAcc_ext (f : Nat → Streams → Nat → Streams × Nat × Option PErr) (hf : ∀ a s id, Ext s (f a s id).1)
    (n i len acc : Nat) (s : Streams) : Ext s (tryForEachAcc f n i len acc s).1 :=
  Streams.tryForEachAcc_rel extOK f hf n i len acc s

theorem sendApplyRemoteSettings_ext (s : Streams) (a b c : Option Nat) : Ext s (s.sendApplyRemoteSettings a b c).1 := by
  unfold Streams.sendApplyRemoteSettings; ext_auto

end H2V.Lemmas.ConnRecvP
