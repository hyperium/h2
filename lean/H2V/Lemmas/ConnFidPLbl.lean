import H2V.Lemmas.ConnFidPPrim
/-
  ConnFidP — the labelled primitives: the few places of the model where a queue changes.
  The model writes them as `modStream k (fun st => { st with pendingSend := … })`; the anonymous
  functions are folded into the named ones below (`fid_fold`) so that `grind` can recognise them.
-/
namespace H2V.Lemmas.ConnFidP
open H2V H2V.Model H2V.Model.Conn H2V.Lemmas.ConnWakeP

def pushF (f : SFrame) : Stream → Stream := fun st => { st with pendingSend := st.pendingSend ++ [f] }
def unpopF (f : SFrame) : Stream → Stream := fun st => { st with pendingSend := f :: st.pendingSend }
def setSendF (q : List SFrame) : Stream → Stream := fun st => { st with pendingSend := q }
def rpushF (e : REvent) : Stream → Stream := fun st => { st with pendingRecv := st.pendingRecv ++ [e] }
def setRecvF (q : List REvent) : Stream → Stream := fun st => { st with pendingRecv := q }
def clearF : Stream → Stream := fun st => { st with pendingSend := [], bufferedSendData := 0, requestedSendCapacity := 0 }
def drop1F : Stream → Stream := fun st => { st with pendingSend := st.pendingSend.drop 1 }
def markF (m : InFlightData) : Prioritize → Prioritize := fun p => { p with inFlightDataFrame := m }
theorem markF_fold (m : InFlightData) : (fun p : Prioritize => { p with inFlightDataFrame := m }) = markF m := rfl

theorem pushF_fold (f : SFrame) : (fun st : Stream => { st with pendingSend := st.pendingSend ++ [f] }) = pushF f := rfl
theorem unpopF_fold (f : SFrame) : (fun st : Stream => { st with pendingSend := f :: st.pendingSend }) = unpopF f := rfl
theorem setSendF_fold (q : List SFrame) : (fun st : Stream => { st with pendingSend := q }) = setSendF q := rfl
theorem rpushF_fold (e : REvent) : (fun st : Stream => { st with pendingRecv := st.pendingRecv ++ [e] }) = rpushF e := rfl
theorem setRecvF_fold (q : List REvent) : (fun st : Stream => { st with pendingRecv := q }) = setRecvF q := rfl
theorem clearF_fold : (fun st : Stream => { st with pendingSend := [], bufferedSendData := 0, requestedSendCapacity := 0 }) = clearF := rfl
theorem drop1F_fold : (fun st : Stream => { st with pendingSend := st.pendingSend.drop 1 }) = drop1F := rfl

/-- fold the queue-changing anonymous functions of the model into their names -/
macro "fid_fold" : tactic => `(tactic|
  simp only [pushF_fold, unpopF_fold, setSendF_fold, rpushF_fold, setRecvF_fold, clearF_fold])

theorem marker_modStream (s : Streams) (k : Nat) (f : Stream → Stream) : marker (s.modStream k f) = marker s := by
  unfold marker; rw [Streams.modStream_actions]

section
variable {P : Perm} {s0 s : Streams}

theorem El.modStream_lbl {s : Streams} (l : Lbl) (k : Nat) (f : Stream → Stream) (hl : l.key? = some k)
    (hm : ∀ m, markEff (some l) m = m) (hf : ∀ a, s.store.get? k = some a → ES (some l) a (f a))
    (hs : (s.store.get? k).isSome = true) : El (some l) s (s.modStream k f) := by
  refine El.modStream s k f hf (fun x hx => ES.other l x ?_) (hm _) ?_ ?_ hs
  · rw [hl]; intro e; exact hx (Option.some.inj e).symm
  · intro l' j e hj; cases e; rw [hl] at hj; exact (Option.some.inj hj).symm
  · intro j e; cases e; simp [Lbl.key?] at hl

/-- … in accumulator form (a dangling key: `panic`, a silent step) -/
theorem modStream_lbl_acc (l : Lbl) (k : Nat) (f : Stream → Stream) (hl : l.key? = some k)
    (hm : ∀ m, markEff (some l) m = m) (hf : ∀ a, s.store.get? k = some a → ES (some l) a (f a)) (ok : P.ok l)
    (h : Tr P s0 s) : Tr P s0 (s.modStream k f) := by
  cases hs : s.store.get? k with
  | none => rw [Streams.modStream_of_none hs]; exact panic_acc _ h
  | some a => exact h.lbl l (El.modStream_lbl l k f hl hm hf (by rw [hs]; rfl)) ok

theorem es_push {k : Nat} {a : Stream} (f : SFrame) (ha : s.store.get? k = some a) : ES (some (.push k f)) a (pushF f a) :=
  ⟨rfl, rfl, fun h => h, by simp [pushF, sendEff, (Conn.Store.get?_key ha).symm], rfl, trivial⟩

theorem es_pop {k : Nat} {a : Stream} {f : SFrame} {rest : List SFrame} (hq : (s.stream k).pendingSend = f :: rest)
    (ha : s.store.get? k = some a) : ES (some (.pop k f)) a (setSendF rest a) := by
  rw [Streams.stream_of_get? ha] at hq
  exact ⟨rfl, rfl, fun h => h, by simp [setSendF, sendEff, hq, (Conn.Store.get?_key ha).symm], rfl, by simp [sideOk, hq]⟩

/-- `pending_send.push_back(frame)` -/
theorem push_acc (k : Nat) (f : SFrame) (hA : P.ok (.push k f)) (h : Tr P s0 s) : Tr P s0 (s.modStream k (pushF f)) :=
  modStream_lbl_acc (.push k f) k _ rfl (fun _ => rfl) (fun _ ha => es_push f ha) hA h
grind_pattern push_acc => Tr P s0 (s.modStream k (pushF f))

theorem ok_push_reset {P : Perm} {k : Nat} (r : Reason) (hc : P.cut k) : P.ok (.push k (.reset r)) := Or.inr ⟨rfl, hc⟩
grind_pattern ok_push_reset => P.ok (.push k (.reset r))

/-- `pending_send.push_front(frame)` -/
theorem unpop_acc (k : Nat) (f : SFrame) (hA : P.write) (h : Tr P s0 s) : Tr P s0 (s.modStream k (unpopF f)) := by
  refine modStream_lbl_acc (.unpop k f) k _ rfl (fun _ => rfl) (fun a ha => ?_) hA h
  have hk := (Conn.Store.get?_key ha).symm
  exact ⟨rfl, rfl, fun h => h, by simp [unpopF, sendEff, hk], rfl, trivial⟩
grind_pattern unpop_acc => Tr P s0 (s.modStream k (unpopF f))

/-- `pending_recv.push_back(event)` -/
theorem rpush_acc (k : Nat) (e : REvent) (hA : P.rpush k e) (h : Tr P s0 s) : Tr P s0 (s.modStream k (rpushF e)) := by
  refine modStream_lbl_acc (.rpush k e) k _ rfl (fun _ => rfl) (fun a ha => ?_) hA h
  have hk := (Conn.Store.get?_key ha).symm
  exact ⟨rfl, rfl, fun h => h, rfl, by simp [rpushF, recvEff, hk], trivial⟩
grind_pattern rpush_acc => Tr P s0 (s.modStream k (rpushF e))

/-- `pending_recv.pop_front()` -/
theorem rpop_acc (k : Nat) (e : REvent) (rest : List REvent) (hq : (s.stream k).pendingRecv = e :: rest) (hA : P.rpop k)
    (h : Tr P s0 s) : Tr P s0 (s.modStream k (setRecvF rest)) := by
  refine modStream_lbl_acc (.rpop k e) k _ rfl (fun _ => rfl) (fun a ha => ?_) hA h
  rw [Streams.stream_of_get? ha] at hq
  have hk := (Conn.Store.get?_key ha).symm
  exact ⟨rfl, rfl, fun h => h, rfl, by simp [setRecvF, recvEff, hq, hk], by simp [sideOk, hq]⟩
grind_pattern rpop_acc => Tr P s0 (s.modStream k (setRecvF rest)), e :: rest

/-- the `while let Some(_) = pending_recv.pop_front()` of `clear_recv_buffer` -/
theorem rclear_acc (k : Nat) (hA : P.rclear k) (h : Tr P s0 s) : Tr P s0 (s.modStream k (setRecvF [])) := by
  refine modStream_lbl_acc (.rclear k) k _ rfl (fun _ => rfl) (fun a ha => ?_) hA h
  have hk := (Conn.Store.get?_key ha).symm
  exact ⟨rfl, rfl, fun h => h, rfl, by simp [setRecvF, recvEff, hk], trivial⟩
grind_pattern rclear_acc => Tr P s0 (s.modStream k (setRecvF []))

/-- permissions for every entry at once (as named propositions: `grind` instantiates them through the
    patterns below, which is more reliable than local `∀` hypotheses) -/
def CutAll (P : Perm) : Prop := ∀ k, P.cut k
def RpushAll (P : Perm) : Prop := ∀ k e, P.rpush k e
def RpushAny (P : Perm) (k : Nat) : Prop := ∀ e, P.rpush k e
def RclearAll (P : Perm) : Prop := ∀ k, P.rclear k
theorem cut_of_all {P : Perm} (k : Nat) (h : CutAll P) : P.cut k := h k
grind_pattern cut_of_all => P.cut k
theorem rpush_of_all {P : Perm} (k : Nat) (e : REvent) (h : RpushAll P) : P.rpush k e := h k e
grind_pattern rpush_of_all => P.rpush k e
theorem rpush_of_any {P : Perm} {k : Nat} (e : REvent) (h : RpushAny P k) : P.rpush k e := h e
grind_pattern rpush_of_any => P.rpush k e, RpushAny P k
theorem rpushAny_of_all {P : Perm} (k : Nat) (h : RpushAll P) : RpushAny P k := h k
grind_pattern rpushAny_of_all => RpushAny P k
theorem rclear_of_all {P : Perm} (k : Nat) (h : RclearAll P) : P.rclear k := h k
grind_pattern rclear_of_all => P.rclear k

/-- the header list of the `431 Request Header Fields Too Large` answer that `recv_headers` queues by itself -/
def f431 : List Hpack.Field := [{ h := (Hpack.pStatus, Http.str "431"), sensitive := false, nameless := false }]
theorem f431_fold : ([{ h := (Hpack.pStatus, Http.str "431"), sensitive := false, nameless := false }] : List Hpack.Field) = f431 := rfl
def PushPromiseAll (P : Perm) (k : Nat) (f : List Hpack.Field) : Prop := ∀ pk pid, P.ok (.push k (.pushPromise pk pid f))
theorem pushPromise_of {P : Perm} {k : Nat} {f : List Hpack.Field} (pk pid : Nat) (h : PushPromiseAll P k f) :
    P.ok (.push k (.pushPromise pk pid f)) := h pk pid
grind_pattern pushPromise_of => P.ok (.push k (.pushPromise pk pid f)), PushPromiseAll P k f

def ClosedAt (s : Streams) (k : Nat) : Prop := ∀ a, s.store.get? k = some a → a.state.isClosed = true

theorem clearQueue_store (s : Streams) (k : Nat) : (s.clearQueue k).store = (s.modStream k clearF).store := by
  unfold Streams.clearQueue
  simp only [clearF_fold]
  split
  · split <;> rfl
  · rfl

theorem clearQueue_marker (s : Streams) (k : Nat) :
    marker (s.clearQueue k) = if marker s = .dataFrame k then .drop else marker s := by
  have hm := marker_modStream s k clearF
  unfold Streams.clearQueue
  simp only [clearF_fold]
  unfold marker Streams.prio at *
  split
  · next k' hk' =>
    rw [hk'] at hm
    split
    · next e => subst e; rw [← hm]; simp [Streams.modPrio]
    · next e =>
      rw [← hm]
      have : ¬ (InFlightData.dataFrame k' = InFlightData.dataFrame k) := fun h => e (InFlightData.dataFrame.inj h)
      simp [this, hk']
  · next hne =>
    rw [hm] at hne ⊢
    split
    · next e => exact absurd e (hne k)
    · rfl

/-- a state that differs from `s` only in entry `k` — closed, its `pending_send` truncated to the first `n` frames,
    some counters reset — and in the marker, `Drop` if it named `k`: the step `cut k n` -/
theorem cut_acc (k n : Nat) {s' : Streams} {f : Stream → Stream}
    (hg : ∀ j, s'.store.get? j = if j = k then (s.store.get? k).map f else s.store.get? j)
    (hf : ∀ a, (f a).key = a.key ∧ (f a).id = a.id ∧ (f a).state = a.state ∧ (f a).pendingSend = a.pendingSend.take n ∧
      (f a).pendingRecv = a.pendingRecv)
    (hn : s'.store.nextKey = s.store.nextKey) (hm : marker s' = if marker s = .dataFrame k then .drop else marker s)
    (hc : P.cut k) (hcl : ClosedAt s k) (h : Tr P s0 s) : Tr P s0 s' := by
  refine h.lbl (.cut k n) ⟨Nat.le_of_eq hn.symm, ?_, ?_, ?_, (by intro _ _ e _ hcut; cases e; simp [Lbl.isCut] at hcut), (by intro _ e; cases e)⟩ hc
  · intro j a ha
    refine Or.inl ?_
    rw [hg]
    by_cases hj : j = k
    · subst hj
      simp only [if_true, ha, Option.map_some]
      obtain ⟨h1, h2, h3, h4, h5⟩ := hf a
      have hk := (Conn.Store.get?_key ha).symm
      exact ⟨_, rfl, h1, h2, by rw [h3]; exact fun h => h, by simp [sendEff, hk, h4], by simp [recvEff, h5],
        fun _ => by rw [h3]; exact hcl a ha⟩
    · simp only [hj, if_false]
      exact ⟨a, ha, ES.other _ a (by simp only [Lbl.key?]; rw [Conn.Store.get?_key ha]; intro e; exact hj (Option.some.inj e).symm)⟩
  · intro j b hnone hs
    rw [hg] at hs
    split at hs
    · next e => subst e; rw [hnone] at hs; cases hs
    · rw [hnone] at hs; cases hs
  · rw [hm]; rfl

/-- `Prioritize::clear_queue`: the step `cut k 0` -/
theorem clearQueue_acc (k : Nat) (hc : P.cut k) (hcl : ClosedAt s k) (h : Tr P s0 s) : Tr P s0 (s.clearQueue k) :=
  cut_acc k 0 (f := clearF) (fun j => by rw [clearQueue_store]; exact Streams.modStream_get? s k clearF (fun _ => rfl) j)
    (fun _ => ⟨rfl, rfl, rfl, rfl, rfl⟩)
    (by rw [clearQueue_store, Streams.modStream_nextKey]) (clearQueue_marker s k) hc hcl h
grind_pattern clearQueue_acc => Tr P s0 (s.clearQueue k)

end
end H2V.Lemmas.ConnFidP
