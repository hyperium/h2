import H2V.Lemmas.ConnFidPStep
import H2V.Lemmas.ConnStepLoops
import H2V.Lemmas.ConnStepWrite
/-
  ConnFidP — the primitive updates of `Streams` in accumulator form (`Tr P s0 s → Tr P s0 (prim s)`) and, from them,
  `Tr.of_step`: a step of the stream layer (`Streams.Step`, ConnStep) of kinds that touch neither queue nor the
  in-flight marker (`kindsTr`) is a path of silent steps and removals.  So a model function with such a footprint needs
  no walk: `h.step hg (f_step (by decide) …)`.  The primitives are also backward `grind` rules: a function that makes a
  labelled step is walked by `unfold f; fid_grind` (proof engineering after `ConnWakePPrim.lean`), with one permission
  hypothesis per labelled primitive it reaches.  The labelled primitives (`queue_frame`, `clear_queue`, the pops, the
  receive-queue operations) are proved by hand in ConnFidPLbl / ConnFidPFnSend.  Facts about the model's primitives come
  from ConnBasics; the loop combinators carry paths by ConnLoops (`Tr.relOK`).
-/
namespace H2V.Lemmas.ConnFidP
open H2V H2V.Model H2V.Model.Conn H2V.Lemmas.ConnWakeP

def ClMono (x y : State) : Prop := x.isClosed = true → y.isClosed = true

@[grind ←] theorem ClMono.refl (x : State) : ClMono x x := fun h => h

@[grind ←] theorem sendOpen_cl (x : State) (eos : Bool) : ClMono x (x.sendOpen eos).1 := (sendOpen_ok x eos).1
@[grind ←] theorem reserveRemote_cl (x : State) : ClMono x (x.reserveRemote).1 := (reserveRemote_ok x).1
@[grind ←] theorem reserveLocal_cl (x : State) : ClMono x (x.reserveLocal).1 := (reserveLocal_ok x).1
@[grind ←] theorem recvClose_cl (x : State) : ClMono x (x.recvClose).1 := (recvClose_ok x).1
@[grind →] theorem sendClose_cl {x y : State} (h : x.sendClose = some y) : ClMono x y := (sendClose_ok h).1

/-- a silent change of one entry: key, id and both queues kept, `Closed` absorbing -/
structure Quiet (a b : Stream) : Prop where
  key : b.key = a.key
  id : b.id = a.id
  closed : ClMono a.state b.state
  send : b.pendingSend = a.pendingSend
  recv : b.pendingRecv = a.pendingRecv

@[grind =] theorem quiet_iff (a b : Stream) : Quiet a b ↔ (b.key = a.key ∧ b.id = a.id ∧ ClMono a.state b.state ∧
    b.pendingSend = a.pendingSend ∧ b.pendingRecv = a.pendingRecv) :=
  ⟨fun h => ⟨h.1, h.2, h.3, h.4, h.5⟩, fun ⟨h1, h2, h3, h4, h5⟩ => ⟨h1, h2, h3, h4, h5⟩⟩

theorem Quiet.es {a b : Stream} (h : Quiet a b) : ES none a b := ⟨h.key, h.id, h.closed, h.send, h.recv, trivial⟩
theorem Quiet.refl (a : Stream) : Quiet a a := ⟨rfl, rfl, fun h => h, rfl, rfl⟩
theorem Quiet.trans {a b c : Stream} (h1 : Quiet a b) (h2 : Quiet b c) : Quiet a c :=
  ⟨h2.key.trans h1.key, h2.id.trans h1.id, fun h => h2.closed (h1.closed h), h2.send.trans h1.send, h2.recv.trans h1.recv⟩

@[grind ←] theorem notifySend_quiet (a : Stream) : Quiet a a.notifySend.1 := by
  rw [Stream.notifySend_fst]; exact ⟨rfl, rfl, fun h => h, rfl, rfl⟩
@[grind ←] theorem notifyRecv_quiet (a : Stream) : Quiet a a.notifyRecv.1 := by
  rw [Stream.notifyRecv_fst]; exact ⟨rfl, rfl, fun h => h, rfl, rfl⟩
@[grind ←] theorem notifyPush_quiet (a : Stream) : Quiet a a.notifyPush.1 := by
  rw [Stream.notifyPush_fst]; exact ⟨rfl, rfl, fun h => h, rfl, rfl⟩
@[grind ←] theorem notifyCapacity_quiet (a : Stream) : Quiet a a.notifyCapacity.1 := by
  rw [Stream.notifyCapacity_fst]; exact ⟨rfl, rfl, fun h => h, rfl, rfl⟩
@[grind ←] theorem assignCapacity_quiet (a : Stream) (c m : Nat) : Quiet a (a.assignCapacity c m).1 := by
  rw [Stream.assignCapacity_fst]; split <;> exact ⟨rfl, rfl, fun h => h, rfl, rfl⟩
@[grind ←] theorem waitSend_quiet (a : Stream) (t : String) : Quiet a (a.waitSend t) := ⟨rfl, rfl, fun h => h, rfl, rfl⟩
@[grind ←] theorem waitOpen_quiet (a : Stream) (t : String) : Quiet a (a.waitOpen t) := ⟨rfl, rfl, fun h => h, rfl, rfl⟩
@[grind ←] theorem setQueued_quiet (a : Stream) (q : QName) (v : Bool) : Quiet a (a.setQueued q v) := by
  cases q <;> exact ⟨rfl, rfl, fun h => h, rfl, rfl⟩

@[grind ←] theorem setReset_quiet (a : Stream) (r : Reason) (i : Initiator) : Quiet a (a.setReset r i).1 := by
  rw [Stream.setReset_fst]; exact ⟨rfl, rfl, (setReset_ok _ _ _ _).1, rfl, rfl⟩

/-- `Stream::send_data` through its clone (`Stream.sendData` itself must never be unfolded) -/
theorem sendDataC_quiet (capf : Stream → Nat → Nat) (a : Stream) (len m : Nat) :
    Quiet a (sendDataC capf a len m).1 := by
  rw [sendDataC_def]
  rcases a.sendFlow.sendData len with ⟨fl, r⟩
  simp only
  generalize hs1 : ({ a with sendFlow := fl, bufferedSendData := wrapSubUsize a.bufferedSendData len, requestedSendCapacity := wrapSubU32 a.requestedSendCapacity len } : Stream) = s1
  have h0 : Quiet a s1 := by subst hs1; exact ⟨rfl, rfl, fun h => h, rfl, rfl⟩
  by_cases hc : capf a m < capf s1 m
  · simp only [if_pos hc]; exact h0.trans (notifyCapacity_quiet _)
  · simp only [if_neg hc]; exact h0

theorem sendData_quiet (a : Stream) (len m : Nat) : Quiet a (a.sendData len m).1 := by
  rw [sendDataC.eq]; exact sendDataC_quiet _ _ _ _

theorem sendData_quiet' (a : Stream) (len m : Nat) : ∃ b w f, a.sendData len m = (b, w, f) ∧ Quiet a b := by
  have := sendData_quiet a len m
  rcases h : a.sendData len m with ⟨b, w, f⟩
  rw [h] at this
  exact ⟨b, w, f, rfl, this⟩

theorem decContentLength_quiet {a b : Stream} {n : Nat} (h : a.decContentLength n = some b) : Quiet a b := by
  unfold Stream.decContentLength at h
  split at h
  · split at h
    · cases h; exact ⟨rfl, rfl, fun h => h, rfl, rfl⟩
    · cases h
  · split at h
    · cases h
    · cases h; exact Quiet.refl _
  · cases h; exact Quiet.refl _
attribute [grind →] decContentLength_quiet

/-- one branch point of a model function, without touching the branches (`split` would simplify the whole goal) -/
theorem ite_elim {α : Type} {C : α → Prop} {c : Prop} [Decidable c] {a b : α} (ha : c → C a) (hb : ¬c → C b) :
    C (if c then a else b) := by
  split
  · exact ha ‹_›
  · exact hb ‹_›

attribute [grind ←] Tr.refl

section acc
variable {P : Perm} {s0 s : Streams}

theorem Tr.of_store_eq {s' : Streams} (h : Tr P s0 s) (h1 : s'.store = s.store) (h2 : marker s' = marker s) : Tr P s0 s' :=
  h.tau (.of_store_eq h1 h2)

theorem Tr.ite_fst {α : Type} {c : Prop} [Decidable c] {a b : Streams × α} (ha : c → Tr P s0 a.1) (hb : ¬c → Tr P s0 b.1) :
    Tr P s0 (if c then a else b).1 := ite_elim (C := fun p : Streams × α => Tr P s0 p.1) ha hb

@[grind ←] theorem panic_acc (m : String) (h : Tr P s0 s) : Tr P s0 (s.panic m) := h.tau (.panic s m)

/-- paths carry through the loop combinators -/
theorem Tr.relOK (P : Perm) : RelOK (Tr P) := ⟨Tr.refl P, Tr.trans, fun s m => panic_acc m (Tr.refl P s)⟩
@[grind ←] theorem unsup_acc (m : String) (h : Tr P s0 s) : Tr P s0 (s.unsup m) :=
  h.of_store_eq (Streams.unsup_store s m) (by unfold marker; rw [Streams.unsup_actions])
@[grind ←] theorem wake_acc (w : List String) (h : Tr P s0 s) : Tr P s0 (s.wake w) := h.of_store_eq rfl rfl
@[grind ←] theorem notifyTask_acc (h : Tr P s0 s) : Tr P s0 s.notifyTask :=
  h.of_store_eq (Streams.notifyTask_store s) (by unfold Streams.notifyTask; split <;> rfl)
@[grind ←] theorem modPrio_acc (f : Prioritize → Prioritize)
    (hf : (f s.actions.send.prioritize).inFlightDataFrame = s.actions.send.prioritize.inFlightDataFrame)
    (h : Tr P s0 s) : Tr P s0 (s.modPrio f) := h.of_store_eq rfl hf
@[grind ←] theorem modSend_acc (f : Send → Send)
    (hf : (f s.actions.send).prioritize.inFlightDataFrame = s.actions.send.prioritize.inFlightDataFrame)
    (h : Tr P s0 s) : Tr P s0 (s.modSend f) := h.of_store_eq rfl hf
@[grind ←] theorem modRecv_acc (f : Recv → Recv) (h : Tr P s0 s) : Tr P s0 (s.modRecv f) := h.of_store_eq rfl rfl
@[grind ←] theorem modCounts_acc (f : Counts → Counts) (h : Tr P s0 s) : Tr P s0 (s.modCounts f) := h.of_store_eq rfl rfl
@[grind ←] theorem modCountsA_acc (m : String) (f : Counts → Option Counts) (h : Tr P s0 s) :
    Tr P s0 (s.modCountsA m f) := by
  unfold Streams.modCountsA; split
  · exact h.of_store_eq rfl rfl
  · exact panic_acc _ h
@[grind ←] theorem setQ_acc (q : QName) (l : List Nat) (h : Tr P s0 s) : Tr P s0 (s.setQ q l) := by
  cases q <;> exact h.of_store_eq rfl rfl
@[grind ←] theorem setCounts_acc (c : Counts) (h : Tr P s0 s) : Tr P s0 { s with counts := c } := h.of_store_eq rfl rfl
@[grind ←] theorem setRefs_acc (n : Nat) (h : Tr P s0 s) : Tr P s0 { s with refs := n } := h.of_store_eq rfl rfl
@[grind ←] theorem setConnError_acc (e : PErr) (h : Tr P s0 s) :
    Tr P s0 { s with actions := { s.actions with connError := some e } } := h.of_store_eq rfl rfl
@[grind ←] theorem setTask_acc (t : Option String) (h : Tr P s0 s) :
    Tr P s0 { s with actions := { s.actions with task := t } } := h.of_store_eq rfl rfl
@[grind ←] theorem setWakes_acc (w : List String) (h : Tr P s0 s) : Tr P s0 { s with wakes := w } := h.of_store_eq rfl rfl

theorem setStream_acc (k : Nat) (b : Stream) (hb : Quiet (s.stream k) b) (h : Tr P s0 s) :
    Tr P s0 (s.setStream b) := by
  have hk : b.key = k := by rw [hb.key, Streams.stream_key]
  subst hk
  cases hg : s.store.get? b.key with
  | none => rw [Streams.setStream_of_none hg]; exact h
  | some a =>
    rw [Streams.stream_of_get? hg] at hb
    exact h.tau (El.setStream hg hb.es (fun x _ => ES.rfl_none x) rfl (by intro _ _ e; cases e) (by intro _ e; cases e))
grind_pattern setStream_acc => Quiet (s.stream k) b, Tr P s0 (s.setStream b)

theorem setStream_wake_acc (k : Nat) (b : Stream) (w : List String) (hb : Quiet (s.stream k) b) (h : Tr P s0 s) :
    Tr P s0 ((s.setStream b).wake w) := wake_acc w (setStream_acc k b hb h)
grind_pattern setStream_wake_acc => Quiet (s.stream k) b, Tr P s0 ((s.setStream b).wake w)

@[grind ←] theorem modStream_acc (k : Nat) (f : Stream → Stream) (hf : Quiet (s.stream k) (f (s.stream k)))
    (h : Tr P s0 s) : Tr P s0 (s.modStream k f) := by
  unfold Streams.modStream
  split
  · next a ha => rw [Streams.stream_of_get? ha] at hf; exact setStream_acc k _ (by rw [Streams.stream_of_get? ha]; exact hf) h
  · exact panic_acc _ h

@[grind ←] theorem modStreamW_acc (k : Nat) (f : Stream → Stream × List String)
    (hf : Quiet (s.stream k) (f (s.stream k)).1) (h : Tr P s0 s) : Tr P s0 (s.modStreamW k f) := by
  unfold Streams.modStreamW
  split
  · next a ha =>
    rw [Streams.stream_of_get? ha] at hf
    exact setStream_wake_acc k _ _ (by rw [Streams.stream_of_get? ha]; exact hf) h
  · exact panic_acc _ h

@[grind ←] theorem unlink_acc (id : Nat) (h : Tr P s0 s) : Tr P s0 { s with store := s.store.unlink id } :=
  h.tau (.of_store_eq' (fun _ => rfl) rfl rfl)

/-- `Ptr::remove` together with the bookkeeping of the leaked receive buffer entries: the step `gone k` -/
@[grind ←] theorem remove_acc (k n : Nat) (hg : P.gone) (h : Tr P s0 s) :
    Tr P s0 { s with store := s.store.remove k, recvBufferLeaked := n } := by
  refine h.lbl (.gone k) ⟨Nat.le_refl _, ?_, ?_, rfl, (by intro _ _ e hk; cases e; simp [Lbl.key?] at hk), ?_⟩ hg
  · intro k' a ha
    show (∃ b, (s.store.remove k).get? k' = some b ∧ _) ∨ ((s.store.remove k).get? k' = none ∧ _)
    rw [Conn.Store.get?_remove]
    by_cases hk : k' = k
    · subst hk; exact Or.inr ⟨by simp, rfl⟩
    · exact Or.inl ⟨a, by simp [hk, ha], ES.gone_any k a⟩
  · intro k' b hn hs
    have : (s.store.remove k).get? k' = some b := hs
    rw [Conn.Store.get?_remove, hn] at this
    split at this <;> cases this
  · intro k' e
    cases e
    show (s.store.remove k).get? k = none
    rw [Conn.Store.get?_remove]; simp

@[grind ←] theorem unlinkRemove_acc (id k : Nat) (hg : P.gone) (h : Tr P s0 s) :
    Tr P s0 { s with store := (s.store.unlink id).remove k } := by
  have h1 := unlink_acc id h
  exact remove_acc k s.recvBufferLeaked hg h1

@[grind ←] theorem insert_acc (a : Stream) (ha1 : a.pendingSend = []) (ha2 : a.pendingRecv = []) (h : Tr P s0 s) :
    Tr P s0 { s with store := (s.store.insert a).1 } := by
  refine h.tau ⟨Nat.le_succ _, ?_, ?_, rfl, (by intro _ _ e; cases e), (by intro _ e; cases e)⟩
  · intro k x hx
    refine Or.inl ⟨x, ?_, ES.rfl_none x⟩
    show (s.store.insert a).1.get? k = some x
    rw [Conn.Store.get?_insert, hx]; rfl
  · intro k b hn hs
    have : (s.store.insert a).1.get? k = some b := hs
    rw [Conn.Store.get?_insert, hn] at this
    simp only [Option.orElse_none] at this
    split at this
    · next hk =>
      cases this
      exact ⟨Nat.le_of_eq hk.symm, by rw [hk]; exact Nat.lt_succ_self _, ha1, ha2⟩
    · cases this

@[grind =] theorem new_pendingSend (id a b : Nat) : (Stream.new id a b).pendingSend = [] := rfl
@[grind =] theorem new_pendingRecv (id a b : Nat) : (Stream.new id a b).pendingRecv = [] := rfl

end acc

/-- hide the wrapping `u32`/`usize` helpers behind variables (see ConnWakePStepSend) -/
macro "fid_opaque" : tactic => `(tactic|
  (try generalize wrapSubU32 = wsub32 at *
   try generalize wrapSubUsize = wsubsz at *
   try generalize wrapAddU32 = wadd32 at *
   try generalize usizeAsU32 = asu32 at *))

macro "fid_grind" : tactic => `(tactic| (fid_opaque; grind (gen := 60) (ematch := 40) (splits := 40)))

section step
variable {P : Perm} {s0 s : Streams}

@[grind ←] theorem qPush_acc (q : QName) (k : Nat) (h : Tr P s0 s) : Tr P s0 (s.qPush q k).1 := by
  unfold Streams.qPush; fid_grind
@[grind ←] theorem qPushFront_acc (q : QName) (k : Nat) (h : Tr P s0 s) : Tr P s0 (s.qPushFront q k).1 := by
  unfold Streams.qPushFront; fid_grind
@[grind ←] theorem qPop_acc (q : QName) (h : Tr P s0 s) : Tr P s0 (s.qPop q).1 := by
  unfold Streams.qPop; fid_grind
@[grind ←] theorem incNumSendStreams_acc (k : Nat) (h : Tr P s0 s) : Tr P s0 (s.incNumSendStreams k) := by
  unfold Streams.incNumSendStreams; fid_grind
@[grind ←] theorem incNumRecvStreams_acc (k : Nat) (h : Tr P s0 s) : Tr P s0 (s.incNumRecvStreams k) := by
  unfold Streams.incNumRecvStreams; fid_grind
@[grind ←] theorem decNumStreams_acc (k : Nat) (h : Tr P s0 s) : Tr P s0 (s.decNumStreams k) := by
  unfold Streams.decNumStreams; fid_grind

/-- the kinds of update that are silent steps or removals: not a change of `pending_send`, of `pending_recv` or of the
    in-flight marker (those are the labelled steps; their permission names the entry and the frame, which a kind does not) -/
def kindsTr : Kind → Bool
  | .frame _ | .popFrame | .clearSend | .appendRecv | .takeRecv | .mark | .markDrop => false
  | _ => true

theorem ClMono.of_step {K : Kind → Bool} {id : Nat} {x y : State} (h : State.Step K id x y) : ClMono x y := h.closed

theorem Quiet.of_updW {K : Kind → Bool} {x : Stream} {p : Stream × List String} (h : Stream.UpdW K x p) : Quiet x p.1 := by
  cases h with
  | notifySend => exact notifySend_quiet x
  | notifyRecv => exact notifyRecv_quiet x
  | notifyPush => exact notifyPush_quiet x
  | notifyCapacity => exact notifyCapacity_quiet x
  | assignCapacity c m => exact assignCapacity_quiet x c m
  | setReset r i => exact setReset_quiet x r i

theorem Quiet.of_upd {x y : Stream} (h : Stream.Upd kindsTr x y) : Quiet x y := by
  cases h with
  | waitSend t => exact waitSend_quiet x t
  | waitOpen t => exact waitOpen_quiet x t
  | state v h | reserved v h => exact ⟨rfl, rfl, ClMono.of_step h, rfl, rfl⟩
  | sendData n m => exact sendData_quiet x n m
  | decContentLength n _ e => exact decContentLength_quiet e
  | pushSend _ hk | unpopData _ _ hk | popSend _ _ hk | dropSend hk | clearSend hk | keepOnlyHead hk | pushRecv _ hk
    | popRecv _ _ hk | clearRecv hk => cases hk
  | _ => exact ⟨rfl, rfl, fun h => h, rfl, rfl⟩

theorem prioUpd_marker {p q : Prioritize} (h : Prioritize.Upd kindsTr p q) : q.inFlightDataFrame = p.inFlightDataFrame := by
  cases h with
  | flow => rfl
  | mark _ hk | markDrop _ hk => cases hk

theorem sendUpd_marker {K : Kind → Bool} {p q : Send} (h : Send.Upd K p q) :
    q.prioritize.inFlightDataFrame = p.prioritize.inFlightDataFrame := by
  cases h <;> rfl

/-- a call that makes no labelled step but `gone`: every update of a tolerated kind is a silent step of `El`, the
    removal of a released entry is `gone` -/
theorem Tr.of_step (hg : P.gone) {s s' : Streams} (t : Streams.Step kindsTr s s') : Tr P s s' := by
  induction t with
  | refl s => exact .refl P s
  | trans _ _ ih1 ih2 => exact ih1.trans ih2
  | panic s m => exact panic_acc m (.refl P s)
  | unsup s m => exact unsup_acc m (.refl P s)
  | wake s w => exact wake_acc w (.refl P s)
  | notifyTask s => exact notifyTask_acc (.refl P s)
  | setTask s t => exact setTask_acc t (.refl P s)
  | setConnError s e => exact setConnError_acc e (.refl P s)
  | setRefs s n => exact setRefs_acc n (.refl P s)
  | modPrio s f u => exact modPrio_acc f (prioUpd_marker u) (.refl P s)
  | modSend s f u => exact modSend_acc f (sendUpd_marker u) (.refl P s)
  | modRecv s f => exact modRecv_acc f (.refl P s)
  | setCounts s c => exact setCounts_acc c (.refl P s)
  | qPush s q k => exact qPush_acc q k (.refl P s)
  | qPushFront s q k => exact qPushFront_acc q k (.refl P s)
  | qPop s q => exact qPop_acc q (.refl P s)
  | incNumSendStreams s k => exact incNumSendStreams_acc k (.refl P s)
  | incNumRecvStreams s k => exact incNumRecvStreams_acc k (.refl P s)
  | decNumStreams s k => exact decNumStreams_acc k (.refl P s)
  | modStream s k f u => exact modStream_acc k f (.of_upd u) (.refl P s)
  | modStreamW s k f u => exact modStreamW_acc k f (.of_updW u) (.refl P s)
  | setStream s x u => exact setStream_acc x.key x (.of_upd u) (.refl P s)
  | insert s id a b => exact insert_acc _ rfl rfl (.refl P s)
  | insertWith s id a b cl => exact insert_acc _ rfl rfl (.refl P s)
  | undoInsert s id k => exact unlinkRemove_acc id k hg (.refl P s)
  | unlink s id => exact unlink_acc id (.refl P s)
  | remove s k n => exact remove_acc k n hg (.refl P s)

/-- accumulator form: the `f_acc` of a function whose footprint has no labelled kind is `h.step hg (f_step (by decide) …)` -/
theorem Tr.step (h : Tr P s0 s) (hg : P.gone) {s' : Streams} (t : Streams.Step kindsTr s s') : Tr P s0 s' :=
  h.trans (.of_step hg t)

end step

end H2V.Lemmas.ConnFidP
