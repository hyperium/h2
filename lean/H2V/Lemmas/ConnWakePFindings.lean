import H2V.Lemmas.ConnWakePEndAll
import H2V.Lemmas.CompBasic
/-
  ConnWakeP — concrete witnesses, all evaluated by `decide` on states reached through the
  model's own API functions from `Conn.init {}` (client, default builder).

  FINDING W1 (C07): `SendStream::poll_reset` on a stream that ended cleanly stays `Pending` for ever,
  also after the connection has died and been dropped.  `State::ensure_reason` answers `Ok(None)` for
  `Closed(EndStream)`; `transition_after` unlinked the stream from the id map when it closed (its
  handles keep it in the slab); `recv_eof` / `handle_error` only walk the id map — so the parked
  `send_task` is never woken and every later `poll_reset` parks again.
  Reproduced on the real code (h2v run):  cn_new client / cn_peer 000000040000000000 / cn_poll /
  cn_req 1 GET /a - / cn_poll / cn_peer 000001010500000001 88 / cn_poll / cn_pollreset 0 → pending /
  cn_eof / cn_poll / cn_dropconn / cn_pollreset 0 → pending, wk=-.

  W2 (benign, same mechanism on the receive side): `poll_trailers` called while DATA is still buffered
  parks `recv_task` on a closed, unlinked stream; the teardown does not wake it (the owner of the
  `RecvStream` un-parks itself with the next `poll_data`).
-/
namespace H2V.Lemmas.ConnWakeP
open H2V H2V.Model H2V.Model.Conn H2V.Lemmas.Comp

namespace W1
/-- client, default configuration -/
def w0 : Streams := (Conn.init {}).streams
/-- `send_request` with END_STREAM: stream key 0, id 1 -/
def w1 : Streams := (w0.sendRequest false [] true none).1
/-- the connection task opens the stream and pops its HEADERS frame -/
def w2 : Streams :=
  let s := w1.popPendingOpen.1
  let s := ((s.qPushFront .pendingSend 0).1).tryAssignCapacity 0
  (Streams.popFrame 4 s 16384).1
/-- the response head arrives with END_STREAM: `Closed(EndStream)`, unlinked, kept by its handles -/
def w3 : Streams := (w2.recvHeaders { sid := 1, eos := true, status := some [50, 48, 48] }).1
/-- the `SendStream` handle waits for a reset … -/
def w4 : Streams := (w3.pollReset 0 .streaming "s0").1
/-- … the connection dies and is dropped (`Drop for Connection` = `recv_eof(true)`) -/
def w5 : Streams := w4.recvEof true

theorem request_ok : (w0.sendRequest false [] true none).2 = .ok (0, false) := by decide
theorem ended_cleanly :
    (w3.stream 0).state = { inner := .closed .endStream } ∧ w3.store.ids = [] ∧ (w3.stream 0).refCount = 1 := by decide
theorem parked : (w3.pollReset 0 .streaming "s0").2 = .ok none ∧ (w4.stream 0).sendTask = some "s0" := by decide

/-- the connection is gone, nothing was woken, the waker is still parked, and polling again parks again -/
theorem pollReset_endStream_hangs_counterexample :
    w5.actions.connError.isSome = true ∧ w5.wakes = [] ∧ (w5.stream 0).sendTask = some "s0" ∧
    (w5.pollReset 0 .streaming "s0").2 = .ok none := by decide

/-- every other wait on that stream does resolve -/
theorem others_resolve :
    (w5.pollCapacity 0 "s0").2 = .none ∧
    (match (Streams.recvPollResponse 2 w5 0 "p0").2 with | .response _ _ => true | _ => false) = true := by decide
end W1

namespace W2
/-- as W1, but the response carries DATA and END_STREAM, and `poll_trailers` is called before `poll_data` -/
def w3 : Streams := (W1.w2.recvHeaders { sid := 1, eos := false, status := some [50, 48, 48] }).1
def w4 : Streams := (w3.recvData 1 [1, 2, 3] true none).1
def w5 : Streams := (Streams.recvPollResponse 2 w4 0 "p0").1
def w6 : Streams := (w5.recvPollTrailers 0 "b0").1
def w7 : Streams := w6.recvEof true

theorem pollTrailers_before_data_counterexample :
    (w4.stream 0).state = { inner := .closed .endStream } ∧
    (match (w5.recvPollTrailers 0 "b0").2 with | .pending => true | _ => false) = true ∧
    w7.wakes = [] ∧ (w7.stream 0).recvTask = some "b0" ∧
    (match (w7.refPollData 0 "b0").2 with | .data [1, 2, 3] _ => true | _ => false) = true := by decide
end W2

namespace R1
/-- the lost wake-up of `reserve_capacity` (fixed in the real code by 6a8a003, mirrored in the model):
    A reserves the whole connection window, B buffers DATA without capacity, the connection task parks,
    A gives the capacity back: B is scheduled AND the connection task `c` is woken. -/
def r0 : Streams := (Conn.init {}).streams
def r1 : Streams := (r0.sendRequest false [] false none).1
def r2 : Streams := (r1.sendRequest false [] false none).1
def r3 : Streams :=
  let open1 := fun (s : Streams) (k : Nat) =>
    let s := s.popPendingOpen.1
    let s := ((s.qPushFront .pendingSend k).1).tryAssignCapacity k
    (Streams.popFrame 4 s 16384).1
  open1 (open1 r2 0) 1
def r4 : Streams := r3.refReserveCapacity 0 65535
def r5 : Streams := (r4.refSendData 1 100 false).1
/-- the connection task polls, finds nothing it can send and parks -/
def r6 : Streams :=
  let s := (Streams.popFrame 6 r5 16384).1
  { s with actions := { s.actions with task := some "c" }, wakes := [] }
def r7 : Streams := r6.refReserveCapacity 0 0

theorem reserve_capacity_wakes_connection_example :
    r6.prio.pendingSend = [] ∧ r6.actions.task = some "c" ∧
    r7.prio.pendingSend = [1] ∧ r7.wakes = ["c"] ∧ r7.actions.task = none := by decide
end R1

/-- a small state for the non-vacuity examples: one open stream (id 1, key 0) linked in the id map, a
    response future parked on it (`p0`), its body sender parked for capacity (`s0`), two handles -/
def exOpen : Streams :=
  { store := { slab := [{ key := 0, id := 1, state := { inner := .open .streaming .awaitingHeaders }, refCount := 2,
                          recvTask := some "p0", sendTask := some "s0", isCounted := true }],
               ids := [(1, 0)], nextKey := 1 },
    counts := { numSendStreams := 1 } }

end H2V.Lemmas.ConnWakeP
