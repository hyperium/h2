import H2V.Lemmas.HpackDecStep
/-
  Part B (decoder level) — `Decoder::decode` preserves the table invariant on every input, and the
  table stays within the largest limit ever configured.
-/
namespace H2V.Lemmas.HpackDec
open H2V H2V.Model.Hpack H2V.Generated.Static

/-- the decoder `Decoder::decode` enters its loop with -/
def prep (d : Decoder) : Decoder :=
  let d := if d.continuing then d else { d with seenField := false }
  let d := { d with continuing := false }
  match d.maxSizeUpdate with
  | some size => { d with maxSizeUpdate := none, lastMaxUpdate := size }
  | none => d

theorem decode_eq (d : Decoder) (src : Bytes) :
    d.decode src = decodeLoop (src.length + 1) (prep d) (!(prep d).seenField) src [] := by
  obtain ⟨msu, lmu, t, cont, seen⟩ := d
  cases cont <;> cases msu <;> rfl

theorem prep_table (d : Decoder) : (prep d).table = d.table := by
  obtain ⟨msu, lmu, t, cont, seen⟩ := d
  cases cont <;> cases msu <;> rfl

theorem prep_maxSizeUpdate (d : Decoder) : (prep d).maxSizeUpdate = none := by
  obtain ⟨msu, lmu, t, cont, seen⟩ := d
  cases cont <;> cases msu <;> rfl

theorem prep_continuing (d : Decoder) : (prep d).continuing = false := by
  obtain ⟨msu, lmu, t, cont, seen⟩ := d
  cases cont <;> cases msu <;> rfl

theorem prep_lastMaxUpdate (d : Decoder) :
    (prep d).lastMaxUpdate = (match d.maxSizeUpdate with | some v => v | none => d.lastMaxUpdate) := by
  obtain ⟨msu, lmu, t, cont, seen⟩ := d
  cases cont <;> cases msu <;> rfl

theorem decodeLoop_inv : ∀ (fuel : Nat) (d : Decoder) (c : Bool) (buf : Bytes) (acc : List Header),
    SameCfg d (decodeLoop fuel d c buf acc).dec ∧
    (Table.Inv d.table →
      Table.Inv (decodeLoop fuel d c buf acc).dec.table ∧
      (decodeLoop fuel d c buf acc).dec.table.maxSize ≤ max d.table.maxSize d.lastMaxUpdate) := by
  intro fuel
  induction fuel with
  | zero =>
    intro d c buf acc
    rw [decodeLoop_zero]
    exact ⟨SameCfg.refl d, fun hi => ⟨hi, Nat.le_max_left _ _⟩⟩
  | succ fuel ih =>
    intro d c buf acc
    rw [decodeLoop_succ]
    cases hs : step d c buf with
    | stop d' tl res =>
      simp only
      obtain ⟨hcfg, ht, -⟩ := step_stop_sameCfg _ _ _ _ _ _ hs
      exact ⟨hcfg, fun hi => by rw [ht]; exact ⟨hi, Nat.le_max_left _ _⟩⟩
    | next d' c' rest emit =>
      simp only
      obtain ⟨-, hcfg, -, hinv⟩ := step_next_props _ _ _ _ _ _ _ hs
      obtain ⟨i2, i13⟩ := ih d' c' rest (acc ++ emit)
      refine ⟨hcfg.trans i2, fun hi => ?_⟩
      obtain ⟨hi', hm⟩ := hinv hi
      obtain ⟨i1, i3⟩ := i13 hi'
      refine ⟨i1, ?_⟩
      rw [hcfg.lmu] at i3
      rcases hm with hm | hm
      · rw [hm] at i3; exact i3
      · omega

/-- B — `decode` preserves the table invariant, on every input -/
theorem decode_preserves_inv (d : Decoder) (src : Bytes) (hi : Table.Inv d.table) :
    Table.Inv (d.decode src).dec.table := by
  rw [decode_eq]
  exact ((decodeLoop_inv _ _ _ _ _).2 (by rw [prep_table]; exact hi)).1

/-- the three entry points of the decoder that the framing layer calls -/
inductive Op where
  | decode (src : Bytes)
  | queueSizeUpdate (size : Nat)
  | continueBlock

def Op.apply (d : Decoder) : Op → Decoder
  | .decode src => (d.decode src).dec
  | .queueSizeUpdate n => d.queueSizeUpdate n
  | .continueBlock => d.continueBlock

def run (d : Decoder) (ops : List Op) : Decoder := ops.foldl Op.apply d

/-- the largest of `m` and the sizes queued by `ops` -/
def maxQueued (m : Nat) : List Op → Nat
  | [] => m
  | .queueSizeUpdate n :: ops => maxQueued (max m n) ops
  | _ :: ops => maxQueued m ops

/-- everything size-like in the decoder is bounded by `M` -/
def Within (d : Decoder) (M : Nat) : Prop :=
  Table.Inv d.table ∧ d.table.maxSize ≤ M ∧ d.lastMaxUpdate ≤ M ∧ ∀ v, d.maxSizeUpdate = some v → v ≤ M

theorem Within.decode {d : Decoder} {M : Nat} (h : Within d M) (src : Bytes) :
    Within (d.decode src).dec M := by
  obtain ⟨hi, h1, h2, h3⟩ := h
  rw [decode_eq]
  have hp : Table.Inv (prep d).table := by rw [prep_table]; exact hi
  obtain ⟨i2, i13⟩ := decodeLoop_inv (src.length + 1) (prep d) (!(prep d).seenField) src []
  obtain ⟨i1, i3⟩ := i13 hp
  have hl : (prep d).lastMaxUpdate ≤ M := by
    rw [prep_lastMaxUpdate]
    cases hm : d.maxSizeUpdate with
    | none => exact h2
    | some v => exact h3 v hm
  refine ⟨i1, ?_, ?_, ?_⟩
  · rw [prep_table] at i3; omega
  · rw [i2.lmu]; exact hl
  · intro v hv
    rw [i2.msu, prep_maxSizeUpdate] at hv
    cases hv

theorem Within.queue {d : Decoder} {M : Nat} (h : Within d M) (n : Nat) :
    Within (d.queueSizeUpdate n) (max M n) := by
  obtain ⟨hi, h1, h2, h3⟩ := h
  refine ⟨hi, ?_, ?_, ?_⟩
  · show d.table.maxSize ≤ _; omega
  · show d.lastMaxUpdate ≤ _; omega
  · intro v hv
    simp only [Decoder.queueSizeUpdate, Option.some.injEq] at hv
    cases hm : d.maxSizeUpdate with
    | none => rw [hm] at hv; simp only at hv; omega
    | some w =>
      rw [hm] at hv
      have := h3 w hm
      simp only at hv; omega

theorem run_within : ∀ (ops : List Op) (d : Decoder) (M : Nat), Within d M →
    Within (run d ops) (maxQueued M ops) := by
  intro ops
  induction ops with
  | nil => intro d M h; exact h
  | cons op ops ih =>
    intro d M h
    cases op with
    | decode src => exact ih _ _ (h.decode src)
    | queueSizeUpdate n => exact ih _ _ (h.queue n)
    | continueBlock => exact ih _ _ h

/-- B — after any sequence of `decode` / `queue_size_update` / `continue_block` calls on a fresh
    decoder: the invariant holds (so `size ≤ max_size`) and `max_size` is at most the largest of
    the initial size and the queued sizes -/
theorem table_within_limit (n : Nat) (ops : List Op) :
    Table.Inv (run (Decoder.new n) ops).table ∧
    (run (Decoder.new n) ops).table.size ≤ (run (Decoder.new n) ops).table.maxSize ∧
    (run (Decoder.new n) ops).table.maxSize ≤ maxQueued n ops := by
  have h0 : Within (Decoder.new n) n :=
    ⟨new_inv n, Nat.le_refl _, Nat.le_refl _, fun v hv => by cases hv⟩
  obtain ⟨hi, h1, -, -⟩ := run_within ops _ _ h0
  exact ⟨hi, hi.2, h1⟩

end H2V.Lemmas.HpackDec
