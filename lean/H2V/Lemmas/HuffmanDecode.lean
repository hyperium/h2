import H2V.Lemmas.HuffmanTables
/-
  The table-walk decoder of the model (`Model.Huffman.decode`, a mirror of the Rust code) computes
  exactly the RFC 7541 bit-by-bit reference decoder (`Spec.Huffman.decode`) on every byte string.

  Invariant: in state (table `t`, accumulator `acc`, `bits` unconsumed low bits of `acc`, output
  `out`) with `pathL[t] = (plen, pv)`, the final answer is
  `out ++ go (codeBits bits acc ++ bitsOf remainingBytes) plen pv`.
-/
namespace H2V.Lemmas.Huffman
open H2V H2V.Spec.Rfc7541 H2V.Spec.Huffman
open H2V.Generated.Huffman (BRANCH TABLE_INDEX_MASK pathL decT)
open H2V.Model.Huffman (lookup inner tail bytesLoop)

def ofOpt : Option Bytes → Res Unit Bytes
  | some out => .ok out
  | none => .err ()

def G (out : Bytes) (bits : List Bool) (len val : Nat) : Option Bytes :=
  (go bits len val).map (out ++ ·)

theorem G_hit {bits k acc len val s : Nat} (out : Bytes) (R : List Bool) (hk : 1 ≤ k)
    (hkb : k ≤ bits) (h : Code s (len + k) (val * 2 ^ k + acc / 2 ^ (bits - k) % 2 ^ k)) :
    G out (codeBits bits acc ++ R) len val =
      if s = 256 then none else G (out ++ [s]) (codeBits (bits - k) acc ++ R) 0 0 := by
  rw [codeBits_split acc hkb, List.append_assoc]
  simp only [G, go_hit _ hk h]
  split
  · rfl
  · rw [Option.map_map]
    congr 1
    funext l
    simp

theorem G_skip {bits k acc len val : Nat} (out : Bytes) (R : List Bool) (hkb : k ≤ bits)
    (h : NoPre (len + k) (val * 2 ^ k + acc / 2 ^ (bits - k) % 2 ^ k)) (hlen : len + k < 30) :
    G out (codeBits bits acc ++ R) len val =
      G out (codeBits (bits - k) acc ++ R) (len + k)
        (val * 2 ^ k + acc / 2 ^ (bits - k) % 2 ^ k) := by
  rw [codeBits_split acc hkb, List.append_assoc]
  simp only [G, go_skip _ h hlen]

theorem idx_top {acc bits k : Nat} (hk : k ≤ 8) (hb : 8 ≤ bits) :
    (acc / 2 ^ (bits - 8) % 256) / 2 ^ (8 - k) = acc / 2 ^ (bits - k) % 2 ^ k := by
  rw [show 256 = 2 ^ (8 - k) * 2 ^ k by rw [← Nat.pow_add, show 8 - k + k = 8 by omega],
    Nat.mod_mul_right_div_self, Nat.div_div_eq_div_mul, ← Nat.pow_add,
    show bits - 8 + (8 - k) = bits - k by omega]

theorem idx_tail {acc bits : Nat} (hb : bits ≤ 8) :
    (acc <<< (8 - bits)) % 256 = (acc % 2 ^ bits) * 2 ^ (8 - bits) := by
  rw [Nat.shiftLeft_eq, show 256 = 2 ^ bits * 2 ^ (8 - bits) by
    rw [← Nat.pow_add, show bits + (8 - bits) = 8 by omega], Nat.mul_mod_mul_right]

theorem idx_tail_top {acc bits k : Nat} (hk : k ≤ bits) (hb : bits ≤ 8) :
    (acc % 2 ^ bits) * 2 ^ (8 - bits) / 2 ^ (8 - k) = acc / 2 ^ (bits - k) % 2 ^ k := by
  rw [show 2 ^ (8 - k) = 2 ^ (bits - k) * 2 ^ (8 - bits) by
      rw [← Nat.pow_add, show bits - k + (8 - bits) = 8 - k by omega],
    Nat.mul_div_mul_right _ _ (Nat.two_pow_pos _),
    show 2 ^ bits = 2 ^ (bits - k) * 2 ^ k by
      rw [← Nat.pow_add, show bits - k + k = bits by omega],
    Nat.mod_mul_right_div_self]

theorem idx_tail_short {pv r bits k : Nat} (hbk : bits ≤ k) (hk : k ≤ 8) :
    (pv * 2 ^ k + r * 2 ^ (8 - bits) / 2 ^ (8 - k)) / 2 ^ (k - bits) = pv * 2 ^ bits + r := by
  rw [show 2 ^ (8 - bits) = 2 ^ (k - bits) * 2 ^ (8 - k) by
      rw [← Nat.pow_add, show k - bits + (8 - k) = 8 - bits by omega],
    ← Nat.mul_assoc, Nat.mul_div_cancel _ (Nat.two_pow_pos _),
    show 2 ^ k = 2 ^ bits * 2 ^ (k - bits) by
      rw [← Nat.pow_add, show bits + (k - bits) = k by omega],
    ← Nat.mul_assoc, ← Nat.add_mul, Nat.mul_div_cancel _ (Nat.two_pow_pos _)]

theorem acc_push {acc bits b : Nat} (hb : b < 256) (hbits : bits + 8 ≤ 32) :
    codeBits (bits + 8) (((acc <<< 8) ||| b) % 4294967296) = codeBits bits acc ++ byteBits b := by
  rw [show 4294967296 = 2 ^ 32 by rfl, codeBits_mod _ hbits,
    ← Nat.shiftLeft_add_eq_or_of_lt (show b < 2 ^ 8 by simpa using hb), Nat.shiftLeft_eq,
    codeBits_add, byteBits_eq]
  congr 1
  · rw [shl_add_div (by simpa using hb)]
  · rw [← codeBits_mod (m := 8) _ (Nat.le_refl 8), Nat.add_comm, Nat.add_mul_mod_self_right,
      codeBits_mod _ (Nat.le_refl 8)]

theorem inner_spec (acc : Nat) (R : List Bool) : ∀ (fuel t bits : Nat) (out : Bytes) (plen pv : Nat),
    bits < fuel → pathL[t]? = some (plen, pv) →
    match inner acc fuel t bits out with
    | .ok (t', bits', out') =>
      bits' < 8 ∧ ∃ plen' pv', pathL[t']? = some (plen', pv') ∧
        G out (codeBits bits acc ++ R) plen pv = G out' (codeBits bits' acc ++ R) plen' pv'
    | .err _ => G out (codeBits bits acc ++ R) plen pv = none
    | .loop => False := by
  intro fuel
  induction fuel with
  | zero => intro t bits out plen pv h; omega
  | succ fuel ih =>
    intro t bits out plen pv hf hp
    unfold inner
    by_cases hb : bits ≥ 8
    · simp only [hb, if_true]
      rw [Nat.shiftRight_eq_div_pow]
      generalize hi : acc / 2 ^ (bits - 8) % 256 = i
      have hi256 : i < 256 := by rw [← hi]; exact Nat.mod_lt _ (by omega)
      have hE := tables_ok hp hi256
      generalize lookup t i = e at hE
      by_cases hleaf : e &&& BRANCH = 0
      · simp only [hleaf, if_true]
        obtain ⟨hk1, hk8, hcode⟩ := hE.leaf hleaf
        generalize e >>> 8 = k at hk1 hk8 hcode
        have hs : e % 256 ≠ 256 := by omega
        rw [← hi, idx_top hk8 hb] at hcode
        rw [G_hit out R hk1 (show k ≤ bits by omega) hcode, if_neg hs]
        exact ih 0 (bits - k) (out ++ [e % 256]) 0 0 (by omega) rfl
      · simp only [hleaf, if_false]
        by_cases ht' : (e &&& TABLE_INDEX_MASK) >>> 8 = 0
        · simp only [ht', if_true]
          obtain ⟨k, hk1, hk8, hcode⟩ := hE.invalid hleaf ht'
          rw [← hi, idx_top hk8 hb] at hcode
          rw [G_hit out R hk1 (show k ≤ bits by omega) hcode, if_pos rfl]
        · simp only [ht', if_false]
          obtain ⟨hp', hno⟩ := hE.branch hleaf ht'
          generalize (e &&& TABLE_INDEX_MASK) >>> 8 = t' at hp'
          have h24 := (pathL_range hp').2.1
          have hG := G_skip (k := 8) out R hb (by rw [show (2 : Nat) ^ 8 = 256 by rfl, hi]; exact hno)
            (by omega)
          rw [show (2 : Nat) ^ 8 = 256 by rfl, hi] at hG
          rw [hG]
          exact ih t' (bits - 8) out (plen + 8) (pv * 256 + i) (by omega) hp'
    · simp only [hb, if_false]
      exact ⟨by omega, plen, pv, hp, rfl⟩

def tailFin : Res Unit (Nat × Bytes) → Res Unit Bytes
  | .ok (t', out') => if t' = 0 then .ok out' else .err ()
  | .err e => .err e
  | .loop => .loop

theorem G_fail {t plen pv bits acc : Nat} (out : Bytes) (hp : pathL[t]? = some (plen, pv))
    (hno : NoPre (plen + bits) (pv * 2 ^ bits + acc % 2 ^ bits)) (hlen : plen + bits < 30)
    (hpad : ¬ (t = 0 ∧ acc % 2 ^ bits = 2 ^ bits - 1)) :
    G out (codeBits bits acc) plen pv = none := by
  have := go_skip [] hno hlen
  rw [List.append_nil] at this
  simp only [G, this, go_nil, Option.map_eq_none_iff, ite_eq_right_iff, reduceCtorEq, imp_false]
  intro ⟨h8, hv⟩
  have hr := pathL_range hp
  by_cases ht : t = 0
  · obtain ⟨rfl, rfl⟩ := hr.2.2 ht
    apply hpad
    refine ⟨ht, ?_⟩
    simp only [Nat.zero_mul, Nat.zero_add] at hv
    omega
  · have := hr.1 ht
    omega

theorem tail_spec (acc : Nat) : ∀ (fuel t bits : Nat) (out : Bytes) (plen pv : Nat),
    bits < fuel → bits < 8 → pathL[t]? = some (plen, pv) →
    tailFin (tail acc fuel t bits out) = ofOpt (G out (codeBits bits acc) plen pv) := by
  intro fuel
  induction fuel with
  | zero => intro t bits out plen pv h; omega
  | succ fuel ih =>
    intro t bits out plen pv hf hb8 hp
    unfold tail
    have hr := pathL_range hp
    by_cases hb : bits > 0
    · simp only [hb, if_true]
      rw [Nat.one_shiftLeft, Nat.and_two_pow_sub_one_eq_mod]
      by_cases hpad : t = 0 ∧ acc % 2 ^ bits = 2 ^ bits - 1
      · simp only [hpad, and_self, if_true, tailFin]
        obtain ⟨rfl, rfl⟩ := hr.2.2 hpad.1
        rw [← codeBits_mod acc (Nat.le_refl bits), hpad.2, codeBits_ones]
        simp [G, go_ones hb8, ofOpt]
      · simp only [hpad, if_false]
        rw [idx_tail (Nat.le_of_lt hb8)]
        generalize hi : acc % 2 ^ bits * 2 ^ (8 - bits) = i
        have hi256 : i < 256 := by
          rw [← hi, ← idx_tail (Nat.le_of_lt hb8)]; exact Nat.mod_lt _ (by omega)
        have hE := tables_ok hp hi256
        generalize lookup t i = e at hE
        -- the code word found at the zero-padded index is longer than what is left
        have hshort : ∀ s k, bits < k → k ≤ 8 → Code s (plen + k) (pv * 2 ^ k + i / 2 ^ (8 - k)) →
            G out (codeBits bits acc) plen pv = none := by
          intro s k hbk hk8 hcode
          have hno := NoPre.of_code hcode (show plen + bits < plen + k by omega)
          rw [show plen + k - (plen + bits) = k - bits by omega, ← hi,
            idx_tail_short (Nat.le_of_lt hbk) hk8] at hno
          have := (code_range hcode).2.1
          exact G_fail out hp hno (by omega) hpad
        by_cases hleaf : e &&& BRANCH = 0
        · simp only [hleaf, ne_eq, not_true_eq_false, if_false]
          obtain ⟨hk1, hk8, hcode⟩ := hE.leaf hleaf
          generalize e >>> 8 = k at hk1 hk8 hcode
          by_cases hused : k > bits
          · simp only [hused, if_true, tailFin]
            rw [hshort _ k hused hk8 hcode]; rfl
          · simp only [hused, if_false]
            have hs : e % 256 ≠ 256 := by omega
            rw [← hi, idx_tail_top (show k ≤ bits by omega) (Nat.le_of_lt hb8)] at hcode
            have hG := G_hit out [] hk1 (show k ≤ bits by omega) hcode
            rw [List.append_nil, List.append_nil, if_neg hs] at hG
            rw [hG]
            exact ih 0 (bits - k) (out ++ [e % 256]) 0 0 (by omega) (by omega) rfl
        · simp only [hleaf, ne_eq, not_false_eq_true, if_true, tailFin]
          suffices h : G out (codeBits bits acc) plen pv = none by rw [h]; rfl
          by_cases ht' : (e &&& TABLE_INDEX_MASK) >>> 8 = 0
          · obtain ⟨k, hk1, hk8, hcode⟩ := hE.invalid hleaf ht'
            by_cases hused : k > bits
            · exact hshort _ k hused hk8 hcode
            · rw [← hi, idx_tail_top (show k ≤ bits by omega) (Nat.le_of_lt hb8)] at hcode
              have hG := G_hit out [] hk1 (show k ≤ bits by omega) hcode
              rwa [List.append_nil, if_pos rfl] at hG
          · obtain ⟨hp', hno⟩ := hE.branch hleaf ht'
            have h24 := (pathL_range hp').2.1
            have hno' := hno.shorten (8 - bits) (by omega)
            have harith := idx_tail_short (pv := pv) (r := acc % 2 ^ bits) (Nat.le_of_lt hb8)
              (Nat.le_refl 8)
            rw [Nat.sub_self, Nat.pow_zero, Nat.div_one, hi, show (2 : Nat) ^ 8 = 256 by rfl] at harith
            rw [harith, show plen + 8 - (8 - bits) = plen + bits by omega] at hno'
            exact G_fail out hp hno' (by omega) hpad
    · simp only [hb, if_false, tailFin]
      have hb0 : bits = 0 := by omega
      subst hb0
      simp only [codeBits, G, go_nil]
      by_cases ht : t = 0
      · obtain ⟨rfl, rfl⟩ := hr.2.2 ht
        simp [ht, ofOpt]
      · have := hr.1 ht
        simp [ht, ofOpt, show ¬ plen < 8 by omega]

def finish : Res Unit (Nat × Nat × Nat × Bytes) → Res Unit Bytes
  | .ok (t, acc, bits, out) => tailFin (tail acc 9 t bits out)
  | .err e => .err e
  | .loop => .loop

theorem decode_eq_finish (src : Bytes) :
    Model.Huffman.decode src = finish (bytesLoop src 0 0 0 []) := by
  unfold Model.Huffman.decode finish tailFin
  cases bytesLoop src 0 0 0 [] with
  | ok a =>
    obtain ⟨t, acc, bits, out⟩ := a
    simp only
    cases tail acc 9 t bits out with
    | ok a => rfl
    | err e => rfl
    | loop => rfl
  | err e => rfl
  | loop => rfl

theorem bytesLoop_spec : ∀ (bs : Bytes), Bytes.Valid bs → ∀ (t acc bits : Nat) (out : Bytes)
    (plen pv : Nat), bits < 8 → pathL[t]? = some (plen, pv) →
    finish (bytesLoop bs t acc bits out) = ofOpt (G out (codeBits bits acc ++ bitsOf bs) plen pv)
  | [], _, t, acc, bits, out, plen, pv, hb, hp => by
    simp only [bytesLoop, finish, bitsOf, List.append_nil]
    exact tail_spec acc 9 t bits out plen pv (by omega) hb hp
  | b :: rest, hv, t, acc, bits, out, plen, pv, hb, hp => by
    have hb256 : b < 256 := hv b (by simp)
    have hv' : Bytes.Valid rest := fun x hx => hv x (by simp [hx])
    simp only [bytesLoop, bitsOf]
    rw [← List.append_assoc, ← acc_push hb256 (show bits + 8 ≤ 32 by omega)]
    generalize ((acc <<< 8) ||| b) % 4294967296 = acc'
    have hI := inner_spec acc' (bitsOf rest) 17 t (bits + 8) out plen pv (by omega) hp
    cases hin : inner acc' 17 t (bits + 8) out with
    | ok a =>
      obtain ⟨t', bits', out'⟩ := a
      rw [hin] at hI
      obtain ⟨hb', plen', pv', hp', hG⟩ := hI
      simp only
      rw [hG]
      exact bytesLoop_spec rest hv' t' acc' bits' out' plen' pv' hb' hp'
    | err e =>
      rw [hin] at hI
      simp only at hI ⊢
      rw [hI]; rfl
    | loop =>
      rw [hin] at hI
      exact absurd hI id

/-- **The table-walk decoder is the RFC 7541 decoder**: on every byte string the model of
    `h2::hpack::huffman::decode` returns exactly what the canonical bit-by-bit decoder returns,
    errors included, and its fuel never runs out. -/
theorem decode_eq_spec (bs : Bytes) (h : Bytes.Valid bs) :
    Model.Huffman.decode bs =
      (match Spec.Huffman.decode bs with
       | some out => Res.ok out
       | none => Res.err ()) := by
  rw [decode_eq_finish, bytesLoop_spec bs h 0 0 0 [] 0 0 (by omega) rfl]
  simp only [codeBits, List.nil_append, G, Spec.Huffman.decode]
  cases go (bitsOf bs) 0 0 with
  | none => rfl
  | some out => simp [ofOpt]

end H2V.Lemmas.Huffman
