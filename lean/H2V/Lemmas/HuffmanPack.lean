import H2V.Model.Basic
import H2V.Lemmas.HuffmanGo
/-
  The reference encoder: `pack` (fuel-free characterisation) and the round trip
  `Spec.Huffman.decode (Spec.Huffman.encode s) = some s`.
-/
namespace H2V.Lemmas.Huffman
open H2V H2V.Spec.Rfc7541 H2V.Spec.Huffman

theorem bitsVal_shift (Q : List Bool) (a : Nat) :
    bitsVal Q a = a * 2 ^ Q.length + bitsVal Q 0 ∧ bitsVal Q 0 < 2 ^ Q.length := by
  induction Q generalizing a with
  | nil => simp [bitsVal]
  | cons b Q ih =>
    simp only [bitsVal, List.length_cons, Nat.pow_succ]
    have h1 := ih (2 * a + if b = true then 1 else 0)
    have h2 := ih (2 * 0 + if b = true then 1 else 0)
    rw [h1.1, h2.1]
    generalize 2 ^ Q.length = P at *
    generalize bitsVal Q 0 = r at *
    have hr := h1.2
    cases b <;> simp only [if_true, if_false, Bool.false_eq_true] <;> constructor <;> grind

theorem bitsVal_lt (Q : List Bool) : bitsVal Q 0 < 2 ^ Q.length := (bitsVal_shift Q 0).2

theorem codeBits_bitsVal (c : List Bool) (a : Nat) : codeBits c.length (bitsVal c a) = c := by
  induction c generalizing a with
  | nil => rfl
  | cons b c ih =>
    simp only [List.length_cons, codeBits, bitsVal, ih]
    congr 1
    rw [(bitsVal_shift c _).1, shl_add_div (bitsVal_lt c)]
    cases b <;> simp <;> omega

/-- `pack` with exactly the fuel `Spec.Huffman.encode` gives it -/
def Pack (B : List Bool) : List Nat := pack (B.length + 1) B

theorem pack_fuel : ∀ (f1 f2 : Nat) (B : List Bool), B.length < f1 → B.length < f2 →
    pack f1 B = pack f2 B
  | 0, _, _, h, _ => by omega
  | _, 0, _, _, h => by omega
  | f1 + 1, f2 + 1, B, h1, h2 => by
    simp only [pack]
    by_cases he : B.isEmpty
    · simp [he]
    · simp only [he]
      have hpos : 0 < B.length := by
        cases B with
        | nil => simp at he
        | cons => simp
      have hl : (B.drop 8).length = B.length - 8 := List.length_drop
      rw [pack_fuel f1 f2 (B.drop 8) (by omega) (by omega)]

theorem pack_eq_Pack {f : Nat} {B : List Bool} (h : B.length < f) : pack f B = Pack B :=
  pack_fuel _ _ _ h (Nat.lt_succ_self _)

theorem encode_eq_Pack (s : List Nat) : Spec.Huffman.encode s = Pack (encodeBits s) := rfl

theorem Pack_nil : Pack [] = [] := rfl

theorem Pack_cons {B : List Bool} (h : B ≠ []) :
    Pack B = bitsVal (B.take 8 ++ List.replicate (8 - (B.take 8).length) true) 0 ::
      Pack (B.drop 8) := by
  have := List.length_pos_iff.2 h
  unfold Pack
  rw [pack]
  simp only [List.isEmpty_iff, h, if_false]
  congr 1
  exact pack_eq_Pack (by simp; omega)

theorem Pack_chunk {c8 : List Bool} (X : List Bool) (h : c8.length = 8) :
    Pack (c8 ++ X) = bitsVal c8 0 :: Pack X := by
  rw [Pack_cons (by intro h0; simp [List.append_eq_nil_iff.1 h0] at h), List.take_left' h,
    List.drop_left' h, h, List.replicate_zero, List.append_nil]

theorem Pack_short {B : List Bool} (h0 : 0 < B.length) (h8 : B.length < 8) :
    Pack B = [bitsVal (B ++ List.replicate (8 - B.length) true) 0] := by
  rw [Pack_cons (List.length_pos_iff.1 h0), List.take_of_length_le (by omega),
    List.drop_eq_nil_of_le (by omega), Pack_nil]

theorem bitsOf_Pack (B : List Bool) : ∃ p, p < 8 ∧ bitsOf (Pack B) = B ++ List.replicate p true := by
  by_cases h8 : B.length < 8
  · by_cases h0 : B.length = 0
    · rw [List.eq_nil_of_length_eq_zero h0]
      exact ⟨0, by omega, rfl⟩
    · refine ⟨8 - B.length, by omega, ?_⟩
      have := codeBits_bitsVal (B ++ List.replicate (8 - B.length) true) 0
      rw [show (B ++ List.replicate (8 - B.length) true).length = 8 by simp; omega] at this
      rw [Pack_short (by omega) h8]
      simpa only [bitsOf, List.append_nil, byteBits_eq] using this
  · have hl : (B.take 8).length = 8 := by simp; omega
    obtain ⟨p, hp, ih⟩ := bitsOf_Pack (B.drop 8)
    have := codeBits_bitsVal (B.take 8) 0
    rw [hl] at this
    have hP := Pack_chunk (B.drop 8) hl
    rw [List.take_append_drop] at hP
    refine ⟨p, hp, ?_⟩
    rw [hP]
    simp only [bitsOf, byteBits_eq, this, ih]
    rw [← List.append_assoc, List.take_append_drop]
termination_by B.length
decreasing_by simp; omega

theorem symBits_of_code {s n c : Nat} (h : Code s n c) : symBits s = codeBits n c := by
  unfold symBits
  unfold Code at h
  rw [h]

theorem go_encodeBits : ∀ (s : Bytes), Bytes.Valid s → ∀ (p : Nat), p < 8 →
    go (encodeBits s ++ List.replicate p true) 0 0 = some s
  | [], _, p, hp => by simpa [encodeBits] using go_ones hp
  | a :: rest, hv, p, hp => by
    have ha : a < 256 := hv a (by simp)
    have hv' : Bytes.Valid rest := fun x hx => hv x (by simp [hx])
    obtain ⟨n, c, hc⟩ := code_exists (show a < 257 by omega)
    have hr := code_range hc
    simp only [encodeBits, symBits_of_code hc, List.append_assoc]
    have hc' : Code a (0 + n) (0 * 2 ^ n + c % 2 ^ n) := by
      rwa [Nat.zero_add, Nat.zero_mul, Nat.zero_add, Nat.mod_eq_of_lt hr.2.2]
    rw [go_hit _ (by omega) hc', go_encodeBits rest hv' p hp]
    simp; omega

theorem spec_roundtrip (s : Bytes) (h : Bytes.Valid s) :
    Spec.Huffman.decode (Spec.Huffman.encode s) = some s := by
  obtain ⟨p, hp, hb⟩ := bitsOf_Pack (encodeBits s)
  rw [Spec.Huffman.decode, encode_eq_Pack, hb]
  exact go_encodeBits s h p hp

theorem Pack_valid (B : List Bool) : Bytes.Valid (Pack B) := by
  by_cases h0 : B = []
  · subst h0
    intro b hb
    simp [Pack_nil] at hb
  · have := List.length_pos_iff.2 h0
    rw [Pack_cons h0]
    intro b hb
    rcases List.mem_cons.1 hb with rfl | hb
    · have := bitsVal_lt (B.take 8 ++ List.replicate (8 - (B.take 8).length) true)
      rwa [show (B.take 8 ++ List.replicate (8 - (B.take 8).length) true).length = 8 by
        simp; omega] at this
    · exact Pack_valid (B.drop 8) b hb
termination_by B.length
decreasing_by simp; omega

theorem spec_encode_valid (s : Bytes) : Bytes.Valid (Spec.Huffman.encode s) :=
  Pack_valid _

end H2V.Lemmas.Huffman
