import H2V.Lemmas.ConnDrainPPoll2
/-
  ConnDrainP — one turn of `Connection::poll` in state `Open`: `poll2` `Pending` followed by
  `poll_complete` leaves the connection task parked (`open_turn`); what `poll_complete` keeps of the
  transport's wakers and of `recv.refused`.
-/
namespace H2V.Lemmas.ConnDrainP
open H2V H2V.Model H2V.Model.Conn


theorem wakers_trans {io io1 io2 : Tio} {tag : String}
    (h1 : io1.readWaker = io.readWaker ∧ (io1.writeWaker = io.writeWaker ∨ io1.writeWaker = some tag))
    (h2 : io2.readWaker = io1.readWaker ∧ (io2.writeWaker = io1.writeWaker ∨ io2.writeWaker = some tag)) :
    io2.readWaker = io.readWaker ∧ (io2.writeWaker = io.writeWaker ∨ io2.writeWaker = some tag) := by
  refine ⟨h2.1.trans h1.1, ?_⟩
  rcases h2.2 with e | e
  · rcases h1.2 with e1 | e1
    · exact Or.inl (e.trans e1)
    · exact Or.inr (e.trans e1)
  · exact Or.inr e

theorem pollComplete_io (n : Nat) (s : Streams) (w : Writer) (io : Tio) (tag : String) :
    (Streams.pollComplete n s w io tag).2.2.1.readWaker = io.readWaker ∧
    ((Streams.pollComplete n s w io tag).2.2.1.writeWaker = io.writeWaker ∨
      (Streams.pollComplete n s w io tag).2.2.1.writeWaker = some tag) :=
  Streams.pollComplete_inv
    (I := fun _ _ io' => io'.readWaker = io.readWaker ∧ (io'.writeWaker = io.writeWaker ∨ io'.writeWaker = some tag))
    id (fun h hp => wakers_trans h ⟨(pollReadyW_io hp).1, (pollReadyW_io hp).2.1⟩) id id (fun _ h _ => h)
    (fun h hf => wakers_trans h ⟨(flush_spec hf).1, (flush_spec hf).2.1⟩) n s w io ⟨rfl, Or.inl rfl⟩

/-- every kind but the one that writes `next_stream_id` and `refused` -/
def refusedK : Kind → Bool
  | .nextId => false
  | _ => true

theorem pollComplete_refused (n : Nat) (s : Streams) (w : Writer) (io : Tio) (tag : String) :
    (Streams.pollComplete n s w io tag).1.recv.refused = s.recv.refused :=
  ((Streams.pollComplete_step (K := refusedK) (by decide) n s w io tag).role_recv (·.refused) (fun _ q _ => by cases q <;> rfl)
    fun _ _ u => by cases u <;> first | rfl | (rename_i c; cases c)).2


/-- everything is written and every slot is empty; the task waits for input (read waker) and for work from the
    handles (`Actions.task`) -/
structure Settled (c : Conn) : Prop where
  read : c.codec.io.readWaker = some c.cx
  goAway : c.goAway.pending = none
  ready : ReadyDone c
  drained : Drained c.cx c.streams c.codec.w

/-- where `Connection::poll` leaves the connection task when it answers `Pending` -/
def PollParked (c : Conn) : Prop := WriteParked c ∨ Settled c

/-- **`poll2` `Pending`, then `poll_complete`**: the connection task ends up parked on the write waker, or on the
    read waker and `Actions.task` with nothing left to write.  `hi`, `hr`: the stream-layer invariants at the
    moment `poll_complete` starts. -/
theorem open_turn (n m : Nat) (c c1 : Conn) (s' : Streams) (w' : Writer) (io' : Tio) (r : WRes)
    (hc : CapOK c.codec.w) (h2 : Conn.poll2Loop n c = (c1, .pending))
    (hi : PInv c1.streams) (hr : RangeOK c1.streams)
    (hpc : Streams.pollComplete m c1.streams c1.codec.w c1.codec.io c1.cx = (s', w', io', r))
    (hne : ∀ k, r ≠ .err k) (hp : s'.panicked = none) :
    PollParked { c1 with streams := s', codec := { c1.codec with w := w', io := io' } } ∧ CapOK w' := by
  have hp1 : c1.streams.panicked = none := by
    have e := ConnCountsP.pollComplete_ev (ρ := true) m c1.streams c1.codec.w c1.codec.io c1.cx
    rw [hpc] at e
    exact Ev.panic_none e hp
  obtain ⟨hpk, hc1, hcx⟩ := poll2Loop_pending n c c1 hc h2 hp1
  have hcap' : CapOK w' := by
    have := CapOK.pollComplete m c1.streams c1.codec.w c1.codec.io c1.cx hc1
    rw [hpc] at this; exact this
  have hio := pollComplete_io m c1.streams c1.codec.w c1.codec.io c1.cx
  rw [hpc] at hio
  have href := pollComplete_refused m c1.streams c1.codec.w c1.codec.io c1.cx
  rw [hpc] at href
  dsimp only at hio href
  refine ⟨?_, hcap'⟩
  cases r with
  | err k => exact absurd rfl (hne k)
  | pending =>
    exact Or.inl (ConnWakeP.pollComplete_pending_parks m _ _ _ _ _ _ _ hpc hp hcap')
  | ready =>
    rcases hpk with hw | ⟨hrd, hga, hrdy⟩
    · left
      unfold WriteParked at *
      rcases hio.2 with e | e
      · show io'.writeWaker = _; rw [e]; exact hw
      · exact e
    · right
      have hd := (pollComplete_ready_drained m _ _ _ _ _ _ _ hi.g hr hpc hp).1
      exact ⟨by show io'.readWaker = _; rw [hio.1]; exact hrd, hga,
        ⟨hrdy.pong, hrdy.ping, hrdy.remote, hrdy.loc, by show s'.recv.refused = none; rw [href]; exact hrdy.refused⟩, hd⟩


theorem poll2_pending (n : Nat) (c c' : Conn) (hc : CapOK c.codec.w) (h : Conn.poll2 n c = (c', .pending))
    (hp : c'.streams.panicked = none) : ConnParked c' ∧ CapOK c'.codec.w ∧ c'.cx = c.cx := by
  unfold Conn.poll2 at h
  exact poll2Loop_pending n { c with streams := Streams.clearExpiredResetStreams (c.streams.recv.pendingResetExpired.length + 1) c.streams } c' hc h hp

end H2V.Lemmas.ConnDrainP
