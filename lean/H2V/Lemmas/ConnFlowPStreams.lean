import H2V.Lemmas.ConnFlowPCw
/-
  ConnFlowP — `Mv` through the pieces of `streams.rs` (`ConnStreams.lean`) that contain a mover and that the walk of an
  API operation passes (the closures of `recv_headers` / `recv_data` / `recv_push_promise`, `reset_on_recv_stream_err`,
  `Actions::send_reset`, `maybe_cancel`, `buffer_pending`), `poll_complete`, and the two operations that come with the
  decoder's 31-bit bounds (WINDOW_UPDATE, the peer's SETTINGS).  The operations themselves are the cases of `Mv.op`
  (ConnFlowPReach).
-/
namespace H2V.Lemmas.ConnFlowP
open H2V H2V.Model H2V.Model.Conn H2V.Lemmas.Comp

section
variable {w : Bool} {s0 s : Streams}

theorem Mv.resetOnRecvStreamErr (h : Mv w s0 s) (id : Nat) (r : Except PErr Unit) :
    Mv w s0 (s.resetOnRecvStreamErr id r).1 := by
  mv_by Streams.resetOnRecvStreamErr
macro_rules | `(tactic| mv_fun) => `(tactic| with_reducible apply Mv.resetOnRecvStreamErr)
theorem Mv.actionsSendReset (h : Mv w s0 s) (id : Nat) (r : Reason) (i : Initiator) :
    Mv w s0 (s.actionsSendReset id r i).1 := by
  mv_by Streams.actionsSendReset
macro_rules | `(tactic| mv_fun) => `(tactic| with_reducible apply Mv.actionsSendReset)
theorem Mv.recvHeadersDispatch (h : Mv w s0 s) (k : Nat) (hd : HeadersIn) : Mv w s0 (s.recvHeadersDispatch k hd).1 := by
  mv_by Streams.recvHeadersDispatch
macro_rules | `(tactic| mv_fun) => `(tactic| with_reducible apply Mv.recvHeadersDispatch)

theorem Mv.recvHeadersBody (h : Mv w s0 s) (k : Nat) (hd : HeadersIn) : Mv w s0 (s.recvHeadersBody k hd).1 := by
  mv_by Streams.recvHeadersBody
macro_rules | `(tactic| mv_fun) => `(tactic| with_reducible apply Mv.recvHeadersBody)

theorem Mv.recvDataBody (h : Mv w s0 s) (k : Nat) (p : Bytes) (eos : Bool) (pad : Option Nat) :
    Mv w s0 (s.recvDataBody k p eos pad).1 := by
  mv_by Streams.recvDataBody
macro_rules | `(tactic| mv_fun) => `(tactic| with_reducible apply Mv.recvDataBody)

/-- WINDOW_UPDATE on a stream; the increment has 31 bits (`WindowUpdate::load` masks the reserved bit) -/
theorem Mv.recvWindowUpdate_stream (h : Mv w s0 s) (id inc : Nat) (hid : id ≠ 0) (hinc : inc ≤ 2147483647) :
    Mv w s0 (s.recvWindowUpdate id inc).1 := by
  unfold Streams.recvWindowUpdate
  rw [if_neg hid]
  split
  · split
    · exact h
    · dsimp only
      exact Mv.resetOnRecvStreamErr (h.sendRecvStreamWindowUpdate _ inc hinc) _ _
  · split <;> exact h

theorem Mv.recvWindowUpdate (h : Mv false s0 s) (id inc : Nat) (hinc : inc ≤ 2147483647) :
    Mv false s0 (s.recvWindowUpdate id inc).1 := by
  by_cases hid : id = 0
  · subst hid
    unfold Streams.recvWindowUpdate
    rw [if_pos rfl]
    have := h.recvConnectionWindowUpdate inc hinc
    split
    · next heq => rw [heq] at this; exact this
    · next heq => rw [heq] at this; exact this
  · exact h.recvWindowUpdate_stream id inc hid hinc
theorem Mv.pushPromiseBody (h : Mv w s0 s) (child : Nat) (hd : HeadersIn) : Mv w s0 (s.pushPromiseBody child hd).1 := by
  mv_by Streams.pushPromiseBody
macro_rules | `(tactic| mv_fun) => `(tactic| with_reducible apply Mv.pushPromiseBody)

theorem Mv.pushPromiseChild (h : Mv w s0 s) (parentKey : Nat) (hd : HeadersIn) :
    Mv w s0 (s.pushPromiseChild parentKey hd).1 := by
  rw [Streams.pushPromiseChild_eq]; mv_auto
macro_rules | `(tactic| mv_fun) => `(tactic| with_reducible apply Mv.pushPromiseChild)

theorem Mv.pushPromiseRest (h : Mv w s0 s) (parentKey : Nat) (hd : HeadersIn) :
    Mv w s0 (s.pushPromiseRest parentKey hd).1 := by
  mv_by Streams.pushPromiseRest
macro_rules | `(tactic| mv_fun) => `(tactic| with_reducible apply Mv.pushPromiseRest)

theorem Mv.bufferPending (h : Mv false s0 s) (fuel : Nat) (w : Writer) :
    Mv false s0 (Streams.bufferPending fuel s w).1 := by
  mv_by Streams.bufferPending
macro_rules | `(tactic| mv_fun) => `(tactic| with_reducible apply Mv.bufferPending)
theorem Mv.pollComplete (fuel : Nat) :
    ∀ {s : Streams}, Mv false s0 s → ∀ wr io tag, Mv false s0 (Streams.pollComplete fuel s wr io tag).1 := by
  induction fuel with
  | zero => intro s h wr io tag; unfold Streams.pollComplete; mv_auto
  | succ n ih => intro s h wr io tag; unfold Streams.pollComplete; mv_auto
theorem SafeInv.pollComplete (fuel : Nat) :
    ∀ {s : Streams}, SafeInv s → ∀ w io tag, SafeInv (Streams.pollComplete fuel s w io tag).1 :=
  fun h w io tag => (Mv.pollComplete fuel (Mv.refl false _) w io tag).safe h

/-- SETTINGS of the peer; identifier 4 (initial window size) carries a 31-bit value -/
theorem Mv.applyRemoteSettings (h : Mv w s0 s) (vals : List (Nat × Nat)) (b : Bool)
    (hv : ∀ v, (vals.find? (·.1 = 4)).map (·.2) = some v → v ≤ 2147483647) :
    Mv w s0 (s.applyRemoteSettings vals b).1 := by
  unfold Streams.applyRemoteSettings
  dsimp only
  exact MvG.sendApplyRemoteSettings (h.sfr (.of_step (Streams.modCounts_step s _ (.applyRemoteSettings _ _ _ rfl)))) _ _ _ hv
theorem Mv.maybeCancel (h : Mv w s0 s) (id : Nat) :
    Mv w s0 (s.maybeCancel id) := by
  mv_by Streams.maybeCancel
macro_rules | `(tactic| mv_fun) => `(tactic| with_reducible apply Mv.maybeCancel)
end

end H2V.Lemmas.ConnFlowP
