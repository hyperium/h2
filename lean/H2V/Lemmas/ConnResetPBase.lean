import H2V.Lemmas.ConnBasics
import H2V.Lemmas.ConnResetPAttr
/-
  ConnResetP — base layer: the characterising equations of the store and of the primitive state
  transformers of `Streams` (ConnBasics) under the names, and with the `simp` / `crp_store` attributes,
  this family uses: which slab entry a key names after an update, and what the update leaves of the
  other fields.  No uniqueness-of-keys invariant is needed: `Store.set` replaces *every* entry with
  the key and `get?` returns the first one.
-/
namespace H2V.Lemmas.ConnResetP
open H2V H2V.Model H2V.Model.Conn

@[simp] theorem Store.get?_unlink (st : Store) (id k : Nat) : (st.unlink id).get? k = st.get? k := rfl
@[simp] theorem Store.ids_set (st : Store) (x : Stream) : (st.set x).ids = st.ids := rfl
@[simp] theorem Store.ids_remove (st : Store) (k : Nat) : (st.remove k).ids = st.ids := rfl
@[simp] theorem Store.nextKey_set (st : Store) (x : Stream) : (st.set x).nextKey = st.nextKey := rfl
@[simp] theorem Store.nextKey_remove (st : Store) (k : Nat) : (st.remove k).nextKey = st.nextKey := rfl
@[simp] theorem Store.nextKey_unlink (st : Store) (k : Nat) : (st.unlink k).nextKey = st.nextKey := rfl
@[simp] theorem Store.slab_unlink (st : Store) (k : Nat) : (st.unlink k).slab = st.slab := rfl

/-- all keys in the slab are below `nextKey` (so `insert` hands out a fresh key) -/
def Store.KeysFresh (st : Store) : Prop := ∀ x ∈ st.slab, x.key < st.nextKey

theorem Store.get?_insert (st : Store) (x : Stream) (k : Nat) (hf : Store.KeysFresh st) :
    (st.insert x).1.get? k =
      if k = st.nextKey then some { x with key := st.nextKey } else st.get? k :=
  Store.get?_insert_fresh (Store.get?_eq_none.mpr fun y hy => Nat.ne_of_lt (hf y hy)) x k

@[simp] theorem Store.insert_snd (st : Store) (x : Stream) : (st.insert x).2 = st.nextKey := rfl
@[simp] theorem Store.insert_nextKey (st : Store) (x : Stream) : (st.insert x).1.nextKey = st.nextKey + 1 := rfl

section prim
variable (s : Streams)

export H2V.Model.Conn.Streams (panic_store unsup_store modCountsA_store setStream_store setStream_get? stream_of_get?)
attribute [simp, crp_store] Streams.panic_store Streams.unsup_store Streams.modCountsA_store Streams.setStream_store
@[simp] theorem panic_wakes (m : String) : (s.panic m).wakes = s.wakes := s.panic_wakes m
@[simp] theorem panic_unsupported (m : String) : (s.panic m).unsupported = s.unsupported := s.panic_unsupported m
@[simp] theorem panic_leaked (m : String) : (s.panic m).recvBufferLeaked = s.recvBufferLeaked := s.panic_leaked m

@[simp] theorem unsup_counts (m : String) : (s.unsup m).counts = s.counts := s.unsup_counts m

@[simp, crp_store] theorem wake_store (t : List String) : (s.wake t).store = s.store := rfl
@[simp] theorem wake_counts (t : List String) : (s.wake t).counts = s.counts := rfl
@[simp] theorem wake_actions (t : List String) : (s.wake t).actions = s.actions := rfl
@[simp] theorem wake_panicked (t : List String) : (s.wake t).panicked = s.panicked := rfl
@[simp] theorem wake_refs (t : List String) : (s.wake t).refs = s.refs := rfl

@[simp, crp_store] theorem notifyTask_store : s.notifyTask.store = s.store := s.notifyTask_store
@[simp] theorem notifyTask_counts : s.notifyTask.counts = s.counts := s.notifyTask_counts
@[simp] theorem notifyTask_refs : s.notifyTask.refs = s.refs := s.notifyTask_refs
@[simp] theorem notifyTask_connError : s.notifyTask.actions.connError = s.actions.connError := s.notifyTask_connError

@[simp, crp_store] theorem modPrio_store (f : Prioritize → Prioritize) : (s.modPrio f).store = s.store := rfl
@[simp] theorem modPrio_counts (f : Prioritize → Prioritize) : (s.modPrio f).counts = s.counts := rfl
@[simp] theorem modPrio_panicked (f : Prioritize → Prioritize) : (s.modPrio f).panicked = s.panicked := rfl
@[simp] theorem modPrio_refs (f : Prioritize → Prioritize) : (s.modPrio f).refs = s.refs := rfl
@[simp] theorem modPrio_prio (f : Prioritize → Prioritize) : (s.modPrio f).prio = f s.prio := rfl
@[simp] theorem modPrio_recv (f : Prioritize → Prioritize) : (s.modPrio f).recv = s.recv := rfl
@[simp] theorem modPrio_connError (f : Prioritize → Prioritize) : (s.modPrio f).actions.connError = s.actions.connError := rfl

@[simp, crp_store] theorem modSend_store (f : Send → Send) : (s.modSend f).store = s.store := rfl
@[simp] theorem modSend_counts (f : Send → Send) : (s.modSend f).counts = s.counts := rfl
@[simp] theorem modSend_panicked (f : Send → Send) : (s.modSend f).panicked = s.panicked := rfl
@[simp] theorem modSend_refs (f : Send → Send) : (s.modSend f).refs = s.refs := rfl
@[simp] theorem modSend_send (f : Send → Send) : (s.modSend f).actions.send = f s.actions.send := rfl
@[simp] theorem modSend_recv (f : Send → Send) : (s.modSend f).recv = s.recv := rfl

@[simp, crp_store] theorem modRecv_store (f : Recv → Recv) : (s.modRecv f).store = s.store := rfl
@[simp] theorem modRecv_counts (f : Recv → Recv) : (s.modRecv f).counts = s.counts := rfl
@[simp] theorem modRecv_panicked (f : Recv → Recv) : (s.modRecv f).panicked = s.panicked := rfl
@[simp] theorem modRecv_refs (f : Recv → Recv) : (s.modRecv f).refs = s.refs := rfl
@[simp] theorem modRecv_recv (f : Recv → Recv) : (s.modRecv f).recv = f s.recv := rfl
@[simp] theorem modRecv_prio (f : Recv → Recv) : (s.modRecv f).prio = s.prio := rfl
@[simp] theorem modRecv_send (f : Recv → Recv) : (s.modRecv f).actions.send = s.actions.send := rfl

@[simp, crp_store] theorem modCounts_store (f : Counts → Counts) : (s.modCounts f).store = s.store := rfl
@[simp] theorem modCounts_counts (f : Counts → Counts) : (s.modCounts f).counts = f s.counts := rfl
@[simp] theorem modCounts_actions (f : Counts → Counts) : (s.modCounts f).actions = s.actions := rfl
@[simp] theorem modCounts_panicked (f : Counts → Counts) : (s.modCounts f).panicked = s.panicked := rfl
@[simp] theorem modCounts_refs (f : Counts → Counts) : (s.modCounts f).refs = s.refs := rfl
@[simp] theorem modCounts_prio (f : Counts → Counts) : (s.modCounts f).prio = s.prio := rfl
@[simp] theorem modCounts_recv (f : Counts → Counts) : (s.modCounts f).recv = s.recv := rfl

@[simp] theorem modCountsA_isServer (w : String) (f : Counts → Option Counts)
    (hf : ∀ c c', f c = some c' → c'.isServer = c.isServer) : (s.modCountsA w f).counts.isServer = s.counts.isServer := by
  rw [Streams.modCountsA_counts]
  cases h : f s.counts with
  | none => rfl
  | some c => exact hf _ _ h

@[simp] theorem setStream_counts (x : Stream) : (s.setStream x).counts = s.counts := rfl
@[simp] theorem setStream_actions (x : Stream) : (s.setStream x).actions = s.actions := rfl
@[simp] theorem setStream_panicked (x : Stream) : (s.setStream x).panicked = s.panicked := rfl
@[simp] theorem setStream_refs (x : Stream) : (s.setStream x).refs = s.refs := rfl
@[simp] theorem setStream_prio (x : Stream) : (s.setStream x).prio = s.prio := rfl
@[simp] theorem setStream_recv (x : Stream) : (s.setStream x).recv = s.recv := rfl
@[simp] theorem setStream_ids (x : Stream) : (s.setStream x).store.ids = s.store.ids := rfl
@[simp] theorem setStream_nextKey (x : Stream) : (s.setStream x).store.nextKey = s.store.nextKey := rfl

/-- `modStream` seen from the store: replace the entry of `id` by its image, nothing on a dangling key -/
def Store.mod (st : Store) (id : Nat) (f : Stream → Stream) : Store :=
  match st.get? id with
  | some x => st.set (f x)
  | none => st

@[simp, crp_store] theorem modStream_store (id : Nat) (f : Stream → Stream) :
    (s.modStream id f).store = Store.mod s.store id f := s.modStream_store id f

@[simp, crp_store] theorem modStreamW_store (id : Nat) (f : Stream → Stream × List String) :
    (s.modStreamW id f).store = Store.mod s.store id (fun st => (f st).1) := s.modStreamW_store id f

@[simp] theorem modStream_counts (id : Nat) (f : Stream → Stream) : (s.modStream id f).counts = s.counts :=
  s.modStream_counts id f
@[simp] theorem modStream_refs (id : Nat) (f : Stream → Stream) : (s.modStream id f).refs = s.refs := s.modStream_refs id f
@[simp] theorem modStream_recv (id : Nat) (f : Stream → Stream) : (s.modStream id f).recv = s.recv := s.modStream_recv id f
@[simp] theorem modStream_ids (id : Nat) (f : Stream → Stream) : (s.modStream id f).store.ids = s.store.ids :=
  s.modStream_ids id f
@[simp] theorem modStream_nextKey (id : Nat) (f : Stream → Stream) : (s.modStream id f).store.nextKey = s.store.nextKey :=
  s.modStream_nextKey id f

theorem modStream_get? (id : Nat) (f : Stream → Stream) (hf : ∀ st, (f st).key = st.key) (k : Nat) :
    (s.modStream id f).store.get? k = if k = id then (s.store.get? id).map f else s.store.get? k :=
  s.modStream_get? id f hf k

@[simp] theorem modStreamW_refs (id : Nat) (f : Stream → Stream × List String) : (s.modStreamW id f).refs = s.refs :=
  s.modStreamW_refs id f
@[simp] theorem modStreamW_ids (id : Nat) (f : Stream → Stream × List String) : (s.modStreamW id f).store.ids = s.store.ids :=
  s.modStreamW_ids id f
@[simp] theorem modStreamW_nextKey (id : Nat) (f : Stream → Stream × List String) :
    (s.modStreamW id f).store.nextKey = s.store.nextKey := s.modStreamW_nextKey id f

theorem modStreamW_get? (id : Nat) (f : Stream → Stream × List String) (hf : ∀ st, (f st).1.key = st.key) (k : Nat) :
    (s.modStreamW id f).store.get? k = if k = id then (s.store.get? id).map (fun st => (f st).1) else s.store.get? k :=
  s.modStreamW_get? id f hf k

theorem modStream_panicked_of_some (id : Nat) (f : Stream → Stream) {st : Stream} (h : s.store.get? id = some st) :
    (s.modStream id f).panicked = s.panicked := Streams.modStream_panicked_of_some h f

theorem modStreamW_panicked_of_some (id : Nat) (f : Stream → Stream × List String) {st : Stream}
    (h : s.store.get? id = some st) : (s.modStreamW id f).panicked = s.panicked := Streams.modStreamW_panicked_of_some h f

end prim

/-- `Streams.stream` seen from the store -/
def Store.getD' (S : Store) (k : Nat) : Stream := (S.get? k).getD { key := k, id := 0 }

@[crp_store] theorem stream_eq (s : Streams) (k : Nat) : s.stream k = Store.getD' s.store k := by
  rw [Streams.stream, Store.getD']

theorem Store.getD'_of_get? {S : Store} {k : Nat} {st : Stream} (h : S.get? k = some st) : Store.getD' S k = st := by
  unfold Store.getD'; rw [h]; rfl

section notify
variable (st : Stream)

@[simp] theorem setQueued_id (q : QName) (v : Bool) : (st.setQueued q v).id = st.id := st.setQueued_id q v
@[simp] theorem setQueued_state (q : QName) (v : Bool) : (st.setQueued q v).state = st.state := st.setQueued_state q v
@[simp] theorem setQueued_pendingSend (q : QName) (v : Bool) : (st.setQueued q v).pendingSend = st.pendingSend :=
  st.setQueued_pendingSend q v

end notify

end H2V.Lemmas.ConnResetP
