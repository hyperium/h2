import H2V.Lemmas.HpackEncInt
import H2V.Lemmas.HpackEncTable
import H2V.Lemmas.HpackEncIndex
import H2V.Spec.HpackSync
/-
  C10 — one header block: what `Encoder::encode` writes, the RFC 7541 reference decoder
  (`Spec.Hpack.decode`) reads back as exactly the submitted fields, and the two dynamic tables stay
  equal.
-/
namespace H2V.Lemmas.HpackEnc
open H2V H2V.Model.Hpack H2V.Spec.Hpack H2V.Lemmas.Hpack

/-- a string the encoder can be given: octets, and short enough for its Huffman-coded length to be
    a `usize` -/
def StrOk (s : Bytes) : Prop := Bytes.Valid s ∧ s.length < 2 ^ 59

instance (s : Bytes) : Decidable (StrOk s) := by unfold StrOk; infer_instance

/-- §6.1 indexed header field -/
theorem block_indexed (fuel : Nat) (st : St) (seen : Bool) (i : Nat) (rest : Bytes)
    (acc : List Spec.Hpack.Field) (f : Spec.Hpack.Field) (hi : i < 2 ^ 64) (hl : lookup st i = some f) :
    block (fuel + 1) st seen (encodeInt i 7 128 ++ rest) acc = block fuel st true rest (acc ++ [f]) := by
  obtain ⟨b, tl, hb, hb1, hb2⟩ := encodeInt_head i 7 128 (by decide)
  have hint := spec_int_roundtrip i 7 128 rest (by decide) hi
  rw [hb] at hint ⊢
  simp only [List.cons_append] at hint ⊢
  simp only [block]
  rw [if_pos (by omega)]
  simp only [hint, hl]

/-- §6.3 dynamic table size update -/
theorem block_sizeUpdate (fuel : Nat) (st : St) (v : Nat) (rest : Bytes)
    (acc : List Spec.Hpack.Field) (hv : v < 2 ^ 64) (hlim : v ≤ st.limit) :
    block (fuel + 1) st false (encodeInt v 5 32 ++ rest) acc =
      block fuel { st with maxSize := v, entries := evict st.entries v } false rest acc := by
  obtain ⟨b, tl, hb, hb1, hb2⟩ := encodeInt_head v 5 32 (by decide)
  have hint := spec_int_roundtrip v 5 32 rest (by decide) hv
  rw [hb] at hint ⊢
  simp only [List.cons_append] at hint ⊢
  simp only [block]
  rw [if_neg (by omega), if_neg (by omega), if_pos (by omega)]
  simp only [hint, Bool.false_eq_true, if_false]
  rw [if_neg (by omega)]

theorem literal_name (st : St) (n first i : Nat) (value rest : Bytes) (g : Spec.Hpack.Field)
    (hf : first % 2 ^ n = 0) (hi : i < 2 ^ 64) (hl : lookup st i = some g) (hv : StrOk value) :
    literal st n (encodeInt i n first ++ encodeStr value ++ rest) = .ok ((g.1, value), rest) := by
  have hi1 := (lookup_bound st i g hl).1
  unfold literal
  rw [List.append_assoc, spec_int_roundtrip i n first _ hf hi]
  simp only
  rw [if_neg (by omega)]
  simp only [hl, spec_str_roundtrip value rest hv.1 hv.2]

theorem literal_new (st : St) (n first : Nat) (name value rest : Bytes)
    (hn : 1 < 2 ^ n - 1) (hf : first % 2 ^ n = 0) (hnm : StrOk name) (hv : StrOk value) :
    literal st n ([first] ++ encodeStr name ++ encodeStr value ++ rest) = .ok ((name, value), rest) := by
  unfold literal
  simp only [List.cons_append, List.nil_append, List.append_assoc, Spec.Hpack.int, hf]
  rw [if_pos (by omega)]
  simp only [if_true, spec_str_roundtrip name _ hnm.1 hnm.2, spec_str_roundtrip value rest hv.1 hv.2]

/-- §6.2.1: the first octet `64..127` announces a literal with incremental indexing -/
theorem block_incr {fuel : Nat} {st : St} {seen : Bool} {b : Nat} {tl r : Bytes}
    {acc : List Spec.Hpack.Field} {f : Spec.Hpack.Field} (h1 : 64 ≤ b) (h2 : b < 128)
    (hlit : literal st 6 (b :: tl) = .ok (f, r)) :
    block (fuel + 1) st seen (b :: tl) acc = block fuel (insert st f) true r (acc ++ [f]) := by
  simp only [block]
  rw [if_neg (by omega), if_pos (by omega)]
  simp only [hlit]

/-- §6.2.2 / §6.2.3: a first octet below 32 announces a literal that does not enter the table -/
theorem block_plain {fuel : Nat} {st : St} {seen : Bool} {b : Nat} {tl r : Bytes}
    {acc : List Spec.Hpack.Field} {f : Spec.Hpack.Field} (h1 : b < 32)
    (hlit : literal st 4 (b :: tl) = .ok (f, r)) :
    block (fuel + 1) st seen (b :: tl) acc = block fuel st true r (acc ++ [f]) := by
  simp only [block]
  rw [if_neg (by omega), if_neg (by omega), if_neg (by omega)]
  simp only [hlit]

theorem encodeStr_ne_nil (s : Bytes) : encodeStr s ≠ [] := by
  unfold encodeStr
  split
  · simp
  · intro h
    exact encodeInt_ne_nil _ _ _ (List.append_eq_nil_iff.1 h).1

theorem encodeNotIndexed_length_pos (i : Nat) (v : Bytes) (s : Bool) :
    0 < (encodeNotIndexed i v s).length := by
  unfold encodeNotIndexed
  have := List.length_pos_iff.2 (encodeInt_ne_nil i 4 (if s = true then 16 else 0))
  simp only [List.length_append]; omega

theorem encodeNotIndexed2_length_pos (n v : Bytes) (s : Bool) :
    0 < (encodeNotIndexed2 n v s).length := by
  unfold encodeNotIndexed2
  simp

theorem encodeHeader_length_pos (ix : Index) (h : Header) (s : Bool) :
    0 < (encodeHeader ix h s).length := by
  cases ix with
  | indexed i => exact List.length_pos_iff.2 (encodeInt_ne_nil i 7 128)
  | name i => exact encodeNotIndexed_length_pos i h.2 s
  | inserted => simp [encodeHeader]
  | insertedValue i =>
    have := List.length_pos_iff.2 (encodeInt_ne_nil i 6 64)
    simp only [encodeHeader, List.length_append]; omega
  | notIndexed => exact encodeNotIndexed2_length_pos h.1 h.2 s

/-- `encode_header(index)` is decoded to the header; the decoder inserts iff the encoder did -/
theorem block_header (fuel : Nat) (st : St) (seen : Bool) (ix : Index) (h : Header) (s : Bool)
    (rest : Bytes) (acc : List Spec.Hpack.Field)
    (hd : IndexDenotes st h ix) (hn : StrOk h.1) (hv : StrOk h.2)
    (hlen : st.entries.length < 2 ^ 63) :
    block (fuel + 1) st seen (encodeHeader ix h s ++ rest) acc =
      block fuel (if ix.inserts then insert st h else st) true rest (acc ++ [h]) := by
  have hbound : ∀ i g, lookup st i = some g → i < 2 ^ 64 := by
    intro i g hg
    have := (lookup_bound st i g hg).2
    simp only [Nat.reducePow] at hlen ⊢; omega
  have hs : (if s = true then 16 else 0) % 2 ^ 4 = 0 ∧ (if s = true then 16 else 0) ≤ 16 := by
    cases s <;> decide
  cases ix with
  | indexed i =>
    exact block_indexed fuel st seen i rest acc h (hbound i h hd) hd
  | name i =>
    obtain ⟨g, hg, hgn⟩ := hd
    have hlit := literal_name st 4 _ i h.2 rest g hs.1 (hbound i g hg) hg hv
    obtain ⟨b, tl, hb, -, hb2⟩ := encodeInt_head i 4 _ hs.1
    simp only [encodeHeader, encodeNotIndexed]
    rw [hb, hgn] at hlit
    rw [hb]
    exact block_plain (by simp only [Nat.reducePow] at hb2; omega) hlit
  | inserted =>
    exact block_incr (by decide) (by decide)
      (literal_new st 6 64 h.1 h.2 rest (by decide) (by decide) hn hv)
  | insertedValue i =>
    obtain ⟨g, hg, hgn⟩ := hd
    have hlit := literal_name st 6 64 i h.2 rest g (by decide) (hbound i g hg) hg hv
    obtain ⟨b, tl, hb, hb1, hb2⟩ := encodeInt_head i 6 64 (by decide)
    simp only [encodeHeader]
    rw [hb, hgn] at hlit
    rw [hb]
    exact block_incr hb1 (by omega) hlit
  | notIndexed =>
    exact block_plain (by omega) (literal_new st 4 _ h.1 h.2 rest (by decide) hs.1 hn hv)

def FieldOk (f : Model.Hpack.Field) : Prop := StrOk f.h.1 ∧ StrOk f.h.2

instance (f : Model.Hpack.Field) : Decidable (FieldOk f) := by unfold FieldOk; infer_instance

/-- what the `HeaderMap` iterator guarantees: a field yielded without a name (`nameless`) is never
    the first of its block and has the name of the field before it.
    `prev` = name of the previous field of the block. -/
def NamelessOk : Option Bytes → List Model.Hpack.Field → Prop
  | _, [] => True
  | prev, f :: rest => (f.nameless = true → prev = some f.h.1) ∧ NamelessOk (some f.h.1) rest

instance : (prev : Option Bytes) → (fs : List Model.Hpack.Field) → Decidable (NamelessOk prev fs)
  | _, [] => isTrue trivial
  | prev, f :: rest =>
    have := instDecidableNamelessOk (some f.h.1) rest
    by unfold NamelessOk; infer_instance

/-- the index under which a field yielded without a name is written: what the index of the last
    named field resolves to, as a name reference (`encode_not_indexed` / `encode_not_indexed2`) -/
def _root_.H2V.Model.Hpack.Index.asName (ix : Index) : Index :=
  match ix.resolveIdx with
  | some i => .name i
  | none => .notIndexed

theorem asName_denotes {st : St} {h h' : Header} {ix : Index} (hn : h.1 = h'.1)
    (hd : IndexDenotes st h ix.asName) :
    IndexDenotes st h' ix.asName ∧ ix.asName.inserts = false := by
  unfold Index.asName at hd ⊢
  revert hd
  cases ix.resolveIdx with
  | none => exact fun _ => ⟨trivial, rfl⟩
  | some i => exact fun ⟨g, hg, hgn⟩ => ⟨⟨g, hg, hgn.trans hn⟩, rfl⟩

/-- the loop variable `last` against the decoder's current table: as a name reference its index
    denotes an entry with the last field's name -/
def LastOk (st : St) (prev : Option Bytes) : Option (Index × Header) → Prop
  | none => prev = none
  | some (ix, lh) => prev = some lh.1 ∧ IndexDenotes st lh ix.asName

theorem lookup_newest (st : St) (h : Header) (hfit : fieldSize h ≤ st.maxSize) :
    lookup (insert st h) Generated.Consts.TABLE_DYN_OFFSET = some h := by
  rw [dyn_offset]
  unfold lookup Spec.Hpack.insert
  rw [if_neg (by omega), if_neg (by omega), if_pos hfit]
  rfl

theorem field_step (f : Model.Hpack.Field) (rest : List Model.Hpack.Field) (e : Encoder) (st : St)
    (last : Option (Index × Header)) (prev : Option Bytes) (out : Bytes)
    (hsim : TableSim e st) (hlast : LastOk st prev last)
    (hnl : f.nameless = true → prev = some f.h.1) :
    ∃ e1 ix last1 st1, Encoder.encodeFields (f :: rest) e last out =
        Encoder.encodeFields rest e1 last1 (out ++ encodeHeader ix f.h f.sensitive) ∧
      IndexDenotes st f.h ix ∧ st1 = (if ix.inserts then insert st f.h else st) ∧
      TableSim e1 st1 ∧ st1 = { st with entries := e1.entries } ∧
      e1.maxSize = e.maxSize ∧ e1.maxAllowed = e.maxAllowed ∧ e1.sizeUpdate = e.sizeUpdate ∧
      LastOk st1 (some f.h.1) last1 := by
  simp only [Encoder.encodeFields]
  by_cases hnameless : f.nameless = true
  · -- without a name: `encode_header` with the last index as a name reference
    rw [if_pos hnameless]
    have hprev := hnl hnameless
    match last, hlast with
    | none, hlast =>
      have : prev = none := hlast
      rw [this] at hprev
      cases hprev
    | some (ix, lh), ⟨hp, hden⟩ =>
      have hname : lh.1 = f.h.1 := by
        rw [hp] at hprev
        exact Option.some.inj hprev
      obtain ⟨hden', hins⟩ := asName_denotes hname hden
      refine ⟨e, ix.asName, some (ix, lh), st, ?_, hden', by rw [hins]; rfl, hsim,
        by rw [hsim.entries], rfl, rfl, rfl, by rw [← hname]; exact ⟨rfl, hden⟩⟩
      simp only [Index.asName, hname]
      cases ix.resolveIdx <;> rfl
  · -- a named field: `Table::index`, then `encode_header`
    rw [if_neg hnameless]
    obtain ⟨hden, hins⟩ := index_sound e st f.h f.sensitive hsim.entries
    generalize e.index f.h f.sensitive = r at hden hins
    obtain ⟨e1, ix⟩ := r
    simp only at hden hins ⊢
    rcases hins with ⟨hi, he1⟩ | ⟨hi, he1, h34⟩
    · subst he1
      refine ⟨e1, ix, _, st, rfl, hden, by rw [hi]; rfl, hsim, by rw [hsim.entries], rfl, rfl, rfl,
        rfl, ?_⟩
      cases ix with
      | indexed i => exact ⟨f.h, hden, rfl⟩
      | name i => exact hden
      | inserted => cases hi
      | insertedValue i => cases hi
      | notIndexed => trivial
    · subst he1
      have hfit : f.h.size ≤ e.maxSize := by
        have : 32 ≤ f.h.size := by simp [Header.size]; omega
        omega
      obtain ⟨i1, i2, j4, j5, j6⟩ := insert_eq_spec_insert e st f.h hsim hfit
      refine ⟨_, ix, _, insert st f.h, rfl, hden, by rw [if_pos hi], i2, i1, j4, j5, j6, rfl, ?_⟩
      unfold Index.asName
      rw [inserts_resolveIdx hi]
      exact ⟨f.h, lookup_newest st f.h (by rw [fieldSize_eq, ← hsim.maxSize]; exact hfit), rfl⟩

/-- the field loop: no `panic!`, the reference decoder reads back the submitted fields in order,
    and the tables stay equal -/
theorem fields_sim : ∀ (fs : List Model.Hpack.Field) (e : Encoder) (st : St)
    (last : Option (Index × Header)) (prev : Option Bytes) (out : Bytes),
    TableSim e st → e.maxSize < 2 ^ 63 → LastOk st prev last → NamelessOk prev fs →
    (∀ f ∈ fs, FieldOk f) →
    ∃ e' bytes, Encoder.encodeFields fs e last out = some (e', out ++ bytes) ∧
      TableSim e' { st with entries := e'.entries } ∧
      e'.maxSize = e.maxSize ∧ e'.maxAllowed = e.maxAllowed ∧ e'.sizeUpdate = e.sizeUpdate ∧
      ∀ (fuel : Nat) (seen : Bool) (acc : List Spec.Hpack.Field), bytes.length < fuel →
        block fuel st seen bytes acc = .ok (acc ++ fs.map (·.h), { st with entries := e'.entries }) := by
  intro fs
  induction fs with
  | nil =>
    intro e st last prev out hsim _ _ _ _
    refine ⟨e, [], by simp [Encoder.encodeFields], ?_, rfl, rfl, rfl, ?_⟩
    · rw [hsim.entries]; exact hsim
    · intro fuel seen acc _
      have hst : ({ st with entries := e.entries } : St) = st := by rw [hsim.entries]
      rw [hst]
      cases fuel with
      | zero => simp [block]
      | succ k => simp [block]
  | cons f rest ih =>
    intro e st last prev out hsim hmax hlast hnl hok
    have hf : FieldOk f := hok f (List.mem_cons_self ..)
    have hlen : st.entries.length < 2 ^ 63 := by
      have := length_le_tableSize e.entries
      have h1 := hsim.size
      have h2 := hsim.le
      rw [← hsim.entries]
      omega
    obtain ⟨e1, ix, last1, st1, henc, hden, hst1, hsim1, hst1', hm1, ha1, hu1, hlast1⟩ :=
      field_step f rest e st last prev out hsim hlast hnl.1
    obtain ⟨e', bytes, h1, h2, h3, h4, h5, h6⟩ :=
      ih e1 st1 last1 (some f.h.1) (out ++ encodeHeader ix f.h f.sensitive)
        hsim1 (by rw [hm1]; exact hmax) hlast1 hnl.2 (fun g hg => hok g (List.mem_cons_of_mem _ hg))
    have hst' : ({ st1 with entries := e'.entries } : St) = { st with entries := e'.entries } := by
      rw [hst1']
    rw [hst'] at h2 h6
    refine ⟨e', encodeHeader ix f.h f.sensitive ++ bytes, by rw [henc, h1, List.append_assoc], h2,
      by rw [h3, hm1], by rw [h4, ha1], by rw [h5, hu1], ?_⟩
    intro fuel seen acc hfuel
    have hpos := encodeHeader_length_pos ix f.h f.sensitive
    cases fuel with
    | zero => omega
    | succ k =>
      rw [block_header k st seen ix f.h f.sensitive bytes acc hden hf.1 hf.2 hlen, ← hst1]
      rw [h6 k true _ (by simp only [List.length_append] at hfuel; omega)]
      simp

end H2V.Lemmas.HpackEnc
