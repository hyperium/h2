import H2V.Model.ConnStreams
import H2V.Lemmas.ConnBasicsAttr
/-
  The characterising equations of the primitives of the connection model (`Model/ConnStore.lean`, `Streams.transition`):
  store, `Streams.stream`, the state transformers, the queues, the `Stream` methods, the counters, `transition_after`
  in three stages.  `s.store.get? k` is what hypotheses speak of, `s.stream k` what conclusions speak of
  (`Streams.stream_of_get?` between them).  Simp set `conn_basics`; no global `simp` lemma.
-/
namespace H2V.Model.Conn
open H2V H2V.Model

theorem of_fst_eq {α β : Type} {P : α → Prop} {p : α × β} {a : α} {b : β} (h : p = (a, b)) (hp : P p.1) : P a := by
  subst h; exact hp

theorem usizeAsU32_le (x : Nat) : usizeAsU32 x ≤ x := Nat.mod_le _ _

theorem usizeAsU32_lt (x : Nat) : usizeAsU32 x < 4294967296 := Nat.mod_lt _ (by decide)

namespace Store

theorem get?_key {st : Store} {k : Nat} {x : Stream} (h : st.get? k = some x) : x.key = k := by
  simpa using List.find?_some h

theorem get?_mem {st : Store} {k : Nat} {x : Stream} (h : st.get? k = some x) : x ∈ st.slab :=
  List.mem_of_find?_eq_some h

theorem get?_eq_none {st : Store} {k : Nat} : st.get? k = none ↔ ∀ x ∈ st.slab, x.key ≠ k := by
  simp [get?]

theorem get?_isSome {st : Store} {k : Nat} : (st.get? k).isSome ↔ k ∈ st.slab.map (·.key) := by
  simp [get?]

theorem get?_of_mem {st : Store} {x : Stream} (hn : (st.slab.map (·.key)).Nodup) (hx : x ∈ st.slab) :
    st.get? x.key = some x := by
  obtain ⟨l, ids, nk⟩ := st
  simp only [get?] at hn hx ⊢
  induction l with
  | nil => cases hx
  | cons a l ih =>
    simp only [List.map_cons, List.nodup_cons] at hn
    rw [List.find?_cons]
    rcases List.mem_cons.mp hx with rfl | hx
    · simp
    · have : (a.key == x.key) = false := beq_eq_false_iff_ne.mpr fun e => hn.1 (e ▸ List.mem_map_of_mem hx)
      simp [this, ih hn.2 hx]

theorem find?_map_set (l : List Stream) (x : Stream) (k : Nat) :
    (l.map fun y => if y.key == x.key then x else y).find? (·.key == k) =
      if k = x.key then (l.find? (·.key == k)).map (fun _ => x) else l.find? (·.key == k) := by
  induction l with
  | nil => simp
  | cons a l ih =>
    simp only [List.map_cons, List.find?_cons, ih]
    cases ha : a.key == x.key
    · simp only [Bool.false_eq_true, if_false]
      cases hk : a.key == k
      · rfl
      · have : ¬ k = x.key := fun e => by rw [e, ha] at hk; cases hk
        simp only [if_neg this]
    · have hax := beq_iff_eq.mp ha
      simp only [if_true]
      by_cases hk : k = x.key
      · have : (a.key == k) = true := by rw [hk]; exact ha
        simp only [if_pos hk, this, beq_iff_eq.mpr hk.symm, Option.map_some]
      · have h1 : (x.key == k) = false := beq_eq_false_iff_ne.mpr fun e => hk e.symm
        have h2 : (a.key == k) = false := by rw [hax]; exact h1
        simp only [if_neg hk, h1, h2]

@[conn_basics] theorem get?_set (st : Store) (x : Stream) (k : Nat) :
    (st.set x).get? k = if k = x.key then (st.get? k).map (fun _ => x) else st.get? k :=
  find?_map_set _ _ _

theorem get?_set_self (st : Store) (x : Stream) : (st.set x).get? x.key = (st.get? x.key).map (fun _ => x) := by
  rw [get?_set, if_pos rfl]

theorem get?_set_ne (st : Store) (x : Stream) {k : Nat} (h : k ≠ x.key) : (st.set x).get? k = st.get? k := by
  rw [get?_set, if_neg h]

@[conn_basics] theorem get?_remove (st : Store) (k j : Nat) :
    (st.remove k).get? j = if j = k then none else st.get? j := by
  unfold remove get?
  simp only
  induction st.slab with
  | nil => simp
  | cons a l ih =>
    simp only [List.filter_cons]
    cases ha : a.key == k
    · have hne : (a.key != k) = true := by simp only [bne, ha, Bool.not_false]
      simp only [hne, if_true, List.find?_cons, ih]
      cases hj : a.key == j
      · rfl
      · have : ¬ j = k := fun e => by rw [e, ha] at hj; cases hj
        simp only [if_neg this]
    · have hne : (a.key != k) = false := by simp only [bne, ha, Bool.not_true]
      simp only [hne, Bool.false_eq_true, if_false, ih, List.find?_cons]
      by_cases hj : j = k
      · simp only [if_pos hj]
      · have : (a.key == j) = false := by
          rw [beq_iff_eq.mp ha]; exact beq_eq_false_iff_ne.mpr fun e => hj e.symm
        simp only [if_neg hj, this]

@[conn_basics] theorem get?_unlink (st : Store) (id k : Nat) : (st.unlink id).get? k = st.get? k := rfl

theorem get?_insert (st : Store) (x : Stream) (k : Nat) :
    (st.insert x).1.get? k =
      (st.get? k).orElse fun _ => if k = st.nextKey then some { x with key := st.nextKey } else none := by
  unfold insert get?
  simp only [List.find?_append]
  cases st.slab.find? (·.key == k) with
  | some y => rfl
  | none =>
    simp only [Option.orElse_none, Option.none_or, List.find?_cons, List.find?_nil]
    by_cases h : k = st.nextKey
    · simp [h]
    · have : (st.nextKey == k) = false := beq_eq_false_iff_ne.mpr fun e => h e.symm
      simp [this, h]

theorem get?_insert_fresh {st : Store} (hf : st.get? st.nextKey = none) (x : Stream) (k : Nat) :
    (st.insert x).1.get? k = if k = st.nextKey then some { x with key := st.nextKey } else st.get? k := by
  rw [get?_insert]
  split
  · next h => rw [h, hf]; simp
  · cases st.get? k <;> rfl

@[conn_basics] theorem set_ids (st : Store) (x : Stream) : (st.set x).ids = st.ids := rfl
@[conn_basics] theorem set_nextKey (st : Store) (x : Stream) : (st.set x).nextKey = st.nextKey := rfl
@[conn_basics] theorem set_length (st : Store) (x : Stream) : (st.set x).slab.length = st.slab.length := by
  simp [set]
@[conn_basics] theorem remove_ids (st : Store) (k : Nat) : (st.remove k).ids = st.ids := rfl
@[conn_basics] theorem remove_nextKey (st : Store) (k : Nat) : (st.remove k).nextKey = st.nextKey := rfl
theorem remove_slab (st : Store) (k : Nat) : (st.remove k).slab = st.slab.filter (·.key != k) := rfl
@[conn_basics] theorem unlink_slab (st : Store) (id : Nat) : (st.unlink id).slab = st.slab := rfl
@[conn_basics] theorem unlink_nextKey (st : Store) (id : Nat) : (st.unlink id).nextKey = st.nextKey := rfl
theorem unlink_ids (st : Store) (id : Nat) : (st.unlink id).ids = swapRemove st.ids id := rfl
@[conn_basics] theorem insert_snd (st : Store) (x : Stream) : (st.insert x).2 = st.nextKey := rfl
@[conn_basics] theorem insert_nextKey (st : Store) (x : Stream) : (st.insert x).1.nextKey = st.nextKey + 1 := rfl
theorem insert_slab (st : Store) (x : Stream) :
    (st.insert x).1.slab = st.slab ++ [{ x with key := st.nextKey }] := rfl

@[conn_basics] theorem set_keys (st : Store) (x : Stream) : (st.set x).slab.map (·.key) = st.slab.map (·.key) := by
  unfold set
  simp only [List.map_map]
  apply List.map_congr_left
  intro y _
  simp only [Function.comp]
  split
  · next h => exact (beq_iff_eq.mp h).symm
  · rfl

theorem unlink_keys (st : Store) (id : Nat) : (st.unlink id).slab.map (·.key) = st.slab.map (·.key) := rfl

theorem remove_keys (st : Store) (k : Nat) :
    (st.remove k).slab.map (·.key) = (st.slab.map (·.key)).filter (· != k) := by
  unfold remove; simp only [List.filter_map]; rfl

theorem insert_keys (st : Store) (x : Stream) : (st.insert x).1.slab.map (·.key) = st.slab.map (·.key) ++ [st.nextKey] := by
  unfold insert; simp only [List.map_append, List.map_cons, List.map_nil]

theorem mem_remove {st : Store} {k : Nat} {y : Stream} : y ∈ (st.remove k).slab ↔ y ∈ st.slab ∧ y.key ≠ k := by
  unfold remove; simp only [List.mem_filter, bne_iff_ne]

theorem mem_insert {st : Store} {x y : Stream} :
    y ∈ (st.insert x).1.slab ↔ y ∈ st.slab ∨ y = { x with key := st.nextKey } := by
  unfold insert; simp only [List.mem_append, List.mem_singleton]

theorem mem_set {st : Store} {x y : Stream} (h : y ∈ (st.set x).slab) : y = x ∨ (y ∈ st.slab ∧ y.key ≠ x.key) := by
  unfold set at h
  obtain ⟨z, hz, rfl⟩ := List.mem_map.mp h
  split
  · exact .inl rfl
  · next hne => exact .inr ⟨hz, fun e => hne (beq_iff_eq.mpr e)⟩

theorem set_of_none {st : Store} {x : Stream} (h : st.get? x.key = none) : st.set x = st := by
  unfold set
  have : ∀ y ∈ st.slab, (if y.key == x.key then x else y) = y := by
    intro y hy
    have := get?_eq_none.mp h y hy
    simp [this]
  rw [List.map_congr_left this]; simp

theorem set_set (st : Store) {x y : Stream} (h : y.key = x.key) : (st.set x).set y = st.set y := by
  unfold set
  simp only [List.map_map, h]
  congr 1
  apply List.map_congr_left
  intro z _
  simp only [Function.comp]
  by_cases hz : z.key = x.key <;> simp [hz]

/-- `swap_remove(id)` takes out the first entry with that id; what is left is what was there, in another order -/
theorem swapRemove_perm {l : List (Nat × Nat)} {x i : Nat} (hi : l.findIdx? (·.1 == x) = some i) :
    (swapRemove l x).Perm (l.eraseIdx i) := by
  have hil : i < l.length := (List.findIdx?_eq_some_iff_getElem.mp hi).1
  have hne : l ≠ [] := by intro h; subst h; cases hil
  unfold swapRemove
  rw [hi, List.getLast?_eq_some_getLast hne]
  dsimp only
  split
  · next h => rw [List.eraseIdx_eq_dropLast h]
  · next h =>
    have hd : i < l.dropLast.length := by rw [List.length_dropLast]; omega
    conv => rhs; rw [← List.dropLast_concat_getLast hne, List.eraseIdx_append_of_lt_length hd]
    rw [List.set_eq_take_append_cons_drop, if_pos hd, List.eraseIdx_eq_take_drop_succ]
    exact (List.perm_middle).trans (List.perm_append_singleton _ _).symm

theorem swapRemove_cases (l : List (Nat × Nat)) (x : Nat) :
    ((∀ e ∈ l, e.1 ≠ x) ∧ swapRemove l x = l) ∨
    ∃ i, l.findIdx? (·.1 == x) = some i ∧ (swapRemove l x).Perm (l.eraseIdx i) := by
  cases hi : l.findIdx? (·.1 == x) with
  | none =>
    refine .inl ⟨fun e he => by simpa using List.findIdx?_eq_none_iff.mp hi e he, ?_⟩
    unfold swapRemove; rw [hi]
  | some i => exact .inr ⟨i, rfl, swapRemove_perm hi⟩

theorem mem_swapRemove {ids : List (Nat × Nat)} {id : Nat} {p : Nat × Nat} (hp : p ∈ swapRemove ids id) : p ∈ ids := by
  rcases swapRemove_cases ids id with ⟨-, e⟩ | ⟨i, -, h⟩
  · rw [e] at hp; exact hp
  · exact List.mem_of_mem_eraseIdx (h.mem_iff.mp hp)

theorem swapRemove_nodup {β : Type} {f : Nat × Nat → β} {l : List (Nat × Nat)} (hnd : (l.map f).Nodup) (x : Nat) :
    ((swapRemove l x).map f).Nodup := by
  rcases swapRemove_cases l x with ⟨-, e⟩ | ⟨i, -, h⟩
  · rw [e]; exact hnd
  · exact (h.map f).nodup_iff.mpr (hnd.sublist ((List.eraseIdx_sublist l i).map f))

theorem swapRemove_length_ge (l : List (Nat × Nat)) (x : Nat) : l.length ≤ (swapRemove l x).length + 1 := by
  rcases swapRemove_cases l x with ⟨-, e⟩ | ⟨i, -, h⟩
  · rw [e]; omega
  · rw [h.length_eq, List.length_eraseIdx]; split <;> omega

theorem mem_swapRemove_of_ne {l : List (Nat × Nat)} {x : Nat} {e : Nat × Nat} (he : e ∈ l) (hne : e.1 ≠ x) :
    e ∈ swapRemove l x := by
  rcases swapRemove_cases l x with ⟨-, h⟩ | ⟨i, hi, h⟩
  · rw [h]; exact he
  · obtain ⟨j, hj, rfl⟩ := List.getElem_of_mem he
    obtain ⟨hil, hix, -⟩ := List.findIdx?_eq_some_iff_getElem.mp hi
    exact h.mem_iff.mpr (List.mem_eraseIdx_iff_getElem.mpr ⟨j, hj, fun e => hne (by subst e; simpa using hix), rfl⟩)

theorem swapRemove_not_mem {l : List (Nat × Nat)} (hnd : (l.map (·.1)).Nodup) (x : Nat) :
    ∀ e ∈ swapRemove l x, e.1 ≠ x := by
  intro e he hx
  rcases swapRemove_cases l x with ⟨hn, h⟩ | ⟨i, hi, h⟩
  · exact hn e (h ▸ he) hx
  · obtain ⟨j, hj, hji, rfl⟩ := List.mem_eraseIdx_iff_getElem.mp (h.mem_iff.mp he)
    obtain ⟨hil, hix, -⟩ := List.findIdx?_eq_some_iff_getElem.mp hi
    refine hji ((List.getElem_inj (h₀ := by simpa using hj) (h₁ := by simpa using hil) hnd).mp ?_)
    simp only [List.getElem_map]
    rw [hx]; exact (by simpa using hix : l[i].1 = x).symm
theorem findKey?_mem {st : Store} {id k : Nat} (h : st.findKey? id = some k) : (id, k) ∈ st.ids := by
  unfold findKey? at h
  cases hf : st.ids.find? (·.1 == id) with
  | none => rw [hf] at h; cases h
  | some p =>
    rw [hf] at h
    simp only [Option.map_some, Option.some.injEq] at h
    have hm := List.mem_of_find?_eq_some hf
    have hp := List.find?_some hf
    simp only [beq_iff_eq] at hp
    rw [← hp, ← h]; exact hm

theorem insert_ids_mem {st : Store} {x : Stream} {p : Nat × Nat} (hp : p ∈ (st.insert x).1.ids) :
    p ∈ st.ids ∨ p = (x.id, st.nextKey) := by
  unfold insert at hp
  dsimp only at hp
  split at hp
  · obtain ⟨e, he, hpe⟩ := List.mem_map.mp hp
    split at hpe
    · exact .inr hpe.symm
    · exact .inl (hpe ▸ he)
  · rcases List.mem_append.mp hp with h | h
    · exact .inl h
    · exact .inr (List.mem_singleton.mp h)

theorem slab_split {st : Store} (hn : (st.slab.map (·.key)).Nodup) {k : Nat} {x : Stream} (hx : st.get? k = some x) :
    ∃ l1 l2, st.slab = l1 ++ x :: l2 ∧ (∀ y ∈ l1, y.key ≠ k) ∧ (∀ y ∈ l2, y.key ≠ k) := by
  obtain ⟨l1, l2, h⟩ := List.append_of_mem (get?_mem hx)
  have hk := get?_key hx
  rw [h, List.map_append, List.map_cons, List.nodup_append, List.nodup_cons] at hn
  refine ⟨l1, l2, h, fun y hy e => ?_, fun y hy e => ?_⟩
  · exact hn.2.2 _ (List.mem_map_of_mem hy) _ List.mem_cons_self (e.trans hk.symm)
  · exact hn.2.1.1 ((e.trans hk.symm) ▸ List.mem_map_of_mem hy)

theorem map_set_of_ne {l : List Stream} {k : Nat} (h : ∀ y ∈ l, y.key ≠ k) (x' : Stream) :
    (l.map fun y => if y.key == k then x' else y) = l := by
  conv => rhs; rw [← List.map_id l]
  apply List.map_congr_left
  intro y hy
  simp only [beq_eq_false_iff_ne.mpr (h y hy), Bool.false_eq_true, if_false, id]

theorem filter_ne_of_ne {l : List Stream} {k : Nat} (h : ∀ y ∈ l, y.key ≠ k) : l.filter (·.key != k) = l :=
  List.filter_eq_self.mpr fun y hy => bne_iff_ne.mpr (h y hy)

theorem set_slab_of_split {st : Store} {l1 l2 : List Stream} {x x' : Stream} (h : st.slab = l1 ++ x :: l2)
    (hk : x.key = x'.key) (h1 : ∀ y ∈ l1, y.key ≠ x'.key) (h2 : ∀ y ∈ l2, y.key ≠ x'.key) :
    (st.set x').slab = l1 ++ x' :: l2 := by
  unfold set
  simp only [h, List.map_append, List.map_cons, map_set_of_ne h1, map_set_of_ne h2, beq_iff_eq.mpr hk, if_true]

theorem remove_slab_of_split {st : Store} {l1 l2 : List Stream} {x : Stream} {k : Nat} (h : st.slab = l1 ++ x :: l2)
    (hk : x.key = k) (h1 : ∀ y ∈ l1, y.key ≠ k) (h2 : ∀ y ∈ l2, y.key ≠ k) : (st.remove k).slab = l1 ++ l2 := by
  unfold remove
  have : (x.key != k) = false := by rw [hk]; exact bne_self_eq_false k
  simp only [h, List.filter_append, List.filter_cons, this, Bool.false_eq_true, if_false, filter_ne_of_ne h1,
    filter_ne_of_ne h2]

theorem sum_set {st : Store} (hn : (st.slab.map (·.key)).Nodup) {x x' : Stream} (hx : st.get? x'.key = some x)
    (m : Stream → Nat) : ((st.set x').slab.map m).sum + m x = (st.slab.map m).sum + m x' := by
  obtain ⟨l1, l2, h, h1, h2⟩ := slab_split hn hx
  rw [set_slab_of_split h (get?_key hx) h1 h2, h]
  simp only [List.map_append, List.map_cons, List.sum_append, List.sum_cons]
  omega

theorem sum_set_int {st : Store} (hn : (st.slab.map (·.key)).Nodup) {x x' : Stream} (hx : st.get? x'.key = some x)
    (m : Stream → Int) : ((st.set x').slab.map m).sum = (st.slab.map m).sum - m x + m x' := by
  obtain ⟨l1, l2, h, h1, h2⟩ := slab_split hn hx
  rw [set_slab_of_split h (get?_key hx) h1 h2, h]
  simp only [List.map_append, List.map_cons, List.sum_append, List.sum_cons]
  omega

theorem sum_remove {st : Store} (hn : (st.slab.map (·.key)).Nodup) {k : Nat} {x : Stream} (hx : st.get? k = some x)
    (m : Stream → Nat) : ((st.remove k).slab.map m).sum + m x = (st.slab.map m).sum := by
  obtain ⟨l1, l2, h, h1, h2⟩ := slab_split hn hx
  rw [remove_slab_of_split h (get?_key hx) h1 h2, h]
  simp only [List.map_append, List.map_cons, List.sum_append, List.sum_cons]
  omega

theorem sum_remove_int {st : Store} (hn : (st.slab.map (·.key)).Nodup) {k : Nat} {x : Stream} (hx : st.get? k = some x)
    (m : Stream → Int) : ((st.remove k).slab.map m).sum = (st.slab.map m).sum - m x := by
  obtain ⟨l1, l2, h, h1, h2⟩ := slab_split hn hx
  rw [remove_slab_of_split h (get?_key hx) h1 h2, h]
  simp only [List.map_append, List.map_cons, List.sum_append, List.sum_cons]
  omega

theorem countP_set {st : Store} (hn : (st.slab.map (·.key)).Nodup) {x x' : Stream} (hx : st.get? x'.key = some x)
    (p : Stream → Bool) :
    (st.set x').slab.countP p + (if p x then 1 else 0) = st.slab.countP p + (if p x' then 1 else 0) := by
  obtain ⟨l1, l2, h, h1, h2⟩ := slab_split hn hx
  rw [set_slab_of_split h (get?_key hx) h1 h2, h]
  simp only [List.countP_append, List.countP_cons]
  omega

theorem sum_insert (st : Store) (x : Stream) (m : Stream → Nat) :
    ((st.insert x).1.slab.map m).sum = (st.slab.map m).sum + m { x with key := st.nextKey } := by
  unfold insert; simp only [List.map_append, List.sum_append, List.map_cons, List.map_nil, List.sum_cons, List.sum_nil,
    Nat.add_zero]

/-- `modStream` seen from the store: the entry behind `k` replaced by its image, nothing on a dangling key -/
def mod (st : Store) (k : Nat) (f : Stream → Stream) : Store :=
  match st.get? k with
  | some x => st.set (f x)
  | none => st

theorem mod_of_some {st : Store} {k : Nat} {x : Stream} (h : st.get? k = some x) (f : Stream → Stream) :
    st.mod k f = st.set (f x) := by unfold mod; rw [h]

theorem mod_of_none {st : Store} {k : Nat} (h : st.get? k = none) (f : Stream → Stream) : st.mod k f = st := by
  unfold mod; rw [h]

@[conn_basics] theorem mod_ids (st : Store) (k : Nat) (f : Stream → Stream) : (st.mod k f).ids = st.ids := by
  unfold mod; split <;> rfl
@[conn_basics] theorem mod_nextKey (st : Store) (k : Nat) (f : Stream → Stream) : (st.mod k f).nextKey = st.nextKey := by
  unfold mod; split <;> rfl
@[conn_basics] theorem mod_keys (st : Store) (k : Nat) (f : Stream → Stream) :
    (st.mod k f).slab.map (·.key) = st.slab.map (·.key) := by
  unfold mod; split
  · exact set_keys _ _
  · rfl

theorem get?_mod (st : Store) (k : Nat) (f : Stream → Stream) (hf : ∀ x, (f x).key = x.key) (j : Nat) :
    (st.mod k f).get? j = if j = k then (st.get? k).map f else st.get? j := by
  unfold mod
  cases h : st.get? k with
  | none =>
    simp only [Option.map_none]
    split
    · next hj => rw [hj, h]
    · rfl
  | some x =>
    have hkey : (f x).key = k := by rw [hf, get?_key h]
    simp only [get?_set, hkey, Option.map_some]
    split
    · next hj => rw [hj, h]; rfl
    · rfl

/-- every key in the slab has been handed out: `insert` produces a fresh one -/
def KeysLt (st : Store) : Prop := ∀ x ∈ st.slab, x.key < st.nextKey

def KeysNodup (st : Store) : Prop := (st.slab.map (·.key)).Nodup

theorem keysLt_iff_keys {st : Store} : st.KeysLt ↔ ∀ k ∈ st.slab.map (·.key), k < st.nextKey := by
  simp only [KeysLt, List.mem_map, forall_exists_index, and_imp, forall_apply_eq_imp_iff₂]

theorem keysLt_iff_get? {st : Store} : st.KeysLt ↔ ∀ k x, st.get? k = some x → k < st.nextKey := by
  constructor
  · intro h k x hx; exact get?_key hx ▸ h x (get?_mem hx)
  · intro h x hx
    have : (st.get? x.key).isSome := get?_isSome.mpr (List.mem_map_of_mem hx)
    obtain ⟨y, hy⟩ := Option.isSome_iff_exists.mp this
    exact h _ _ hy

theorem KeysLt.get?_lt {st : Store} (h : st.KeysLt) {k : Nat} {x : Stream} (hx : st.get? k = some x) : k < st.nextKey :=
  keysLt_iff_get?.mp h k x hx

theorem KeysLt.get?_none {st : Store} (h : st.KeysLt) {k : Nat} (hk : st.nextKey ≤ k) : st.get? k = none :=
  get?_eq_none.mpr fun x hx e => Nat.lt_irrefl k (Nat.lt_of_lt_of_le (e ▸ h x hx) hk)

theorem KeysLt.of_keys {st t : Store} (h : st.KeysLt) (hk : t.slab.map (·.key) = st.slab.map (·.key))
    (hn : st.nextKey ≤ t.nextKey) : t.KeysLt := by
  rw [keysLt_iff_keys] at h ⊢
  rw [hk]; exact fun k hk => Nat.lt_of_lt_of_le (h k hk) hn

theorem KeysNodup.of_keys {st t : Store} (h : st.KeysNodup) (hk : t.slab.map (·.key) = st.slab.map (·.key)) : t.KeysNodup := by
  unfold KeysNodup; rw [hk]; exact h

theorem KeysLt.set {st : Store} (h : st.KeysLt) (x : Stream) : (st.set x).KeysLt := h.of_keys (set_keys st x) (Nat.le_refl _)
theorem KeysLt.mod {st : Store} (h : st.KeysLt) (k : Nat) (f : Stream → Stream) : (st.mod k f).KeysLt :=
  h.of_keys (mod_keys st k f) (Nat.le_of_eq (mod_nextKey st k f).symm)
theorem KeysLt.unlink {st : Store} (h : st.KeysLt) (id : Nat) : (st.unlink id).KeysLt := h
theorem KeysLt.remove {st : Store} (h : st.KeysLt) (k : Nat) : (st.remove k).KeysLt := fun x hx => h x (mem_remove.mp hx).1
theorem KeysLt.insert {st : Store} (h : st.KeysLt) (x : Stream) : (st.insert x).1.KeysLt := by
  intro y hy
  rcases mem_insert.mp hy with hy | rfl
  · exact Nat.lt_succ_of_lt (h y hy)
  · exact Nat.lt_succ_self _

theorem KeysNodup.set {st : Store} (h : st.KeysNodup) (x : Stream) : (st.set x).KeysNodup := h.of_keys (set_keys st x)
theorem KeysNodup.mod {st : Store} (h : st.KeysNodup) (k : Nat) (f : Stream → Stream) : (st.mod k f).KeysNodup :=
  h.of_keys (mod_keys st k f)
theorem KeysNodup.unlink {st : Store} (h : st.KeysNodup) (id : Nat) : (st.unlink id).KeysNodup := h
theorem KeysNodup.remove {st : Store} (h : st.KeysNodup) (k : Nat) : (st.remove k).KeysNodup := by
  unfold KeysNodup; rw [remove_keys]; exact List.Nodup.sublist List.filter_sublist h
theorem KeysNodup.insert {st : Store} (h : st.KeysNodup) (hl : st.KeysLt) (x : Stream) : (st.insert x).1.KeysNodup := by
  unfold KeysNodup; rw [insert_keys, List.nodup_append]
  refine ⟨h, List.nodup_cons.mpr ⟨List.not_mem_nil, List.nodup_nil⟩, fun a ha b hb e => ?_⟩
  rw [List.mem_singleton.mp hb] at e
  exact Nat.lt_irrefl _ (e ▸ keysLt_iff_keys.mp hl a ha)

theorem KeysNodup.eq_of_key_eq {st : Store} (h : st.KeysNodup) {x y : Stream} (hx : x ∈ st.slab) (hy : y ∈ st.slab)
    (e : x.key = y.key) : x = y := by
  have h1 := get?_of_mem h hx
  rw [e, get?_of_mem h hy] at h1
  exact (Option.some.inj h1).symm

end Store

namespace Streams

theorem stream_of_get? {s : Streams} {k : Nat} {x : Stream} (h : s.store.get? k = some x) : s.stream k = x := by
  unfold stream; rw [h]; rfl

theorem stream_of_none {s : Streams} {k : Nat} (h : s.store.get? k = none) : s.stream k = { key := k, id := 0 } := by
  unfold stream; rw [h]; rfl

@[conn_basics] theorem stream_key (s : Streams) (k : Nat) : (s.stream k).key = k := by
  cases h : s.store.get? k with
  | none => rw [stream_of_none h]
  | some x => rw [stream_of_get? h]; exact Store.get?_key h

theorem stream_cases (s : Streams) (k : Nat) :
    s.store.get? k = some (s.stream k) ∨ (s.store.get? k = none ∧ s.stream k = { key := k, id := 0 }) := by
  cases h : s.store.get? k with
  | none => exact .inr ⟨rfl, stream_of_none h⟩
  | some x => exact .inl (by rw [stream_of_get? h])

theorem get?_of_stream_ne_blank {s : Streams} {k : Nat} (h : s.stream k ≠ { key := k, id := 0 }) :
    s.store.get? k = some (s.stream k) :=
  (stream_cases s k).resolve_right fun hb => h hb.2

theorem stream_mem {s : Streams} {k : Nat} {x : Stream} (h : s.store.get? k = some x) : s.stream k ∈ s.store.slab := by
  rw [stream_of_get? h]; exact Store.get?_mem h

theorem stream_congr {s t : Streams} (h : t.store.get? k = s.store.get? k) : t.stream k = s.stream k := by
  unfold stream; rw [h]

theorem stream_congr_store {s t : Streams} (h : t.store = s.store) (k : Nat) : t.stream k = s.stream k := by
  unfold stream; rw [h]

theorem stream_congr_slab {s t : Streams} (h : t.store.slab = s.store.slab) (k : Nat) : t.stream k = s.stream k := by
  unfold stream Store.get?; rw [h]

theorem prio_congr {s t : Streams} (h : t.actions = s.actions) : t.prio = s.prio := by unfold prio; rw [h]
theorem recv_congr {s t : Streams} (h : t.actions = s.actions) : t.recv = s.recv := by unfold recv; rw [h]

theorem getQ_congr {s t : Streams} (h : t.actions = s.actions) (q : QName) : t.getQ q = s.getQ q := by
  cases q <;> simp only [getQ, prio_congr h, recv_congr h]

section prim
variable (s : Streams)

theorem panic_of_none {s : Streams} (h : s.panicked = none) (m : String) : s.panic m = { s with panicked := some m } := by
  unfold panic; rw [h]
theorem panic_of_some {s : Streams} {m' : String} (h : s.panicked = some m') (m : String) : s.panic m = s := by
  unfold panic; rw [h]

@[conn_basics] theorem panic_store (m : String) : (s.panic m).store = s.store := by unfold panic; split <;> rfl
@[conn_basics] theorem panic_counts (m : String) : (s.panic m).counts = s.counts := by unfold panic; split <;> rfl
@[conn_basics] theorem panic_actions (m : String) : (s.panic m).actions = s.actions := by unfold panic; split <;> rfl
@[conn_basics] theorem panic_refs (m : String) : (s.panic m).refs = s.refs := by unfold panic; split <;> rfl
@[conn_basics] theorem panic_wakes (m : String) : (s.panic m).wakes = s.wakes := by unfold panic; split <;> rfl
@[conn_basics] theorem panic_unsupported (m : String) : (s.panic m).unsupported = s.unsupported := by
  unfold panic; split <;> rfl
@[conn_basics] theorem panic_leaked (m : String) : (s.panic m).recvBufferLeaked = s.recvBufferLeaked := by
  unfold panic; split <;> rfl
@[conn_basics] theorem panic_prio (m : String) : (s.panic m).prio = s.prio := prio_congr (panic_actions s m)
@[conn_basics] theorem panic_recv (m : String) : (s.panic m).recv = s.recv := recv_congr (panic_actions s m)
@[conn_basics] theorem panic_getQ (m : String) (q : QName) : (s.panic m).getQ q = s.getQ q := getQ_congr (panic_actions s m) q
@[conn_basics] theorem panic_stream (m : String) (k : Nat) : (s.panic m).stream k = s.stream k :=
  stream_congr_store (panic_store s m) k

/-- the first panic is the one recorded -/
@[conn_basics] theorem panic_panicked (m : String) : (s.panic m).panicked = some (s.panicked.getD m) := by
  unfold panic; split <;> simp [*]
theorem panic_panicked_ne_none (m : String) : (s.panic m).panicked ≠ none := by
  rw [panic_panicked]; exact Option.some_ne_none _
theorem panicked_of_panic_eq_none {s : Streams} {m : String} {P : Prop} (h : (s.panic m).panicked = none) : P :=
  absurd h (panic_panicked_ne_none s m)
theorem panic_panic (m m' : String) : (s.panic m).panic m' = s.panic m := by
  cases h : (s.panic m).panicked with
  | none => exact panicked_of_panic_eq_none h
  | some x => exact panic_of_some h m'

@[conn_basics] theorem ite_panic_store (c : Prop) [Decidable c] (m : String) :
    (if c then s else s.panic m).store = s.store := by split <;> simp only [panic_store]
@[conn_basics] theorem ite_panic_store' (c : Prop) [Decidable c] (m : String) :
    (if c then s.panic m else s).store = s.store := by split <;> simp only [panic_store]
@[conn_basics] theorem ite_panic_actions (c : Prop) [Decidable c] (m : String) :
    (if c then s else s.panic m).actions = s.actions := by split <;> simp only [panic_actions]
@[conn_basics] theorem ite_panic_actions' (c : Prop) [Decidable c] (m : String) :
    (if c then s.panic m else s).actions = s.actions := by split <;> simp only [panic_actions]
@[conn_basics] theorem ite_panic_counts (c : Prop) [Decidable c] (m : String) :
    (if c then s else s.panic m).counts = s.counts := by split <;> simp only [panic_counts]
@[conn_basics] theorem ite_panic_counts' (c : Prop) [Decidable c] (m : String) :
    (if c then s.panic m else s).counts = s.counts := by split <;> simp only [panic_counts]

@[conn_basics] theorem unsup_store (m : String) : (s.unsup m).store = s.store := by unfold unsup; split <;> rfl
@[conn_basics] theorem unsup_counts (m : String) : (s.unsup m).counts = s.counts := by unfold unsup; split <;> rfl
@[conn_basics] theorem unsup_actions (m : String) : (s.unsup m).actions = s.actions := by unfold unsup; split <;> rfl
@[conn_basics] theorem unsup_panicked (m : String) : (s.unsup m).panicked = s.panicked := by unfold unsup; split <;> rfl
@[conn_basics] theorem unsup_refs (m : String) : (s.unsup m).refs = s.refs := by unfold unsup; split <;> rfl
@[conn_basics] theorem unsup_wakes (m : String) : (s.unsup m).wakes = s.wakes := by unfold unsup; split <;> rfl
@[conn_basics] theorem unsup_prio (m : String) : (s.unsup m).prio = s.prio := prio_congr (unsup_actions s m)
@[conn_basics] theorem unsup_recv (m : String) : (s.unsup m).recv = s.recv := recv_congr (unsup_actions s m)
@[conn_basics] theorem unsup_getQ (m : String) (q : QName) : (s.unsup m).getQ q = s.getQ q := getQ_congr (unsup_actions s m) q
@[conn_basics] theorem unsup_stream (m : String) (k : Nat) : (s.unsup m).stream k = s.stream k :=
  stream_congr_store (unsup_store s m) k
@[conn_basics] theorem unsup_unsupported (m : String) : (s.unsup m).unsupported = some (s.unsupported.getD m) := by
  unfold unsup; split <;> simp [*]

@[conn_basics] theorem wake_store (t : List String) : (s.wake t).store = s.store := rfl
@[conn_basics] theorem wake_counts (t : List String) : (s.wake t).counts = s.counts := rfl
@[conn_basics] theorem wake_actions (t : List String) : (s.wake t).actions = s.actions := rfl
@[conn_basics] theorem wake_panicked (t : List String) : (s.wake t).panicked = s.panicked := rfl
@[conn_basics] theorem wake_refs (t : List String) : (s.wake t).refs = s.refs := rfl
@[conn_basics] theorem wake_wakes (t : List String) : (s.wake t).wakes = s.wakes ++ t := rfl
@[conn_basics] theorem wake_prio (t : List String) : (s.wake t).prio = s.prio := rfl
@[conn_basics] theorem wake_recv (t : List String) : (s.wake t).recv = s.recv := rfl
@[conn_basics] theorem wake_getQ (t : List String) (q : QName) : (s.wake t).getQ q = s.getQ q := rfl
@[conn_basics] theorem wake_stream (t : List String) (k : Nat) : (s.wake t).stream k = s.stream k := rfl
theorem wake_nil : s.wake [] = s := by unfold wake; rw [List.append_nil]
theorem wake_wake (t u : List String) : (s.wake t).wake u = s.wake (t ++ u) := by
  unfold wake; simp only [List.append_assoc]

@[conn_basics] theorem notifyTask_store : s.notifyTask.store = s.store := by unfold notifyTask; split <;> rfl
@[conn_basics] theorem notifyTask_counts : s.notifyTask.counts = s.counts := by unfold notifyTask; split <;> rfl
@[conn_basics] theorem notifyTask_panicked : s.notifyTask.panicked = s.panicked := by unfold notifyTask; split <;> rfl
@[conn_basics] theorem notifyTask_refs : s.notifyTask.refs = s.refs := by unfold notifyTask; split <;> rfl
@[conn_basics] theorem notifyTask_send : s.notifyTask.actions.send = s.actions.send := by
  unfold notifyTask; split <;> rfl
@[conn_basics] theorem notifyTask_recv : s.notifyTask.actions.recv = s.actions.recv := by
  unfold notifyTask; split <;> rfl
@[conn_basics] theorem notifyTask_connError : s.notifyTask.actions.connError = s.actions.connError := by
  unfold notifyTask; split <;> rfl
@[conn_basics] theorem notifyTask_task : s.notifyTask.actions.task = none := by
  unfold notifyTask; split <;> simp [*]
@[conn_basics] theorem notifyTask_wakes : s.notifyTask.wakes = s.wakes ++ s.actions.task.toList := by
  unfold notifyTask; split <;> simp [*]
@[conn_basics] theorem notifyTask_prio : s.notifyTask.prio = s.prio := by unfold prio; rw [notifyTask_send]
@[conn_basics] theorem notifyTask_recv' : s.notifyTask.recv = s.recv := notifyTask_recv s
@[conn_basics] theorem notifyTask_getQ (q : QName) : s.notifyTask.getQ q = s.getQ q := by
  cases q <;> simp only [getQ, notifyTask_prio, notifyTask_recv']
@[conn_basics] theorem notifyTask_stream (k : Nat) : s.notifyTask.stream k = s.stream k :=
  stream_congr_store (notifyTask_store s) k

@[conn_basics] theorem modPrio_store (f : Prioritize → Prioritize) : (s.modPrio f).store = s.store := rfl
@[conn_basics] theorem modPrio_counts (f : Prioritize → Prioritize) : (s.modPrio f).counts = s.counts := rfl
@[conn_basics] theorem modPrio_panicked (f : Prioritize → Prioritize) : (s.modPrio f).panicked = s.panicked := rfl
@[conn_basics] theorem modPrio_refs (f : Prioritize → Prioritize) : (s.modPrio f).refs = s.refs := rfl
@[conn_basics] theorem modPrio_wakes (f : Prioritize → Prioritize) : (s.modPrio f).wakes = s.wakes := rfl
@[conn_basics] theorem modPrio_prio (f : Prioritize → Prioritize) : (s.modPrio f).prio = f s.prio := rfl
@[conn_basics] theorem modPrio_recv (f : Prioritize → Prioritize) : (s.modPrio f).recv = s.recv := rfl
@[conn_basics] theorem modPrio_task (f : Prioritize → Prioritize) : (s.modPrio f).actions.task = s.actions.task := rfl
@[conn_basics] theorem modPrio_connError (f : Prioritize → Prioritize) :
    (s.modPrio f).actions.connError = s.actions.connError := rfl
@[conn_basics] theorem modPrio_stream (f : Prioritize → Prioritize) (k : Nat) : (s.modPrio f).stream k = s.stream k := rfl

@[conn_basics] theorem modSend_store (f : Send → Send) : (s.modSend f).store = s.store := rfl
@[conn_basics] theorem modSend_counts (f : Send → Send) : (s.modSend f).counts = s.counts := rfl
@[conn_basics] theorem modSend_panicked (f : Send → Send) : (s.modSend f).panicked = s.panicked := rfl
@[conn_basics] theorem modSend_refs (f : Send → Send) : (s.modSend f).refs = s.refs := rfl
@[conn_basics] theorem modSend_wakes (f : Send → Send) : (s.modSend f).wakes = s.wakes := rfl
@[conn_basics] theorem modSend_send (f : Send → Send) : (s.modSend f).actions.send = f s.actions.send := rfl
@[conn_basics] theorem modSend_prio (f : Send → Send) : (s.modSend f).prio = (f s.actions.send).prioritize := rfl
@[conn_basics] theorem modSend_recv (f : Send → Send) : (s.modSend f).recv = s.recv := rfl
@[conn_basics] theorem modSend_task (f : Send → Send) : (s.modSend f).actions.task = s.actions.task := rfl
@[conn_basics] theorem modSend_connError (f : Send → Send) : (s.modSend f).actions.connError = s.actions.connError := rfl
@[conn_basics] theorem modSend_stream (f : Send → Send) (k : Nat) : (s.modSend f).stream k = s.stream k := rfl

@[conn_basics] theorem modRecv_store (f : Recv → Recv) : (s.modRecv f).store = s.store := rfl
@[conn_basics] theorem modRecv_counts (f : Recv → Recv) : (s.modRecv f).counts = s.counts := rfl
@[conn_basics] theorem modRecv_panicked (f : Recv → Recv) : (s.modRecv f).panicked = s.panicked := rfl
@[conn_basics] theorem modRecv_refs (f : Recv → Recv) : (s.modRecv f).refs = s.refs := rfl
@[conn_basics] theorem modRecv_wakes (f : Recv → Recv) : (s.modRecv f).wakes = s.wakes := rfl
@[conn_basics] theorem modRecv_recv (f : Recv → Recv) : (s.modRecv f).recv = f s.recv := rfl
@[conn_basics] theorem modRecv_prio (f : Recv → Recv) : (s.modRecv f).prio = s.prio := rfl
@[conn_basics] theorem modRecv_send (f : Recv → Recv) : (s.modRecv f).actions.send = s.actions.send := rfl
@[conn_basics] theorem modRecv_task (f : Recv → Recv) : (s.modRecv f).actions.task = s.actions.task := rfl
@[conn_basics] theorem modRecv_connError (f : Recv → Recv) : (s.modRecv f).actions.connError = s.actions.connError := rfl
@[conn_basics] theorem modRecv_stream (f : Recv → Recv) (k : Nat) : (s.modRecv f).stream k = s.stream k := rfl

@[conn_basics] theorem modCounts_store (f : Counts → Counts) : (s.modCounts f).store = s.store := rfl
@[conn_basics] theorem modCounts_counts (f : Counts → Counts) : (s.modCounts f).counts = f s.counts := rfl
@[conn_basics] theorem modCounts_actions (f : Counts → Counts) : (s.modCounts f).actions = s.actions := rfl
@[conn_basics] theorem modCounts_panicked (f : Counts → Counts) : (s.modCounts f).panicked = s.panicked := rfl
@[conn_basics] theorem modCounts_refs (f : Counts → Counts) : (s.modCounts f).refs = s.refs := rfl
@[conn_basics] theorem modCounts_wakes (f : Counts → Counts) : (s.modCounts f).wakes = s.wakes := rfl
@[conn_basics] theorem modCounts_prio (f : Counts → Counts) : (s.modCounts f).prio = s.prio := rfl
@[conn_basics] theorem modCounts_recv (f : Counts → Counts) : (s.modCounts f).recv = s.recv := rfl
@[conn_basics] theorem modCounts_getQ (f : Counts → Counts) (q : QName) : (s.modCounts f).getQ q = s.getQ q := rfl
@[conn_basics] theorem modCounts_stream (f : Counts → Counts) (k : Nat) : (s.modCounts f).stream k = s.stream k := rfl

theorem modCountsA_of_some {s : Streams} {f : Counts → Option Counts} {c : Counts} (h : f s.counts = some c) (w : String) :
    s.modCountsA w f = { s with counts := c } := by unfold modCountsA; rw [h]
theorem modCountsA_of_none {s : Streams} {f : Counts → Option Counts} (h : f s.counts = none) (w : String) :
    s.modCountsA w f = s.panic ("assertion failed: " ++ w) := by unfold modCountsA; rw [h]

@[conn_basics] theorem modCountsA_store (w : String) (f : Counts → Option Counts) : (s.modCountsA w f).store = s.store := by
  unfold modCountsA; split <;> simp only [panic_store]
@[conn_basics] theorem modCountsA_actions (w : String) (f : Counts → Option Counts) :
    (s.modCountsA w f).actions = s.actions := by unfold modCountsA; split <;> simp only [panic_actions]
@[conn_basics] theorem modCountsA_refs (w : String) (f : Counts → Option Counts) : (s.modCountsA w f).refs = s.refs := by
  unfold modCountsA; split <;> simp only [panic_refs]
@[conn_basics] theorem modCountsA_wakes (w : String) (f : Counts → Option Counts) : (s.modCountsA w f).wakes = s.wakes := by
  unfold modCountsA; split <;> simp only [panic_wakes]
@[conn_basics] theorem modCountsA_counts (w : String) (f : Counts → Option Counts) :
    (s.modCountsA w f).counts = (f s.counts).getD s.counts := by
  unfold modCountsA; split <;> simp only [panic_counts, Option.getD_some, Option.getD_none, *]
@[conn_basics] theorem modCountsA_prio (w : String) (f : Counts → Option Counts) : (s.modCountsA w f).prio = s.prio :=
  prio_congr (modCountsA_actions s w f)
@[conn_basics] theorem modCountsA_recv (w : String) (f : Counts → Option Counts) : (s.modCountsA w f).recv = s.recv :=
  recv_congr (modCountsA_actions s w f)
@[conn_basics] theorem modCountsA_getQ (w : String) (f : Counts → Option Counts) (q : QName) :
    (s.modCountsA w f).getQ q = s.getQ q := getQ_congr (modCountsA_actions s w f) q
@[conn_basics] theorem modCountsA_stream (w : String) (f : Counts → Option Counts) (k : Nat) :
    (s.modCountsA w f).stream k = s.stream k := stream_congr_store (modCountsA_store s w f) k
theorem modCountsA_panicked_of_some {s : Streams} {f : Counts → Option Counts} {c : Counts} (h : f s.counts = some c)
    (w : String) : (s.modCountsA w f).panicked = s.panicked := by rw [modCountsA_of_some h]

@[conn_basics] theorem getQ_setQ (q : QName) (l : List Nat) (q' : QName) :
    (s.setQ q l).getQ q' = if q' = q then l else s.getQ q' := by cases q <;> cases q' <;> rfl
theorem getQ_setQ_self (q : QName) (l : List Nat) : (s.setQ q l).getQ q = l := by rw [getQ_setQ, if_pos rfl]
theorem getQ_setQ_ne {q q' : QName} (h : q' ≠ q) (l : List Nat) : (s.setQ q l).getQ q' = s.getQ q' := by
  rw [getQ_setQ, if_neg h]

@[conn_basics] theorem setQ_store (q : QName) (l : List Nat) : (s.setQ q l).store = s.store := by cases q <;> rfl
@[conn_basics] theorem setQ_counts (q : QName) (l : List Nat) : (s.setQ q l).counts = s.counts := by cases q <;> rfl
@[conn_basics] theorem setQ_panicked (q : QName) (l : List Nat) : (s.setQ q l).panicked = s.panicked := by cases q <;> rfl
@[conn_basics] theorem setQ_refs (q : QName) (l : List Nat) : (s.setQ q l).refs = s.refs := by cases q <;> rfl
@[conn_basics] theorem setQ_wakes (q : QName) (l : List Nat) : (s.setQ q l).wakes = s.wakes := by cases q <;> rfl
@[conn_basics] theorem setQ_task (q : QName) (l : List Nat) : (s.setQ q l).actions.task = s.actions.task := by
  cases q <;> rfl
@[conn_basics] theorem setQ_connError (q : QName) (l : List Nat) : (s.setQ q l).actions.connError = s.actions.connError := by
  cases q <;> rfl
@[conn_basics] theorem setQ_stream (q : QName) (l : List Nat) (k : Nat) : (s.setQ q l).stream k = s.stream k := by
  cases q <;> rfl

@[conn_basics] theorem setStream_store (x : Stream) : (s.setStream x).store = s.store.set x := rfl
@[conn_basics] theorem setStream_counts (x : Stream) : (s.setStream x).counts = s.counts := rfl
@[conn_basics] theorem setStream_actions (x : Stream) : (s.setStream x).actions = s.actions := rfl
@[conn_basics] theorem setStream_panicked (x : Stream) : (s.setStream x).panicked = s.panicked := rfl
@[conn_basics] theorem setStream_refs (x : Stream) : (s.setStream x).refs = s.refs := rfl
@[conn_basics] theorem setStream_wakes (x : Stream) : (s.setStream x).wakes = s.wakes := rfl
@[conn_basics] theorem setStream_prio (x : Stream) : (s.setStream x).prio = s.prio := rfl
@[conn_basics] theorem setStream_recv (x : Stream) : (s.setStream x).recv = s.recv := rfl
@[conn_basics] theorem setStream_getQ (x : Stream) (q : QName) : (s.setStream x).getQ q = s.getQ q := rfl
theorem setStream_ids (x : Stream) : (s.setStream x).store.ids = s.store.ids := rfl
theorem setStream_nextKey (x : Stream) : (s.setStream x).store.nextKey = s.store.nextKey := rfl

theorem setStream_get? (x : Stream) (k : Nat) :
    (s.setStream x).store.get? k = if k = x.key then (s.store.get? k).map (fun _ => x) else s.store.get? k :=
  Store.get?_set _ _ _

theorem setStream_of_none {s : Streams} {x : Stream} (h : s.store.get? x.key = none) : s.setStream x = s := by
  unfold setStream; rw [Store.set_of_none h]

theorem setStream_setStream {x y : Stream} (h : y.key = x.key) : (s.setStream x).setStream y = s.setStream y := by
  unfold setStream; simp only [Store.set_set _ h]

theorem stream_setStream (x : Stream) (k : Nat) :
    (s.setStream x).stream k = if k = x.key ∧ (s.store.get? k).isSome then x else s.stream k := by
  unfold stream; rw [setStream_get?]
  by_cases hk : k = x.key
  · cases h : s.store.get? k <;> simp [hk]
  · simp [hk]

theorem modStream_of_some {s : Streams} {k : Nat} {x : Stream} (h : s.store.get? k = some x) (f : Stream → Stream) :
    s.modStream k f = s.setStream (f x) := by unfold modStream; rw [h]

theorem modStream_of_none {s : Streams} {k : Nat} (h : s.store.get? k = none) (f : Stream → Stream) :
    s.modStream k f = s.panic s!"dangling store key {k}" := by unfold modStream; rw [h]

@[conn_basics] theorem modStream_store (k : Nat) (f : Stream → Stream) : (s.modStream k f).store = s.store.mod k f := by
  cases h : s.store.get? k with
  | none => rw [modStream_of_none h, Store.mod_of_none h, panic_store]
  | some x => rw [modStream_of_some h, Store.mod_of_some h]; rfl
@[conn_basics] theorem modStream_counts (k : Nat) (f : Stream → Stream) : (s.modStream k f).counts = s.counts := by
  unfold modStream; split <;> simp only [panic_counts, setStream_counts]
@[conn_basics] theorem modStream_actions (k : Nat) (f : Stream → Stream) : (s.modStream k f).actions = s.actions := by
  unfold modStream; split <;> simp only [panic_actions, setStream_actions]
@[conn_basics] theorem modStream_refs (k : Nat) (f : Stream → Stream) : (s.modStream k f).refs = s.refs := by
  unfold modStream; split <;> simp only [panic_refs, setStream_refs]
@[conn_basics] theorem modStream_wakes (k : Nat) (f : Stream → Stream) : (s.modStream k f).wakes = s.wakes := by
  unfold modStream; split <;> simp only [panic_wakes, setStream_wakes]
@[conn_basics] theorem modStream_prio (k : Nat) (f : Stream → Stream) : (s.modStream k f).prio = s.prio :=
  prio_congr (modStream_actions s k f)
@[conn_basics] theorem modStream_recv (k : Nat) (f : Stream → Stream) : (s.modStream k f).recv = s.recv :=
  recv_congr (modStream_actions s k f)
@[conn_basics] theorem modStream_getQ (k : Nat) (f : Stream → Stream) (q : QName) : (s.modStream k f).getQ q = s.getQ q :=
  getQ_congr (modStream_actions s k f) q
theorem modStream_ids (k : Nat) (f : Stream → Stream) : (s.modStream k f).store.ids = s.store.ids := by
  rw [modStream_store, Store.mod_ids]
theorem modStream_nextKey (k : Nat) (f : Stream → Stream) : (s.modStream k f).store.nextKey = s.store.nextKey := by
  rw [modStream_store, Store.mod_nextKey]
theorem modStream_keys (k : Nat) (f : Stream → Stream) :
    (s.modStream k f).store.slab.map (·.key) = s.store.slab.map (·.key) := by
  rw [modStream_store, Store.mod_keys]

theorem modStream_panicked_of_some {s : Streams} {k : Nat} {x : Stream} (h : s.store.get? k = some x) (f : Stream → Stream) :
    (s.modStream k f).panicked = s.panicked := by rw [modStream_of_some h]; rfl
theorem get?_of_modStream_panicked_eq_none {s : Streams} {k : Nat} {f : Stream → Stream}
    (h : (s.modStream k f).panicked = none) : s.store.get? k = some (s.stream k) ∧ s.panicked = none := by
  cases hg : s.store.get? k with
  | none => rw [modStream_of_none hg] at h; exact panicked_of_panic_eq_none h
  | some x => rw [modStream_panicked_of_some hg] at h; exact ⟨by rw [stream_of_get? hg], h⟩

theorem modStream_get? (k : Nat) (f : Stream → Stream) (hf : ∀ x, (f x).key = x.key) (j : Nat) :
    (s.modStream k f).store.get? j = if j = k then (s.store.get? k).map f else s.store.get? j := by
  rw [modStream_store, Store.get?_mod _ _ _ hf]

theorem stream_modStream (k : Nat) (f : Stream → Stream) (hf : ∀ x, (f x).key = x.key) (j : Nat) :
    (s.modStream k f).stream j = if j = k ∧ (s.store.get? k).isSome then f (s.stream k) else s.stream j := by
  unfold stream; rw [modStream_get? s k f hf]
  by_cases hj : j = k
  · subst hj; cases h : s.store.get? j <;> simp
  · simp [hj]

theorem stream_modStream_self {s : Streams} {k : Nat} {x : Stream} (h : s.store.get? k = some x) {f : Stream → Stream}
    (hf : ∀ x, (f x).key = x.key) : (s.modStream k f).stream k = f x := by
  rw [stream_modStream s k f hf, if_pos ⟨rfl, by rw [h]; rfl⟩, stream_of_get? h]

theorem stream_modStream_ne (k : Nat) {f : Stream → Stream} (hf : ∀ x, (f x).key = x.key) {j : Nat} (h : j ≠ k) :
    (s.modStream k f).stream j = s.stream j := by
  rw [stream_modStream s k f hf, if_neg fun c => h c.1]

theorem modStream_modStream (k : Nat) {f g : Stream → Stream} (hf : ∀ x, (f x).key = x.key) (hg : ∀ x, (g x).key = x.key) :
    (s.modStream k f).modStream k g = s.modStream k fun x => g (f x) := by
  cases h : s.store.get? k with
  | none =>
    rw [modStream_of_none h, modStream_of_none h, modStream_of_none (by rw [panic_store]; exact h), panic_panic]
  | some x =>
    have h' : (s.setStream (f x)).store.get? k = some (f x) := by
      rw [setStream_get?, if_pos (by rw [hf, Store.get?_key h]), h]; rfl
    rw [modStream_of_some h, modStream_of_some h, modStream_of_some h', setStream_setStream _ (hg _)]

theorem modStreamW_of_some {s : Streams} {k : Nat} {x : Stream} (h : s.store.get? k = some x)
    (f : Stream → Stream × List String) : s.modStreamW k f = (s.setStream (f x).1).wake (f x).2 := by
  unfold modStreamW; rw [h]

theorem modStreamW_of_none {s : Streams} {k : Nat} (h : s.store.get? k = none) (f : Stream → Stream × List String) :
    s.modStreamW k f = s.panic s!"dangling store key {k}" := by unfold modStreamW; rw [h]

theorem modStreamW_eq (k : Nat) (f : Stream → Stream × List String) :
    s.modStreamW k f = (s.modStream k fun x => (f x).1).wake (f (s.stream k)).2 ∨
      (s.store.get? k = none ∧ s.modStreamW k f = s.modStream k fun x => (f x).1) := by
  cases h : s.store.get? k with
  | none => exact .inr ⟨rfl, by rw [modStreamW_of_none h, modStream_of_none h]⟩
  | some x => exact .inl (by rw [modStreamW_of_some h, modStream_of_some h, stream_of_get? h])

@[conn_basics] theorem modStreamW_store (k : Nat) (f : Stream → Stream × List String) :
    (s.modStreamW k f).store = s.store.mod k fun x => (f x).1 := by
  cases h : s.store.get? k with
  | none => rw [modStreamW_of_none h, Store.mod_of_none h, panic_store]
  | some x => rw [modStreamW_of_some h, Store.mod_of_some h]; rfl
@[conn_basics] theorem modStreamW_counts (k : Nat) (f : Stream → Stream × List String) :
    (s.modStreamW k f).counts = s.counts := by
  unfold modStreamW; split <;> simp only [panic_counts, setStream_counts, wake_counts]
@[conn_basics] theorem modStreamW_actions (k : Nat) (f : Stream → Stream × List String) :
    (s.modStreamW k f).actions = s.actions := by
  unfold modStreamW; split <;> simp only [panic_actions, setStream_actions, wake_actions]
@[conn_basics] theorem modStreamW_refs (k : Nat) (f : Stream → Stream × List String) : (s.modStreamW k f).refs = s.refs := by
  unfold modStreamW; split <;> simp only [panic_refs, setStream_refs, wake_refs]
@[conn_basics] theorem modStreamW_wakes (k : Nat) (f : Stream → Stream × List String) :
    (s.modStreamW k f).wakes = s.wakes ++ ((s.store.get? k).map fun x => (f x).2).getD [] := by
  unfold modStreamW; split <;> simp [panic_wakes, setStream_wakes, wake_wakes, *]
@[conn_basics] theorem modStreamW_prio (k : Nat) (f : Stream → Stream × List String) : (s.modStreamW k f).prio = s.prio :=
  prio_congr (modStreamW_actions s k f)
@[conn_basics] theorem modStreamW_recv (k : Nat) (f : Stream → Stream × List String) : (s.modStreamW k f).recv = s.recv :=
  recv_congr (modStreamW_actions s k f)
@[conn_basics] theorem modStreamW_getQ (k : Nat) (f : Stream → Stream × List String) (q : QName) :
    (s.modStreamW k f).getQ q = s.getQ q := getQ_congr (modStreamW_actions s k f) q
theorem modStreamW_ids (k : Nat) (f : Stream → Stream × List String) : (s.modStreamW k f).store.ids = s.store.ids := by
  rw [modStreamW_store, Store.mod_ids]
theorem modStreamW_nextKey (k : Nat) (f : Stream → Stream × List String) :
    (s.modStreamW k f).store.nextKey = s.store.nextKey := by rw [modStreamW_store, Store.mod_nextKey]
theorem modStreamW_keys (k : Nat) (f : Stream → Stream × List String) :
    (s.modStreamW k f).store.slab.map (·.key) = s.store.slab.map (·.key) := by
  rw [modStreamW_store, Store.mod_keys]

theorem modStreamW_panicked_of_some {s : Streams} {k : Nat} {x : Stream} (h : s.store.get? k = some x)
    (f : Stream → Stream × List String) : (s.modStreamW k f).panicked = s.panicked := by
  rw [modStreamW_of_some h]; rfl
theorem get?_of_modStreamW_panicked_eq_none {s : Streams} {k : Nat} {f : Stream → Stream × List String}
    (h : (s.modStreamW k f).panicked = none) : s.store.get? k = some (s.stream k) ∧ s.panicked = none := by
  cases hg : s.store.get? k with
  | none => rw [modStreamW_of_none hg] at h; exact panicked_of_panic_eq_none h
  | some x => rw [modStreamW_panicked_of_some hg] at h; exact ⟨by rw [stream_of_get? hg], h⟩

theorem modStreamW_get? (k : Nat) (f : Stream → Stream × List String) (hf : ∀ x, (f x).1.key = x.key) (j : Nat) :
    (s.modStreamW k f).store.get? j = if j = k then (s.store.get? k).map (fun x => (f x).1) else s.store.get? j := by
  rw [modStreamW_store, Store.get?_mod _ _ _ hf]

theorem stream_modStreamW (k : Nat) (f : Stream → Stream × List String) (hf : ∀ x, (f x).1.key = x.key) (j : Nat) :
    (s.modStreamW k f).stream j = if j = k ∧ (s.store.get? k).isSome then (f (s.stream k)).1 else s.stream j := by
  rw [← stream_modStream s k _ hf j]
  exact stream_congr_store (by rw [modStreamW_store, modStream_store]) j

theorem stream_modStreamW_self {s : Streams} {k : Nat} {x : Stream} (h : s.store.get? k = some x)
    {f : Stream → Stream × List String} (hf : ∀ x, (f x).1.key = x.key) : (s.modStreamW k f).stream k = (f x).1 := by
  rw [stream_modStreamW s k f hf, if_pos ⟨rfl, by rw [h]; rfl⟩, stream_of_get? h]

theorem stream_modStreamW_ne (k : Nat) {f : Stream → Stream × List String} (hf : ∀ x, (f x).1.key = x.key) {j : Nat}
    (h : j ≠ k) : (s.modStreamW k f).stream j = s.stream j := by
  rw [stream_modStreamW s k f hf, if_neg fun c => h c.1]

end prim

end Streams

namespace Stream
variable (x : Stream)

@[conn_basics] theorem isQueued_setQueued (q : QName) (v : Bool) (q' : QName) :
    (x.setQueued q v).isQueued q' = if q' = q then v else x.isQueued q' := by cases q <;> cases q' <;> rfl
theorem isQueued_setQueued_self (q : QName) (v : Bool) : (x.setQueued q v).isQueued q = v := by cases q <;> rfl
theorem isQueued_setQueued_ne {q q' : QName} (h : q' ≠ q) (v : Bool) : (x.setQueued q v).isQueued q' = x.isQueued q' := by
  rw [isQueued_setQueued, if_neg h]

@[conn_basics] theorem setQueued_key (q : QName) (v : Bool) : (x.setQueued q v).key = x.key := by cases q <;> rfl
@[conn_basics] theorem setQueued_id (q : QName) (v : Bool) : (x.setQueued q v).id = x.id := by cases q <;> rfl
@[conn_basics] theorem setQueued_state (q : QName) (v : Bool) : (x.setQueued q v).state = x.state := by cases q <;> rfl
@[conn_basics] theorem setQueued_isCounted (q : QName) (v : Bool) : (x.setQueued q v).isCounted = x.isCounted := by
  cases q <;> rfl
@[conn_basics] theorem setQueued_refCount (q : QName) (v : Bool) : (x.setQueued q v).refCount = x.refCount := by
  cases q <;> rfl
@[conn_basics] theorem setQueued_sendFlow (q : QName) (v : Bool) : (x.setQueued q v).sendFlow = x.sendFlow := by
  cases q <;> rfl
@[conn_basics] theorem setQueued_requestedSendCapacity (q : QName) (v : Bool) :
    (x.setQueued q v).requestedSendCapacity = x.requestedSendCapacity := by cases q <;> rfl
@[conn_basics] theorem setQueued_bufferedSendData (q : QName) (v : Bool) :
    (x.setQueued q v).bufferedSendData = x.bufferedSendData := by cases q <;> rfl
@[conn_basics] theorem setQueued_sendTask (q : QName) (v : Bool) : (x.setQueued q v).sendTask = x.sendTask := by
  cases q <;> rfl
@[conn_basics] theorem setQueued_openTask (q : QName) (v : Bool) : (x.setQueued q v).openTask = x.openTask := by
  cases q <;> rfl
@[conn_basics] theorem setQueued_pendingSend (q : QName) (v : Bool) : (x.setQueued q v).pendingSend = x.pendingSend := by
  cases q <;> rfl
@[conn_basics] theorem setQueued_sendCapacityInc (q : QName) (v : Bool) :
    (x.setQueued q v).sendCapacityInc = x.sendCapacityInc := by cases q <;> rfl
@[conn_basics] theorem setQueued_isPendingPush (q : QName) (v : Bool) : (x.setQueued q v).isPendingPush = x.isPendingPush := by
  cases q <;> rfl
@[conn_basics] theorem setQueued_recvFlow (q : QName) (v : Bool) : (x.setQueued q v).recvFlow = x.recvFlow := by
  cases q <;> rfl
@[conn_basics] theorem setQueued_inFlightRecvData (q : QName) (v : Bool) :
    (x.setQueued q v).inFlightRecvData = x.inFlightRecvData := by cases q <;> rfl
@[conn_basics] theorem setQueued_pendingRecv (q : QName) (v : Bool) : (x.setQueued q v).pendingRecv = x.pendingRecv := by
  cases q <;> rfl
@[conn_basics] theorem setQueued_isRecv (q : QName) (v : Bool) : (x.setQueued q v).isRecv = x.isRecv := by cases q <;> rfl
@[conn_basics] theorem setQueued_recvTask (q : QName) (v : Bool) : (x.setQueued q v).recvTask = x.recvTask := by
  cases q <;> rfl
@[conn_basics] theorem setQueued_pushTask (q : QName) (v : Bool) : (x.setQueued q v).pushTask = x.pushTask := by
  cases q <;> rfl
@[conn_basics] theorem setQueued_pendingPushPromises (q : QName) (v : Bool) :
    (x.setQueued q v).pendingPushPromises = x.pendingPushPromises := by cases q <;> rfl
@[conn_basics] theorem setQueued_contentLength (q : QName) (v : Bool) : (x.setQueued q v).contentLength = x.contentLength := by
  cases q <;> rfl
@[conn_basics] theorem setQueued_isClosed (q : QName) (v : Bool) : (x.setQueued q v).isClosed = x.isClosed := by
  cases q <;> rfl

theorem isQueued_pendingSend : x.isQueued .pendingSend = x.isPendingSend := rfl
theorem isQueued_pendingCapacity : x.isQueued .pendingCapacity = x.isPendingSendCapacity := rfl
theorem isQueued_pendingOpen : x.isQueued .pendingOpen = x.isPendingOpen := rfl
theorem isQueued_pendingWindowUpdates : x.isQueued .pendingWindowUpdates = x.isPendingWindowUpdate := rfl
theorem isQueued_pendingAccept : x.isQueued .pendingAccept = x.isPendingAccept := rfl
theorem isQueued_pendingResetExpired : x.isQueued .pendingResetExpired = x.resetAt := rfl

@[conn_basics] theorem notifySend_fst : x.notifySend.1 = { x with sendTask := none, openTask := none } := by
  cases x; simp only [notifySend]; split <;> split <;> simp_all
@[conn_basics] theorem notifySend_snd : x.notifySend.2 = x.sendTask.toList ++ x.openTask.toList := by
  cases x; simp only [notifySend]; split <;> split <;> simp_all

@[conn_basics] theorem notifyRecv_fst : x.notifyRecv.1 = { x with recvTask := none } := by
  cases x; simp only [notifyRecv]; split <;> simp_all
@[conn_basics] theorem notifyRecv_snd : x.notifyRecv.2 = x.recvTask.toList := by
  cases x; simp only [notifyRecv]; split <;> simp_all

@[conn_basics] theorem notifyPush_fst : x.notifyPush.1 = { x with pushTask := none } := by
  cases x; simp only [notifyPush]; split <;> simp_all
@[conn_basics] theorem notifyPush_snd : x.notifyPush.2 = x.pushTask.toList := by
  cases x; simp only [notifyPush]; split <;> simp_all

@[conn_basics] theorem notifyCapacity_fst :
    x.notifyCapacity.1 = { x with sendCapacityInc := true, sendTask := none, openTask := none } := by
  unfold notifyCapacity; rw [notifySend_fst]
@[conn_basics] theorem notifyCapacity_snd : x.notifyCapacity.2 = x.sendTask.toList ++ x.openTask.toList := by
  unfold notifyCapacity; rw [notifySend_snd]

@[conn_basics] theorem setReset_fst (r : Reason) (i : Initiator) :
    (x.setReset r i).1 = { x with state := x.state.setReset x.id r i, sendTask := none, openTask := none,
                                  pushTask := none, recvTask := none } := by
  simp only [setReset, notifyRecv_fst, notifyPush_fst, notifySend_fst]
@[conn_basics] theorem setReset_snd (r : Reason) (i : Initiator) :
    (x.setReset r i).2 = x.sendTask.toList ++ x.openTask.toList ++ x.pushTask.toList ++ x.recvTask.toList := by
  simp only [setReset, notifyRecv_snd, notifyPush_snd, notifySend_snd, notifyPush_fst, notifySend_fst]
theorem setReset_key (r : Reason) (i : Initiator) : (x.setReset r i).1.key = x.key := by rw [setReset_fst]

theorem assignCapacity_fst (c m : Nat) :
    (x.assignCapacity c m).1 =
      if x.capacity m < ({ x with sendFlow := (x.sendFlow.assignCapacity c).1 } : Stream).capacity m then
        { x with sendFlow := (x.sendFlow.assignCapacity c).1, sendCapacityInc := true, sendTask := none, openTask := none }
      else { x with sendFlow := (x.sendFlow.assignCapacity c).1 } := by
  simp only [assignCapacity]; split
  · rw [notifyCapacity_fst]
  · rfl
theorem assignCapacity_snd (c m : Nat) :
    (x.assignCapacity c m).2 =
      if x.capacity m < ({ x with sendFlow := (x.sendFlow.assignCapacity c).1 } : Stream).capacity m then
        x.sendTask.toList ++ x.openTask.toList
      else [] := by
  simp only [assignCapacity]; split
  · rw [notifyCapacity_snd]
  · rfl

theorem waitSend_eq (t : String) : x.waitSend t = { x with sendTask := some t } := rfl
theorem waitOpen_eq (t : String) : x.waitOpen t = { x with openTask := some t } := rfl

end Stream

/-- `is_closed()` implies `is_send_closed()` -/
theorem State.isSendClosed_of_isClosed (x : State) (h : x.isClosed = true) : x.isSendClosed = true := by
  unfold State.isClosed at h
  unfold State.isSendClosed
  cases hi : x.inner <;> simp_all

theorem State.isSendStreaming_of_isClosed {x : State} (h : x.isClosed = true) : x.isSendStreaming = false := by
  rcases x with ⟨_|_|_|⟨_|_,_|_⟩|⟨_|_⟩|⟨_|_⟩|_⟩ <;> simp_all [State.isClosed, State.isSendStreaming]

namespace Streams
section queues
variable (s : Streams)

theorem qPush_of_queued {s : Streams} {q : QName} {k : Nat} (h : (s.stream k).isQueued q = true) :
    s.qPush q k = (s, false) := by unfold qPush; rw [if_pos h]
theorem qPush_of_not_queued {s : Streams} {q : QName} {k : Nat} (h : (s.stream k).isQueued q = false) :
    s.qPush q k = ((s.modStream k fun st => st.setQueued q true).setQ q (s.getQ q ++ [k]), true) := by
  unfold qPush; rw [if_neg (by rw [h]; exact Bool.false_ne_true)]

theorem qPush_fst (q : QName) (k : Nat) :
    (s.qPush q k).1 = if (s.stream k).isQueued q then s
      else (s.modStream k fun st => st.setQueued q true).setQ q (s.getQ q ++ [k]) := by
  unfold qPush; split <;> rfl
theorem qPush_snd (q : QName) (k : Nat) : (s.qPush q k).2 = !(s.stream k).isQueued q := by
  unfold qPush; split <;> simp [*]

theorem qPushFront_of_queued {s : Streams} {q : QName} {k : Nat} (h : (s.stream k).isQueued q = true) :
    s.qPushFront q k = (s, false) := by unfold qPushFront; rw [if_pos h]
theorem qPushFront_of_not_queued {s : Streams} {q : QName} {k : Nat} (h : (s.stream k).isQueued q = false) :
    s.qPushFront q k = ((s.modStream k fun st => st.setQueued q true).setQ q (k :: s.getQ q), true) := by
  unfold qPushFront; rw [if_neg (by rw [h]; exact Bool.false_ne_true)]

theorem qPushFront_fst (q : QName) (k : Nat) :
    (s.qPushFront q k).1 = if (s.stream k).isQueued q then s
      else (s.modStream k fun st => st.setQueued q true).setQ q (k :: s.getQ q) := by
  unfold qPushFront; split <;> rfl
theorem qPushFront_snd (q : QName) (k : Nat) : (s.qPushFront q k).2 = !(s.stream k).isQueued q := by
  unfold qPushFront; split <;> simp [*]

@[conn_basics] theorem qPush_counts (q : QName) (k : Nat) : (s.qPush q k).1.counts = s.counts := by
  rw [qPush_fst]; split <;> simp only [setQ_counts, modStream_counts]
@[conn_basics] theorem qPush_refs (q : QName) (k : Nat) : (s.qPush q k).1.refs = s.refs := by
  rw [qPush_fst]; split <;> simp only [setQ_refs, modStream_refs]
@[conn_basics] theorem qPush_wakes (q : QName) (k : Nat) : (s.qPush q k).1.wakes = s.wakes := by
  rw [qPush_fst]; split <;> simp only [setQ_wakes, modStream_wakes]
@[conn_basics] theorem qPush_task (q : QName) (k : Nat) : (s.qPush q k).1.actions.task = s.actions.task := by
  rw [qPush_fst]; split <;> simp only [setQ_task, modStream_actions]
@[conn_basics] theorem qPush_connError (q : QName) (k : Nat) : (s.qPush q k).1.actions.connError = s.actions.connError := by
  rw [qPush_fst]; split <;> simp only [setQ_connError, modStream_actions]
theorem qPush_store (q : QName) (k : Nat) :
    (s.qPush q k).1.store = if (s.stream k).isQueued q then s.store else s.store.mod k fun st => st.setQueued q true := by
  rw [qPush_fst]; split <;> simp only [setQ_store, modStream_store]
theorem qPush_ids (q : QName) (k : Nat) : (s.qPush q k).1.store.ids = s.store.ids := by
  rw [qPush_store]; split <;> simp only [Store.mod_ids]
theorem qPush_nextKey (q : QName) (k : Nat) : (s.qPush q k).1.store.nextKey = s.store.nextKey := by
  rw [qPush_store]; split <;> simp only [Store.mod_nextKey]
theorem qPush_keys (q : QName) (k : Nat) : (s.qPush q k).1.store.slab.map (·.key) = s.store.slab.map (·.key) := by
  rw [qPush_store]; split <;> simp only [Store.mod_keys]
theorem qPush_getQ (q : QName) (k : Nat) (q' : QName) :
    (s.qPush q k).1.getQ q' = if q' = q ∧ (s.stream k).isQueued q = false then s.getQ q ++ [k] else s.getQ q' := by
  rw [qPush_fst]
  by_cases h : (s.stream k).isQueued q = true
  · simp [h]
  · by_cases hq : q' = q <;> simp [h, hq, getQ_setQ, modStream_getQ]
theorem qPush_getQ_ne (q : QName) (k : Nat) {q' : QName} (h : q' ≠ q) : (s.qPush q k).1.getQ q' = s.getQ q' := by
  rw [qPush_getQ, if_neg fun c => h c.1]

@[conn_basics] theorem qPushFront_counts (q : QName) (k : Nat) : (s.qPushFront q k).1.counts = s.counts := by
  rw [qPushFront_fst]; split <;> simp only [setQ_counts, modStream_counts]
@[conn_basics] theorem qPushFront_refs (q : QName) (k : Nat) : (s.qPushFront q k).1.refs = s.refs := by
  rw [qPushFront_fst]; split <;> simp only [setQ_refs, modStream_refs]
@[conn_basics] theorem qPushFront_wakes (q : QName) (k : Nat) : (s.qPushFront q k).1.wakes = s.wakes := by
  rw [qPushFront_fst]; split <;> simp only [setQ_wakes, modStream_wakes]
theorem qPushFront_store (q : QName) (k : Nat) :
    (s.qPushFront q k).1.store =
      if (s.stream k).isQueued q then s.store else s.store.mod k fun st => st.setQueued q true := by
  rw [qPushFront_fst]; split <;> simp only [setQ_store, modStream_store]
theorem qPushFront_ids (q : QName) (k : Nat) : (s.qPushFront q k).1.store.ids = s.store.ids := by
  rw [qPushFront_store]; split <;> simp only [Store.mod_ids]
theorem qPushFront_nextKey (q : QName) (k : Nat) : (s.qPushFront q k).1.store.nextKey = s.store.nextKey := by
  rw [qPushFront_store]; split <;> simp only [Store.mod_nextKey]
theorem qPushFront_getQ_ne (q : QName) (k : Nat) {q' : QName} (h : q' ≠ q) :
    (s.qPushFront q k).1.getQ q' = s.getQ q' := by
  rw [qPushFront_fst]; split
  · rfl
  · rw [getQ_setQ_ne _ h, modStream_getQ]

theorem qPop_nil {s : Streams} {q : QName} (h : s.getQ q = []) : s.qPop q = (s, none) := by unfold qPop; rw [h]
theorem qPop_cons {s : Streams} {q : QName} {k : Nat} {r : List Nat} (h : s.getQ q = k :: r) :
    s.qPop q = ((s.setQ q r).modStream k fun st => st.setQueued q false, some k) := by unfold qPop; rw [h]

theorem qPop_snd (q : QName) : (s.qPop q).2 = (s.getQ q).head? := by
  unfold qPop; split <;> simp [*]
theorem qPop_fst (q : QName) :
    (s.qPop q).1 = match s.getQ q with
      | [] => s
      | k :: r => (s.setQ q r).modStream k fun st => st.setQueued q false := by
  unfold qPop; split <;> simp [*]

theorem qPop_eq_some {s t : Streams} {q : QName} {k : Nat} (h : s.qPop q = (t, some k)) :
    ∃ r, s.getQ q = k :: r ∧ t = (s.setQ q r).modStream k fun st => st.setQueued q false := by
  cases hq : s.getQ q with
  | nil => rw [qPop_nil hq] at h; cases h
  | cons k' r => rw [qPop_cons hq] at h; cases h; exact ⟨r, rfl, rfl⟩

theorem qPop_eq_none {s t : Streams} {q : QName} (h : s.qPop q = (t, none)) : s.getQ q = [] ∧ t = s := by
  cases hq : s.getQ q with
  | nil => rw [qPop_nil hq] at h; cases h; exact ⟨rfl, rfl⟩
  | cons k' r => rw [qPop_cons hq] at h; cases h

@[conn_basics] theorem qPop_counts (q : QName) : (s.qPop q).1.counts = s.counts := by
  rw [qPop_fst]; split <;> simp only [modStream_counts, setQ_counts]
@[conn_basics] theorem qPop_refs (q : QName) : (s.qPop q).1.refs = s.refs := by
  rw [qPop_fst]; split <;> simp only [modStream_refs, setQ_refs]
@[conn_basics] theorem qPop_wakes (q : QName) : (s.qPop q).1.wakes = s.wakes := by
  rw [qPop_fst]; split <;> simp only [modStream_wakes, setQ_wakes]
theorem qPop_ids (q : QName) : (s.qPop q).1.store.ids = s.store.ids := by
  rw [qPop_fst]; split <;> simp only [modStream_ids, setQ_store]
theorem qPop_nextKey (q : QName) : (s.qPop q).1.store.nextKey = s.store.nextKey := by
  rw [qPop_fst]; split <;> simp only [modStream_nextKey, setQ_store]
theorem qPop_keys (q : QName) : (s.qPop q).1.store.slab.map (·.key) = s.store.slab.map (·.key) := by
  rw [qPop_fst]; split <;> simp only [modStream_keys, setQ_store]
theorem qPop_getQ (q q' : QName) : (s.qPop q).1.getQ q' = if q' = q then (s.getQ q).tail else s.getQ q' := by
  rw [qPop_fst]; split
  · next h =>
    split
    · next e => rw [e, h]; rfl
    · rfl
  · next h => rw [modStream_getQ, getQ_setQ, h]; rfl
theorem qPop_getQ_ne (q : QName) {q' : QName} (h : q' ≠ q) : (s.qPop q).1.getQ q' = s.getQ q' := by
  rw [qPop_getQ, if_neg h]

end queues

/-- the asserts and the counter of `dec_num_streams`; what remains is to clear `is_counted` -/
def decNumStreamsC (s : Streams) (id : Nat) : Streams :=
  let s := if (s.stream id).isCounted then s else s.panic "assertion failed: stream.is_counted"
  if s.counts.isLocalInit (s.stream id).id then
    let s := if s.counts.numSendStreams > 0 then s else s.panic "assertion failed: self.num_send_streams > 0"
    s.modCounts fun c => { c with numSendStreams := c.numSendStreams - 1 }
  else
    let s := if s.counts.numRecvStreams > 0 then s else s.panic "assertion failed: self.num_recv_streams > 0"
    s.modCounts fun c => { c with numRecvStreams := c.numRecvStreams - 1 }

theorem decNumStreams_eq (s : Streams) (id : Nat) :
    s.decNumStreams id = (s.decNumStreamsC id).modStream id fun st => { st with isCounted := false } := by
  unfold decNumStreams decNumStreamsC; dsimp only
  exact (apply_ite (fun t : Streams => t.modStream id _) _ _ _).symm

@[conn_basics] theorem decNumStreamsC_store (s : Streams) (id : Nat) :
    (s.decNumStreamsC id).store = s.store := by
  unfold decNumStreamsC; simp only [apply_ite Streams.store, modCounts_store, panic_store, ite_self]
@[conn_basics] theorem decNumStreamsC_actions (s : Streams) (id : Nat) :
    (s.decNumStreamsC id).actions = s.actions := by
  unfold decNumStreamsC; simp only [apply_ite Streams.actions, modCounts_actions, panic_actions, ite_self]
@[conn_basics] theorem decNumStreamsC_refs (s : Streams) (id : Nat) :
    (s.decNumStreamsC id).refs = s.refs := by
  unfold decNumStreamsC; simp only [apply_ite Streams.refs, modCounts_refs, panic_refs, ite_self]
@[conn_basics] theorem decNumStreamsC_wakes (s : Streams) (id : Nat) :
    (s.decNumStreamsC id).wakes = s.wakes := by
  unfold decNumStreamsC; simp only [apply_ite Streams.wakes, modCounts_wakes, panic_wakes, ite_self]

@[conn_basics] theorem decNumStreams_store (s : Streams) (id : Nat) :
    (s.decNumStreams id).store = s.store.mod id fun st => { st with isCounted := false } := by
  rw [decNumStreams_eq, modStream_store, decNumStreamsC_store]
@[conn_basics] theorem decNumStreams_actions (s : Streams) (id : Nat) : (s.decNumStreams id).actions = s.actions := by
  rw [decNumStreams_eq, modStream_actions, decNumStreamsC_actions]
@[conn_basics] theorem decNumStreams_refs (s : Streams) (id : Nat) : (s.decNumStreams id).refs = s.refs := by
  rw [decNumStreams_eq, modStream_refs, decNumStreamsC_refs]
@[conn_basics] theorem decNumStreams_wakes (s : Streams) (id : Nat) : (s.decNumStreams id).wakes = s.wakes := by
  rw [decNumStreams_eq, modStream_wakes, decNumStreamsC_wakes]
@[conn_basics] theorem decNumStreams_getQ (s : Streams) (id : Nat) (q : QName) : (s.decNumStreams id).getQ q = s.getQ q :=
  getQ_congr (decNumStreams_actions s id) q
theorem decNumStreams_ids (s : Streams) (id : Nat) : (s.decNumStreams id).store.ids = s.store.ids := by
  rw [decNumStreams_store, Store.mod_ids]
theorem decNumStreams_nextKey (s : Streams) (id : Nat) : (s.decNumStreams id).store.nextKey = s.store.nextKey := by
  rw [decNumStreams_store, Store.mod_nextKey]
theorem decNumStreams_keys (s : Streams) (id : Nat) :
    (s.decNumStreams id).store.slab.map (·.key) = s.store.slab.map (·.key) := by
  rw [decNumStreams_store, Store.mod_keys]
theorem decNumStreams_get? (s : Streams) (id j : Nat) :
    (s.decNumStreams id).store.get? j =
      if j = id then (s.store.get? id).map fun st => { st with isCounted := false } else s.store.get? j := by
  rw [decNumStreams_store, Store.get?_mod]; exact fun _ => rfl

/-- the asserts and the counter of `inc_num_send_streams` -/
def incNumSendStreamsC (s : Streams) (id : Nat) : Streams :=
  let s := if s.counts.canIncNumSendStreams then s else s.panic "assertion failed: self.can_inc_num_send_streams()"
  let s := if (s.stream id).isCounted then s.panic "assertion failed: !stream.is_counted" else s
  s.modCounts fun c => { c with numSendStreams := c.numSendStreams + 1 }

/-- the asserts and the counter of `inc_num_recv_streams` -/
def incNumRecvStreamsC (s : Streams) (id : Nat) : Streams :=
  let s := if s.counts.canIncNumRecvStreams then s else s.panic "assertion failed: self.can_inc_num_recv_streams()"
  let s := if (s.stream id).isCounted then s.panic "assertion failed: !stream.is_counted" else s
  s.modCounts fun c => { c with numRecvStreams := c.numRecvStreams + 1 }

theorem incNumSendStreams_eq (s : Streams) (id : Nat) :
    s.incNumSendStreams id = (s.incNumSendStreamsC id).modStream id fun st => { st with isCounted := true } := by rfl
theorem incNumRecvStreams_eq (s : Streams) (id : Nat) :
    s.incNumRecvStreams id = (s.incNumRecvStreamsC id).modStream id fun st => { st with isCounted := true } := by rfl

@[conn_basics] theorem incNumSendStreamsC_store (s : Streams) (id : Nat) : (s.incNumSendStreamsC id).store = s.store := by
  unfold incNumSendStreamsC; simp only [modCounts_store, ite_panic_store, ite_panic_store']
@[conn_basics] theorem incNumSendStreamsC_actions (s : Streams) (id : Nat) :
    (s.incNumSendStreamsC id).actions = s.actions := by
  unfold incNumSendStreamsC; simp only [modCounts_actions, ite_panic_actions, ite_panic_actions']
@[conn_basics] theorem incNumRecvStreamsC_store (s : Streams) (id : Nat) : (s.incNumRecvStreamsC id).store = s.store := by
  unfold incNumRecvStreamsC; simp only [modCounts_store, ite_panic_store, ite_panic_store']
@[conn_basics] theorem incNumRecvStreamsC_actions (s : Streams) (id : Nat) :
    (s.incNumRecvStreamsC id).actions = s.actions := by
  unfold incNumRecvStreamsC; simp only [modCounts_actions, ite_panic_actions, ite_panic_actions']

@[conn_basics] theorem incNumSendStreams_store (s : Streams) (id : Nat) :
    (s.incNumSendStreams id).store = s.store.mod id fun st => { st with isCounted := true } := by
  rw [incNumSendStreams_eq, modStream_store, incNumSendStreamsC_store]
@[conn_basics] theorem incNumSendStreams_actions (s : Streams) (id : Nat) : (s.incNumSendStreams id).actions = s.actions := by
  rw [incNumSendStreams_eq, modStream_actions, incNumSendStreamsC_actions]
@[conn_basics] theorem incNumRecvStreams_store (s : Streams) (id : Nat) :
    (s.incNumRecvStreams id).store = s.store.mod id fun st => { st with isCounted := true } := by
  rw [incNumRecvStreams_eq, modStream_store, incNumRecvStreamsC_store]
@[conn_basics] theorem incNumRecvStreams_actions (s : Streams) (id : Nat) : (s.incNumRecvStreams id).actions = s.actions := by
  rw [incNumRecvStreams_eq, modStream_actions, incNumRecvStreamsC_actions]

/-- `transition_after`, first stage: a stream that left the reset-expiration queue gives its reset slot back -/
def taResetCount (s : Streams) (id : Nat) (isResetCounted : Bool) : Streams :=
  if isResetCounted && !(s.stream id).isPendingResetExpiration then
    s.modCountsA "self.num_local_reset_streams > 0" Counts.decNumResetStreams
  else s

/-- second stage, `st` being the stream as it was on entry: a closed stream leaves the id map and gives
    its concurrency slot back -/
def taClose (s : Streams) (st : Stream) (id : Nat) : Streams :=
  if st.isClosed then
    let s := if !st.isPendingResetExpiration then { s with store := s.store.unlink st.id } else s
    if !st.state.isScheduledReset && st.isCounted then s.decNumStreams id else s
  else s

/-- third stage: a released stream leaves the slab -/
def taRelease (s : Streams) (id : Nat) : Streams :=
  if (s.stream id).isReleased then
    let s := if (s.stream id).isCounted then s.decNumStreams id else s
    { s with store := s.store.remove id, recvBufferLeaked := s.recvBufferLeaked + (s.stream id).pendingRecv.length }
  else s

theorem transitionAfter_eq (s : Streams) (id : Nat) (b : Bool) :
    s.transitionAfter id b = ((s.taResetCount id b).taClose (s.stream id) id).taRelease id := by rfl

@[conn_basics] theorem taResetCount_store (s : Streams) (id : Nat) (b : Bool) : (s.taResetCount id b).store = s.store := by
  unfold taResetCount; split <;> simp only [modCountsA_store]
@[conn_basics] theorem taResetCount_actions (s : Streams) (id : Nat) (b : Bool) :
    (s.taResetCount id b).actions = s.actions := by unfold taResetCount; split <;> simp only [modCountsA_actions]
@[conn_basics] theorem taResetCount_refs (s : Streams) (id : Nat) (b : Bool) : (s.taResetCount id b).refs = s.refs := by
  unfold taResetCount; split <;> simp only [modCountsA_refs]
@[conn_basics] theorem taResetCount_wakes (s : Streams) (id : Nat) (b : Bool) : (s.taResetCount id b).wakes = s.wakes := by
  unfold taResetCount; split <;> simp only [modCountsA_wakes]
@[conn_basics] theorem taResetCount_stream (s : Streams) (id : Nat) (b : Bool) (k : Nat) :
    (s.taResetCount id b).stream k = s.stream k := stream_congr_store (taResetCount_store s id b) k
theorem taResetCount_false (s : Streams) (id : Nat) : s.taResetCount id false = s := rfl

@[conn_basics] theorem taClose_actions (s : Streams) (st : Stream) (id : Nat) : (s.taClose st id).actions = s.actions := by
  unfold taClose; dsimp only; split
  · split <;> split <;> simp only [decNumStreams_actions]
  · rfl
@[conn_basics] theorem taClose_refs (s : Streams) (st : Stream) (id : Nat) : (s.taClose st id).refs = s.refs := by
  unfold taClose; dsimp only; split
  · split <;> split <;> simp only [decNumStreams_refs]
  · rfl
@[conn_basics] theorem taClose_wakes (s : Streams) (st : Stream) (id : Nat) : (s.taClose st id).wakes = s.wakes := by
  unfold taClose; dsimp only; split
  · split <;> split <;> simp only [decNumStreams_wakes]
  · rfl
theorem taClose_nextKey (s : Streams) (st : Stream) (id : Nat) : (s.taClose st id).store.nextKey = s.store.nextKey := by
  unfold taClose; dsimp only; split
  · split <;> split <;> simp only [decNumStreams_nextKey, Store.unlink_nextKey]
  · rfl
theorem taClose_keys (s : Streams) (st : Stream) (id : Nat) :
    (s.taClose st id).store.slab.map (·.key) = s.store.slab.map (·.key) := by
  unfold taClose; dsimp only; split
  · split <;> split <;> simp only [decNumStreams_keys, Store.unlink_slab]
  · rfl
theorem taClose_of_not_closed (s : Streams) {st : Stream} (h : st.isClosed = false) (id : Nat) : s.taClose st id = s := by
  unfold taClose; rw [if_neg (by rw [h]; exact Bool.false_ne_true)]

@[conn_basics] theorem taRelease_actions (s : Streams) (id : Nat) : (s.taRelease id).actions = s.actions := by
  unfold taRelease; dsimp only; split
  · split <;> simp only [decNumStreams_actions]
  · rfl
@[conn_basics] theorem taRelease_refs (s : Streams) (id : Nat) : (s.taRelease id).refs = s.refs := by
  unfold taRelease; dsimp only; split
  · split <;> simp only [decNumStreams_refs]
  · rfl
@[conn_basics] theorem taRelease_wakes (s : Streams) (id : Nat) : (s.taRelease id).wakes = s.wakes := by
  unfold taRelease; dsimp only; split
  · split <;> simp only [decNumStreams_wakes]
  · rfl
theorem taRelease_ids (s : Streams) (id : Nat) : (s.taRelease id).store.ids = s.store.ids := by
  unfold taRelease; dsimp only; split
  · split <;> simp only [decNumStreams_ids, Store.remove_ids]
  · rfl
theorem taRelease_nextKey (s : Streams) (id : Nat) : (s.taRelease id).store.nextKey = s.store.nextKey := by
  unfold taRelease; dsimp only; split
  · split <;> simp only [decNumStreams_nextKey, Store.remove_nextKey]
  · rfl
theorem taRelease_of_not_released {s : Streams} {id : Nat} (h : (s.stream id).isReleased = false) : s.taRelease id = s := by
  unfold taRelease; rw [if_neg (by rw [h]; exact Bool.false_ne_true)]

@[conn_basics] theorem transitionAfter_actions (s : Streams) (id : Nat) (b : Bool) :
    (s.transitionAfter id b).actions = s.actions := by
  rw [transitionAfter_eq, taRelease_actions, taClose_actions, taResetCount_actions]
@[conn_basics] theorem transitionAfter_refs (s : Streams) (id : Nat) (b : Bool) : (s.transitionAfter id b).refs = s.refs := by
  rw [transitionAfter_eq, taRelease_refs, taClose_refs, taResetCount_refs]
@[conn_basics] theorem transitionAfter_wakes (s : Streams) (id : Nat) (b : Bool) : (s.transitionAfter id b).wakes = s.wakes := by
  rw [transitionAfter_eq, taRelease_wakes, taClose_wakes, taResetCount_wakes]
@[conn_basics] theorem transitionAfter_getQ (s : Streams) (id : Nat) (b : Bool) (q : QName) :
    (s.transitionAfter id b).getQ q = s.getQ q := getQ_congr (transitionAfter_actions s id b) q
@[conn_basics] theorem transitionAfter_prio (s : Streams) (id : Nat) (b : Bool) : (s.transitionAfter id b).prio = s.prio :=
  prio_congr (transitionAfter_actions s id b)
@[conn_basics] theorem transitionAfter_recv (s : Streams) (id : Nat) (b : Bool) : (s.transitionAfter id b).recv = s.recv :=
  recv_congr (transitionAfter_actions s id b)
theorem transitionAfter_nextKey (s : Streams) (id : Nat) (b : Bool) :
    (s.transitionAfter id b).store.nextKey = s.store.nextKey := by
  rw [transitionAfter_eq, taRelease_nextKey, taClose_nextKey, taResetCount_store]

theorem transitionAfter_of_not_closed {s : Streams} {id : Nat} (h : (s.stream id).isClosed = false) (b : Bool) :
    s.transitionAfter id b = s.taResetCount id b := by
  rw [transitionAfter_eq, taClose_of_not_closed _ h]
  apply taRelease_of_not_released
  rw [taResetCount_stream]
  unfold Stream.isReleased; rw [h]; rfl

theorem transitionAfter_store_of_not_closed {s : Streams} {id : Nat} (h : (s.stream id).isClosed = false) (b : Bool) :
    (s.transitionAfter id b).store = s.store := by
  rw [transitionAfter_of_not_closed h, taResetCount_store]

theorem transition_eq {α : Type} (s : Streams) (id : Nat) (f : Streams → Streams × α) :
    s.transition id f = ((f s).1.transitionAfter id (s.stream id).isPendingResetExpiration, (f s).2) := by
  unfold transition; rfl
theorem transition_fst {α : Type} (s : Streams) (id : Nat) (f : Streams → Streams × α) :
    (s.transition id f).1 = (f s).1.transitionAfter id (s.stream id).isPendingResetExpiration := by
  rw [transition_eq]
theorem transition_snd {α : Type} (s : Streams) (id : Nat) (f : Streams → Streams × α) : (s.transition id f).2 = (f s).2 := by
  rw [transition_eq]

end Streams

end H2V.Model.Conn
