import H2V.Model.CodecRead
import H2V.Lemmas.CodecBytes
import H2V.Lemmas.CodecArms
/-
  Codec lemmas (goal C): `Reader.feed` does not depend on how the transport cuts the octet
  stream into chunks; an oversized length field is rejected as soon as its three octets are there.
-/
namespace H2V.Lemmas.Codec
open H2V H2V.Model.Frame H2V.Model.CodecRead

theorem afterHpack_frame (b b' : Bytes) (n n' : Option Nat) (m m' : Nat) (hp) (mhl mcf : Nat) (pb)
    c tail count eh sid res :
    afterHpack ⟨b, n, m, hp, mhl, mcf, pb⟩ c tail count eh sid res =
      ({ (afterHpack ⟨b', n', m', hp, mhl, mcf, pb⟩ c tail count eh sid res).1 with
          buf := b, need := n, maxFrameLen := m },
        (afterHpack ⟨b', n', m', hp, mhl, mcf, pb⟩ c tail count eh sid res).2) := by
  unfold afterHpack
  cases res with
  | ok _ => cases eh <;> simp
  | error e =>
    cases e <;> simp <;> (try split) <;> (try cases eh) <;> simp

theorem loadThen_frame (r : Reader) (b : Bytes) (n : Option Nat) (m : Nat) (blk : HeaderBlock) (src : Bytes)
    (dec : Model.Hpack.Decoder) (mk : HeaderBlock → Continuable) (cnt : Nat) (eh : Bool) (sid : Nat) :
    loadThen (reframe r b n m) blk src dec mk cnt eh sid =
      (reframe (loadThen r blk src dec mk cnt eh sid).1 b n m, (loadThen r blk src dec mk cnt eh sid).2) :=
  afterHpack_frame ..

theorem decodeFrame_frame (r : Reader) (b : Bytes) (n : Option Nat) (m : Nat) (bytes : Bytes) :
    decodeFrame { r with buf := b, need := n, maxFrameLen := m } bytes =
      ({ (decodeFrame r bytes).1 with buf := b, need := n, maxFrameLen := m },
        (decodeFrame r bytes).2) := by
  obtain ⟨F, a, hF⟩ := decodeFrame_arm r bytes
  rw [show decodeFrame r bytes = F r from hF r.buf r.need r.maxFrameLen]
  refine (hF b n m).trans ?_
  cases a with
  | headers => exact loadThen_frame ..
  | pushPromise => exact loadThen_frame ..
  | continuation => exact loadThen_frame { r with partialBlk := none } ..
  | _ => rfl

theorem decodeFrame_buf (r : Reader) (bytes : Bytes) : (decodeFrame r bytes).1.buf = r.buf :=
  congrArg (fun x => x.1.buf) (decodeFrame_frame r r.buf r.need r.maxFrameLen bytes)

theorem decodeFrame_need (r : Reader) (bytes : Bytes) : (decodeFrame r bytes).1.need = r.need :=
  congrArg (fun x => x.1.need) (decodeFrame_frame r r.buf r.need r.maxFrameLen bytes)

theorem decodeFrame_maxFrameLen (r : Reader) (bytes : Bytes) :
    (decodeFrame r bytes).1.maxFrameLen = r.maxFrameLen :=
  congrArg (fun x => x.1.maxFrameLen) (decodeFrame_frame r r.buf r.need r.maxFrameLen bytes)

theorem decodeFrame_with (r : Reader) (b : Bytes) (n : Option Nat) (bytes : Bytes) :
    decodeFrame { r with buf := b, need := n } bytes =
      ({ (decodeFrame r bytes).1 with buf := b, need := n }, (decodeFrame r bytes).2) :=
  (decodeFrame_frame r b n r.maxFrameLen bytes).trans (by simp only [decodeFrame_maxFrameLen])

def _root_.H2V.Model.CodecRead.Reader.app (r : Reader) (b : Bytes) : Reader := { r with buf := r.buf ++ b }

@[simp] theorem app_buf (r : Reader) (b : Bytes) : (r.app b).buf = r.buf ++ b := rfl
@[simp] theorem app_need (r : Reader) (b : Bytes) : (r.app b).need = r.need := rfl
@[simp] theorem app_maxFrameLen (r : Reader) (b : Bytes) : (r.app b).maxFrameLen = r.maxFrameLen := rfl
theorem app_app (r : Reader) (a b : Bytes) : (r.app a).app b = r.app (a ++ b) := by
  simp [Reader.app, List.append_assoc]
theorem app_nil (r : Reader) : r.app [] = r := by simp [Reader.app]

/-- `decode_head`: nothing yet / frame too large / total length of the frame awaited -/
def needOf (r : Reader) : Option (Except Unit Nat) :=
  match r.need with
  | some n => some (.ok n)
  | none =>
    if r.buf.length < 3 then none
    else if rd24 r.buf > r.maxFrameLen then some (.error ()) else some (.ok (rd24 r.buf + 9))

def itemsOf : DF → List Item
  | .frame f => [.frame f]
  | .none => []
  | .err e => [.err e]

def isErr : DF → Bool
  | .err _ => true
  | _ => false

def takeFrame (r : Reader) (n : Nat) : Reader × DF :=
  decodeFrame { r with buf := r.buf.drop n, need := none } (r.buf.take n)

theorem drain_succ (f : Nat) (r : Reader) (acc : List Item) :
    Reader.drain (f + 1) r acc =
      match needOf r with
      | none => (r, acc, false)
      | some (.error _) => (r, acc ++ [.err (.goAway FRAME_SIZE_ERROR "")], true)
      | some (.ok n) =>
        if r.buf.length < n then ({ r with need := some n }, acc, false)
        else if isErr (takeFrame r n).2 then ((takeFrame r n).1, acc ++ itemsOf (takeFrame r n).2, true)
        else Reader.drain f (takeFrame r n).1 (acc ++ itemsOf (takeFrame r n).2) := by
  rw [Reader.drain]
  unfold needOf takeFrame
  cases hn : r.need with
  | some n =>
    simp only
    split
    · rfl
    · generalize decodeFrame _ _ = x
      obtain ⟨r2, df⟩ := x
      cases df <;> simp [isErr, itemsOf]
  | none =>
    simp only
    by_cases h3 : r.buf.length < 3
    · simp only [if_pos h3]
    · simp only [if_neg h3]
      by_cases hb : rd24 r.buf > r.maxFrameLen
      · simp only [if_pos hb]
      · simp only [if_neg hb]
        split
        · rfl
        · generalize decodeFrame _ _ = x
          obtain ⟨r2, df⟩ := x
          cases df <;> simp [isErr, itemsOf]

theorem frame_mem_itemsOf {f : Frame} {df : DF} (h : Item.frame f ∈ itemsOf df) : df = .frame f := by
  cases df with
  | frame g => cases List.mem_singleton.1 h; rfl
  | none => cases h
  | err e => cases List.mem_singleton.1 h

/-- `drain`, turn by turn: an invariant of the reader kept when a length becomes known and when a frame is
    taken off the buffer is kept by `drain`, and the frames it yields are frames a turn yields -/
theorem drain_rule {I : Reader → Prop} {G : Frame → Prop}
    (hwait : ∀ r n, I r → needOf r = some (.ok n) → I { r with need := some n })
    (hturn : ∀ r n, I r → needOf r = some (.ok n) → ¬ r.buf.length < n →
      I (takeFrame r n).1 ∧ ∀ f, (takeFrame r n).2 = .frame f → G f) :
    ∀ (fuel : Nat) (r : Reader) (acc : List Item), I r → (∀ f, Item.frame f ∈ acc → G f) →
      I (Reader.drain fuel r acc).1 ∧ ∀ f, Item.frame f ∈ (Reader.drain fuel r acc).2.1 → G f
  | 0, r, acc, h, ha => ⟨h, ha⟩
  | fuel + 1, r, acc, h, ha => by
    rw [drain_succ]
    cases hn : needOf r with
    | none => exact ⟨h, ha⟩
    | some x =>
      cases x with
      | error _ =>
        refine ⟨h, fun f hf => ?_⟩
        rcases List.mem_append.1 hf with hf | hf
        · exact ha f hf
        · cases List.mem_singleton.1 hf
      | ok n =>
        simp only
        by_cases hl : r.buf.length < n
        · rw [if_pos hl]; exact ⟨hwait r n h hn, ha⟩
        · rw [if_neg hl]
          obtain ⟨t1, t2⟩ := hturn r n h hn hl
          have ha' : ∀ f, Item.frame f ∈ acc ++ itemsOf (takeFrame r n).2 → G f := fun f hf => by
            rcases List.mem_append.1 hf with hf | hf
            · exact ha f hf
            · exact t2 f (frame_mem_itemsOf hf)
          by_cases he : isErr (takeFrame r n).2 = true
          · rw [if_pos he]; exact ⟨t1, ha'⟩
          · rw [if_neg he]; exact drain_rule hwait hturn fuel _ _ t1 ha'

theorem takeFrame_buf (r : Reader) (n : Nat) : (takeFrame r n).1.buf = r.buf.drop n := by
  unfold takeFrame; rw [decodeFrame_buf]
theorem takeFrame_need (r : Reader) (n : Nat) : (takeFrame r n).1.need = none := by
  unfold takeFrame; rw [decodeFrame_need]

theorem rd24_append (a b : Bytes) (h : 3 ≤ a.length) : rd24 (a ++ b) = rd24 a := by
  match a, h with
  | x :: y :: z :: t, _ => rfl

theorem needOf_app (r : Reader) (b : Bytes) (x : Except Unit Nat) (h : needOf r = some x) :
    needOf (r.app b) = some x := by
  unfold needOf at h ⊢
  cases hn : r.need with
  | some n =>
    have hn' : (r.app b).need = some n := hn
    rw [hn] at h; rw [hn']; exact h
  | none =>
    have hn' : (r.app b).need = none := hn
    rw [hn] at h; rw [hn']
    simp only at h ⊢
    by_cases h3 : r.buf.length < 3
    · simp [h3] at h
    · rw [if_neg h3] at h
      have hlen : (r.app b).buf.length = r.buf.length + b.length := by simp
      have hrd : rd24 (r.app b).buf = rd24 r.buf := rd24_append _ _ (by omega)
      have hm : (r.app b).maxFrameLen = r.maxFrameLen := rfl
      rw [if_neg (by omega), hrd, hm]
      exact h

theorem takeFrame_app (r : Reader) (b : Bytes) (n : Nat) (h : n ≤ r.buf.length) :
    takeFrame (r.app b) n = ((takeFrame r n).1.app b, (takeFrame r n).2) := by
  unfold takeFrame
  have h1 : (r.app b).buf.take n = r.buf.take n := by
    simp only [app_buf]; exact List.take_append_of_le_length h
  have h2 : (r.app b).buf.drop n = r.buf.drop n ++ b := by
    simp only [app_buf]; exact List.drop_append_of_le_length h
  rw [h1, h2]
  have := decodeFrame_with { r with buf := r.buf.drop n, need := none } (r.buf.drop n ++ b) none (r.buf.take n)
  simp only at this
  show decodeFrame { r with buf := r.buf.drop n ++ b, need := none } _ = _
  rw [this]
  have hb := decodeFrame_buf { r with buf := r.buf.drop n, need := none } (r.buf.take n)
  have hn := decodeFrame_need { r with buf := r.buf.drop n, need := none } (r.buf.take n)
  simp only at hb hn
  simp only [Reader.app, hb, hn]

/-- enough fuel for `drain`: one unit per 9 buffered octets, one to stop, and one for a frame
    whose awaited length was fixed earlier -/
def fuelOK (f : Nat) (r : Reader) : Prop := r.buf.length / 9 + (if r.need.isSome then 2 else 1) ≤ f

theorem feed_fuelOK (r : Reader) (c : Bytes) : fuelOK ((r.app c).buf.length / 9 + 2) (r.app c) := by
  unfold fuelOK; split <;> omega

theorem fuelOK_pos {f : Nat} {r : Reader} (h : fuelOK f r) : ∃ k, f = k + 1 := by
  unfold fuelOK at h
  exact ⟨f - 1, by split at h <;> omega⟩

theorem needOf_ok_ge (r : Reader) (n : Nat) (h : needOf r = some (.ok n)) (hn : r.need = none) : 9 ≤ n := by
  unfold needOf at h
  rw [hn] at h
  simp only at h
  split at h
  · cases h
  · split at h
    · cases h
    · simp only [Option.some.injEq, Except.ok.injEq] at h; omega

theorem fuelOK_step {k : Nat} {r : Reader} {n : Nat} (hf : fuelOK (k + 1) r)
    (hn : needOf r = some (.ok n)) (hl : ¬ r.buf.length < n) : fuelOK k (takeFrame r n).1 := by
  unfold fuelOK at hf ⊢
  rw [takeFrame_buf, takeFrame_need]
  simp only [List.length_drop, Option.isSome_none, Bool.false_eq_true, if_false]
  cases hnd : r.need with
  | none =>
    have := needOf_ok_ge r n hn hnd
    rw [hnd] at hf
    simp only [Option.isSome_none, Bool.false_eq_true, if_false] at hf
    omega
  | some m =>
    rw [hnd] at hf
    simp only [Option.isSome_some, if_true] at hf
    omega

theorem drain_fuel (f : Nat) : ∀ (f' : Nat) (r : Reader) (acc : List Item), fuelOK f r → fuelOK f' r →
    Reader.drain f r acc = Reader.drain f' r acc := by
  induction f with
  | zero => intro f' r acc h; obtain ⟨k, hk⟩ := fuelOK_pos h; omega
  | succ k ih =>
    intro f' r acc h h'
    obtain ⟨k', rfl⟩ := fuelOK_pos h'
    rw [drain_succ, drain_succ]
    cases hn : needOf r with
    | none => rfl
    | some x =>
      cases x with
      | error _ => rfl
      | ok n =>
        simp only
        split
        · rfl
        · rename_i hl
          split
          · rfl
          · exact ih k' _ _ (fuelOK_step h hn hl) (fuelOK_step h' hn hl)

theorem drain_acc (f : Nat) : ∀ (r : Reader) (acc : List Item),
    Reader.drain f r acc =
      ((Reader.drain f r []).1, acc ++ (Reader.drain f r []).2.1, (Reader.drain f r []).2.2) := by
  induction f with
  | zero => intro r acc; simp [Reader.drain]
  | succ k ih =>
    intro r acc
    rw [drain_succ, drain_succ]
    cases hn : needOf r with
    | none => simp
    | some x =>
      cases x with
      | error _ => simp
      | ok n =>
        simp only
        split
        · simp
        · split
          · simp
          · rw [ih _ (acc ++ _), ih _ ([] ++ _)]
            simp

theorem drain_need_irrel (r : Reader) (n : Nat) (acc : List Item) (F F' : Nat)
    (hn : needOf r = some (.ok n)) (hF : fuelOK F r) (hF' : fuelOK F' { r with need := some n }) :
    Reader.drain F r acc = Reader.drain F' { r with need := some n } acc := by
  obtain ⟨k, rfl⟩ := fuelOK_pos hF
  obtain ⟨k', rfl⟩ := fuelOK_pos hF'
  have hn' : needOf { r with need := some n } = some (.ok n) := rfl
  have htf : takeFrame { r with need := some n } n = takeFrame r n := rfl
  rw [drain_succ, drain_succ, hn, hn']
  simp only
  split
  · rfl
  · rename_i hl
    rw [htf]
    split
    · rfl
    · have h2 := fuelOK_step hF' hn' hl
      rw [htf] at h2
      exact drain_fuel _ _ _ _ (fuelOK_step hF hn hl) h2

/-- Draining `r`, then (if still alive) draining again after `b` arrived, is draining `r` with `b`
    already there.  If `r` dies, `b` is never looked at. -/
theorem drain_app (f : Nat) : ∀ (r : Reader) (acc : List Item) (b : Bytes), fuelOK f r →
    ∀ F F', fuelOK F (r.app b) → fuelOK F' ((Reader.drain f r acc).1.app b) →
    Reader.drain F (r.app b) acc =
      if (Reader.drain f r acc).2.2 then
        ((Reader.drain f r acc).1.app b, (Reader.drain f r acc).2.1, true)
      else Reader.drain F' ((Reader.drain f r acc).1.app b) (Reader.drain f r acc).2.1 := by
  induction f with
  | zero => intro r acc b h; obtain ⟨k, hk⟩ := fuelOK_pos h; omega
  | succ k ih =>
    intro r acc b hf F F' hF hF'
    rw [drain_succ] at hF' ⊢
    cases hn : needOf r with
    | none =>
      rw [hn] at hF'
      simp only at hF' ⊢
      exact drain_fuel _ _ _ _ hF hF'
    | some x =>
      have hnb := needOf_app r b x hn
      obtain ⟨K, rfl⟩ := fuelOK_pos hF
      cases x with
      | error _ =>
        simp only [if_true]
        rw [drain_succ, hnb]
      | ok n =>
        rw [hn] at hF'
        simp only at hF' ⊢
        by_cases hl : r.buf.length < n
        · rw [if_pos hl] at hF' ⊢
          simp only [Bool.false_eq_true, if_false] at hF' ⊢
          -- `r` now remembers `n`; `r.app b` recomputes it
          have : ({ r with need := some n } : Reader).app b = { r.app b with need := some n } := rfl
          rw [this] at hF' ⊢
          exact drain_need_irrel _ _ _ _ _ hnb hF hF'
        · rw [if_neg hl] at hF' ⊢
          have hlb : ¬ (r.app b).buf.length < n := by
            simp only [app_buf, List.length_append]; omega
          rw [drain_succ, hnb]
          simp only
          rw [if_neg hlb, takeFrame_app r b n (by omega)]
          simp only
          by_cases he : isErr (takeFrame r n).2 = true
          · rw [if_pos he, if_pos he]
            simp
          · rw [if_neg he] at hF' ⊢
            rw [if_neg he]
            have hK := fuelOK_step hF hnb hlb
            rw [takeFrame_app r b n (by omega)] at hK
            exact ih _ _ b (fuelOK_step hf hn hl) K F' hK hF'

theorem feed_eq (r : Reader) (c : Bytes) :
    r.feed c = Reader.drain ((r.app c).buf.length / 9 + 2) (r.app c) [] := rfl

/-- CHUNK INVARIANCE (two chunks).  For every reader state `r` and octets `a`, `b`: feeding `a ++ b`
    at once gives
      * if feeding `a` kills the stream: the same items, dead, and `b` merely sits in the buffer;
      * otherwise exactly the reader state reached by feeding `a` then `b` (all fields, including
        `buf`, `need`, the HPACK decoder and the partial header block), the concatenated items,
        and the same dead-ness. -/
theorem feed_append (r : Reader) (a b : Bytes) :
    r.feed (a ++ b) =
      if (r.feed a).2.2 then ((r.feed a).1.app b, (r.feed a).2.1, true)
      else (((r.feed a).1.feed b).1, (r.feed a).2.1 ++ ((r.feed a).1.feed b).2.1, ((r.feed a).1.feed b).2.2) := by
  rw [feed_eq r (a ++ b), ← app_app]
  have := drain_app _ (r.app a) [] b (feed_fuelOK r a) _ _ (feed_fuelOK (r.app a) b) (feed_fuelOK (r.feed a).1 b)
  rw [← feed_eq r a] at this
  rw [this]
  split
  · rfl
  · rw [drain_acc, ← feed_eq]

/-- feeding a list of chunks, stopping at the death of the stream -/
def feedAll (r : Reader) : List Bytes → Reader × List Item × Bool
  | [] => (r, [], false)
  | c :: cs =>
    if (r.feed c).2.2 then r.feed c
    else ((feedAll (r.feed c).1 cs).1, (r.feed c).2.1 ++ (feedAll (r.feed c).1 cs).2.1, (feedAll (r.feed c).1 cs).2.2)

/-- CHUNK INVARIANCE (any number of chunks, at least one): the items delivered and the death of the
    stream depend only on the concatenation of the chunks; when the stream survives, so does the
    whole reader state. -/
theorem feed_chunks_cons (c : Bytes) (cs : List Bytes) : ∀ (r : Reader),
    (feedAll r (c :: cs)).2 = (r.feed (c :: cs).flatten).2 ∧
    ((feedAll r (c :: cs)).2.2 = false → (feedAll r (c :: cs)).1 = (r.feed (c :: cs).flatten).1) := by
  induction cs generalizing c with
  | nil =>
    intro r
    simp only [feedAll, List.flatten_cons, List.flatten_nil, List.append_nil]
    by_cases hd : (r.feed c).2.2 = true
    · rw [if_pos hd]; exact ⟨rfl, fun _ => rfl⟩
    · rw [if_neg hd]
      refine ⟨Prod.ext rfl ?_, fun _ => rfl⟩
      simp only [Bool.not_eq_true] at hd
      exact hd.symm
  | cons d ds ih =>
    intro r
    have hflat : (c :: d :: ds).flatten = c ++ (d :: ds).flatten := rfl
    rw [hflat, feed_append]
    rw [feedAll]
    by_cases hd : (r.feed c).2.2 = true
    · rw [if_pos hd, if_pos hd]
      refine ⟨?_, fun h => ?_⟩
      · exact Prod.ext rfl hd
      · rw [hd] at h; cases h
    · rw [if_neg hd, if_neg hd]
      obtain ⟨h1, h2⟩ := ih d (r.feed c).1
      refine ⟨?_, fun h => ?_⟩
      · simp only
        rw [show (feedAll (r.feed c).1 (d :: ds)).2.1 = ((r.feed c).1.feed (d :: ds).flatten).2.1 from congrArg Prod.fst h1,
          show (feedAll (r.feed c).1 (d :: ds)).2.2 = ((r.feed c).1.feed (d :: ds).flatten).2.2 from congrArg Prod.snd h1]
      · exact h2 h

/-- a reader that has nothing to do with what it holds: what `feed` leaves behind when it survives -/
def Quiescent (r : Reader) : Prop := r.feed [] = (r, [], false)

theorem feed_quiescent (r : Reader) (c : Bytes) (h : (r.feed c).2.2 = false) : Quiescent (r.feed c).1 := by
  have := feed_append r c []
  rw [List.append_nil, if_neg (by simp [h])] at this
  unfold Quiescent
  have h1 := congrArg (fun x => x.2.1) this
  have h2 := congrArg (fun x => x.2.2) this
  have h3 := congrArg (fun x => x.1) this
  simp only at h1 h2 h3
  refine Prod.ext h3.symm (Prod.ext ?_ ?_)
  · simpa using h1
  · simp only; rw [← h2, h]

theorem new_quiescent (maxFrame : Nat) : Quiescent (Reader.new maxFrame) := by
  unfold Quiescent
  rw [feed_eq, drain_succ]
  rfl

theorem feed_chunks (r : Reader) (chunks : List Bytes) (hq : chunks = [] → Quiescent r) :
    (feedAll r chunks).2 = (feedAll r [chunks.flatten]).2 := by
  cases chunks with
  | nil =>
    have := hq rfl
    unfold Quiescent at this
    simp [feedAll, this]
  | cons c cs =>
    rw [(feed_chunks_cons c cs r).1]
    simp only [feedAll]
    split
    · rfl
    · rename_i h
      exact Prod.ext (by simp) (by simpa using h)

theorem feed_chunks_state (r : Reader) (c : Bytes) (cs : List Bytes) (h : (feedAll r (c :: cs)).2.2 = false) :
    (feedAll r (c :: cs)).1 = (r.feed (c :: cs).flatten).1 :=
  (feed_chunks_cons c cs r).2 h

/-- `need = some n` means: the three length octets are buffered, `n` is the total frame length they
    announce, and it passed the size check -/
def NeedInv (r : Reader) : Prop :=
  ∀ n, r.need = some n → 3 ≤ r.buf.length ∧ n = rd24 r.buf + 9 ∧ rd24 r.buf ≤ r.maxFrameLen

theorem needInv_app (r : Reader) (b : Bytes) (h : NeedInv r) : NeedInv (r.app b) := by
  intro n hn
  obtain ⟨h1, h2, h3⟩ := h n hn
  simp only [app_buf, app_maxFrameLen, List.length_append, rd24_append _ _ h1]
  exact ⟨by omega, h2, h3⟩

theorem needOf_ok_inv (r : Reader) (n : Nat) (hi : NeedInv r) (h : needOf r = some (.ok n)) :
    3 ≤ r.buf.length ∧ n = rd24 r.buf + 9 ∧ rd24 r.buf ≤ r.maxFrameLen := by
  unfold needOf at h
  cases hn : r.need with
  | some m =>
    rw [hn] at h
    simp only [Option.some.injEq, Except.ok.injEq] at h
    subst h
    exact hi m hn
  | none =>
    rw [hn] at h
    simp only at h
    split at h
    · cases h
    · split at h
      · cases h
      · simp only [Option.some.injEq, Except.ok.injEq] at h
        exact ⟨by omega, h.symm, by omega⟩

theorem drain_inv (f : Nat) : ∀ (r : Reader) (acc : List Item), fuelOK f r → NeedInv r →
    NeedInv (Reader.drain f r acc).1 ∧
    ((Reader.drain f r acc).2.2 = false →
      (∀ n, (Reader.drain f r acc).1.need = some n → (Reader.drain f r acc).1.buf.length < n) ∧
      ((Reader.drain f r acc).1.need = none → (Reader.drain f r acc).1.buf.length < 3)) := by
  induction f with
  | zero => intro r acc h; obtain ⟨k, hk⟩ := fuelOK_pos h; omega
  | succ k ih =>
    intro r acc hf hi
    rw [drain_succ]
    cases hn : needOf r with
    | none =>
      simp only
      refine ⟨hi, fun _ => ⟨?_, ?_⟩⟩
      · intro n hnd; unfold needOf at hn; rw [hnd] at hn; cases hn
      · intro hnd
        unfold needOf at hn
        rw [hnd] at hn
        simp only at hn
        split at hn
        · assumption
        · split at hn <;> cases hn
    | some x =>
      cases x with
      | error _ => exact ⟨hi, fun h => by cases h⟩
      | ok n =>
        simp only
        have hinv := needOf_ok_inv r n hi hn
        by_cases hl : r.buf.length < n
        · rw [if_pos hl]
          refine ⟨?_, fun _ => ⟨?_, ?_⟩⟩
          · intro m hm
            simp only [Option.some.injEq] at hm
            subst hm
            exact hinv
          · intro m hm
            simp only [Option.some.injEq] at hm
            subst hm
            exact hl
          · intro h; cases h
        · rw [if_neg hl]
          have hnone : NeedInv (takeFrame r n).1 := by
            intro m hm; rw [takeFrame_need] at hm; cases hm
          by_cases he : isErr (takeFrame r n).2 = true
          · rw [if_pos he]
            exact ⟨hnone, fun h => by cases h⟩
          · rw [if_neg he]
            exact ih _ _ (fuelOK_step hf hn hl) hnone

theorem feed_inv (r : Reader) (c : Bytes) (hi : NeedInv r) :
    NeedInv (r.feed c).1 ∧
    ((r.feed c).2.2 = false →
      (∀ n, (r.feed c).1.need = some n → (r.feed c).1.buf.length < n) ∧
      ((r.feed c).1.need = none → (r.feed c).1.buf.length < 3)) :=
  drain_inv _ _ _ (feed_fuelOK r c) (needInv_app r c hi)

def AtBoundary (r : Reader) : Prop := r.buf = [] ∧ r.need = none

theorem needOf_boundary {r : Reader} (hb : AtBoundary r) (c : Bytes) :
    needOf (r.app c) =
      if c.length < 3 then none
      else if rd24 c > r.maxFrameLen then some (.error ()) else some (.ok (rd24 c + 9)) := by
  unfold needOf
  simp only [app_need, app_buf, app_maxFrameLen, hb.1, hb.2, List.nil_append]

/-- `rx_oversize_rejected`, one chunk: as soon as the three length octets are there and announce more
    than `maxFrameLen`, the only item is the connection error FRAME_SIZE_ERROR; nothing is delivered,
    whatever else (or nothing else) the chunk contains -/
theorem rx_oversize_rejected_feed (r : Reader) (hb : AtBoundary r) (c : Bytes)
    (h3 : 3 ≤ c.length) (hbig : rd24 c > r.maxFrameLen) :
    r.feed c = (r.app c, [.err (.goAway FRAME_SIZE_ERROR "")], true) := by
  rw [feed_eq, drain_succ, needOf_boundary hb, if_neg (by omega), if_pos hbig]
  rfl

/-- `rx_oversize_rejected`: ANY chunk sequence whose concatenation starts with three octets announcing
    more than `maxFrameLen` yields exactly `[FRAME_SIZE_ERROR]` and a dead stream -/
theorem rx_oversize_rejected (r : Reader) (hb : AtBoundary r) (chunks : List Bytes)
    (h3 : 3 ≤ chunks.flatten.length) (hbig : rd24 chunks.flatten > r.maxFrameLen) :
    (feedAll r chunks).2 = ([.err (.goAway FRAME_SIZE_ERROR "")], true) := by
  cases chunks with
  | nil => simp at h3
  | cons c cs =>
    rw [(feed_chunks_cons c cs r).1, rx_oversize_rejected_feed r hb _ h3 hbig]

/-- … and it happens no later than the chunk that completes the three octets: chunks after the death
    of the stream are not even looked at (so in particular the payload need not have arrived) -/
theorem feedAll_dead_append (r : Reader) (cs more : List Bytes) (h : (feedAll r cs).2.2 = true) :
    feedAll r (cs ++ more) = feedAll r cs := by
  induction cs generalizing r with
  | nil => simp [feedAll] at h
  | cons c cs ih =>
    rw [List.cons_append]
    simp only [feedAll] at h ⊢
    by_cases hd : (r.feed c).2.2 = true
    · simp only [if_pos hd]
    · simp only [if_neg hd] at h ⊢
      rw [ih _ h]

theorem rx_oversize_rejected_early (r : Reader) (hb : AtBoundary r) (cs more : List Bytes)
    (h3 : 3 ≤ cs.flatten.length) (hbig : rd24 cs.flatten > r.maxFrameLen) :
    (feedAll r (cs ++ more)).2 = ([.err (.goAway FRAME_SIZE_ERROR "")], true) := by
  have h := rx_oversize_rejected r hb cs h3 hbig
  rw [feedAll_dead_append r cs more (by rw [h]), h]

theorem feed_short (r : Reader) (hb : AtBoundary r) (c : Bytes) (h3 : c.length < 3) :
    r.feed c = (r.app c, [], false) := by
  rw [feed_eq, drain_succ, needOf_boundary hb, if_pos h3]

end H2V.Lemmas.Codec
