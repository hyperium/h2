import H2V.Lemmas.ConnCountsPInvA
/-
  C19 / C18 — queue ↔ flag consistency.
  For each of the intrusive queues `pending_send`, `pending_capacity`, `pending_open`,
  `pending_window_updates`, `pending_reset_expired`:
    * every queued key is a live slab entry whose `is_pending_*` flag (`reset_at` for the reset
      queue) is set — no queue ever holds a stale key;
    * every live entry whose flag is set is in the queue;
    * no key is queued twice.
  (`QOK`.)  It holds along `Ev` / `EvT` as long as no `assert!`/dangling-key panic of the real code
  fires.  `pending_accept` is left out: its link field `is_pending_accept` is shared with the parent's
  `pending_push_promises` queue, which lives inside the parent stream.
  `QF q`: the steps that leave queue `q` and its flags alone; from the step layer by `QF.of_step` (kinds `QF.kinds q`:
  all but the queue's own push and pop).
-/
namespace H2V.Lemmas.ConnCountsP
open H2V H2V.Model H2V.Model.Conn
variable {ρ : Bool}

/-- `k` is a live slab entry with the link flag of queue `q` set -/
def Flagged (q : QName) (s : Streams) (k : Nat) : Prop := ∃ x, s.store.get? k = some x ∧ x.isQueued q = true

/-- queue `q` holds exactly the live flagged entries, each once -/
structure QOK (q : QName) (s : Streams) : Prop where
  mem : ∀ k, k ∈ s.getQ q ↔ Flagged q s k
  nodup : (s.getQ q).Nodup

/-- a step that leaves queue `q` and the set of `q`-flagged live entries alone -/
structure QF (q : QName) (s s' : Streams) : Prop where
  queue : s'.getQ q = s.getQ q
  fl : ∀ k, Flagged q s' k ↔ Flagged q s k

theorem QF.refl (q : QName) (s : Streams) : QF q s s := ⟨rfl, fun _ => Iff.rfl⟩
theorem QF.trans {q : QName} {a b c : Streams} (h1 : QF q a b) (h2 : QF q b c) : QF q a c :=
  ⟨h2.queue.trans h1.queue, fun k => (h2.fl k).trans (h1.fl k)⟩

theorem QF.qok {q : QName} {s s' : Streams} (h : QF q s s') (hi : QOK q s) : QOK q s' :=
  ⟨fun k => by rw [h.queue, h.fl]; exact hi.mem k, by rw [h.queue]; exact hi.nodup⟩

theorem QF.of_store_q {q : QName} {s s' : Streams} (h1 : s'.store = s.store) (h2 : s'.getQ q = s.getQ q) : QF q s s' :=
  ⟨h2, fun k => by unfold Flagged; rw [h1]⟩

theorem QF.panic' (q : QName) (s : Streams) (m : String) : QF q s (s.panic m) := .of_store_q (panic_store _ _) (Streams.panic_getQ _ _ _)
theorem QF.setStream (q : QName) (s : Streams) (st' : Stream)
    (h : ∀ x, s.store.get? st'.key = some x → st'.isQueued q = x.isQueued q) : QF q s (s.setStream st') := by
  refine ⟨rfl, fun k => ?_⟩
  unfold Flagged
  rw [Streams.setStream_get?]
  split
  · next hk =>
    subst hk
    cases hx : s.store.get? st'.key with
    | none => simp
    | some x => simp [h x hx]
  · exact Iff.rfl

theorem QF.closed (q : QName) : PrimClosed (QF q) (fun x y => y.isQueued q = x.isQueued q) (fun _ q' _ => q ≠ q') (fun _ _ => True) :=
  ⟨QF.refl q, QF.trans, fun h => .of_store_q h.store (h.q q), QF.setStream q,
   fun _ _ _ h => .of_store_q (setQ_store _ _ _) (getQ_setQ_ne _ _ _ _ h), fun _ _ _ => .of_store_q rfl rfl⟩

theorem QF.modCountsA (q : QName) (s : Streams) (w : String) (f : Counts → Option Counts) : QF q s (s.modCountsA w f) :=
  (QF.closed q).modCountsA s w f fun _ _ => trivial

theorem QF.modStream (q : QName) (s : Streams) (k : Nat) (f : Stream → Stream) (hk : ∀ x, (f x).key = x.key)
    (hf : ∀ x, (f x).isQueued q = x.isQueued q) : QF q s (s.modStream k f) := (QF.closed q).modStream s k f hk fun x _ => hf x

theorem setQueued_isQueued_ne (x : Stream) (q q' : QName) (v : Bool) (h : q ≠ q') : (x.setQueued q' v).isQueued q = x.isQueued q :=
  x.isQueued_setQueued_ne h v

theorem QF.qPush (q q' : QName) (s : Streams) (k : Nat) (h : q ≠ q') : QF q s (s.qPush q' k).1 :=
  (QF.closed q).qPush s q' k (setQueued_isQueued_ne · q q' true h) fun _ => h

theorem QF.qPushFront (q q' : QName) (s : Streams) (k : Nat) (h : q ≠ q') : QF q s (s.qPushFront q' k).1 :=
  (QF.closed q).qPushFront s q' k (setQueued_isQueued_ne · q q' true h) fun _ => h

theorem QF.qPop (q q' : QName) (s : Streams) (h : q ≠ q') : QF q s (s.qPop q').1 :=
  (QF.closed q).qPop s q' (setQueued_isQueued_ne · q q' false h) fun _ _ _ => h

theorem isQueued_setCounted (x : Stream) (v : Bool) (q : QName) : ({ x with isCounted := v } : Stream).isQueued q = x.isQueued q := by
  cases q <;> rfl

theorem QF.incNumSendStreams (q : QName) (s : Streams) (k : Nat) : QF q s (s.incNumSendStreams k) :=
  (QF.closed q).incNumSendStreams s k (fun _ => trivial) (isQueued_setCounted · true q)
theorem QF.incNumRecvStreams (q : QName) (s : Streams) (k : Nat) : QF q s (s.incNumRecvStreams k) :=
  (QF.closed q).incNumRecvStreams s k (fun _ => trivial) (isQueued_setCounted · true q)
theorem QF.decNumStreams (q : QName) (s : Streams) (k : Nat) : QF q s (s.decNumStreams k) :=
  (QF.closed q).decNumStreams s k (fun _ _ _ => trivial) (isQueued_setCounted · false q)

theorem QF.unlink (q : QName) (s : Streams) (id : Nat) : QF q s { s with store := s.store.unlink id } := ⟨rfl, fun _ => Iff.rfl⟩

theorem QF.insert (q : QName) (s : Streams) (st : Stream) (h : st.isQueued q = false) :
    QF q s { s with store := (s.store.insert st).1 } := by
  refine ⟨rfl, ?_⟩
  intro k
  unfold Flagged
  show (∃ x, (s.store.insert st).1.get? k = some x ∧ _) ↔ _
  rcases insert_get?_cases s.store st k with e | ⟨e1, _, e3⟩
  · rw [e]
  · rw [e1, e3]
    constructor
    · rintro ⟨x, hx, hq⟩
      cases hx
      have : ({ st with key := s.store.nextKey } : Stream).isQueued q = st.isQueued q := by cases q <;> rfl
      rw [this, h] at hq; cases hq
    · rintro ⟨x, hx, _⟩; cases hx

theorem QF.remove (q : QName) (s : Streams) (k n : Nat) (h : ∀ st, s.store.get? k = some st → st.isQueued q = false) :
    QF q s { s with store := s.store.remove k, recvBufferLeaked := n } := by
  refine ⟨rfl, ?_⟩
  intro j
  unfold Flagged
  show (∃ x, (s.store.remove k).get? j = some x ∧ _) ↔ _
  by_cases hj : j = k
  · subst hj
    rw [remove_get?_self]
    constructor
    · rintro ⟨x, hx, _⟩; cases hx
    · rintro ⟨x, hx, hq⟩; rw [h x hx] at hq; cases hq
  · rw [remove_get?_ne _ _ _ hj]

theorem QF.modStream' (q : QName) (s : Streams) (k : Nat) (f : Stream → Stream)
    (hk : (f (s.stream k)).key = k) (hf : (f (s.stream k)).isQueued q = (s.stream k).isQueued q) :
    QF q s (s.modStream k f) := by
  cases hx : s.store.get? k with
  | none => rw [Streams.modStream_of_none hx]; exact QF.panic' _ _ _
  | some x =>
    rw [Streams.stream_of_get? hx] at hk hf
    rw [Streams.modStream_of_some hx]
    exact QF.setStream q s _ fun y hy => by rw [hk, hx] at hy; cases hy; exact hf

theorem QF.modStreamW' (q : QName) (s : Streams) (k : Nat) (f : Stream → Stream × List String)
    (hk : (f (s.stream k)).1.key = k) (hf : (f (s.stream k)).1.isQueued q = (s.stream k).isQueued q) :
    QF q s (s.modStreamW k f) := by
  rcases Streams.modStreamW_eq s k f with e | ⟨_, e⟩ <;> rw [e]
  · exact (QF.modStream' q s k _ hk hf).trans (.of_store_q rfl rfl)
  · exact QF.modStream' q s k _ hk hf

/-- the kinds of update `QF q` takes: all but the queue's own push and pop, a write of `is_pending_accept` by hand
    when `q` is `pending_accept`, and a new entry (its roll-back removes an entry of which nothing is known) -/
def QF.kinds (q : QName) : Kind → Bool
  | .enqueue q' | .dequeue q' => decide (q' ≠ q)
  | .promise => decide (q ≠ .pendingAccept)
  | .insert => false
  | _ => true

theorem isQueued_of_upd {q : QName} {x y : Stream} (h : Stream.Upd (QF.kinds q) x y) : y.isQueued q = x.isQueued q := by
  cases h with
  | accept v h =>
    have hq : q ≠ .pendingAccept := of_decide_eq_true h
    cases q <;> first | rfl | exact absurd rfl hq
  | sendData n m => rw [Stream.sendData_fst]; split <;> cases q <;> rfl
  | decContentLength n _ h => obtain ⟨_, rfl⟩ := Stream.decContentLength_eq h; cases q <;> rfl
  | _ => cases q <;> rfl

theorem QF.of_step {q : QName} {s s' : Streams} (h : Streams.Step (QF.kinds q) s s') :
    QF q s s' := by
  induction h with
  | refl s => exact .refl q s
  | trans _ _ ih1 ih2 => exact ih1.trans ih2
  | panic s m => exact QF.panic' q s m
  | unsup s m =>
    unfold Streams.unsup; split
    · exact .refl _ _
    · exact .of_store_q rfl rfl
  | notifyTask s _ =>
    unfold Streams.notifyTask; split
    · exact .of_store_q rfl rfl
    · exact .refl _ _
  | wake | setTask | setConnError | setRefs | setCounts => exact .of_store_q rfl rfl
  | modPrio s f h =>
    have := h.queues
    exact .of_store_q rfl (by cases q <;> first | rfl | exact this.1 | exact this.2.1 | exact this.2.2)
  | modSend s f h =>
    have := congrArg (fun p : Prioritize => (p.pendingSend, p.pendingCapacity, p.pendingOpen)) h.prioritize
    exact .of_store_q rfl (by
      cases q <;> first | rfl | exact congrArg (·.1) this | exact congrArg (·.2.1) this | exact congrArg (·.2.2) this)
  | modRecv s f h =>
    have := h.queues
    exact .of_store_q rfl (by cases q <;> first | rfl | exact this.1 | exact this.2.1 | exact this.2.2)
  | qPush s q' k h => exact QF.qPush q q' s k (of_decide_eq_true h : q' ≠ q).symm
  | qPushFront s q' k h => exact QF.qPushFront q q' s k (of_decide_eq_true h : q' ≠ q).symm
  | qPop s q' h => exact QF.qPop q q' s (of_decide_eq_true h : q' ≠ q).symm
  | incNumSendStreams s k _ => exact QF.incNumSendStreams q s k
  | incNumRecvStreams s k _ => exact QF.incNumRecvStreams q s k
  | decNumStreams s k => exact QF.decNumStreams q s k
  | modStream s k f h => exact QF.modStream' q s k f (h.key.trans (Streams.stream_key s k)) (isQueued_of_upd h)
  | modStreamW s k f h => exact QF.modStreamW' q s k f (h.key.trans (Streams.stream_key s k)) (h.isQueued q)
  | setStream s x h =>
    exact QF.setStream q s x fun y hy => by rw [← Streams.stream_of_get? hy]; exact isQueued_of_upd h
  | insert _ _ _ _ h | insertWith _ _ _ _ _ h | undoInsert _ _ _ h => exact absurd h Bool.false_ne_true
  | unlink s id _ => exact QF.unlink q s id
  | remove s k n _ h =>
    exact QF.remove q s k n fun st hst => isReleased_flags (Streams.stream_of_get? hst ▸ h) q

theorem QF.transitionAfter (q : QName) (s : Streams) (k : Nat) (b : Bool) :
    QF q s (s.transitionAfter k b) := .of_step (Streams.transitionAfter_step (of_decide_eq_true rfl) s k b)

theorem flagged_modStream_set (q : QName) (s : Streams) (k : Nat) (v : Bool) (x : Stream) (hx : s.store.get? k = some x) (j : Nat) :
    Flagged q (s.modStream k fun st => st.setQueued q v) j ↔ (if j = k then v = true else Flagged q s j) := by
  unfold Streams.modStream
  rw [hx]
  dsimp only
  unfold Flagged
  rw [setStream_get?]
  by_cases hj : j = k
  · subst hj
    have hk := get?_key hx
    simp only [hx, Option.map_some, setQueued_key, BEq.rfl, if_true, Option.some.injEq, exists_eq_left', Stream.isQueued_setQueued_self]
  · simp only [if_neg hj]
    cases hy : s.store.get? j with
    | none => simp
    | some y =>
      have : (y.key == (x.setQueued q v).key) = false := by
        rw [setQueued_key, get?_key hy, get?_key hx]; simpa using hj
      simp only [Option.map_some, this, Bool.false_eq_true, if_false]

theorem modStream_dangling_panics (s : Streams) (k : Nat) (f : Stream → Stream) (h : s.store.get? k = none) :
    (s.modStream k f).panicked.isSome = true := by
  rw [Streams.modStream_of_none h]; exact panic_isSome _ _

theorem getQ_modStream (s : Streams) (k : Nat) (f : Stream → Stream) (q : QName) : (s.modStream k f).getQ q = s.getQ q :=
  s.modStream_getQ k f q

theorem modStream_panicked_of (s : Streams) (k : Nat) (f : Stream → Stream) (h : s.panicked.isSome = true) :
    (s.modStream k f).panicked.isSome = true := by
  cases hx : s.store.get? k with
  | none => rw [Streams.modStream_of_none hx]; exact panic_isSome _ _
  | some x => rw [Streams.modStream_panicked_of_some hx]; exact h

theorem not_flagged_of_stream {q : QName} {s : Streams} {k : Nat} (h : ¬ (s.stream k).isQueued q = true) : ¬ Flagged q s k := by
  rintro ⟨x, hx, hq⟩
  rw [stream_of_get? hx] at h; exact h hq

theorem QOK.enq {q : QName} {s : Streams} {k : Nat} {l : List Nat} (hi : QOK q s) (hfl : ¬ (s.stream k).isQueued q = true)
    (hmem : ∀ j, j ∈ l ↔ j = k ∨ j ∈ s.getQ q) (hnd : k ∉ s.getQ q → l.Nodup)
    (hp : ((s.modStream k fun st => st.setQueued q true).setQ q l).panicked = none) :
    QOK q ((s.modStream k fun st => st.setQueued q true).setQ q l) := by
  cases hx : s.store.get? k with
  | none =>
    have := modStream_dangling_panics s k (fun st => st.setQueued q true) hx
    rw [setQ_panicked] at hp; rw [hp] at this; cases this
  | some x =>
    have hnm : k ∉ s.getQ q := fun h => not_flagged_of_stream hfl ((hi.mem k).mp h)
    refine ⟨fun j => ?_, by rw [getQ_setQ]; exact hnd hnm⟩
    have : Flagged q ((s.modStream k fun st => st.setQueued q true).setQ q l) j ↔
        Flagged q (s.modStream k fun st => st.setQueued q true) j := by unfold Flagged; rw [setQ_store]
    rw [getQ_setQ, this, flagged_modStream_set q s k true x hx j, hmem j, hi.mem j]
    by_cases hj : j = k <;> simp [hj]

theorem QOK.qPush {q : QName} {s : Streams} (k : Nat) (hi : QOK q s) (hp : (s.qPush q k).1.panicked = none) : QOK q (s.qPush q k).1 := by
  unfold Streams.qPush at hp ⊢
  split
  · exact hi
  · next hfl =>
    rw [if_neg hfl] at hp
    refine hi.enq hfl (fun j => by rw [List.mem_append, List.mem_singleton]; exact Or.comm) (fun hnm => ?_) hp
    exact List.nodup_append.mpr ⟨hi.nodup, (by simp), fun a ha b hb => by
      rw [List.mem_singleton] at hb; subst hb; intro he; subst he; exact hnm ha⟩

theorem QOK.qPushFront {q : QName} {s : Streams} (k : Nat) (hi : QOK q s) (hp : (s.qPushFront q k).1.panicked = none) :
    QOK q (s.qPushFront q k).1 := by
  unfold Streams.qPushFront at hp ⊢
  split
  · exact hi
  · next hfl =>
    rw [if_neg hfl] at hp
    exact hi.enq hfl (fun j => List.mem_cons) (fun hnm => List.nodup_cons.mpr ⟨hnm, hi.nodup⟩) hp

theorem QOK.qPop {q : QName} {s : Streams} (hi : QOK q s) : QOK q (s.qPop q).1 := by
  unfold Streams.qPop
  split
  · exact hi
  · next id rest heq =>
    dsimp only
    have hmem := hi.mem
    have hnd := hi.nodup
    rw [heq] at hmem hnd
    obtain ⟨x, hx, _⟩ := (hmem id).mp (List.mem_cons_self ..)
    have hx' : (s.setQ q rest).store.get? id = some x := by rw [setQ_store]; exact hx
    have hnd' := List.nodup_cons.mp hnd
    refine ⟨?_, ?_⟩
    · intro j
      rw [getQ_modStream, getQ_setQ, flagged_modStream_set q _ id false x hx' j]
      have : Flagged q (s.setQ q rest) j ↔ Flagged q s j := by unfold Flagged; rw [setQ_store]
      rw [this, ← hmem j, List.mem_cons]
      by_cases hj : j = id
      · subst hj; simp [hnd'.1]
      · simp [hj]
    · rw [getQ_modStream, getQ_setQ]; exact hnd'.2

/-- a step under which `QOK q` survives unless it panics -/
structure QStep (q : QName) (s s' : Streams) : Prop where
  mono : s.panicked.isSome = true → s'.panicked.isSome = true
  ok : s'.panicked = none → QOK q s → QOK q s'

theorem QStep.trans {q : QName} {a b c : Streams} (h1 : QStep q a b) (h2 : QStep q b c) : QStep q a c := by
  refine ⟨fun h => h2.mono (h1.mono h), ?_⟩
  intro hp hi
  exact h2.ok hp (h1.ok (noPanic_of_mono h2.mono hp) hi)

theorem QStep.of_qf {q : QName} {s s' : Streams} (h : QF q s s') (hm : Mono s s') : QStep q s s' :=
  ⟨hm.panic, fun _ hi => h.qok hi⟩

theorem QStep.push (q q' : QName) (s : Streams) (k : Nat) : QStep q s (s.qPush q' k).1 := by
  by_cases h : q = q'
  · subst h; exact ⟨(Mono.qPush _ _ _).panic, fun hp hi => hi.qPush k hp⟩
  · exact .of_qf (QF.qPush q q' s k h) (Mono.qPush _ _ _)

theorem QStep.pushFront (q q' : QName) (s : Streams) (k : Nat) : QStep q s (s.qPushFront q' k).1 := by
  by_cases h : q = q'
  · subst h; exact ⟨(Mono.qPushFront _ _ _).panic, fun hp hi => hi.qPushFront k hp⟩
  · exact .of_qf (QF.qPushFront q q' s k h) (Mono.qPushFront _ _ _)

theorem qPop_panic_mono (s : Streams) (q : QName) (h : s.panicked.isSome = true) : (s.qPop q).1.panicked.isSome = true := by
  unfold Streams.qPop; split
  · exact h
  · exact modStream_panicked_of _ _ _ (by rw [setQ_panicked]; exact h)

theorem QStep.pop (q q' : QName) (s : Streams) : QStep q s (s.qPop q').1 := by
  by_cases h : q = q'
  · subst h; exact ⟨qPop_panic_mono _ _, fun _ hi => hi.qPop⟩
  · exact ⟨qPop_panic_mono _ _, fun _ hi => (QF.qPop q q' s h).qok hi⟩

theorem QStep.closed (q : QName) : PrimClosed (QStep q)
    (fun x y => y.isQueued q = x.isQueued q ∧ (x.resetAt = true → y.resetAt = true)) (fun _ q' _ => q ≠ q') CM :=
  ⟨fun s => .of_qf (QF.refl q s) (Mono.refl s), QStep.trans, fun h => .of_qf ((QF.closed q).frame h) (Mono.closed.frame h),
   fun s st' h => .of_qf (QF.setStream q s st' fun x hx => (h x hx).1) (Mono.closed.setStream s st' fun x hx => (h x hx).2),
   fun s q' l h => .of_qf ((QF.closed q).setQ s q' l h) (Mono.closed.setQ s q' l trivial),
   fun s c h => .of_qf (.of_store_q rfl rfl) (Mono.closed.setCounts s c h)⟩

theorem EvB.qstep {s s' : Streams} (h : EvB ρ s s') (q : QName) (hq : q ≠ .pendingAccept) : QStep q s s' :=
  EvB.closed (QStep.closed q) (fun hs => ⟨hs.fl q, hs.resetAt⟩)
    (fun _ _ => ⟨by cases q <;> first | rfl | exact absurd rfl hq, fun h => h⟩)
    (fun x v => ⟨isQueued_setCounted x v q, fun h => h⟩) (fun _ _ => ⟨by cases q <;> rfl, fun h => h⟩)
    (fun _ _ _ => ⟨by cases q <;> rfl, fun h => h⟩) (fun t q' k => QStep.push q q' t k) (fun t q' k => QStep.pushFront q q' t k) (fun t q' _ => QStep.pop q q' t)
    cm_num (fun _ s st hf => .of_qf (QF.insert q s st (hf.fl q)) (Mono.insert s st))
    (fun s id => .of_qf (QF.unlink q s id) ⟨fun h => h, fun _ hj => hj, CM.refl _⟩)
    (fun s k n h => .of_qf (QF.remove q s k n fun st hst => (h st hst).2 q) (Mono.remove s k n h)) h

theorem EvT.qstep {s s' : Streams} (h : EvT s s') (q : QName) (hq : q ≠ .pendingAccept) : QStep q s s' := by
  induction h with
  | ev h => exact h.qstep q hq
  | trans _ _ ih1 ih2 => exact ih1.trans ih2
  | resetPop =>
    rename_i s0
    have := QStep.pop q .pendingResetExpired s0
    split
    · next s1 id heq =>
      rw [heq] at this
      rw [transitionAfter_split]
      refine (this.trans ?_).trans ((transitionAfter_false_ev _ _).qstep q hq)
      split
      · refine .of_qf (QF.modCountsA q _ _ _) (Mono.modCountsA _ _ _ ?_)
        intro c' hc
        unfold Counts.decNumResetStreams at hc
        split at hc
        · cases hc; exact ⟨rfl, rfl, rfl, rfl, rfl, Nat.le_refl _⟩
        · cases hc
      · exact .of_qf (QF.refl _ _) (Mono.refl _)
    · next s1 heq => rw [heq] at this; exact this

end H2V.Lemmas.ConnCountsP
