import H2V.Lemmas.ConnNoPanicPDsOxOps
import H2V.Lemmas.ConnNoPanicPDsStep
/-
  C08 (no panic) — the residual hypothesis `OH` as an invariant: the operations that need the role of the connection,
  a typing precondition or `DSum`, and the step theorem `OXs_step` for every operation outside the write path.
-/
namespace H2V.Lemmas.ConnNoPanicP
open H2V H2V.Model H2V.Model.Conn H2V.Lemmas.ConnCountsP
open H2V.Lemmas.ConnResetP (Op run)
attribute [local irreducible] wrapSubU32 wrapSubUsize

variable {sv : Bool}

theorem refSendResponse_xk (s : Streams) (k : Nat) (f : List Hpack.Field) (eos : Bool) (hr : s.counts.isServer = sv) :
    XK sv s (s.refSendResponse k f eos).1 := by
  unfold Streams.refSendResponse; exact transition_xk' _ _ _ (sendHeaders_xk s k eos f hr)
theorem refSendInformationalHeaders_xk (s : Streams) (k : Nat) (f : List Hpack.Field)
    (hty : locId sv (s.stream k).id = false) : XK sv s (s.refSendInformationalHeaders k f).1 := by
  unfold Streams.refSendInformationalHeaders; exact transition_xk' _ _ _ (sendInterimInformationalHeaders_xk s k f hty)
theorem refSendData_xk (s : Streams) (k len : Nat) (eos : Bool) (hds : DS (s.stream k))
    (hb : (s.stream k).bufferedSendData + len < USIZE_MOD) : XK sv s (s.refSendData k len eos).1 := by
  unfold Streams.refSendData; exact transition_xk' _ _ _ (prioSendData_xk s k len eos hds hb)

/-- the closure of `Inner::recv_headers`; the 431 answer needs the role (`sendHeaders_xk`), which nothing changes -/
theorem recvHeadersBody_xk (k : Nat) (h : HeadersIn) (s : Streams) (hr : s.counts.isServer = sv) :
    XK sv s (s.recvHeadersBody k h).1 :=
  Streams.HeadersBodyRule.run (I := XK sv s) (L := fun t => t.counts.isServer = sv) (L' := fun t => t.counts.isServer = sv)
    { hdrs := fun t ht hl =>
        ⟨ht.trans (XK.of_step (Streams.recvRecvHeaders_step (by decide) t k h)), (recvRecvHeaders_ev t k h).nx.role.trans hl⟩
      unsup := fun t m ht => ht.trans (unsup_xk t m)
      trailers := fun t ht _ => ht.trans (XK.of_step (Streams.recvRecvTrailers_step (by decide) t k h))
      done := fun _ ht => ht
      big := fun t ht hl => ht.trans (((sendHeaders_xk t k true _ hl).trans (scheduleImplicitReset_xk _ _ _)).trans
        (XK.of_step (Streams.enqueueResetExpiration_step (by decide) _ _)))
      rst := fun t _ ht _ => ht.trans (resetOnRecvStreamErr_xk _ _ _) } s (.refl s) hr

theorem recvHeaders_xk (s : Streams) (h : HeadersIn) (hr : s.counts.isServer = sv) : XK sv s (s.recvHeaders h).1 :=
  Streams.HeadersRule.run (I := XK sv s) (L := fun _ t => t.counts.isServer = sv)
    { pre := .refl s
      found := fun _ _ => hr
      opn := fun _ => XK.of_step (Streams.recvOpen_step (by decide) s h.sid false)
      ins := fun s1 _ hro => by
        have hrole := (recvOpen_ev (ρ := true) s h.sid false).nx.role
        rw [hro] at hrole
        exact ⟨(of_fst_eq hro (XK.of_step (Streams.recvOpen_step (by decide) s h.sid false))).trans
          (insertNew_xk s1 h.sid s1.actions.send.initWindowSz s1.recv.initWindowSz), hrole.trans hr⟩
      body := fun t k ht hl => ht.trans (recvHeadersBody_xk k h t hl)
      ta := fun t k b ht => ht.trans (transitionAfter_xk t k b) }

theorem sendRequest_xk (s : Streams) (isHead : Bool) (fields : List Hpack.Field) (eos : Bool) (pending : Option Nat)
    (hr : s.counts.isServer = sv) : XK sv s (s.sendRequest isHead fields eos pending).1 :=
  SendRequestRule.run (I := XK sv s) (Q := XK sv s) (L := fun _ _ t => t.counts.isServer = sv) (L' := fun _ _ _ => True)
    { pre := .refl _
      opn := XK.of_step (Streams.sendOpenId_step (by decide) s)
      done := fun _ ht => ht
      ins := fun s1 id sP hso hP => by
        have hrole := (sendOpenId_ev (ρ := true) s).nx.role
        rw [hso] at hrole
        have h2 : XK sv s sP ∧ sP.counts.isServer = sv := by
          rw [hP]; split
          · exact ⟨(of_fst_eq hso (XK.of_step (Streams.sendOpenId_step (by decide) s))).trans (panic_xk _ _),
              by rw [panic_counts]; exact hrole.trans hr⟩
          · exact ⟨of_fst_eq hso (XK.of_step (Streams.sendOpenId_step (by decide) s)), hrole.trans hr⟩
        refine ⟨h2.1.trans (insert_xk sP _ (fun r k => ?_)), h2.2⟩
        unfold requestStream
        split <;> exact ⟨fun _ _ => ⟨rfl, rfl, rfl⟩, fun h => Bool.noConfusion h, fun h => Bool.noConfusion h⟩
      hdr := fun t _ k ht hl => ⟨ht.trans (sendHeaders_xk t k eos fields hl), trivial⟩
      undo := fun t id k s3 _ ht hl heq =>
        (ht.trans (of_fst_eq heq (sendHeaders_xk t k eos fields hl))).trans
          ((unlink_xk s3 id).trans (remove_xk ({ s3 with store := s3.store.unlink id } : Streams) _ _))
      fin := fun t _ k ht _ => ht.trans
        ((setMisc_xk t t.actions (t.refs + 1) t.recvBufferLeaked t.wakes t.unsupported).trans (XK.of_step (Streams.refInc_step (by decide) _ _))) }
    pending

theorem reserveLocal_ok {st st' : State} {u : Unit} (h : st.reserveLocal = (st', .ok u)) : st'.isSendStreaming = false := by
  obtain ⟨inner⟩ := st
  rcases inner with _ | _ | _ | ⟨_ | _, _ | _⟩ | ⟨_ | _⟩ | ⟨_ | _⟩ | _ <;> simp [State.reserveLocal] at h
  rw [← h]; rfl

theorem xp_reserve (x : Stream) (st' : State) (h0 : x.pendingSend = [] ∧ x.isPendingSend = false ∧ x.bufferedSendData = 0)
    (hst : st'.isSendStreaming = false) : Xp sv x { x with state := st', isPendingPush := true } :=
  ⟨fun _ _ => ⟨fun _ _ => h0, fun _ => .inl ⟨h0.2.1, by show hnd x.pendingSend; rw [h0.1]; rfl, fun _ => ⟨hst, h0.2.2⟩⟩,
    fun _ => by show x.bufferedSendData ≤ _; rw [h0.2.2]; exact Nat.zero_le _⟩⟩

/-- **`StreamRef::send_push_promise`**, the parent being a peer-initiated stream (typing precondition): the promised entry
    is new (nothing queued on it), the parent is another entry and stays as it was up to `Send::send_push_promise` -/
theorem refSendPushPromise_xk (s : Streams) (hk : KeysFresh s) (parent : Nat) (valid : Bool) (fields : List Hpack.Field)
    (hlp : Live s parent) (hty : locId sv (s.stream parent).id = false) :
    XK sv s (s.refSendPushPromise parent valid fields).1 :=
  PushRule.run (I := XK sv s) (Q := XK sv s)
    (L := fun _ k t => ((t.stream k).pendingSend = [] ∧ (t.stream k).isPendingSend = false ∧ (t.stream k).bufferedSendData = 0) ∧
      t.stream parent = s.stream parent ∧ parent ≠ k)
    (L' := fun _ _ t => t.stream parent = s.stream parent)
    { opn := XK.of_step (Streams.sendOpenId_step (by decide) s)
      done := fun _ ht => ht
      ins := fun s1 pid sP hso hP => by
        have hst1 : s1.store = s.store := by
          have := sendOpenId_store s; rw [Streams.sendReserveLocal] at hso; rw [hso] at this; exact this
        have h2 : XK sv s sP ∧ sP.store = s.store := by
          rw [hP]; split
          · exact ⟨(of_fst_eq hso (XK.of_step (Streams.sendOpenId_step (by decide) s))).trans (panic_xk _ _), by rw [panic_store, hst1]⟩
          · exact ⟨of_fst_eq hso (XK.of_step (Streams.sendOpenId_step (by decide) s)), hst1⟩
        have hkP : KeysFresh sP := keysFresh_of_store h2.2 hk
        have hget := insert_get?_new hkP (Stream.new pid sP.actions.send.initWindowSz sP.recv.initWindowSz)
        obtain ⟨x, hx⟩ : Live sP parent := by unfold Live at *; rw [h2.2]; exact hlp
        refine ⟨h2.1.trans (insert_xk sP _ (fun _ _ => ⟨fun _ _ => ⟨rfl, rfl, rfl⟩, fun h => Bool.noConfusion h,
          fun h => Bool.noConfusion h⟩)), by rw [stream_of_get? hget]; exact ⟨rfl, rfl, rfl⟩, ?_, ?_⟩
        · rw [stream_of_get? (insert_get?_old _ _ _ _ hx), stream_of_get? (by rw [← h2.2]; exact hx)]
        · intro e; rw [e, get?_nextKey_none hkP] at hx; cases hx
      reserve := fun t _ k st' _ ht hl heq =>
        ⟨ht.trans (modStream_xk _ _ _ fun _ hx => hx ▸ ⟨rfl, xp_reserve _ st' hl.1 (reserveLocal_ok heq)⟩), by
          rw [ConnFlowP.stream_modStream_other (s := t) (id := k) (k := parent)
            (fun x => ({ x with state := st', isPendingPush := true } : Stream)) (fun _ => rfl) hl.2.2]
          exact hl.2.1⟩
      undo := fun t pid k s5 _ ht hl heq =>
        (ht.trans (of_fst_eq heq (sendPushPromise_xk t parent k pid fields (by rw [hl]; exact hty)))).trans
          ((unlink_xk s5 pid).trans (remove_xk ({ s5 with store := s5.store.unlink pid } : Streams) _ _))
      fin := fun t pid k s5 _ ht hl heq =>
        (ht.trans (of_fst_eq heq (sendPushPromise_xk t parent k pid fields (by rw [hl]; exact hty)))).trans
          ((setMisc_xk s5 s5.actions (s5.refs + 1) s5.recvBufferLeaked s5.wakes s5.unsupported).trans (XK.of_step (Streams.refInc_step (by decide) _ _))) }
    valid

/-- **the invariant**: `XE` for every entry, with the role of the connection -/
def OXs (s : Streams) : Prop := ∀ k, XE s.counts.isServer (s.stream k)

theorem OXs.oh {s : Streams} (h : OXs s) : OH s := fun k => (h k).ohead
theorem OXs_blank {s : Streams} (h : Blank s) : OXs s := fun k => by rw [blank_streamD h.slab k]; exact XEr.blank 0 k

theorem XK.oxs {s s' : Streams} (h : XK s.counts.isServer s s') (hr : s'.counts.isServer = s.counts.isServer) (hx : OXs s) :
    OXs s' := fun k => by rw [hr]; exact h.xe 0 k (hx k)

/-- typing preconditions (`fiPre`), the handle of `send_push_promise` exists, and `recv_push_promise` on a connection that
    accepts no PUSH_PROMISE changes nothing (`recvPushPromise_fiNoPush`) -/
def oxPre (s : Streams) : Op → Prop
  | .refSendInformationalHeaders k _ => s.counts.isLocalInit (s.stream k).id = false
  | .refSendPushPromise p _ _ => s.counts.isLocalInit (s.stream p).id = false ∧ Live s p
  | .recvPushPromise id h => (s.recvPushPromise id h).1 = s
  | _ => True

/-- **every operation outside the write path is an `XK` step**: the ones that need a precondition one by one; the function of every
    other has a lemma `f_xk` or is a step of the kinds `XK` takes -/
theorem op_xk (s : Streams) (op : Op) (hk : KeysFresh s) (hd : DSum s) (hpre : oxPre s op) (hl : opLen s op)
    (hw : opNoWriter op) : XK s.counts.isServer s (op.apply s) := by
  cases op
  case recvPushPromise id h =>
    have e : (s.recvPushPromise id h).1 = s := hpre
    show XK _ s (s.recvPushPromise id h).1
    rw [e]; exact .refl _
  case pollComplete => exact hw.elim
  case pollSendPendingRefusal => exact hw.elim
  case refSendInformationalHeaders k f =>
    have : s.counts.isLocalInit (s.stream k).id = false := hpre
    exact refSendInformationalHeaders_xk s k f (by rw [isLocalInit_eq] at this; exact this)
  case refSendPushPromise p v f =>
    have : s.counts.isLocalInit (s.stream p).id = false ∧ Live s p := hpre
    exact refSendPushPromise_xk s hk p v f this.2 (by have := this.1; rw [isLocalInit_eq] at this; exact this)
  case refSendData k len eos => exact refSendData_xk s k len eos (hd k) hl
  all_goals (simp only [Op.apply]; xk_auto)

/-- **`OXs` is kept by every operation outside the write path**; `hr`: the role of the connection does not change
    (`(f_ev …).nx.role` of ConnCountsP for every operation) -/
theorem OXs_step {s : Streams} (hn : NPI (fun _ => False) s) (hd : DSum s) (hx : OXs s) (op : Op) (hpre : oxPre s op)
    (hl : opLen s op) (hw : opNoWriter op) (hr : (op.apply s).counts.isServer = s.counts.isServer) : OXs (op.apply s) :=
  (op_xk s op hn.keys.fresh hd hpre hl hw).oxs hr hx

/-- **`Streams::send_pending_refusal` keeps `OXs`** (it does not touch the store) -/
theorem OXs_pollSendPendingRefusal {s : Streams} (hx : OXs s) (fuel : Nat) (w : Writer) (io : Tio) (tag : String)
    (hr : (Streams.pollSendPendingRefusal fuel s w io tag).1.counts.isServer = s.counts.isServer) :
    OXs (Streams.pollSendPendingRefusal fuel s w io tag).1 :=
  (XK.of_step (Streams.pollSendPendingRefusal_step (by decide) fuel s w io tag)).oxs hr hx

theorem bufferOut_xk (s : Streams) (w : Writer) (f : Streams.OutFrame) : XK sv s (s.bufferOut w f).1 :=
  .of_step (Streams.bufferOut_step (by decide) s w f)

end H2V.Lemmas.ConnNoPanicP
