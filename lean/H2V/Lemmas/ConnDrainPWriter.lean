import H2V.Lemmas.ConnDrainPLoop
/-
  ConnDrainP — the codec's writer: `flush` / `poll_ready` touch only the write waker of the transport;
  the write buffer's capacity never falls below `chain_threshold + 9` (`CapOK`, kept by every function that
  gets the writer), so `FramedWrite::poll_ready` answers `Pending` only with the waker registered.
-/
namespace H2V.Lemmas.ConnDrainP
open H2V H2V.Model H2V.Model.Conn


theorem flush_spec {w w' : Writer} {io io' : Tio} {tag : String} {r : WRes} (h : flush w io tag = (w', io', r)) :
    io'.readWaker = io.readWaker ∧ (io'.writeWaker = io.writeWaker ∨ io'.writeWaker = some tag) ∧
    (r = .pending → io'.writeWaker = some tag) ∧ w'.chainThreshold = w.chainThreshold ∧ w'.cap = w.cap := by
  rcases flush_cases w io tag with e | ⟨_, _, _, _, _, _, e | e⟩ <;> rw [e] at h <;> cases h
  · exact ⟨rfl, .inl rfl, nofun, rfl, rfl⟩
  · exact ⟨rfl, .inr rfl, fun _ => rfl, rfl, rfl⟩
  · exact ⟨rfl, .inl rfl, nofun, (ConnWakeP.unsetFrame_fields _).2.2.2, (ConnWakeP.unsetFrame_fields _).2.2.1⟩

theorem pollReadyW_io {w w' : Writer} {io io' : Tio} {tag : String} {r : WRes} (h : pollReadyW w io tag = (w', io', r)) :
    io'.readWaker = io.readWaker ∧ (io'.writeWaker = io.writeWaker ∨ io'.writeWaker = some tag) ∧
    (r = .ready → w'.hasCapacity = true) := by
  rcases pollReadyW_cases w io tag with ⟨hc, e⟩ | ⟨w1, io1, r1, hf, e⟩ <;> rw [e] at h <;> cases h
  · exact ⟨rfl, .inl rfl, fun _ => hc⟩
  · refine ⟨(flush_spec hf).1, (flush_spec hf).2.1, fun hr => ?_⟩
    by_cases hc : r1 = .ready ∧ w'.hasCapacity = false
    · rw [if_pos hc] at hr; cases hr
    · cases hw : w'.hasCapacity with
      | true => rfl
      | false => rw [if_neg hc] at hr; exact absurd ⟨hr, hw⟩ hc


/-- the write buffer's capacity is at least `chain_threshold + 9` (so a flushed buffer has room for a frame) -/
def CapOK (w : Writer) : Prop := w.minBufferCapacity ≤ w.cap

theorem CapOK.of_eq {w w' : Writer} (h : CapOK w) (h1 : w'.chainThreshold = w.chainThreshold) (h2 : w.cap ≤ w'.cap) : CapOK w' := by
  unfold CapOK Writer.minBufferCapacity at *; rw [h1]; omega

theorem put_cap (w : Writer) (seg : Seg) : (w.put seg).chainThreshold = w.chainThreshold ∧ w.cap ≤ (w.put seg).cap := by
  unfold Writer.put
  refine ⟨rfl, ?_⟩
  dsimp only
  split <;> omega

theorem CapOK.put {w : Writer} (h : CapOK w) (seg : Seg) : CapOK (w.put seg) := h.of_eq (put_cap w seg).1 (put_cap w seg).2
theorem CapOK.bufferSimple {w : Writer} (h : CapOK w) (n : Nat) (r : String) : CapOK (w.bufferSimple n r) := h.put _
theorem CapOK.bufferHeaders {w : Writer} (h : CapOK w) (sid : Nat) (eos : Bool) (f : List Hpack.Field) : CapOK (w.bufferHeaders sid eos f) := by
  unfold Writer.bufferHeaders
  split
  · dsimp only
    refine CapOK.put ?_ _
    split <;> exact h.of_eq rfl (Nat.le_refl _)
  · exact h.of_eq rfl (Nat.le_refl _)
theorem CapOK.bufferPushPromise {w : Writer} (h : CapOK w) (sid p : Nat) (f : List Hpack.Field) : CapOK (w.bufferPushPromise sid p f) := by
  unfold Writer.bufferPushPromise
  split
  · dsimp only
    refine CapOK.put ?_ _
    split <;> exact h.of_eq rfl (Nat.le_refl _)
  · exact h.of_eq rfl (Nat.le_refl _)
theorem CapOK.bufferData {w w' : Writer} (h : CapOK w) {len : Nat} {e : Bool} {fr : DataFrame} (hb : w.bufferData len e fr = some w') : CapOK w' := by
  unfold Writer.bufferData at hb
  split at hb
  · cases hb
  · dsimp only at hb
    split at hb
    · split at hb
      · cases hb; exact ((h.put _).put _).of_eq rfl (Nat.le_refl _)
      · cases hb; exact (h.put _).of_eq rfl (Nat.le_refl _)
    · cases hb; exact (h.put _).of_eq rfl (Nat.le_refl _)
theorem CapOK.unsetFrame {w : Writer} (h : CapOK w) : CapOK w.unsetFrame := by
  unfold Writer.unsetFrame; dsimp only; split <;> exact h.of_eq rfl (Nat.le_refl _)
theorem CapOK.takeLast {w : Writer} (h : CapOK w) : CapOK w.takeLastDataFrame.1 := h.of_eq rfl (Nat.le_refl _)

theorem CapOK.ofFlush {w w' : Writer} {io io' : Tio} {tag : String} {r : WRes} (h : CapOK w) (hf : flush w io tag = (w', io', r)) : CapOK w' :=
  h.of_eq (flush_spec hf).2.2.2.1 (Nat.le_of_eq (flush_spec hf).2.2.2.2.symm)

theorem CapOK.ofPollReadyW {w w' : Writer} {io io' : Tio} {tag : String} {r : WRes} (h : CapOK w) (hf : pollReadyW w io tag = (w', io', r)) : CapOK w' := by
  rcases pollReadyW_cases w io tag with ⟨_, e⟩ | ⟨w1, io1, r1, hfl, e⟩ <;> rw [e] at hf <;> cases hf
  · exact h
  · exact h.ofFlush hfl

theorem pollReadyW_pending {w w' : Writer} {io io' : Tio} {tag : String} (h : CapOK w)
    (hf : pollReadyW w io tag = (w', io', .pending)) : io'.writeWaker = some tag :=
  ConnWakeP.pollReadyW_pending_parks hf (h.ofPollReadyW hf)

theorem CapOK.bufferOut {w : Writer} (h : CapOK w) (s : Streams) (f : Streams.OutFrame) : CapOK (s.bufferOut w f).2 := by
  unfold Streams.bufferOut
  split
  · dsimp only
    split
    · next w' hb => exact h.bufferData hb
    · exact h
  · exact h.bufferHeaders _ _ _
  · exact h.bufferSimple _ _
  · exact h.bufferPushPromise _ _ _

theorem CapOK.reclaimFrame {w : Writer} (h : CapOK w) (s : Streams) : CapOK (s.reclaimFrame w).2.1 := by
  unfold Streams.reclaimFrame
  split
  · next w1 frame heq =>
    have : w1 = w.takeLastDataFrame.1 := by rw [heq]
    dsimp only; rw [this]; exact h.takeLast
  · next w1 heq =>
    have : w1 = w.takeLastDataFrame.1 := by rw [heq]
    dsimp only; rw [this]; exact h.takeLast

theorem CapOK.recvBufferPending {w : Writer} (h : CapOK w) (s : Streams) : CapOK (s.recvBufferPending w).2.1 :=
  Streams.recvBufferPending_writer (P := CapOK) (fun _ n r h => h.bufferSimple n r) s w h

theorem CapOK.pollComplete (n : Nat) (s : Streams) (w : Writer) (io : Tio) (tag : String) (h : CapOK w) :
    CapOK (Streams.pollComplete n s w io tag).2.1 :=
  Streams.pollComplete_inv (I := fun _ w _ => CapOK w) (fun h => h) (fun h hp => h.ofPollReadyW hp) (fun h => h.recvBufferPending _)
    (fun h => h.reclaimFrame _)
    (fun n h hl => Streams.prioBufferPendingLoop_inv (I := fun _ w => CapOK w) (J := fun _ w => CapOK w) (Q := fun _ w => CapOK w)
      (fun _ _ h => h) (fun _ _ h => h) (fun _ _ h => h) (fun _ _ s' f h _ _ _ => (h.bufferOut s' f).reclaimFrame _)
      (fun _ _ _ h _ _ _ => h) n _ _ h hl)
    (fun h hf => h.ofFlush hf) n s w io h

end H2V.Lemmas.ConnDrainP
