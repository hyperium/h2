import H2V.Lemmas.ConnNoPanicPBase
import H2V.Lemmas.ConnNoPanicPRel
/-
  C08 (no panic): queue primitives under `LT`, `Inert` for the stream methods, and the
  peeling tactic `lt_auto` (same design as `ev_auto` of ConnCountsPTac: the head function `f` of the
  target state is peeled with the lemma `f_lt`, found by name in this namespace).
-/
namespace H2V.Lemmas.ConnNoPanicP
open H2V H2V.Model H2V.Model.Conn H2V.Lemmas.ConnCountsP
attribute [local irreducible] wrapSubU32 wrapSubUsize

theorem modStream_panicked_live {s : Streams} {k : Nat} (h : Live s k) (f : Stream → Stream) :
    (s.modStream k f).panicked = s.panicked :=
  let ⟨_, hx⟩ := h; Streams.modStream_panicked_of_some hx f

theorem modStreamW_panicked_live {s : Streams} {k : Nat} (h : Live s k) (f : Stream → Stream × List String) :
    (s.modStreamW k f).panicked = s.panicked :=
  let ⟨_, hx⟩ := h; Streams.modStreamW_panicked_of_some hx f

theorem live_setQ {s : Streams} {q : QName} {l : List Nat} {k : Nat} : Live (s.setQ q l) k ↔ Live s k := by
  unfold Live; rw [setQ_store]

theorem setQueued_inert (x : Stream) (q : QName) (v : Bool) (h : q ≠ .pendingCapacity) : Inert x (x.setQueued q v) := by
  cases q <;> first | exact ⟨rfl, rfl, rfl, rfl, fun h => h⟩ | exact absurd rfl h

theorem avOK_of_sameFlow {s s' : Streams}
    (h : ∀ y ∈ s'.store.slab, ∃ x ∈ s.store.slab, y.sendFlow = x.sendFlow) (ha : AvOK s) : AvOK s' := by
  intro y hy
  obtain ⟨x, hx, e⟩ := h y hy
  rw [e]; exact ha x hx

theorem avOK_modStream_flow {s : Streams} (k : Nat) (f : Stream → Stream) (hf : ∀ x, (f x).sendFlow = x.sendFlow)
    (ha : AvOK s) : AvOK (s.modStream k f) := by
  unfold Streams.modStream
  split
  · next st hst =>
    refine avOK_setStream _ ha ?_
    rw [hf]; exact ha _ (get?_mem hst)
  · unfold AvOK; rw [panic_store]; exact ha

theorem avOK_setQ {s : Streams} (q : QName) (l : List Nat) (ha : AvOK s) : AvOK (s.setQ q l) := by
  unfold AvOK; rw [setQ_store]; exact ha


theorem setQueued_id (x : Stream) (q : QName) (v : Bool) : (x.setQueued q v).id = x.id := by cases q <;> rfl
export H2V.Model.Conn.Stream (setQueued_key)

theorem qPush_spr {α : Type} {P : Stream → α} (s : Streams) (q : QName) (k : Nat) (h : ∀ x v, P (x.setQueued q v) = P x) :
    SPr P s (s.qPush q k).1 := by
  unfold Streams.qPush; split
  · exact .refl _ _
  · exact (SPr.modStream s k _ (fun x => setQueued_key x q true) (fun x => h x true)).trans (.of_store (setQ_store _ _ _))
theorem qPushFront_spr {α : Type} {P : Stream → α} (s : Streams) (q : QName) (k : Nat) (h : ∀ x v, P (x.setQueued q v) = P x) :
    SPr P s (s.qPushFront q k).1 := by
  unfold Streams.qPushFront; split
  · exact .refl _ _
  · exact (SPr.modStream s k _ (fun x => setQueued_key x q true) (fun x => h x true)).trans (.of_store (setQ_store _ _ _))
theorem qPop_spr {α : Type} {P : Stream → α} (s : Streams) (q : QName) (h : ∀ x v, P (x.setQueued q v) = P x) :
    SPr P s (s.qPop q).1 := by
  unfold Streams.qPop; split
  · exact .refl _ _
  · exact (SPr.of_store (setQ_store _ _ _)).trans (SPr.modStream _ _ _ (fun x => setQueued_key x q false) (fun x => h x false))


theorem qPush_lt (s : Streams) (q : QName) (k : Nat) : LT [k] s (s.qPush q k).1 := by
  refine ⟨SameKeys.qPush _ _ _, Streams.qPush_ids _ _ _, qPush_spr _ _ _ (fun x v => setQueued_id x q v),
    qPush_spr _ _ _ (fun x v => Stream.setQueued_refCount x q v), ?_, ?_⟩
  · unfold Streams.qPush; split
    · exact ErrSame.refl _
    · dsimp only; unfold ErrSame; rw [Streams.setQ_counts, Streams.modStream_counts]; exact ⟨rfl, rfl⟩
  · intro hl hq
    have hk : Live s k := hl k (List.mem_cons_self ..)
    have hp : (s.qPush q k).1.panicked = none := by
      unfold Streams.qPush; split
      · exact hq.np
      · dsimp only; rw [setQ_panicked, modStream_panicked_live hk]; exact hq.np
    refine ⟨hp, (SameKeys.qPush _ _ _).keysOK hq.keys, ?_, ?_⟩
    · by_cases h : q = .pendingCapacity
      · subst h; exact QOK.qPush k hq.qc hp
      · exact (QF.qPush _ _ s k (fun e => h e.symm)).qok hq.qc
    · unfold Streams.qPush; split
      · exact hq.av
      · exact avOK_setQ _ _ (avOK_modStream_flow _ _ (fun x => Stream.setQueued_sendFlow x q true) hq.av)

theorem qPushFront_lt (s : Streams) (q : QName) (k : Nat) : LT [k] s (s.qPushFront q k).1 := by
  refine ⟨SameKeys.qPushFront _ _ _, Streams.qPushFront_ids _ _ _, qPushFront_spr _ _ _ (fun x v => setQueued_id x q v),
    qPushFront_spr _ _ _ (fun x v => Stream.setQueued_refCount x q v), ?_, ?_⟩
  · unfold Streams.qPushFront; split
    · exact ErrSame.refl _
    · dsimp only; unfold ErrSame; rw [Streams.setQ_counts, Streams.modStream_counts]; exact ⟨rfl, rfl⟩
  · intro hl hq
    have hk : Live s k := hl k (List.mem_cons_self ..)
    have hp : (s.qPushFront q k).1.panicked = none := by
      unfold Streams.qPushFront; split
      · exact hq.np
      · dsimp only; rw [setQ_panicked, modStream_panicked_live hk]; exact hq.np
    refine ⟨hp, (SameKeys.qPushFront _ _ _).keysOK hq.keys, ?_, ?_⟩
    · by_cases h : q = .pendingCapacity
      · subst h; exact QOK.qPushFront k hq.qc hp
      · exact (QF.qPushFront _ _ s k (fun e => h e.symm)).qok hq.qc
    · unfold Streams.qPushFront; split
      · exact hq.av
      · exact avOK_setQ _ _ (avOK_modStream_flow _ _ (fun x => Stream.setQueued_sendFlow x q true) hq.av)

theorem _root_.H2V.Lemmas.ConnCountsP.QOK.live {q : QName} {s : Streams} (hq : QOK q s) (k : Nat) (hk : k ∈ s.getQ q) : Live s k :=
  let ⟨x, hx, _⟩ := (hq.mem k).mp hk
  ⟨x, hx⟩

theorem qPop_live {q : QName} {s s' : Streams} {id : Nat} (hl : ∀ k ∈ s.getQ q, Live s k) (h : s.qPop q = (s', some id)) :
    Live s id ∧ Live s' id := by
  obtain ⟨r, hr, rfl⟩ := Streams.qPop_eq_some h
  have := hl id (by rw [hr]; exact List.mem_cons_self ..)
  exact ⟨this, (SameKeys.modStream _ _ _).live.mpr (live_setQ.mpr this)⟩

/-- **`Queue::pop` is a light step** when the queued keys are live (`pop` only panics on a queued key that is not in the
    slab); a queue in good shape (`QOK`) is such a queue -/
theorem qPop_lt (s : Streams) (q : QName) (hl : NPQ s → ∀ k ∈ s.getQ q, Live s k) : LT [] s (s.qPop q).1 := by
  refine ⟨SameKeys.qPop _ _, Streams.qPop_ids _ _, qPop_spr _ _ (fun x v => setQueued_id x _ v),
    qPop_spr _ _ (fun x v => Stream.setQueued_refCount x _ v), ?_, ?_⟩
  · unfold ErrSame; rw [Streams.qPop_counts]; exact ⟨rfl, rfl⟩
  · intro _ hn
    have hp : (s.qPop q).1.panicked = none := by
      cases hg : s.getQ q with
      | nil => rw [Streams.qPop_nil hg]; exact hn.np
      | cons id rest =>
        rw [Streams.qPop_cons hg, modStream_panicked_live (live_setQ.mpr (hl hn id (by rw [hg]; exact List.mem_cons_self ..))),
          setQ_panicked]
        exact hn.np
    refine ⟨hp, (SameKeys.qPop _ _).keysOK hn.keys, ?_, ?_⟩
    · by_cases h : q = .pendingCapacity
      · subst h; exact QOK.qPop hn.qc
      · exact (QF.qPop _ _ s (fun e => h e.symm)).qok hn.qc
    · unfold Streams.qPop; split
      · exact hn.av
      · exact avOK_modStream_flow _ _ (fun x => Stream.setQueued_sendFlow x _ false) (avOK_setQ _ _ hn.av)

theorem qPopCap_lt (s : Streams) : LT [] s (s.qPop .pendingCapacity).1 := qPop_lt s _ fun hn => hn.qc.live

macro "inert_fields" : tactic => `(tactic| with_reducible exact ⟨rfl, rfl, rfl, rfl, fun h => h⟩)

theorem notifySend_inert (x : Stream) : Inert x x.notifySend.1 := by
  unfold Stream.notifySend
  cases h1 : x.sendTask <;> cases h2 : x.openTask <;> simp only [h1, h2] <;> inert_fields
theorem notifyRecv_inert (x : Stream) : Inert x x.notifyRecv.1 := by
  unfold Stream.notifyRecv; split <;> inert_fields
theorem notifyPush_inert (x : Stream) : Inert x x.notifyPush.1 := by
  unfold Stream.notifyPush; split <;> inert_fields
theorem notifyCapacity_inert (x : Stream) : Inert x x.notifyCapacity.1 := by
  unfold Stream.notifyCapacity
  exact Inert.trans (b := { x with sendCapacityInc := true }) (by inert_fields) (notifySend_inert _)
theorem waitSend_inert (x : Stream) (t : String) : Inert x (x.waitSend t) := by unfold Stream.waitSend; inert_fields
theorem waitOpen_inert (x : Stream) (t : String) : Inert x (x.waitOpen t) := by unfold Stream.waitOpen; inert_fields
theorem setReset_inert (x : Stream) (r : Reason) (i : Initiator) : Inert x (x.setReset r i).1 := by
  unfold Stream.setReset
  simp only []
  refine Inert.trans (b := { x with state := x.state.setReset x.id r i }) (by inert_fields) ?_
  exact (notifySend_inert _).trans ((notifyPush_inert _).trans (notifyRecv_inert _))

/-- `i32` arithmetic of the flow-control methods keeps `available` an `i32` -/
theorem decreaseBy_le (w : Window) (n : Nat) (h : w.val ≤ 2147483647) : (w.decreaseBy n).1.val ≤ 2147483647 := by
  unfold Window.decreaseBy checkedSub
  split
  · next v hv =>
    split at hv
    · next hi => cases hv; simp [inI32, I32_MAX] at hi; exact of_decide_eq_true hi.2
    · cases hv
  · exact h
theorem increaseBy_le (w : Window) (n : Nat) (h : w.val ≤ 2147483647) : (w.increaseBy n).1.val ≤ 2147483647 := by
  unfold Window.increaseBy Window.add checkedAdd
  split
  · next w' hw =>
    split at hw
    · next v hv =>
      split at hv
      · next hi => cases hv; cases hw; simp [inI32, I32_MAX] at hi; exact of_decide_eq_true hi.2
      · cases hv
    · cases hw
  · exact h
theorem claimCapacity_le (f : FlowControl) (n : Nat) (h : f.available.val ≤ 2147483647) :
    (f.claimCapacity n).1.available.val ≤ 2147483647 := by
  unfold FlowControl.claimCapacity; exact decreaseBy_le _ _ h
theorem assignCapacity_le (f : FlowControl) (n : Nat) (h : f.available.val ≤ 2147483647) :
    (f.assignCapacity n).1.available.val ≤ 2147483647 := by
  unfold FlowControl.assignCapacity; exact increaseBy_le _ _ h

theorem setSendFlow_inert (x : Stream) (fl : FlowControl)
    (h : x.sendFlow.available.val ≤ 2147483647 → fl.available.val ≤ 2147483647) : Inert x { x with sendFlow := fl } :=
  ⟨rfl, rfl, rfl, rfl, h⟩

theorem assignCapacity_inert (x : Stream) (a b : Nat) : Inert x (x.assignCapacity a b).1 := by
  unfold Stream.assignCapacity; simp only []; split
  · exact Inert.trans (b := { x with sendFlow := (x.sendFlow.assignCapacity a).1 })
      (setSendFlow_inert _ _ (assignCapacity_le _ _)) (notifyCapacity_inert _)
  · exact setSendFlow_inert _ _ (assignCapacity_le _ _)

/-- proves `Inert x (… x …)` -/
macro "inert_tac" : tactic => `(tactic| with_reducible first
  | exact ⟨rfl, rfl, rfl, rfl, fun h => h⟩
  | exact notifySend_inert _ | exact notifyRecv_inert _ | exact notifyPush_inert _ | exact notifyCapacity_inert _
  | exact assignCapacity_inert _ _ _ | exact waitSend_inert _ _ | exact waitOpen_inert _ _
  | exact setReset_inert _ _ _
  | exact setSendFlow_inert _ _ (claimCapacity_le _ _)
  | exact setSendFlow_inert _ _ (assignCapacity_le _ _))

/-- side conditions of the building-block lemmas -/
syntax "lt_side" : tactic
macro_rules | `(tactic| lt_side) => `(tactic| (intro _; exact rfl))
macro_rules | `(tactic| lt_side) => `(tactic| (intro _; inert_tac))
macro_rules | `(tactic| lt_side) => `(tactic| exact ⟨rfl, rfl⟩)
macro_rules | `(tactic| lt_side) => `(tactic| with_reducible assumption)
/-- `∀ k ∈ ks', k ∈ ks` -/
macro "lt_sub" : tactic => `(tactic| first
  | exact (fun _ h => h)
  | (intro _ hk; exact absurd hk List.not_mem_nil)
  | (intro x hx; simp only [List.mem_cons, List.mem_nil_iff, or_false, List.not_mem_nil, List.mem_singleton] at hx ⊢; omega))
macro_rules | `(tactic| lt_side) => `(tactic| lt_sub)

/-- a conditional is peeled by these two: `split` would rewrite the whole unfolded body with `simp` -/
theorem LT.ite {ks : List Nat} {s a b : Streams} (c : Prop) [Decidable c] (h1 : c → LT ks s a) (h2 : ¬c → LT ks s b) :
    LT ks s (if c then a else b) := by
  split
  · next h => exact h1 h
  · next h => exact h2 h
theorem LT.ite_fst {α : Type} {ks : List Nat} {s : Streams} {a b : Streams × α} (c : Prop) [Decidable c]
    (h1 : c → LT ks s a.1) (h2 : ¬c → LT ks s b.1) : LT ks s (if c then a else b).1 := by
  split
  · next h => exact h1 h
  · next h => exact h2 h

/-- one step on an `LT` goal (alternatives are tried bottom-up) -/
syntax "lt_step" : tactic
macro_rules | `(tactic| lt_step) => `(tactic| rel_head LT "_lt" => (first
    | with_reducible refine LT.trans (ks' := []) ?_ (setMisc_lt _ _ _ _ _ _ rfl) (fun _ h => absurd h List.not_mem_nil)
    | with_reducible refine LT.trans (ks' := []) ?_ (setCounts_lt _ _ ?_) (fun _ h => absurd h List.not_mem_nil))
  on_ite (first
    | with_reducible refine LT.ite _ ?_ ?_
    | with_reducible refine LT.ite_fst _ ?_ ?_))
macro_rules | `(tactic| lt_step) => `(tactic| with_reducible refine of_fst_eq (P := LT _ _) (by with_reducible assumption) ?_)
macro_rules | `(tactic| lt_step) => `(tactic| with_reducible assumption)
macro_rules | `(tactic| lt_step) => `(tactic| with_reducible exact LT.refl _ _)

macro "lt_auto" : tactic => `(tactic| repeat (first | lt_step | lt_side | intro _ | split | dsimp only))
macro "lt_auto_ih" ih:ident : tactic =>
  `(tactic| repeat (first | lt_step | with_reducible refine LT.trans ?_ ($ih ..) ?_ | lt_side | intro _ | split | dsimp only))

end H2V.Lemmas.ConnNoPanicP
