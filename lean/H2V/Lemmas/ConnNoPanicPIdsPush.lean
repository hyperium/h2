import H2V.Lemmas.ConnNoPanicPIdsStep
/-
  C08 (no panic) — `IBS`: the server's `StreamRef::send_push_promise` (`Streams.refSendPushPromise`).
-/
namespace H2V.Lemmas.ConnNoPanicP
open H2V H2V.Model H2V.Model.Conn H2V.Lemmas.ConnCountsP
attribute [local irreducible] wrapSubU32 wrapSubUsize

/-- **`send_push_promise` keeps `NPI` and `IBS`** (the `assert!(self.ids.insert(id, index).is_none())` of `Store::insert`
    cannot fire); on success the child handle is the fresh key, live, with at least one reference -/
theorem refSendPushPromise_npi {s : Streams} (hn : NPI (fun _ => False) s) (hi : IBS s) {parent : Nat} (hk : Live s parent)
    (valid : Bool) (fields : List Hpack.Field) :
    NPI (fun _ => False) (s.refSendPushPromise parent valid fields).1 ∧ IBS (s.refSendPushPromise parent valid fields).1 ∧
    ∀ child, (s.refSendPushPromise parent valid fields).2 = .ok child →
      child = s.store.nextKey ∧ ∃ x', (s.refSendPushPromise parent valid fields).1.store.get? child = some x' ∧ 1 ≤ x'.refCount := by
  have ew := refSendPushPromise_ev s hn.keys.fresh hn.nl parent valid fields
  unfold Streams.refSendPushPromise Streams.sendReserveLocal at ew ⊢
  generalize hso : s.sendOpenId = p at ew ⊢
  obtain ⟨s1, r⟩ := p
  have hst1 : s1.store = s.store := by have := sendOpenId_store s; rw [hso] at this; exact this
  have e1 : EvB false s s1 := of_fst_eq hso (sendOpenId_ev (ρ := false) s)
  have h1 : NPI (fun _ => False) s1 := hn.lt (of_fst_eq hso (sendOpenId_lt s)).w (liveAll0 s) e1 noE
  have hi1 : IBS s1 := hi.of_evF hn.keys e1
  cases r with
  | error e => exact ⟨h1, hi1, fun c hc => by cases hc⟩
  | ok pid =>
    simp only [] at ew ⊢
    have hnc : s1.store.contains pid = false := by rw [hst1]; exact hi.hfree hn pid (sendOpenId_ok hso)
    simp only [hnc, Bool.false_eq_true, if_false] at ew ⊢
    have hloc1 : s1.counts.isLocalInit pid = true := by rw [(sendOpenId_next hso).1]; exact hn.nl pid (sendOpenId_ok hso)
    generalize hst : Stream.new pid s1.actions.send.initWindowSz s1.recv.initWindowSz = st at ew ⊢
    have hid : st.id = pid := by rw [← hst]; rfl
    have hidle : st.state.inner = .idle := by rw [← hst]; rfl
    have hfr : Fresh st := by rw [← hst]; exact fresh_new _ _ _
    have hav : st.sendFlow.available.val ≤ 2147483647 := by rw [← hst]; exact new_av _ _ _
    obtain ⟨h2, hl2⟩ := h1.insert st hfr hav
    have hi2 : IBS { s1 with store := (s1.store.insert st).1 } := by
      refine hi1.insert st (fun _ n hn' => ?_)
      rw [(sendOpenId_next hso).2 n hn', hid]; omega
    have hkk : (s1.store.insert st).2 = s1.store.nextKey := rfl
    rw [hkk] at ew ⊢
    have hs2 : ({ s1 with store := (s1.store.insert st).1 } : Streams).stream s1.store.nextKey = { st with key := s1.store.nextKey } :=
      stream_of_get? (insert_get?_new h1.keys.fresh st)
    have hpar2 : Live ({ s1 with store := (s1.store.insert st).1 } : Streams) parent :=
      live_insert_old st (by obtain ⟨x, hx⟩ := hk; exact ⟨x, by rw [hst1]; exact hx⟩)
    have hloc2 : ({ s1 with store := (s1.store.insert st).1 } : Streams).counts.isLocalInit pid = true := hloc1
    have hknext : s1.store.nextKey = s.store.nextKey := by rw [hst1]
    generalize hs2g : ({ s1 with store := (s1.store.insert st).1 } : Streams) = s2 at ew h2 hl2 hi2 hs2 hpar2 hloc2 ⊢
    generalize s1.store.nextKey = k at ew h2 hl2 hs2 hknext ⊢
    rw [hs2] at ew ⊢
    have hrl : st.state.reserveLocal = ({ inner := .reservedLocal }, .ok ()) := by
      unfold State.reserveLocal; rw [hidle]
    simp only [hrl] at ew ⊢
    have hid2 : (s2.stream k).id = pid := by rw [hs2]; exact hid
    clear hs2 hs2g hso hst hkk
    generalize hs4 : s2.modStream k _ = s4 at ew ⊢
    have hlt4 : LT [k] s2 s4 := by rw [← hs4]; exact modStream_lt _ _ _ (fun x => ⟨rfl, rfl, rfl, rfl, id⟩)
    have e4 : EvB false s2 s4 := by
      rw [← hs4]
      refine modStream_ev _ _ _ (fun x _ => ?_)
      exact ⟨rfl, rfl, rfl, fun q => by cases q <;> rfl, fun h => (by rcases h with h | h <;> cases h), fun _ h _ => h⟩
    have h4 : NPI (fun j => j = k) s4 := h2.lt hlt4.w (liveAll1 hl2) e4 noE
    have hi4 : IBS s4 := hi2.of_evF h2.keys e4
    have hl4 : Live s4 k := hlt4.keys.live.mpr hl2
    have hpar4 : Live s4 parent := hlt4.keys.live.mpr hpar2
    have hid4 : (s4.stream k).id = pid := (hlt4.sid k).trans hid2
    have hloc4 : s4.counts.isLocalInit pid = true := by rw [← hs4, Streams.modStream_counts]; exact hloc2
    clear hs4
    cases valid with
    | false =>
      simp only [Bool.not_false, if_true] at ew ⊢
      exact ⟨hn.ev ew (fun _ _ h => h) h4.np h4.av h4.ids, hi4, fun c hc => by cases hc⟩
    | true =>
      simp only [Bool.not_true, Bool.false_eq_true, if_false] at ew ⊢
      generalize hsp : s4.sendPushPromise parent k pid fields = q at ew ⊢
      obtain ⟨s5, r5⟩ := q
      have hlt5 : LT [parent] s4 s5 := of_fst_eq hsp (sendPushPromise_lt s4 parent k pid fields)
      have e5 : EvB false s4 s5 := of_fst_eq hsp (sendPushPromise_ev (ρ := false) s4 parent k pid fields hloc4)
      have h5 : NPI (fun j => j = k) s5 := h4.lt hlt5.w (liveAll1 hpar4) e5 noE
      have hi5 : IBS s5 := hi4.of_evF h4.keys e5
      have hl5 : Live s5 k := hlt5.keys.live.mpr hl4
      have hid5 : (s5.stream k).id = pid := (hlt5.sid k).trans hid4
      cases r5 with
      | error e =>
        simp only [] at ew ⊢
        obtain ⟨hav', hids'⟩ := unlink_remove_parts h5 hid5
        exact ⟨hn.ev ew (fun _ _ h => h) h5.np hav' hids',
          hi5.of_sub (fun x hx => (List.mem_filter.mp hx).1) rfl rfl, fun c hc => by cases hc⟩
      | ok u =>
        simp only [] at ew ⊢
        have h6 := h5.lt (setMisc_lt (ks := []) s5 s5.actions (s5.refs + 1) s5.recvBufferLeaked s5.wakes s5.unsupported rfl).w
          (liveAll0 _) (setMisc_ev (ρ := false) _ _ _ _ _ _ ⟨rfl, rfl, rfl, rfl, rfl⟩) noE
        have hX := refInc_npi h6 (k := k) hl5
        have hi6 : IBS { s5 with refs := s5.refs + 1 } := hi5.of_sub (fun _ hx => hx) rfl rfl
        refine ⟨hn.ev ew (fun _ _ h => h) hX.np hX.av hX.ids,
          hi6.of_evF ⟨h5.keys.nodup, h5.keys.fresh⟩ (refInc_ev (ρ := false) _ _), ?_⟩
        intro c hc
        simp only [Except.ok.injEq] at hc
        subst hc
        obtain ⟨y, hy⟩ := hl5
        exact ⟨hknext, _, refInc_get (s := { s5 with refs := s5.refs + 1 }) hy, Nat.le_add_left _ _⟩

end H2V.Lemmas.ConnNoPanicP
