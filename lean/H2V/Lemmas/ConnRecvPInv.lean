import H2V.Lemmas.ConnRecvPBase
/-
  C03: the receive-window invariant.

  Ghost values (`Ghost`): what the application configured so far —
    `target`    the connection window configured last (`set_target_window_size`, initially 65535)
    `hiTarget`  the largest connection window configured so far
    `hiInit`    the largest SETTINGS_INITIAL_WINDOW_SIZE acknowledged so far (initially 65535)

  `Inv full g s`:
    connection   window, available are `i32`; **available + in_flight_data = target** (conservation);
                 0 ≤ window, window + in_flight_data ≤ hiTarget ≤ 2^31-1;  Σ streams' in_flight_recv_data ≤ in_flight_data
    streams      (when `full`) window, available are `i32`; window ≤ available; for a stream that is not
                 closed: (available − window) + in_flight ≤ hiInit and available + in_flight ≤ hiInit;
                 for a stream that is in the id map and not closed:
                 available + in_flight ≤ init_window_sz, and
                 **available + in_flight = init_window_sz** (conservation) while its `RecvStream` exists
  The connection part holds for every history; the stream part for histories in which
  `apply_local_settings` and `Inner::send_reset` did not fail (`Op.ok`; a failure is a connection error).
-/
namespace H2V.Lemmas.ConnRecvP
open H2V H2V.Model H2V.Model.Conn
open H2V.Lemmas.Comp

/-- what the application has configured so far (not part of the model's state) -/
structure Ghost where
  target : Nat
  hiTarget : Nat
  hiInit : Nat
  deriving Repr, DecidableEq

def linked (s : Streams) (k : Nat) : Prop := k ∈ s.store.ids.map (·.2)

def cW (s : Streams) : Int := s.recv.flow.windowSize.val
def cA (s : Streams) : Int := s.recv.flow.available.val
def cI (s : Streams) : Nat := s.recv.inFlightData

/-- the stream-level books of a stream the protocol still knows (it is in the id map): closed, or
    `available + in_flight ≤ init_window_sz`, with equality as long as the `RecvStream` handle exists
    (`clear_recv_buffer` on a dropped `RecvStream` returns octets to the connection only) -/
def Bud (x : Stream) (init : Nat) : Prop :=
  x.state.isClosed = true ∨
    (x.recvFlow.available.val + (x.inFlightRecvData : Int) ≤ (init : Int) ∧
     (x.isRecv = true → x.recvFlow.available.val + (x.inFlightRecvData : Int) = (init : Int)))

structure StreamOK (s : Streams) (g : Ghost) (x : Stream) : Prop where
  wI32 : inI32 x.recvFlow.windowSize.val = true
  aI32 : inI32 x.recvFlow.available.val = true
  wa : x.recvFlow.windowSize.val ≤ x.recvFlow.available.val
  live : x.state.isClosed = true ∨
    (x.recvFlow.available.val - x.recvFlow.windowSize.val + (x.inFlightRecvData : Int) ≤ (g.hiInit : Int) ∧
     x.recvFlow.available.val + (x.inFlightRecvData : Int) ≤ (g.hiInit : Int))
  bud : linked s x.key → Bud x s.recv.initWindowSz

/-- `d` is slack: octets already counted in the connection's `in_flight_data` that no stream
    accounts for yet (positive) or that a stream still accounts for although the connection has
    already given them back (negative); non-zero only in the middle of an operation -/
structure InvD (full : Bool) (g : Ghost) (d : Int) (s : Streams) : Prop where
  keys : KeysOK s.store
  wI32 : inI32 (cW s) = true
  aI32 : inI32 (cA s) = true
  cons : cA s + (cI s : Int) = (g.target : Int)
  w0 : 0 ≤ cW s
  wI : cW s + (cI s : Int) ≤ (g.hiTarget : Int)
  tHi : g.target ≤ g.hiTarget
  hiMax : g.hiTarget ≤ 2147483647
  sum : (sumInfl s.store.slab : Int) + d ≤ (cI s : Int)
  initHi : s.recv.initWindowSz ≤ g.hiInit
  initMax : g.hiInit ≤ 2147483647
  streams : full = true → ∀ x ∈ s.store.slab, StreamOK s g x

/-- the invariant between two operations -/
abbrev Inv (full : Bool) (g : Ghost) (s : Streams) : Prop := InvD full g 0 s

theorem inI32_of_range {x : Int} (h1 : -2147483648 ≤ x) (h2 : x ≤ 2147483647) : inI32 x = true :=
  (inI32_iff x).2 ⟨h1, h2⟩

theorem newRecvFlow_eq {init : Nat} (h : init ≤ 2147483647) :
    newRecvFlow init = ⟨⟨(init : Int)⟩, ⟨(init : Int)⟩⟩ := by
  unfold newRecvFlow
  have hu : u32AsI32 init = (init : Int) := u32AsI32_of_lt (by omega)
  have h1 : FlowControl.new.incWindow init = (⟨⟨(init : Int)⟩, ⟨0⟩⟩, .ok ()) := by
    rw [Flow.incWindow_eq, hu]
    have : inI32 ((FlowControl.new).windowSize.val + (init : Int)) = true ∧
        (FlowControl.new).windowSize.val + (init : Int) ≤ (Generated.Consts.MAX_WINDOW_SIZE : Int) := by
      constructor
      · apply inI32_of_range <;> simp [FlowControl.new] <;> omega
      · simp [FlowControl.new, Generated.Consts.MAX_WINDOW_SIZE]; omega
    rw [if_pos this]
    simp [FlowControl.new]
  rw [h1]
  simp only []
  rw [Flow.assignCapacity_eq, hu]
  have : inI32 (init : Int) = true := by apply inI32_of_range <;> omega
  simp [this]

theorem newRecvFlow_zero : newRecvFlow 0 = ⟨⟨0⟩, ⟨0⟩⟩ := by
  have := newRecvFlow_eq (init := 0) (by omega)
  simpa using this

theorem StreamOK.of_sameR {s s' : Streams} {g : Ghost} {x x' : Stream} (hk : KeysOK s.store) (e : Ext s s')
    (hx : x ∈ s.store.slab) (hs : SameR x x') (ok : StreamOK s g x) : StreamOK s' g x' := by
  refine ⟨by rw [hs.flow]; exact ok.wI32, by rw [hs.flow]; exact ok.aI32, by rw [hs.flow]; exact ok.wa, ?_, ?_⟩
  · rcases ok.live with hc | hl
    · exact .inl (hs.closed hc)
    · exact .inr (by rw [hs.flow, hs.infl]; exact hl)
  · intro hl
    -- a key of `s` that the id map of `s'` points to was already linked in `s`
    have hl' : linked s x.key := by
      rcases e.link x'.key hl with h1 | h1
      · rw [hs.key] at h1; exact h1
      · have := hk.lt x hx
        rw [hs.key] at h1; omega
    rcases ok.bud hl' with hc | hb
    · exact .inl (hs.closed hc)
    · refine .inr ?_
      rw [hs.flow, hs.infl, e.init]
      exact ⟨hb.1, fun hr => hb.2 (hs.recv hr)⟩

theorem StreamOK.of_fresh {s s' : Streams} {g : Ghost} {x' : Stream} (e : Ext s s') (hfr : Fresh s x')
    (hI : s.recv.initWindowSz ≤ g.hiInit) (hM : g.hiInit ≤ 2147483647) : StreamOK s' g x' := by
  rcases hfr.flow with hfl | ⟨hfl, hc⟩
  · rw [newRecvFlow_eq (by omega)] at hfl
    refine ⟨?_, ?_, ?_, ?_, ?_⟩
    · rw [hfl]; apply inI32_of_range <;> simp <;> omega
    · rw [hfl]; apply inI32_of_range <;> simp <;> omega
    · rw [hfl]; exact Int.le_refl _
    · right; rw [hfl, hfr.infl]; simp; omega
    · intro _; right; rw [hfl, hfr.infl, e.init]; simp
  · rw [newRecvFlow_zero] at hfl
    refine ⟨?_, ?_, ?_, .inl hc, fun _ => .inl hc⟩
    · rw [hfl]; decide
    · rw [hfl]; decide
    · rw [hfl]; exact Int.le_refl _

/-- the invariant only depends on what `Ext` preserves -/
theorem InvD.of_ext {full : Bool} {g : Ghost} {d : Int} {s s' : Streams} (h : InvD full g d s) (e : Ext s s') :
    InvD full g d s' where
  keys := e.keys h.keys
  wI32 := by unfold cW; rw [e.flow]; exact h.wI32
  aI32 := by unfold cA; rw [e.flow]; exact h.aI32
  cons := by unfold cA cI; rw [e.flow, e.infl]; exact h.cons
  w0 := by unfold cW; rw [e.flow]; exact h.w0
  wI := by unfold cW cI; rw [e.flow, e.infl]; exact h.wI
  tHi := h.tHi
  hiMax := h.hiMax
  sum := by
    have h1 := e.sum h.keys
    have h2 := h.sum
    unfold cI at *; rw [e.infl]; omega
  initHi := by rw [e.init]; exact h.initHi
  initMax := h.initMax
  streams := fun hf x' hx' => by
    rcases e.slab h.keys x' hx' with ⟨x, hx, hs⟩ | hfr
    · exact (h.streams hf x hx).of_sameR h.keys e hx hs
    · exact .of_fresh e hfr h.initHi h.initMax

theorem Inv.of_ext {full : Bool} {g : Ghost} {s s' : Streams} (h : Inv full g s) (e : Ext s s') : Inv full g s' :=
  InvD.of_ext h e

theorem InvD.wHi {full : Bool} {g : Ghost} {d : Int} {s : Streams} (h : InvD full g d s) : cW s ≤ (g.hiTarget : Int) := by
  have := h.wI; omega

theorem InvD.weaken {full : Bool} {g : Ghost} {d d' : Int} {s : Streams} (h : InvD full g d s) (hd : d' ≤ d) :
    InvD full g d' s :=
  { h with sum := by have := h.sum; omega }

theorem InvD.drop_full {full : Bool} {g : Ghost} {d : Int} {s : Streams} (h : InvD full g d s) : InvD false g d s :=
  { h with streams := fun hf => by cases hf }

theorem StreamOK.of_same {s s' : Streams} {g : Ghost} {x : Stream} (hids : s'.store.ids = s.store.ids)
    (hinit : s'.recv.initWindowSz = s.recv.initWindowSz) (h : StreamOK s g x) : StreamOK s' g x :=
  ⟨h.wI32, h.aI32, h.wa, h.live, fun hl => by
    have hl' : linked s x.key := by unfold linked at *; rw [hids] at hl; exact hl
    rw [hinit]; exact h.bud hl'⟩

theorem StreamOK.of_ghost {s : Streams} {g g' : Ghost} {x : Stream} (hg : g'.hiInit = g.hiInit) (h : StreamOK s g x) :
    StreamOK s g' x :=
  ⟨h.wI32, h.aI32, h.wa, by rw [hg]; exact h.live, h.bud⟩

/-- `s'` is `s` with the connection's receive books replaced — window `w`, available `a`, in flight
    `i`; same store, same initial window size.  The connection-level operations are described by the
    `ConnSet` they make; that they keep the invariant (`InvD.connSet`) and what they do to the books
    both follow from it. -/
structure ConnSet (s s' : Streams) (w a : Int) (i : Nat) : Prop where
  store : s'.store = s.store
  init : s'.recv.initWindowSz = s.recv.initWindowSz
  w : cW s' = w
  a : cA s' = a
  i : cI s' = i

theorem ConnSet.refl (s : Streams) : ConnSet s s (cW s) (cA s) (cI s) := ⟨rfl, rfl, rfl, rfl, rfl⟩

/-- `modRecv`; stated for a variable `f` so that the kernel never has to compare two spellings of a
    concrete `f`'s result (which may contain `wrapSubU32`, see the notes on the kernel trap) -/
theorem ConnSet.modRecv (s : Streams) (f : Recv → Recv) (hinit : (f s.recv).initWindowSz = s.recv.initWindowSz) :
    ConnSet s (s.modRecv f) (f s.recv).flow.windowSize.val (f s.recv).flow.available.val (f s.recv).inFlightData :=
  ⟨rfl, hinit, rfl, rfl, rfl⟩

theorem ConnSet.of_eq {s s1 s2 : Streams} {w a : Int} {i : Nat} (c : ConnSet s s1 w a i)
    (hst : s2.store = s1.store) (hr : s2.recv = s1.recv) : ConnSet s s2 w a i :=
  ⟨hst.trans c.store, by rw [hr]; exact c.init, by unfold cW; rw [hr]; exact c.w,
   by unfold cA; rw [hr]; exact c.a, by unfold cI; rw [hr]; exact c.i⟩

/-- the invariant after the connection's books (and possibly the configured target) have been
    replaced; that window and `available` are `i32` follows from the other clauses -/
theorem InvD.connSet' {full : Bool} {g : Ghost} {d d' : Int} {s s' : Streams} {w a : Int} {i : Nat}
    (h : InvD full g d s) (c : ConnSet s s' w a i) (g' : Ghost) (hgi : g'.hiInit = g.hiInit)
    (hcons : a + (i : Int) = (g'.target : Int)) (hw0 : 0 ≤ w) (hwI : w + (i : Int) ≤ (g'.hiTarget : Int))
    (htHi : g'.target ≤ g'.hiTarget) (hmax : g'.hiTarget ≤ 2147483647)
    (hsum : (sumInfl s.store.slab : Int) + d' ≤ (i : Int)) : InvD full g' d' s' where
  keys := by rw [c.store]; exact h.keys
  wI32 := by rw [c.w]; apply inI32_of_range <;> omega
  aI32 := by rw [c.a]; apply inI32_of_range <;> omega
  cons := by rw [c.a, c.i]; exact hcons
  w0 := by rw [c.w]; exact hw0
  wI := by rw [c.w, c.i]; exact hwI
  tHi := htHi
  hiMax := hmax
  sum := by rw [c.store, c.i]; exact hsum
  initHi := by rw [c.init, hgi]; exact h.initHi
  initMax := by rw [hgi]; exact h.initMax
  streams := fun hf x hx =>
    .of_ghost hgi (.of_same (s := s) (by rw [c.store]) c.init (h.streams hf x (c.store ▸ hx)))

theorem InvD.connSet {full : Bool} {g : Ghost} {d d' : Int} {s s' : Streams} {w a : Int} {i : Nat}
    (h : InvD full g d s) (c : ConnSet s s' w a i) (hcons : a + (i : Int) = (g.target : Int)) (hw0 : 0 ≤ w)
    (hwI : w + (i : Int) ≤ (g.hiTarget : Int)) (hsum : (sumInfl s.store.slab : Int) + d' ≤ (i : Int)) :
    InvD full g d' s' :=
  h.connSet' c g rfl hcons hw0 hwI h.tHi h.hiMax hsum

/-- the initial state of the receive side: `Conn.init` / `Conn.initServer` before
    `set_target_window_size` -/
structure Init (s : Streams) : Prop where
  slab : s.store.slab = []
  ids : s.store.ids = []
  flow : s.recv.flow = ⟨⟨65535⟩, ⟨65535⟩⟩
  infl : s.recv.inFlightData = 0
  init : s.recv.initWindowSz = 65535

def Ghost.init : Ghost := { target := 65535, hiTarget := 65535, hiInit := 65535 }

theorem Inv.init {s : Streams} (h : Init s) (full : Bool) : Inv full Ghost.init s where
  keys := ⟨by rw [h.slab]; simp, by rw [h.slab]; simp, by rw [h.ids]; simp, by rw [h.ids]; simp, by rw [h.ids]; simp⟩
  wI32 := by unfold cW; rw [h.flow]; decide
  aI32 := by unfold cA; rw [h.flow]; decide
  cons := by unfold cA cI; rw [h.flow, h.infl]; decide
  w0 := by unfold cW; rw [h.flow]; decide
  wI := by unfold cW cI; rw [h.flow, h.infl]; decide
  tHi := by decide
  hiMax := by decide
  sum := by rw [h.slab]; simp
  initHi := by rw [h.init]; decide
  initMax := by decide
  streams := fun _ x hx => by rw [h.slab] at hx; cases hx

end H2V.Lemmas.ConnRecvP
