import H2V.Lemmas.ConnCountsPStreams
import H2V.Lemmas.ConnPushRule
import H2V.Lemmas.ConnSendRequestRule
/-
  C05 / C18 / C19: `Ev` for the functions of `streams.rs` that create slab entries
  (`recv_push_promise`, `Inner::send_reset`, `send_request`, `send_push_promise`) and `EvT` for
  `clear_queues` / `recv_eof`.
-/
namespace H2V.Lemmas.ConnCountsP
open H2V H2V.Model H2V.Model.Conn
variable {ρ : Bool}
attribute [local irreducible] wrapSubU32 wrapSubUsize

theorem recvPushPromise_ev (s : Streams) (id : Nat) (h : HeadersIn) : EvB true s (s.recvPushPromise id h).1 :=
  PromiseRule.run (I := EvB true s) (L := fun _ _ _ => True) (L' := fun _ _ _ => True)
    { pre := .refl s
      opn := recvOpen_ev s h.sid true
      ins := fun _ s1 sP _ hro hP => by
        have e1 : EvB true s s1 := of_fst_eq hro (recvOpen_ev _ _ _)
        have hc : sP.counts = s1.counts := by rw [hP, apply_ite Streams.counts, panic_counts, ite_self]
        have eP : EvB true s1 sP := by rw [hP]; ev_auto
        exact ⟨.trans (.trans e1 eP) (.insert _ (fresh_new _ _ _) (by rw [hc]; exact recvOpen_remote hro)), trivial⟩
      body := fun _ child t ht _ =>
        ⟨.trans ht (transition_ev _ _ _ fun u => by unfold Streams.pushPromiseBody; ev_auto), fun _ => trivial⟩
      link := fun pk child t ht _ => by
        refine .trans ht (.trans ?_ (modStreamW_ev' _ _ _ (Same.of_updW .notifyPush)))
        split
        · exact .refl _
        · exact .trans (.acceptFlag child true) (modStream_ev _ _ _ fun _ _ => by same_tac) }

theorem sendSendReset_notEarly (s : Streams) (k : Nat) (r : Reason) (i : Initiator) (hk : k < s.store.nextKey) :
    ∀ x, (s.sendSendReset k r i).store.get? k = some x → ¬ Early x := by
  rw [Streams.sendSendReset_eq]
  split
  · next hr =>
    intro x hx
    rw [stream_of_get? hx] at hr
    unfold State.isReset at hr
    intro he
    rcases he with he | he <;> simp [he] at hr
  · dsimp only
    generalize hs1 : (s.modStreamW k fun st => st.setReset r i) = s1
    have h1 : ∀ x, s1.store.get? k = some x → ¬ Early x := by
      intro x hx
      rw [← hs1, s.modStreamW_get? k _ (fun y => y.setReset_key r i), if_pos rfl] at hx
      obtain ⟨y, _, rfl⟩ := Option.map_eq_some_iff.mp hx
      rw [y.setReset_fst]; exact notEarly_of_closed rfl
    have hk1 : k < s1.store.nextKey := by
      have : EvB true s s1 := by rw [← hs1]; exact modStreamW_ev' _ _ _ (setReset_same _ _ _)
      exact Nat.lt_of_lt_of_le hk this.ne.nextKey
    clear hs1
    split
    · exact h1
    · refine (EvB.ne (ρ := true) ?_).ne k hk1 h1
      ev_auto

theorem actionsSendReset_post (s1 : Streams) (k : Nat) (reason : Reason) (hk : k < s1.store.nextKey)
    (herr : ErrOK (s1.actionsSendReset k reason .library).1) :
    ∀ x, (s1.actionsSendReset k reason .library).1.store.get? k = some x → ¬ Early x := by
  have hmono := (actionsSendReset_ev (ρ := true) s1 k reason .library).mono
  have hc : s1.counts.canIncNumLocalErrorResets = true := canIncErr_back hmono.counts.maxErr hmono.counts.err herr
  have hT : (s1.actionsSendReset k reason .library).1 =
      ((((s1.modCountsA "can_inc_num_local_error_resets" Counts.incNumLocalErrorResets).sendSendReset k reason .library).enqueueResetExpiration k).modStreamW k Stream.notifyRecv).transitionAfter k (s1.stream k).isPendingResetExpiration := by
    unfold Streams.actionsSendReset Streams.transition
    have hlib : Initiator.isLibrary .library = true := rfl
    simp only [hlib, hc, if_true]
  rw [hT]
  generalize hs2 : s1.modCountsA "can_inc_num_local_error_resets" Counts.incNumLocalErrorResets = s2
  have hk2 : k < s2.store.nextKey := by
    have : EvB true s1 s2 := by rw [← hs2]; exact modCountsA_ev _ _ _ (fun _ h => cstep_incErr h)
    exact Nat.lt_of_lt_of_le hk this.ne.nextKey
  have h3 := sendSendReset_notEarly s2 k reason .library hk2
  have e3 : EvB true s2 (s2.sendSendReset k reason .library) := .of_step (Streams.sendSendReset_step (by decide) _ _ _ _ fun h => Initiator.noConfusion h)
  have hk3 : k < (s2.sendSendReset k reason .library).store.nextKey := Nat.lt_of_lt_of_le hk2 e3.ne.nextKey
  refine (EvB.ne (ρ := true) ?_).ne k hk3 h3
  have e12 : EvB true s1 s2 := by rw [← hs2]; exact modCountsA_ev _ _ _ (fun _ h => cstep_incErr h)
  have e4 : EvB true (s2.sendSendReset k reason .library)
      (((s2.sendSendReset k reason .library).enqueueResetExpiration k).modStreamW k Stream.notifyRecv) :=
    .trans (enqueueResetExpiration_ev _ _) (modStreamW_ev' _ _ _ (Same.of_updW .notifyRecv))
  refine .trans e4 ?_
  refine transitionAfter_ev _ _ _ ?_
  intro hb
  exact ((e12.trans (e3.trans e4)).mono.resetAt k hb)

theorem innerSendReset_ev (s : Streams) (id : Nat) (reason : Reason) : EvB true s (s.innerSendReset id reason).1 := by
  unfold Streams.innerSendReset
  cases hf : s.store.findKey? id with
  | some k =>
    dsimp only
    exact actionsSendReset_ev _ _ _ _
  | none =>
    dsimp only
    generalize hs0 : (if s.counts.isLocalInit id = true then s.sendMaybeResetNextStreamId id else s.recvMaybeResetNextStreamId id) = s0
    have e0 : EvB true s s0 := by
      rw [← hs0]
      split
      · next hl => exact sendMaybeResetNextStreamId_ev _ _ hl
      · exact recvMaybeResetNextStreamId_ev _ _
    refine .trans e0 ?_
    clear hs0 e0 hf
    refine .bracket (Stream.new id 0 0) (fresh_new _ _ _) (actionsSendReset_ev _ _ _ _) ?_
    intro herr
    exact actionsSendReset_post _ _ _ (Nat.lt_succ_self _) herr

/-- keys are handed out in increasing order (half of `KeysOK`) -/
def KeysFresh (s : Streams) : Prop := ∀ x ∈ s.store.slab, x.key < s.store.nextKey

theorem get?_nextKey_none {s : Streams} (h : KeysFresh s) : s.store.get? s.store.nextKey = none :=
  Store.get?_eq_none.mpr fun x hx => Nat.ne_of_lt (h x hx)

theorem insert_get?_new {s : Streams} (h : KeysFresh s) (st : Stream) :
    (s.store.insert st).1.get? s.store.nextKey = some { st with key := s.store.nextKey } := by
  rw [Store.get?_insert_fresh (get?_nextKey_none h), if_pos rfl]

theorem sendHeaders_error_eq {s s' : Streams} {k : Nat} {eos : Bool} {f : List Hpack.Field} {e : UserError}
    (h : s.sendHeaders k eos f = (s', .error e)) : s' = s := by
  unfold Streams.sendHeaders at h
  split at h
  · cases h; rfl
  · split at h
    · cases h; rfl
    · cases h

theorem sendHeaders_ok_notEarly {s s' : Streams} {k : Nat} {eos : Bool} {f : List Hpack.Field} {u : Unit}
    (hk : k < s.store.nextKey) (h : s.sendHeaders k eos f = (s', .ok u)) :
    ∀ x, s'.store.get? k = some x → ¬ Early x := by
  unfold Streams.sendHeaders at h
  split at h
  · cases h
  · split at h
    · cases h
    · next st' u' heq =>
      dsimp only at h
      generalize hs1 : (s.modStream k fun st => { st with state := st' }) = s1 at h
      have h1 : ∀ x, s1.store.get? k = some x → ¬ Early x := by
        intro x hx
        rw [← hs1, s.modStream_get? k (fun st => { st with state := st' }) (fun _ => rfl), if_pos rfl] at hx
        obtain ⟨y, _, rfl⟩ := Option.map_eq_some_iff.mp hx
        exact fun h => sendOpen_not_early heq h
      have e1 : EvB true s s1 := by
        rw [← hs1]; exact modStream_ev' _ _ _ (setState_same _ _ (fun h => absurd h (sendOpen_not_early heq)))
      have hk1 : k < s1.store.nextKey := Nat.lt_of_lt_of_le hk e1.ne.nextKey
      clear hs1
      simp only [Prod.mk.injEq] at h
      rw [← h.1]
      refine (EvB.ne (ρ := true) ?_).ne k hk1 h1
      split
      · next hpo =>
        have hl : s1.counts.isLocalInit (s1.stream k).id = true := by
          simp only [Bool.and_eq_true] at hpo; exact hpo.1
        exact .trans (queueOpen_ev _ _ hl) (.trans (queueFrame_ev _ _ _ rfl) (notifyTask_ev _))
      · exact queueFrame_ev _ _ _ rfl

theorem sendOpenId_ok {s s1 : Streams} {id : Nat} (h : s.sendOpenId = (s1, .ok id)) :
    s.actions.send.nextStreamId = some id ∧ s1.counts = s.counts ∧ s1.store = s.store := by
  unfold Streams.sendOpenId at h
  split at h
  · cases h
  · next x hx =>
    simp only [Prod.mk.injEq, Except.ok.injEq] at h
    rw [← h.1, ← h.2]
    exact ⟨hx, rfl, rfl⟩

theorem fresh_request (isHead : Bool) (id a b : Nat) : Fresh (requestStream isHead id a b) := by
  unfold requestStream
  cases isHead
  · exact fresh_new _ _ _
  · exact ⟨rfl, fun q => by cases q <;> rfl, rfl, rfl⟩

theorem EvB.bracket_undo {s s' : Streams} (st : Stream) (hf : Fresh st) (id : Nat)
    (e : EvB false { s with store := (s.store.insert st).1 } s')
    (hrem : ∀ x, s'.store.get? s.store.nextKey = some x → x.isCounted = false ∧ ∀ q, x.isQueued q = false) :
    EvB true s { s' with store := (s'.store.unlink id).remove s.store.nextKey } := by
  refine .bracket st hf (.trans e (.trans (.unlink id) (EvB.remove s.store.nextKey s'.recvBufferLeaked hrem))) ?_
  intro _ x hx
  have hx' : ((s'.store.unlink id).remove s.store.nextKey).get? s.store.nextKey = some x := hx
  rw [remove_get?_self] at hx'; cases hx'

theorem EvB.bracket_ne {s s1 s' : Streams} (st : Stream) (hf : Fresh st) (e : EvB false { s with store := (s.store.insert st).1 } s1)
    (hne : ∀ x, s1.store.get? s.store.nextKey = some x → ¬ Early x) (e' : EvB false s1 s') : EvB true s s' :=
  .bracket st hf (.trans e e') fun _ => e'.ne.ne _ (Nat.lt_of_lt_of_le (Nat.lt_succ_self _) e.ne.nextKey) hne

theorem sendRequestCore_ev (s : Streams) (hA : KeysFresh s) (isHead eos : Bool) (fields : List Hpack.Field) :
    EvB true s (sendRequestCore isHead fields eos s).1 := by
  unfold sendRequestCore
  split
  · next s1 e heq => exact of_fst_eq heq (sendOpenId_ev _)
  · next s1 id heq =>
    refine .trans (of_fst_eq heq (sendOpenId_ev _)) ?_
    have hst1 : s1.store = s.store := (sendOpenId_ok heq).2.2
    extract_lets st sP k s3
    have eP : EvB true s1 sP := by simp only [sP]; ev_auto
    have hAP : KeysFresh sP := by
      unfold KeysFresh
      rw [show sP.store = s.store by simp only [sP]; rw [apply_ite Streams.store, panic_store, ite_self, hst1]]
      exact hA
    refine .trans eP ?_
    clear_value sP
    have hfr : Fresh st := fresh_request _ _ _ _
    clear_value st
    have hget3 : s3.store.get? k = some { st with key := k } := insert_get?_new hAP st
    split
    · next s4 e heq4 =>
      cases sendHeaders_error_eq heq4
      refine .bracket_undo st hfr id (.refl _) fun x hx => ?_
      rw [show s3.store.get? sP.store.nextKey = _ from hget3] at hx; cases hx
      exact ⟨hfr.counted, fun q => by have := hfr.fl q; cases q <;> exact this⟩
    · next s4 u heq4 =>
      refine .bracket_ne st hfr (of_fst_eq heq4 (sendHeaders_ev _ _ _ _)) (sendHeaders_ok_notEarly (Nat.lt_succ_self _) heq4) ?_
      ev_auto

theorem sendRequest_ev (s : Streams) (hA : KeysFresh s) (isHead : Bool) (fields : List Hpack.Field) (eos : Bool) (pending : Option Nat) :
    EvB true s (s.sendRequest isHead fields eos pending).1 := by
  rcases sendRequest_cases s isHead fields eos pending with h | h <;> rw [h]
  · exact .refl _
  · exact sendRequestCore_ev s hA isHead eos fields

/-- `next_stream_id` of the send half is a locally initiated id (part of the invariant) -/
def NextLocal (s : Streams) : Prop := ∀ x, s.actions.send.nextStreamId = some x → s.counts.isLocalInit x = true

theorem sendPushPromise_error_eq {s s' : Streams} {p pk pid : Nat} {f : List Hpack.Field} {e : UserError}
    (h : s.sendPushPromise p pk pid f = (s', .error e)) : s' = s := by
  unfold Streams.sendPushPromise at h
  by_cases hp : (!s.actions.send.isPushEnabled) = true
  · simp only [hp, if_true] at h; cases h; rfl
  · simp only [hp] at h
    by_cases hq : (s.stream p).state.isSendClosed = true
    · simp only [hq, if_true] at h; cases h; rfl
    · simp only [hq] at h
      cases hc : Streams.checkHeaders f with
      | error e' => simp only [hc] at h; cases h; rfl
      | ok u => simp only [hc] at h; cases h

theorem pushReserved_ev (s : Streams) (hA : KeysFresh s) (st : Stream) (hfr : Fresh st) (parent pid : Nat)
    (hl : s.counts.isLocalInit pid = true) (valid : Bool) (fields : List Hpack.Field) :
    EvB true s (({ s with store := (s.store.insert st).1 } : Streams).pushReserved parent s.store.nextKey pid valid fields).1 := by
  unfold Streams.pushReserved
  generalize hs3 : ({ s with store := (s.store.insert st).1 } : Streams) = s3
  have hget3 : s3.store.get? s.store.nextKey = some { st with key := s.store.nextKey } := by rw [← hs3]; exact insert_get?_new hA st
  rw [stream_of_get? hget3]
  split
  · next e heq =>
    exfalso
    have : ({ st with key := s.store.nextKey } : Stream).state.inner = .idle := hfr.idle
    unfold State.reserveLocal at heq
    rw [this] at heq
    cases heq
  · next st' u heq =>
    have hne' : ¬ (st'.inner = .idle ∨ st'.inner = .reservedRemote) := reserveLocal_not_early heq
    dsimp only
    generalize hs4 : (s3.modStream s.store.nextKey fun st => { st with state := st', isPendingPush := true }) = s4
    have e4 : EvB false { s with store := (s.store.insert st).1 } s4 := by
      rw [hs3, ← hs4]
      exact modStream_ev _ _ _ fun x _ => ⟨rfl, rfl, rfl, fun q => by cases q <;> rfl, fun h => absurd h hne', fun _ h _ => h⟩
    have hget4 : s4.store.get? s.store.nextKey =
        some { ({ st with key := s.store.nextKey } : Stream) with state := st', isPendingPush := true } := by
      rw [← hs4]
      exact modStream_get?_self s3 _ (fun st => { st with state := st', isPendingPush := true }) _ hget3 rfl
    have hne4 : ∀ x, s4.store.get? s.store.nextKey = some x → ¬ Early x := by
      intro x hx; rw [hget4] at hx; cases hx; exact hne'
    have hl4 : s4.counts.isLocalInit pid = true := by rw [← hs4, Streams.modStream_counts, ← hs3]; exact hl
    clear hs4
    split
    · exact .bracket_ne st hfr e4 hne4 (.refl _)
    · split
      · next s5 e heq5 =>
        cases sendPushPromise_error_eq heq5
        refine .bracket_undo st hfr pid e4 fun x hx => ?_
        rw [hget4] at hx; cases hx
        exact ⟨hfr.counted, fun q => by have := hfr.fl q; cases q <;> exact this⟩
      · next s5 u5 heq5 =>
        refine .bracket_ne st hfr e4 hne4 (.trans (of_fst_eq heq5 (sendPushPromise_ev _ _ _ _ _ hl4)) ?_)
        ev_auto

theorem refSendPushPromise_ev (s : Streams) (hA : KeysFresh s) (hN : NextLocal s) (parent : Nat) (valid : Bool)
    (fields : List Hpack.Field) : EvB true s (s.refSendPushPromise parent valid fields).1 := by
  rw [Streams.refSendPushPromise_eq]
  unfold Streams.sendReserveLocal
  split
  · next s1 e heq => exact of_fst_eq heq (sendOpenId_ev _)
  · next s1 pid heq =>
    refine .trans (of_fst_eq heq (sendOpenId_ev _)) ?_
    obtain ⟨hnext, hc1, hst1⟩ := sendOpenId_ok heq
    extract_lets sP
    have eP : EvB true s1 sP := by simp only [sP]; ev_auto
    have hAP : KeysFresh sP := by
      unfold KeysFresh
      rw [show sP.store = s.store by simp only [sP]; rw [apply_ite Streams.store, panic_store, ite_self, hst1]]
      exact hA
    have hlP : sP.counts.isLocalInit pid = true := by
      rw [show sP.counts = s.counts by simp only [sP]; rw [apply_ite Streams.counts, panic_counts, ite_self, hc1]]
      exact hN pid hnext
    exact .trans eP (pushReserved_ev sP hAP _ (fresh_new _ _ _) parent pid hlP valid fields)

theorem clearQueues_evT (s : Streams) (b : Bool) : EvT s (s.clearQueues b) := by
  unfold Streams.clearQueues
  exact .trans (recvClearQueues_evT _ _) (.ev (sendClearQueues_ev _))

theorem eofStream_ev (s : Streams) (id : Nat) :
    EvB ρ s (s.transition id fun s => ((s.recvRecvEof id).sendHandleError id, ())).1 := by
  ev_auto

theorem recvEof_evT (s : Streams) (b : Bool) : EvT s (s.recvEof b) := by
  unfold Streams.recvEof
  dsimp only
  refine .trans (.ev ?_) (clearQueues_evT _ _)
  refine .trans ?_ (storeForEach_ev _ _ (fun s id => eofStream_ev s id))
  split
  · exact setMisc_ev _ _ _ _ _ _ ⟨rfl, rfl, rfl, rfl, rfl⟩
  · exact .refl _

end H2V.Lemmas.ConnCountsP
