import H2V.Lemmas.ConnPartPGaClosure
/-
  C15: coverage of a `store.for_each` whose closure fails the streams chosen by a selection `sel` and
  looks at no other (`Arms`): `Inner::recv_go_away` (`sel` = locally initiated and above the cut-off or
  still in `pending_open`) and `Inner::handle_error` (`sel` = every stream).  After the loop
    * EVERY selected stream linked in the id map is released or `Failed err`;
    * EVERY other slab entry is still there and `Unt` (nothing but the six fields that the hand-out of the
      freed connection capacity writes may differ), and still linked if it was;
    * no entry appears, and an entry the id map does not know is not visited.
-/
namespace H2V.Lemmas.ConnPartP
open H2V H2V.Model H2V.Model.Conn H2V.Lemmas.ConnWakeP

/-- the selection of `recv_go_away`, for an endpoint whose role is `srv` -/
def Sel (last : Nat) (srv : Bool) (a : Stream) : Prop :=
  (a.id > last ∨ a.isPendingOpen = true) ∧ (srv == (a.id % 2 == 0)) = true

theorem Sel.congr {last : Nat} {srv : Bool} {a b : Stream} (h1 : b.id = a.id) (h2 : b.isPendingOpen = a.isPendingOpen) :
    Sel last srv b ↔ Sel last srv a := by unfold Sel; rw [h1, h2]

/-- what a failed stream looks like, whatever it was before -/
structure Mk (b : Stream) : Prop where
  resolved : Resolved b
  cleared : Cleared b
  sched : b.isPendingOpen = true → b.state.getScheduledReset = none

theorem Failed.toMk {err : PErr} {a b : Stream} (h : Failed err a b) : Mk b := ⟨h.resolved, h.cleared, h.sched⟩

/-- how an entry of the store can evolve while a `store.for_each` fails the streams chosen by `sel` -/
def FailR (sel : Stream → Prop) (err : PErr) (a b : Stream) : Prop :=
  (Unt a b ∧ (Resolved a → Resolved b)) ∨ (sel a ∧ Failed err a b)

/-- how an entry of the store can evolve during `recv_go_away` -/
def GaR (last : Nat) (srv : Bool) (err : PErr) (a b : Stream) : Prop :=
  (Unt a b ∧ (Resolved a → Resolved b)) ∨ (Sel last srv a ∧ Failed err a b)

theorem failState_congr {err : PErr} {a b : Stream} (hs : b.state = a.state) (hp : b.isPendingOpen = a.isPendingOpen)
    (hi : b.id = a.id) : failState err b = failState err a := by unfold failState; rw [hs, hp, hi]

theorem Failed.of_unt_left {err : PErr} {a b c : Stream} (hu : Unt a b) (h : Failed err b c) : Failed err a c :=
  ⟨h.rest.trans (maskF_of_mask hu), h.state.trans (failState_congr hu.state hu.isPendingOpen hu.id), h.cleared, h.resolved⟩

/-- the store before and during/after the `for_each`: no entry appears, only selected ones go -/
structure Walk (sel : Stream → Prop) (err : PErr) (s s' : Streams) : Prop where
  fresh : ∀ k, s.store.get? k = none → s'.store.get? k = none
  keep : ∀ k a, s.store.get? k = some a →
    (sel a ∧ s'.store.get? k = none) ∨ ∃ b, s'.store.get? k = some b ∧ FailR sel err a b

/-- the relation between the store before and during/after `recv_go_away` -/
structure GA (last : Nat) (srv : Bool) (err : PErr) (s s' : Streams) : Prop where
  fresh : ∀ k, s.store.get? k = none → s'.store.get? k = none
  keep : ∀ k a, s.store.get? k = some a →
    (Sel last srv a ∧ s'.store.get? k = none) ∨ ∃ b, s'.store.get? k = some b ∧ GaR last srv err a b

theorem ga_iff_walk {last : Nat} {srv : Bool} {err : PErr} {s s' : Streams} :
    GA last srv err s s' ↔ Walk (Sel last srv) err s s' :=
  ⟨fun h => ⟨h.1, h.2⟩, fun h => ⟨h.1, h.2⟩⟩

/-- the entry of `e`, if it is (still) there and selected, looks failed -/
def Visited (sel : Stream → Prop) (e : Nat × Nat) (t : Streams) : Prop :=
  ∀ b, t.store.get? e.2 = some b → sel b → Mk b

/-- the id-map entries of unselected streams: still there -/
def KeepsLinks (sel : Stream → Prop) (s1 t : Streams) : Prop :=
  ∀ e ∈ s1.store.ids, ∀ a, s1.store.get? e.2 = some a → ¬ sel a → e ∈ t.store.ids

/-- entries the id map of `s1` does not know are never removed, and the id map only shrinks -/
def Unl (s1 t : Streams) : Prop :=
  (∀ e ∈ t.store.ids, e ∈ s1.store.ids) ∧
  ∀ k a, s1.store.get? k = some a → (∀ e ∈ s1.store.ids, e.2 ≠ k) → ∃ b, t.store.get? k = some b ∧ Unt a b

/-- `f` is the closure `errClosure err` on the selected entries and leaves the state alone on the others -/
def Arms (sel : Stream → Prop) (err : PErr) (f : Streams → Nat → Streams) (t : Streams) : Prop :=
  ∀ k, (f t k = errClosure err t k ∧ ∀ a, t.store.get? k = some a → sel a) ∨
       (f t k = t ∧ ∀ a, t.store.get? k = some a → ¬ sel a)

section walk
/- the selection may only look at fields that neither the closure nor the hand-out of capacity writes -/
variable {sel : Stream → Prop} (hsel : ∀ a b : Stream, maskF b = maskF a → (sel b ↔ sel a))
variable {err : PErr} {f : Streams → Nat → Streams}

theorem FailR.refl (a : Stream) : FailR sel err a a := Or.inl ⟨Unt.refl a, fun h => h⟩

theorem FailR.rest {a b : Stream} (h : FailR sel err a b) : maskF b = maskF a := by
  rcases h with ⟨h, _⟩ | ⟨_, h⟩
  · exact maskF_of_mask h
  · exact h.rest

include hsel in
theorem FailR.trans {a b c : Stream} (h1 : FailR sel err a b) (h2 : FailR sel err b c) : FailR sel err a c := by
  rcases h1 with ⟨u1, r1⟩ | ⟨s1, f1⟩
  · rcases h2 with ⟨u2, r2⟩ | ⟨s2, f2⟩
    · exact Or.inl ⟨u1.trans u2, fun h => r2 (r1 h)⟩
    · exact Or.inr ⟨(hsel a b (maskF_of_mask u1)).mp s2, f2.of_unt_left u1⟩
  · rcases h2 with ⟨u2, r2⟩ | ⟨_, f2⟩
    · exact Or.inr ⟨s1, f1.unt u2 (r2 f1.resolved)⟩
    · exact Or.inr ⟨s1, f1.again f2⟩

theorem FailR.mk {a b : Stream} (h : FailR sel err a b) (hm : Mk a) : Mk b := by
  rcases h with ⟨u, r⟩ | ⟨_, f⟩
  · exact ⟨r hm.resolved, ⟨u.pendingSend.trans hm.cleared.1, u.buffered.trans hm.cleared.2, u.requested.trans hm.cleared.3⟩,
      fun hp => by rw [u.state]; exact hm.sched (by rw [← u.isPendingOpen]; exact hp)⟩
  · exact f.toMk

theorem Walk.refl (s : Streams) : Walk sel err s s :=
  ⟨fun _ h => h, fun _ a h => Or.inr ⟨a, h, FailR.refl a⟩⟩

include hsel in
theorem Walk.trans {s s' s'' : Streams} (h1 : Walk sel err s s') (h2 : Walk sel err s' s'') : Walk sel err s s'' where
  fresh := fun k h => h2.fresh k (h1.fresh k h)
  keep := fun k a h => by
    rcases h1.keep k a h with ⟨r, h'⟩ | ⟨b, hb, hab⟩
    · exact Or.inl ⟨r, h2.fresh k h'⟩
    · rcases h2.keep k b hb with ⟨r, h''⟩ | ⟨c, hc, hbc⟩
      · exact Or.inl ⟨(hsel a b hab.rest).mp r, h''⟩
      · exact Or.inr ⟨c, hc, hab.trans hsel hbc⟩

include hsel in
theorem Visited.of_walk {t t' : Streams} (h : Walk sel err t t') {e : Nat × Nat} (hv : Visited sel e t) :
    Visited sel e t' := by
  intro b hb hs
  cases ha : t.store.get? e.2 with
  | none => rw [h.fresh _ ha] at hb; cases hb
  | some a =>
    rcases h.keep _ a ha with ⟨_, hn⟩ | ⟨c, hc, hac⟩
    · rw [hn] at hb; cases hb
    · rw [hc] at hb; cases hb
      exact hac.mk (hv a ha ((hsel a b hac.rest).mp hs))

theorem Arms.ind {t : Streams} (hA : Arms sel err f t) (k : Nat) {P : Streams → Prop} (h1 : P (errClosure err t k))
    (h2 : P t) : P (f t k) := by
  rcases hA k with ⟨h, _⟩ | ⟨h, _⟩
  · rw [h]; exact h1
  · rw [h]; exact h2

theorem Arms.walk {t : Streams} (hA : Arms sel err f t) (k : Nat) : Walk sel err t (f t k) := by
  rcases hA k with ⟨hf, hs⟩ | ⟨hf, _⟩
  · rw [hf]
    refine ⟨fun k' hn => errClosure_fresh err hn, fun k' a' ha' => ?_⟩
    by_cases hk : k' = k
    · subst hk
      rcases errClosure_self err ha' with hn | ⟨b, hb, hf⟩
      · exact Or.inl ⟨hs a' ha', hn⟩
      · exact Or.inr ⟨b, hb, Or.inr ⟨hs a' ha', hf⟩⟩
    · obtain ⟨b', hb', hu⟩ := errClosure_other err hk ha'
      exact Or.inr ⟨b', hb', Or.inl hu⟩
  · rw [hf]; exact Walk.refl t

theorem Arms.visited {t : Streams} (hA : Arms sel err f t) (e : Nat × Nat) : Visited sel e (f t e.2) := by
  intro b hb hs
  rcases hA e.2 with ⟨hf, _⟩ | ⟨hf, hns⟩
  · rw [hf] at hb
    cases ha : t.store.get? e.2 with
    | none => rw [errClosure_fresh err ha] at hb; cases hb
    | some a =>
      rcases errClosure_self err ha with hn | ⟨b', hb', hf⟩
      · rw [hn] at hb; cases hb
      · rw [hb'] at hb; cases hb; exact hf.toMk
  · rw [hf] at hb; exact absurd hs (hns b hb)

theorem Arms.ids {t : Streams} (hA : Arms sel err f t) (hI : IdsOK t.store) {e : Nat × Nat} (he : e ∈ t.store.ids) :
    (f t e.2).store.ids = t.store.ids ∨ (f t e.2).store.ids = Store.swapRemove t.store.ids e.1 := by
  refine hA.ind e.2 (P := fun u => u.store.ids = t.store.ids ∨ u.store.ids = Store.swapRemove t.store.ids e.1)
    ?_ (Or.inl rfl)
  cases hg : t.store.get? e.2 with
  | none => exact Or.inl ((errClosure_isClosure err).ids_none t e.2 hg)
  | some a0 => rw [← hI.2 e he a0 hg]; exact (errClosure_isClosure err).ids t e.2 a0 hg

include hsel in
/-- one call of the closure keeps the id-map entries of the unselected streams: `swap_remove` of a
    failed stream's id never drops another id, ids being unique in the map -/
theorem Arms.keepsLinks {s1 t : Streams} (hA : Arms sel err f t) (hids : IdsOK t.store) (hw : Walk sel err s1 t)
    (hk : KeepsLinks sel s1 t) {e0 : Nat × Nat} (he0 : e0 ∈ t.store.ids) : KeepsLinks sel s1 (f t e0.2) := by
  intro e he a ha hns
  have het := hk e he a ha hns
  rcases hA e0.2 with ⟨hf, hs⟩ | ⟨hf, _⟩
  · rw [hf]
    rcases hw.keep e.2 a ha with ⟨hs', _⟩ | ⟨b, hb, hab⟩
    · exact absurd hs' hns
    · have hne : e.1 ≠ e0.1 := by
        intro h1
        obtain ⟨i, hi⟩ := List.getElem?_of_mem het
        obtain ⟨j, hj⟩ := List.getElem?_of_mem he0
        have h2 := findIdx?_of_nodup hids.1 hi
        have h3 := findIdx?_of_nodup hids.1 hj
        rw [h1, h3] at h2
        cases h2
        rw [hi] at hj
        cases hj
        exact hns ((hsel a b hab.rest).mp (hs b hb))
      rcases hA.ids hids he0 with h2 | h2
      · rw [← hf, h2]; exact het
      · rw [← hf, h2]; exact Store.mem_swapRemove_of_ne het hne
  · rw [hf]; exact het

theorem Arms.unl {s1 t : Streams} (hA : Arms sel err f t) (hI : IdsOK t.store) (hu : Unl s1 t) {e : Nat × Nat}
    (he : e ∈ t.store.ids) : Unl s1 (f t e.2) := by
  refine ⟨fun e' he' => hu.1 e' ?_, fun k a ha hnl => ?_⟩
  · rcases hA.ids hI he with h | h
    · rw [h] at he'; exact he'
    · rw [h] at he'; exact Store.mem_swapRemove he'
  · obtain ⟨b, hb, hab⟩ := hu.2 k a ha hnl
    refine hA.ind e.2 (P := fun u => ∃ b, u.store.get? k = some b ∧ Unt a b) ?_ ⟨b, hb, hab⟩
    obtain ⟨b', hb', hu', _⟩ := errClosure_other err (fun h => hnl e (hu.1 e he) h.symm) hb
    exact ⟨b', hb', hab.trans hu'⟩

include hsel in
theorem walk_forEach {J : Streams → Prop} (hJ : ∀ t k, J t → J (errClosure err t k))
    (hA : ∀ t, J t → Arms sel err f t) (s1 : Streams) (hids : IdsOK s1.store) (h1 : J s1) :
    Walk sel err s1 (s1.storeForEach f) ∧ KeepsLinks sel s1 (s1.storeForEach f) ∧ Unl s1 (s1.storeForEach f) ∧
    ∀ e ∈ s1.store.ids, Visited sel e (s1.storeForEach f) := by
  have key := tryForEach_visits f
    (fun t => IdsOK t.store ∧ J t ∧ Walk sel err s1 t ∧ KeepsLinks sel s1 t ∧ Unl s1 t)
    (fun e t => Visited sel e t)
    (fun t hI => hI.1.1)
    (fun t e hI _ => (hA t hI.2.1).visited e)
    (fun t e e' hI _ hP => Visited.of_walk hsel ((hA t hI.2.1).walk e.2) hP)
    (fun t e hI he =>
      have hA' := hA t hI.2.1
      ⟨hA'.ind e.2 (P := fun u => IdsOK u.store) ((errClosure_isClosure err).idsOK hI.1 he) hI.1,
        hA'.ind e.2 (P := J) (hJ t e.2 hI.2.1) hI.2.1,
        hI.2.2.1.trans hsel (hA'.walk e.2), hA'.keepsLinks hsel hI.1 hI.2.2.1 hI.2.2.2.1 he, hA'.unl hI.1 hI.2.2.2.2 he⟩)
    (fun t e hI he => (hA t hI.2.1).ids hI.1 he)
    s1.store.ids (2 * s1.store.ids.length + 1) 0 s1
    ⟨hids, h1, Walk.refl s1, fun e he _ _ _ => he, fun e he => he, fun k a ha _ => ⟨a, ha, Unt.refl a⟩⟩ (by omega)
    (fun e he => by
      obtain ⟨j, hj⟩ := List.getElem?_of_mem he
      exact Or.inr ⟨j, Nat.zero_le _, hj⟩)
  unfold Streams.storeForEach Streams.storeTryForEach
  exact ⟨key.1.2.2.1, key.1.2.2.2.1, key.1.2.2.2.2, key.2⟩

end walk

section ga
variable {last : Nat} {srv : Bool} {err : PErr}

theorem GA.of_store_eq {s s' : Streams} (h : s'.store = s.store) : GA last srv err s s' := by
  exact ga_iff_walk.mpr ⟨fun _ hn => by rw [h]; exact hn, fun _ a ha => Or.inr ⟨a, by rw [h]; exact ha, FailR.refl a⟩⟩

end ga

theorem sel_iff_cond {last : Nat} {srv : Bool} {t : Streams} (hsrv : Srv srv t) (a : Stream) :
    ((decide (a.id > last) || a.isPendingOpen) && t.counts.isLocalInit a.id) = true ↔ Sel last srv a := by
  rw [isLocalInit_of_srv hsrv]
  unfold Sel
  simp only [Bool.and_eq_true, Bool.or_eq_true, decide_eq_true_eq]

/-- the closure of `recv_go_away` fails the entry it looks at iff that entry is selected (a dangling key
    reads as a blank stream) -/
theorem goAwayClosure_arms {last : Nat} {srv : Bool} (err : PErr) {t : Streams} (hsrv : Srv srv t) :
    Arms (Sel last srv) err (goAwayClosure last err) t := by
  intro k
  by_cases hc : Sel last srv (t.stream k)
  · refine Or.inl ⟨?_, fun a ha => stream_eq_of_get? ha ▸ hc⟩
    unfold goAwayClosure
    simp only
    rw [if_pos ((sel_iff_cond hsrv _).mpr hc)]
    rfl
  · refine Or.inr ⟨?_, fun a ha => stream_eq_of_get? ha ▸ hc⟩
    unfold goAwayClosure
    simp only
    rw [if_neg (fun h => hc ((sel_iff_cond hsrv _).mp h))]

theorem Sel.of_maskF {last : Nat} {srv : Bool} (a b : Stream) (h : maskF b = maskF a) :
    Sel last srv b ↔ Sel last srv a :=
  have e1 := congrArg Stream.id h
  have e2 := congrArg Stream.isPendingOpen h
  Sel.congr e1 e2

/-- **coverage of `Inner::recv_go_away`**: for a store whose id map is a map (`IdsOK`: every reachable
    state), after an accepted GOAWAY(last, reason, debug)
    * `conn_error` is the remote GOAWAY;
    * no slab entry appears;
    * every slab entry that is not selected — peer-initiated, or (id ≤ last and not in `pending_open`) —
      is still there and untouched up to the capacity-assignment fields (`Unt`);
    * every selected entry that the id map knows is released or `Failed`;
    * a selected entry that the id map does not know (unlinked earlier) is at worst `Failed` (never
      happens: it is not visited) or `Unt`. -/
theorem recvGoAwayFrame_cover (s s' : Streams) (hids : IdsOK s.store) (last : Nat) (r : Reason) (d : Bytes)
    (hok : s.recvGoAwayFrame last r d = (s', .ok ())) :
    s'.actions.connError = some (PErr.remoteGoAway d r) ∧
    (∀ k, s.store.get? k = none → s'.store.get? k = none) ∧
    (∀ k a, s.store.get? k = some a → ¬ Sel last s.counts.isServer a →
      ∃ b, s'.store.get? k = some b ∧ Unt a b) ∧
    (∀ e ∈ s.store.ids, ∀ a, s.store.get? e.2 = some a → Sel last s.counts.isServer a →
      s'.store.get? e.2 = none ∨ ∃ b, s'.store.get? e.2 = some b ∧ Failed (PErr.remoteGoAway d r) a b) ∧
    (∀ e ∈ s.store.ids, ∀ a, s.store.get? e.2 = some a → ¬ Sel last s.counts.isServer a → e ∈ s'.store.ids) := by
  unfold Streams.recvGoAwayFrame at hok
  rcases hsg : s.sendRecvGoAway last with ⟨s1, e | u⟩
  · rw [hsg] at hok; cases hok
  · rw [hsg] at hok
    simp only at hok
    obtain ⟨rfl, _⟩ := Prod.mk.inj hok
    have h1s : s1.store = s.store := by
      have : s1 = (s.sendRecvGoAway last).1 := by rw [hsg]
      rw [this]; unfold Streams.sendRecvGoAway; split <;> rfl
    have hsrv1 : Srv s.counts.isServer s1 := by
      have := sendRecvGoAway_srv last (b := s.counts.isServer) (s := s) rfl
      rw [hsg] at this; exact this
    obtain ⟨hga, hkl, _, hvis⟩ := walk_forEach (sel := Sel last s.counts.isServer) Sel.of_maskF
      (err := PErr.remoteGoAway d r) (fun _ k hJ => errClosure_srv _ k hJ) (fun _ hJ => goAwayClosure_arms _ hJ)
      s1 (h1s ▸ hids) hsrv1
    -- the loop of the model is that loop; `conn_error` is set afterwards
    have hloop : (s1.storeForEach fun s id =>
        let st := s.stream id
        if ((decide (st.id > last) || st.isPendingOpen) && s.counts.isLocalInit st.id) = true then
          (s.transition id fun s => ((s.recvHandleError id (PErr.remoteGoAway d r)).sendHandleError id, ())).1
        else s) = s1.storeForEach (goAwayClosure last (PErr.remoteGoAway d r)) := rfl
    refine ⟨rfl, fun k hn => ?_, fun k a ha hns => ?_, fun e he a ha hsel => ?_, fun e he a ha hns => ?_⟩
    · show (Streams.storeForEach _ _).store.get? k = none
      rw [hloop]; exact hga.fresh k (h1s ▸ hn)
    · show ∃ b, (Streams.storeForEach _ _).store.get? k = some b ∧ _
      rw [hloop]
      rcases hga.keep k a (h1s ▸ ha) with ⟨hs, _⟩ | ⟨b, hb, hab⟩
      · exact absurd hs hns
      · rcases hab with ⟨hu, _⟩ | ⟨hs, _⟩
        · exact ⟨b, hb, hu⟩
        · exact absurd hs hns
    · show (Streams.storeForEach _ _).store.get? e.2 = none ∨ ∃ b, (Streams.storeForEach _ _).store.get? e.2 = some b ∧ _
      rw [hloop]
      rcases hga.keep e.2 a (h1s ▸ ha) with ⟨_, hn⟩ | ⟨b, hb, hab⟩
      · exact Or.inl hn
      · right
        refine ⟨b, hb, ?_⟩
        rcases hab with ⟨hu, _⟩ | ⟨_, hf⟩
        · have hm : Mk b := hvis e (h1s ▸ he) b hb ((Sel.congr hu.id hu.isPendingOpen).mpr hsel)
          exact Failed.of_unt hu hm.resolved hm.cleared hm.sched
        · exact hf
    · show e ∈ (Streams.storeForEach _ _).store.ids
      rw [hloop]
      exact hkl e (h1s ▸ he) a (h1s ▸ ha) hns

theorem handleError_cover (s : Streams) (hg : Good s) (err : PErr) :
    (s.handleError err).1.actions.connError = some err ∧
    (∀ k, s.store.get? k = none → (s.handleError err).1.store.get? k = none) ∧
    (∀ e ∈ s.store.ids, ∀ a, s.store.get? e.2 = some a →
      (s.handleError err).1.store.get? e.2 = none ∨
      ∃ b, (s.handleError err).1.store.get? e.2 = some b ∧ Failed err a b ∧
        ∀ t, (a.sendTask = some t ∨ a.openTask = some t ∨ a.recvTask = some t ∨ a.pushTask = some t) →
          t ∈ newWakes s (s.handleError err).1) ∧
    (∀ k a, s.store.get? k = some a → (∀ e ∈ s.store.ids, e.2 ≠ k) →
      ∃ b, (s.handleError err).1.store.get? k = some b ∧ Unt a b) := by
  obtain ⟨hha, _, hunl, hvis⟩ := walk_forEach (sel := fun _ => True) (fun _ _ _ => Iff.rfl) (err := err)
    (J := fun _ => True) (fun _ _ _ => trivial) (fun _ _ _ => Or.inl ⟨rfl, fun _ _ => trivial⟩) s hg.ids trivial
  have hloop : (s.handleError err).1.store = (s.storeForEach (errClosure err)).store := by
    unfold Streams.handleError errClosure; rfl
  have hstep := handleError_acc (cx := none) err (Step.refl none s)
  have hkeep := k_handleError err (GStep.refl s)
  refine ⟨by unfold Streams.handleError; rfl, fun k hn => by rw [hloop]; exact hha.fresh k hn,
    fun e he a ha => ?_, fun k a ha hnl => ?_⟩
  · rw [hloop]
    rcases hha.keep e.2 a ha with ⟨_, hn⟩ | ⟨b, hb, hab⟩
    · exact Or.inl hn
    · right
      have hf : Failed err a b := by
        rcases hab with ⟨hu, _⟩ | ⟨_, hf⟩
        · have hm : Mk b := hvis e he b hb trivial
          exact Failed.of_unt hu hm.resolved hm.cleared hm.sched
        · exact hf
      refine ⟨b, hb, hf, ?_⟩
      have hb2 : (s.handleError err).1.store.get? e.2 = some b := by rw [hloop]; exact hb
      rcases endedAt_of hg.bounded ha (Or.inr ⟨b, hb2, hf.resolved⟩) hkeep hstep with hn | ⟨b', hb', _, _, hw⟩
      · rw [hn] at hb2; cases hb2
      · exact hw
  · rw [hloop]
    exact hunl.2 k a ha hnl

end H2V.Lemmas.ConnPartP
