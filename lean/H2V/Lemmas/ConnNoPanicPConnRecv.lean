import H2V.Lemmas.ConnNoPanicPConnStep
import H2V.Lemmas.ConnRecvFrame
/-
  C08 (no panic) — connection layer: `Settings::recv_settings` and `DynConnection::recv_frame`
  as histories.  Under the connection invariant, after `poll_ready` answered `Ready(Ok)` (no refused
  stream, no SETTINGS unanswered, no PONG owed) and while `close_now` is unset, `recv_frame` records no
  panic of the connection layer and every call into `streams` satisfies `ConnPA A`.
-/
namespace H2V.Lemmas.ConnNoPanicP
open H2V H2V.Model H2V.Model.Conn
open H2V.Lemmas.ConnResetP (Op run)
open H2V.Lemmas.ConnCtlP (GoAwayInv Keep15 Step15 GaLe gaLast view)

variable {A : List (Nat × Nat) → Prop}

theorem applyLocalToReader_need (r : CodecRead.Reader) (loc : List (Nat × Nat)) :
    (ConnCtlP.applyLocalToReader r loc).need = r.need := by
  unfold ConnCtlP.applyLocalToReader
  dsimp only
  cases List.find? (fun x => decide (x.fst = 5)) loc <;> cases List.find? (fun x => decide (x.fst = 6)) loc <;>
    cases List.find? (fun x => decide (x.fst = 1)) loc <;>
    simp [CodecRead.Reader.setMaxFrameSize, CodecRead.Reader.setMaxHeaderListSize]

/-- **`Settings::recv_settings`**: the peer's ACK runs `apply_local_settings` on the values that were in flight; a
    SETTINGS frame is only remembered (the `assert!(self.remote.is_none())` holds after `poll_ready`) -/
theorem recvSettings_csa {X : String → Prop} {c : Conn} (hi : GoAwayInv c) (hw : InFlight A c) (ack : Bool) (vals : List (Nat × Nat))
    (hrem : ack = false → c.settings.remote = none) (hv : ack = false → ConnFlowP.SettingsOk vals) :
    CSA A X c (c.recvSettings ack vals).1 := by
  have k := (ConnCtlP.recvSettings_keep c ack vals).step hi
  cases ack with
  | false =>
    rw [ConnCtlP.recvSettings_nonack c vals (hrem rfl)] at k ⊢
    exact ⟨⟨k.1, k.2, fun p hp => ⟨p, hp, rfl⟩,
      fun hn => ⟨hn.max, hn.need, hn.loc, fun v h => by injection h with h; subst h; exact hv rfl⟩⟩, id, .refl⟩
  | true =>
    cases hl : c.settings.loc with
    | waitingAck loc =>
      rw [ConnCtlP.recvSettings_ack_eq c vals loc hl] at k ⊢
      dsimp only at k ⊢
      have hmax : ∀ hn : RdOK c, (ConnCtlP.applyLocalToReader c.codec.r loc).maxFrameLen ≤ 16777215 := by
        intro hn
        rw [(ConnCtlP.applyLocalToReader_spec c.codec.r loc).1]
        cases hg : ConnCtlP.getS loc 5 with
        | none => exact hn.max
        | some m => exact hn.loc loc m (Or.inr hl) hg
      have hneed : ∀ hn : RdOK c, ∀ n, (ConnCtlP.applyLocalToReader c.codec.r loc).need = some n → n ≤ 16777224 := by
        intro hn; rw [applyLocalToReader_need]; exact hn.need
      have hh : ∀ s, s = (c.streams.applyLocalSettingsFrame loc).1 → HistWX (ConnPA A) X c.streams c.codec.w s c.codec.w :=
        fun s es => HistW.toX connPA_noPanic (.op1 (.applyLocalSettingsFrame loc) (hw loc (Or.inr hl)) rfl es rfl)
      rcases hs : c.streams.applyLocalSettingsFrame loc with ⟨s, r⟩
      rw [hs] at k
      cases r with
      | error e =>
        exact ⟨⟨k.1, k.2, fun p hp => ⟨p, hp, rfl⟩, fun hn => ⟨hmax hn, hneed hn, hn.loc, hn.rem⟩⟩, id, hh s (by rw [hs])⟩
      | ok u =>
        -- the state is `Synced` again: nothing is in flight
        have none : ∀ v, ¬ LocIn ({ c with settings := { c.settings with loc := .synced } } : Conn) v :=
          fun v hv => by rcases hv with hv | hv <;> cases hv
        exact ⟨⟨k.1, k.2, fun p hp => ⟨p, hp, rfl⟩,
          fun hn => ⟨hmax hn, hneed hn, fun v m hv => (none v hv).elim, hn.rem⟩⟩, fun _ v hv => (none v hv).elim, hh s (by rw [hs])⟩
    | toSend l =>
      rw [ConnCtlP.recvSettings_ack_unsolicited c vals (by intro l' h; rw [hl] at h; cases h)]
      exact .refl hi
    | synced =>
      rw [ConnCtlP.recvSettings_ack_unsolicited c vals (by intro l' h; rw [hl] at h; cases h)]
      exact .refl hi

theorem recvSettings_settings_goAway (c : Conn) (ack : Bool) (vals : List (Nat × Nat)) :
    (c.recvSettings ack vals).1.goAway = c.goAway := (ConnCtlP.recvSettings_keep c ack vals).1

/-- `PingPong::recv_ping` with no PONG owed and a pending PING that can only be the shutdown PING: both
    `assert!`s hold; `Shutdown` is answered only to the ACK of the pending PING; the pending PING is kept or dropped -/
theorem recvPing_spec (p : PingPong) (ack : Bool) (payload : Bytes) (hpp : p.pendingPong = none)
    (hq : ∀ q, p.pendingPing = some q → q.payload = Generated.Consts.PING_SHUTDOWN_PAYLOAD) :
    (p.recvPing ack payload).2.2.2 = true ∧
    ((p.recvPing ack payload).2.1 = .shutdown → p.pendingPing.isSome = true) ∧
    ((p.recvPing ack payload).1.pendingPing = none ∨ (p.recvPing ack payload).1.pendingPing = p.pendingPing) := by
  unfold PingPong.recvPing
  rw [hpp]
  dsimp only
  cases ack with
  | false =>
    simp only [Bool.false_eq_true, if_false]
    exact ⟨rfl, (fun h => by cases h), Or.inr trivial⟩
  | true =>
    simp only [if_true]
    cases hpq : p.pendingPing with
    | none =>
      dsimp only
      (repeat' split) <;> exact ⟨rfl, (fun h => by cases h), Or.inr (by first | exact hpq | rfl)⟩
    | some q =>
      dsimp only
      by_cases he : (q.payload == payload) = true
      · rw [if_pos he]
        dsimp only
        refine ⟨?_, fun _ => rfl, Or.inl rfl⟩
        rw [hq q hpq]; rfl
      · rw [if_neg he]
        dsimp only
        (repeat' split) <;> exact ⟨rfl, (fun h => by cases h), Or.inr (by first | exact hpq | rfl)⟩

/-- the `lift` of `recvFrame`: one stream-layer operation -/
theorem lift_qs {c : Conn} (r : Streams × Except PErr Unit) (o : Op) (hp : ConnPA A c.streams o) (hu : usesWriter o = false)
    (e : r.1 = o.apply c.streams) : QS A c (Conn.recvLift c r).1 := by
  rw [Conn.recvLift_fst]
  exact ⟨fun p hp => ⟨p, hp, rfl⟩, rfl, .of_eq rfl rfl, .op1 o hp hu e rfl⟩

/-- **`DynConnection::recv_frame`** after `poll_ready` answered `Ready(Ok)`: one stream-layer operation per frame
    (PING: `wake`, then `Recv::go_away(last_processed_id)` for the ACK of the shutdown PING), each satisfying
    `ConnPA A`; no panic of the connection layer -/
theorem recvFrame_qs {c : Conn} (hc : ConnOK c) (href : c.streams.recv.refused = none)
    (hpp : c.pingPong.pendingPong = none) (f : Option Frame.Frame) (hf : ∀ g, f = some g → WireOK g) :
    QS A c (c.recvFrame f).1 := by
  cases f with
  | none =>
    show QS A c { c with streams := c.streams.recvEof false }
    exact ⟨fun p hp => ⟨p, hp, rfl⟩, rfl, .of_eq rfl rfl, .op1 (.recvEof false) rfl rfl rfl rfl⟩
  | some f =>
    have hw := hf f rfl
    cases f with
    | headers sid eos dep blk => exact lift_qs _ (.recvHeaders _) href rfl rfl
    | data sid payload eos padLen => exact lift_qs _ (.recvData sid payload eos padLen) hw rfl rfl
    | reset sid code => exact lift_qs _ (.recvReset sid code) trivial rfl rfl
    | pushPromise sid promised blk => exact lift_qs _ (.recvPushPromise sid _) href rfl rfl
    | windowUpdate sid inc => exact lift_qs _ (.recvWindowUpdate sid inc) hw rfl rfl
    | priority sid dep w e => exact .refl c
    | settings ack vals => exact .refl c
    | goAway last code debug =>
      unfold Conn.recvFrame
      dsimp only
      rcases hr : c.streams.recvGoAwayFrame last code debug with ⟨s, r⟩
      cases r <;> exact ⟨fun p hp => ⟨p, hp, rfl⟩, rfl, .of_eq rfl rfl, .op1 (.recvGoAwayFrame last code debug) trivial rfl
        (by show s = (c.streams.recvGoAwayFrame last code debug).1; rw [hr]) rfl⟩
    | ping ack payload =>
      rw [Conn.recvFrame_ping_eq]
      obtain ⟨r1, r2, r3⟩ := recvPing_spec c.pingPong ack payload hpp (fun q hq => (hc.ping q hq).1)
      dsimp only
      rw [if_pos r1]
      generalize hc0 : Conn.mk c.codec c.state c.error c.goAway (c.pingPong.recvPing ack payload).1 c.settings (c.streams.wake _) c.cx c.unsupported = c0
      have k0 : QS A c c0 := by
        subst hc0
        refine ⟨fun p' hp' => ?_, rfl, .of_eq rfl rfl, .op1 (.wake _) trivial rfl rfl rfl⟩
        rcases r3 with r3 | r3
        · rw [show (c.pingPong.recvPing ack payload).1.pendingPing = none from r3] at hp'; cases hp'
        · exact ⟨p', by rw [← r3]; exact hp', rfl⟩
      have i0 : GoAwayInv c0 := by
        subst hc0
        exact hc.ga.keep rfl rfl (fun _ h => h) rfl (.inl (Nat.le_refl _))
      have g0 : c0.goAway = c.goAway := by subst hc0; rfl
      unfold Conn.pingTail
      cases hsd : ((c.pingPong.recvPing ack payload).2.1 == ReceivedPing.shutdown) with
      | false => exact k0
      | true =>
        simp only [if_true]
        have hsome : c.pingPong.pendingPing.isSome = true := r2 (by simpa using hsd)
        have hga : c0.goAway.isGoingAway = true := by
          rw [g0]
          cases hq : c.pingPong.pendingPing with
          | none => rw [hq] at hsome; cases hsome
          | some q => exact (hc.ping q hq).2
        rw [if_pos hga]
        have d := dynGoAway_csa (A := A) (X := fun _ => False) (c := c0) c0.streams.recv.lastProcessedId NO_ERROR (Nat.le_refl _)
          i0.lpi_le_max (fun ga hg => i0.lpi_le_ga ga hg)
        exact k0.trans ⟨d.ping, by rw [(Conn.dynGoAway_keeps c0 _ _).1],
          .of_eq (by rw [(Conn.dynGoAway_keeps c0 _ _).2.2.1]) (by rw [(Conn.dynGoAway_keeps c0 _ _).2.2.1]), d.hist.toHistW⟩

theorem recvFrame_csa {X : String → Prop} {c : Conn} (hc : ConnOK c) (hcn : c.goAway.closeNow = false)
    (href : c.streams.recv.refused = none) (hpp : c.pingPong.pendingPong = none) (f : Option Frame.Frame)
    (hf : ∀ g, f = some g → WireOK g) : CSA A X c (c.recvFrame f).1 :=
  (recvFrame_qs hc href hpp f hf).csa (ConnCtlP.recvFrame_step15 c f hc.ga hcn)

end H2V.Lemmas.ConnNoPanicP
