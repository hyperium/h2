import H2V.Lemmas.ConnFlowPReach
import H2V.Lemmas.ConnFlowPPop
/-
  ConnFlowP — the DATA that `buffer_pending` / `poll_complete` hand to the codec, as a log of
  the `pop_frame` calls they make, and what that does to the connection window:

      window after = window before − Σ (lengths of the DATA frames popped)

  `loopLog` / `pollLog` mirror the control flow of `prioBufferPendingLoop` / `pollComplete` and
  record every `pop_frame` call (state before, `max_len`, fuel); the theorems below tie the log to
  the model functions themselves: every logged call starts in a state satisfying the invariant (so
  `popFrame_spec` applies to it) and the logged DATA accounts for the whole change of the window.
-/
namespace H2V.Lemmas.ConnFlowP
open H2V H2V.Model H2V.Model.Conn H2V.Lemmas.Comp

/-- one call of `pop_frame` -/
structure PopCall where
  pre : Streams
  maxLen : Nat
  fuel : Nat

def PopCall.out (c : PopCall) : Streams × Option Streams.OutFrame := Streams.popFrame c.fuel c.pre c.maxLen

/-- flow-controlled octets of a popped frame -/
def dataLen : Option Streams.OutFrame → Nat
  | some (.data len _ _) => len
  | _ => 0

/-- DATA octets popped by a list of calls -/
def sentIn : List PopCall → Nat
  | [] => 0
  | c :: l => dataLen c.out.2 + sentIn l

theorem sentIn_append (a b : List PopCall) : sentIn (a ++ b) = sentIn a + sentIn b := by
  induction a with
  | nil => simp [sentIn]
  | cons c l ih => simp only [List.cons_append, sentIn, ih]; omega

/-- the `pop_frame` calls of `Prioritize::buffer_pending`'s loop -/
def loopLog : Nat → Streams → Writer → List PopCall
  | 0, _, _ => []
  | fuel + 1, s, w =>
    if !w.hasCapacity then []
    else
      let s := match s.popPendingOpen with
        | (s, some id) => ((s.qPushFront .pendingSend id).1).tryAssignCapacity id
        | (s, none) => s
      match Streams.popFrame (Streams.popFrameFuel s) s w.maxFrameSize with
      | (s', some f) =>
        let (s', w') := s'.bufferOut w f
        let (s', w', _) := s'.reclaimFrame w'
        { pre := s, maxLen := w.maxFrameSize, fuel := Streams.popFrameFuel s } :: loopLog fuel s' w'
      | (_, none) => [{ pre := s, maxLen := w.maxFrameSize, fuel := Streams.popFrameFuel s }]

theorem popFrame_window {s : Streams} (h : SafeInv s) (fuel maxLen : Nat) :
    (Streams.popFrame fuel s maxLen).1.prio.flow.windowSize.val =
      s.prio.flow.windowSize.val - dataLen (Streams.popFrame fuel s maxLen).2 := by
  have hspec := popFrame_spec h fuel maxLen
  unfold PopRel at hspec
  split at hspec
  · rename_i len e fr heq
    obtain ⟨s1, hw, _, _, hch⟩ := hspec
    rw [heq, hch.conn_window, hw.1]; rfl
  · rename_i hne
    rw [hspec.1]
    have : dataLen (Streams.popFrame fuel s maxLen).2 = 0 := by
      unfold dataLen
      split
      · rename_i heq; exact absurd heq (hne _ _ _)
      · rfl
    rw [this]; simp

theorem Mv.bufferPendingOpen (s : Streams) : Mv true s s.bufferPendingOpen := by
  unfold Streams.bufferPendingOpen; mv_auto

/-- what a round of `buffer_pending`'s loop does with the frame it popped -/
def loopPost (s : Streams) (w : Writer) (f : Streams.OutFrame) : Streams × Writer :=
  let (s', w') := s.bufferOut w f
  let (s', w', _) := s'.reclaimFrame w'
  (s', w')

theorem loopPost_step {K : Kind → Bool} (hK : Kind.Has K [.enqueue .pendingSend, .frame .data, .mark]) (s : Streams) (w : Writer)
    (f : Streams.OutFrame) : Streams.Step K s (loopPost s w f).1 :=
  (Streams.bufferOut_step (hK.sub rfl) s w f).trans (Streams.reclaimFrame_step hK _ _)

theorem loop_eq (fuel : Nat) (s : Streams) (w : Writer) :
    Streams.prioBufferPendingLoop (fuel + 1) s w =
      if !w.hasCapacity then (s, w, .codecFull)
      else match Streams.popFrame (Streams.popFrameFuel s.bufferPendingOpen) s.bufferPendingOpen w.maxFrameSize with
        | (s', some f) => Streams.prioBufferPendingLoop fuel (loopPost s' w f).1 (loopPost s' w f).2
        | (s', none) => (s', w, .complete) :=
  Streams.prioBufferPendingLoop_succ fuel s w

theorem loopLog_eq (fuel : Nat) (s : Streams) (w : Writer) :
    loopLog (fuel + 1) s w =
      if !w.hasCapacity then []
      else match Streams.popFrame (Streams.popFrameFuel s.bufferPendingOpen) s.bufferPendingOpen w.maxFrameSize with
        | (s', some f) =>
          { pre := s.bufferPendingOpen, maxLen := w.maxFrameSize, fuel := Streams.popFrameFuel s.bufferPendingOpen } ::
            loopLog fuel (loopPost s' w f).1 (loopPost s' w f).2
        | (_, none) => [{ pre := s.bufferPendingOpen, maxLen := w.maxFrameSize, fuel := Streams.popFrameFuel s.bufferPendingOpen }] := by
  rw [loopLog]
  rfl

/-- **the loop of `buffer_pending`**: every `pop_frame` call it makes starts from a state satisfying
    the invariant, and the connection window goes down by exactly the DATA popped -/
theorem loop_log (fuel : Nat) : ∀ {s : Streams} (w : Writer), SafeInv s →
    (∀ c ∈ loopLog fuel s w, SafeInv c.pre) ∧
    (Streams.prioBufferPendingLoop fuel s w).1.prio.flow.windowSize.val =
      s.prio.flow.windowSize.val - sentIn (loopLog fuel s w) := by
  induction fuel with
  | zero =>
    intro s w h
    refine ⟨fun c hc => (by cases hc), ?_⟩
    show (s.panic _).prio.flow.windowSize.val = _
    rw [panic_prio]; simp [loopLog, sentIn]
  | succ n ih =>
    intro s w h
    rw [loop_eq, loopLog_eq]
    have hpre : SafeInv s.bufferPendingOpen := (Mv.bufferPendingOpen s).safe h
    have hw := (Mv.bufferPendingOpen s).win rfl
    have hpop := popFrame_window hpre (Streams.popFrameFuel s.bufferPendingOpen) w.maxFrameSize
    have hsafe := hpre.popFrame (Streams.popFrameFuel s.bufferPendingOpen) w.maxFrameSize
    split
    · exact ⟨fun c hc => (by cases hc), (by simp [sentIn])⟩
    · split
      · rename_i s' f heq
        rw [heq] at hpop hsafe
        have hfr : Fr s' (loopPost s' w f).1 := .of_step (loopPost_step (by decide) s' w f)
        have hs2 : SafeInv (loopPost s' w f).1 := hsafe.fr hfr
        obtain ⟨ih1, ih2⟩ := ih (loopPost s' w f).2 hs2
        refine ⟨fun c hc => ?_, ?_⟩
        · rcases List.mem_cons.1 hc with rfl | hc
          · exact hpre
          · exact ih1 c hc
        · rw [ih2, hfr.1]
          simp only [sentIn, PopCall.out, heq]
          rw [hpop, hw]
          simp only [dataLen] at *
          omega
      · rename_i s' heq
        rw [heq] at hpop
        refine ⟨fun c hc => ?_, ?_⟩
        · simp only [List.mem_singleton] at hc; subst hc; exact hpre
        · show s'.prio.flow.windowSize.val = _
          simp only [sentIn, PopCall.out, heq]
          rw [hpop, hw]
          simp [dataLen]

/-- the `pop_frame` calls of `Streams::poll_complete` -/
def pollLog : Nat → Streams → Writer → Tio → String → List PopCall
  | 0, _, _, _, _ => []
  | fuel + 1, s, w, io, tag =>
    match pollReadyW w io tag with
    | (w, io, .ready) =>
      match s.recvBufferPending w with
      | (s, w, .codecFull) => pollLog fuel s w io tag
      | (s, w, .complete) =>
        let log := loopLog (fuel + 1) (s.reclaimFrame w).1 (s.reclaimFrame w).2.1
        let r := Streams.prioBufferPendingLoop (fuel + 1) (s.reclaimFrame w).1 (s.reclaimFrame w).2.1
        match r.2.2 with
        | .codecFull => log ++ pollLog fuel r.1 r.2.1 io tag
        | .complete =>
          let s := { r.1 with actions := { r.1.actions with task := some tag } }
          match flush r.2.1 io tag with
          | (w, io, .ready) =>
            if !(s.reclaimFrame w).2.2 then log
            else log ++ pollLog fuel (s.reclaimFrame w).1 (s.reclaimFrame w).2.1 io tag
          | _ => log
    | _ => []

theorem pollComplete_eq (fuel : Nat) (s : Streams) (w : Writer) (io : Tio) (tag : String) :
    Streams.pollComplete (fuel + 1) s w io tag =
      match pollReadyW w io tag with
      | (w, io, .ready) =>
        match s.recvBufferPending w with
        | (s, w, .codecFull) => Streams.pollComplete fuel s w io tag
        | (s, w, .complete) =>
          let r := Streams.prioBufferPendingLoop (fuel + 1) (s.reclaimFrame w).1 (s.reclaimFrame w).2.1
          match r.2.2 with
          | .codecFull => Streams.pollComplete fuel r.1 r.2.1 io tag
          | .complete =>
            let s := { r.1 with actions := { r.1.actions with task := some tag } }
            match flush r.2.1 io tag with
            | (w, io, .ready) =>
              if !(s.reclaimFrame w).2.2 then ((s.reclaimFrame w).1, (s.reclaimFrame w).2.1, io, .ready)
              else Streams.pollComplete fuel (s.reclaimFrame w).1 (s.reclaimFrame w).2.1 io tag
            | (w, io, r') => (s, w, io, r')
      | (w, io, r) => (s, w, io, r) := by
  rw [Streams.pollComplete_succ]
  unfold Streams.bufferPending Streams.prioBufferPending
  generalize pollReadyW w io tag = p
  obtain ⟨w', io', r'⟩ := p
  cases r' <;> dsimp only
  generalize s.recvBufferPending w' = q
  obtain ⟨s1, w1, st⟩ := q
  cases st <;> dsimp only
  all_goals first
    | rfl
    | (cases hr : (Streams.prioBufferPendingLoop (fuel + 1) (s1.reclaimFrame w1).1 (s1.reclaimFrame w1).2.1).2.2 <;>
        simp only [hr] <;> rfl)

/-- **`poll_complete`**: every `pop_frame` call it makes starts from a state satisfying the invariant,
    and the connection window goes down by exactly the DATA popped -/
theorem poll_log (fuel : Nat) : ∀ {s : Streams} (w : Writer) (io : Tio) (tag : String), SafeInv s →
    (∀ c ∈ pollLog fuel s w io tag, SafeInv c.pre) ∧
    (Streams.pollComplete fuel s w io tag).1.prio.flow.windowSize.val =
      s.prio.flow.windowSize.val - sentIn (pollLog fuel s w io tag) := by
  induction fuel with
  | zero =>
    intro s w io tag h
    refine ⟨fun c hc => (by cases hc), ?_⟩
    show (s.panic _).prio.flow.windowSize.val = _
    rw [panic_prio]; simp [pollLog, sentIn]
  | succ n ih =>
    intro s w io tag h
    rw [pollComplete_eq]
    rw [pollLog]
    generalize pollReadyW w io tag = p
    obtain ⟨w', io', r'⟩ := p
    cases r' <;> dsimp only
    case pending => exact ⟨fun c hc => (by cases hc), (by simp [sentIn])⟩
    case err => exact ⟨fun c hc => (by cases hc), (by simp [sentIn])⟩
    generalize hq : s.recvBufferPending w' = q
    obtain ⟨s1, w1, st⟩ := q
    have hfr : Fr s s1 := of_fst_eq hq (.of_step (Streams.recvBufferPending_step (by decide) s _))
    cases st <;> dsimp only
    case codecFull =>
      obtain ⟨i1, i2⟩ := ih w1 io' tag (h.fr hfr)
      exact ⟨i1, by rw [i2, hfr.1]⟩
    have hfr2 : Fr s (s1.reclaimFrame w1).1 := hfr.trans (.of_step (Streams.reclaimFrame_step (by decide) _ _))
    have hs2 := h.fr hfr2
    obtain ⟨l1, l2⟩ := loop_log (n + 1) (s1.reclaimFrame w1).2.1 hs2
    have hsr := SafeInv.prioBufferPendingLoop (n + 1) hs2 (s1.reclaimFrame w1).2.1
    rw [hfr2.1] at l2
    generalize Streams.prioBufferPendingLoop (n + 1) (s1.reclaimFrame w1).1 (s1.reclaimFrame w1).2.1 = r at l2 hsr ⊢
    obtain ⟨s2, w2, st2⟩ := r
    cases st2 <;> dsimp only at l2 hsr ⊢
    case codecFull =>
      obtain ⟨i1, i2⟩ := ih w2 io' tag hsr
      refine ⟨fun c hc => ?_, ?_⟩
      · rcases List.mem_append.1 hc with hc | hc
        · exact l1 c hc
        · exact i1 c hc
      · rw [i2, l2, sentIn_append]; omega
    have hst : SafeInv { s2 with actions := { s2.actions with task := some tag } } := hsr.fr ((Fr.refl s2).of_same rfl rfl rfl)
    generalize flush w2 io' tag = fl
    obtain ⟨w3, io3, r3⟩ := fl
    cases r3 <;> dsimp only
    case pending => exact ⟨l1, l2⟩
    case err => exact ⟨l1, l2⟩
    have hfr3 : Fr _ _ := .of_step (Streams.reclaimFrame_step (by decide) { s2 with actions := { s2.actions with task := some tag } } w3)
    split
    · refine ⟨l1, ?_⟩
      rw [hfr3.1]; exact l2
    · obtain ⟨i1, i2⟩ := ih (Streams.reclaimFrame { s2 with actions := { s2.actions with task := some tag } } w3).2.1
        io3 tag (hst.fr hfr3)
      refine ⟨fun c hc => ?_, ?_⟩
      · rcases List.mem_append.1 hc with hc | hc
        · exact l1 c hc
        · exact i1 c hc
      · rw [i2, hfr3.1, sentIn_append]
        show s2.prio.flow.windowSize.val - _ = _
        rw [l2]; dsimp only; omega

end H2V.Lemmas.ConnFlowP
