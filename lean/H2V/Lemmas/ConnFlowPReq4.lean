import H2V.Lemmas.ConnFlowPReach
/-
  ConnFlowP — `ReqOk` on every reachable state; the drain theorem for reachable states.
-/
namespace H2V.Lemmas.ConnFlowP
open H2V H2V.Model H2V.Model.Conn H2V.Lemmas.Comp

theorem Init.reqOk {s : Streams} (h : Init s) : ReqOk s := by
  intro x hx; rw [h.slab] at hx; cases hx

theorem Reach.reqOk {s : Streams} (h : Reach s) : ReqOk s := h.ind (fun _ h => h.reqOk) (fun s op hv => (Mv.op op hv s).req)

end H2V.Lemmas.ConnFlowP
