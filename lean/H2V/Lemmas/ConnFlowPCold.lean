import H2V.Lemmas.ConnFlowPReach
/-
  ConnFlowP — a stream that is reset (by us, by the peer, by a connection error) ends up
  holding no send capacity: what it held went back to the connection through `giveBack`
  (`ConnFlowPMoves.lean`, exact) and `assign_connection_capacity` cannot hand anything to it again.

  `KeyP id P s`: every slab entry with store key `id` satisfies `P` — a per-stream predicate carried
  through the model functions by the same peeling technique as the other relations.
-/
namespace H2V.Lemmas.ConnFlowP
open H2V H2V.Model H2V.Model.Conn H2V.Lemmas.Comp

def KeyP (id : Nat) (P : Stream → Prop) (s : Streams) : Prop := ∀ x ∈ s.store.slab, x.key = id → P x

/-- cannot be assigned capacity by `try_assign_capacity`: not send-streaming, nothing buffered -/
def QuietSt (x : Stream) : Prop := x.state.isSendStreaming = false ∧ x.bufferedSendData = 0
/-- … and holds none -/
def ColdSt (x : Stream) : Prop := x.sendFlow.available.val = 0 ∧ QuietSt x

section
variable {id : Nat} {P : Stream → Prop} {t : Streams}

theorem KeyP.same {t' : Streams} (h : KeyP id P t) (hs : t'.store.slab = t.store.slab) : KeyP id P t' := by
  intro x hx; rw [hs] at hx; exact h x hx

theorem KeyP.panic (h : KeyP id P t) (m : String) : KeyP id P (t.panic m) := h.same (by rw [panic_store])

theorem KeyP.vacuous (h : t.store.get? id = none) : KeyP id P t := by
  intro y hy hk
  unfold Store.get? at h
  have := List.find?_eq_none.1 h y hy
  simp [hk] at this

theorem KeyP.setStream {Q : Stream → Prop} {x : Stream} (hx : x.key = id → Q x) (hpq : x.key ≠ id → ∀ z, P z → Q z)
    (h : KeyP id P t) : KeyP id Q (t.setStream x) := by
  intro y hy hk
  simp only [Streams.setStream, Store.set, List.mem_map] at hy
  obtain ⟨z, hz, rfl⟩ := hy
  by_cases he : (z.key == x.key) = true
  · simp only [he, if_true] at hk ⊢; exact hx hk
  · simp only [he] at hk ⊢; exact hpq (fun e => he (beq_iff_eq.2 (hk.trans e.symm))) z (h z hz hk)

/-- an update of the entries under `k`: `P` becomes `Q` through `f`; `hpq` is asked for the entries under `id` only when they
    are not the ones updated (`fun h => absurd rfl h` when `k` is `id`) -/
theorem KeyP.modStream' {Q : Stream → Prop} {k : Nat} {f : Stream → Stream} (hf : ∀ x, (f x).key = x.key ∧ (P x → Q (f x)))
    (hpq : k ≠ id → ∀ z, P z → Q z) (h : KeyP id P t) : KeyP id Q (t.modStream k f) := by
  unfold Streams.modStream
  split
  · next st hget =>
    have hm := get?_mem hget
    have hk : (f st).key = k := (hf st).1.trans hm.2
    exact h.setStream (fun e => (hf st).2 (h st hm.1 (hm.2.trans (hk.symm.trans e)))) (fun ne => hpq fun e => ne (hk.trans e))
  · next hget =>
    exact KeyP.panic (if e : k = id then .vacuous (e ▸ hget) else fun z hz hk => hpq e z (h z hz hk)) _

theorem KeyP.modStreamW' {Q : Stream → Prop} {k : Nat} {f : Stream → Stream × List String}
    (hf : ∀ x, (f x).1.key = x.key ∧ (P x → Q (f x).1)) (hpq : k ≠ id → ∀ z, P z → Q z) (h : KeyP id P t) :
    KeyP id Q (t.modStreamW k f) := by
  unfold Streams.modStreamW
  split
  · next st hget =>
    have hm := get?_mem hget
    have hk : (f st).1.key = k := (hf st).1.trans hm.2
    exact (h.setStream (fun e => (hf st).2 (h st hm.1 (hm.2.trans (hk.symm.trans e)))) (fun ne => hpq fun e => ne (hk.trans e))).same rfl
  · next hget =>
    exact KeyP.panic (if e : k = id then .vacuous (e ▸ hget) else fun z hz hk => hpq e z (h z hz hk)) _

theorem KeyP.and {Q : Stream → Prop} (h1 : KeyP id P t) (h2 : KeyP id Q t) : KeyP id (fun x => P x ∧ Q x) t :=
  fun x hx hk => ⟨h1 x hx hk, h2 x hx hk⟩

theorem KeyP.mono {Q : Stream → Prop} (h : KeyP id P t) (hpq : ∀ x, P x → Q x) : KeyP id Q t :=
  fun x hx hk => hpq x (h x hx hk)

theorem KeyP.unsup (h : KeyP id P t) (m : String) : KeyP id P (t.unsup m) := by
  refine h.same ?_; unfold Streams.unsup; split <;> rfl
theorem KeyP.wake (h : KeyP id P t) (w : List String) : KeyP id P (t.wake w) := h.same rfl
theorem KeyP.notifyTask (h : KeyP id P t) : KeyP id P t.notifyTask := by
  refine h.same ?_; unfold Streams.notifyTask; split <;> rfl
theorem KeyP.modRecv (h : KeyP id P t) (f : Recv → Recv) : KeyP id P (t.modRecv f) := h.same rfl
theorem KeyP.modSend (h : KeyP id P t) (f : Send → Send) : KeyP id P (t.modSend f) := h.same rfl
theorem KeyP.modPrio (h : KeyP id P t) (f : Prioritize → Prioritize) : KeyP id P (t.modPrio f) := h.same rfl
theorem KeyP.modCounts (h : KeyP id P t) (f : Counts → Counts) : KeyP id P (t.modCounts f) := h.same rfl
theorem KeyP.modCountsA (h : KeyP id P t) (w : String) (f : Counts → Option Counts) : KeyP id P (t.modCountsA w f) := by
  unfold Streams.modCountsA; split
  · exact h.same rfl
  · exact h.panic _
theorem KeyP.setQ (h : KeyP id P t) (q : QName) (l : List Nat) : KeyP id P (t.setQ q l) := h.same (by cases q <;> rfl)
theorem KeyP.withStoreUnlink (h : KeyP id P t) (i : Nat) : KeyP id P { t with store := t.store.unlink i } := h.same rfl
theorem KeyP.withStoreRemoveLeak (h : KeyP id P t) (k n : Nat) :
    KeyP id P { t with store := t.store.remove k, recvBufferLeaked := n } := by
  intro y hy hk
  exact h y (List.mem_filter.1 hy).1 hk

end

/-- what the predicates of this file look at -/
@[reducible] def CoreEq (x y : Stream) : Prop :=
  x.sendFlow = y.sendFlow ∧ x.state = y.state ∧ x.bufferedSendData = y.bufferedSendData ∧
  x.requestedSendCapacity = y.requestedSendCapacity
/-- `P` looks at nothing else -/
@[reducible] def CoreP (P : Stream → Prop) : Prop := ∀ x y, CoreEq x y → P x → P y

theorem KeyP.modStreamC {id k : Nat} {P : Stream → Prop} {t : Streams} {f : Stream → Stream} (hP : CoreP P)
    (hf : ∀ x, (f x).key = x.key ∧ CoreEq x (f x)) (h : KeyP id P t) : KeyP id P (t.modStream k f) :=
  KeyP.modStream' (fun x => ⟨(hf x).1, hP x (f x) (hf x).2⟩) (fun _ _ h => h) h
theorem KeyP.modStreamWC {id k : Nat} {P : Stream → Prop} {t : Streams} {f : Stream → Stream × List String}
    (hP : CoreP P) (hf : ∀ x, (f x).1.key = x.key ∧ CoreEq x (f x).1) (h : KeyP id P t) :
    KeyP id P (t.modStreamW k f) :=
  KeyP.modStreamW' (fun x => ⟨(hf x).1, hP x (f x).1 (hf x).2⟩) (fun _ _ h => h) h

theorem notifySend_core (x : Stream) : x.notifySend.1.key = x.key ∧ CoreEq x x.notifySend.1 := by
  unfold Stream.notifySend
  cases x.sendTask <;> dsimp only <;> split <;> exact ⟨rfl, rfl, rfl, rfl, rfl⟩
theorem notifyRecv_core (x : Stream) : x.notifyRecv.1.key = x.key ∧ CoreEq x x.notifyRecv.1 := by
  unfold Stream.notifyRecv; split <;> exact ⟨rfl, rfl, rfl, rfl, rfl⟩
theorem notifyPush_core (x : Stream) : x.notifyPush.1.key = x.key ∧ CoreEq x x.notifyPush.1 := by
  unfold Stream.notifyPush; split <;> exact ⟨rfl, rfl, rfl, rfl, rfl⟩

/-- side condition of `KeyP.modStreamC`: the update touches neither key nor send flow, state, buffered -/
syntax "keypf" : tactic
macro_rules | `(tactic| keypf) => `(tactic| first
  | (intro _; exact ⟨rfl, rfl, rfl, rfl, rfl⟩)
  | (intro x; cases ‹QName› <;> exact ⟨rfl, rfl, rfl, rfl, rfl⟩)
  | exact notifySend_core
  | exact notifyRecv_core
  | exact notifyPush_core)

syntax "keyp_peel" : tactic
macro_rules | `(tactic| keyp_peel) => `(tactic| first
  | with_reducible apply KeyP.panic
  | with_reducible apply KeyP.unsup
  | with_reducible apply KeyP.wake
  | with_reducible apply KeyP.notifyTask
  | with_reducible apply KeyP.modRecv
  | with_reducible apply KeyP.modSend
  | with_reducible apply KeyP.modPrio
  | with_reducible apply KeyP.modCounts
  | with_reducible apply KeyP.modCountsA
  | with_reducible apply KeyP.setQ
  | (guard_mk; with_reducible apply KeyP.withStoreUnlink)
  | (guard_mk; with_reducible apply KeyP.withStoreRemoveLeak)
  | (with_reducible apply KeyP.modStreamC (by assumption); (· keypf))
  | (with_reducible apply KeyP.modStreamWC (by assumption); (· keypf))
  | apply_ih
  | (with_reducible apply of_fst_eq; (· with_reducible assumption)))
macro "keyp_auto" : tactic => `(tactic| walk_with
  (first | with_reducible assumption | (guard_not_mk; keyp_peel) | (guard_mk; keyp_peel)))
macro "keyp_by" f:ident : tactic => `(tactic| (unfold $f; keyp_auto))

section
variable {id : Nat} {P : Stream → Prop} {t : Streams} (hP : CoreP P)
include hP

theorem KeyP.qPush (h : KeyP id P t) (q : QName) (k : Nat) : KeyP id P (t.qPush q k).1 := by keyp_by Streams.qPush
theorem KeyP.qPushFront (h : KeyP id P t) (q : QName) (k : Nat) : KeyP id P (t.qPushFront q k).1 := by
  keyp_by Streams.qPushFront
theorem KeyP.qPop (h : KeyP id P t) (q : QName) : KeyP id P (t.qPop q).1 := by keyp_by Streams.qPop
theorem KeyP.decNumStreams (h : KeyP id P t) (k : Nat) : KeyP id P (t.decNumStreams k) := by
  keyp_by Streams.decNumStreams
macro_rules | `(tactic| keyp_peel) => `(tactic| first
  | with_reducible apply KeyP.qPush
  | with_reducible apply KeyP.qPushFront
  | with_reducible apply KeyP.qPop
  | with_reducible apply KeyP.decNumStreams)
theorem KeyP.transitionAfter (h : KeyP id P t) (k : Nat) (b : Bool) : KeyP id P (t.transitionAfter k b) := by
  keyp_by Streams.transitionAfter
macro_rules | `(tactic| keyp_peel) => `(tactic| with_reducible apply KeyP.transitionAfter)
theorem KeyP.scheduleSend (h : KeyP id P t) (k : Nat) : KeyP id P (t.scheduleSend k) := by keyp_by Streams.scheduleSend
macro_rules | `(tactic| keyp_peel) => `(tactic| with_reducible apply KeyP.scheduleSend)

end

theorem coreP_quiet : CoreP QuietSt := by
  intro x y h hx
  unfold QuietSt at *
  rw [← h.2.1, ← h.2.2.1]; exact hx

theorem coreP_cold : CoreP ColdSt := by
  intro x y h hx
  unfold ColdSt at *
  exact ⟨by rw [← h.1]; exact hx.1, coreP_quiet x y h hx.2⟩

theorem KeyP.relink {id : Nat} {P : Stream → Prop} {t : Streams} (hP : CoreP P) (h : KeyP id P t) (k : Nat) :
    KeyP id P (t.relink k) := by
  unfold Streams.relink; keyp_auto

theorem KeyP.assignN_ne {id k : Nat} {P : Stream → Prop} {t : Streams} (hk : k ≠ id) (h : KeyP id P t) (n : Nat) :
    KeyP id P (t.assignN k n) := by
  refine KeyP.modPrio ?_ _
  unfold Streams.modStreamW
  split
  · rename_i st hget
    intro y hy hyk
    simp only [Streams.wake, Streams.setStream, Store.set, List.mem_map] at hy
    obtain ⟨x, hx, rfl⟩ := hy
    by_cases he : (x.key == (st.assignCapacity n t.prio.maxBufferSize).1.key) = true
    · exfalso
      simp only [he, if_true] at hyk
      exact hk ((get?_mem hget).2.symm.trans ((assignCapacity_kf st _ _).1.symm.trans hyk))
    · simp only [he] at hyk ⊢
      exact h x hx hyk
  · exact h.panic _

/-- a cold stream is one `try_assign_capacity` has nothing to do for -/
theorem ColdSt.idle {x : Stream} (h : ColdSt x) : x.assignIdle = true := by
  unfold Stream.assignIdle
  rw [h.2.1, h.2.2]
  simp

/-- `try_assign_capacity` (on any stream) gives nothing to a cold stream -/
theorem KeyP.tryAssignCapacity_cold {id : Nat} {t : Streams} (h : KeyP id ColdSt t) (k : Nat) :
    KeyP id ColdSt (t.tryAssignCapacity k) := by
  have hP := coreP_cold
  by_cases hk : k = id
  · subst hk
    -- the guard `!is_send_streaming && buffered == 0` returns at once
    have hidle : (t.stream k).assignIdle = true := by
      cases hget : t.store.get? k with
      | none =>
        have hb : t.stream k = { key := k, id := 0 } := by unfold Streams.stream; rw [hget]; rfl
        have e1 : ({ key := k, id := 0 } : Stream).state.isSendStreaming = false := rfl
        have e2 : ({ key := k, id := 0 } : Stream).bufferedSendData = 0 := rfl
        rw [hb]; unfold Stream.assignIdle; rw [e1, e2]; simp
      | some st => rw [Streams.stream_of_get? hget]; exact (h st (get?_mem hget).1 (get?_mem hget).2).idle
    rw [Streams.tryAssignCapacity_eq, if_pos hidle]; exact h
  · exact t.tryAssignCapacity_cases k h (fun _ _ => (h.assignN_ne hk _).relink hP k) (fun _ _ => h.relink hP k)

theorem KeyP.assignConnectionCapacityLoop_cold {id : Nat} (fuel : Nat) :
    ∀ {t : Streams}, KeyP id ColdSt t → KeyP id ColdSt (Streams.assignConnectionCapacityLoop fuel t) := by
  have hP := coreP_cold
  induction fuel with
  | zero => intro t h; exact h
  | succ n ih =>
    intro t h
    unfold Streams.assignConnectionCapacityLoop
    dsimp only
    repeat' first
      | with_reducible assumption
      | with_reducible apply KeyP.tryAssignCapacity_cold
      | (guard_not_mk; keyp_peel) | (guard_mk; keyp_peel) | split | dsimp only

theorem giveBack_cold {t : Streams} (h : SafeInv t) {id : Nat} {st : Stream} (hget : t.store.get? id = some st)
    (hq : QuietSt st) : KeyP id ColdSt (giveBack t id st.sendFlow.available.asSize) := by
  have hm := get?_mem hget
  have hf := flOk_claim (h.st st hm.1) (Nat.le_refl st.sendFlow.available.asSize)
  have h0 := (h.st st hm.1).av0
  intro y hy hk
  have hslab : (giveBack t id st.sendFlow.available.asSize).store.slab =
      (t.store.set { st with sendFlow := (st.sendFlow.claimCapacity st.sendFlow.available.asSize).1 }).slab := by
    unfold giveBack Streams.modStream; rw [hget]; rfl
  rw [hslab] at hy
  simp only [Store.set, List.mem_map] at hy
  obtain ⟨x, hx, rfl⟩ := hy
  by_cases he : (x.key == st.key) = true
  · simp only [he, if_true]
    refine ⟨?_, hq⟩
    show (st.sendFlow.claimCapacity st.sendFlow.available.asSize).1.available.val = 0
    rw [hf.2.1, asSize_eq]; omega
  · exfalso
    simp only [he] at hk
    simp only [beq_iff_eq] at he
    exact he (hk.trans hm.2.symm)

/-- **`reclaim_all_capacity` leaves a quiet stream cold** -/
theorem reclaimAll_cold {t : Streams} (h : SafeInv t) {id : Nat} (hq : KeyP id QuietSt t) :
    KeyP id ColdSt (t.reclaimAllCapacity id) := by
  cases hget : t.store.get? id with
  | none =>
    have hb : t.stream id = { key := id, id := 0 } := by unfold Streams.stream; rw [hget]; rfl
    unfold Streams.reclaimAllCapacity
    dsimp only
    rw [hb]
    split
    · rename_i hpos
      exact absurd hpos (Nat.lt_irrefl 0)
    · exact KeyP.vacuous hget
  | some st =>
    have hm := get?_mem hget
    by_cases hpos : st.sendFlow.available.asSize > 0
    · have he := reclaimAllCapacity_eq t id (by rw [Streams.stream_of_get? hget]; exact hpos)
      rw [he, Streams.stream_of_get? hget]
      exact KeyP.assignConnectionCapacityLoop_cold _ (giveBack_cold h hget (hq st hm.1 hm.2))
    · unfold Streams.reclaimAllCapacity
      dsimp only
      rw [Streams.stream_of_get? hget, if_neg hpos]
      intro y hy hk
      have : y = st := key_inj h.keys.1 hy hm.1 (hk.trans hm.2.symm)
      subst this
      have h0 := (h.st y hy).av0
      rw [asSize_eq] at hpos
      exact ⟨by omega, hq y hy hk⟩

end H2V.Lemmas.ConnFlowP
