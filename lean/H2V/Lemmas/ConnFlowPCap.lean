import H2V.Lemmas.ConnFlowPWin
/-
  ConnFlowP — the send-capacity API (`capacity()`, `poll_capacity`, `reserve_capacity`) and
  the notifications; consequences of `SafeInv` for what the API reports.
-/
namespace H2V.Lemmas.ConnFlowP
open H2V H2V.Model H2V.Model.Conn H2V.Lemmas.Comp

theorem capacity_le_avail (x : Stream) (m : Nat) : x.capacity m ≤ x.sendFlow.available.asSize := by
  unfold Stream.capacity
  exact Nat.le_trans (usizeAsU32_le _) (Nat.le_trans (Nat.sub_le _ _) (Nat.min_le_left _ _))

theorem capacity_le_maxBuffer (x : Stream) (m : Nat) : x.capacity m ≤ m := by
  unfold Stream.capacity
  exact Nat.le_trans (usizeAsU32_le _) (Nat.le_trans (Nat.sub_le _ _) (Nat.min_le_right _ _))

/-- capacity the API reports for a stream: at most its assigned capacity, its send window, the
    connection send window and `max_send_buffer_size` -/
theorem SafeInvG.sendCapacity_le {g : Int} {s : Streams} (h : SafeInvG g s) (k : Nat) :
    s.sendCapacity k ≤ (s.stream k).sendFlow.available.asSize ∧
    s.sendCapacity k ≤ (s.stream k).sendFlow.windowSz ∧
    (s.sendCapacity k : Int) ≤ s.prio.flow.windowSize.val ∧
    s.sendCapacity k ≤ s.prio.maxBufferSize := by
  have h1 := capacity_le_avail (s.stream k) s.prio.maxBufferSize
  have hok := h.stream_ok k
  have h2 := hok.asSize_le
  refine ⟨h1, Nat.le_trans h1 h2, ?_, capacity_le_maxBuffer _ _⟩
  unfold Streams.sendCapacity
  cases hget : s.store.get? k with
  | none =>
    have hb : s.stream k = { key := k, id := 0 } := by unfold Streams.stream; rw [hget]; rfl
    rw [hb] at h1 ⊢
    have : ({ key := k, id := 0 } : Stream).sendFlow.available.asSize = 0 := rfl
    have hA := h.av_le; have hA0 := h.a0; have := h.g0
    omega
  | some st =>
    rw [Streams.stream_of_get? hget] at h1 ⊢
    have := h.st_le (get?_mem hget).1
    have hA0 := h.a0; have := h.g0
    have := (h.st st (get?_mem hget).1).av0
    rw [asSize_eq] at h1
    omega

/-- total of what `capacity()` reports over all streams -/
def sumCap (m : Nat) : List Stream → Nat
  | [] => 0
  | x :: t => x.capacity m + sumCap m t

theorem sumCap_le_sumAv (m : Nat) : ∀ (l : List Stream), (∀ x ∈ l, 0 ≤ x.sendFlow.available.val) →
    (sumCap m l : Int) ≤ sumAv l
  | [], _ => Int.le_refl _
  | x :: t, h => by
    have h1 := capacity_le_avail x m
    have h0 := h x (List.mem_cons_self ..)
    have := sumCap_le_sumAv m t (fun y hy => h y (List.mem_cons_of_mem _ hy))
    rw [asSize_eq] at h1
    simp only [sumCap, sumAv]
    omega

/-- all the capacity the API reports, added up, fits into the connection window (with what the
    connection still holds unassigned on top) -/
theorem SafeInvG.sumCap_le {g : Int} {s : Streams} (h : SafeInvG g s) :
    (sumCap s.prio.maxBufferSize s.store.slab : Int) + s.prio.flow.available.val ≤ s.prio.flow.windowSize.val := by
  have := sumCap_le_sumAv s.prio.maxBufferSize s.store.slab (fun x hx => (h.st x hx).av0)
  have := h.ledger; have := h.g0
  omega

theorem pollCapacity_cases (s : Streams) (id : Nat) (tag : String) :
    s.pollCapacity id tag = (s, .none) ∨
    s.pollCapacity id tag = (s.modStream id fun st => st.waitSend tag, .pending) ∨
    s.pollCapacity id tag =
      ((s.modStream id fun st => { st with sendCapacityInc := false }).modStream id fun st => st.waitSend tag, .pending) ∨
    (s.pollCapacity id tag = (s.modStream id fun st => { st with sendCapacityInc := false },
        .cap ((s.modStream id fun st => { st with sendCapacityInc := false }).sendCapacity id)) ∧
      (s.modStream id fun st => { st with sendCapacityInc := false }).sendCapacity id ≠ 0) := by
  unfold Streams.pollCapacity
  dsimp only
  split
  · exact Or.inl rfl
  · split
    · exact Or.inr (Or.inl rfl)
    · split
      · exact Or.inr (Or.inr (Or.inl rfl))
      · rename_i hne
        exact Or.inr (Or.inr (Or.inr ⟨rfl, hne⟩))

/-- `poll_capacity` never answers `Ready(Some(Ok(0)))` -/
theorem pollCapacity_ne_zero (s : Streams) (id : Nat) (tag : String) : (s.pollCapacity id tag).2 ≠ .cap 0 := by
  rcases pollCapacity_cases s id tag with h | h | h | ⟨h, hne⟩ <;> rw [h] <;> simp
  exact hne

/-- what `poll_capacity` answers is the (non-zero) capacity of the stream at that moment -/
theorem pollCapacity_cap {s : Streams} {id n : Nat} {tag : String} (h : (s.pollCapacity id tag).2 = .cap n) :
    n = (s.pollCapacity id tag).1.sendCapacity id ∧ 0 < n := by
  rcases pollCapacity_cases s id tag with h' | h' | h' | ⟨h', hne⟩ <;> rw [h'] at h ⊢ <;> simp at h
  subst h
  exact ⟨rfl, Nat.pos_of_ne_zero hne⟩

/-- `Pending` only after the waker is stored in `send_task` (when the stream exists) -/
theorem pollCapacity_pending {s : Streams} {id : Nat} {tag : String} {st : Stream}
    (hget : s.store.get? id = some st) (h : (s.pollCapacity id tag).2 = .pending) :
    ((s.pollCapacity id tag).1.stream id).sendTask = some tag := by
  rcases pollCapacity_cases s id tag with h' | h' | h' | ⟨h', hne⟩ <;> rw [h'] at h ⊢ <;> simp at h
  · show ((s.modStream id fun st => st.waitSend tag).stream id).sendTask = some tag
    rw [stream_modStream_self hget _ rfl]; rfl
  · have hget' : (s.modStream id fun st => { st with sendCapacityInc := false }).store.get? id =
        some { st with sendCapacityInc := false } := by
      unfold Streams.modStream; rw [hget]
      exact get?_set_self hget (get?_mem hget).2
    show (((s.modStream id fun st => { st with sendCapacityInc := false }).modStream id
      fun st => st.waitSend tag).stream id).sendTask = some tag
    rw [stream_modStream_self hget' _ rfl]; rfl

theorem notifySend_wakes (x : Stream) : x.notifySend.1.sendTask = none ∧ (∀ t, x.sendTask = some t → t ∈ x.notifySend.2) := by
  unfold Stream.notifySend
  cases h1 : x.sendTask <;> dsimp only <;> split <;> simp_all

theorem notifySend_inc (x : Stream) : x.notifySend.1.sendCapacityInc = x.sendCapacityInc := by
  unfold Stream.notifySend
  cases x.sendTask <;> dsimp only <;> split <;> rfl

/-- `Stream::assign_capacity`: when what `capacity()` reports grows, the capacity flag is raised and
    the task waiting in `send_task` is woken -/
theorem assignCapacity_notifies (x : Stream) (n m : Nat)
    (hgrow : x.capacity m < ({ x with sendFlow := (x.sendFlow.assignCapacity n).1 } : Stream).capacity m) :
    (x.assignCapacity n m).1.sendCapacityInc = true ∧ (x.assignCapacity n m).1.sendTask = none ∧
    ∀ t, x.sendTask = some t → t ∈ (x.assignCapacity n m).2 := by
  unfold Stream.assignCapacity
  dsimp only
  rw [if_pos hgrow]
  unfold Stream.notifyCapacity
  have := notifySend_wakes { x with sendFlow := (x.sendFlow.assignCapacity n).1, sendCapacityInc := true }
  exact ⟨notifySend_inc _, this.1, this.2⟩

/-- `Stream::set_reset` (reset by us, by the peer through `recv_reset`/`handle_error`): the task
    waiting for capacity is woken — a wait for capacity ends when the stream can no longer send -/
theorem setReset_wakes (x : Stream) (r : Reason) (i : Initiator) :
    (x.setReset r i).1.sendTask = none ∧ ∀ t, x.sendTask = some t → t ∈ (x.setReset r i).2 := by
  unfold Stream.setReset
  dsimp only
  have h1 := notifySend_wakes { x with state := x.state.setReset x.id r i }
  refine ⟨?_, fun t ht => ?_⟩
  · have a := notifyPush_kf ({ x with state := x.state.setReset x.id r i } : Stream).notifySend.1
    unfold Stream.notifyRecv Stream.notifyPush
    split <;> split <;> simp_all
  · exact List.mem_append_left _ (List.mem_append_left _ (h1.2 t ht))

end H2V.Lemmas.ConnFlowP
