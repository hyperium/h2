import Lean.Elab.Tactic
/-
  The simp set `conn_basics`: the characterising equations of the connection model's primitives
  (`H2V/Lemmas/ConnBasics.lean`).  `simp only [conn_basics]` pushes a projection (`.store`, `.counts`,
  `.actions`, `.panicked`, `.getQ q`, …) through `panic`, `wake`, `modStream`, `setQ`, `qPush`, ….
-/
register_simp_attr conn_basics
