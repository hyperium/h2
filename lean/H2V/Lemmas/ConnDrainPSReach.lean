import H2V.Lemmas.ConnDrainPTurn
import H2V.Lemmas.ConnRecvPReach
import H2V.Lemmas.ConnFlowPReach
import H2V.Lemmas.ConnDrainPCapA
import H2V.Lemmas.ConnOps
/-
  ConnDrainP — `SReach`: the stream-layer invariants of ConnFlowP (+ `CapInv`), ConnCountsP and ConnRecvP
  together, closed under every call the connection task makes (with the decoder's bounds on WINDOW_UPDATE
  increments and SETTINGS_INITIAL_WINDOW_SIZE); the frames `Codec::poll_next` yields meet those bounds
  (`pollNext_frameOk`).
-/
namespace H2V.Lemmas.ConnDrainP
open H2V H2V.Model H2V.Model.Conn
open H2V.Lemmas.ConnFlowP (FrameOk SettingsOk)

theorem drain1_frame {r : CodecRead.Reader} {f : Frame.Frame} {rest : List CodecRead.Item}
    (h : (CodecRead.Reader.drain 1 r []).2.1 = .frame f :: rest) : FrameOk f := by
  unfold CodecRead.Reader.drain at h
  dsimp only at h
  split at h
  · cases h
  · cases h
  · split at h
    · cases h
    · (try dsimp only at h)
      split at h
      · next r2 g hd =>
        unfold CodecRead.Reader.drain at h
        simp only [List.nil_append, List.cons.injEq, CodecRead.Item.frame.injEq] at h
        rw [← h.1]
        exact ConnFlowP.decodeFrame_ok hd
      · unfold CodecRead.Reader.drain at h; cases h
      · cases h

theorem pollNext_frameOk (n : Nat) (c c' : Codec) (tag : String) (f : Frame.Frame)
    (h : pollNext n c tag = (c', .frame f)) : FrameOk f := by
  induction n generalizing c with
  | zero => cases h
  | succ n ih =>
    rcases pollNext_cases n c tag with e | ⟨_, _, hi, e⟩ | ⟨_, _, e⟩ | ⟨_, e⟩ | ⟨_, _, _, hq, e⟩ | e <;> rw [e] at h
    · cases h
    · cases h; exact drain1_frame hi
    · cases h
    · exact ih _ h
    · rcases hq with rfl | ⟨_, _, rfl⟩ <;> cases h
    · cases h


/-- the stream-layer invariants this family needs, from four families: `KInv` (ConnFlowP's send-flow safety and
    `u32` requests, plus `CapInv` — ConnDrainPCapA), ConnCountsP's key/next-id facts and queue ↔ flag consistency of
    `pending_send` / `pending_capacity` (as long as no `assert!` fired), ConnRecvP's connection-level receive-window
    invariant.  Kept in invariant form (not as the families' `Reach` predicates) so that any call with an `Ev` /
    `Ext` frame lemma can be added (`SReach.of_ev`), e.g. `poll_pushed`, for which those `Reach` definitions have no constructor. -/
structure SReach (s : Streams) : Prop where
  k : KInv s
  keys : ConnCountsP.KeysOK s
  nx : ConnCountsP.NextLocal s
  q : s.panicked = none → ConnCountsP.QOK .pendingSend s ∧ ConnCountsP.QOK .pendingCapacity s
  rv : ∃ g, ConnRecvP.Inv false g s

theorem SReach.pinv {s : Streams} (h : SReach s) (hp : s.panicked = none) : PInv s ∧ RangeOK s := by
  refine ⟨⟨h.k.safe, h.k.req, (h.q hp).1, (h.q hp).2⟩, ?_⟩
  obtain ⟨g, hi⟩ := h.rv
  have h1 := (Comp.inI32_iff _).1 hi.aI32
  have h2 := (Comp.inI32_iff _).1 hi.wI32
  exact ⟨h1.2, h2.1⟩

theorem SReach.cnt_ev {s s' : Streams} (h : SReach s) (e : ConnCountsP.EvT s s') :
    ConnCountsP.KeysOK s' ∧ ConnCountsP.NextLocal s' ∧
    (s'.panicked = none → ConnCountsP.QOK .pendingSend s' ∧ ConnCountsP.QOK .pendingCapacity s') := by
  refine ⟨e.keysOK h.keys, e.nx.nextLocal h.nx, fun hp => ?_⟩
  have e1 := e.qstep .pendingSend (by decide)
  have e2 := e.qstep .pendingCapacity (by decide)
  have hq := h.q (ConnCountsP.noPanic_of_mono e1.mono hp)
  exact ⟨e1.ok hp hq.1, e2.ok hp hq.2⟩

theorem SReach.of_ev {s s' : Streams} (h : SReach s) (hk : KInv s') (e : ConnCountsP.EvT s s') (x : ConnRecvP.Ext s s') :
    SReach s' := by
  obtain ⟨g, hi⟩ := h.rv
  have c := h.cnt_ev e
  exact ⟨hk, c.1, c.2.1, c.2.2, ⟨g, hi.of_ext x⟩⟩

/-- one operation of the `Streams` API with decoder-bounded arguments: `KInv` by ConnFlowP's `Mv.op`, the same operation
    as a step of ConnCountsP's `ApiStep` and as an `Op` of ConnRecvP (ConnOps) -/
theorem SReach.op {s : Streams} (h : SReach s) (op : ConnResetP.Op) (hf : ConnFlowP.flowOk op)
    (hv : (ConnRecvP.Op.ofReset op).valid s) : SReach (op.apply s) := by
  obtain ⟨g, hi⟩ := h.rv
  have c := h.cnt_ev ((ConnCountsP.ApiStep.op s op).evT h.keys h.nx)
  exact ⟨(ConnFlowP.Mv.op op hf s).kinv h.k, c.1, c.2.1, c.2.2,
    ⟨_, ConnRecvP.Op.ofReset_apply s op ▸ ((ConnRecvP.Op.ofReset op).step_inv hi hv).1⟩⟩

/-- states the three `Reach` predicates accept satisfy it (used for the fresh connection) -/
theorem SReach.of_reach {s : Streams} (hk : KInv s) (hc : ConnCountsP.Reach s) {g : ConnRecvP.Ghost} (hr : ConnRecvP.Reach g s) :
    SReach s :=
  ⟨hk, hc.inv.1, hc.inv.2.1, fun hp => ⟨hc.qok hp _ (by decide), hc.qok hp _ (by decide)⟩, ⟨g, ConnRecvP.reach_inv hr⟩⟩

end H2V.Lemmas.ConnDrainP
