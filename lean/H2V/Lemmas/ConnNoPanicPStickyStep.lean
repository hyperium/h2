import H2V.Lemmas.ConnStepOp
import H2V.Model.ConnProto
/-
  C08 (no panic) — the first recorded panic message is never overwritten: relation `ST`, which every step of the stream
  layer has whatever its kind (`ST.of_step`: `Streams.panic` is first-wins and nothing else writes `panicked`); so every
  operation of ConnResetP's `Op` (any interleaving of peer frames, connection progress and user calls) and every history
  has it, with no precondition at all; `Conn.panic`.
-/
namespace H2V.Lemmas.ConnNoPanicP
open H2V H2V.Model H2V.Model.Conn
open H2V.Lemmas.ConnResetP (Op run)
attribute [local irreducible] wrapSubU32 wrapSubUsize

/-- a recorded panic message stays -/
def ST (s s' : Streams) : Prop := ∀ m, s.panicked = some m → s'.panicked = some m

theorem ST.refl (s : Streams) : ST s s := fun _ h => h
theorem ST.trans {a b c : Streams} (h1 : ST a b) (h2 : ST b c) : ST a c := fun m h => h2 m (h1 m h)
theorem ST.of_eq {s s' : Streams} (h : s'.panicked = s.panicked) : ST s s' := fun m hm => by rw [h]; exact hm

namespace Sticky

/-- first wins -/
theorem panic_st (s : Streams) (m : String) : ST s (s.panic m) := by
  intro m' h; unfold Streams.panic; rw [h]; exact h

macro "st_intro" : tactic => `(tactic| with_reducible intro _)
syntax "st_step" : tactic
macro "st_auto_ih" ih:ident : tactic =>
  `(tactic| repeat (first | st_step | with_reducible refine ST.trans ?_ ($ih ..) | st_intro | split | dsimp only))

end Sticky

open Sticky in
/-- `Streams.panic` is first-wins and nothing else writes `panicked`: a primitive is a record update that keeps the field,
    behind tests whose other branch is `panic` or nothing -/
theorem ST.of_step {K : Kind → Bool} {s s' : Streams} (h : Streams.Step K s s') : ST s s' := by
  have upd : ∀ (t : Streams) (k : Nat) (f : Stream → Stream), ST t (t.modStream k f) := fun t k f => by
    unfold Streams.modStream; split
    · exact .of_eq rfl
    · exact panic_st _ _
  have setQ : ∀ (t : Streams) (q : QName) (l : List Nat), ST t (t.setQ q l) := fun t q l => by cases q <;> exact .of_eq rfl
  have ite : ∀ {t a b : Streams} (c : Prop) [Decidable c], ST t a → ST t b → ST t (if c then a else b) := by
    intro t a b c _ h1 h2; split <;> assumption
  have cnt : ∀ (t : Streams) (k : Nat) (f : Counts → Counts) (g : Stream → Stream), ST t ((t.modCounts f).modStream k g) :=
    fun t k f g => ST.trans (b := t.modCounts f) (.of_eq rfl) (upd _ k g)
  induction h with
  | refl s => exact .refl s
  | trans _ _ ih1 ih2 => exact ih1.trans ih2
  | panic s m => exact panic_st s m
  | unsup s m => unfold Streams.unsup; split <;> first | exact .refl _ | exact .of_eq rfl
  | notifyTask s _ => unfold Streams.notifyTask; split <;> first | exact .refl _ | exact .of_eq rfl
  | wake | modPrio | modSend | modRecv | setStream => exact .of_eq rfl
  | setTask | setConnError | setRefs | setCounts | insert | insertWith | undoInsert | unlink | remove => exact fun _ h => h
  | qPush s q k _ => unfold Streams.qPush; split <;> first | exact .refl _ | exact (upd _ _ _).trans (setQ _ _ _)
  | qPushFront s q k _ => unfold Streams.qPushFront; split <;> first | exact .refl _ | exact (upd _ _ _).trans (setQ _ _ _)
  | qPop s q _ => unfold Streams.qPop; split <;> first | exact .refl _ | exact (setQ _ _ _).trans (upd _ _ _)
  | incNumSendStreams s k _ =>
    exact ((ite _ (.refl s) (panic_st s _)).trans (ite _ (panic_st _ _) (.refl _))).trans (cnt _ k _ _)
  | incNumRecvStreams s k _ =>
    exact ((ite _ (.refl s) (panic_st s _)).trans (ite _ (panic_st _ _) (.refl _))).trans (cnt _ k _ _)
  | decNumStreams s k =>
    unfold Streams.decNumStreams
    dsimp only
    repeat' split
    all_goals refine ST.trans ?_ (cnt _ k _ _)
    all_goals first | exact .refl _ | exact panic_st _ _ | exact (panic_st _ _).trans (panic_st _ _)
  | modStream s k f _ => exact upd s k f
  | modStreamW s k f _ => unfold Streams.modStreamW; split <;> first | exact .of_eq rfl | exact panic_st _ _

namespace Sticky
theorem refPollPushed_st (s : Streams) (k : Nat) (t : String) : ST s (s.refPollPushed k t).1 :=
  ST.of_step (Streams.refPollPushed_step (K := fun _ => true) (fun _ _ => rfl) s k t)
end Sticky

/-- **no operation overwrites a recorded panic message** (every constructor of `Op`, no precondition) -/
theorem op_sticky (s : Streams) (op : Op) : ST s (op.apply s) := by
  by_cases h : op = .clearWakes
  · subst h; exact fun _ h => h
  · exact ST.of_step (Streams.op_step (K := fun _ => true) (fun _ => rfl) s op h)

theorem run_sticky (s : Streams) (ops : List Op) : ST s (run s ops) := by
  induction ops generalizing s with
  | nil => exact .refl _
  | cons op ops ih => exact (op_sticky s op).trans (ih _)

/-- unfolded form -/
theorem run_panicked_eq {s : Streams} {m : String} (h : s.panicked = some m) (ops : List Op) :
    (run s ops).panicked = some m := run_sticky s ops m h

theorem run_panicked_none {s : Streams} {ops : List Op} (h : (run s ops).panicked = none) : s.panicked = none := by
  cases hp : s.panicked with
  | none => rfl
  | some m => rw [run_sticky s ops m hp] at h; cases h

/-- the connection records a panic in its stream layer, first message wins -/
theorem Conn.panic_streams (c : Conn) (m : String) : (c.panic m).streams = c.streams.panic m := rfl

theorem Conn.panic_sticky (c : Conn) (m : String) : ST c.streams (c.panic m).streams := Sticky.panic_st _ _

end H2V.Lemmas.ConnNoPanicP
