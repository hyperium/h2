import H2V.Lemmas.ConnNoPanicPAll
import H2V.Lemmas.ConnNoPanicPPushInvStep
/-
  C08 (no panic) — everything together (stage 2): connections that never accept a PUSH_PROMISE (every server; every
  client that announced SETTINGS_ENABLE_PUSH = 0).  There `pending_push_promises` is always empty (`NoPPP`, ConnNoPanicPPush*), so
  the hypothesis `dropPPP s k = []` of the handle drop disappears, and a PUSH_PROMISE frame is answered by a
  connection error without touching the state: 37 operations.
-/
namespace H2V.Lemmas.ConnNoPanicP
open H2V H2V.Model H2V.Model.Conn H2V.Lemmas.ConnCountsP
open H2V.Lemmas.ConnResetP (Op run)

/-- preconditions: as `opPre2`; dropping a handle and a PUSH_PROMISE frame are free -/
def opPre3 (s : Streams) : Op → Prop
  | .dropStreamRef _ => True
  | .recvPushPromise _ _ => True
  | op => opPre2 s op

structure Good3 (s : Streams) (H : List Nat) : Prop where
  good : Good s H
  noppp : NoPPP s
  nopush : NoPush s

inductive BReach : Streams → List Nat → Prop
  | init {s : Streams} : Init2 s → NoPush s → BReach s []
  | step {s : Streams} {H : List Nat} (op : Op) : BReach s H → opPre3 s op → (∀ k, opKey2 op = some k → k ∈ H) →
      BReach (op.apply s) (opHandles2 s H op)

theorem good3_step {s : Streams} {H : List Nat} (g : Good3 s H) (op : Op) (hpre : opPre3 s op)
    (hin : ∀ k, opKey2 op = some k → k ∈ H) (he : ErrOK s) (he' : ErrOK (op.apply s)) :
    Good3 (op.apply s) (opHandles2 s H op) := by
  refine ⟨?_, NoPPP_step g.noppp g.nopush op, NoPush_step g.nopush op⟩
  -- the operations of the level below: after `cases op`, `opPre3` reduces to `opPre2`
  have below : opPre2 s op → Good (op.apply s) (opHandles2 s H op) := fun hold => good_step g.good op hold hin he he'
  cases op
  case recvPushPromise id hd =>
    have e : (Op.recvPushPromise id hd).apply s = s := recvPushPromise_nopush g.nopush id hd
    have e2 : opHandles2 s H (.recvPushPromise id hd) = H := rfl
    rw [e, e2]; exact g.good
  case dropStreamRef k => exact below (g.noppp.dropPPP k)
  all_goals exact below hpre

theorem BReach.evT {s : Streams} {H : List Nat} (h : BReach s H) : KeysOK s ∧ NextLocal s := by
  induction h with
  | init hi _ => exact ⟨hi.blank.keysOK, hi.blank.next⟩
  | step op _ _ _ ih => exact keys_step_op ih.1 ih.2 op

theorem Init2.good3 {s : Streams} (hi : Init2 s) (hp : NoPush s) : Good3 s [] := ⟨hi.good, NoPPP_blank hi.blank, hp⟩

/-- **No panic, handle discipline, 37 operations, connections without server push** -/
theorem breach_good {s : Streams} {H : List Nat} (h : BReach s H) (he : ErrOK s) : Good3 s H := by
  induction h with
  | init hi hp => exact hi.good3 hp
  | step op hr hpre hin ih =>
    have he0 := errOK_back_op hr.evT.1 hr.evT.2 op he
    exact good3_step (ih he0) op hpre hin he0 he

/-- `poll_pushed` through a held handle: nothing to take, no panic, the invariant bundle is kept (no new handle) -/
theorem refPollPushed_good3 {s : Streams} {H : List Nat} (g : Good3 s H) {k : Nat} (hk : k ∈ H) (t : String) :
    (s.refPollPushed k t).1.panicked = none ∧ NPI (fun _ => False) (s.refPollPushed k t).1 ∧ NoPPP (s.refPollPushed k t).1 ∧
    NoPush (s.refPollPushed k t).1 ∧ ∀ c m u f, (s.refPollPushed k t).2 ≠ .pushed c m u f := by
  obtain ⟨x, hx, _⟩ := g.good.hok k hk
  have h := refPollPushed_npi_noPPP g.good.npi g.noppp (k := k) ⟨x, hx⟩ t
  exact ⟨h.1.np, h.1, h.2.1, refPollPushed_noPush g.nopush k t, h.2.2.1⟩

/-- witness: the stream layer of a new client connection that announced SETTINGS_ENABLE_PUSH = 0 -/
def wInit3 : Streams :=
  { actions := { recv := { flow := { windowSize := { val := 65535 }, available := { val := 65535 } }, isPushEnabled := false },
                 send := { prioritize := { flow := { windowSize := { val := 65535 }, available := { val := 65535 } } } } } }

theorem wInit3_init2 : Init2 wInit3 :=
  ⟨⟨rfl, rfl, rfl, rfl, rfl, rfl, rfl, rfl, rfl, rfl, by intro x hx; cases hx; rfl⟩, rfl, fun q => by cases q <;> rfl,
   ⟨rfl, rfl, rfl, rfl, rfl⟩, ⟨rfl, by decide⟩⟩

theorem wInit3_nopush : NoPush wInit3 := .inr rfl

/-- witness history: request, a PUSH_PROMISE (refused), response head, DATA in, handle cloned, both dropped (no hypothesis), EOF -/
def wOps3 : List Op :=
  [.sendRequest false [] false none, .recvPushPromise 1 { sid := 2, eos := false, status := none },
   .recvHeaders { sid := 1, eos := false, status := some [50, 48, 48] },
   .recvData 1 [1, 2, 3] false none, .cloneStreamRef 0, .dropStreamRef 0, .dropStreamRef 0, .recvEof false]

set_option maxRecDepth 8000 in
theorem wOps3_breach : BReach (run wInit3 wOps3) [] := by
  have r0 : BReach wInit3 [] := .init wInit3_init2 wInit3_nopush
  have r1 := BReach.step (.sendRequest false [] false none) r0 trivial (by intro k h; cases h)
  have r2 := BReach.step (.recvPushPromise 1 { sid := 2, eos := false, status := none }) r1 trivial (by intro k h; cases h)
  have r3 := BReach.step (.recvHeaders { sid := 1, eos := false, status := some [50, 48, 48] }) r2 (by show _ = none; decide) (by intro k h; cases h)
  have r4 := BReach.step (.recvData 1 [1, 2, 3] false none) r3 (by show FrameLenOK [1, 2, 3] none; unfold FrameLenOK; decide) (by intro k h; cases h)
  have r5 := BReach.step (.cloneStreamRef 0) r4 trivial (by intro k h; cases h; decide)
  have r6 := BReach.step (.dropStreamRef 0) r5 trivial (by intro k h; cases h; decide)
  have r7 := BReach.step (.dropStreamRef 0) r6 trivial (by intro k h; cases h; decide)
  have r8 := BReach.step (.recvEof false) r7 (by intro h; cases h) (by intro k h; cases h)
  exact r8

theorem wOps3a_breach : BReach (run wInit3 [.sendRequest false [] false none]) [0] :=
  BReach.step (.sendRequest false [] false none) (.init wInit3_init2 wInit3_nopush) trivial (by intro k h; cases h)

set_option maxRecDepth 8000 in
theorem wOps3a_facts : ErrOK (run wInit3 [.sendRequest false [] false none]) := by unfold ErrOK; decide +kernel

set_option maxRecDepth 8000 in
theorem wOps3_facts : ErrOK (run wInit3 wOps3) ∧ (run wInit3 wOps3).store.slab.length = 0 :=
  ⟨by unfold ErrOK; decide +kernel, by decide +kernel⟩

end H2V.Lemmas.ConnNoPanicP
