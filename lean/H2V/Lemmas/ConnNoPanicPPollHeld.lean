import H2V.Lemmas.ConnNoPanicPPollAcct
/-
  C08 (no panic): `pop_frame` keeps `DSum`, and the DATA frame it hands out is covered:
  if a remainder stays with the codec (`frame.rest > 0`) the stream is still in the slab and
  `rest + Σ queued DATA ≤ buffered_send_data` (`HeldOK`) — what `reclaim_frame` needs.
  The walk of `pop_frame` is `PopRule.run`; `ds_popRule` is the accounting's share next to the bundle's.
-/
namespace H2V.Lemmas.ConnNoPanicP
open H2V H2V.Model H2V.Model.Conn H2V.Lemmas.ConnCountsP
attribute [local irreducible] wrapSubU32 wrapSubUsize

theorem wrapSubUsize_of_le {a b : Nat} (h : b ≤ a) (ha : a < USIZE_MOD) : wrapSubUsize a b = a - b := by
  unfold wrapSubUsize USIZE_MOD at *; omega

/-- the remainder of a DATA frame the codec holds is accounted for by its (live) stream -/
def HeldOK (s : Streams) (fr : DataFrame) : Prop :=
  fr.rest > 0 → Live s fr.key ∧ fr.rest + dsum (s.stream fr.key).pendingSend ≤ (s.stream fr.key).bufferedSendData ∧
    (s.stream fr.key).bufferedSendData < USIZE_MOD

theorem stream_of_store_eqP {s t : Streams} (h : t.store = s.store) (j : Nat) : t.stream j = s.stream j := by
  unfold Streams.stream; rw [h]

theorem popRest_dk {s : Streams} {id : Nat} {f : SFrame} {rest : List SFrame} (hps : (s.stream id).pendingSend = f :: rest) :
    DK s (s.modStream id fun st => { st with pendingSend := rest }) :=
  modStream_dk' _ _ _ (fun _ => rfl) (fun h => by
    unfold DS at h ⊢; rw [hps] at h
    exact ⟨Nat.le_trans (dsum_tail_le _ _) h.1, h.2⟩)

/-- the entry after the chunk is cut -/
theorem emitC_ds {sd : Stream → Nat → Nat → Stream × List String × Bool} (hsd : SdNP sd) {s : Streams}
    {id len sz : Nat} {eos : Bool} {rest : List SFrame} (hl : Live s id)
    (hps : (s.stream id).pendingSend = .data sz eos :: rest) (hds : DSum s) (hlen : len ≤ sz) :
    DSum (ConnWakeP.pfData sd s id len rest) ∧
    ((ConnWakeP.pfData sd s id len rest).stream id).pendingSend = rest ∧
    ((ConnWakeP.pfData sd s id len rest).stream id).bufferedSendData = (s.stream id).bufferedSendData - len ∧
    sz + dsum rest ≤ (s.stream id).bufferedSendData ∧ (s.stream id).bufferedSendData < USIZE_MOD := by
  have hd := hds id
  unfold DS at hd
  rw [hps] at hd
  simp only [dsum] at hd
  have hget1 : (s.modStream id fun st => { st with pendingSend := rest }).store.get? id =
      some { s.stream id with pendingSend := rest } := modStream_get?_self s id _ _ hl.stream rfl
  have hdk1 := popRest_dk (rest := rest) hps
  have hstore := ConnFlowP.pfData_store sd s id len rest
  generalize hs1 : (s.modStream id fun st => { st with pendingSend := rest }) = s1 at hget1 hdk1 hstore
  have hst1 : s1.stream id = { s.stream id with pendingSend := rest } := stream_of_get? hget1
  have hsend := hsd.send (s1.stream id) len s1.prio.maxBufferSize
  have hbuf := hsd.buf (s1.stream id) len s1.prio.maxBufferSize
  have hkey := (hsd.ok (s1.stream id) len s1.prio.maxBufferSize).1
  generalize (sd (s1.stream id) len s1.prio.maxBufferSize).1 = st' at hsend hbuf hkey hstore
  rw [hst1] at hsend hbuf hkey
  have hbuf' : st'.bufferedSendData = (s.stream id).bufferedSendData - len := by
    rw [hbuf]; exact wrapSubUsize_of_le (by show len ≤ (s.stream id).bufferedSendData; omega) hd.2
  have hkey' : st'.key = id := hkey.trans (stream_key _ _)
  have hds' : DS st' := by
    unfold DS; rw [hsend, hbuf']
    show dsum rest ≤ _ ∧ _
    omega
  have hdk2 : DK s1 (s1.setStream st') := setStream_dk _ _ (fun _ => hds')
  have heq : ∀ j, (ConnWakeP.pfData sd s id len rest).stream j = (s1.setStream st').stream j :=
    fun j => stream_of_store_eqP (t := ConnWakeP.pfData sd s id len rest) (s := s1.setStream st') hstore j
  have hget2 : (s1.setStream st').store.get? id = some st' := by
    rw [setStream_get?, hget1]; simp [hkey', stream_key]
  refine ⟨fun j => by rw [heq]; exact (hdk1.trans hdk2).dsum hds j, ?_, ?_, hd.1, hd.2⟩
  · rw [heq, stream_of_get? hget2, hsend]
  · rw [heq, stream_of_get? hget2, hbuf']

theorem isClosed_false_of_buffered {x : Stream} (h : x.bufferedSendData ≠ 0) : x.isClosed = false := by
  unfold Stream.isClosed
  have : (x.bufferedSendData == 0) = false := by simpa using h
  rw [this, Bool.and_false]

/-- what `pop_frame` returns, as far as the accounting goes -/
def PopOK (r : Streams × Option Streams.OutFrame) : Prop :=
  DSum r.1 ∧ ∀ len e fr, r.2 = some (.data len e fr) → HeldOK r.1 fr

theorem PopOK.other {t : Streams} {o : Option Streams.OutFrame} (h : DSum t) (ho : ∀ len e fr, o ≠ some (.data len e fr)) :
    PopOK (t, o) := ⟨h, fun len e fr hf => absurd hf (ho len e fr)⟩

/-- requeue + `transition_after` behind the DATA arm: the stream that keeps buffered data stays -/
theorem finish_held {s' t : Streams} {id : Nat} (c : Prop) [Decidable c] {rest : List SFrame} {B len : Nat} {e : Bool}
    {fr : DataFrame} (hk : fr.key = id) (hl : Live t id) (hd : DSum t) (ev : EvB false s' t)
    (h1 : (t.stream id).pendingSend = rest) (h2 : (t.stream id).bufferedSendData = B) (h3 : fr.rest + dsum rest ≤ B)
    (h4 : B < USIZE_MOD) :
    PopOK ((if c then (t.qPush .pendingSend id).1 else t).transitionAfter id (s'.stream id).isPendingResetExpiration,
      some (.data len e fr)) := by
  generalize hs2 : (if c then (t.qPush .pendingSend id).1 else t) = t2
  have hdk : DK t t2 := by rw [← hs2]; split; exact qPush_dk _ _ _; exact .refl _
  have hev : EvB false t t2 := by rw [← hs2]; split; exact qPush_ev _ _ _ (by decide) (by decide); exact .refl _
  have hlive : Live t2 id := by
    rw [← hs2]; split
    · exact (qPush_lt t .pendingSend id).keys.live.mpr hl
    · exact hl
  have hf : (t2.stream id).pendingSend = rest ∧ (t2.stream id).bufferedSendData = B := by
    rw [← hs2]; split
    · have := qPush_spr (P := fun x => (x.pendingSend, x.bufferedSendData)) t .pendingSend id (fun x v => by cases v <;> rfl) id
      simp only [Prod.mk.injEq] at this
      exact ⟨this.1.trans h1, this.2.trans h2⟩
    · exact ⟨h1, h2⟩
  refine ⟨(hdk.trans (transitionAfter_dk _ _ _)).dsum hd, fun len' e' fr' hfr hr => ?_⟩
  cases hfr
  rw [hk]
  have hnc : (t2.stream id).isClosed = false := isClosed_false_of_buffered (by rw [hf.2]; omega)
  have hno := transitionAfter_noop (b := (s'.stream id).isPendingResetExpiration) hnc
    (fun hb => (EvB.trans ev hev).mono.resetAt id hb)
  rw [hno, hf.1, hf.2]
  exact ⟨hlive, h3, h4⟩

/-- the accounting's share of `pop_frame`, next to the bundle's (`pi_popRule`) -/
theorem ds_popRule {E : Nat → Prop} {sd : Stream → Nat → Nat → Stream × List String × Bool} (hsd : SdNP sd) (maxLen : Nat) :
    PopRule sd maxLen (fun s => PopI E s ∧ DSum s) (fun id s t => PopP E id s t ∧ DSum t)
      DSum (fun _ _ t => DSum t) PopOK where
  stop _ h := .other h.2 (by intros; simp)
  q s h := (qPop_dk s _).dsum h.2
  pop _ _ _ _ h' _ := h'.2
  skip _ _ h := h.2
  discard _ _ _ _ _ h _ _ := DK.dsum (by dk_auto) h.2
  emit id s sz eos rest len c _ e h hps hle _ h1 h2 :=
    have hst := emitC_st hsd h.1.2.1 hps h1 h2
    have hem := emitC_ds hsd h.1.2.2.1 hps h.2 hle
    finish_held c rfl (hst.lt.keys.live.mpr h.1.2.2.1) hem.1 hst.ev hem.2.1 hem.2.2.1
      (by show sz - len + dsum rest ≤ _; omega) (by omega)
  rest _ _ _ _ h hps := (popRest_dk hps).dsum h.2
  pp _ _ _ _ _ _ _ h hps _ := DK.dsum ((popRest_dk hps).trans (.of_step (Streams.ppActivate_step (by decide) _ _))) h.2
  reset _ _ _ h _ := DK.dsum (by dk_auto) h.2
  fin id s t c _ h :=
    have hd : DSum ((if c then (t.qPush .pendingSend id).1 else t).transitionAfter id (s.stream id).isPendingResetExpiration) :=
      DK.dsum (by dk_auto) h.2
    ⟨hd, fun _ hf => .other hd (fun len e fr h => hf len e fr (Option.some.inj h))⟩
  ta _ _ h _ := (transitionAfter_dk _ _ _).dsum h.2

/-- **`Prioritize::pop_frame`: `buffered_send_data` keeps covering the queued DATA, and the remainder of the frame
    handed to the codec** -/
theorem popFrame_ds {E : Nat → Prop} {s : Streams} (h : PI E s) (hs : ConnFlowP.SafeInv s) (hd : DSum s) (fuel maxLen : Nat) :
    PopOK (Streams.popFrame fuel s maxLen) := by
  rw [ConnWakeP.popFrameC.eq]
  exact (((pi_popRule sdNP_sendData maxLen).and (ds_popRule sdNP_sendData maxLen)).run fuel s ⟨⟨h, hs⟩, hd⟩).2

end H2V.Lemmas.ConnNoPanicP
