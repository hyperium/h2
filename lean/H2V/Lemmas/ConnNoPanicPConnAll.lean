import H2V.Lemmas.ConnNoPanicPConnApi
import H2V.Lemmas.ConnNoPanicPConnInit
import H2V.Lemmas.ConnNoPanicPHist
/-
  C08 (no panic) — connection layer: summary for `ConnP` (nothing assumed of the local SETTINGS in flight: `A`
  is `fun _ => True`).  Every operation of the application on a connection (`ConnRecvP.COp`, handle calls excepted) is a
  history of `(streams, codec.w)` satisfying `ConnP` and keeps `ConnOK`; `ConnP` implies the preconditions `opPre` of
  ConnNoPanicPHist for every operation `opPre` covers.
-/
namespace H2V.Lemmas.ConnNoPanicP
open H2V H2V.Model H2V.Model.Conn
open H2V.Lemmas.ConnResetP (Op run)
open H2V.Lemmas.ConnCtlP (GoAwayInv Keep15 Step15 GaLe gaLast view)
open H2V.Lemmas.ConnRecvP (COp)

/-- the result of a call on a connection satisfying `ConnOK`: the invariant again, and a history -/
structure CStep (X : String → Prop) (c c' : Conn) : Prop where
  ok : ConnOK c'
  hist : HistWX ConnP X c.streams c.codec.w c'.streams c'.codec.w

theorem CStep.histS {X : String → Prop} {c c' : Conn} (h : CStep X c c') : HistX ConnP X c.streams c'.streams := h.hist.hist

theorem CStepA.plain {A : List (Nat × Nat) → Prop} {X : String → Prop} {c c' : Conn} (h : CStepA A X c c') : CStep X c c' :=
  ⟨h.ok.ok, h.hist.mono ConnPA.plain (fun _ hm => hm)⟩

theorem OKA.plain {c : Conn} (hc : ConnOK c) : OKA (fun _ => True) c := ⟨hc, fun _ _ => trivial⟩

theorem unsup_cs {X : String → Prop} {c : Conn} (hi : GoAwayInv c) (m : String) : CS X c (c.unsup m) :=
  (unsup_csa (A := fun _ => True) hi m).cs

/-- **every call of the application on a connection** (polls, window configuration, shutdown, the ping handle):
    `ConnOK` again, and `(streams, codec.w)` moved by a history whose calls satisfy `ConnP`; the only panics the
    connection layer records are the model's fuel markers -/
theorem cop_step {c : Conn} (hc : ConnOK c) (op : COp) (hop : ∀ o, op ≠ .handle o)
    (hv : ∀ size, op = .setTargetWindowSize size → size ≤ 2147483647) : CStep FuelMsg c (op.apply c) :=
  (cop_csa (OKA.plain hc) op hop (fun _ _ => trivial) hv).plain

/-- a handle call (or a transport event) seen from the connection invariant: it must keep `last_processed_id` and
    `max_stream_id` (ConnCtlP's frame lemmas `view_…` prove it for every handle call of the driver) -/
theorem ConnOK.handle {c : Conn} (hc : ConnOK c) (s : Streams) (codec : Codec) (cx : String)
    (hl : (view s).lpi = (view c.streams).lpi) (hr : (view s).rmax = (view c.streams).rmax)
    (he : (view c.streams).connErr.isSome = true → (view s).connErr.isSome = true) (hrd : codec.r = c.codec.r) :
    ConnOK { c with streams := s, codec := codec, cx := cx } :=
  hc.keep ⟨rfl, hl, hr, he⟩ rfl hrd (.of_eq rfl rfl)

/-- `ConnP` gives the preconditions of ConnNoPanicPHist (`opPre`) wherever `opPre` covers the operation; the four
    operations it does not cover yet are `recv_push_promise`, `set_target_connection_window`, `poll_complete`,
    `send_pending_refusal` -/
theorem connP_opPre {s : Streams} {op : Op} (h : ConnP s op) :
    opPre s op ∨ (∃ id hd, op = .recvPushPromise id hd) ∨ (∃ t, op = .setTargetConnectionWindow t) ∨ usesWriter op = true := by
  cases op
  case recvPushPromise id hd => exact Or.inr (Or.inl ⟨id, hd, rfl⟩)
  case setTargetConnectionWindow t => exact Or.inr (Or.inr (Or.inl ⟨t, rfl⟩))
  case pollComplete => exact Or.inr (Or.inr (Or.inr rfl))
  case pollSendPendingRefusal => exact Or.inr (Or.inr (Or.inr rfl))
  case recvEof b =>
    left
    have hb : b = false := h
    subst hb
    intro hh; cases hh
  all_goals first | exact Or.inl h | exact Or.inl trivial | exact h.elim

theorem Hist.plain {A : List (Nat × Nat) → Prop} {a b : Streams} (h : Hist (ConnPA A) a b) : Hist ConnP a b :=
  h.mono ConnPA.plain

/-- `recv_frame`, after `poll_ready` answered `Ready(Ok)`: a plain history, no panic of the connection layer -/
theorem recvFrame_hist {c : Conn} (hc : ConnOK c) (href : c.streams.recv.refused = none)
    (hpp : c.pingPong.pendingPong = none) (f : Option Frame.Frame) (hf : ∀ g, f = some g → WireOK g) :
    Hist ConnP c.streams (c.recvFrame f).1.streams :=
  (recvFrame_qs (A := fun _ => True) hc href hpp f hf).hist.hist.plain

theorem handlePoll2Result_hist {c : Conn} (hi : GoAwayInv c) (res : Except PErr Unit) :
    Hist ConnP c.streams (c.handlePoll2Result res).1.streams :=
  HistX.toHist (handlePoll2Result_csa (A := fun _ => True) hi res).cs.histS

theorem handleGoAway_hist {c : Conn} (hi : GoAwayInv c) (r : Reason) (d : Bytes) (i : Initiator) :
    Hist ConnP c.streams (c.handleGoAway r d i).streams :=
  HistX.toHist (handleGoAway_csa (A := fun _ => True) hi r d i).cs.histS

theorem recvSettings_hist {c : Conn} (hi : GoAwayInv c) (ack : Bool) (vals : List (Nat × Nat))
    (hrem : ack = false → c.settings.remote = none) (hv : ack = false → ConnFlowP.SettingsOk vals) :
    Hist ConnP c.streams (c.recvSettings ack vals).1.streams :=
  HistX.toHist (recvSettings_csa (A := fun _ => True) hi (fun _ _ => trivial) ack vals hrem hv).cs.histS

/-- `poll_ready` needs only that the remembered SETTINGS of the peer came through the decoder -/
theorem pollReady_hist (c : Conn) (hrem : ∀ v, c.settings.remote = some v → ConnFlowP.SettingsOk v) :
    Hist ConnP c.streams c.pollReady.1.streams := ((ready_qs (A := fun _ => True) c hrem).pollReady (.refl c)).hist.hist.plain
theorem settingsPollSend_hist (c : Conn) (hrem : ∀ v, c.settings.remote = some v → ConnFlowP.SettingsOk v) :
    Hist ConnP c.streams c.settingsPollSend.1.streams := ((ready_qs (A := fun _ => True) c hrem).settingsPollSend (.refl c)).hist.hist.plain

theorem poll2Loop_hist (fuel : Nat) {c : Conn} (hc : ConnOK c) : HistX ConnP FuelMsg c.streams (Conn.poll2Loop fuel c).1.streams :=
  (poll2Loop_csa fuel (OKA.plain hc)).cs.histS
theorem poll2_hist (fuel : Nat) {c : Conn} (hc : ConnOK c) : HistX ConnP FuelMsg c.streams (Conn.poll2 fuel c).1.streams :=
  (poll2_csa fuel (OKA.plain hc)).cs.histS
theorem protoPoll_hist (fuel : Nat) {c : Conn} (hc : ConnOK c) : HistX ConnP FuelMsg c.streams (Conn.protoPoll fuel c).1.streams :=
  (protoPoll_csa fuel (OKA.plain hc)).cs.histS
theorem clientPoll_hist (fuel : Nat) {c : Conn} (hc : ConnOK c) : HistX ConnP FuelMsg c.streams (Conn.clientPoll fuel c).1.streams :=
  (clientPoll_csa fuel (OKA.plain hc)).cs.histS

theorem init_histS (g : Conn.Cfg) (hg : CwsOK g) : Hist ConnP (clientStreams0 g) (Conn.init g).streams :=
  (init_hist (A := fun _ => True) g hg).hist.plain
theorem initServer_histS (g : Conn.Cfg) (ecp : Bool) (pf : Bytes) (hg : CwsOK g) :
    Hist ConnP (serverStreams0 g ecp) (Conn.initServer g ecp pf).streams := (initServer_hist (A := fun _ => True) g ecp pf hg).hist.plain

end H2V.Lemmas.ConnNoPanicP
