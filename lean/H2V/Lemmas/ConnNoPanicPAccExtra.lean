import H2V.Lemmas.ConnNoPanicPAccStep
import H2V.Lemmas.ConnPushRule
/-
  C08 (no panic) — the server accept path: `J` along the operations of the final set that are not
  in `opPre` and are no steps of `AT` by their footprint: a refused PUSH_PROMISE, `poll_response`, `send_push_promise`.
-/
namespace H2V.Lemmas.ConnNoPanicP
open H2V H2V.Model H2V.Model.Conn H2V.Lemmas.ConnCountsP
open H2V.Lemmas.ConnResetP (Op run)
attribute [local irreducible] wrapSubU32 wrapSubUsize

/-- a PUSH_PROMISE frame that is refused without touching the state (`recvPushPromise_nopush`, ConnNoPanicPPushInvStep) -/
theorem recvPushPromise_j {s : Streams} (hj : J s) (id : Nat) (h : HeadersIn) (he : (s.recvPushPromise id h).1 = s) :
    J (s.recvPushPromise id h).1 := by rw [he]; exact hj

theorem recvPollResponse_j {s : Streams} (hj : J s) (n : Nat) {k : Nat} (hr : (s.stream k).refCount > 0) (t : String) :
    J (Streams.recvPollResponse n s k t).1 :=
  hj.al1 (Streams.recvPollResponse_takes (by decide) n s k t).al (hj.not_mem_of_ref hr)

theorem reserveLocal_ok_acc {x y : State} {u : Unit} (h : x.reserveLocal = (y, .ok u)) :
    y.isRecvHeaders = false ∧ y.isRemoteReset = false := by
  rcases x with ⟨_ | _ | _ | ⟨_ | _, _ | _⟩ | ⟨_ | _⟩ | ⟨_ | _⟩ | _⟩ <;> simp [State.reserveLocal] at h
  subst h; exact ⟨rfl, rfl⟩

theorem J.remove {s : Streams} (hj : J s) (id k : Nat) (hf : (s.stream k).isPendingAccept = false) :
    J { s with store := (s.store.unlink id).remove k } :=
  hj.at ((AT.of_step (.unlink s id rfl)).trans
    (remove_at { s with store := s.store.unlink id } k s.recvBufferLeaked (by rw [Streams.stream_congr_slab rfl]; exact hf)))

/-- **`send_push_promise` keeps `J`**: the promised entry is new (no `is_pending_accept` link, not queued), its state
    `ReservedLocal` is past `is_recv_headers` -/
theorem refSendPushPromise_j {s : Streams} (hn : NPI (fun _ => False) s) (hj : J s) (parent : Nat) (valid : Bool)
    (fields : List Hpack.Field) : J (s.refSendPushPromise parent valid fields).1 :=
  PushRule.run (I := J)
    (L := fun _ k t => Live t k ∧ (t.stream k).isPendingAccept = false ∧ k ∉ t.recv.pendingAccept)
    (L' := fun _ k t => Live t k ∧ (t.stream k).isPendingAccept = false ∧ k ∉ t.recv.pendingAccept ∧
      (t.stream k).state.isRecvHeaders = false)
    { opn := hj.al0 (.of_step (Streams.sendReserveLocal_step (by decide) s))
      done _ hj := hj
      ins s1 pid sP hso hP := by
        have hal1 : AL [] s s1 := of_fst_eq hso (.of_step (Streams.sendReserveLocal_step (by decide) s))
        have halP : AL [] s1 sP := by
          rw [hP]; split
          · exact panic_al _ _
          · exact .refl _ _
        have h2 := ((hj.al0 hal1).al0 halP).insert (Stream.new pid sP.actions.send.initWindowSz sP.recv.initWindowSz) rfl rfl rfl
        have hget := insert_get?_new (halP.keys.keysOK (hal1.keys.keysOK hn.keys)).fresh
          (Stream.new pid sP.actions.send.initWindowSz sP.recv.initWindowSz)
        have hfl2 : (({ sP with store := (sP.store.insert (Stream.new pid sP.actions.send.initWindowSz sP.recv.initWindowSz)).1 } :
            Streams).stream sP.store.nextKey).isPendingAccept = false := by rw [stream_of_get? hget]; rfl
        refine ⟨h2, ⟨_, hget⟩, hfl2, fun hq => ?_⟩
        have := (flagged_iff.mp (h2.acc.fl _ hq)).2
        rw [show (Stream.isQueued _ .pendingAccept) = (Stream.isPendingAccept _) from rfl, hfl2] at this
        cases this
      reserve t _ k st' _ hj hl heq := by
        obtain ⟨hy1, _⟩ := reserveLocal_ok_acc heq
        have hst3 := stream_modStream_live hl.1 (fun x => ({ x with state := st', isPendingPush := true } : Stream)) (fun _ => rfl)
        refine ⟨hj.modStream hl.1 _ (fun _ => rfl) rfl (fun _ h => ?_) (fun hq => absurd hq hl.2.2) (fun hq => absurd hq hl.2.2),
          (SameKeys.modStream _ _ _).live.mpr hl.1, by rw [hst3]; exact hl.2.1, ?_, by rw [hst3]; exact hy1⟩
        · rw [show (({ t.stream k with state := st', isPendingPush := true } : Stream)).state = st' from rfl, hy1] at h
          cases h
        · show k ∉ Streams.getQ _ .pendingAccept
          rw [getQ_modStream]; exact hl.2.2
      undo t pid k s5 _ hj hl heq := by
        have hal4 := of_fst_eq heq (AL.of_step (ks := []) (Streams.sendPushPromise_step (by decide) t parent k pid fields))
        exact (hj.al0 hal4).remove _ _ (by rw [(hal4.str _).acc]; exact hl.2.1)
      fin t pid k s5 _ hj hl heq := by
        have hal4 := of_fst_eq heq (AL.of_step (ks := []) (Streams.sendPushPromise_step (by decide) t parent k pid fields))
        have h5 : J { s5 with refs := s5.refs + 1 } := (hj.al0 hal4).al0 (setMisc_al (ks := []) s5 s5.actions (s5.refs + 1) _ _ _ rfl)
        exact refInc_j h5 (hal4.live.mpr hl.1) (by show k ∉ s5.recv.pendingAccept; rw [hal4.queue]; exact hl.2.2.1)
          (fun _ => (hal4.str _).rh hl.2.2.2) } valid

end H2V.Lemmas.ConnNoPanicP
