import H2V.Lemmas.ConnHttpPLoad
/-
  C13 (ConnHttpP) — `track` (what a clean run of `HeaderBlock::load`'s callback has checked
  and stored) against the reference predicates of `H2V.Spec.Http`: pure list reasoning.
-/
namespace H2V.Lemmas.ConnHttpP
open H2V H2V.Model H2V.Model.Frame H2V.Model.Hpack

/-- what the HPACK layer guarantees about every decoded field (`Header::new` / `Name::into_entry`):
    a well-formed lower-case name, no pseudo-header name other than the six known ones, and a
    three-digit `:status` -/
def fieldOk (f : Header) : Bool :=
  Spec.Http.nameOk f.1 && (!Spec.Http.isPseudo f || Spec.Http.knownPseudo.contains f.1) &&
  (f.1 != pStatus || Spec.Http.statusOk f.2)

def known : List Bytes := [pMethod, pScheme, pAuthority, pPath, pStatus, pProtocol]

/-- the values of the fields named `n`, in wire order (`Spec.Http.get` on a byte-string name) -/
def vals (fs : List Header) (n : Bytes) : List Bytes := (fs.filter (·.1 == n)).map (·.2)

theorem get_eq_vals (fs : List Header) (s : String) : Spec.Http.get fs s = vals fs (Spec.Http.ascii s) := rfl

theorem known_head (n : Bytes) (h : n ∈ known) : n.head? = some 58 := by
  simp only [known, List.mem_cons, List.not_mem_nil, or_false] at h
  rcases h with rfl | rfl | rfl | rfl | rfl | rfl <;> rfl

theorem getPseudo_empty (n : Bytes) : getPseudo {} n = none := by
  unfold getPseudo; repeat' split
  all_goals rfl

theorem getPseudo_setPseudo (p : Pseudo) (a b v : Bytes) (ha : a ∈ known) (hb : b ∈ known) :
    getPseudo (setPseudo p a v) b = if b = a then some v else getPseudo p b := by
  simp only [known, List.mem_cons, List.not_mem_nil, or_false] at ha hb
  rcases ha with rfl | rfl | rfl | rfl | rfl | rfl <;> rcases hb with rfl | rfl | rfl | rfl | rfl | rfl <;>
    simp [getPseudo, setPseudo, pMethod, pScheme, pAuthority, pPath, pStatus, pProtocol]


theorem fieldOk_iff (f : Header) : fieldOk f = true ↔
    Spec.Http.nameOk f.1 = true ∧ (Spec.Http.isPseudo f = true → Spec.Http.knownPseudo.contains f.1 = true) ∧
    (f.1 = pStatus → Spec.Http.statusOk f.2 = true) := by
  unfold fieldOk
  cases Spec.Http.nameOk f.1 <;> cases Spec.Http.isPseudo f <;> cases Spec.Http.knownPseudo.contains f.1 <;>
    cases Spec.Http.statusOk f.2 <;> by_cases e : f.1 = pStatus <;> simp [e]

theorem fieldOk_pseudo (f : Header) (hf : fieldOk f = true) (hp : f.1.head? = some 58) : f.1 ∈ known := by
  have := ((fieldOk_iff f).mp hf).2.1 (by simp [Spec.Http.isPseudo, hp])
  rw [knownPseudo_eq] at this
  simpa [known] using this

theorem trackStep_some (st st1 : TSt) (h : Header) (hs : trackStep st h = some st1) :
    (h.1.head? = some 58 ∧ st.1 = false ∧ getPseudo st.2.1 h.1 = none ∧
      st1 = (false, setPseudo st.2.1 h.1 h.2, st.2.2)) ∨
    (h.1.head? ≠ some 58 ∧ connHeaders.contains h.1 = false ∧ (h.1 = Http.str "te" → h.2 = Http.str "trailers") ∧
      st1 = (true, st.2.1, appendField st.2.2 h.1 h.2)) := by
  unfold trackStep at hs
  by_cases hp : h.1.head? = some 58
  · rw [if_pos hp] at hs
    split at hs
    · rename_i hc
      exact Or.inl ⟨hp, hc.1, hc.2, (Option.some.inj hs).symm⟩
    · cases hs
  · rw [if_neg hp] at hs
    split at hs
    · cases hs
    · rename_i hc
      have hc := not_or.mp hc
      refine Or.inr ⟨hp, by simpa using hc.1, fun e => ?_, (Option.some.inj hs).symm⟩
      exact Decidable.byContradiction fun hne => hc.2 ⟨e, hne⟩

theorem vals_cons (h : Header) (fs : List Header) (n : Bytes) :
    vals (h :: fs) n = if h.1 = n then h.2 :: vals fs n else vals fs n := by
  unfold vals
  by_cases e : h.1 = n
  · simp [e]
  · simp [e]

/-- `HeaderMap` built by appending the fields of `l` one by one -/
def groupInto (acc : List (Bytes × List Bytes)) (l : List Header) : List (Bytes × List Bytes) :=
  l.foldl (fun a h => appendField a h.1 h.2) acc

def regular (fs : List Header) : List Header := fs.filter fun f => !(f.1.head? == some 58)

theorem appendField_ne_nil (f : List (Bytes × List Bytes)) (n v : Bytes) : appendField f n v ≠ [] := by
  cases f with
  | nil => simp [appendField]
  | cons a t => unfold appendField; split <;> simp

/-- what a run of the callback that raises no flag has checked and stored -/
structure Tracked (fs : List Header) (st st' : TSt) : Prop where
  order : Spec.Http.pseudoAfterRegular fs st.1 = false
  conn : ∀ f ∈ fs, Spec.Http.connectionSpecific.contains f.1 = false ∧
    (f.1 = Spec.Http.ascii "te" → f.2 = Spec.Http.ascii "trailers")
  fields : st'.2.2 = groupInto st.2.2 (regular fs)
  reg : st.1 = !st.2.2.isEmpty → st'.1 = !st'.2.2.isEmpty
  pseudo : (∀ f ∈ fs, fieldOk f = true) → ∀ n ∈ known,
    (vals fs n = [] ∧ getPseudo st'.2.1 n = getPseudo st.2.1 n) ∨
    (getPseudo st.2.1 n = none ∧ ∃ v, vals fs n = [v] ∧ getPseudo st'.2.1 n = some v)

theorem tracked : ∀ (fs : List Header) (st st' : TSt), track fs st = some st' → Tracked fs st st'
  | [], st, st', ht => by
    simp only [track, Option.some.injEq] at ht
    subst ht
    exact ⟨rfl, fun _ hf => (nomatch hf), rfl, id, fun _ _ _ => .inl ⟨rfl, rfl⟩⟩
  | h :: rest, st, st', ht => by
    unfold track at ht
    split at ht
    · cases ht
    · rename_i st1 hs
      have ih := tracked rest st1 st' ht
      have hs' := trackStep_some st st1 h hs
      refine ⟨?_, fun f hf => ?_, ?_, fun hreg => ih.reg ?_, fun hok n hn => ?_⟩
      · have io := ih.order
        unfold Spec.Http.pseudoAfterRegular Spec.Http.isPseudo
        rcases hs' with ⟨hp, hr, -, rfl⟩ | ⟨hp, -, -, rfl⟩
        · simp only [hp, beq_self_eq_true, if_true, hr, Bool.false_or]
          rw [hr] at *
          exact io
        · have : (h.1.head? == some 58) = false := by simpa using hp
          simp only [this, Bool.false_eq_true, if_false]
          exact io
      · rcases List.mem_cons.mp hf with rfl | hf'
        · rcases hs' with ⟨hp, -, -, -⟩ | ⟨-, hc, hte, -⟩
          · constructor
            · rw [← connHeaders_contains]
              cases hc : connHeaders.contains f.1 with
              | false => rfl
              | true => exact absurd hp (connHeaders_regular _ (List.contains_iff_mem.mp hc))
            · intro e; rw [e] at hp; cases hp
          · rw [← connHeaders_contains]
            rw [str_te, str_trailers] at hte
            rw [ascii_te, ascii_trailers]
            exact ⟨hc, hte⟩
        · exact ih.conn f hf'
      · rw [ih.fields]
        rcases hs' with ⟨hp, -, -, rfl⟩ | ⟨hp, -, -, rfl⟩
        · unfold regular; simp [hp]
        · unfold regular groupInto; simp [hp]
      · rcases hs' with ⟨-, hr, -, rfl⟩ | ⟨-, -, -, rfl⟩
        · simp only; rw [← hreg, hr]
        · simp only
          cases hh : appendField st.2.2 h.1 h.2 with
          | nil => exact absurd hh (appendField_ne_nil _ _ _)
          | cons a t => rfl
      · have ip := ih.pseudo (fun f hf => hok f (List.mem_cons_of_mem _ hf)) n hn
        rw [vals_cons]
        rcases hs' with ⟨hp, -, hg, rfl⟩ | ⟨hp, -, -, rfl⟩
        · have hk := fieldOk_pseudo h (hok h (List.mem_cons_self ..)) hp
          simp only [getPseudo_setPseudo _ _ _ _ hk hn] at ip
          by_cases e : h.1 = n
          · subst e
            simp only [if_true] at ip ⊢
            rcases ip with ⟨i1, i2⟩ | ⟨i1, -⟩
            · exact Or.inr ⟨hg, h.2, by rw [i1], i2⟩
            · cases i1
          · rw [if_neg e]
            rw [if_neg (fun x => e x.symm)] at ip
            exact ip
        · have e : h.1 ≠ n := fun x => hp (x ▸ known_head n hn)
          rw [if_neg e]
          exact ip

theorem any_false_of {α} (l : List α) (p : α → Bool) (h : ∀ x ∈ l, p x = false) : l.any p = false := by
  induction l with
  | nil => rfl
  | cons a t ih =>
    simp only [List.any_cons, h a (List.mem_cons_self ..), Bool.false_or]
    exact ih fun x hx => h x (List.mem_cons_of_mem _ hx)

/-- **the rules common to every header section**: a block whose fields passed the HPACK layer and
    went through the callback without raising a flag violates none of them -/
theorem track_common (fs : List Header) (st' : TSt) (ht : track fs (false, {}, []) = some st')
    (hok : ∀ f ∈ fs, fieldOk f = true) : Spec.Http.common fs = [] := by
  have hreg := (tracked fs _ _ ht).conn
  have hord := (tracked fs _ _ ht).order
  have hps := (tracked fs _ _ ht).pseudo hok
  have c1 : fs.any (fun f => !Spec.Http.nameOk f.1) = false := any_false_of _ _ fun f hf => by
    simp [((fieldOk_iff f).mp (hok f hf)).1]
  have c2 : fs.any (fun f => Spec.Http.connectionSpecific.contains f.1) = false :=
    any_false_of _ _ fun f hf => (hreg f hf).1
  have c3 : (Spec.Http.get fs "te").any (· != Spec.Http.ascii "trailers") = false := by
    rw [get_eq_vals]
    unfold vals
    refine any_false_of _ _ fun v hv => ?_
    obtain ⟨f, hf, rfl⟩ := List.mem_map.mp hv
    have hf' := List.mem_filter.mp hf
    have := (hreg f hf'.1).2 (by simpa using hf'.2)
    simp [this]
  have c4 : fs.any (fun f => Spec.Http.isPseudo f && !Spec.Http.knownPseudo.contains f.1) = false :=
    any_false_of _ _ fun f hf => by
      have := ((fieldOk_iff f).mp (hok f hf)).2.1
      cases h : Spec.Http.isPseudo f
      · rfl
      · rw [this h]; rfl
  have c5 : Spec.Http.dupPseudo fs = false := by
    unfold Spec.Http.dupPseudo
    rw [knownPseudo_eq]
    refine any_false_of _ _ fun n hn => ?_
    have hl : (fs.filter (·.1 == n)).length = (vals fs n).length := by simp [vals]
    rw [hl]
    rcases hps n hn with ⟨e, -⟩ | ⟨-, v, e, -⟩ <;> simp [e]
  unfold Spec.Http.common
  simp only [c1, c2, c3, c4, c5, hord, Bool.false_eq_true, if_false, List.append_nil]

/-- … and its pseudo-header part holds, for each of the six names, exactly the field list's values -/
theorem track_vals (fs : List Header) (st' : TSt) (ht : track fs (false, {}, []) = some st')
    (hok : ∀ f ∈ fs, fieldOk f = true) (n : Bytes) (hn : n ∈ known) :
    vals fs n = (getPseudo st'.2.1 n).toList := by
  rcases (tracked fs _ _ ht).pseudo hok n hn with ⟨e, g⟩ | ⟨-, v, e, g⟩
  · rw [e, g, getPseudo_empty]; rfl
  · rw [e, g]; rfl

end H2V.Lemmas.ConnHttpP
