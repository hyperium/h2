import H2V.Lemmas.ConnFlowPCold
/-
  ConnFlowP — after a reset the stream is cold: `Send::send_reset`, `Send::handle_error`
  (the send half of `recv_reset`, of a connection error, of EOF), and the API entry points
  `StreamRef::send_reset` and `Inner::recv_reset`.
-/
namespace H2V.Lemmas.ConnFlowP
open H2V H2V.Model H2V.Model.Conn H2V.Lemmas.Comp

def NoStr (x : Stream) : Prop := x.state.isSendStreaming = false

theorem coreP_noStr : CoreP NoStr := by
  intro x y h hx; unfold NoStr at *; rw [← h.2.1]; exact hx

theorem setReset_state (x : Stream) (r : Reason) (i : Initiator) :
    (x.setReset r i).1.state = x.state.setReset x.id r i ∧ (x.setReset r i).1.key = x.key := by
  unfold Stream.setReset
  simp only
  have h1 := notifySend_core { x with state := x.state.setReset x.id r i }
  have h2 := notifyPush_core ({ x with state := x.state.setReset x.id r i } : Stream).notifySend.1
  have h3 := notifyRecv_core (({ x with state := x.state.setReset x.id r i } : Stream).notifySend.1).notifyPush.1
  exact ⟨h3.2.2.1.symm.trans (h2.2.2.1.symm.trans h1.2.2.1.symm), h3.1.trans (h2.1.trans h1.1)⟩

theorem setReset_noStr (x : Stream) (r : Reason) (i : Initiator) : NoStr (x.setReset r i).1 := by
  unfold NoStr; rw [(setReset_state x r i).1]; rfl

theorem clearQueue_quiet {id : Nat} {t : Streams} (h : KeyP id NoStr t) : KeyP id QuietSt (t.clearQueue id) := by
  have hP := coreP_quiet
  unfold Streams.clearQueue
  dsimp only
  have h1 : KeyP id QuietSt (t.modStream id fun st =>
      { st with pendingSend := [], bufferedSendData := 0, requestedSendCapacity := 0 }) :=
    KeyP.modStream' (fun x => ⟨rfl, fun hx => ⟨hx, rfl⟩⟩) (fun h => absurd rfl h) h
  keyp_auto

/-- **`Send::send_reset` leaves the stream cold** (unless it was reset already, or closed and flushed —
    then `send_reset` does nothing) -/
theorem sendSendReset_cold {s : Streams} (h : SafeInv s) (id : Nat) (r : Reason) (i : Initiator)
    (hnr : (s.stream id).state.isReset = false)
    (hne : ((s.stream id).state.isClosed &&
      ((s.stream id).pendingSend.isEmpty && (s.stream id).bufferedSendData == 0)) = false) :
    KeyP id ColdSt (s.sendSendReset id r i) := by
  unfold Streams.sendSendReset
  dsimp only
  rw [hnr]
  simp only [Bool.false_eq_true, if_false, hne]
  apply reclaimAll_cold
  · safe_auto
  · have hq := coreP_quiet
    have h1 : KeyP id NoStr (s.modStreamW id fun st => st.setReset r i) :=
      KeyP.modStreamW' (P := fun _ => True) (fun x => ⟨(setReset_state x r i).2, fun _ => setReset_noStr x r i⟩)
        (fun h => absurd rfl h) (fun _ _ _ => trivial)
    have hN := coreP_noStr
    unfold Streams.queueFrame
    generalize hS : (if ((s.modStreamW id fun st => st.setReset r i).stream id).isPendingOpen = true then _ else _ : Streams) = S2
    have hS2 : KeyP id QuietSt S2 := by
      subst hS
      split
      · have h2 : KeyP id NoStr ((s.modStreamW id fun st => st.setReset r i).modStream id fun st =>
            { st with pendingSend := st.pendingSend.drop 1 }) :=
          KeyP.modStreamC hN (fun _ => ⟨rfl, rfl, rfl, rfl, rfl⟩) h1
        have h3 := clearQueue_quiet h2
        split
        · exact KeyP.modStreamC hq (fun _ => ⟨rfl, rfl, rfl, rfl, rfl⟩) h3
        · exact h3
      · exact clearQueue_quiet h1
    clear hS hN h1
    have hP := hq
    keyp_auto

theorem setReset_core (x : Stream) (r : Reason) (i : Initiator) :
    (x.setReset r i).1.key = x.key ∧ (x.setReset r i).1.sendFlow = x.sendFlow ∧
    (x.setReset r i).1.bufferedSendData = x.bufferedSendData := by
  unfold Stream.setReset
  simp only
  have h1 := notifySend_core { x with state := x.state.setReset x.id r i }
  have h2 := notifyPush_core ({ x with state := x.state.setReset x.id r i } : Stream).notifySend.1
  have h3 := notifyRecv_core (({ x with state := x.state.setReset x.id r i } : Stream).notifySend.1).notifyPush.1
  exact ⟨h3.1.trans (h2.1.trans h1.1), h3.2.1.symm.trans (h2.2.1.symm.trans h1.2.1.symm),
    h3.2.2.2.1.symm.trans (h2.2.2.2.1.symm.trans h1.2.2.2.1.symm)⟩

theorem setReset_cold (x : Stream) (r : Reason) (i : Initiator) (h : ColdSt x) : ColdSt (x.setReset r i).1 := by
  have hc := setReset_core x r i
  exact ⟨by rw [hc.2.1]; exact h.1, setReset_noStr x r i, by rw [hc.2.2]; exact h.2.2⟩

/-- **`Send::handle_error` leaves a stream that is no longer send-streaming cold** (it is called
    after `Recv::recv_reset` / `Recv::handle_error` / `Recv::recv_eof` closed the state) -/
theorem sendHandleError_cold {s : Streams} (h : SafeInv s) {id : Nat} (hq : KeyP id NoStr s) :
    KeyP id ColdSt (s.sendHandleError id) := by
  unfold Streams.sendHandleError
  dsimp only
  have hc : KeyP id ColdSt ((s.clearQueue id).reclaimAllCapacity id) :=
    reclaimAll_cold (h.sfr (.of_step (Streams.clearQueue_step (by decide) s id))) (clearQueue_quiet hq)
  split
  · split
    · exact KeyP.modStreamW' (fun x => ⟨(setReset_core x _ _).1, setReset_cold x _ _⟩) (fun _ _ h => h) hc
    · exact hc
  · exact hc

theorem recvReset_state_noStr (st : State) (sid : Nat) (r : Reason) (q : Bool) :
    (st.recvReset sid r q).isSendStreaming = false := by
  unfold State.recvReset
  cases hst : st.inner <;> dsimp only <;> (try split) <;> first | rfl | (unfold State.isSendStreaming; rw [hst])

theorem handleError_state_noStr (st : State) (e : PErr) : (st.handleError e).isSendStreaming = false := by
  unfold State.handleError
  cases hst : st.inner <;> dsimp only <;> first | rfl | (unfold State.isSendStreaming; rw [hst])

theorem recvEof_state_noStr (st : State) : st.recvEof.isSendStreaming = false := by
  unfold State.recvEof
  cases hst : st.inner <;> dsimp only <;> first | rfl | (unfold State.isSendStreaming; rw [hst])

theorem KeyP.enqueueResetExpiration {id : Nat} {P : Stream → Prop} {t : Streams} (hP : CoreP P) (h : KeyP id P t)
    (k : Nat) : KeyP id P (t.enqueueResetExpiration k) := by
  keyp_by Streams.enqueueResetExpiration

/-- **`StreamRef::send_reset` (the user resets a stream): afterwards the stream holds no send capacity**
    and cannot get any (unless it was reset already, or closed and flushed: then nothing happens) -/
theorem refSendReset_cold {s : Streams} (h : SafeInv s) (id : Nat) (r : Reason)
    (hnr : (s.stream id).state.isReset = false)
    (hne : ((s.stream id).state.isClosed &&
      ((s.stream id).pendingSend.isEmpty && (s.stream id).bufferedSendData == 0)) = false) :
    KeyP id ColdSt (s.refSendReset id r) := by
  have hP := coreP_cold
  have hc := sendSendReset_cold h id r .user hnr hne
  unfold Streams.refSendReset Streams.actionsSendReset Streams.transition
  dsimp only
  have hlib : Initiator.isLibrary .user = false := rfl
  simp only [hlib, Bool.false_eq_true, if_false]
  have h2 := KeyP.transitionAfter hP
    (KeyP.modStreamWC hP notifyRecv_core (KeyP.enqueueResetExpiration hP hc id) (k := id)) id
    (s.stream id).isPendingResetExpiration
  exact h2

/-- **`Inner::recv_reset` (the peer resets a stream): afterwards the stream holds no send capacity** -/
theorem recvReset_cold {s : Streams} (h : SafeInv s) {id k : Nat} (reason : Reason)
    (hid : id ≠ 0) (hmax : ¬ id > s.recv.maxStreamId) (hfind : s.store.findKey? id = some k)
    (hpo : (s.stream k).isPendingOpen = false) (hok : (s.recvRecvReset k reason).2 = .ok ()) :
    KeyP k ColdSt (s.recvReset id reason).1 := by
  have hP := coreP_cold
  have hN := coreP_noStr
  unfold Streams.recvReset Streams.transition
  simp only [hid, if_false, hmax, hfind, hpo, Bool.false_eq_true]
  have hs1 : SafeInv (s.recvRecvReset k reason).1 := h.sfr (.of_step (Streams.recvRecvReset_step (by decide) s k reason))
  have hn1 : KeyP k NoStr (s.recvRecvReset k reason).1 := by
    unfold Streams.recvRecvReset at hok ⊢
    dsimp only at hok ⊢
    generalize (if (s.stream k).isPendingAccept = true then
      if s.counts.canIncNumRemoteResetStreams = true then
        (s.modCountsA "can_inc_num_remote_reset_streams" Counts.incNumRemoteResetStreams, (none : Option PErr))
      else (s, some (PErr.libraryGoAwayData ENHANCE_YOUR_CALM "too_many_resets"))
      else (s, none)) = pre at hok ⊢
    obtain ⟨s0, o⟩ := pre
    cases o with
    | some e => simp at hok
    | none =>
      dsimp only
      have e : KeyP k NoStr (s0.modStream k
          fun st => { st with state := st.state.recvReset st.id reason st.isPendingSend }) :=
        KeyP.modStream' (P := fun _ => True) (fun x => ⟨rfl, fun _ => recvReset_state_noStr _ _ _ _⟩) (fun h => absurd rfl h)
          (fun _ _ _ => trivial)
      have hP := hN
      keyp_auto
  generalize hr : s.recvRecvReset k reason = res at hok hs1 hn1 ⊢
  obtain ⟨s1, r1⟩ := res
  simp only at hok hs1 hn1
  subst hok
  dsimp only
  have hc := sendHandleError_cold hs1 hn1
  keyp_auto

/-- `reclaim_reserved_capacity` (handles dropped: what exceeds the buffered data) = give back
    `available − buffered`, then `assign_connection_capacity`'s loop -/
theorem reclaimReserved_exact {s : Streams} (h : SafeInv s) {id : Nat} {st : Stream} (hget : s.store.get? id = some st)
    (hgt : st.sendFlow.available.asSize > st.bufferedSendData) :
    s.reclaimReservedCapacity id =
      Streams.assignConnectionCapacityLoop
        ((giveBack s id (st.sendFlow.available.asSize - st.bufferedSendData)).prio.pendingCapacity.length + 2)
        (giveBack s id (st.sendFlow.available.asSize - st.bufferedSendData)) := by
  have hm := get?_mem hget
  have hok := h.st st hm.1
  have hlt := hok.windowSz_lt
  have hle := hok.asSize_le
  have hres : wrapSubU32 st.sendFlow.available.asSize (usizeAsU32 st.bufferedSendData) =
      st.sendFlow.available.asSize - st.bufferedSendData := by
    rw [usizeAsU32_small (by omega), wrapSubU32_of_le (by omega) (by omega)]
  have hcl := flOk_claim hok (n := st.sendFlow.available.asSize - st.bufferedSendData) (by omega)
  have hr : (st.sendFlow.claimCapacity (st.sendFlow.available.asSize - st.bufferedSendData)).2 = .ok () := by
    rw [Flow.claimCapacity_eq]
    have hin : inI32 (st.sendFlow.available.val -
        u32AsI32 (st.sendFlow.available.asSize - st.bufferedSendData)) = true := by
      rw [u32AsI32_small (by omega)]
      have := hok.av0
      rw [asSize_eq] at *
      exact (inI32_iff _).2 (by omega32)
    rw [if_pos hin]
  unfold Streams.reclaimReservedCapacity Streams.assignConnectionCapacity giveBack
  rw [Streams.stream_of_get? hget]
  simp only [hgt, if_true, hres, hr]
  unfold Streams.modStream
  rw [hget]

/-- a lowered `reserve_capacity` (new request + buffered below what is assigned) = record the request,
    give back `available − (request + buffered)`, then the loop -/
theorem reserveLower_exact {s : Streams} (h : SafeInv s) {id c : Nat} {st : Stream} (hget : s.store.get? id = some st)
    (hlt : c + st.bufferedSendData < st.requestedSendCapacity)
    (hgt : st.sendFlow.available.asSize > c + st.bufferedSendData) :
    s.reserveCapacity id c =
      Streams.assignConnectionCapacityLoop
        ((giveBack (s.modStream id fun x => { x with requestedSendCapacity := usizeAsU32 (c + st.bufferedSendData) }) id
          (st.sendFlow.available.asSize - (c + st.bufferedSendData))).prio.pendingCapacity.length + 2)
        (giveBack (s.modStream id fun x => { x with requestedSendCapacity := usizeAsU32 (c + st.bufferedSendData) }) id
          (st.sendFlow.available.asSize - (c + st.bufferedSendData))) := by
  have hm := get?_mem hget
  have hok := h.st st hm.1
  have hl := hok.windowSz_lt
  have hle := hok.asSize_le
  have hres : wrapSubU32 st.sendFlow.available.asSize (usizeAsU32 (c + st.bufferedSendData)) =
      st.sendFlow.available.asSize - (c + st.bufferedSendData) := by
    rw [usizeAsU32_small (by omega), wrapSubU32_of_le (by omega) (by omega)]
  unfold Streams.reserveCapacity Streams.assignConnectionCapacity giveBack
  rw [Streams.stream_of_get? hget]
  have hne : ¬ c + st.bufferedSendData = st.requestedSendCapacity := by omega
  simp only [hne, if_false, hlt, if_true, hgt, hres]

end H2V.Lemmas.ConnFlowP
