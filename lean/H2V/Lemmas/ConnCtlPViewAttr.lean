import Lean.Meta.Tactic.Simp.RegisterCommand
/-
  ConnCtlP — the simp set `view_simp`: the frame lemmas `view (f s …) = view s` of the stream layer
  (ConnCtlPView …), with the few lemmas that move `view` and `Prod.fst` through `if`.  On the unfolded
  body of a model function it rewrites every call to the state it was made on, without looking at the
  conditions in between.
-/
register_simp_attr view_simp
