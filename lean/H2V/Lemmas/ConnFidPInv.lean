import H2V.Lemmas.ConnFidPLocal
/-
  ConnFidP — the send-side fidelity invariant and its preservation by every elementary step that is
  not on the write path.

  Ghost state `g` (per slab entry `k`):
      g.acc k   the message frames (HEADERS, DATA, PUSH_PROMISE) queued on `k` so far, in order  — "accepted"
      g.emi k   the frames / DATA pieces taken off the queue of `k` for the codec so far, in order — "emitted"
      g.cut k   the queue of `k` was cut (reset, error) or the entry removed
      g.weird   a reset of a stream still waiting to be opened found a DATA chunk of that stream in the codec
                (excluded by the queue ↔ flag consistency of the real code; not proved here, see NOTES)
  `h` = the DATA frame the codec holds (`Next::Data` / `last_data_frame`), whose unsent remainder `h.rest`
  comes back through `reclaim_frame`.

      out s h k = (remainder of the in-flight chunk of k, if the marker says so) ++ pending_send of k

  INVARIANT (`Inv.ref`):   g.emi k ++ msg (out s h k) ++ D   refines (by splitting)   g.acc k,
  with `D = []` as long as `k` was not cut: what was accepted is what was emitted, followed by what is still
  in flight / queued, followed (only after a reset) by a discarded SUFFIX — no hole, no reordering, no
  duplicate, END_STREAM on the last piece only.
-/
namespace H2V.Lemmas.ConnFidP
open H2V H2V.Model H2V.Model.Conn H2V.Lemmas.ConnWakeP

structure Ghost where
  acc : Nat → List SFrame := fun _ => []
  emi : Nat → List SFrame := fun _ => []
  cut : Nat → Bool := fun _ => false
  weird : Bool := false

def upd {α : Type} (f : Nat → α) (k : Nat) (x : α) : Nat → α := fun j => if j = k then x else f j
@[simp] theorem upd_same {α : Type} (f : Nat → α) (k : Nat) (x : α) : upd f k x k = x := by simp [upd]
theorem upd_other {α : Type} (f : Nat → α) {k j : Nat} (x : α) (h : j ≠ k) : upd f k x j = f j := by simp [upd, h]

/-- the remainder of the DATA chunk of entry `k` that the codec still holds -/
def inflight (s : Streams) (h : Option DataFrame) (k : Nat) : List SFrame :=
  match marker s, h with
  | .dataFrame _, some fr => if fr.key = k ∧ fr.rest > 0 then [.data fr.rest fr.eos] else []
  | _, _ => []

/-- everything of entry `k` that has been accepted and has not left yet -/
def out (s : Streams) (h : Option DataFrame) (k : Nat) : List SFrame := inflight s h k ++ sq s k

/-- `in_flight_data_frame` and the codec agree -/
structure Coupled (s : Streams) (h : Option DataFrame) : Prop where
  nothing : marker s = .nothing ↔ h = none
  data : ∀ j, marker s = .dataFrame j → ∃ fr, h = some fr ∧ fr.key = j

def KeysBelow (s : Streams) : Prop := ∀ k a, s.store.get? k = some a → k < s.store.nextKey

/-- ghost update of a labelled step taken in state `s` -/
def gstep (s : Streams) (l : Lbl) (g : Ghost) : Ghost :=
  match l with
  | .push k f => if isMsg f then { g with acc := upd g.acc k (g.acc k ++ [f]) } else g
  | .cut k n =>
    if (s.store.get? k).isSome then
      { g with cut := upd g.cut k true, weird := g.weird || (decide (n > 0) && decide (marker s = .dataFrame k)) }
    else g
  | .gone k => if (s.store.get? k).isSome then { g with cut := upd g.cut k true } else g
  | .pop k f => if isMsg f then { g with emi := upd g.emi k (g.emi k ++ [f]) } else g
  | _ => g

structure Inv (s : Streams) (h : Option DataFrame) (g : Ghost) : Prop where
  kb : KeysBelow s
  cp : Coupled s h
  inflLt : ∀ k, inflight s h k ≠ [] → k < s.store.nextKey
  ghostKey : ∀ k, s.store.nextKey ≤ k → g.acc k = [] ∧ g.emi k = [] ∧ g.cut k = false
  ref : ∀ k, ∃ D, Refine (g.emi k ++ msg (out s h k) ++ D) (g.acc k) ∧ (g.cut k = false → D = [])
  closed : ∀ k, g.cut k = true → ClosedAt s k
  infl : ∀ k, inflight s h k ≠ [] → (s.store.get? k).isSome = true ∨ g.cut k = true
  /-- an entry from which something was emitted exists, or was removed (and then counts as cut) -/
  live : ∀ k, g.emi k ≠ [] → (s.store.get? k).isSome = true ∨ g.cut k = true

theorem El.keysBelow {l : Option Lbl} {s s' : Streams} (e : El l s s') (h : KeysBelow s) : KeysBelow s' := by
  intro k b hb
  cases ha : s.store.get? k with
  | some a => exact Nat.lt_of_lt_of_le (h k a ha) e.nk
  | none => exact (e.new k b ha hb).2.1

theorem El.back {l : Option Lbl} {s s' : Streams} (e : El l s s') {k : Nat} {b : Stream} (hb : s'.store.get? k = some b) :
    (∃ a, s.store.get? k = some a ∧ ES l a b) ∨ (s.store.get? k = none ∧ s.store.nextKey ≤ k) := by
  cases ha : s.store.get? k with
  | some a =>
    rcases e.keep k a ha with ⟨b', hb', es⟩ | ⟨hn, _⟩
    · rw [hb] at hb'; cases hb'; exact Or.inl ⟨a, rfl, es⟩
    · rw [hb] at hn; cases hn
  | none => exact Or.inr ⟨rfl, (e.new k b ha hb).1⟩

theorem inflight_of_marker_ne {s : Streams} {h : Option DataFrame} {k : Nat} (hm : ∀ j, marker s ≠ .dataFrame j) :
    inflight s h k = [] := by
  unfold inflight
  cases hmk : marker s with
  | dataFrame j => exact absurd hmk (hm j)
  | nothing => rfl
  | drop => rfl

theorem inflight_none (s : Streams) (k : Nat) : inflight s none k = [] := by
  unfold inflight; cases marker s <;> rfl

theorem inflight_ne_nil {s : Streams} {h : Option DataFrame} {k : Nat} (hi : inflight s h k ≠ []) :
    ∃ j fr, marker s = .dataFrame j ∧ h = some fr ∧ fr.key = k ∧ fr.rest > 0 ∧ inflight s h k = [.data fr.rest fr.eos] := by
  unfold inflight at hi ⊢
  cases hmk : marker s with
  | dataFrame j =>
    cases h with
    | none => rw [hmk] at hi; exact absurd rfl hi
    | some fr =>
      rw [hmk] at hi
      simp only at hi ⊢
      split at hi
      · next hc => exact ⟨j, fr, rfl, rfl, hc.1, hc.2, by simp [hc]⟩
      · exact absurd rfl hi
  | nothing => rw [hmk] at hi; exact absurd rfl hi
  | drop => rw [hmk] at hi; exact absurd rfl hi

theorem inflight_congr {s s' : Streams} {h : Option DataFrame} (k : Nat) (hm : marker s' = marker s) :
    inflight s' h k = inflight s h k := by
  unfold inflight; rw [hm]

theorem msg_take_drop (q : List SFrame) (n : Nat) : msg q = msg (q.take n) ++ msg (q.drop n) := by
  rw [← msg_append, List.take_append_drop]

end H2V.Lemmas.ConnFidP
