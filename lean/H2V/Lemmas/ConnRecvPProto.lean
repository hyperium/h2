import H2V.Lemmas.ConnRecvPConn
import H2V.Lemmas.ConnCtlPTrace
import H2V.Lemmas.ConnPollRule
/-
  C03 (theorem 11, `every_connection_window_conserved`, rests on this through `creach_inv`): the connection layer (`ConnProto.lean`, connection.rs /
  settings.rs / go_away.rs / ping_pong.rs) only ever touches the stream layer through the calls listed
  in `Op`, with valid arguments.  This is stated once, for an arbitrary predicate `P` on the stream
  layer: if `P` survives every such call (`OpClosed P`: calls that do not end in one of the two
  connection errors of `Op.ok`; `OpClosedAll P`: all calls), every function of `ConnProto.lean` keeps
  `PInv P c` = "`P c.streams`, and the SETTINGS we queued or sent are legal".  Only `recv_settings` (the
  ACK applies our SETTINGS: `apply_local_settings`) and `handle_poll2_result` (`Inner::send_reset`), and
  what calls them (`poll2`, `poll`), need `OpClosedAll`; everything else lifts `OpClosed P`.
  The instance used for C03 is `P := ReachT T H`: every state a `Connection::poll` produces — whatever
  the peer sends, however the transport chops it, whatever the fuel — is a `Reach` state, and the
  invariant of `ConnRecvPInv.lean` holds for it (`creach_reach` in `ConnRecvPPoll.lean`).
-/
namespace H2V.Lemmas.ConnRecvP
open H2V H2V.Model H2V.Model.Conn
open H2V.Model.Conn.Streams

def valsValid (vals : List (Nat × Nat)) : Prop := ∀ t, settingsIws vals = some t → t ≤ 2147483647

def LocValid : Local → Prop
  | .toSend v => valsValid v
  | .waitingAck v => valsValid v
  | .synced => True

/-- the call is not `set_target_connection_window` (the only one that changes the configured
    connection window) -/
def Op.keepsTarget : Op → Bool
  | .setTargetConnectionWindow _ => false
  | _ => true

theorem Op.ghost_target {op : Op} (h : op.keepsTarget = true) (g : Ghost) :
    (op.ghost g).target = g.target ∧ (op.ghost g).hiTarget = g.hiTarget := by
  cases op <;> first | exact ⟨rfl, rfl⟩ | cases h | skip
  next vals =>
    show (g.afterSettings (settingsIws vals)).target = _ ∧ (g.afterSettings (settingsIws vals)).hiTarget = _
    cases settingsIws vals <;> exact ⟨rfl, rfl⟩

/-- `P` survives every call of the stream layer with valid arguments, other than
    `set_target_connection_window`, that does not end in one of the two connection errors of `Op.ok` -/
def OpClosed (P : Streams → Prop) : Prop :=
  ∀ s (op : Op), op.valid s → op.ok s → op.keepsTarget = true → P s → P (op.apply s)

/-- … whether or not it ends in one of them -/
def OpClosedAll (P : Streams → Prop) : Prop :=
  ∀ s (op : Op), op.valid s → op.keepsTarget = true → P s → P (op.apply s)

theorem OpClosedAll.closed {P : Streams → Prop} (hA : OpClosedAll P) : OpClosed P := fun s op hv _ hk => hA s op hv hk

/-- `P` holds of the stream layer; the SETTINGS this endpoint has queued or sent and not yet seen
    acknowledged are legal -/
def PI (P : Streams → Prop) (s : Streams) (loc : Local) : Prop := P s ∧ LocValid loc

abbrev PInv (P : Streams → Prop) (c : Conn) : Prop := PI P c.streams c.settings.loc

/-- the stream layer is in a reachable state in which the connection window configured last is `T`
    and the largest one so far `H` -/
def ReachT (T H : Nat) (s : Streams) : Prop := ∃ g, Reach g s ∧ g.target = T ∧ g.hiTarget = H

theorem reachT_closed {T H : Nat} : OpClosedAll (ReachT T H) := fun _ op hv hk ⟨g, hg, ht, hh⟩ =>
  ⟨_, .step op hg hv, (Op.ghost_target hk g).1.trans ht, (Op.ghost_target hk g).2.trans hh⟩

/-- the instance the receive-window theorems use: `ReachT`, and our SETTINGS are legal -/
def CI (T H : Nat) (s : Streams) (loc : Local) : Prop := PI (ReachT T H) s loc

abbrev CInv (T H : Nat) (c : Conn) : Prop := CI T H c.streams c.settings.loc

variable {P : Streams → Prop}

theorem PI.op (hP : OpClosed P) {s : Streams} {loc : Local} (h : PI P s loc) (op : Op) (hv : op.valid s)
    (hok : op.ok s := by trivial) (hk : op.keepsTarget = true := by rfl) : PI P (op.apply s) loc :=
  ⟨hP s op hv hok hk h.1, h.2⟩

theorem PI.fst {α : Type} {s' : Streams} {r : α} {p : Streams × α} {loc : Local} (h : p = (s', r)) (hp : PI P p.1 loc) :
    PI P s' loc := of_fst_eq (P := (PI P · loc)) h hp

theorem panic_lift (hP : OpClosed P) {c : Conn} (h : PInv P c) (m : String) : PInv P (c.panic m) := h.op hP (.panic m) trivial

theorem dynGoAway_lift (hP : OpClosed P) {c : Conn} (h : PInv P c) (id : Nat) (e : Reason) : PInv P (c.dynGoAway id e) := by
  unfold Conn.dynGoAway
  have h1 : PI P (c.streams.recvGoAway id) c.settings.loc := h.op hP (.recvGoAway id) trivial
  dsimp only
  split
  · exact h1
  · exact h1.op hP (.panic _) trivial

theorem goAwayNowData_lift (hP : OpClosed P) {c : Conn} (h : PInv P c) (e : Reason) (d : Bytes) : PInv P (c.goAwayNowData e d) := by
  unfold Conn.goAwayNowData
  dsimp only
  split
  · exact h
  · exact h.op hP (.panic _) trivial

theorem goAwayNow_lift (hP : OpClosed P) {c : Conn} (h : PInv P c) (e : Reason) : PInv P (c.goAwayNow e) := goAwayNowData_lift hP h e []

theorem takeUserPings_lift {c : Conn} (h : PInv P c) : PInv P c.takeUserPings.1 := by
  unfold Conn.takeUserPings; split <;> exact h

theorem userSendPing_lift (hP : OpClosed P) {c : Conn} (h : PInv P c) : PInv P c.userSendPing.1 := by
  unfold Conn.userSendPing
  split
  · exact h
  · split
    · exact h.op hP (.wake _) trivial
    · split <;> exact h

theorem userPollPong_lift {c : Conn} (h : PInv P c) (t : String) : PInv P (c.userPollPong t).1 := by
  unfold Conn.userPollPong
  split
  · exact h
  · dsimp only
    split
    · exact h
    · split <;> exact h

theorem dropUserPingsRx_lift (hP : OpClosed P) {c : Conn} (h : PInv P c) : PInv P c.dropUserPingsRx := by
  unfold Conn.dropUserPingsRx
  split
  · exact h
  · exact h.op hP (.wake _) trivial

/-- `Settings::recv_settings`: the ACK of our SETTINGS applies exactly the values we sent -/
theorem recvSettings_lift (hA : OpClosedAll P) {c : Conn} (h : PInv P c) (ack : Bool) (vals : List (Nat × Nat)) :
    PInv P (c.recvSettings ack vals).1 := by
  unfold Conn.recvSettings
  split
  · split
    · next loc hloc =>
      have hv : valsValid loc := by have := h.2; rw [hloc] at this; exact this
      have h1 : PI P (c.streams.applyLocalSettingsFrame loc).1 c.settings.loc := ⟨hA _ (.applyLocalSettings loc) hv rfl h.1, h.2⟩
      dsimp only
      split
      · rename_i heq; rw [heq] at h1; exact h1
      · rename_i heq; rw [heq] at h1; exact ⟨h1.1, trivial⟩
    · exact h
  · dsimp only
    split
    · exact h.op hA.closed (.panic _) trivial
    · exact h

theorem sendSettings_lift {c : Conn} (h : PInv P c) (vals : List (Nat × Nat)) (hv : valsValid vals) :
    PInv P (c.sendSettings vals).1 := by
  unfold Conn.sendSettings
  split
  · exact ⟨h.1, hv⟩
  · exact h

/-- ConnPollRule's obligations: `poll_ready` reaches the stream layer through `apply_remote_settings` and
    `send_pending_refusal` only, and the SETTINGS that wait for their ACK are those that were queued -/
theorem ready_lift (hP : OpClosed P) : ConnPoll.ReadyInv (PInv P) where
  codecPollReady _ h := h
  buffer _ _ _ h := h
  goAwayDone _ h := h
  pongDone _ h := h
  pingSent _ _ h _ := h
  userPings _ _ h := h
  remoteSeen _ h := h
  applyRemote _ v i h _ := h.op hP (.applyRemoteSettings v i) trivial
  writer _ _ _ h := h
  remoteDone _ h := h
  localSent c v h hl := ⟨h.1, by have := h.2; rw [show c.settings.loc = _ from hl] at this; exact this⟩
  refusal c h := PI.op hP (s := c.streams) h (.pollSendPendingRefusal 4 c.codec.w c.codec.io c.cx) trivial

theorem sendPendingGoAway_lift {c : Conn} (h : PInv P c) : PInv P c.sendPendingGoAway.1 :=
  ConnPoll.sendPendingGoAway_inv (I := PInv P) (fun _ h => h) (fun _ _ _ h => h) (fun _ h => h) h

theorem pollReady_lift (hP : OpClosed P) {c : Conn} (h : PInv P c) : PInv P c.pollReady.1 := (ready_lift hP).pollReady h

/-- `Connection::set_target_window_size`: the one call that moves the configured connection window -/
theorem setTargetWindowSize_cinv {T H : Nat} {c : Conn} (h : CInv T H c) (size : Nat) (hs : size ≤ 2147483647) :
    CInv size (max H size) (c.setTargetWindowSize size) := by
  unfold Conn.setTargetWindowSize
  obtain ⟨g, hg, -, hh⟩ := h.1
  refine ⟨⟨_, Reach.step (.setTargetConnectionWindow size) hg hs, rfl, ?_⟩, h.2⟩
  show max g.hiTarget size = _
  rw [hh]

theorem setInitialWindowSize_lift {c : Conn} (h : PInv P c) (size : Nat) (hs : size ≤ 2147483647) :
    PInv P (c.setInitialWindowSize size).1 := by
  unfold Conn.setInitialWindowSize
  refine sendSettings_lift h _ ?_
  intro t ht
  have : settingsIws [(4, size)] = some size := by simp [settingsIws]
  rw [this] at ht; cases ht; exact hs

end H2V.Lemmas.ConnRecvP
