import H2V.Lemmas.ConnHttpPHpack
import H2V.Lemmas.ConnHttpPConv
/-
  C13 (ConnHttpP) — `HeaderBlock::load` over any number of fragments: the block under
  construction always stands for the concatenation of the field lists decoded so far (`BlockInv`),
  so a block that is delivered (result `Ok`, not over-size) satisfies the common rules of RFC 9113 §8.2
  and holds exactly the pseudo-header and regular fields of that list.
-/
namespace H2V.Lemmas.ConnHttpP
open H2V H2V.Model H2V.Model.Frame H2V.Model.Hpack H2V.Model.CodecRead

theorem track_append : ∀ (fs gs : List Header) (st : TSt),
    track (fs ++ gs) st = (track fs st).bind (track gs)
  | [], gs, st => rfl
  | h :: rest, gs, st => by
    simp only [List.cons_append, track]
    cases trackStep st h with
    | none => rfl
    | some st1 => exact track_append rest gs st1

/-- the block `b` stands for the field list `fs`: unless a flag is raised, it holds what `track` says -/
def BlockInv (b : HeaderBlock) (fs : List Header) : Prop :=
  b.isMalformed = false → b.isOverSize = false →
    track fs (false, {}, []) = some (!b.fields.isEmpty, b.pseudo, b.fields)

theorem blockInv_empty : BlockInv {} [] := fun _ _ => rfl

/-- the field list a call of `HeaderBlock::load` hands to its callback -/
abbrev loadedFields (dec : Decoder) (src : Bytes) : List Header := (dec.decode src).fields

/-- the callback's state when the decoder loop of `HeaderBlock::load` ends -/
def loadSt (b : HeaderBlock) (src : Bytes) (ml : Nat) (dec : Decoder) : LoadSt :=
  loadFields ml (ml * Generated.Consts.MAX_HEADER_LIST_ABUSE_MULTIPLIER) (dec.decode src).fields
    { blk := b, reg := !b.fields.isEmpty, malformed := b.isMalformed, wayTooLarge := false, headersSize := b.listSize }

theorem load_eq (b : HeaderBlock) (src : Bytes) (ml : Nat) (dec : Decoder) :
    HeaderBlock.load b src ml dec =
      ({ (loadSt b src ml dec).blk with isMalformed := (loadSt b src ml dec).malformed },
       (dec.decode src).dec, (dec.decode src).tail,
       if (loadSt b src ml dec).wayTooLarge then .error .headerListWayTooLarge
       else match (dec.decode src).result with
         | .error e => .error (.hpack e)
         | .ok _ => if (loadSt b src ml dec).malformed then .error .malformedMessage else .ok ()) := by
  unfold HeaderBlock.load
  simp only
  rw [show loadFields ml (ml * Generated.Consts.MAX_HEADER_LIST_ABUSE_MULTIPLIER) (dec.decode src).fields
    { blk := b, reg := !b.fields.isEmpty, malformed := b.isMalformed, wayTooLarge := false, headersSize := b.listSize }
    = loadSt b src ml dec from rfl]
  generalize loadSt b src ml dec = s1
  by_cases hw : s1.wayTooLarge = true
  · simp only [if_pos hw]
  · simp only [if_neg hw]
    cases (dec.decode src).result with
    | error e => rfl
    | ok u =>
      simp only
      split <;> rfl

/-- `HeaderListWayTooLarge` is left out: it kills the connection -/
theorem load_inv (b : HeaderBlock) (fs : List Header) (src : Bytes) (ml : Nat) (dec : Decoder)
    (hb : BlockInv b fs)
    (hw : (HeaderBlock.load b src ml dec).2.2.2 ≠ .error .headerListWayTooLarge) :
    BlockInv (HeaderBlock.load b src ml dec).1 (fs ++ loadedFields dec src) := by
  rw [load_eq] at hw ⊢
  simp only at hw ⊢
  by_cases hwl : (loadSt b src ml dec).wayTooLarge = true
  · rw [if_pos hwl] at hw; exact absurd rfl hw
  · intro hm ho
    simp only at hm ho ⊢
    have cl : Clean (loadSt b src ml dec) := ⟨hm, by simpa using hwl, ho⟩
    obtain ⟨c0, ht⟩ := loadFields_clean _ _ _ _ cl
    have h0 := hb c0.m c0.o
    rw [track_append, h0]
    simp only [Option.bind_some]
    have hreg := (tracked _ _ _ ht).reg rfl
    simp only [tOf] at ht hreg ⊢
    rw [ht]
    unfold loadSt
    rw [hreg]

theorem load_ok_not_malformed (b : HeaderBlock) (src : Bytes) (ml : Nat) (dec : Decoder)
    (h : (HeaderBlock.load b src ml dec).2.2.2 = .ok ()) :
    (HeaderBlock.load b src ml dec).1.isMalformed = false := by
  rw [load_eq] at h ⊢
  simp only at h ⊢
  split at h
  · cases h
  · split at h
    · cases h
    · split at h
      · cases h
      · rename_i hm; simpa using hm

theorem loadFields_malformed_mono (ml am : Nat) : ∀ (fs : List Header) (s : LoadSt), s.malformed = true →
    (loadFields ml am fs s).malformed = true
  | [], s, hm => hm
  | h :: rest, s, hm => by
    unfold loadFields
    have := (loadField_step ml am s h).2.2 hm
    generalize loadField ml am s h = r at this
    obtain ⟨s', brk⟩ := r
    simp only at this ⊢
    split
    · exact this
    · exact loadFields_malformed_mono ml am rest s' this

/-- **once a field has made the message malformed, no later fragment makes `load` return `Ok`** (finding N1) -/
theorem load_malformed_sticky (b : HeaderBlock) (src : Bytes) (ml : Nat) (dec : Decoder)
    (hb : b.isMalformed = true) :
    (HeaderBlock.load b src ml dec).2.2.2 ≠ .ok () ∧ (HeaderBlock.load b src ml dec).1.isMalformed = true := by
  have hm : (loadSt b src ml dec).malformed = true := loadFields_malformed_mono _ _ _ _ hb
  rw [load_eq]
  simp only [hm, if_true]
  refine ⟨?_, trivial⟩
  split
  · simp
  · split <;> simp

end H2V.Lemmas.ConnHttpP
