import H2V.Lemmas.ConnFidPMain
/-
  ConnFidP — the statements of H2V/Props/C01Streams.lean whose proofs take more than a line or two.
-/
namespace H2V.Lemmas.ConnFidP
open H2V H2V.Model H2V.Model.Conn H2V.Lemmas.ConnWakeP

theorem Tr.send_only {P : Perm} {s s' : Streams} (t : Tr P s s') (hw : ¬P.write) (hp : ¬P.pop) (hc : ∀ j, ¬P.cut j)
    (Q : Nat → SFrame → Prop) (hQ : ∀ j f, P.push j f → Q j f) :
    ∃ tr, Path P s s' tr ∧ (∀ j, wasCut j tr = false → sq s' j = sq s j ++ pushed j tr) ∧
      (∀ j f, f ∈ pushed j tr → Q j f) := by
  obtain ⟨tr, p, h1, h2⟩ := t.send_frames hw hp
  refine ⟨tr, p, h1, fun j f hf => ?_⟩
  rcases h2 j f hf with h | ⟨_, h⟩
  · exact hQ j f h
  · exact absurd h (hc j)

theorem refSendReset_queues (s : Streams) (k : Nat) (r : Reason) :
    ∃ tr, Path (permReset k) s (s.refSendReset k r) tr ∧
      ∀ j, j ≠ k → wasCut j tr = false → sq (s.refSendReset k r) j = sq s j := by
  obtain ⟨tr, p, h1, h2⟩ := (refSendReset_tr s k r).send_frames (fun h => h) (fun h => h)
  refine ⟨tr, p, fun j hj hc => ?_⟩
  have hp : pushed j tr = [] := List.eq_nil_iff_forall_not_mem.mpr fun f hf => by
    rcases h2 j f hf with h | ⟨_, h⟩
    · exact h
    · exact hj h
  rw [h1 j hc, hp, List.append_nil]

theorem Path.marker_cut {P : Perm} {s s' : Streams} {tr : List Lbl} (p : Path P s s' tr) (hw : ¬P.write) :
    marker s' = marker s ∨ (∃ j, P.cut j ∧ marker s = .dataFrame j ∧ marker s' = .drop) := by
  induction p with
  | refl => exact Or.inl rfl
  | tau _ e ih =>
    rw [e.mark]; exact ih
  | lbl l _ e ok ih =>
    have hl : ∀ l', some l = some l' → l'.isWrite = false := by
      intro l' h'; cases h'
      cases l <;> simp only [Lbl.isWrite] <;> exact absurd ok hw
    rcases e.marker_step hl with hm | ⟨j, n, hl', hj, hd⟩
    · rw [hm]; exact ih
    · cases hl'
      rcases ih with ih | ⟨j', _, _, hd'⟩
      · exact Or.inr ⟨j, ok, by rw [← ih]; exact hj, hd⟩
      · rw [hd'] at hj; cases hj

/-- **`send_reset(k)` drops the chunk in the codec only if it belongs to `k`** -/
theorem refSendReset_marker (s : Streams) (k : Nat) (r : Reason) :
    marker (s.refSendReset k r) = marker s ∨ (marker s = .dataFrame k ∧ marker (s.refSendReset k r) = .drop) := by
  obtain ⟨tr, p⟩ := refSendReset_tr s k r
  rcases p.marker_cut (fun h => h) with h | ⟨j, hj, h1, h2⟩
  · exact Or.inl h
  · have : j = k := hj
    subst this; exact Or.inr ⟨h1, h2⟩

theorem refPollData_queues (s : Streams) (k : Nat) (t : String) :
    ∃ tr, Path (permPoll k) s (s.refPollData k t).1 tr ∧ (∀ j, rcvd j tr = []) ∧ (∀ j, j ≠ k → dlvd j tr = []) := by
  obtain ⟨tr, p⟩ := refPollData_acc (P := permPoll k) trivial k t rfl (Tr.refl _ _)
  exact ⟨tr, p, fun j => List.eq_nil_iff_forall_not_mem.mpr fun e he => p.allowed _ (mem_rcvd he),
    fun j hj => List.eq_nil_iff_forall_not_mem.mpr fun e he => hj (p.allowed _ (mem_dlvd he))⟩

theorem Hist.drained {s : Streams} {w : Writer} {g : Ghost} (h : Hist s w g) (hw : g.weird = false)
    (k : Nat) (hc : g.cut k = false) (ho : out s (held w) k = []) :
    Refine (g.emi k) (g.acc k) ∧ toks (g.emi k) = toks (g.acc k) := by
  obtain ⟨D, hR, hD⟩ := h.fidelity hw k
  rw [hD hc, ho] at hR
  simp only [msg_nil, List.append_nil] at hR
  exact ⟨hR, hR.toks_eq⟩

end H2V.Lemmas.ConnFidP
