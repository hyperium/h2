import H2V.Lemmas.ConnCtlPSettings
/-
  ConnCtlP — C14, PING: `send_pending_pong` appends exactly the echo of the payload stored; `recv_ping` on an ACK that answers
  nothing.
-/
set_option autoImplicit false
set_option linter.unusedSimpArgs false
namespace H2V.Lemmas.ConnCtlP
open H2V H2V.Model H2V.Model.Conn

/-- `send_pending_pong`: with the codec ready, exactly one frame is appended to the write buffer —
    a 17-octet PING ACK rendering the payload that `recv_ping` stored — and the slot is emptied;
    with the codec not ready nothing happens to the slot -/
theorem sendPendingPong_spec (c : Conn) (payload : Bytes) (h : c.pingPong.pendingPong = some payload) :
    (c.codecPollReady.2 = .ok →
      c.sendPendingPong.2 = .ok ∧ c.sendPendingPong.1.pingPong.pendingPong = none ∧
      c.sendPendingPong.1.codec.w.buf = c.codecPollReady.1.codec.w.buf ++
        [{ bytes := 17, done := some ("P:0:1:" ++ Hex.ofBytes payload) }]) ∧
    (c.codecPollReady.2 = .pending →
      c.sendPendingPong.2 = .pending ∧ c.sendPendingPong.1.pingPong.pendingPong = some payload) := by
  unfold Conn.sendPendingPong
  rw [h]
  dsimp only
  rcases hc : c.codecPollReady with ⟨c1, st⟩
  obtain ⟨h1, h2, -⟩ := codecPollReady_eq c c1 st hc
  cases st with
  | ok =>
    refine ⟨fun _ => ⟨rfl, rfl, ?_⟩, (fun hh => by cases hh)⟩
    simp [Conn.bufferSimple, Writer.bufferSimple, Writer.put, Generated.Consts.HEADER_LEN]
    rfl
  | pending => exact ⟨(fun hh => by cases hh), fun _ => ⟨rfl, by rw [h2]; exact h⟩⟩
  | err e => exact ⟨(fun hh => by cases hh), (fun hh => by cases hh)⟩

/-- a PING ACK that answers neither the shutdown ping nor a user ping is ignored: no state change,
    no error -/
theorem recvPing_ack_unsolicited (p : PingPong) (payload : Bytes)
    (h1 : ∀ pp, p.pendingPing = some pp → pp.payload ≠ payload)
    (h2 : ∀ u, p.userPings = some u →
      ¬ (payload = Generated.Consts.PING_USER_PAYLOAD ∧ u.state = Generated.Consts.USER_STATE_PENDING_PONG)) :
    p.recvPing true payload = (p, .unknown, [], p.pendingPong.isNone) := by
  have hc : ∀ u, p.userPings = some u →
      (payload == Generated.Consts.PING_USER_PAYLOAD && u.state == Generated.Consts.USER_STATE_PENDING_PONG) = false := by
    intro u hu
    have := h2 u hu
    cases hb : (payload == Generated.Consts.PING_USER_PAYLOAD && u.state == Generated.Consts.USER_STATE_PENDING_PONG)
    · rfl
    · simp at hb; exact absurd hb this
  unfold PingPong.recvPing
  simp only [if_true]
  cases hp : p.pendingPing with
  | none =>
    cases hu : p.userPings with
    | none => rfl
    | some u => simp [hc u hu]
  | some pp =>
    have hne := h1 pp hp
    have hb : (pp.payload == payload) = false := by simpa using hne
    cases hu : p.userPings with
    | none => simp [hb]
    | some u => simp [hb, hc u hu]

end H2V.Lemmas.ConnCtlP
