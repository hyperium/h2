import H2V.Lemmas.ConnNoPanicPAccOps
/-
  C08 (no panic) — the server accept path: the handle calls that change a handle count keep `J`; `op_at`: the operations
  that are steps of `AT` by their footprint.
-/
namespace H2V.Lemmas.ConnNoPanicP
open H2V H2V.Model H2V.Model.Conn H2V.Lemmas.ConnCountsP
open H2V.Lemmas.ConnResetP (Op run)
attribute [local irreducible] wrapSubU32 wrapSubUsize

theorem cloneStreamRef_j {s : Streams} (hj : J s) {k : Nat} (hk : Live s k) (hr : (s.stream k).refCount > 0) :
    J (s.cloneStreamRef k) := by
  obtain ⟨hnq, hrh⟩ := hj.of_ref hk hr
  unfold Streams.cloneStreamRef
  exact (refInc_j hj hk hnq hrh).al0 (setMisc_al (ks := []) _ _ _ _ _ _ rfl)

theorem dropPre_j {s : Streams} (hj : J s) {k : Nat} (hk : Live s k) (hr : (s.stream k).refCount > 0) :
    J (dropPre s k) ∧ k ∉ (dropPre s k).recv.pendingAccept := by
  have hnq := hj.not_mem_of_ref hr
  unfold dropPre
  dsimp only
  have hs0 : ({ s with refs := s.refs - 1 } : Streams).stream k = s.stream k := rfl
  rw [hs0]
  simp only [hr, if_true]
  have h0 : J { s with refs := s.refs - 1 } := hj.al0 (setMisc_al (ks := []) s s.actions (s.refs - 1) _ _ _ rfl)
  have hk0 : Live ({ s with refs := s.refs - 1 } : Streams) k := hk
  have hnq0 : k ∉ ({ s with refs := s.refs - 1 } : Streams).recv.pendingAccept := hnq
  have h1 := refDec_j h0 hk0 hnq0
  have hq1 : (({ s with refs := s.refs - 1 } : Streams).modStream k fun st => { st with refCount := st.refCount - 1 }).recv.pendingAccept =
      s.recv.pendingAccept := by
    show Streams.getQ _ .pendingAccept = Streams.getQ s .pendingAccept
    rw [getQ_modStream]; rfl
  split
  · exact ⟨h1.al0 (notifyTask_al _), by rw [(notifyTask_al (ks := []) _).queue, hq1]; exact hnq⟩
  · exact ⟨h1, by rw [hq1]; exact hnq⟩

theorem dropStreamRef_j {s : Streams} (hj : J s) {k : Nat} (hk : Live s k) (hr : (s.stream k).refCount > 0)
    (hppp : dropPPP s k = []) : J (s.dropStreamRef k) := by
  rw [dropStreamRef_eq]
  obtain ⟨h1, hnq1⟩ := dropPre_j hj hk hr
  unfold dropPPP at hppp
  generalize dropPre s k = t at h1 hnq1 hppp
  refine J.transition k _ ?_
  rw [dropClosure_nil t k hppp]
  split
  · have h2 : AL [k] t ((t.maybeCancel k).releaseClosedCapacity k) :=
      .trans (.of_step (Streams.maybeCancel_step (by decide) t k)) (Streams.releaseClosedCapacity_takes (by decide) _ k).al fun _ h => h
    refine h1.al1 ?_ hnq1
    al_auto
  · exact h1.al0 (AL.of_step (Streams.maybeCancel_step (by decide) t k))

/-- `send_request` pushes on and pops from other queues only -/
def kindsQS : Kind → Bool
  | .enqueue .pendingAccept | .dequeue .pendingAccept => false
  | _ => true

/-- a client's `pending_accept` stays empty -/
theorem sendRequest_j {s : Streams} (hj : J s) (isHead : Bool) (fields : List Hpack.Field) (eos : Bool) (pending : Option Nat) :
    J (s.sendRequest isHead fields eos pending).1 := by
  rcases sendRequest_cases' s isHead fields eos pending with ⟨_, e⟩ | ⟨hc, _⟩
  · rw [e]; exact hj
  · have h := Streams.sendRequest_step (K := kindsQS) (by decide) s isHead fields eos pending
    exact .of_client (h.isServer.trans hc) ((pendingAccept_of_step rfl rfl h).trans (hj.cl hc))

/-- the operations that are steps of `AT` whatever the state: they touch neither `pending_accept`, nor a handle count, nor
    `pending_recv`, and record no reset by the peer -/
def accQuiet : Op → Prop
  | .recvWindowUpdate .. | .recvGoAway _ | .recvGoAwayFrame .. | .refSendReset .. | .clearExpiredResetStreams _ | .applyRemoteSettings .. | .applyLocalSettingsFrame _
  | .setTargetConnectionWindow _
  | .pollComplete .. | .pollSendPendingRefusal .. | .wake _ | .clearWakes | .cloneHandle | .dropHandle | .pollPendingOpen ..
  | .refSendResponse .. | .refSendInformationalHeaders .. | .refSendData .. | .refSendTrailers ..
  | .refReserveCapacity .. | .pollCapacity .. | .pollReset .. | .refReleaseCapacity .. => True
  | _ => False

theorem op_at (s : Streams) (op : Op) (h : accQuiet op) : AT s (op.apply s) := by
  cases op <;> first
    | exact h.elim
    | (simp only [Op.apply]; at_auto)

/-- the precondition on the ARGUMENT of an operation that the accept path needs: `Streams::handle_error` is never
    called with `Reset(_, _, Initiator::Remote)` (connection.rs hands over GOAWAY and I/O errors only) -/
def accPre : Op → Prop
  | .handleError e => NotRR e
  | _ => True

end H2V.Lemmas.ConnNoPanicP
