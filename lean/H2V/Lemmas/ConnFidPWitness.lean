import H2V.Lemmas.ConnFidPMain
/-
  ConnFidP — concrete witnesses (all evaluated by `decide` on states reached through the model's API).

  O1 (observation, by design): `poll_response` DISCARDS interim 1xx heads that are still queued — an interim response is
     only delivered by `poll_informational` polled before the final response is taken.
  S1 (what the seeded defect "cancelling stream A drops the rest of stream B's chunk" looks like): a `clear_queue`
     that turns the in-flight marker to `Drop` whatever stream it names violates `clearQueue_marker`.
-/
namespace H2V.Lemmas.ConnFidP
open H2V H2V.Model H2V.Model.Conn

namespace O1
/-- client, request sent; the peer answers `103` then `200` (END_STREAM) -/
def c3 : Streams :=
  let s := (((Conn.init {}).streams.sendRequest false [] true none).1).popPendingOpen.1
  let s := (s.recvHeaders { sid := 1, eos := false, status := some [49, 48, 51] }).1
  (s.recvHeaders { sid := 1, eos := true, status := some [50, 48, 48] }).1

theorem both_queued : (c3.stream 0).pendingRecv = [.informational [49, 48, 51] [], .headers [50, 48, 48] []] := by decide

/-- the application takes the final response first: the `103` is gone, `poll_informational` answers "no more" -/
theorem interim_response_discarded_by_poll_response :
    ((Streams.recvPollResponse 5 c3 0 "p").1.stream 0).pendingRecv = [] ∧
    (match ((Streams.recvPollResponse 5 c3 0 "p").1.recvPollInformational 0 "p").2 with | .none => true | _ => false) = true := by
  decide

/-- polled in order, both are delivered -/
theorem interim_response_delivered_when_polled_first :
    (match (c3.recvPollInformational 0 "p").2 with | .response st => decide (st = [49, 48, 51]) | _ => false) = true ∧
    ((c3.recvPollInformational 0 "p").1.stream 0).pendingRecv = [.headers [50, 48, 48] []] := by decide
end O1

namespace S1
/-- the seeded defect: `clear_queue` sets `Drop` without looking at the key of the marker -/
def buggyClearQueue (s : Streams) (id : Nat) : Streams :=
  let s := s.modStream id clearF
  match s.prio.inFlightDataFrame with
  | .dataFrame _ => s.modPrio (markF .drop)
  | _ => s

/-- a state in which a chunk of stream B (key 1) is in the codec -/
def sB : Streams := { actions := { send := { prioritize := { inFlightDataFrame := .dataFrame 1 } } } }

/-- resetting stream A (key 0): the real `clear_queue` leaves B's marker alone (`clearQueue_marker`), the buggy one drops it -/
theorem buggy_clear_queue_drops_other_streams_chunk_counterexample :
    marker (sB.clearQueue 0) = .dataFrame 1 ∧ marker (buggyClearQueue sB 0) = .drop := by decide
end S1

end H2V.Lemmas.ConnFidP

namespace H2V.Lemmas.ConnFidP
open H2V H2V.Model H2V.Model.Conn

theorem Run.weird_eq {P : Perm} {s0 s : Streams} {g0 g : Ghost} (r : Run P s0 g0 s g) (hc : ∀ k, ¬P.cut k) :
    g.weird = g0.weird := by
  induction r with
  | refl => rfl
  | tau _ _ ih => exact ih
  | lbl l _ _ ok ih =>
    cases l with
    | cut k n => exact absurd ok (hc k)
    | push k f => simp only [gstep]; split <;> exact ih
    | pop k f => simp only [gstep]; split <;> exact ih
    | gone k => simp only [gstep]; split <;> exact ih
    | _ => exact ih

/-- non-vacuity of the history theorems: a history (request head and a body frame accepted) with the `weird` flag down -/
theorem history_with_weird_down :
    ∃ g, Hist ((((Conn.init {}).streams.sendRequest false [] false none).1).refSendData 0 10 true).1 {} g ∧ g.weird = false := by
  have h0 : Hist (Conn.init {}).streams {} {} := .init _ _ rfl rfl rfl
  have t1 := sendRequest_acc (P := permNewRequest (Conn.init {}).streams.store.nextKey false []) trivial false [] false none
    (Or.inl ⟨rfl, rfl⟩) (Tr.refl _ (Conn.init {}).streams)
  obtain ⟨g1, r1⟩ := t1.run {}
  have w1 : g1.weird = false := r1.weird_eq (fun _ h => h)
  have h1 : Hist ((Conn.init {}).streams.sendRequest false [] false none).1 {} g1 :=
    .api _ h0 (fun h => h) (fun h => h) (Or.inr (Or.inl ⟨fun _ h => h, fun k f _ _ hc => by cases hc⟩)) r1
  obtain ⟨g2, r2⟩ := (refSendData_tr ((Conn.init {}).streams.sendRequest false [] false none).1 0 10 true).run g1
  have w2 : g2.weird = false := (r2.weird_eq (fun _ h => h)).trans w1
  refine ⟨g2, .api _ h1 (fun h => h) (fun h => h) ?_ r2, w2⟩
  refine Or.inr (Or.inl ⟨fun _ h => h, fun k f _ hp hc => ?_⟩)
  -- the entry was not cut: it is not closed
  have hI := h1.inv w1
  have hk : k = 0 := hp.1
  subst hk
  have hcl := hI.closed 0 hc
  exfalso
  have : ((((Conn.init {}).streams.sendRequest false [] false none).1).store.get? 0).map (·.state.isClosed) = some false := by decide
  cases hq : (((Conn.init {}).streams.sendRequest false [] false none).1).store.get? 0 with
  | none => rw [hq] at this; cases this
  | some a =>
    rw [hq] at this
    have h1' := hcl a hq
    simp only [Option.map_some, Option.some.injEq] at this
    rw [h1'] at this; cases this

end H2V.Lemmas.ConnFidP
