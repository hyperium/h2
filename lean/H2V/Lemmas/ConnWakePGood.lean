import H2V.Lemmas.ConnWakePPrim
import H2V.Lemmas.ConnWakePForEach
import H2V.Lemmas.ConnLoops
/-
  ConnWakeP — the store invariant `Good` (what the C07 lemmas need of a state), the primitive
  updates that keep it, and one lemma `X_i : Step cx s (s.X …)` per primitive update.
    * `KeysBounded`: keys are handed out once;
    * `IdsOK`: the id map has one entry per stream id, and an entry whose slab entry exists points at a
      stream with that id (true even in the states of quirk Q1 — two slab entries with one id —
      because the id map itself stays a map);
    * every key in the id map was handed out.
-/
namespace H2V.Lemmas.ConnWakeP
open H2V H2V.Model H2V.Model.Conn

structure Good (s : Streams) : Prop where
  bounded : KeysBounded s.store
  ids : IdsOK s.store
  linked : ∀ e ∈ s.store.ids, e.2 < s.store.nextKey

theorem Good.of_store_eq {s t : Streams} (h : Good s) (e : t.store = s.store) : Good t :=
  ⟨e ▸ h.bounded, e ▸ h.ids, e ▸ h.linked⟩

section
variable {s : Streams}

theorem panic_good (m : String) (h : Good s) : Good (s.panic m) := h.of_store_eq (Streams.panic_store s m)

theorem setStream_good' (b : Stream) (hid : b.id = (s.stream b.key).id) (h : Good s) : Good (s.setStream b) := by
  cases hg : s.store.get? b.key with
  | none =>
    have : s.setStream b = s := by unfold Streams.setStream; rw [Store.set_of_none hg]
    rw [this]; exact h
  | some a =>
    rw [stream_eq_of_get? hg] at hid
    refine ⟨h.bounded.set (h.bounded.get? hg), ⟨h.ids.1, fun e he x hx => ?_⟩, h.linked⟩
    have hx' : (s.store.set b).get? e.2 = some x := hx
    rw [Store.get?_set] at hx'
    by_cases hk : e.2 = b.key
    · rw [if_pos hk, hk, hg] at hx'
      simp at hx'; subst hx'
      rw [hid]; exact h.ids.2 e he a (hk ▸ hg)
    · rw [if_neg hk] at hx'
      exact h.ids.2 e he x hx'

theorem modStream_good_id (k : Nat) (f : Stream → Stream) (hk : (f (s.stream k)).key = (s.stream k).key)
    (hi : (f (s.stream k)).id = (s.stream k).id) (h : Good s) : Good (s.modStream k f) := by
  unfold Streams.modStream
  split
  · next a ha =>
    rw [stream_eq_of_get? ha] at hk hi
    have hak : (f a).key = k := by rw [hk]; exact Store.get?_key ha
    exact setStream_good' (f a) (by rw [hak, stream_eq_of_get? ha]; exact hi) h
  · exact panic_good _ h

theorem unlink_good (id : Nat) (h : Good s) : Good { s with store := s.store.unlink id } :=
  ⟨h.bounded.unlink id, ⟨Store.swapRemove_nodup h.ids.1 id, fun e he a ha => h.ids.2 e (Store.mem_swapRemove he) a ha⟩,
    fun e he => h.linked e (Store.mem_swapRemove he)⟩

theorem remove_good (k n : Nat) (h : Good s) :
    Good { s with store := s.store.remove k, recvBufferLeaked := n } := by
  refine ⟨h.bounded.remove k, ⟨h.ids.1, fun e he a ha => ?_⟩, h.linked⟩
  have ha' : (s.store.remove k).get? e.2 = some a := ha
  rw [Store.get?_remove] at ha'
  split at ha'
  · cases ha'
  · exact h.ids.2 e he a ha'

/-- `Store::insert`: the new stream gets a fresh key; its id is mapped to it (replacing an older
    mapping of the same id, as `IndexMap::insert` does) -/
theorem insert_good (a : Stream) (h : Good s) : Good { s with store := (s.store.insert a).1 } := by
  have hfresh := h.bounded.fresh
  refine ⟨h.bounded.insert a, ⟨?_, fun e he x hx => ?_⟩, fun e he => ?_⟩
  · -- one entry per id
    show ((s.store.insert a).1.ids.map (·.1)).Nodup
    unfold Store.insert
    simp only
    split
    · have : (s.store.ids.map fun e => if e.1 == a.id then (a.id, s.store.nextKey) else e).map (·.1) =
          s.store.ids.map (·.1) := by
        rw [List.map_map]; apply List.map_congr_left
        intro e _; simp only [Function.comp]; split
        · next hh => simp only; exact (by simpa using hh : e.1 = a.id).symm
        · rfl
      rw [this]; exact h.ids.1
    · next hn =>
      rw [List.map_append, List.map_singleton]
      refine List.nodup_append.mpr ⟨h.ids.1, by simp, fun x hx y hy => ?_⟩
      simp only [List.mem_singleton] at hy; subst hy
      intro hxy; subst hxy
      apply hn
      obtain ⟨e, he, hee⟩ := List.mem_map.mp hx
      exact List.any_eq_true.mpr ⟨e, he, by simp [hee]⟩
  · -- entries point at streams with their id
    have hx' : (s.store.insert a).1.get? e.2 = some x := hx
    have he' : e ∈ (s.store.insert a).1.ids := he
    rw [Store.get?_insert] at hx'
    unfold Store.insert at he'
    simp only at he'
    have hcase : e = (a.id, s.store.nextKey) ∨ (e ∈ s.store.ids) := by
      split at he'
      · obtain ⟨e0, he0, hee⟩ := List.mem_map.mp he'
        split at hee
        · exact Or.inl hee.symm
        · exact Or.inr (hee ▸ he0)
      · rcases List.mem_append.mp he' with h1 | h1
        · exact Or.inr h1
        · exact Or.inl (List.mem_singleton.mp h1)
    rcases hcase with rfl | hold
    · simp only [hfresh] at hx'
      simp at hx'; subst hx'; rfl
    · have hlt := h.linked e hold
      cases hg : s.store.get? e.2 with
      | some y => rw [hg] at hx'; cases hx'; exact h.ids.2 e hold _ hg
      | none =>
        rw [hg] at hx'
        simp only at hx'
        rw [if_neg (Nat.ne_of_lt hlt)] at hx'; cases hx'
  · have he' : e ∈ (s.store.insert a).1.ids := he
    show e.2 < s.store.nextKey + 1
    unfold Store.insert at he'
    simp only at he'
    split at he'
    · obtain ⟨e0, he0, hee⟩ := List.mem_map.mp he'
      split at hee
      · rw [← hee]; exact Nat.lt_succ_self _
      · rw [← hee]; exact Nat.lt_succ_of_lt (h.linked e0 he0)
    · rcases List.mem_append.mp he' with h1 | h1
      · exact Nat.lt_succ_of_lt (h.linked e h1)
      · rw [List.mem_singleton.mp h1]; exact Nat.lt_succ_self _

end

/-- the initial states of both roles -/
theorem good_of_empty {s : Streams} (h1 : s.store.slab = []) (h2 : s.store.ids = []) : Good s := by
  refine ⟨fun a ha => ?_, ⟨?_, fun e he => ?_⟩, fun e he => ?_⟩
  · rw [h1] at ha; cases ha
  · rw [h2]; exact List.nodup_nil
  · rw [h2] at he; cases he
  · rw [h2] at he; cases he

section
variable {cx : Option String} {s s' s'' : Streams}

theorem Step.ite {a b : Streams} {c : Prop} [Decidable c] (h1 : Step cx s a) (h2 : Step cx s b) :
    Step cx s (if c then a else b) := by split <;> assumption
theorem Step.ite_fst {α : Type} {a b : Streams × α} {c : Prop} [Decidable c] (h1 : Step cx s a.1)
    (h2 : Step cx s b.1) : Step cx s (if c then a else b).1 := by split <;> assumption

variable (s)

theorem panic_i (m : String) : Step cx s (s.panic m) := by
  unfold Streams.panic; split
  · exact .refl _ _
  · exact .of_frame rfl rfl rfl id rfl
theorem wake_i (w : List String) : Step cx s (s.wake w) :=
  ⟨⟨w, rfl⟩, Nat.le_refl _, id, fun _ _ h => h, fun _ a _ h => Or.inr ⟨a, h, SStep.refl _ _⟩, Or.inl rfl, id, rfl⟩
theorem notifyTask_i : Step cx s s.notifyTask := by
  unfold Streams.notifyTask
  split
  · next t ht =>
    refine ⟨⟨[t], rfl⟩, Nat.le_refl _, id, fun _ _ h => h, fun _ a _ h => Or.inr ⟨a, h, SStep.refl _ _⟩,
      Or.inr ⟨Or.inl rfl, fun t' ht' => Or.inl ?_⟩, id, rfl⟩
    rw [ht] at ht'; cases ht'
    simp [newWakes]
  · exact .refl _ _
theorem modRecv_i (f : Recv → Recv) : Step cx s (s.modRecv f) := .of_frame rfl rfl rfl id rfl
theorem modCounts_i (f : Counts → Counts) : Step cx s (s.modCounts f) := .of_frame rfl rfl rfl id rfl
theorem setQ_i (q : QName) (l : List Nat) : Step cx s (s.setQ q l) := by
  cases q <;> exact .of_frame rfl rfl rfl id rfl
theorem setCounts_i (c : Counts) : Step cx s { s with counts := c } := .of_frame rfl rfl rfl id rfl
theorem setRefs_i (n : Nat) : Step cx s { s with refs := n } := .of_frame rfl rfl rfl id rfl
theorem setConnError_i (e : PErr) : Step cx s { s with actions := { s.actions with connError := some e } } :=
  .of_frame rfl rfl rfl (fun _ => rfl) rfl

/-- as the loop lemmas of `ConnLoops` want it -/
theorem Step.relOK (cx : Option String) : RelOK (Step cx) := ⟨.refl cx, .trans, panic_i⟩

theorem unlink_i (id : Nat) : Step cx s { s with store := s.store.unlink id } :=
  ⟨List.prefix_refl _, Nat.le_refl _, fun h => h.unlink _, fun _ _ h => h, fun _ a _ h => Or.inr ⟨a, h, SStep.refl _ _⟩,
    Or.inl rfl, fun h => h, rfl⟩

/-- `Ptr::remove` together with the bookkeeping of the leaked receive buffer entries -/
theorem remove_i (k n : Nat) : Step cx s { s with store := s.store.remove k, recvBufferLeaked := n } := by
  refine ⟨List.prefix_refl _, Nat.le_refl _, fun h => h.remove _, ?_, ?_, Or.inl rfl, fun h => h, rfl⟩
  · intro k' _ h
    show (s.store.remove k).get? k' = none
    rw [Store.get?_remove]; split <;> simp [h]
  · intro k' a _ h
    show (s.store.remove k).get? k' = none ∨ ∃ b, (s.store.remove k).get? k' = some b ∧ _
    rw [Store.get?_remove]
    by_cases hk : k' = k
    · exact Or.inl (by simp [hk])
    · exact Or.inr ⟨a, by simp [hk, h], SStep.refl _ _⟩

/-- `(s.store.unlink id).remove k` (the clean-up of `send_request` / `send_push_promise`) -/
theorem unlinkRemove_i (id k : Nat) : Step cx s { s with store := (s.store.unlink id).remove k } :=
  (unlink_i s id).trans (remove_i _ k s.recvBufferLeaked)

theorem insert_i (a : Stream) : Step cx s { s with store := (s.store.insert a).1 } := by
  refine ⟨List.prefix_refl _, Nat.le_succ _, fun h => h.insert _, ?_, ?_, Or.inl rfl, fun h => h, rfl⟩
  · intro k hk h
    show (s.store.insert a).1.get? k = none
    rw [Store.get?_insert, h]
    simp only
    rw [if_neg (Nat.ne_of_lt hk)]
  · intro k x _ h
    refine Or.inr ⟨x, ?_, SStep.refl _ _⟩
    show (s.store.insert a).1.get? k = some x
    rw [Store.get?_insert, h]

variable {s}

theorem setStream_wake_i (k : Nat) (b : Stream) (w : List String) (hb : SStep w (s.stream k) b) :
    Step cx s ((s.setStream b).wake w) := by
  have hk : b.key = k := by rw [hb.key, stream_key]
  subst hk
  cases hg : s.store.get? b.key with
  | none =>
    have : s.setStream b = s := by unfold Streams.setStream; rw [Store.set_of_none hg]
    rw [this]; exact wake_i s w
  | some a =>
    rw [stream_eq_of_get? hg] at hb
    exact setStream_wake_step cx s hg hb

theorem setStream_i (k : Nat) (b : Stream) (hb : SStep [] (s.stream k) b) : Step cx s (s.setStream b) := by
  have := setStream_wake_i (cx := cx) k b [] hb
  have e : (s.setStream b).wake [] = s.setStream b := by simp [Streams.wake]
  rwa [e] at this

theorem modStream_i (s : Streams) (k : Nat) (f : Stream → Stream) (hf : SStep [] (s.stream k) (f (s.stream k))) :
    Step cx s (s.modStream k f) := by
  unfold Streams.modStream
  split
  · next a ha => rw [stream_eq_of_get? ha] at hf; exact setStream_i k _ (by rw [stream_eq_of_get? ha]; exact hf)
  · exact panic_i _ _

theorem modStreamW_i (s : Streams) (k : Nat) (f : Stream → Stream × List String)
    (hf : SStep (f (s.stream k)).2 (s.stream k) (f (s.stream k)).1) : Step cx s (s.modStreamW k f) := by
  unfold Streams.modStreamW
  split
  · next a ha => rw [stream_eq_of_get? ha] at hf; exact setStream_wake_i k _ _ (by rw [stream_eq_of_get? ha]; exact hf)
  · exact panic_i _ _

end

theorem modStream_inert (cx : Option String) (s : Streams) (k : Nat) (f : Stream → Stream)
    (hf : ∀ a, Inert a (f a)) : Step cx s (s.modStream k f) :=
  modStream_i s k f ((hf _).sstep _)

section acc
variable {cx : Option String} {s0 s : Streams}

theorem setStream_acc (b : Stream) (hb : SStep [] (s.stream b.key) b) (hk : (s.store.get? b.key).isSome = true)
    (h : Step cx s0 s) : Step cx s0 (s.setStream b) :=
  h.trans (setStream_i b.key b hb)

end acc

end H2V.Lemmas.ConnWakeP
