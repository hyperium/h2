import H2V.Lemmas.ConnCountsPReach
import H2V.Lemmas.CompBasic
import H2V.Lemmas.ConnCountsPLocal
/-
  C05 / C18 / C19 — concrete reachable states (non-vacuity witnesses), evaluated by the kernel.
-/
namespace H2V.Lemmas.ConnCountsP
open H2V H2V.Model H2V.Model.Conn

def wConn : Conn := Conn.init {}
def wFld (n v : String) : Hpack.Field := { h := (Http.str n, Http.str v), sensitive := false, nameless := false }
def wGet : List Hpack.Field := [wFld ":method" "GET", wFld ":scheme" "http", wFld ":authority" "example.com", wFld ":path" "/"]
/-- a client that has called `send_request(GET /, end_of_stream)` … -/
def wS1 : Streams := (wConn.streams.sendRequest false wGet true none).1
/-- … and whose connection task has written the request (`poll_complete`) -/
def wS2 : Streams := (Streams.pollComplete 10 wS1 wConn.codec.w wConn.codec.io "c").1

theorem wS2_reach : Reach wS2 :=
  .step (.step (.init (.client {} rfl)) (.sendRequest _ false wGet true none)) (.pollComplete 10 _ _ _ "c")

def wPost : List Hpack.Field := [wFld ":method" "POST", wFld ":scheme" "http", wFld ":authority" "example.com", wFld ":path" "/a"]

/-- stream state + codec writer + transport, threaded through `poll_complete` -/
abbrev SWI := Streams × Writer × Tio
def wPoll (x : SWI) : SWI := let r := Streams.pollComplete 20 x.1 x.2.1 x.2.2 "c"; (r.1, r.2.1, r.2.2.1)
def wOn (f : Streams → Streams) (x : SWI) : SWI := (f x.1, x.2)

theorem wPoll_reach {x : SWI} (h : Reach x.1) : Reach (wPoll x).1 := .step h (.pollComplete 20 _ _ _ "c")
theorem wOn_reach {x : SWI} {f : Streams → Streams} (h : Reach x.1) (hs : ApiStep x.1 (f x.1)) : Reach (wOn f x).1 := .step h hs

attribute [local instance] H2V.Lemmas.Comp.instDecidableEqExcept

/-- Q1 (`notes/conn/q1-double-rst.ops`): `max_concurrent_reset_streams = 0`; POST sent; both handles
    dropped while the response HEADERS is still in flight; the late HEADERS frame -/
def q1Conn : Conn := Conn.init { resetMax := 0 }
def q1a : SWI := (q1Conn.streams, q1Conn.codec.w, q1Conn.codec.io)
def q1a1 : SWI := wOn (fun s => (s.sendRequest false wPost false none).1) q1a
def q1a2 : SWI := wOn (fun s => s.cloneStreamRef 0) q1a1
def q1b : SWI := wPoll q1a2
def q1b1 : SWI := wOn (fun s => s.dropStreamRef 0) q1b
def q1c : SWI := wOn (fun s => s.dropStreamRef 0) q1b1
def q1Headers : HeadersIn := { sid := 1, eos := false, status := some (Http.str "200") }
def q1c1 : SWI := wOn (fun s => (s.recvHeaders q1Headers).1) q1c
def q1d : SWI := wOn (fun s => (s.innerSendReset 1 STREAM_CLOSED).1) q1c1
def q1e : SWI := wPoll q1d

theorem q1_reach : Reach q1d.1 := by
  have h0 : Reach q1a.1 := .init (.client { resetMax := 0 } rfl)
  have h1 : Reach q1a1.1 := wOn_reach h0 (.sendRequest _ false wPost false none)
  have h2 : Reach q1a2.1 := wOn_reach h1 (.cloneStreamRef _ 0)
  have h3 : Reach q1b.1 := wPoll_reach h2
  have h4 : Reach q1b1.1 := wOn_reach h3 (.dropStreamRef _ 0)
  have h5 : Reach q1c.1 := wOn_reach h4 (.dropStreamRef _ 0)
  have h6 : Reach q1c1.1 := wOn_reach h5 (.recvHeaders _ q1Headers)
  exact wOn_reach h6 (.innerSendReset _ 1 STREAM_CLOSED)

/-- Q3 (`notes/conn/q3-slab-leak.ops`): a cancelled upload parked in `pending_capacity` -/
def q3Conn : Conn := Conn.init { resetMax := 0 }
def q3a : SWI := (q3Conn.streams, q3Conn.codec.w, q3Conn.codec.io)
def q3b : SWI := wOn (fun s => (s.applyRemoteSettings [(4, 100000)] true).1) q3a
def q3b1 : SWI := wOn (fun s => (s.sendRequest false wPost false none).1) q3b
def q3c : SWI := wPoll (wOn (fun s => s.cloneStreamRef 0) q3b1)
def q3d : SWI := wPoll (wOn (fun s => (s.refSendData 0 70000 false).1) q3c)
def q3e : SWI := wPoll (wOn (fun s => s.refSendReset 0 8) q3d)
def q3e1 : SWI := wOn (fun s => s.dropStreamRef 0) q3e
def q3f : SWI := wOn (fun s => s.dropStreamRef 0) q3e1
def q3g : SWI := wPoll (wOn (fun s => (s.recvWindowUpdate 0 1000).1) q3f)

theorem q3_reach : Reach q3g.1 := by
  have h0 : Reach q3a.1 := .init (.client { resetMax := 0 } rfl)
  have h1 : Reach q3b.1 := wOn_reach h0 (.applyRemoteSettings _ [(4, 100000)] true)
  have h2 : Reach q3b1.1 := wOn_reach h1 (.sendRequest _ false wPost false none)
  have h3 : Reach q3c.1 := wPoll_reach (wOn_reach h2 (.cloneStreamRef _ 0))
  have h4 : Reach q3d.1 := wPoll_reach (wOn_reach h3 (.refSendData _ 0 70000 false))
  have h5 : Reach q3e.1 := wPoll_reach (wOn_reach h4 (.refSendReset _ 0 8))
  have h6 : Reach q3e1.1 := wOn_reach h5 (.dropStreamRef _ 0)
  have h7 : Reach q3f.1 := wOn_reach h6 (.dropStreamRef _ 0)
  exact wPoll_reach (wOn_reach h7 (.recvWindowUpdate _ 0 1000))

/-- The three evaluated witnesses in one statement.  They run on different connections, but the runs have
    much in common — a second `poll_complete` costs the kernel a third of the first — and the kernel
    remembers what it has evaluated only within one declaration. -/
theorem witness_vectors :
    (wS2.panicked = none ∧ wS2.counts.numSendStreams = 1 ∧ wS2.counts.numRecvStreams = 0 ∧
      cntAll wS2 = 1 ∧ wS2.store.slab.length = 1) ∧
    (q1d.1.panicked = none ∧
      q1c.1.store.ids = [] ∧
      (q1c.1.store.slab.map fun x => (x.id, x.pendingSend.length, x.isPendingSend)) = [(1, 0, true)] ∧
      (q1c.1.recvHeaders q1Headers).2 = .error (.reset 1 STREAM_CLOSED .library) ∧
      (q1d.1.store.slab.filter (·.id == 1)).length = 2 ∧
      q1d.1.counts.numLocalErrorResetStreams = 1 ∧
      q1e.2.2.tx.drop 3 = ["R:1:8", "R:1:5"]) ∧
    (q3g.1.panicked = none ∧
      (q3f.1.store.slab.map fun x => (x.id, x.refCount, x.isPendingSendCapacity)) = [(1, 0, true)] ∧
      q3g.1.store.ids = [] ∧
      (q3g.1.store.slab.map fun x => (x.id, x.refCount, x.isClosed,
          x.isPendingSend || x.isPendingSendCapacity || x.isPendingOpen || x.isPendingAccept || x.isPendingWindowUpdate || x.resetAt))
        = [(1, 0, true, false)] ∧
      (q3g.1.prio.pendingSend, q3g.1.prio.pendingCapacity, q3g.1.prio.pendingOpen) = ([], [], []) ∧
      (q3g.1.recv.pendingWindowUpdates, q3g.1.recv.pendingAccept, q3g.1.recv.pendingResetExpired) = ([], [], []) ∧
      (wPoll q3g).1.store.slab.length = 1) := by
  decide +kernel

theorem wS2_facts : wS2.panicked = none ∧ wS2.counts.numSendStreams = 1 ∧ wS2.counts.numRecvStreams = 0 ∧
    cntAll wS2 = 1 ∧ wS2.store.slab.length = 1 :=
  witness_vectors.1

/-- **Q1 counterexample** (a defect of the real code that is still there): a reachable state, no
    panic, in which the store holds TWO slab entries for stream id 1 (the candidate invariant "one
    slab entry per stream id" fails; one entry per *key* holds, see `Reach.inv`), one of them a bogus
    entry created by `Inner::send_reset` for a stream the protocol had forgotten too early; the late
    frame was answered as "for a forgotten stream" (`STREAM_CLOSED`), the bogus reset is counted in
    `num_local_error_reset_streams`, and the peer is sent RST_STREAM twice for the same stream
    (`CANCEL`, then `STREAM_CLOSED`). -/
theorem q1_counterexample :
    q1d.1.panicked = none ∧
    q1c.1.store.ids = [] ∧                                        -- forgotten: unlinked …
    (q1c.1.store.slab.map fun x => (x.id, x.pendingSend.length, x.isPendingSend)) = [(1, 0, true)] ∧  -- … but still to be reset
    (q1c.1.recvHeaders q1Headers).2 = .error (.reset 1 STREAM_CLOSED .library) ∧
    (q1d.1.store.slab.filter (·.id == 1)).length = 2 ∧
    q1d.1.counts.numLocalErrorResetStreams = 1 ∧
    q1e.2.2.tx.drop 3 = ["R:1:8", "R:1:5"] :=
  witness_vectors.2.1

/-- **Q3 counterexample** (a defect of the real code that is still there): a reachable state, no
    panic, with a slab entry that nothing can reach any more: it is in no queue, has no handle
    (`ref_count = 0`), is not in the id map — and stays in the slab (another `poll_complete` does
    not change that): the `continue` of `assign_connection_capacity` popped it from
    `pending_capacity` without `transition`. -/
theorem q3_counterexample :
    q3g.1.panicked = none ∧
    (q3f.1.store.slab.map fun x => (x.id, x.refCount, x.isPendingSendCapacity)) = [(1, 0, true)] ∧   -- before: parked
    q3g.1.store.ids = [] ∧
    (q3g.1.store.slab.map fun x => (x.id, x.refCount, x.isClosed,
        x.isPendingSend || x.isPendingSendCapacity || x.isPendingOpen || x.isPendingAccept || x.isPendingWindowUpdate || x.resetAt))
      = [(1, 0, true, false)] ∧
    (q3g.1.prio.pendingSend, q3g.1.prio.pendingCapacity, q3g.1.prio.pendingOpen) = ([], [], []) ∧
    (q3g.1.recv.pendingWindowUpdates, q3g.1.recv.pendingAccept, q3g.1.recv.pendingResetExpired) = ([], [], []) ∧
    (wPoll q3g).1.store.slab.length = 1 :=
  witness_vectors.2.2

def recvCounted (sv : Bool) (x : Stream) : Bool := x.isCounted && !locId sv x.id

theorem cnt_split (sv : Bool) (l : List Stream) :
    l.countP (·.isCounted) = l.countP (sendCounted sv) + l.countP (recvCounted sv) := by
  induction l with
  | nil => rfl
  | cons a l ih =>
    simp only [List.countP_cons, ih]
    unfold sendCounted recvCounted
    cases a.isCounted <;> cases locId sv a.id <;> simp <;> omega

/-- per-direction slot accounting in every reachable state -/
theorem Reach.direction {s : Streams} (h : Reach s) (hp : s.panicked = none) (herr : s.counts.canIncNumLocalErrorResets = true) :
    s.counts.numSendStreams = cntP (sendCounted s.counts.isServer) s ∧
    s.counts.numRecvStreams = cntP (recvCounted s.counts.isServer) s := by
  obtain ⟨hi1, hi2⟩ := h.inv.2.2 hp
  have hd := hi2.dir herr
  refine ⟨hd, ?_⟩
  have hs := hi1.sum
  unfold cntAll at hs
  rw [cnt_split s.counts.isServer] at hs
  unfold cntP at hd ⊢
  omega

/-- the invariants in the state right after any evolution of a reachable state -/
theorem Reach.inv_after {s s' : Streams} (h : Reach s) (e : Ev s s') (hp : s'.panicked = none) :
    Inv1 s' ∧ Inv2 s'.counts.isServer (fun _ => False) s' := by
  have hp0 := noPanic_of_mono e.mono.panic hp
  obtain ⟨hA, _, hi⟩ := h.inv
  obtain ⟨hi1, hi2⟩ := hi hp0
  refine ⟨e.inv1 hp hA hi1, ?_⟩
  rw [e.nx.role]
  exact e.inv2 _ _ hp hA (fun _ _ h => h) hi2

/-- whenever `pop_pending_open` opens a stream in a reachable state, the number of counted locally
    initiated slab entries afterwards is within the peer's limit -/
theorem open_within_limit {s s' : Streams} {k : Nat} (h : Reach s) (hpop : s.popPendingOpen = (s', some k))
    (hp : s'.panicked = none) (herr : s'.counts.canIncNumLocalErrorResets = true) :
    cntP (sendCounted s'.counts.isServer) s' ≤ s'.counts.maxSendStreams := by
  have e : Ev s s' := of_fst_eq hpop (popPendingOpen_ev s)
  have hd := (h.inv_after e hp).2.dir herr
  have := popPendingOpen_takes_slot s s' k hpop
  rw [← hd]; omega

end H2V.Lemmas.ConnCountsP
