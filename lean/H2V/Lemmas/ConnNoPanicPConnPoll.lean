import H2V.Lemmas.ConnNoPanicPConnRecv
import H2V.Lemmas.ConnNoPanicPConnWire
import H2V.Lemmas.ConnPollRule
/-
  C08 (no panic) — connection layer: the loops.  `Connection::poll2`, `proto::Connection::poll`,
  `client::Connection::poll` are histories of stream-layer operations satisfying `ConnPA A`, with the writer
  tracked, and keep `ConnOK` and `InFlight A`; the only panics the connection layer records are the two fuel markers of the
  model (`FuelMsg`).  The walk itself is ConnPollRule's (`PollInv`); here are its obligations for "reached from `c0` by a step".
-/
namespace H2V.Lemmas.ConnNoPanicP
open H2V H2V.Model H2V.Model.Conn
open H2V.Lemmas.ConnResetP (Op run)
open H2V.Lemmas.ConnCtlP (GoAwayInv Keep15 Step15 GaLe gaLast view)

variable {A : List (Nat × Nat) → Prop}

theorem panic_csa {X : String → Prop} {c : Conn} (hi : GoAwayInv c) (m : String) (hm : X m) : CSA A X c (c.panic m) :=
  ⟨.of_step15 ((Keep15.of_view (c := c) (c' := c.panic m) rfl (by simp [Conn.panic])).step hi) rfl rfl (.of_eq rfl rfl),
    id, .op (.panic m) .refl hm rfl⟩

theorem CSA.viewKeep {X : String → Prop} {c c' : Conn} (hi : GoAwayInv c) (hg : c'.goAway = c.goAway)
    (hv : view c'.streams = view c.streams) (hp : c'.pingPong.pendingPing = c.pingPong.pendingPing)
    (hr : c'.codec.r = c.codec.r) (hl : c'.settings = c.settings)
    (hh : HistW (ConnPA A) c.streams c.codec.w c'.streams c'.codec.w) : CSA A X c c' :=
  .mk' ((Keep15.of_view hg hv).step hi) hp hr hl hh

/-- the state in which `poll2` reads a frame: `poll_ready` has answered `Ready(Ok)`, `close_now` is unset -/
structure ReadOK (A : List (Nat × Nat) → Prop) (c : Conn) : Prop where
  ok : OKA A c
  cn : c.goAway.closeNow = false
  ref : c.streams.recv.refused = none
  rem : c.settings.remote = none
  pong : c.pingPong.pendingPong = none

/-- `recv_frame`, and `recv_settings` when it answers `Settings` (the frame is then the SETTINGS frame itself) -/
theorem poll2Dispatch_csa {X : String → Prop} {c : Conn} (h : ReadOK A c) (frame : Option Frame.Frame)
    (hf : ∀ g, frame = some g → WireOK g) : CSA A X c (ConnCtlP.poll2Dispatch (fun c => (c, .pending)) c frame).1 := by
  unfold ConnCtlP.poll2Dispatch
  have s1 := recvFrame_csa (A := A) (X := X) h.ok.ok h.cn h.ref h.pong frame hf
  obtain ⟨hset, hinv⟩ := (Conn.recvFrame_keeps c frame).2.2
  rcases hF : c.recvFrame frame with ⟨c1, r1⟩
  rw [hF] at s1 hset hinv
  dsimp only at s1 hset hinv
  cases r1 with
  | error e => exact s1
  | ok rf =>
    cases rf with
    | «continue» => exact s1
    | done => exact s1
    | settings a v =>
      dsimp only
      have s2 := recvSettings_csa (X := X) s1.ga (s1.fl h.ok.fl) a v (fun _ => by rw [hset]; exact h.rem)
        (fun _ => hf _ (hinv a v rfl))
      rcases hS : c1.recvSettings a v with ⟨c2, r2⟩
      rw [hS] at s2
      dsimp only at s2
      cases r2 with
      | error e => exact s1.trans s2
      | ok u => exact s1.trans s2

theorem takeError_csa {X : String → Prop} {c : Conn} (hi : GoAwayInv c) (o : Reason) (i : Initiator) : CSA A X c (c.takeError o i).1 := by
  have : (c.takeError o i).1 = { c with error := none } := by
    unfold Conn.takeError
    dsimp only
    repeat' split
    all_goals rfl
  rw [this]
  exact .same hi rfl rfl rfl rfl rfl

/-- the state in which a frame is read (`ConnPoll.Turn`): `close_now` is unset — `send_pending_go_away` would have ended the
    turn otherwise —, and `poll_ready` left no refused stream, no SETTINGS unanswered, no PONG owed -/
theorem readOK_of_turn {c0 c : Conn} (h0 : OKA A c0) (h : OKA A c) (ht : ConnPoll.Turn c0 c) : ReadOK A c := by
  obtain ⟨c1, st, e1, hst, e2⟩ := ht
  obtain ⟨-, g2, g3, -, -, -, -, -, -, g10⟩ := ConnCtlP.sendPendingGoAwayT_spec c0
  have hr := ConnCtlP.sendPendingGoAwayT_reason c0
  rw [ConnCtlP.sendPendingGoAwayT_fst, e1] at g2 g3 g10 hr
  dsimp only at g2 g3 g10 hr
  have hcn : c1.goAway.closeNow = false := by
    cases hc' : c1.goAway.closeNow with
    | false => rfl
    | true =>
      exfalso
      rcases hst with rfl | ⟨r, rfl, hns⟩
      · exact g10 ⟨by rw [← g2]; exact hc', h0.ok.ga.close_ga (by rw [← g2]; exact hc')⟩
      · have hp := hr r rfl
        simp [GoAway.shouldCloseNow, hp, hc'] at hns
  have i1 : GoAwayInv c1 := by
    have := (sendPendingGoAway_csa (A := A) (X := FuelMsg) h0.ok.ga).ga; rw [e1] at this; exact this
  have rem1 : ∀ v, c1.settings.remote = some v → ConnFlowP.SettingsOk v := by
    have := (sendPendingGoAway_csa (A := A) (X := FuelMsg) h0.ok.ga).rd h0.ok.rd; rw [e1] at this; exact this.rem
  obtain ⟨-, g1, hok⟩ := pollReady_csa (A := A) (X := FuelMsg) i1 rem1
  rw [e2] at g1 hok
  obtain ⟨a, b, d⟩ := hok rfl
  exact ⟨h, by rw [show c.goAway = c1.goAway from g1]; exact hcn, a, b, d⟩

/-- **the obligations of ConnPollRule** for "`c` is reached from `c0` by a step"; a frame is handed to `recv_frame` in a
    `ReadOK` state and is `WireOK` -/
theorem pollInv {c0 : Conn} (hc0 : OKA A c0) :
    ConnPoll.PollInv (fun c => CSA A FuelMsg c0 c)
      (fun c f => CSA A FuelMsg c0 c ∧ ReadOK A c ∧ ∀ g, f = some g → WireOK g) where
  panic := fun c m hm h => h.trans (panic_csa h.ga m hm)
  sendPendingGoAway := fun c h => h.trans (sendPendingGoAway_csa h.ga)
  pollReady := fun c h => h.trans (pollReady_csa h.ga (h.oka hc0).ok.rd.rem).1
  pollNext := fun c1 c n h1 h ht => by
    have hr := readOK_of_turn (h1.oka hc0) (h.oka hc0) ht
    obtain ⟨w1, w2, w3⟩ := pollNext_wire n c.codec c.cx ⟨hr.ok.ok.rd.max, hr.ok.ok.rd.need⟩
    have k0 := (Keep15.of_view (c := c) (c' := { c with codec := (pollNext n c.codec c.cx).1 }) rfl rfl).step h.ga
    have s0 : CSA A FuelMsg c { c with codec := (pollNext n c.codec c.cx).1 } :=
      ⟨⟨k0.1, k0.2, fun p hp => ⟨p, hp, rfl⟩, fun hn => ⟨w1.max, w1.need, hn.loc, hn.rem⟩⟩, id, .same rfl w2⟩
    refine ⟨h.trans s0, ⟨s0.oka hr.ok, hr.cn, hr.ref, hr.rem, hr.pong⟩, fun g hg => w3 g ?_⟩
    cases hp : (pollNext n c.codec c.cx).2 with
    | frame f => rw [hp] at hg; injection hg with hg; rw [hg]
    | _ => rw [hp] at hg; cases hg
  ofJ := fun _ _ h => h.1
  dispatch := fun c f h => h.1.trans (poll2Dispatch_csa h.2.1 f h.2.2)
  clearExpiredResetStreams := fun c n h =>
    h.trans (.viewKeep h.ga rfl (by simp) rfl rfl rfl (.op1 (.clearExpiredResetStreams n) trivial rfl rfl rfl))
  handlePoll2Result := fun c r h => h.trans (handlePoll2Result_csa h.ga r)
  pollComplete := fun c n h => h.trans (.viewKeep h.ga rfl (by simp) rfl rfl rfl (.pollComplete n c.codec.io c.cx .refl trivial))
  goAwayNow := fun c e h => h.trans (goAwayNow_csa h.ga e)
  shutdown := fun c h => h.trans (.viewKeep h.ga rfl rfl rfl rfl rfl (.w1 (.shutdownW _ _ _) rfl))
  closed := fun c r i h => h.trans (.same h.ga rfl rfl rfl rfl rfl)
  takeError := fun c o i h => h.trans (takeError_csa h.ga o i)
  wake := fun c h => h.trans (.viewKeep h.ga rfl (by simp) rfl rfl rfl (.op1 (.wake _) trivial rfl rfl rfl))

theorem poll2Loop_csa (fuel : Nat) {c : Conn} (hc : OKA A c) : CSA A FuelMsg c (Conn.poll2Loop fuel c).1 :=
  ConnPoll.poll2Loop_inv (pollInv hc) fuel (.refl hc.ok.ga)
theorem poll2_csa (fuel : Nat) {c : Conn} (hc : OKA A c) : CSA A FuelMsg c (Conn.poll2 fuel c).1 :=
  ConnPoll.poll2_inv (pollInv hc) fuel (.refl hc.ok.ga)
theorem protoPoll_csa (fuel : Nat) {c : Conn} (hc : OKA A c) : CSA A FuelMsg c (Conn.protoPoll fuel c).1 :=
  ConnPoll.protoPoll_inv (pollInv hc) fuel (.refl hc.ok.ga)
theorem clientPoll_csa (fuel : Nat) {c : Conn} (hc : OKA A c) : CSA A FuelMsg c (Conn.clientPoll fuel c).1 :=
  ConnPoll.clientPoll_inv (pollInv hc) fuel (.refl hc.ok.ga)

end H2V.Lemmas.ConnNoPanicP
