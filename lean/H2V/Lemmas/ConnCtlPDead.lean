import H2V.Lemmas.ConnCtlPAck
/-
  ConnCtlP — once `go_away_now` has run (`close_now` set) or the connection state left
  `Open`, `Connection::poll` reads no frame and acknowledges nothing any more: it only flushes the
  pending GOAWAY and closes.  Used by C14 (no second ACK after a failed `apply_remote_settings`) and
  by C15 (nothing is processed after an abrupt shutdown / a connection error).
-/
set_option autoImplicit false
set_option linter.unusedSimpArgs false
namespace H2V.Lemmas.ConnCtlP
open H2V H2V.Model H2V.Model.Conn

/-- `go_away_now` has run: the connection only flushes its GOAWAY and closes -/
def Halting (c : Conn) : Prop := c.goAway.closeNow = true ∧ c.goAway.goingAway.isSome = true

/-- the connection will not read any more -/
def Dead (c : Conn) : Prop := Halting c ∨ c.state ≠ .open

/-- the ack-relevant part of the state is the same -/
def SameAck (c c' : Conn) : Prop :=
  c'.settings.remote = c.settings.remote ∧ c'.pingPong.pendingPong = c.pingPong.pendingPong

theorem SameAck.refl (c : Conn) : SameAck c c := ⟨rfl, rfl⟩
theorem SameAck.trans {a b c : Conn} (h1 : SameAck a b) (h2 : SameAck b c) : SameAck a c :=
  ⟨h2.1.trans h1.1, h2.2.trans h1.2⟩

theorem GoAway.goAway_spec (g : GoAway) (f : GoAwayFrame) :
    (g.goAway f).1.goingAway = some { lastProcessedId := f.lastStreamId, reason := f.reason } ∧
    (g.goAway f).1.pending = some f ∧ (g.goAway f).1.closeNow = g.closeNow ∧
    (g.goAway f).1.isUserInitiated = g.isUserInitiated := ⟨rfl, rfl, rfl, rfl⟩

theorem GoAway.goAwayNow_halting (g : GoAway) (f : GoAwayFrame) :
    (g.goAwayNow f).1.closeNow = true ∧ (g.goAwayNow f).1.goingAway.isSome = true := by
  unfold GoAway.goAwayNow
  dsimp only
  cases hg : g.goingAway with
  | none => exact ⟨rfl, rfl⟩
  | some ga => dsimp only; split <;> simp [GoAway.goAway, hg]

theorem goAwayNowData_halting (c : Conn) (e : Reason) (d : Bytes) : Halting (c.goAwayNowData e d) := by
  unfold Conn.goAwayNowData
  dsimp only
  have := GoAway.goAwayNow_halting c.goAway { lastStreamId := c.streams.recv.lastProcessedId, reason := e, debugData := d }
  split <;> exact this

theorem goAwayNowData_same (c : Conn) (e : Reason) (d : Bytes) :
    (c.goAwayNowData e d).settings = c.settings ∧ (c.goAwayNowData e d).pingPong = c.pingPong ∧
    (c.goAwayNowData e d).state = c.state ∧ (c.goAwayNowData e d).error = c.error := by
  unfold Conn.goAwayNowData
  dsimp only
  split <;> exact ⟨rfl, rfl, rfl, rfl⟩

/-- a GOAWAY with this reason was announced already: the connection only goes to `Closing`; otherwise every stream is failed and
    `go_away_now` runs -/
theorem handleGoAway_cases (c : Conn) (r : Reason) (d : Bytes) (i : Initiator) :
    ((∃ ga, c.goAway.goingAway = some ga ∧ ga.reason = r) ∧ c.handleGoAway r d i = { c with state := .closing r i }) ∨
    c.handleGoAway r d i = ({ c with streams := (c.streams.handleError (.goAway d r i)).1 } : Conn).goAwayNowData r d := by
  unfold Conn.handleGoAway
  cases hg : c.goAway.goingAway with
  | none => right; simp
  | some ga =>
    by_cases hr : (ga.reason == r) = true
    · left; exact ⟨⟨ga, rfl, by simpa using hr⟩, by simp [hr]⟩
    · right; simp [hr]

theorem handleGoAway_spec (c : Conn) (r : Reason) (d : Bytes) (i : Initiator) :
    Dead (c.handleGoAway r d i) ∧ (c.handleGoAway r d i).settings = c.settings ∧
    (c.handleGoAway r d i).pingPong = c.pingPong ∧ (c.handleGoAway r d i).error = c.error := by
  rcases handleGoAway_cases c r d i with ⟨-, h⟩ | h <;> rw [h]
  · exact ⟨Or.inr (by simp), rfl, rfl, rfl⟩
  · obtain ⟨h1, h2, h3, h4⟩ := goAwayNowData_same { c with streams := (c.streams.handleError (.goAway d r i)).1 } r d
    exact ⟨Or.inl (goAwayNowData_halting _ r d), h1, h2, h4⟩

theorem Dead.of_goAway_state {c c' : Conn} (h : Dead c) (hg : c'.goAway = c.goAway) (hs : c'.state = c.state) : Dead c' := by
  rcases h with h | h
  · exact Or.inl (by unfold Halting at *; rw [hg]; exact h)
  · exact Or.inr (by rw [hs]; exact h)

theorem handlePoll2Result_same (c : Conn) (res : Except PErr Unit) :
    (c.handlePoll2Result res).1.settings = c.settings ∧ (c.handlePoll2Result res).1.pingPong = c.pingPong ∧
    (Dead c → Dead (c.handlePoll2Result res).1) := by
  unfold Conn.handlePoll2Result
  cases res with
  | ok u => exact ⟨rfl, rfl, fun _ => Or.inr (by simp)⟩
  | error e =>
    cases e with
    | goAway d r i =>
      obtain ⟨h1, h2, h3, -⟩ := handleGoAway_spec c r d i
      exact ⟨h2, h3, fun _ => h1⟩
    | reset id r i =>
      dsimp only
      split
      · exact ⟨rfl, rfl, fun hd => hd⟩
      · split
        · exact ⟨rfl, rfl, fun hd => hd.of_goAway_state rfl rfl⟩
        · rename_i s g hg
          obtain ⟨h1, h2, h3, -⟩ := handleGoAway_spec { c with streams := s } g.reason (Http.str g.debugData) .library
          exact ⟨h2, h3, fun _ => h1⟩
    | io kind msg =>
      dsimp only
      split
      · exact ⟨rfl, rfl, fun _ => Or.inr (by simp)⟩
      · exact ⟨rfl, rfl, fun hd => hd.of_goAway_state rfl rfl⟩

theorem handlePoll2Result_kills (c : Conn) (res : Except PErr Unit)
    (h : res = .ok () ∨ ∃ d r i, res = .error (.goAway d r i)) : Dead (c.handlePoll2Result res).1 := by
  rcases h with rfl | ⟨d, r, i, rfl⟩
  · exact Or.inr (by simp [Conn.handlePoll2Result])
  · exact (handleGoAway_spec c r d i).1

def OnlyGoAway (evs : List Ev) : Prop := ∀ e ∈ evs, (∃ f, e = .goAwaySent f) ∨ (∃ f, e = .goAwayLost f)

theorem OnlyGoAway.nil : OnlyGoAway [] := fun _ h => by cases h
theorem OnlyGoAway.append {a b : List Ev} (ha : OnlyGoAway a) (hb : OnlyGoAway b) : OnlyGoAway (a ++ b) := by
  intro e he
  rcases List.mem_append.mp he with h | h
  · exact ha e h
  · exact hb e h

theorem OnlyGoAway.quiet {evs : List Ev} (h : OnlyGoAway evs) :
    rxS evs = [] ∧ ackS evs = [] ∧ rxP evs = [] ∧ ansP evs = [] ∧ pongP evs = [] := by
  refine ⟨?_, ?_, ?_, ?_, ?_⟩ <;>
    exact List.filterMap_eq_nil_iff.2 fun e he => by rcases h e he with ⟨f, rfl⟩ | ⟨f, rfl⟩ <;> rfl

theorem OnlyGoAway.led {c c' : Conn} {evs : List Ev} (h : OnlyGoAway evs) (hs : SameAck c c') : Led c evs c' := by
  obtain ⟨q1, q2, q3, q4, -⟩ := h.quiet
  exact Led.of_same hs.1 hs.2 q1 q2 q3 q4

theorem sendPendingGoAwayT_spec (c : Conn) :
    OnlyGoAway (sendPendingGoAwayT c).2 ∧
    (sendPendingGoAwayT c).1.1.goAway.closeNow = c.goAway.closeNow ∧
    (sendPendingGoAwayT c).1.1.goAway.goingAway = c.goAway.goingAway ∧
    (sendPendingGoAwayT c).1.1.goAway.isUserInitiated = c.goAway.isUserInitiated ∧
    (sendPendingGoAwayT c).1.1.settings = c.settings ∧ (sendPendingGoAwayT c).1.1.pingPong = c.pingPong ∧
    (sendPendingGoAwayT c).1.1.state = c.state ∧ (sendPendingGoAwayT c).1.1.error = c.error ∧
    (sendPendingGoAwayT c).1.1.streams = c.streams ∧
    (Halting c → match (sendPendingGoAwayT c).1.2 with
      | .pending => True
      | .err _ => True
      | .reason _ => (sendPendingGoAwayT c).1.1.goAway.shouldCloseNow = true
      | .none => False) := by
  obtain ⟨k, p, e⟩ := sendPendingGoAwayT_frame c
  refine ⟨?_, by rw [e], by rw [e], by rw [e], by rw [e], by rw [e], by rw [e], by rw [e], by rw [e], ?_⟩
  · unfold sendPendingGoAwayT
    intro x hx
    (repeat' split at hx) <;> simp at hx
    · exact Or.inr ⟨_, hx⟩
    · exact Or.inl ⟨_, hx⟩
  · intro hh
    have hcn : (sendPendingGoAwayT c).1.1.goAway.closeNow = true := by rw [e]; exact hh.1
    unfold sendPendingGoAwayT at hcn ⊢
    cases hp : c.goAway.pending with
    | none =>
      dsimp only
      have hc : c.goAway.shouldCloseNow = true := by simp [GoAway.shouldCloseNow, hp, hh.1]
      rw [if_pos hc]
      cases hg : c.goAway.goingAway with
      | none => simp [Halting, hg] at hh
      | some ga => exact hc
    | some f =>
      rw [hp] at hcn
      dsimp only at hcn ⊢
      rcases h : c.codecPollReady with ⟨c1, st⟩
      rw [h] at hcn
      cases st with
      | pending => trivial
      | err _ => trivial
      | ok => simp [GoAway.shouldCloseNow] at hcn ⊢; exact hcn

theorem takeError_fst (c : Conn) (r : Reason) (i : Initiator) : (c.takeError r i).1 = { c with error := none } := by
  unfold Conn.takeError
  dsimp only
  (repeat' split) <;> rfl

theorem goAwayNow_halting (c : Conn) (e : Reason) : Halting (c.goAwayNow e) := goAwayNowData_halting c e []

theorem goAwayNow_same (c : Conn) (e : Reason) :
    (c.goAwayNow e).settings = c.settings ∧ (c.goAwayNow e).pingPong = c.pingPong ∧
    (c.goAwayNow e).state = c.state ∧ (c.goAwayNow e).error = c.error := goAwayNowData_same c e []

/-- what a dead connection still does: GOAWAY frames only, nothing owed changes -/
def DeadRun (c : Conn) (evs : List Ev) (c' : Conn) : Prop := OnlyGoAway evs ∧ SameAck c c'

theorem DeadRun.same {c c' : Conn} (hs : c'.settings = c.settings) (hp : c'.pingPong = c.pingPong) : DeadRun c [] c' :=
  ⟨OnlyGoAway.nil, by rw [hs], by rw [hp]⟩

/-- a connection that has run `go_away_now` never passes `send_pending_go_away` (`G1 = False`), so
    `poll2` reads nothing; outside `Open` only the transport is shut down -/
theorem deadRule : PollRule Dead Halting DeadRun (fun _ _ _ => False) (fun _ => False) (fun _ => False)
    (fun _ _ => False) (fun _ => False) where
  trans h1 h2 := ⟨h1.1.append h2.1, h1.2.trans h2.2⟩
  transF _ h := h
  panic c m hj := ⟨hj, DeadRun.same rfl rfl⟩
  goAway c hj := by
    obtain ⟨g1, g2, g3, -, g5, g6, -, -, -, g10⟩ := sendPendingGoAwayT_spec c
    refine ⟨by unfold Halting; rw [g2, g3]; exact hj, ⟨g1, by rw [g5], by rw [g6]⟩, fun hgo => ?_⟩
    have g10 := g10 hj
    rcases hgo with h | ⟨r, h, hn⟩
    · rw [h] at g10; exact g10
    · rw [h] at g10; rw [g10] at hn; cases hn
  ready _ _ hg := hg.elim
  next _ _ hg := hg.elim
  recv _ _ _ hg := hg.elim
  leave _ hj := Or.inl hj
  fuel c m hi := ⟨hi.of_goAway_state rfl rfl, DeadRun.same rfl rfl⟩
  enter c hi hs := ⟨hi.resolve_right fun h => h hs, DeadRun.same rfl rfl⟩
  result c res hj :=
    Or.inl ⟨(handlePoll2Result_same c res).2.2 (Or.inl hj), OnlyGoAway.nil,
      by rw [(handlePoll2Result_same c res).1], by rw [(handlePoll2Result_same c res).2.1]⟩
  failed _ _ _ _ _ h := h.elim
  dead _ _ _ _ h := h.elim
  complete _ c hj := ⟨hj, DeadRun.same rfl rfl⟩
  now c _ := ⟨Or.inl (goAwayNow_halting c _), DeadRun.same (goAwayNow_same c _).1 (goAwayNow_same c _).2.1⟩
  shut c r i _ hs :=
    ⟨⟨Or.inr (by simp [hs]), DeadRun.same rfl rfl⟩, Or.inr (by simp), DeadRun.same rfl rfl⟩
  closed c r i _ hs := by
    rw [takeError_fst]
    exact ⟨Or.inr (by simp [hs]), DeadRun.same rfl rfl⟩
  wake c hi := ⟨hi.of_goAway_state rfl rfl, DeadRun.same rfl rfl⟩
  wakeF _ _ _ h := h.elim

/-- **a dead connection acknowledges and reads nothing**: whatever `Connection::poll` still does
    (flush the GOAWAY, shut the transport down, report the error), the only frames it hands to the
    codec are GOAWAYs, and it stays dead -/
theorem protoPollT_dead (fuel : Nat) (c : Conn) (hd : Dead c) :
    OnlyGoAway (protoPollT fuel c).2 ∧ Dead (protoPollT fuel c).1.1 ∧ SameAck c (protoPollT fuel c).1.1 :=
  have ⟨i, q, s⟩ := (protoPollT_rule deadRule fuel c hd).ok fun _ _ _ => id
  ⟨q, i, s⟩

theorem clientPollT_dead (fuel : Nat) (c : Conn) (hd : Dead c) :
    OnlyGoAway (clientPollT fuel c).2 ∧ Dead (clientPollT fuel c).1.1 ∧ SameAck c (clientPollT fuel c).1.1 :=
  have ⟨i, q, s⟩ := (clientPollT_rule deadRule fuel c hd).ok fun _ _ _ => id
  ⟨q, i, s⟩

end H2V.Lemmas.ConnCtlP
