import H2V.Lemmas.ConnNoPanicPPollBase
/-
  C08 (no panic): `Prioritize::pop_pending_open`.  The `assert!(!stream.is_counted)` of
  `inc_num_send_streams` holds because a stream waiting in `pending_open` is not counted; that (and its
  sibling for promised streams, needed by `pop_frame`) is the invariant `Unc`: of the three flags
  `is_counted`, `is_pending_push`, `is_pending_open` a stream carries one at most.  It is kept by the
  whole write path (`FK.unc`), NOT derived from `NPI`: it enters the final statements as a hypothesis,
  in the queue form `OpenUncounted ∧ PushUncounted ∧ OpenNotPush` (`unc_iff`).
  For the PUSH_PROMISE arm of `pop_frame` two more facts about queued PUSH_PROMISE frames travel along:
  `PPU` (no promised id is announced twice) and `PPFresh` (the stream a queued PUSH_PROMISE announces is
  neither counted nor in `pending_open`).  `FI = Unc ∧ PPU ∧ PPFresh`, `PI = NPI ∧ ErrOK ∧ FI`.
-/
namespace H2V.Lemmas.ConnNoPanicP
open H2V H2V.Model H2V.Model.Conn H2V.Lemmas.ConnCountsP
attribute [local irreducible] wrapSubU32 wrapSubUsize

def One (x : Stream) : Prop :=
  (x.isPendingPush = true → x.isCounted = false ∧ x.isPendingOpen = false) ∧ (x.isPendingOpen = true → x.isCounted = false)

def Unc (s : Streams) : Prop := ∀ k, One (s.stream k)

theorem bool_false_of_impP {a b : Bool} (h : a = true → b = true) (hb : b = false) : a = false := by
  cases a
  · rfl
  · rw [h rfl] at hb; cases hb

theorem One.flg {a b : Stream} (h : One a) (f : Flg a b) : One b :=
  ⟨fun hp => ⟨bool_false_of_impP f.c (h.1 (f.pp hp)).1, bool_false_of_impP f.po (h.1 (f.pp hp)).2⟩,
   fun ho => bool_false_of_impP f.c (h.2 (f.po ho))⟩

theorem FK.unc {s s' : Streams} (h : FK s s') (hu : Unc s) : Unc s' := fun k => (hu k).flg (h.fl k)

def OpenUncounted (s : Streams) : Prop := ∀ k ∈ s.prio.pendingOpen, (s.stream k).isCounted = false
/-- a promised stream whose PUSH_PROMISE has not been written is not counted -/
def PushUncounted (s : Streams) : Prop := ∀ k, (s.stream k).isPendingPush = true → (s.stream k).isCounted = false
/-- a stream waiting in `pending_open` is not one whose PUSH_PROMISE is still to be written -/
def OpenNotPush (s : Streams) : Prop := ∀ k ∈ s.prio.pendingOpen, (s.stream k).isPendingPush = false

theorem flagged_of_flagP {s : Streams} {q : QName} {k : Nat} (h : (s.stream k).isQueued q = true) : Flagged q s k := by
  unfold Streams.stream at h
  cases hx : s.store.get? k with
  | some x => rw [hx] at h; exact ⟨x, hx, h⟩
  | none => rw [hx] at h; cases q <;> cases h

theorem unc_iff {s : Streams} (hq : QOK .pendingOpen s) : Unc s ↔ OpenUncounted s ∧ PushUncounted s ∧ OpenNotPush s := by
  have hfl : ∀ k, k ∈ s.prio.pendingOpen ↔ (s.stream k).isPendingOpen = true := by
    intro k
    constructor
    · intro hk
      obtain ⟨x, hx, hf⟩ := (hq.mem k).mp hk
      rw [stream_of_get? hx]; exact hf
    · intro hk; exact (hq.mem k).mpr (flagged_of_flagP (q := .pendingOpen) hk)
  constructor
  · intro hu
    refine ⟨fun k hk => (hu k).2 ((hfl k).mp hk), fun k hk => ((hu k).1 hk).1, fun k hk => ?_⟩
    cases hp : (s.stream k).isPendingPush with
    | false => rfl
    | true => have := ((hu k).1 hp).2; rw [(hfl k).mp hk] at this; cases this
  · rintro ⟨h1, h2, h3⟩ k
    refine ⟨fun hp => ⟨h2 k hp, ?_⟩, fun ho => h1 k ((hfl k).mpr ho)⟩
    cases ho : (s.stream k).isPendingOpen with
    | false => rfl
    | true => have := h3 k ((hfl k).mpr ho); rw [hp] at this; cases this

/-- promised ids of the PUSH_PROMISE frames queued on entry `k` -/
def ppq (s : Streams) (k : Nat) : List Nat := ppIdsOf (s.stream k).pendingSend

/-- no promised id is announced twice -/
structure PPU (s : Streams) : Prop where
  nodup : ∀ k, (ppq s k).Nodup
  disj : ∀ k k' pid, pid ∈ ppq s k → pid ∈ ppq s k' → k = k'

/-- the stream a queued PUSH_PROMISE announces is neither counted nor waiting in `pending_open` -/
def PPFresh (s : Streams) : Prop :=
  ∀ k pid, pid ∈ ppq s k → ∀ pushed, s.store.findKey? pid = some pushed →
    (s.stream pushed).isCounted = false ∧ (s.stream pushed).isPendingOpen = false

structure FI (s : Streams) : Prop where
  unc : Unc s
  ppu : PPU s
  ppf : PPFresh s

theorem FK.ppq_sub {s s' : Streams} (h : FK s s') (k : Nat) : (ppq s' k).Sublist (ppq s k) := (h.fl k).pps

theorem FK.fi {s s' : Streams} (h : FK s s') (hn : (s.store.ids.map (·.1)).Nodup) (hi : FI s) : FI s' := by
  refine ⟨h.unc hi.unc, ⟨fun k => (h.ppq_sub k).nodup (hi.ppu.nodup k), fun k k' pid h1 h2 =>
    hi.ppu.disj k k' pid ((h.ppq_sub k).subset h1) ((h.ppq_sub k').subset h2)⟩, ?_⟩
  intro k pid hp pushed hf
  have := hi.ppf k pid ((h.ppq_sub k).subset hp) pushed ((h.ids hn).2 pid pushed hf)
  exact ⟨bool_false_of_impP (h.fl pushed).c this.1, bool_false_of_impP (h.fl pushed).po this.2⟩

/-- a step that changes entry `k` only, keeps its `pending_send`, and leaves the id map alone
    (`inc_num_send_streams`, `pending_open.push`: the two steps that RAISE a flag) -/
structure Raise (k : Nat) (s s' : Streams) : Prop where
  other : ∀ j, j ≠ k → s'.stream j = s.stream j
  send : (s'.stream k).pendingSend = (s.stream k).pendingSend
  ids : s'.store.ids = s.store.ids

theorem Raise.of_store {k : Nat} {s s' : Streams} (h : s'.store = s.store) : Raise k s s' :=
  ⟨fun j _ => by unfold Streams.stream; rw [h], by unfold Streams.stream; rw [h], by rw [h]⟩
theorem Raise.trans {k : Nat} {a b c : Streams} (h1 : Raise k a b) (h2 : Raise k b c) : Raise k a c :=
  ⟨fun j hj => (h2.other j hj).trans (h1.other j hj), h2.send.trans h1.send, h2.ids.trans h1.ids⟩
theorem Raise.modStream (s : Streams) (k : Nat) (f : Stream → Stream) (hk : ∀ x, (f x).key = x.key)
    (hs : ∀ x, (f x).pendingSend = x.pendingSend) : Raise k s (s.modStream k f) := by
  unfold Streams.modStream
  split
  · next st hst =>
    have hkey : (f st).key = k := (hk st).trans (get?_key hst)
    refine ⟨fun j hj => ?_, ?_, rfl⟩
    · rcases setStream_stream s (f st) j with e | ⟨_, hj', _⟩
      · exact e
      · exact absurd (hj'.trans hkey) hj
    · rcases setStream_stream s (f st) k with e | ⟨e, _, _⟩
      · rw [e]
      · rw [e, hs, stream_of_get? hst]
  · exact .of_store (panic_store _ _)

theorem Raise.ppq_eq {k : Nat} {s s' : Streams} (h : Raise k s s') (j : Nat) : ppq s' j = ppq s j := by
  unfold ppq
  by_cases hj : j = k
  · subst hj; rw [h.send]
  · rw [h.other j hj]

theorem Raise.fi {k : Nat} {s s' : Streams} (h : Raise k s s') (hi : FI s) (h1 : One (s'.stream k))
    (hr : ∀ k' pid, pid ∈ ppq s k' → s.store.findKey? pid ≠ some k) : FI s' := by
  refine ⟨fun j => ?_, ⟨fun j => by rw [h.ppq_eq]; exact hi.ppu.nodup j, fun a b pid ha hb => ?_⟩, ?_⟩
  · by_cases hj : j = k
    · subst hj; exact h1
    · rw [h.other j hj]; exact hi.unc j
  · rw [h.ppq_eq] at ha hb; exact hi.ppu.disj a b pid ha hb
  · intro k' pid hp pushed hf
    rw [h.ppq_eq] at hp
    have hf' : s.store.findKey? pid = some pushed := by unfold Store.findKey? at hf ⊢; rw [← h.ids]; exact hf
    have hne : pushed ≠ k := fun e => hr k' pid hp (e ▸ hf')
    rw [h.other pushed hne]
    exact hi.ppf k' pid hp pushed hf'

/-- the bundle the write path keeps -/
structure PI (E : Nat → Prop) (s : Streams) : Prop where
  npi : NPI E s
  err : ErrOK s
  fi : FI s

theorem PI.lt {E : Nat → Prop} {ks : List Nat} {s s' : Streams} (h : PI E s) (hlt : LT ks s s') (hl : LiveAll s ks)
    (e : EvB false s s') (hf : FK s s') : PI E s' :=
  ⟨h.npi.lt hlt.w hl e noE, hlt.err.errOK h.err, hf.fi h.npi.ids.nodup h.fi⟩

theorem PI.ta {E : Nat → Prop} {s : Streams} (h : PI E s) (k : Nat) (b : Bool)
    (hb : b = true → (s.stream k).resetAt = true) : PI E (s.transitionAfter k b) :=
  ⟨transitionAfter_npi h.npi h.err k b hb, (transitionAfter_errSame s k b).errOK h.err,
   (transitionAfter_fk s k b).fi h.npi.ids.nodup h.fi⟩

theorem qPopQ_live {s : Streams} {q : QName} (hq : QOK q s) {s' : Streams} {id : Nat}
    (h : s.qPop q = (s', some id)) : Live s id ∧ Live s' id ∧ (s'.stream id).isQueued q = false := by
  obtain ⟨hl, hl'⟩ := qPop_live hq.live h
  obtain ⟨r, _, rfl⟩ := Streams.qPop_eq_some h
  refine ⟨hl, hl', ?_⟩
  rw [stream_modStream_live (live_setQ.mpr hl) _ (fun x => setQueued_key x _ _)]
  cases q <;> rfl

theorem qPop_ltq (s : Streams) (q : QName) (hq : QOK q s) : LT [] s (s.qPop q).1 := qPop_lt s q fun _ => hq.live

/-- composing light steps when the keys of the second one are only known to be live in between -/
theorem LT.trans_live {ks ks' : List Nat} {a b c : Streams} (h1 : LT ks a b) (h2 : LT ks' b c)
    (hl : LiveAll a ks → NPQ a → LiveAll b ks') : LT ks a c :=
  ⟨h1.keys.trans h2.keys, h2.ids.trans h1.ids, h1.sid.trans h2.sid, h1.ref.trans h2.ref, h1.err.trans h2.err,
   fun hla hq => h2.ok (hl hla hq) (h1.ok hla hq)⟩

theorem incNumSendStreams_raise (s : Streams) (k : Nat) : Raise k s (s.incNumSendStreams k) := by
  rw [Streams.incNumSendStreams_eq]
  exact (Raise.of_store (Streams.incNumSendStreamsC_store s k)).trans (Raise.modStream _ k _ (fun _ => rfl) (fun _ => rfl))

theorem incNumSendStreams_stream {s : Streams} {k : Nat} (hl : Live s k) (h1 : s.counts.canIncNumSendStreams = true)
    (h2 : (s.stream k).isCounted = false) : (s.incNumSendStreams k).stream k = { s.stream k with isCounted := true } := by
  unfold Streams.incNumSendStreams
  simp only [h1, h2, if_true, Bool.false_eq_true, if_false]
  have hg : (s.modCounts fun c => { c with numSendStreams := c.numSendStreams + 1 }).store.get? k = some (s.stream k) := hl.stream
  exact stream_of_get? (modStream_get?_self _ k _ _ hg rfl)

theorem incNumSendStreams_fi {s : Streams} (hi : FI s) {k : Nat} (hl : Live s k)
    (h1 : s.counts.canIncNumSendStreams = true) (h2 : (s.stream k).isCounted = false)
    (h3 : (s.stream k).isPendingPush = false) (h4 : (s.stream k).isPendingOpen = false)
    (hr : ∀ k' pid, pid ∈ ppq s k' → s.store.findKey? pid ≠ some k) : FI (s.incNumSendStreams k) := by
  refine (incNumSendStreams_raise s k).fi hi ?_ hr
  rw [incNumSendStreams_stream hl h1 h2]
  refine ⟨fun hp => ?_, fun ho => ?_⟩
  · have hp' : (s.stream k).isPendingPush = true := hp
    rw [h3] at hp'; cases hp'
  · have ho' : (s.stream k).isPendingOpen = true := ho
    rw [h4] at ho'; cases ho'

theorem popOpen_flags {s s1 : Streams} {id : Nat} (hq : QOK .pendingOpen s) (hu : Unc s)
    (heq : s.qPop .pendingOpen = (s1, some id)) :
    (s.stream id).isPendingOpen = true ∧ (s1.stream id).isCounted = false ∧ (s1.stream id).isPendingPush = false := by
  have hfk : FK s s1 := of_fst_eq heq (qPop_fk s _)
  have hfl : (s.stream id).isPendingOpen = true := by
    have hm : id ∈ s.getQ .pendingOpen := by
      unfold Streams.qPop at heq
      split at heq
      · cases heq
      · next id' rest hq' => cases heq; rw [hq']; exact List.mem_cons_self ..
    obtain ⟨x, hx, hf⟩ := (hq.mem id).mp hm
    rw [stream_of_get? hx]; exact hf
  refine ⟨hfl, bool_false_of_impP (hfk.fl id).c ((hu id).2 hfl), ?_⟩
  cases hp : (s.stream id).isPendingPush with
  | false => exact bool_false_of_impP (hfk.fl id).pp hp
  | true => have := ((hu id).1 hp).2; rw [hfl] at this; cases this

/-- `pop_pending_open` is a light step (`assert!(!stream.is_counted)` holds by `Unc`), the popped key is live -/
theorem popPendingOpen_lt {s : Streams} (hq : QOK .pendingOpen s) (hu : Unc s) :
    LT [] s s.popPendingOpen.1 ∧ (∀ id, s.popPendingOpen.2 = some id → Live s.popPendingOpen.1 id) := by
  unfold Streams.popPendingOpen
  split
  · next hc =>
    split
    · next s1 id heq =>
      dsimp only
      have hl := qPopQ_live hq heq
      have hc1 : s1.counts.canIncNumSendStreams = true := by
        have : s1.counts = s.counts := by
          have := Streams.qPop_counts s .pendingOpen; rw [heq] at this; exact this
        rw [this]; exact hc
      have hlt2 : LT [id] s1 (s1.incNumSendStreams id) := incNumSendStreams_lt s1 id hc1 (popOpen_flags hq hu heq).2.1
      have hlt3 : LT [id] (s1.incNumSendStreams id) ((s1.incNumSendStreams id).modStreamW id Stream.notifySend) :=
        modStreamW_lt _ _ _ (fun _ => by inert_tac)
      have hlt23 := hlt2.trans hlt3 (fun _ h => h)
      refine ⟨(of_fst_eq heq (qPop_ltq s _ hq)).trans_live hlt23 (fun _ _ => liveAll1 hl.2.1), ?_⟩
      intro id' hid'
      cases hid'
      exact hlt23.keys.live.mpr hl.2.1
    · next s1 heq => exact ⟨of_fst_eq heq (qPop_ltq s _ hq), fun _ h => by cases h⟩
  · exact ⟨.refl _ _, fun _ h => by cases h⟩

/-- **`Prioritize::pop_pending_open` keeps `NPI`** (task form: the flag facts as queue statements) -/
theorem popPendingOpen_npi {E : Nat → Prop} {s : Streams} (h : NPI E s) (h1 : OpenUncounted s)
    (h2 : PushUncounted s) (h3 : OpenNotPush s) : NPI E s.popPendingOpen.1 :=
  have hq := h.qs .pendingOpen (by decide)
  h.lt (popPendingOpen_lt hq ((unc_iff hq).mpr ⟨h1, h2, h3⟩)).1.w (liveAll0 s) (popPendingOpen_ev (ρ := false) s) noE

/-- **`Prioritize::pop_pending_open` keeps the bundle**, and the popped key is live -/
theorem popPendingOpen_pi {E : Nat → Prop} {s : Streams} (h : PI E s) :
    PI E s.popPendingOpen.1 ∧ (∀ id, s.popPendingOpen.2 = some id → Live s.popPendingOpen.1 id) := by
  have hq := h.npi.qs .pendingOpen (by decide)
  have hlt := popPendingOpen_lt hq h.fi.unc
  refine ⟨⟨h.npi.lt hlt.1.w (liveAll0 s) (popPendingOpen_ev (ρ := false) s) noE, hlt.1.err.errOK h.err, ?_⟩, hlt.2⟩
  unfold Streams.popPendingOpen
  split
  · next hc =>
    split
    · next s1 id heq =>
      dsimp only
      have hl := qPopQ_live hq heq
      have hfk : FK s s1 := of_fst_eq heq (qPop_fk s _)
      have hc1 : s1.counts.canIncNumSendStreams = true := by
        have : s1.counts = s.counts := by
          have := Streams.qPop_counts s .pendingOpen; rw [heq] at this; exact this
        rw [this]; exact hc
      have hf := popOpen_flags hq h.fi.unc heq
      have hr : ∀ k' pid, pid ∈ ppq s1 k' → s1.store.findKey? pid ≠ some id := by
        intro k' pid hp hf'
        have := (h.fi.ppf k' pid ((hfk.ppq_sub k').subset hp) id ((hfk.ids h.npi.ids.nodup).2 pid id hf')).2
        rw [hf.1] at this; cases this
      have hfi2 := incNumSendStreams_fi (hfk.fi h.npi.ids.nodup h.fi) hl.2.1 hc1 hf.2.1 hf.2.2 hl.2.2 hr
      have hn2 : ((s1.incNumSendStreams id).store.ids.map (·.1)).Nodup := by
        rw [(incNumSendStreams_raise s1 id).ids]; exact (hfk.ids h.npi.ids.nodup).1
      exact (modStreamW_fk _ _ _ (fun _ => by flg_tac)).fi hn2 hfi2
    · next s1 heq => exact (of_fst_eq heq (qPop_fk s _)).fi h.npi.ids.nodup h.fi
  · exact h.fi

end H2V.Lemmas.ConnNoPanicP
