import Lean.Elab.Tactic
import H2V.Lemmas.ConnResetPBase
/-
  ConnResetP — the `Evolves` relation: how the slab entries relate before and after an operation.
  `Evolves P N a b` (on stores) says: every entry of `b` either evolved (relation `P`) from the
  entry of `a` with the same key, or carries a key `a` had not handed out yet and satisfies `N`.
  Entries may disappear.  With a reflexive/transitive `P` this composes along any sequence of
  model operations; invariants and monotone quantities of single streams are lifted to whole
  histories through it.
-/
namespace H2V.Lemmas.ConnResetP
open H2V H2V.Model H2V.Model.Conn

/-- the fields of a stream the send-side life-cycle arguments look at, and the handle count -/
structure CoreEq (a b : Stream) : Prop where
  key : b.key = a.key
  id : b.id = a.id
  state : b.state = a.state
  pendingSend : b.pendingSend = a.pendingSend
  refCount : b.refCount = a.refCount

theorem CoreEq.rfl' (a : Stream) : CoreEq a a := ⟨rfl, rfl, rfl, rfl, rfl⟩

/-- a slab entry may only be dropped once nothing is queued on it any more -/
def Removable (st : Stream) : Prop := st.pendingSend = [] ∧ st.refCount = 0

theorem CoreEq.trans {a b c : Stream} (h1 : CoreEq a b) (h2 : CoreEq b c) : CoreEq a c :=
  ⟨h2.key.trans h1.key, h2.id.trans h1.id, h2.state.trans h1.state, h2.pendingSend.trans h1.pendingSend,
   h2.refCount.trans h1.refCount⟩

/-- what the framework needs of a per-stream step relation `P` and a new-stream predicate `N` -/
class Good (P : Stream → Stream → Prop) (N : outParam (Stream → Prop)) : Prop where
  trans : ∀ {a b c}, P a b → P b c → P a c
  new : ∀ {a b}, N a → P a b → N b
  /-- a change outside the core fields is always allowed (in particular `P` is reflexive) -/
  core : ∀ {a b}, CoreEq a b → P a b
  key : ∀ {a b}, P a b → b.key = a.key

theorem Good.refl {P N} [Good P N] (a : Stream) : P a a := Good.core (CoreEq.rfl' a)

structure Evolves (P : Stream → Stream → Prop) (N : Stream → Prop) (a b : Store) : Prop where
  nk : a.nextKey ≤ b.nextKey
  back : ∀ k st', b.get? k = some st' →
      (∃ st, a.get? k = some st ∧ P st st') ∨ (a.nextKey ≤ k ∧ k < b.nextKey ∧ N st')
  /-- an entry of `a` is still there, or it evolved into an entry with an empty queue (and was dropped) -/
  fwd : ∀ k st, a.get? k = some st → k < a.nextKey →
      (∃ st', b.get? k = some st' ∧ P st st') ∨ (∃ st'', P st st'' ∧ Removable st'')

theorem Store.get?_mod' (S : Store) (id : Nat) (f : Stream → Stream) (hf : ∀ x, (f x).key = x.key) (k : Nat) :
    (Store.mod S id f).get? k = if k = id then (S.get? id).map f else S.get? k :=
  Conn.Store.get?_mod S id f hf k

@[simp] theorem Store.nextKey_mod (st : Store) (id : Nat) (f : Stream → Stream) : (Store.mod st id f).nextKey = st.nextKey :=
  Conn.Store.mod_nextKey st id f
@[simp] theorem Store.ids_mod (st : Store) (id : Nat) (f : Stream → Stream) : (Store.mod st id f).ids = st.ids :=
  Conn.Store.mod_ids st id f

section generic
variable {P : Stream → Stream → Prop} {N : Stream → Prop} [Good P N]

theorem Evolves.refl (a : Store) : Evolves P N a a :=
  ⟨Nat.le_refl _, fun _ st' h => .inl ⟨st', h, Good.refl st'⟩, fun _ st h _ => .inl ⟨st, h, Good.refl st⟩⟩

theorem Evolves.trans {a b c : Store} (h1 : Evolves P N a b) (h2 : Evolves P N b c) : Evolves P N a c := by
  refine ⟨Nat.le_trans h1.nk h2.nk, fun k st'' h => ?_, fun k st h hlt => ?_⟩
  · rcases h2.back k st'' h with ⟨st', hb, p2⟩ | ⟨hk, hlt, n⟩
    · rcases h1.back k st' hb with ⟨st, ha, p1⟩ | ⟨hk, hlt, n⟩
      · exact .inl ⟨st, ha, Good.trans p1 p2⟩
      · exact .inr ⟨hk, Nat.lt_of_lt_of_le hlt h2.nk, Good.new n p2⟩
    · exact .inr ⟨Nat.le_trans h1.nk hk, hlt, n⟩
  · rcases h1.fwd k st h hlt with ⟨st', hb, p1⟩ | ⟨st'', p, d⟩
    · rcases h2.fwd k st' hb (Nat.lt_of_lt_of_le hlt h1.nk) with ⟨st2, hc, p2⟩ | ⟨st'', p, d⟩
      · exact .inl ⟨st2, hc, Good.trans p1 p2⟩
      · exact .inr ⟨st'', Good.trans p1 p, d⟩
    · exact .inr ⟨st'', p, d⟩

theorem Evolves.set {a b : Store} (h : Evolves P N a b) (x : Stream)
    (hx : ∀ st, b.get? x.key = some st → P st x) : Evolves P N a (b.set x) := by
  refine h.trans ⟨Nat.le_refl _, fun k st' hk => ?_, fun k st hk _ => ?_⟩
  · rw [Store.get?_set] at hk
    split at hk
    · next e =>
      cases hg : b.get? k with
      | none => rw [hg] at hk; cases hk
      | some st =>
        rw [hg] at hk; simp only [Option.map_some, Option.some.injEq] at hk
        subst hk; subst e
        exact .inl ⟨st, rfl, hx st hg⟩
    · exact .inl ⟨st', hk, Good.refl st'⟩
  · rw [Store.get?_set]
    split
    · next e => subst e; rw [hk]; exact .inl ⟨x, rfl, hx st hk⟩
    · exact .inl ⟨st, hk, Good.refl st⟩

theorem Evolves.mod {a b : Store} (h : Evolves P N a b) (id : Nat) (f : Stream → Stream)
    (hf : ∀ st, b.get? id = some st → P st (f st)) : Evolves P N a (Store.mod b id f) := by
  unfold Store.mod
  cases hg : b.get? id with
  | none => exact h
  | some st =>
    have hp := hf st hg
    have hkey : (f st).key = id := by rw [Good.key hp, Store.get?_key hg]
    exact h.set _ (fun st1 h1 => by rw [hkey, hg] at h1; cases h1; exact hp)

omit [Good P N] in
theorem Evolves.unlink {a b : Store} (h : Evolves P N a b) (id : Nat) : Evolves P N a (b.unlink id) :=
  ⟨h.nk, fun k st' hk => h.back k st' hk, fun k st hk hlt => h.fwd k st hk hlt⟩

omit [Good P N] in
theorem Evolves.remove {a b : Store} (h : Evolves P N a b) (k : Nat)
    (hD : k < a.nextKey → ∀ st, b.get? k = some st → Removable st) : Evolves P N a (b.remove k) := by
  refine ⟨h.nk, fun k' st' hk => ?_, fun k' st hk hlt => ?_⟩
  · rw [Store.get?_remove] at hk
    split at hk
    · cases hk
    · exact h.back k' st' hk
  · rcases h.fwd k' st hk hlt with ⟨st', hb, p⟩ | r
    · rw [Store.get?_remove]
      split
      · next e => subst e; exact .inr ⟨st', p, hD hlt st' hb⟩
      · exact .inl ⟨st', hb, p⟩
    · exact .inr r

omit [Good P N] in
theorem Evolves.remove_new {a b0 b : Store} (h0 : Evolves P N a b0) (h : Evolves P N a b) (k : Nat)
    (hk : b0.nextKey ≤ k) : Evolves P N a (b.remove k) :=
  h.remove k (fun hlt => absurd (Nat.lt_of_lt_of_le hlt h0.nk) (Nat.not_lt.mpr hk))

theorem Evolves.insert {a b : Store} (h : Evolves P N a b) (x : Stream)
    (hx : N { x with key := b.nextKey }) : Evolves P N a (b.insert x).1 := by
  refine h.trans ⟨Nat.le_succ _, fun k st' hk => ?_, fun k st hk _ => ?_⟩
  · unfold Store.insert Store.get? at hk
    simp only [List.find?_append] at hk
    cases hg : b.slab.find? (·.key == k) with
    | some y =>
      rw [hg] at hk; simp only [Option.some_or, Option.some.injEq] at hk
      subst hk; exact .inl ⟨y, hg, Good.refl y⟩
    | none =>
      rw [hg] at hk; simp only [Option.none_or, List.find?_cons, List.find?_nil] at hk
      split at hk
      · next hb =>
        simp only [Option.some.injEq] at hk
        subst hk
        have : b.nextKey = k := by simpa using hb
        exact .inr ⟨by omega, by simp only [Store.insert_nextKey]; omega, hx⟩
      · cases hk
  · refine .inl ⟨st, ?_, Good.refl st⟩
    unfold Store.get? at hk
    unfold Store.insert Store.get?
    simp only [List.find?_append, hk, Option.some_or]

end generic

theorem Evolves.ite {P N} {a : Store} {c : Prop} [Decidable c] {A B : Streams}
    (hA : c → Evolves P N a A.store) (hB : ¬c → Evolves P N a B.store) :
    Evolves P N a (if c then A else B).store := by
  split
  · exact hA ‹_›
  · exact hB ‹_›

theorem Evolves.ite_fst {P N} {a : Store} {c : Prop} [Decidable c] {α : Type} {A B : Streams × α}
    (hA : c → Evolves P N a A.1.store) (hB : ¬c → Evolves P N a B.1.store) :
    Evolves P N a (if c then A else B).1.store := by
  split
  · exact hA ‹_›
  · exact hB ‹_›

def AllStreams (I : Stream → Prop) (a : Store) : Prop := ∀ k st, a.get? k = some st → I st

theorem Evolves.allStreams {P N} {I : Stream → Prop} {a b : Store} (h : Evolves P N a b)
    (hP : ∀ x y, I x → P x y → I y) (hN : ∀ x, N x → I x) (hs : AllStreams I a) : AllStreams I b := by
  intro k st' hk
  rcases h.back k st' hk with ⟨st, ha, p⟩ | ⟨_, _, n⟩
  · exact hP _ _ (hs k st ha) p
  · exact hN _ n

/-- every key in use is below `nextKey` (so that a key is never handed out twice) -/
def KeysBelow (a : Store) : Prop := ∀ k st, a.get? k = some st → k < a.nextKey

theorem Evolves.keysBelow {P N} {a b : Store} (h : Evolves P N a b) (ha : KeysBelow a) : KeysBelow b := by
  intro k st' hk
  rcases h.back k st' hk with ⟨st, hg, _⟩ | ⟨_, hlt, _⟩
  · exact Nat.lt_of_lt_of_le (ha k st hg) h.nk
  · exact hlt

theorem Evolves.same_key {P N} {a b : Store} (h : Evolves P N a b) {k : Nat} {st' : Stream}
    (hk : b.get? k = some st') (hlt : k < a.nextKey) : ∃ st, a.get? k = some st ∧ P st st' := by
  rcases h.back k st' hk with r | ⟨hge, _, _⟩
  · exact r
  · omega

open Lean Elab Tactic Meta

/-- for every hypothesis `h : e = (x, …)` with `x` a local variable: replace `x` by `e.1` everywhere -/
elab "subst_fst" : tactic => withMainContext do
  let lctx ← getLCtx
  for d in lctx do
    if d.isImplementationDetail then continue
    let ty ← instantiateMVars d.type
    if let some (_, lhs, rhs) := ty.eq? then
      if rhs.isAppOfArity ``Prod.mk 4 && (rhs.getArg! 2).isFVar && !(lhs.containsFVar (rhs.getArg! 2).fvarId!) then
        let hStx ← Term.exprToSyntax d.toExpr
        evalTactic (← `(tactic| (have h' := congrArg Prod.fst $hStx; dsimp only at h'; subst h')))
        return
  throwError "subst_fst: no hypothesis of the form e = (x, _)"

/-- the base of a chain of projections `.store` / `.1`, when it is a local variable (possibly applied
    to arguments: a local function definition) -/
partial def projBase (e : Expr) : Option ((Expr → Expr) × FVarId × Array Expr) :=
  match e with
  | .fvar id => some (fun x => x, id, #[])
  | .mdata _ b => projBase b
  | .proj n i b => (projBase b).map fun (c, f) => (fun x => .proj n i (c x), f)
  | .app f b =>
    if e.isAppOfArity ``Streams.store 1 || e.isAppOfArity ``Prod.fst 3 then
      (projBase b).map fun (c, fv) => (fun x => .app f (c x), fv)
    else if e.getAppFn.isFVar then some (fun x => x, e.getAppFn.fvarId!, e.getAppArgs)
    else none
  | _ => none

/-- the goals `ev` works on: `Evolves P N a E.store` (the relation, `E` under `.store`) or `I E` for a
    one-place invariant `I` of `Streams` named `QInv`: the prefix, the expression, and how to wrap a
    `Streams` term for a side goal -/
def goalParts (ty : Expr) : Option (Expr × Expr × (Expr → Expr)) :=
  let ty := ty.consumeMData
  if ty.isAppOfArity ``Evolves 4 then
    some (ty.appFn!, ty.appArg!, fun x => mkApp (mkConst ``Streams.store) x)
  else if ty.isApp && ty.getAppFn.constName? == some `H2V.Lemmas.ConnResetP.QInv && ty.getAppNumArgs == 1 then
    some (ty.appFn!, ty.appArg!, fun x => x)
  else none

/-- goal `Evolves P N a x.store` with `x` a local definition (`x : Streams := v`): unfold `x` -/
elab "ev_unfold" : tactic => do
  let g ← getMainGoal
  g.withContext do
    let ty := (← instantiateMVars (← g.getType)).consumeMData
    let some (pre, E, _) := goalParts ty | throwError "ev_unfold: not an Evolves goal"
    match projBase E with
    | some (ctx, fv, args) =>
      match (← fv.getDecl).value? with
      | some v =>
        let g' ← g.replaceTargetDefEq (mkApp pre (ctx (v.beta args)))
        replaceMainGoal [g']
      | none => throwError "ev_unfold: not a local definition"
    | none => throwError "ev_unfold: no local variable"

/-- pull all `let`s of the goal into the context; for every new local definition `x : Streams := v`
    add the hypothesis `Evolves P N a x.store` (as a new first goal) so that `x` is dealt with once -/
elab "ev_lets" : tactic => do
  let before := (← (← getMainGoal).getDecl).lctx
  evalTactic (← `(tactic| extract_lets))
  let g ← getMainGoal
  let ty := (← instantiateMVars (← g.getType)).consumeMData
  let some (pre, _, wrap) := goalParts ty | return
  let lctx := (← g.getDecl).lctx
  -- local definitions that are neither `Streams` nor `Streams × _` values go back into the goal (they are small)
  let isPair (t : Expr) : Bool := t.isAppOfArity ``Prod 2 && (t.getArg! 0).isConstOf ``Streams
  let mut main := g
  let mut tgt ← instantiateMVars (← main.getType)
  for d in lctx.decls.toList.reverse.filterMap id do
    if d.isImplementationDetail then continue
    if before.contains d.fvarId then continue
    if d.type.isConstOf ``Streams || isPair d.type then continue
    match d.value? with
    | some v => tgt := tgt.replaceFVar d.toExpr v
    | none => continue
  tgt ← Core.betaReduce tgt
  main ← main.replaceTargetDefEq tgt
  let mut side : List MVarId := []
  let mut pairs : List FVarId := []
  for d in lctx do
    if d.isImplementationDetail then continue
    if before.contains d.fvarId then continue
    if d.value?.isNone then continue
    unless d.type.isConstOf ``Streams || isPair d.type do continue
    let base ← if isPair d.type then
        main.withContext <| mkAppM ``Prod.fst #[d.toExpr]
      else pure d.toExpr
    if isPair d.type then pairs := pairs ++ [d.fvarId]
    let T := mkApp pre (wrap base)
    let hm ← main.withContext <| mkFreshExprSyntheticOpaqueMVar T
    let main' ← main.assert `hlet T hm
    let (_, main'') ← main'.intro1P
    side := side ++ [hm.mvarId!]
    main := main''
  -- a pair is only used through `match`: forget its value so that `split` can take it apart
  for fv in pairs.reverse do
    try main ← main.clearValue fv catch _ => pure ()
  replaceMainGoal (side ++ [main])

/-- closes `CoreEq a b` when `b` is `a` with non-core fields changed -/
syntax "core_tac" : tactic
macro_rules | `(tactic| core_tac) => `(tactic| first | exact ⟨rfl, rfl, rfl, rfl, rfl⟩ | (constructor <;> simp <;> done))

/-- the hypotheses of an `_ev` / `_sr` lemma that are not `Evolves` statements: a fact in the context, or one
    that holds by computation -/
syntax "ev_side" : tactic
macro_rules | `(tactic| ev_side) => `(tactic| first | with_reducible assumption | rfl)

/-- a step on `Evolves P N a S` with `S` built by a store primitive (`Store.mod`, `set`, `unlink`, `insert`);
    the later files add the ways in which the entry concerned may change -/
syntax "ev_store" : tactic
macro_rules
  | `(tactic| ev_store) => `(tactic| (with_reducible refine Evolves.mod ?_ _ _ ?hf; case hf => (intro _ _; refine Good.core ?_; core_tac)))
macro_rules | `(tactic| ev_store) => `(tactic| with_reducible apply Evolves.unlink)

/-- one backward step on a goal `Evolves P N a E.store` (or `QInv E`), chosen by the head function `f` of `E`.
    A store primitive or a record update: `ev_store`; an `if`: `Evolves.ite`, `Evolves.ite_fst`.  Otherwise the lemma about `f` is found by name —
    `f_ev` (any `Good P N`), `f_sr` (for `SRel`), `QInv.f` / `f_qi` (for `QInv`), in this namespace — and
    applied; of the goals it leaves, those of the same form (possibly under binders) are handed back, the
    others must fall to `ev_side`.  Failing that, `Streams.f_step` through `Evolves.of_step_sr` / `Evolves.of_step_core`
    (the footprint of `f` must lie in the kinds that lemma allows: `decide`); failing that, a hypothesis with such a
    conclusion (induction hypotheses, closures) is applied. -/
elab "ev_step" : tactic => withMainContext do
  let g ← getMainGoal
  let ty := (← instantiateMVars (← g.getType)).consumeMData
  let some (_, E, _) := goalParts ty | throwError "ev_step: not an Evolves goal"
  let rec headFn (e : Expr) (fuel : Nat) : Option Name :=
    match fuel, e with
    | 0, _ => none
    | fuel + 1, .mdata _ b => headFn b fuel
    | fuel + 1, .proj _ _ b => headFn b fuel
    | fuel + 1, e =>
      if e.isAppOfArity ``Streams.store 1 || e.isAppOfArity ``Prod.fst 3 then headFn e.appArg! fuel
      else e.getAppFn.constName?
  let ns := `H2V.Lemmas.ConnResetP
  let mut cands : List Name := []
  if let some (.str _ last) := headFn E 8 then
    if last == "mk" && ty.isAppOf ``Evolves then throwError "ev_step: record update, to be reduced by the `.store` lemmas"
    if ["mod", "set", "insert", "unlink", "remove", "mk"].contains last then
      evalTactic (← `(tactic| ev_store))
      return
    if last == "ite" then
      evalTactic (← `(tactic| first
        | with_reducible refine Evolves.ite (fun _ => ?_) (fun _ => ?_)
        | with_reducible refine Evolves.ite_fst (fun _ => ?_) (fun _ => ?_)))
      return
    cands := if ty.isAppOf ``Evolves then [ns.str (last ++ "_ev"), ns.str (last ++ "_sr")]
      else [(ns.str "QInv").str last, ns.str (last ++ "_qi")]
  let s ← saveState
  let others := (← getGoals).tail
  for nm in cands do
    unless (← getEnv).contains nm do continue
    try
      let gs ← withReducible (g.apply (← mkConstWithFreshMVarLevels nm))
      let mut rest : List MVarId := []
      for m in gs do
        if ← m.isAssigned then continue
        let t ← instantiateMVars (← m.getType)
        if (goalParts t.getForallBody).isSome then
          let (_, m') ← m.intros
          rest := rest ++ [m']
        else
          setGoals [m]
          evalTactic (← `(tactic| ev_side))
          unless (← getUnsolvedGoals).isEmpty do throwError "ev_step: side goal of {nm} left open"
      setGoals (rest ++ others)
      return
    catch _ => s.restore
  -- no lemma of this family about `f`: its step (`f_step`, ConnStepFns), when the footprint lies in the kinds the relation allows
  if let some (.str _ last) := headFn E 8 then
    let step := mkIdent ((`H2V.Model.Conn.Streams).str (last ++ "_step"))
    if ty.isAppOf ``Evolves && (← getEnv).contains step.getId then
      let fp := ((← getConstInfo step.getId).type.find? (·.isConstOf `H2V.Model.Conn.Kind.Has)).isSome
      for conv in [ns ++ `Evolves.of_step_sr, ns ++ `Evolves.of_step_core] do
        unless (← getEnv).contains conv do continue
        try
          if fp then evalTactic (← `(tactic| with_reducible refine $(mkIdent conv) ($step (by decide) ..) ?_))
          else evalTactic (← `(tactic| with_reducible refine $(mkIdent conv) ($step ..) ?_))
          return
        catch _ => s.restore
  for d in ← getLCtx do
    if d.isImplementationDetail then continue
    let hty ← instantiateMVars d.type
    if hty.isForall && hty.getForallBody.isAppOf ``Evolves then
      let hStx ← Term.exprToSyntax d.toExpr
      try
        evalTactic (← `(tactic| with_reducible apply $hStx))
        return
      catch _ => pure ()
  throwError "ev_step: no lemma and no hypothesis for this goal"

/-- repeat `ev_step`, normalising `.store`, splitting `if`/`match` and eliminating result pairs on the way -/
macro "ev" : tactic =>
  `(tactic| repeat' (first | with_reducible assumption | with_reducible exact Evolves.refl _ | ev_lets | ev_unfold | ev_step | simp (config := { zeta := false }) only [crp_store] | subst_fst | split))

end H2V.Lemmas.ConnResetP
