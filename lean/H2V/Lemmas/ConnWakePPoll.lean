import H2V.Lemmas.ConnWakePStepStreams
/-
  ConnWakeP — the `poll_*` functions of the handles: when they answer `Pending` they have
  parked the caller's waker in the slot of the stream, and the condition they wait for is false
  (C06: WAITING ⇒ REGISTERED); when the stream is closed or the connection has an error they never
  answer `Pending` (C07: nothing hangs) — with the two exceptions that are real and are stated as
  counterexamples in `ConnWakePFindings.lean`.
-/
namespace H2V.Lemmas.ConnWakeP
open H2V H2V.Model H2V.Model.Conn

theorem stream_modStream_same {s : Streams} {k : Nat} {a : Stream} (f : Stream → Stream)
    (ha : s.store.get? k = some a) (hk : (f a).key = a.key) : (s.modStream k f).stream k = f a := by
  have hak : a.key = k := Store.get?_key ha
  simp only [Streams.modStream, ha, Streams.stream, Streams.setStream, Store.get?_set, hk, hak, if_true,
    Option.map_some, Option.getD_some]

theorem get?_modStream_same {s : Streams} {k : Nat} {a : Stream} (f : Stream → Stream)
    (ha : s.store.get? k = some a) (hk : (f a).key = a.key) : (s.modStream k f).store.get? k = some (f a) := by
  have hak : a.key = k := Store.get?_key ha
  simp only [Streams.modStream, ha, Streams.setStream, Store.get?_set, hk, hak, if_true, Option.map_some]

/-- a stream whose state is not `Idle` exists in the slab (a dangling key reads as a blank stream) -/
theorem get?_of_closed {s : Streams} {k : Nat} (h : (s.stream k).state.isClosed = true) :
    ∃ a, s.store.get? k = some a ∧ s.stream k = a := by
  cases ha : s.store.get? k with
  | some a => exact ⟨a, rfl, stream_eq_of_get? ha⟩
  | none => simp [Streams.stream, ha, State.isClosed] at h

/-- a closed stream answers `ensure_recv_open` with an error or "no more" — never "still open" -/
theorem ensureRecvOpen_of_closed {x : State} (h : x.isClosed = true) : x.ensureRecvOpen ≠ .ok true := by
  state_cases x <;> simp_all [State.isClosed, State.ensureRecvOpen]

/-- … and a stream that has seen END_STREAM answers "no more", not an error: the buffered message
    is followed by a clean end -/
theorem ensureRecvOpen_of_eos {x : State} (h : x.isRecvEndStream = true) : x.ensureRecvOpen = .ok false := by
  state_cases x <;> simp_all [State.isRecvEndStream, State.ensureRecvOpen]

/-- `ensure_reason` on a closed stream: a reason or an error — except after a clean end -/
theorem ensureReason_of_closed {x : State} (h : x.isClosed = true) (he : x.inner ≠ .closed .endStream)
    (mode : PollReset) : x.ensureReason mode ≠ .ok none := by
  state_cases x <;> simp_all [State.isClosed, State.ensureReason]

/-- the exception: after a clean end `ensure_reason` says "nothing yet" for ever -/
theorem ensureReason_endStream (mode : PollReset) : ({ inner := .closed .endStream } : State).ensureReason mode = .ok none := by
  cases mode <;> rfl

/-- `poll_capacity` answers `Pending` only after parking the caller in `send_task`; the stream is
    then still send-streaming, and either no capacity was assigned since the last poll, or the
    capacity is zero (and the flag is cleared so that the next increase wakes again) -/
theorem pollCapacity_pending {s s' : Streams} {k : Nat} {tag : String} {a : Stream}
    (ha : s.store.get? k = some a) (h : s.pollCapacity k tag = (s', .pending)) :
    (s'.stream k).sendTask = some tag ∧ a.state.isSendStreaming = true ∧
    (a.sendCapacityInc = false ∨ a.capacity s.prio.maxBufferSize = 0) ∧
    (s'.stream k).sendCapacityInc = false ∧ s'.wakes = s.wakes := by
  have hst : s.stream k = a := stream_eq_of_get? ha
  unfold Streams.pollCapacity at h
  simp only [hst] at h
  split at h
  · cases h
  · next hss =>
    split at h
    · next hinc =>
      obtain ⟨rfl, _⟩ := Prod.mk.inj h
      rw [stream_modStream_same _ ha rfl]
      simp_all [Stream.waitSend, Streams.modStream_wakes]
    · next hinc =>
      split at h
      · next hcap =>
        obtain ⟨rfl, _⟩ := Prod.mk.inj h
        have h1 := get?_modStream_same (fun st => { st with sendCapacityInc := false }) ha rfl
        rw [stream_modStream_same _ h1 rfl]
        refine ⟨rfl, by simpa using hss, Or.inr ?_, rfl, by simp [Streams.modStream_wakes]⟩
        have : (s.modStream k fun st => { st with sendCapacityInc := false }).sendCapacity k =
            a.capacity s.prio.maxBufferSize := by
          unfold Streams.sendCapacity
          rw [stream_modStream_same _ ha rfl]
          simp [Streams.prio, Streams.modStream_actions, Stream.capacity]
        rw [← this]; exact hcap
      · cases h

/-- a stream that is not send-streaming (closed, reset, half-closed local) gets `Ready(None)` -/
theorem pollCapacity_closed {s : Streams} {k : Nat} {tag : String}
    (h : (s.stream k).state.isClosed = true) : s.pollCapacity k tag = (s, .none) := by
  unfold Streams.pollCapacity
  simp [State.isSendStreaming_of_isClosed h]

theorem pollReset_pending {s s' : Streams} {k : Nat} {mode : PollReset} {tag : String} {a : Stream}
    (ha : s.store.get? k = some a) (h : s.pollReset k mode tag = (s', .ok none)) :
    (s'.stream k).sendTask = some tag ∧ a.state.ensureReason mode = .ok none ∧ s'.wakes = s.wakes := by
  have hst : s.stream k = a := stream_eq_of_get? ha
  unfold Streams.pollReset at h
  simp only [hst] at h
  split at h
  · cases h
  · cases h
  · next hr =>
    obtain ⟨rfl, _⟩ := Prod.mk.inj h
    rw [stream_modStream_same _ ha rfl]
    exact ⟨rfl, hr, Streams.modStream_wakes _ _ _⟩

/-- on a closed stream `poll_reset` is `Ready` (the reason, or the connection's error) — unless the
    stream ended cleanly (see `pollReset_endStream_hangs_counterexample`) -/
theorem pollReset_closed {s : Streams} {k : Nat} {mode : PollReset} {tag : String}
    (h : (s.stream k).state.isClosed = true) (he : (s.stream k).state.inner ≠ .closed .endStream) :
    (s.pollReset k mode tag).2 ≠ .ok none ∧ (s.pollReset k mode tag).1 = s := by
  unfold Streams.pollReset
  have := ensureReason_of_closed h he mode
  split <;> simp_all

theorem scheduleRecv_pending {s s' : Streams} {k : Nat} {tag : String} {a : Stream}
    (ha : s.store.get? k = some a) (h : s.scheduleRecv k tag = (s', .ok true)) :
    (s'.stream k).recvTask = some tag ∧ a.state.ensureRecvOpen = .ok true ∧ s'.wakes = s.wakes := by
  have hst : s.stream k = a := stream_eq_of_get? ha
  unfold Streams.scheduleRecv at h
  simp only [hst] at h
  split at h
  · cases h
  · next hr =>
    obtain ⟨rfl, _⟩ := Prod.mk.inj h
    rw [stream_modStream_same _ ha rfl]
    exact ⟨rfl, hr, Streams.modStream_wakes _ _ _⟩
  · cases h

/-- `poll_data` answers `Pending` only with an empty receive queue on a stream whose receive side is
    still open, after parking the caller in `recv_task` -/
theorem recvPollData_pending {s s' : Streams} {k : Nat} {tag : String} {a : Stream}
    (ha : s.store.get? k = some a) (h : s.recvPollData k tag = (s', .pending)) :
    (s'.stream k).recvTask = some tag ∧ a.pendingRecv = [] ∧ a.state.ensureRecvOpen = .ok true ∧
    s'.wakes = s.wakes := by
  have hst : s.stream k = a := stream_eq_of_get? ha
  unfold Streams.recvPollData at h
  simp only [hst] at h
  split at h
  · cases h
  · cases h
  · next hq =>
    split at h
    · cases h
    · next s1 hs =>
      obtain ⟨rfl, _⟩ := Prod.mk.inj h
      obtain ⟨h1, h2, h3⟩ := scheduleRecv_pending ha hs
      exact ⟨h1, hq, h2, h3⟩
    · cases h

/-- `poll_data` (through `OpaqueStreamRef`) likewise -/
theorem refPollData_pending {s s' : Streams} {k : Nat} {tag : String} {a : Stream}
    (ha : s.store.get? k = some a) (h : s.refPollData k tag = (s', .pending)) :
    (s'.stream k).recvTask = some tag ∧ a.pendingRecv = [] ∧ a.state.ensureRecvOpen = .ok true ∧
    s'.wakes = s.wakes := by
  unfold Streams.refPollData at h
  split at h
  · cases h
  · next r hne =>
    cases hr : s.recvPollData k tag with
    | mk s1 r1 =>
      rw [hr] at h
      cases h
      exact recvPollData_pending ha hr

/-- a closed stream (connection ended, reset, clean end) never makes `poll_data` wait -/
theorem recvPollData_closed {s : Streams} {k : Nat} {tag : String}
    (h : (s.stream k).state.isClosed = true) : ∀ s', s.recvPollData k tag ≠ (s', .pending) := by
  intro s' hp
  obtain ⟨a, ha, hst⟩ := get?_of_closed h
  obtain ⟨_, _, h3, _⟩ := recvPollData_pending ha hp
  rw [hst] at h
  exact ensureRecvOpen_of_closed h h3

/-- … and when END_STREAM had been received the buffered DATA is handed out first and then the end
    of the body is reported as a clean end (`None`), not as an error -/
theorem recvPollData_eos_end {s : Streams} {k : Nat} {tag : String}
    (h : (s.stream k).state.isRecvEndStream = true) (hq : (s.stream k).pendingRecv = []) :
    s.recvPollData k tag = (s, .none) := by
  unfold Streams.recvPollData Streams.scheduleRecv
  simp [hq, ensureRecvOpen_of_eos h]

theorem recvPollData_data {s : Streams} {k : Nat} {tag : String} {p : Bytes} {b : Bool} {rest : List REvent}
    (hq : (s.stream k).pendingRecv = .data p b :: rest) :
    (s.recvPollData k tag).2 = .data p b := by
  unfold Streams.recvPollData
  simp [hq]

/-- `poll_trailers` answers `Pending` after parking the caller, and only when the queue is empty on an
    open stream, or when something other than trailers (DATA not read yet) is at the front -/
theorem recvPollTrailers_pending {s s' : Streams} {k : Nat} {tag : String} {a : Stream}
    (ha : s.store.get? k = some a) (h : s.recvPollTrailers k tag = (s', .pending)) :
    (s'.stream k).recvTask = some tag ∧ s'.wakes = s.wakes ∧
    ((a.pendingRecv = [] ∧ a.state.ensureRecvOpen = .ok true) ∨ (∃ e rest, a.pendingRecv = e :: rest ∧ ∀ f, e ≠ .trailers f)) := by
  have hst : s.stream k = a := stream_eq_of_get? ha
  unfold Streams.recvPollTrailers at h
  simp only [hst] at h
  split at h
  · cases h
  · next e rest hne hq =>
    obtain ⟨rfl, _⟩ := Prod.mk.inj h
    rw [stream_modStream_same _ ha rfl]
    exact ⟨rfl, Streams.modStream_wakes _ _ _, Or.inr ⟨_, _, hq, fun f hf => hne f hf⟩⟩
  · next hq =>
    split at h
    · cases h
    · next s1 hs =>
      obtain ⟨rfl, _⟩ := Prod.mk.inj h
      obtain ⟨h1, h2, h3⟩ := scheduleRecv_pending ha hs
      exact ⟨h1, h3, Or.inl ⟨hq, h2⟩⟩
    · cases h

/-- on a closed stream `poll_trailers` waits only while unread events are buffered in front -/
theorem recvPollTrailers_closed {s : Streams} {k : Nat} {tag : String}
    (h : (s.stream k).state.isClosed = true) (hq : (s.stream k).pendingRecv = []) :
    ∀ s', s.recvPollTrailers k tag ≠ (s', .pending) := by
  intro s' hp
  obtain ⟨a, ha, hst⟩ := get?_of_closed h
  rw [hst] at h hq
  obtain ⟨_, _, h3 | ⟨e, rest, h3, _⟩⟩ := recvPollTrailers_pending ha hp
  · exact ensureRecvOpen_of_closed h h3.2
  · rw [hq] at h3; cases h3

/-- `poll_response` answers `Pending` only after parking the caller in `recv_task`, on a stream whose
    receive side is still open (whatever fuel the loop got) -/
theorem recvPollResponse_pending (n : Nat) {s s' : Streams} {k : Nat} {tag : String} {a : Stream}
    (ha : s.store.get? k = some a) (hn : a.pendingRecv.length < n)
    (h : Streams.recvPollResponse n s k tag = (s', .pending)) :
    (s'.stream k).recvTask = some tag ∧ (s'.stream k).state.ensureRecvOpen = .ok true ∧
    (s'.stream k).pendingRecv = [] ∧ s'.wakes = s.wakes := by
  induction n generalizing s a with
  | zero => omega
  | succ n ih =>
    have hst : s.stream k = a := stream_eq_of_get? ha
    unfold Streams.recvPollResponse at h
    simp only [hst] at h
    split at h
    · cases h
    · next st f rest hq =>
      have h1 := get?_modStream_same (fun st => { st with pendingRecv := rest }) ha rfl
      have := ih h1 (by simp only; rw [hq] at hn; simp at hn; omega) h
      rw [Streams.modStream_wakes] at this
      exact this
    · cases h
    · next hq =>
      split at h
      · cases h
      · cases h
      · next hr =>
        obtain ⟨rfl, _⟩ := Prod.mk.inj h
        rw [stream_modStream_same _ ha rfl]
        exact ⟨rfl, hr, hq, Streams.modStream_wakes _ _ _⟩

/-- on a closed stream `poll_response` is `Ready`: the response head if it is buffered, else the error -/
theorem recvPollResponse_closed (n : Nat) {s : Streams} {k : Nat} {tag : String} {a : Stream}
    (ha : s.store.get? k = some a) (hn : a.pendingRecv.length < n) (h : a.state.isClosed = true) :
    ∀ s', Streams.recvPollResponse n s k tag ≠ (s', .pending) := by
  induction n generalizing s a with
  | zero => omega
  | succ n ih =>
    intro s' hp
    have hst : s.stream k = a := stream_eq_of_get? ha
    unfold Streams.recvPollResponse at hp
    simp only [hst] at hp
    split at hp
    · cases hp
    · next st f rest hq =>
      exact ih (get?_modStream_same (fun st => { st with pendingRecv := rest }) ha rfl)
        (by simp only; rw [hq] at hn; simp at hn; omega) h s' hp
    · cases hp
    · split at hp
      · cases hp
      · cases hp
      · next hr => exact ensureRecvOpen_of_closed h hr

/-- `poll_ready` answers `Pending` only while its pending stream waits in `pending_open`, after
    parking the caller in the stream's `open_task` -/
theorem pollPendingOpen_pending {s s' : Streams} {p : Option Nat} {tag : String}
    (h : s.pollPendingOpen p tag = (s', .ok false)) :
    ∃ k, p = some k ∧ (s.stream k).isPendingOpen = true ∧ s.actions.connError = none ∧
      (∀ a, s.store.get? k = some a → (s'.stream k).openTask = some tag) ∧ s'.wakes = s.wakes := by
  unfold Streams.pollPendingOpen Streams.ensureNoConnError at h
  split at h
  · cases h
  · next hce =>
    split at hce
    · cases hce
    · next hnone =>
      split at h
      · cases h
      · split at h
        · next k =>
          split at h
          · next hpo =>
            obtain ⟨rfl, _⟩ := Prod.mk.inj h
            refine ⟨k, rfl, hpo, hnone, fun a ha => ?_, Streams.modStream_wakes _ _ _⟩
            rw [stream_modStream_same _ ha rfl]; rfl
          · cases h
        · cases h

/-- once the connection has an error (`recv_eof`, `handle_error`, GOAWAY received) `poll_ready` and
    `send_request` are `Ready(Err)`: no new work is accepted and nothing waits -/
theorem pollPendingOpen_connError {s : Streams} {e : PErr} (p : Option Nat) (tag : String)
    (h : s.actions.connError = some e) : s.pollPendingOpen p tag = (s, .error (.proto e)) := by
  unfold Streams.pollPendingOpen Streams.ensureNoConnError
  simp [h]

theorem sendRequest_connError {s : Streams} {e : PErr} (b : Bool) (f : List Hpack.Field) (eos : Bool) (p : Option Nat)
    (h : s.actions.connError = some e) : s.sendRequest b f eos p = (s, .error (.proto e)) := by
  unfold Streams.sendRequest Streams.ensureNoConnError
  simp [h]

end H2V.Lemmas.ConnWakeP
