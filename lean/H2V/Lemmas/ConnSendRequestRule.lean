import H2V.Lemmas.ConnLoops
/-
  `Streams::send_request`, walked once (the way `ConnHeadersRule` walks `Inner::recv_headers`): its guards, `send.open`,
  the insertion of the new entry, `send_headers` on it, and either the way back (`unlink`, `remove`) or the handle.
-/
namespace H2V.Model.Conn
open H2V H2V.Model

/-- the entry `send_request` inserts (`a`, `b`: the initial windows) -/
def requestStream (isHead : Bool) (id a b : Nat) : Stream :=
  if isHead then { Stream.new id a b with contentLength := .head } else Stream.new id a b

/-- `Streams::send_request` after its guards -/
def sendRequestCore (isHead : Bool) (fields : List Hpack.Field) (eos : Bool) (s : Streams) : Streams × Except ApiErr (Nat × Bool) :=
  match s.sendOpenId with
  | (s, .error e) => (s, .error (.user e))
  | (s, .ok id) =>
    let st := requestStream isHead id s.actions.send.initWindowSz s.recv.initWindowSz
    let s := if s.store.contains id then s.panic "assertion failed: self.ids.insert(id, index).is_none()" else s
    let k := s.store.nextKey
    let s := { s with store := (s.store.insert st).1 }
    match s.sendHeaders k eos fields with
    | (s, .error e) => ({ s with store := (s.store.unlink id).remove k }, .error (.user e))
    | (s, .ok _) => (({ s with refs := s.refs + 1 } : Streams).refInc k, .ok (k, s.counts.nextSendStreamWillReachCapacity))

/-- `Streams::send_request`: its guards give up and leave the state alone, or it is a client's and goes on -/
theorem sendRequest_cases' (s : Streams) (isHead : Bool) (fields : List Hpack.Field) (eos : Bool) (pending : Option Nat) :
    (∃ e, s.sendRequest isHead fields eos pending = (s, .error e)) ∨
    (s.counts.isServer = false ∧ s.sendRequest isHead fields eos pending = sendRequestCore isHead fields eos s) := by
  have e : s.sendRequest isHead fields eos pending = (match s.ensureNoConnError with
      | .error e => (s, .error (.proto e))
      | .ok _ =>
        if s.actions.send.nextStreamId.isNone then (s, .error (.user .overflowedStreamId))
        else if (match pending with | some p => (s.stream p).isPendingOpen | none => false) then (s, .error (.user .rejected))
        else if s.counts.isServer then (s, .error (.user .unexpectedFrameType))
        else sendRequestCore isHead fields eos s) := rfl
  rw [e]
  repeat (first | (left; exact ⟨_, rfl⟩) | (right; exact ⟨by simp_all, rfl⟩) | split)

theorem sendRequest_cases (s : Streams) (isHead : Bool) (fields : List Hpack.Field) (eos : Bool) (pending : Option Nat) :
    (s.sendRequest isHead fields eos pending).1 = s ∨
    s.sendRequest isHead fields eos pending = sendRequestCore isHead fields eos s :=
  (sendRequest_cases' s isHead fields eos pending).imp (fun ⟨_, he⟩ => by rw [he]) (·.2)

/-- **`Streams::send_request`, from the state `s`.**  `I` holds inside, `Q` is claimed of the state it returns; `L id k t`:
    what the invariant knows of the new entry `k` with stream id `id` once it is inserted, `L' id k t` after `send_headers`.
    One field per thing the function does: the guards give up (`pre`), `send.open` (`opn`; `done` when it fails), the
    insertion (`ins`; `sP` is the state behind the `assert!` of `Store::insert`), `send_headers` on the new entry (`hdr`),
    the way back when that fails (`undo`: from the state before `send_headers`), the handle (`fin`). -/
structure SendRequestRule (isHead : Bool) (fields : List Hpack.Field) (eos : Bool) (s : Streams) (I Q : Streams → Prop)
    (L L' : Nat → Nat → Streams → Prop) : Prop where
  pre : Q s
  opn : I s.sendOpenId.1
  done : ∀ t, I t → Q t
  ins : ∀ s1 id sP, s.sendOpenId = (s1, .ok id) →
    sP = (if s1.store.contains id then s1.panic "assertion failed: self.ids.insert(id, index).is_none()" else s1) →
    I { sP with store := (sP.store.insert (requestStream isHead id s1.actions.send.initWindowSz s1.recv.initWindowSz)).1 } ∧
    L id sP.store.nextKey
      { sP with store := (sP.store.insert (requestStream isHead id s1.actions.send.initWindowSz s1.recv.initWindowSz)).1 }
  hdr : ∀ t id k, I t → L id k t → I (t.sendHeaders k eos fields).1 ∧ L' id k (t.sendHeaders k eos fields).1
  undo : ∀ t id k s3 e, I t → L id k t → t.sendHeaders k eos fields = (s3, .error e) →
    Q { s3 with store := (s3.store.unlink id).remove k }
  fin : ∀ t id k, I t → L' id k t → Q (({ t with refs := t.refs + 1 } : Streams).refInc k)

section
variable {isHead : Bool} {fields : List Hpack.Field} {eos : Bool} {s : Streams} {I Q : Streams → Prop}
  {L L' : Nat → Nat → Streams → Prop}

theorem SendRequestRule.core (r : SendRequestRule isHead fields eos s I Q L L') : Q (sendRequestCore isHead fields eos s).1 := by
  unfold sendRequestCore
  have h1 := r.opn
  have h2 := r.ins
  generalize s.sendOpenId = p at h1 h2
  obtain ⟨s1, res⟩ := p
  cases res with
  | error e => exact r.done _ h1
  | ok id =>
    obtain ⟨h3, hl3⟩ := h2 s1 id _ rfl rfl
    dsimp only
    have h4 := r.hdr _ id _ h3 hl3
    have h5 := fun s3 e => r.undo _ id _ s3 e h3 hl3
    generalize Streams.sendHeaders _ _ eos fields = q at h4 h5
    obtain ⟨s3, r3⟩ := q
    cases r3 with
    | error e => exact h5 s3 e rfl
    | ok u => exact r.fin s3 id _ h4.1 h4.2

theorem SendRequestRule.run (r : SendRequestRule isHead fields eos s I Q L L') (pending : Option Nat) :
    Q (s.sendRequest isHead fields eos pending).1 := by
  rcases sendRequest_cases s isHead fields eos pending with e | e
  · rw [e]; exact r.pre
  · rw [e]; exact r.core
end

end H2V.Model.Conn
