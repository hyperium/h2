import H2V.Lemmas.ConnNoPanicPPollComplete
import H2V.Lemmas.ConnNoPanicPRel
import H2V.Lemmas.ConnStepLoops
import H2V.Lemmas.ConnStepWrite
/-
  C08 (no panic) — `DSum` / `Coupled` as invariants of the stream layer: two frame relations.

    `DSr r x`  : `buffered_send_data` of entry `x` covers its queued DATA plus `r` more octets (`DS x = DSr 0 x`;
                 `HeldOK s fr` = the entry `fr.key` is live and `DSr fr.rest` holds for it).
    `OHead x`  : a stream that waits in `pending_open` has no DATA frame at the front of its queue
                 (`send_reset` keeps that front frame and zeroes `buffered_send_data`).
    `UK s s'`  : `in_flight_data_frame` unchanged; every entry keeps `DSr r` for every `r` and `OHead`;
                 an entry with `DSr r`, `r > 0`, stays in the slab.  (Everything except `clear_queue`,
                 `queue_open`, queueing DATA, and their callers.)
    `GK s s'`  : `in_flight_data_frame` stays or goes `DataFrame → Drop`; every entry keeps `DS`; the entry the
                 marker still names afterwards keeps `DSr r` and stays live.  (Every function outside the write path.)
  `UK` holds of every step of the stream layer whose kinds are in `UK.kinds` (`UK.of_step`); the peeling tactic `uk_auto`
  takes a callee that has no lemma `f_uk` of its own from there.
-/
namespace H2V.Lemmas.ConnNoPanicP
open H2V H2V.Model H2V.Model.Conn H2V.Lemmas.ConnCountsP
attribute [local irreducible] wrapSubU32 wrapSubUsize

def DSr (r : Nat) (x : Stream) : Prop := r + dsum x.pendingSend ≤ x.bufferedSendData ∧ x.bufferedSendData < USIZE_MOD

theorem ds_iff (x : Stream) : DS x ↔ DSr 0 x := by unfold DS DSr; rw [Nat.zero_add]

/-- a stream in `pending_open` has no DATA at the front of `pending_send` -/
def OHead (x : Stream) : Prop := x.isPendingOpen = true → dsum x.pendingSend.head?.toList = 0

theorem dsum_append (l m : List SFrame) : dsum (l ++ m) = dsum l + dsum m := by
  induction l with
  | nil => simp [dsum]
  | cons f l ih => cases f <;> simp only [List.cons_append, dsum, ih] <;> omega

theorem dsum_drop_le (n : Nat) (l : List SFrame) : dsum (l.drop n) ≤ dsum l := by
  induction n generalizing l with
  | zero => exact Nat.le_refl _
  | succ n ih =>
    cases l with
    | nil => exact Nat.le_refl _
    | cons f l => exact Nat.le_trans (ih l) (dsum_tail_le f l)

theorem dsum_single_of_notData {f : SFrame} (h : f.isData = false) : dsum [f] = 0 := by
  cases f <;> first | rfl | cases h

/-- what an update of an entry keeps -/
structure Kp (a b : Stream) : Prop where
  ds : ∀ r, DSr r a → DSr r b
  oh : OHead a → OHead b

theorem Kp.refl (a : Stream) : Kp a a := ⟨fun _ h => h, id⟩
theorem Kp.trans {a b c : Stream} (h1 : Kp a b) (h2 : Kp b c) : Kp a c :=
  ⟨fun r h => h2.ds r (h1.ds r h), fun h => h2.oh (h1.oh h)⟩

theorem dsr_of_fields {a b : Stream} (h1 : b.pendingSend = a.pendingSend) (h2 : b.bufferedSendData = a.bufferedSendData)
    (r : Nat) : DSr r a → DSr r b := by unfold DSr; rw [h1, h2]; exact id

theorem Kp.of_fields {a b : Stream} (h1 : b.pendingSend = a.pendingSend) (h2 : b.bufferedSendData = a.bufferedSendData)
    (h3 : b.isPendingOpen = a.isPendingOpen) : Kp a b :=
  ⟨dsr_of_fields h1 h2, by unfold OHead; rw [h1, h3]; exact id⟩

theorem dsr_blank {k r : Nat} (h : DSr r { key := k, id := 0 }) : r = 0 := by
  have := h.1
  simp only [dsum] at this
  omega

theorem OHead.blank (k : Nat) : OHead { key := k, id := 0 } := fun h => Bool.noConfusion h

theorem notifySend_kp (x : Stream) : x.notifySend.1.key = x.key ∧ Kp x x.notifySend.1 := by
  rw [Stream.notifySend_fst]; exact ⟨rfl, .of_fields rfl rfl rfl⟩
theorem notifyRecv_kp (x : Stream) : x.notifyRecv.1.key = x.key ∧ Kp x x.notifyRecv.1 := by
  rw [Stream.notifyRecv_fst]; exact ⟨rfl, .of_fields rfl rfl rfl⟩
theorem notifyPush_kp (x : Stream) : x.notifyPush.1.key = x.key ∧ Kp x x.notifyPush.1 := by
  rw [Stream.notifyPush_fst]; exact ⟨rfl, .of_fields rfl rfl rfl⟩
theorem notifyCapacity_kp (x : Stream) : x.notifyCapacity.1.key = x.key ∧ Kp x x.notifyCapacity.1 := by
  rw [Stream.notifyCapacity_fst]; exact ⟨rfl, .of_fields rfl rfl rfl⟩
theorem assignCapacity_kp (x : Stream) (a b : Nat) : (x.assignCapacity a b).1.key = x.key ∧ Kp x (x.assignCapacity a b).1 := by
  rw [Stream.assignCapacity_fst]; split <;> exact ⟨rfl, .of_fields rfl rfl rfl⟩
theorem setReset_kp (x : Stream) (r : Reason) (i : Initiator) : (x.setReset r i).1.key = x.key ∧ Kp x (x.setReset r i).1 := by
  rw [Stream.setReset_fst]; exact ⟨rfl, .of_fields rfl rfl rfl⟩
theorem waitSend_kp (x : Stream) (t : String) : (x.waitSend t).key = x.key ∧ Kp x (x.waitSend t) := ⟨rfl, .of_fields rfl rfl rfl⟩
theorem waitOpen_kp (x : Stream) (t : String) : (x.waitOpen t).key = x.key ∧ Kp x (x.waitOpen t) := ⟨rfl, .of_fields rfl rfl rfl⟩
theorem setQueued_kp (x : Stream) (q : QName) (v : Bool) (h : q ≠ .pendingOpen ∨ v = false) :
    (x.setQueued q v).key = x.key ∧ Kp x (x.setQueued q v) := by
  cases q <;> first | exact ⟨rfl, .of_fields rfl rfl rfl⟩ | skip
  rcases h with h | h
  · exact absurd rfl h
  · subst h; exact ⟨rfl, dsr_of_fields rfl rfl, fun _ h => Bool.noConfusion h⟩
theorem pushBack_kp (x : Stream) (f : SFrame) (hf : f.isData = false) :
    Kp x { x with pendingSend := x.pendingSend ++ [f] } := by
  refine ⟨fun r h => ?_, fun h hp => ?_⟩
  · unfold DSr at *
    show r + dsum (x.pendingSend ++ [f]) ≤ _ ∧ _
    rw [dsum_append, dsum_single_of_notData hf]; exact h
  · show dsum (x.pendingSend ++ [f]).head?.toList = 0
    cases hps : x.pendingSend with
    | nil => exact dsum_single_of_notData hf
    | cons g l =>
      have := h hp
      rw [hps] at this; exact this

/-- proves `(f x).key = x.key ∧ Kp x (f x)` -/
macro "kp_tac" : tactic => `(tactic| with_reducible first
  | exact ⟨rfl, Kp.of_fields rfl rfl rfl⟩
  | exact notifyRecv_kp _ | exact notifyPush_kp _
  | exact setReset_kp _ _ _
  | exact ⟨rfl, pushBack_kp _ _ rfl⟩)

theorem decContentLength_kp {x y : Stream} {n : Nat} (h : x.decContentLength n = some y) : y.key = x.key ∧ Kp x y := by
  unfold Stream.decContentLength at h
  split at h
  · split at h
    · cases h; exact ⟨rfl, .of_fields rfl rfl rfl⟩
    · cases h
  · split at h
    · cases h
    · cases h; exact ⟨rfl, .refl _⟩
  · cases h; exact ⟨rfl, .refl _⟩

theorem buffered_zero_of_released {x : Stream} (h : x.isReleased = true) : x.bufferedSendData = 0 := by
  unfold Stream.isReleased Stream.isClosed at h
  simp only [Bool.and_eq_true, beq_iff_eq] at h
  exact h.1.1.1.1.1.1.1.2

/-- the kinds of update every entry's `DSr r` and `OHead` and the marker survive.  Not among them: a new entry (its roll-back
    forgets an entry the caller knows to be empty), `pending_open` joined (`OHead`), DATA queued or taken and `buffered_send_data`
    raised (each half of `DSr` moves alone), `clear_queue` and the marker (they change together: `GK`) -/
def UK.kinds : Kind → Bool
  | .insert | .enqueue .pendingOpen | .frame .data | .buffer | .popFrame | .chargeData | .clearSend | .mark | .markDrop => false
  | _ => true

theorem Kp.of_updW {K : Kind → Bool} {x : Stream} {p : Stream × List String} (h : Stream.UpdW K x p) : Kp x p.1 := by
  cases h with
  | notifySend => exact (notifySend_kp x).2
  | notifyRecv => exact (notifyRecv_kp x).2
  | notifyPush => exact (notifyPush_kp x).2
  | notifyCapacity => exact (notifyCapacity_kp x).2
  | assignCapacity c m _ => exact (assignCapacity_kp x c m).2
  | setReset r i _ => exact (setReset_kp x r i).2

theorem Kp.of_upd {x y : Stream} (h : Stream.Upd UK.kinds x y) : Kp x y := by
  cases h with
  | pushSend f h => exact pushBack_kp x f (by cases f <;> first | rfl | nomatch h)
  | decContentLength _ _ h => exact (decContentLength_kp h).2
  | sendData _ _ h _ | buffered _ h | unpopData _ _ h | popSend _ _ h | dropSend h | clearSend h | keepOnlyHead h =>
    exact absurd h (by decide)
  | _ => exact .of_fields rfl rfl rfl

theorem stream_modStream_dead {s : Streams} {k : Nat} (hl : ¬ Live s k) (f : Stream → Stream) (j : Nat) :
    (s.modStream k f).stream j = s.stream j := by
  have : s.store.get? k = none := by
    cases h : s.store.get? k with
    | none => rfl
    | some x => exact absurd ⟨x, h⟩ hl
  unfold Streams.modStream; rw [this, panic_stream]

theorem live_of_sendStreaming {s : Streams} {k : Nat} (h : (s.stream k).state.isSendStreaming = true) : Live s k := by
  unfold Streams.stream at h
  cases hx : s.store.get? k with
  | some x => exact ⟨x, hx⟩
  | none => rw [hx] at h; cases h

structure UK (s s' : Streams) : Prop where
  nf : s'.prio.inFlightDataFrame = s.prio.inFlightDataFrame
  kp : ∀ j, Kp (s.stream j) (s'.stream j)
  lv : ∀ j r, 0 < r → DSr r (s.stream j) → Live s j → Live s' j

theorem UK.refl (s : Streams) : UK s s := ⟨rfl, fun _ => .refl _, fun _ _ _ _ h => h⟩
theorem UK.trans {a b c : Streams} (h1 : UK a b) (h2 : UK b c) : UK a c :=
  ⟨h2.nf.trans h1.nf, fun j => (h1.kp j).trans (h2.kp j),
   fun j r hr hd hl => h2.lv j r hr ((h1.kp j).ds r hd) (h1.lv j r hr hd hl)⟩
theorem UK.of_eqs {s s' : Streams} (h1 : s'.store = s.store)
    (h2 : s'.prio.inFlightDataFrame = s.prio.inFlightDataFrame) : UK s s' :=
  ⟨h2, fun j => by rw [stream_of_store_eqP h1]; exact .refl _, fun j _ _ _ hl => by unfold Live at *; rw [h1]; exact hl⟩

theorem panic_uk (s : Streams) (m : String) : UK s (s.panic m) := .of_eqs (panic_store _ _) (by rw [Streams.panic_prio])
theorem wake_uk (s : Streams) (t : List String) : UK s (s.wake t) := .of_eqs rfl rfl
theorem unsup_uk (s : Streams) (m : String) : UK s (s.unsup m) := by
  unfold Streams.unsup; split
  · exact .refl _
  · exact .of_eqs rfl rfl
theorem notifyTask_uk (s : Streams) : UK s s.notifyTask := by
  unfold Streams.notifyTask; split
  · exact .of_eqs rfl rfl
  · exact .refl _
theorem modRecv_uk (s : Streams) (f : Recv → Recv) : UK s (s.modRecv f) := .of_eqs rfl rfl
theorem modSend_uk (s : Streams) (f : Send → Send) (h : ∀ p, (f p).prioritize = p.prioritize) : UK s (s.modSend f) :=
  .of_eqs rfl (by unfold Streams.prio Streams.modSend; rw [h])
theorem modCounts_uk (s : Streams) (f : Counts → Counts) : UK s (s.modCounts f) := .of_eqs rfl rfl
theorem modCountsA_uk (s : Streams) (w : String) (f : Counts → Option Counts) : UK s (s.modCountsA w f) := by
  unfold Streams.modCountsA; split
  · exact .of_eqs rfl rfl
  · exact panic_uk _ _
theorem setQ_uk (s : Streams) (q : QName) (l : List Nat) : UK s (s.setQ q l) :=
  .of_eqs (setQ_store _ _ _) (by cases q <;> rfl)
theorem setMisc_uk (s : Streams) (a : Actions) (refs leaked : Nat) (wk : List String) (un : Option String)
    (ha : a.send.prioritize = s.actions.send.prioritize) :
    UK s { s with actions := a, refs := refs, recvBufferLeaked := leaked, wakes := wk, unsupported := un } :=
  .of_eqs rfl (by unfold Streams.prio; rw [ha])

theorem setStream_uk (s : Streams) (st' : Stream) (h : Kp (s.stream st'.key) st') : UK s (s.setStream st') := by
  refine ⟨rfl, fun j => ?_, fun j _ _ _ hl => (SameKeys.setStream s st').live.mpr hl⟩
  rcases setStream_stream s st' j with e | ⟨e, hj, _⟩
  · rw [e]; exact .refl _
  · rw [e, hj]; exact h

/-- a stream update, judged on the entry it is applied to -/
theorem modStream_uk' (s : Streams) (k : Nat) (f : Stream → Stream) (hk : (f (s.stream k)).key = k)
    (h : Kp (s.stream k) (f (s.stream k))) : UK s (s.modStream k f) := by
  unfold Streams.modStream
  split
  · next st hst =>
    rw [stream_of_get? hst] at hk h
    refine setStream_uk s _ ?_
    rw [hk, stream_of_get? hst]; exact h
  · exact panic_uk _ _

theorem modStream_uk (s : Streams) (k : Nat) (f : Stream → Stream) (h : ∀ x, (f x).key = x.key ∧ Kp x (f x)) :
    UK s (s.modStream k f) := modStream_uk' s k f ((h _).1.trans (stream_key s k)) (h _).2

theorem modStreamW_uk' (s : Streams) (k : Nat) (f : Stream → Stream × List String) (hk : (f (s.stream k)).1.key = k)
    (h : Kp (s.stream k) (f (s.stream k)).1) : UK s (s.modStreamW k f) := by
  have h1 := modStream_uk' s k (fun x => (f x).1) hk h
  unfold Streams.modStream at h1
  unfold Streams.modStreamW
  split
  · next st hst => rw [hst] at h1; exact h1.trans (wake_uk _ _)
  · exact panic_uk _ _

theorem modStreamW_uk (s : Streams) (k : Nat) (f : Stream → Stream × List String)
    (h : ∀ x, (f x).1.key = x.key ∧ Kp x (f x).1) : UK s (s.modStreamW k f) :=
  modStreamW_uk' s k f ((h _).1.trans (stream_key s k)) (h _).2

theorem qPush_uk (s : Streams) (q : QName) (k : Nat) (hq : q ≠ .pendingOpen) : UK s (s.qPush q k).1 := by
  unfold Streams.qPush; split
  · exact .refl _
  · exact (modStream_uk _ _ _ (fun x => setQueued_kp x q true (.inl hq))).trans (setQ_uk _ _ _)
theorem qPushFront_uk (s : Streams) (q : QName) (k : Nat) (hq : q ≠ .pendingOpen) : UK s (s.qPushFront q k).1 := by
  unfold Streams.qPushFront; split
  · exact .refl _
  · exact (modStream_uk _ _ _ (fun x => setQueued_kp x q true (.inl hq))).trans (setQ_uk _ _ _)
theorem qPop_uk (s : Streams) (q : QName) : UK s (s.qPop q).1 := by
  unfold Streams.qPop; split
  · exact .refl _
  · exact (setQ_uk _ _ _).trans (modStream_uk _ _ _ (fun x => setQueued_kp x q false (.inr rfl)))

theorem remove_uk (s : Streams) (k n : Nat) (hb : (s.stream k).bufferedSendData = 0) :
    UK s { s with store := s.store.remove k, recvBufferLeaked := n } := by
  have hr0 : ∀ r, DSr r (s.stream k) → r = 0 := by
    intro r h; have := h.1; rw [hb] at this; omega
  refine ⟨rfl, fun j => ?_, fun j r hr hd hl => ?_⟩
  · rw [stream_remove]; split
    · next hj =>
      subst hj
      refine ⟨fun r h => ?_, fun _ => OHead.blank _⟩
      rw [hr0 r h]
      exact (ds_iff _).mp (DS.blank _)
    · exact .refl _
  · by_cases hj : j = k
    · subst hj; have := hr0 r hd; omega
    · unfold Live at *
      show ∃ x, (s.store.remove k).get? j = some x
      rw [Store.get?_remove, if_neg hj]; exact hl

theorem unlink_uk (s : Streams) (id : Nat) : UK s { s with store := s.store.unlink id } :=
  ⟨rfl, fun _ => .refl _, fun _ _ _ _ hl => hl⟩

theorem insert_uk (s : Streams) (st : Stream) (h1 : st.pendingSend = []) (h2 : st.bufferedSendData = 0)
    (h3 : st.isPendingOpen = false) : UK s { s with store := (s.store.insert st).1 } := by
  refine ⟨rfl, fun j => ?_, fun j _ _ _ hl => ?_⟩
  · unfold Streams.stream
    show Kp _ (((s.store.insert st).1.get? j).getD _)
    rcases insert_get?_cases s.store st j with e | ⟨e0, _, e⟩
    · rw [e]; exact .refl _
    · rw [e, e0]
      simp only [Option.getD_some, Option.getD_none]
      refine ⟨fun r h => ?_, fun _ hp => ?_⟩
      · rw [dsr_blank h]
        unfold DSr
        show 0 + dsum st.pendingSend ≤ st.bufferedSendData ∧ st.bufferedSendData < USIZE_MOD
        rw [h1, h2]; exact ⟨Nat.le_refl _, by decide⟩
      · have : st.isPendingOpen = true := hp
        rw [h3] at this; cases this
  · obtain ⟨x, hx⟩ := hl
    exact ⟨x, insert_get?_old _ _ _ _ hx⟩

theorem insertNew_uk (s : Streams) (id a b : Nat) : UK s { s with store := (s.store.insert (Stream.new id a b)).1 } :=
  insert_uk s _ rfl rfl rfl

theorem uk_relOK : Conn.RelOK UK := ⟨UK.refl, UK.trans, panic_uk⟩

theorem incNumSendStreams_uk (s : Streams) (k : Nat) : UK s (s.incNumSendStreams k) :=
  Streams.incNumSendStreams_rel uk_relOK modCounts_uk (fun _ _ => modStream_uk _ _ _ fun _ => ⟨rfl, .of_fields rfl rfl rfl⟩) s k
theorem incNumRecvStreams_uk (s : Streams) (k : Nat) : UK s (s.incNumRecvStreams k) :=
  Streams.incNumRecvStreams_rel uk_relOK modCounts_uk (fun _ _ => modStream_uk _ _ _ fun _ => ⟨rfl, .of_fields rfl rfl rfl⟩) s k
theorem decNumStreams_uk (s : Streams) (k : Nat) : UK s (s.decNumStreams k) :=
  Streams.decNumStreams_rel uk_relOK modCounts_uk (fun _ _ => modStream_uk _ _ _ fun _ => ⟨rfl, .of_fields rfl rfl rfl⟩) s k

theorem prioUpd_inFlight {p q : Prioritize} (h : Prioritize.Upd UK.kinds p q) :
    q.inFlightDataFrame = p.inFlightDataFrame := by
  cases h with
  | flow => rfl
  | mark _ h | markDrop _ h => exact absurd h (by decide)

/-- a released stream has nothing buffered (`remove`), so forgetting it loses no `DSr r`, `r > 0` -/
theorem UK.of_step {s s' : Streams} (h : Streams.Step UK.kinds s s') : UK s s' := by
  induction h with
  | refl s => exact .refl s
  | trans _ _ ih1 ih2 => exact ih1.trans ih2
  | panic s m => exact panic_uk s m
  | unsup s m => exact unsup_uk s m
  | wake s t => exact wake_uk s t
  | notifyTask s _ => exact notifyTask_uk s
  | setTask | setConnError | setRefs | setCounts => exact .of_eqs rfl rfl
  | modPrio s f h => exact .of_eqs rfl (prioUpd_inFlight h)
  | modSend s f h => exact .of_eqs rfl (congrArg Prioritize.inFlightDataFrame h.prioritize)
  | modRecv s f _ => exact modRecv_uk s f
  | qPush s q k h => exact qPush_uk s q k fun e => by subst e; exact absurd h (by decide)
  | qPushFront s q k h => exact qPushFront_uk s q k fun e => by subst e; exact absurd h (by decide)
  | qPop s q _ => exact qPop_uk s q
  | incNumSendStreams s k _ => exact incNumSendStreams_uk s k
  | incNumRecvStreams s k _ => exact incNumRecvStreams_uk s k
  | decNumStreams s k => exact decNumStreams_uk s k
  | modStream s k f h => exact modStream_uk' s k f (h.key.trans (stream_key s k)) (.of_upd h)
  | modStreamW s k f h => exact modStreamW_uk' s k f (h.key.trans (stream_key s k)) (.of_updW h)
  | setStream s x h => exact setStream_uk s x (.of_upd h)
  | insert _ _ _ _ h | insertWith _ _ _ _ _ h | undoInsert _ _ _ h => exact absurd h (by decide)
  | unlink s id _ => exact unlink_uk s id
  | remove s k n _ h => exact remove_uk s k n (buffered_zero_of_released h)

syntax "uk_side" : tactic
macro_rules | `(tactic| uk_side) => `(tactic| (intro _; kp_tac))
macro_rules | `(tactic| uk_side) => `(tactic| decide)
macro_rules | `(tactic| uk_side) => `(tactic| exact Eq.refl _)

-- `apply (id : UK _ _ → UK _ _)` only tests that the goal is one of the relation (`show` would search for a coercion when it is not)
syntax "uk_step" : tactic
macro_rules | `(tactic| uk_step) => `(tactic| (intro _; with_reducible apply (id : UK _ _ → UK _ _)))
macro_rules | `(tactic| uk_step) => `(tactic| with_reducible refine of_fst_eq (P := UK _) (by with_reducible assumption) ?_)
macro_rules | `(tactic| uk_step) => `(tactic| open H2V.Model.Conn.Streams in rel_head UK "_uk" via UK.of_step "_step" => (first
  | with_reducible refine UK.trans ?_ (setMisc_uk _ _ _ _ _ _ rfl)
  | with_reducible refine UK.trans ?_ (insertNew_uk _ _ _ _))
  on_ite (with_reducible first | refine rel_ite (R := UK) ?_ ?_ | refine rel_ite_fst (R := UK) ?_ ?_))
macro_rules | `(tactic| uk_step) => `(tactic| with_reducible exact UK.refl _)
macro_rules | `(tactic| uk_step) => `(tactic| with_reducible assumption)

macro "uk_auto" : tactic => `(tactic| repeat (first | uk_step | uk_side | intro _ | split | dsimp only))
macro "uk_auto_ih" ih:ident : tactic =>
  `(tactic| repeat (first | uk_step | with_reducible refine UK.trans ?_ ($ih ..) | uk_side | intro _ | split | dsimp only))

theorem storeForEach_uk (s : Streams) (f : Streams → Nat → Streams) (hf : ∀ s k, UK s (f s k)) :
    UK s (s.storeForEach f) := Streams.storeForEach_rel uk_relOK s f hf
theorem tryForEachAcc_uk (f : Nat → Streams → Nat → Streams × Nat × Option PErr) (hf : ∀ a s k, UK s (f a s k).1)
    (fuel i len acc : Nat) (s : Streams) : UK s (Streams.tryForEachAcc f fuel i len acc s).1 :=
  Streams.tryForEachAcc_rel uk_relOK f hf fuel i len acc s

theorem queueFrame_uk (s : Streams) (k : Nat) (f : SFrame) (hf : f.isData = false) : UK s (s.queueFrame k f) := by
  unfold Streams.queueFrame
  refine UK.trans (modStream_uk _ _ _ ?_) (.of_step (Streams.scheduleSend_step (by decide) _ _))
  intro x; exact ⟨rfl, pushBack_kp x f hf⟩

theorem sendReserveLocal_uk (s : Streams) : UK s s.sendReserveLocal.1 := .of_step (Streams.sendReserveLocal_step (by decide) s)
theorem refPollPushed_uk (s : Streams) (k : Nat) (t : String) : UK s (s.refPollPushed k t).1 :=
  .of_step (Streams.refPollPushed_step (by decide) s k t)

end H2V.Lemmas.ConnNoPanicP
