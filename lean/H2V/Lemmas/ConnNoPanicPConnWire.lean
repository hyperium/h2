import H2V.Lemmas.ConnNoPanicPConnHist
import H2V.Lemmas.ConnFlowPWire
import H2V.Lemmas.CodecReader
import H2V.Lemmas.CodecDecoded
import H2V.Lemmas.ConnPollNextRule
/-
  C08 (no panic) — connection layer: what `FramedRead::poll_next` guarantees about the frames it
  yields (`WireOK`): a WINDOW_UPDATE increment and a SETTINGS_INITIAL_WINDOW_SIZE are at most 2^31-1
  (`ConnFlowP.decodeFrame_ok`), and the
  payload of a DATA frame (with its padding) is at most the frame length, which passed the size check of the
  length-delimited decoder (`max_frame_size ≤ 2^24-1`).
-/
namespace H2V.Lemmas.ConnNoPanicP
open H2V H2V.Model H2V.Model.Conn H2V.Model.CodecRead

theorem stripPadding_len {p : Bytes} {pl : Nat} {d : Bytes} (h : Frame.stripPadding p = .ok (pl, d)) :
    d.length + pl + 1 ≤ p.length := by
  unfold Frame.stripPadding at h
  split at h
  · cases h
  · rename_i padLen rest
    split at h
    · cases h
    · rename_i hlt
      injection h with h
      injection h with h1 h2
      subst h1; subst h2
      simp only [List.length_take, List.length_cons] at hlt ⊢
      omega

/-- the DATA payload with its padding fits in `n` octets -/
def DL (n : Nat) : Frame.Frame → Prop
  | .data _ d _ pad => d.length + (match pad with | some p => p + 1 | none => 0) ≤ n
  | _ => True

theorem loadData_dl {h : Frame.Head} {payload : Bytes} {g : Frame.Frame} (hl : Frame.loadData h payload = .ok g) :
    DL payload.length g := by
  unfold Frame.loadData at hl
  dsimp only at hl
  split at hl
  · cases hl
  · split at hl
    · split at hl
      · cases hl
      · rename_i pl d hs
        cases hl
        have := stripPadding_len hs
        show d.length + (pl + 1) ≤ payload.length
        omega
    · cases hl
      exact Nat.le_refl _

/-- **a DATA frame `decode_frame` yields fits in the frame it was cut from**: `load_data` built it; the other parsers
    build no DATA frame -/
theorem decodeFrame_dl {r r' : Reader} {bytes : Bytes} {f : Frame.Frame}
    (h : decodeFrame r bytes = (r', .frame f)) : DL (bytes.length - 9) f := by
  cases Codec.decodeFrame_decoded h with
  | block c => cases c <;> exact trivial
  | loaded hl =>
    have := hl.own
    cases f with
    | data =>
      have := loadData_dl this
      rw [List.length_drop] at this
      exact this
    | _ => exact trivial

/-- the two facts about a reader that bound the frames it cuts -/
structure RB (r : Reader) : Prop where
  max : r.maxFrameLen ≤ 16777215
  need : ∀ n, r.need = some n → n ≤ 16777224

theorem wireOK_of {n : Nat} {f : Frame.Frame} (h1 : ConnFlowP.FrameOk f) (h2 : DL (n - 9) f) (hn : n ≤ 16777224) : WireOK f := by
  cases f <;> try exact trivial
  · -- data
    unfold WireOK FrameLenOK
    have : (2147483647 : Nat) = Generated.Consts.MAX_WINDOW_SIZE := rfl
    rw [← this]
    exact Nat.le_trans h2 (by omega)
  · exact h1
  · exact h1

theorem drain_wire (r : Reader) (h : RB r) :
    RB (Reader.drain 1 r []).1 ∧ ∀ f, Item.frame f ∈ (Reader.drain 1 r []).2.1 → WireOK f := by
  refine Codec.drain_rule (I := RB) (G := WireOK) (fun r n h hneed => ?_) (fun r n h hneed hl => ?_) 1 r [] h
    (fun _ hf => nomatch hf)
  all_goals
    have hn : n ≤ 16777224 := by
      unfold Codec.needOf at hneed
      split at hneed
      · rename_i m hm
        cases hneed
        exact h.need _ hm
      · split at hneed
        · cases hneed
        · split at hneed
          · cases hneed
          · cases hneed
            have := h.max
            omega
  · exact ⟨h.max, fun m hm => by cases hm; exact hn⟩
  · have hb : RB { r with buf := r.buf.drop n, need := none } := ⟨h.max, fun m hm => by cases hm⟩
    refine ⟨⟨by rw [Codec.takeFrame, Codec.decodeFrame_maxFrameLen]; exact hb.max,
      by rw [Codec.takeFrame, Codec.decodeFrame_need]; exact hb.need⟩, fun f hd => ?_⟩
    have hd' : decodeFrame { r with buf := r.buf.drop n, need := none } (r.buf.take n) = (_, .frame f) :=
      Prod.ext rfl hd
    refine wireOK_of (n := (r.buf.take n).length) (ConnFlowP.decodeFrame_ok hd') (decodeFrame_dl hd') ?_
    rw [List.length_take]; omega

/-- **`FramedRead::poll_next`**: the reader bounds are kept (only `buf`, `need`, the HPACK state and the header block
    being reassembled change), and a frame it yields is `WireOK` -/
theorem pollNext_wire (fuel : Nat) (c : Codec) (tag : String) (h : RB c.r) :
    RB (pollNext fuel c tag).1.r ∧ (pollNext fuel c tag).1.w = c.w ∧ ∀ f, (pollNext fuel c tag).2 = .frame f → WireOK f :=
  pollNext_rule (I := RB) (G := WireOK) (fun _ _ h => ⟨h.max, h.need⟩) drain_wire fuel c tag h

end H2V.Lemmas.ConnNoPanicP
