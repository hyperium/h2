import H2V.Lemmas.ConnNoPanicPDsBase
/-
  C08 (no panic) — `DSum` / `Coupled` as invariants of the stream layer: the relation `GK`
  (`clear_queue` and everything that calls it), `GKo` (the same under the hypothesis `OH`), their peeling tactics: a callee
  is looked up as `f_gk` (`f_go`), then `f_uk`, then as a step of the kinds `UK` takes (`GK.of_step`, `GKo.of_step`).
-/
namespace H2V.Lemmas.ConnNoPanicP
open H2V H2V.Model H2V.Model.Conn H2V.Lemmas.ConnCountsP
attribute [local irreducible] wrapSubU32 wrapSubUsize

structure GK (s s' : Streams) : Prop where
  nf : InflLE s.prio.inFlightDataFrame s'.prio.inFlightDataFrame
  ds : ∀ j, DS (s.stream j) → DS (s'.stream j)
  cov : ∀ j r, 0 < r → s'.prio.inFlightDataFrame = .dataFrame j → DSr r (s.stream j) →
    DSr r (s'.stream j) ∧ (Live s j → Live s' j)

theorem inflLE_back {a b : InFlightData} (h : InflLE a b) {j : Nat} (hb : b = .dataFrame j) : a = .dataFrame j := by
  rcases h with e | ⟨e, _⟩
  · rw [← e]; exact hb
  · rw [e] at hb; cases hb

theorem GK.refl (s : Streams) : GK s s := ⟨.inl rfl, fun _ h => h, fun _ _ _ _ h => ⟨h, id⟩⟩
theorem GK.trans {a b c : Streams} (h1 : GK a b) (h2 : GK b c) : GK a c :=
  ⟨h1.nf.trans h2.nf, fun j h => h2.ds j (h1.ds j h), fun j r hr hm hd =>
    have r1 := h1.cov j r hr (inflLE_back h2.nf hm) hd
    have r2 := h2.cov j r hr hm r1.1
    ⟨r2.1, fun hl => r2.2 (r1.2 hl)⟩⟩
theorem UK.toGK {s s' : Streams} (h : UK s s') : GK s s' :=
  ⟨.inl h.nf, fun j hd => (ds_iff _).mpr ((h.kp j).ds 0 ((ds_iff _).mp hd)),
   fun j r hr _ hd => ⟨(h.kp j).ds r hd, h.lv j r hr hd⟩⟩
theorem GK.of_step {s s' : Streams} (h : Streams.Step UK.kinds s s') : GK s s' := (UK.of_step h).toGK
theorem GK.dsum {s s' : Streams} (h : GK s s') (hd : DSum s) : DSum s' := fun k => h.ds k (hd k)
theorem panic_gk (s : Streams) (m : String) : GK s (s.panic m) := (panic_uk s m).toGK
theorem gk_relOK : Conn.RelOK GK := ⟨GK.refl, GK.trans, panic_gk⟩

/-- a stream update that need not keep `OHead`, judged on the entry it is applied to -/
theorem modStream_gk' (s : Streams) (k : Nat) (f : Stream → Stream) (hk : ∀ x, (f x).key = x.key)
    (hds : DS (s.stream k) → DS (f (s.stream k)))
    (hcov : ∀ r, 0 < r → DSr r (s.stream k) → DSr r (f (s.stream k))) : GK s (s.modStream k f) := by
  refine ⟨.inl (by rw [modStream_prio]), (modStream_dk' s k f hk hds).ds, fun j r hr _ hd => ?_⟩
  refine ⟨?_, fun hl => (SameKeys.modStream s k f).live.mpr hl⟩
  by_cases hj : j = k
  · subst hj
    by_cases hl : Live s j
    · rw [stream_modStream_live hl f hk]; exact hcov r hr hd
    · have : s.store.get? j = none := by
        cases h : s.store.get? j with
        | none => rfl
        | some x => exact absurd ⟨x, h⟩ hl
      unfold Streams.modStream; rw [this, panic_stream]; exact hd
  · rw [ConnFlowP.stream_modStream_other f hk hj]; exact hd

/-- `clear_queue`: the entry is emptied, and if the marker named it the marker becomes `Drop` -/
theorem clearQueue_gk (s : Streams) (k : Nat) : GK s (s.clearQueue k) := by
  refine ⟨(FK.of_step (Streams.clearQueue_step (by decide) s k)).nf, (clearQueue_dk s k).ds, fun j r hr hm hd => ?_⟩
  unfold Streams.clearQueue at hm ⊢
  dsimp only at hm ⊢
  generalize hs1 : Streams.modStream s k _ = s1 at hm ⊢
  have hp1 : s1.prio = s.prio := by rw [← hs1, modStream_prio]
  have hjk : j ≠ k ∧ s1.prio.inFlightDataFrame = .dataFrame j := by
    cases hin : s1.prio.inFlightDataFrame with
    | nothing => rw [hin] at hm; dsimp only at hm; rw [hin] at hm; cases hm
    | drop => rw [hin] at hm; dsimp only at hm; rw [hin] at hm; cases hm
    | dataFrame k' =>
      rw [hin] at hm
      dsimp only at hm
      split at hm
      · cases hm
      · next hne => rw [hin] at hm; cases hm; exact ⟨hne, rfl⟩
  have hst : ∀ t : Streams, t.store = s1.store → t.stream j = s.stream j ∧ (Live s j → Live t j) := by
    intro t ht
    refine ⟨?_, fun hl => ?_⟩
    · rw [stream_of_store_eqP ht, ← hs1]; exact ConnFlowP.stream_modStream_other _ (fun _ => rfl) hjk.1
    · unfold Live; rw [ht, ← hs1]; exact (SameKeys.modStream s k _).live.mpr hl
  have : ∀ t : Streams, t.store = s1.store → DSr r (t.stream j) ∧ (Live s j → Live t j) := fun t ht =>
    ⟨by rw [(hst t ht).1]; exact hd, (hst t ht).2⟩
  split
  · split
    · exact this _ rfl
    · exact this _ rfl
  · exact this _ rfl

theorem clearQueue_self (s : Streams) (k : Nat) :
    ((s.clearQueue k).stream k).pendingSend = [] ∧ ((s.clearQueue k).stream k).bufferedSendData = 0 := by
  have h1 : ∀ t : Streams, t.store = (s.modStream k fun st =>
      { st with pendingSend := [], bufferedSendData := 0, requestedSendCapacity := 0 }).store →
      (t.stream k).pendingSend = [] ∧ (t.stream k).bufferedSendData = 0 := by
    intro t ht
    rw [stream_of_store_eqP ht]
    by_cases hl : Live s k
    · have := stream_modStream_live hl (fun st =>
        ({ st with pendingSend := [], bufferedSendData := 0, requestedSendCapacity := 0 } : Stream)) (fun _ => rfl)
      rw [this]; exact ⟨rfl, rfl⟩
    · have : s.store.get? k = none := by
        cases h : s.store.get? k with
        | none => rfl
        | some x => exact absurd ⟨x, h⟩ hl
      unfold Streams.modStream; rw [this, panic_stream]
      unfold Streams.stream; rw [this]; exact ⟨rfl, rfl⟩
  unfold Streams.clearQueue
  dsimp only
  split
  · split
    · exact h1 _ rfl
    · exact h1 _ rfl
  · exact h1 _ rfl

syntax "gk_step" : tactic
macro_rules | `(tactic| gk_step) => `(tactic| (intro _; with_reducible apply (id : GK _ _ → GK _ _)))
macro_rules | `(tactic| gk_step) => `(tactic| open H2V.Model.Conn.Streams in rel_head GK "_gk" via GK.of_step "_step" => fail)
macro_rules | `(tactic| gk_step) => `(tactic| rel_head GK "_gk" via UK.toGK "_uk" => (first
  | with_reducible refine GK.trans ?_ (UK.toGK (setMisc_uk _ _ _ _ _ _ rfl))
  | with_reducible refine GK.trans ?_ (UK.toGK (insertNew_uk _ _ _ _)))
  on_ite (with_reducible first | refine rel_ite (R := GK) ?_ ?_ | refine rel_ite_fst (R := GK) ?_ ?_))
macro_rules | `(tactic| gk_step) => `(tactic| with_reducible exact GK.refl _)
macro_rules | `(tactic| gk_step) => `(tactic| with_reducible assumption)

macro "gk_auto" : tactic => `(tactic| repeat (first | gk_step | uk_side | intro _ | split | dsimp only))
macro "gk_auto_ih" ih:ident : tactic =>
  `(tactic| repeat (first | gk_step | with_reducible refine GK.trans ?_ ($ih ..) | uk_side | intro _ | split | dsimp only))

theorem transitionAfter_gk (s : Streams) (k : Nat) (b : Bool) : GK s (s.transitionAfter k b) :=
  .of_step (Streams.transitionAfter_step (by decide) s k b)
theorem transition_gk {α : Type} (s : Streams) (k : Nat) (f : Streams → Streams × α) (hf : ∀ s, GK s (f s).1) :
    GK s (s.transition k f).1 :=
  Streams.transition_rel gk_relOK s k f (hf s) fun t b => transitionAfter_gk t k b
theorem tryForEachAcc_gk (f : Nat → Streams → Nat → Streams × Nat × Option PErr) (hf : ∀ a s k, GK s (f a s k).1)
    (fuel i len acc : Nat) (s : Streams) : GK s (Streams.tryForEachAcc f fuel i len acc s).1 :=
  Streams.tryForEachAcc_rel gk_relOK f hf fuel i len acc s
theorem foldl_gk {α : Type} (f : Streams → α → Streams) (hf : ∀ s x, GK s (f s x)) (l : List α) (s : Streams) :
    GK s (l.foldl f s) := Streams.foldl_rel gk_relOK hf l s

def OH (s : Streams) : Prop := ∀ k, OHead (s.stream k)

theorem UK.oh {s s' : Streams} (h : UK s s') (ho : OH s) : OH s' := fun k => (h.kp k).oh (ho k)

/-- from a state with `OH`: `GK`, and `OH` again (`send_reset` and its callers) -/
structure GKo (s s' : Streams) : Prop where
  imp : OH s → GK s s' ∧ OH s'

theorem GKo.refl (s : Streams) : GKo s s := ⟨fun h => ⟨.refl _, h⟩⟩
theorem GKo.trans {a b c : Streams} (h1 : GKo a b) (h2 : GKo b c) : GKo a c :=
  ⟨fun h => ⟨(h1.imp h).1.trans (h2.imp (h1.imp h).2).1, (h2.imp (h1.imp h).2).2⟩⟩
theorem UK.toGKo {s s' : Streams} (h : UK s s') : GKo s s' := ⟨fun ho => ⟨h.toGK, h.oh ho⟩⟩
theorem GKo.of_step {s s' : Streams} (h : Streams.Step UK.kinds s s') : GKo s s' := (UK.of_step h).toGKo
theorem panic_go (s : Streams) (m : String) : GKo s (s.panic m) := (panic_uk s m).toGKo
theorem go_relOK : Conn.RelOK GKo := ⟨GKo.refl, GKo.trans, panic_go⟩

syntax "go_step" : tactic
macro_rules | `(tactic| go_step) => `(tactic| (intro _; with_reducible apply (id : GKo _ _ → GKo _ _)))
macro_rules | `(tactic| go_step) => `(tactic| with_reducible refine of_fst_eq (P := GKo _) (by with_reducible assumption) ?_)
macro_rules | `(tactic| go_step) => `(tactic| open H2V.Model.Conn.Streams in rel_head GKo "_go" via GKo.of_step "_step" => fail)
macro_rules | `(tactic| go_step) => `(tactic| rel_head GKo "_go" via UK.toGKo "_uk" => (first
  | with_reducible refine GKo.trans ?_ (UK.toGKo (setMisc_uk _ _ _ _ _ _ rfl))
  | with_reducible refine GKo.trans ?_ (UK.toGKo (insertNew_uk _ _ _ _)))
  on_ite (with_reducible first | refine rel_ite (R := GKo) ?_ ?_ | refine rel_ite_fst (R := GKo) ?_ ?_))
macro_rules | `(tactic| go_step) => `(tactic| with_reducible exact GKo.refl _)
macro_rules | `(tactic| go_step) => `(tactic| with_reducible assumption)

macro "go_auto" : tactic => `(tactic| repeat (first | go_step | uk_side | intro _ | split | dsimp only))
macro "go_auto_ih" ih:ident : tactic =>
  `(tactic| repeat (first | go_step | with_reducible refine GKo.trans ?_ ($ih ..) | uk_side | intro _ | split | dsimp only))

theorem transitionAfter_go (s : Streams) (k : Nat) (b : Bool) : GKo s (s.transitionAfter k b) :=
  .of_step (Streams.transitionAfter_step (by decide) s k b)
theorem transition_go {α : Type} (s : Streams) (k : Nat) (f : Streams → Streams × α) (hf : ∀ s, GKo s (f s).1) :
    GKo s (s.transition k f).1 :=
  Streams.transition_rel go_relOK s k f (hf s) fun t b => transitionAfter_go t k b
theorem storeForEach_go (s : Streams) (f : Streams → Nat → Streams) (hf : ∀ s k, GKo s (f s k)) :
    GKo s (s.storeForEach f) := Streams.storeForEach_rel go_relOK s f hf

end H2V.Lemmas.ConnNoPanicP
