import H2V.Lemmas.ConnCountsPInvC
import H2V.Lemmas.ConnCountsPQueue
/-
  C05 / C18 / C19 — invariants, part D: `Inv1` along `Ev` and `EvT`.
-/
namespace H2V.Lemmas.ConnCountsP
open H2V H2V.Model H2V.Model.Conn
variable {ρ : Bool}

theorem Inv1.inc {s s' : Streams} (hi : Inv1 s) (hcnt : cntAll s' = cntAll s + 1)
    (hq : s'.recv.pendingResetExpired = s.recv.pendingResetExpired)
    (hc : s'.counts = { s.counts with numSendStreams := s.counts.numSendStreams + 1 } ∨
          (s'.counts = { s.counts with numRecvStreams := s.counts.numRecvStreams + 1 } ∧ s.counts.canIncNumRecvStreams = true)) :
    Inv1 s' := by
  rcases hc with hc | ⟨hc, hcan⟩
  · refine ⟨?_, ?_, ?_, ?_, ?_, ?_⟩ <;> rw [hc] <;> dsimp only
    · have := hi.sum; omega
    · rw [hq]; exact hi.reset
    · exact hi.recvLe
    · exact hi.resetLe
    · exact hi.remoteLe
    · exact hi.errLe
  · refine ⟨?_, ?_, ?_, ?_, ?_, ?_⟩ <;> rw [hc] <;> dsimp only
    · have := hi.sum; omega
    · rw [hq]; exact hi.reset
    · simp only [Counts.canIncNumRecvStreams, decide_eq_true_eq] at hcan; omega
    · exact hi.resetLe
    · exact hi.remoteLe
    · exact hi.errLe

theorem Inv1.incSend {s : Streams} {k : Nat} (hA : KeysOK s) (hi : Inv1 s) (hp : (s.incNumSendStreams k).panicked = none) :
    Inv1 (s.incNumSendStreams k) := by
  obtain ⟨_, _, x, hx, hxc, e⟩ := incNumSendStreams_of_noPanic hp
  have hcnt := cntP_upd (·.isCounted) hA (fun c => { c with numSendStreams := c.numSendStreams + 1 }) hx { x with isCounted := true } rfl
  rw [e]
  rw [hxc] at hcnt
  exact hi.inc hcnt rfl (.inl rfl)

theorem Inv1.incRecv {s : Streams} {k : Nat} (hA : KeysOK s) (hi : Inv1 s) (hp : (s.incNumRecvStreams k).panicked = none) :
    Inv1 (s.incNumRecvStreams k) := by
  obtain ⟨_, hcan, x, hx, hxc, e⟩ := incNumRecvStreams_of_noPanic hp
  have hcnt := cntP_upd (·.isCounted) hA (fun c => { c with numRecvStreams := c.numRecvStreams + 1 }) hx { x with isCounted := true } rfl
  rw [e]
  rw [hxc] at hcnt
  exact hi.inc hcnt rfl (.inr ⟨rfl, hcan⟩)

theorem Inv1.decNum {s : Streams} {k : Nat} (hA : KeysOK s) (hi : Inv1 s) (hp : (s.decNumStreams k).panicked = none) :
    Inv1 (s.decNumStreams k) := by
  obtain ⟨_, x, hx, hxc, hcase⟩ := decNumStreams_of_noPanic hp
  have hcnt : ∀ g, cntAll ((s.modCounts g).setStream { x with isCounted := false }) + 1 = cntAll s := fun g => by
    have := cntP_upd (·.isCounted) hA g hx { x with isCounted := false } rfl
    rw [hxc] at this; exact this
  have hs := hi.sum
  rcases hcase with ⟨_, hpos, e⟩ | ⟨_, hpos, e⟩ <;> rw [e]
  · have := hcnt fun c => { c with numSendStreams := c.numSendStreams - 1 }
    refine ⟨?_, hi.reset, hi.recvLe, hi.resetLe, hi.remoteLe, hi.errLe⟩
    show s.counts.numSendStreams - 1 + s.counts.numRecvStreams = _
    omega
  · have := hcnt fun c => { c with numRecvStreams := c.numRecvStreams - 1 }
    have hr := hi.recvLe
    refine ⟨?_, hi.reset, ?_, hi.resetLe, hi.remoteLe, hi.errLe⟩
    · show s.counts.numSendStreams + (s.counts.numRecvStreams - 1) = _
      omega
    · show s.counts.numRecvStreams - 1 ≤ s.counts.maxRecvStreams
      omega

theorem Inv1.resetEnq {s : Streams} {k : Nat} (hA : KeysOK s) (hi : Inv1 s)
    (hc : s.counts.canIncNumResetStreams = true) (hr : (s.stream k).resetAt = false) :
    Inv1 ((s.modCountsA "can_inc_num_reset_streams" Counts.incNumResetStreams).qPush .pendingResetExpired k).1 := by
  have h1 : s.modCountsA "can_inc_num_reset_streams" Counts.incNumResetStreams =
      { s with counts := { s.counts with numLocalResetStreams := s.counts.numLocalResetStreams + 1 } } := by
    unfold Streams.modCountsA Counts.incNumResetStreams
    simp only [hc, if_true]
  rw [h1]
  generalize hs1 : ({ s with counts := { s.counts with numLocalResetStreams := s.counts.numLocalResetStreams + 1 } } : Streams) = s1
  have hA1 : KeysOK s1 := by rw [← hs1]; exact ⟨hA.nodup, hA.fresh⟩
  have hst1 : s1.stream k = s.stream k := by rw [← hs1]; rfl
  have hc1 : s1.counts = { s.counts with numLocalResetStreams := s.counts.numLocalResetStreams + 1 } := by rw [← hs1]
  have hq1 : s1.getQ .pendingResetExpired = s.recv.pendingResetExpired := by rw [← hs1]; rfl
  have hcnt1 : cntAll s1 = cntAll s := by rw [← hs1]; rfl
  clear hs1 h1
  unfold Streams.qPush
  have hq : (s1.stream k).isQueued .pendingResetExpired = false := by rw [hst1]; exact hr
  simp only [hq, Bool.false_eq_true, if_false]
  have hcf := CF.modStream s1 k (fun st => st.setQueued .pendingResetExpired true) (fun x => setQueued_key x _ true) (fun x => Stream.setQueued_isCounted x _ true)
  generalize hs2 : (s1.modStream k fun st => st.setQueued .pendingResetExpired true) = s2 at hcf
  have hlen : (s2.setQ .pendingResetExpired (s1.getQ .pendingResetExpired ++ [k])).recv.pendingResetExpired.length =
      s.recv.pendingResetExpired.length + 1 := by
    show (s1.getQ .pendingResetExpired ++ [k]).length = _
    rw [List.length_append, hq1]; rfl
  have hcnts : (s2.setQ .pendingResetExpired (s1.getQ .pendingResetExpired ++ [k])).counts =
      { s.counts with numLocalResetStreams := s.counts.numLocalResetStreams + 1 } := by
    rw [setQ_counts, ← hs2, Streams.modStream_counts, hc1]
  have hcnt : cntAll (s2.setQ .pendingResetExpired (s1.getQ .pendingResetExpired ++ [k])) = cntAll s := by
    rw [cntAll_of_store_eq (setQ_store _ _ _), hcf.cnt hA1, hcnt1]
  simp only [Counts.canIncNumResetStreams, decide_eq_true_eq] at hc
  refine ⟨?_, ?_, ?_, ?_, ?_, ?_⟩
  · rw [hcnts, hcnt]; exact hi.sum
  · rw [hcnts, hlen]; have := hi.reset; dsimp only; omega
  · rw [hcnts]; exact hi.recvLe
  · rw [hcnts]; dsimp only; omega
  · rw [hcnts]; exact hi.remoteLe
  · rw [hcnts]; exact hi.errLe

theorem EvB.inv1 {s s' : Streams} (h : EvB ρ s s') : s'.panicked = none → KeysOK s → Inv1 s → Inv1 s' := by
  induction h with
  | refl s => exact fun _ _ h => h
  | trans e1 e2 ih1 ih2 =>
    intro hp hA hi
    have hpb := noPanic_of_mono e2.mono.panic hp
    exact ih2 hp (e1.keysOK hA) (ih1 hpb hA hi)
  | free h => exact fun _ hA hi => (CF.closed.frame h).inv1 hA hi
  | setStream st' h => exact fun _ hA hi => (CF.closed.setStream _ _ fun x hx => (h x hx).counted).inv1 hA hi
  | qPush q k hq _ => exact fun _ hA hi => (CF.qPush _ _ _ hq).inv1 hA hi
  | qPushFront q k hq _ => exact fun _ hA hi => (CF.qPushFront _ _ _ hq).inv1 hA hi
  | qPushOpen k _ => exact fun _ hA hi => (CF.qPush _ _ _ (by decide)).inv1 hA hi
  | qPop q hq _ => exact fun _ hA hi => (CF.qPop _ _ hq).inv1 hA hi
  | qPopOpen => exact fun _ hA hi => (CF.qPop _ _ (by decide)).inv1 hA hi
  | resetEnq k hc hr _ => exact fun _ hA hi => hi.resetEnq hA hc hr
  | insert st hf _ => exact fun _ _ hi => hi.of_cb (CB.refl _) rfl (cntAll_insert _ _ hf.counted)
  | bracket st hf e _ ih => exact fun hp hA hi => ih hp (hA.insert st) (hi.of_cb (CB.refl _) rfl (cntAll_insert _ _ hf.counted))
  | unlink _ => exact fun _ _ hi => hi.of_cb (CB.refl _) rfl rfl
  | remove k n hg => exact fun _ hA hi => hi.of_cb (CB.refl _) rfl (cntAll_remove hA k n fun st hst => (hg st hst).1)
  | popOpen _ =>
    rename_i s0 _
    intro hp hA hi
    have hcf := CF.qPop s0 QName.pendingOpen (by decide)
    cases hq : s0.qPop .pendingOpen with
    | mk s1 o =>
      rw [hq] at hcf
      cases o with
      | none => simp only [hq] at hp ⊢; exact hcf.inv1 hA hi
      | some id => simp only [hq] at hp ⊢; exact (hcf.inv1 hA hi).incSend (hcf.keys.keysOK hA) hp
  | acceptFlag k v => exact fun _ hA hi => (CF.modStream _ k (fun st => { st with isPendingAccept := v }) (fun _ => rfl) (fun _ => rfl)).inv1 hA hi
  | queuePP k pk pid fields _ => exact fun _ hA hi => (CF.modStream _ k (fun st => { st with pendingSend := st.pendingSend ++ [.pushPromise pk pid fields] }) (fun _ => rfl) (fun _ => rfl)).inv1 hA hi
  | ppAct sid pk pid fields rest pushed _ _ =>
    rename_i s0 _ _
    intro hp hA hi
    have hcf1 := CF.modStream s0 sid (fun st => { st with pendingSend := rest }) (fun _ => rfl) (fun _ => rfl)
    generalize s0.modStream sid (fun st => { st with pendingSend := rest }) = s1 at hcf1 hp ⊢
    have hA1 := hcf1.keys.keysOK hA
    have hi1 := hcf1.inv1 hA hi
    clear hcf1
    unfold ppActivate Streams.queueOpen at hp ⊢
    dsimp only at hp ⊢
    have hcf2 := CF.modStream s1 pushed (fun st => { st with isPendingPush := false }) (fun _ => rfl) (fun _ => rfl)
    generalize s1.modStream pushed (fun st => { st with isPendingPush := false }) = s2 at hcf2 hp ⊢
    have hA2 := hcf2.keys.keysOK hA1
    have hi2 := hcf2.inv1 hA1 hi1
    by_cases hne : (!(s2.stream pushed).pendingSend.isEmpty) = true
    · simp only [hne, if_true] at hp ⊢
      by_cases hcan : s2.counts.canIncNumSendStreams = true
      · simp only [hcan, if_true] at hp ⊢
        have hp3 : (s2.incNumSendStreams pushed).panicked = none := noPanic_of_mono (Mono.qPush _ _ _).panic hp
        have hi3 := hi2.incSend hA2 hp3
        have hA3 := (SameKeys.incNumSendStreams s2 pushed).keysOK hA2
        exact (CF.qPush _ _ _ (by decide)).inv1 hA3 hi3
      · simp only [hcan] at hp ⊢
        exact (CF.qPush _ _ _ (by decide)).inv1 hA2 hi2
    · simp only [hne] at hp ⊢
      exact hi2
  | incRecv k st' s1 _ hf =>
    rename_i s0 _
    intro hp hA hi
    have hcf1 := CF.modStream s0 k (fun st => { st with state := st' }) (fun _ => rfl) (fun _ => rfl)
    have hcf := hcf1.trans (CF.closed.frame hf)
    exact (hcf.inv1 hA hi).incRecv (hcf.keys.keysOK hA) hp
  | decNum k => exact fun hp hA hi => hi.decNum hA hp

theorem modCountsA_noPanic {s : Streams} {w : String} {f : Counts → Option Counts} (h : (s.modCountsA w f).panicked = none) :
    s.panicked = none ∧ ∃ c, f s.counts = some c ∧ s.modCountsA w f = { s with counts := c } := by
  unfold Streams.modCountsA at h ⊢
  cases hc : f s.counts with
  | none => rw [hc] at h; exact absurd h (Streams.panic_panicked_ne_none _ _)
  | some c => rw [hc] at h; exact ⟨h, c, rfl, rfl⟩

/-- the expiry pop: the queue loses its head, the counter is decremented, the rest is `transition_after` -/
theorem Inv1.resetPop {s0 : Streams} (hA : KeysOK s0) (hi : Inv1 s0)
    (hp : (match s0.qPop .pendingResetExpired with
           | (s', some id) => s'.transitionAfter id true
           | (s', none) => s').panicked = none) :
    Inv1 (match s0.qPop .pendingResetExpired with
          | (s', some id) => s'.transitionAfter id true
          | (s', none) => s') := by
  unfold Streams.qPop at hp ⊢
  cases hq : s0.getQ .pendingResetExpired with
  | nil => simp only [hq] at hp ⊢; exact hi
  | cons id rest =>
    simp only [hq] at hp ⊢
    have hq' : s0.recv.pendingResetExpired = id :: rest := hq
    generalize hs1 : ((s0.setQ .pendingResetExpired rest).modStream id fun st => st.setQueued .pendingResetExpired false) = s1 at hp ⊢
    rw [transitionAfter_split] at hp ⊢
    generalize hs2 : (if (true && !(s1.stream id).isPendingResetExpiration) = true then
        s1.modCountsA "self.num_local_reset_streams > 0" Counts.decNumResetStreams else s1) = s2 at hp ⊢
    have e2 := transitionAfter_false_ev s2 id
    have hp2 : s2.panicked = none := noPanic_of_mono e2.mono.panic hp
    -- the entry exists (otherwise `modStream` panics) and its flag is cleared
    have hp1 : s1.panicked = none := by
      rw [← hs2] at hp2
      split at hp2
      · exact (modCountsA_noPanic hp2).1
      · exact hp2
    obtain ⟨_, x, hx⟩ := modStream_noPanic (by rw [hs1]; exact hp1 : ((s0.setQ .pendingResetExpired rest).modStream id fun st => st.setQueued .pendingResetExpired false).panicked = none)
    have hx1 : s1.store.get? id = some (x.setQueued .pendingResetExpired false) := by
      rw [← hs1]
      exact modStream_get?_self _ id _ x hx (setQueued_key x _ false)
    have hflag : (s1.stream id).isPendingResetExpiration = false := by
      rw [stream_of_get? hx1]; rfl
    -- counters and entries of `s1`
    have hA1 : KeysOK s1 := by
      rw [← hs1]
      exact (SameKeys.modStream _ _ _).keysOK ((SameKeys.setQ _ _ _).keysOK hA)
    have hc1 : s1.counts = s0.counts := by rw [← hs1, Streams.modStream_counts, setQ_counts]
    have hcnt1 : cntAll s1 = cntAll s0 := by
      rw [← hs1]
      have hAq : KeysOK (s0.setQ .pendingResetExpired rest) := (SameKeys.setQ _ _ _).keysOK hA
      rw [cntAll_modStream_same hAq id _ (fun y => setQueued_key y _ false) (fun y => Stream.setQueued_isCounted y _ false)]
      exact cntAll_of_store_eq (setQ_store _ _ _)
    have hr1 : s1.recv.pendingResetExpired = rest := by
      rw [← hs1, Streams.modStream_recv]; exact getQ_setQ s0 .pendingResetExpired rest
    -- the decrement
    simp only [hflag, Bool.not_false, Bool.and_self, if_true] at hs2
    rw [← hs2] at hp2
    obtain ⟨_, c, hc, heq2⟩ := modCountsA_noPanic hp2
    unfold Counts.decNumResetStreams at hc
    split at hc
    · next hpos =>
      cases hc
      have hA2 : KeysOK s2 := by rw [← hs2, heq2]; exact ⟨hA1.nodup, hA1.fresh⟩
      refine e2.inv1 hp hA2 ?_
      rw [← hs2, heq2]
      have hlen : s0.recv.pendingResetExpired.length = rest.length + 1 := by rw [hq']; rfl
      refine ⟨?_, ?_, ?_, ?_, ?_, ?_⟩
      · show s1.counts.numSendStreams + s1.counts.numRecvStreams = cntAll s1
        rw [hc1, hcnt1]; exact hi.sum
      · show s1.counts.numLocalResetStreams - 1 = s1.recv.pendingResetExpired.length
        rw [hr1, hc1]; have := hi.reset; omega
      · show s1.counts.numRecvStreams ≤ s1.counts.maxRecvStreams
        rw [hc1]; exact hi.recvLe
      · show s1.counts.numLocalResetStreams - 1 ≤ s1.counts.maxLocalResetStreams
        rw [hc1]; have := hi.resetLe; omega
      · show s1.counts.numRemoteResetStreams ≤ s1.counts.maxRemoteResetStreams
        rw [hc1]; exact hi.remoteLe
      · show ∀ m, s1.counts.maxLocalErrorResetStreams = some m → s1.counts.numLocalErrorResetStreams ≤ m
        rw [hc1]; exact hi.errLe
    · cases hc

theorem EvT.mono_panic {s s' : Streams} (h : EvT s s') (hp : s'.panicked = none) : s.panicked = none :=
  noPanic_of_mono (h.qstep .pendingSend (by decide)).mono hp

theorem EvT.inv1 {s s' : Streams} (h : EvT s s') : s'.panicked = none → KeysOK s → Inv1 s → Inv1 s' := by
  induction h with
  | ev h => exact h.inv1
  | trans e1 e2 ih1 ih2 =>
    intro hp hA hi
    exact ih2 hp (e1.keysOK hA) (ih1 (e2.mono_panic hp) hA hi)
  | resetPop => exact fun hp hA hi => hi.resetPop hA hp

end H2V.Lemmas.ConnCountsP
