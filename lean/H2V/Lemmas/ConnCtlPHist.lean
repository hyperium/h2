import H2V.Lemmas.ConnCtlPDead
/-
  ConnCtlP — C14 over a whole `proto::Connection::poll` / `client::Connection::poll` (`ledRule`)
  and over whole histories of one connection: any interleaving of
  `Connection::poll` (client or server flavour, any waker, any amount of input and write capacity)
  with the calls of the user-facing API.  The API calls are the ones `ConnDriver.step` makes; all of
  them leave `settings.remote` / `ping_pong.pending_pong` alone and keep a dead connection dead
  (`Inert`, proved below for each of them; a call that only changes the stream store or the scripted
  transport is inert by definition).
-/
set_option autoImplicit false
set_option linter.unusedSimpArgs false
namespace H2V.Lemmas.ConnCtlP
open H2V H2V.Model H2V.Model.Conn

theorem Led.right {c c1 c2 : Conn} {e : List Ev} (h : Led c e c1) (hs : SameAck c1 c2) : Led c e c2 :=
  ⟨by have := h.settings; simp only [owedS] at *; rw [hs.1]; exact this,
   by have := h.pings; simp only [owedP] at *; rw [hs.2]; exact this⟩

theorem LedF.right {c c1 c2 : Conn} {e : List Ev} (h : LedF c e c1) (hs : SameAck c1 c2) : LedF c e c2 :=
  ⟨h.settings, by have := h.pings; simp only [owedP] at *; rw [hs.2]; exact this⟩

theorem LedF.append_quiet {c c1 c2 : Conn} {e e' : List Ev} (h : LedF c e c1) (hq : OnlyGoAway e')
    (hs : SameAck c1 c2) : LedF c (e ++ e') c2 := by
  obtain ⟨q1, q2, q3, q4, -⟩ := hq.quiet
  have h2 := h.right hs
  exact ⟨by simp [q1, q2, h2.settings], by simp [q3, q4, h2.pings]⟩

/-- **the ledger of the loop of `Connection::poll2`**: the ledgers balance, or the loop ended with the
    error of a failed `apply_remote_settings` (the ACK being out) -/
theorem ledRule2 : Poll2Rule (fun _ => True) Led LedF (fun _ => True) NothingOwed (fun c _ => NothingOwed c) where
  trans := Led.trans
  transF := Led.transF
  panic _ _ _ := ⟨trivial, Led.same rfl rfl⟩
  goAway c _ :=
    have ⟨g1, _, _, _, g5, g6, _⟩ := sendPendingGoAwayT_spec c
    ⟨trivial, g1.led ⟨by rw [g5], by rw [g6]⟩, fun _ => trivial⟩
  ready c _ _ := pollReadyT_rule ledReady c trivial trivial
  next _ _ hg := ⟨⟨trivial, Led.same rfl rfl⟩, hg⟩
  recv c frame _ hg := Or.inl ⟨trivial, recvStep_led c frame hg.1 hg.2⟩

/-- **the ledger of a whole `Connection::poll`**: the ledgers balance, or `apply_remote_settings`
    failed after its ACK went out; then `handle_poll2_result` kills the connection, and a dead
    connection acknowledges nothing (`protoPollT_dead`) -/
theorem ledRule : PollRule (fun _ => True) (fun _ => True) Led LedF (fun _ => True) NothingOwed
    (fun c _ => NothingOwed c) Dead where
  toPoll2Rule := ledRule2
  leave _ _ := trivial
  fuel _ _ _ := ⟨trivial, Led.same rfl rfl⟩
  enter _ _ _ := ⟨trivial, Led.same rfl rfl⟩
  result c res _ := Or.inl ⟨trivial, Led.same (by rw [(handlePoll2Result_same c res).1]) (by rw [(handlePoll2Result_same c res).2.1])⟩
  failed _ _ c e he hf :=
    ⟨handlePoll2Result_kills c _ (Or.inr (he.imp fun _ h => h.imp fun _ h => h.imp fun _ h => by rw [h])),
      hf.right ⟨by rw [(handlePoll2Result_same c (.error e)).1], by rw [(handlePoll2Result_same c (.error e)).2.1]⟩⟩
  dead fuel _ _ c hd hf :=
    have ⟨i1, i2, i3⟩ := protoPollT_dead fuel c hd
    ⟨i2, hf.append_quiet i1 i3⟩
  complete _ _ _ := ⟨trivial, Led.same rfl rfl⟩
  now c _ := ⟨trivial, Led.same (by rw [(goAwayNow_same c _).1]) (by rw [(goAwayNow_same c _).2.1])⟩
  shut _ _ _ _ _ := ⟨⟨trivial, Led.same rfl rfl⟩, trivial, Led.same rfl rfl⟩
  closed c r i _ _ := by rw [takeError_fst]; exact ⟨trivial, Led.same rfl rfl⟩
  wake _ _ := ⟨trivial, Led.same rfl rfl⟩
  wakeF _ _ _ hd hf := ⟨hd.of_goAway_state rfl rfl, hf.right ⟨rfl, rfl⟩⟩

/-- a call that does not touch what is owed to the peer and does not revive a dead connection -/
def Inert (c c' : Conn) : Prop := SameAck c c' ∧ (Dead c → Dead c')

theorem Inert.refl (c : Conn) : Inert c c := ⟨SameAck.refl c, id⟩
theorem Inert.trans {a b c : Conn} (h1 : Inert a b) (h2 : Inert b c) : Inert a c :=
  ⟨h1.1.trans h2.1, fun h => h2.2 (h1.2 h)⟩

/-- every handle call (`send_request`, `send_data`, `poll_data`, `release_capacity`, drops, …) and
    every event of the scripted transport (`cn_peer`, `cn_budget`, `cn_eof`, …): only the stream
    store, the codec and the polling waker change -/
theorem inert_streams_codec (c : Conn) (s : Streams) (k : Codec) (cx : String) (u : Option String) :
    Inert c { c with streams := s, codec := k, cx := cx, unsupported := u } :=
  ⟨⟨rfl, rfl⟩, fun h => h.of_goAway_state rfl rfl⟩

theorem inert_panic (c : Conn) (m : String) : Inert c (c.panic m) := inert_streams_codec c _ c.codec c.cx c.unsupported

theorem inert_setTargetWindowSize (c : Conn) (n : Nat) : Inert c (c.setTargetWindowSize n) :=
  inert_streams_codec c _ c.codec c.cx c.unsupported

theorem inert_sendSettings (c : Conn) (v : List (Nat × Nat)) : Inert c (c.sendSettings v).1 := by
  unfold Conn.sendSettings
  split
  · exact ⟨⟨rfl, rfl⟩, fun h => h.of_goAway_state rfl rfl⟩
  · exact Inert.refl c

theorem inert_setInitialWindowSize (c : Conn) (n : Nat) : Inert c (c.setInitialWindowSize n).1 :=
  inert_sendSettings c _

theorem inert_takeUserPings (c : Conn) : Inert c c.takeUserPings.1 := by
  unfold Conn.takeUserPings
  split
  · exact Inert.refl c
  · exact ⟨⟨rfl, rfl⟩, fun h => h.of_goAway_state rfl rfl⟩

theorem inert_userSendPing (c : Conn) : Inert c c.userSendPing.1 := by
  unfold Conn.userSendPing
  (repeat' split) <;> first | exact Inert.refl c | exact ⟨⟨rfl, rfl⟩, fun h => h.of_goAway_state rfl rfl⟩

theorem inert_userPollPong (c : Conn) (t : String) : Inert c (c.userPollPong t).1 := by
  unfold Conn.userPollPong
  dsimp only
  (repeat' split) <;> first | exact Inert.refl c | exact ⟨⟨rfl, rfl⟩, fun h => h.of_goAway_state rfl rfl⟩

theorem inert_dropUserPingsRx (c : Conn) : Inert c c.dropUserPingsRx := by
  unfold Conn.dropUserPingsRx
  split
  · exact Inert.refl c
  · exact ⟨⟨rfl, rfl⟩, fun h => h.of_goAway_state rfl rfl⟩

theorem dynGoAway_goAway (c : Conn) (id : Nat) (e : Reason) :
    (c.dynGoAway id e).goAway = (c.goAway.goAway { lastStreamId := id, reason := e }).1 ∧
    (c.dynGoAway id e).state = c.state ∧ (c.dynGoAway id e).error = c.error := by
  unfold Conn.dynGoAway
  dsimp only
  split <;> exact ⟨rfl, rfl, rfl⟩

theorem dynGoAway_dead (c : Conn) (id : Nat) (e : Reason) (h : Dead c) : Dead (c.dynGoAway id e) := by
  obtain ⟨h1, h2, -⟩ := dynGoAway_goAway c id e
  rcases h with h | h
  · left
    unfold Halting
    rw [h1]
    exact ⟨h.1, rfl⟩
  · right; rw [h2]; exact h

/-- server `graceful_shutdown` -/
theorem inert_goAwayGracefully (c : Conn) : Inert c c.goAwayGracefully := by
  unfold Conn.goAwayGracefully
  split
  · exact Inert.refl c
  · dsimp only
    refine ⟨⟨?_, ?_⟩, fun h => ?_⟩
    · split <;> simp [PingPong.pingShutdown, (Conn.dynGoAway_keeps c _ _).2.2.1]
    · split <;> simp [PingPong.pingShutdown, (Conn.dynGoAway_keeps c _ _).2.2.2]
    · have := dynGoAway_dead c STREAM_ID_MAX NO_ERROR h
      split <;> exact this.of_goAway_state rfl rfl

/-- server `abrupt_shutdown` -/
theorem inert_goAwayFromUser (c : Conn) (e : Reason) : Inert c (c.goAwayFromUser e) ∧ Halting (c.goAwayFromUser e) := by
  unfold Conn.goAwayFromUser
  dsimp only
  have hh := GoAway.goAwayNow_halting { c.goAway with isUserInitiated := true }
    { lastStreamId := c.streams.recv.lastProcessedId, reason := e }
  have : Halting (c.goAwayFromUser e) := by
    unfold Conn.goAwayFromUser GoAway.goAwayFromUser
    dsimp only
    split <;> exact hh
  unfold Conn.goAwayFromUser at this
  dsimp only at this
  refine ⟨⟨⟨?_, ?_⟩, fun _ => Or.inl this⟩, this⟩
  · split <;> rfl
  · split <;> rfl

/-- the histories of one connection: `Connection::poll` in its two flavours, polled from any task,
    interleaved with inert calls -/
inductive Hist (c0 : Conn) : List Ev → Conn → Prop
  | init : Hist c0 [] c0
  | serverPoll {evs : List Ev} {c : Conn} (cx : String) (fuel : Nat) : Hist c0 evs c →
      Hist c0 (evs ++ (protoPollT fuel { c with cx := cx }).2) (protoPollT fuel { c with cx := cx }).1.1
  | clientPoll {evs : List Ev} {c : Conn} (cx : String) (fuel : Nat) : Hist c0 evs c →
      Hist c0 (evs ++ (clientPollT fuel { c with cx := cx }).2) (clientPollT fuel { c with cx := cx }).1.1
  | call {evs : List Ev} {c : Conn} (c' : Conn) : Hist c0 evs c → Inert c c' → Hist c0 evs c'

theorem ledger_poll {c0 c c1 : Conn} {evs : List Ev} {x : (Conn × PollRes) × List Ev}
    (ih : Led c0 evs c ∨ (Dead c ∧ LedF c0 evs c)) (sa : SameAck c c1) (hd1 : Dead c → Dead c1)
    (hs : Led c1 x.2 x.1.1 ∨ (Dead x.1.1 ∧ LedF c1 x.2 x.1.1))
    (hd : Dead c1 → OnlyGoAway x.2 ∧ Dead x.1.1 ∧ SameAck c1 x.1.1) :
    Led c0 (evs ++ x.2) x.1.1 ∨ (Dead x.1.1 ∧ LedF c0 (evs ++ x.2) x.1.1) := by
  rcases ih with ih | ⟨hd0, ih⟩
  · exact hs.imp (ih.right sa).trans fun ⟨d, f⟩ => ⟨d, (ih.right sa).transF f⟩
  · obtain ⟨i1, i2, i3⟩ := hd (hd1 hd0)
    exact Or.inr ⟨i2, ih.append_quiet i1 (sa.trans i3)⟩

theorem hist_ledger {c0 c : Conn} {evs : List Ev} (h : Hist c0 evs c) :
    Led c0 evs c ∨ (Dead c ∧ LedF c0 evs c) := by
  induction h with
  | init => exact Or.inl (Led.same rfl rfl)
  | @serverPoll evs c cx fuel _ ih =>
    exact ledger_poll (c1 := { c with cx := cx }) ih ⟨rfl, rfl⟩ (fun h => h.of_goAway_state rfl rfl) ((protoPollT_rule ledRule fuel _ trivial).imp_left And.right) (protoPollT_dead fuel _)
  | @clientPoll evs c cx fuel _ ih =>
    exact ledger_poll (c1 := { c with cx := cx }) ih ⟨rfl, rfl⟩ (fun h => h.of_goAway_state rfl rfl) ((clientPollT_rule ledRule fuel _ trivial).imp_left And.right) (clientPollT_dead fuel _)
  | call c' _ hi ih => exact ih.imp (·.right hi.1) fun ⟨hd, ih⟩ => ⟨hi.2 hd, ih.right hi.1⟩

end H2V.Lemmas.ConnCtlP
