import H2V.Lemmas.ConnWakePTurn
/-
  `Prioritize::pop_frame`, walked once.  `PopRule`: what an invariant has to supply, one field per thing `pop_frame`
  does; `PopRule.run` follows the control flow (over the clone `ConnWakeP.popFrameC sd`, `Stream::send_data` a
  variable; `popFrameC.eq` of ConnWakePClone leads back to `Streams.popFrame`); `PopRule.and` lets an invariant lean on one established before it.  `inv_popRule`: the rule
  for an invariant every step keeps.
-/
namespace H2V.Model.Conn
open H2V H2V.Model H2V.Lemmas H2V.Lemmas.ConnCountsP

/-- **`pop_frame`, walked once**: what an invariant has to supply.  `I` holds between two rounds of the loop;
    `P id s t` holds inside a round, `s` being the state right after `id` left `pending_send` and `t` the state
    now; `R` is claimed of what `pop_frame` returns.  The premises may assume `Ia`/`Pa` (more than `I`/`P` when the
    invariant rides on others, see `PopRule.and`).  One field per thing `pop_frame` does: give up (`stop`),
    `pending_send.pop` (`q`, `pop`), leave the stream for later (`skip`), `clear_queue` for a scheduled reset
    (`discard`), cut a DATA chunk that fits the windows (`emit`), take a frame off the stream's queue (`rest`),
    activate a promised stream (`pp`), turn a scheduled reset into RST_STREAM (`reset`), requeue +
    `transition_after` (`fin`, `ta`). -/
structure PopRule (sd : Stream → Nat → Nat → Stream × List String × Bool) (maxLen : Nat)
    (Ia : Streams → Prop) (Pa : Nat → Streams → Streams → Prop)
    (I : Streams → Prop) (P : Nat → Streams → Streams → Prop) (R : Streams × Option Streams.OutFrame → Prop) : Prop where
  stop : ∀ s, Ia s → R (s, none)
  q : ∀ s, Ia s → I (s.qPop .pendingSend).1
  pop : ∀ s s' id, Ia s → Ia s' → s.qPop .pendingSend = (s', some id) → P id s' s'
  skip : ∀ id s, Pa id s s → I s
  discard : ∀ id s sz eos rest, Pa id s s → (s.stream id).pendingSend = .data sz eos :: rest →
    (match (s.stream id).state.getScheduledReset with | some reason => reason != NO_ERROR | none => false) = true →
    I (((s.clearQueue id).reclaimAllCapacity id).qPush .pendingSend id).1
  emit : ∀ id s sz eos rest len (c : Prop) [Decidable c] (e : Bool), Pa id s s →
    (s.stream id).pendingSend = .data sz eos :: rest → len ≤ sz → len ≤ maxLen →
    len ≤ (s.stream id).sendFlow.available.asSize → (len = 0 ∨ len ≤ (s.stream id).sendFlow.windowSz) →
    R ((if c then ((ConnWakeP.pfData sd s id len rest).qPush .pendingSend id).1
          else ConnWakeP.pfData sd s id len rest).transitionAfter id (s.stream id).isPendingResetExpiration,
       some (.data len e { key := id, sid := (s.stream id).id, rest := sz - len, eos := eos }))
  rest : ∀ id s f rest, Pa id s s → (s.stream id).pendingSend = f :: rest →
    P id s (s.modStream id fun st => { st with pendingSend := rest })
  pp : ∀ id s pk pid fields rest pushed, Pa id s s → (s.stream id).pendingSend = .pushPromise pk pid fields :: rest →
    (s.modStream id fun st => { st with pendingSend := rest }).store.findKey? pid = some pushed →
    P id s (ppActivate (s.modStream id fun st => { st with pendingSend := rest }) pushed)
  reset : ∀ id s reason, Pa id s s → (s.stream id).pendingSend = [] →
    P id s (s.modStreamW id fun st => st.setReset reason .library)
  fin : ∀ id s t (c : Prop) [Decidable c], Pa id s t →
    I ((if c then (t.qPush .pendingSend id).1 else t).transitionAfter id (s.stream id).isPendingResetExpiration) ∧
    ∀ f, (∀ len e fr, f ≠ .data len e fr) →
      R ((if c then (t.qPush .pendingSend id).1 else t).transitionAfter id (s.stream id).isPendingResetExpiration, some f)
  ta : ∀ id s, Pa id s s → (s.stream id).pendingSend = [] →
    I (s.transitionAfter id (s.stream id).isPendingResetExpiration)

section
variable {sd : Stream → Nat → Nat → Stream × List String × Bool} {maxLen : Nat}
  {I I' : Streams → Prop} {P P' : Nat → Streams → Streams → Prop} {R R' : Streams × Option Streams.OutFrame → Prop}

theorem PopRule.run (h : PopRule sd maxLen I P I P R) (fuel : Nat) : ∀ s, I s → R (ConnWakeP.popFrameC sd fuel s maxLen) := by
  -- one turn of the loop, arm by arm (`popTurn_cases`): `I` if it goes on, `R` of what it returns
  have turn : ∀ s, I s → ∀ t, ConnWakeP.popTurn sd s maxLen = t → match t with | .cont s1 => I s1 | .done r => R r := by
    intro s hi _ ht
    subst ht
    have hp : ∀ {s0 id}, s.qPop .pendingSend = (s0, some id) → P id s0 s0 := fun hq =>
      h.pop s _ _ hi (by have := h.q s hi; rwa [hq] at this) hq
    refine ConnWakeP.popTurn_cases sd s maxLen (P := fun t => match t with | .cont s1 => I s1 | .done r => R r)
      (fun s0 hq => h.stop s0 (by have := h.q s hi; rwa [hq] at this))
      (fun s0 id sz eos rest hq hps hd => h.discard id s0 sz eos rest (hp hq) hps hd)
      (fun s0 id _ _ _ hq _ _ _ => h.skip id s0 (hp hq))
      (fun s0 id sz eos rest hq hps _ hs => ?_)
      (fun s0 id _ _ rest hq hps => (h.fin id s0 _ _ (h.rest id s0 _ rest (hp hq) hps)).2 _ (by intros; simp))
      (fun s0 id _ rest hq hps => (h.fin id s0 _ _ (h.rest id s0 _ rest (hp hq) hps)).2 _ (by intros; simp))
      (fun s0 id _ _ _ rest hq hps _ => (h.fin id s0 _ _ (h.rest id s0 _ rest (hp hq) hps)).1)
      (fun s0 id pk pid fields rest pushed hq hps hf =>
        (h.fin id s0 _ _ (h.pp id s0 pk pid fields rest pushed (hp hq) hps hf)).2 _ (by intros; simp))
      (fun s0 id reason hq hps _ => (h.fin id s0 _ _ (h.reset id s0 reason (hp hq) hps)).2 _ (by intros; simp))
      (fun s0 id hq hps _ => h.ta id s0 (hp hq) hps)
    have hle : ConnWakeP.chunkLen (s0.stream id) sz maxLen ≤ min (min sz maxLen) (s0.stream id).sendFlow.available.asSize := by
      unfold ConnWakeP.chunkLen usizeAsU32 U32_MOD; omega
    simp only [ConnWakeP.stalls, Bool.or_eq_false_iff, Bool.and_eq_false_iff, decide_eq_false_iff_not] at hs
    exact h.emit id s0 sz eos rest _ _ _ (hp hq) hps (by omega) (by omega) (by omega) (by omega)
  exact ConnWakeP.popFrameC_ind h.stop (fun s _ hi => turn s hi _) (fun s _ hi => turn s hi _) fuel

/-- a second invariant whose premises lean on the first -/
theorem PopRule.and (h1 : PopRule sd maxLen I P I P R)
    (h2 : PopRule sd maxLen (fun s => I s ∧ I' s) (fun id s t => P id s t ∧ P' id s t) I' P' R') :
    PopRule sd maxLen (fun s => I s ∧ I' s) (fun id s t => P id s t ∧ P' id s t)
      (fun s => I s ∧ I' s) (fun id s t => P id s t ∧ P' id s t) (fun r => R r ∧ R' r) where
  stop s h := ⟨h1.stop s h.1, h2.stop s h⟩
  q s h := ⟨h1.q s h.1, h2.q s h⟩
  pop s s' id h h' heq := ⟨h1.pop s s' id h.1 h'.1 heq, h2.pop s s' id h h' heq⟩
  skip id s h := ⟨h1.skip id s h.1, h2.skip id s h⟩
  discard id s sz eos rest h hps hd := ⟨h1.discard id s sz eos rest h.1 hps hd, h2.discard id s sz eos rest h hps hd⟩
  emit id s sz eos rest len c _ e h hps a b d f :=
    ⟨h1.emit id s sz eos rest len c e h.1 hps a b d f, h2.emit id s sz eos rest len c e h hps a b d f⟩
  rest id s f rest h hps := ⟨h1.rest id s f rest h.1 hps, h2.rest id s f rest h hps⟩
  pp id s pk pid fields rest pushed h hps hf :=
    ⟨h1.pp id s pk pid fields rest pushed h.1 hps hf, h2.pp id s pk pid fields rest pushed h hps hf⟩
  reset id s reason h hps := ⟨h1.reset id s reason h.1 hps, h2.reset id s reason h hps⟩
  fin id s t c _ h :=
    ⟨⟨(h1.fin id s t c h.1).1, (h2.fin id s t c h).1⟩, fun f hf => ⟨(h1.fin id s t c h.1).2 f hf, (h2.fin id s t c h).2 f hf⟩⟩
  ta id s h hps := ⟨h1.ta id s h.1 hps, h2.ta id s h hps⟩

/-- **`pop_frame` for an invariant**: every step keeps `I`; the DATA arm comes with the bounds on the chunk it cuts. -/
theorem inv_popRule {I : Streams → Prop}
    (hpop : ∀ s, I s → I (s.qPop .pendingSend).1) (hpush : ∀ s k, I s → I (s.qPush .pendingSend k).1)
    (hta : ∀ s k b, I s → I (s.transitionAfter k b))
    (hclear : ∀ s k, I s → I ((s.clearQueue k).reclaimAllCapacity k))
    (hemit : ∀ s k len rest, I s → len ≤ (s.stream k).sendFlow.available.asSize →
      (len = 0 ∨ len ≤ (s.stream k).sendFlow.windowSz) → I (ConnWakeP.pfData sd s k len rest))
    (hsend : ∀ s k rest, I s → I (s.modStream k fun st => { st with pendingSend := rest }))
    (hact : ∀ s k, I s → I (ppActivate s k))
    (hreset : ∀ s k r, I s → I (s.modStreamW k fun st => st.setReset r .library)) :
    PopRule sd maxLen I (fun _ _ t => I t) I (fun _ _ t => I t) (fun r => I r.1) :=
  have finish : ∀ {t : Streams} (id : Nat) (c : Prop) [Decidable c] (b : Bool), I t →
      I ((if c then (t.qPush .pendingSend id).1 else t).transitionAfter id b) := by
    intro t id c _ b h
    refine hta _ _ _ ?_
    split
    · exact hpush _ _ h
    · exact h
  { stop := fun _ h => h
    q := fun _ h => hpop _ h
    pop := fun _ _ _ _ h' _ => h'
    skip := fun _ _ h => h
    discard := fun _ _ _ _ _ h _ _ => hpush _ _ (hclear _ _ h)
    emit := fun id _ _ _ _ _ c _ _ h _ _ _ ha hw => finish id c _ (hemit _ _ _ _ h ha hw)
    rest := fun _ _ _ _ h _ => hsend _ _ _ h
    pp := fun _ _ _ _ _ _ _ h _ _ => hact _ _ (hsend _ _ _ h)
    reset := fun _ _ _ h _ => hreset _ _ _ h
    fin := fun id _ _ c _ h => ⟨finish id c _ h, fun _ _ => finish id c _ h⟩
    ta := fun _ _ h _ => hta _ _ _ h }
end

end H2V.Model.Conn
