import H2V.Lemmas.ConnStages
import H2V.Lemmas.ConnBasicsFns
import H2V.Lemmas.ConnLoops
/-
  `Inner::recv_headers`, walked once (the way `PopRule` walks `pop_frame`): the control flow is followed here, over the
  stages of `ConnStages`; an invariant supplies one fact per thing the function does.  Three rules, one per layer of
  the function: `RecvHeadersRule` (`Recv::recv_headers`: the state change, the counting step, the content-length step,
  queueing the message), `HeadersBodyRule` (the closure: HEADERS or trailers, the 431 answer,
  `reset_on_recv_stream_err`) and `HeadersRule` (finding or inserting the entry, the closure, `transition_after`).
-/
namespace H2V.Model.Conn
open H2V H2V.Model

namespace Streams

/-- not `Reset(_, _, Initiator::Remote)`: the stream errors of the receive path are all raised by the library -/
def LibErr (res : Except PErr Unit) : Prop := ∀ id r, res ≠ .error (.reset id r .remote)

/-- **`Recv::recv_headers` on entry `k`, from the state `s`.**  `I` is claimed at exit; `P st' ini t` holds inside, `st'` /
    `ini` being what `State::recv_open` answered and `t` the state now.  One field per thing the function does: give up
    on a state error (`err`), refuse the stream for want of a slot after the state change (`refuse`), the state change and
    the counting step (`stc`: the stream was not refused), a content-length error (`out`), the content-length step (`cl`), the checks of the head
    and the queueing of the message (`queue`). -/
structure RecvHeadersRule (k : Nat) (h : HeadersIn) (s : Streams) (I : Streams → Prop) (P : State → Bool → Streams → Prop) :
    Prop where
  err : I s
  refuse : ∀ st' ini, (s.stream k).state.recvOpen h.eos h.isInformational = (st', .ok ini) → I (s.recvHeadersSt k st')
  stc : ∀ st' ini, (s.stream k).state.recvOpen h.eos h.isInformational = (st', .ok ini) →
    ¬ (ini && !((s.recvHeadersSt k st').stream k).isCounted && !(s.recvHeadersSt k st').counts.canIncNumRecvStreams) = true →
    P st' ini ((s.recvHeadersSt k st').recvHeadersCount k h ini)
  out : ∀ st' ini t, P st' ini t → I t
  cl : ∀ st' ini t, P st' ini t → P st' ini (t.recvHeadersCl k h).1
  queue : ∀ st' ini t, P st' ini t → I (t.recvHeadersQueue k h ini).1

theorem RecvHeadersRule.run {k : Nat} {h : HeadersIn} {s : Streams} {I : Streams → Prop} {P : State → Bool → Streams → Prop}
    (r : RecvHeadersRule k h s I P) : I (s.recvRecvHeaders k h).1 := by
  rw [recvRecvHeaders_eq]
  split
  · exact r.err
  · next st' ini heq =>
    dsimp only
    split
    · exact r.refuse st' ini heq
    · next hg =>
      have h3 := r.cl _ _ _ (r.stc st' ini heq hg)
      split
      · next heq3 => rw [heq3] at h3; exact r.out _ _ _ h3
      · next heq3 => rw [heq3] at h3; exact r.queue _ _ _ h3

theorem libErr_library (id : Nat) (r : Reason) : LibErr (.error (PErr.libraryReset id r)) := fun _ _ e => by cases e
theorem libErr_goAway (d : Bytes) (r : Reason) (i : Initiator) : LibErr (.error (.goAway d r i)) := fun _ _ e => by cases e

theorem State.recvOpen_libErr {x y : State} {eos inf : Bool} {e : PErr} (h : x.recvOpen eos inf = (y, .error e)) :
    LibErr (.error e) := by
  unfold State.recvOpen at h
  dsimp only at h
  split at h <;> cases h
  exact libErr_goAway _ _ _

theorem recvHeadersCl_libErr (s : Streams) (k : Nat) (h : HeadersIn) {e : PErr} (he : (s.recvHeadersCl k h).2 = some e) :
    LibErr (.error e) := by
  unfold recvHeadersCl at he
  repeat' split at he
  all_goals try dsimp only at he
  all_goals try split at he
  all_goals first | (cases he; exact libErr_library _ _) | cases he

theorem recvHeadersQueue_libErr (s : Streams) (k : Nat) (h : HeadersIn) (ini : Bool) {e : PErr}
    (he : (s.recvHeadersQueue k h ini).2 = .state e) : LibErr (.error e) := by
  unfold recvHeadersQueue at he
  repeat' split at he
  all_goals try dsimp only at he
  all_goals try split at he
  all_goals first | (cases he; exact libErr_library _ _) | cases he

theorem recvRecvHeaders_libErr (s : Streams) (k : Nat) (h : HeadersIn) {e : PErr}
    (he : (s.recvRecvHeaders k h).2 = .state e) : LibErr (.error e) := by
  rw [recvRecvHeaders_eq] at he
  split at he
  · next heq => cases he; exact State.recvOpen_libErr heq
  · dsimp only at he
    split at he
    · cases he; exact libErr_library _ _
    · split at he
      · next heq => cases he; exact recvHeadersCl_libErr _ k h (by rw [heq])
      · exact recvHeadersQueue_libErr _ k h _ he

theorem recvRecvTrailers_libErr (s : Streams) (k : Nat) (h : HeadersIn) : LibErr (s.recvRecvTrailers k h).2 := by
  unfold recvRecvTrailers
  split
  · next heq =>
    unfold State.recvClose at heq
    split at heq <;> cases heq
    exact libErr_goAway _ _ _
  · dsimp only
    repeat' split
    all_goals exact fun _ _ e => by cases e

theorem recvHeadersDispatch_libErr (s : Streams) (k : Nat) (h : HeadersIn) : LibErr (s.recvHeadersDispatch k h).2 := by
  unfold recvHeadersDispatch
  split
  · have hr := @recvRecvHeaders_libErr s k h
    generalize s.recvRecvHeaders k h = p at hr
    obtain ⟨s1, res⟩ := p
    cases res with
    | ok => exact fun _ _ e => by cases e
    | oversize b => cases b <;> exact fun _ _ e => by cases e
    | state e => exact hr rfl
    | unsupported => exact fun _ _ e => by cases e
  · exact recvRecvTrailers_libErr s k h

/-- the 431 answer to an oversize request head -/
def answer431 (s : Streams) (k : Nat) : Streams :=
  (((s.sendHeaders k true [{ h := (Hpack.pStatus, Http.str "431"), sensitive := false, nameless := false }]).1.scheduleImplicitReset
    k PROTOCOL_ERROR).enqueueResetExpiration k)

/-- **The closure `Inner::recv_headers` hands to `counts.transition`, for entry `k`.**  `I` holds inside, `Q` is claimed
    of the state the closure returns; `L s` is what the invariant knows of the entry when `Recv::recv_headers` /
    `recv_trailers` starts (that it is live, …), `L' s` after `Recv::recv_headers`.  One field per thing the closure
    does: `Recv::recv_headers` (`hdrs`: a `RecvHeadersRule`), the unsupported marker, `Recv::recv_trailers`; and per way
    it ends: without a stream error (`done`), with the 431 answer (`big`), with `reset_on_recv_stream_err` on a library
    error (`rst`). -/
structure HeadersBodyRule (k : Nat) (h : HeadersIn) (I L L' Q : Streams → Prop) : Prop where
  hdrs : ∀ s, I s → L s → I (s.recvRecvHeaders k h).1 ∧ L' (s.recvRecvHeaders k h).1
  unsup : ∀ s m, I s → I (s.unsup m)
  trailers : ∀ s, I s → L s → I (s.recvRecvTrailers k h).1
  done : ∀ s, I s → Q s
  big : ∀ s, I s → L' s → Q (s.answer431 k)
  rst : ∀ s e, I s → LibErr (.error e) → Q (s.resetOnRecvStreamErr k (.error e)).1

/-- **`Inner::recv_headers`, from the state `s0`.**  `I` holds from the entry on.  One field per thing the function does:
    the frame is ignored (`pre`), the id is known (`found`), `Recv::open` (`opn`) and the insertion of the new entry (`ins`),
    the closure (`body`: a `HeadersBodyRule`), `transition_after` (`ta`). -/
structure HeadersRule (h : HeadersIn) (s0 : Streams) (I : Streams → Prop) (L : Nat → Streams → Prop) : Prop where
  pre : I s0
  found : ∀ k, s0.store.findKey? h.sid = some k → L k s0
  opn : s0.store.findKey? h.sid = none → I (s0.recvOpen h.sid false).1
  ins : ∀ s1, s0.store.findKey? h.sid = none → s0.recvOpen h.sid false = (s1, .ok true) →
    I { s1 with store := (s1.store.insert (Stream.new h.sid s1.actions.send.initWindowSz s1.recv.initWindowSz)).1 } ∧
    L s1.store.nextKey { s1 with store := (s1.store.insert (Stream.new h.sid s1.actions.send.initWindowSz s1.recv.initWindowSz)).1 }
  body : ∀ s k, I s → L k s → I (s.recvHeadersBody k h).1
  ta : ∀ s k b, I s → I (s.transitionAfter k b)

section
variable {h : HeadersIn} {s0 : Streams} {I : Streams → Prop} {L : Nat → Streams → Prop}

theorem HeadersBodyRule.run {k : Nat} {L L' Q : Streams → Prop} (r : HeadersBodyRule k h I L L' Q) (s : Streams) (hi : I s)
    (hl : L s) : Q (s.recvHeadersBody k h).1 := by
  have fin : ∀ (t : Streams) (res : Except PErr Unit), I t → LibErr res → Q (t.resetOnRecvStreamErr k res).1 := by
    intro t res ht hlib
    cases res with
    | ok u => exact r.done t ht
    | error e => exact r.rst t e ht hlib
  have key : Q ((s.recvHeadersDispatch k h).1.resetOnRecvStreamErr k (s.recvHeadersDispatch k h).2).1 := by
    have hlib := recvHeadersDispatch_libErr s k h
    unfold recvHeadersDispatch at hlib ⊢
    split
    · next hc =>
      have h1 := r.hdrs s hi hl
      rw [if_pos hc] at hlib
      generalize s.recvRecvHeaders k h = p at h1 hlib
      obtain ⟨s1, res⟩ := p
      cases res with
      | ok => exact r.done s1 h1.1
      | oversize b =>
        cases b
        · exact fin _ _ h1.1 hlib
        · exact r.big s1 h1.1 h1.2
      | state e => exact fin _ _ h1.1 hlib
      | unsupported => exact r.done _ (r.unsup _ _ h1.1)
    · next hc =>
      rw [if_neg hc] at hlib
      exact fin _ _ (r.trailers s hi hl) hlib
  unfold recvHeadersBody
  split
  · exact r.done s hi
  · generalize s.recvHeadersDispatch k h = p at key
    obtain ⟨s1, res⟩ := p
    exact key

theorem HeadersRule.entry (r : HeadersRule h s0 I L) :
    I (s0.recvHeadersEntry h).1 ∧ ∀ k, (s0.recvHeadersEntry h).2 = .ok (some k) → L k (s0.recvHeadersEntry h).1 := by
  unfold recvHeadersEntry
  cases hfk : s0.store.findKey? h.sid with
  | some k => exact ⟨r.pre, fun k' e => by cases e; exact r.found k hfk⟩
  | none =>
    dsimp only
    split
    · exact ⟨r.pre, fun _ e => by cases e⟩
    · have h1 := r.opn hfk
      have h2 := r.ins
      generalize s0.recvOpen h.sid false = p at h1 h2
      obtain ⟨s1, res⟩ := p
      cases res with
      | error e => exact ⟨h1, fun _ e => by cases e⟩
      | ok b =>
        cases b
        · exact ⟨h1, fun _ e => by cases e⟩
        · obtain ⟨h3, hl3⟩ := h2 s1 hfk rfl
          exact ⟨h3, fun k' e => by cases e; exact hl3⟩

theorem HeadersRule.run (r : HeadersRule h s0 I L) : I (s0.recvHeaders h).1 := by
  rw [recvHeaders_eq]
  split
  · exact r.pre
  · have he := r.entry
    generalize s0.recvHeadersEntry h = p at he
    obtain ⟨s1, res⟩ := p
    cases res with
    | error e => exact he.1
    | ok o =>
      cases o with
      | none => exact he.1
      | some k =>
        dsimp only
        split
        · exact he.1
        · split
          · exact he.1
          · exact transition_inv (r.body s1 k he.1 (he.2 k rfl)) (r.ta · k ·)

variable {R : Streams → Streams → Prop}

/-- **`Inner::recv_headers` for a relation**: the instance `I := R s` of the rule -/
theorem recvHeaders_rel (ok : RelOK R) (h : HeadersIn)
    (hopn : ∀ s, R s (s.recvOpen h.sid false).1)
    (hins : ∀ s, R s { s with store := (s.store.insert (Stream.new h.sid s.actions.send.initWindowSz s.recv.initWindowSz)).1 })
    (hbody : ∀ s k, R s (s.recvHeadersBody k h).1) (hta : ∀ s k b, R s (s.transitionAfter k b)) (s : Streams) :
    R s (s.recvHeaders h).1 :=
  HeadersRule.run (I := R s) (L := fun _ _ => True)
    { pre := ok.refl s
      found := fun _ _ => trivial
      opn := fun _ => hopn s
      ins := fun s1 _ hro => by
        have h1 := hopn s; rw [hro] at h1
        exact ⟨ok.trans h1 (hins s1), trivial⟩
      body := fun t k ht _ => ok.trans ht (hbody t k)
      ta := fun t k b ht => ok.trans ht (hta t k b) }
end

end Streams
end H2V.Model.Conn
