import H2V.Lemmas.ConnHttpPRecv
/-
  C13 (ConnHttpP) — `Inner::recv_headers` (streams.rs): for EVERY state and EVERY received
  head, all that reaches any receive queue is one event for a head that passed every check of
  `Recv::recv_headers`, or one trailers event.
-/
namespace H2V.Lemmas.ConnHttpP
open H2V H2V.Model H2V.Model.Conn

/-- `find_entry(id)` / opening a new stream -/
def rhEntry (s : Streams) (h : HeadersIn) : Streams × Except PErr (Option Nat) :=
  match s.store.findKey? h.sid with
  | some k => (s, .ok (some k))
  | none =>
    if !s.counts.isServer && s.mayHaveForgottenStream h.sid then (s, .error (PErr.libraryReset h.sid STREAM_CLOSED))
    else
      match s.recvOpen h.sid false with
      | (s, .error e) => (s, .error e)
      | (s, .ok false) => (s, .ok none)
      | (s, .ok true) =>
        let st := Stream.new h.sid s.actions.send.initWindowSz s.recv.initWindowSz
        let (store, k) := s.store.insert st
        ({ s with store := store }, .ok (some k))

/-- the closure handed to `counts.transition` -/
def rhBody (s : Streams) (k : Nat) (h : HeadersIn) : Streams × Except PErr Unit :=
  if !(s.stream k).state.isRecvHeaders && !h.eos then (s, .error (PErr.libraryReset h.sid PROTOCOL_ERROR))
  else
  let (s, res) : Streams × Except PErr Unit :=
    if (s.stream k).state.isRecvHeaders then
      match s.recvRecvHeaders k h with
      | (s, .ok) => (s, .ok ())
      | (s, .oversize true) =>
        let f431 : List Hpack.Field := [{ h := (Hpack.pStatus, Http.str "431"), sensitive := false, nameless := false }]
        let s := (s.sendHeaders k true f431).1
        let s := s.scheduleImplicitReset k PROTOCOL_ERROR
        (s.enqueueResetExpiration k, .ok ())
      | (s, .oversize false) => (s, .error (PErr.libraryReset h.sid PROTOCOL_ERROR))
      | (s, .state e) => (s, .error e)
      | (s, .unsupported) => (s.unsup "request URI outside the modelled subset", .ok ())
    else s.recvRecvTrailers k h
  s.resetOnRecvStreamErr k res

/-- what `Inner::recv_headers` may hand over for the frame `h` -/
def FrameAccepted (cfg : Bool × Bool) (h : HeadersIn) (ev : REvent) : Prop :=
  HeadAccepted cfg h ev ∨ TrailersAccepted h ev

theorem rhBody_delivers {s t : Streams} (q : Quiet s t) (c : cfgOf t = cfgOf s) (k : Nat) (h : HeadersIn) :
    Delivers (fun _ ev => FrameAccepted (cfgOf s) h ev) s (t.recvHeadersBody k h).1 :=
  Streams.HeadersBodyRule.run (I := Delivers (fun _ ev => FrameAccepted (cfgOf s) h ev) s)
    (Q := Delivers (fun _ ev => FrameAccepted (cfgOf s) h ev) s) (L := fun t => Quiet s t ∧ cfgOf t = cfgOf s)
    (L' := fun _ => True)
    { hdrs := fun t _ ⟨q, c⟩ =>
        ⟨q.then (by rw [← c]; exact (recvRecvHeaders_delivers t k h).1.mono fun _ _ hp => .inl hp.2), trivial⟩
      unsup := fun _ _ d => d.step (.of_step (.unsup _ _) (.refl _))
      trailers := fun t _ ⟨q, _⟩ => q.then ((recvRecvTrailers_delivers t k h).1.mono fun _ _ hp => .inr hp.2)
      done := fun _ d => d
      big := fun t d _ => d.step (.of_step (Streams.answer431_step (by decide) t k) (.refl _))
      rst := fun t _ d _ => d.step ((Quiet.refl t).resetOnRecvStreamErr k _) } t q.delivers ⟨q, c⟩

/-- **`Inner::recv_headers`, every state, every frame**: every receive queue afterwards is empty, or
    what it was, or that plus ONE event — the head of `h` if it passed every check of
    `Recv::recv_headers` (`HeadAccepted`), or `h` as trailers -/
theorem recvHeaders_delivers (s : Streams) (h : HeadersIn) :
    Delivers (fun _ ev => FrameAccepted (cfgOf s) h ev) s (s.recvHeaders h).1 :=
  have t := Streams.recvOpen_step (K := kindsQuiet) (by decide) s h.sid false
  Streams.HeadersRule.run (I := Delivers (fun _ ev => FrameAccepted (cfgOf s) h ev) s)
    (L := fun _ t => Quiet s t ∧ cfgOf t = cfgOf s)
    { pre := (Quiet.refl s).delivers
      found := fun _ _ => ⟨.refl s, rfl⟩
      opn := fun _ => (Quiet.of_step t (.refl s)).delivers
      ins := fun s1 _ e => by
        rw [e] at t
        suffices q : Quiet s _ from ⟨q.delivers, q, (cfg_of_step rfl t :)⟩
        exact (Quiet.of_step t (.refl s)).trans (quiet_insert s1 _ rfl)
      body := fun _ k _ ⟨q, c⟩ => rhBody_delivers q c k h
      ta := fun t k b d => d.step ((Quiet.refl t).transitionAfter k b) }

end H2V.Lemmas.ConnHttpP
