import H2V.Lemmas.ConnHttpPBody
import H2V.Lemmas.ConnHttpPMain
/-
  C13 (ConnHttpP) — the announced content-length: `parse_u64` against the reference's reading
  of the field, and what `Recv::recv_headers` stores in `Stream.content_length`.
-/
namespace H2V.Lemmas.ConnHttpP
open H2V H2V.Model H2V.Model.Frame H2V.Model.Hpack H2V.Model.Conn

def isDig (b : Nat) : Bool := decide (48 ≤ b) && decide (b ≤ 57)

theorem parseU64_fold : ∀ (v : Bytes) (acc : Nat),
    v.foldl (fun (a : Option Nat) d => match a with
      | none => none
      | some r => if d < 48 || d > 57 then none else some (r * 10 + (d - 48))) (some acc) =
    if v.all isDig then some (v.foldl (fun a b => a * 10 + (b - 48)) acc) else none
  | [], acc => rfl
  | d :: rest, acc => by
    simp only [List.foldl_cons, List.all_cons]
    by_cases hd : isDig d = true
    · have : (d < 48 || d > 57) = false := by
        unfold isDig at hd; simp only [Bool.and_eq_true, decide_eq_true_eq] at hd
        simp only [Bool.or_eq_false_iff, decide_eq_false_iff_not]; omega
      simp only [this, Bool.false_eq_true, if_false, hd, Bool.true_and]
      exact parseU64_fold rest _
    · have hd' : isDig d = false := by simpa using hd
      have : (d < 48 || d > 57) = true := by
        unfold isDig at hd'; simp only [Bool.and_eq_false_iff, decide_eq_false_iff_not] at hd'
        simp only [Bool.or_eq_true, decide_eq_true_eq]; omega
      simp only [this, if_true, hd', Bool.false_and, Bool.false_eq_true, if_false]
      clear this hd hd'
      induction rest with
      | nil => rfl
      | cons a t ih => simpa using ih

/-- `frame::parse_u64`: 1 to 19 octets, all digits; the decimal value (since the repair of finding N4b an
    empty string is an error) -/
theorem parseU64_eq (v : Bytes) :
    parseU64 v = if v.isEmpty then none else if v.length > 19 then none
      else if v.all isDig then some (v.foldl (fun a b => a * 10 + (b - 48)) 0) else none := by
  unfold parseU64
  split
  · rfl
  · split
    · rfl
    · exact parseU64_fold v 0

theorem parseU64_some (v : Bytes) (n : Nat) (hp : parseU64 v = some n) :
    v ≠ [] ∧ v.all isDig = true ∧ n = v.foldl (fun a b => a * 10 + (b - 48)) 0 := by
  rw [parseU64_eq] at hp
  split at hp
  · cases hp
  · rename_i he
    split at hp
    · cases hp
    · split at hp
      · rename_i hd
        cases hp
        exact ⟨fun e => by subst e; simp at he, hd, rfl⟩
      · cases hp

theorem parseU64_clValue (v : Bytes) (n : Nat) (hp : parseU64 v = some n) : Spec.Http.clValue v = some n := by
  obtain ⟨hne, hd, hn⟩ := parseU64_some v n hp
  unfold Spec.Http.clValue
  have : (!v.isEmpty && v.all fun b => decide (48 ≤ b) && decide (b ≤ 57)) = true := by
    have : v.isEmpty = false := by cases v <;> simp_all
    rw [this]; exact hd
  rw [if_pos this, hn]

/-- conversely, up to 19 digits `parse_u64` accepts what the reference reads (beyond, it refuses: the one
    difference, on the safe side) -/
theorem clValue_parseU64 (v : Bytes) (n : Nat) (hlen : v.length ≤ 19) (hc : Spec.Http.clValue v = some n) :
    parseU64 v = some n := by
  unfold Spec.Http.clValue at hc
  split at hc
  · rename_i hd
    simp only [Bool.and_eq_true, Bool.not_eq_true'] at hd
    cases hc
    rw [parseU64_eq, if_neg (by simp [hd.1]), if_neg (by omega)]
    have : v.all isDig = true := hd.2
    rw [if_pos this]
  · cases hc

/-- the repaired reading of a (possibly repeated) content-length: every value must parse, all to the
    same number (`HeaderMap::get_all`) -/
def clOfValues : List Bytes → Option (Option Nat)
  | [] => none
  | v :: rest => some (match parseU64 v with
    | none => none
    | some cl => if rest.any (fun o => parseU64 o != some cl) then none else some cl)

theorem clOfValues_some (vs : List Bytes) (n : Nat) :
    clOfValues vs = some (some n) ↔ vs ≠ [] ∧ ∀ v ∈ vs, parseU64 v = some n := by
  cases vs with
  | nil => simp [clOfValues]
  | cons v rest =>
    unfold clOfValues
    cases hp : parseU64 v with
    | none => simp [hp]
    | some cl =>
      simp only [Option.some.injEq, ne_eq, reduceCtorEq, not_false_eq_true, List.mem_cons, forall_eq_or_imp, true_and, hp]
      by_cases ha : rest.any (fun o => parseU64 o != some cl) = true
      · rw [if_pos ha]
        simp only [reduceCtorEq, false_iff, not_and]
        intro e
        subst e
        simp only [List.any_eq_true, bne_iff_ne, ne_eq] at ha
        obtain ⟨o, ho, hne⟩ := ha
        exact fun hall => hne (hall o ho)
      · rw [if_neg ha]
        simp only [Option.some.injEq]
        constructor
        · intro e
          subst e
          refine ⟨rfl, fun o ho => ?_⟩
          have ha' : ∀ x ∈ rest, parseU64 x = some cl := by simpa using ha
          exact ha' o ho
        · exact fun h => h.1

def lookupF (l : Fields) (n : Bytes) : Option (List Bytes) := (l.find? (fun f => f.1 == n)).map (·.2)

theorem lookupF_appendField : ∀ (l : Fields) (a v n : Bytes),
    lookupF (appendField l a v) n = if a = n then some ((lookupF l n).getD [] ++ [v]) else lookupF l n
  | [], a, v, n => by
    unfold appendField lookupF
    by_cases e : a = n
    · simp [e]
    · simp [e]
  | (n', vs) :: rest, a, v, n => by
    unfold appendField
    by_cases e1 : n' = a
    · rw [if_pos e1]
      subst e1
      by_cases e : n' = n
      · subst e; simp [lookupF]
      · simp [lookupF, e]
    · rw [if_neg e1]
      have ih := lookupF_appendField rest a v n
      by_cases e : n' = n
      · subst e
        have : ¬ a = n' := fun x => e1 x.symm
        simp [lookupF, this]
      · unfold lookupF at ih ⊢
        simp only [List.find?_cons, show (n' == n) = false by simpa using e]
        exact ih

theorem lookupF_groupInto : ∀ (l : List Header) (acc : Fields) (n : Bytes),
    lookupF (groupInto acc l) n =
      if (lookupF acc n).isNone ∧ vals l n = [] then none else some ((lookupF acc n).getD [] ++ vals l n)
  | [], acc, n => by
    unfold groupInto vals
    cases h : lookupF acc n <;> simp [h]
  | h :: rest, acc, n => by
    have ih := lookupF_groupInto rest (appendField acc h.1 h.2) n
    unfold groupInto at ih ⊢
    rw [List.foldl_cons, ih, lookupF_appendField, vals_cons]
    by_cases e : h.1 = n
    · simp [e]
    · simp [e]

theorem vals_regular (g : List Header) (n : Bytes) (hn : n.head? ≠ some 58) : vals (regular g) n = vals g n := by
  unfold vals regular
  rw [List.filter_filter]
  congr 1
  apply List.filter_congr
  intro x _
  by_cases e : x.1 = n
  · simp [e, hn]
  · simp [e]

/-- what `fields.get_all(CONTENT_LENGTH)` sees in a delivered block: all `content-length` values of the
    field list, in wire order -/
theorem find_content_length (g : List Header) :
    (match (groupInto [] (regular g)).find? (fun f => f.1 == Http.str "content-length") with
      | some (_, v :: rest) => v :: rest
      | _ => []) = Spec.Http.get g "content-length" := by
  have h := lookupF_groupInto (regular g) [] (Http.str "content-length")
  rw [vals_regular g _ (by rw [str_content_length]; decide)] at h
  rw [get_eq_vals, ascii_content_length, ← str_content_length]
  unfold lookupF at h
  cases hv : vals g (Http.str "content-length") with
  | nil =>
    rw [hv] at h
    simp only [List.find?_nil, Option.map_none, Option.isNone_none, and_self, if_true, Option.map_eq_none_iff] at h
    rw [h]
  | cons v rest =>
    rw [hv] at h
    simp only [List.find?_nil, Option.map_none, Option.isNone_none, true_and, reduceCtorEq, if_false,
      Option.getD_none, List.nil_append] at h
    cases hf : (groupInto [] (regular g)).find? (fun f => f.1 == Http.str "content-length") with
    | none => rw [hf] at h; cases h
    | some p =>
      rw [hf] at h
      obtain ⟨a, b⟩ := p
      simp only [Option.map_some, Option.some.injEq] at h
      subst h
      rfl

/-- `content-length` as `recv_headers` reads it: all values through `parse_u64`, which must agree -/
def headCl (h : HeadersIn) : Option (Option Nat) :=
  match h.fields.find? (fun f => f.1 == Http.str "content-length") with
  | some (_, v :: rest) => clOfValues (v :: rest)
  | _ => none

theorem clOf_modStream_self (s : Streams) (k : Nat) (f : Stream → Stream) (hf : ∀ st, (f st).key = st.key)
    (st : Stream) (hg : s.store.get? k = some st) : clOf (s.modStream k f) k = some (f st).contentLength := by
  unfold clOf
  rw [Streams.modStream_get? s k f hf, if_pos rfl, hg]
  rfl

theorem rhCl_cl (s : Streams) (k : Nat) (h : HeadersIn) (cl0 : ContentLength) (live : clOf s k = some cl0)
    (hres : (Streams.recvHeadersCl s k h).2 = none) :
    clOf (Streams.recvHeadersCl s k h).1 k = some (if cl0 = .head then .head else
      match headCl h with
      | some (some n) => .remaining n
      | _ => cl0) ∧
    (cl0 ≠ .head → headCl h ≠ some none ∧
      ∀ n, headCl h = some (some n) → ¬(h.eos = true ∧ n > 0 ∧ statusNot204304 h = true)) := by
  obtain ⟨st, hst, hcl⟩ := clOf_some live
  generalize hr : Streams.recvHeadersCl s k h = r at hres ⊢
  unfold Streams.recvHeadersCl at hr
  rw [Streams.stream_of_get? hst, hcl] at hr
  unfold headCl
  by_cases hh : cl0 = .head
  · subst hh
    simp only [bne_self_eq_false, Bool.false_eq_true, if_false] at hr
    subst hr
    simp only [if_true]
    exact ⟨live, fun x => absurd rfl x⟩
  · have : (cl0 != ContentLength.head) = true := by simpa using hh
    simp only [this, if_true] at hr
    simp only [if_neg hh]
    split at hr
    · rename_i nm v rest hf
      simp only [hf]
      unfold clOfValues
      split at hr
      · subst hr; cases hres
      · rename_i n hp
        simp only [hp]
        by_cases ha : rest.any (fun o => parseU64 o != some n) = true
        · rw [if_pos ha] at hr; subst hr; cases hres
        · rw [if_neg ha] at hr
          simp only [if_neg ha]
          replace hr : (if (h.eos && decide (n > 0) && statusNot204304 h) = true then _ else _) = r := hr
          by_cases hc : (h.eos && decide (n > 0) && statusNot204304 h) = true
          · rw [if_pos hc] at hr; subst hr; cases hres
          · rw [if_neg hc] at hr
            subst hr
            refine ⟨clOf_modStream_self s k (fun st => { st with contentLength := .remaining n }) (fun _ => rfl) st hst, fun _ => ⟨by simp, fun n' hn' => ?_⟩⟩
            cases hn'
            intro ⟨a, b, c⟩
            apply hc
            simp only [a, b, c, decide_true, Bool.and_self]
    · rename_i hf
      subst hr
      have : (match h.fields.find? (fun f => f.1 == Http.str "content-length") with
          | some (_, v :: rest) => clOfValues (v :: rest)
          | _ => none) = none := by
        split
        · rename_i nm v rest hf'; exact absurd hf' (hf nm v rest)
        · rfl
      rw [this]
      exact ⟨live, fun _ => ⟨by simp, fun n hn => by cases hn⟩⟩


/-- **what an accepted head leaves in `Stream.content_length`** (`cl0` = what was there: `Head` for a
    response to HEAD): the number all `content-length` values parse to; and a head with
    END_STREAM is only accepted with content-length 0 (or status 204 / 304) -/
theorem recvRecvHeaders_cl (s : Streams) (k : Nat) (h : HeadersIn) (cl0 : ContentLength)
    (live : clOf s k = some cl0) (hok : (s.recvRecvHeaders k h).2.isOk = true) :
    clOf (s.recvRecvHeaders k h).1 k = some (if cl0 = .head then .head else
      match headCl h with
      | some (some n) => .remaining n
      | _ => cl0) ∧
    (cl0 ≠ .head → headCl h ≠ some none ∧
      ∀ n, headCl h = some (some n) → ¬(h.eos = true ∧ n > 0 ∧ statusNot204304 h = true)) := by
  rw [Streams.recvRecvHeaders_eq] at hok ⊢
  split at hok
  · cases hok
  · rename_i st' i heq
    dsimp only at hok ⊢
    split at hok
    · cases hok
    rename_i hnr
    rw [if_neg hnr]
    have c1 : SameCL s (Streams.recvHeadersCount (s.recvHeadersSt k st') k h i) :=
      .of_step (Streams.recvHeadersCount_step (by decide) _ k h i) ((SameCL.refl s).mod k)
    generalize Streams.recvHeadersCount (s.recvHeadersSt k st') k h i = s1 at c1 hok ⊢
    have live1 : clOf s1 k = some cl0 := by rw [c1 k]; exact live
    have := rhCl_cl s1 k h cl0 live1
    generalize Streams.recvHeadersCl s1 k h = c at this hok ⊢
    obtain ⟨s2, o⟩ := c
    cases o with
    | some e => cases hok
    | none =>
      simp only at this hok ⊢
      obtain ⟨t1, t2⟩ := this trivial
      exact ⟨by rw [SameCL.of_step (Streams.recvHeadersQueue_step (by decide) s2 k h i) (.refl s2) k]; exact t1, t2⟩

theorem headCl_block (blk : HeaderBlock) (g : List Header) (sid : Nat) (eos : Bool)
    (hf : blk.fields = groupInto [] (regular g)) :
    headCl (Conn.headersIn sid eos blk) = clOfValues (Spec.Http.get g "content-length") := by
  unfold headCl
  simp only [Conn.headersIn, hf]
  rw [← find_content_length g]
  split
  · rfl
  · rfl

/-- **announced = stored**: an accepted head (live stream, not a response to HEAD) leaves in the ledger
    exactly the number that ALL `content-length` values of the field list parse to (untouched when there is
    none), and END_STREAM on the head only goes with 0 (or status 204 / 304) -/
theorem accepted_head_content_length_all (s : Streams) (k : Nat) (blk : HeaderBlock) (g : List Header) (sid : Nat)
    (eos : Bool) (cl0 : ContentLength) (hf : blk.fields = groupInto [] (regular g))
    (live : clOf s k = some cl0) (hnh : cl0 ≠ .head)
    (hok : (s.recvRecvHeaders k (Conn.headersIn sid eos blk)).2.isOk = true) :
    (Spec.Http.get g "content-length" = [] ∧
      clOf (s.recvRecvHeaders k (Conn.headersIn sid eos blk)).1 k = some cl0) ∨
    (Spec.Http.get g "content-length" ≠ [] ∧ ∃ n, (∀ v ∈ Spec.Http.get g "content-length", parseU64 v = some n) ∧
      clOf (s.recvRecvHeaders k (Conn.headersIn sid eos blk)).1 k = some (.remaining n) ∧
      ¬(eos = true ∧ n > 0 ∧ statusNot204304 (Conn.headersIn sid eos blk) = true)) := by
  obtain ⟨c1, c2⟩ := recvRecvHeaders_cl s k _ cl0 live hok
  obtain ⟨c3, c4⟩ := c2 hnh
  rw [if_neg hnh, headCl_block blk g sid eos hf] at c1
  rw [headCl_block blk g sid eos hf] at c3 c4
  cases hv : Spec.Http.get g "content-length" with
  | nil => rw [hv] at c1; exact Or.inl ⟨rfl, c1⟩
  | cons v rest =>
    cases hcl : clOfValues (v :: rest) with
    | none => simp [clOfValues] at hcl
    | some o =>
      cases o with
      | none => rw [hv] at c3; exact absurd hcl c3
      | some n =>
        rw [hv, hcl] at c1
        have := (clOfValues_some (v :: rest) n).mp hcl
        exact Or.inr ⟨List.cons_ne_nil _ _, n, this.2, c1, c4 n (by rw [hv]; exact hcl)⟩

/-- **a head whose content-length values do not all parse to one number is refused** (findings N4a, N4b
    repaired): live stream, not a response to HEAD -/
theorem bad_content_length_refused (s : Streams) (k : Nat) (blk : HeaderBlock) (g : List Header) (sid : Nat)
    (eos : Bool) (cl0 : ContentLength) (hf : blk.fields = groupInto [] (regular g))
    (live : clOf s k = some cl0) (hnh : cl0 ≠ .head)
    (hbad : Spec.Http.get g "content-length" ≠ [] ∧
      ¬ ∃ n, ∀ v ∈ Spec.Http.get g "content-length", parseU64 v = some n) :
    (s.recvRecvHeaders k (Conn.headersIn sid eos blk)).2.isOk = false := by
  cases hok : (s.recvRecvHeaders k (Conn.headersIn sid eos blk)).2.isOk with
  | false => rfl
  | true =>
    rcases accepted_head_content_length_all s k blk g sid eos cl0 hf live hnh hok with ⟨e, -⟩ | ⟨-, n, hn, -⟩
    · exact absurd e hbad.1
    · exact absurd ⟨n, hn⟩ hbad.2

theorem spec_of_all_parse (g : List Header) (n : Nat) (hne : Spec.Http.get g "content-length" ≠ [])
    (hall : ∀ v ∈ Spec.Http.get g "content-length", parseU64 v = some n) :
    Spec.Http.contentLength g = some (some n) := by
  unfold Spec.Http.contentLength
  cases hv : Spec.Http.get g "content-length" with
  | nil => exact absurd hv hne
  | cons v rest =>
    rw [hv] at hall
    simp only
    rw [parseU64_clValue v n (hall v (by simp))]
    simp only
    have : rest.all (fun o => Spec.Http.clValue o == some n) = true := by
      rw [List.all_eq_true]
      intro o ho
      rw [parseU64_clValue o n (hall o (by simp [ho]))]
      simp
    rw [if_pos this]

/-- **the code agrees with the reference**: an accepted head (live stream, not a response to HEAD) that
    carries a content-length is one for which `Spec.Http.contentLength` reads a number `n`, and `n` is
    what the ledger starts from -/
theorem accepted_head_agrees_with_reference (s : Streams) (k : Nat) (blk : HeaderBlock) (g : List Header) (sid : Nat)
    (eos : Bool) (cl0 : ContentLength) (hf : blk.fields = groupInto [] (regular g))
    (live : clOf s k = some cl0) (hnh : cl0 ≠ .head)
    (hok : (s.recvRecvHeaders k (Conn.headersIn sid eos blk)).2.isOk = true) :
    (Spec.Http.contentLength g = none ∧ clOf (s.recvRecvHeaders k (Conn.headersIn sid eos blk)).1 k = some cl0) ∨
    (∃ n, Spec.Http.contentLength g = some (some n) ∧
      clOf (s.recvRecvHeaders k (Conn.headersIn sid eos blk)).1 k = some (.remaining n) ∧
      ¬(eos = true ∧ n > 0 ∧ statusNot204304 (Conn.headersIn sid eos blk) = true)) := by
  rcases accepted_head_content_length_all s k blk g sid eos cl0 hf live hnh hok with ⟨e, h1⟩ | ⟨hne, n, hn, h1, h2⟩
  · exact Or.inl ⟨by unfold Spec.Http.contentLength; rw [e], h1⟩
  · exact Or.inr ⟨n, spec_of_all_parse g n hne hn, h1, h2⟩

/-- in the reference's terms: when `Spec.Http.contentLength` reads `n` and the head is accepted, `n` is
    what the ledger starts from -/
theorem accepted_head_content_length (s : Streams) (k : Nat) (blk : HeaderBlock) (g : List Header) (sid : Nat)
    (eos : Bool) (cl0 : ContentLength) (n : Nat) (hf : blk.fields = groupInto [] (regular g))
    (live : clOf s k = some cl0) (hnh : cl0 ≠ .head)
    (hspec : Spec.Http.contentLength g = some (some n))
    (hok : (s.recvRecvHeaders k (Conn.headersIn sid eos blk)).2.isOk = true) :
    clOf (s.recvRecvHeaders k (Conn.headersIn sid eos blk)).1 k = some (.remaining n) ∧
    ¬(eos = true ∧ n > 0 ∧ statusNot204304 (Conn.headersIn sid eos blk) = true) := by
  rcases accepted_head_agrees_with_reference s k blk g sid eos cl0 hf live hnh hok with ⟨e, -⟩ | ⟨n', e, h1, h2⟩
  · rw [hspec] at e; cases e
  · rw [hspec] at e
    have : n = n' := by simpa using e
    subst this
    exact ⟨h1, h2⟩

/-- **an announcement the reference cannot read is refused**: `Spec.Http.contentLength g = some none`
    (a value that is empty or not all digits, or values that differ) ⇒ `recv_headers` does not answer `Ok` -/
theorem unreadable_content_length_refused (s : Streams) (k : Nat) (blk : HeaderBlock) (g : List Header) (sid : Nat)
    (eos : Bool) (cl0 : ContentLength) (hf : blk.fields = groupInto [] (regular g))
    (live : clOf s k = some cl0) (hnh : cl0 ≠ .head) (hspec : Spec.Http.contentLength g = some none) :
    (s.recvRecvHeaders k (Conn.headersIn sid eos blk)).2.isOk = false := by
  cases hok : (s.recvRecvHeaders k (Conn.headersIn sid eos blk)).2.isOk with
  | false => rfl
  | true =>
    rcases accepted_head_agrees_with_reference s k blk g sid eos cl0 hf live hnh hok with ⟨e, -⟩ | ⟨n, e, -⟩
    · rw [hspec] at e; cases e
    · rw [hspec] at e; cases e

/-- **the one difference, on the safe side**: when the reference reads `n` and no value is longer than 19
    octets, every value parses to `n` — so the only readable announcements the code refuses are those
    with more than 19 digits -/
theorem spec_content_length_parses (g : List Header) (n : Nat) (hspec : Spec.Http.contentLength g = some (some n))
    (hlen : ∀ v ∈ Spec.Http.get g "content-length", v.length ≤ 19) :
    Spec.Http.get g "content-length" ≠ [] ∧ ∀ v ∈ Spec.Http.get g "content-length", parseU64 v = some n := by
  unfold Spec.Http.contentLength at hspec
  cases hv : Spec.Http.get g "content-length" with
  | nil => rw [hv] at hspec; cases hspec
  | cons v rest =>
    rw [hv] at hspec hlen
    simp only at hspec
    cases hc : Spec.Http.clValue v with
    | none => rw [hc] at hspec; cases hspec
    | some m =>
      rw [hc] at hspec
      simp only at hspec
      split at hspec
      · rename_i hall
        have e : m = n := by simpa using hspec
        subst e
        refine ⟨by simp, fun o ho => ?_⟩
        rcases List.mem_cons.mp ho with rfl | ho'
        · exact clValue_parseU64 _ _ (hlen _ (by simp)) hc
        · have := List.all_eq_true.mp hall o ho'
          exact clValue_parseU64 _ _ (hlen _ (by simp [ho'])) (by simpa using this)
      · cases hspec

end H2V.Lemmas.ConnHttpP
