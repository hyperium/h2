import H2V.Lemmas.ConnFlowPMv
import H2V.Lemmas.ConnFlowPSettings
/-
  ConnFlowP — `Mv` through the capacity-moving functions of `prioritize.rs` / `send.rs`: `send_data`, WINDOW_UPDATE
  (stream, connection), `pop_frame` (the only place where DATA leaves and windows are charged), `buffer_pending`, the
  resets, `send_trailers`, `handle_error`, `Send::apply_remote_settings`.  What `SafeInv`, `ReqOk`, the connection window
  and ConnDrainP's `KInv` need of these functions are projections of the one `MvG.f`.
-/
namespace H2V.Lemmas.ConnFlowP
open H2V H2V.Model H2V.Model.Conn H2V.Lemmas.Comp
open H2V.Lemmas.ConnDrainP (CapInv)
open H2V.Lemmas.ConnWakeP (popFrameC pfData)

section
variable {w : Bool} {g : Int} {s t : Streams}

theorem MvG.prioSendData (h : MvG w g s 0 t) (id len : Nat) (eos : Bool) : MvG w g s 0 (t.prioSendData id len eos).1 := by
  mv_by Streams.prioSendData
macro_rules | `(tactic| mv_fun) => `(tactic| with_reducible apply MvG.prioSendData)

/-- a stream window grows (`inc < 2^31`: the wire format has 31 bits) -/
theorem MvG.incStream (h : MvG w g s 0 t) (id inc : Nat) (hinc : inc ≤ 2147483647) {fl : FlowControl}
    (he : (t.stream id).sendFlow.incWindow inc = (fl, .ok ())) :
    MvG w g s 0 (t.modStream id fun st => { st with sendFlow := fl }) :=
  h.step (fun hs => incWindow_step hs id inc hinc he) (ReqOk.modStreamF fun _ => Or.inl rfl)
    (fun _ _ hc => hc.of_prio (by rw [modStream_prio]) (by rw [modStream_prio])) (fun _ => by rw [modStream_prio])

theorem MvG.prioRecvStreamWindowUpdate (h : MvG w g s 0 t) (id inc : Nat) (hinc : inc ≤ 2147483647) :
    MvG w g s 0 (t.prioRecvStreamWindowUpdate id inc).1 := by
  unfold Streams.prioRecvStreamWindowUpdate
  dsimp only
  split
  · exact h
  · split
    · exact h
    · exact h
    · next he => exact (h.incStream id inc hinc he).tryAssignCapacity id

/-- WINDOW_UPDATE on stream 0: the increment is credit that `assign_connection_capacity` hands on -/
theorem MvG.recvConnectionWindowUpdate (h : MvG false g s 0 t) (inc : Nat) (hinc : inc ≤ 2147483647) :
    MvG false g s 0 (t.recvConnectionWindowUpdate inc).1 := by
  unfold Streams.recvConnectionWindowUpdate
  split
  · exact h
  · exact h
  · next fl _ he =>
    exact (h.step (g2 := inc) (fun hs => incConn_step hs inc hinc he) (·.modPrio _)
      (fun _ _ hc => hc.of_prio rfl (incWindow_ok he).2.2.2) (fun e => Bool.noConfusion e)).release

/-- the DATA arm charges stream and connection; the connection's `available` ends where it was (`emit_avail`) -/
theorem MvG.pfData {sd : Stream → Nat → Nat → Stream × List String × Bool} (hsd : SdOk sd)
    (hsr : ∀ x len m, (sd x len m).1.requestedSendCapacity < 4294967296) (h : MvG false g s 0 t) (id len : Nat)
    (rest : List SFrame) (h1 : len ≤ (t.stream id).sendFlow.available.asSize)
    (h2 : len = 0 ∨ len ≤ (t.stream id).sendFlow.windowSz) : MvG false g s 0 (pfData sd t id len rest) :=
  h.step (fun hs => SafeInv.pfData hsd hs id len rest h1 h2) (·.pfData hsr id len rest)
    (fun hs _ hc => by
      rcases hc with hc | hc
      · left; rw [pfData_pc]; exact hc
      · right; rw [pfData_flow, emit_avail hs id len h1]; exact hc)
    (fun e => Bool.noConfusion e)

theorem MvG.popFrameC {sd : Stream → Nat → Nat → Stream × List String × Bool} (hsd : SdOk sd)
    (hsr : ∀ x len m, (sd x len m).1.requestedSendCapacity < 4294967296) (fuel maxLen : Nat) (h : MvG false g s 0 t) :
    MvG false g s 0 (popFrameC sd fuel t maxLen).1 :=
  popFrameC_keeps (I := MvG false g s 0) (fun hf h => h.sfr hf) (fun _ k h => h.reclaimAllCapacity k)
    (fun _ k len rest h h1 h2 => h.pfData hsd hsr k len rest h1 h2) fuel maxLen t h

theorem MvG.popFrame (h : MvG false g s 0 t) (fuel maxLen : Nat) : MvG false g s 0 (Streams.popFrame fuel t maxLen).1 := by
  rw [ConnWakeP.popFrameC.eq]; exact h.popFrameC sdOk_sendData sendData_req fuel maxLen
macro_rules | `(tactic| mv_fun) => `(tactic| with_reducible apply MvG.popFrame)

theorem MvG.prioBufferPendingLoop (fuel : Nat) :
    ∀ {t : Streams}, MvG false g s 0 t → ∀ wr, MvG false g s 0 (Streams.prioBufferPendingLoop fuel t wr).1 := by
  induction fuel with
  | zero => intro t h wr; unfold Streams.prioBufferPendingLoop; mv_auto
  | succ n ih => intro t h wr; unfold Streams.prioBufferPendingLoop; dsimp only; mv_auto
macro_rules | `(tactic| mv_fun) => `(tactic| with_reducible apply MvG.prioBufferPendingLoop)

theorem MvG.prioBufferPending (h : MvG false g s 0 t) (fuel : Nat) (wr : Writer) :
    MvG false g s 0 (Streams.prioBufferPending fuel t wr).1 := by
  mv_by Streams.prioBufferPending
macro_rules | `(tactic| mv_fun) => `(tactic| with_reducible apply MvG.prioBufferPending)

theorem MvG.sendSendReset (h : MvG w g s 0 t) (id : Nat) (r : Reason) (i : Initiator) : MvG w g s 0 (t.sendSendReset id r i) := by
  mv_by Streams.sendSendReset
macro_rules | `(tactic| mv_fun) => `(tactic| with_reducible apply MvG.sendSendReset)

theorem MvG.scheduleImplicitReset (h : MvG w g s 0 t) (id : Nat) (r : Reason) : MvG w g s 0 (t.scheduleImplicitReset id r) := by
  mv_by Streams.scheduleImplicitReset
macro_rules | `(tactic| mv_fun) => `(tactic| with_reducible apply MvG.scheduleImplicitReset)

theorem MvG.sendTrailers (h : MvG w g s 0 t) (id : Nat) (f : List Hpack.Field) : MvG w g s 0 (t.sendTrailers id f).1 := by
  mv_by Streams.sendTrailers
macro_rules | `(tactic| mv_fun) => `(tactic| with_reducible apply MvG.sendTrailers)

theorem MvG.sendHandleError (h : MvG w g s 0 t) (id : Nat) : MvG w g s 0 (t.sendHandleError id) := by
  mv_by Streams.sendHandleError
macro_rules | `(tactic| mv_fun) => `(tactic| with_reducible apply MvG.sendHandleError)

theorem MvG.sendRecvStreamWindowUpdate (h : MvG w g s 0 t) (id inc : Nat) (hinc : inc ≤ 2147483647) :
    MvG w g s 0 (t.sendRecvStreamWindowUpdate id inc).1 := by
  unfold Streams.sendRecvStreamWindowUpdate
  have h1 := h.prioRecvStreamWindowUpdate id inc hinc
  split
  · next he => rw [he] at h1; exact h1.sendSendReset _ _ _
  · next he => rw [he] at h1; exact h1

end

theorem ReqOk.decStreamWindow {t : Streams} (h : ReqOk t) (dec acc id : Nat) :
    ReqOk (Streams.decStreamWindow dec acc t id).1 := by
  unfold Streams.decStreamWindow
  walk_with (first | with_reducible assumption | (with_reducible apply ReqOk.modStreamF; (· exact fun _ => Or.inl rfl)))

theorem decStreamWindow_prio (dec acc : Nat) (t : Streams) (id : Nat) :
    (Streams.decStreamWindow dec acc t id).1.prio = t.prio := by
  unfold Streams.decStreamWindow
  dsimp only
  repeat' split
  all_goals first | rfl | exact modStream_prio _ _ _

theorem tryForEachAcc_prio (dec fuel i len acc : Nat) (t : Streams) :
    (Streams.tryForEachAcc (Streams.decStreamWindow dec) fuel i len acc t).1.prio = t.prio :=
  Streams.tryForEachAcc_inv (P := fun s => s.prio = t.prio) (fun s m h => (panic_prio s m).trans h)
    (fun a s e _ h => (decStreamWindow_prio dec a s e.2).trans h) fuel i len acc t rfl

section
variable {w : Bool} {g : Int} {s t : Streams}

/-- the loop of the lowered window: every stream window shrinks (possibly below zero); what the streams held above their
    new windows is pending credit, counted in the accumulator -/
theorem MvG.decLoop (h : MvG w g s 0 t) (dec fuel i len : Nat) :
    MvG w g s ((Streams.tryForEachAcc (Streams.decStreamWindow dec) fuel i len 0 t).2.1 : Nat)
      (Streams.tryForEachAcc (Streams.decStreamWindow dec) fuel i len 0 t).1 :=
  h.step (fun hs => SafeInvG.tryForEachAcc dec fuel i len 0 (by simpa using hs))
    (fun hr => Streams.tryForEachAcc_inv (P := ReqOk) (fun _ m h => h.panic m)
      (fun a _ e _ h => h.decStreamWindow dec a e.2) fuel i len 0 t hr)
    (fun _ _ hc => hc.of_prio (by rw [tryForEachAcc_prio]) (by rw [tryForEachAcc_prio]))
    (fun _ => by rw [tryForEachAcc_prio])

/-- lowered: when a stream window would leave `i32` the connection dies with FLOW_CONTROL_ERROR and the credit
    reclaimed so far is dropped; otherwise it goes back to the connection -/
theorem MvG.sarsLess (h : MvG w g s 0 t) (dec : Nat) : MvG w g s 0 (t.sarsLess dec).1 := by
  unfold Streams.sarsLess
  have hl := h.decLoop dec (2 * t.store.ids.length + 1) 0 t.store.ids.length
  split
  · next heq => rw [heq] at hl; exact hl.step SafeInvG.weaken id (fun _ _ hc => hc) (fun _ => rfl)
  · next heq => rw [heq] at hl; exact hl.release

/-- raised: a WINDOW_UPDATE for every stream -/
theorem MvG.sarsMore (h : MvG w g s 0 t) (inc : Nat) (hinc : inc ≤ 2147483647) : MvG w g s 0 (t.sarsMore inc).1 := by
  unfold Streams.sarsMore
  refine Streams.storeTryForEach_inv (P := MvG w g s 0) (fun _ m ht => ht.sfr ((SFr.refl _).panic m)) (fun u e _ hu => ?_) h
  have := hu.sendRecvStreamWindowUpdate e.2 inc hinc
  split
  · next heq => rw [heq] at this; exact this
  · next heq => rw [heq] at this; exact this

/-- the new SETTINGS_INITIAL_WINDOW_SIZE is a 31-bit value (the frame decoder rejects anything above `2^31 - 1`) -/
theorem MvG.sarsWindow (h : MvG w g s 0 t) (val : Nat) (hv : val ≤ 2147483647) : MvG w g s 0 (t.sarsWindow val).1 := by
  unfold Streams.sarsWindow
  dsimp only
  have h1 : MvG w g s 0 (t.modSend fun sd => { sd with initWindowSz := val }) :=
    h.sfr (.of_step (.modSend t _ (.initWindowSz val rfl)))
  split
  · exact h1.sarsLess _
  · split
    · exact h1.sarsMore _ (by omega)
    · exact h1

theorem MvG.sendApplyRemoteSettings (h : MvG w g s 0 t) (iws push conn : Option Nat)
    (hiws : ∀ v, iws = some v → v ≤ 2147483647) : MvG w g s 0 (t.sendApplyRemoteSettings iws push conn).1 := by
  rw [Streams.sendApplyRemoteSettings_eq]
  have hc := h.sfr (.of_step (Streams.sarsConnect_step (by decide) t conn))
  have hp : ∀ {u : Streams}, MvG w g s 0 u → MvG w g s 0 (u.sarsPush push) :=
    MvG.sfr (.of_step (Streams.sarsPush_step (by decide) _ push))
  cases iws with
  | none => exact hp hc
  | some val =>
    have h1 := hc.sarsWindow val (hiws _ rfl)
    dsimp only
    generalize (t.sarsConnect conn).sarsWindow val = X at h1 ⊢
    obtain ⟨s', res⟩ := X
    cases res with
    | some e => exact h1
    | none => exact hp h1

end

theorem SafeInv.popFrame {s : Streams} (h : SafeInv s) (fuel maxLen : Nat) :
    SafeInv (Streams.popFrame fuel s maxLen).1 := ((MvG.refl false 0 s).popFrame fuel maxLen).safe h

theorem SafeInv.prioBufferPendingLoop (fuel : Nat) :
    ∀ {s : Streams}, SafeInv s → ∀ w, SafeInv (Streams.prioBufferPendingLoop fuel s w).1 :=
  fun h w => (MvG.prioBufferPendingLoop fuel (MvG.refl false 0 _) w).safe h

section
variable {t : Streams}

theorem ReqOk.popFrame (h : ReqOk t) (fuel maxLen : Nat) : ReqOk (Streams.popFrame fuel t maxLen).1 :=
  ((MvG.refl false 0 t).popFrame fuel maxLen).req h

end

end H2V.Lemmas.ConnFlowP
