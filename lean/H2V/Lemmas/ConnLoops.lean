import H2V.Lemmas.ConnBasics
/-
  The loop combinators of the connection model, each with one induction: `X_inv` for the combinators (a predicate every step keeps holds
  afterwards) and `X_rel` for every loop (the same for a relation with `RelOK R`: reflexive, transitive, `R s (s.panic m)`).
  `Store::try_for_each`, `counts.transition`, the six queue-draining loops as instances of `popLoop`, the other fuel
  loops, and the writing loops (`buffer_pending`, `poll_complete`; these two also for an invariant of stream layer and codec).
-/
namespace H2V.Model.Conn
open H2V H2V.Model

/-- what a relation between connection states needs for the loop lemmas -/
structure RelOK (R : Streams → Streams → Prop) : Prop where
  refl : ∀ s, R s s
  trans : ∀ {a b c}, R a b → R b c → R a c
  panic : ∀ s m, R s (Streams.panic s m)

theorem RelOK.of_pred {P : Streams → Prop} (hp : ∀ s m, P s → P (s.panic m)) : RelOK fun a b => P a → P b :=
  ⟨fun _ h => h, fun h1 h2 h => h2 (h1 h), hp⟩

theorem RelOK.ite_panic {R : Streams → Streams → Prop} (hR : RelOK R) (c : Prop) [Decidable c] (s : Streams) (m : String) :
    R s (if c then s else s.panic m) := by split; exact hR.refl _; exact hR.panic _ _

theorem RelOK.ite_panic' {R : Streams → Streams → Prop} (hR : RelOK R) (c : Prop) [Decidable c] (s : Streams) (m : String) :
    R s (if c then s.panic m else s) := by split; exact hR.panic _ _; exact hR.refl _

namespace Streams

theorem foldl_inv {P : Streams → Prop} {α : Type} {f : Streams → α → Streams} (hf : ∀ s x, P s → P (f s x)) :
    ∀ (l : List α) (s : Streams), P s → P (l.foldl f s)
  | [], _, h => h
  | a :: l, s, h => foldl_inv hf l _ (hf s a h)

theorem foldl_rel {R : Streams → Streams → Prop} (hR : RelOK R) {α : Type} {f : Streams → α → Streams}
    (hf : ∀ s x, R s (f s x)) (l : List α) (s : Streams) : R s (l.foldl f s) :=
  foldl_inv (P := R s) (fun t x h => hR.trans h (hf t x)) l s (hR.refl s)

theorem transition_inv {P : Streams → Prop} {α : Type} {s : Streams} {k : Nat} {f : Streams → Streams × α}
    (hf : P (f s).1) (hta : ∀ t b, P t → P (t.transitionAfter k b)) : P (s.transition k f).1 := by
  rw [transition_fst]; exact hta _ _ hf

theorem transition_rel {R : Streams → Streams → Prop} (hR : RelOK R) {α : Type} (s : Streams) (k : Nat)
    (f : Streams → Streams × α) (hf : R s (f s).1) (hta : ∀ t b, R t (t.transitionAfter k b)) :
    R s (s.transition k f).1 :=
  transition_inv (P := R s) hf fun t b h => hR.trans h (hta t b)

theorem tryForEach_inv {P : Streams → Prop} {f : Streams → Nat → Streams × Option PErr}
    (hp : ∀ s m, P s → P (s.panic m)) (hf : ∀ s e, e ∈ s.store.ids → P s → P (f s e.2).1) :
    ∀ (fuel i len : Nat) (s : Streams), P s → P (tryForEach f fuel i len s).1
  | 0, _, _, _, h => h
  | fuel + 1, i, len, s, h => by
    unfold tryForEach
    split
    · split
      · exact hp _ _ h
      · next sid id hget =>
        have := hf s (sid, id) (List.mem_of_getElem? hget) h
        split
        · next s' e heq => rw [show f s (sid, id).2 = f s id from rfl, heq] at this; exact this
        · next s' heq =>
          rw [show f s (sid, id).2 = f s id from rfl, heq] at this
          dsimp only
          split
          · exact tryForEach_inv hp hf _ _ _ _ this
          · exact tryForEach_inv hp hf _ _ _ _ this
    · exact h

theorem tryForEach_rel {R : Streams → Streams → Prop} (hR : RelOK R) (f : Streams → Nat → Streams × Option PErr)
    (hf : ∀ s k, R s (f s k).1) (fuel i len : Nat) (s : Streams) : R s (tryForEach f fuel i len s).1 :=
  tryForEach_inv (P := R s) (fun t m h => hR.trans h (hR.panic t m)) (fun t e _ h => hR.trans h (hf t e.2))
    fuel i len s (hR.refl s)

theorem tryForEach_err {f : Streams → Nat → Streams × Option PErr} {Q : PErr → Prop}
    (hf : ∀ s k e, (f s k).2 = some e → Q e) :
    ∀ (fuel i len : Nat) (s : Streams) (e : PErr), (tryForEach f fuel i len s).2 = some e → Q e
  | 0, _, _, _, _, h => by cases h
  | fuel + 1, i, len, s, e, h => by
    unfold tryForEach at h
    split at h
    · split at h
      · cases h
      · next id _ =>
        split at h
        · next s' e' heq => cases h; exact hf s id _ (by rw [heq])
        · dsimp only at h
          split at h
          · exact tryForEach_err hf _ _ _ _ _ h
          · exact tryForEach_err hf _ _ _ _ _ h
    · cases h

theorem storeTryForEach_inv {P : Streams → Prop} {f : Streams → Nat → Streams × Option PErr}
    (hp : ∀ s m, P s → P (s.panic m)) (hf : ∀ s e, e ∈ s.store.ids → P s → P (f s e.2).1) {s : Streams} (h : P s) :
    P (s.storeTryForEach f).1 := tryForEach_inv hp hf _ _ _ s h

theorem storeTryForEach_rel {R : Streams → Streams → Prop} (hR : RelOK R) (s : Streams)
    (f : Streams → Nat → Streams × Option PErr) (hf : ∀ s k, R s (f s k).1) : R s (s.storeTryForEach f).1 :=
  tryForEach_rel hR f hf _ _ _ s

theorem storeTryForEach_err {f : Streams → Nat → Streams × Option PErr} {Q : PErr → Prop}
    (hf : ∀ s k e, (f s k).2 = some e → Q e) {s : Streams} {e : PErr} (h : (s.storeTryForEach f).2 = some e) : Q e :=
  tryForEach_err hf _ _ _ s e h

theorem storeForEach_inv {P : Streams → Prop} {f : Streams → Nat → Streams}
    (hp : ∀ s m, P s → P (s.panic m)) (hf : ∀ s e, e ∈ s.store.ids → P s → P (f s e.2)) {s : Streams} (h : P s) :
    P (s.storeForEach f) := storeTryForEach_inv (f := fun s id => (f s id, none)) hp hf h

theorem storeForEach_rel {R : Streams → Streams → Prop} (hR : RelOK R) (s : Streams) (f : Streams → Nat → Streams)
    (hf : ∀ s k, R s (f s k)) : R s (s.storeForEach f) :=
  storeTryForEach_rel hR s _ hf

theorem tryForEachAcc_inv {P : Streams → Prop} {f : Nat → Streams → Nat → Streams × Nat × Option PErr}
    (hp : ∀ s m, P s → P (s.panic m)) (hf : ∀ a s e, e ∈ s.store.ids → P s → P (f a s e.2).1) :
    ∀ (fuel i len acc : Nat) (s : Streams), P s → P (tryForEachAcc f fuel i len acc s).1
  | 0, _, _, _, _, h => h
  | fuel + 1, i, len, acc, s, h => by
    unfold tryForEachAcc
    split
    · split
      · exact hp _ _ h
      · next sid id hget =>
        have := hf acc s (sid, id) (List.mem_of_getElem? hget) h
        split
        · next s' a' e heq => rw [show f acc s (sid, id).2 = f acc s id from rfl, heq] at this; exact this
        · next s' a' heq =>
          rw [show f acc s (sid, id).2 = f acc s id from rfl, heq] at this
          dsimp only
          split
          · exact tryForEachAcc_inv hp hf _ _ _ _ _ this
          · exact tryForEachAcc_inv hp hf _ _ _ _ _ this
    · exact h

theorem tryForEachAcc_rel {R : Streams → Streams → Prop} (hR : RelOK R)
    (f : Nat → Streams → Nat → Streams × Nat × Option PErr) (hf : ∀ a s k, R s (f a s k).1)
    (fuel i len acc : Nat) (s : Streams) : R s (tryForEachAcc f fuel i len acc s).1 :=
  tryForEachAcc_inv (P := R s) (fun t m h => hR.trans h (hR.panic t m)) (fun a t e _ h => hR.trans h (hf a t e.2))
    fuel i len acc s (hR.refl s)

/-- the shape of the queue-draining loops: pop `q`, apply `body` to the popped stream, go on -/
def popLoop (q : QName) (body : Streams → Nat → Streams) : Nat → Streams → Streams
  | 0, s => s
  | fuel + 1, s =>
    match s.qPop q with
    | (s, none) => s
    | (s, some id) => popLoop q body fuel (body s id)

theorem popLoop_succ (q : QName) (body : Streams → Nat → Streams) (fuel : Nat) (s : Streams) :
    popLoop q body (fuel + 1) s =
      match s.qPop q with
      | (s, none) => s
      | (s, some id) => popLoop q body fuel (body s id) := rfl

/-- `P` is kept by every round: the step hypothesis sees the pop that started the round -/
theorem popLoop_inv {P : Streams → Prop} {q : QName} {body : Streams → Nat → Streams}
    (hstep : ∀ s t k, P s → s.qPop q = (t, some k) → P (body t k)) :
    ∀ (fuel : Nat) (s : Streams), P s → P (popLoop q body fuel s)
  | 0, _, h => h
  | fuel + 1, s, h => by
    rw [popLoop_succ]
    split
    · next t heq => rw [(qPop_eq_none heq).2]; exact h
    · next t k heq => exact popLoop_inv hstep fuel _ (hstep s t k h heq)

theorem popLoop_rel {R : Streams → Streams → Prop} (hR : RelOK R) {q : QName} {body : Streams → Nat → Streams}
    (hpop : ∀ s, R s (s.qPop q).1) (hbody : ∀ s k, R s (body s k)) (fuel : Nat) (s : Streams) :
    R s (popLoop q body fuel s) :=
  popLoop_inv (P := R s)
    (fun a t k h heq => hR.trans (hR.trans h (by have := hpop a; rw [heq] at this; exact this)) (hbody t k))
    fuel s (hR.refl s)

/-- the body of the loops that only let `transition_after` look at the popped stream -/
def taBody (s : Streams) (id : Nat) : Streams := s.transitionAfter id (s.stream id).isPendingResetExpiration

theorem clearPendingCapacity_eq : ∀ (fuel : Nat) (s : Streams),
    clearPendingCapacity fuel s = popLoop .pendingCapacity taBody fuel s
  | 0, _ => rfl
  | fuel + 1, s => by
    unfold clearPendingCapacity; rw [popLoop_succ]
    split <;> simp only [*, clearPendingCapacity_eq fuel, taBody]

theorem clearPendingOpen_eq : ∀ (fuel : Nat) (s : Streams),
    clearPendingOpen fuel s = popLoop .pendingOpen taBody fuel s
  | 0, _ => rfl
  | fuel + 1, s => by
    unfold clearPendingOpen; rw [popLoop_succ]
    split <;> simp only [*, clearPendingOpen_eq fuel, taBody]

theorem clearStreamWindowUpdateQueue_eq : ∀ (fuel : Nat) (s : Streams),
    clearStreamWindowUpdateQueue fuel s = popLoop .pendingWindowUpdates taBody fuel s
  | 0, _ => rfl
  | fuel + 1, s => by
    unfold clearStreamWindowUpdateQueue; rw [popLoop_succ]
    split <;> simp only [*, clearStreamWindowUpdateQueue_eq fuel, taBody]

theorem clearAllResetStreams_eq : ∀ (fuel : Nat) (s : Streams),
    clearAllResetStreams fuel s = popLoop .pendingResetExpired (fun s id => s.transitionAfter id true) fuel s
  | 0, _ => rfl
  | fuel + 1, s => by
    unfold clearAllResetStreams; rw [popLoop_succ]
    split <;> simp only [*, clearAllResetStreams_eq fuel]

theorem clearAllPendingAccept_eq : ∀ (fuel : Nat) (s : Streams),
    clearAllPendingAccept fuel s = popLoop .pendingAccept (fun s id => s.transitionAfter id false) fuel s
  | 0, _ => rfl
  | fuel + 1, s => by
    unfold clearAllPendingAccept; rw [popLoop_succ]
    split <;> simp only [*, clearAllPendingAccept_eq fuel]

/-- the body of `clear_pending_send`: a scheduled reset is carried out before the stream is let go -/
def clearPendingSendBody (s : Streams) (id : Nat) : Streams :=
  let st := s.stream id
  let s' := match st.state.getScheduledReset with
    | some reason => s.modStreamW id fun st => st.setReset reason .library
    | none => s
  s'.transitionAfter id st.isPendingResetExpiration

theorem clearPendingSend_eq : ∀ (fuel : Nat) (s : Streams),
    clearPendingSend fuel s = popLoop .pendingSend clearPendingSendBody fuel s
  | 0, _ => rfl
  | fuel + 1, s => by
    unfold clearPendingSend; rw [popLoop_succ]
    split
    · simp only [*]
    · simp only [*, clearPendingSend_eq fuel]; rfl

/-- the head of a round of `Prioritize::buffer_pending`: a stream waiting to be opened that the
    concurrency limit now admits goes to the front of `pending_send` -/
def bufferPendingOpen (s : Streams) : Streams :=
  match s.popPendingOpen with
  | (s, some id) => ((s.qPushFront .pendingSend id).1).tryAssignCapacity id
  | (s, none) => s

theorem prioBufferPendingLoop_succ (fuel : Nat) (s : Streams) (w : Writer) :
    prioBufferPendingLoop (fuel + 1) s w =
      if !w.hasCapacity then (s, w, .codecFull)
      else
        match popFrame (popFrameFuel s.bufferPendingOpen) s.bufferPendingOpen w.maxFrameSize with
        | (s, some f) =>
          let (s, w) := s.bufferOut w f
          let (s, w, _) := s.reclaimFrame w
          prioBufferPendingLoop fuel s w
        | (s, none) => (s, w, .complete) := by rfl

theorem pollComplete_succ (fuel : Nat) (s : Streams) (w : Writer) (io : Tio) (tag : String) :
    pollComplete (fuel + 1) s w io tag =
      match pollReadyW w io tag with
      | (w, io, .ready) =>
        let (s, w, status) := bufferPending (fuel + 1) s w
        match status with
        | .codecFull => pollComplete fuel s w io tag
        | .complete =>
          let s := { s with actions := { s.actions with task := some tag } }
          match flush w io tag with
          | (w, io, .ready) =>
            let (s, w, reclaimed) := s.reclaimFrame w
            if !reclaimed then (s, w, io, .ready)
            else pollComplete fuel s w io tag
          | (w, io, r) => (s, w, io, r)
      | (w, io, r) => (s, w, io, r) := by rfl

theorem pollSendPendingRefusal_succ (fuel : Nat) (s : Streams) (w : Writer) (io : Tio) (tag : String) :
    pollSendPendingRefusal (fuel + 1) s w io tag =
      match s.sendPendingRefusal w with
      | (s, w, .complete) => (s, w, io, .ready)
      | (s, w, .codecFull) =>
        match pollReadyW w io tag with
        | (w, io, .ready) => pollSendPendingRefusal fuel s w io tag
        | (w, io, r) => (s, w, io, r) := by rfl

section rel
variable {R : Streams → Streams → Prop} (hR : RelOK R)
include hR

theorem clearPendingCapacity_rel (hpop : ∀ s, R s (s.qPop .pendingCapacity).1) (hta : ∀ s k b, R s (s.transitionAfter k b))
    (fuel : Nat) (s : Streams) : R s (clearPendingCapacity fuel s) := by
  rw [clearPendingCapacity_eq]; exact popLoop_rel hR hpop (fun s k => hta s k _) fuel s

theorem clearPendingOpen_rel (hpop : ∀ s, R s (s.qPop .pendingOpen).1) (hta : ∀ s k b, R s (s.transitionAfter k b))
    (fuel : Nat) (s : Streams) : R s (clearPendingOpen fuel s) := by
  rw [clearPendingOpen_eq]; exact popLoop_rel hR hpop (fun s k => hta s k _) fuel s

theorem clearStreamWindowUpdateQueue_rel (hpop : ∀ s, R s (s.qPop .pendingWindowUpdates).1)
    (hta : ∀ s k b, R s (s.transitionAfter k b)) (fuel : Nat) (s : Streams) :
    R s (clearStreamWindowUpdateQueue fuel s) := by
  rw [clearStreamWindowUpdateQueue_eq]; exact popLoop_rel hR hpop (fun s k => hta s k _) fuel s

theorem clearAllResetStreams_rel (hpop : ∀ s, R s (s.qPop .pendingResetExpired).1)
    (hta : ∀ s k b, R s (s.transitionAfter k b)) (fuel : Nat) (s : Streams) : R s (clearAllResetStreams fuel s) := by
  rw [clearAllResetStreams_eq]; exact popLoop_rel hR hpop (fun s k => hta s k _) fuel s

theorem clearAllPendingAccept_rel (hpop : ∀ s, R s (s.qPop .pendingAccept).1)
    (hta : ∀ s k b, R s (s.transitionAfter k b)) (fuel : Nat) (s : Streams) : R s (clearAllPendingAccept fuel s) := by
  rw [clearAllPendingAccept_eq]; exact popLoop_rel hR hpop (fun s k => hta s k _) fuel s

theorem clearPendingSendBody_rel (hreset : ∀ s k r, R s (s.modStreamW k fun st => st.setReset r .library))
    (hta : ∀ s k b, R s (s.transitionAfter k b)) (s : Streams) (k : Nat) : R s (clearPendingSendBody s k) := by
  unfold clearPendingSendBody; dsimp only
  split
  · exact hR.trans (hreset _ _ _) (hta _ _ _)
  · exact hta _ _ _

theorem clearPendingSend_rel (hpop : ∀ s, R s (s.qPop .pendingSend).1)
    (hreset : ∀ s k r, R s (s.modStreamW k fun st => st.setReset r .library))
    (hta : ∀ s k b, R s (s.transitionAfter k b)) (fuel : Nat) (s : Streams) : R s (clearPendingSend fuel s) := by
  rw [clearPendingSend_eq]; exact popLoop_rel hR hpop (clearPendingSendBody_rel hR hreset hta) fuel s

theorem clearExpiredResetStreams_rel (hpop : ∀ s, R s (s.qPop .pendingResetExpired).1)
    (hta : ∀ s k b, R s (s.transitionAfter k b)) : ∀ (fuel : Nat) (s : Streams), R s (clearExpiredResetStreams fuel s)
  | 0, s => hR.refl s
  | fuel + 1, s => by
    unfold clearExpiredResetStreams
    split
    · exact hR.refl s
    · have := hpop s
      split
      · next heq => rw [heq] at this; exact this
      · next heq =>
        rw [heq] at this
        exact hR.trans (hR.trans this (hta _ _ _)) (clearExpiredResetStreams_rel hpop hta fuel _)

theorem assignConnectionCapacityLoop_rel (hpop : ∀ s, R s (s.qPop .pendingCapacity).1)
    (htry : ∀ s k, R s (s.tryAssignCapacity k)) (hta : ∀ s k b, R s (s.transitionAfter k b)) :
    ∀ (fuel : Nat) (s : Streams), R s (assignConnectionCapacityLoop fuel s)
  | 0, s => hR.refl s
  | fuel + 1, s => by
    unfold assignConnectionCapacityLoop
    split
    · have := hpop s
      split
      · next heq => rw [heq] at this; exact this
      · next heq =>
        rw [heq] at this
        dsimp only
        split
        · exact hR.trans this (assignConnectionCapacityLoop_rel hpop htry hta fuel _)
        · exact hR.trans (hR.trans this (hR.trans (htry _ _) (hta _ _ _)))
            (assignConnectionCapacityLoop_rel hpop htry hta fuel _)
    · exact hR.refl s

theorem sendStreamWindowUpdates_rel (hpop : ∀ s, R s (s.qPop .pendingWindowUpdates).1)
    (hflow : ∀ s k fl, R s (s.modStream k fun st => { st with recvFlow := fl }))
    (hta : ∀ s k b, R s (s.transitionAfter k b)) :
    ∀ (fuel : Nat) (s : Streams) (w : Writer), R s (sendStreamWindowUpdates fuel s w).1
  | 0, s, _ => hR.refl s
  | fuel + 1, s, w => by
    unfold sendStreamWindowUpdates
    split
    · exact hR.refl s
    · have := hpop s
      split
      · next heq => rw [heq] at this; exact this
      · next t k heq =>
        rw [heq] at this
        dsimp only
        refine hR.trans (hR.trans this (hR.trans ?_ (hta _ _ _))) (sendStreamWindowUpdates_rel hpop hflow hta fuel _ _)
        split
        · exact hR.refl _
        · split
          · split
            · exact hflow _ _ _
            · exact hR.panic _ _
          · exact hR.refl _

theorem prioBufferPendingLoop_rel (hopen : ∀ s, R s s.bufferPendingOpen)
    (hpop : ∀ n s m, R s (popFrame n s m).1) (hout : ∀ s w f, R s (s.bufferOut w f).1)
    (hrec : ∀ s w, R s (s.reclaimFrame w).1) :
    ∀ (fuel : Nat) (s : Streams) (w : Writer), R s (prioBufferPendingLoop fuel s w).1
  | 0, s, _ => hR.panic s _
  | fuel + 1, s, w => by
    rw [prioBufferPendingLoop_succ]
    split
    · exact hR.refl s
    · have h1 := hopen s
      generalize s.bufferPendingOpen = s1 at h1 ⊢
      have h2 := hpop (popFrameFuel s1) s1 w.maxFrameSize
      split
      · next heq =>
        rw [heq] at h2
        exact hR.trans (hR.trans h1 (hR.trans h2 (hR.trans (hout _ _ _) (hrec _ _))))
          (prioBufferPendingLoop_rel hopen hpop hout hrec fuel _ _)
      · next heq => rw [heq] at h2; exact hR.trans h1 h2

theorem bufferPendingOpen_rel (hopen : ∀ s, R s s.popPendingOpen.1)
    (hfront : ∀ s k, R s (s.qPushFront .pendingSend k).1) (htry : ∀ s k, R s (s.tryAssignCapacity k)) (s : Streams) :
    R s s.bufferPendingOpen := by
  unfold bufferPendingOpen
  have := hopen s
  split
  · next heq => rw [heq] at this; exact hR.trans this (hR.trans (hfront _ _) (htry _ _))
  · next heq => rw [heq] at this; exact this

theorem prioBufferPending_rel (hrec : ∀ s w, R s (s.reclaimFrame w).1)
    (hloop : ∀ n s w, R s (prioBufferPendingLoop n s w).1) (fuel : Nat) (s : Streams) (w : Writer) :
    R s (prioBufferPending fuel s w).1 := hR.trans (hrec s w) (hloop _ _ _)

theorem recvBufferPending_rel (hconn : ∀ s w, R s (s.sendConnectionWindowUpdate w).1)
    (hupd : ∀ n s w, R s (sendStreamWindowUpdates n s w).1) (s : Streams) (w : Writer) : R s (s.recvBufferPending w).1 := by
  unfold recvBufferPending
  have := hconn s w
  split
  · next heq => rw [heq] at this; exact this
  · next heq => rw [heq] at this; exact hR.trans this (hupd _ _ _)

theorem bufferPending_rel (hrecv : ∀ s w, R s (s.recvBufferPending w).1) (hprio : ∀ n s w, R s (prioBufferPending n s w).1)
    (fuel : Nat) (s : Streams) (w : Writer) : R s (bufferPending fuel s w).1 := by
  unfold bufferPending
  have := hrecv s w
  split
  · next heq => rw [heq] at this; exact this
  · next heq => rw [heq] at this; exact hR.trans this (hprio _ _ _)

theorem pollComplete_rel (hbuf : ∀ n s w, R s (bufferPending n s w).1)
    (htask : ∀ s t, R s { s with actions := { s.actions with task := some t } })
    (hrec : ∀ s w, R s (s.reclaimFrame w).1) :
    ∀ (fuel : Nat) (s : Streams) (w : Writer) (io : Tio) (tag : String), R s (pollComplete fuel s w io tag).1
  | 0, s, _, _, _ => hR.panic s _
  | fuel + 1, s, w, io, tag => by
    rw [pollComplete_succ]
    split
    · next w1 _ _ =>
      have h1 := hbuf (fuel + 1) s w1
      dsimp only
      split
      · exact hR.trans h1 (pollComplete_rel hbuf htask hrec fuel _ _ _ _)
      · have h2 := hR.trans h1 (htask _ tag)
        split
        · split
          · exact hR.trans h2 (hrec _ _)
          · exact hR.trans (hR.trans h2 (hrec _ _)) (pollComplete_rel hbuf htask hrec fuel _ _ _ _)
        · exact h2
    · exact hR.refl s

theorem pollSendPendingRefusal_rel (href : ∀ s w, R s (s.sendPendingRefusal w).1) :
    ∀ (fuel : Nat) (s : Streams) (w : Writer) (io : Tio) (tag : String), R s (pollSendPendingRefusal fuel s w io tag).1
  | 0, s, _, _, _ => hR.refl s
  | fuel + 1, s, w, io, tag => by
    rw [pollSendPendingRefusal_succ]
    have := href s w
    split
    · next heq => rw [heq] at this; exact this
    · next heq =>
      rw [heq] at this
      split
      · exact hR.trans this (pollSendPendingRefusal_rel href fuel _ _ _ _)
      · exact this

end rel

theorem hasCapacity_next {w : Writer} (h : w.hasCapacity = true) : w.next = none := by
  unfold Writer.hasCapacity at h
  cases hn : w.next with
  | none => rfl
  | some _ => rw [hn] at h; cases h

theorem reclaimFrame_writer (s : Streams) (w : Writer) : (s.reclaimFrame w).2.1 = { w with lastDataFrame := none } := by
  unfold reclaimFrame Writer.takeLastDataFrame
  cases w.lastDataFrame <;> rfl

theorem reclaimFrame_lastDataFrame (s : Streams) (w : Writer) : (s.reclaimFrame w).2.1.lastDataFrame = none := by
  rw [reclaimFrame_writer]

/-- **the loop of `Prioritize::buffer_pending`, walked once** for an invariant `I` of stream layer and codec: `J` is what
    holds between `pop_pending_open` and `pop_frame`, `Q` what is claimed at the exits (out of fuel, codec full, nothing
    left to send).  A frame is popped only while the codec holds none. -/
theorem prioBufferPendingLoop_inv {I J Q : Streams → Writer → Prop}
    (hfuel : ∀ s w, I s w → Q (s.panic "model: buffer_pending out of fuel") w)
    (hfull : ∀ s w, I s w → Q s w)
    (hopen : ∀ s w, I s w → J s.bufferPendingOpen w)
    (hround : ∀ s w s' f, J s w → w.lastDataFrame = none → w.next = none →
      popFrame (popFrameFuel s) s w.maxFrameSize = (s', some f) →
      I ((s'.bufferOut w f).1.reclaimFrame (s'.bufferOut w f).2).1 ((s'.bufferOut w f).1.reclaimFrame (s'.bufferOut w f).2).2.1)
    (hnone : ∀ s w s', J s w → w.lastDataFrame = none → w.next = none →
      popFrame (popFrameFuel s) s w.maxFrameSize = (s', none) → Q s' w) :
    ∀ (fuel : Nat) (s : Streams) (w : Writer), I s w → w.lastDataFrame = none →
      Q (prioBufferPendingLoop fuel s w).1 (prioBufferPendingLoop fuel s w).2.1
  | 0, s, w, h, _ => hfuel s w h
  | fuel + 1, s, w, h, hl => by
    rw [prioBufferPendingLoop_succ]
    split
    · exact hfull s w h
    · next hc =>
      have hn : w.next = none := hasCapacity_next (by simpa using hc)
      have h1 := hopen s w h
      split
      · next s' f heq =>
        exact prioBufferPendingLoop_inv hfuel hfull hopen hround hnone fuel _ _ (hround _ _ _ _ h1 hl hn heq)
          (reclaimFrame_lastDataFrame _ _)
      · next s' heq => exact hnone _ _ _ h1 hl hn heq

/-- **`Streams::poll_complete`, walked once** for an invariant `I` of stream layer, codec and transport: `poll_ready`,
    `Recv::buffer_pending`, `reclaim_frame`, the loop above (entered with `last_data_frame` empty), parking the task and
    `flush`, in rounds. -/
theorem pollComplete_inv {I : Streams → Writer → Tio → Prop} {tag : String}
    (hfuel : ∀ {s w io}, I s w io → I (s.panic "model: poll_complete out of fuel") w io)
    (hpr : ∀ {s w io w' io' r}, I s w io → pollReadyW w io tag = (w', io', r) → I s w' io')
    (hrb : ∀ {s w io}, I s w io → I (s.recvBufferPending w).1 (s.recvBufferPending w).2.1 io)
    (hrf : ∀ {s w io}, I s w io → I (s.reclaimFrame w).1 (s.reclaimFrame w).2.1 io)
    (hpl : ∀ {s w io} n, I s w io → w.lastDataFrame = none →
      I (prioBufferPendingLoop n s w).1 (prioBufferPendingLoop n s w).2.1 io)
    (hfl : ∀ {s w io w' io' r}, I s w io → flush w io tag = (w', io', r) →
      I { s with actions := { s.actions with task := some tag } } w' io') :
    ∀ (n : Nat) (s : Streams) (w : Writer) (io : Tio), I s w io →
      I (pollComplete n s w io tag).1 (pollComplete n s w io tag).2.1 (pollComplete n s w io tag).2.2.1
  | 0, _, _, _, h => hfuel h
  | n + 1, s, w, io, h => by
    have hbuf : ∀ {s w io}, I s w io → I (bufferPending (n + 1) s w).1 (bufferPending (n + 1) s w).2.1 io := by
      intro s w io h
      have h1 := hrb h
      unfold bufferPending
      split
      · next heq => rw [heq] at h1; exact h1
      · next heq =>
        rw [heq] at h1
        exact hpl (n + 1) (hrf h1) (reclaimFrame_lastDataFrame _ _)
    rw [pollComplete_succ]
    split
    · next w1 io1 hpr' =>
      have h1 := hbuf (hpr h hpr')
      dsimp only
      split
      · exact pollComplete_inv (I := I) hfuel hpr hrb hrf hpl hfl n _ _ _ h1
      · split
        · next w4 io4 hfl' =>
          have h4 := hrf (hfl h1 hfl')
          split
          · exact h4
          · exact pollComplete_inv (I := I) hfuel hpr hrb hrf hpl hfl n _ _ _ h4
        · next w4 io4 r4 hne hfl' => exact hfl h1 hfl'
    · next w1 io1 r1 hne hpr' => exact hpr h hpr'

/-- `Recv::buffer_pending` hands the codec WINDOW_UPDATE frames only: what `buffer_simple` keeps holds of the codec afterwards -/
theorem sendStreamWindowUpdates_writer {P : Writer → Prop} (hbuf : ∀ w n r, P w → P (w.bufferSimple n r)) :
    ∀ (fuel : Nat) (s : Streams) (w : Writer), P w → P (sendStreamWindowUpdates fuel s w).2.1
  | 0, _, _, h => h
  | fuel + 1, s, w, h => by
    unfold sendStreamWindowUpdates
    split
    · exact h
    · split
      · exact h
      · dsimp only
        refine sendStreamWindowUpdates_writer hbuf fuel _ _ ?_
        split
        · exact h
        · split
          · split <;> exact hbuf _ _ _ h
          · exact h

theorem recvBufferPending_writer {P : Writer → Prop} (hbuf : ∀ w n r, P w → P (w.bufferSimple n r)) (s : Streams) (w : Writer)
    (h : P w) : P (s.recvBufferPending w).2.1 := by
  have h1 : P (s.sendConnectionWindowUpdate w).2.1 := by
    unfold sendConnectionWindowUpdate
    split
    · split
      · exact h
      · dsimp only; split <;> exact hbuf _ _ _ h
    · exact h
  unfold recvBufferPending
  split
  · next heq => rw [heq] at h1; exact h1
  · next heq => rw [heq] at h1; exact sendStreamWindowUpdates_writer hbuf _ _ _ h1

/-- `Streams::send_pending_refusal` with its `poll_ready` rounds, for an invariant of stream layer and codec -/
theorem pollSendPendingRefusal_inv {I : Streams → Writer → Prop} {tag : String}
    (href : ∀ s w, I s w → I (s.sendPendingRefusal w).1 (s.sendPendingRefusal w).2.1)
    (hpr : ∀ s w io, I s w → I s (pollReadyW w io tag).1) :
    ∀ (fuel : Nat) (s : Streams) (w : Writer) (io : Tio), I s w →
      I (pollSendPendingRefusal fuel s w io tag).1 (pollSendPendingRefusal fuel s w io tag).2.1
  | 0, _, _, _, h => h
  | fuel + 1, s, w, io, h => by
    rw [pollSendPendingRefusal_succ]
    have h1 := href s w h
    split
    · next heq => rw [heq] at h1; exact h1
    · next s1 w1 heq =>
      rw [heq] at h1
      have h2 := hpr s1 w1 io h1
      split
      · next heq2 => rw [heq2] at h2; exact pollSendPendingRefusal_inv href hpr fuel _ _ _ h2
      · next heq2 => rw [heq2] at h2; exact h2

end Streams

end H2V.Model.Conn
