import H2V.Lemmas.ConnNoPanicPHist
import H2V.Lemmas.ConnLoops
import H2V.Lemmas.ConnBasicsFns
import H2V.Lemmas.ConnStepLoops
import H2V.Lemmas.ConnStepLift
import H2V.Lemmas.ConnStepTakes
/-
  C08 (no panic) — what the server accept path (ConnNoPanicPAcc*) and the client response path
  (ConnNoPanicPResp*) share: the stream methods that touch nothing either path looks at (`Keep`), and the two things both
  paths watch in recv.rs: an event handed over to a stream (`appendTo`, `OneAppend`: `Recv::recv_data` is steps of the layer
  around at most one hand-over); events taken off a stream's queue by the handle calls on it are `Streams.Takes` (ConnStepTakes).
-/
namespace H2V.Lemmas.ConnNoPanicP
open H2V H2V.Model H2V.Model.Conn H2V.Lemmas.ConnCountsP
attribute [local irreducible] wrapSubU32 wrapSubUsize

/-- `b` is `a` up to fields neither path reads: the task slots, the send-side flow control and its counters,
    the queue flags other than `is_pending_accept`, `content_length` -/
structure Keep (a b : Stream) : Prop where
  key : b.key = a.key
  ref : b.refCount = a.refCount
  acc : b.isPendingAccept = a.isPendingAccept
  st : b.state = a.state
  pr : b.pendingRecv = a.pendingRecv

theorem Keep.trans {a b c : Stream} (h1 : Keep a b) (h2 : Keep b c) : Keep a c :=
  ⟨h2.key.trans h1.key, h2.ref.trans h1.ref, h2.acc.trans h1.acc, h2.st.trans h1.st, h2.pr.trans h1.pr⟩

theorem notifySend_keep (x : Stream) : Keep x x.notifySend.1 := by rw [Stream.notifySend_fst]; exact ⟨rfl, rfl, rfl, rfl, rfl⟩
theorem notifyRecv_keep (x : Stream) : Keep x x.notifyRecv.1 := by rw [Stream.notifyRecv_fst]; exact ⟨rfl, rfl, rfl, rfl, rfl⟩
theorem notifyPush_keep (x : Stream) : Keep x x.notifyPush.1 := by rw [Stream.notifyPush_fst]; exact ⟨rfl, rfl, rfl, rfl, rfl⟩
theorem notifyCapacity_keep (x : Stream) : Keep x x.notifyCapacity.1 := by
  rw [Stream.notifyCapacity_fst]; exact ⟨rfl, rfl, rfl, rfl, rfl⟩
theorem waitSend_keep (x : Stream) (t : String) : Keep x (x.waitSend t) := ⟨rfl, rfl, rfl, rfl, rfl⟩
theorem waitOpen_keep (x : Stream) (t : String) : Keep x (x.waitOpen t) := ⟨rfl, rfl, rfl, rfl, rfl⟩
theorem assignCapacity_keep (x : Stream) (a b : Nat) : Keep x (x.assignCapacity a b).1 := by
  rw [Stream.assignCapacity_fst]; split <;> exact ⟨rfl, rfl, rfl, rfl, rfl⟩
theorem sendData_keep (x : Stream) (a b : Nat) : Keep x (x.sendData a b).1 := by
  rw [Stream.sendData_fst]; split <;> exact ⟨rfl, rfl, rfl, rfl, rfl⟩
theorem setQueued_keep (x : Stream) (q : QName) (v : Bool) (h : q ≠ .pendingAccept) : Keep x (x.setQueued q v) := by
  cases q <;> first | exact ⟨rfl, rfl, rfl, rfl, rfl⟩ | exact absurd rfl h
theorem decContentLength_keep {x y : Stream} {n : Nat} (h : x.decContentLength n = some y) : Keep x y := by
  unfold Stream.decContentLength at h
  split at h
  · split at h
    · cases h; exact ⟨rfl, rfl, rfl, rfl, rfl⟩
    · cases h
  · split at h
    · cases h
    · cases h; exact ⟨rfl, rfl, rfl, rfl, rfl⟩
  · cases h; exact ⟨rfl, rfl, rfl, rfl, rfl⟩
/-- `Stream::set_reset` is the new state followed by three wake-ups -/
theorem setReset_keep (x : Stream) (r : Reason) (i : Initiator) :
    Keep { x with state := x.state.setReset x.id r i } (x.setReset r i).1 := by
  rw [Stream.setReset_fst]; exact ⟨rfl, rfl, rfl, rfl, rfl⟩

/-- proves `Keep x (… x …)`: the method's lemma, or a record update of other fields (closed by the tactic `rfl`, which
    obeys `with_reducible`; the term `rfl` does not, and unfolds the whole state when it is tried on a method call) -/
macro "keep_tac" : tactic => `(tactic| with_reducible first
  | exact notifySend_keep _ | exact notifyRecv_keep _ | exact notifyPush_keep _ | exact notifyCapacity_keep _
  | exact assignCapacity_keep _ _ _ | exact sendData_keep _ _ _ | exact waitSend_keep _ _ | exact waitOpen_keep _ _
  | exact decContentLength_keep (by assumption)
  | exact ⟨by rfl, by rfl, by rfl, by rfl, by rfl⟩)

theorem Keep.refl (a : Stream) : Keep a a := ⟨rfl, rfl, rfl, rfl, rfl⟩

/-- the kinds of update that leave every entry as it is for both paths: counting, the id bookkeeping, `content_length` -/
def kindsKeep : Kind → Bool
  | .count | .ids | .contentLength => true
  | _ => false

theorem Keep.of_step {s s' : Streams} (h : Streams.Step kindsKeep s s') (j : Nat) : Keep (s.stream j) (s'.stream j) :=
  h.stream_rel Keep.refl Keep.trans
    (fun x y u => by
      cases u with
      | state _ hs | reserved _ hs => obtain ⟨_, hf⟩ := hs.kind; cases hf
      | refInc hk | refDec hk | pushRecv _ hk | popRecv _ _ hk | clearRecv hk | accept _ hk => cases hk
      | waitSend | waitOpen | sendData | decContentLength => keep_tac
      | _ => exact ⟨rfl, rfl, rfl, rfl, rfl⟩)
    (fun x p u => by
      cases u with
      | setReset _ _ hs => obtain ⟨_, hf⟩ := hs.kind; cases hf
      | _ => keep_tac)
    (fun _ _ v h1 h2 => by
      cases v
      · cases h2 rfl
      · cases h1 rfl)
    (fun _ _ _ => ⟨rfl, rfl, rfl, rfl, rfl⟩) (fun h => by cases h) rfl j

theorem isReleased_ref0 {x : Stream} (h : x.isReleased = true) : x.refCount = 0 := by
  unfold Stream.isReleased at h
  simp only [Bool.and_eq_true, beq_iff_eq] at h
  exact h.1.1.1.1.1.1.2

end H2V.Lemmas.ConnNoPanicP

namespace H2V.Model.Conn.Streams
open H2V H2V.Model H2V.Model.Conn
attribute [local irreducible] wrapSubU32 wrapSubUsize
variable {K : Kind → Bool}

/-- the hand-over of one event to stream `k` -/
def appendTo (t : Streams) (k : Nat) (e : REvent) : Streams :=
  (t.modStream k fun st => { st with pendingRecv := st.pendingRecv ++ [e] }).modStreamW k Stream.notifyRecv

/-- steps of the kinds `K` with at most one hand-over to stream `k` in their middle, `F` being known when it happens -/
def OneAppend (K : Kind → Bool) (k : Nat) (F : Prop) (s s' : Streams) : Prop :=
  Step K s s' ∨ (F ∧ ∃ t e, Step K s t ∧ Step K (t.appendTo k e) s')

theorem recvDataDeliver_app (hK : Kind.Has K [.enqueue .pendingWindowUpdates, .recvFlow, .connRecvFlow, .connTask])
    {s0 : Streams} (s : Streams) (h0 : Step K s0 s) (k : Nat) (payload : Bytes) (eos : Bool) (flowLen sz : Nat) :
    OneAppend K k True s0 (s.recvDataDeliver k payload eos flowLen sz).1 := by
  unfold Streams.recvDataDeliver
  split
  · left; stp_auto
  · split
    · left; stp_auto
    · left; stp_auto
    · next fl _ heq =>
      dsimp only
      generalize hs6 : (if usizeAsU32 (flowLen - payload.length) > 0 then _ else
        (s.modStream k fun st => { st with recvFlow := fl, inFlightRecvData := wrapAddU32 st.inFlightRecvData sz })) = s6
      have h6 : Step K s0 s6 := by rw [← hs6]; stp_auto
      split
      · exact .inl h6
      · exact .inr ⟨trivial, s6, .data payload (!eos), h6, notifyPushIfRecvEnded_step _ _⟩

theorem OneAppend.imp {k : Nat} {F G : Prop} {s s' : Streams} (h : OneAppend K k F s s') (hfg : F → G) : OneAppend K k G s s' :=
  Or.imp id (fun ⟨hf, r⟩ => ⟨hfg hf, r⟩) h

/-- **`Recv::recv_data`**: the payload is handed over only to a stream that is "receive streaming" -/
theorem recvRecvData_app
    (hK : Kind.Has K [.enqueue .pendingWindowUpdates, .state .recvClose, .recvFlow, .connRecvFlow, .contentLength, .connTask])
    (s : Streams) (k : Nat) (payload : Bytes) (eos : Bool) (pad : Option Nat) :
    OneAppend K k ((s.stream k).state.isRecvStreaming = true) s (s.recvRecvData k payload eos pad).1 := by
  rw [recvRecvData_eq]
  generalize hs0 : (if dataFlowLen payload pad > Generated.Consts.MAX_WINDOW_SIZE then s.panic _ else s) = s0
  have h0 : Step K s s0 := by rw [← hs0]; exact Step.ite (panic_step _ _) (.refl _)
  have hst : s0.stream k = s.stream k := by rw [← hs0]; split; exact panic_stream _ _ _; rfl
  unfold recvDataCore
  dsimp only
  split
  · exact .inl h0
  · next hg =>
    split
    · left; stp_auto
    · next hni =>
      have hstr : (s.stream k).state.isRecvStreaming = true := by
        rw [← hst]
        cases h1 : (s0.stream k).state.isRecvStreaming with
        | true => rfl
        | false =>
          cases h2 : (s0.stream k).state.isLocalError with
          | true => exact absurd h2 hni
          | false => rw [h1, h2] at hg; exact absurd rfl hg
      split
      · left; stp_auto
      · next s1 _ heq1 =>
        have h1 : Step K s s1 := by
          refine h0.trans (of_fst_eq heq1 (consumeConnectionWindow_step ?_ _ _)); stp_side
        split
        · exact .inl h1
        · split
          · exact .inl h1
          · next st1 hdc =>
            have hu : Stream.Upd K (s1.stream k) st1 := by refine .decContentLength _ ?_ hdc; stp_side
            have h2 : Step K s (s1.setStream st1) :=
              h1.trans (setStream_step s1 st1 (by rw [hu.key, stream_key]; exact hu))
            unfold recvDataTail
            split
            · next heq => left; exact h2.trans (of_fst_eq heq (recvDataEos_step (by stp_side) _ _ _))
            · next s3 heq =>
              exact (recvDataDeliver_app (by stp_side) s3 (h2.trans (of_fst_eq heq (recvDataEos_step (by stp_side) _ _ _)))
                k payload eos _ _).imp fun _ => hstr

/-- **the queueing stage of `Recv::recv_headers`**, by cases -/
theorem recvHeadersQueue_cases (t : Streams) (k : Nat) (h : HeadersIn) (ini : Bool) :
    ((t.recvHeadersQueue k h ini).1 = t ∧
      ((t.recvHeadersQueue k h ini).2 = .oversize (t.counts.isServer && ini) ∨ t.counts.isServer = true)) ∨
    (t.counts.isServer = true ∧ h.status = none ∧ ∃ m u, t.recvHeadersQueue k h ini =
      ((((t.appendTo k (.request m u h.fields)).notifyPushIfRecvEnded k).qPush .pendingAccept k).1, .ok)) ∨
    (t.counts.isServer = false ∧ ∃ e, ((∃ a f, e = .headers a f) ∨ (h.isInformational = true ∧ ∃ a f, e = .informational a f)) ∧
      ∃ u, Step K (t.appendTo k e) u ∧ t.recvHeadersQueue k h ini = (u, .ok)) := by
  -- the result is named first: the statement mentions it five times, and `split` works on the whole goal
  generalize hr : t.recvHeadersQueue k h ini = r
  unfold recvHeadersQueue at hr
  split at hr
  · subst hr; exact .inl ⟨rfl, .inl rfl⟩
  split at hr
  · next hc => subst hr; exact .inl ⟨rfl, .inr (by simp only [Bool.and_eq_true] at hc; exact hc.1.2)⟩
  split at hr
  · next hc => subst hr; exact .inl ⟨rfl, .inr (by simp only [Bool.and_eq_true] at hc; exact hc.2)⟩
  next hstat =>
  dsimp only at hr
  split at hr
  · next hsrv =>
    have hnone : h.status = none := by
      cases hh : h.status with
      | none => rfl
      | some v => rw [hh, hsrv] at hstat; simp at hstat
    split at hr
    · subst hr; exact .inl ⟨rfl, .inr hsrv⟩
    · subst hr; exact .inl ⟨rfl, .inr hsrv⟩
    · subst hr; exact .inr (.inl ⟨hsrv, hnone, _, _, rfl⟩)
  · next hsrv =>
    have hc : t.counts.isServer = false := by
      cases hh : t.counts.isServer with
      | false => rfl
      | true => exact absurd hh hsrv
    split at hr
    · subst hr; exact .inr (.inr ⟨hc, _, .inl ⟨_, _, rfl⟩, _, notifyPushIfRecvEnded_step _ _, rfl⟩)
    · next hinf =>
      subst hr
      refine .inr (.inr ⟨hc, _, .inr ⟨?_, _, _, rfl⟩, _, .refl _, rfl⟩)
      cases hh : h.isInformational with
      | true => rfl
      | false => rw [hh] at hinf; exact absurd rfl hinf

theorem recvHeadersQueue_app (hK : Kind.Has K [.enqueue .pendingAccept]) (s : Streams) (k : Nat) (h : HeadersIn) (ini : Bool) :
    OneAppend K k True s (s.recvHeadersQueue k h ini).1 := by
  rcases recvHeadersQueue_cases (K := K) s k h ini with ⟨e, _⟩ | ⟨_, _, m, u, e⟩ | ⟨_, ev, _, u, hu, e⟩ <;> rw [e]
  · exact .inl (.refl _)
  · exact .inr ⟨trivial, s, _, .refl _, (notifyPushIfRecvEnded_step _ _).trans (qPush_step _ _ _ (by stp_side))⟩
  · exact .inr ⟨trivial, s, ev, .refl _, hu⟩

end H2V.Model.Conn.Streams
