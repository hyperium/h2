import H2V.Lemmas.HuffmanCode
import H2V.Lemmas.HuffmanBits
/-
  How the reference decoder `Spec.Huffman.go` moves over a run of bits `codeBits k x`.
-/
namespace H2V.Lemmas.Huffman
open H2V H2V.Spec.Rfc7541 H2V.Spec.Huffman

theorem findIn_eq : ∀ (L : List (Nat × Nat)) (n c i : Nat),
    findIn L n c i = (L.findIdx? (· == (n, c))).map (· + i)
  | [], _, _, _ => rfl
  | (l, v) :: rest, n, c, i => by
    rw [findIn, findIn_eq rest, List.findIdx?_cons]
    by_cases h : l = n ∧ v = c
    · simp [h]
    · simp only [h, Prod.mk.injEq, beq_iff_eq, if_false, Option.map_map]
      congr 1
      funext j
      simp only [Function.comp]
      omega

theorem findSym_some {n c s : Nat} (h : findSym n c = some s) : Code s n c := by
  rw [findSym, findIn_eq, Option.map_eq_some_iff] at h
  obtain ⟨j, hj, rfl⟩ := h
  obtain ⟨hlt, hp, _⟩ := List.findIdx?_eq_some_iff_getElem.1 hj
  rw [Nat.add_zero, Code, List.getElem?_eq_getElem hlt, beq_iff_eq.1 hp]

theorem findSym_of_code {n c s : Nat} (h : Code s n c) : findSym n c = some s := by
  cases hf : findSym n c with
  | none =>
    rw [findSym, findIn_eq, Option.map_eq_none_iff] at hf
    simpa using List.findIdx?_eq_none_iff.1 hf _ (List.mem_of_getElem? h)
  | some s' => rw [code_inj (findSym_some hf) h]

theorem findSym_none {n c : Nat} (h : ∀ s, ¬ Code s n c) : findSym n c = none := by
  cases hf : findSym n c with
  | none => rfl
  | some s' => exact absurd (findSym_some hf) (h s')

theorem go_cons (b : Bool) (rest : List Bool) (len val : Nat) :
    go (b :: rest) len val =
      match findSym (len + 1) (2 * val + (if b then 1 else 0)) with
      | some s => if s = EOS then none else (go rest 0 0).map (s :: ·)
      | none => if len + 1 ≥ MAXLEN then none else go rest (len + 1) (2 * val + (if b then 1 else 0)) := by
  rw [go]; rfl

def NoPre (L V : Nat) : Prop := ∀ s n c, Code s n c → n ≤ L → V / 2 ^ (L - n) ≠ c

theorem NoPre.shorten {L V : Nat} (h : NoPre L V) (d : Nat) (hd : d ≤ L) :
    NoPre (L - d) (V / 2 ^ d) := by
  intro s n c hc hn
  have := h s n c hc (by omega)
  rwa [Nat.div_div_eq_div_mul, ← Nat.pow_add, show d + (L - d - n) = L - n by omega]

theorem NoPre.of_code {s n c L : Nat} (h : Code s n c) (hL : L < n) : NoPre L (c / 2 ^ (n - L)) := by
  intro s' n' c' hc' hn'
  rw [Nat.div_div_eq_div_mul, ← Nat.pow_add, show n - L + (L - n') = n - n' by omega]
  exact prefix_free hc' h (by rintro rfl; have := hc'.symm.trans h; simp at this; omega) (by omega)

theorem ones_div : ∀ b, b < 8 → 1073741823 / 2 ^ (30 - b) = 2 ^ b - 1 := by decide

theorem code_eos : Code 256 30 1073741823 := by unfold Code; rfl

theorem NoPre_ones {b : Nat} (hb : b < 8) : NoPre b (2 ^ b - 1) := by
  have := NoPre.of_code code_eos (show b < 30 by omega)
  rwa [ones_div b hb] at this

theorem go_skip {k x len val : Nat} (R : List Bool)
    (h : NoPre (len + k) (val * 2 ^ k + x % 2 ^ k)) (hlen : len + k < 30) :
    go (codeBits k x ++ R) len val = go R (len + k) (val * 2 ^ k + x % 2 ^ k) := by
  induction k generalizing len val with
  | zero => simp [codeBits, Nat.mod_one]
  | succ k ih =>
    simp only [codeBits, List.cons_append, go_cons, bitNat_eq]
    rw [step_arith] at h ⊢
    generalize hv : 2 * val + x / 2 ^ k % 2 = val' at h
    have hnone : findSym (len + 1) val' = none := by
      apply findSym_none
      intro s' hs'
      apply h s' _ _ hs' (by omega)
      rw [show len + (k + 1) - (len + 1) = k by omega,
        shl_add_div (Nat.mod_lt _ (Nat.two_pow_pos k))]
    have hlen' : ¬ (len + 1 ≥ MAXLEN) := by simp only [MAXLEN]; omega
    rw [hnone]
    simp only [hlen', if_false]
    rw [show len + (k + 1) = len + 1 + k by omega] at h ⊢
    exact ih h (by omega)

/-- the first `k - 1` bits are skipped, being a proper prefix of a code word -/
theorem go_hit {k x len val s : Nat} (R : List Bool) (hk : 1 ≤ k)
    (h : Code s (len + k) (val * 2 ^ k + x % 2 ^ k)) :
    go (codeBits k x ++ R) len val = if s = 256 then none else (go R 0 0).map (s :: ·) := by
  obtain ⟨j, rfl⟩ : ∃ j, k = j + 1 := ⟨k - 1, by omega⟩
  rw [split_arith val x j 1] at h
  have hno := NoPre.of_code h (show len + j < len + (j + 1) by omega)
  rw [show len + (j + 1) - (len + j) = 1 by omega,
    shl_add_div (Nat.mod_lt _ (Nat.two_pow_pos 1))] at hno
  have h30 := (code_range h).2.1
  rw [codeBits_add j 1 x, List.append_assoc, go_skip _ hno (by omega)]
  simp only [codeBits, List.cons_append, List.nil_append, go_cons, Nat.pow_zero, Nat.div_one,
    bitNat_eq]
  rw [Nat.pow_one, Nat.mul_comm] at h
  rw [Nat.add_assoc, findSym_of_code h]
  rfl

theorem go_nil (len val : Nat) :
    go [] len val = if len < 8 ∧ val + 1 = 2 ^ len then some [] else none := by
  rw [go]

theorem go_ones {p : Nat} (hp : p < 8) : go (List.replicate p true) 0 0 = some [] := by
  have h : (2 ^ p - 1) % 2 ^ p = 2 ^ p - 1 := Nat.mod_eq_of_lt (by have := Nat.two_pow_pos p; omega)
  have hno : NoPre (0 + p) (0 * 2 ^ p + (2 ^ p - 1) % 2 ^ p) := by
    rw [h, Nat.zero_add, Nat.zero_mul, Nat.zero_add]
    exact NoPre_ones hp
  have := go_skip [] hno (by omega)
  rw [List.append_nil, codeBits_ones, h, Nat.zero_add, Nat.zero_mul, Nat.zero_add] at this
  rw [this, go_nil]
  have : 2 ^ p - 1 + 1 = 2 ^ p := by have := Nat.two_pow_pos p; omega
  simp [hp, this]

end H2V.Lemmas.Huffman
