import Lean
import H2V.Lemmas.ConnCountsPPrim
import H2V.Lemmas.ConnStepLoops
import H2V.Lemmas.ConnStepWrite
/-
  C05 / C18 / C19: `Same` for the stream methods and for every update of the kinds `evK`; `EvB.of_step`: a step of the
  stream layer of those kinds is a chain of `EvB` steps; the automation for `Ev` goals.

  A goal `EvB ρ s0 (f a (g b s))` is peeled from the outside: `ev_head` looks at the head function `f`
  of the target and applies `EvB.trans ?_ (f_ev ..)` where `f_ev : EvB ρ s (f a s)` is found BY NAME
  (`<last component of f>_ev` in this namespace); a function without such a lemma is a step of the stream layer
  whose footprint lies in `evK`, and `EvB.of_step (Streams.f_step ..)` stands in.  `ev_auto` repeats that, splitting
  `if`s and `match`es on the way; side conditions are handed to `ev_side`.

  The model functions are chains `let s := A s; let s := if c then B s else s; …; C s`.  A `let` of a
  `Streams` value at the head of the target is not unfolded: `ev_head` asks for `EvB ρ s0 A` once and goes
  on with a variable `x` and the hypothesis `EvB ρ s0 x` (substituting the lets makes the term, and with
  every `split` the number of paths that re-prove the earlier segments, grow exponentially).
-/
namespace H2V.Lemmas.ConnCountsP
open H2V H2V.Model H2V.Model.Conn
variable {ρ : Bool}
attribute [local irreducible] wrapSubU32 wrapSubUsize

theorem Same.of_fields {a b : Stream} (hk : b.key = a.key) (hi : b.id = a.id) (hc : b.isCounted = a.isCounted)
    (h1 : b.isPendingSend = a.isPendingSend) (h2 : b.isPendingSendCapacity = a.isPendingSendCapacity)
    (h3 : b.isPendingOpen = a.isPendingOpen) (h4 : b.isPendingWindowUpdate = a.isPendingWindowUpdate)
    (h5 : b.isPendingAccept = a.isPendingAccept) (h6 : b.resetAt = a.resetAt)
    (hs : b.state = a.state) (hp : b.pendingSend = a.pendingSend) : Same a b :=
  ⟨hk, hi, hc, fun q => by cases q <;> simp [Stream.isQueued, *], fun h => by unfold Early at *; rw [← hs]; exact h,
   fun f hf _ => hp ▸ hf⟩

/-- `Same x { x with … }` when only uninteresting fields change -/
macro "same_fields" : tactic => `(tactic| with_reducible exact Same.of_fields rfl rfl rfl rfl rfl rfl rfl rfl rfl rfl rfl)

theorem sendData_same (x : Stream) (a b : Nat) : Same x (x.sendData a b).1 := by
  rw [Stream.sendData_fst]; unfold Stream.sendDataCharged; split <;> same_fields

theorem waitSend_same (x : Stream) (t : String) : Same x (x.waitSend t) := by unfold Stream.waitSend; same_fields
theorem waitOpen_same (x : Stream) (t : String) : Same x (x.waitOpen t) := by unfold Stream.waitOpen; same_fields

theorem setState_same (x : Stream) (st' : State) (h : (st'.inner = .idle ∨ st'.inner = .reservedRemote) → Early x) :
    Same x { x with state := st' } :=
  ⟨rfl, rfl, rfl, fun q => by cases q <;> rfl, h, fun _ hf _ => hf⟩

theorem notEarly_of_closed {st' : State} (h : st'.isClosed = true) : ¬ (st'.inner = .idle ∨ st'.inner = .reservedRemote) := by
  intro h'
  unfold State.isClosed at h
  rcases h' with h' | h' <;> simp [h'] at h

theorem setReset_same (x : Stream) (r : Reason) (i : Initiator) : Same x (x.setReset r i).1 := by
  rw [x.setReset_fst]
  exact ⟨rfl, rfl, rfl, fun q => by cases q <;> rfl, fun h => absurd h (notEarly_of_closed rfl), fun _ hf _ => hf⟩

theorem setPendingSend_same (x : Stream) (l : List SFrame) (b r : Nat)
    (h : ∀ f ∈ l, SFrame.isPP f = true → f ∈ x.pendingSend) :
    Same x { x with pendingSend := l, bufferedSendData := b, requestedSendCapacity := r } :=
  ⟨rfl, rfl, rfl, fun q => by cases q <;> rfl, fun h => h, h⟩

theorem setPendingSend_same' (x : Stream) (l : List SFrame)
    (h : ∀ f ∈ l, SFrame.isPP f = true → f ∈ x.pendingSend) :
    Same x { x with pendingSend := l } :=
  ⟨rfl, rfl, rfl, fun q => by cases q <;> rfl, fun h => h, h⟩

theorem mem_append_single_pp {l : List SFrame} {g : SFrame} (hg : SFrame.isPP g = false) :
    ∀ f ∈ l ++ [g], SFrame.isPP f = true → f ∈ l := by
  intro f hf hp
  rcases List.mem_append.mp hf with h | h
  · exact h
  · rw [List.mem_singleton.mp h, hg] at hp; cases hp

theorem mem_cons_pp {l : List SFrame} {g : SFrame} (hg : SFrame.isPP g = false) :
    ∀ f ∈ g :: l, SFrame.isPP f = true → f ∈ l := by
  intro f hf hp
  rcases List.mem_cons.mp hf with h | h
  · rw [h, hg] at hp; cases hp
  · exact h

theorem decContentLength_same {x st1 : Stream} {n : Nat} (h : x.decContentLength n = some st1) : Same x st1 := by
  unfold Stream.decContentLength at h
  split at h
  · split at h
    · cases h; same_fields
    · cases h
  · split at h
    · cases h
    · cases h; same_fields
  · cases h; same_fields

theorem sendOpen_not_early {st st' : State} {eos : Bool} {u : Unit} (h : st.sendOpen eos = (st', .ok u)) :
    ¬ (st'.inner = .idle ∨ st'.inner = .reservedRemote) := by
  unfold State.sendOpen at h
  split at h <;> cases h <;> (try split) <;> simp
theorem reserveLocal_not_early {st st' : State} {u : Unit} (h : st.reserveLocal = (st', .ok u)) :
    ¬ (st'.inner = .idle ∨ st'.inner = .reservedRemote) := by
  unfold State.reserveLocal at h
  split at h <;> cases h <;> simp
theorem recvEof_early (st : State) :
    (st.recvEof.inner = .idle ∨ st.recvEof.inner = .reservedRemote) → (st.inner = .idle ∨ st.inner = .reservedRemote) := by
  unfold State.recvEof
  intro h'
  dsimp only at h'
  repeat' split at h'
  all_goals simp_all

/-- no function of state.rs takes a stream back to an unopened state -/
theorem early_of_step {K : Kind → Bool} {id : Nat} {a b : State} (h : State.Step K id a b) :
    (b.inner = .idle ∨ b.inner = .reservedRemote) → (a.inner = .idle ∨ a.inner = .reservedRemote) := by
  cases h with
  | sendOpen eos _ e => unfold State.sendOpen at e; split at e <;> cases e <;> (try split) <;> simp
  | sendClose _ e => unfold State.sendClose at e; split at e <;> cases e <;> simp
  | recvOpen eos inf _ e =>
    intro h'
    have : b = (a.recvOpen eos inf).1 := by rw [e]
    subst this
    obtain ⟨inner⟩ := a
    cases inner with
    | idle => left; rfl
    | reservedRemote => right; rfl
    | «open» l r => cases r <;> cases eos <;> cases inf <;> simp [State.recvOpen] at h'
    | halfClosedLocal p => cases p <;> cases eos <;> cases inf <;> simp [State.recvOpen] at h'
    | _ => simp [State.recvOpen] at h'
  | recvClose _ e => unfold State.recvClose at e; intro h'; split at e <;> cases e <;> simp_all
  | reserveRemote _ e => unfold State.reserveRemote at e; intro h'; split at e <;> cases e <;> simp_all
  | reserveLocal _ e => unfold State.reserveLocal at e; split at e <;> cases e <;> simp
  | recvReset r q => unfold State.recvReset; intro h'; dsimp only at h'; repeat' split at h'; all_goals simp_all
  | handleError e => unfold State.handleError; intro h'; dsimp only at h'; repeat' split at h'; all_goals simp_all
  | recvEof => exact recvEof_early a
  | setScheduledReset r | setReset r i | setResetScheduled r => exact fun h => absurd h (notEarly_of_closed rfl)

theorem cstep_budget (c : Counts) (b : Budget) (n : Nat) : CStep c { c with dataFrameBudget := b, numRecvEmptyDataFrames := n } :=
  ⟨rfl, rfl, rfl, rfl, rfl, rfl, rfl, rfl, .inl rfl, .inl (Nat.le_refl _)⟩

theorem cstep_releaseDataFrame (c : Counts) (n : Nat) : CStep c (c.releaseDataFrame n) := by
  unfold Counts.releaseDataFrame
  dsimp only
  split
  · exact cstep_budget c _ _
  · exact CStep.refl _

theorem cstep_recordDataFrame (c : Counts) (n : Nat) : CStep c (c.recordDataFrame n).1 := by
  unfold Counts.recordDataFrame
  dsimp only
  split
  · split
    · exact CStep.refl _
    · exact cstep_budget c _ _
  · split
    · split
      · exact cstep_budget c _ _
      · exact CStep.refl _
    · exact cstep_budget c _ _

theorem cstep_applyRemoteSettings (c : Counts) (v : Option Nat) (b : Bool) : CStep c (c.applyRemoteSettings v b) := by
  unfold Counts.applyRemoteSettings
  repeat' split
  all_goals first | exact CStep.refl _ | exact ⟨rfl, rfl, rfl, rfl, rfl, rfl, rfl, rfl, .inl rfl, .inl (Nat.le_refl _)⟩

theorem cstep_incErr {c c' : Counts} (h : c.incNumLocalErrorResets = some c') : CStep c c' := by
  unfold Counts.incNumLocalErrorResets at h
  split at h
  · next hc => cases h; exact ⟨rfl, rfl, rfl, rfl, rfl, rfl, rfl, rfl, .inr ⟨rfl, hc⟩, .inl (Nat.le_refl _)⟩
  · cases h

theorem cstep_incRemote {c c' : Counts} (h : c.incNumRemoteResetStreams = some c') : CStep c c' := by
  unfold Counts.incNumRemoteResetStreams at h
  split at h
  · next hc => cases h; exact ⟨rfl, rfl, rfl, rfl, rfl, rfl, rfl, rfl, .inl rfl, .inr ⟨rfl, hc⟩⟩
  · cases h

theorem cstep_decRemote {c c' : Counts} (h : c.decNumRemoteResetStreams = some c') : CStep c c' := by
  unfold Counts.decNumRemoteResetStreams at h
  split at h
  · cases h; exact ⟨rfl, rfl, rfl, rfl, rfl, rfl, rfl, rfl, .inl rfl, .inl (Nat.sub_le _ _)⟩
  · cases h

/-- the kinds of update that are steps of `EvB` whatever the state.  Left out: what `EvB` has only as part of a compound
    step or with a fact about the stream id (a new entry, `is_counted` raised, `pending_reset_expired` and its counter,
    a push on `pending_open`, a queued PUSH_PROMISE, `next_stream_id`), and the link flag `is_pending_accept` written by
    itself (`EvB.acceptFlag`, used by two functions) -/
def evK : Kind → Bool
  | .insert | .count | .enqueue .pendingResetExpired | .dequeue .pendingResetExpired | .enqueue .pendingOpen
  | .counterUp .localReset | .counterDown .localReset | .frame .pushPromise | .nextId | .promise => false
  | _ => true

theorem Same.of_updW {x : Stream} {p : Stream × List String} (w : Stream.UpdW evK x p) : Same x p.1 := by
  cases w with
  | notifySend => rw [x.notifySend_fst]; same_fields
  | notifyRecv => rw [x.notifyRecv_fst]; same_fields
  | notifyPush => rw [x.notifyPush_fst]; same_fields
  | notifyCapacity => rw [x.notifyCapacity_fst]; same_fields
  | assignCapacity c m _ => rw [x.assignCapacity_fst]; split <;> same_fields
  | setReset r i _ => exact setReset_same x r i

theorem Same.of_upd {x y : Stream} (u : Stream.Upd evK x y) : Same x y := by
  cases u with
  | waitSend t _ => exact waitSend_same x t
  | waitOpen t _ => exact waitOpen_same x t
  | state v h => exact setState_same x v (early_of_step h)
  | reserved v h _ => exact ⟨rfl, rfl, rfl, fun q => by cases q <;> rfl, early_of_step h, fun _ hf _ => hf⟩
  | sendData n m _ _ => exact sendData_same x n m
  | decContentLength n _ h => exact decContentLength_same h
  | pushSend f hk =>
    have hf : SFrame.isPP f = false := by cases f <;> first | rfl | cases hk
    exact setPendingSend_same' x _ (mem_append_single_pp hf)
  | unpopData n eos _ => exact setPendingSend_same' x _ (mem_cons_pp rfl)
  | popSend f rest _ e => exact setPendingSend_same' x _ fun g hg _ => e ▸ List.mem_cons_of_mem _ hg
  | dropSend _ => exact setPendingSend_same' x _ fun _ hg _ => List.mem_of_mem_drop hg
  | clearSend _ => exact setPendingSend_same x [] _ _ fun _ hf _ => nomatch hf
  | keepOnlyHead _ => exact setPendingSend_same x _ _ _ fun _ hg _ => List.mem_of_mem_take hg
  | accept v hk | popPromise c rest hk | pushPromise c hk => cases hk
  | _ => same_fields

theorem sendUpd_keeps {p p' : Send} (u : Send.Upd evK p p') : p'.prioritize = p.prioritize ∧ p'.nextStreamId = p.nextStreamId := by
  cases u with
  | bumpNext _ _ hk => cases hk
  | _ => exact ⟨rfl, rfl⟩

theorem isReleased_flags {x : Stream} (h : x.isReleased = true) : ∀ q, x.isQueued q = false := by
  unfold Stream.isReleased at h
  simp only [Bool.and_eq_true, Bool.not_eq_true'] at h
  intro q
  cases q <;> simp only [Stream.isQueued] <;> simp [h]

theorem counts_ev {c c' : Counts} (u : Counts.Upd evK c c') : ∀ s : Streams, s.counts = c → EvB ρ s { s with counts := c' } := by
  induction u with
  | refl c => intro s hs; subst hs; exact .refl s
  | trans _ _ ih1 ih2 => intro s hs; exact .trans (ih1 s hs) (ih2 _ rfl)
  | incNumResetStreams hk | decNumResetStreams hk => cases hk
  | incNumRemoteResetStreams _ e => intro s hs; subst hs; exact setCounts_ev s _ (cstep_incRemote e)
  | decNumRemoteResetStreams _ e => intro s hs; subst hs; exact setCounts_ev s _ (cstep_decRemote e)
  | incNumLocalErrorResets _ e => intro s hs; subst hs; exact setCounts_ev s _ (cstep_incErr e)
  | applyRemoteSettings c m i => intro s hs; subst hs; exact setCounts_ev s _ (cstep_applyRemoteSettings _ m i)
  | recordDataFrame c n => intro s hs; subst hs; exact setCounts_ev s _ (cstep_recordDataFrame _ n)
  | releaseDataFrame c n => intro s hs; subst hs; exact setCounts_ev s _ (cstep_releaseDataFrame _ n)

theorem EvB.of_step {s s' : Streams} (t : Streams.Step evK s s') : EvB ρ s s' := by
  induction t with
  | refl s => exact .refl s
  | trans _ _ ih1 ih2 => exact .trans ih1 ih2
  | panic s m => exact panic_ev s m
  | unsup s m => exact unsup_ev s m
  | wake s t => exact wake_ev s t
  | notifyTask s _ => exact notifyTask_ev s
  | setTask s t => exact setMisc_ev s _ _ _ _ _ ⟨rfl, rfl, rfl, rfl, rfl⟩
  | setConnError s e _ => exact setMisc_ev s _ _ _ _ _ ⟨rfl, rfl, rfl, rfl, rfl⟩
  | setRefs s n => exact setMisc_ev s _ _ _ _ _ ⟨rfl, rfl, rfl, rfl, rfl⟩
  | modPrio s f u => exact modPrio_ev' s f u.queues
  | modSend s f u => exact modSend_ev' s f (sendUpd_keeps u).1 (by rw [(sendUpd_keeps u).2]; exact NextOK.refl _ _)
  | modRecv s f u => exact modRecv_ev' s f u.queues
  | setCounts s c u => exact counts_ev u s rfl
  | qPush s q k hk => exact .qPush q k (by rintro rfl; cases hk) (by rintro rfl; cases hk)
  | qPushFront s q k hk => exact .qPushFront q k (by rintro rfl; cases hk) (by rintro rfl; cases hk)
  | qPop s q hk =>
    cases q with
    | pendingOpen => exact .qPopOpen
    | pendingResetExpired => cases hk
    | _ => exact .qPop _ (by decide) (by decide)
  | incNumSendStreams _ _ hk | incNumRecvStreams _ _ hk => cases hk
  | decNumStreams s k => exact .decNum k
  | modStream s k f u => exact modStream_ev' s k f (.of_upd u)
  | modStreamW s k f u => exact modStreamW_ev' s k f (.of_updW u)
  | setStream s x u => exact setStream_ev s x.key x (.of_upd u)
  | insert _ _ _ _ hk | insertWith _ _ _ _ _ hk | undoInsert _ _ _ hk => cases hk
  | unlink s id _ => exact .unlink id
  | remove s k n _ hr hc =>
    refine .remove k n fun st hst => ?_
    rw [stream_of_get? hst] at hr hc
    exact ⟨hc, isReleased_flags hr⟩

/-- proves `Same x (… x …)` -/
macro "same_tac" : tactic => `(tactic| with_reducible first
  | exact Same.of_fields rfl rfl rfl rfl rfl rfl rfl rfl rfl rfl rfl
  | exact Same.of_updW .notifyRecv)

/-- side conditions of the building-block lemmas -/
syntax "ev_side" : tactic
macro_rules | `(tactic| ev_side) => `(tactic| (intro _; exact ⟨rfl, rfl, rfl⟩))
macro_rules | `(tactic| ev_side) => `(tactic| (intro _ _; same_tac))
macro_rules | `(tactic| ev_side) => `(tactic| decide)
macro_rules | `(tactic| ev_side) => `(tactic| assumption)

open Lean Elab Tactic Meta in
/-- goal `EvB ρ s0 (f … s …)` (possibly under `.1`): peel `f` with the lemma `f_ev` found by name;
    goal `EvB ρ s0 (let x := v; b)`: first `v`, then `b` about a variable `x` that evolved from `s0` -/
elab "ev_head" : tactic => withMainContext do
  let g ← getMainGoal
  let t ← instantiateMVars (← g.getType)
  let t := t.cleanupAnnotations
  unless t.isAppOfArity ``EvB 3 do throwError "ev_head: not an Ev goal"
  let e := t.appArg!
  let rec headOf (e : Expr) (fuel : Nat) : Option Name :=
    match fuel with
    | 0 => none
    | fuel + 1 =>
      match e with
      | .proj _ _ b => headOf b fuel
      | .mdata _ b => headOf b fuel
      | _ =>
        match e.getAppFn with
        | .const n _ =>
          if n == ``Prod.fst || n == ``Prod.snd then
            match e.getAppArgs.back? with
            | some a =>
              if a.isAppOfArity ``Prod.mk 4 then
                headOf (if n == ``Prod.fst then a.getAppArgs[2]! else a.getAppArgs[3]!) fuel
              else headOf a fuel
            | none => none
          else some n
        | _ => none
  -- `e = C[let x := v; b]` with `C` a chain of projections: the parts of the `let`, and `C`
  let rec letOf (e : Expr) (fuel : Nat) : Option (Name × Expr × Expr × Expr × (Expr → Expr)) :=
    match fuel with
    | 0 => none
    | fuel + 1 =>
      match e with
      | .mdata _ b => letOf b fuel
      | .letE n ty v b _ => some (n, ty, v, b, id)
      | .proj s i b => (letOf b fuel).map fun (n, ty, v, b', c) => (n, ty, v, b', fun x => .proj s i (c x))
      | .app f a =>
        if e.isAppOfArity ``Prod.fst 3 || e.isAppOfArity ``Prod.snd 3 then
          (letOf a fuel).map fun (n, ty, v, b', c) => (n, ty, v, b', fun x => .app f (c x))
        else none
      | _ => none
  if let some (n, ty, v, b, ctx) := letOf e 8 then
    let pre := t.appFn!
    let isPair := ty.isAppOfArity ``Prod 2 && (ty.getArg! 0).isConstOf ``Streams
    if ty.isConstOf ``Streams || isPair then
      -- the segment `v` is dealt with once; what follows knows of `x` only that it evolved from the start
      let fst (x : Expr) : Expr := if isPair then mkApp3 (mkConst ``Prod.fst [0, 0]) (ty.getArg! 0) (ty.getArg! 1) x else x
      let g1 ← mkFreshExprSyntheticOpaqueMVar (mkApp pre (fst v))
      let g2ty ← withLocalDeclD n ty fun x => withLocalDeclD `e (mkApp pre (fst x)) fun h =>
        mkForallFVars #[x, h] (mkApp pre (ctx (b.instantiate1 x)))
      let g2 ← mkFreshExprSyntheticOpaqueMVar g2ty
      g.assign (mkApp2 g2 v g1)
      let (_, g2') ← g2.mvarId!.introNP 2
      replaceMainGoal [g1.mvarId!, g2']
    else
      -- a value of another type is substituted, unless it branches: then `split` comes first
      let env ← getEnv
      if (v.find? fun c => c.isConst && (c.constName! == ``ite || c.constName! == ``dite || isMatcherCore env c.constName!)).isSome then
        throwError "ev_head: branching let"
      replaceMainGoal [← g.replaceTargetDefEq (mkApp pre (ctx (b.instantiate1 v)))]
      evalTactic (← `(tactic| try dsimp -zeta only))
  else
  match headOf e 8 with
  | none => throwError "ev_head: no head constant"
  | some n =>
    if n == ``Streams.mk then
      evalTactic (← `(tactic| first
        | with_reducible refine EvB.trans ?_ (setMisc_ev _ _ _ _ _ _ ⟨rfl, rfl, rfl, rfl, rfl⟩)
        | with_reducible refine EvB.trans ?_ (setCounts_ev _ _ ?_)))
    else
    let last := match n with
      | .str _ s => s
      | _ => "?"
    let lemmaName := (`H2V.Lemmas.ConnCountsP).str (last ++ "_ev")
    unless (← getEnv).contains lemmaName do
      -- no lemma of this family about `f`: its step (ConnStepFns), whose footprint must lie in `evK`
      let stepName := (`H2V.Model.Conn.Streams).str (last ++ "_step")
      unless (← getEnv).contains stepName do throwError "ev_head: no lemma {lemmaName}"
      let step := mkIdent stepName
      if ((← getConstInfo stepName).type.find? (·.isConstOf ``Kind.Has)).isSome then
        evalTactic (← `(tactic| with_reducible refine EvB.trans ?_ (EvB.of_step ($step (by decide) ..))))
      else
        evalTactic (← `(tactic| with_reducible refine EvB.trans ?_ (EvB.of_step ($step ..))))
      return
    let gs ← g.apply (← mkConstWithFreshMVarLevels ``EvB.trans)
    let gs ← gs.filterM fun m => do
      let ty ← instantiateMVars (← m.getType)
      pure (ty.cleanupAnnotations.isAppOfArity ``EvB 3)
    match gs with
    | [g1, g2] =>
      let side ← withReducible (g2.apply (← mkConstWithFreshMVarLevels lemmaName))
      replaceMainGoal (g1 :: side)
    | _ => throwError "ev_head: unexpected goals after EvB.trans"

/-- one step on an `Ev` goal (alternatives are tried bottom-up) -/
syntax "ev_step" : tactic
macro_rules | `(tactic| ev_step) => `(tactic| ev_head)
macro_rules | `(tactic| ev_step) => `(tactic| with_reducible refine of_fst_eq (P := EvB _ _) (by with_reducible assumption) ?_)
macro_rules | `(tactic| ev_step) => `(tactic| with_reducible assumption)
macro_rules | `(tactic| ev_step) => `(tactic| with_reducible exact EvB.refl _)

macro "ev_auto" : tactic => `(tactic| repeat (first | ev_step | ev_side | intro _ | split | dsimp only))
/-- the same with an induction hypothesis `ih : ∀ …, EvB ρ s (loop n … s …)` -/
macro "ev_auto_ih" ih:ident : tactic =>
  `(tactic| repeat (first | ev_step | with_reducible refine EvB.trans ?_ ($ih ..) | ev_side | intro _ | split | dsimp only))

end H2V.Lemmas.ConnCountsP
