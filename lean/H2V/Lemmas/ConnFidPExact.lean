import H2V.Lemmas.ConnFidPFinal
import H2V.Lemmas.ConnFidPWitness
/-
  ConnFidP — EXACTLY ONCE for the calls that accept a message frame.  At the level of the queues (`AccR`, from
  ConnFidPFnSend): a call that answers `Ok` has queued exactly one frame — its own, at the back of the queue of its stream —
  between two stretches of silent steps (and removals of released entries); a call that answers `Err` has queued nothing.
  At the level of the ghost log (`Hist.once`): such a call extends the accepted log of `k` by exactly `[F]` (or not at all,
  if the entry does not exist at the moment of the push: a dangling handle), leaves every other accepted log and all
  emitted logs alone, and the result is again a history.  Last: in a history the frame `pop_frame` hands out carries the
  stream id of an entry that exists (`Hist.popFrame_sid`).
-/
set_option linter.unusedSectionVars false
namespace H2V.Lemmas.ConnFidP
open H2V H2V.Model H2V.Model.Conn H2V.Lemmas.ConnWakeP

/-- what `Once` means for the queues: every entry that exists before and is not removed keeps its `pending_send`,
    except `k`, which gets `f` appended — once -/
theorem Once.queues {k : Nat} {f : SFrame} {s s' : Streams} (h : Once k f s s') :
    ∃ s1 tr1 tr2, Path permG s s1 tr1 ∧ Path permG (s1.modStream k (pushF f)) s' tr2 ∧
      (∀ j, wasCut j tr1 = false → sq s1 j = sq s j) ∧
      (∀ j, wasCut j tr2 = false → sq s' j = sq (s1.modStream k (pushF f)) j) ∧
      (∀ j, sq (s1.modStream k (pushF f)) j = if j = k ∧ (s1.store.get? k).isSome then sq s1 k ++ [f] else sq s1 j) := by
  obtain ⟨s1, ⟨tr1, p1⟩, ⟨tr2, p2⟩⟩ := h
  have nopush : ∀ {a b : Streams} {tr : List Lbl} (p : Path permG a b tr) (j : Nat), pushed j tr = [] :=
    fun p j => List.eq_nil_iff_forall_not_mem.mpr fun x hx => by
      have ok := p.allowed _ (mem_pushed hx)
      simp only [Perm.ok, permG] at ok
      rcases ok with h' | ⟨_, h'⟩ <;> exact h'
  refine ⟨s1, tr1, tr2, p1, p2, fun j hj => ?_, fun j hj => ?_, fun j => ?_⟩
  · have := p1.send_ledger (fun h => h) (fun h => h) j hj
    rw [nopush p1 j, List.append_nil] at this; exact this
  · have := p2.send_ledger (fun h => h) (fun h => h) j hj
    rw [nopush p2 j, List.append_nil] at this; exact this
  · unfold sq
    rw [Streams.stream_modStream s1 k (pushF f) (fun _ => rfl) j]
    split
    · rfl
    · rfl


theorem AccR.ok {ε α : Type} {k : Nat} {f : SFrame} {s0 : Streams} {p : Streams × Except ε α} (h : AccR k f s0 p) {a : α}
    (hr : p.2 = .ok a) : Once k f s0 p.1 := by
  unfold AccR at h; rw [hr] at h; exact h
theorem AccR.err {ε α : Type} {k : Nat} {f : SFrame} {s0 : Streams} {p : Streams × Except ε α} (h : AccR k f s0 p) {e : ε}
    (hr : p.2 = .error e) : Tr permG s0 p.1 := by
  unfold AccR at h; rw [hr] at h; exact h
theorem AccRR.ok {ε α : Type} {k : Nat} {e : REvent} {s0 : Streams} {p : Streams × Except ε α} (h : AccRR k e s0 p) {a : α}
    (hr : p.2 = .ok a) : Tr permG s0 p.1 ∨ OnceR k e s0 p.1 := by
  unfold AccRR at h; rw [hr] at h; exact h
theorem AccRR.err {ε α : Type} {k : Nat} {e : REvent} {s0 : Streams} {p : Streams × Except ε α} (h : AccRR k e s0 p) {x : ε}
    (hr : p.2 = .error x) : Tr permG s0 p.1 := by
  unfold AccRR at h; rw [hr] at h; exact h

theorem push_run {P : Perm} (s : Streams) (g : Ghost) (k : Nat) (f : SFrame) (hA : P.ok (.push k f))
    (hs : (s.store.get? k).isSome = true) : Run P s g (s.modStream k (pushF f)) (gstep s (.push k f) g) :=
  .lbl (.push k f) (.refl s g) (El.modStream_lbl _ k _ rfl (fun _ => rfl) (fun _ ha => es_push f ha) hs) hA

theorem permG_nopush : ∀ k f, isMsg f = true → ¬permG.push k f := fun _ _ _ h => h

/-- **exactly once, ghost level**: from a history, a call that reached `s'` by `Once k F` (i.e. answered `Ok`) on an entry
    that is not closed (a closed one answers `Err`).  The three stretches are ONE run that may push `F` on `k` only. -/
theorem Hist.once {s s' : Streams} {w : Writer} {g : Ghost} (h : Hist s w g) (hw : g.weird = false) (k : Nat) (F : SFrame)
    (hm : isMsg F = true) (hnc : ∀ a, s.store.get? k = some a → a.state.isClosed = false) (ho : Once k F s s') :
    ∃ g', Hist s' w g' ∧ g'.emi = g.emi ∧ (∀ j, j ≠ k → g'.acc j = g.acc j) ∧
      (g'.acc k = g.acc k ++ [F] ∨ g'.acc k = g.acc k) := by
  obtain ⟨s1, t1, t2⟩ := ho
  let Pk : Perm := { push := fun j f => j = k ∧ f = F, gone := True }
  have le : ∀ l, permG.ok l → Pk.ok l := permG_le trivial
  obtain ⟨g1, r1⟩ := t1.run g
  have a1 : g1.acc = g.acc := r1.acc_same permG_nopush
  -- the push, or nothing for a dangling key
  have mid : ∃ g2, Run Pk s1 g1 (s1.modStream k (pushF F)) g2 ∧ (∀ j, j ≠ k → g2.acc j = g1.acc j) ∧
      (g2.acc k = g1.acc k ++ [F] ∨ g2.acc k = g1.acc k) := by
    cases hs : s1.store.get? k with
    | none =>
      rw [Streams.modStream_of_none hs]
      exact ⟨g1, .tau (.refl _ _) (.panic _ _), fun _ _ => rfl, Or.inr rfl⟩
    | some a =>
      refine ⟨_, push_run s1 g1 k F (Or.inl ⟨rfl, rfl⟩) (by rw [hs]; rfl), fun j hj => ?_, Or.inl ?_⟩
      · simp only [gstep, hm, if_true]; exact upd_other _ _ hj
      · simp only [gstep, hm, if_true, upd_same]
  obtain ⟨g2, r2, o2, k2⟩ := mid
  obtain ⟨g3, r3⟩ := t2.run g2
  have a3 : g3.acc = g2.acc := r3.acc_same permG_nopush
  have r := ((r1.mono le).trans r2).trans (r3.mono le)
  refine ⟨g3, .api Pk h (fun h => h) (fun h => h) (Or.inr (Or.inl ⟨fun _ h => h, fun j f _ hp hc => ?_⟩)) r,
    r.emi_eq (fun h => h), fun j hj => by rw [a3, o2 j hj, a1], by rw [a3, ← a1]; exact k2⟩
  -- a frame is pushed on `k` only, which is not closed: if it was cut it is gone
  have hj : j = k := hp.1
  subst hj
  cases ha : s.store.get? j with
  | none => rfl
  | some a => have := (h.inv hw).closed j hc a ha; rw [hnc a ha] at this; cases this

theorem Hist.transition_once {ε α : Type} {s : Streams} {w : Writer} {g : Ghost} (h : Hist s w g) (hw : g.weird = false)
    (k : Nat) (F : SFrame) (hm : isMsg F = true) (f : Streams → Streams × Except ε α)
    (hc : (s.stream k).state.isClosed = true → ∃ e, f s = (s, .error e)) (hacc : AccR k F s (s.transition k f))
    (u : α) (hr : (s.transition k f).2 = .ok u) :
    ∃ g', Hist (s.transition k f).1 w g' ∧ g'.emi = g.emi ∧ (∀ j, j ≠ k → g'.acc j = g.acc j) ∧
      (g'.acc k = g.acc k ++ [F] ∨ g'.acc k = g.acc k) := by
  refine h.once hw k F hm ?_ (hacc.ok hr)
  rcases closed_cases s k with hcl | hnc
  · obtain ⟨e, he⟩ := hc hcl
    rw [Streams.transition_snd, he] at hr; cases hr
  · exact hnc

/-- **`send_data` answering `Ok` extends the accepted log of its stream by exactly `[DATA(len, eos)]`** (not at all only
    for a key that names no entry at that moment), touches no other log, and the result is again a history -/
theorem Hist.refSendData_exact {s : Streams} {w : Writer} {g : Ghost} (h : Hist s w g) (hw : g.weird = false)
    (k len : Nat) (eos : Bool) (u : Unit) (hr : (s.refSendData k len eos).2 = .ok u) :
    ∃ g', Hist (s.refSendData k len eos).1 w g' ∧ g'.emi = g.emi ∧ (∀ j, j ≠ k → g'.acc j = g.acc j) ∧
      (g'.acc k = g.acc k ++ [.data len eos] ∨ g'.acc k = g.acc k) :=
  h.transition_once hw k _ rfl _ (prioSendData_closed s k len eos) (refSendData_accR s k len eos) u hr

theorem Hist.refSendTrailers_exact {s : Streams} {w : Writer} {g : Ghost} (h : Hist s w g) (hw : g.weird = false)
    (k : Nat) (f : List Hpack.Field) (u : Unit) (hr : (s.refSendTrailers k f).2 = .ok u) :
    ∃ g', Hist (s.refSendTrailers k f).1 w g' ∧ g'.emi = g.emi ∧ (∀ j, j ≠ k → g'.acc j = g.acc j) ∧
      (g'.acc k = g.acc k ++ [.headers true f] ∨ g'.acc k = g.acc k) :=
  h.transition_once hw k _ rfl _ (sendTrailers_closed s k f) (refSendTrailers_accR s k f) u hr

theorem Hist.refSendResponse_exact {s : Streams} {w : Writer} {g : Ghost} (h : Hist s w g) (hw : g.weird = false)
    (k : Nat) (f : List Hpack.Field) (eos : Bool) (u : Unit) (hr : (s.refSendResponse k f eos).2 = .ok u) :
    ∃ g', Hist (s.refSendResponse k f eos).1 w g' ∧ g'.emi = g.emi ∧ (∀ j, j ≠ k → g'.acc j = g.acc j) ∧
      (g'.acc k = g.acc k ++ [.headers eos f] ∨ g'.acc k = g.acc k) :=
  h.transition_once hw k _ rfl _ (sendHeaders_closed s k eos f) (refSendResponse_accR s k f eos) u hr

theorem Hist.refSendInformationalHeaders_exact {s : Streams} {w : Writer} {g : Ghost} (h : Hist s w g) (hw : g.weird = false)
    (k : Nat) (f : List Hpack.Field) (u : Unit) (hr : (s.refSendInformationalHeaders k f).2 = .ok u) :
    ∃ g', Hist (s.refSendInformationalHeaders k f).1 w g' ∧ g'.emi = g.emi ∧ (∀ j, j ≠ k → g'.acc j = g.acc j) ∧
      (g'.acc k = g.acc k ++ [.headers false f] ∨ g'.acc k = g.acc k) :=
  h.transition_once hw k _ rfl _ (sendInterim_closed s k f) (refSendInformationalHeaders_accR s k f) u hr

def HasId (s : Streams) (k sid : Nat) : Prop := ∃ st, s.store.get? k = some st ∧ st.id = sid

/-- `OutSid` without the proviso "`k` is a key that was handed out" -/
def OutSidH (s : Streams) (g : Ghost) (m : Nat) (r : Option Streams.OutFrame) : Prop :=
  (∀ len fe fr, r = some (.data len fe fr) → HasId s fr.key fr.sid ∧
    ∃ E0, g.emi fr.key = E0 ++ [.data (len + fr.rest) fr.eos] ∧ fe = (if fr.rest > 0 then false else fr.eos) ∧ len ≤ m) ∧
  (∀ sid e fl, r = some (.headers sid e fl) → ∃ k E0, HasId s k sid ∧ g.emi k = E0 ++ [.headers e fl]) ∧
  (∀ sid pid fl, r = some (.pushPromise sid pid fl) → ∃ k pk E0, HasId s k sid ∧ g.emi k = E0 ++ [.pushPromise pk pid fl])

theorem OutSid.toH {s : Streams} {g : Ghost} {m : Nat} {r : Option Streams.OutFrame} (h : OutSid s g m r)
    (key : ∀ k, g.emi k ≠ [] → k < s.store.nextKey) : OutSidH s g m r := by
  obtain ⟨h1, h2, h3⟩ := h
  refine ⟨fun len fe fr e => ?_, fun sid e fl e' => ?_, fun sid pid fl e => ?_⟩
  · obtain ⟨a, E0, b, c⟩ := h1 len fe fr e
    exact ⟨a (key _ (by rw [b]; simp)), E0, b, c⟩
  · obtain ⟨k, E0, a, b⟩ := h2 sid e fl e'
    exact ⟨k, E0, a (key _ (by rw [b]; simp)), b⟩
  · obtain ⟨k, pk, E0, a, b⟩ := h3 sid pid fl e
    exact ⟨k, pk, E0, a (key _ (by rw [b]; simp)), b⟩

/-- **in a history, `pop_frame` labels what it hands out with the stream id of the entry whose queue it came from**, an
    entry of the state `pop_frame` started in -/
theorem Hist.popFrame_sid {s : Streams} {w : Writer} {g : Ghost} (h : Hist s w g) (hh : held w = none) (n m : Nat) :
    ∃ g', Run permPop s g (Streams.popFrame n s m).1 g' ∧
      (g'.weird = false → OutSidH s g' m (Streams.popFrame n s m).2) := by
  obtain ⟨g', r, o⟩ := ConnFidP.popFrame_sid n m s g
  refine ⟨g', r, fun hw => o.toH (fun k hk => ?_)⟩
  have hw0 := r.weird_mono hw
  have hI := h.inv hw0
  rw [hh] at hI
  have hI' := r.inv_pop hI hw
  have hacc : g'.acc = g.acc := r.acc_same (fun _ _ _ h => h)
  refine Nat.lt_of_not_le (fun hle => hk ?_)
  obtain ⟨D, hR, _⟩ := hI'.ref k
  rw [hacc, (hI.ghostKey k hle).1] at hR
  have := hR.nil_right
  simp only [List.append_eq_nil_iff] at this
  exact this.1.1

end H2V.Lemmas.ConnFidP
