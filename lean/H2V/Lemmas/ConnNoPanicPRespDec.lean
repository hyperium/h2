import H2V.Lemmas.ConnNoPanicPRespBase
import H2V.Lemmas.ConnHttpPFail
/-
  C08 (no panic) — the client response path: the three functions that append to a receive queue
  (`Recv::recv_headers`, `recv_trailers`, `recv_data`) decomposed into frame steps and ONE append.
-/
namespace H2V.Lemmas.ConnNoPanicP
open H2V H2V.Model H2V.Model.Conn H2V.Lemmas.ConnCountsP
attribute [local irreducible] wrapSubU32 wrapSubUsize

theorem appendTo_rp {X : List Nat} (t : Streams) (k : Nat) (e : REvent) (hX : k ∈ X) : RP X t (t.appendTo k e) := by
  unfold Streams.appendTo
  refine RP.trans ?_ (modStreamW_rp _ _ _ (fun x => .of_keep (notifyRecv_keep x)))
  exact modStream_rpx _ _ _ (fun _ => rfl) hX

theorem appendTo_stream {t : Streams} {k : Nat} (hk : Live t k) (e : REvent) :
    ((t.appendTo k e).stream k).pendingRecv = (t.stream k).pendingRecv ++ [e] ∧
    ((t.appendTo k e).stream k).state = (t.stream k).state ∧
    ((t.appendTo k e).stream k).refCount = (t.stream k).refCount := by
  unfold Streams.appendTo
  have h1 := stream_modStream_live hk (fun st => { st with pendingRecv := st.pendingRecv ++ [e] }) (fun _ => rfl)
  have hk1 : Live (t.modStream k fun st => { st with pendingRecv := st.pendingRecv ++ [e] }) k := (SameKeys.modStream _ _ _).live.mpr hk
  have h2 := stream_modStreamW_live hk1 Stream.notifyRecv fun x => (notifyRecv_keep x).key
  rw [h2, h1]
  unfold Stream.notifyRecv
  split <;> exact ⟨rfl, rfl, rfl⟩

theorem recvRecvTrailers_dec {X : List Nat} (s : Streams) (k : Nat) (h : HeadersIn) :
    RP X s (s.recvRecvTrailers k h).1 ∨
    ∃ t e, RP X s t ∧ RP X (t.appendTo k e) (s.recvRecvTrailers k h).1 ∧ ∃ st' u, (s.stream k).state.recvClose = (st', .ok u) := by
  unfold Streams.recvRecvTrailers
  split
  · exact .inl (.refl _ _)
  · next st' u heq =>
    dsimp only
    have h1 : RP X s (s.modStream k fun st => { st with state := st' }) :=
      modStream_rp' _ _ _ (setState_rs _ _ (recvClose_str heq))
    split
    · exact .inl h1
    · split
      · exact .inl h1
      · refine .inr ⟨_, .trailers h.fields, h1, ?_, st', u, heq⟩
        unfold Streams.appendTo
        exact modStreamW_rp _ _ _ (fun x => .of_keep (notifyPush_keep x))

theorem recvRecvTrailers_rp {X : List Nat} (s : Streams) (k : Nat) (h : HeadersIn) (hX : k ∈ X) :
    RP X s (s.recvRecvTrailers k h).1 := by
  rcases recvRecvTrailers_dec (X := X) s k h with h1 | ⟨t, e, h1, h2, _⟩
  · exact h1
  · exact (h1.trans (appendTo_rp _ _ _ hX)).trans h2

theorem _root_.H2V.Model.Conn.Streams.OneAppend.dec {X : List Nat} {k : Nat} {F : Prop} {s s' : Streams}
    (h : Streams.OneAppend kindsRP k F s s') : RP X s s' ∨ ∃ t e, RP X s t ∧ RP X (t.appendTo k e) s' ∧ F := by
  rcases h with h | ⟨f, t, e, h1, h2⟩
  · exact .inl (.of_step h)
  · exact .inr ⟨t, e, .of_step h1, .of_step h2, f⟩

theorem _root_.H2V.Model.Conn.Streams.OneAppend.rp {X : List Nat} {k : Nat} {F : Prop} {s s' : Streams}
    (h : Streams.OneAppend kindsRP k F s s') (hX : k ∈ X) : RP X s s' := by
  rcases h.dec (X := X) with h1 | ⟨t, e, h1, h2, _⟩
  · exact h1
  · exact (h1.trans (appendTo_rp _ _ _ hX)).trans h2

theorem recvRecvData_dec {X : List Nat} (s : Streams) (k : Nat) (payload : Bytes) (eos : Bool) (pad : Option Nat) :
    RP X s (s.recvRecvData k payload eos pad).1 ∨
    ∃ t e, RP X s t ∧ RP X (t.appendTo k e) (s.recvRecvData k payload eos pad).1 ∧ (s.stream k).state.isRecvStreaming = true :=
  (Streams.recvRecvData_app (by decide) s k payload eos pad).dec

theorem recvRecvData_rp {X : List Nat} (s : Streams) (k : Nat) (payload : Bytes) (eos : Bool) (pad : Option Nat) (hX : k ∈ X) :
    RP X s (s.recvRecvData k payload eos pad).1 :=
  (Streams.recvRecvData_app (by decide) s k payload eos pad).rp hX

/-- stage 0 of `recv_headers`: the state transition alone -/
def qhSt (s : Streams) (k : Nat) (st' : State) : Streams := s.modStream k fun st => { st with state := st' }

theorem qhSt_role (s : Streams) (k : Nat) (st' : State) : (qhSt s k st').counts.isServer = s.counts.isServer := by
  unfold qhSt; rw [Streams.modStream_counts]

/-- the non-`Ok` answers of `recv_headers` after the state transition, on a client: stream errors -/
inductive HdrErr : RecvHeadersRes → Prop
  | oversize : HdrErr (.oversize false)
  | state (i : Nat) (r : Reason) (init : Initiator) : HdrErr (.state (.reset i r init))

/-- the event a client's `recv_headers` hands over -/
def HdrEv (h : HeadersIn) (e : REvent) : Prop :=
  (∃ a f, e = .headers a f) ∨ (h.isInformational = true ∧ ∃ a f, e = .informational a f)

theorem recvHeadersQueue_dec {X : List Nat} (t : Streams) (k : Nat) (h : HeadersIn) (ini : Bool) (hsv : t.counts.isServer = false) :
    ((t.recvHeadersQueue k h ini).1 = t ∧ HdrErr (t.recvHeadersQueue k h ini).2) ∨
    (∃ e, RP X (t.appendTo k e) (t.recvHeadersQueue k h ini).1 ∧ (t.recvHeadersQueue k h ini).2 = .ok ∧ HdrEv h e) := by
  rcases Streams.recvHeadersQueue_cases (K := kindsRP) t k h ini with ⟨e, hres | hs⟩ | ⟨hs, _⟩ | ⟨_, ev, hev, u, hu, e⟩
  · rw [hsv] at hres; exact .inl ⟨e, hres ▸ .oversize⟩
  · rw [hsv] at hs; cases hs
  · rw [hsv] at hs; cases hs
  · rw [e]; exact .inr ⟨ev, .of_step hu, rfl, hev⟩

/-- **a client's `Recv::recv_headers`**: a connection error and nothing done; or the state transition, frame steps (the
    counting and the content-length stage), and then a stream error or the hand-over of the head -/
theorem recvRecvHeaders_dec {X : List Nat} (s : Streams) (k : Nat) (h : HeadersIn) (hsv : s.counts.isServer = false) :
    s.recvRecvHeaders k h = (s, .state (PErr.libraryGoAway PROTOCOL_ERROR)) ∨
    ∃ st' ini, (s.stream k).state.recvOpen h.eos h.isInformational = (st', .ok ini) ∧
      ∃ t, RP X (qhSt s k st') t ∧
        (((s.recvRecvHeaders k h).1 = t ∧ HdrErr (s.recvRecvHeaders k h).2) ∨
         (∃ e, RP X (t.appendTo k e) (s.recvRecvHeaders k h).1 ∧ (s.recvRecvHeaders k h).2 = .ok ∧ HdrEv h e)) := by
  rw [Streams.recvRecvHeaders_eq]
  split
  · next st' e heq => rw [ConnHttpP.recvOpen_err _ _ _ _ _ heq]; exact .inl rfl
  · next st' ini heq =>
    refine .inr ⟨st', ini, heq, ?_⟩
    dsimp only
    split
    · exact ⟨_, .refl _ _, .inl ⟨rfl, by exact HdrErr.state _ _ _⟩⟩
    · have h2 : Streams.Step kindsRP (qhSt s k st') (((s.recvHeadersSt k st').recvHeadersCount k h ini).recvHeadersCl k h).1 :=
        (Streams.recvHeadersCount_step (by decide) _ k h ini).trans (Streams.recvHeadersCl_step (by decide) _ k h)
      have hr := h2.isServer.trans ((qhSt_role s k st').trans hsv)
      generalize hc : ((s.recvHeadersSt k st').recvHeadersCount k h ini).recvHeadersCl k h = c at h2 hr
      obtain ⟨t, o⟩ := c
      cases o with
      | some e =>
        obtain ⟨i, he⟩ := ConnHttpP.rhCl_err _ k h e (by rw [hc])
        subst he
        exact ⟨t, .of_step h2, .inl ⟨rfl, .state _ _ _⟩⟩
      | none => exact ⟨t, .of_step h2, recvHeadersQueue_dec (X := X) t k h ini hr⟩

/-- for the stream the frame is routed to nothing is claimed: the walk of `RecvHeadersRule` with the frame as invariant -/
theorem recvRecvHeaders_rp {X : List Nat} (s : Streams) (k : Nat) (h : HeadersIn) (hX : k ∈ X) :
    RP X s (s.recvRecvHeaders k h).1 :=
  have hst : ∀ st', RP X s (s.recvHeadersSt k st') := fun _ => modStream_rpx _ _ _ (fun _ => rfl) hX
  Streams.RecvHeadersRule.run (I := RP X s) (P := fun _ _ t => RP X s t)
    { err := .refl _ _
      refuse := fun st' _ _ => hst st'
      stc := fun st' ini _ _ => (hst st').trans (.of_step (Streams.recvHeadersCount_step (by decide) _ k h ini))
      out := fun _ _ _ ht => ht
      cl := fun _ _ t ht => ht.trans (.of_step (Streams.recvHeadersCl_step (by decide) t k h))
      queue := fun _ ini t ht => ht.trans ((Streams.recvHeadersQueue_app (by decide) t k h ini).rp hX) }

end H2V.Lemmas.ConnNoPanicP
