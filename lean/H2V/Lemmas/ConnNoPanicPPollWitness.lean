import H2V.Lemmas.ConnNoPanicPPollComplete
import H2V.Lemmas.ConnNoPanicPReach
import H2V.Lemmas.ConnFlowPReach
/-
  C08 (no panic): the hypotheses of `pollComplete_no_panic` are jointly satisfiable: the stream layer of
  a new connection (`wBlank`) with a fresh codec satisfies `WI`.
-/
namespace H2V.Lemmas.ConnNoPanicP
open H2V H2V.Model H2V.Model.Conn H2V.Lemmas.ConnCountsP

instance (x : Stream) : Decidable (One x) := by unfold One; infer_instance
instance (x : Stream) : Decidable (DS x) := by unfold DS; infer_instance

theorem stream_mem_or_blank (s : Streams) (k : Nat) : s.stream k ∈ s.store.slab ∨ s.stream k = { key := k, id := 0 } := by
  unfold Streams.stream
  cases h : s.store.get? k with
  | none => exact .inr rfl
  | some x => exact .inl (get?_mem h)

/-- `FI` and `DSum` from facts about the slab entries, when no PUSH_PROMISE is queued -/
theorem fi_ds_of_slab {s : Streams} (h : ∀ x ∈ s.store.slab, One x ∧ ppIdsOf x.pendingSend = [] ∧ DS x) : FI s ∧ DSum s := by
  have hk : ∀ k, One (s.stream k) ∧ ppIdsOf (s.stream k).pendingSend = [] ∧ DS (s.stream k) := by
    intro k
    rcases stream_mem_or_blank s k with hm | hb
    · exact h _ hm
    · rw [hb]; exact ⟨⟨fun hp => Bool.noConfusion hp, fun hp => Bool.noConfusion hp⟩, rfl, DS.blank k⟩
  have hq : ∀ k, ppq s k = [] := fun k => (hk k).2.1
  exact ⟨⟨fun k => (hk k).1, ⟨fun k => by rw [hq]; exact List.nodup_nil, fun k k' pid h1 _ => by rw [hq] at h1; cases h1⟩,
    fun k pid hp => by rw [hq] at hp; cases hp⟩, fun k => (hk k).2.2⟩

theorem wBlank_safe : ConnFlowP.SafeInv wBlank := by
  refine ⟨Int.le_refl _, ⟨List.nodup_nil, ?_⟩, ?_, Int.le_refl _, by decide, by decide⟩
  · intro x hx; cases hx
  · intro x hx; cases hx

theorem wBlank_wi : WI (fun _ => False) ConnRecvP.Ghost.init wBlank {} :=
  have hfd := fi_ds_of_slab (s := wBlank) (fun x hx => by cases hx)
  ⟨⟨blank_npi wBlank_blank rfl (fun q => by cases q <;> rfl), (rfl : wBlank.counts.canIncNumLocalErrorResets = true), hfd.1⟩,
   wBlank_safe,
   ConnRecvP.Inv.init ⟨rfl, rfl, rfl, rfl, rfl⟩ true,
   hfd.2,
   .of_none rfl rfl⟩

/-- so the theorem says something: -/
example (fuel : Nat) (io : Tio) (tag : String) :
    OutOfFuel (Streams.pollComplete fuel wBlank {} io tag).1 ∨
    (Streams.pollComplete fuel wBlank {} io tag).1.panicked = none :=
  (pollComplete_w fuel wBlank_wi io tag).imp id (fun h => h.pi.npi.np)

/-- the client after `send_request` (`wR1`: HEADERS queued on stream 1, the stream waits in `pending_open`)
    satisfies all hypotheses; `poll_complete` then counts the stream (`inc_num_send_streams`), pops the frame and
    hands it to the codec (the run of the executable model writes `H:1:4:0:-`) -/
theorem wR1_wi : WI (fun _ => False) ConnRecvP.Ghost.init wR1 {} := by
  have r0 : Reach wBlank := .init wBlank_blank rfl (fun q => by cases q <;> rfl)
  have r1 : Reach wR1 := .step r0 (.sendRequest _ false [] false none (by intro id h; cases h; rfl))
  have hfd := fi_ds_of_slab (s := wR1) (by decide)
  exact ⟨⟨reach_npi r1 (rfl : wR1.counts.canIncNumLocalErrorResets = true),
      (rfl : wR1.counts.canIncNumLocalErrorResets = true), hfd.1⟩,
    (ConnFlowP.Mv.op (.sendRequest false [] false none) trivial _).safe wBlank_safe,
    (ConnRecvP.Inv.init (s := wBlank) ⟨rfl, rfl, rfl, rfl, rfl⟩ true).of_ext (ConnRecvP.sendRequest_ext _ _ _ _ _),
    hfd.2, .of_none rfl rfl⟩

example (fuel : Nat) (io : Tio) (tag : String) :
    OutOfFuel (Streams.pollComplete fuel wR1 {} io tag).1 ∨
    (Streams.pollComplete fuel wR1 {} io tag).1.panicked = none :=
  (pollComplete_w fuel wR1_wi io tag).imp id (fun h => h.pi.npi.np)

end H2V.Lemmas.ConnNoPanicP
