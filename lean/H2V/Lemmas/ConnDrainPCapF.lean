import H2V.Lemmas.ConnDrainPReach
/-
  ConnDrainP — a witness that the `pending_capacity` invariant (`dreach_capacity`) is not vacuous: a
  connection state, reached from `Conn.init {}` by handle calls and a poll, in which a stream does wait in
  `pending_capacity`, the connection window being used up by another stream.  Evaluated by the kernel.
-/
namespace H2V.Lemmas.ConnDrainP.PC
open H2V H2V.Model H2V.Model.Conn

def c0 : Conn := Conn.init {}
/-- two requests (no END_STREAM) through the handle -/
def c1 : Conn := { c0 with streams := (c0.streams.sendRequest false [] false none).1 }
def c2 : Conn := { c1 with streams := (c1.streams.sendRequest false [] false none).1 }
/-- the connection is polled: both streams are opened, their HEADERS written -/
def c3 : Conn := (Conn.clientPoll 10 c2).1
/-- `send_data` of 65535 octets on the first stream: it is assigned the whole connection window -/
def c4 : Conn := { c3 with streams := (c3.streams.refSendData 0 65535 false).1 }
/-- `send_data` of 10 octets on the second: nothing is left for it, it waits in `pending_capacity` -/
def c5 : Conn := { c4 with streams := (c4.streams.refSendData 1 10 false).1 }

theorem c5_reach : DReach c5 :=
  .handle (.handle (.clientPoll 10 (.handle (.handle (.client {} (by decide) (by intro _ h; cases h) (by intro _ h; cases h))
    (.sendRequest _ false [] false none)) (.sendRequest _ false [] false none))) (.refSendData _ 0 65535 false))
    (.refSendData _ 1 10 false)

theorem c5_waits : c5.streams.panicked = none ∧ c5.streams.prio.pendingCapacity = [1] ∧
    c5.streams.prio.flow.available.val = 0 := by decide

end H2V.Lemmas.ConnDrainP.PC
