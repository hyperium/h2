import H2V.Lemmas.ConnNoPanicPFrames
import H2V.Lemmas.ConnHeadersRule
/-
  C08 (no panic): `Inner::recv_headers` keeps `NPI`.
-/
namespace H2V.Lemmas.ConnNoPanicP
open H2V H2V.Model H2V.Model.Conn H2V.Lemmas.ConnCountsP

theorem recvHeadersBody_le (k : Nat) (h : HeadersIn) (s : Streams) : LE [k] s (s.recvHeadersBody k h).1 :=
  Streams.HeadersBodyRule.run (I := LE [k] s) (L := fun _ => True) (L' := fun _ => True)
    { hdrs := fun t ht _ => ⟨ht.step1 (recvRecvHeaders_lt t k h) (recvRecvHeaders_ev _ _ _), trivial⟩
      big := fun t ht _ => by
        refine ht.step1 ?_ ?_
        · unfold Streams.answer431; lt_auto
        · show EvB true _ _
          unfold Streams.answer431; ev_auto
      unsup := fun t m ht => ht.step0 (unsup_lt _ _) (unsup_ev _ _)
      trailers := fun t ht _ => ht.step1 (recvRecvTrailers_lt t k h) (EvB.of_step (Streams.recvRecvTrailers_step (by decide) _ _ _))
      done := fun _ ht => ht
      rst := fun t _ ht _ => ht.trans ⟨resetOnRecvStreamErr_ltw _ _ _, resetOnRecvStreamErr_ev _ _ _⟩ (fun _ h => h) }
    s (.refl _ _) trivial

theorem recvHeadersBody_npi {E : Nat → Prop} {s : Streams} (hn : NPI E s) (hE : ∀ k, ¬ E k) {k : Nat} (hk : Live s k) (h : HeadersIn)
    (he' : ErrOK (s.transition k fun s => s.recvHeadersBody k h).1) :
    NPI E (s.transition k fun s => s.recvHeadersBody k h).1 :=
  have hle := recvHeadersBody_le k h s
  have he := errOK_of_transition he'
  transition_npi k _ (hn.le hle (liveAll1 hk) hE) hle.ev he

/-- a freshly inserted entry with a peer-initiated id: the full invariant holds as it is -/
theorem NPI.insert_remote {s : Streams} (h : NPI (fun _ => False) s) (st : Stream) (hf : Fresh st)
    (hav : st.sendFlow.available.val ≤ 2147483647) (hrem : s.counts.isLocalInit st.id = false) :
    NPI (fun _ => False) { s with store := (s.store.insert st).1 } ∧
    Live { s with store := (s.store.insert st).1 } s.store.nextKey := by
  obtain ⟨h2, hl⟩ := h.insert st hf hav
  refine ⟨⟨h2.np, h2.av, h2.keys, h2.nl, h2.inv1, ?_, h2.qs, h2.ids⟩, hl⟩
  exact h.inv2.insert h.keys st hf (fun hl => by rw [isLocalInit_eq] at hrem; rw [hrem] at hl; cases hl)

theorem recvOpen_true_parity (s : Streams) (id : Nat) (h : (s.recvOpen id false).2 = .ok true) :
    s.counts.isServer = true ∧ (id % 2 == 0) = false := by
  unfold Streams.recvOpen at h
  dsimp only at h
  generalize hs0 : (if s.recv.refused.isSome = true then s.panic _ else s) = s0 at h
  have hc0 : s0.counts = s.counts := by rw [← hs0]; split; exact panic_counts _ _; rfl
  rw [← hc0]
  cases hsv : s0.counts.isServer <;> cases hpar : (id % 2 == 0) <;>
    simp only [hsv, hpar, Bool.false_or, Bool.not_false, Bool.not_true, Bool.or_false, Bool.or_true, Bool.true_or,
      if_true, Bool.false_eq_true, if_false] at h
  · cases h
  · cases h
  · exact ⟨rfl, rfl⟩
  · cases h

theorem recvOpen_true_remote {s s1 : Streams} {id : Nat} (h : s.recvOpen id false = (s1, .ok true)) :
    s1.counts.isLocalInit id = false := by
  have hp := recvOpen_true_parity s id (by rw [h])
  have hr := (recvOpen_ev (ρ := true) s id false).nx.role
  rw [h] at hr
  unfold Counts.isLocalInit
  rw [hr, hp.1, hp.2]; rfl

/-- **`Inner::recv_headers` keeps the invariant** (no panic), given that no refusal is pending
    (`Connection::poll` sends the pending refusal before it reads the next frame) -/
theorem recvHeaders_npi {s : Streams} (hn : NPI (fun _ => False) s) (h : HeadersIn) (href : s.recv.refused = none)
    (he' : ErrOK (s.recvHeaders h).1) : NPI (fun _ => False) (s.recvHeaders h).1 := by
  rw [Streams.recvHeaders_eq] at he' ⊢
  split
  · exact hn
  · next hmax =>
    rw [if_neg hmax] at he'
    -- the entry the frame is for: known, or opened and inserted
    have hent : NPI (fun _ => False) (s.recvHeadersEntry h).1 ∧
        ∀ k, (s.recvHeadersEntry h).2 = .ok (some k) → Live (s.recvHeadersEntry h).1 k := by
      unfold Streams.recvHeadersEntry
      cases hfk : s.store.findKey? h.sid with
      | some k => exact ⟨hn, fun k' e => by cases e; exact (hn.ids.findKey hfk).1⟩
      | none =>
        dsimp only
        split
        · exact ⟨hn, fun _ e => by cases e⟩
        · generalize hro : s.recvOpen h.sid false = p
          obtain ⟨s1, res⟩ := p
          have h1 : NPI (fun _ => False) s1 :=
            hn.lt (of_fst_eq hro (recvOpen_lt s h.sid false href)).w (liveAll0 s)
              (of_fst_eq hro (recvOpen_ev (ρ := true) s h.sid false)) (fun _ _ h => h)
          cases res with
          | error e => exact ⟨h1, fun _ e => by cases e⟩
          | ok b =>
            cases b
            · exact ⟨h1, fun _ e => by cases e⟩
            · obtain ⟨h2, hl2⟩ := h1.insert_remote _ (fresh_new _ _ _) (new_av _ _ _) (recvOpen_true_remote hro)
              exact ⟨h2, fun k' e => by cases e; exact hl2⟩
    generalize s.recvHeadersEntry h = p at hent he' ⊢
    obtain ⟨s1, res⟩ := p
    cases res with
    | error e => exact hent.1
    | ok o =>
      cases o with
      | none => exact hent.1
      | some k =>
        dsimp only at he' ⊢
        split
        · exact hent.1
        · split
          · exact hent.1
          · next h1 h2 =>
            rw [if_neg h1, if_neg h2] at he'
            exact recvHeadersBody_npi hent.1 (fun _ h => h) (hent.2 k rfl) h he'

end H2V.Lemmas.ConnNoPanicP
