import H2V.Lemmas.ConnResetPSpec
import H2V.Lemmas.ConnWakePTurn
/-
  ConnResetP — where RST_STREAM frames come from (C17): `pop_frame` hands the codec a RST_STREAM only
  for a slab entry that owes one (an RST_STREAM at the head of its queue, or a scheduled implicit
  reset with an empty queue), with that entry's id and exactly the owed code, and leaves the entry
  reset with nothing owed.
-/
set_option linter.unusedSectionVars false
namespace H2V.Lemmas.ConnResetP
open H2V H2V.Model H2V.Model.Conn
/-- the stream owes an RST_STREAM with code `r` and it is next in line -/
def Owes (st : Stream) (r : Reason) : Prop :=
  (∃ rest, st.pendingSend = .reset r :: rest) ∨ (st.pendingSend = [] ∧ st.state.getScheduledReset = some r)

/-- what `pop_frame` guarantees when it returns the frame `f` -/
def EmitSpec (s s' : Streams) (f : Streams.OutFrame) : Prop :=
  match f with
  | .reset sid r =>
    ∃ s1 : Store, Evolves SRelAny RInv s.store s1 ∧ Evolves SRelAny RInv s1 s'.store ∧
      ∃ k st1, s1.get? k = some st1 ∧ st1.id = sid ∧ Owes st1 r ∧
        (RInv st1 → ∀ st', s'.store.get? k = some st' → isErr st'.state = true ∧ resetCount st'.pendingSend = 0)
  | _ => True

theorem owes_rank {st : Stream} {r : Reason} (i : RInv st) (h : Owes st r) : rank st = 1 := by
  unfold rank
  rcases h with ⟨rest, hq⟩ | ⟨_, hs⟩
  · have hc : resetCount st.pendingSend = 1 := by
      have := i.le; rw [hq] at this ⊢; simp [isResetFrame] at this ⊢; omega
    have he := i.err hc
    unfold isErr at he; simp only [Bool.and_eq_true, Bool.not_eq_true'] at he
    simp [he.1, he.2, hc]
  · have h1 : st.state.isScheduledReset = true := isScheduledReset_of_get hs
    have h2 : st.state.isReset = true := by
      revert hs; generalize st.state = x
      rcases x with ⟨_ | _ | _ | _ | _ | _ | ⟨_ | _ | _ | _⟩⟩ <;> simp [State.getScheduledReset, State.isReset]
    simp [h1, h2]

theorem done_rank {st : Stream} (h1 : isErr st.state = true) (h2 : resetCount st.pendingSend = 0) : rank st = 2 := by
  unfold rank
  unfold isErr at h1; simp only [Bool.and_eq_true, Bool.not_eq_true'] at h1
  simp [h1.1, h1.2, h2]

theorem EmitSpec.mono_left {s sB s' : Streams} {f : Streams.OutFrame} (e : Evolves SRelAny RInv s.store sB.store)
    (h : EmitSpec sB s' f) : EmitSpec s s' f := by
  unfold EmitSpec at *
  split
  · next sid r =>
    simp only at h
    obtain ⟨s1, e1, e2, r⟩ := h
    exact ⟨s1, e.trans e1, e2, r⟩
  · trivial

theorem emit_close {s sA sE s' : Streams} {id : Nat} {r : Reason} {st : Stream}
    (evA : Evolves SRelAny RInv s.store sA.store) (hkA : KeysBelow sA.store)
    (hgA : sA.store.get? id = some st) (hO : Owes st r)
    (hE : Evolves SRelAny RInv sA.store sE.store)
    (hyE : ∀ st1, sE.store.get? id = some st1 → RInv st → isErr st1.state = true ∧ resetCount st1.pendingSend = 0)
    (hF : Evolves CoreEq (fun _ => True) sE.store s'.store) (hF' : Evolves SRelAny RInv sE.store s'.store) :
    EmitSpec s s' (.reset st.id r) := by
  refine ⟨sA.store, evA, hE.trans hF', id, st, hgA, rfl, hO, fun i st' h' => ?_⟩
  rcases hF.back id st' h' with ⟨st1, h1, c⟩ | ⟨hge, _, _⟩
  · have := hyE st1 h1 i
    rw [c.state, c.pendingSend]; exact this
  · exfalso
    have h1 := hkA id st hgA
    have h2 := hE.nk
    omega

theorem get?_of_stream_ne {s : Streams} {id : Nat} (h : (s.stream id).pendingSend ≠ [] ∨ (s.stream id).state.isIdle = false) :
    s.store.get? id = some (s.stream id) := by
  cases hg : s.store.get? id with
  | some st => rw [stream_of_get? hg]
  | none =>
    rw [Streams.stream_of_none hg] at h
    rcases h with h | h
    · exact absurd rfl h
    · cases h

theorem pfFinish_ev {P : Stream → Stream → Prop} {N : Stream → Prop} [Good P N] {a : Store} {s : Streams}
    (h : Evolves P N a s.store) (id : Nat) (b : Bool) (f : Streams.OutFrame) :
    Evolves P N a (ConnWakeP.pfFinish id b s f).1.store := by
  unfold ConnWakeP.pfFinish; ev

/-- what one turn of `pop_frame` does: it goes on from a state the entries evolved into, or returns a frame that was owed -/
def TurnEmit (t : Streams) : ConnWakeP.Turn → Prop
  | .cont t1 => Evolves SRelAny RInv t.store t1.store
  | .done r => ∀ f, r.2 = some f → EmitSpec t r.1 f

theorem popTurn_emit (sd : Stream → Nat → Nat → Stream × List String × Bool) (t : Streams) (m : Nat) (hkb : KeysBelow t.store) :
    TurnEmit t (ConnWakeP.popTurn sd t m) := by
  have pop : ∀ {s0 : Streams} {o : Option Nat}, t.qPop .pendingSend = (s0, o) → Evolves SRelAny RInv t.store s0.store :=
    fun hq => by have := qPop_ev (P := SRelAny) (N := RInv) (Evolves.refl t.store) .pendingSend; rw [hq] at this; exact this
  have triv : ∀ {r : Streams × Option Streams.OutFrame}, (∀ f, r.2 = some f → ∀ sid rs, f ≠ Streams.OutFrame.reset sid rs) →
      ∀ f, r.2 = some f → EmitSpec t r.1 f := by
    intro r hr f hf
    cases f with
    | reset sid rs => exact absurd rfl (hr _ hf sid rs)
    | _ => exact trivial
  refine ConnWakeP.popTurn_cases sd t m (P := TurnEmit t) ?_ ?_ ?_ ?_ ?_ ?_ ?_ ?_ ?_ ?_
  · intro s0 hq f hf; cases hf
  · intro s0 id sz eos rest hq _ _
    have h0 := pop hq
    show Evolves SRelAny RInv t.store _
    ev
  · exact fun s0 id sz eos rest hq _ _ _ => pop hq
  · intro s0 id sz eos rest hq _ _ _
    exact triv (by intro f hf sid rs hc; cases hf; cases hc)
  · intro s0 id heos fields rest hq _
    exact triv (by intro f hf sid rs hc; cases hf; cases hc)
  · -- RST_STREAM at the head of the queue
    intro s0 id reason rest hq hps f hf
    cases hf
    have evA := pop hq
    have hkA : KeysBelow s0.store := evA.keysBelow hkb
    have hgA : s0.store.get? id = some (s0.stream id) := get?_of_stream_ne (.inl (by rw [hps]; simp))
    refine emit_close (sE := s0.modStream id fun st => { st with pendingSend := rest }) evA hkA hgA
      (.inl ⟨rest, hps⟩) (Evolves.of_step_sr (Streams.modStream_step s0 id (fun st => { st with pendingSend := rest }) (.popSend _ _ rfl hps)) (Evolves.refl _)) ?_
      (pfFinish_ev (Evolves.refl _) _ _ _) (pfFinish_ev (Evolves.refl _) _ _ _)
    intro st1 h1 i
    rw [modStream_store, Store.get?_mod' _ _ _ (by intro; rfl), if_pos rfl, hgA] at h1
    simp only [Option.map_some, Option.some.injEq] at h1
    subst h1
    have hc := i.le
    rw [hps] at hc
    simp only [resetCount_cons, isResetFrame, if_true] at hc
    have h1 : resetCount (s0.stream id).pendingSend = 1 := by rw [hps]; simp [isResetFrame]; omega
    refine ⟨i.err h1, ?_⟩
    show resetCount rest = 0
    omega
  · intro s0 id pk pid fields rest hq hps _
    have h1 := Evolves.of_step_sr (Streams.modStream_step s0 id (fun st => { st with pendingSend := rest }) (.popSend _ _ rfl hps)) (pop hq)
    refine transitionAfter_ev ?_ _ _
    unfold ConnWakeP.requeue; ev
  · intro s0 id pk pid fields rest pushed hq _ _
    exact triv (by intro f hf sid rs hc; cases hf; cases hc)
  · -- the implicit reset of a scheduled stream
    intro s0 id reason hq hnil hsr f hf
    cases hf
    have evA := pop hq
    have hkA : KeysBelow s0.store := evA.keysBelow hkb
    have hgA : s0.store.get? id = some (s0.stream id) := get?_of_stream_ne (.inr (by
      revert hsr; generalize (s0.stream id).state = x
      rcases x with ⟨_ | _ | _ | _ | _ | _ | _⟩ <;> simp [State.getScheduledReset, State.isIdle]))
    refine emit_close (sE := s0.modStreamW id fun st => st.setReset reason .library) evA hkA hgA
      (.inr ⟨hnil, hsr⟩)
      (Evolves.of_step_sr (Streams.modStreamW_step s0 id (fun st => st.setReset reason .library) (.setReset reason .library (.setResetScheduled reason rfl hsr)))
        (Evolves.refl _))
      ?_ (pfFinish_ev (Evolves.refl _) _ _ _) (pfFinish_ev (Evolves.refl _) _ _ _)
    intro st1 h1 _
    rw [modStreamW_store, Store.get?_mod' _ _ _ (by intro x; exact x.setReset_key _ _), if_pos rfl, hgA] at h1
    simp only [Option.map_some, Option.some.injEq] at h1
    subst h1
    rw [setReset_state, setReset_pendingSend, hnil]
    exact ⟨rfl, rfl⟩
  · exact fun s0 id hq _ _ => transitionAfter_ev (pop hq) _ _

theorem popFrameC_emit (sd : Stream → Nat → Nat → Stream × List String × Bool) (fuel : Nat) (s : Streams) (m : Nat)
    (s' : Streams) (f : Streams.OutFrame) (hkb : KeysBelow s.store)
    (h : ConnWakeP.popFrameC sd fuel s m = (s', some f)) : EmitSpec s s' f := by
  have := ConnWakeP.popFrameC_ind (sd := sd) (m := m) (I := fun t => Evolves SRelAny RInv s.store t.store)
    (Q := fun r => ∀ f, r.2 = some f → EmitSpec s r.1 f) (fun _ _ f hf => by cases hf)
    (fun t t1 ht hc => by have := popTurn_emit sd t m (ht.keysBelow hkb); rw [hc] at this; exact ht.trans this)
    (fun t r ht hd f hf => by
      have := popTurn_emit sd t m (ht.keysBelow hkb); rw [hd] at this; exact EmitSpec.mono_left ht (this f hf))
    fuel s (Evolves.refl _)
  rw [h] at this; exact this f rfl

/-- **`pop_frame` and RST_STREAM**: when `pop_frame` returns `RST_STREAM(sid, r)`, some slab entry with
    stream id `sid` owed exactly that frame at that moment, and afterwards (if it is still in the slab)
    it is closed by an error with no RST_STREAM left in its queue. -/
theorem popFrame_emit (fuel : Nat) (s : Streams) (m : Nat) (s' : Streams) (f : Streams.OutFrame)
    (hkb : KeysBelow s.store) (h : Streams.popFrame fuel s m = (s', some f)) : EmitSpec s s' f := by
  rw [ConnWakeP.popFrameC.eq] at h; exact popFrameC_emit _ fuel s m s' f hkb h

end H2V.Lemmas.ConnResetP
