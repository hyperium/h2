import H2V.Lemmas.ConnHttpPPush
/-
  C13 (ConnHttpP) — `DynConnection::recv_frame`, every connection state, every frame: the only
  frames that put anything into a receive queue are HEADERS, DATA and PUSH_PROMISE, each at most one
  event that passed the checks of its path.
-/
namespace H2V.Lemmas.ConnHttpP
open H2V H2V.Model H2V.Model.Frame H2V.Model.Hpack H2V.Model.Conn H2V.Model.CodecRead

/-- what `recv_frame` may hand over for the frame `f` (`none` = end of input) -/
def FrameEvent (cfg : Bool × Bool) : Option Frame.Frame → REvent → Prop
  | some (.headers sid eos _ blk), ev => FrameAccepted cfg (Conn.headersIn sid eos blk) ev
  | some (.data _ payload eos _), ev => DataAccepted payload eos ev
  | some (.pushPromise _ promised blk), ev => PromiseAccepted (Conn.headersIn promised false blk) ev
  | _, _ => False

/-- the stream layer after the call `recv_frame` makes for a frame; SETTINGS and PRIORITY make none (PING: `recvFrame_ping`) -/
def frameStreams (s : Streams) : Frame.Frame → Streams
  | .headers sid eos _ blk => (s.recvHeaders (Conn.headersIn sid eos blk)).1
  | .data sid payload eos pad => (s.recvData sid payload eos pad).1
  | .reset sid code => (s.recvReset sid code).1
  | .pushPromise sid promised blk => (s.recvPushPromise sid (Conn.headersIn promised false blk)).1
  | .goAway last code debug => (s.recvGoAwayFrame last code debug).1
  | .windowUpdate sid inc => (s.recvWindowUpdate sid inc).1
  | _ => s

theorem recvFrame_frame (c : Conn) (fr : Frame.Frame) (hp : ∀ a p, fr ≠ .ping a p) :
    (c.recvFrame (some fr)).1.streams = frameStreams c.streams fr := by
  cases fr
  case ping a p => exact absurd rfl (hp a p)
  case settings | priority => rfl
  all_goals
    unfold Conn.recvFrame frameStreams
    simp only
    split <;> (rename_i e; rw [e])

/-- PING: the woken tasks, and the GOAWAY that follows the shutdown ping -/
theorem recvFrame_ping (c : Conn) (ack : Bool) (payload : Bytes) :
    Quiet c.streams (c.recvFrame (some (.ping ack payload))).1.streams := by
  unfold Conn.recvFrame
  simp only
  generalize c.pingPong.recvPing ack payload = r
  obtain ⟨pp, status, woken, ok⟩ := r
  simp only
  have q1 : Quiet c.streams (if ok = true then ({ c with pingPong := pp, streams := c.streams.wake woken } : Conn)
        else ({ c with pingPong := pp, streams := c.streams.wake woken } : Conn).panic "ping_pong assertion").streams := by
    split
    · exact .of_step (.wake _ _) (Quiet.refl _)
    · exact .of_step (.panic _ _) (.of_step (.wake _ _) (Quiet.refl _))
  generalize (if ok = true then ({ c with pingPong := pp, streams := c.streams.wake woken } : Conn)
      else ({ c with pingPong := pp, streams := c.streams.wake woken } : Conn).panic "ping_pong assertion") = c1 at q1 ⊢
  split
  · have q2 : Quiet c.streams (if c1.goAway.isGoingAway = true then c1
          else c1.panic "received unexpected shutdown ping").streams := by
      split
      · exact q1
      · exact .of_step (.panic _ _) q1
    generalize (if c1.goAway.isGoingAway = true then c1 else c1.panic "received unexpected shutdown ping") = c2 at q2 ⊢
    unfold Conn.dynGoAway
    simp only
    have q3 : Quiet c.streams (c2.streams.recvGoAway c2.streams.recv.lastProcessedId) :=
      .of_step (Streams.recvGoAway_step (by decide) _ _) q2
    split
    · exact q3
    · exact .of_step (.panic _ _) q3
  · exact q1

theorem recvFrame_delivers (c : Conn) (f : Option Frame.Frame) :
    Delivers (fun _ ev => FrameEvent (cfgOf c.streams) f ev) c.streams (c.recvFrame f).1.streams := by
  cases f with
  | none => exact (Quiet.of_step (Streams.recvEof_step (by decide) c.streams false) (Quiet.refl _)).delivers
  | some fr =>
    by_cases hp : ∃ a p, fr = .ping a p
    · obtain ⟨a, p, rfl⟩ := hp
      exact (recvFrame_ping c a p).delivers
    rw [recvFrame_frame c fr fun a p e => hp ⟨a, p, e⟩]
    cases fr with
    | headers sid eos d blk => exact recvHeaders_delivers c.streams _
    | data sid payload eos pad => exact recvData_delivers c.streams sid payload eos pad
    | pushPromise sid promised blk => exact recvPushPromise_delivers c.streams sid _
    | reset sid code => exact (Quiet.of_step (Streams.recvReset_step (by decide) c.streams sid code) (Quiet.refl _)).delivers
    | windowUpdate sid inc =>
      exact (Quiet.of_step (Streams.recvWindowUpdate_step (by decide) c.streams sid inc) (Quiet.refl _)).delivers
    | goAway last code debug =>
      exact (Quiet.of_step (Streams.recvGoAwayFrame_step (by decide) c.streams last code debug) (Quiet.refl _)).delivers
    | _ => exact (Quiet.refl c.streams).delivers

end H2V.Lemmas.ConnHttpP
