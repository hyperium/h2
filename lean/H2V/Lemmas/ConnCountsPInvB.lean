import H2V.Lemmas.ConnCountsPInvA
/-
  C05 / C18 / C19 — invariants, part B: counting slab entries through look-ups (under `KeysOK`), and
  what "no panic afterwards" tells about the counter primitives.
-/
namespace H2V.Lemmas.ConnCountsP
open H2V H2V.Model H2V.Model.Conn

theorem KeysOK.get?_of_mem {s : Streams} (h : KeysOK s) {x : Stream} (hx : x ∈ s.store.slab) : s.store.get? x.key = some x :=
  Store.get?_of_mem h.nodup hx

theorem get?_mem {s : Streams} {k : Nat} {x : Stream} (h : s.store.get? k = some x) : x ∈ s.store.slab :=
  Store.get?_mem h

theorem KeysOK.eq_of_key {s : Streams} (h : KeysOK s) {k : Nat} {x y : Stream} (hx : s.store.get? k = some x)
    (hy : y ∈ s.store.slab) (hk : y.key = k) : y = x := by
  have := h.get?_of_mem hy
  rw [hk, hx] at this; cases this; rfl

/-- `peer::Dyn::is_local_init` for the role `sv` (`true` = server) -/
def locId (sv : Bool) (id : Nat) : Bool := sv == (id % 2 == 0)

theorem isLocalInit_eq (c : Counts) (id : Nat) : c.isLocalInit id = locId c.isServer id := rfl

def cntP (P : Stream → Bool) (s : Streams) : Nat := s.store.slab.countP P

def cntAll (s : Streams) : Nat := s.store.slab.countP (·.isCounted)

def sendCounted (sv : Bool) (x : Stream) : Bool := x.isCounted && locId sv x.id

def b2n (b : Bool) : Nat := if b then 1 else 0

theorem b2n_false : b2n false = 0 := rfl
theorem b2n_true : b2n true = 1 := rfl

theorem countP_upd (P : Stream → Bool) (st' : Stream) (l : List Stream) (hn : (l.map (·.key)).Nodup)
    (x : Stream) (hx : x ∈ l) (hk : st'.key = x.key) :
    (l.map fun y => if y.key == st'.key then st' else y).countP P + b2n (P x) = l.countP P + b2n (P st') := by
  induction l with
  | nil => cases hx
  | cons a l ih =>
    simp only [List.map_cons, List.nodup_cons] at hn
    simp only [List.map_cons, List.countP_cons]
    by_cases hak : a.key == st'.key
    · have hax : a = x := by
        rcases List.mem_cons.mp hx with h | h
        · exact h.symm
        · exfalso; apply hn.1
          simp at hak; rw [hak, hk]; exact List.mem_map_of_mem h
      subst hax
      have htail : (l.map fun y => if y.key == st'.key then st' else y) = l := by
        conv => rhs; rw [← List.map_id l]
        apply List.map_congr_left
        intro y hy
        have : (y.key == st'.key) = false := by
          simp only [beq_eq_false_iff_ne, ne_eq]
          intro he
          apply hn.1
          rw [← hk, ← he]; exact List.mem_map_of_mem hy
        simp [this]
      simp only [hak, if_true, htail]
      unfold b2n
      omega
    · have hxl : x ∈ l := by
        rcases List.mem_cons.mp hx with h | h
        · exfalso; apply hak; rw [← h, hk]; simp
        · exact h
      have := ih hn.2 hxl
      simp only [hak, Bool.false_eq_true, if_false]
      omega

theorem cntP_setStream {s : Streams} (P : Stream → Bool) (h : KeysOK s) (st' x : Stream) (hx : s.store.get? st'.key = some x) :
    cntP P (s.setStream st') + b2n (P x) = cntP P s + b2n (P st') := by
  unfold cntP Streams.setStream Store.set
  exact countP_upd P st' s.store.slab h.nodup x (get?_mem hx) (get?_key hx).symm

theorem cntP_upd {s : Streams} (P : Stream → Bool) (h : KeysOK s) (g : Counts → Counts) {k : Nat} {x : Stream}
    (hx : s.store.get? k = some x) (y : Stream) (hy : y.key = x.key) :
    cntP P ((s.modCounts g).setStream y) + b2n (P x) = cntP P s + b2n (P y) :=
  cntP_setStream P (s := s.modCounts g) ⟨h.nodup, h.fresh⟩ y x (by rw [hy, get?_key hx]; exact hx)

theorem cntP_of_store_eq {s s' : Streams} (P : Stream → Bool) (h : s'.store = s.store) : cntP P s' = cntP P s := by
  unfold cntP; rw [h]

theorem setStream_dangling (s : Streams) (st' : Stream) (h : s.store.get? st'.key = none) : (s.setStream st').store = s.store := by
  rw [Streams.setStream_of_none h]

theorem cntP_modStream {s : Streams} (P : Stream → Bool) (h : KeysOK s) (k : Nat) (f : Stream → Stream) (hf : ∀ x, (f x).key = x.key) :
    (∃ x, s.store.get? k = some x ∧ cntP P (s.modStream k f) + b2n (P x) = cntP P s + b2n (P (f x))) ∨
    (s.store.get? k = none ∧ cntP P (s.modStream k f) = cntP P s) := by
  cases hx : s.store.get? k with
  | none => exact .inr ⟨rfl, by rw [Streams.modStream_of_none hx]; exact cntP_of_store_eq P (panic_store _ _)⟩
  | some x =>
    rw [Streams.modStream_of_some hx]
    exact .inl ⟨x, rfl, cntP_setStream P h (f x) x (by rw [hf, get?_key hx]; exact hx)⟩

theorem cntP_modStream_same {s : Streams} (P : Stream → Bool) (h : KeysOK s) (k : Nat) (f : Stream → Stream)
    (hf : ∀ x, (f x).key = x.key) (hc : ∀ x, P (f x) = P x) : cntP P (s.modStream k f) = cntP P s := by
  rcases cntP_modStream P h k f hf with ⟨x, _, e⟩ | ⟨_, e⟩
  · rw [hc] at e; omega
  · exact e

theorem cntP_insert (P : Stream → Bool) (s : Streams) (st : Stream) (hc : P { st with key := s.store.nextKey } = false) :
    cntP P { s with store := (s.store.insert st).1 } = cntP P s := by
  show (s.store.slab ++ [({ st with key := s.store.nextKey } : Stream)]).countP P = _
  rw [List.countP_append]
  simp [hc, cntP]

theorem cntP_remove {s : Streams} (P : Stream → Bool) (h : KeysOK s) (k n : Nat)
    (hg : ∀ st, s.store.get? k = some st → P st = false) :
    cntP P { s with store := s.store.remove k, recvBufferLeaked := n } = cntP P s := by
  show (s.store.slab.filter (·.key != k)).countP P = s.store.slab.countP P
  rw [List.countP_filter]
  apply List.countP_congr
  intro y hy
  by_cases hk : y.key = k
  · have := hg y (by rw [← hk]; exact h.get?_of_mem hy)
    simp [this]
  · simp [hk]

theorem cntAll_setStream {s : Streams} (h : KeysOK s) (st' x : Stream) (hx : s.store.get? st'.key = some x) :
    cntAll (s.setStream st') + b2n x.isCounted = cntAll s + b2n st'.isCounted := cntP_setStream _ h st' x hx

theorem cntAll_modStream_same {s : Streams} (h : KeysOK s) (k : Nat) (f : Stream → Stream) (hf : ∀ x, (f x).key = x.key)
    (hc : ∀ x, (f x).isCounted = x.isCounted) : cntAll (s.modStream k f) = cntAll s := cntP_modStream_same _ h k f hf hc

theorem cntAll_of_store_eq {s s' : Streams} (h : s'.store = s.store) : cntAll s' = cntAll s := cntP_of_store_eq _ h

theorem cntAll_insert (s : Streams) (st : Stream) (hc : st.isCounted = false) :
    cntAll { s with store := (s.store.insert st).1 } = cntAll s := cntP_insert _ s st hc

theorem cntAll_remove {s : Streams} (h : KeysOK s) (k n : Nat)
    (hg : ∀ st, s.store.get? k = some st → st.isCounted = false) :
    cntAll { s with store := s.store.remove k, recvBufferLeaked := n } = cntAll s := cntP_remove _ h k n hg

theorem modStream_noPanic {s : Streams} {k : Nat} {f : Stream → Stream} (h : (s.modStream k f).panicked = none) :
    s.panicked = none ∧ ∃ x, s.store.get? k = some x :=
  have := Streams.get?_of_modStream_panicked_eq_none h
  ⟨this.2, _, this.1⟩

theorem ite_panic_noPanic {s : Streams} {c : Prop} [Decidable c] {m : String}
    (h : (if c then s else s.panic m).panicked = none) : c ∧ s.panicked = none := by
  split at h
  · next hc => exact ⟨hc, h⟩
  · exact Streams.panicked_of_panic_eq_none h

theorem ite_panic_noPanic' {s : Streams} {c : Prop} [Decidable c] {m : String}
    (h : (if c then s.panic m else s).panicked = none) : ¬ c ∧ s.panicked = none := by
  split at h
  · exact Streams.panicked_of_panic_eq_none h
  · next hc => exact ⟨hc, h⟩

theorem upd_of_noPanic {t : Streams} {g : Counts → Counts} {k : Nat} {f : Stream → Stream}
    (h : ((t.modCounts g).modStream k f).panicked = none) :
    t.panicked = none ∧ ∃ x, t.store.get? k = some x ∧ (t.modCounts g).modStream k f = (t.modCounts g).setStream (f x) := by
  obtain ⟨hp, x, hx⟩ := modStream_noPanic h
  exact ⟨hp, x, hx, Streams.modStream_of_some hx f⟩

/-- the common shape of `inc_num_send_streams` and `inc_num_recv_streams` (`can`, `g` the test and the update of
    the one or the other counter): without a panic there was room, the stream exists and was not counted, and the
    two updates are all that happens -/
theorem incWith_of_noPanic (can : Bool) (m m' : String) (g : Counts → Counts) {s : Streams} {k : Nat}
    (h : ((let s1 := if can then s else s.panic m
           let s2 := if (s1.stream k).isCounted then s1.panic m' else s1
           s2.modCounts g).modStream k fun st => { st with isCounted := true }).panicked = none) :
    s.panicked = none ∧ can = true ∧ ∃ x, s.store.get? k = some x ∧ x.isCounted = false ∧
      ((let s1 := if can then s else s.panic m
        let s2 := if (s1.stream k).isCounted then s1.panic m' else s1
        s2.modCounts g).modStream k fun st => { st with isCounted := true }) =
        (s.modCounts g).setStream { x with isCounted := true } := by
  dsimp only at h ⊢
  obtain ⟨hp2, x, hx, e⟩ := upd_of_noPanic h
  obtain ⟨hnc, hp1⟩ := ite_panic_noPanic' hp2
  obtain ⟨hcan, hp0⟩ := ite_panic_noPanic hp1
  subst hcan
  rw [if_pos rfl] at hnc
  rw [if_pos rfl, if_neg hnc] at hx e ⊢
  have hx' : s.store.get? k = some x := hx
  refine ⟨hp0, rfl, x, hx', ?_, e⟩
  rw [stream_of_get? hx'] at hnc; simpa using hnc

theorem incNumSendStreams_of_noPanic {s : Streams} {k : Nat} (h : (s.incNumSendStreams k).panicked = none) :
    s.panicked = none ∧ s.counts.canIncNumSendStreams = true ∧ ∃ x, s.store.get? k = some x ∧ x.isCounted = false ∧
      s.incNumSendStreams k =
        (s.modCounts fun c => { c with numSendStreams := c.numSendStreams + 1 }).setStream { x with isCounted := true } :=
  incWith_of_noPanic _ _ _ _ h

theorem incNumRecvStreams_of_noPanic {s : Streams} {k : Nat} (h : (s.incNumRecvStreams k).panicked = none) :
    s.panicked = none ∧ s.counts.canIncNumRecvStreams = true ∧ ∃ x, s.store.get? k = some x ∧ x.isCounted = false ∧
      s.incNumRecvStreams k =
        (s.modCounts fun c => { c with numRecvStreams := c.numRecvStreams + 1 }).setStream { x with isCounted := true } :=
  incWith_of_noPanic _ _ _ _ h

theorem assertUpd_of_noPanic {c : Prop} [Decidable c] {m : String} {g : Counts → Counts} {f : Stream → Stream} {s : Streams}
    {k : Nat} (h : (((if c then s else s.panic m).modCounts g).modStream k f).panicked = none) :
    s.panicked = none ∧ c ∧ ∃ x, s.store.get? k = some x ∧
      ((if c then s else s.panic m).modCounts g).modStream k f = (s.modCounts g).setStream (f x) := by
  obtain ⟨hp1, x, hx, e⟩ := upd_of_noPanic h
  obtain ⟨hc, hp0⟩ := ite_panic_noPanic hp1
  rw [if_pos hc] at hx e ⊢
  exact ⟨hp0, hc, x, hx, e⟩

theorem decNumStreams_of_noPanic {s : Streams} {k : Nat} (h : (s.decNumStreams k).panicked = none) :
    s.panicked = none ∧ ∃ x, s.store.get? k = some x ∧ x.isCounted = true ∧
      ((s.counts.isLocalInit x.id = true ∧ 0 < s.counts.numSendStreams ∧ s.decNumStreams k =
          (s.modCounts fun c => { c with numSendStreams := c.numSendStreams - 1 }).setStream { x with isCounted := false }) ∨
       (s.counts.isLocalInit x.id = false ∧ 0 < s.counts.numRecvStreams ∧ s.decNumStreams k =
          (s.modCounts fun c => { c with numRecvStreams := c.numRecvStreams - 1 }).setStream { x with isCounted := false })) := by
  unfold Streams.decNumStreams at h ⊢
  dsimp only at h ⊢
  by_cases hc : (s.stream k).isCounted = true
  · rw [if_pos hc] at h ⊢
    split at h
    · next hloc =>
      rw [if_pos hloc]
      obtain ⟨hp, hpos, x, hx, e⟩ := assertUpd_of_noPanic h
      rw [stream_of_get? hx] at hc hloc
      exact ⟨hp, x, hx, hc, .inl ⟨hloc, hpos, e⟩⟩
    · next hloc =>
      rw [if_neg hloc]
      obtain ⟨hp, hpos, x, hx, e⟩ := assertUpd_of_noPanic h
      rw [stream_of_get? hx] at hc hloc
      exact ⟨hp, x, hx, hc, .inr ⟨by simpa using hloc, hpos, e⟩⟩
  · rw [if_neg hc] at h
    split at h <;> exact Streams.panicked_of_panic_eq_none (assertUpd_of_noPanic h).1

end H2V.Lemmas.ConnCountsP
