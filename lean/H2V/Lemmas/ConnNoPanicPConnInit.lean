import H2V.Lemmas.ConnNoPanicPConnHist
import H2V.Lemmas.ConnInit
/-
  C08 (no panic) — connection layer: the two constructors (`client::Connection::handshake2`,
  `server::Handshake` + `proto::Connection::new`) as histories from the literal initial `Streams` record and the
  empty writer, and the connection invariant of a new connection.
-/
namespace H2V.Lemmas.ConnNoPanicP
open H2V H2V.Model H2V.Model.Conn
open H2V.Lemmas.ConnResetP (Op run)
open H2V.Lemmas.ConnCtlP (GoAwayInv Keep15 Step15 GaLe gaLast view)

variable {A : List (Nat × Nat) → Prop}

/-- the connection-level `FlowControl` of a new connection -/
def flowInit0 : FlowControl :=
  ((FlowControl.new.incWindow Generated.Consts.DEFAULT_INITIAL_WINDOW_SIZE).1.assignCapacity Generated.Consts.DEFAULT_INITIAL_WINDOW_SIZE).1

/-- the literal `Streams` record of `Conn.init` (before `cloneHandle` / `set_target_window_size`) -/
def clientStreams0 (g : Conn.Cfg) : Streams :=
  { counts := { isServer := false, maxSendStreams := g.initMaxSend,
                maxRecvStreams := (match g.mcs with | some m => m | none => USIZE_MAX),
                maxLocalResetStreams := g.resetMax, maxRemoteResetStreams := g.pendAcceptReset,
                dataFrameBudget := Budget.new g.budget },
    actions := {
      recv := { flow := flowInit0, isPushEnabled := (match g.push with | some v => v != 0 | none => true),
                resetDurationZero := g.resetSecs == 0 },
      send := { nextStreamId := some g.firstId,
                prioritize := { flow := flowInit0, maxBufferSize := g.sendbuf } } },
    refs := 1 }

/-- the literal `Streams` record of `Conn.initServer` -/
def serverStreams0 (g : Conn.Cfg) (ecp : Bool) : Streams :=
  { counts := { isServer := true, maxSendStreams := 0,
                maxRecvStreams := (match g.mcs with | some m => m | none => USIZE_MAX),
                maxLocalResetStreams := g.resetMax, maxRemoteResetStreams := g.pendAcceptReset,
                dataFrameBudget := Budget.new g.budget },
    actions := {
      recv := { flow := flowInit0, nextStreamId := some 1, isPushEnabled := true,
                isExtendedConnectProtocolEnabled := ecp, resetDurationZero := g.resetSecs == 0 },
      send := { nextStreamId := some 2,
                prioritize := { flow := flowInit0, maxBufferSize := g.sendbuf } } },
    refs := 1 }

/-- the builder was given a legal `initial_connection_window_size` (the real builder asserts `≤ 2^31-1`) -/
def CwsOK (g : Conn.Cfg) : Prop := ∀ sz, g.cws = some sz → sz ≤ 2147483647

/-- **`Conn.init`**: the SETTINGS frame is buffered, `SendRequest` clones the handle, `set_target_window_size`;
    `apply_local_settings` is not called, so any `A` will do -/
theorem init_hist (g : Conn.Cfg) (hg : CwsOK g) :
    HistW (ConnPA A) (clientStreams0 g) {} (Conn.init g).streams (Conn.init g).codec.w := by
  unfold Conn.init
  dsimp only
  have h1 : HistW (ConnPA A) (clientStreams0 g) {} (clientStreams0 g)
      (({} : Writer).bufferSimple (6 * (Frame.settingsOrder g.settings).length) (Conn.renderSettings false g.settings)) :=
    .w1 (.bufferSimple _ _ _) rfl
  have h2 := h1.trans (.op1 (s' := (clientStreams0 g).cloneHandle) .cloneHandle trivial rfl rfl rfl)
  cases hc : g.cws with
  | none => exact h2
  | some sz => exact h2.trans (.op1 (.setTargetConnectionWindow sz) (hg sz hc) rfl rfl rfl)

/-- **`Conn.initServer`**: the SETTINGS frame is buffered and flushed, `set_target_window_size` -/
theorem initServer_hist (g : Conn.Cfg) (ecp : Bool) (pf : Bytes) (hg : CwsOK g) :
    HistW (ConnPA A) (serverStreams0 g ecp) {} (Conn.initServer g ecp pf).streams (Conn.initServer g ecp pf).codec.w := by
  unfold Conn.initServer
  dsimp only
  generalize hset : (({ g with push := none } : Conn.Cfg).settings ++ if ecp = true then [(8, 1)] else []) = settings
  have h1 : HistW (ConnPA A) (serverStreams0 g ecp) {} (serverStreams0 g ecp)
      (({} : Writer).bufferSimple (6 * (Frame.settingsOrder settings).length) (Conn.renderSettings false settings)) :=
    .w1 (.bufferSimple _ _ _) rfl
  have h2 := h1.trans (.w1 (.flush _ { rd := pf } WAKER_CONN) rfl)
  cases hc : g.cws with
  | none => exact h2
  | some sz => exact h2.trans (.op1 (.setTargetConnectionWindow sz) (hg sz hc) rfl rfl rfl)

/-- the builder was given a legal `max_frame_size` (the real builder asserts `16 384 ≤ max ≤ 2^24-1`) -/
def CfgOK (g : Conn.Cfg) : Prop := ∀ m, g.mfs = some m → m ≤ 16777215

theorem getS5_cfg (g : Conn.Cfg) : ConnCtlP.getS g.settings 5 = g.mfs := Conn.Cfg.settings_mfs g

theorem getS5_cfg_server (g : Conn.Cfg) (ecp : Bool) :
    ConnCtlP.getS ((({ g with push := none } : Conn.Cfg).settings) ++ (if ecp then [(8, 1)] else [])) 5 = g.mfs :=
  (Conn.find_append_ecp _ ecp (by decide)).trans (Conn.Cfg.settings_mfs _)

theorem getS4_cfg (g : Conn.Cfg) : ConnCtlP.getS g.settings 4 = g.iws := Conn.Cfg.settings_iws g

theorem getS4_cfg_server (g : Conn.Cfg) (ecp : Bool) :
    ConnCtlP.getS ((({ g with push := none } : Conn.Cfg).settings) ++ (if ecp then [(8, 1)] else [])) 4 = g.iws :=
  (Conn.find_append_ecp _ ecp (by decide)).trans (Conn.Cfg.settings_iws _)

theorem reader0_ok (g : Conn.Cfg) (hg : CfgOK g) : (Conn.reader0 g).maxFrameLen ≤ 16777215 ∧ (Conn.reader0 g).need = none := by
  unfold Conn.reader0
  dsimp only
  cases hm : g.mfs with
  | none =>
    cases g.mhl <;> exact ⟨(by decide : (16384 : Nat) ≤ 16777215), rfl⟩
  | some m =>
    have := hg m hm
    cases g.mhl <;> exact ⟨this, rfl⟩

theorem inFlight_of_new {c : Conn} {v : List (Nat × Nat)} (hl : c.settings.loc = .waitingAck v) (hv : A v) : InFlight A c := by
  intro v' hv'
  rcases hv' with h | h <;> rw [hl] at h
  · cases h
  · injection h with h; exact h ▸ hv

theorem rdOK_of_new {c : Conn} {g : Conn.Cfg} {v : List (Nat × Nat)} (hg : CfgOK g) (hr : c.codec.r = Conn.reader0 g)
    (hl : c.settings.loc = .waitingAck v) (hv : ConnCtlP.getS v 5 = g.mfs) (hrem : c.settings.remote = none) : RdOK c := by
  obtain ⟨r1, r2⟩ := reader0_ok g hg
  exact ⟨by rw [hr]; exact r1, (by rw [hr, r2]; intro n hn; cases hn),
    fun v' m hv' => inFlight_of_new (A := fun v => ∀ m, ConnCtlP.getS v 5 = some m → m ≤ 16777215) hl
      (fun m hm => hg m (hv ▸ hm)) v' hv' m,
    (by rw [hrem]; intro v hv; cases hv)⟩

theorem init_ok (g : Conn.Cfg) (hg : CfgOK g) : ConnOK (Conn.init g) := by
  obtain ⟨h1, h2, h3, h4⟩ := Conn.init_parts g
  exact ⟨ConnCtlP.goAwayInv_init g, (fun p hp => by rw [h1] at hp; cases hp), rdOK_of_new hg h2 h3 (getS5_cfg g) h4⟩

theorem initServer_ok (g : Conn.Cfg) (ecp : Bool) (pf : Bytes) (hg : CfgOK g) : ConnOK (Conn.initServer g ecp pf) := by
  obtain ⟨h1, h2, h3, h4⟩ := Conn.initServer_parts g ecp pf
  exact ⟨ConnCtlP.goAwayInv_initServer g ecp pf, (fun p hp => by rw [h1] at hp; cases hp),
    rdOK_of_new hg h2 h3 (getS5_cfg_server g ecp) h4⟩

end H2V.Lemmas.ConnNoPanicP
