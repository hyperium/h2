import H2V.Model.ConnDriver
import H2V.Lemmas.ConnBasics
/-
  ConnWakeP (C06 / C07) — basic facts about the store of the connection model
  (`H2V/Model/ConnStore.lean`), the per-stream relation `SStep` and the relation `Step` between two
  `Streams` values that every model function (other than the `poll_*` functions, which register
  wakers) is shown to satisfy in `ConnWakePStep*.lean`.

  `Step cx s s'` says, for EVERY stream entry `k` that exists in `s`:
    * the entry is still there in `s'` (same key, same stream id) or was removed from the slab;
    * `Closed` is absorbing;
    * none of the four waker slots (`send_task`, `open_task`, `recv_task`, `push_task`) was dropped
      silently: a slot is either unchanged, or empty with the old tag recorded in the wake log
      (`wakes`) *during this step*; no slot is ever filled (only the `poll_*` functions do that);
    * `send_capacity_inc` is never cleared, and when it is raised the send/open wakers are woken;
    * when `pending_recv` got a new entry the receive waker was woken;
  and for the connection: the wake log only grows, `conn_error` is never cleared, the connection
  task (`Actions.task`) is unchanged, or taken and woken, (or re-registered as `cx`, the task that
  polls the connection — only `poll_complete` does that).
-/
namespace H2V.Lemmas.ConnWakeP
open H2V H2V.Model H2V.Model.Conn

theorem Store.get?_mem {st : Store} {k : Nat} {a : Stream} (h : st.get? k = some a) : a ∈ st.slab :=
  Conn.Store.get?_mem h

theorem Store.get?_insert (st : Store) (a : Stream) (k : Nat) :
    (st.insert a).1.get? k =
      match st.get? k with
      | some x => some x
      | none => if k = st.nextKey then some { a with key := st.nextKey } else none := by
  rw [Conn.Store.get?_insert]; cases st.get? k <;> rfl

@[simp] theorem Store.set_nextKey (st : Store) (b : Stream) : (st.set b).nextKey = st.nextKey := rfl
@[simp] theorem Store.set_ids (st : Store) (b : Stream) : (st.set b).ids = st.ids := rfl
@[simp] theorem Store.remove_nextKey (st : Store) (k : Nat) : (st.remove k).nextKey = st.nextKey := rfl
@[simp] theorem Store.unlink_nextKey (st : Store) (k : Nat) : (st.unlink k).nextKey = st.nextKey := rfl
@[simp] theorem Store.unlink_slab (st : Store) (k : Nat) : (st.unlink k).slab = st.slab := rfl
@[simp] theorem Store.insert_nextKey (st : Store) (a : Stream) : (st.insert a).1.nextKey = st.nextKey + 1 := rfl

def KeysBounded (st : Store) : Prop := ∀ a ∈ st.slab, a.key < st.nextKey

theorem KeysBounded.get? {st : Store} (h : KeysBounded st) {k : Nat} {a : Stream} (hk : st.get? k = some a) :
    k < st.nextKey := by
  have := h a (Store.get?_mem hk)
  rwa [Store.get?_key hk] at this

theorem KeysBounded.set {st : Store} (h : KeysBounded st) {b : Stream} (hb : b.key < st.nextKey) :
    KeysBounded (st.set b) := by
  intro a ha
  simp only [Store.set, List.mem_map] at ha
  obtain ⟨x, hx, rfl⟩ := ha
  split
  · exact hb
  · exact h x hx

theorem KeysBounded.remove {st : Store} (h : KeysBounded st) (k : Nat) : KeysBounded (st.remove k) := by
  intro a ha
  simp only [Store.remove, List.mem_filter] at ha
  exact h a ha.1

theorem KeysBounded.unlink {st : Store} (h : KeysBounded st) (k : Nat) : KeysBounded (st.unlink k) := h

theorem KeysBounded.insert {st : Store} (h : KeysBounded st) (a : Stream) : KeysBounded (st.insert a).1 := by
  intro x hx
  simp only [Store.insert, List.mem_append, List.mem_singleton] at hx
  rcases hx with hx | rfl
  · exact Nat.lt_succ_of_lt (h x hx)
  · exact Nat.lt_succ_self _

/-- `State` is `Closed(Error(Reset..))` or `Closed(ScheduledLibraryReset)`: the two causes that
    forget a received END_STREAM (`set_reset`, `set_scheduled_reset`) -/
def lostEos (s : State) : Bool :=
  match s.inner with
  | .closed (.error (.reset ..)) | .closed (.scheduledLibraryReset _) => true
  | _ => false

/-- one waker slot across a step that wrote the tags `w` into the wake log: unchanged, or taken
    and woken.  (Never filled: only `poll_*` functions park a waker.) -/
def SlotStep (w : List String) (x y : Option String) : Prop :=
  y = x ∨ (y = none ∧ ∀ t, x = some t → t ∈ w)

theorem SlotStep.refl (w : List String) (x : Option String) : SlotStep w x x := Or.inl rfl

theorem SlotStep.mono {w w' : List String} {x y : Option String} (hw : ∀ t, t ∈ w → t ∈ w')
    (h : SlotStep w x y) : SlotStep w' x y := by
  rcases h with h | ⟨h1, h2⟩
  · exact Or.inl h
  · exact Or.inr ⟨h1, fun t ht => hw t (h2 t ht)⟩

theorem SlotStep.trans {w1 w2 : List String} {x y z : Option String}
    (h1 : SlotStep w1 x y) (h2 : SlotStep w2 y z) : SlotStep (w1 ++ w2) x z := by
  rcases h1 with rfl | ⟨rfl, h1⟩
  · exact h2.mono (fun t ht => List.mem_append_right _ ht)
  · rcases h2 with rfl | ⟨rfl, _⟩
    · exact Or.inr ⟨rfl, fun t ht => List.mem_append_left _ (h1 t ht)⟩
    · exact Or.inr ⟨rfl, fun t ht => List.mem_append_left _ (h1 t ht)⟩

theorem SlotStep.none_of_none {w : List String} {y : Option String} (h : SlotStep w none y) : y = none := by
  rcases h with h | ⟨h, _⟩ <;> exact h

theorem SlotStep.woken_of_none {w : List String} {x : Option String} {t : String}
    (h : SlotStep w x none) (hx : x = some t) : t ∈ w := by
  rcases h with h | ⟨_, h⟩
  · rw [hx] at h; cases h
  · exact h t hx

/-- what a model function may do to one stream entry while it writes the tags `w` to the wake log -/
structure SStep (w : List String) (a b : Stream) : Prop where
  key : b.key = a.key
  id : b.id = a.id
  closed : a.state.isClosed = true → b.state.isClosed = true
  lost : lostEos a.state = true → lostEos b.state = true
  eos : a.state.isRecvEndStream = true → b.state.isRecvEndStream = true ∨ lostEos b.state = true
  sendTask : SlotStep w a.sendTask b.sendTask
  openTask : SlotStep w a.openTask b.openTask
  recvTask : SlotStep w a.recvTask b.recvTask
  pushTask : SlotStep w a.pushTask b.pushTask
  capKeep : a.sendCapacityInc = true → b.sendCapacityInc = true
  capRise : b.sendCapacityInc = a.sendCapacityInc ∨
    (b.sendTask = none ∧ b.openTask = none ∧ ∀ t, (a.sendTask = some t ∨ a.openTask = some t) → t ∈ w)
  recvPush : (∃ n, b.pendingRecv = a.pendingRecv.drop n) ∨ (b.recvTask = none ∧ ∀ t, a.recvTask = some t → t ∈ w)

theorem SStep.refl (w : List String) (a : Stream) : SStep w a a :=
  ⟨rfl, rfl, fun h => h, fun h => h, Or.inl, .refl _ _, .refl _ _, .refl _ _, .refl _ _, fun h => h, Or.inl rfl, Or.inl ⟨0, rfl⟩⟩

theorem SStep.trans {w1 w2 : List String} {a b c : Stream} (h1 : SStep w1 a b) (h2 : SStep w2 b c) :
    SStep (w1 ++ w2) a c where
  key := h2.key.trans h1.key
  id := h2.id.trans h1.id
  closed := fun h => h2.closed (h1.closed h)
  lost := fun h => h2.lost (h1.lost h)
  eos := fun h => by
    rcases h1.eos h with h | h
    · exact h2.eos h
    · exact Or.inr (h2.lost h)
  sendTask := h1.sendTask.trans h2.sendTask
  openTask := h1.openTask.trans h2.openTask
  recvTask := h1.recvTask.trans h2.recvTask
  pushTask := h1.pushTask.trans h2.pushTask
  capKeep := fun h => h2.capKeep (h1.capKeep h)
  capRise := by
    have hl : ∀ t, t ∈ w1 → t ∈ w1 ++ w2 := fun t ht => List.mem_append_left _ ht
    have hr : ∀ t, t ∈ w2 → t ∈ w1 ++ w2 := fun t ht => List.mem_append_right _ ht
    rcases h2.capRise with e2 | ⟨s2, o2, t2⟩
    · rcases h1.capRise with e1 | ⟨s1, o1, t1⟩
      · exact Or.inl (e2.trans e1)
      · refine Or.inr ⟨?_, ?_, fun t ht => hl t (t1 t ht)⟩
        · have := h2.sendTask; rw [s1] at this; exact this.none_of_none
        · have := h2.openTask; rw [o1] at this; exact this.none_of_none
    · refine Or.inr ⟨s2, o2, fun t ht => ?_⟩
      rcases ht with ht | ht
      · rcases h1.sendTask with e | ⟨_, e⟩
        · exact hr t (t2 t (Or.inl (e ▸ ht)))
        · exact hl t (e t ht)
      · rcases h1.openTask with e | ⟨_, e⟩
        · exact hr t (t2 t (Or.inr (e ▸ ht)))
        · exact hl t (e t ht)
  recvPush := by
    have hl : ∀ t, t ∈ w1 → t ∈ w1 ++ w2 := fun t ht => List.mem_append_left _ ht
    have hr : ∀ t, t ∈ w2 → t ∈ w1 ++ w2 := fun t ht => List.mem_append_right _ ht
    rcases h2.recvPush with ⟨n2, e2⟩ | ⟨r2, t2⟩
    · rcases h1.recvPush with ⟨n1, e1⟩ | ⟨r1, t1⟩
      · exact Or.inl ⟨n1 + n2, by rw [e2, e1, List.drop_drop]⟩
      · refine Or.inr ⟨?_, fun t ht => hl t (t1 t ht)⟩
        have := h2.recvTask; rw [r1] at this; exact this.none_of_none
    · refine Or.inr ⟨r2, fun t ht => ?_⟩
      rcases h1.recvTask with e | ⟨_, e⟩
      · exact hr t (t2 t (e ▸ ht))
      · exact hl t (e t ht)

/-- a stream update that touches none of the fields `SStep` talks about -/
structure Inert (a b : Stream) : Prop where
  key : b.key = a.key
  id : b.id = a.id
  state : b.state = a.state
  sendTask : b.sendTask = a.sendTask
  openTask : b.openTask = a.openTask
  recvTask : b.recvTask = a.recvTask
  pushTask : b.pushTask = a.pushTask
  cap : b.sendCapacityInc = a.sendCapacityInc
  recv : b.pendingRecv = a.pendingRecv

theorem Inert.sstep {a b : Stream} (h : Inert a b) (w : List String) : SStep w a b where
  key := h.key
  id := h.id
  closed := by rw [h.state]; exact fun h => h
  lost := by rw [h.state]; exact fun h => h
  eos := by rw [h.state]; exact Or.inl
  sendTask := Or.inl h.sendTask
  openTask := Or.inl h.openTask
  recvTask := Or.inl h.recvTask
  pushTask := Or.inl h.pushTask
  capKeep := by rw [h.cap]; exact fun h => h
  capRise := Or.inl h.cap
  recvPush := Or.inl ⟨0, by rw [h.recv]; rfl⟩

/-- closes `Inert a { a with … }` goals -/
macro "inert" : tactic => `(tactic| exact ⟨rfl, rfl, rfl, rfl, rfl, rfl, rfl, rfl, rfl⟩)

/-- the tags written to the wake log between `s` and `s'` -/
def newWakes (s s' : Streams) : List String := s'.wakes.drop s.wakes.length

/-- the connection task's slot: unchanged; or the old tag was woken (or is the polling task `cx`
    itself) and the slot is empty or holds `cx` -/
def TaskStep (cx : Option String) (w : List String) (x y : Option String) : Prop :=
  y = x ∨ ((y = none ∨ y = cx) ∧ ∀ t, x = some t → t ∈ w ∨ cx = some t)

theorem TaskStep.mono {cx : Option String} {w w' : List String} {x y : Option String}
    (hw : ∀ t, t ∈ w → t ∈ w') (h : TaskStep cx w x y) : TaskStep cx w' x y := by
  rcases h with h | ⟨h1, h2⟩
  · exact Or.inl h
  · exact Or.inr ⟨h1, fun t ht => (h2 t ht).imp (hw t) id⟩

theorem TaskStep.trans {cx : Option String} {w1 w2 : List String} {x y z : Option String}
    (h1 : TaskStep cx w1 x y) (h2 : TaskStep cx w2 y z) : TaskStep cx (w1 ++ w2) x z := by
  rcases h1 with rfl | ⟨hy, h1⟩
  · exact h2.mono (fun t ht => List.mem_append_right _ ht)
  · refine Or.inr ⟨?_, fun t ht => (h1 t ht).imp (fun h => List.mem_append_left _ h) id⟩
    rcases h2 with rfl | ⟨hz, _⟩
    · exact hy
    · exact hz

structure Step (cx : Option String) (s s' : Streams) : Prop where
  wakes : s.wakes <+: s'.wakes
  nextKey : s.store.nextKey ≤ s'.store.nextKey
  bounded : KeysBounded s.store → KeysBounded s'.store
  fresh : ∀ k, k < s.store.nextKey → s.store.get? k = none → s'.store.get? k = none
  keep : ∀ k a, k < s.store.nextKey → s.store.get? k = some a →
    s'.store.get? k = none ∨ ∃ b, s'.store.get? k = some b ∧ SStep (newWakes s s') a b
  task : TaskStep cx (newWakes s s') s.actions.task s'.actions.task
  connError : s.actions.connError.isSome = true → s'.actions.connError.isSome = true
  maxBuf : s'.actions.send.prioritize.maxBufferSize = s.actions.send.prioritize.maxBufferSize

theorem newWakes_self (s : Streams) : newWakes s s = [] := by simp [newWakes]

theorem newWakes_of_eq {s s' : Streams} {w : List String} (h : s'.wakes = s.wakes ++ w) : newWakes s s' = w := by
  simp [newWakes, h]

theorem newWakes_trans {s s' s'' : Streams} (h1 : s.wakes <+: s'.wakes) (h2 : s'.wakes <+: s''.wakes) :
    newWakes s s'' = newWakes s s' ++ newWakes s' s'' := by
  obtain ⟨w1, h1⟩ := h1
  obtain ⟨w2, h2⟩ := h2
  simp [newWakes, ← h2, ← h1]

theorem Step.of_frame {cx : Option String} {s s' : Streams} (h1 : s'.store = s.store) (h2 : s'.wakes = s.wakes)
    (h3 : s'.actions.task = s.actions.task)
    (h4 : s.actions.connError.isSome = true → s'.actions.connError.isSome = true)
    (h5 : s'.actions.send.prioritize.maxBufferSize = s.actions.send.prioritize.maxBufferSize) : Step cx s s' where
  wakes := by rw [h2]; exact List.prefix_refl _
  nextKey := by rw [h1]; exact Nat.le_refl _
  bounded := by rw [h1]; exact id
  fresh := by rw [h1]; exact fun _ _ h => h
  keep := by rw [h1]; exact fun _ a _ h => Or.inr ⟨a, h, SStep.refl _ _⟩
  task := Or.inl h3
  connError := h4
  maxBuf := h5

theorem Step.refl (cx : Option String) (s : Streams) : Step cx s s := .of_frame rfl rfl rfl id rfl

theorem Step.trans {cx : Option String} {s s' s'' : Streams} (h1 : Step cx s s') (h2 : Step cx s' s'') :
    Step cx s s'' where
  wakes := h1.wakes.trans h2.wakes
  nextKey := Nat.le_trans h1.nextKey h2.nextKey
  bounded := fun h => h2.bounded (h1.bounded h)
  fresh := fun k hk h => h2.fresh k (Nat.lt_of_lt_of_le hk h1.nextKey) (h1.fresh k hk h)
  keep := fun k a hk h => by
    rw [newWakes_trans h1.wakes h2.wakes]
    have hk' := Nat.lt_of_lt_of_le hk h1.nextKey
    rcases h1.keep k a hk h with h' | ⟨b, hb, hab⟩
    · exact Or.inl (h2.fresh k hk' h')
    · rcases h2.keep k b hk' hb with h'' | ⟨c, hc, hbc⟩
      · exact Or.inl h''
      · exact Or.inr ⟨c, hc, hab.trans hbc⟩
  task := by
    rw [newWakes_trans h1.wakes h2.wakes]
    exact h1.task.trans h2.task
  connError := fun h => h2.connError (h1.connError h)
  maxBuf := h2.maxBuf.trans h1.maxBuf

theorem Step.sstep {cx : Option String} {s s' : Streams} (h : Step cx s s') (hb : KeysBounded s.store) {k : Nat}
    {a b : Stream} (ha : s.store.get? k = some a) (hb' : s'.store.get? k = some b) : SStep (newWakes s s') a b := by
  rcases h.keep k a (hb.get? ha) ha with h0 | ⟨b0, hb0, hab⟩
  · rw [h0] at hb'; cases hb'
  · rw [hb0] at hb'; cases hb'; exact hab

theorem Step.weaken {s s' : Streams} (h : Step none s s') (cx : Option String) : Step cx s s' where
  wakes := h.wakes
  nextKey := h.nextKey
  bounded := h.bounded
  fresh := h.fresh
  keep := h.keep
  task := by
    rcases h.task with e | ⟨e1, e2⟩
    · exact Or.inl e
    · refine Or.inr ⟨Or.inl (by simpa using e1), fun t ht => Or.inl ?_⟩
      simpa using e2 t ht
  connError := h.connError
  maxBuf := h.maxBuf

theorem Step.of_eq {cx : Option String} {s s' t : Streams} (h : Step cx s s') (e : s' = t) : Step cx s t := e ▸ h

theorem Step.of_fst {cx : Option String} {α : Type} {s s' : Streams} {p : Streams × α} {r : α}
    (e : p = (s', r)) (h : Step cx s p.1) : Step cx s s' := by
  rw [e] at h; exact h

theorem setStream_wake_step (cx : Option String) (s : Streams) {a b : Stream} {w : List String}
    (ha : s.store.get? b.key = some a) (hab : SStep w a b) : Step cx s ((s.setStream b).wake w) where
  wakes := ⟨w, rfl⟩
  nextKey := Nat.le_refl _
  bounded := fun h => h.set (by
    have := h.get? ha
    exact this)
  fresh := fun k _ h => by
    show (s.store.set b).get? k = none
    rw [Store.get?_set]; split <;> simp [h]
  keep := fun k x _ h => by
    refine Or.inr ?_
    have hw : newWakes s ((s.setStream b).wake w) = w := newWakes_of_eq rfl
    show ∃ y, (s.store.set b).get? k = some y ∧ _
    rw [Store.get?_set, hw]
    by_cases hk : k = b.key
    · subst hk
      rw [ha] at h; cases h
      exact ⟨b, by simp [ha], hab⟩
    · exact ⟨x, by simp [hk, h], SStep.refl _ _⟩
  task := Or.inl rfl
  connError := id
  maxBuf := rfl

theorem stream_eq_of_get? {s : Streams} {k : Nat} {a : Stream} (h : s.store.get? k = some a) : s.stream k = a :=
  Streams.stream_of_get? h

export H2V.Model.Conn.Streams (stream_key)
attribute [grind =] Streams.stream_key

theorem KeysBounded.fresh {st : Store} (h : KeysBounded st) : st.get? st.nextKey = none := by
  cases hg : st.get? st.nextKey with
  | none => rfl
  | some a => exact absurd (h.get? hg) (Nat.lt_irrefl _)

end H2V.Lemmas.ConnWakeP
