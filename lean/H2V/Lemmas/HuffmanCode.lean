import H2V.Spec.Huffman
import H2V.Props.C11Tables
/-
  Finite facts about the RFC 7541 Huffman code (`Spec.Rfc7541.huffmanCode`), each established by a
  structurally recursive Boolean checker evaluated in the kernel (`decide +kernel`) and then lifted
  to a semantic statement by a general lemma about the checker.
-/
namespace H2V.Lemmas.Huffman
open H2V H2V.Spec.Rfc7541

/-- The code table h2 encodes with is the RFC table. -/
theorem encL_eq : Generated.Huffman.encL = huffmanCode := Props.C11.huffman_tables_are_rfc

def Code (s n c : Nat) : Prop := huffmanCode[s]? = some (n, c)

def rangeCheck : List (Nat × Nat) → Bool
  | [] => true
  | (n, c) :: rest => decide (5 ≤ n) && decide (n ≤ 30) && decide (c < 2 ^ n) && rangeCheck rest

theorem rangeCheck_huffmanCode : rangeCheck huffmanCode = true := by decide +kernel

theorem rangeCheck_spec : ∀ {L : List (Nat × Nat)}, rangeCheck L = true →
    ∀ {j n c : Nat}, L[j]? = some (n, c) → 5 ≤ n ∧ n ≤ 30 ∧ c < 2 ^ n
  | [], _, j, n, c, h => by simp at h
  | (n1, c1) :: rest, hc, j, n, c, h => by
    simp only [rangeCheck, Bool.and_eq_true, decide_eq_true_eq] at hc
    cases j with
    | zero =>
      simp only [List.getElem?_cons_zero, Option.some.injEq, Prod.mk.injEq] at h
      obtain ⟨rfl, rfl⟩ := h
      exact ⟨hc.1.1.1, hc.1.1.2, hc.1.2⟩
    | succ j =>
      simp only [List.getElem?_cons_succ] at h
      exact rangeCheck_spec hc.2 h

theorem code_range {s n c : Nat} (h : Code s n c) : 5 ≤ n ∧ n ≤ 30 ∧ c < 2 ^ n :=
  rangeCheck_spec rangeCheck_huffmanCode h

theorem huffmanCode_length : huffmanCode.length = 257 := by decide +kernel

theorem code_lt {s n c : Nat} (h : Code s n c) : s < 257 := by
  unfold Code at h
  have := (List.getElem?_eq_some_iff.mp h).1
  rwa [huffmanCode_length] at this

theorem code_exists {s : Nat} (h : s < 257) : ∃ n c, Code s n c := by
  unfold Code
  have : s < huffmanCode.length := by rw [huffmanCode_length]; exact h
  exact ⟨huffmanCode[s].1, huffmanCode[s].2, by simp [List.getElem?_eq_getElem this]⟩

/-!
  A code word `(n, c)` stands for the interval `lo .. hi` of the 30-bit strings that begin with
  it; one word is a prefix of another iff the intervals are nested.  The RFC code is canonical:
  listed by length, and by symbol within a length, the intervals follow one another. -/

def lo (x : Nat × Nat) : Nat := x.2 * 2 ^ (30 - x.1)

def hi (x : Nat × Nat) : Nat := (x.2 + 1) * 2 ^ (30 - x.1)

theorem lo_lt_hi (x : Nat × Nat) : lo x < hi x :=
  Nat.mul_lt_mul_of_lt_of_le (Nat.lt_succ_self _) (Nat.le_refl _) (Nat.two_pow_pos _)

theorem nested {n c n' c' : Nat} (hle : n ≤ n') (h30 : n' ≤ 30) (h : c' / 2 ^ (n' - n) = c) :
    lo (n, c) ≤ lo (n', c') ∧ hi (n', c') ≤ hi (n, c) := by
  subst h
  simp only [lo, hi]
  rw [show 30 - n = n' - n + (30 - n') by omega, Nat.pow_add, ← Nat.mul_assoc, ← Nat.mul_assoc]
  exact ⟨Nat.mul_le_mul_right _ (Nat.div_mul_le_self _ _), Nat.mul_le_mul_right _
    (by rw [Nat.mul_comm]; exact Nat.lt_mul_div_succ _ (Nat.two_pow_pos _))⟩

def chain : Nat → List ((Nat × Nat) × Nat) → Bool
  | _, [] => true
  | b, x :: r => decide (b ≤ lo x.1) && chain (hi x.1) r

theorem chain_spec : ∀ {L : List ((Nat × Nat) × Nat)} {b : Nat}, chain b L = true →
    (∀ x ∈ L, b ≤ lo x.1) ∧ L.Pairwise (fun x y => hi x.1 ≤ lo y.1)
  | [], _, _ => by simp
  | x :: r, b, h => by
    simp only [chain, Bool.and_eq_true, decide_eq_true_eq] at h
    obtain ⟨hr, hP⟩ := chain_spec h.2
    have := lo_lt_hi x.1
    refine ⟨fun y hy => ?_, List.pairwise_cons.2 ⟨hr, hP⟩⟩
    rcases List.mem_cons.1 hy with rfl | hy
    · exact h.1
    · have := hr y hy
      omega

def byLength (L : List (Nat × Nat)) : List ((Nat × Nat) × Nat) :=
  (List.range 31).flatMap fun n => L.zipIdx.filter (·.1.1 == n)

theorem chain_huffmanCode : chain 0 (byLength huffmanCode) = true := by decide +kernel

/-- **The RFC 7541 Huffman code is prefix-free**: no code word is a prefix of (or equal to) the
    code word of a different symbol. -/
theorem prefix_free {s s' n c n' c' : Nat} (h : Code s n c) (h' : Code s' n' c')
    (hne : s ≠ s') (hle : n ≤ n') : c' / 2 ^ (n' - n) ≠ c := by
  intro he
  have hm : ∀ {s n c}, Code s n c → ((n, c), s) ∈ byLength huffmanCode := fun h => by
    simp only [byLength, List.mem_flatMap, List.mem_range, List.mem_filter,
      List.mk_mem_zipIdx_iff_getElem?, beq_iff_eq]
    exact ⟨_, by have := (code_range h).2.1; omega, h, rfl⟩
  have hP := (chain_spec chain_huffmanCode).2
  -- two members of the chain are the same entry or lie apart, one way or the other
  have := List.Pairwise.forall_of_forall_of_flip
    (R := fun x y => x = y ∨ hi x.1 ≤ lo y.1 ∨ hi y.1 ≤ lo x.1) (fun _ _ => Or.inl rfl)
    (hP.imp fun h => Or.inr (Or.inl h)) (hP.imp fun h => Or.inr (Or.inr h)) (hm h) (hm h')
  have := nested hle (code_range h').2.1 he
  have := lo_lt_hi (n', c')
  simp only [Prod.mk.injEq, hne, and_false, false_or] at *
  omega

theorem code_inj {s s' n c : Nat} (h : Code s n c) (h' : Code s' n c) : s = s' := by
  apply Classical.byContradiction
  intro hne
  have := prefix_free h h' hne (Nat.le_refl _)
  simp at this

end H2V.Lemmas.Huffman
