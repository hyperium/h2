import H2V.Lemmas.ConnNoPanicPDsStep
/-
  C08 (no panic) — `DSum` / `Coupled` as invariants: `KM` (the marker names the stream of the DATA frame the
  codec holds) through the write path: `Streams::poll_complete`, `Streams::send_pending_refusal`.  No hypothesis:
  `dst.buffer(frame)` sets marker and frame together while the codec holds nothing else, `reclaim_frame` clears the marker,
  everything else only drops the marker (`clear_queue`) or lets the codec hold less (`flush`).
-/
namespace H2V.Lemmas.ConnNoPanicP
open H2V H2V.Model H2V.Model.Conn H2V.Lemmas.ConnCountsP
attribute [local irreducible] wrapSubU32 wrapSubUsize

theorem reclaimFrameInner_marker (s : Streams) (fr : DataFrame) :
    (s.reclaimFrameInner fr).1.prio.inFlightDataFrame = .nothing := by
  unfold Streams.reclaimFrameInner
  dsimp only
  split
  · rw [Streams.panic_prio]; rfl
  · rfl
  · split
    · split
      · rw [(qPush_uk _ _ _ (by decide)).nf, modStream_prio]; rfl
      · rw [modStream_prio]; rfl
    · rfl

theorem reclaimFrame_km {s : Streams} {w : Writer} (h : KM s w) :
    KM (s.reclaimFrame w).1 (s.reclaimFrame w).2.1 ∧ (s.reclaimFrame w).2.1 = { w with lastDataFrame := none } := by
  unfold Streams.reclaimFrame Writer.takeLastDataFrame
  cases hld : w.lastDataFrame with
  | none =>
    refine ⟨?_, rfl⟩
    dsimp only
    exact h.wle ⟨fun _ => .inl rfl, fun fr hf => by
      rcases hf with e | ⟨nd, e, e2⟩
      · cases e
      · exact .inr ⟨nd, e, e2⟩⟩
  | some fr =>
    dsimp only
    exact ⟨.of_nothing (reclaimFrameInner_marker s fr), rfl⟩

theorem bufferData_cases {w w' : Writer} {len : Nat} {e : Bool} {fr : DataFrame} (h : w.bufferData len e fr = some w') :
    (w'.lastDataFrame = some fr ∧ w'.next = w.next) ∨
    (w'.lastDataFrame = w.lastDataFrame ∧ ∃ nd, w'.next = some nd ∧ nd.frame = fr) := by
  unfold Writer.bufferData at h
  split at h
  · cases h
  · dsimp only at h
    split at h
    · split at h
      · cases h; exact .inr ⟨rfl, _, rfl, rfl⟩
      · cases h; exact .inr ⟨rfl, _, rfl, rfl⟩
    · cases h; exact .inl ⟨rfl, rfl⟩

theorem bufferOut_km (s : Streams) {w : Writer} (f : Streams.OutFrame) (hw1 : w.lastDataFrame = none) (hw2 : w.next = none) :
    KM (s.bufferOut w f).1 (s.bufferOut w f).2 := by
  unfold Streams.bufferOut
  cases f with
  | data len e fr =>
    dsimp only
    cases hb : w.bufferData len e fr with
    | none => dsimp only; exact .of_none hw1 hw2
    | some w' =>
      dsimp only
      intro fr' hf k hk
      have hk' : k = fr.key := by
        have : InFlightData.dataFrame fr.key = InFlightData.dataFrame k := hk
        cases this; rfl
      rw [hk']
      rcases bufferData_cases hb with ⟨h1, h2⟩ | ⟨h1, nd, h2, h3⟩
      · rcases hf with e1 | ⟨nd', e1, _⟩
        · rw [h1] at e1; cases e1; rfl
        · rw [h2, hw2] at e1; cases e1
      · rcases hf with e1 | ⟨nd', e1, e2⟩
        · rw [h1, hw1] at e1; cases e1
        · rw [h2] at e1; cases e1; rw [← e2, h3]
  | headers sid eos fields =>
    exact .of_none ((bufferHeaders_keeps _ _ _ _).1.trans hw1) ((bufferHeaders_keeps _ _ _ _).2.trans hw2)
  | reset sid reason => exact .of_none hw1 hw2
  | pushPromise sid p fields =>
    exact .of_none ((bufferPushPromise_keeps _ _ _ _).1.trans hw1) ((bufferPushPromise_keeps _ _ _ _).2.trans hw2)

theorem pollSendPendingRefusal_km (fuel : Nat) : ∀ {s : Streams} {w : Writer}, KM s w → ∀ (io : Tio) (tag : String),
    KM (Streams.pollSendPendingRefusal fuel s w io tag).1 (Streams.pollSendPendingRefusal fuel s w io tag).2.1 := by
  induction fuel with
  | zero => intro s w h io tag; unfold Streams.pollSendPendingRefusal; exact h
  | succ n ih =>
    intro s w h io tag
    unfold Streams.pollSendPendingRefusal
    have hpr : (s.sendPendingRefusal w).1.prio = s.prio := by
      unfold Streams.sendPendingRefusal; split
      · split <;> rfl
      · rfl
    have hw : WLE w (s.sendPendingRefusal w).2.1 := by
      unfold Streams.sendPendingRefusal; split
      · split
        · exact .refl _
        · exact .of_eq rfl rfl
      · exact .refl _
    have h1 : KM (s.sendPendingRefusal w).1 (s.sendPendingRefusal w).2.1 := (h.nf (.inl (by rw [hpr]))).wle hw
    split
    · next s1 w1 heq => rw [heq] at h1; exact h1
    · next s1 w1 heq =>
      rw [heq] at h1
      have hw' := pollReadyW_wle w1 io tag
      split
      · next w2 io2 heq2 => rw [heq2] at hw'; exact ih (h1.wle hw') io2 tag
      · next w2 io2 r2 hne heq2 => rw [heq2] at hw'; exact h1.wle hw'

/-- the loop of `Prioritize::buffer_pending`: `dst.buffer(frame)` sets marker and frame together (`bufferOut_km`),
    `reclaim_frame` clears the marker -/
theorem prioBufferPendingLoop_wk {E : Nat → Prop} {g : ConnRecvP.Ghost} (fuel : Nat) {s : Streams} {w : Writer} (h : WI E g s w)
    (hk : KM s w) (hw : w.lastDataFrame = none) :
    OutOfFuel (Streams.prioBufferPendingLoop fuel s w).1 ∨
    (WI E g (Streams.prioBufferPendingLoop fuel s w).1 (Streams.prioBufferPendingLoop fuel s w).2.1 ∧
     KM (Streams.prioBufferPendingLoop fuel s w).1 (Streams.prioBufferPendingLoop fuel s w).2.1) := by
  refine prioBufferPendingLoop_inv (I := fun s w => WI E g s w ∧ KM s w)
    (J := fun s => PI E s ∧ ConnFlowP.SafeInv s ∧ ConnRecvP.Inv true g s ∧ DSum s)
    (fun _ _ h => h.1.pi.npi.np) (fun s _ h => loopOpen_w h.1.pi h.1.safe h.1.recv h.1.ds)
    ?_ ?_ fuel s w ⟨h, hk⟩ hw
  · intro s w s' f ho hw1 hw2 heq
    have hp := popFrame_wi ho.1 ho.2.1 ho.2.2.1 ho.2.2.2 _ _ heq
    exact ⟨(bufferReclaim_w (f := f) hp.1 hp.2.1 hp.2.2.1 hp.2.2.2.1 hw1 hw2
        (fun len e fr hf => by subst hf; exact popFrame_len_le ho.2.1 heq)
        (fun len e fr hf => hp.2.2.2.2 len e fr (by rw [hf]))).1,
      (reclaimFrame_km (bufferOut_km s' f hw1 hw2)).1⟩
  · intro s w s' ho hw1 hw2 heq
    have hp := popFrame_wi ho.1 ho.2.1 ho.2.2.1 ho.2.2.2 _ _ heq
    exact ⟨⟨hp.1, hp.2.1, hp.2.2.1, hp.2.2.2.1, .of_none hw1 hw2⟩, .of_none hw1 hw2⟩

/-- **the write path**: from `WI` and `KM`: out of (model) fuel, or `WI` and `KM` again -/
theorem pollComplete_wk {E : Nat → Prop} {g : ConnRecvP.Ghost} (fuel : Nat) {s : Streams} {w : Writer} (h : WI E g s w)
    (hk : KM s w) (io : Tio) (tag : String) :
    OutOfFuel (Streams.pollComplete fuel s w io tag).1 ∨
    (WI E g (Streams.pollComplete fuel s w io tag).1 (Streams.pollComplete fuel s w io tag).2.1 ∧
     KM (Streams.pollComplete fuel s w io tag).1 (Streams.pollComplete fuel s w io tag).2.1) :=
  pollComplete_inv (I := fun s w => WI E g s w ∧ KM s w) (fun _ _ h => h.1.pi.npi.np) (fun _ _ _ h hw => ⟨h.1.wle hw, h.2.wle hw⟩)
    (fun s w h => ⟨recvBufferPending_w h.1, (h.2.nf (recvBufferPending_fk s w).nf).wle (recvBufferPending_wle s w)⟩)
    (fun _ _ h => ⟨(reclaimFrame_w h.1).1, (reclaimFrame_km h.2).1⟩)
    (fun n _ _ h hw => prioBufferPendingLoop_wk n h.1 h.2 hw)
    (fun _ _ _ h => ⟨setTask_w h.1 _, h.2.nf (.inl rfl)⟩) fuel s w io tag ⟨h, hk⟩

theorem pollSendPendingRefusal_wk {E : Nat → Prop} {g : ConnRecvP.Ghost} (fuel : Nat) {s : Streams} {w : Writer}
    (h : WI E g s w) (hk : KM s w) (io : Tio) (tag : String) :
    WI E g (Streams.pollSendPendingRefusal fuel s w io tag).1 (Streams.pollSendPendingRefusal fuel s w io tag).2.1 ∧
    KM (Streams.pollSendPendingRefusal fuel s w io tag).1 (Streams.pollSendPendingRefusal fuel s w io tag).2.1 :=
  ⟨pollSendPendingRefusal_w fuel h io tag, pollSendPendingRefusal_km fuel hk io tag⟩

end H2V.Lemmas.ConnNoPanicP
