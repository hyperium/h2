import H2V.Lemmas.ConnLoops
import H2V.Lemmas.CompFlow
/-
  ConnFlowP — the *send-flow frame* relation `Fr`.

  `Fr s s'` says that going from `s` to `s'` did not touch anything the send-side flow-control
  ledger looks at: the connection `FlowControl` (`prio.flow`), `max_send_buffer_size`, and, for
  every slab entry that survives, its `key` and `send_flow`.  Slab entries may disappear
  (`Ptr::remove`) and fresh ones (key ≥ the old `nextKey`, nothing assigned) may appear.
  The relation is conditional on the slab keys being pairwise distinct (`KeysOk`, itself preserved),
  because `Store.set` replaces *every* entry that carries the key.

  Together with "requests stay `u32`" and "nobody is pushed onto `pending_capacity`" it is the strong frame `SFr`,
  which every step of the stream layer that writes no send flow is (`SFr.of_step`, ConnFlowPSFr).
-/
namespace H2V.Lemmas.ConnFlowP
open H2V H2V.Model H2V.Model.Conn

theorem key_inj {l : List Stream} (hn : (l.map (·.key)).Nodup) {x y : Stream}
    (hx : x ∈ l) (hy : y ∈ l) (h : x.key = y.key) : x = y :=
  Store.KeysNodup.eq_of_key_eq (st := { slab := l, ids := [], nextKey := 0 }) hn hx hy h

def KeysOk (st : Store) : Prop :=
  (st.slab.map (·.key)).Nodup ∧ ∀ x ∈ st.slab, x.key < st.nextKey

def Fresh (x : Stream) : Prop :=
  x.sendFlow.available.val = 0 ∧ I32_MIN ≤ x.sendFlow.windowSize.val ∧ x.sendFlow.windowSize.val ≤ I32_MAX

def StoreFr (a b : Store) : Prop :=
  KeysOk a → KeysOk b ∧ a.nextKey ≤ b.nextKey ∧
    ∀ y ∈ b.slab, (∃ x ∈ a.slab, x.key = y.key ∧ x.sendFlow = y.sendFlow) ∨ (a.nextKey ≤ y.key ∧ Fresh y)

def Fr (s s' : Streams) : Prop :=
  s'.prio.flow = s.prio.flow ∧ s'.prio.maxBufferSize = s.prio.maxBufferSize ∧ StoreFr s.store s'.store

@[reducible] def NoFlow (f : Stream → Stream) : Prop := ∀ x, (f x).key = x.key ∧ (f x).sendFlow = x.sendFlow

@[reducible] def NoFlowW (f : Stream → Stream × List String) : Prop := ∀ x, (f x).1.key = x.key ∧ (f x).1.sendFlow = x.sendFlow

theorem StoreFr.refl (a : Store) : StoreFr a a := fun h =>
  ⟨h, Nat.le_refl _, fun y hy => Or.inl ⟨y, hy, rfl, rfl⟩⟩

theorem StoreFr.trans {a b c : Store} (h1 : StoreFr a b) (h2 : StoreFr b c) : StoreFr a c := by
  intro ha
  obtain ⟨hb, hn1, hs1⟩ := h1 ha
  obtain ⟨hc, hn2, hs2⟩ := h2 hb
  refine ⟨hc, Nat.le_trans hn1 hn2, fun y hy => ?_⟩
  rcases hs2 y hy with ⟨x, hx, hk, hf⟩ | ⟨hk, hf⟩
  · rcases hs1 x hx with ⟨w, hw, hk', hf'⟩ | ⟨hk', hf'⟩
    · exact Or.inl ⟨w, hw, hk'.trans hk, hf'.trans hf⟩
    · refine Or.inr ⟨hk ▸ hk', ?_⟩
      unfold Fresh at *; rw [← hf]; exact hf'
  · exact Or.inr ⟨Nat.le_trans hn1 hk, hf⟩

theorem StoreFr.set (a : Store) (st' : Stream)
    (h : ∀ x ∈ a.slab, x.key = st'.key → x.sendFlow = st'.sendFlow) : StoreFr a (a.set st') := by
  intro ha
  have hkeys : (a.set st').slab.map (·.key) = a.slab.map (·.key) := by
    simp only [Store.set, List.map_map]
    apply List.map_congr_left
    intro x _
    simp only [Function.comp]
    split
    · rename_i hk; exact (beq_iff_eq.1 hk).symm
    · rfl
  refine ⟨⟨by rw [hkeys]; exact ha.1, ?_⟩, Nat.le_refl _, ?_⟩
  · intro y hy
    simp only [Store.set, List.mem_map] at hy
    obtain ⟨x, hx, rfl⟩ := hy
    split
    · rename_i hk; rw [← beq_iff_eq.1 hk]; exact ha.2 x hx
    · exact ha.2 x hx
  · intro y hy
    simp only [Store.set, List.mem_map] at hy
    obtain ⟨x, hx, rfl⟩ := hy
    split
    · rename_i hk
      exact Or.inl ⟨x, hx, beq_iff_eq.1 hk, h x hx (beq_iff_eq.1 hk)⟩
    · exact Or.inl ⟨x, hx, rfl, rfl⟩

theorem get?_mem {a : Store} {k : Nat} {st : Stream} (h : a.get? k = some st) : st ∈ a.slab ∧ st.key = k := by
  unfold Store.get? at h
  have h2 := List.find?_some h
  exact ⟨List.mem_of_find?_eq_some h, beq_iff_eq.1 h2⟩

theorem StoreFr.remove (a : Store) (k : Nat) : StoreFr a (a.remove k) := by
  intro ha
  refine ⟨⟨?_, ?_⟩, Nat.le_refl _, ?_⟩
  · simp only [Store.remove]
    exact (List.filter_sublist.map _).nodup ha.1
  · intro y hy
    simp only [Store.remove, List.mem_filter] at hy
    exact ha.2 y hy.1
  · intro y hy
    simp only [Store.remove, List.mem_filter] at hy
    exact Or.inl ⟨y, hy.1, rfl, rfl⟩

theorem StoreFr.unlink (a : Store) (id : Nat) : StoreFr a (a.unlink id) := by
  intro ha
  exact ⟨ha, Nat.le_refl _, fun y hy => Or.inl ⟨y, hy, rfl, rfl⟩⟩

theorem StoreFr.insert (a : Store) (st : Stream) (hf : Fresh st) : StoreFr a (a.insert st).1 := by
  intro ha
  simp only [Store.insert]
  refine ⟨⟨?_, ?_⟩, Nat.le_succ _, ?_⟩
  · simp only [List.map_append, List.map_cons, List.map_nil]
    refine List.nodup_append.2 ⟨ha.1, by simp, ?_⟩
    intro k hk k' hk'
    simp only [List.mem_singleton] at hk'
    simp only [List.mem_map] at hk
    obtain ⟨x, hx, rfl⟩ := hk
    have := ha.2 x hx
    omega
  · intro y hy
    rcases List.mem_append.1 hy with h | h
    · have := ha.2 y h; show y.key < a.nextKey + 1; omega
    · simp only [List.mem_singleton] at h; subst h; show a.nextKey < a.nextKey + 1; omega
  · intro y hy
    rcases List.mem_append.1 hy with h | h
    · exact Or.inl ⟨y, h, rfl, rfl⟩
    · simp only [List.mem_singleton] at h; subst h
      exact Or.inr ⟨Nat.le_refl _, hf⟩

theorem Fr.refl (s : Streams) : Fr s s := ⟨rfl, rfl, StoreFr.refl _⟩

theorem Fr.trans {a b c : Streams} (h1 : Fr a b) (h2 : Fr b c) : Fr a c :=
  ⟨h2.1.trans h1.1, h2.2.1.trans h1.2.1, h1.2.2.trans h2.2.2⟩

theorem Fr.of_same {s t t' : Streams} (h : Fr s t) (hs : t'.store = t.store)
    (hf : t'.prio.flow = t.prio.flow) (hm : t'.prio.maxBufferSize = t.prio.maxBufferSize) : Fr s t' :=
  h.trans ⟨hf, hm, hs ▸ StoreFr.refl _⟩

theorem Fr.of_store {s t t' : Streams} (h : Fr s t) (hs : StoreFr t.store t'.store)
    (hf : t'.prio.flow = t.prio.flow) (hm : t'.prio.maxBufferSize = t.prio.maxBufferSize) : Fr s t' :=
  h.trans ⟨hf, hm, hs⟩

export H2V.Model.Conn.Streams (panic_store)
export H2V.Lemmas.Comp (wrapSubU32_of_le wrapAddU32_of_lt)
export H2V.Model.Conn.Streams (panic_prio modStream_prio modStreamW_prio modStream_nextKey qPush_nextKey transitionAfter_prio)
export H2V.Model.Conn.Store (remove_slab set_keys)

/-- `requested_send_capacity` is a `u32` (every assignment to it in the model is a `u32` operation:
    `usizeAsU32`, `min _ U32_MAX`, `wrapSubU32`, `0`) -/
def ReqOk (s : Streams) : Prop := ∀ x ∈ s.store.slab, x.requestedSendCapacity < 4294967296

theorem ReqOk.same {s t : Streams} (h : ReqOk s) (hs : t.store.slab = s.store.slab) : ReqOk t := by
  intro y hy; rw [hs] at hy; exact h y hy

/-- What all of `recv.rs` and most of `prioritize.rs` / `send.rs` do to the send side: a frame step
    that keeps requests `u32` and queues nobody in `pending_capacity`.  The send-flow invariants
    (`SafeInvG`, the connection window, `ReqOk`, ConnDrainP's `KInv`) all pass along such a step. -/
structure SFr (s t : Streams) : Prop where
  fr : Fr s t
  req : ReqOk s → ReqOk t
  pc : t.prio.pendingCapacity <:+ s.prio.pendingCapacity

theorem SFr.refl (s : Streams) : SFr s s := ⟨Fr.refl s, id, List.suffix_refl _⟩

theorem SFr.trans {a b c : Streams} (h1 : SFr a b) (h2 : SFr b c) : SFr a c :=
  ⟨h1.fr.trans h2.fr, h2.req ∘ h1.req, h2.pc.trans h1.pc⟩

theorem SFr.step {s t t' : Streams} (h : SFr s t) (hf : Fr t t') (hr : ReqOk t → ReqOk t')
    (hp : t'.prio.pendingCapacity = t.prio.pendingCapacity) : SFr s t' :=
  h.trans ⟨hf, hr, hp ▸ List.suffix_refl _⟩

theorem SFr.same {s t t' : Streams} (h : SFr s t) (hs : t'.store = t.store) (hp : t'.prio = t.prio) : SFr s t' :=
  h.step ((Fr.refl t).of_same hs (by rw [hp]) (by rw [hp])) (·.same (by rw [hs])) (by rw [hp])

theorem Fr.of_sfr {s t t' : Streams} (hf : SFr t t') (h : Fr s t) : Fr s t' := h.trans hf.fr

end H2V.Lemmas.ConnFlowP
