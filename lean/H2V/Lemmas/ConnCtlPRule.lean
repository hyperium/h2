import H2V.Lemmas.ConnCtlPErrKind
/-
  ConnCtlP — `Connection::poll` walked once.

  Every property of a whole `poll` proved in this development has the same shape: an invariant of
  the connection (`J` inside `poll2`, `I` between the turns of the state loop), a relation `R c evs c'`
  between the state before, the ghost events and the state after that composes along the run, and
  possibly one exceptional way out: a call answers a connection error (`Error::GoAway`), after which
  only a weaker relation `F` holds, `handle_poll2_result` turns the error into a dying connection
  (`D`), and what the dying connection still does is the caller's business (`dead`).
  `Poll2Rule` / `PollRule` list what has to be shown of the calls `poll` makes (one field per
  call); `poll2LoopT_rule`, `protoPollT_rule`, `clientPollT_rule` do the walk.  The gates `G1`
  (after `send_pending_go_away` let the loop go on), `G2` (after `poll_ready` answered `Ready`) and
  `G3` (the state and the frame `poll_next` hands to `recv_frame`) carry what the next call may assume.
  `ReadyRule` / `pollReadyT_rule` do the same for `poll_ready` (pong, ping, SETTINGS, refusals), whose
  conclusion is the field `ready` of `Poll2Rule`.
-/
set_option autoImplicit false
namespace H2V.Lemmas.ConnCtlP
open H2V H2V.Model H2V.Model.Conn

/-- what `FramedRead::poll_next` hands to `recv_frame`: a frame, or the end of input -/
def polledFrame : Polled → Option Frame.Frame
  | .frame f => some f
  | _ => none

/-- `recv_frame` followed, for a SETTINGS frame, by `recv_settings`: what `poll2` does with one
    frame; `true` = the loop goes on -/
def recvStep (c : Conn) (frame : Option Frame.Frame) : Conn × Except PErr Bool :=
  match c.recvFrame frame with
  | (c, .error e) => (c, .error e)
  | (c, .ok .continue) => (c, .ok true)
  | (c, .ok .done) => (c, .ok false)
  | (c, .ok (.settings ack vals)) =>
    match c.recvSettings ack vals with
    | (c, .error e) => (c, .error e)
    | (c, .ok _) => (c, .ok true)

theorem poll2DispatchT_eq (k : Conn → (Conn × PollRes) × List Ev) (c : Conn) (frame : Option Frame.Frame) :
    poll2DispatchT k c frame =
      match recvStep c frame with
      | (c, .error e) => ((c, .ready (.error e)), frameEv frame)
      | (c, .ok true) => ((k c).1, frameEv frame ++ (k c).2)
      | (c, .ok false) => ((c, .ready (.ok ())), frameEv frame) := by
  unfold poll2DispatchT recvStep
  rcases c.recvFrame frame with ⟨c1, e | rf⟩
  · rfl
  · cases rf with
    | «continue» => rfl
    | done => rfl
    | settings ack vals => dsimp only; rcases c1.recvSettings ack vals with ⟨c2, e | u⟩ <;> rfl

/-- the poll ended with a connection error (`Error::GoAway`) -/
def resGoAwayErr (r : PollRes) : Prop := ∃ e, r = .ready (.error e) ∧ IsGoAwayErr e

/-- `send_pending_go_away` lets the loop of `poll2` go on -/
def GoesOn (p : Conn × Conn.GoAwayPoll) : Prop :=
  p.2 = .none ∨ ∃ r, p.2 = .reason r ∧ p.1.goAway.shouldCloseNow = false

/-- how a run from `c` ends: invariant and relation, or the exceptional way out -/
def Ends (I : Conn → Prop) (R F : Conn → List Ev → Conn → Prop) (D : Conn × PollRes → Prop)
    (c : Conn) (x : (Conn × PollRes) × List Ev) : Prop :=
  (I x.1.1 ∧ R c x.2 x.1.1) ∨ (D x.1 ∧ F c x.2 x.1.1)

section
variable {I J : Conn → Prop} {R F : Conn → List Ev → Conn → Prop} {G1 G2 D : Conn → Prop}
  {G3 : Conn → Option Frame.Frame → Prop}

theorem Ends.ok {I : Conn → Prop} {R F : Conn → List Ev → Conn → Prop} {D : Conn × PollRes → Prop} {c : Conn}
    {x : (Conn × PollRes) × List Ev} (h : Ends I R F D c x) (hF : ∀ a e b, ¬ F a e b) : I x.1.1 ∧ R c x.2 x.1.1 :=
  h.resolve_right fun h => hF _ _ _ h.2

/-- what the calls of `Connection::poll_ready` have to satisfy; the gate `A` is what `send_pending_pong`
    establishes and `send_pending_ping` keeps -/
structure ReadyRule (J : Conn → Prop) (R F : Conn → List Ev → Conn → Prop) (G1 A G2 : Conn → Prop) : Prop where
  trans : ∀ {a b c : Conn} {e1 e2 : List Ev}, R a e1 b → R b e2 c → R a (e1 ++ e2) c
  transF : ∀ {a b c : Conn} {e1 e2 : List Ev}, R a e1 b → F b e2 c → F a (e1 ++ e2) c
  pong : ∀ c, J c → G1 c → J (sendPendingPongT c).1.1 ∧ R c (sendPendingPongT c).2 (sendPendingPongT c).1.1 ∧
    ((sendPendingPongT c).1.2 = .ok → A (sendPendingPongT c).1.1)
  ping : ∀ c, J c → A c → J c.sendPendingPing.1 ∧ R c [] c.sendPendingPing.1 ∧ A c.sendPendingPing.1
  settings : ∀ c, J c → A c →
    (J (settingsPollSendT c).1.1 ∧ R c (settingsPollSendT c).2 (settingsPollSendT c).1.1 ∧
      ((settingsPollSendT c).1.2 = .ok → G2 (settingsPollSendT c).1.1)) ∨
    (∃ e, (settingsPollSendT c).1.2 = .err e ∧ IsGoAwayErr e ∧ F c (settingsPollSendT c).2 (settingsPollSendT c).1.1)
  refusal : ∀ c, J c → G2 c →
    let p := Streams.pollSendPendingRefusal 4 c.streams c.codec.w c.codec.io c.cx
    let c' : Conn := { c with streams := p.1, codec := { c.codec with w := p.2.1, io := p.2.2.1 } }
    J c' ∧ R c [] c' ∧ G2 c'

/-- **`Connection::poll_ready`**: the field `ready` of `Poll2Rule` -/
theorem pollReadyT_rule {A : Conn → Prop} (h : ReadyRule J R F G1 A G2) (c : Conn) (hj : J c) (hg : G1 c) :
    (J (pollReadyT c).1.1 ∧ R c (pollReadyT c).2 (pollReadyT c).1.1 ∧ ((pollReadyT c).1.2 = .ok → G2 (pollReadyT c).1.1)) ∨
    (∃ e, (pollReadyT c).1.2 = .err e ∧ IsGoAwayErr e ∧ F c (pollReadyT c).2 (pollReadyT c).1.1) := by
  obtain ⟨j1, r1, a1⟩ := h.pong c hj hg
  unfold pollReadyT
  rcases hP : sendPendingPongT c with ⟨⟨c1, st1⟩, e1⟩
  rw [hP] at j1 r1 a1
  dsimp only at j1 r1 a1
  cases st1 with
  | pending => exact Or.inl ⟨j1, r1, nofun⟩
  | err e => exact Or.inl ⟨j1, r1, nofun⟩
  | ok =>
    dsimp only
    obtain ⟨j2, r2, a2⟩ := h.ping c1 j1 (a1 rfl)
    rcases hQ : c1.sendPendingPing with ⟨c2, st2⟩
    rw [hQ] at j2 r2 a2
    dsimp only at j2 r2 a2
    have r12 : R c e1 c2 := by simpa using h.trans r1 r2
    cases st2 with
    | pending => exact Or.inl ⟨j2, r12, nofun⟩
    | err e => exact Or.inl ⟨j2, r12, nofun⟩
    | ok =>
      dsimp only
      have hs := h.settings c2 j2 a2
      rcases hS : settingsPollSendT c2 with ⟨⟨c3, st3⟩, e2⟩
      rw [hS] at hs
      dsimp only at hs
      rcases hs with ⟨j3, r3, g3⟩ | ⟨e, he, hk, f3⟩
      · cases st3 with
        | pending => exact Or.inl ⟨j3, h.trans r12 r3, nofun⟩
        | err e => exact Or.inl ⟨j3, h.trans r12 r3, nofun⟩
        | ok =>
          dsimp only
          have hr := h.refusal c3 j3 (g3 rfl)
          generalize Streams.pollSendPendingRefusal 4 c3.streams c3.codec.w c3.codec.io c3.cx = p at hr ⊢
          rcases p with ⟨s, w, io, r⟩
          dsimp only at hr ⊢
          exact Or.inl ⟨hr.1, by simpa using h.trans (h.trans r12 r3) hr.2.1, fun _ => hr.2.2⟩
      · subst he
        exact Or.inr ⟨e, rfl, hk, h.transF r12 f3⟩

/-- what the calls of the loop of `poll2` have to satisfy -/
structure Poll2Rule (J : Conn → Prop) (R F : Conn → List Ev → Conn → Prop) (G1 G2 : Conn → Prop)
    (G3 : Conn → Option Frame.Frame → Prop) : Prop where
  trans : ∀ {a b c : Conn} {e1 e2 : List Ev}, R a e1 b → R b e2 c → R a (e1 ++ e2) c
  transF : ∀ {a b c : Conn} {e1 e2 : List Ev}, R a e1 b → F b e2 c → F a (e1 ++ e2) c
  panic : ∀ (c : Conn) (m : String), J c → J (c.panic m) ∧ R c [] (c.panic m)
  goAway : ∀ c, J c → J (sendPendingGoAwayT c).1.1 ∧ R c (sendPendingGoAwayT c).2 (sendPendingGoAwayT c).1.1 ∧
    (GoesOn (sendPendingGoAwayT c).1 → G1 (sendPendingGoAwayT c).1.1)
  ready : ∀ c, J c → G1 c →
    (J (pollReadyT c).1.1 ∧ R c (pollReadyT c).2 (pollReadyT c).1.1 ∧ ((pollReadyT c).1.2 = .ok → G2 (pollReadyT c).1.1)) ∨
    (∃ e, (pollReadyT c).1.2 = .err e ∧ IsGoAwayErr e ∧ F c (pollReadyT c).2 (pollReadyT c).1.1)
  next : ∀ c, J c → G2 c →
    let p := pollNext (c.codec.r.buf.length + c.codec.io.rd.length + 2) c.codec c.cx
    let c' : Conn := { c with codec := p.1 }
    (J c' ∧ R c [] c') ∧ G3 c' (polledFrame p.2)
  recv : ∀ c frame, J c → G3 c frame →
    (J (recvStep c frame).1 ∧ R c (frameEv frame) (recvStep c frame).1) ∨
    (∃ e, (recvStep c frame).2 = .error e ∧ IsGoAwayErr e ∧ F c (frameEv frame) (recvStep c frame).1)

variable (h : Poll2Rule J R F G1 G2 G3)
include h

theorem Poll2Rule.pre {D : Conn × PollRes → Prop} {c c1 : Conn} {e1 : List Ev} {x : (Conn × PollRes) × List Ev}
    (h1 : R c e1 c1) (h2 : Ends J R F D c1 x) : Ends J R F D c (x.1, e1 ++ x.2) :=
  h2.imp (fun ⟨i, r⟩ => ⟨i, h.trans h1 r⟩) (fun ⟨d, f⟩ => ⟨d, h.transF h1 f⟩)

theorem poll2DispatchT_rule (kT : Conn → (Conn × PollRes) × List Ev)
    (hk : ∀ c, J c → Ends J R F (fun p => resGoAwayErr p.2) c (kT c)) (c : Conn) (frame : Option Frame.Frame)
    (hj : J c) (hg : G3 c frame) : Ends J R F (fun p => resGoAwayErr p.2) c (poll2DispatchT kT c frame) := by
  have hr := h.recv c frame hj hg
  rw [poll2DispatchT_eq]
  generalize recvStep c frame = p at hr ⊢
  rcases p with ⟨c2, e | b⟩
  · rcases hr with hr | ⟨e', he, hk', f2⟩
    · exact Or.inl hr
    · cases he; exact Or.inr ⟨⟨e, rfl, hk'⟩, f2⟩
  · replace hr : J c2 ∧ R c (frameEv frame) c2 := hr.resolve_right fun ⟨e', he, _⟩ => by cases he
    cases b with
    | false => exact Or.inl hr
    | true => exact h.pre hr.2 (hk c2 hr.1)

theorem poll2ReadT_rule (kT : Conn → (Conn × PollRes) × List Ev)
    (hk : ∀ c, J c → Ends J R F (fun p => resGoAwayErr p.2) c (kT c)) (c : Conn) (hj : J c) (hg : G2 c) :
    Ends J R F (fun p => resGoAwayErr p.2) c (poll2ReadT kT c) := by
  obtain ⟨⟨j1, r1⟩, g1⟩ := h.next c hj hg
  unfold poll2ReadT
  generalize pollNext (c.codec.r.buf.length + c.codec.io.rd.length + 2) c.codec c.cx = p at j1 r1 g1 ⊢
  rcases p with ⟨codec, polled⟩
  dsimp only at j1 r1 g1 ⊢
  split
  · exact Or.inl ⟨j1, r1⟩
  · exact Or.inl ⟨j1, r1⟩
  · exact Or.inl ⟨j1, r1⟩
  · refine h.pre r1 (poll2DispatchT_rule h kT hk _ _ j1 ?_)
    cases polled <;> exact g1

theorem poll2GoOnT_rule (kT : Conn → (Conn × PollRes) × List Ev)
    (hk : ∀ c, J c → Ends J R F (fun p => resGoAwayErr p.2) c (kT c)) (c : Conn) (hj : J c) (hg : G1 c) :
    Ends J R F (fun p => resGoAwayErr p.2) c (poll2GoOnT kT c) := by
  have hr := h.ready c hj hg
  unfold poll2GoOnT
  rcases hP : pollReadyT c with ⟨⟨c1, st1⟩, e1⟩
  rw [hP] at hr
  dsimp only at hr
  cases st1 with
  | err e =>
    rcases hr with ⟨j1, r1, -⟩ | ⟨e', he, hk', f1⟩
    · exact Or.inl ⟨j1, r1⟩
    · cases he; exact Or.inr ⟨⟨e, rfl, hk'⟩, f1⟩
  | pending =>
    rcases hr with ⟨j1, r1, -⟩ | ⟨e', he, -⟩
    · exact Or.inl ⟨j1, r1⟩
    · cases he
  | ok =>
    rcases hr with ⟨j1, r1, g2⟩ | ⟨e', he, -⟩
    · exact h.pre r1 (poll2ReadT_rule h kT hk c1 j1 (g2 rfl))
    · cases he

theorem poll2LoopT_rule : ∀ (fuel : Nat) (c : Conn), J c → Ends J R F (fun p => resGoAwayErr p.2) c (poll2LoopT fuel c)
  | 0, c, hj => Or.inl (h.panic c _ hj)
  | fuel + 1, c, hj => by
    obtain ⟨j1, r1, g1⟩ := h.goAway c hj
    unfold poll2LoopT
    rcases hG : sendPendingGoAwayT c with ⟨⟨c1, st1⟩, e0⟩
    rw [hG] at j1 r1 g1
    dsimp only at j1 r1 g1
    cases st1 with
    | pending => exact Or.inl ⟨j1, r1⟩
    | err e => exact Or.inl ⟨j1, r1⟩
    | none => exact h.pre r1 (poll2GoOnT_rule h _ (poll2LoopT_rule fuel) c1 j1 (g1 (Or.inl rfl)))
    | reason r =>
      dsimp only
      split
      · split <;> exact Or.inl ⟨j1, r1⟩
      · rename_i hns
        exact h.pre r1 (poll2GoOnT_rule h _ (poll2LoopT_rule fuel) c1 j1
          (g1 (Or.inr ⟨r, rfl, by simpa using hns⟩)))

end

/-- what the calls of `proto::Connection::poll` around `poll2` have to satisfy -/
structure PollRule (I J : Conn → Prop) (R F : Conn → List Ev → Conn → Prop) (G1 G2 : Conn → Prop)
    (G3 : Conn → Option Frame.Frame → Prop) (D : Conn → Prop) : Prop
    extends Poll2Rule J R F G1 G2 G3 where
  leave : ∀ c, J c → I c
  fuel : ∀ (c : Conn) (m : String), I c → I (c.panic m) ∧ R c [] (c.panic m)
  enter : ∀ c, I c → c.state = .open →
    let c' : Conn := { c with streams := Streams.clearExpiredResetStreams (c.streams.recv.pendingResetExpired.length + 1) c.streams }
    J c' ∧ R c [] c'
  result : ∀ c res, J c →
    (I (c.handlePoll2Result res).1 ∧ R c [] (c.handlePoll2Result res).1) ∨
    (D (c.handlePoll2Result res).1 ∧ F c [] (c.handlePoll2Result res).1)
  failed : ∀ (c0 : Conn) (ev : List Ev) (c : Conn) (e : PErr), IsGoAwayErr e → F c0 ev c →
    D (c.handlePoll2Result (.error e)).1 ∧ F c0 ev (c.handlePoll2Result (.error e)).1
  dead : ∀ (fuel : Nat) (c0 : Conn) (ev : List Ev) (c : Conn), D c → F c0 ev c →
    D (protoPollT fuel c).1.1 ∧ F c0 (ev ++ (protoPollT fuel c).2) (protoPollT fuel c).1.1
  complete : ∀ (fuel : Nat) (c : Conn), J c →
    let p := Streams.pollComplete fuel c.streams c.codec.w c.codec.io c.cx
    let c' : Conn := { c with streams := p.1, codec := { c.codec with w := p.2.1, io := p.2.2.1 } }
    J c' ∧ R c [] c'
  now : ∀ c, I c → I (c.goAwayNow NO_ERROR) ∧ R c [] (c.goAwayNow NO_ERROR)
  shut : ∀ (c : Conn) (r : Reason) (i : Initiator), I c → c.state = .closing r i →
    let p := shutdownW c.codec.w c.codec.io c.cx
    let c' : Conn := { c with codec := { c.codec with w := p.1, io := p.2.1 } }
    (I c' ∧ R c [] c') ∧ I { c' with state := .closed r i } ∧ R c [] { c' with state := .closed r i }
  closed : ∀ (c : Conn) (r : Reason) (i : Initiator), I c → c.state = .closed r i →
    I (c.takeError r i).1 ∧ R c [] (c.takeError r i).1
  wake : ∀ c, I c → I { c with streams := c.streams.wake [c.cx] } ∧ R c [] { c with streams := c.streams.wake [c.cx] }
  wakeF : ∀ (c0 : Conn) (ev : List Ev) (c : Conn), D c → F c0 ev c →
    D { c with streams := c.streams.wake [c.cx] } ∧ F c0 ev { c with streams := c.streams.wake [c.cx] }

section
variable {I J : Conn → Prop} {R F : Conn → List Ev → Conn → Prop} {G1 G2 D : Conn → Prop}
  {G3 : Conn → Option Frame.Frame → Prop}
variable (h : PollRule I J R F G1 G2 G3 D)
include h

theorem PollRule.preI {c c1 : Conn} {e1 : List Ev} {x : (Conn × PollRes) × List Ev}
    (h1 : R c e1 c1) (h2 : Ends I R F (fun p => D p.1) c1 x) : Ends I R F (fun p => D p.1) c (x.1, e1 ++ x.2) :=
  h2.imp (fun ⟨i, r⟩ => ⟨i, h.trans h1 r⟩) (fun ⟨d, f⟩ => ⟨d, h.transF h1 f⟩)

theorem protoPollT_rule : ∀ (fuel : Nat) (c : Conn), I c → Ends I R F (fun p => D p.1) c (protoPollT fuel c)
  | 0, c, hi => Or.inl (h.fuel c _ hi)
  | fuel + 1, c, hi => by
    unfold protoPollT
    cases hs : c.state with
    | «open» =>
      obtain ⟨j0, r0⟩ := h.enter c hi hs
      have q := h.pre r0 (poll2LoopT_rule h.toPoll2Rule (fuel + 1) _ j0)
      unfold poll2T
      dsimp only at j0 r0 q ⊢
      rcases h1 : poll2LoopT (fuel + 1) { c with streams := Streams.clearExpiredResetStreams (c.streams.recv.pendingResetExpired.length + 1) c.streams } with ⟨⟨c1, r1⟩, e0⟩
      rw [h1] at q
      change Ends J R F (fun p => resGoAwayErr p.2) c ((c1, r1), e0) at q
      rcases q with ⟨j1, q1⟩ | ⟨⟨e, he, hk⟩, q1⟩
      · dsimp only at j1 q1
        cases r1 with
        | ready result =>
          dsimp only
          have hh := h.result c1 result j1
          rcases h2 : c1.handlePoll2Result result with ⟨c2, r2⟩
          rw [h2] at hh
          dsimp only at hh
          rcases hh with ⟨i2, q2⟩ | ⟨d2, f2⟩
          · have q2 : R c e0 c2 := by simpa using h.trans q1 q2
            cases r2 with
            | error e => exact Or.inl ⟨i2, q2⟩
            | ok u => exact h.preI q2 (protoPollT_rule fuel c2 i2)
          · have f2 : F c e0 c2 := by simpa using h.transF q1 f2
            cases r2 with
            | error e => exact Or.inr ⟨d2, f2⟩
            | ok u => exact Or.inr (h.dead fuel c e0 c2 d2 f2)
        | pending =>
          dsimp only
          have hc := h.complete (fuel + 1) c1 j1
          rcases h2 : Streams.pollComplete (fuel + 1) c1.streams c1.codec.w c1.codec.io c1.cx with ⟨s, w, io, r⟩
          rw [h2] at hc
          dsimp only at hc ⊢
          have q2 : R c e0 { c1 with streams := s, codec := { c1.codec with w := w, io := io } } := by
            simpa using h.trans q1 hc.2
          cases r with
          | pending => exact Or.inl ⟨h.leave _ hc.1, q2⟩
          | err k => exact Or.inl ⟨h.leave _ hc.1, q2⟩
          | ready =>
            dsimp only
            split
            · obtain ⟨i3, q3⟩ := h.now _ (h.leave _ hc.1)
              exact h.preI (by simpa using h.trans q2 q3) (protoPollT_rule fuel _ i3)
            · exact Or.inl ⟨h.leave _ hc.1, q2⟩
      · dsimp only at he q1
        subst he
        dsimp only
        obtain ⟨d2, f2⟩ := h.failed c e0 c1 e hk q1
        rcases h2 : c1.handlePoll2Result (.error e) with ⟨c2, r2⟩
        rw [h2] at d2 f2
        cases r2 with
        | error e => exact Or.inr ⟨d2, f2⟩
        | ok u => exact Or.inr (h.dead fuel c e0 c2 d2 f2)
    | closing reason init =>
      have hc := h.shut c reason init hi hs
      rw [hs] at hc
      dsimp only
      dsimp only at hc ⊢
      generalize shutdownW c.codec.w c.codec.io c.cx = p at hc ⊢
      rcases p with ⟨w, io, r⟩
      dsimp only at hc ⊢
      obtain ⟨⟨i1, q1⟩, i2, q2⟩ := hc
      cases r with
      | pending => exact Or.inl ⟨i1, q1⟩
      | err k => exact Or.inl ⟨i1, q1⟩
      | ready => exact h.preI q2 (protoPollT_rule fuel _ i2)
    | closed reason init => exact Or.inl (h.closed c reason init hi hs)

theorem clientPollT_rule (fuel : Nat) (c : Conn) (hi : I c) : Ends I R F (fun p => D p.1) c (clientPollT fuel c) := by
  have key : ∀ (c0 : Conn) (b : Bool), I c0 → Ends I R F (fun p => D p.1) c0
      ((if b = true
          then { (protoPollT fuel c0).1.1 with streams := (protoPollT fuel c0).1.1.streams.wake [(protoPollT fuel c0).1.1.cx] }
          else (protoPollT fuel c0).1.1, (protoPollT fuel c0).1.2), (protoPollT fuel c0).2) := by
    intro c0 b h0
    have hp := protoPollT_rule h fuel c0 h0
    cases b with
    | false => exact hp
    | true =>
      rcases hp with ⟨i1, q1⟩ | ⟨d1, f1⟩
      · exact Or.inl ⟨(h.wake _ i1).1, by simpa using h.trans q1 (h.wake _ i1).2⟩
      · exact Or.inr (h.wakeF _ _ _ d1 f1)
  unfold clientPollT
  by_cases hn : (!c.hasStreamsOrOtherReferences) = true
  · rw [if_pos hn]
    obtain ⟨i0, q0⟩ := h.now c hi
    exact h.preI q0 (key _ _ i0)
  · rw [if_neg hn]
    exact key _ _ hi

end

/-- without the events: an invariant of the model's own `poll`, by erasure -/
theorem protoPoll_rule {I J : Conn → Prop} {G1 G2 D : Conn → Prop} {G3 : Conn → Option Frame.Frame → Prop}
    (h : PollRule I J (fun _ _ _ => True) (fun _ _ _ => True) G1 G2 G3 D) (fuel : Nat) (c : Conn) (hi : I c) :
    I (Conn.protoPoll fuel c).1 ∨ D (Conn.protoPoll fuel c).1 := by
  rw [← protoPollT_fst]
  exact (protoPollT_rule h fuel c hi).imp And.left And.left

theorem clientPoll_rule {I J : Conn → Prop} {G1 G2 D : Conn → Prop} {G3 : Conn → Option Frame.Frame → Prop}
    (h : PollRule I J (fun _ _ _ => True) (fun _ _ _ => True) G1 G2 G3 D) (fuel : Nat) (c : Conn) (hi : I c) :
    I (Conn.clientPoll fuel c).1 ∨ D (Conn.clientPoll fuel c).1 := by
  rw [← clientPollT_fst]
  exact (clientPollT_rule h fuel c hi).imp And.left And.left

end H2V.Lemmas.ConnCtlP
