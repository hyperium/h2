import H2V.Lemmas.ConnWakePGoAway
import H2V.Lemmas.ConnBasics
/-
  C15: the per-stream relations used for the coverage theorem of `Inner::recv_go_away`.

  `Unt a b` ("untouched"): `b` is `a` except for the six fields that the hand-out of freed
  connection capacity may write on ANY stream (`assign_connection_capacity` inside
  `Send::handle_error → reclaim_all_capacity`): `send_flow.available`, `send_task`, `open_task`,
  `send_capacity_inc`, `is_pending_send_capacity`, `is_pending_send`.  Everything else — key, id,
  state, queues of frames and events, handle count, receive side, `is_pending_open`, the send
  *window* — is equal.
  `Oth k a b`: `Unt a b` unless the entry is the one with key `k` (then only key and id are kept).
-/
namespace H2V.Lemmas.ConnPartP
open H2V H2V.Model H2V.Model.Conn H2V.Lemmas.ConnWakeP

/-- a stream with the six capacity-assignment fields blanked -/
def mask (x : Stream) : Stream :=
  { x with sendFlow := { x.sendFlow with available := {} }, sendTask := none, openTask := none,
           sendCapacityInc := false, isPendingSendCapacity := false, isPendingSend := false }

def Unt (a b : Stream) : Prop := mask b = mask a

theorem Unt.refl (a : Stream) : Unt a a := rfl
theorem Unt.trans {a b c : Stream} (h1 : Unt a b) (h2 : Unt b c) : Unt a c := Eq.trans h2 h1

section fields
variable {a b : Stream} (h : Unt a b)
include h
theorem Unt.key : b.key = a.key := (congrArg Stream.key h :)
theorem Unt.id : b.id = a.id := (congrArg Stream.id h :)
theorem Unt.state : b.state = a.state := (congrArg Stream.state h :)
theorem Unt.isCounted : b.isCounted = a.isCounted := (congrArg Stream.isCounted h :)
theorem Unt.refCount : b.refCount = a.refCount := (congrArg Stream.refCount h :)
theorem Unt.window : b.sendFlow.windowSize = a.sendFlow.windowSize := (congrArg (fun x => x.sendFlow.windowSize) h :)
theorem Unt.requested : b.requestedSendCapacity = a.requestedSendCapacity := (congrArg Stream.requestedSendCapacity h :)
theorem Unt.buffered : b.bufferedSendData = a.bufferedSendData := (congrArg Stream.bufferedSendData h :)
theorem Unt.pendingSend : b.pendingSend = a.pendingSend := (congrArg Stream.pendingSend h :)
theorem Unt.isPendingOpen : b.isPendingOpen = a.isPendingOpen := (congrArg Stream.isPendingOpen h :)
theorem Unt.isPendingPush : b.isPendingPush = a.isPendingPush := (congrArg Stream.isPendingPush h :)
theorem Unt.isPendingAccept : b.isPendingAccept = a.isPendingAccept := (congrArg Stream.isPendingAccept h :)
theorem Unt.recvFlow : b.recvFlow = a.recvFlow := (congrArg Stream.recvFlow h :)
theorem Unt.inFlightRecvData : b.inFlightRecvData = a.inFlightRecvData := (congrArg Stream.inFlightRecvData h :)
theorem Unt.isPendingWindowUpdate : b.isPendingWindowUpdate = a.isPendingWindowUpdate := (congrArg Stream.isPendingWindowUpdate h :)
theorem Unt.resetAt : b.resetAt = a.resetAt := (congrArg Stream.resetAt h :)
theorem Unt.pendingRecv : b.pendingRecv = a.pendingRecv := (congrArg Stream.pendingRecv h :)
theorem Unt.isRecv : b.isRecv = a.isRecv := (congrArg Stream.isRecv h :)
theorem Unt.recvTask : b.recvTask = a.recvTask := (congrArg Stream.recvTask h :)
theorem Unt.pushTask : b.pushTask = a.pushTask := (congrArg Stream.pushTask h :)
theorem Unt.pendingPushPromises : b.pendingPushPromises = a.pendingPushPromises := (congrArg Stream.pendingPushPromises h :)
theorem Unt.contentLength : b.contentLength = a.contentLength := (congrArg Stream.contentLength h :)
end fields

instance : IsPre Unt where
  refl := Unt.refl
  trans := Unt.trans
  key := Unt.key

structure Oth (k : Nat) (a b : Stream) : Prop where
  key : b.key = a.key
  id : b.id = a.id
  unt : a.key ≠ k → Unt a b

instance (k : Nat) : IsPre (Oth k) where
  refl a := ⟨rfl, rfl, fun _ => Unt.refl a⟩
  trans h1 h2 := ⟨h2.key.trans h1.key, h2.id.trans h1.id,
    fun hk => (h1.unt hk).trans (h2.unt (by rw [h1.key]; exact hk))⟩
  key h := h.key

theorem Unt.oth {a b : Stream} (k : Nat) (h : Unt a b) : Oth k a b := ⟨h.key, h.id, fun _ => h⟩

@[grind =] theorem oth_iff (k : Nat) (a b : Stream) :
    Oth k a b ↔ (b.key = a.key ∧ b.id = a.id ∧ (a.key ≠ k → Unt a b)) :=
  ⟨fun h => ⟨h.1, h.2, h.3⟩, fun ⟨h1, h2, h3⟩ => ⟨h1, h2, h3⟩⟩

theorem unt_notifySend (x : Stream) : Unt x x.notifySend.1 := by
  unfold Unt; rw [Stream.notifySend_fst]; rfl

theorem unt_assignCapacity (x : Stream) (c m : Nat) : Unt x (x.assignCapacity c m).1 := by
  rw [Stream.assignCapacity_fst]; split <;> rfl
theorem unt_setQueued_pendingSend (x : Stream) (v : Bool) : Unt x (x.setQueued .pendingSend v) := rfl
theorem unt_setQueued_pendingCapacity (x : Stream) (v : Bool) : Unt x (x.setQueued .pendingCapacity v) := rfl
theorem unt_claim (x : Stream) (n : Nat) : Unt x { x with sendFlow := (x.sendFlow.claimCapacity n).1 } := rfl

abbrev US := GStep False Unt
abbrev OS (k : Nat) := GStep False (Oth k)

section
variable {s0 s : Streams}

theorem g_qPush {rm : Prop} {R : Stream → Stream → Prop} [IsPre R] (q : QName) (k : Nat)
    (hq : R (s.stream k) ((s.stream k).setQueued q true)) (h : GStep rm R s0 s) : GStep rm R s0 (s.qPush q k).1 := by
  unfold Streams.qPush
  split
  · exact h
  · exact g_setQ _ _ (g_modStream _ _ hq h)

theorem g_qPop {rm : Prop} {R : Stream → Stream → Prop} [IsPre R] (q : QName)
    (hq : ∀ x, R x (x.setQueued q false)) (h : GStep rm R s0 s) : GStep rm R s0 (s.qPop q).1 := by
  unfold Streams.qPop
  split
  · exact h
  · exact g_modStream _ _ (hq _) (g_setQ _ _ h)

theorem g_clearQueue {rm : Prop} {R : Stream → Stream → Prop} [IsPre R] (k : Nat)
    (hc : R (s.stream k) { s.stream k with pendingSend := [], bufferedSendData := 0, requestedSendCapacity := 0 })
    (h : GStep rm R s0 s) : GStep rm R s0 (s.clearQueue k) := by
  unfold Streams.clearQueue
  have h1 := g_modStream k (fun st => { st with pendingSend := [], bufferedSendData := 0, requestedSendCapacity := 0 }) hc h
  simp only
  split
  · split
    · exact g_modPrio _ h1
    · exact h1
  · exact h1

theorem u_tryAssignCapacity (k : Nat) (h : US s0 s) : US s0 (s.tryAssignCapacity k) := by
  unfold Streams.tryAssignCapacity
  extract_lets st req avail add ca asg sa s1 st1 s2
  split
  · exact h
  split
  · exact h
  split
  · exact h
  have h1 : US s0 s1 := by
    unfold s1; split
    · exact g_modPrio _ (g_modStreamW k _ (unt_assignCapacity _ _ _) h)
    · exact h
  have h2 : US s0 s2 := by
    unfold s2; split
    · exact g_qPush .pendingCapacity k (unt_setQueued_pendingCapacity _ true) h1
    · exact h1
  split
  · exact g_qPush .pendingSend k (unt_setQueued_pendingSend _ true) h2
  · exact h2

theorem u_reclaimAllCapacity (k : Nat) (h : US s0 s) : US s0 (s.reclaimAllCapacity k) := by
  unfold Streams.reclaimAllCapacity
  simp only
  split
  · exact assignConnectionCapacityLoop_of (g_qPop .pendingCapacity (unt_setQueued_pendingCapacity · false)) u_tryAssignCapacity _
      (g_modPrio _ (g_modStream _ _ (unt_claim _ _) h))
  · exact h

theorem oth_self (s : Streams) (k : Nat) (b : Stream) (h1 : b.key = (s.stream k).key) (h2 : b.id = (s.stream k).id) :
    Oth k (s.stream k) b := ⟨h1, h2, fun h => absurd (stream_key s k) h⟩

theorem o_modStream (k : Nat) (f : Stream → Stream) (hf : ∀ x, (f x).key = x.key ∧ (f x).id = x.id) (h : OS k s0 s) :
    OS k s0 (s.modStream k f) :=
  g_modStream k f (oth_self s k _ (hf _).1 (hf _).2) h
theorem o_modStreamW (k : Nat) (f : Stream → Stream × List String) (hf : ∀ x, (f x).1.key = x.key ∧ (f x).1.id = x.id)
    (h : OS k s0 s) : OS k s0 (s.modStreamW k f) :=
  g_modStreamW k f (oth_self s k _ (hf _).1 (hf _).2) h

theorem o_recvHandleError (k : Nat) (e : PErr) (h : OS k s0 s) : OS k s0 (s.recvHandleError k e) := by
  unfold Streams.recvHandleError
  exact o_modStreamW k _ (fun x => by rw [Stream.notifyPush_fst]; exact ⟨rfl, rfl⟩)
    (o_modStreamW k _ (fun x => by rw [Stream.notifyRecv_fst]; exact ⟨rfl, rfl⟩)
      (o_modStreamW k _ (fun x => by rw [Stream.notifySend_fst]; exact ⟨rfl, rfl⟩)
        (o_modStream k _ (fun _ => ⟨rfl, rfl⟩) h)))
theorem o_sendHandleError (k : Nat) (h : OS k s0 s) : OS k s0 (s.sendHandleError k) := by
  unfold Streams.sendHandleError
  have h1 : OS k s0 ((s.clearQueue k).reclaimAllCapacity k) :=
    (g_clearQueue k (oth_self s k _ rfl rfl) h).trans
      ((u_reclaimAllCapacity k (GStep.refl _)).mono id fun _ _ hu => hu.oth k)
  simp only
  split
  · split
    · exact o_modStreamW k _ (fun x => by rw [Stream.setReset_fst]; exact ⟨rfl, rfl⟩) h1
    · exact h1
  · exact h1

end

end H2V.Lemmas.ConnPartP
