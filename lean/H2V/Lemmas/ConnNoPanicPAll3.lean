import H2V.Lemmas.ConnNoPanicPAll2
import H2V.Lemmas.ConnNoPanicPAccAll
/-
  C08 (no panic) — everything together (stage 3): the server accept path (ConnNoPanicPAcc*: invariant `J`; `next_incoming`,
  `take_request`; `recv_eof(true)` without hypothesis), `clearWakes`, and ConnRecvP's stream-level receive-window invariant
  (`JF`): 40 operations, connections without server push.
-/
namespace H2V.Lemmas.ConnNoPanicP
open H2V H2V.Model H2V.Model.Conn H2V.Lemmas.ConnCountsP
open H2V.Lemmas.ConnResetP (Op run)

/-- handle keys: `take_request` and `poll_response` are handle calls too -/
def opKey3 : Op → Option Nat
  | .recvTakeRequest k => some k
  | .recvPollResponse _ k _ => some k
  | op => opKey2 op

/-- `next_incoming` hands out a handle -/
def opHandles3 (s : Streams) (H : List Nat) : Op → List Nat
  | .nextIncoming => match s.nextIncoming.2 with | some k => k :: H | none => H
  | op => opHandles2 s H op

def opPre4 (s : Streams) : Op → Prop
  | .nextIncoming => True
  | .recvTakeRequest k => ReqHead (s.stream k)
  | .clearWakes => True
  | .handleError e => NotRR e
  | .recvEof _ => True
  | .applyLocalSettingsFrame vals =>
      (∀ t, ConnRecvP.settingsIws vals = some t → t ≤ 2147483647) ∧ (s.applyLocalSettingsFrame vals).2 = .ok ()
  | op => opPre3 s op

structure Good4 (s : Streams) (H : List Nat) : Prop where
  g3 : Good3 s H
  j : J s
  jf : JF s

theorem accKey_sub {op : Op} {k : Nat} (h : accKey op = some k) : opKey3 op = some k := by
  cases op <;> first | exact h | cases h

theorem clearWakes_npi {s : Streams} (h : NPI (fun _ => False) s) : NPI (fun _ => False) { s with wakes := [] } :=
  h.lt (ks := []) (LT.w (setMisc_lt s s.actions s.refs s.recvBufferLeaked [] s.unsupported rfl)) (liveAll0 s)
    (EvB.free (ρ := false) ⟨rfl, CStep.refl _, fun q => by cases q <;> rfl, fun h => h, NextOK.refl _ _⟩) noE

theorem okPre_of {s : Streams} {op : Op} (h : opPre4 s op) : okPre s op := by
  cases op <;> first | exact h.2 | exact trivial

theorem accPre2_of {s : Streams} {op : Op} (h : opPre4 s op) (hp : NoPush s) (hj : NoPPP s) : accPre2 s op := by
  cases op
  case handleError e => exact h
  case recvPushPromise id hd => exact recvPushPromise_nopush hp id hd
  case recvTakeRequest k => exact h
  case dropStreamRef k => exact hj.dropPPP k
  case panic m => exact h
  all_goals exact trivial

theorem valid_of4 {s : Streams} {op : Op} (h : opPre4 s op) : (ConnRecvP.Op.ofReset op).valid s := by
  cases op
  case setTargetConnectionWindow t => exact h
  case applyLocalSettingsFrame v => exact h.1
  all_goals exact trivial

theorem flowPre_of4 {s : Streams} {op : Op} (h : opPre4 s op) : flowPre op := by
  cases op
  case recvWindowUpdate id inc => exact h
  case applyRemoteSettings v b => exact h
  all_goals exact trivial

/-- the generic components: they do not care which operation it is -/
theorem good4_generic {s : Streams} {H : List Nat} (g : Good4 s H) (op : Op) (hpre : opPre4 s op)
    (hv : (ConnRecvP.Op.ofReset op).valid s) (hfl : flowPre op) (he : ErrOK s) :
    IBS (op.apply s) → NPI (fun _ => False) (op.apply s) → HOK (op.apply s) (opHandles3 s H op) →
    (∀ k, accKey op = some k → k ∈ H) → Good4 (op.apply s) (opHandles3 s H op) := fun hi hn hh hin =>
  ⟨⟨⟨hn, hh, hi, JR_step g.g3.good.jr op hv, safeInv_step g.g3.good.safe op hfl⟩, NoPPP_step g.g3.noppp g.g3.nopush op,
     NoPush_step g.g3.nopush op⟩,
   J_stepAll g.g3.good.npi g.g3.good.hok g.j op (accPre2_of hpre g.g3.nopush g.g3.noppp) hin,
   JF_step g.jf op hv he (okPre_of hpre)⟩

theorem good4_step {s : Streams} {H : List Nat} (g : Good4 s H) (op : Op) (hpre : opPre4 s op)
    (hin : ∀ k, opKey3 op = some k → k ∈ H) (he : ErrOK s) (he' : ErrOK (op.apply s)) :
    Good4 (op.apply s) (opHandles3 s H op) := by
  have hk := g.g3.good.npi.keys
  have hacc : ∀ k, accKey op = some k → k ∈ H := fun k h => hin k (accKey_sub h)
  -- the operations of stage 2: after `cases op`, `opPre4` / `opKey3` / `opHandles3` reduce to those of the level below
  have below : opPre3 s op → (∀ k, opKey2 op = some k → k ∈ H) → Good4 (op.apply s) (opHandles2 s H op) := fun hold hin2 =>
    ⟨good3_step g.g3 op hold hin2 he he', J_stepAll g.g3.good.npi g.g3.good.hok g.j op (accPre2_of hpre g.g3.nopush g.g3.noppp) hacc,
      JF_step g.jf op (valid_of4 hpre) he (okPre_of hpre)⟩
  cases op
  case nextIncoming =>
    obtain ⟨hn', _, hnone, hsome⟩ := nextIncoming_npi g.g3.good.npi g.j g.g3.good.hok
    refine good4_generic g .nextIncoming hpre trivial trivial he
      (g.g3.good.ibs.of_evF hk (nextIncoming_ev (ρ := false) s)) hn' ?_ hacc
    show HOK s.nextIncoming.1 (match s.nextIncoming.2 with | some k => k :: H | none => H)
    cases ho : s.nextIncoming.2 with
    | none => simp only []; rw [hnone ho]; exact g.g3.good.hok
    | some k => simp only []; exact (hsome k ho).2.2.1
  case recvTakeRequest k =>
    obtain ⟨hl, hr⟩ := g.g3.good.hok.held (hin k rfl)
    obtain ⟨hn', _, _⟩ := recvTakeRequest_npi g.g3.good.npi g.j hl hr hpre
    exact good4_generic g (.recvTakeRequest k) hpre trivial trivial he
      (g.g3.good.ibs.of_evF hk (recvTakeRequest_ev (ρ := false) s k)) hn'
      (hok_generic hk g.g3.good.hok _ (by intro j e; cases e)) hacc
  case clearWakes =>
    exact good4_generic g .clearWakes hpre trivial trivial he
      (g.g3.good.ibs.of_evF hk (EvB.free (ρ := false) ⟨rfl, CStep.refl _, fun q => by cases q <;> rfl, fun h => h, NextOK.refl _ _⟩))
      (clearWakes_npi g.g3.good.npi) (hok_generic hk g.g3.good.hok _ (by intro j e; cases e)) hacc
  case recvEof b => exact below (fun _ => g.j.acc) hin
  case applyLocalSettingsFrame v => exact below hpre.1 hin
  case handleError e => exact below trivial hin
  case recvPollResponse n k t => exact below hpre (fun _ h => by cases h)
  all_goals exact below hpre hin

/-- histories of stage 3 (connections without server push) -/
inductive NReach : Streams → List Nat → Prop
  | init {s : Streams} : Init2 s → NoPush s → NReach s []
  | step {s : Streams} {H : List Nat} (op : Op) : NReach s H → opPre4 s op → (∀ k, opKey3 op = some k → k ∈ H) →
      NReach (op.apply s) (opHandles3 s H op)

theorem NReach.keys {s : Streams} {H : List Nat} (h : NReach s H) : KeysOK s ∧ NextLocal s := by
  induction h with
  | init hi _ => exact ⟨hi.blank.keysOK, hi.blank.next⟩
  | step op _ _ _ ih => exact keys_step_op ih.1 ih.2 op

theorem Init2.good4 {s : Streams} (hi : Init2 s) (hp : NoPush s) : Good4 s [] :=
  ⟨hi.good3 hp, J_blank hi.blank hi.q, ⟨_, ConnRecvP.Inv.init hi.recv true⟩⟩

/-- **No panic, handle discipline, 40 operations, connections without server push** -/
theorem nreach_good {s : Streams} {H : List Nat} (h : NReach s H) (he : ErrOK s) : Good4 s H := by
  induction h with
  | init hi hp => exact hi.good4 hp
  | step op hr hpre hin ih =>
    have he0 := errOK_back_op hr.keys.1 hr.keys.2 op he
    exact good4_step (ih he0) op hpre hin he0 he

/-- the request head `next_incoming` hands out is there for `take_request` -/
theorem nreach_accept {s : Streams} {H : List Nat} (h : NReach s H) (he : ErrOK s) {k : Nat} (hk : s.nextIncoming.2 = some k) :
    opPre4 s.nextIncoming.1 (.recvTakeRequest k) :=
  let g := nreach_good h he
  ((nextIncoming_npi g.g3.good.npi g.j g.g3.good.hok).2.2.2 k hk).2.2.2.2.2

theorem nreach_accept_path {s : Streams} {H : List Nat} (h : NReach s H) (he : ErrOK s) :
    s.nextIncoming.1.panicked = none ∧
    ∀ k, s.nextIncoming.2 = some k → ((s.nextIncoming.1).recvTakeRequest k).1.panicked = none ∧
      ((s.nextIncoming.1).recvTakeRequest k).2.isSome = true := by
  have g := nreach_good h he
  obtain ⟨hn, hj, _, hs⟩ := nextIncoming_npi g.g3.good.npi g.j g.g3.good.hok
  refine ⟨hn.np, fun k hk => ?_⟩
  obtain ⟨_, _, _, hl, hr, hq⟩ := hs k hk
  have := recvTakeRequest_npi hn hj hl (by omega) hq
  exact ⟨this.1.np, this.2.2⟩

/-- witness: the stream layer of a new server connection -/
def wInitS : Streams :=
  { counts := { isServer := true },
    actions := { recv := { nextStreamId := some 1, flow := { windowSize := { val := 65535 }, available := { val := 65535 } } },
                 send := { nextStreamId := some 2,
                           prioritize := { flow := { windowSize := { val := 65535 }, available := { val := 65535 } } } } } }

theorem wInitS_init2 : Init2 wInitS :=
  ⟨⟨rfl, rfl, rfl, rfl, rfl, rfl, rfl, rfl, rfl, rfl, by intro x hx; cases hx; rfl⟩, rfl, fun q => by cases q <;> rfl,
   ⟨rfl, rfl, rfl, rfl, rfl⟩, ⟨rfl, by decide⟩⟩

/-- witness history: `GET /` on stream 1, accepted (`next_incoming`, `take_request`), answered with END_STREAM, handle
    dropped, wake log cleared, EOF with `clear_pending_accept` -/
def wOpsS : List Op :=
  [.recvHeaders cxReq, .nextIncoming, .recvTakeRequest 0, .refSendResponse 0 [] true, .dropStreamRef 0, .clearWakes, .recvEof true]

theorem NReach.step' {s : Streams} {H : List Nat} (op : Op) (h : NReach s H) (hpre : opPre4 s op)
    (hin : ∀ k, opKey3 op = some k → k ∈ H) {s' : Streams} {H' : List Nat} (es : s' = op.apply s)
    (eh : H' = opHandles3 s H op) : NReach s' H' := by subst es; subst eh; exact .step op h hpre hin

set_option maxRecDepth 8000 in
theorem wOpsS_nreach : NReach (run wInitS wOpsS) [] := by
  have r0 : NReach wInitS [] := .init wInitS_init2 (.inl rfl)
  have r1 : NReach (run wInitS [.recvHeaders cxReq]) [] :=
    r0.step' (.recvHeaders cxReq) (by show _ = none; decide) (by intro k h; cases h) rfl (by decide +kernel)
  have r2 : NReach (run wInitS [.recvHeaders cxReq, .nextIncoming]) [0] :=
    r1.step' .nextIncoming trivial (by intro k h; cases h) rfl (by decide +kernel)
  have hreq : opPre4 (run wInitS [.recvHeaders cxReq, .nextIncoming]) (.recvTakeRequest 0) :=
    nreach_accept r1 (by unfold ErrOK; decide +kernel) (by decide +kernel)
  have r3 : NReach (run wInitS [.recvHeaders cxReq, .nextIncoming, .recvTakeRequest 0]) [0] :=
    r2.step' (.recvTakeRequest 0) hreq (by intro k h; cases h; decide) rfl (by decide +kernel)
  have r4 : NReach (run wInitS [.recvHeaders cxReq, .nextIncoming, .recvTakeRequest 0, .refSendResponse 0 [] true]) [0] :=
    r3.step' (.refSendResponse 0 [] true) trivial (by intro k h; cases h; decide) rfl (by decide +kernel)
  have r5 : NReach (run wInitS [.recvHeaders cxReq, .nextIncoming, .recvTakeRequest 0, .refSendResponse 0 [] true,
      .dropStreamRef 0]) [] :=
    r4.step' (.dropStreamRef 0) trivial (by intro k h; cases h; decide) rfl (by decide +kernel)
  have r6 : NReach (run wInitS [.recvHeaders cxReq, .nextIncoming, .recvTakeRequest 0, .refSendResponse 0 [] true,
      .dropStreamRef 0, .clearWakes]) [] :=
    r5.step' .clearWakes trivial (by intro k h; cases h) rfl (by decide +kernel)
  exact r6.step' (.recvEof true) trivial (by intro k h; cases h) rfl (by decide +kernel)

/-- a server state with a request waiting to be accepted -/
theorem wOpsS1_nreach : NReach (run wInitS [.recvHeaders cxReq]) [] :=
  (NReach.init wInitS_init2 (.inl rfl)).step' (.recvHeaders cxReq) (by show _ = none; decide) (by intro k h; cases h) rfl
    (by decide +kernel)

set_option maxRecDepth 8000 in
theorem wOpsS1_facts : ErrOK (run wInitS [.recvHeaders cxReq]) ∧ (run wInitS [.recvHeaders cxReq]).nextIncoming.2 = some 0 :=
  ⟨by unfold ErrOK; decide +kernel, by decide +kernel⟩

set_option maxRecDepth 8000 in
theorem wOpsS_facts : ErrOK (run wInitS wOpsS) ∧ (run wInitS wOpsS).panicked = none := by
  refine ⟨by unfold ErrOK; decide +kernel, by decide +kernel⟩

end H2V.Lemmas.ConnNoPanicP
