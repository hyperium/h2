import H2V.Lemmas.ConnLoops
import H2V.Lemmas.CompFlow
/-
  C03 (receive windows are conserved): the vocabulary.  `Ext s s'`, "`s'` extends `s` without touching receive flow
  control": the connection-level receive fields are equal, every slab entry of `s'` is an entry of `s` with the same
  receive content (`SameR`; entries may have been removed) or a freshly created stream (`Fresh`), and the id map only
  lost entries or gained fresh keys.  Every operation of the model that is not a receive-flow-control operation is an
  `Ext` step (`Ext.of_step` in `ConnRecvPSend`, the inserting ones in `ConnRecvPStreams`).
-/
namespace H2V.Lemmas.ConnRecvP
open H2V H2V.Model H2V.Model.Conn

def sumInfl (l : List Stream) : Nat := (l.map (·.inFlightRecvData)).sum

@[simp] theorem sumInfl_nil : sumInfl [] = 0 := rfl
@[simp] theorem sumInfl_cons (x : Stream) (l : List Stream) :
    sumInfl (x :: l) = x.inFlightRecvData + sumInfl l := by simp [sumInfl]
@[simp] theorem sumInfl_append (a b : List Stream) : sumInfl (a ++ b) = sumInfl a + sumInfl b := by
  simp [sumInfl, List.sum_append]

theorem sumInfl_filter_le (p : Stream → Bool) (l : List Stream) : sumInfl (l.filter p) ≤ sumInfl l := by
  induction l with
  | nil => simp
  | cons x l ih =>
    by_cases h : p x = true
    · simp [List.filter_cons_of_pos h]; omega
    · have h' : p x = false := by simpa using h
      simp [h']; omega

theorem le_sumInfl_of_mem {x : Stream} {l : List Stream} (h : x ∈ l) : x.inFlightRecvData ≤ sumInfl l := by
  induction l with
  | nil => cases h
  | cons y l ih =>
    rcases List.mem_cons.1 h with rfl | h
    · simp
    · have := ih h; simp; omega

structure KeysOK (st : Store) : Prop where
  nodup : (st.slab.map (·.key)).Nodup
  lt : ∀ x ∈ st.slab, x.key < st.nextKey
  idsNodup : (st.ids.map (·.2)).Nodup
  idsIdNodup : (st.ids.map (·.1)).Nodup
  idsLt : ∀ p ∈ st.ids, p.2 < st.nextKey

structure SameR (x x' : Stream) : Prop where
  key : x'.key = x.key
  flow : x'.recvFlow = x.recvFlow
  infl : x'.inFlightRecvData = x.inFlightRecvData
  closed : x.state.isClosed = true → x'.state.isClosed = true
  recv : x'.isRecv = true → x.isRecv = true

theorem SameR.refl (x : Stream) : SameR x x := ⟨rfl, rfl, rfl, id, id⟩
theorem SameR.trans {x y z : Stream} (h1 : SameR x y) (h2 : SameR y z) : SameR x z :=
  ⟨h2.key.trans h1.key, h2.flow.trans h1.flow, h2.infl.trans h1.infl, fun h => h2.closed (h1.closed h),
   fun h => h1.recv (h2.recv h)⟩

/-- the receive `FlowControl` of `Stream::new(_, _, init)` -/
def newRecvFlow (init : Nat) : FlowControl :=
  ((FlowControl.new.incWindow init).1.assignCapacity init).1

-- `by rfl`, not the term `rfl`: for a theorem whose body is the term `rfl` Lean also decides whether it can
-- serve as a `dsimp` lemma, by a reducible unfolding of `Stream.new` that takes seconds here
theorem Stream.new_recvFlow (id a b : Nat) : (Stream.new id a b).recvFlow = newRecvFlow b := by rfl
theorem Stream.new_infl (id a b : Nat) : (Stream.new id a b).inFlightRecvData = 0 := by rfl

/-- a stream entry created after `s`: fresh key, nothing in flight, the window of `Stream::new`
    with the current initial window size — or (`Inner::send_reset` on an unknown id) with 0, and
    then the stream is closed -/
structure Fresh (s : Streams) (x' : Stream) : Prop where
  key : s.store.nextKey ≤ x'.key
  infl : x'.inFlightRecvData = 0
  flow : x'.recvFlow = newRecvFlow s.recv.initWindowSz ∨
         (x'.recvFlow = newRecvFlow 0 ∧ x'.state.isClosed = true)

/-- `s'` extends `s` without touching receive flow control -/
structure Ext (s s' : Streams) : Prop where
  flow : s'.recv.flow = s.recv.flow
  infl : s'.recv.inFlightData = s.recv.inFlightData
  init : s'.recv.initWindowSz = s.recv.initWindowSz
  nk : s.store.nextKey ≤ s'.store.nextKey
  keys : KeysOK s.store → KeysOK s'.store
  slab : KeysOK s.store → ∀ x' ∈ s'.store.slab, (∃ x ∈ s.store.slab, SameR x x') ∨ Fresh s x'
  sum : KeysOK s.store → sumInfl s'.store.slab ≤ sumInfl s.store.slab
  link : ∀ k, k ∈ s'.store.ids.map (·.2) → k ∈ s.store.ids.map (·.2) ∨ s.store.nextKey ≤ k

theorem Ext.refl (s : Streams) : Ext s s :=
  ⟨rfl, rfl, rfl, Nat.le_refl _, id, fun _ x hx => .inl ⟨x, hx, SameR.refl x⟩, fun _ => Nat.le_refl _,
   fun _ h => .inl h⟩

theorem Ext.trans {a b c : Streams} (h1 : Ext a b) (h2 : Ext b c) : Ext a c where
  flow := h2.flow.trans h1.flow
  infl := h2.infl.trans h1.infl
  init := h2.init.trans h1.init
  nk := Nat.le_trans h1.nk h2.nk
  keys := fun hk => h2.keys (h1.keys hk)
  slab := fun hk z hz => by
    rcases h2.slab (h1.keys hk) z hz with ⟨y, hy, hyz⟩ | hf
    · rcases h1.slab hk y hy with ⟨x, hx, hxy⟩ | hf
      · exact .inl ⟨x, hx, hxy.trans hyz⟩
      · refine .inr ⟨?_, ?_, ?_⟩
        · rw [hyz.key]; exact hf.key
        · rw [hyz.infl]; exact hf.infl
        · rcases hf.flow with h | ⟨h, hc⟩
          · exact .inl (by rw [hyz.flow]; exact h)
          · exact .inr ⟨by rw [hyz.flow]; exact h, hyz.closed hc⟩
    · refine .inr ⟨Nat.le_trans h1.nk hf.key, hf.infl, ?_⟩
      rcases hf.flow with h | h
      · exact .inl (h1.init ▸ h)
      · exact .inr h
  sum := fun hk => Nat.le_trans (h2.sum (h1.keys hk)) (h1.sum hk)
  link := fun k hk => by
    rcases h2.link k hk with h | h
    · exact h1.link k h
    · exact .inr (Nat.le_trans h1.nk h)

/-- rewriting the target along a destructuring equation (used after `split` on a `match`) -/

theorem Ext.of_fst_eq {α : Type} {s0 s' : Streams} {r : α} {p : Streams × α}
    (h : p = (s', r)) (hp : Ext s0 p.1) : Ext s0 s' := Conn.of_fst_eq h hp

theorem Ext.of_same {s s' : Streams} (h1 : s'.store = s.store) (h2 : s'.recv.flow = s.recv.flow)
    (h3 : s'.recv.inFlightData = s.recv.inFlightData) (h4 : s'.recv.initWindowSz = s.recv.initWindowSz) :
    Ext s s' where
  flow := h2
  infl := h3
  init := h4
  nk := by rw [h1]; exact Nat.le_refl _
  keys := fun hk => by rw [h1]; exact hk
  slab := fun _ x hx => .inl ⟨x, by rw [h1] at hx; exact hx, SameR.refl x⟩
  sum := fun _ => by rw [h1]; exact Nat.le_refl _
  link := fun _ h => .inl (by rw [h1] at h; exact h)


theorem panic_ext (s : Streams) (msg : String) : Ext s (s.panic msg) := by
  unfold Streams.panic; split <;> exact Ext.of_same rfl rfl rfl rfl

theorem extOK : RelOK Ext := ⟨Ext.refl, Ext.trans, panic_ext⟩

theorem unsup_ext (s : Streams) (msg : String) : Ext s (s.unsup msg) := by
  unfold Streams.unsup; split <;> exact Ext.of_same rfl rfl rfl rfl

theorem wake_ext (s : Streams) (t : List String) : Ext s (s.wake t) := Ext.of_same rfl rfl rfl rfl

theorem notifyTask_ext (s : Streams) : Ext s s.notifyTask := by
  unfold Streams.notifyTask; split <;> exact Ext.of_same rfl rfl rfl rfl

theorem modPrio_ext (s : Streams) (f : Prioritize → Prioritize) : Ext s (s.modPrio f) :=
  Ext.of_same rfl rfl rfl rfl

theorem modSend_ext (s : Streams) (f : Send → Send) : Ext s (s.modSend f) := Ext.of_same rfl rfl rfl rfl

theorem modCounts_ext (s : Streams) (f : Counts → Counts) : Ext s (s.modCounts f) :=
  Ext.of_same rfl rfl rfl rfl

theorem setCounts_ext (s : Streams) (c : Counts) : Ext s { s with counts := c } := Ext.of_same rfl rfl rfl rfl

theorem modRecv_ext (s : Streams) (f : Recv → Recv)
    (h : ∀ r, (f r).flow = r.flow ∧ (f r).inFlightData = r.inFlightData ∧ (f r).initWindowSz = r.initWindowSz) :
    Ext s (s.modRecv f) :=
  Ext.of_same rfl (h _).1 (h _).2.1 (h _).2.2

theorem setQ_ext (s : Streams) (q : QName) (l : List Nat) : Ext s (s.setQ q l) := by
  cases q <;> exact Ext.of_same rfl rfl rfl rfl

theorem setRefs_ext (s : Streams) (n : Nat) : Ext s { s with refs := n } := Ext.of_same rfl rfl rfl rfl

theorem setConnError_ext (s : Streams) (e : Option PErr) :
    Ext s { s with actions := { s.actions with connError := e } } := Ext.of_same rfl rfl rfl rfl

theorem setTask_ext (s : Streams) (t : Option String) :
    Ext s { s with actions := { s.actions with task := t } } := Ext.of_same rfl rfl rfl rfl


theorem Ext.of_map {s s' : Streams} (g : Stream → Stream)
    (hslab : s'.store.slab = s.store.slab.map g) (hids : s'.store.ids = s.store.ids)
    (hnk : s'.store.nextKey = s.store.nextKey)
    (hg : KeysOK s.store → ∀ x ∈ s.store.slab, SameR x (g x))
    (h2 : s'.recv.flow = s.recv.flow) (h3 : s'.recv.inFlightData = s.recv.inFlightData)
    (h4 : s'.recv.initWindowSz = s.recv.initWindowSz) : Ext s s' where
  flow := h2
  infl := h3
  init := h4
  nk := by rw [hnk]; exact Nat.le_refl _
  keys := fun hk => by
    have hkeys : s'.store.slab.map (·.key) = s.store.slab.map (·.key) := by
      rw [hslab, List.map_map]
      exact List.map_congr_left fun x hx => (hg hk x hx).key
    refine ⟨by rw [hkeys]; exact hk.nodup, ?_, by rw [hids]; exact hk.idsNodup,
      by rw [hids]; exact hk.idsIdNodup, by rw [hids, hnk]; exact hk.idsLt⟩
    intro x' hx'
    rw [hslab] at hx'
    obtain ⟨x, hx, rfl⟩ := List.mem_map.1 hx'
    rw [hnk, (hg hk x hx).key]; exact hk.lt x hx
  slab := fun hk x' hx' => by
    rw [hslab] at hx'
    obtain ⟨x, hx, rfl⟩ := List.mem_map.1 hx'
    exact .inl ⟨x, hx, hg hk x hx⟩
  sum := fun hk => by
    have : sumInfl s'.store.slab = sumInfl s.store.slab := by
      unfold sumInfl
      rw [hslab, List.map_map]
      congr 1
      exact List.map_congr_left fun x hx => (hg hk x hx).infl
    rw [this]; exact Nat.le_refl _
  link := fun _ h => .inl (by rw [hids] at h; exact h)

theorem setStream_ext (s : Streams) (x x' : Stream) (hx : s.store.get? x.key = some x) (h : SameR x x') :
    Ext s (s.setStream x') := by
  refine Ext.of_map (fun y => if y.key == x'.key then x' else y) rfl rfl rfl ?_ rfl rfl rfl
  intro hk y hy
  by_cases hc : y.key = x'.key
  · have : y = x := Store.KeysNodup.eq_of_key_eq hk.nodup hy (Store.get?_mem hx) (by rw [hc, h.key])
    subst this
    simp [hc, h]
  · simp [hc, SameR.refl]

theorem mem_setStream {s : Streams} {x' y' : Stream} (h : y' ∈ (s.setStream x').store.slab) :
    y' = x' ∨ (y' ∈ s.store.slab ∧ y'.key ≠ x'.key) := by
  obtain ⟨y, hy, rfl⟩ := List.mem_map.1 (show y' ∈ s.store.slab.map fun y => if y.key == x'.key then x' else y from h)
  by_cases hc : y.key = x'.key
  · exact .inl (by simp [hc])
  · exact .inr (by simp [hc, hy])

theorem modStream_ext (s : Streams) (id : Nat) (f : Stream → Stream)
    (h : ∀ x, s.store.get? id = some x → SameR x (f x)) : Ext s (s.modStream id f) := by
  cases hx : s.store.get? id with
  | some x =>
    rw [Streams.modStream_of_some hx]
    exact setStream_ext s x (f x) (by rw [Store.get?_key hx]; exact hx) (h x hx)
  | none => rw [Streams.modStream_of_none hx]; exact panic_ext _ _

theorem modStreamW_ext (s : Streams) (id : Nat) (f : Stream → Stream × List String)
    (h : ∀ x, s.store.get? id = some x → SameR x (f x).1) : Ext s (s.modStreamW id f) := by
  cases hx : s.store.get? id with
  | some x =>
    rw [Streams.modStreamW_of_some hx]
    exact (setStream_ext s x (f x).1 (by rw [Store.get?_key hx]; exact hx) (h x hx)).trans (wake_ext _ _)
  | none => rw [Streams.modStreamW_of_none hx]; exact panic_ext _ _

theorem setStream_stream_ext (s : Streams) (id : Nat) (x' : Stream) (h : SameR (s.stream id) x') :
    Ext s (s.setStream x') := by
  rcases Streams.stream_cases s id with hg | ⟨hg, -⟩
  · exact setStream_ext s _ x' (by rw [Streams.stream_key]; exact hg) h
  · rw [Streams.setStream_of_none (by rw [h.key, Streams.stream_key]; exact hg)]
    exact Ext.refl s

theorem stream_eq_of_get? {s : Streams} {id : Nat} {x : Stream} (h : s.store.get? id = some x) :
    s.stream id = x := Streams.stream_of_get? h


theorem remove_ext (s : Streams) (k n : Nat) :
    Ext s { s with store := s.store.remove k, recvBufferLeaked := n } where
  flow := rfl
  infl := rfl
  init := rfl
  nk := Nat.le_refl _
  keys := fun hk =>
    ⟨(List.filter_sublist.map _).nodup hk.nodup, fun x hx => hk.lt x (List.mem_filter.1 hx).1,
      hk.idsNodup, hk.idsIdNodup, hk.idsLt⟩
  slab := fun _ x hx => .inl ⟨x, (List.mem_filter.1 hx).1, SameR.refl x⟩
  sum := fun _ => sumInfl_filter_le _ _
  link := fun _ h => .inl h

theorem unlink_ext (s : Streams) (id : Nat) : Ext s { s with store := s.store.unlink id } where
  flow := rfl
  infl := rfl
  init := rfl
  nk := Nat.le_refl _
  keys := fun hk =>
    ⟨hk.nodup, hk.lt, Store.swapRemove_nodup hk.idsNodup id, Store.swapRemove_nodup hk.idsIdNodup id,
      fun p hp => hk.idsLt p (Store.mem_swapRemove hp)⟩
  slab := fun _ x hx => .inl ⟨x, hx, SameR.refl x⟩
  sum := fun _ => Nat.le_refl _
  link := fun k h => by
    obtain ⟨p, hp, rfl⟩ := List.mem_map.1 h
    exact .inl (List.mem_map_of_mem (Store.mem_swapRemove hp))

/-- the remapping branch of `Store::insert`: the entry of `id` now points to the fresh key `k` -/
def remap (id k : Nat) (ids : List (Nat × Nat)) : List (Nat × Nat) :=
  ids.map fun e => if e.1 == id then (id, k) else e

theorem remap_fst (id k : Nat) (ids : List (Nat × Nat)) : (remap id k ids).map (·.1) = ids.map (·.1) := by
  unfold remap
  rw [List.map_map]
  apply List.map_congr_left
  intro e _
  simp only [Function.comp]
  split
  · next h => exact (by simpa using h : e.1 = id).symm
  · rfl

theorem remap_snd_nodup (id k : Nat) (ids : List (Nat × Nat)) (hid : (ids.map (·.1)).Nodup)
    (hkn : (ids.map (·.2)).Nodup) (hlt : ∀ p ∈ ids, p.2 < k) : ((remap id k ids).map (·.2)).Nodup := by
  induction ids with
  | nil => simp [remap]
  | cons p ids ih =>
    have ih' := ih (List.nodup_cons.1 hid).2 (List.nodup_cons.1 hkn).2 (fun q hq => hlt q (List.mem_cons_of_mem _ hq))
    simp only [List.map_cons, List.nodup_cons, List.mem_map, not_exists, not_and] at hid hkn
    unfold remap at ih' ⊢
    simp only [List.map_cons, List.nodup_cons]
    refine ⟨?_, ih'⟩
    intro hmem
    obtain ⟨q', hq', hq2⟩ := List.mem_map.1 hmem
    obtain ⟨q, hq, rfl⟩ := List.mem_map.1 hq'
    have hqlt := hlt q (List.mem_cons_of_mem _ hq)
    have hplt := hlt p List.mem_cons_self
    by_cases h1 : p.1 = id
    · by_cases h2 : q.1 = id
      · exact hid.1 q hq (h2.trans h1.symm)
      · simp [h1, h2] at hq2; omega
    · by_cases h2 : q.1 = id
      · simp [h1, h2] at hq2; omega
      · simp [h1, h2] at hq2; exact hkn.1 q hq hq2

theorem insert_keysOK (st : Store) (x : Stream) (hk : KeysOK st) : KeysOK (st.insert x).1 := by
  have hins : (st.insert x).1 = Store.mk (st.slab ++ [{ x with key := st.nextKey }])
      (if st.ids.any (·.1 == x.id) then remap x.id st.nextKey st.ids else st.ids ++ [(x.id, st.nextKey)])
      (st.nextKey + 1) := rfl
  refine ⟨Store.KeysNodup.insert hk.nodup hk.lt x, Store.KeysLt.insert hk.lt x, ?_, ?_, ?_⟩ <;> rw [hins]
  · simp only
    split
    · exact remap_snd_nodup _ _ _ hk.idsIdNodup hk.idsNodup hk.idsLt
    · rw [List.map_append, List.nodup_append]
      refine ⟨hk.idsNodup, by simp, ?_⟩
      intro a ha b hb
      obtain ⟨p, hp, rfl⟩ := List.mem_map.1 ha
      simp only [List.map_cons, List.map_nil, List.mem_singleton] at hb
      have := hk.idsLt p hp
      omega
  · simp only
    split
    · rw [remap_fst]; exact hk.idsIdNodup
    · next hany =>
      rw [List.map_append, List.nodup_append]
      refine ⟨hk.idsIdNodup, by simp, ?_⟩
      intro a ha b hb
      obtain ⟨p, hp, rfl⟩ := List.mem_map.1 ha
      simp only [List.map_cons, List.map_nil, List.mem_singleton] at hb
      subst hb
      intro heq
      apply hany
      simp only [List.any_eq_true]
      exact ⟨p, hp, by simpa using heq⟩
  · intro p hp
    simp only at hp ⊢
    split at hp
    · obtain ⟨q, hq, rfl⟩ := List.mem_map.1 hp
      split
      · simp
      · have := hk.idsLt q hq; omega
    · simp only [List.mem_append, List.mem_singleton] at hp
      rcases hp with hp | rfl
      · have := hk.idsLt p hp; omega
      · simp

theorem insert_ext (s : Streams) (x : Stream) (hi : x.inFlightRecvData = 0)
    (hf : x.recvFlow = newRecvFlow s.recv.initWindowSz) :
    Ext s { s with store := (s.store.insert x).1 } where
  flow := rfl
  infl := rfl
  init := rfl
  nk := by simp [Store.insert]
  keys := fun hk => insert_keysOK _ _ hk
  slab := fun _ y hy => by
    simp only [Store.insert, List.mem_append, List.mem_singleton] at hy
    rcases hy with hy | rfl
    · exact .inl ⟨y, hy, SameR.refl y⟩
    · exact .inr ⟨Nat.le_refl _, hi, .inl hf⟩
  sum := fun _ => by simp [Store.insert, hi]
  link := fun k h => by
    simp only [Store.insert] at h
    split at h
    · obtain ⟨p, hp, rfl⟩ := List.mem_map.1 h
      obtain ⟨q, hq, rfl⟩ := List.mem_map.1 hp
      split
      · exact .inr (Nat.le_refl _)
      · exact .inl (List.mem_map_of_mem hq)
    · simp only [List.map_append, List.map_cons, List.map_nil, List.mem_append, List.mem_singleton] at h
      rcases h with h | rfl
      · exact .inl h
      · exact .inr (Nat.le_refl _)

theorem insert_ext' (s : Streams) (x : Stream) (store : Store) (k : Nat) (heq : s.store.insert x = (store, k))
    (hi : x.inFlightRecvData = 0) (hf : x.recvFlow = newRecvFlow s.recv.initWindowSz) :
    Ext s { s with store := store } := by
  have : store = (s.store.insert x).1 := by rw [heq]
  rw [this]; exact insert_ext s x hi hf

theorem remove_ext' (s : Streams) (k : Nat) : Ext s { s with store := s.store.remove k } :=
  remove_ext s k s.recvBufferLeaked

theorem unlinkRemove_ext (s : Streams) (id k : Nat) : Ext s { s with store := (s.store.unlink id).remove k } :=
  (unlink_ext s id).trans (remove_ext' _ k)

theorem insert_key (st : Store) (x : Stream) : (st.insert x).2 = st.nextKey := Store.insert_snd st x

end H2V.Lemmas.ConnRecvP
