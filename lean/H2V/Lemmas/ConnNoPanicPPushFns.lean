import H2V.Lemmas.ConnNoPanicPPushBase
/-
  C08 (no panic) — PUSH_PROMISE bookkeeping: the instances of `PF.of_step` that many proofs name, and the functions
  that are not `PF` by their footprint: called through a handle on the stream `k`, they take from `pending_recv` of `k` or
  change its `ref_count`, and are `PF ks` for `k ∈ ks`.  `counts.transition` for a closure that is `PF`.
-/
namespace H2V.Lemmas.ConnNoPanicP
open H2V H2V.Model H2V.Model.Conn H2V.Lemmas.ConnCountsP
attribute [local irreducible] wrapSubU32 wrapSubUsize
variable {ks : List Nat}

theorem recvOpen_pf (s : Streams) (id : Nat) (b : Bool) : PF ks s (s.recvOpen id b).1 :=
  .of_step (Streams.recvOpen_step (by decide) s id b)
theorem sendOpenId_pf (s : Streams) : PF ks s s.sendOpenId.1 := .of_step (Streams.sendOpenId_step (by decide) s)
theorem sendHeaders_pf (s : Streams) (k : Nat) (eos : Bool) (f : List Hpack.Field) : PF ks s (s.sendHeaders k eos f).1 :=
  .of_step (Streams.sendHeaders_step (by decide) s k eos f)
theorem maybeCancel_pf (s : Streams) (k : Nat) : PF ks s (s.maybeCancel k) := .of_step (Streams.maybeCancel_step (by decide) s k)
theorem actionsSendReset_pf (s : Streams) (k : Nat) (r : Reason) (i : Initiator) : PF ks s (s.actionsSendReset k r i).1 :=
  .of_step (Streams.actionsSendReset_step (by decide) s k r i)

theorem clearRecvBuffer_pf (s : Streams) (k : Nat) (b : Bool) (hk : k ∈ ks) : PF ks s (s.clearRecvBuffer k b) := by
  unfold Streams.clearRecvBuffer; pf_auto
theorem releaseClosedCapacity_pf (s : Streams) (k : Nat) (hk : k ∈ ks) : PF ks s (s.releaseClosedCapacity k) := by
  unfold Streams.releaseClosedCapacity; pf_auto
theorem recvPollData_pf (s : Streams) (k : Nat) (t : String) (hk : k ∈ ks) : PF ks s (s.recvPollData k t).1 := by
  unfold Streams.recvPollData; pf_auto
theorem recvPollTrailers_pf (s : Streams) (k : Nat) (t : String) (hk : k ∈ ks) : PF ks s (s.recvPollTrailers k t).1 := by
  unfold Streams.recvPollTrailers; pf_auto
theorem recvPollInformational_pf (s : Streams) (k : Nat) (t : String) (hk : k ∈ ks) : PF ks s (s.recvPollInformational k t).1 := by
  unfold Streams.recvPollInformational; pf_auto
theorem refClearRecvBuffer_pf (s : Streams) (k : Nat) (hk : k ∈ ks) : PF ks s (s.refClearRecvBuffer k) := by
  unfold Streams.refClearRecvBuffer; pf_auto
theorem refPollData_pf (s : Streams) (k : Nat) (t : String) (hk : k ∈ ks) : PF ks s (s.refPollData k t).1 := by
  unfold Streams.refPollData; pf_auto

theorem transition_pf {α : Type} (s : Streams) (k : Nat) (f : Streams → Streams × α) (hf : ∀ s, PF ks s (f s).1) :
    PF ks s (s.transition k f).1 :=
  Streams.transition_rel pf_relOK s k f (hf s) (fun _ _ => transitionAfter_pf _ _ _)

theorem refInc_pf (s : Streams) (k : Nat) (hk : k ∈ ks) : PF ks s (s.refInc k) := by
  unfold Streams.refInc; pf_auto
theorem cloneStreamRef_pf (s : Streams) (k : Nat) (hk : k ∈ ks) : PF ks s (s.cloneStreamRef k) := by
  unfold Streams.cloneStreamRef; pf_auto
theorem qPopAcc_not_held {s s1 : Streams} {k : Nat} (h : s.qPop .pendingAccept = (s1, some k)) : ¬ Held s1 k := by
  unfold Streams.qPop at h
  split at h
  · cases h
  · next id rest _ =>
    simp only [Prod.mk.injEq, Option.some.injEq] at h
    obtain ⟨h1, h2⟩ := h
    subst h2; subst h1
    intro hc
    have := (flagged_setQueued (s.setQ .pendingAccept rest) id false id).mp hc.1
    rw [if_pos rfl] at this; cases this.1

/-- the new handle raises `ref_count` of the stream just popped from `pending_accept`, which is not held -/
theorem nextIncoming_pf (s : Streams) : PF ks s s.nextIncoming.1 := by
  unfold Streams.nextIncoming
  split
  · next s1 k heq =>
    have h1 : PF ks s s1 := of_fst_eq heq (.of_step (Streams.recvNextIncoming_step (by decide) s))
    have hk1 : ¬ Held s1 k := qPopAcc_not_held (by unfold Streams.recvNextIncoming at heq; exact heq)
    dsimp only
    generalize hs3 : (if (({ s1 with refs := s1.refs + 1 } : Streams).stream k).state.isRemoteReset = true then _ else ({ s1 with refs := s1.refs + 1 } : Streams)) = s3
    have h3 : PF (k :: ks) s1 (s3.refInc k) := by
      refine PF.trans ?_ (refInc_pf s3 k (List.mem_cons_self ..))
      rw [← hs3]
      have h0 : PF (k :: ks) s1 ({ s1 with refs := s1.refs + 1 } : Streams) := .of_store rfl rfl rfl
      split
      · exact h0.trans (modCountsA_pf _ _ _)
      · exact h0
    exact h1.trans (h3.drop_key fun h => hk1 ((h3.held k).mp h))
  · next s1 heq => exact of_fst_eq heq (.of_step (Streams.recvNextIncoming_step (by decide) s))
theorem recvTakeRequest_pf (s : Streams) (k : Nat) (hk : k ∈ ks) : PF ks s (s.recvTakeRequest k).1 := by
  unfold Streams.recvTakeRequest; pf_auto
theorem recvPollResponse_pf (n : Nat) (s : Streams) (k : Nat) (t : String) (hk : k ∈ ks) :
    PF ks s (Streams.recvPollResponse n s k t).1 := by
  have hpop : ∀ s l, PF ks s (s.modStream k fun st => { st with pendingRecv := l }) := fun s l =>
    modStream_pf _ _ _ (.inr ⟨hk, fun _ => ⟨rfl, rfl, rfl⟩⟩)
  induction n generalizing s with
  | zero => exact .refl _ _
  | succ n ih =>
    unfold Streams.recvPollResponse
    split
    · exact hpop _ _
    · exact (hpop _ _).trans (ih _)
    · exact (hpop _ _).trans (panic_pf _ _)
    · split
      · exact .refl _ _
      · exact .refl _ _
      · exact modStream_pf _ _ _ (.inl fun _ => ⟨rfl, rfl, .inl rfl, rfl, .refl _⟩)
theorem dropPre_pf (s : Streams) (k : Nat) (hk : k ∈ ks) : PF ks s (dropPre s k) := by
  unfold dropPre; pf_auto

end H2V.Lemmas.ConnNoPanicP
