import H2V.Lemmas.ConnNoPanicPPollPop
import H2V.Lemmas.ConnRecvPOps
/-
  C08 (no panic): `Recv::send_connection_window_update`, `Recv::send_stream_window_updates`,
  `Recv::buffer_pending`.  Their `expect("unexpected flow control state")` (`inc_window(unclaimed)` fails)
  is dead in every state that satisfies the receive-window invariant `ConnRecvP.Inv true g s` of the C03
  family (`ConnRecvPInv.lean`; `ConnRecvP.reachOk_inv` proves it for the reachable states): the increment is
  `available − window ≤ 2^31-1`.
-/
namespace H2V.Lemmas.ConnNoPanicP
open H2V H2V.Model H2V.Model.Conn H2V.Lemmas.ConnCountsP
attribute [local irreducible] wrapSubU32 wrapSubUsize

theorem St.refl (ks : List Nat) (s : Streams) : St ks s s := ⟨.refl _ _, .refl _, .refl _⟩
theorem St.of_fst_eq {ks : List Nat} {s : Streams} {α : Type} {p : Streams × α} {a : Streams} {x : α}
    (h : p = (a, x)) (e : St ks s p.1) : St ks s a := by subst h; exact e

theorem sendConnectionWindowUpdate_st {full : Bool} {g : ConnRecvP.Ghost} {s : Streams} (hr : ConnRecvP.Inv full g s)
    (w : Writer) : St [] s (s.sendConnectionWindowUpdate w).1 := by
  have hW := hr.w0
  have hcons := hr.cons
  have htHi := hr.tHi
  have hhi := hr.hiMax
  have hA := (Comp.inI32_iff _).1 hr.aI32
  simp only [ConnRecvP.cW, ConnRecvP.cA, ConnRecvP.cI] at hW hcons hA
  unfold Streams.sendConnectionWindowUpdate
  split
  · next incr hu =>
    split
    · exact .refl _ _
    · have hinc := ConnRecvP.incWindow_unclaimed hr.wI32 hr.aI32 hu (by omega)
      rw [hinc.2.2]
      dsimp only
      exact ⟨modRecv_lt _ _, by ev_auto, modRecv_fk _ _⟩
  · exact .refl _ _

/-- the WINDOW_UPDATE of one stream popped from `pending_window_updates` -/
theorem streamWindowUpdate_st {g : ConnRecvP.Ghost} {s : Streams} (hr : ConnRecvP.Inv true g s) (id : Nat) (w : Writer) :
    St [id] s (if !(s.stream id).state.isRecvStreaming then (s, w)
      else match (s.stream id).recvFlow.unclaimedCapacity with
        | some incr =>
          match (s.stream id).recvFlow.incWindow incr with
          | (fl, .ok _) => (s.modStream id fun st => { st with recvFlow := fl }, w.bufferSimple 4 s!"W:{(s.stream id).id}:{incr}")
          | (_, .error _) => (s.panic "unexpected flow control state", w.bufferSimple 4 s!"W:{(s.stream id).id}:{incr}")
        | none => (s, w)).1 ∧
    ConnRecvP.Inv true g (if !(s.stream id).state.isRecvStreaming then (s, w)
      else match (s.stream id).recvFlow.unclaimedCapacity with
        | some incr =>
          match (s.stream id).recvFlow.incWindow incr with
          | (fl, .ok _) => (s.modStream id fun st => { st with recvFlow := fl }, w.bufferSimple 4 s!"W:{(s.stream id).id}:{incr}")
          | (_, .error _) => (s.panic "unexpected flow control state", w.bufferSimple 4 s!"W:{(s.stream id).id}:{incr}")
        | none => (s, w)).1 := by
  split
  · exact ⟨.refl _ _, hr⟩
  · next hrs =>
    have hrs' : (s.stream id).state.isRecvStreaming = true := by simpa using hrs
    split
    · next incr hu =>
      cases hget : s.store.get? id with
      | none =>
        -- a dangling key reads the blank stream: nothing unclaimed
        exfalso
        have hb : s.stream id = { key := id, id := 0 } := by unfold Streams.stream; rw [hget]; rfl
        rw [hb] at hrs'
        cases hrs'
      | some x =>
        have hx := get?_mem hget
        have ok := hr.streams rfl x hx
        rw [stream_of_get? hget] at hrs' hu ⊢
        have hup := ok.update hrs' hu hr.initMax
        rw [hup.2.1]
        dsimp only
        refine ⟨⟨modStream_lt _ _ _ (fun _ => by inert_tac), modStream_ev' _ _ _ (by same_tac),
          modStream_fk _ _ _ (fun _ => by flg_tac)⟩, ?_⟩
        refine hr.modStream id _ (fun _ => Int.le_refl _) (fun _ => rfl) (fun _ _ => Int.le_refl _) ?_
        intro _ y hy ok'
        have : y = x := by
          have := ConnRecvP.stream_eq_of_get? hy
          rw [stream_of_get? hget] at this; exact this.symm
        subst this
        exact hup.2.2
    · exact ⟨.refl _ _, hr⟩

theorem recvBufferPending_fk (s : Streams) (w : Writer) : FK s (s.recvBufferPending w).1 :=
  .of_step (Streams.recvBufferPending_step (by decide) s w)

/-- **`Recv::send_connection_window_update` keeps `NPI`** -/
theorem sendConnectionWindowUpdate_npi {E : Nat → Prop} {full : Bool} {g : ConnRecvP.Ghost} {s : Streams} (h : NPI E s)
    (hr : ConnRecvP.Inv full g s) (w : Writer) : NPI E (s.sendConnectionWindowUpdate w).1 :=
  have st := sendConnectionWindowUpdate_st hr w
  h.lt st.lt.w (liveAll0 s) st.ev noE

/-- **`Recv::send_stream_window_updates` keeps `NPI`** (and the quota fact `ErrOK`) -/
theorem sendStreamWindowUpdates_npi {E : Nat → Prop} {g : ConnRecvP.Ghost} (n : Nat) :
    ∀ {s : Streams}, NPI E s → ErrOK s → ConnRecvP.Inv true g s → ∀ w,
      NPI E (Streams.sendStreamWindowUpdates n s w).1 ∧ ErrOK (Streams.sendStreamWindowUpdates n s w).1 := by
  induction n with
  | zero => intro s h he _ w; unfold Streams.sendStreamWindowUpdates; exact ⟨h, he⟩
  | succ n ih =>
    intro s h he hr w
    have hq := h.qs .pendingWindowUpdates (by decide)
    unfold Streams.sendStreamWindowUpdates
    split
    · exact ⟨h, he⟩
    · split
      · next s1 heq =>
        have hlt := of_fst_eq heq (qPop_ltq s _ hq)
        exact ⟨h.lt hlt.w (liveAll0 s) (of_fst_eq heq (qPop_ev (ρ := false) _ _ (by decide) (by decide))) noE, hlt.err.errOK he⟩
      · next s1 id heq =>
        have hl := (qPopQ_live hq heq).2.1
        have hlt := of_fst_eq heq (qPop_ltq s _ hq)
        have h1 : NPI E s1 := h.lt hlt.w (liveAll0 s) (of_fst_eq heq (qPop_ev (ρ := false) _ _ (by decide) (by decide))) noE
        have he1 : ErrOK s1 := hlt.err.errOK he
        have hr1 : ConnRecvP.Inv true g s1 := by
          have := hr.of_ext (ConnRecvP.qPop_ext s .pendingWindowUpdates); rw [heq] at this; exact this
        have hsw := streamWindowUpdate_st hr1 id w
        dsimp only
        generalize (if (!(s1.stream id).state.isRecvStreaming) = true then (s1, w) else _) = p at hsw ⊢
        obtain ⟨s2, w2⟩ := p
        have h2 : NPI E s2 := h1.lt hsw.1.lt.w (liveAll1 hl) hsw.1.ev noE
        have he2 : ErrOK s2 := hsw.1.lt.err.errOK he1
        exact ih (transitionAfter_npi h2 he2 id _ (fun hb => hsw.1.ev.mono.resetAt id hb))
          ((transitionAfter_errSame _ _ _).errOK he2)
          (ConnRecvP.InvD.of_ext hsw.2 (ConnRecvP.transitionAfter_ext _ _ _)) _

/-- **`Recv::buffer_pending` keeps `NPI`** (task form): the `expect("unexpected flow control state")`s are dead
    under the receive-window invariant -/
theorem recvBufferPending_npi {E : Nat → Prop} {g : ConnRecvP.Ghost} {s : Streams} (h : NPI E s) (he : ErrOK s)
    (hr : ConnRecvP.Inv true g s) (w : Writer) : NPI E (s.recvBufferPending w).1 ∧ ErrOK (s.recvBufferPending w).1 := by
  have st := sendConnectionWindowUpdate_st hr w
  have h1 := sendConnectionWindowUpdate_npi h hr w
  have he1 := st.lt.err.errOK he
  have hr1 := ConnRecvP.sendConnectionWindowUpdate_inv hr w
  unfold Streams.recvBufferPending
  split
  · next s1 w1 heq => rw [heq] at h1 he1; exact ⟨h1, he1⟩
  · next s1 w1 heq => rw [heq] at h1 he1 hr1; exact sendStreamWindowUpdates_npi _ h1 he1 hr1 _

/-- `Recv::buffer_pending` keeps the bundle -/
theorem recvBufferPending_pi {E : Nat → Prop} {g : ConnRecvP.Ghost} {s : Streams} (h : PI E s) (hr : ConnRecvP.Inv true g s)
    (w : Writer) : PI E (s.recvBufferPending w).1 :=
  have r := recvBufferPending_npi h.npi h.err hr w
  ⟨r.1, r.2, (recvBufferPending_fk s w).fi h.npi.ids.nodup h.fi⟩

end H2V.Lemmas.ConnNoPanicP
