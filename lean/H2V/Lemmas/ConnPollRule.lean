import H2V.Lemmas.ConnCtlPTrace
/-
  `Connection::poll` walked once.  `Conn.poll2Loop`, `Conn.poll2`, `Conn.protoPoll` and `Conn.clientPoll` keep a
  predicate `I` on connections as soon as every function they call keeps it (`PollInv I J`: one obligation per call).

  Some obligations need to know where the connection stands in a turn of `poll2`'s loop.  They are not given facts
  about that (which facts depends on the invariant) but the equations that say how the state was reached: `Turn c0 c`.
  `J c f` is the state in which frame `f` (or end of input) is handed to `recv_frame`; with `J := fun c _ => I c` and
  `PollInv.simple` the rule asks for the unconditional "`g` keeps `I`" of each function `g` only.

  Two of those functions, `poll_ready` and `send_pending_go_away`, are walked here as well (`ReadyInv I`: one obligation per
  thing they do to the connection); `ReadyInv.pollReady` and `ReadyInv.sendPendingGoAway` are `PollInv`'s two fields.
  (The traced walk of the same functions, with the events they emit, is `ReadyRule` of ConnCtlPRule.)
-/
namespace H2V.Lemmas.ConnPoll
open H2V H2V.Model H2V.Model.Conn H2V.Lemmas.ConnCtlP

/-- in a turn of `poll2`'s loop that started in `c0`, `c` is the state in which a frame is read:
    `send_pending_go_away` let the turn go on, `poll_ready` answered `Ready(Ok)` -/
def Turn (c0 c : Conn) : Prop :=
  ∃ c1 st, c0.sendPendingGoAway = (c1, st) ∧
    (st = .none ∨ ∃ r, st = .reason r ∧ c1.goAway.shouldCloseNow = false) ∧ c1.pollReady = (c, .ok)

/-- what `FramedRead::poll_next` hands to `recv_frame` -/
def polledFrame : Polled → Option Frame.Frame
  | .frame f => some f
  | _ => none

/-- the two fuel markers of the model: `poll2Loop` and `protoPoll` record them when their fuel is used up -/
def PollFuelMsg (m : String) : Prop := m = "model: poll2 out of fuel" ∨ m = "model: poll out of fuel"

/-- one obligation per function that `Connection::poll` calls -/
structure PollInv (I : Conn → Prop) (J : Conn → Option Frame.Frame → Prop) : Prop where
  panic : ∀ c m, PollFuelMsg m → I c → I (c.panic m)
  sendPendingGoAway : ∀ c, I c → I c.sendPendingGoAway.1
  pollReady : ∀ c, I c → I c.pollReady.1
  /-- `FramedRead::poll_next` in the state `poll_ready` left -/
  pollNext : ∀ c0 c n, I c0 → I c → Turn c0 c →
    J { c with codec := (pollNext n c.codec c.cx).1 } (polledFrame (pollNext n c.codec c.cx).2)
  ofJ : ∀ c f, J c f → I c
  /-- `recv_frame`, and `recv_settings` when it answers `Settings` -/
  dispatch : ∀ c f, J c f → I (poll2Dispatch (fun c => (c, .pending)) c f).1
  clearExpiredResetStreams : ∀ c n, I c → I { c with streams := Streams.clearExpiredResetStreams n c.streams }
  handlePoll2Result : ∀ c r, I c → I (c.handlePoll2Result r).1
  pollComplete : ∀ c n, I c → I { c with
    streams := (Streams.pollComplete n c.streams c.codec.w c.codec.io c.cx).1,
    codec := { c.codec with w := (Streams.pollComplete n c.streams c.codec.w c.codec.io c.cx).2.1,
                            io := (Streams.pollComplete n c.streams c.codec.w c.codec.io c.cx).2.2.1 } }
  goAwayNow : ∀ c e, I c → I (c.goAwayNow e)
  shutdown : ∀ c, I c → I { c with codec := { c.codec with w := (shutdownW c.codec.w c.codec.io c.cx).1,
                                                           io := (shutdownW c.codec.w c.codec.io c.cx).2.1 } }
  closed : ∀ c r i, I c → I { c with state := .closed r i }
  takeError : ∀ c o i, I c → I (c.takeError o i).1
  wake : ∀ c, I c → I { c with streams := c.streams.wake [c.cx] }

variable {I : Conn → Prop} {J : Conn → Option Frame.Frame → Prop}

theorem of_fst {α : Type} {x : Conn × α} {c : Conn} {a : α} (h : I x.1) (e : x = (c, a)) : I c := by subst e; exact h

theorem poll2Dispatch_inv (R : PollInv I J) (k : Conn → Conn × PollRes) (hk : ∀ c, I c → I (k c).1) {c : Conn}
    {f : Option Frame.Frame} (h : J c f) : I (poll2Dispatch k c f).1 := by
  have d := R.dispatch c f h
  unfold poll2Dispatch at d ⊢
  split
  · rename_i heq; rw [heq] at d; exact d
  · rename_i heq; rw [heq] at d; exact hk _ d
  · rename_i heq; rw [heq] at d; exact d
  · rename_i c1 a v heq
    rw [heq] at d
    dsimp only at d ⊢
    split
    · rename_i heq2; rw [heq2] at d; exact d
    · rename_i heq2; rw [heq2] at d; exact hk _ d

theorem poll2Read_inv (R : PollInv I J) (k : Conn → Conn × PollRes) (hk : ∀ c, I c → I (k c).1) {c0 c : Conn}
    (h0 : I c0) (h : I c) (ht : Turn c0 c) : I (poll2Read k c).1 := by
  unfold poll2Read
  have j := R.pollNext c0 c (c.codec.r.buf.length + c.codec.io.rd.length + 2) h0 h ht
  rcases hp : pollNext (c.codec.r.buf.length + c.codec.io.rd.length + 2) c.codec c.cx with ⟨codec, polled⟩
  rw [hp] at j
  dsimp only at j ⊢
  split
  · exact R.ofJ _ _ j
  · exact R.ofJ _ _ j
  · exact R.ofJ _ _ j
  · exact poll2Dispatch_inv R k hk j

theorem poll2GoOn_inv (R : PollInv I J) (k : Conn → Conn × PollRes) (hk : ∀ c, I c → I (k c).1) {c0 c1 : Conn}
    {st : Conn.GoAwayPoll} (h0 : I c0) (e : c0.sendPendingGoAway = (c1, st))
    (hst : st = .none ∨ ∃ r, st = .reason r ∧ c1.goAway.shouldCloseNow = false) : I (poll2GoOn k c1).1 := by
  have h1 : I c1 := of_fst (R.sendPendingGoAway c0 h0) e
  have h2 := R.pollReady c1 h1
  unfold poll2GoOn
  split
  · rename_i heq; exact of_fst h2 heq
  · rename_i heq; exact of_fst h2 heq
  · rename_i c2 heq; exact poll2Read_inv R k hk h0 (of_fst h2 heq) ⟨c1, st, e, hst, heq⟩

theorem poll2Loop_inv (R : PollInv I J) (fuel : Nat) {c : Conn} (h : I c) : I (Conn.poll2Loop fuel c).1 := by
  induction fuel generalizing c with
  | zero => exact R.panic c _ (.inl rfl) h
  | succ fuel ih =>
    rw [poll2Loop_succ]
    have h1 := R.sendPendingGoAway c h
    split
    · rename_i heq; exact of_fst h1 heq
    · rename_i heq; exact of_fst h1 heq
    · rename_i c1 r heq
      split
      · split <;> exact of_fst h1 heq
      · rename_i hns
        exact poll2GoOn_inv R _ (fun c hc => ih hc) h heq (.inr ⟨r, rfl, by simpa using hns⟩)
    · rename_i heq; exact poll2GoOn_inv R _ (fun c hc => ih hc) h heq (.inl rfl)

theorem poll2_inv (R : PollInv I J) (fuel : Nat) {c : Conn} (h : I c) : I (Conn.poll2 fuel c).1 :=
  poll2Loop_inv R fuel (R.clearExpiredResetStreams c _ h)

theorem protoPoll_inv (R : PollInv I J) (fuel : Nat) {c : Conn} (h : I c) : I (Conn.protoPoll fuel c).1 := by
  induction fuel generalizing c with
  | zero => exact R.panic c _ (.inr rfl) h
  | succ fuel ih =>
    unfold Conn.protoPoll
    split
    · have h1 := poll2_inv R (fuel + 1) h
      split
      · rename_i c1 result heq
        have h2 := R.handlePoll2Result c1 result (of_fst h1 heq)
        split
        · rename_i heq2; exact ih (of_fst h2 heq2)
        · rename_i heq2; exact of_fst h2 heq2
      · rename_i c1 heq
        have h2 := R.pollComplete c1 (fuel + 1) (of_fst h1 heq)
        rcases hp : Streams.pollComplete (fuel + 1) c1.streams c1.codec.w c1.codec.io c1.cx with ⟨s, w, io, r⟩
        rw [hp] at h2
        dsimp only at h2 ⊢
        split
        · exact h2
        · exact h2
        · split
          · exact ih (R.goAwayNow _ _ h2)
          · exact h2
    · dsimp only
      have h1 := R.shutdown c h
      rcases hp : shutdownW c.codec.w c.codec.io c.cx with ⟨w, io, r⟩
      rw [hp] at h1
      dsimp only at h1 ⊢
      split
      · exact h1
      · exact h1
      · exact ih (R.closed _ _ _ h1)
    · dsimp only
      exact R.takeError c _ _ h

theorem clientPoll_inv (R : PollInv I J) (fuel : Nat) {c : Conn} (h : I c) : I (Conn.clientPoll fuel c).1 := by
  unfold Conn.clientPoll
  dsimp only
  have h1 : I (if (!c.hasStreamsOrOtherReferences) = true then c.goAwayNow NO_ERROR else c) := by
    split
    · exact R.goAwayNow c _ h
    · exact h
  generalize (if (!c.hasStreamsOrOtherReferences) = true then c.goAwayNow NO_ERROR else c) = c1 at h1 ⊢
  have h2 := protoPoll_inv R fuel h1
  repeat' split
  all_goals first | exact h2 | exact R.wake _ h2

/-- the rule for an invariant that every function keeps wherever it is called -/
theorem PollInv.simple (panic : ∀ c m, PollFuelMsg m → I c → I (c.panic m))
    (sendPendingGoAway : ∀ c, I c → I c.sendPendingGoAway.1) (pollReady : ∀ c, I c → I c.pollReady.1)
    (codec : ∀ c codec, I c → I { c with codec := codec })
    (recvFrame : ∀ c f, I c → I (c.recvFrame f).1) (recvSettings : ∀ c a v, I c → I (c.recvSettings a v).1)
    (clearExpiredResetStreams : ∀ c n, I c → I { c with streams := Streams.clearExpiredResetStreams n c.streams })
    (handlePoll2Result : ∀ c r, I c → I (c.handlePoll2Result r).1)
    (pollComplete : ∀ c n, I c → I { c with
      streams := (Streams.pollComplete n c.streams c.codec.w c.codec.io c.cx).1,
      codec := { c.codec with w := (Streams.pollComplete n c.streams c.codec.w c.codec.io c.cx).2.1,
                              io := (Streams.pollComplete n c.streams c.codec.w c.codec.io c.cx).2.2.1 } })
    (goAwayNow : ∀ c e, I c → I (c.goAwayNow e)) (closed : ∀ c r i, I c → I { c with state := .closed r i })
    (takeError : ∀ c o i, I c → I (c.takeError o i).1) (wake : ∀ c, I c → I { c with streams := c.streams.wake [c.cx] }) :
    PollInv I (fun c _ => I c) where
  panic := panic
  sendPendingGoAway := sendPendingGoAway
  pollReady := pollReady
  pollNext := fun _ c _ _ h _ => codec c _ h
  ofJ := fun _ _ h => h
  dispatch := fun c f h => by
    have h1 := recvFrame c f h
    unfold poll2Dispatch
    split
    · rename_i heq; exact of_fst h1 heq
    · rename_i heq; exact of_fst h1 heq
    · rename_i heq; exact of_fst h1 heq
    · rename_i c1 a v heq
      have h2 := recvSettings c1 a v (of_fst h1 heq)
      dsimp only
      split
      · rename_i heq2; exact of_fst h2 heq2
      · rename_i heq2; exact of_fst h2 heq2
  clearExpiredResetStreams := clearExpiredResetStreams
  handlePoll2Result := handlePoll2Result
  pollComplete := pollComplete
  goAwayNow := goAwayNow
  shutdown := fun c h => codec c _ h
  closed := closed
  takeError := takeError
  wake := wake

/-- what an applied SETTINGS frame of the peer does to the writer (`v1`, `v5`: its HEADER_TABLE_SIZE and MAX_FRAME_SIZE) -/
def writerSettings (w : Writer) (v1 v5 : Option Nat) : Writer :=
  let w := match v1 with | some v => { w with hpack := w.hpack.updateMaxSize v } | none => w
  match v5 with | some v => { w with maxFrameSize := v } | none => w

/-- one obligation per thing `Connection::poll_ready` (`send_pending_pong`, `send_pending_ping`, `Settings::poll_send`,
    `send_pending_refusal`) and `send_pending_go_away` do to the connection; the three equations hand on what the function
    has just read (the pending PING, the peer's SETTINGS, the local SETTINGS to send) -/
structure ReadyInv (I : Conn → Prop) : Prop where
  codecPollReady : ∀ c, I c → I c.codecPollReady.1
  buffer : ∀ c n r, I c → I (c.bufferSimple n r)
  goAwayDone : ∀ c, I c → I { c with goAway := { c.goAway with pending := none } }
  pongDone : ∀ c, I c → I { c with pingPong := { c.pingPong with pendingPong := none } }
  pingSent : ∀ c p, I c → c.pingPong.pendingPing = some p →
    I { c with pingPong := { c.pingPong with pendingPing := some { p with sent := true } } }
  userPings : ∀ c u, I c → I { c with pingPong := { c.pingPong with userPings := some u } }
  remoteSeen : ∀ c, I c → I { c with settings := { c.settings with hasReceivedRemoteInitialSettings := true } }
  applyRemote : ∀ c v i, I c → c.settings.remote = some v → I { c with streams := (c.streams.applyRemoteSettings v i).1 }
  writer : ∀ c v1 v5, I c → I { c with codec := { c.codec with w := writerSettings c.codec.w v1 v5 } }
  remoteDone : ∀ c, I c → I { c with settings := { c.settings with remote := none } }
  localSent : ∀ c v, I c → c.settings.loc = .toSend v → I { c with settings := { c.settings with loc := .waitingAck v } }
  refusal : ∀ c, I c → I { c with
    streams := (Streams.pollSendPendingRefusal 4 c.streams c.codec.w c.codec.io c.cx).1,
    codec := { c.codec with w := (Streams.pollSendPendingRefusal 4 c.streams c.codec.w c.codec.io c.cx).2.1,
                            io := (Streams.pollSendPendingRefusal 4 c.streams c.codec.w c.codec.io c.cx).2.2.1 } }

/-- `send_pending_go_away` asks for three of the obligations only -/
theorem sendPendingGoAway_inv {I : Conn → Prop} (codecPollReady : ∀ c, I c → I c.codecPollReady.1)
    (buffer : ∀ c n r, I c → I (c.bufferSimple n r))
    (done : ∀ c, I c → I { c with goAway := { c.goAway with pending := none } }) {c : Conn} (h : I c) :
    I c.sendPendingGoAway.1 := by
  unfold Conn.sendPendingGoAway
  split
  · rcases e : c.codecPollReady with ⟨c1, st⟩
    have h1 := of_fst (codecPollReady c h) e
    cases st with
    | pending => exact h1
    | err e => exact done c1 h1
    | ok => exact buffer _ _ _ (done c1 h1)
  · (repeat' split) <;> exact h

namespace ReadyInv
variable {I : Conn → Prop} (R : ReadyInv I)
include R

/-- `dst.poll_ready(cx)` answers with the connection it was asked on but for the codec -/
theorem codec {c c1 : Conn} {st : Conn.Step} (h : I c) (e : c.codecPollReady = (c1, st)) :
    I c1 ∧ c1.pingPong = c.pingPong ∧ c1.settings = c.settings :=
  ⟨of_fst (R.codecPollReady c h) e, (congrArg (·.1.pingPong) e).symm, (congrArg (·.1.settings) e).symm⟩

theorem sendPendingGoAway {c : Conn} (h : I c) : I c.sendPendingGoAway.1 :=
  sendPendingGoAway_inv R.codecPollReady R.buffer R.goAwayDone h

theorem sendPendingPong {c : Conn} (h : I c) : I c.sendPendingPong.1 := by
  unfold Conn.sendPendingPong
  split
  · rcases e : c.codecPollReady with ⟨c1, st⟩
    have h1 := (R.codec h e).1
    cases st with
    | pending => exact h1
    | err e => exact R.pongDone c1 h1
    | ok => exact R.buffer _ _ _ (R.pongDone c1 h1)
  · exact h

theorem sendPendingPing {c : Conn} (h : I c) : I c.sendPendingPing.1 := by
  unfold Conn.sendPendingPing
  split
  · next ping hp =>
    split
    · rcases e : c.codecPollReady with ⟨c1, st⟩
      obtain ⟨h1, e1, -⟩ := R.codec h e
      cases st with
      | ok => exact R.pingSent _ ping (R.buffer _ _ _ h1) (e1 ▸ hp)
      | _ => exact h1
    · exact h
  · split
    · next u _ =>
      dsimp only
      have h0 := R.userPings c { u with pingTask := some c.cx } h
      split
      · rcases e : Conn.codecPollReady _ with ⟨c1, st⟩
        have h1 := (R.codec h0 e).1
        cases st with
        | ok => exact R.userPings _ _ (R.buffer _ _ _ h1)
        | _ => exact h1
      · exact h0
    · exact h

theorem ackAndApply {c : Conn} (h : I c) {v : List (Nat × Nat)} (hv : c.settings.remote = some v) : I (ackAndApply c v).1 := by
  unfold ConnCtlP.ackAndApply
  dsimp only
  have hb : I (c.bufferSettings true []) := R.buffer c _ _ h
  have h1 := R.applyRemote _ v (!(c.bufferSettings true []).settings.hasReceivedRemoteInitialSettings)
    (R.remoteSeen _ hb) hv
  dsimp only at h1
  generalize Streams.applyRemoteSettings _ v _ = p at h1 ⊢
  obtain ⟨s, res⟩ := p
  cases res with
  | error e => exact h1
  | ok u => exact R.writer _ _ _ h1

theorem settingsPollSend {c : Conn} (h : I c) : I c.settingsPollSend.1 := by
  rw [settingsPollSend_eq]
  have h1 : I (settingsRemotePart c).1 := by
    unfold settingsRemotePart
    split
    · next v hv =>
      rcases e : c.codecPollReady with ⟨c1, st⟩
      obtain ⟨h1, -, e2⟩ := R.codec h e
      cases st with
      | ok => exact R.ackAndApply h1 (e2 ▸ hv)
      | _ => exact h1
    · exact h
  generalize settingsRemotePart c = p at h1 ⊢
  obtain ⟨c1, st⟩ := p
  cases st with
  | ok =>
    unfold settingsLocalPart settingsLocalSend
    have h2 := R.remoteDone c1 h1
    dsimp only
    split
    · next v hv =>
      rcases e : Conn.codecPollReady _ with ⟨c2, st⟩
      obtain ⟨h3, -, e2⟩ := R.codec h2 e
      cases st with
      | ok => exact R.localSent _ v (R.buffer _ _ _ h3) (show c2.settings.loc = _ from e2 ▸ hv)
      | _ => exact h3
    · exact h2
  | _ => exact h1

theorem pollReady {c : Conn} (h : I c) : I c.pollReady.1 := by
  unfold Conn.pollReady
  have h1 := R.sendPendingPong h
  generalize c.sendPendingPong = p at h1 ⊢
  obtain ⟨c1, st⟩ := p
  cases st with
  | ok =>
    have h2 := R.sendPendingPing h1
    dsimp only at h2 ⊢
    generalize c1.sendPendingPing = p at h2 ⊢
    obtain ⟨c2, st⟩ := p
    cases st with
    | ok =>
      have h3 := R.settingsPollSend h2
      dsimp only at h3 ⊢
      generalize c2.settingsPollSend = p at h3 ⊢
      obtain ⟨c3, st⟩ := p
      cases st with
      | ok => exact R.refusal c3 h3
      | _ => exact h3
    | _ => exact h2
  | _ => exact h1

end ReadyInv

end H2V.Lemmas.ConnPoll
