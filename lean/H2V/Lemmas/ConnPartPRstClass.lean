import H2V.Lemmas.ConnPartPRstMain
import H2V.Lemmas.ConnStages
/-
  C09: which stream-level errors (`Error::Reset`) LEAVE the receive entry points of
  `Inner` (everything else is answered in place by `reset_on_recv_stream_err`, whose own result is never a
  stream error), and that an owed RST_STREAM comes out of `pop_frame`.
    recv_reset, recv_window_update : none
    recv_data                      : STREAM_CLOSED for a stream the id map has forgotten
    recv_headers                   : the same (client), and PROTOCOL_ERROR for trailers without END_STREAM
    recv_push_promise              : REFUSED_STREAM for the promised stream when the parent was reset by us
  All of them carry the frame's own stream id (the promised id for PUSH_PROMISE) and `Initiator::Library`;
  `handle_poll2_result` hands them to `Inner::send_reset` (ConnPartPRstMain).
-/
namespace H2V.Lemmas.ConnPartP
open H2V H2V.Model H2V.Model.Conn

def NoStreamErr {α : Type} (r : Except PErr α) : Prop := ∀ sid rs i, r ≠ .error (.reset sid rs i)

theorem NoStreamErr.ok {α : Type} (x : α) : NoStreamErr (.ok x : Except PErr α) := fun _ _ _ h => by cases h
theorem NoStreamErr.goAway {α : Type} (d : Bytes) (r : Reason) (i : Initiator) :
    NoStreamErr (.error (.goAway d r i) : Except PErr α) := fun _ _ _ h => by cases h
theorem NoStreamErr.libraryGoAway {α : Type} (r : Reason) : NoStreamErr (.error (PErr.libraryGoAway r) : Except PErr α) :=
  .goAway _ _ _
theorem NoStreamErr.libraryGoAwayData {α : Type} (r : Reason) (d : String) :
    NoStreamErr (.error (PErr.libraryGoAwayData r d) : Except PErr α) := .goAway _ _ _
theorem NoStreamErr.io {α : Type} (k : String) (m : Option String) :
    NoStreamErr (.error (.io k m) : Except PErr α) := fun _ _ _ h => by cases h

theorem NoStreamErr.ite {α : Type} {c : Prop} [Decidable c] {a b : Streams × Except PErr α} (ha : NoStreamErr a.2)
    (hb : NoStreamErr b.2) : NoStreamErr (if c then a else b).2 := by
  split
  · exact ha
  · exact hb

theorem NoStreamErr.of_err {α β : Type} {r : Except PErr α} {e : PErr} (h : NoStreamErr r) (he : r = .error e) :
    NoStreamErr (.error e : Except PErr β) := by
  intro sid rs i h2
  rw [Except.error.injEq] at h2
  exact h sid rs i (by rw [he, h2])

theorem resetOnRecvStreamErr_noStreamErr (s : Streams) (k : Nat) (res : Except PErr Unit) :
    NoStreamErr (s.resetOnRecvStreamErr k res).2 := by
  unfold Streams.resetOnRecvStreamErr
  split
  · split
    · exact .ok _
    · exact .libraryGoAwayData _ _
  · next hres =>
    intro sid rs i h
    exact hres sid rs i h


theorem recvRecvReset_noStreamErr (s : Streams) (k : Nat) (r : Reason) : NoStreamErr (s.recvRecvReset k r).2 := by
  unfold Streams.recvRecvReset
  simp only
  split
  · next heq =>
    split at heq
    · split at heq
      · cases heq
      · cases heq; exact .libraryGoAwayData _ _
    · cases heq
  · exact .ok _


theorem recvReset_noStreamErr (s : Streams) (id : Nat) (r : Reason) : NoStreamErr (s.recvReset id r).2 := by
  unfold Streams.recvReset
  refine .ite (.libraryGoAway _) (.ite (.ok _) ?_)
  split
  · split
    · exact .libraryGoAway _
    · exact .ok _
  · next k _ =>
    refine .ite (.libraryGoAway _) ?_
    rw [Streams.transition_snd]
    split
    · next s1 e heq =>
      have := recvRecvReset_noStreamErr s k r
      rw [heq] at this; exact this
    · exact .ok _

theorem recvWindowUpdate_noStreamErr (s : Streams) (id inc : Nat) : NoStreamErr (s.recvWindowUpdate id inc).2 := by
  unfold Streams.recvWindowUpdate
  refine .ite ?_ ?_
  · split
    · exact .libraryGoAway _
    · exact .ok _
  · split
    · refine .ite (.libraryGoAway _) ?_
      split
      exact resetOnRecvStreamErr_noStreamErr _ _ _
    · split
      · exact .libraryGoAway _
      · exact .ok _

theorem consumeConnectionWindow_noStreamErr (s : Streams) (sz : Nat) : NoStreamErr (s.consumeConnectionWindow sz).2 := by
  unfold Streams.consumeConnectionWindow
  refine .ite (.libraryGoAway _) ?_
  split
  · exact .libraryGoAway _
  · exact .ok _
  · exact .ok _

theorem ignoreData_noStreamErr (s : Streams) (sz : Nat) : NoStreamErr (s.ignoreData sz).2 := by
  unfold Streams.ignoreData
  split
  · next heq => have := consumeConnectionWindow_noStreamErr s sz; rw [heq] at this; exact this
  · exact .ok _


theorem recvDataBody_noStreamErr (s : Streams) (k : Nat) (p : Bytes) (eos : Bool) (pad : Option Nat) :
    NoStreamErr (s.recvDataBody k p eos pad).2 := by
  unfold Streams.recvDataBody
  split
  split
  exact resetOnRecvStreamErr_noStreamErr _ _ _

/-- `Inner::recv_data`: the only stream error that leaves the function is STREAM_CLOSED for a stream the
    id map has forgotten (nothing but connection flow control has run) -/
theorem recvData_streamErr (s : Streams) (id : Nat) (p : Bytes) (eos : Bool) (pad : Option Nat) (sid : Nat) (rs : Reason)
    (i : Initiator) (h : (s.recvData id p eos pad).2 = .error (.reset sid rs i)) :
    s.store.findKey? id = none ∧ sid = id ∧ rs = STREAM_CLOSED ∧ i = .library ∧
    (s.recvData id p eos pad).1.store = s.store := by
  rw [Streams.recvData_eq] at h ⊢
  split at h
  · next hf =>
    rw [hf]
    simp only
    split at h
    · exfalso
      split at h
      · next s1 e heq =>
        exact (ignoreData_noStreamErr s _).of_err (β := Unit) (by rw [heq]) _ _ _ h
      · cases h
    · split at h
      · split at h
        · exfalso
          next s1 e heq =>
          exact (ignoreData_noStreamErr s _).of_err (β := Unit) (by rw [heq]) _ _ _ h
        · next s1 u heq =>
          simp only [PErr.libraryReset, Except.error.injEq, PErr.reset.injEq] at h
          refine ⟨trivial, h.1.symm, h.2.1.symm, h.2.2.symm, ?_⟩
          have hs1 : s1.store = s.store := by
            have := congrArg (fun x => x.1.store) heq
            simp only at this
            rw [← this]; exact Streams.ignoreData_store _ _
          rw [if_neg ‹_›, if_pos ‹_›]; exact hs1
      · cases h
  · rw [Streams.transition_snd] at h
    exact absurd h (recvDataBody_noStreamErr _ _ _ _ _ _ _ _)

theorem recvOpen_noStreamErr (s : Streams) (id : Nat) (b : Bool) : NoStreamErr (s.recvOpen id b).2 := by
  unfold Streams.recvOpen
  refine .ite (.libraryGoAway _) ?_
  split
  · exact .libraryGoAway _
  · exact .ite (.libraryGoAway _) (.ite (.ok _) (.ok _))

/-- the look-up in `Inner::recv_headers` answers a stream error only for a stream the client has forgotten -/
theorem recvHeadersEntry_streamErr (s : Streams) (hd : HeadersIn) (s1 : Streams) (sid : Nat) (rs : Reason) (i : Initiator)
    (he : s.recvHeadersEntry hd = (s1, .error (.reset sid rs i))) :
    sid = hd.sid ∧ rs = STREAM_CLOSED ∧ i = .library ∧ s.store.findKey? hd.sid = none ∧ s.counts.isServer = false ∧
    s1 = s := by
  unfold Streams.recvHeadersEntry at he
  split at he
  · cases he
  · next hf =>
    split at he
    · next hc =>
      simp only [PErr.libraryReset, Prod.mk.injEq, Except.error.injEq, PErr.reset.injEq] at he
      refine ⟨he.2.1.symm, he.2.2.1.symm, he.2.2.2.symm, hf, ?_, he.1.symm⟩
      simp at hc; exact hc.1
    · exfalso
      split at he
      · next s2 e2 heq2 =>
        simp only [Prod.mk.injEq, Except.error.injEq] at he
        exact (recvOpen_noStreamErr s hd.sid false).of_err (β := Unit) (by rw [heq2]) _ _ _ (by rw [he.2])
      · cases he
      · cases he

/-- the closure of `Inner::recv_headers`: trailers without END_STREAM `return` past `reset_on_recv_stream_err` -/
theorem recvHeadersBody_streamErr (s : Streams) (k : Nat) (hd : HeadersIn) (sid : Nat) (rs : Reason) (i : Initiator)
    (h : (s.recvHeadersBody k hd).2 = .error (.reset sid rs i)) :
    sid = hd.sid ∧ rs = PROTOCOL_ERROR ∧ i = .library ∧ hd.eos = false := by
  unfold Streams.recvHeadersBody at h
  split at h
  · next hc =>
    simp only [PErr.libraryReset, Except.error.injEq, PErr.reset.injEq] at h
    refine ⟨h.1.symm, h.2.1.symm, h.2.2.symm, ?_⟩
    simp at hc; exact hc.2
  · split at h
    exact absurd h (resetOnRecvStreamErr_noStreamErr _ _ _ _ _ _)

/-- `Inner::recv_headers`: two stream errors leave the function — STREAM_CLOSED for a stream the (client's)
    id map has forgotten, nothing done; PROTOCOL_ERROR for trailers without END_STREAM, which `return` out
    of the `transition` closure past `reset_on_recv_stream_err` -/
theorem recvHeaders_streamErr (s : Streams) (hd : HeadersIn) (sid : Nat) (rs : Reason) (i : Initiator)
    (h : (s.recvHeaders hd).2 = .error (.reset sid rs i)) :
    sid = hd.sid ∧ i = .library ∧
    ((rs = STREAM_CLOSED ∧ s.store.findKey? hd.sid = none ∧ s.counts.isServer = false ∧ (s.recvHeaders hd).1 = s) ∨
     (rs = PROTOCOL_ERROR ∧ hd.eos = false)) := by
  rw [Streams.recvHeaders_eq] at h ⊢
  split at h
  · cases h
  · rw [if_neg ‹_›]
    split at h
    · next s1 e heq =>
      simp only at h
      rw [Except.error.injEq] at h
      subst h
      obtain ⟨h1, h2, h3, h4, h5, h6⟩ := recvHeadersEntry_streamErr s hd s1 sid rs i heq
      refine ⟨h1, h3, Or.inl ⟨h2, h4, h5, ?_⟩⟩
      exact h6
    · cases h
    · next s1 k heq =>
      simp only at h
      split at h
      · cases h
      · split at h
        · cases h
        · rw [Streams.transition_snd] at h
          obtain ⟨h1, h2, h3, h4⟩ := recvHeadersBody_streamErr _ _ _ _ _ _ h
          exact ⟨h1, h3, Or.inr ⟨h2, h4⟩⟩

theorem ensureCanReserve_noStreamErr (s : Streams) : NoStreamErr s.ensureCanReserve := by
  unfold Streams.ensureCanReserve
  split
  · exact .libraryGoAway _
  · exact .ok _

theorem pushPromiseBody_noStreamErr (s : Streams) (child : Nat) (h : HeadersIn) :
    NoStreamErr (s.pushPromiseBody child h).2 := by
  unfold Streams.pushPromiseBody
  split
  · exact .ok _
  · exact .ok _
  · next s6 e6 _ =>
    split
    · exact .ok _
    · next s7 e7 heq7 => exact (resetOnRecvStreamErr_noStreamErr s6 child (.error e6)).of_err (by rw [heq7])

theorem pushPromiseChild_noStreamErr (s : Streams) (pk : Nat) (h : HeadersIn) :
    NoStreamErr (s.pushPromiseChild pk h).2 := by
  unfold Streams.pushPromiseChild
  extract_lets s3
  split
  next store child _ =>
  extract_lets s4
  split
  next s5 res htr =>
  split
  · next e =>
    -- the error comes out of the `transition` closure, i.e. out of `reset_on_recv_stream_err`
    have h2 := congrArg Prod.snd htr
    rw [Streams.transition_snd] at h2
    exact (pushPromiseBody_noStreamErr s4 child h).of_err h2
  · exact .ok _
  · exact .ok _

theorem pushPromiseRest_noStreamErr (s : Streams) (pk : Nat) (h : HeadersIn) : NoStreamErr (s.pushPromiseRest pk h).2 := by
  unfold Streams.pushPromiseRest
  split
  · next e he => have := ensureCanReserve_noStreamErr s; rw [he] at this; exact this
  · split
    · next s2 e2 heq2 => exact (recvOpen_noStreamErr s h.sid true).of_err (by rw [heq2])
    · exact .ok _
    · exact pushPromiseChild_noStreamErr _ _ _

/-- the look-up of the initiating stream answers a stream error only for a parent we have reset:
    REFUSED_STREAM for the promised stream -/
theorem ppParent_streamErr (s : Streams) (id : Nat) (h : HeadersIn) (s1 : Streams) (sid : Nat) (rs : Reason) (i : Initiator)
    (he : s.pushPromiseParent id h = (s1, .error (.reset sid rs i))) :
    sid = h.sid ∧ rs = REFUSED_STREAM ∧ i = .library ∧
    ∃ k, s.store.findKey? id = some k ∧ (s.stream k).state.isLocalError = true := by
  unfold Streams.pushPromiseParent at he
  split at he
  · next k hf =>
    split at he
    · cases he
    · split at he
      · next hle =>
        split at he
        · next e1 he1 =>
          exfalso
          have hn := ensureCanReserve_noStreamErr s
          rw [he1] at hn
          simp only [Prod.mk.injEq, Except.error.injEq] at he
          exact hn _ _ _ (by rw [he.2])
        · split at he
          · next s2 e2 heq2 =>
            exfalso
            simp only [Prod.mk.injEq, Except.error.injEq] at he
            exact (recvOpen_noStreamErr s h.sid true).of_err (β := Unit) (by rw [heq2]) _ _ _ (by rw [he.2])
          · simp only [PErr.libraryReset, Prod.mk.injEq, Except.error.injEq, PErr.reset.injEq] at he
            exact ⟨he.2.1.symm, he.2.2.1.symm, he.2.2.2.symm, k, hf, hle⟩
          · cases he
      · split at he
        · cases he
        · cases he
  · cases he

/-- `Inner::recv_push_promise`: the only stream error that leaves the function is REFUSED_STREAM for the
    promised stream, when the initiating stream is one we have reset -/
theorem recvPushPromise_streamErr (s : Streams) (id : Nat) (hd : HeadersIn) (sid : Nat) (rs : Reason) (i : Initiator)
    (h : (s.recvPushPromise id hd).2 = .error (.reset sid rs i)) :
    sid = hd.sid ∧ rs = REFUSED_STREAM ∧ i = .library ∧
    ∃ k, s.store.findKey? id = some k ∧ (s.stream k).state.isLocalError = true := by
  rw [Streams.recvPushPromise_eq] at h
  split at h
  · cases h
  · split at h
    · next s1 e heq =>
      simp only at h
      rw [Except.error.injEq] at h
      subst h
      exact ppParent_streamErr s id hd s1 sid rs i heq
    · cases h
    · next s1 pk heq => exact absurd h (pushPromiseRest_noStreamErr s1 pk hd _ _ _)

/-- **the owed RST_STREAM comes out of `pop_frame`**: when the stream at the head of the connection's
    `pending_send` queue has RST_STREAM(reason) at the head of its own queue, `pop_frame` returns
    RST_STREAM(stream id, reason) -/
theorem popFrame_emits_rst (fuel : Nat) (s : Streams) (maxLen : Nat) (k : Nat) (rest : List Nat) (st : Stream)
    (r : Reason) (more : List SFrame) (hq : s.prio.pendingSend = k :: rest) (hg : s.store.get? k = some st)
    (hp : st.pendingSend = .reset r :: more) :
    (Streams.popFrame (fuel + 1) s maxLen).2 = some (.reset st.id r) := by
  rw [ConnWakeP.popFrameC.eq, ConnWakeP.popFrameC_turn]
  have hpop : s.qPop .pendingSend =
      (((s.setQ .pendingSend rest).modStream k fun x => x.setQueued .pendingSend false), some k) := by
    unfold Streams.qPop
    have : s.getQ .pendingSend = k :: rest := hq
    rw [this]
  have hg1 : (s.setQ .pendingSend rest).store.get? k = some st := hg
  have hst : ((s.setQ .pendingSend rest).modStream k fun x => x.setQueued .pendingSend false).stream k =
      st.setQueued .pendingSend false :=
    ConnWakeP.stream_eq_of_get? (ConnWakeP.get?_modStream_same _ hg1 rfl)
  unfold ConnWakeP.popTurn
  rw [hpop]
  dsimp only
  rw [hst, show (st.setQueued .pendingSend false).pendingSend = .reset r :: more from hp]
  dsimp only [ConnWakeP.popHead]
  rw [hst]
  rfl

/-- **`handle_poll2_result(Err(Reset(id, reason, Library)))` is `Inner::send_reset(id, reason)`**; a
    quota failure becomes the connection error ENHANCE_YOUR_CALM -/
theorem handlePoll2Result_reset (c : Conn) (id : Nat) (reason : Reason) :
    c.handlePoll2Result (.error (.reset id reason .library)) =
      (match c.streams.innerSendReset id reason with
       | (s, .ok _) => ({ c with streams := s }, .ok ())
       | (s, .error g) => (({ c with streams := s }).handleGoAway g.reason (Http.str g.debugData) .library, .ok ())) := rfl

end H2V.Lemmas.ConnPartP
