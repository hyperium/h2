import H2V.Model.CodecWrite
import H2V.Lemmas.CodecSplit
/-
  Codec lemmas (goal D): `FramedWrite` hands the transport exactly the serialisations of the
  buffered items, in order: no octet duplicated, dropped or reordered, whatever the `poll_write`
  answers (partial writes, `Pending`, …).
-/
namespace H2V.Lemmas.Codec
open H2V H2V.Model.Frame H2V.Model.CodecWrite

def nextBytes (maxFrame : Nat) : Option Next → Bytes
  | none => []
  | some (.data rest) => rest
  | some (.continuation sid hpack) => splitBlock (hpack.length + 1) maxFrame 9 4 sid [] hpack

/-- everything the writer has accepted and not yet handed to the transport, in wire order -/
def pendingBytes (w : Writer) : Bytes := w.buf ++ nextBytes w.maxFrame w.next

/-- State invariant.  `Encoder::is_empty` looks only at the DATA payload when `next` is DATA: a writer
    with `next = Data(empty)` and a non-empty `buf` would be "empty" and `unset_frame` would clear
    `buf` unwritten.  `buffer` never builds such a state (the chained payload is never empty because
    `chain_threshold > 0`), and `flush` writes `buf` before the payload. -/
def WF (w : Writer) : Prop := ∀ rest, w.next = some (.data rest) → rest = [] → w.buf = []

/-- without the invariant the statement is false: this writer "flushes" to `.ready` having written
    nothing of its `buf` -/
example : (Writer.flush 10 { buf := [1, 2, 3], next := some (.data []) } [] []).2.2 = ([], .ready) := by decide

@[simp] theorem put_buf (w : Writer) (bs : Bytes) : (w.put bs).buf = w.buf ++ bs := rfl
@[simp] theorem put_next (w : Writer) (bs : Bytes) : (w.put bs).next = w.next := rfl
@[simp] theorem put_maxFrame (w : Writer) (bs : Bytes) : (w.put bs).maxFrame = w.maxFrame := rfl
@[simp] theorem put_chainThreshold (w : Writer) (bs : Bytes) : (w.put bs).chainThreshold = w.chainThreshold := rfl

@[simp] theorem putLimited_buf (w : Writer) (bs : Bytes) : (w.putLimited bs).buf = w.buf ++ bs := rfl
@[simp] theorem putLimited_next (w : Writer) (bs : Bytes) : (w.putLimited bs).next = w.next := rfl
@[simp] theorem putLimited_maxFrame (w : Writer) (bs : Bytes) : (w.putLimited bs).maxFrame = w.maxFrame := rfl
@[simp] theorem putLimited_chainThreshold (w : Writer) (bs : Bytes) :
    (w.putLimited bs).chainThreshold = w.chainThreshold := rfl

theorem putHeaderFrame_eq (w : Writer) (kind flags sid : Nat) (pre hpack : Bytes) :
    w.putHeaderFrame kind flags sid pre hpack =
      if hpack.length > w.maxFrame - pre.length then
        { (w.putLimited ((Head.mk kind (flags - 4) sid).encode (pre.length + (w.maxFrame - pre.length)) ++ pre ++
            hpack.take (w.maxFrame - pre.length))) with
          next := some (.continuation sid (hpack.drop (w.maxFrame - pre.length))) }
      else w.putLimited ((Head.mk kind flags sid).encode (pre.length + hpack.length) ++ pre ++ hpack) := rfl

theorem putHeaderFrame_spec (w : Writer) (kind flags sid : Nat) (pre hpack : Bytes)
    (hn : w.next = none) (hpre : pre.length < w.maxFrame) :
    (w.putHeaderFrame kind flags sid pre hpack).isEmpty = false ∧
    pendingBytes (w.putHeaderFrame kind flags sid pre hpack) =
      w.buf ++ splitBlock (hpack.length + 1) w.maxFrame kind flags sid pre hpack ∧
    WF (w.putHeaderFrame kind flags sid pre hpack) ∧
    (w.putHeaderFrame kind flags sid pre hpack).maxFrame = w.maxFrame ∧
    (w.putHeaderFrame kind flags sid pre hpack).chainThreshold = w.chainThreshold := by
  rw [putHeaderFrame_eq]
  simp only [splitBlock]
  split
  · rename_i hgt
    refine ⟨?_, ?_, ?_, rfl, rfl⟩
    · simp [Writer.isEmpty, Head.encode, be24]
    · simp only [pendingBytes, putLimited_buf, putLimited_maxFrame, nextBytes, List.append_assoc]
      congr 4
      apply splitBlock_fuel
      · simpa using by omega
      · omega
      · simp only [List.length_drop]; omega
    · intro _ h; cases h
  · refine ⟨?_, ?_, ?_, rfl, rfl⟩
    · simp [Writer.isEmpty, hn, Head.encode, be24]
    · simp only [pendingBytes, putLimited_buf, putLimited_next, hn, nextBytes, List.append_nil, List.append_assoc]
    · intro _ h; rw [putLimited_next, hn] at h; cases h

/-- the current chunk of `buf.chain(payload)` -/
def curChunk (w : Writer) : Bytes :=
  if ¬ w.buf.isEmpty then w.buf else match w.next with | some (.data rest) => rest | _ => []

/-- `advance(n)` on the chain -/
def advance (w : Writer) (n : Nat) : Writer :=
  if ¬ w.buf.isEmpty then { w with buf := w.buf.drop n }
  else match w.next with
    | some (.data rest) => { w with next := some (.data (rest.drop n)) }
    | _ => w

theorem flush_succ (fuel : Nat) (w : Writer) (sc : List (Option Nat)) (out : Bytes) :
    Writer.flush (fuel + 1) w sc out =
      if ¬ w.isEmpty then
        match (match sc with | [] => (some (curChunk w).length, []) | a :: rest => (a, rest)) with
        | (none, sc') => (w, sc', out, .pending)
        | (some k, sc') =>
          if min k (curChunk w).length = 0 then (w, sc', out, .writeZero)
          else Writer.flush fuel (advance w (min k (curChunk w).length)) sc'
            (out ++ (curChunk w).take (min k (curChunk w).length))
      else if w.unsetFrame.2 then Writer.flush fuel w.unsetFrame.1 sc out
      else (w.unsetFrame.1, sc, out, .ready) := by
  rw [Writer.flush]
  by_cases he : w.isEmpty = true
  · simp only [he, not_true_eq_false, if_false]
  · simp only [he]
    cases sc with
    | nil => rfl
    | cons a rest => cases a <;> rfl

theorem advance_spec (w : Writer) (hwf : WF w) (hne : ¬ w.isEmpty = true) :
    curChunk w ≠ [] ∧ ∀ n, (curChunk w).take n ++ pendingBytes (advance w n) = pendingBytes w ∧
      WF (advance w n) ∧ (advance w n).maxFrame = w.maxFrame ∧
      (advance w n).chainThreshold = w.chainThreshold := by
  by_cases hb : w.buf = []
  · have hbe : ¬ (¬ w.buf.isEmpty = true) := by simp [hb]
    cases hnx : w.next with
    | none => simp [Writer.isEmpty, hnx, hb] at hne
    | some nx =>
      cases nx with
      | continuation sid hp => simp [Writer.isEmpty, hnx, hb] at hne
      | data rest =>
        have hc : curChunk w = rest := by unfold curChunk; rw [if_neg hbe, hnx]
        have ha : ∀ n, advance w n = { w with next := some (.data (rest.drop n)) } := by
          intro n; unfold advance; rw [if_neg hbe, hnx]
        simp only [Writer.isEmpty, hnx] at hne
        rw [hc]
        refine ⟨by simpa using hne, fun n => ?_⟩
        rw [ha]
        refine ⟨?_, ?_, rfl, rfl⟩
        · simp [pendingBytes, hb, hnx, nextBytes]
        · intro r _ _; exact hb
  · have hbe : ¬ w.buf.isEmpty = true := by simpa using hb
    have hc : curChunk w = w.buf := by unfold curChunk; rw [if_pos hbe]
    have ha : ∀ n, advance w n = { w with buf := w.buf.drop n } := by
      intro n; unfold advance; rw [if_pos hbe]
    rw [hc]
    refine ⟨hb, fun n => ?_⟩
    rw [ha]
    refine ⟨?_, ?_, rfl, rfl⟩
    · simp only [pendingBytes]
      rw [← List.append_assoc, List.take_append_drop]
    · intro r h1 h2
      exact absurd (hwf r h1 h2) hb

theorem pending_ne_of_not_isEmpty (w : Writer) (hwf : WF w) (hne : ¬ w.isEmpty = true) : pendingBytes w ≠ [] := by
  obtain ⟨hc, hn⟩ := advance_spec w hwf hne
  intro h
  have := (hn (curChunk w).length).1
  rw [h, List.take_length] at this
  simp at this
  exact hc this.1

theorem unsetFrame_spec (w : Writer) (hwf : WF w) (hmf : 0 < w.maxFrame) (he : w.isEmpty = true) :
    pendingBytes w.unsetFrame.1 = pendingBytes w ∧ WF w.unsetFrame.1 ∧
    w.unsetFrame.1.maxFrame = w.maxFrame ∧ w.unsetFrame.1.chainThreshold = w.chainThreshold ∧
    (w.unsetFrame.2 = true → w.unsetFrame.1.isEmpty = false) ∧
    (w.unsetFrame.2 = false → pendingBytes w.unsetFrame.1 = []) := by
  cases hnx : w.next with
  | none =>
    have hb : w.buf = [] := by simpa [Writer.isEmpty, hnx] using he
    have hu : w.unsetFrame = ({ w with buf := [], bufLen := 0 }, false) := by
      unfold Writer.unsetFrame; simp only [hnx]
    rw [hu]
    refine ⟨?_, ?_, rfl, rfl, by simp, ?_⟩
    · simp [pendingBytes, hb]
    · intro r h; simp only [hnx] at h; cases h
    · simp [pendingBytes, hnx, nextBytes]
  | some nx =>
    cases nx with
    | data rest =>
      have hr : rest = [] := by simpa [Writer.isEmpty, hnx] using he
      have hb : w.buf = [] := hwf rest hnx hr
      have hu : w.unsetFrame = ({ w with buf := [], bufLen := 0, next := none }, false) := by
        unfold Writer.unsetFrame; simp only [hnx]
      rw [hu]
      refine ⟨?_, ?_, rfl, rfl, by simp, ?_⟩
      · simp [pendingBytes, hnx, hb, hr, nextBytes]
      · intro r h; cases h
      · simp [pendingBytes, nextBytes]
    | continuation sid hp =>
      have hb : w.buf = [] := by simpa [Writer.isEmpty, hnx] using he
      have hu : w.unsetFrame =
          (({ w with buf := [], bufLen := 0, next := none } : Writer).putHeaderFrame 9 4 sid [] hp, true) := by
        unfold Writer.unsetFrame; simp only [hnx]
      rw [hu]
      obtain ⟨h5, h1, h2, h3, h4⟩ :=
        putHeaderFrame_spec { w with buf := [], bufLen := 0, next := none } 9 4 sid [] hp rfl (by simpa using hmf)
      refine ⟨?_, h2, h3, h4, fun _ => h5, by simp⟩
      rw [h1]
      simp [pendingBytes, hnx, hb, nextBytes]

/-- what a `flush` call guarantees about its result `res = (w', sc', out', result)` -/
structure FlushSpec (w : Writer) (sc : List (Option Nat)) (out : Bytes)
    (res : Writer × List (Option Nat) × Bytes × FlushRes) : Prop where
  /-- the octets accepted by the transport are a prefix of what was pending, the rest is still pending -/
  written : ∃ wr, res.2.2.1 = out ++ wr ∧ wr ++ pendingBytes res.1 = pendingBytes w
  wf : WF res.1
  maxFrame : res.1.maxFrame = w.maxFrame
  chainThreshold : res.1.chainThreshold = w.chainThreshold
  /-- the fuel never runs out -/
  noLoop : res.2.2.2 ≠ .loop
  /-- `Ready` exactly when everything has been written -/
  ready : res.2.2.2 = .ready ↔ pendingBytes res.1 = []
  /-- `WriteZero` only if the transport answered `Ok(0)`: that answer is the last one consumed -/
  writeZero : res.2.2.2 = .writeZero → ∃ pre, sc = pre ++ some 0 :: res.2.1
  /-- the answers are consumed in order -/
  script : ∃ pre, sc = pre ++ res.2.1

theorem FlushSpec.step {w w1 : Writer} {sc sc1 : List (Option Nat)} {out wr1 : Bytes}
    {res : Writer × List (Option Nat) × Bytes × FlushRes} (p : List (Option Nat)) (hsc : sc = p ++ sc1)
    (hp : wr1 ++ pendingBytes w1 = pendingBytes w) (hmf : w1.maxFrame = w.maxFrame)
    (hct : w1.chainThreshold = w.chainThreshold)
    (h : FlushSpec w1 sc1 (out ++ wr1) res) : FlushSpec w sc out res := by
  obtain ⟨⟨wr, h1, h2⟩, hwf, hm, hc, hl, hr, hz, ⟨q, hq⟩⟩ := h
  refine ⟨⟨wr1 ++ wr, ?_, ?_⟩, hwf, hm.trans hmf, hc.trans hct, hl, hr, ?_, ⟨p ++ q, ?_⟩⟩
  · rw [h1, List.append_assoc]
  · rw [List.append_assoc, h2, hp]
  · intro hz'
    obtain ⟨pre, hpre⟩ := hz hz'
    exact ⟨p ++ pre, by rw [hsc, hpre, List.append_assoc]⟩
  · rw [hsc, hq, List.append_assoc]

/-- fuel measure: two iterations per pending octet at most (one `unset_frame`, one write) -/
def flushMeasure (w : Writer) : Nat := 2 * (pendingBytes w).length + (if w.isEmpty then 1 else 0)

theorem flush_spec (fuel : Nat) : ∀ (w : Writer) (sc : List (Option Nat)) (out : Bytes),
    WF w → 0 < w.maxFrame → flushMeasure w + 1 ≤ fuel →
    FlushSpec w sc out (Writer.flush fuel w sc out) := by
  induction fuel with
  | zero => intro w sc out _ _ h; omega
  | succ k ih =>
    intro w sc out hwf hmf hfuel
    rw [flush_succ]
    by_cases he : w.isEmpty = true
    · rw [if_neg (by simp [he])]
      obtain ⟨hp, hwf', hmf', hct', hcont, hdone⟩ := unsetFrame_spec w hwf hmf he
      by_cases hc : w.unsetFrame.2 = true
      · rw [if_pos hc]
        have hne := hcont hc
        apply FlushSpec.step (wr1 := []) [] rfl (by simpa using hp) hmf' hct'
        rw [List.append_nil]
        apply ih _ _ _ hwf' (by omega)
        unfold flushMeasure at hfuel ⊢
        rw [hp, hne]
        rw [he] at hfuel
        simp only [if_true] at hfuel
        simp only [Bool.false_eq_true, if_false]
        omega
      · rw [if_neg hc]
        have hdone := hdone (by simpa using hc)
        refine ⟨⟨[], by simp, by simpa using hp⟩, hwf', hmf', hct', by simp, by simp [hdone], by simp, ⟨[], rfl⟩⟩
    · rw [if_pos he]
      obtain ⟨hcne, hadv⟩ := advance_spec w hwf he
      have hclen : 0 < (curChunk w).length := List.length_pos_iff.2 hcne
      have hpne := pending_ne_of_not_isEmpty w hwf he
      have leaf : ∀ (sc' : List (Option Nat)) (r : FlushRes), r ≠ .loop → r ≠ .ready →
          (∃ pre, sc = pre ++ sc') → (r = .writeZero → ∃ pre, sc = pre ++ some 0 :: sc') →
          FlushSpec w sc out (w, sc', out, r) := by
        intro sc' r h1 h2 h3 h4
        exact ⟨⟨[], by simp, by simp⟩, hwf, rfl, rfl, h1, by simp [h2, hpne], h4, h3⟩
      have wstep : ∀ (n : Nat) (p sc' : List (Option Nat)), sc = p ++ sc' → 0 < n → n ≤ (curChunk w).length →
          FlushSpec w sc out (Writer.flush k (advance w n) sc' (out ++ (curChunk w).take n)) := by
        intro n p sc' hsc hn0 hnle
        obtain ⟨h1, h2, h3, h4⟩ := hadv n
        apply FlushSpec.step p hsc h1 h3 h4
        apply ih _ _ _ h2 (by omega)
        have hlen : (pendingBytes w).length = n + (pendingBytes (advance w n)).length := by
          rw [← h1, List.length_append, List.length_take, Nat.min_eq_left hnle]
        unfold flushMeasure at hfuel ⊢
        have he' : w.isEmpty = false := by simpa using he
        rw [he'] at hfuel
        simp only [Bool.false_eq_true, if_false] at hfuel
        split <;> omega
      cases sc with
      | nil =>
        simp only [Nat.min_self]
        rw [if_neg (by omega)]
        exact wstep _ [] [] rfl hclen (Nat.le_refl _)
      | cons a rest =>
        simp only
        cases a with
        | none => exact leaf rest .pending (by simp) (by simp) ⟨[none], rfl⟩ (by simp)
        | some kk =>
          simp only
          by_cases hz : min kk (curChunk w).length = 0
          · rw [if_pos hz]
            have : kk = 0 := by omega
            subst this
            exact leaf rest .writeZero (by simp) (by simp) ⟨[some 0], rfl⟩ (fun _ => ⟨[], rfl⟩)
          · rw [if_neg hz]
            exact wstep _ [some kk] rest rfl (by omega) (Nat.min_le_right _ _)

theorem FlushSpec.exact {w : Writer} {sc : List (Option Nat)} {res : Writer × List (Option Nat) × Bytes × FlushRes}
    (h : FlushSpec w sc [] res) : res.2.2.1 ++ pendingBytes res.1 = pendingBytes w := by
  obtain ⟨wr, h1, h2⟩ := h.written
  rw [h1, List.nil_append, h2]

theorem flush_exact (w : Writer) (sc : List (Option Nat)) (fuel : Nat)
    (hwf : WF w) (hmf : 0 < w.maxFrame) (hfuel : 2 * (pendingBytes w).length + 2 ≤ fuel) :
    FlushSpec w sc [] (Writer.flush fuel w sc []) :=
  flush_spec fuel w sc [] hwf hmf (by unfold flushMeasure; split <;> omega)

theorem flush_prefix (w : Writer) (sc : List (Option Nat)) (fuel : Nat)
    (hwf : WF w) (hmf : 0 < w.maxFrame) (hfuel : 2 * (pendingBytes w).length + 2 ≤ fuel) :
    (Writer.flush fuel w sc []).2.2.1 <+: pendingBytes w :=
  ⟨_, (flush_exact w sc fuel hwf hmf hfuel).exact⟩

/-- the serialisation of an item as the writer in state `w` produces it (HPACK state and
    `max_frame_size` of `w`) -/
def serialise (w : Writer) : Item → Bytes
  | .simple f => (encodeSimple f).getD []
  | .headers sid eos fields =>
    match w.hpack.encode fields with
    | some (_, block) => splitBlock (block.length + 1) w.maxFrame 1 (4 + if eos then 1 else 0) sid [] block
    | none => []
  | .pushPromise sid promised fields =>
    match w.hpack.encode fields with
    | some (_, block) => splitBlock (block.length + 1) w.maxFrame 5 4 sid (be32 promised) block
    | none => []

theorem put_spec (w : Writer) (bs : Bytes) (hn : w.next = none) :
    pendingBytes (w.put bs) = pendingBytes w ++ bs ∧ WF (w.put bs) ∧
      (w.put bs).maxFrame = w.maxFrame ∧ (w.put bs).chainThreshold = w.chainThreshold := by
  refine ⟨by simp [pendingBytes, hn, nextBytes], fun r h => ?_, rfl, rfl⟩
  rw [put_next, hn] at h
  cases h

/-- For DATA on the chain path the cut between `buf` and `next` is invisible.  Preconditions of the
    second part: the one the Rust asserts (`has_capacity`, here only `next = none` matters), a positive
    chain threshold and room for the PUSH_PROMISE prefix. -/
theorem buffer_spec (w w' : Writer) (it : Item) (r : BufRes) (h : w.buffer it = (w', r)) :
    r ≠ .ok ∧ w' = w ∨
    r = .ok ∧ (w.next = none → 0 < w.chainThreshold → 4 < w.maxFrame →
      pendingBytes w' = pendingBytes w ++ serialise w it ∧ WF w' ∧
        w'.maxFrame = w.maxFrame ∧ w'.chainThreshold = w.chainThreshold) := by
  cases it with
  | simple f =>
    cases f with
    | data sid payload eos pad =>
      simp only [Writer.buffer] at h
      split at h
      · cases h; exact .inl ⟨by decide, rfl⟩
      · split at h
        · rename_i hlen
          by_cases h3 : (w.put ((Head.mk 0 (if eos then 1 else 0) sid).encode payload.length)).bufLen < w.chainThreshold
          · rw [if_pos h3] at h
            cases h
            refine .inr ⟨rfl, fun hn hct _ => ⟨?_, ?_, rfl, rfl⟩⟩
            · simp only [pendingBytes, put_buf, nextBytes, hn, serialise, encodeSimple,
                Option.getD_some, List.append_assoc, List.append_nil, List.take_append_drop]
            · intro rest hr hr0
              simp only [Next.data.injEq, Option.some.injEq] at hr
              exfalso
              have : (payload.drop (w.chainThreshold - (w.put ((Head.mk 0 (if eos then 1 else 0) sid).encode payload.length)).buf.length)).length = 0 := by
                rw [hr, hr0]; rfl
              simp only [List.length_drop, put_buf, List.length_append, Head.encode_length] at this
              omega
          · rw [if_neg h3] at h
            cases h
            refine .inr ⟨rfl, fun hn hct _ => ⟨?_, ?_, rfl, rfl⟩⟩
            · simp only [pendingBytes, put_buf, nextBytes, hn, serialise, encodeSimple,
                Option.getD_some, List.append_assoc, List.append_nil]
            · intro rest hr hr0
              simp only [Next.data.injEq, Option.some.injEq] at hr
              exfalso
              have : payload.length = 0 := by rw [hr, hr0]; rfl
              omega
        · cases h
          exact .inr ⟨rfl, fun hn _ _ => put_spec w _ hn⟩
    | priority | headers | pushPromise => cases h; exact .inl ⟨by decide, rfl⟩
    | reset | settings | ping | goAway | windowUpdate =>
      cases h
      exact .inr ⟨rfl, fun hn _ _ => put_spec w _ hn⟩
  | headers sid _ fields | pushPromise sid _ fields =>
    simp only [Writer.buffer] at h
    simp only [serialise]
    cases henc : w.hpack.encode fields with
    | none => rw [henc] at h; cases h; exact .inl ⟨by decide, rfl⟩
    | some x =>
      rw [henc] at h
      cases h
      refine .inr ⟨rfl, fun hn _ hmf => ?_⟩
      rw [show pendingBytes w = w.buf by simp [pendingBytes, hn, nextBytes]]
      exact (putHeaderFrame_spec { w with hpack := x.1 } _ _ _ _ _ hn (by simpa using by omega)).2

theorem buffer_refused (w : Writer) (it : Item) (h : (w.buffer it).2 ≠ .ok) : (w.buffer it).1 = w :=
  (buffer_spec w _ it _ rfl).elim (·.2) fun h' => absurd h'.1 h

/-- what the connection does with the writer -/
inductive Op where
  | buffer (it : Item)
  | flush (sc : List (Option Nat))     -- one `flush` call against these `poll_write` answers

/-- run a sequence of operations.  Result: (writer, octets accepted by the transport, concatenated
    serialisations of the items `buffer` accepted).  `buffer` is only called with `has_capacity`
    (the Rust asserts it); a refused item changes nothing. -/
def run : Writer → List Op → Writer × Bytes × Bytes
  | w, [] => (w, [], [])
  | w, .buffer it :: ops =>
    if w.hasCapacity = true ∧ (w.buffer it).2 = .ok then
      ((run (w.buffer it).1 ops).1, (run (w.buffer it).1 ops).2.1,
        serialise w it ++ (run (w.buffer it).1 ops).2.2)
    else run w ops
  | w, .flush sc :: ops =>
    ((run (w.flush (2 * (pendingBytes w).length + 2) sc []).1 ops).1,
      (w.flush (2 * (pendingBytes w).length + 2) sc []).2.2.1 ++
        (run (w.flush (2 * (pendingBytes w).length + 2) sc []).1 ops).2.1,
      (run (w.flush (2 * (pendingBytes w).length + 2) sc []).1 ops).2.2)

theorem next_none_of_hasCapacity (w : Writer) (h : w.hasCapacity = true) : w.next = none := by
  unfold Writer.hasCapacity at h
  simp only [Bool.and_eq_true, Option.isNone_iff_eq_none] at h
  exact h.1

/-- WRITER EXACTNESS over any interleaving of `buffer` and `flush` with arbitrary partial writes:
    (accepted octets) ++ (still pending) = (pending at the start) ++ (serialisations, in order). -/
theorem writer_bytes_exact (ops : List Op) : ∀ (w : Writer), WF w → 0 < w.chainThreshold → 4 < w.maxFrame →
    (run w ops).2.1 ++ pendingBytes (run w ops).1 = pendingBytes w ++ (run w ops).2.2 := by
  induction ops with
  | nil => intro w _ _ _; simp [run]
  | cons op ops ih =>
    intro w hwf hct hmf
    cases op with
    | buffer it =>
      simp only [run]
      by_cases hc : w.hasCapacity = true ∧ (w.buffer it).2 = .ok
      · rw [if_pos hc]
        obtain ⟨h1, h2, h3, h4⟩ := (buffer_spec w (w.buffer it).1 it (w.buffer it).2 rfl).elim (fun h' => absurd hc.2 h'.1)
          fun h' => h'.2 (next_none_of_hasCapacity w hc.1) hct hmf
        have := ih (w.buffer it).1 h2 (by omega) (by omega)
        simp only
        rw [this, h1, List.append_assoc]
      · rw [if_neg hc]
        exact ih w hwf hct hmf
    | flush sc =>
      simp only [run]
      have s := flush_exact w sc _ hwf (by omega) (Nat.le_refl _)
      have := ih (w.flush (2 * (pendingBytes w).length + 2) sc []).1 s.wf (by rw [s.chainThreshold]; exact hct)
        (by rw [s.maxFrame]; exact hmf)
      rw [List.append_assoc, this, ← List.append_assoc, s.exact]

theorem writer_bytes_prefix (ops : List Op) (w : Writer) (hidle : pendingBytes w = [])
    (hct : 0 < w.chainThreshold) (hmf : 4 < w.maxFrame) :
    (run w ops).2.1 ++ pendingBytes (run w ops).1 = (run w ops).2.2 ∧
    (run w ops).2.1 <+: (run w ops).2.2 := by
  have hwf : WF w := by
    intro r _ _
    unfold pendingBytes at hidle
    exact (List.append_eq_nil_iff.1 hidle).1
  have := writer_bytes_exact ops w hwf hct hmf
  rw [hidle, List.nil_append] at this
  exact ⟨this, ⟨_, this⟩⟩

theorem writer_bytes_all (ops : List Op) (w : Writer) (hidle : pendingBytes w = [])
    (hct : 0 < w.chainThreshold) (hmf : 4 < w.maxFrame) (hdone : pendingBytes (run w ops).1 = []) :
    (run w ops).2.1 = (run w ops).2.2 := by
  have := (writer_bytes_prefix ops w hidle hct hmf).1
  rwa [hdone, List.append_nil] at this

/-- the default writer (as `FramedWrite::new` builds it) meets the side conditions -/
theorem default_writer_ok : pendingBytes ({} : Writer) = [] ∧ 0 < ({} : Writer).chainThreshold ∧
    4 < ({} : Writer).maxFrame := by decide

theorem tx_data_too_big (w : Writer) (sid : Nat) (payload : Bytes) (eos : Bool) (pad : Option Nat)
    (h : w.maxFrame < payload.length) :
    w.buffer (.simple (.data sid payload eos pad)) = (w, .payloadTooBig) := by
  simp only [Writer.buffer]
  rw [if_pos h]

/-- every DATA frame that reaches the wire has a payload within `max_frame_size` -/
theorem tx_data_within_max_frame_size (w w' : Writer) (sid : Nat) (payload : Bytes) (eos : Bool) (pad : Option Nat)
    (h : w.buffer (.simple (.data sid payload eos pad)) = (w', .ok)) : payload.length ≤ w.maxFrame := by
  by_cases hgt : w.maxFrame < payload.length
  · rw [tx_data_too_big w sid payload eos pad hgt] at h; cases h
  · omega

/-- the fixed-shape control frames have at most 42 payload octets (7 settings), far below any legal
    `max_frame_size` (≥ 2^14) -/
theorem tx_control_within_max_frame_size (f : Model.Frame.Frame) (bs : Bytes) (h : encodeSimple f = some bs)
    (hk : match f with
      | .settings .. => True
      | .windowUpdate .. => True
      | .reset .. => True
      | .ping _ p => p.length = 8
      | _ => False) : bs.length ≤ 9 + 42 := by
  cases f <;> simp only [encodeSimple, Option.some.injEq, reduceCtorEq] at h hk <;> subst h
  · simp
  · rename_i ack vals
    have := settingsPayload_length vals
    have := settingsOrder_length_le vals
    simp only [List.length_append, Head.encode_length]; omega
  · simp [hk]
  · simp

/-- OBSERVATION (not covered by `tx_within_max_frame_size`): `Encoder::buffer` has no size guard for
    GOAWAY; a debug-data blob longer than the peer's `max_frame_size` would go out as one oversized
    frame.  In this tree all debug data are short library strings. -/
theorem buffer_goaway_unchecked (w : Writer) (last code : Nat) (dbg : Bytes) :
    (w.buffer (.simple (.goAway last code dbg))).2 = .ok := rfl

/-- header frames: the chain `buffer` + `unset_frame` put on the wire contains no frame above
    `max_frame_size` in the eyes of an RFC 9113 receiver with that limit -/
theorem tx_headers_within_max_frame_size (w : Writer) (sid : Nat) (eos : Bool) (fields : List Model.Hpack.Field)
    (hmf : 0 < w.maxFrame) (hmax : w.maxFrame < 2 ^ 24) (hs0 : sid ≠ 0) (hs : sid < 2 ^ 31) (F : Nat)
    (hF : (serialise w (.headers sid eos fields)).length + 2 ≤ F) :
    (Spec.Frame.frames F w.maxFrame (serialise w (.headers sid eos fields))).2 = [] ∧
    Spec.Frame.Violation.frameSize ∉
      (Spec.Frame.frames F w.maxFrame (serialise w (.headers sid eos fields))).1.filterMap
        (fun | .error v => some v | .ok _ => none) := by
  simp only [serialise] at hF ⊢
  cases henc : w.hpack.encode fields with
  | none => simp [frames_nil]
  | some x =>
    obtain ⟨e', block⟩ := x
    rw [henc] at hF
    simp only at hF ⊢
    have hlen : block.length ≤ (splitBlock (block.length + 1) w.maxFrame 1 (4 + if eos then 1 else 0) sid [] block).length := by
      have := splitBlock_length_ge (block.length + 1) w.maxFrame 1 (4 + if eos then 1 else 0) sid [] block
        (by simpa using hmf) (by omega)
      exact this
    obtain ⟨g0, gs, _, _, hfr⟩ := parse_split_block_headers (block.length + 1) w.maxFrame sid eos block F w.maxFrame
      hmf hmax hs0 hs (by omega) (by omega) (Nat.le_refl _)
    rw [hfr]
    refine ⟨rfl, ?_⟩
    simp [List.filterMap_map]

end H2V.Lemmas.Codec
