import H2V.Lemmas.CodecWriter
/-
  C12, closing: `FramedWrite::shutdown` never shuts the transport down while octets are pending,
  whatever the transport does to the writes (short writes, Pending between any two octets).
-/
namespace H2V.Lemmas.Codec
open H2V.Model H2V.Model.CodecWrite H2V.Model.Frame

/-- fuel that is enough for every writer reachable from `w` by flushing: pending only shrinks -/
def enoughFuel (fuel : Nat) (w : Writer) : Prop := 2 * (pendingBytes w).length + 2 ≤ fuel

theorem shutdown_single (w : Writer) (sc : List (Option Nat)) (fuel : Nat)
    (hwf : WF w) (hmf : 0 < w.maxFrame) (hfuel : enoughFuel fuel w) :
    let r := Writer.shutdown fuel w false sc
    r.2.2.1 ++ pendingBytes r.1 = pendingBytes w ∧ WF r.1 ∧ r.1.maxFrame = w.maxFrame ∧
    (r.2.2.2.2 = true → pendingBytes r.1 = [] ∧ r.2.1 = true) ∧
    (r.2.2.2.2 = false → r.2.1 = false) := by
  have s := flush_exact w sc fuel hwf hmf hfuel
  have h1 := s.exact
  have h3 := s.ready
  have h5 := s.wf
  have h6 := s.maxFrame
  unfold Writer.shutdown
  simp only [Bool.false_eq_true, if_false]
  generalize hfl : Writer.flush fuel w sc [] = fl at h1 h3 h5 h6
  obtain ⟨w', sc', out, res⟩ := fl
  cases res <;> simp_all

/-- CLOSING DROPS NOTHING: over any number of `shutdown` calls with any write scripts, if the
    transport's `poll_shutdown` was reached then the transport had accepted exactly the octets that
    were pending when closing started — all of them, in order. -/
theorem shutdownRun_complete (fuel : Nat) (scs : List (List (Option Nat))) :
    ∀ (w : Writer) (acc : Bytes), WF w → 0 < w.maxFrame → enoughFuel fuel w →
      (Writer.shutdownRun fuel w false scs acc).2 = true →
      (Writer.shutdownRun fuel w false scs acc).1 = acc ++ pendingBytes w := by
  induction scs with
  | nil => intro w acc _ _ _ h; simp [Writer.shutdownRun] at h
  | cons sc rest ih =>
    intro w acc hwf hmf hfuel h
    obtain ⟨h1, hwf', hmf', hT, hF⟩ := shutdown_single w sc fuel hwf hmf hfuel
    unfold Writer.shutdownRun at h ⊢
    generalize hs : Writer.shutdown fuel w false sc = s at h1 hwf' hmf' hT hF h
    obtain ⟨w', done', out, res, shut⟩ := s
    simp only at h1 hwf' hmf' hT hF
    cases shut with
    | true =>
      obtain ⟨hp, _⟩ := hT rfl
      simp only [hp, List.append_nil] at h1
      simp [h1]
    | false =>
      have hd : done' = false := hF rfl
      subst hd
      cases res with
      | pending =>
        simp only at h ⊢
        have hfuel' : enoughFuel fuel w' := by
          unfold enoughFuel at hfuel ⊢
          have : (pendingBytes w).length = out.length + (pendingBytes w').length := by
            rw [← h1, List.length_append]
          omega
        rw [ih w' (acc ++ out) hwf' (by omega) hfuel' h, List.append_assoc, h1]
      | ready => simp at h
      | writeZero => simp at h
      | loop => simp at h

end H2V.Lemmas.Codec
