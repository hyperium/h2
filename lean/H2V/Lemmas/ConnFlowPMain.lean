import H2V.Lemmas.ConnFlowPReq4
import H2V.Lemmas.ConnFlowPInit
import H2V.Lemmas.ConnFlowPWire
import H2V.Lemmas.ConnFlowPWake
import H2V.Lemmas.ConnFlowPCold2
/-
  ConnFlowP — the statements `H2V/Props/C02.lean` and `H2V/Props/C16.lean` appeal to, assembled from the
  family's files.
-/
namespace H2V.Lemmas.ConnFlowP
open H2V H2V.Model H2V.Model.Conn H2V.Lemmas.Comp

/-- C02 (a): every DATA frame `pop_frame` hands out fits the windows at the moment it is cut and is
    charged exactly -/
theorem data_frame_bounds {s s' : Streams} (h : SafeInv s) {fuel maxLen len : Nat} {eos : Bool}
    {fr : DataFrame} (hp : Streams.popFrame fuel s maxLen = (s', some (.data len eos fr))) :
    ∃ s1, WFr s s1 ∧ SafeInv s1 ∧
      len ≤ maxLen ∧
      (len : Int) ≤ s1.prio.flow.windowSize.val ∧
      (len : Int) ≤ (s1.stream fr.key).sendFlow.available.val ∧
      (0 < len → (len : Int) ≤ (s1.stream fr.key).sendFlow.windowSize.val) ∧
      s1.prio.flow.windowSize = s.prio.flow.windowSize ∧
      Charged s1 s' fr.key len := by
  have hspec := popFrame_spec h fuel maxLen
  rw [hp] at hspec
  obtain ⟨s1, hw, hs1, hc, hch⟩ := hspec
  have hok := hs1.stream_ok fr.key
  have h1 := hc.le_cap
  have h0 := hok.av0
  refine ⟨s1, hw, hs1, hc.le_max, ?_, ?_, ?_, hw.1, hch⟩
  · cases hget : s1.store.get? fr.key with
    | none =>
      have hb : s1.stream fr.key = { key := fr.key, id := 0 } := by unfold Streams.stream; rw [hget]; rfl
      rw [hb] at h1
      have : ({ key := fr.key, id := 0 } : Stream).sendFlow.available.asSize = 0 := rfl
      have := hs1.av_le; have := hs1.a0
      omega
    | some st =>
      rw [Streams.stream_of_get? hget] at h1 h0
      have := hs1.st_le (get?_mem hget).1
      have := hs1.a0
      rw [asSize_eq] at h1
      omega
  · rw [asSize_eq] at h1; omega
  · intro hpos
    have hw' := hok.avw
    rw [asSize_eq] at h1
    have : 0 < (s1.stream fr.key).sendFlow.available.val := by omega
    have := hw' this
    omega

/-- C02: at the moment a chunk is cut (`DataCut`), neither `FlowControl::send_data` call of `pop_frame`
    can fail: not the `assert!(self.window_size.0 >= sz as i32)` (a panic), not the checked
    subtractions — on the stream and on the connection -/
theorem send_data_cannot_fail {s1 : Streams} (h : SafeInv s1) {k len maxLen : Nat} (hc : DataCut s1 k len maxLen) :
    ((s1.stream k).sendFlow.sendData len).2 = .ok () ∧
    ((s1.prio.flow.assignCapacity len).1.sendData len).2 = .ok () := by
  have hok := h.stream_ok k
  refine ⟨(flOk_send hok hc.le_cap hc.le_win).2.2.2, ?_⟩
  have h1 := hc.le_cap
  have h0 := hok.av0
  have hA := h.a0
  have hle : (len : Int) + s1.prio.flow.available.val ≤ s1.prio.flow.windowSize.val := by
    cases hget : s1.store.get? k with
    | none =>
      have hb : s1.stream k = { key := k, id := 0 } := by unfold Streams.stream; rw [hget]; rfl
      rw [hb] at h1
      have : ({ key := k, id := 0 } : Stream).sendFlow.available.asSize = 0 := rfl
      have := h.av_le
      omega
    | some st =>
      rw [Streams.stream_of_get? hget] at h1 h0
      have := h.st_le (get?_mem hget).1
      rw [asSize_eq] at h1
      omega
  exact (conn_send (f := s1.prio.flow) hA (n := len) (by omega) h.whi).2.2

/-- C02: while a window is zero or negative only zero-length DATA is sent against it -/
theorem empty_data_on_exhausted_window {s s' : Streams} (h : SafeInv s) {fuel maxLen len : Nat} {eos : Bool}
    {fr : DataFrame} (hp : Streams.popFrame fuel s maxLen = (s', some (.data len eos fr))) :
    ∃ s1, WFr s s1 ∧
      (s1.prio.flow.windowSize.val ≤ 0 → len = 0) ∧
      ((s1.stream fr.key).sendFlow.windowSize.val ≤ 0 → len = 0) := by
  obtain ⟨s1, hw, _, _, h1, _, h3, _, _⟩ := data_frame_bounds h hp
  refine ⟨s1, hw, fun h0 => by omega, fun h0 => ?_⟩
  by_cases hl : len = 0
  · exact hl
  · have := h3 (by omega); omega

/-- C02: when `pop_frame` returns anything but DATA no send window has changed -/
theorem no_data_no_window_change {s : Streams} (h : SafeInv s) (fuel maxLen : Nat)
    (hne : ∀ len e fr, (Streams.popFrame fuel s maxLen).2 ≠ some (.data len e fr)) :
    WFr s (Streams.popFrame fuel s maxLen).1 := by
  have hspec := popFrame_spec h fuel maxLen
  unfold PopRel at hspec
  split at hspec
  · rename_i heq; exact absurd heq (hne _ _ _)
  · exact hspec

/-- C02 (c), per call: every `pop_frame` call `poll_complete` makes from a reachable state obeys the
    specification `PopRel` (so `data_frame_bounds` applies to every DATA frame it writes), and these
    calls account for the whole change of the connection window -/
theorem poll_complete_frames {s : Streams} (h : Reach s) (fuel : Nat) (w : Writer) (io : Tio) (tag : String) :
    (∀ c ∈ pollLog fuel s w io tag, SafeInv c.pre ∧ PopRel c.pre c.maxLen c.out) ∧
    (Streams.pollComplete fuel s w io tag).1.prio.flow.windowSize.val =
      s.prio.flow.windowSize.val - sentIn (pollLog fuel s w io tag) := by
  have hl := poll_log fuel w io tag h.safe
  exact ⟨fun c hc => ⟨hl.1 c hc, popFrame_spec (hl.1 c hc) c.fuel c.maxLen⟩, hl.2⟩

/-- C02 (c), history: window = granted − sent, `0 ≤ sent ≤ granted` -/
theorem history_ledger {s : Streams} {g d : Int} (h : ReachH s g d) :
    s.prio.flow.windowSize.val = g - d ∧ 0 ≤ d ∧ d ≤ g ∧ Reach s :=
  ⟨h.window, h.sent_nonneg, h.sent_le_granted, h.reach⟩

/-- C16: a stream's unused capacity goes back to the connection exactly (`reclaim_all_capacity`) -/
theorem reclaim_all_is_exact {s : Streams} (h : SafeInv s) {id : Nat} {st : Stream} (hget : s.store.get? id = some st)
    (hpos : st.sendFlow.available.asSize > 0) :
    s.reclaimAllCapacity id =
      Streams.assignConnectionCapacityLoop
        ((giveBack s id st.sendFlow.available.asSize).prio.pendingCapacity.length + 2)
        (giveBack s id st.sendFlow.available.asSize) ∧
    total (giveBack s id st.sendFlow.available.asSize) = total s ∧
    ((giveBack s id st.sendFlow.available.asSize).stream id).sendFlow.available.val = 0 ∧
    (giveBack s id st.sendFlow.available.asSize).prio.flow.available.val =
      s.prio.flow.available.val + st.sendFlow.available.val ∧
    SafeInv (giveBack s id st.sendFlow.available.asSize) := by
  have he := reclaimAllCapacity_eq s id (by rw [Streams.stream_of_get? hget]; exact hpos)
  rw [Streams.stream_of_get? hget] at he
  have hx := giveBack_exact h hget (Nat.le_refl _)
  have h0 := (h.st st (get?_mem hget).1).av0
  refine ⟨he, hx.1, giveBack_all h hget, ?_, hx.2.2.2.2.2⟩
  rw [hx.2.2.1, asSize_eq]; omega

end H2V.Lemmas.ConnFlowP
