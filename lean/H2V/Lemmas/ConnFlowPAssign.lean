import H2V.Lemmas.ConnFlowPTryAssign
/-
  ConnFlowP — the arithmetic of the moves between the connection and a stream: `assignN` (connection → stream),
  `claim_capacity` on a stream (stream → pending credit), `assign_capacity` on the connection (pending credit →
  connection); `try_assign_capacity` keeps `SafeInv`.  Also the tactic `safe_auto`.
-/
namespace H2V.Lemmas.ConnFlowP
open H2V H2V.Model H2V.Model.Conn H2V.Lemmas.Comp

/-- function-level preservation lemmas (extended below and in later files) -/
syntax "safe_peel" : tactic
macro_rules | `(tactic| safe_peel) => `(tactic| fail "safe_peel: no rule applies")

/-- close the goal `SafeInvG g X`, peel a flow function, or peel a frame primitive -/
macro "safe_step" : tactic => `(tactic| first
  | with_reducible assumption
  | (with_reducible apply SafeInvG.sfr; (· sfr_base; with_reducible exact SFr.refl _))
  | (guard_not_mk; safe_peel)
  | apply_ih
  | (with_reducible apply SafeInvG.fr; (· fr_peel; with_reducible exact Fr.refl _))
  | (with_reducible apply of_fst_eq; (· with_reducible assumption)))

macro "safe_auto" : tactic => `(tactic| walk_with safe_step)

/-- `omega` after exposing the `i32` bounds -/
macro "omega32" : tactic => `(tactic| ((try simp only [I32_MAX, I32_MIN] at *); omega))

theorem asSize_eq (w : Window) : w.asSize = w.val.toNat := by
  unfold Window.asSize; split <;> omega

theorem u32AsI32_small {x : Nat} (h : x ≤ 2147483647) : u32AsI32 x = (x : Int) := by
  unfold u32AsI32 U32_MOD; simp only; split <;> omega

theorem usizeAsU32_small {x : Nat} (h : x < 4294967296) : usizeAsU32 x = x := by
  unfold usizeAsU32 U32_MOD; omega

theorem FlOk.asSize_le {f : FlowControl} (h : FlOk f) : f.available.asSize ≤ f.windowSz := by
  have := h.av0; have := h.avw; have := h.whi
  unfold FlowControl.windowSz
  rw [asSize_eq, asSize_eq]
  omega

theorem FlOk.windowSz_lt {f : FlowControl} (h : FlOk f) : f.windowSz ≤ 2147483647 := by
  have := h.whi
  unfold FlowControl.windowSz I32_MAX at *
  rw [asSize_eq]; omega

theorem flOk_assign {f : FlowControl} (hf : FlOk f) {n : Nat}
    (hn : n ≤ wrapSubU32 f.windowSz f.available.asSize) :
    FlOk (f.assignCapacity n).1 ∧ (f.assignCapacity n).1.available.val = f.available.val + n ∧
      (f.assignCapacity n).1.windowSize = f.windowSize := by
  have h1 := hf.asSize_le
  have h2 := hf.windowSz_lt
  rw [wrapSubU32_of_le (by omega) h1] at hn
  have h0 := hf.av0; have hw := hf.avw; have hlo := hf.wlo; have hhi := hf.whi
  unfold FlowControl.windowSz at *
  rw [asSize_eq] at h1 h2 hn
  rw [asSize_eq] at h1 hn
  have hs : u32AsI32 n = (n : Int) := u32AsI32_small (by omega)
  rw [Flow.assignCapacity_eq, hs]
  unfold I32_MAX I32_MIN at *
  have hin : inI32 (f.available.val + (n : Int)) = true := (inI32_iff _).2 (by omega)
  rw [if_pos hin]
  refine ⟨⟨?_, ?_, ?_, ?_⟩, rfl, rfl⟩ <;> simp only <;> omega32

theorem conn_claim {f : FlowControl} (h0 : 0 ≤ f.available.val) (hhi : f.available.val ≤ I32_MAX) {n : Nat}
    (hn : n ≤ f.available.asSize) :
    (f.claimCapacity n).1.available.val = f.available.val - n ∧ (f.claimCapacity n).1.windowSize = f.windowSize := by
  rw [asSize_eq] at hn
  unfold I32_MAX at hhi
  have hs : u32AsI32 n = (n : Int) := u32AsI32_small (by omega)
  rw [Flow.claimCapacity_eq, hs]
  have hin : inI32 (f.available.val - (n : Int)) = true := (inI32_iff _).2 (by omega)
  rw [if_pos hin]
  exact ⟨rfl, rfl⟩

theorem flOk_claim {f : FlowControl} (hf : FlOk f) {n : Nat} (hn : n ≤ f.available.asSize) :
    FlOk (f.claimCapacity n).1 ∧ (f.claimCapacity n).1.available.val = f.available.val - n ∧
      (f.claimCapacity n).1.windowSize = f.windowSize := by
  have h1 := hf.asSize_le
  have h2 := hf.windowSz_lt
  have h0 := hf.av0; have hw := hf.avw; have hlo := hf.wlo; have hhi := hf.whi
  unfold FlowControl.windowSz at *
  rw [asSize_eq] at h1 h2 hn
  rw [asSize_eq] at h1
  have hs : u32AsI32 n = (n : Int) := u32AsI32_small (by omega)
  rw [Flow.claimCapacity_eq, hs]
  unfold I32_MAX I32_MIN at *
  have hin : inI32 (f.available.val - (n : Int)) = true := (inI32_iff _).2 (by omega)
  rw [if_pos hin]
  refine ⟨⟨?_, ?_, ?_, ?_⟩, rfl, rfl⟩ <;> simp only <;> omega32

theorem conn_assign {f : FlowControl} (h0 : 0 ≤ f.available.val) {n : Nat}
    (hn : f.available.val + n ≤ I32_MAX) :
    (f.assignCapacity n).1.available.val = f.available.val + n ∧ (f.assignCapacity n).1.windowSize = f.windowSize := by
  unfold I32_MAX at hn
  have hs : u32AsI32 n = (n : Int) := u32AsI32_small (by omega)
  rw [Flow.assignCapacity_eq, hs]
  have hin : inI32 (f.available.val + (n : Int)) = true := (inI32_iff _).2 (by omega)
  rw [if_pos hin]
  exact ⟨rfl, rfl⟩

theorem assignCapacity_kf (x : Stream) (c m : Nat) :
    (x.assignCapacity c m).1.key = x.key ∧ (x.assignCapacity c m).1.sendFlow = (x.sendFlow.assignCapacity c).1 := by
  unfold Stream.assignCapacity; dsimp only; split
  · exact ⟨(notifyCapacity_kf _).1, (notifyCapacity_kf _).2⟩
  · exact ⟨rfl, rfl⟩

theorem Upd.modStream {s : Streams} {id : Nat} {st : Stream} (hget : s.store.get? id = some st)
    (f : Stream → Stream) (hk : (f st).key = st.key) : Upd s (s.modStream id f) id st (f st) := by
  have hm := get?_mem hget
  refine ⟨hget, hk.trans hm.2, ?_, ?_⟩ <;> (unfold Streams.modStream; rw [hget]; rfl)

theorem Upd.modStreamW {s : Streams} {id : Nat} {st : Stream} (hget : s.store.get? id = some st)
    (f : Stream → Stream × List String) (hk : (f st).1.key = st.key) : Upd s (s.modStreamW id f) id st (f st).1 := by
  have hm := get?_mem hget
  refine ⟨hget, hk.trans hm.2, ?_, ?_⟩ <;> (unfold Streams.modStreamW; rw [hget]; rfl)

theorem Upd.modPrio {s s' : Streams} {id : Nat} {st st' : Stream} (h : Upd s s' id st st') (g : Prioritize → Prioritize) :
    Upd s (s'.modPrio g) id st st' := ⟨h.get, h.key, h.slab, h.next⟩

theorem SafeInvG.av_le {g : Int} {s : Streams} (h : SafeInvG g s) :
    s.prio.flow.available.val + g ≤ s.prio.flow.windowSize.val := by
  have := sumAv_nonneg (fun x hx => (h.st x hx).av0)
  have := h.ledger; omega

theorem SafeInvG.st_le {g : Int} {s : Streams} (h : SafeInvG g s) {x : Stream} (hx : x ∈ s.store.slab) :
    x.sendFlow.available.val + s.prio.flow.available.val + g ≤ s.prio.flow.windowSize.val := by
  have := mem_le_sumAv (fun x hx => (h.st x hx).av0) hx
  have := h.ledger; omega

theorem SafeInv.assignN {s : Streams} (h : SafeInv s) (id n : Nat)
    (h1 : n ≤ s.prio.flow.available.asSize)
    (h2 : n ≤ wrapSubU32 (s.stream id).sendFlow.windowSz (s.stream id).sendFlow.available.asSize) :
    SafeInv (s.assignN id n) := by
  unfold Streams.assignN
  generalize s.prio.maxBufferSize = m
  have hA := h.av_le
  have hA0 := h.a0
  have hc := conn_claim h.a0 (by have := h.whi; omega32) h1
  cases hget : s.store.get? id with
  | none =>
    rw [Streams.modStreamW_of_none hget]
    refine h.conn (panic_store _ _) (Int.le_refl _) ?_ ?_ ?_
    · show 0 ≤ ((s.panic _).prio.flow.claimCapacity n).1.available.val
      rw [panic_prio, hc.1]; rw [asSize_eq] at h1; omega
    · show ((s.panic _).prio.flow.claimCapacity n).1.windowSize.val ≤ _
      rw [panic_prio, hc.2]; exact h.whi
    · show ((s.panic _).prio.flow.claimCapacity n).1.available.val - _ + _ ≤
        ((s.panic _).prio.flow.claimCapacity n).1.windowSize.val - _
      rw [panic_prio, hc.1, hc.2]; omega
  | some st =>
    have hm := get?_mem hget
    rw [Streams.stream_of_get? hget] at h2
    have hkf := assignCapacity_kf st n m
    have hf := flOk_assign (h.st st hm.1) h2
    have hu := (Upd.modStreamW hget (fun st => st.assignCapacity n m) hkf.1).modPrio
      (fun p => { p with flow := (p.flow.claimCapacity n).1 })
    refine h.upd hu (Int.le_refl _) (by rw [hkf.2]; exact hf.1) ?_ ?_ ?_
    · show 0 ≤ ((s.modStreamW id _).prio.flow.claimCapacity n).1.available.val
      rw [modStreamW_prio, hc.1]; rw [asSize_eq] at h1; omega
    · show ((s.modStreamW id _).prio.flow.claimCapacity n).1.windowSize.val ≤ _
      rw [modStreamW_prio, hc.2]; exact h.whi
    · show _ + (((s.modStreamW id _).prio.flow.claimCapacity n).1.available.val - _) + _ ≤
        ((s.modStreamW id _).prio.flow.claimCapacity n).1.windowSize.val - _
      rw [modStreamW_prio, hc.1, hc.2, hkf.2, hf.2.1]; omega

theorem SafeInv.tryAssignCapacity {s : Streams} (h : SafeInv s) (id : Nat) : SafeInv (s.tryAssignCapacity id) := by
  refine s.tryAssignCapacity_cases id h (fun _ _ => ?_) (fun _ _ => h.fr ((Fr.refl _).relink id))
  exact SafeInvG.fr ((Fr.refl _).relink id)
    (h.assignN id _ (Nat.min_le_left ..) (Nat.le_trans (Nat.min_le_right ..) (Nat.min_le_right ..)))

macro_rules | `(tactic| safe_peel) => `(tactic| with_reducible apply SafeInv.tryAssignCapacity)

/-- pending credit → connection: `assign_capacity(inc)` on the connection, with `inc` units that some caller took from
    a stream or got from the peer (`g = inc`) -/
theorem SafeInvG.release {s : Streams} {inc : Nat} (h : SafeInvG inc s) :
    SafeInv (s.modPrio fun p => { p with flow := (p.flow.assignCapacity inc).1 }) := by
  have hA := h.av_le
  have hA0 := h.a0
  have hW := h.whi
  have hc := conn_assign (f := s.prio.flow) h.a0 (n := inc) (by omega)
  refine h.conn rfl (Int.le_refl _) ?_ ?_ ?_
  · show 0 ≤ (s.prio.flow.assignCapacity inc).1.available.val
    rw [hc.1]; omega
  · show (s.prio.flow.assignCapacity inc).1.windowSize.val ≤ _
    rw [hc.2]; exact hW
  · show (s.prio.flow.assignCapacity inc).1.available.val - _ + _ ≤ (s.prio.flow.assignCapacity inc).1.windowSize.val - _
    rw [hc.1, hc.2]; omega

theorem claim_step {s : Streams} (h : SafeInv s) (id n : Nat) (hn : n ≤ (s.stream id).sendFlow.available.asSize) :
    SafeInvG n (s.modStream id fun st => { st with sendFlow := (st.sendFlow.claimCapacity n).1 }) := by
  cases hget : s.store.get? id with
  | none =>
    have : s.stream id = { key := id, id := 0 } := by unfold Streams.stream; rw [hget]; rfl
    rw [this] at hn
    have hn0 : n = 0 := by
      have : ({ key := id, id := 0 } : Stream).sendFlow.available.asSize = 0 := rfl
      omega
    subst hn0
    rw [Streams.modStream_of_none hget]
    exact h.fr ((Fr.refl _).panic _)
  | some st =>
    have hm := get?_mem hget
    rw [Streams.stream_of_get? hget] at hn
    have hf := flOk_claim (h.st st hm.1) hn
    have hu := Upd.modStream hget (fun st => { st with sendFlow := (st.sendFlow.claimCapacity n).1 }) rfl
    refine h.upd hu (Int.natCast_nonneg _) hf.1 ?_ ?_ ?_
    · rw [modStream_prio]; exact h.a0
    · rw [modStream_prio]; exact h.whi
    · rw [modStream_prio]
      show (st.sendFlow.claimCapacity n).1.available.val - _ + _ + _ ≤ _
      rw [hf.2.1]; omega

theorem find?_map_set_self {k : Nat} {st' : Stream} (hk : st'.key = k) :
    ∀ (l : List Stream) {st : Stream}, l.find? (fun x => x.key == k) = some st →
      (l.map fun x => if x.key == st'.key then st' else x).find? (fun x => x.key == k) = some st'
  | [], _, h => by simp at h
  | x :: t, st, h => by
    simp only [List.map_cons, List.find?_cons] at h ⊢
    by_cases hx : x.key = k
    · simp [hx, hk]
    · have hx' : (x.key == k) = false := by simpa using hx
      have hx'' : (x.key == st'.key) = false := by rw [hk]; exact hx'
      simp only [hx'] at h
      simp only [hx'', Bool.false_eq_true, if_false, hx']
      exact find?_map_set_self hk t h

theorem get?_set_self {a : Store} {k : Nat} {st : Stream} (h : a.get? k = some st) {st' : Stream} (hk : st'.key = k) :
    (a.set st').get? k = some st' := by
  unfold Store.get? Store.set at *
  exact find?_map_set_self hk _ h

theorem find?_map_set_other {k : Nat} {st' : Stream} (hk : k ≠ st'.key) :
    ∀ (l : List Stream), (l.map fun x => if x.key == st'.key then st' else x).find? (fun x => x.key == k) =
      l.find? (fun x => x.key == k)
  | [] => rfl
  | x :: t => by
    simp only [List.map_cons, List.find?_cons]
    by_cases hx : x.key = st'.key
    · have h1 : (x.key == st'.key) = true := by simpa using hx
      have h2 : (st'.key == k) = false := by simpa using (Ne.symm hk)
      have h3 : (x.key == k) = false := by rw [hx]; exact h2
      simp only [h1, if_true, h2, h3]
      exact find?_map_set_other hk t
    · have h1 : (x.key == st'.key) = false := by simpa using hx
      simp only [h1, Bool.false_eq_true, if_false]
      cases (x.key == k)
      · exact find?_map_set_other hk t
      · rfl

theorem stream_modStream_self {s : Streams} {id : Nat} {st : Stream} (h : s.store.get? id = some st)
    (f : Stream → Stream) (hk : (f st).key = st.key) : (s.modStream id f).stream id = f st := by
  have hm := get?_mem h
  unfold Streams.modStream; rw [h]
  unfold Streams.stream Streams.setStream
  simp only
  rw [get?_set_self h (hk.trans hm.2)]; rfl

theorem stream_modStream_other {s : Streams} {id k : Nat} (f : Stream → Stream) (hf : ∀ x, (f x).key = x.key)
    (hk : k ≠ id) : (s.modStream id f).stream k = s.stream k := by
  unfold Streams.modStream
  split
  · rename_i st h
    have hm := get?_mem h
    unfold Streams.stream Streams.setStream
    simp only
    rw [Store.get?_set_ne _ _ (by rw [hf, hm.2]; exact hk)]
  · exact Streams.panic_stream _ _ _

theorem stream_modStream_flow {s : Streams} (id k : Nat) (f : Stream → Stream) (hf : NoFlow f) :
    ((s.modStream id f).stream k).sendFlow = (s.stream k).sendFlow := by
  by_cases hk : k = id
  · subst hk
    cases h : s.store.get? k with
    | none => rw [Streams.modStream_of_none h, Streams.panic_stream]
    | some st => rw [stream_modStream_self h f (hf st).1, Streams.stream_of_get? h, (hf st).2]
  · rw [stream_modStream_other f (fun x => (hf x).1) hk]

theorem SafeInvG.stream_ok {g : Int} {s : Streams} (h : SafeInvG g s) (id : Nat) : FlOk (s.stream id).sendFlow := by
  cases hg : s.store.get? id with
  | none =>
    have : s.stream id = { key := id, id := 0 } := by unfold Streams.stream; rw [hg]; rfl
    rw [this]
    exact ⟨Int.le_refl _, fun h => absurd h (Int.lt_irrefl 0), by show I32_MIN ≤ (0 : Int); decide,
      by show (0 : Int) ≤ I32_MAX; decide⟩
  | some st => rw [Streams.stream_of_get? hg]; exact h.st st (get?_mem hg).1

/-- `claim_step` with the new flow computed outside the closure -/
theorem claim_step_const {s : Streams} (h : SafeInv s) (id n : Nat) (hn : n ≤ (s.stream id).sendFlow.available.asSize) :
    SafeInvG n (s.modStream id fun st => { st with sendFlow := ((s.stream id).sendFlow.claimCapacity n).1 }) := by
  cases hget : s.store.get? id with
  | none =>
    have : s.stream id = { key := id, id := 0 } := by unfold Streams.stream; rw [hget]; rfl
    rw [this] at hn
    have hn0 : n = 0 := by
      have : ({ key := id, id := 0 } : Stream).sendFlow.available.asSize = 0 := rfl
      omega
    subst hn0
    rw [Streams.modStream_of_none hget]
    exact h.fr ((Fr.refl _).panic _)
  | some st =>
    have := claim_step h id n hn
    unfold Streams.modStream at this ⊢
    rw [hget] at this ⊢
    rw [Streams.stream_of_get? hget]
    exact this

end H2V.Lemmas.ConnFlowP
