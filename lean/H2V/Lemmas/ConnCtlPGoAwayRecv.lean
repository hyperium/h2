import H2V.Lemmas.ConnCtlPGoAway
import H2V.Lemmas.ConnBasics
/-
  ConnCtlP — C15, single steps around a GOAWAY that more than one statement uses: `go_away` enforces what it announces
  (`dynGoAway_max`), `Inner::recv_go_away` literally (`recvGoAwayFrame_eq`), `state.handle_error(remote GOAWAY)`, `send_request`
  under `conn_error`, `take_error`, the `Closed` state of `poll`.
-/
set_option autoImplicit false
set_option linter.unusedSimpArgs false
namespace H2V.Lemmas.ConnCtlP
open H2V H2V.Model H2V.Model.Conn

/-- PUSH_PROMISE on an initiating stream above the id announced: dropped (client) -/
theorem recvPushPromise_above_max (s : Streams) (id k : Nat) (h : HeadersIn) (hc : s.counts.isServer = false)
    (hk : s.store.findKey? id = some k) (hm : id > s.recv.maxStreamId) :
    s.recvPushPromise id h = (s, .ok ()) := by
  unfold Streams.recvPushPromise
  simp [hc, hk, hm]

/-- `DynConnection::go_away(last, e)` enforces what it announces: afterwards `max_stream_id = last` -/
theorem dynGoAway_max (c : Conn) (last : Nat) (e : Reason) :
    (c.dynGoAway last e).streams.recv.maxStreamId = last := by
  unfold Conn.dynGoAway
  dsimp only
  have : (c.streams.recvGoAway last).recv.maxStreamId = last := by
    unfold Streams.recvGoAway; dsimp only; split <;> rfl
  split
  · exact this
  · unfold Conn.panic Streams.panic
    dsimp only
    split <;> exact this

/-- `Inner::recv_go_away`, literally: the `last_stream_id` check of `Send::recv_go_away`, then
    `handle_error(remote GOAWAY)` on exactly the locally initiated streams above `last_stream_id`
    (or still waiting to be opened), then `conn_error` -/
theorem recvGoAwayFrame_eq (s : Streams) (last : Nat) (reason : Reason) (debug : Bytes) :
    s.recvGoAwayFrame last reason debug =
      (if last > s.actions.send.maxStreamId then (s, .error (PErr.libraryGoAway PROTOCOL_ERROR))
       else
        let s := s.modSend fun sd => { sd with maxStreamId := last }
        let err := PErr.remoteGoAway debug reason
        let s := s.storeForEach fun s id =>
          let st := s.stream id
          if (st.id > last || st.isPendingOpen) && s.counts.isLocalInit st.id then
            (s.transition id fun s => ((s.recvHandleError id err).sendHandleError id, ())).1
          else s
        ({ s with actions := { s.actions with connError := some err } }, .ok ())) := by
  unfold Streams.recvGoAwayFrame Streams.sendRecvGoAway
  by_cases h : last > s.actions.send.maxStreamId
  · rw [if_pos h, if_pos h]
  · rw [if_neg h, if_neg h]

/-- what `state.handle_error(remote GOAWAY)` is: a stream that was not closed yet is now
    `Closed(Error(GoAway(debug, reason, Remote)))` (or `ErrorAfterEndStream` when the peer had
    finished sending), i.e. the application sees the peer's reason and debug data; a closed stream
    is untouched -/
theorem handleError_remoteGoAway (st : State) (debug : Bytes) (reason : Reason) :
    (st.isClosed = true → st.handleError (PErr.remoteGoAway debug reason) = st) ∧
    (st.isClosed = false →
      (st.handleError (PErr.remoteGoAway debug reason)).inner =
        .closed (if st.isRecvEndStream then .errorAfterEndStream (.goAway debug reason .remote)
                 else .error (.goAway debug reason .remote))) := by
  unfold State.handleError State.isClosed PErr.remoteGoAway
  cases h : st.inner <;> simp

/-- after a GOAWAY was received, new requests are refused with the peer's error: `send_request`
    fails as long as `conn_error` is set -/
theorem sendRequest_after_connError (s : Streams) (e : PErr) (h : s.actions.connError = some e)
    (isHead : Bool) (fields : List Hpack.Field) (eos : Bool) (pending : Option Nat) :
    s.sendRequest isHead fields eos pending = (s, .error (.proto e)) := by
  unfold Streams.sendRequest Streams.ensureNoConnError
  simp [h]

/-- **the connection's result reports the peer's code and debug data**: `take_error` — what
    `Connection::poll` returns once the state is `Closed` — is `Ok` when neither side had an error,
    our own reason when only we had one, and otherwise the REMOTE GOAWAY error with the peer's
    reason and debug data -/
theorem takeError_spec (c : Conn) (ours : Reason) (i : Initiator) :
    (c.error = none → (c.takeError ours i).2 =
      if ours == NO_ERROR then .ok () else .error (.goAway [] ours i)) ∧
    (∀ f, c.error = some f → f.reason ≠ NO_ERROR →
      (c.takeError ours i).2 = .error (PErr.remoteGoAway f.debugData f.reason)) ∧
    (∀ f, c.error = some f → f.reason = NO_ERROR → (c.takeError ours i).2 =
      if ours == NO_ERROR then .ok () else .error (.goAway [] ours i)) := by
  unfold Conn.takeError
  refine ⟨fun h => ?_, fun f h hr => ?_, fun f h hr => ?_⟩
  · rw [h]; dsimp only; by_cases ho : (ours == NO_ERROR) = true <;> simp [ho]
  · rw [h]; dsimp only
    have : (f.reason == NO_ERROR) = false := by simpa using hr
    simp [this]
  · rw [h]; dsimp only
    have : (f.reason == NO_ERROR) = true := by simpa using hr
    by_cases ho : (ours == NO_ERROR) = true <;> simp [ho, this]

theorem goAwayGracefully_again (c : Conn) (h : c.goAway.goingAway.isSome = true) : c.goAwayGracefully = c := by
  unfold Conn.goAwayGracefully
  simp [GoAway.isGoingAway, h]

end H2V.Lemmas.ConnCtlP
