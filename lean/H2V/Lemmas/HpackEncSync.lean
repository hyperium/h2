import H2V.Lemmas.HpackEncBlock
/-
  C10 — every history.  The encoder (`Encoder::update_max_size` / `Encoder::encode`) runs
  side by side with the reference monitor of `Spec.HpackSync`; a simulation invariant ties the
  encoder's pending size update (`SizeUpdate::One` / `Two`) to what the monitor remembers of the
  peer's settings (`allowed`, `lowest`).
-/
namespace H2V.Lemmas.HpackEnc
open H2V H2V.Model.Hpack H2V.Spec.Hpack H2V.Spec.HpackSync

/-- the first size update `encode_size_updates` will write -/
def firstUpdate : Option SizeUpdate → Option Nat
  | none => none
  | some (.one v) => some v
  | some (.two mn _) => some mn

/-- the table's maximum size after `encode_size_updates` -/
def lastUpdate (cur : Nat) : Option SizeUpdate → Nat
  | none => cur
  | some (.one v) => v
  | some (.two _ mx) => mx

def UpdOk (lim : Nat) : Option SizeUpdate → Prop
  | none => True
  | some (.one v) => v ≤ lim ∧ v < 2 ^ 63
  | some (.two mn mx) => mn ≤ lim ∧ mx ≤ lim ∧ mn < 2 ^ 63 ∧ mx < 2 ^ 63

theorem sizeUpdates_sim (e : Encoder) (st : St) (hsim : TableSim e st)
    (hupd : UpdOk st.limit e.sizeUpdate) :
    ∃ (st1 : St) (k : Nat), TableSim e.encodeSizeUpdates.1 st1 ∧
      st1.limit = st.limit ∧ st1.pendingLimit = st.pendingLimit ∧
      e.encodeSizeUpdates.1.sizeUpdate = none ∧
      e.encodeSizeUpdates.1.maxAllowed = e.maxAllowed ∧
      e.encodeSizeUpdates.1.maxSize = lastUpdate e.maxSize e.sizeUpdate ∧
      st1.maxSize = lastUpdate e.maxSize e.sizeUpdate ∧
      k ≤ e.encodeSizeUpdates.2.length ∧
      ∀ (fuel : Nat) (rest : Bytes) (acc : List Spec.Hpack.Field),
        block (fuel + k) st false (e.encodeSizeUpdates.2 ++ rest) acc = block fuel st1 false rest acc := by
  unfold Encoder.encodeSizeUpdates
  match hsu : e.sizeUpdate, hupd with
  | none, _ =>
    exact ⟨st, 0, hsim, rfl, rfl, hsu, rfl, rfl, hsim.maxSize.symm, Nat.le_refl _,
      fun fuel rest acc => by simp⟩
  | some (.one v), hupd =>
    obtain ⟨hv1, hv2⟩ := hupd
    have hsim0 : TableSim ({ e with sizeUpdate := none } : Encoder) st :=
      ⟨hsim.entries, hsim.maxSize, hsim.size, hsim.le⟩
    obtain ⟨hs, ha, hu⟩ := resize_sim _ st v hsim0
    refine ⟨_, 1, hs, rfl, rfl, hu, ha, hs.maxSize, rfl, ?_, ?_⟩
    · have := List.length_pos_iff.2 (encodeInt_ne_nil v 5 32); simp only; omega
    · intro fuel rest acc
      exact block_sizeUpdate fuel st v rest acc (by simp only [Nat.reducePow] at hv2 ⊢; omega) hv1
  | some (.two mn mx), hupd =>
    obtain ⟨h1, h2, h3, h4⟩ := hupd
    have hsim0 : TableSim ({ e with sizeUpdate := none } : Encoder) st :=
      ⟨hsim.entries, hsim.maxSize, hsim.size, hsim.le⟩
    obtain ⟨hs1, ha1, hu1⟩ := resize_sim _ st mn hsim0
    obtain ⟨hs2, ha2, hu2⟩ := resize_sim _ _ mx hs1
    refine ⟨_, 2, hs2, rfl, rfl, hu2.trans hu1, ha2.trans ha1, hs2.maxSize, rfl, ?_, ?_⟩
    · have a := List.length_pos_iff.2 (encodeInt_ne_nil mn 5 32)
      have b := List.length_pos_iff.2 (encodeInt_ne_nil mx 5 32)
      simp only [List.length_append]; omega
    · intro fuel rest acc
      simp only [List.append_assoc]
      rw [show fuel + 2 = (fuel + 1) + 1 from rfl]
      rw [block_sizeUpdate (fuel + 1) st mn _ acc (by simp only [Nat.reducePow] at h3 ⊢; omega) h1]
      exact block_sizeUpdate fuel { st with maxSize := mn, entries := evict st.entries mn } mx rest acc
        (by simp only [Nat.reducePow] at h4 ⊢; omega) h2

theorem encodeFields_prefix : ∀ (fs : List Model.Hpack.Field) (e : Encoder)
    (last : Option (Index × Header)) (out : Bytes) (e' : Encoder) (b : Bytes),
    Encoder.encodeFields fs e last out = some (e', b) → ∃ t, b = out ++ t := by
  intro fs
  induction fs with
  | nil =>
    intro e last out e' b h
    simp only [Encoder.encodeFields, Option.some.injEq, Prod.mk.injEq] at h
    exact ⟨[], by simp [h.2]⟩
  | cons f rest ih =>
    intro e last out e' b h
    simp only [Encoder.encodeFields] at h
    split at h
    · split at h
      · cases h
      · split at h
        · obtain ⟨t, ht⟩ := ih _ _ _ _ _ h
          exact ⟨_, by rw [ht, List.append_assoc]⟩
        · obtain ⟨t, ht⟩ := ih _ _ _ _ _ h
          exact ⟨_, by rw [ht, List.append_assoc]⟩
    · obtain ⟨t, ht⟩ := ih _ _ _ _ _ h
      exact ⟨_, by rw [ht, List.append_assoc]⟩

theorem leading_encodeInt (v : Nat) (rest : Bytes) (hv : v < 2 ^ 64) :
    leadingSizeUpdate (encodeInt v 5 32 ++ rest) = some v := by
  obtain ⟨b, tl, hb, hb1, hb2⟩ := encodeInt_head v 5 32 (by decide)
  have hint := spec_int_roundtrip v 5 32 rest (by decide) hv
  rw [hb] at hint ⊢
  simp only [List.cons_append] at hint ⊢
  unfold leadingSizeUpdate
  simp only [hint]
  rw [if_pos (by omega)]
  rfl

theorem leading_of_encode (e : Encoder) (fs : List Model.Hpack.Field) (e' : Encoder) (bytes : Bytes)
    (u : Nat) (hu : firstUpdate e.sizeUpdate = some u) (hlt : u < 2 ^ 64)
    (henc : e.encode fs = some (e', bytes)) : leadingSizeUpdate bytes = some u := by
  unfold Encoder.encode at henc
  simp only at henc
  obtain ⟨t, ht⟩ := encodeFields_prefix _ _ _ _ _ _ henc
  rw [ht]
  unfold Encoder.encodeSizeUpdates
  match hsu : e.sizeUpdate, hu with
  | some (.one v), hu =>
    simp only [firstUpdate, Option.some.injEq] at hu
    subst hu
    exact leading_encodeInt _ _ hlt
  | some (.two mn mx), hu =>
    simp only [firstUpdate, Option.some.injEq] at hu
    subst hu
    simp only [List.append_assoc]
    exact leading_encodeInt _ _ hlt

def BlockWF (fs : List Model.Hpack.Field) : Prop := (∀ f ∈ fs, FieldOk f) ∧ NamelessOk none fs

instance (fs : List Model.Hpack.Field) : Decidable (BlockWF fs) := by unfold BlockWF; infer_instance

/-- **one block**: no `panic!`; a conforming decoder whose table equals the encoder's reads back
    exactly the submitted fields, and the tables are equal again afterwards -/
theorem encode_sim (e : Encoder) (st : St) (fs : List Model.Hpack.Field)
    (hsim : TableSim e st) (hpl : st.pendingLimit = none)
    (hupd : UpdOk st.limit e.sizeUpdate) (hmax : lastUpdate e.maxSize e.sizeUpdate < 2 ^ 63)
    (hwf : BlockWF fs) :
    ∃ e' bytes st', e.encode fs = some (e', bytes) ∧
      decode st bytes = .ok (fs.map (·.h), st') ∧
      TableSim e' st' ∧ st'.limit = st.limit ∧ st'.pendingLimit = none ∧
      e'.sizeUpdate = none ∧ e'.maxAllowed = e.maxAllowed ∧
      e'.maxSize = lastUpdate e.maxSize e.sizeUpdate := by
  obtain ⟨st1, k, s1, s2, s3, s4, s5, s6, s7, s8, s9⟩ := sizeUpdates_sim e st hsim hupd
  obtain ⟨e', bytes, f1, f2, f3, f4, f5, f6⟩ :=
    fields_sim fs e.encodeSizeUpdates.1 st1 none none e.encodeSizeUpdates.2 s1
      (by rw [s6]; exact hmax) rfl hwf.2 hwf.1
  refine ⟨e', e.encodeSizeUpdates.2 ++ bytes, { st1 with entries := e'.entries }, ?_, ?_, f2, s2,
    by rw [← hpl, ← s3], by rw [f5, s4], by rw [f4, s5], by rw [f3, s6]⟩
  · unfold Encoder.encode
    exact f1
  · unfold decode
    simp only [hpl]
    have hfuel : (e.encodeSizeUpdates.2 ++ bytes).length + 1 =
        (e.encodeSizeUpdates.2.length - k + bytes.length + 1) + k := by
      simp only [List.length_append]; omega
    rw [hfuel, s9, f6 _ false [] (by omega)]
    simp

theorem mon_block_ok (m : Mon) (fields : List Spec.Hpack.Field) (bytes : Bytes) (st' : St)
    (hsig : ∀ l, m.lowest = some l → m.st.maxSize > l →
      ∃ v, leadingSizeUpdate bytes = some v ∧ v ≤ l)
    (hdec : decode m.st bytes = .ok (fields, st'))
    (h1 : st'.maxSize ≤ m.allowed) (h2 : tableSize st'.entries ≤ st'.maxSize) :
    m.block fields bytes = .ok { m with st := st', lowest := none } := by
  unfold Mon.block
  simp only [hdec]
  cases hl : m.lowest with
  | none =>
    simp only [Bool.false_eq_true, if_false]
    rw [if_neg (by simp), if_neg (by simp), if_neg (by omega), if_neg (by omega)]
  | some l =>
    simp only
    by_cases hgt : m.st.maxSize > l
    · obtain ⟨v, hv, hvl⟩ := hsig l hl hgt
      simp only [hgt, hv, decide_true, if_true, hvl]
      rw [if_neg (by simp), if_neg (by simp), if_neg (by omega), if_neg (by omega)]
    · simp only [hgt, decide_false, Bool.false_eq_true, if_false]
      rw [if_neg (by simp), if_neg (by simp), if_neg (by omega), if_neg (by omega)]

theorem mon_block_inv {m m' : Mon} {fields : List Spec.Hpack.Field} {bytes : Bytes}
    (h : m.block fields bytes = .ok m') :
    ∃ st', decode m.st bytes = .ok (fields, st') ∧ st'.maxSize ≤ m.allowed ∧
      tableSize st'.entries ≤ st'.maxSize ∧ m' = { m with st := st', lowest := none } := by
  unfold Mon.block at h
  -- keep the two `let`s opaque: only the outer tests are inspected
  extract_lets needSignal signalOk at h
  split at h
  · cases h
  split at h
  · cases h
  next fs st' hd =>
  split at h
  · cases h
  next hf =>
  split at h
  · cases h
  split at h
  · cases h
  cases h
  exact ⟨st', by rw [hd, Decidable.not_not.1 hf], by omega, by omega, rfl⟩

/-- how the pending size update describes what `allowed` / `lowest` did since the last block.
    `M` = the table's current maximum, `A` = the encoder's own cap (4096). -/
def UpdRel (M A allowed : Nat) (lowest : Option Nat) : Option SizeUpdate → Prop
  | none => M = min allowed A ∧ ∀ l, lowest = some l → M ≤ l
  | some (.one v) => v = min allowed A ∧ ∃ l, lowest = some l ∧ (v ≤ l ∨ M ≤ l)
  | some (.two mn mx) => mx = min allowed A ∧ mn ≤ mx ∧ ∃ l, lowest = some l ∧ (mn ≤ l ∨ M ≤ l)

structure Sync (e : Encoder) (m : Mon) : Prop where
  table : TableSim e m.st
  limit : m.st.limit = m.allowed
  pendingLimit : m.st.pendingLimit = none
  cap : e.maxAllowed = Generated.Consts.ENCODER_DEFAULT_MAX_ALLOWED_SIZE
  maxLe : e.maxSize ≤ e.maxAllowed
  upd : UpdRel e.maxSize e.maxAllowed m.allowed m.lowest e.sizeUpdate

theorem cap_small : Generated.Consts.ENCODER_DEFAULT_MAX_ALLOWED_SIZE < 2 ^ 63 := by decide +kernel
theorem cap_eq : Generated.Consts.ENCODER_DEFAULT_MAX_ALLOWED_SIZE = 4096 := by decide +kernel

theorem sync_init (n : Nat) : Sync (Encoder.new n) (Mon.init (min n 4096)) := by
  rw [← cap_eq]
  refine ⟨⟨rfl, rfl, rfl, Nat.zero_le _⟩, rfl, rfl, rfl, ?_, ?_⟩
  · simp only [Encoder.new]; omega
  · simp only [Encoder.new, Mon.init, UpdRel]
    exact ⟨by omega, fun l h => by cases h⟩

/-- the `One` / `Two` bookkeeping of `update_max_size` on the pending update alone: `M` = the table's
    current maximum, `val` = the new value, capped -/
def nextUpdate (M val : Nat) : Option SizeUpdate → Option SizeUpdate
  | some (.one old) =>
    if val > old then
      if old > M then some (.one val) else some (.two old val)
    else some (.one val)
  | some (.two mn _) => if val < mn then some (.one val) else some (.two mn val)
  | none => if val ≠ M then some (.one val) else none

theorem updateMaxSize_eq (e : Encoder) (v : Nat) :
    e.updateMaxSize v =
      { e with sizeUpdate := nextUpdate e.maxSize (min v e.maxAllowed) e.sizeUpdate } := by
  obtain ⟨en, sz, mx, al, su⟩ := e
  unfold Encoder.updateMaxSize nextUpdate
  match su with
  | none => simp only; split <;> rfl
  | some (.one old) =>
    simp only
    split
    · split <;> rfl
    · rfl
  | some (.two mn _) => simp only; split <;> rfl

namespace UpdRel

/-- `update_max_size` against `Mon.setAllowed`, on the numbers alone -/
theorem next {M A allowed : Nat} {lowest : Option Nat} {su : Option SizeUpdate} (v : Nat)
    (h : UpdRel M A allowed lowest su) :
    UpdRel M A v (some (match (generalizing := false) lowest with | some l => min l v | none => v))
      (nextUpdate M (min v A) su) := by
  match su, h with
  | none, ⟨u1, u2⟩ =>
    have hlow : min M v ≤ (match (generalizing := false) lowest with | some l => min l v | none => v) := by
      cases lowest with
      | none => exact Nat.min_le_right ..
      | some l => have := u2 l rfl; simp only; omega
    by_cases hne : min v A ≠ M
    · simp only [nextUpdate, if_pos hne, UpdRel]
      exact ⟨trivial, _, rfl, by omega⟩
    · simp only [nextUpdate, if_neg hne, UpdRel]
      exact ⟨by omega, fun l hl => by cases hl; omega⟩
  | some (.one old), ⟨_, l, hl, u3⟩ =>
    subst hl
    by_cases h1 : min v A > old
    · by_cases h2 : old > M
      · simp only [nextUpdate, if_pos h1, if_pos h2, UpdRel]
        exact ⟨trivial, _, rfl, by omega⟩
      · simp only [nextUpdate, if_pos h1, if_neg h2, UpdRel]
        exact ⟨trivial, by omega, _, rfl, by omega⟩
    · simp only [nextUpdate, if_neg h1, UpdRel]
      exact ⟨trivial, _, rfl, by omega⟩
  | some (.two mn mx), ⟨_, _, l, hl, u3⟩ =>
    subst hl
    by_cases h1 : min v A < mn
    · simp only [nextUpdate, if_pos h1, UpdRel]
      exact ⟨trivial, _, rfl, by omega⟩
    · simp only [nextUpdate, if_neg h1, UpdRel]
      exact ⟨trivial, by omega, _, rfl, by omega⟩

theorem view {M A allowed : Nat} {lowest : Option Nat} {su : Option SizeUpdate}
    (h : UpdRel M A allowed lowest su) (hA : A < 2 ^ 63) :
    lastUpdate M su = min allowed A ∧ UpdOk allowed su ∧
    ∀ l, lowest = some l → l < M → ∃ u, firstUpdate su = some u ∧ u ≤ l := by
  match su, h with
  | none, ⟨u1, u2⟩ => exact ⟨u1, trivial, fun l hl hlt => by have := u2 l hl; omega⟩
  | some (.one v), ⟨u1, l, hl, u3⟩ =>
    exact ⟨u1, ⟨by omega, by omega⟩, fun l' hl' hlt => ⟨v, rfl, by rw [hl] at hl'; cases hl'; omega⟩⟩
  | some (.two mn mx), ⟨u1, u0, l, hl, u3⟩ =>
    exact ⟨u1, ⟨by omega, by omega, by omega, by omega⟩,
      fun l' hl' hlt => ⟨mn, rfl, by rw [hl] at hl'; cases hl'; omega⟩⟩

end UpdRel

theorem sync_setMax (e : Encoder) (m : Mon) (v : Nat) (h : Sync e m) :
    Sync (e.updateMaxSize v) (m.setAllowed v) := by
  rw [updateMaxSize_eq]
  exact ⟨⟨h.table.entries, h.table.maxSize, h.table.size, h.table.le⟩, rfl, h.pendingLimit, h.cap,
    h.maxLe, h.upd.next v⟩

theorem sync_signal {e : Encoder} {m : Mon} (h : Sync e m) {l : Nat} (hl : m.lowest = some l)
    (hlt : l < e.maxSize) {fs : List Model.Hpack.Field} {e' : Encoder} {bytes : Bytes}
    (henc : e.encode fs = some (e', bytes)) : ∃ u, leadingSizeUpdate bytes = some u ∧ u ≤ l := by
  have hA := cap_small
  rw [← h.cap] at hA
  obtain ⟨u, hu, hul⟩ := (h.upd.view hA).2.2 l hl hlt
  have := h.maxLe
  exact ⟨u, leading_of_encode e fs e' bytes u hu (by simp only [Nat.reducePow] at hA ⊢; omega) henc, hul⟩

theorem sync_block (e : Encoder) (m : Mon) (fs : List Model.Hpack.Field) (h : Sync e m)
    (hwf : BlockWF fs) :
    ∃ e' bytes m', e.encode fs = some (e', bytes) ∧ m.block (fs.map (·.h)) bytes = .ok m' ∧
      Sync e' m' ∧ e'.sizeUpdate = none ∧ m'.allowed = m.allowed := by
  have hA := cap_small
  rw [← h.cap] at hA
  obtain ⟨hlast, hok, -⟩ := h.upd.view hA
  obtain ⟨e', bytes, st', c1, c2, c3, c4, c5, c6, c7, c8⟩ :=
    encode_sim e m.st fs h.table h.pendingLimit (by rw [h.limit]; exact hok) (by rw [hlast]; omega) hwf
  have hm : m.block (fs.map (·.h)) bytes = .ok { m with st := st', lowest := none } := by
    apply mon_block_ok m _ bytes st' ?_ c2
    · rw [← c3.maxSize, c8, hlast]; omega
    · rw [← c3.entries, ← c3.size, ← c3.maxSize]; exact c3.le
    · intro l hl hgt
      exact sync_signal h hl (by rw [h.table.maxSize]; exact hgt) c1
  refine ⟨e', bytes, _, c1, hm, ⟨c3, by rw [c4]; exact h.limit, c5, by rw [c7]; exact h.cap,
    by rw [c8, c7, hlast]; omega, ?_⟩, c6, rfl⟩
  rw [c6, c7, c8, hlast]
  exact ⟨rfl, fun l hl => by cases hl⟩

inductive Op where
  | setMax (v : Nat)
  | block (fs : List Model.Hpack.Field)
  deriving Repr, DecidableEq

def OpWF : Op → Prop
  | .setMax _ => True
  | .block fs => BlockWF fs

instance (op : Op) : Decidable (OpWF op) := by cases op <;> unfold OpWF <;> infer_instance

def WF (ops : List Op) : Prop := ∀ op ∈ ops, OpWF op

instance (ops : List Op) : Decidable (WF ops) := by unfold WF; infer_instance

/-- `none` = the encoder panicked or the monitor rejected the block -/
def step (e : Encoder) (m : Mon) : Op → Option (Encoder × Mon)
  | .setMax v => some (e.updateMaxSize v, m.setAllowed v)
  | .block fs =>
    match e.encode fs with
    | none => none
    | some (e', bytes) =>
      match m.block (fs.map (·.h)) bytes with
      | .ok m' => some (e', m')
      | .error _ => none

def run : Encoder → Mon → List Op → Option (Encoder × Mon)
  | e, m, [] => some (e, m)
  | e, m, op :: ops =>
    match step e m op with
    | some (e', m') => run e' m' ops
    | none => none

def runOk (e : Encoder) (m : Mon) (ops : List Op) : Prop := (run e m ops).isSome = true

/-! `runOk` unfolded, to read the main statement against -/

theorem runOk_nil (e : Encoder) (m : Mon) : runOk e m [] := rfl

theorem runOk_setMax (e : Encoder) (m : Mon) (v : Nat) (ops : List Op) :
    runOk e m (.setMax v :: ops) ↔ runOk (e.updateMaxSize v) (m.setAllowed v) ops := by
  simp only [runOk, run, step]

theorem runOk_block (e : Encoder) (m : Mon) (fs : List Model.Hpack.Field) (ops : List Op) :
    runOk e m (.block fs :: ops) ↔
      ∃ e' bytes m', e.encode fs = some (e', bytes) ∧ m.block (fs.map (·.h)) bytes = .ok m' ∧
        runOk e' m' ops := by
  constructor
  · intro h
    cases he : e.encode fs with
    | none => simp [runOk, run, step, he] at h
    | some p =>
      obtain ⟨e', bytes⟩ := p
      cases hm : m.block (fs.map (·.h)) bytes with
      | error err => simp [runOk, run, step, he, hm] at h
      | ok m' => exact ⟨e', bytes, m', rfl, hm, by simpa [runOk, run, step, he, hm] using h⟩
  · rintro ⟨e', bytes, m', he, hm, h⟩
    simpa [runOk, run, step, he, hm] using h

theorem run_append (ops ops' : List Op) : ∀ (e : Encoder) (m : Mon),
    run e m (ops ++ ops') =
      match run e m ops with
      | some (e1, m1) => run e1 m1 ops'
      | none => none := by
  induction ops with
  | nil => intro e m; rfl
  | cons o os ih =>
    intro e m
    simp only [List.cons_append, run]
    cases step e m o with
    | none => rfl
    | some p => exact ih p.1 p.2

theorem step_sync (e : Encoder) (m : Mon) (op : Op) (h : Sync e m) (hwf : OpWF op) :
    ∃ e' m', step e m op = some (e', m') ∧ Sync e' m' := by
  cases op with
  | setMax v => exact ⟨_, _, rfl, sync_setMax e m v h⟩
  | block fs =>
    obtain ⟨e', bytes, m', h1, h2, h3, _⟩ := sync_block e m fs h hwf
    exact ⟨e', m', by simp only [step, h1, h2], h3⟩

theorem run_sync : ∀ (ops : List Op) (e : Encoder) (m : Mon), Sync e m → WF ops →
    ∃ e' m', run e m ops = some (e', m') ∧ Sync e' m' := by
  intro ops
  induction ops with
  | nil => intro e m h _; exact ⟨e, m, rfl, h⟩
  | cons op ops ih =>
    intro e m h hwf
    obtain ⟨e1, m1, hs, h1⟩ := step_sync e m op h (hwf op (List.mem_cons_self ..))
    obtain ⟨e2, m2, hr, h2⟩ := ih e1 m1 h1 (fun o ho => hwf o (List.mem_cons_of_mem _ ho))
    exact ⟨e2, m2, by simp only [run, hs, hr], h2⟩

/-- **C10, round trip for every history**: from `Encoder::new(n)` against a decoder that starts
    with `min n 4096`, whatever the peer does with SETTINGS_HEADER_TABLE_SIZE and whatever
    (well-formed) blocks are submitted, `encode` never panics and every block is accepted by the
    reference monitor: a conforming decoder reads back exactly the submitted fields in order, the
    table stays within what the peer allows, and a reduction is signalled at the start of the block. -/
theorem roundtrip_history (n : Nat) (ops : List Op) (hwf : WF ops) :
    runOk (Encoder.new n) (Mon.init (min n 4096)) ops := by
  obtain ⟨e', m', hr, _⟩ := run_sync ops _ _ (sync_init n) hwf
  simp [runOk, hr]

theorem reachable_sync (n : Nat) (ops : List Op) (hwf : WF ops) (e : Encoder) (m : Mon)
    (hrun : run (Encoder.new n) (Mon.init (min n 4096)) ops = some (e, m)) : Sync e m := by
  obtain ⟨e', m', hr, hs⟩ := run_sync ops _ _ (sync_init n) hwf
  rw [hr] at hrun
  cases hrun
  exact hs

/-- in every reachable state the encoder's table size is exact and within
    its maximum, and the maximum is at most 4096 -/
theorem table_bounded (n : Nat) (ops : List Op) (hwf : WF ops) (e : Encoder) (m : Mon)
    (hrun : run (Encoder.new n) (Mon.init (min n 4096)) ops = some (e, m)) :
    e.size = tableSize e.entries ∧ e.size ≤ e.maxSize ∧ e.maxSize ≤ 4096 := by
  have hs := reachable_sync n ops hwf e m hrun
  have := hs.maxLe
  rw [hs.cap, cap_eq] at this
  exact ⟨hs.table.size, hs.table.le, this⟩

/-- **`table_bounded`, at a block end**: the maximum is `min (what the peer allows) 4096` -/
theorem table_bounded_block_end (n : Nat) (ops : List Op) (fs : List Model.Hpack.Field)
    (hwf : WF (ops ++ [.block fs])) (e : Encoder) (m : Mon)
    (hrun : run (Encoder.new n) (Mon.init (min n 4096)) (ops ++ [.block fs]) = some (e, m)) :
    e.size ≤ e.maxSize ∧ e.maxSize = min m.allowed 4096 ∧ e.sizeUpdate = none := by
  have hwf1 : WF ops := fun o ho => hwf o (List.mem_append_left _ ho)
  have hwf2 : BlockWF fs := hwf (.block fs) (by simp)
  obtain ⟨e1, m1, hr1, hs1⟩ := run_sync ops _ _ (sync_init n) hwf1
  rw [run_append, hr1] at hrun
  obtain ⟨e', bytes, m', b1, b2, b3, b4, b5⟩ := sync_block e1 m1 fs hs1 hwf2
  simp only [run, step, b1, b2, Option.some.injEq, Prod.mk.injEq] at hrun
  obtain ⟨rfl, rfl⟩ := hrun
  have hu := b3.upd
  rw [b4] at hu
  have := hu.1
  rw [b3.cap, cap_eq] at this
  exact ⟨b3.table.le, this, b4⟩

/-- in a reachable state (any `Sync` state), once the peer lowers
    the table size below the current maximum, the next block starts with a size update that is at
    most the new value (the `One` / `Two` logic emits the minimum first) -/
theorem reduction_signalled_first (e : Encoder) (m : Mon) (v : Nat) (fs : List Model.Hpack.Field)
    (hs : Sync e m) (hv : v < e.maxSize) (e' : Encoder) (bytes : Bytes)
    (henc : (e.updateMaxSize v).encode fs = some (e', bytes)) :
    ∃ u, leadingSizeUpdate bytes = some u ∧ u ≤ v := by
  have hle : (match m.lowest with | some l => min l v | none => v) ≤ v := by
    cases m.lowest <;> simp only <;> omega
  obtain ⟨u, hu, hul⟩ := sync_signal (sync_setMax e m v hs) rfl
    (by rw [updateMaxSize_eq]; exact Nat.lt_of_le_of_lt hle hv) henc
  exact ⟨u, hu, Nat.le_trans hul hle⟩

end H2V.Lemmas.HpackEnc
