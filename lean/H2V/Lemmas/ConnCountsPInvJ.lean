import H2V.Lemmas.ConnCountsPInvI
/-
  C05 — invariants, part J: the role and the parity of `next_stream_id` never change (whether or not
  an `assert!` has fired) — what `send_push_promise` needs to be an evolution step.
-/
namespace H2V.Lemmas.ConnCountsP
open H2V H2V.Model H2V.Model.Conn

structure NX (s s' : Streams) : Prop where
  role : s'.counts.isServer = s.counts.isServer
  next : NextOK s.counts.isServer s.actions.send.nextStreamId s'.actions.send.nextStreamId

theorem NX.refl (s : Streams) : NX s s := ⟨rfl, NextOK.refl _ _⟩
theorem NX.trans {a b c : Streams} (h1 : NX a b) (h2 : NX b c) : NX a c :=
  ⟨h2.role.trans h1.role, h1.next.trans (by rw [← h1.role]; exact h2.next)⟩
theorem NX.of_eq {s s' : Streams} (hc : s'.counts.isServer = s.counts.isServer) (ha : s'.actions.send.nextStreamId = s.actions.send.nextStreamId) : NX s s' :=
  ⟨hc, by rw [ha]; exact NextOK.refl _ _⟩
theorem NX.of_df {s s' : Streams} (h : DF s s') : NX s s' := ⟨h.counts.isServer, h.next⟩

theorem NX.nextLocal {s s' : Streams} (h : NX s s') (hn : NextLocal s) : NextLocal s' := by
  intro y hy
  obtain ⟨x, hx, _, hpar⟩ := h.next y hy
  rw [isLocalInit_eq, h.role]
  rcases hpar with e | e
  · have := hn x hx
    rw [isLocalInit_eq] at this
    unfold locId at this ⊢
    rw [e]; exact this
  · exact e

theorem NX.closed : PrimClosed NX (fun _ _ => True) (fun _ _ _ => True) (fun c c' => c'.isServer = c.isServer) :=
  ⟨NX.refl, NX.trans, fun h => ⟨h.counts.isServer, h.next⟩, fun _ _ _ => NX.of_eq rfl rfl,
   fun s q l _ => NX.of_eq (by rw [setQ_counts]) (by cases q <;> rfl), fun _ _ h => ⟨h, NextOK.refl _ _⟩⟩

theorem EvB.nx {ρ : Bool} {s s' : Streams} (h : EvB ρ s s') : NX s s' :=
  EvB.closed NX.closed (fun _ => trivial) (fun _ _ => trivial) (fun _ _ => trivial) (fun _ _ => trivial)
    (fun _ _ _ => trivial) (fun t q k => NX.closed.qPush t q k (fun _ => trivial) fun _ => trivial)
    (fun t q k => NX.closed.qPushFront t q k (fun _ => trivial) fun _ => trivial)
    (fun t q _ => NX.closed.qPop t q (fun _ => trivial) fun _ _ _ => trivial) (fun _ _ _ _ => rfl)
    (fun _ _ _ _ => NX.of_eq rfl rfl) (fun _ _ => NX.of_eq rfl rfl) (fun _ _ _ _ => NX.of_eq rfl rfl) h

theorem NX.transitionAfter (s : Streams) (k : Nat) (b : Bool) : NX s (s.transitionAfter k b) := by
  rw [transitionAfter_split]
  refine NX.trans ?_ (transitionAfter_false_ev _ k).nx
  split
  · exact NX.of_df (DF.modCountsA _ _ _ (fun _ hc => cd_decReset hc))
  · exact NX.refl _

theorem EvT.nx {s s' : Streams} (h : EvT s s') : NX s s' := by
  induction h with
  | ev h => exact h.nx
  | trans _ _ ih1 ih2 => exact ih1.trans ih2
  | resetPop =>
    rename_i s0
    have hdf := DF.qPop s0 QName.pendingResetExpired
    cases hq : s0.qPop .pendingResetExpired with
    | mk s1 o =>
      rw [hq] at hdf
      cases o with
      | none => exact NX.of_df hdf
      | some id => exact (NX.of_df hdf).trans (NX.transitionAfter _ _ _)

end H2V.Lemmas.ConnCountsP
