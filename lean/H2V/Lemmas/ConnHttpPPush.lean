import H2V.Lemmas.ConnHttpPData
import H2V.Lemmas.ConnHttpPMain
import H2V.Lemmas.ConnPushRule
/-
  C13 (ConnHttpP) — PUSH_PROMISE on the client: `Recv::recv_push_promise` and
  `Inner::recv_push_promise`: the promised request is queued only if it passed
  `convert_poll_message` and `PushPromise::validate_request`.
-/
namespace H2V.Lemmas.ConnHttpP
open H2V H2V.Model H2V.Model.Frame H2V.Model.Hpack H2V.Model.Conn

/-- `PushPromise::validate_request`'s content-length clause -/
def promiseClOk (h : HeadersIn) : Bool :=
  match h.fields.find? (fun f => f.1 == Http.str "content-length") with
  | some (_, v :: _) => parseU64 v == some 0
  | _ => true

/-- what `recv_push_promise` may hand over for the promised request `h` -/
def PromiseAccepted (h : HeadersIn) (ev : REvent) : Prop :=
  ∃ m u, ev = .request m u h.fields ∧ h.isOverSize = false ∧ convertPollMessageServer h = .ok m u ∧
    promiseClOk h = true ∧ (m = Http.str "GET" ∨ m = Http.str "HEAD")

theorem recvRecvPushPromise_delivers (s : Streams) (k : Nat) (h : HeadersIn) :
    Delivers (fun k' ev => k' = k ∧ PromiseAccepted h ev) s (s.recvRecvPushPromise k h).1 := by
  generalize hr : s.recvRecvPushPromise k h = r
  unfold Streams.recvRecvPushPromise at hr
  split at hr
  · subst hr; exact (Quiet.refl s).delivers
  · rename_i st' _ _
    simp only at hr
    have q1 : Quiet s (s.modStream k fun st => { st with state := st' }) := (Quiet.refl s).mod k
    generalize (s.modStream k fun st => { st with state := st' }) = s1 at q1 hr
    split at hr
    · subst hr; exact q1.delivers
    · rename_i hov
      split at hr
      · subst hr; exact q1.delivers
      · subst hr; exact q1.delivers
      · rename_i m u hc
        have fin : ∀ (hcl : promiseClOk h = true) (hsafe : (m == Http.str "GET" || m == Http.str "HEAD") = true),
            Delivers (fun k' ev => k' = k ∧ PromiseAccepted h ev) s
              (((s1.modStream k fun st => { st with pendingRecv := st.pendingRecv ++ [.request m u h.fields] }).modStreamW
                k Stream.notifyRecv).modStreamW k Stream.notifyPush) := by
          intro hcl hsafe
          refine q1.then (Delivers.step (Delivers.step (delivers_append _ s1 k _
            ⟨rfl, m, u, rfl, by simpa using hov, hc, hcl, by simpa using hsafe⟩)
            (Quiet.of_step (.modStreamW _ _ _ .notifyRecv) (Quiet.refl _))) (Quiet.of_step (.modStreamW _ _ _ .notifyPush) (Quiet.refl _)))
        split at hr
        · rename_i nm v rest hf
          split at hr
          · subst hr; exact q1.delivers
          · rename_i hv
            subst hr
            simp only [Bool.or_eq_true, not_or, Bool.not_eq_true, Bool.not_eq_false'] at hv
            exact fin (by unfold promiseClOk; rw [hf]; exact hv.1) (by simpa using hv.2)
        · rename_i hf
          split at hr
          · subst hr; exact q1.delivers
          · rename_i hv
            subst hr
            simp only [Bool.or_eq_true, not_or, Bool.not_eq_true, Bool.not_eq_false'] at hv
            refine fin ?_ (by simpa using hv.2)
            unfold promiseClOk
            split
            · rename_i nm v rest hf'; exact absurd hf' (hf nm v rest)
            · rfl


theorem rppBody_delivers (s : Streams) (child : Nat) (h : HeadersIn) :
    Delivers (fun _ ev => PromiseAccepted h ev) s (Streams.pushPromiseBody s child h).1 := by
  unfold Streams.pushPromiseBody
  have d := (recvRecvPushPromise_delivers s child h).mono (Q := fun _ ev => PromiseAccepted h ev) (fun _ _ hp => hp.2)
  generalize s.recvRecvPushPromise child h = r at d ⊢
  obtain ⟨s1, res⟩ := r
  simp only at d
  cases res with
  | ok => exact d
  | unsupported => exact d.step (.of_step (.unsup _ _) (Quiet.refl _))
  | err e =>
    simp only
    have q := (Quiet.refl s1).resetOnRecvStreamErr child (.error e)
    generalize s1.resetOnRecvStreamErr child (.error e) = r2 at q ⊢
    obtain ⟨s2, res2⟩ := r2
    cases res2 <;> exact d.step q

/-- **`Inner::recv_push_promise`, every state, every frame**: all that reaches any receive queue is at
    most one `request` event for a promised request that passed `convert_poll_message` and
    `validate_request` -/
theorem recvPushPromise_delivers (s : Streams) (id : Nat) (h : HeadersIn) :
    Delivers (fun _ ev => PromiseAccepted h ev) s (s.recvPushPromise id h).1 :=
  have t := Streams.recvOpen_step (K := kindsQuiet) (by decide) s h.sid true
  PromiseRule.run (I := Delivers (fun _ ev => PromiseAccepted h ev) s) (L := fun _ _ t => Quiet s t) (L' := fun _ _ _ => True)
    { pre := (Quiet.refl s).delivers
      opn := (Quiet.of_step t (.refl s)).delivers
      ins := fun _ s1 sP _ hro hP => by
        rw [hro] at t
        have q := Quiet.of_step t (.refl s)
        suffices q : Quiet s _ from ⟨q.delivers, q⟩
        rw [Streams.insertNew_fst, hP]
        exact (rel_ite (fun _ => Quiet.of_step (.panic _ _) q) fun _ => q).trans (quiet_insert _ _ rfl)
      body := fun _ child t _ q =>
        ⟨q.then ((rppBody_delivers t child h).step ((Quiet.refl _).transitionAfter child _)), fun _ => trivial⟩
      link := fun pk child t d _ => d.step (.of_step (Streams.pushPromiseLink_step (by decide) t pk child) (.refl t)) }


/-- **promised requests**: a `request` event for a delivered PUSH_PROMISE block means no rule of
    `Spec.Http.request` is violated by the block's field list; the method is GET or HEAD; a
    content-length, if any, is 0 -/
theorem accepted_promise_rules (blk : HeaderBlock) (g : List Header) (promised : Nat) (ev : REvent)
    (hm : blk.isMalformed = false) (hb : BlockInv blk g) (hok : ∀ x ∈ g, fieldOk x = true)
    (ha : PromiseAccepted (Conn.headersIn promised false blk) ev) :
    ∃ m u, ev = .request m u (groupInto [] (regular g)) ∧ Spec.Http.request g false = [] ∧
      (Spec.Http.get g ":method" = [Http.str "GET"] ∨ Spec.Http.get g ":method" = [Http.str "HEAD"]) ∧
      promiseClOk (Conn.headersIn promised false blk) = true := by
  obtain ⟨m, u, rfl, ho, hc, hcl, hsafe⟩ := ha
  have hnp : (Conn.headersIn promised false blk).hasProtocol = true → false = true := by
    intro hp
    have := (convert_ok_guards _ m u hc).2.1 hp
    rcases hsafe with e | e <;> (rw [e] at this; revert this; simp only [str_GET, str_HEAD, str_CONNECT]; decide)
  have hst := (convert_ok_guards _ m u hc).2.2.1
  obtain ⟨r1, r2, r3⟩ := accepted_request_rules blk g promised false (true, false) m u _ hm hb hok
    ⟨ho, rfl, hc, hst, hnp, rfl⟩
  refine ⟨m, u, by rw [← r2], r1, ?_, hcl⟩
  rw [r3]
  rcases hsafe with e | e
  · exact Or.inl (by rw [e])
  · exact Or.inr (by rw [e])

end H2V.Lemmas.ConnHttpP
