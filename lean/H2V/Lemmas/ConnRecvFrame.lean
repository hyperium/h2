import H2V.Model.ConnProto
/-
  `DynConnection::recv_frame`, cut where its users cut it: the five frames that are one call of the stream layer
  (`recvLift`), a PING once `recv_ping` has answered (`pingTail`, `recvFrame_ping_eq`), and the rest, which are short.
  It reaches the connection only through its stream layer, its PING / GOAWAY bookkeeping and `error`: the codec, the
  connection's task and `settings` are as before, whatever the frame (`recvFrame_keeps`).
-/
namespace H2V.Model.Conn.Conn
open H2V H2V.Model

/-- what `recv_frame` makes of the answer of the stream layer to HEADERS, DATA, RST_STREAM, PUSH_PROMISE, WINDOW_UPDATE (the `lift`
    of the model's code): only `streams` changes, the answer is never `ReceivedFrame::Settings` -/
def recvLift (c : Conn) (r : Streams × Except PErr Unit) : Conn × Except PErr ReceivedFrame :=
  match r with
  | (s, .ok _) => ({ c with streams := s }, .ok .continue)
  | (s, .error e) => ({ c with streams := s }, .error e)

theorem recvLift_fst (c : Conn) (r : Streams × Except PErr Unit) : (recvLift c r).1 = { c with streams := r.1 } := by
  rcases r with ⟨s, _ | _⟩ <;> rfl

/-- what `recv_frame` does with a PING once `recv_ping` has answered (a copy) -/
def pingTail (c : Conn) (shutdown : Bool) : Conn × Except PErr ReceivedFrame :=
  if shutdown then
    let c := if c.goAway.isGoingAway then c else c.panic "received unexpected shutdown ping"
    (c.dynGoAway c.streams.recv.lastProcessedId NO_ERROR, .ok .continue)
  else (c, .ok .continue)

theorem recvFrame_ping_eq (c : Conn) (ack : Bool) (payload : Bytes) :
    c.recvFrame (some (.ping ack payload)) =
      pingTail
        (let r := c.pingPong.recvPing ack payload
         let c0 : Conn := { c with pingPong := r.1, streams := c.streams.wake r.2.2.1 }
         if r.2.2.2 then c0 else c0.panic "ping_pong assertion")
        ((c.pingPong.recvPing ack payload).2.1 == .shutdown) := by rfl

theorem dynGoAway_keeps (c : Conn) (id : Nat) (e : Reason) :
    (c.dynGoAway id e).codec = c.codec ∧ (c.dynGoAway id e).cx = c.cx ∧ (c.dynGoAway id e).settings = c.settings ∧
    (c.dynGoAway id e).pingPong = c.pingPong := by
  unfold dynGoAway
  dsimp only
  split <;> exact ⟨rfl, rfl, rfl, rfl⟩

theorem pingTail_keeps (c : Conn) (shutdown : Bool) :
    (pingTail c shutdown).1.codec = c.codec ∧ (pingTail c shutdown).1.cx = c.cx ∧ (pingTail c shutdown).1.settings = c.settings ∧
    (pingTail c shutdown).1.pingPong = c.pingPong ∧ (pingTail c shutdown).2 = .ok .continue := by
  cases shutdown
  · exact ⟨rfl, rfl, rfl, rfl, rfl⟩
  · unfold pingTail
    rw [if_pos rfl]
    have h := dynGoAway_keeps (if c.goAway.isGoingAway = true then c else c.panic "received unexpected shutdown ping")
      (if c.goAway.isGoingAway = true then c else c.panic "received unexpected shutdown ping").streams.recv.lastProcessedId NO_ERROR
    refine ⟨h.1.trans ?_, h.2.1.trans ?_, h.2.2.1.trans ?_, h.2.2.2.trans ?_, rfl⟩ <;> split <;> rfl

theorem recvFrame_keeps (c : Conn) (f : Option Frame.Frame) :
    (c.recvFrame f).1.codec = c.codec ∧ (c.recvFrame f).1.cx = c.cx ∧ (c.recvFrame f).1.settings = c.settings ∧
    ∀ a v, (c.recvFrame f).2 = .ok (.settings a v) → f = some (.settings a v) := by
  -- a call of the stream layer: only `streams` is replaced, the answer is `Continue` or the error
  have lift : ∀ r : Streams × Except PErr Unit, ∀ x : Conn × Except PErr ReceivedFrame,
      x = (match r with
        | (s, .ok _) => ({ c with streams := s }, Except.ok ReceivedFrame.continue)
        | (s, .error e) => ({ c with streams := s }, Except.error e)) →
      x.1.codec = c.codec ∧ x.1.cx = c.cx ∧ x.1.settings = c.settings ∧ ∀ a v, x.2 = .ok (.settings a v) → f = some (.settings a v) := by
    intro ⟨s, r⟩ x hx; subst hx; cases r <;> exact ⟨rfl, rfl, rfl, fun _ _ h => by cases h⟩
  unfold recvFrame
  dsimp only
  cases f with
  | none => exact ⟨rfl, rfl, rfl, fun _ _ h => by cases h⟩
  | some fr =>
    cases fr with
    | headers | data | reset | pushPromise | windowUpdate => exact lift _ _ rfl
    | priority => exact ⟨rfl, rfl, rfl, fun _ _ h => by cases h⟩
    | settings ack vals => exact ⟨rfl, rfl, rfl, fun _ _ h => by cases h; rfl⟩
    | goAway last code debug =>
      dsimp only
      generalize c.streams.recvGoAwayFrame last code debug = r
      obtain ⟨s, r⟩ := r
      cases r <;> exact ⟨rfl, rfl, rfl, fun _ _ h => by cases h⟩
    | ping ack payload =>
      dsimp only
      generalize c.pingPong.recvPing ack payload = r
      obtain ⟨pp, status, woken, ok⟩ := r
      dsimp only
      -- from here on: `panic`, `dyn_go_away`, both off the three fields; the answer is `Continue`
      generalize hc1 : (if ok = true then ({ c with pingPong := pp, streams := c.streams.wake woken } : Conn) else _) = c1
      have h1 : c1.codec = c.codec ∧ c1.cx = c.cx ∧ c1.settings = c.settings := by rw [← hc1]; split <;> exact ⟨rfl, rfl, rfl⟩
      split
      · generalize hc2 : (if c1.goAway.isGoingAway = true then c1 else _) = c2
        have h2 : c2.codec = c.codec ∧ c2.cx = c.cx ∧ c2.settings = c.settings := by rw [← hc2]; split <;> exact h1
        have h3 := dynGoAway_keeps c2 c2.streams.recv.lastProcessedId NO_ERROR
        exact ⟨h3.1.trans h2.1, h3.2.1.trans h2.2.1, h3.2.2.1.trans h2.2.2, fun _ _ h => by cases h⟩
      · exact ⟨h1.1, h1.2.1, h1.2.2, fun _ _ h => by cases h⟩

theorem recvSettings_frame (c : Conn) (ack : Bool) (vals : List (Nat × Nat)) :
    ∃ r s st, (c.recvSettings ack vals).1 = { c with codec := { c.codec with r := r }, streams := s, settings := st } := by
  unfold recvSettings
  cases ack with
  | true =>
    rw [if_pos rfl]
    cases c.settings.loc with
    | waitingAck loc =>
      dsimp only
      generalize Streams.applyLocalSettingsFrame _ loc = x
      obtain ⟨s, _ | _⟩ := x <;> exact ⟨_, _, _, rfl⟩
    | toSend _ => exact ⟨c.codec.r, c.streams, c.settings, rfl⟩
    | synced => exact ⟨c.codec.r, c.streams, c.settings, rfl⟩
  | false =>
    rw [if_neg Bool.false_ne_true]
    dsimp only
    split
    · exact ⟨c.codec.r, _, _, rfl⟩
    · exact ⟨c.codec.r, c.streams, _, rfl⟩

end H2V.Model.Conn.Conn
