import H2V.Lemmas.ConnStages
import H2V.Lemmas.ConnPushRule
import H2V.Lemmas.ConnDataRule
import H2V.Lemmas.ConnResetPSend
/-
  ConnResetP — `Evolves (SRel D) RInv` for the functions of streams.rs whose footprint is not in `srK`: they queue an
  RST_STREAM, insert an entry or drop a handle.  With these and `Evolves.of_step_sr` every operation of the model that
  the connection (`Conn`) or the driver (`step`) calls on a `Streams` value is covered.
-/
set_option linter.unusedSectionVars false
namespace H2V.Lemmas.ConnResetP
open H2V H2V.Model H2V.Model.Conn
variable {D : Nat → Prop}

section
variable {a : Store} {s : Streams}

theorem RInv.of_nil {st : Stream} (h : st.pendingSend = []) : RInv st := by
  constructor <;> rw [h] <;> simp

/-- a new slab entry (nothing queued) -/
macro_rules
  | `(tactic| ev_store) =>
    `(tactic| (with_reducible refine Evolves.insert ?_ _ ?hx;
               case hx => exact RInv.of_nil (by first | rfl | (split <;> rfl))))

theorem foldl_ev {P : Stream → Stream → Prop} {N : Stream → Prop} [Good P N] {α : Type} (f : Streams → α → Streams)
    (hf : ∀ (s : Streams) (x : α), Evolves P N a s.store → Evolves P N a (f s x).store)
    (l : List α) (h : Evolves P N a s.store) : Evolves P N a (l.foldl f s).store :=
  Streams.foldl_inv (P := fun s => Evolves P N a s.store) hf l s h

theorem resetOnRecvStreamErr_sr (h : Evolves (SRel D) RInv a s.store) (id : Nat) (r : Except PErr Unit) :
    Evolves (SRel D) RInv a (s.resetOnRecvStreamErr id r).1.store := by
  unfold Streams.resetOnRecvStreamErr; ev

theorem actionsSendReset_sr (h : Evolves (SRel D) RInv a s.store) (id : Nat) (r : Reason) (i : Initiator) :
    Evolves (SRel D) RInv a (s.actionsSendReset id r i).1.store := by
  unfold Streams.actionsSendReset; ev

theorem recvHeaders_sr (h : Evolves (SRel D) RInv a s.store) (hd : HeadersIn) :
    Evolves (SRel D) RInv a (s.recvHeaders hd).1.store := by
  unfold Streams.recvHeaders; ev

theorem recvData_sr (h : Evolves (SRel D) RInv a s.store) (id : Nat) (p : Bytes) (eos : Bool) (pl : Option Nat) :
    Evolves (SRel D) RInv a (s.recvData id p eos pl).1.store :=
  Streams.recvData_rel evolves_relOK (K := srK) (by decide) (fun t h => Evolves.of_step_sr t h)
    (fun _ k e h => resetOnRecvStreamErr_sr h k (.error e)) s id p eos pl h

theorem recvWindowUpdate_sr (h : Evolves (SRel D) RInv a s.store) (id inc : Nat) :
    Evolves (SRel D) RInv a (s.recvWindowUpdate id inc).1.store := by
  unfold Streams.recvWindowUpdate; ev

theorem recvPushPromise_sr (h : Evolves (SRel D) RInv a s.store) (id : Nat) (hd : HeadersIn) :
    Evolves (SRel D) RInv a (s.recvPushPromise id hd).1.store :=
  Streams.recvPushPromise_rel evolves_relOK (K := srK) (by decide) (fun t h => Evolves.of_step_sr t h)
    (fun _ _ h => Evolves.insert h _ (RInv.of_nil rfl)) (fun _ k e h => resetOnRecvStreamErr_sr h k (.error e)) s id hd h

theorem innerSendReset_sr (h : Evolves (SRel D) RInv a s.store) (id : Nat) (r : Reason) :
    Evolves (SRel D) RInv a (s.innerSendReset id r).1.store := by
  unfold Streams.innerSendReset; ev

theorem applyRemoteSettings_sr (h : Evolves (SRel D) RInv a s.store) (v : List (Nat × Nat)) (b : Bool) :
    Evolves (SRel D) RInv a (s.applyRemoteSettings v b).1.store := by
  unfold Streams.applyRemoteSettings; ev

theorem Evolves.mod_drop {S : Store} (h : Evolves (SRel D) RInv a S) (id : Nat) (f : Stream → Stream) (hD : D id)
    (hk : ∀ st, (f st).key = st.key) (hi : ∀ st, (f st).id = st.id) (hs : ∀ st, (f st).state = st.state)
    (hq : ∀ st, (f st).pendingSend = st.pendingSend) : Evolves (SRel D) RInv a (Store.mod S id f) :=
  h.mod id f (fun st hg => SRel.of_core4 (hk st) (hi st) (hs st) (hq st)
    (fun hd => absurd (by rw [Store.get?_key hg]; exact hD) hd))

macro_rules
  | `(tactic| ev_store) =>
    `(tactic| (with_reducible refine Evolves.mod_drop ?_ _ _ (by assumption) (fun _ => rfl) (fun _ => rfl) (fun _ => rfl) (fun _ => rfl)))

theorem dropStreamRef_sr (h : Evolves (SRel D) RInv a s.store) (id : Nat) (hD : D id) :
    Evolves (SRel D) RInv a (s.dropStreamRef id).store := by
  unfold Streams.dropStreamRef; ev

theorem refSendReset_sr (h : Evolves (SRel D) RInv a s.store) (id : Nat) (r : Reason) :
    Evolves (SRel D) RInv a (s.refSendReset id r).store := by
  unfold Streams.refSendReset; ev

theorem Evolves.remove_inserted {P : Stream → Stream → Prop} {N : Stream → Prop} [Good P N] {S b : Store} (x : Stream)
    (h0 : Evolves P N a S) (h : Evolves P N a b) : Evolves P N a (b.remove (S.insert x).2) :=
  Evolves.remove_new h0 h _ (Nat.le_refl _)

theorem sendRequest_sr (h : Evolves (SRel D) RInv a s.store) (isHead : Bool) (f : List Hpack.Field) (eos : Bool) (p : Option Nat) :
    Evolves (SRel D) RInv a (s.sendRequest isHead f eos p).1.store := by
  unfold Streams.sendRequest; ev
  all_goals try (refine Evolves.insert (by assumption) _ (RInv.of_nil ?_); cases isHead <;> rfl)
  all_goals
    refine Evolves.remove_inserted _ (by assumption) ?_
    ev

/-- `reserve_local` on the promised entry -/
macro_rules
  | `(tactic| ev_store) =>
    `(tactic| with_reducible refine Evolves.mod_state ?_ _ _ (fun _ => rfl) (fun _ => rfl) (fun _ => rfl) (fun _ => rfl) (step_reserveLocal _ _))

theorem refSendPushPromise_sr (h : Evolves (SRel D) RInv a s.store) (p : Nat) (v : Bool) (f : List Hpack.Field) :
    Evolves (SRel D) RInv a (s.refSendPushPromise p v f).1.store := by
  unfold Streams.refSendPushPromise Streams.sendReserveLocal; ev
  all_goals
    refine Evolves.remove_inserted _ (by assumption) ?_
    ev

end
end H2V.Lemmas.ConnResetP
