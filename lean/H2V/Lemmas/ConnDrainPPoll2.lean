import H2V.Lemmas.ConnDrainPConn
import H2V.Lemmas.ConnRecvFrame
import H2V.Lemmas.ConnPollNextRule
/-
  ConnDrainP — `Connection::poll2` (ConnProto.lean): `poll2Loop_pending` — `poll2` answers `Pending` only with
  the connection task parked on the transport's write waker, or on its read waker with every slot of `poll_ready`
  (PONG, PING, SETTINGS ACK, local SETTINGS, refusal) and the GOAWAY slot empty.
-/
namespace H2V.Lemmas.ConnDrainP
open H2V H2V.Model H2V.Model.Conn
open H2V.Lemmas.ConnCtlP (poll2Dispatch poll2Read poll2GoOn poll2Loop_succ)


theorem recvSettings_codec (c : Conn) (a : Bool) (v : List (Nat × Nat)) :
    (c.recvSettings a v).1.codec.w = c.codec.w ∧ (c.recvSettings a v).1.codec.io = c.codec.io ∧ (c.recvSettings a v).1.cx = c.cx := by
  obtain ⟨r, s, st, e⟩ := Conn.recvSettings_frame c a v
  rw [e]; exact ⟨rfl, rfl, rfl⟩

theorem pollNext_w (n : Nat) (c : Codec) (tag : String) : (pollNext n c tag).1.w = c.w :=
  (pollNext_rule (I := fun _ => True) (G := fun _ => True) (fun _ _ h => h) (fun _ h => ⟨h, fun _ _ => h⟩) n c tag trivial).2.1

/-- the connection task is parked where it will be woken: on the transport's write waker (the codec could not
    take more), or on the read waker with nothing of `poll_ready`'s slots and no GOAWAY owed -/
def ConnParked (c : Conn) : Prop :=
  WriteParked c ∨ (c.codec.io.readWaker = some c.cx ∧ c.goAway.pending = none ∧ ReadyDone c)

theorem conn_panic_panicked (c : Conn) (m : String) : (c.panic m).streams.panicked ≠ none :=
  Streams.panic_panicked_ne_none _ _

/-- what `poll2Loop_pending` says of one run of the loop from `c`, as a property of the rest `k` of the loop -/
def ParksFrom (c' : Conn) (k : Conn → Conn × PollRes) : Prop :=
  ∀ c, CapOK c.codec.w → k c = (c', .pending) → ConnParked c' ∧ CapOK c'.codec.w ∧ c'.cx = c.cx

theorem poll2Dispatch_pending {k : Conn → Conn × PollRes} {c' : Conn} (hk : ParksFrom c' k) (fr : Option Frame.Frame) :
    ParksFrom c' fun c => poll2Dispatch k c fr := by
  intro c hc h
  replace h : poll2Dispatch k c fr = (c', .pending) := h
  unfold poll2Dispatch at h
  have hf := Conn.recvFrame_keeps c fr
  generalize c.recvFrame fr = p at hf h
  obtain ⟨c3, r3⟩ := p
  have hc3 : CapOK c3.codec.w := by rw [hf.1]; exact hc
  cases r3 with
  | error e => cases h
  | ok rf =>
    cases rf with
    | «continue» =>
      obtain ⟨a, b, d⟩ := hk c3 hc3 h
      exact ⟨a, b, d.trans hf.2.1⟩
    | done => cases h
    | settings ack vals =>
      dsimp only at h
      have hs := recvSettings_codec c3 ack vals
      generalize c3.recvSettings ack vals = p at hs h
      obtain ⟨c4, r4⟩ := p
      cases r4 with
      | error e => cases h
      | ok u =>
        obtain ⟨a, b, d⟩ := hk c4 (by rw [hs.1]; exact hc3) h
        exact ⟨a, b, d.trans (hs.2.2.trans hf.2.1)⟩

/-- `poll_ready` answered `Ready`, the GOAWAY slot is empty: `Pending` comes from `poll_next`, which parked the
    task on the read waker, or from a later turn -/
theorem poll2Read_pending {k : Conn → Conn × PollRes} {c c' : Conn} (hk : ParksFrom c' k) (hc : CapOK c.codec.w)
    (hg : c.goAway.pending = none) (hd : ReadyDone c) (h : poll2Read k c = (c', .pending)) :
    ConnParked c' ∧ CapOK c'.codec.w ∧ c'.cx = c.cx := by
  unfold poll2Read at h
  rcases hpn : pollNext (c.codec.r.buf.length + c.codec.io.rd.length + 2) c.codec c.cx with ⟨codec, polled⟩
  rw [hpn] at h
  dsimp only at h
  have hw := pollNext_w (c.codec.r.buf.length + c.codec.io.rd.length + 2) c.codec c.cx
  rw [hpn] at hw
  have hc2 : CapOK codec.w := by rw [hw]; exact hc
  cases polled with
  | pending =>
    cases h
    exact ⟨Or.inr ⟨pollNext_pending_parks _ _ _ _ (by omega) hpn, hg, ⟨hd.pong, hd.ping, hd.remote, hd.loc, hd.refused⟩⟩, hc2, rfl⟩
  | err e => cases h
  | ioErr k m => cases h
  | frame f => exact poll2Dispatch_pending hk (some f) { c with codec := codec } hc2 h
  | eof => exact poll2Dispatch_pending hk none { c with codec := codec } hc2 h

theorem poll2GoOn_pending {k : Conn → Conn × PollRes} {c c' : Conn} (hk : ParksFrom c' k) (hc : CapOK c.codec.w)
    (hg : c.goAway.pending = none) (h : poll2GoOn k c = (c', .pending)) :
    ConnParked c' ∧ CapOK c'.codec.w ∧ c'.cx = c.cx := by
  unfold poll2GoOn at h
  have hs := pollReady_spec c
  generalize c.pollReady = p at hs h
  obtain ⟨c1, r1⟩ := p
  obtain ⟨st1, g1, w1, ok1⟩ := hs
  cases r1 with
  | pending => cases h; exact ⟨Or.inl (w1 rfl hc), st1.cap hc, st1.cx⟩
  | err e => cases h
  | ok =>
    obtain ⟨a, b, d⟩ := poll2Read_pending hk (st1.cap hc) (by rw [g1]; exact hg) (ok1 rfl) h
    exact ⟨a, b, d.trans st1.cx⟩

theorem poll2Loop_pending (n : Nat) : ∀ (c c' : Conn), CapOK c.codec.w → Conn.poll2Loop n c = (c', .pending) →
    c'.streams.panicked = none → ConnParked c' ∧ CapOK c'.codec.w ∧ c'.cx = c.cx := by
  induction n with
  | zero =>
    intro c c' _ h hp
    unfold Conn.poll2Loop at h
    cases h
    exact absurd hp (conn_panic_panicked _ _)
  | succ n ih =>
    intro c c' hc h hp
    rw [poll2Loop_succ] at h
    have hs := sendPendingGoAway_spec c
    generalize c.sendPendingGoAway = p at hs h
    obtain ⟨c0, r0⟩ := p
    obtain ⟨st0, w0, ok0⟩ := hs
    have goOn : c0.goAway.pending = none → poll2GoOn (Conn.poll2Loop n) c0 = (c', .pending) →
        ConnParked c' ∧ CapOK c'.codec.w ∧ c'.cx = c.cx := by
      intro hg h
      obtain ⟨a, b, d⟩ := poll2GoOn_pending (fun c hc h => ih c c' hc h hp) (st0.cap hc) hg h
      exact ⟨a, b, d.trans st0.cx⟩
    cases r0 with
    | pending => cases h; exact ⟨Or.inl (w0 rfl hc), st0.cap hc, st0.cx⟩
    | err e => cases h
    | none => exact goOn (ok0 nofun fun _ => nofun) h
    | reason r =>
      dsimp only at h
      split at h
      · split at h <;> cases h
      · exact goOn (ok0 nofun fun _ => nofun) h

end H2V.Lemmas.ConnDrainP
