import H2V.Lemmas.ConnNoPanicPDsGk
/-
  C08 (no panic) — `DSum` / `Coupled` as invariants: the functions outside `UK`:
  `queue_open`, `send_headers` (`GK`), `Prioritize::send_data` (`GK`, given that the new total
  fits a `usize`), `clear_queue`, `Send::handle_error`, `send_reset` and its callers (`GKo`: under `OH`).
-/
namespace H2V.Lemmas.ConnNoPanicP
open H2V H2V.Model H2V.Model.Conn H2V.Lemmas.ConnCountsP
attribute [local irreducible] wrapSubU32 wrapSubUsize

theorem queueOpen_gk (s : Streams) (k : Nat) : GK s (s.queueOpen k) := by
  unfold Streams.queueOpen Streams.qPush
  split
  · exact .refl _
  · dsimp only
    refine GK.trans (modStream_gk' s k (fun st => st.setQueued .pendingOpen true) (fun _ => rfl) ?_ ?_) (setQ_uk _ _ _).toGK
    · exact ds_of_fields rfl rfl
    · exact fun r _ => dsr_of_fields rfl rfl r

theorem sendHeaders_gk (s : Streams) (k : Nat) (eos : Bool) (f : List Hpack.Field) : GK s (s.sendHeaders k eos f).1 := by
  unfold Streams.sendHeaders; gk_auto

theorem oh_of_touch_one {s u : Streams} {k : Nat} (hne : ∀ j, j ≠ k → u.stream j = s.stream j) (hk : OHead (u.stream k))
    (ho : OH s) : OH u := by
  intro j
  by_cases hj : j = k
  · subst hj; exact hk
  · rw [hne j hj]; exact ho j

theorem clearQueue_stream_ne (s : Streams) {k j : Nat} (hj : j ≠ k) : (s.clearQueue k).stream j = s.stream j := by
  have h1 : ∀ t : Streams, t.store = (s.modStream k fun st =>
      { st with pendingSend := [], bufferedSendData := 0, requestedSendCapacity := 0 }).store → t.stream j = s.stream j := by
    intro t ht
    rw [stream_of_store_eqP ht]
    exact ConnFlowP.stream_modStream_other _ (fun _ => rfl) hj
  unfold Streams.clearQueue
  dsimp only
  split
  · split
    · exact h1 _ rfl
    · exact h1 _ rfl
  · exact h1 _ rfl

theorem ohead_of_nil {x : Stream} (h : x.pendingSend = []) : OHead x := by
  intro _; rw [h]; rfl

theorem clearQueue_oh (s : Streams) (k : Nat) (ho : OH s) : OH (s.clearQueue k) :=
  oh_of_touch_one (fun _ hj => clearQueue_stream_ne s hj) (ohead_of_nil (clearQueue_self s k).1) ho

theorem clearQueue_go (s : Streams) (k : Nat) : GKo s (s.clearQueue k) :=
  ⟨fun ho => ⟨clearQueue_gk s k, clearQueue_oh s k ho⟩⟩
theorem sendHandleError_go (s : Streams) (k : Nat) : GKo s (s.sendHandleError k) := by
  unfold Streams.sendHandleError; go_auto

/-- `pending_open` branch without a queued frame, and the common part of the other: front frame off, queue cleared -/
theorem dropClear_gk (s : Streams) (k : Nat) :
    GK s ((s.modStream k fun st => { st with pendingSend := st.pendingSend.drop 1 }).clearQueue k) := by
  refine GK.trans (modStream_gk' s k (fun st => { st with pendingSend := st.pendingSend.drop 1 }) (fun _ => rfl) ?_ ?_)
    (clearQueue_gk _ _)
  · intro h
    unfold DS at h ⊢
    exact ⟨Nat.le_trans (dsum_drop_le 1 _) h.1, h.2⟩
  · intro r _ h
    unfold DSr at h ⊢
    have := dsum_drop_le 1 (s.stream k).pendingSend
    show r + dsum ((s.stream k).pendingSend.drop 1) ≤ (s.stream k).bufferedSendData ∧ _
    exact ⟨by have := h.1; omega, h.2⟩

theorem dropClear_ne (s : Streams) {k j : Nat} (hj : j ≠ k) :
    ((s.modStream k fun st => { st with pendingSend := st.pendingSend.drop 1 }).clearQueue k).stream j = s.stream j := by
  rw [clearQueue_stream_ne _ hj]
  exact ConnFlowP.stream_modStream_other _ (fun _ => rfl) hj

/-- the `pending_open` branch of `send_reset`: only the front frame survives; it is no DATA frame -/
theorem keepHead_go (s : Streams) (k : Nat) (f : SFrame) (hf : dsum [f] = 0) (ho : OH s) :
    GK s (((s.modStream k fun st => { st with pendingSend := st.pendingSend.drop 1 }).clearQueue k).modStream k
      fun st => { st with pendingSend := st.pendingSend ++ [f] }) ∧
    OH (((s.modStream k fun st => { st with pendingSend := st.pendingSend.drop 1 }).clearQueue k).modStream k
      fun st => { st with pendingSend := st.pendingSend ++ [f] }) := by
  have h1 := dropClear_gk s k
  have hne := fun j (hj : j ≠ k) => dropClear_ne s hj
  have hself := clearQueue_self (s.modStream k fun st => { st with pendingSend := st.pendingSend.drop 1 }) k
  generalize ((s.modStream k fun st => { st with pendingSend := st.pendingSend.drop 1 }).clearQueue k) = t at h1 hne hself ⊢
  refine ⟨h1.trans (modStream_gk' t k (fun st => { st with pendingSend := st.pendingSend ++ [f] }) (fun _ => rfl)
    (fun _ => ?_) (fun r hr h => ?_)), ?_⟩
  · unfold DS
    show dsum ((t.stream k).pendingSend ++ [f]) ≤ (t.stream k).bufferedSendData ∧ (t.stream k).bufferedSendData < USIZE_MOD
    rw [hself.1, hself.2, List.nil_append, hf]
    exact ⟨Nat.le_refl _, by decide⟩
  · exfalso
    have := h.1
    rw [hself.2] at this; omega
  · refine oh_of_touch_one (k := k) (fun j hj => ?_) ?_ ho
    · exact (ConnFlowP.stream_modStream_other (s := t) (id := k) (k := j)
        (fun st => ({ st with pendingSend := st.pendingSend ++ [f] } : Stream)) (fun _ => rfl) hj).trans (hne j hj)
    · by_cases hl : Live t k
      · have := stream_modStream_live hl (fun st => ({ st with pendingSend := st.pendingSend ++ [f] } : Stream)) (fun _ => rfl)
        rw [this]
        intro _
        show dsum ((t.stream k).pendingSend ++ [f]).head?.toList = 0
        rw [hself.1]; exact hf
      · rw [stream_modStream_dead hl]; exact ohead_of_nil hself.1

/-- `send_reset` on a stream in `pending_open` (`Streams.keepOnlyHead`): by `OH` the frame that stays is no DATA frame -/
theorem keepOnlyHead_go (s : Streams) (k : Nat) (hpo : (s.stream k).isPendingOpen = true) : GKo s (s.keepOnlyHead k) := by
  refine ⟨fun ho => ?_⟩
  unfold Streams.keepOnlyHead
  dsimp only
  split
  · next f hf =>
    refine keepHead_go s k f ?_ ho
    have := ho k hpo
    rw [hf] at this; exact this
  · exact ⟨dropClear_gk s k, oh_of_touch_one (k := k) (fun j hj => dropClear_ne s hj) (ohead_of_nil (clearQueue_self _ k).1) ho⟩

theorem sendSendReset_go (s : Streams) (k : Nat) (r : Reason) (i : Initiator) : GKo s (s.sendSendReset k r i) := by
  rw [Streams.sendSendReset_eq]; go_auto

theorem sendRecvStreamWindowUpdate_go (s : Streams) (k sz : Nat) : GKo s (s.sendRecvStreamWindowUpdate k sz).1 := by
  unfold Streams.sendRecvStreamWindowUpdate; go_auto

theorem resetOnRecvStreamErr_go (s : Streams) (k : Nat) (res : Except PErr Unit) : GKo s (s.resetOnRecvStreamErr k res).1 := by
  unfold Streams.resetOnRecvStreamErr; go_auto

theorem actionsSendReset_go (s : Streams) (k : Nat) (r : Reason) (i : Initiator) : GKo s (s.actionsSendReset k r i).1 := by
  unfold Streams.actionsSendReset; go_auto

theorem sarsMore_go (s : Streams) (inc : Nat) : GKo s (s.sarsMore inc).1 :=
  Streams.storeTryForEach_rel go_relOK s _ (by go_auto)
theorem sarsWindow_go (s : Streams) (val : Nat) : GKo s (s.sarsWindow val).1 := by
  unfold Streams.sarsWindow; go_auto
theorem sendApplyRemoteSettings_go (s : Streams) (a b c : Option Nat) : GKo s (s.sendApplyRemoteSettings a b c).1 := by
  rw [Streams.sendApplyRemoteSettings_eq]; go_auto

theorem dsr_mono {x : Stream} {r r' : Nat} (hr : r ≤ r') (h : DSr r' x) : DSr r x := ⟨by have := h.1; omega, h.2⟩

/-- **`Prioritize::send_data`**: `buffered_send_data` and the queued DATA grow by the same `len`; the sum must fit a `usize`
    (in the Rust the payload is in memory) -/
theorem prioSendData_gk (s : Streams) (k len : Nat) (eos : Bool)
    (hb : (s.stream k).bufferedSendData + len < USIZE_MOD) : GK s (s.prioSendData k len eos).1 := by
  unfold Streams.prioSendData
  -- the conditionals by `rel_ite_fst`: `split` would rewrite the whole unfolded goal
  refine rel_ite_fst (R := GK) (fun _ => .refl _) fun _ => ?_
  · dsimp only
    refine rel_ite_fst (R := GK) (fun _ => .refl _) fun hss => ?_
    · have hss' : (s.stream k).state.isSendStreaming = true := by
        cases h : (s.stream k).state.isSendStreaming with
        | true => rfl
        | false => rw [h] at hss; simp at hss
      have hl : Live s k := live_of_sendStreaming hss'
      -- A: the counter goes up
      have hA0 := stream_modStream_live hl (fun st => ({ st with bufferedSendData := st.bufferedSendData + len } : Stream)) (fun _ => rfl)
      have hA1 := fun j (hj : j ≠ k) => ConnFlowP.stream_modStream_other (s := s) (id := k) (k := j)
        (fun st => ({ st with bufferedSendData := st.bufferedSendData + len } : Stream)) (fun _ => rfl) hj
      have hAl := fun j => (SameKeys.modStream s k
        (fun st => ({ st with bufferedSendData := st.bufferedSendData + len } : Stream))).live (k := j)
      have hAp : (s.modStream k fun st => { st with bufferedSendData := st.bufferedSendData + len }).prio = s.prio :=
        modStream_prio _ _ _
      generalize hs1 : (s.modStream k fun st => { st with bufferedSendData := st.bufferedSendData + len }) = s1
        at hA0 hA1 hAl hAp ⊢
      have hA : ∀ j r, DSr r (s.stream j) → DSr (r + (if j = k then len else 0)) (s1.stream j) := by
        intro j r h
        by_cases hj : j = k
        · subst hj
          rw [hA0, if_pos rfl]
          unfold DSr at h ⊢
          show r + len + dsum (s.stream j).pendingSend ≤ (s.stream j).bufferedSendData + len ∧ _
          exact ⟨by omega, hb⟩
        · rw [hA1 j hj, if_neg hj]; exact h
      -- M: capacity bookkeeping, END_STREAM
      generalize hs2 : (if (s1.stream k).requestedSendCapacity < (s1.stream k).bufferedSendData then _ else s1) = s2
      have h2 : UK s1 s2 := by rw [← hs2]; uk_auto
      generalize hs3 : (if eos = true then _ else s2) = s3
      have h3 : UK s2 s3 := by rw [← hs3]; uk_auto
      have hM := h2.trans h3
      -- Z: the frame is queued
      have hZ : ∀ t : Streams, UK (s3.modStream k fun st => { st with pendingSend := st.pendingSend ++ [.data len eos] }) t →
          GK s t := by
        intro t ht
        generalize hs4 : (s3.modStream k fun st => { st with pendingSend := st.pendingSend ++ [.data len eos] }) = s4 at ht
        have hZ1 : ∀ j r, DSr (r + (if j = k then len else 0)) (s3.stream j) → DSr r (s4.stream j) := by
          intro j r h
          rw [← hs4]
          by_cases hj : j = k
          · subst hj
            rw [if_pos rfl] at h
            by_cases hl3 : Live s3 j
            · have := stream_modStream_live hl3
                (fun st => ({ st with pendingSend := st.pendingSend ++ [.data len eos] } : Stream)) (fun _ => rfl)
              rw [this]
              unfold DSr at h ⊢
              show r + dsum ((s3.stream j).pendingSend ++ [.data len eos]) ≤ _ ∧ _
              rw [dsum_append]
              simp only [dsum]
              exact ⟨by omega, h.2⟩
            · rw [stream_modStream_dead hl3]; exact dsr_mono (Nat.le_add_right _ _) h
          · rw [if_neg hj] at h
            have := ConnFlowP.stream_modStream_other (s := s3) (id := k) (k := j)
              (fun st => ({ st with pendingSend := st.pendingSend ++ [.data len eos] } : Stream)) (fun _ => rfl) hj
            rw [this]; exact h
        have hZl : ∀ j, Live s3 j → Live s4 j := fun j h => by
          rw [← hs4]; exact (SameKeys.modStream s3 k _).live.mpr h
        have hZp : s4.prio = s3.prio := by rw [← hs4]; exact modStream_prio _ _ _
        have hall : ∀ j r, DSr r (s.stream j) → DSr r (t.stream j) ∧ (0 < r → Live s j → Live t j) := by
          intro j r h
          have a1 := hA j r h
          have a2 := (hM.kp j).ds _ a1
          have a3 := hZ1 j r a2
          refine ⟨(ht.kp j).ds r a3, fun hr hlj => ?_⟩
          have l1 : Live s1 j := (hAl j).mpr hlj
          have l3 : Live s3 j := hM.lv j _ (by omega) a1 l1
          exact ht.lv j r hr a3 (hZl j l3)
        refine ⟨.inl ?_, fun j hd => (ds_iff _).mpr (hall j 0 ((ds_iff _).mp hd)).1,
          fun j r hr _ hd => ⟨(hall j r hd).1, (hall j r hd).2 hr⟩⟩
        rw [ht.nf]
        show s4.prio.inFlightDataFrame = _
        rw [hZp, hM.nf, hAp]
      refine rel_ite_fst (R := GK) (fun _ => ?_) fun _ => ?_
      · exact hZ _ (by unfold Streams.queueFrame; exact .of_step (Streams.scheduleSend_step (by decide) _ _))
      · exact hZ _ (.refl _)

end H2V.Lemmas.ConnNoPanicP
