import H2V.Lemmas.ConnHttpPInner
/-
  C13 (ConnHttpP) — "the stream (or connection) is failed instead": a stream error raised by the
  receive path either becomes a connection error (too many internal resets) or leaves the stream — as
  long as it exists — in a reset state, from which the application's polls answer the error, never a
  clean end.
-/
namespace H2V.Lemmas.ConnHttpP
open H2V H2V.Model H2V.Model.Conn

theorem sendSendReset_state (s : Streams) (k : Nat) (r : Reason) (i : Initiator) (st' : Stream)
    (hg : (s.sendSendReset k r i).store.get? k = some st') :
    ∃ st, s.store.get? k = some st ∧
      st'.state = if st.state.isReset then st.state else { inner := .closed (.error (.reset st.id r i)) } := by
  cases hr : (s.stream k).state.isReset with
  | true =>
    unfold Streams.sendSendReset at hg
    simp only [hr, if_true] at hg
    refine ⟨st', hg, ?_⟩
    rw [Streams.stream_of_get? hg] at hr
    rw [if_pos hr]
  | false =>
    -- everything behind `set_reset` leaves the state alone
    obtain ⟨st1, g1, e1⟩ := Still.sendSendReset k r i hr (Still.refl _) k st' hg
    rw [Streams.modStreamW_get? s k _ (fun st => by rw [Stream.setReset_fst]), if_pos rfl] at g1
    cases hs : s.store.get? k with
    | none => rw [hs] at g1; cases g1
    | some st =>
      rw [hs] at g1
      cases g1
      refine ⟨st, rfl, ?_⟩
      rw [Streams.stream_of_get? hs] at hr
      rw [hr, e1]
      dsimp only
      rw [Stream.setReset_fst]
      rfl


/-- a stream that was reset because of what the peer sent (or is in any other reset state) -/
def Failed (st : Stream) (reason : Reason) (init : Initiator) (st' : Stream) : Prop :=
  st'.state = if st.state.isReset then st.state else { inner := .closed (.error (.reset st.id reason init)) }

theorem Failed.isReset {st st' : Stream} {r : Reason} {i : Initiator} (h : Failed st r i st') :
    st'.state.isReset = true := by
  unfold Failed at h
  split at h
  · rename_i hr; rw [h]; exact hr
  · rw [h]; rfl

/-- **`Actions::reset_on_recv_stream_err` on a stream error**: either the connection is failed
    (ENHANCE_YOUR_CALM, too many internal resets), or the answer is `Ok` and the stream — if it is
    still in the store — is `Failed` -/
theorem resetOnRecvStreamErr_fails (s : Streams) (k id' : Nat) (reason : Reason) (init : Initiator) :
    (s.resetOnRecvStreamErr k (.error (.reset id' reason init))).2 =
        .error (PErr.libraryGoAwayData ENHANCE_YOUR_CALM "too_many_internal_resets") ∨
    ((s.resetOnRecvStreamErr k (.error (.reset id' reason init))).2 = .ok () ∧
      ∀ st', (s.resetOnRecvStreamErr k (.error (.reset id' reason init))).1.store.get? k = some st' →
        ∃ st, s.store.get? k = some st ∧ Failed st reason init st') := by
  unfold Streams.resetOnRecvStreamErr
  simp only
  split
  · refine Or.inr ⟨rfl, fun st' hg => ?_⟩
    simp only at hg
    obtain ⟨st1, g1, e1⟩ := Still.of_step (.modStreamW _ k _ .notifyRecv) (Still.of_step (Streams.enqueueResetExpiration_step (by decide) _ k) (Still.refl _)) k st' hg
    obtain ⟨st, g0, e0⟩ := sendSendReset_state _ k reason init st1 g1
    rw [Streams.modCountsA_store] at g0
    exact ⟨st, g0, by unfold Failed; rw [e1, e0]⟩
  · exact Or.inl rfl

/-- on a stream in state `Closed(Error(e))` with an empty receive queue, `poll_data`, `poll_trailers`
    and `poll_response` all answer the error `e` — never "end of stream" -/
theorem polls_answer_error (s : Streams) (k : Nat) (tag : String) (e : PErr) (fuel : Nat)
    (hst : (s.stream k).state.inner = .closed (.error e)) (hq : (s.stream k).pendingRecv = []) :
    (∃ s', s.recvPollData k tag = (s', .err e)) ∧ (∃ s', s.recvPollTrailers k tag = (s', .err e)) ∧
    (∃ s', Streams.recvPollResponse (fuel + 1) s k tag = (s', .err e)) := by
  have hopen : (s.stream k).state.ensureRecvOpen = .error e := by
    unfold State.ensureRecvOpen; rw [hst]
  refine ⟨?_, ?_, ?_⟩
  · unfold Streams.recvPollData Streams.scheduleRecv
    simp only [hq, hopen]
    exact ⟨_, rfl⟩
  · unfold Streams.recvPollTrailers Streams.scheduleRecv
    simp only [hq, hopen]
    exact ⟨_, rfl⟩
  · unfold Streams.recvPollResponse
    simp only [hq, hopen]
    exact ⟨_, rfl⟩


theorem recvOpen_err (st : State) (eos inf : Bool) (st' : State) (e : PErr) (h : st.recvOpen eos inf = (st', .error e)) :
    e = PErr.libraryGoAway PROTOCOL_ERROR := by
  unfold State.recvOpen at h
  simp only at h
  repeat' split at h
  all_goals first | (cases h; rfl) | cases h

theorem rhCl_err (s : Streams) (k : Nat) (h : HeadersIn) (e : PErr) (hr : (Streams.recvHeadersCl s k h).2 = some e) :
    ∃ i, e = PErr.libraryReset i PROTOCOL_ERROR := by
  generalize hx : Streams.recvHeadersCl s k h = x at hr
  unfold Streams.recvHeadersCl at hx
  dsimp only at hx
  repeat' split at hx
  all_goals subst hx
  all_goals first | (cases hr; exact ⟨_, rfl⟩) | cases hr

theorem rhTail_err (s : Streams) (k : Nat) (h : HeadersIn) (i : Bool) (e : PErr) (hr : (Streams.recvHeadersQueue s k h i).2 = .state e) :
    ∃ j, e = PErr.libraryReset j PROTOCOL_ERROR := by
  generalize hx : Streams.recvHeadersQueue s k h i = x at hr
  unfold Streams.recvHeadersQueue at hx
  simp only at hx
  repeat' split at hx
  all_goals subst hx
  all_goals first | (cases hr; exact ⟨_, rfl⟩) | cases hr

/-- **how `Recv::recv_headers` refuses**: a connection error PROTOCOL_ERROR (the frame does not fit the
    stream's state), a stream error PROTOCOL_ERROR, or — a pushed response arriving when the
    receive-stream limit has been reached meanwhile — a stream error REFUSED_STREAM; nothing else -/
theorem recvRecvHeaders_refusals (s : Streams) (k : Nat) (h : HeadersIn) (e : PErr)
    (hr : (s.recvRecvHeaders k h).2 = .state e) :
    e = PErr.libraryGoAway PROTOCOL_ERROR ∨ (∃ i, e = PErr.libraryReset i PROTOCOL_ERROR) ∨
    (∃ i, e = PErr.libraryReset i REFUSED_STREAM) := by
  rw [Streams.recvRecvHeaders_eq] at hr
  split at hr
  · rename_i st' e' heq
    cases hr
    exact Or.inl (recvOpen_err _ _ _ _ _ heq)
  · rename_i st' i heq
    dsimp only at hr
    split at hr
    · cases hr
      exact Or.inr (Or.inr ⟨_, rfl⟩)
    · have hc := rhCl_err (Streams.recvHeadersCount (s.recvHeadersSt k st') k h i) k h
      generalize Streams.recvHeadersCl (Streams.recvHeadersCount (s.recvHeadersSt k st') k h i) k h = c at hc hr
      obtain ⟨s2, o⟩ := c
      cases o with
      | some e' =>
        simp only at hr
        cases hr
        exact Or.inr (Or.inl (hc e rfl))
      | none => exact Or.inr (Or.inl (rhTail_err s2 k h i e hr))

/-- every refusal of a MALFORMED head is PROTOCOL_ERROR: REFUSED_STREAM only comes from the concurrency
    limit (`rhRefuse`), before the head is looked at -/
theorem recvRecvHeaders_refused_stream (s : Streams) (k : Nat) (h : HeadersIn) (i : Nat)
    (hr : (s.recvRecvHeaders k h).2 = .state (PErr.libraryReset i REFUSED_STREAM)) :
    ∃ st' ini, (s.stream k).state.recvOpen h.eos h.isInformational = (st', .ok ini) ∧ rhRefuse s k st' ini = true := by
  rw [Streams.recvRecvHeaders_eq] at hr
  split at hr
  · rename_i st' e' heq
    cases hr
    have := recvOpen_err _ _ _ _ _ heq
    cases this
  · rename_i st' ini heq
    dsimp only at hr
    split at hr
    · rename_i hrf; exact ⟨st', ini, heq, hrf⟩
    · exfalso
      have hc := rhCl_err (Streams.recvHeadersCount (s.recvHeadersSt k st') k h ini) k h
      generalize Streams.recvHeadersCl (Streams.recvHeadersCount (s.recvHeadersSt k st') k h ini) k h = c at hc hr
      obtain ⟨s2, o⟩ := c
      cases o with
      | some e' =>
        simp only at hr
        cases hr
        obtain ⟨j, hj⟩ := hc _ rfl
        cases hj
      | none =>
        obtain ⟨j, hj⟩ := rhTail_err s2 k h ini _ hr
        cases hj

/-- the outcome "connection failed, or `Ok` with the stream failed (if still there)" -/
def FailsStream (s1 : Streams) (k : Nat) (reason : Reason) (init : Initiator) (r : Streams × Except PErr Unit) : Prop :=
  r.2 = .error (PErr.libraryGoAwayData ENHANCE_YOUR_CALM "too_many_internal_resets") ∨
  (r.2 = .ok () ∧ ∀ st', r.1.store.get? k = some st' → ∃ st, s1.store.get? k = some st ∧ Failed st reason init st')

/-- **a stream error fails the stream (or the connection)**: whatever came before (`s1`), and whatever
    store-neutral step `s1'` lies between (`recv_data` gives the frame's window back first),
    `reset_on_recv_stream_err` followed by `transition_after` — the tail of the closures of `Inner::recv_headers`
    and `Inner::recv_data` — leaves the stream `Failed` or answers the connection error -/
theorem stream_error_fails (s1 s1' : Streams) (hs : s1'.store = s1.store) (k id' : Nat) (reason : Reason)
    (init : Initiator) (b : Bool) :
    FailsStream s1 k reason init
      (((s1'.resetOnRecvStreamErr k (.error (.reset id' reason init))).1.transitionAfter k b),
       (s1'.resetOnRecvStreamErr k (.error (.reset id' reason init))).2) := by
  rcases resetOnRecvStreamErr_fails s1' k id' reason init with h | ⟨h1, h2⟩
  · exact Or.inl h
  · refine Or.inr ⟨h1, fun st' hg => ?_⟩
    obtain ⟨st1, g1, e1⟩ := Still.of_step (Streams.transitionAfter_step (by decide) _ k b) (Still.refl _) k st' hg
    obtain ⟨st, g0, f0⟩ := h2 st1 g1
    exact ⟨st, hs ▸ g0, by unfold Failed at f0 ⊢; rw [e1]; exact f0⟩

/-- **a head that `Recv::recv_headers` refuses with a stream error fails the stream (or the
    connection)** — `Inner::recv_headers`' transition closure, every state -/
theorem refused_head_fails (s : Streams) (k : Nat) (h : HeadersIn) (i : Nat) (reason : Reason) (init : Initiator)
    (hrh : (s.stream k).state.isRecvHeaders = true)
    (hr : (s.recvRecvHeaders k h).2 = .state (.reset i reason init)) :
    FailsStream (s.recvRecvHeaders k h).1 k reason init (s.transition k fun s => rhBody s k h) := by
  unfold Streams.transition rhBody
  simp only [hrh, Bool.not_true, Bool.false_and, Bool.false_eq_true, if_false, if_true]
  generalize s.recvRecvHeaders k h = r at hr ⊢
  obtain ⟨s1, res⟩ := r
  simp only at hr
  subst hr
  exact stream_error_fails s1 s1 rfl k i reason init _

/-- … and so do trailers refused with a stream error (content-length not used up) -/
theorem refused_trailers_fail (s : Streams) (k : Nat) (h : HeadersIn) (i : Nat) (reason : Reason) (init : Initiator)
    (hrh : (s.stream k).state.isRecvHeaders = false) (heos : h.eos = true)
    (hr : (s.recvRecvTrailers k h).2 = .error (.reset i reason init)) :
    FailsStream (s.recvRecvTrailers k h).1 k reason init (s.transition k fun s => rhBody s k h) := by
  unfold Streams.transition rhBody
  simp only [hrh, heos, Bool.not_false, Bool.not_true, Bool.and_false, Bool.false_eq_true, if_false]
  generalize s.recvRecvTrailers k h = r at hr ⊢
  obtain ⟨s1, res⟩ := r
  simp only at hr
  subst hr
  exact stream_error_fails s1 s1 rfl k i reason init _


/-- **reported as an error, not as a clean end**: once a stream that was not already reset is `Failed`
    and its receive queue is drained, every poll of the application answers the reset error -/
theorem failed_polls (s : Streams) (k : Nat) (tag : String) (fuel : Nat) (st : Stream) (reason : Reason)
    (init : Initiator) (hf : Failed st reason init (s.stream k)) (hnr : st.state.isReset = false)
    (hq : (s.stream k).pendingRecv = []) :
    (∃ s', s.recvPollData k tag = (s', .err (.reset st.id reason init))) ∧
    (∃ s', s.recvPollTrailers k tag = (s', .err (.reset st.id reason init))) ∧
    (∃ s', Streams.recvPollResponse (fuel + 1) s k tag = (s', .err (.reset st.id reason init))) := by
  unfold Failed at hf
  rw [hnr] at hf
  simp only [Bool.false_eq_true, if_false] at hf
  exact polls_answer_error s k tag _ fuel (by rw [hf]) hq

end H2V.Lemmas.ConnHttpP
