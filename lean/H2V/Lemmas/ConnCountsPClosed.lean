import H2V.Lemmas.ConnCountsPTac
/-
  C05 / C18 / C19 — two-state relations that every elementary update respects.

  The facts that hold along `Ev` (what never goes back, which keys exist, what a queue and its flags
  agree on, …) are relations `R s s'` that are reflexive, transitive and hold between a state and what
  a frame step, a `setStream`, a `setQ` or new counters make of it, each under a side condition that
  says which updates of that kind `R` tolerates.  `PrimClosed` names that; the queue and counter
  primitives of the model are compositions of those four, so what they do to `R` is derived here once,
  and `EvB.closed` is the one induction over the steps of `EvB` for such relations.
-/
namespace H2V.Lemmas.ConnCountsP
open H2V H2V.Model H2V.Model.Conn

theorem Frame.of_panic (s : Streams) (m : String) : Frame s (s.panic m) :=
  ⟨s.panic_store m, by rw [s.panic_counts m]; exact CStep.refl _, s.panic_getQ m,
   fun _ => by rw [s.panic_panicked m]; rfl, by rw [s.panic_actions m]; exact NextOK.refl _ _⟩

/-- `okS x y`: `R` tolerates `y` in the place of the slab entry `x`; `okQ s q l`: the list `l` as queue `q` of `s`;
    `okC c c'`: the counters `c'` in the place of `c` -/
structure PrimClosed (R : Streams → Streams → Prop) (okS : Stream → Stream → Prop)
    (okQ : Streams → QName → List Nat → Prop) (okC : Counts → Counts → Prop) : Prop where
  refl : ∀ s, R s s
  trans : ∀ {a b c}, R a b → R b c → R a c
  frame : ∀ {s s'}, Frame s s' → R s s'
  setStream : ∀ s st', (∀ x, s.store.get? st'.key = some x → okS x st') → R s (s.setStream st')
  setQ : ∀ s q l, okQ s q l → R s (s.setQ q l)
  setCounts : ∀ s c, okC s.counts c → R s { s with counts := c }

namespace PrimClosed
variable {R : Streams → Streams → Prop} {okS : Stream → Stream → Prop} {okQ : Streams → QName → List Nat → Prop}
  {okC : Counts → Counts → Prop} (C : PrimClosed R okS okQ okC)
include C

theorem panic (s : Streams) (m : String) : R s (s.panic m) := C.frame (Frame.of_panic s m)

theorem relOK : RelOK R := ⟨C.refl, C.trans, C.panic⟩

theorem modStream (s : Streams) (k : Nat) (f : Stream → Stream) (hk : ∀ x, (f x).key = x.key)
    (h : ∀ x, s.store.get? k = some x → okS x (f x)) : R s (s.modStream k f) := by
  cases hx : s.store.get? k with
  | none => rw [Streams.modStream_of_none hx]; exact C.panic _ _
  | some x =>
    rw [Streams.modStream_of_some hx]
    exact C.setStream s _ fun y hy => by rw [hk, Store.get?_key hx, hx] at hy; cases hy; exact h x hx

theorem modCounts (s : Streams) (f : Counts → Counts) (h : okC s.counts (f s.counts)) : R s (s.modCounts f) :=
  C.setCounts s _ h

theorem modCountsA (s : Streams) (w : String) (f : Counts → Option Counts)
    (h : ∀ c', f s.counts = some c' → okC s.counts c') : R s (s.modCountsA w f) := by
  unfold Streams.modCountsA
  split
  · next c hc => exact C.setCounts s c (h c hc)
  · exact C.panic _ _

theorem qPush (s : Streams) (q : QName) (k : Nat) (hS : ∀ x, okS x (x.setQueued q true))
    (hQ : ∀ t, okQ t q (s.getQ q ++ [k])) : R s (s.qPush q k).1 := by
  unfold Streams.qPush
  split
  · exact C.refl _
  · exact C.trans (C.modStream s k _ (fun x => x.setQueued_key q true) fun x _ => hS x) (C.setQ _ _ _ (hQ _))

theorem qPushFront (s : Streams) (q : QName) (k : Nat) (hS : ∀ x, okS x (x.setQueued q true))
    (hQ : ∀ t, okQ t q (k :: s.getQ q)) : R s (s.qPushFront q k).1 := by
  unfold Streams.qPushFront
  split
  · exact C.refl _
  · exact C.trans (C.modStream s k _ (fun x => x.setQueued_key q true) fun x _ => hS x) (C.setQ _ _ _ (hQ _))

theorem qPop (s : Streams) (q : QName) (hS : ∀ x, okS x (x.setQueued q false))
    (hQ : ∀ k rest, s.getQ q = k :: rest → okQ s q rest) : R s (s.qPop q).1 := by
  unfold Streams.qPop
  split
  · exact C.refl _
  · next k rest hq =>
    exact C.trans (C.setQ _ _ _ (hQ k rest hq)) (C.modStream _ k _ (fun x => x.setQueued_key q false) fun x _ => hS x)

theorem incNumSendStreams (s : Streams) (k : Nat)
    (hC : ∀ c : Counts, okC c { c with numSendStreams := c.numSendStreams + 1 })
    (hS : ∀ x : Stream, okS x { x with isCounted := true }) : R s (s.incNumSendStreams k) := by
  rw [Streams.incNumSendStreams_eq]
  refine C.trans ?_ (C.modStream _ k _ (fun _ => rfl) fun x _ => hS x)
  unfold Streams.incNumSendStreamsC
  dsimp only
  exact C.trans (C.trans (C.relOK.ite_panic _ _ _) (C.relOK.ite_panic' _ _ _)) (C.modCounts _ _ (hC _))

theorem incNumRecvStreams (s : Streams) (k : Nat)
    (hC : ∀ c : Counts, okC c { c with numRecvStreams := c.numRecvStreams + 1 })
    (hS : ∀ x : Stream, okS x { x with isCounted := true }) : R s (s.incNumRecvStreams k) := by
  rw [Streams.incNumRecvStreams_eq]
  refine C.trans ?_ (C.modStream _ k _ (fun _ => rfl) fun x _ => hS x)
  unfold Streams.incNumRecvStreamsC
  dsimp only
  exact C.trans (C.trans (C.relOK.ite_panic _ _ _) (C.relOK.ite_panic' _ _ _)) (C.modCounts _ _ (hC _))

theorem decNumStreams (s : Streams) (k : Nat)
    (hC : ∀ (c : Counts) (n m : Nat), okC c { c with numSendStreams := n, numRecvStreams := m })
    (hS : ∀ x : Stream, okS x { x with isCounted := false }) : R s (s.decNumStreams k) := by
  rw [Streams.decNumStreams_eq]
  refine C.trans ?_ (C.modStream _ k _ (fun _ => rfl) fun x _ => hS x)
  unfold Streams.decNumStreamsC
  extract_lets s1 s2 s3
  have h1 : R s s1 := C.relOK.ite_panic _ _ _
  split
  · exact C.trans (C.trans h1 (C.relOK.ite_panic _ _ _)) (C.modCounts s2 _ (hC _ _ _))
  · exact C.trans (C.trans h1 (C.relOK.ite_panic _ _ _)) (C.modCounts s3 _ (hC _ _ _))

theorem popOpen (s : Streams) (hpop : R s (s.qPop .pendingOpen).1) (hinc : ∀ t k, R t (t.incNumSendStreams k)) :
    R s (match s.qPop .pendingOpen with
         | (s', some id) => s'.incNumSendStreams id
         | (s', none) => s') := by
  split
  · next heq => rw [heq] at hpop; exact C.trans hpop (hinc _ _)
  · next heq => rw [heq] at hpop; exact hpop

theorem ppActivate (s : Streams) (pushed : Nat) (hS : ∀ x : Stream, okS x { x with isPendingPush := false })
    (hinc : ∀ t, R t (t.incNumSendStreams pushed)) (hpush : ∀ t q, R t (t.qPush q pushed).1) :
    R s (ppActivate s pushed) := by
  unfold ConnCountsP.ppActivate Streams.queueOpen
  refine C.trans (C.modStream s pushed (fun st => { st with isPendingPush := false }) (fun _ => rfl) fun x _ => hS x) ?_
  dsimp only
  split
  · split
    · exact C.trans (hinc _) (hpush _ _)
    · exact hpush _ _
  · exact C.refl _

end PrimClosed

/-- the induction over the steps of `EvB` for a relation that tolerates what those steps do to an entry and to the
    three stream counters, and holds across the queue operations and the three slab operations (insertion is asked
    of the full relation only: `EvB false` has no step that inserts) -/
theorem EvB.closed {R : Streams → Streams → Prop} {okS : Stream → Stream → Prop} {okQ : Streams → QName → List Nat → Prop}
    {okC : Counts → Counts → Prop} {ρ : Bool} (C : PrimClosed R okS okQ okC)
    (same : ∀ {x y}, Same x y → okS x y)
    (accept : ∀ (x : Stream) v, okS x { x with isPendingAccept := v })
    (counted : ∀ (x : Stream) v, okS x { x with isCounted := v })
    (queuePP : ∀ (x : Stream) f, okS x { x with pendingSend := x.pendingSend ++ [f] })
    (opened : ∀ (x : Stream) st', Early x → okS x { x with state := st' })
    (push : ∀ t q k, R t (t.qPush q k).1) (pushFront : ∀ t q k, R t (t.qPushFront q k).1)
    (pop : ∀ t q, q ≠ .pendingResetExpired → R t (t.qPop q).1)
    (num : ∀ (c : Counts) n m r, okC c { c with numSendStreams := n, numRecvStreams := m, numLocalResetStreams := r })
    (insert : ρ = true → ∀ s st, Fresh st → R s { s with store := (s.store.insert st).1 })
    (unlink : ∀ s id, R s { s with store := s.store.unlink id })
    (remove : ∀ s k n, (∀ st, s.store.get? k = some st → st.isCounted = false ∧ ∀ q, st.isQueued q = false) →
      R s { s with store := s.store.remove k, recvBufferLeaked := n })
    {s s' : Streams} (h : EvB ρ s s') : R s s' := by
  have incSend : ∀ t k, R t (t.incNumSendStreams k) := fun t k =>
    C.incNumSendStreams t k (fun c => num c _ _ _) fun x => counted x true
  induction h with
  | refl s => exact C.refl s
  | trans _ _ ih1 ih2 => exact C.trans (ih1 insert) (ih2 insert)
  | free h => exact C.frame h
  | setStream st' h => exact C.setStream _ _ fun x hx => same (h x hx)
  | qPush q k _ _ => exact push _ q k
  | qPushFront q k _ _ => exact pushFront _ q k
  | qPushOpen k _ => exact push _ _ k
  | qPop q hq _ => exact pop _ q hq
  | qPopOpen => exact pop _ _ (by decide)
  | resetEnq k hcan _ _ =>
    refine C.trans (C.modCountsA _ _ _ fun c' hc => ?_) (push _ _ k)
    simp only [Counts.incNumResetStreams, hcan, if_true, Option.some.injEq] at hc
    subst hc; exact num _ _ _ _
  | insert st hf _ => exact insert rfl _ st hf
  | bracket st hf _ _ ih => exact C.trans (insert rfl _ st hf) (ih fun h => nomatch h)
  | unlink id => exact unlink _ id
  | remove k n h => exact remove _ k n h
  | popOpen _ => exact C.popOpen _ (pop _ _ (by decide)) incSend
  | acceptFlag k v => exact C.modStream _ k _ (fun _ => rfl) fun x _ => accept x v
  | queuePP k pk pid fields _ => exact C.modStream _ k _ (fun _ => rfl) fun x _ => queuePP x _
  | ppAct id pk pid fields rest pushed hps _ =>
    refine C.trans (C.modStream _ id (fun st => { st with pendingSend := rest }) (fun _ => rfl) fun x hx => same ?_)
      (C.ppActivate _ pushed (fun x => same (by same_fields)) (incSend · pushed) (push · · pushed))
    rw [stream_of_get? hx] at hps
    exact ⟨rfl, rfl, rfl, fun q => by cases q <;> rfl, fun h => h, fun f hf _ => by rw [hps]; exact List.mem_cons_of_mem _ hf⟩
  | incRecv k st' s1 he hf =>
    refine C.trans (C.trans (C.modStream _ k (fun st => { st with state := st' }) (fun _ => rfl) fun x hx => opened x st' ?_) (C.frame hf))
      (C.incNumRecvStreams _ k (fun c => num c _ _ _) fun x => counted x true)
    rw [stream_of_get? hx] at he; exact he
  | decNum k => exact C.decNumStreams _ k (fun c n m => num c n m _) fun x => counted x false

end H2V.Lemmas.ConnCountsP
