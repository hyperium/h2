import H2V.Lemmas.ConnPartPRst
/-
  C09: the RST_STREAM is owed after
    * `Actions::reset_on_recv_stream_err` (stream errors answered in place),
    * `Actions::send_reset` / `Inner::send_reset` (stream errors that travel up to `handle_poll2_result`:
      frames for a forgotten stream, trailers without END_STREAM, a PUSH_PROMISE on a stream we reset).
-/
set_option linter.unusedSectionVars false
namespace H2V.Lemmas.ConnPartP
open H2V H2V.Model H2V.Model.Conn H2V.Lemmas.ConnResetP

/-- the entry `k` owes RST_STREAM(`st.id`, `reason`): closed with `Reset(id, reason, init)`, the frame
    is the last of its queue (the only one unless the stream still waits to be opened, then its HEADERS
    precede it), and when the stream is send-ready it is linked in `pending_send` — and really in the
    queue, if the queue is consistent and no `assert!` has fired -/
def OwesRst (s s' : Streams) (k : Nat) (st : Stream) (reason : Reason) (init : Initiator) : Prop :=
  ∃ st', s'.store.get? k = some st' ∧ st'.id = st.id ∧
    st'.state = ⟨.closed (.error (.reset st.id reason init))⟩ ∧
    st'.pendingSend = (if st.isPendingOpen then st.pendingSend.head?.toList else []) ++ [.reset reason] ∧
    (st.isSendReady = true → st'.isPendingSend = true ∧
      (ConnCountsP.QOK .pendingSend s → s'.panicked = none → k ∈ s'.prio.pendingSend))

/-- the other entries: those present afterwards kept key, id, state, queue, handle count; those that
    had a frame queued are still there -/
def OthersKept (s s' : Streams) (k : Nat) : Prop :=
  (∀ k' st'', k' ≠ k → k' < s.store.nextKey → s'.store.get? k' = some st'' →
      ∃ st0, s.store.get? k' = some st0 ∧ CoreEq st0 st'') ∧
  (∀ k' st0, k' ≠ k → s.store.get? k' = some st0 → st0.pendingSend ≠ [] →
      ∃ st'', s'.store.get? k' = some st'' ∧ CoreEq st0 st'')

/-- the part all reset paths share: `x` is `s` up to the counters, `fin` any continuation of
    `sendResetPre x k` that moves core fields of no stream, keeps the `pending_send` link of `k` and the
    queue invariant -/
theorem owes_of_tail (s x fin : Streams) (k : Nat) (reason : Reason) (init : Initiator) (st : Stream)
    (hxs : x.store = s.store) (hkb : KeysBelow s.store) (hg : s.store.get? k = some st)
    (ev : Evolves CoreEq (fun _ => True) (sendResetPre x k reason init).store fin.store)
    (hflag : st.isSendReady = true → ∀ c, fin.store.get? k = some c → c.isPendingSend = true)
    (hqok : ConnCountsP.QOK .pendingSend s → fin.panicked = none → ConnCountsP.QOK .pendingSend fin) :
    OwesRst s fin k st reason init ∧ OthersKept s fin k := by
  obtain ⟨⟨st', h1, h2, h3, h4⟩, c2, c3⟩ := reset_spec_of_tail x k reason init st (hxs ▸ hkb) (by rw [hxs]; exact hg) fin ev
  refine ⟨⟨st', h1, h2, h3, h4, fun hrdy => ?_⟩, ?_, ?_⟩
  · have hf := hflag hrdy st' h1
    exact ⟨hf, fun hq hp => mem_pendingSend_of_flag (hqok hq hp) h1 hf⟩
  · intro k' st'' hk hlt h'
    have := c2 k' st'' hk (by rw [hxs]; exact hlt) h'
    rw [hxs] at this; exact this
  · intro k' st0 hk h0 hq'
    exact c3 k' st0 hk (by rw [hxs]; exact h0) hq'

theorem resetCore_eq_pre (x : Streams) (k : Nat) (reason : Reason) (init : Initiator) (st : Stream)
    (hg : x.store.get? k = some st) (hr : st.state.isReset = false)
    (hne : (st.state.isClosed && (st.pendingSend.isEmpty && st.bufferedSendData == 0)) = false) :
    resetCore x k reason init =
      ((((sendResetPre x k reason init).reclaimAllCapacity k).enqueueResetExpiration k).modStreamW k Stream.notifyRecv) := by
  have hsx : x.stream k = st := stream_of_get? hg
  unfold resetCore
  rw [sendSendReset_eq x k reason init (by rw [hsx]; exact hr) (by rw [hsx]; exact hne)]

/-- **`reset_on_recv_stream_err(Err(Reset(_, reason, init)))`** within the quota, on a stream that is
    not reset yet and not (closed with nothing unsent): `Ok(())`, the RST_STREAM is owed, the other
    streams are kept -/
theorem resetOnRecvStreamErr_owes (s : Streams) (k sid : Nat) (reason : Reason) (init : Initiator) (st : Stream)
    (hkb : KeysBelow s.store) (hg : s.store.get? k = some st)
    (hq : s.counts.canIncNumLocalErrorResets = true) (hr : st.state.isReset = false)
    (hne : (st.state.isClosed && (st.pendingSend.isEmpty && st.bufferedSendData == 0)) = false) :
    (s.resetOnRecvStreamErr k (.error (.reset sid reason init))).2 = .ok () ∧
    OwesRst s (s.resetOnRecvStreamErr k (.error (.reset sid reason init))).1 k st reason init ∧
    OthersKept s (s.resetOnRecvStreamErr k (.error (.reset sid reason init))).1 k := by
  have hev := ConnCountsP.resetOnRecvStreamErr_ev (ρ := true) s k (.error (.reset sid reason init))
  rw [resetOnRecvStreamErr_ok s k sid reason init hq] at hev ⊢
  generalize hx : s.modCountsA "can_inc_num_local_error_resets" Counts.incNumLocalErrorResets = x at hev ⊢
  have hxs : x.store = s.store := by subst hx; exact modCountsA_store _ _ _
  have hgx : x.store.get? k = some st := by rw [hxs]; exact hg
  refine ⟨rfl, ?_⟩
  dsimp only at hev ⊢
  refine owes_of_tail s x _ k reason init st hxs hkb hg
    (by
      rw [resetCore_eq_pre x k reason init st hgx hr hne]
      exact .of_step_core (((Streams.reclaimAllCapacity_step (by decide) _ k).trans
        (Streams.enqueueResetExpiration_step (by decide) _ k)).trans (.modStreamW _ k _ .notifyRecv)) (.refl _)) (fun hrdy c hc => ?_)
    (fun hqok hp => (hev.qstep .pendingSend (by decide)).ok hp hqok)
  obtain ⟨y, hy, hf⟩ := resetCore_flag x k reason init st hgx hr hne hrdy
  rw [hc] at hy
  cases hy; exact hf

theorem actionsSendReset_ok (s : Streams) (k : Nat) (reason : Reason) (init : Initiator)
    (hq : init.isLibrary = true → s.counts.canIncNumLocalErrorResets = true) :
    s.actionsSendReset k reason init =
      ((resetCore (if init.isLibrary then s.modCountsA "can_inc_num_local_error_resets" Counts.incNumLocalErrorResets else s)
          k reason init).transitionAfter k (s.stream k).isPendingResetExpiration, .ok ()) := by
  unfold Streams.actionsSendReset Streams.transition resetCore
  by_cases hl : init.isLibrary = true
  · simp only [hl, hq hl, if_true]
  · simp only [hl, Bool.false_eq_true, if_false]

/-- **`Actions::send_reset(stream, reason, init)`** within the quota, on a stream that is not reset yet
    and not (closed with nothing unsent) -/
theorem actionsSendReset_owes (s : Streams) (k : Nat) (reason : Reason) (init : Initiator) (st : Stream)
    (hkb : KeysBelow s.store) (hg : s.store.get? k = some st)
    (hq : init.isLibrary = true → s.counts.canIncNumLocalErrorResets = true) (hr : st.state.isReset = false)
    (hne : (st.state.isClosed && (st.pendingSend.isEmpty && st.bufferedSendData == 0)) = false) :
    (s.actionsSendReset k reason init).2 = .ok () ∧
    OwesRst s (s.actionsSendReset k reason init).1 k st reason init ∧
    OthersKept s (s.actionsSendReset k reason init).1 k := by
  have hev := ConnCountsP.actionsSendReset_ev (ρ := true) s k reason init
  rw [actionsSendReset_ok s k reason init hq] at hev ⊢
  generalize hx : (if init.isLibrary = true then
    s.modCountsA "can_inc_num_local_error_resets" Counts.incNumLocalErrorResets else s) = x at hev ⊢
  have hxs : x.store = s.store := by subst hx; split; exact modCountsA_store _ _ _; rfl
  have hgx : x.store.get? k = some st := by rw [hxs]; exact hg
  refine ⟨rfl, ?_⟩
  dsimp only at hev ⊢
  refine owes_of_tail s x _ k reason init st hxs hkb hg
    (by rw [resetCore_eq_pre x k reason init st hgx hr hne]; exact resetTail_frame _ k _) (fun hrdy c hc => ?_)
    (fun hqok hp => (hev.qstep .pendingSend (by decide)).ok hp hqok)
  obtain ⟨y, hy, hf⟩ := resetCore_flag x k reason init st hgx hr hne hrdy
  exact transitionAfter_flag _ k _ y c hy hf hc

/-- **`Inner::send_reset(id, reason)` for a stream the id map knows** (trailers without END_STREAM) -/
theorem innerSendReset_known_owes (s : Streams) (id k : Nat) (reason : Reason) (st : Stream)
    (hf : s.store.findKey? id = some k)
    (hkb : KeysBelow s.store) (hg : s.store.get? k = some st)
    (hq : s.counts.canIncNumLocalErrorResets = true) (hr : st.state.isReset = false)
    (hne : (st.state.isClosed && (st.pendingSend.isEmpty && st.bufferedSendData == 0)) = false) :
    (s.innerSendReset id reason).2 = .ok () ∧
    OwesRst s (s.innerSendReset id reason).1 k st reason .library ∧
    OthersKept s (s.innerSendReset id reason).1 k := by
  have : s.innerSendReset id reason = s.actionsSendReset k reason .library := by
    unfold Streams.innerSendReset; rw [hf]
  rw [this]
  exact actionsSendReset_owes s k reason .library st hkb hg (fun _ => hq) hr hne

/-- the state `Inner::send_reset` builds for an id the store does not know: next-stream-id bookkeeping,
    then a fresh `Stream::new(id, 0, 0)` under the next key -/
def withFreshEntry (s : Streams) (id : Nat) : Streams :=
  let s := if s.counts.isLocalInit id then s.sendMaybeResetNextStreamId id else s.recvMaybeResetNextStreamId id
  { s with store := (s.store.insert (Stream.new id 0 0)).1 }

theorem withFreshEntry_store (s : Streams) (id : Nat) :
    (withFreshEntry s id).store = (s.store.insert (Stream.new id 0 0)).1 := by
  unfold withFreshEntry
  simp only
  split
  · rw [Streams.sendMaybeResetNextStreamId_store]
  · rw [Streams.RecvFrame.store.recvMaybeResetNextStreamId]

theorem innerSendReset_unknown_eq (s : Streams) (id : Nat) (reason : Reason) (hf : s.store.findKey? id = none) :
    s.innerSendReset id reason = (withFreshEntry s id).actionsSendReset s.store.nextKey reason .library := by
  unfold Streams.innerSendReset withFreshEntry
  rw [hf]
  simp only
  split
  · rw [Streams.sendMaybeResetNextStreamId_store]; rfl
  · rw [Streams.RecvFrame.store.recvMaybeResetNextStreamId]; rfl

theorem withFreshEntry_counts (s : Streams) (id : Nat) : (withFreshEntry s id).counts = s.counts := by
  unfold withFreshEntry
  simp only
  split
  · exact Streams.sendMaybeResetNextStreamId_counts s id
  · exact Streams.RecvFrame.counts.recvMaybeResetNextStreamId s id

/-- **`Inner::send_reset(id, reason)` for a stream the id map does not know** (a frame for a forgotten
    stream, a PUSH_PROMISE on a stream we reset): a fresh entry (key = the old `next_key`, windows 0) is
    created and owes RST_STREAM(id, reason); the entries that were there are kept -/
theorem innerSendReset_unknown_owes (s : Streams) (id : Nat) (reason : Reason)
    (hf : s.store.findKey? id = none) (hkb : KeysBelow s.store)
    (hq : s.counts.canIncNumLocalErrorResets = true) :
    (s.innerSendReset id reason).2 = .ok () ∧
    (∃ st', (s.innerSendReset id reason).1.store.get? s.store.nextKey = some st' ∧ st'.id = id ∧
      st'.state = ⟨.closed (.error (.reset id reason .library))⟩ ∧ st'.pendingSend = [.reset reason] ∧
      st'.isPendingSend = true) ∧
    (∀ k' st'', k' < s.store.nextKey → (s.innerSendReset id reason).1.store.get? k' = some st'' →
      ∃ st0, s.store.get? k' = some st0 ∧ CoreEq st0 st'') ∧
    (∀ k' st0, s.store.get? k' = some st0 → st0.pendingSend ≠ [] →
      ∃ st'', (s.innerSendReset id reason).1.store.get? k' = some st'' ∧ CoreEq st0 st'') := by
  rw [innerSendReset_unknown_eq s id reason hf]
  generalize hw : withFreshEntry s id = w
  have hws : w.store = (s.store.insert (Stream.new id 0 0)).1 := by rw [← hw]; exact withFreshEntry_store s id
  have hnone : s.store.get? s.store.nextKey = none := by
    cases h : s.store.get? s.store.nextKey with
    | none => rfl
    | some x => exact absurd (hkb _ x h) (Nat.lt_irrefl _)
  have hget : ∀ k', w.store.get? k' =
      if k' = s.store.nextKey then some { Stream.new id 0 0 with key := s.store.nextKey } else s.store.get? k' := by
    intro k'
    rw [hws, ConnWakeP.Store.get?_insert]
    by_cases hk : k' = s.store.nextKey
    · subst hk; rw [hnone]
    · rw [if_neg hk]
      cases s.store.get? k' <;> simp [hk]
  have hkbw : KeysBelow w.store := by
    intro k' x hx
    rw [hget] at hx
    have hn : w.store.nextKey = s.store.nextKey + 1 := by rw [hws]; rfl
    rw [hn]
    split at hx
    · next h => omega
    · have := hkb k' x hx; omega
  have hnew : w.store.get? s.store.nextKey = some { Stream.new id 0 0 with key := s.store.nextKey } := by
    rw [hget, if_pos rfl]
  obtain ⟨r1, ⟨st', h1, h2, h3, h4, h5⟩, c2, c3⟩ := actionsSendReset_owes w s.store.nextKey reason .library _ hkbw hnew
    (fun _ => by rw [← hw, withFreshEntry_counts]; exact hq) rfl rfl
  refine ⟨r1, ⟨st', h1, h2, h3, h4, (h5 rfl).1⟩, ?_, ?_⟩
  · intro k' st'' hlt h'
    have hne : k' ≠ s.store.nextKey := by omega
    obtain ⟨st0, h0, hc⟩ := c2 k' st'' hne (by rw [hws]; show k' < s.store.nextKey + 1; omega) h'
    rw [hget, if_neg hne] at h0
    exact ⟨st0, h0, hc⟩
  · intro k' st0 h0 hq'
    have hne : k' ≠ s.store.nextKey := by
      intro h; rw [h, hnone] at h0; cases h0
    exact c3 k' st0 hne (by rw [hget, if_neg hne]; exact h0) hq'

/-- the complementary cases of `Send::send_reset`: a stream that is reset already (by us: the RST_STREAM
    is queued or gone out; by the peer: none is owed) is left alone — no second RST_STREAM —, and a
    stream that is closed with nothing unsent only records the reason -/
theorem sendSendReset_no_rst (s : Streams) (k : Nat) (reason : Reason) (init : Initiator) :
    ((s.stream k).state.isReset = true → s.sendSendReset k reason init = s) ∧
    ((s.stream k).state.isReset = false →
      ((s.stream k).state.isClosed && ((s.stream k).pendingSend.isEmpty && (s.stream k).bufferedSendData == 0)) = true →
      s.sendSendReset k reason init = s.modStreamW k fun st => st.setReset reason init) := by
  constructor
  · intro h; unfold Streams.sendSendReset; simp only [h, if_true]
  · intro h1 h2; unfold Streams.sendSendReset; simp only [h1, Bool.false_eq_true, if_false, h2, if_true]

section
open H2V.Lemmas.ConnWakeP
variable {s0 s : Streams}

/-- `Send::send_reset` never takes a stream out of `pending_send` -/
@[grind ←] theorem y_sendSendReset (k : Nat) (r : Reason) (i : Initiator) (h : YS s0 s) : YS s0 (s.sendSendReset k r i) :=
  h.trans (YS.of_step (Streams.sendSendReset_step (by decide) s k r i fun _ => rfl))
end

end H2V.Lemmas.ConnPartP
