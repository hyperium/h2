import H2V.Lemmas.ConnNoPanicPPollHeld
import H2V.Lemmas.ConnFlush
/-
  C08 (no panic): the coupling `Streams` ↔ `Writer` (`Coupled`): a DATA frame the codec still holds
  (`last_data_frame`, or `next` while its payload is being written) has `in_flight_data_frame ≠ Nothing` on
  the stream side, and — unless the stream's queue was cleared meanwhile (`Drop`) — its remainder is
  accounted for by a live stream (`HeldOK`).  With it `reclaim_frame` does not panic
  (`expect("wasn't expecting a frame to reclaim")`, the `store::Key` of the frame).
  `HK`: steps that leave every live entry with buffered data alone; every step of the kinds in
  `HK.kinds` is one (`HK.of_step`, entry by entry through `Streams.Step.stream_rel`).
-/
namespace H2V.Lemmas.ConnNoPanicP
open H2V H2V.Model H2V.Model.Conn H2V.Lemmas.ConnCountsP
attribute [local irreducible] wrapSubU32 wrapSubUsize

structure HK (s s' : Streams) : Prop where
  hk : ∀ j, Live s j → (s.stream j).bufferedSendData ≠ 0 →
    Live s' j ∧ (s'.stream j).pendingSend = (s.stream j).pendingSend ∧
    (s'.stream j).bufferedSendData = (s.stream j).bufferedSendData

theorem HK.trans {a b c : Streams} (h1 : HK a b) (h2 : HK b c) : HK a c :=
  ⟨fun j hl hb =>
    have r1 := h1.hk j hl hb
    have r2 := h2.hk j r1.1 (by rw [r1.2.2]; exact hb)
    ⟨r2.1, r2.2.1.trans r1.2.1, r2.2.2.trans r1.2.2⟩⟩
theorem HK.of_store {s s' : Streams} (h : s'.store = s.store) : HK s s' :=
  ⟨fun j hl _ => ⟨by unfold Live at *; rw [h]; exact hl, by rw [stream_of_store_eqP h], by rw [stream_of_store_eqP h]⟩⟩

theorem HK.heldOK {s s' : Streams} (h : HK s s') {fr : DataFrame} (ho : HeldOK s fr) : HeldOK s' fr := by
  intro hr
  have := ho hr
  have r := h.hk fr.key this.1 (by omega)
  exact ⟨r.1, by rw [r.2.1, r.2.2]; exact this.2.1, by rw [r.2.2]; exact this.2.2⟩

/-- the kinds of update that change neither `pending_send` nor `buffered_send_data` of an entry (and insert none) -/
def HK.kinds : Kind → Bool
  | .insert | .frame _ | .popFrame | .clearSend | .buffer | .chargeData => false
  | _ => true

/-- one entry: what is buffered stays, with the queue it stands for -/
def HKe (x y : Stream) : Prop :=
  x.bufferedSendData ≠ 0 → y.pendingSend = x.pendingSend ∧ y.bufferedSendData = x.bufferedSendData

theorem HKe.of_fields {x y : Stream} (h1 : y.pendingSend = x.pendingSend) (h2 : y.bufferedSendData = x.bufferedSendData) :
    HKe x y := fun _ => ⟨h1, h2⟩

theorem HKe.of_updW {K : Kind → Bool} {x : Stream} {p : Stream × List String} (h : Stream.UpdW K x p) : HKe x p.1 := by
  cases h with
  | notifySend => rw [Stream.notifySend_fst]; exact .of_fields rfl rfl
  | notifyRecv => rw [Stream.notifyRecv_fst]; exact .of_fields rfl rfl
  | notifyPush => rw [Stream.notifyPush_fst]; exact .of_fields rfl rfl
  | notifyCapacity => rw [Stream.notifyCapacity_fst]; exact .of_fields rfl rfl
  | assignCapacity c m _ => rw [Stream.assignCapacity_fst]; split <;> exact .of_fields rfl rfl
  | setReset r i _ => rw [Stream.setReset_fst]; exact .of_fields rfl rfl

theorem HKe.of_upd {x y : Stream} (h : Stream.Upd HK.kinds x y) : HKe x y := by
  cases h with
  | pushSend _ h | unpopData _ _ h | popSend _ _ h _ | dropSend h | clearSend h | keepOnlyHead h | buffered _ h
    | sendData _ _ h _ => cases h
  | decContentLength n _ e => obtain ⟨_, rfl⟩ := Stream.decContentLength_eq e; exact .of_fields rfl rfl
  | _ => exact .of_fields rfl rfl

/-- every step of these kinds keeps the entries with buffered data (`Streams.Step.stream_rel`): a released entry has none -/
theorem HK.of_step {s s' : Streams} (h : Streams.Step HK.kinds s s') : HK s s' := by
  refine ⟨fun j hl hb => ?_⟩
  have r := Streams.Step.stream_rel (r := HKe) (fun _ => .of_fields rfl rfl)
    (fun h1 h2 hb => ⟨(h2 (by rw [(h1 hb).2]; exact hb)).1.trans (h1 hb).1, (h2 (by rw [(h1 hb).2]; exact hb)).2.trans (h1 hb).2⟩)
    (fun _ _ => HKe.of_upd) (fun _ _ => HKe.of_updW) (fun x q v _ _ => by cases q <;> exact .of_fields rfl rfl)
    (fun _ _ _ => .of_fields rfl rfl)
    (fun _ y hy hb => by
      unfold Stream.isReleased Stream.isClosed at hy
      simp only [Bool.and_eq_true, beq_iff_eq] at hy
      exact absurd hy.1.1.1.1.1.1.1.2 hb) rfl h j hb
  refine ⟨?_, r.1, r.2⟩
  unfold Live
  cases hg : s'.store.get? j with
  | some _ => exact ⟨_, rfl⟩
  | none =>
    have : (s'.stream j).bufferedSendData = 0 := by unfold Streams.stream; rw [hg]; rfl
    rw [this] at r; exact absurd r.2.symm hb

theorem wake_hk (s : Streams) (t : List String) : HK s (s.wake t) := .of_store rfl
theorem modPrio_hk (s : Streams) (f : Prioritize → Prioritize) : HK s (s.modPrio f) := .of_store rfl
theorem setMisc_hk (s : Streams) (a : Actions) (refs leaked : Nat) (wk : List String) (un : Option String) :
    HK s { s with actions := a, refs := refs, recvBufferLeaked := leaked, wakes := wk, unsupported := un } := .of_store rfl
theorem setCounts_hk (s : Streams) (c : Counts) : HK s { s with counts := c } := .of_store rfl
theorem qPush_hk (s : Streams) (q : QName) (k : Nat) : HK s (s.qPush q k).1 :=
  .of_step (Streams.qPush_step s q k (by cases q <;> decide))
theorem recvBufferPending_hk (s : Streams) (w : Writer) : HK s (s.recvBufferPending w).1 :=
  .of_step (Streams.recvBufferPending_step (by decide) s w)

syntax "hk_side" : tactic
macro_rules | `(tactic| hk_side) => `(tactic| decide)
macro_rules | `(tactic| hk_side) => `(tactic| assumption)

syntax "hk_step" : tactic
macro_rules | `(tactic| hk_step) => `(tactic| open H2V.Model.Conn.Streams in rel_head HK "_hk" via HK.of_step "_step" => first
  | with_reducible refine HK.trans ?_ (setMisc_hk _ _ _ _ _ _)
  | with_reducible refine HK.trans ?_ (setCounts_hk _ _))

macro "hk_auto_ih" ih:ident : tactic =>
  `(tactic| repeat (first | hk_step | with_reducible refine HK.trans ?_ ($ih ..) | hk_side | intro _ | split | dsimp only))

def held (w : Writer) (fr : DataFrame) : Prop := w.lastDataFrame = some fr ∨ ∃ nd, w.next = some nd ∧ nd.frame = fr

structure Coupled (s : Streams) (w : Writer) : Prop where
  one : w.lastDataFrame = none ∨ w.next = none
  inflight : ∀ fr, held w fr → s.prio.inFlightDataFrame ≠ .nothing
  ok : ∀ fr, held w fr → (∃ k, s.prio.inFlightDataFrame = .dataFrame k) → HeldOK s fr

theorem held_none {w : Writer} (h1 : w.lastDataFrame = none) (h2 : w.next = none) (fr : DataFrame) : ¬ held w fr := by
  rintro (e | ⟨nd, e, _⟩)
  · rw [h1] at e; cases e
  · rw [h2] at e; cases e

theorem Coupled.of_none {s : Streams} {w : Writer} (h1 : w.lastDataFrame = none) (h2 : w.next = none) : Coupled s w :=
  ⟨.inl h1, fun fr hf => absurd hf (held_none h1 h2 fr), fun fr hf => absurd hf (held_none h1 h2 fr)⟩

theorem Coupled.step {s s' : Streams} {w : Writer} (h : Coupled s w) (hk : HK s s')
    (hn : InflLE s.prio.inFlightDataFrame s'.prio.inFlightDataFrame) : Coupled s' w := by
  refine ⟨h.one, fun fr hf => ?_, fun fr hf hd => ?_⟩
  · have := h.inflight fr hf
    rcases hn with e | ⟨e, _⟩
    · rw [e]; exact this
    · rw [e]; intro h'; cases h'
  · obtain ⟨k, hk'⟩ := hd
    rcases hn with e | ⟨e, _⟩
    · exact hk.heldOK (h.ok fr hf ⟨k, by rw [← e]; exact hk'⟩)
    · rw [e] at hk'; cases hk'

theorem Coupled.writer {s : Streams} {w w' : Writer} (h : Coupled s w) (h1 : w'.lastDataFrame = none ∨ w'.next = none)
    (h2 : ∀ fr, held w' fr → held w fr) : Coupled s w' :=
  ⟨h1, fun fr hf => h.inflight fr (h2 fr hf), fun fr hf => h.ok fr (h2 fr hf)⟩

theorem FI.of_store {s t : Streams} (h : t.store = s.store) (hi : FI s) : FI t := by
  have hst : ∀ j, t.stream j = s.stream j := stream_of_store_eqP h
  have hq : ∀ j, ppq t j = ppq s j := fun j => by unfold ppq; rw [hst]
  refine ⟨fun k => by rw [hst]; exact hi.unc k, ⟨fun k => by rw [hq]; exact hi.ppu.nodup k, fun k k' pid h1 h2 => ?_⟩, ?_⟩
  · rw [hq] at h1 h2; exact hi.ppu.disj k k' pid h1 h2
  · intro k pid hp pushed hf
    rw [hq] at hp; rw [h] at hf; rw [hst]
    exact hi.ppf k pid hp pushed hf

theorem PI.store {E : Nat → Prop} {ks : List Nat} {s t : Streams} (h : PI E s) (hlt : LT ks s t) (hl : LiveAll s ks)
    (e : EvB false s t) (hst : t.store = s.store) : PI E t :=
  ⟨h.npi.lt hlt.w hl e noE, hlt.err.errOK h.err, h.fi.of_store hst⟩

/-- **`Prioritize::reclaim_frame_inner`**: no `expect` fires, the remainder goes back to a live entry -/
theorem reclaimFrameInner_pi {E : Nat → Prop} {s : Streams} {fr : DataFrame} (h : PI E s) (hd : DSum s)
    (hnf : s.prio.inFlightDataFrame ≠ .nothing)
    (hok : (∃ k, s.prio.inFlightDataFrame = .dataFrame k) → HeldOK s fr) :
    PI E (s.reclaimFrameInner fr).1 ∧ DSum (s.reclaimFrameInner fr).1 := by
  unfold Streams.reclaimFrameInner
  dsimp only
  have h0 : PI E (s.modPrio fun p => { p with inFlightDataFrame := .nothing }) :=
    h.store (ks := []) (modPrio_lt _ _ (fun _ => rfl)) (liveAll0 s) (by ev_auto) rfl
  have hd0 : DSum (s.modPrio fun p => { p with inFlightDataFrame := .nothing }) := (modPrio_dk _ _).dsum hd
  generalize hs0 : (s.modPrio fun p => { p with inFlightDataFrame := .nothing }) = s0 at h0 hd0
  have hst0 : ∀ j, s0.stream j = s.stream j := fun j => by rw [← hs0]; rfl
  cases hin : s.prio.inFlightDataFrame with
  | nothing => exact absurd hin hnf
  | drop => exact ⟨h0, hd0⟩
  | dataFrame k =>
    dsimp only
    split
    · next hr =>
      have ho := hok ⟨k, hin⟩ hr
      have hl0 : Live s0 fr.key := by rw [← hs0]; exact ho.1
      have h1 : St [fr.key] s0 (s0.modStream fr.key fun st => { st with pendingSend := .data fr.rest fr.eos :: st.pendingSend }) :=
        ⟨modStream_lt _ _ _ (fun _ => by inert_tac), modStream_ev' _ _ _ (setPendingSend_same' _ _ (mem_cons_pp rfl)),
         modStream_fk' _ _ _ (.of_upd (.unpopData _ _ rfl))⟩
      have hdk1 : DK s0 (s0.modStream fr.key fun st => { st with pendingSend := .data fr.rest fr.eos :: st.pendingSend }) :=
        modStream_dk' _ _ _ (fun _ => rfl) (fun _ => by
          rw [hst0]
          unfold DS
          show dsum (.data fr.rest fr.eos :: (s.stream fr.key).pendingSend) ≤ _ ∧ _
          simp only [dsum]
          exact ⟨ho.2.1, ho.2.2⟩)
      generalize hs1 : (s0.modStream fr.key fun st => { st with pendingSend := .data fr.rest fr.eos :: st.pendingSend }) = s1
        at h1 hdk1
      have hl1 : Live s1 fr.key := h1.lt.keys.live.mpr hl0
      split
      · exact ⟨(h0.st h1 (liveAll1 hl0)).st (qPushSend_st s1 fr.key) (liveAll1 hl1), (hdk1.trans (qPush_dk _ _ _)).dsum hd0⟩
      · exact ⟨h0.st h1 (liveAll1 hl0), hdk1.dsum hd0⟩
    · exact ⟨h0, hd0⟩

/-- **`Prioritize::reclaim_frame`** -/
theorem reclaimFrame_pi {E : Nat → Prop} {s : Streams} {w : Writer} (h : PI E s) (hd : DSum s) (hc : Coupled s w) :
    PI E (s.reclaimFrame w).1 ∧ DSum (s.reclaimFrame w).1 := by
  unfold Streams.reclaimFrame Writer.takeLastDataFrame
  cases hld : w.lastDataFrame with
  | none => exact ⟨h, hd⟩
  | some fr => exact reclaimFrameInner_pi (fr := fr) h hd (hc.inflight fr (.inl hld)) (hc.ok fr (.inl hld))

/-- **`dst.buffer(frame).expect("invalid frame")`** for a frame `pop_frame` cut to `max_frame_size` -/
theorem bufferOut_pi {E : Nat → Prop} {s : Streams} (h : PI E s) (w : Writer) (f : Streams.OutFrame)
    (hlen : ∀ len e fr, f = .data len e fr → len ≤ w.maxFrameSize) :
    PI E (s.bufferOut w f).1 ∧ (s.bufferOut w f).1.store = s.store ∧
    (match f with
     | .data _ _ fr =>
       (s.bufferOut w f).1.prio.inFlightDataFrame = .dataFrame fr.key ∧
       (((s.bufferOut w f).2.lastDataFrame = some fr ∧ (s.bufferOut w f).2.next = w.next) ∨
        ((s.bufferOut w f).2.lastDataFrame = w.lastDataFrame ∧ ∃ nd, (s.bufferOut w f).2.next = some nd ∧ nd.frame = fr))
     | _ => (s.bufferOut w f).1 = s ∧ (s.bufferOut w f).2.lastDataFrame = w.lastDataFrame ∧ (s.bufferOut w f).2.next = w.next) := by
  unfold Streams.bufferOut
  cases f with
  | data len e fr =>
    obtain ⟨w', hw', hcase⟩ := bufferData_some (hlen len e fr rfl) e fr
    dsimp only
    rw [hw']
    dsimp only
    exact ⟨h.store (ks := []) (modPrio_lt _ _ (fun _ => rfl)) (liveAll0 s) (by ev_auto) rfl, rfl, rfl, hcase⟩
  | headers sid eos fields => exact ⟨h, rfl, rfl, bufferHeaders_keeps _ _ _ _⟩
  | reset sid reason => exact ⟨h, rfl, rfl, rfl, rfl⟩
  | pushPromise sid p fields => exact ⟨h, rfl, rfl, bufferPushPromise_keeps _ _ _ _⟩

end H2V.Lemmas.ConnNoPanicP
