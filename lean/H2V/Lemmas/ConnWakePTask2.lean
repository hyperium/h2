import H2V.Lemmas.ConnWakePGoAway
/-
  ConnWakeP — C06 (D) continued: `StreamRef::send_data` and `drop_stream_ref` as whole functions.
-/
namespace H2V.Lemmas.ConnWakeP
open H2V H2V.Model H2V.Model.Conn

/-- `Send::schedule_implicit_reset` on a stream that is not closed yet and may send: the connection
    task is woken (it has a RST_STREAM to generate) -/
theorem scheduleImplicitReset_woken {s : Streams} {k : Nat} (r : Reason)
    (hc : (s.stream k).state.isClosed = false) (hr : (s.stream k).isSendReady = true) :
    TaskWoken s (s.scheduleImplicitReset k r) := by
  unfold Streams.scheduleImplicitReset
  simp only [hc, Bool.false_eq_true, if_false]
  exact scheduleSend_woken_after ((Streams.Step.modStream s k _ (.state _ (.setScheduledReset r rfl hc))).trans
    (Streams.reclaimReservedCapacity_step (by decide) _ k)) hr

/-- `maybe_cancel`: nobody is interested in the stream any more and it is not closed -/
theorem maybeCancel_woken {s : Streams} {k : Nat} (h0 : (s.stream k).refCount = 0)
    (hc : (s.stream k).state.isClosed = false) (hr : (s.stream k).isSendReady = true) :
    TaskWoken s (s.maybeCancel k) := by
  unfold Streams.maybeCancel
  have : (s.stream k).isCanceledInterest = true := by simp [Stream.isCanceledInterest, h0, hc]
  simp only [this, if_true]
  exact (scheduleImplicitReset_woken _ hc hr).before
    (Step.of_step (cx := none) (Streams.scheduleImplicitReset_step (by decide) s k _)).wakes
    (.of_step (Streams.enqueueResetExpiration_step (by decide) _ k))

/-- **`drop_stream_ref`** of the LAST handle of a stream that is not closed (the application lost interest
    mid-flight: the implicit `CANCEL` / `NO_ERROR` reset is scheduled): the connection task is woken -/
theorem dropStreamRef_woken {s : Streams} {k : Nat} (h1 : (s.stream k).refCount = 1)
    (hc : (s.stream k).state.isClosed = false) (hr : (s.stream k).isSendReady = true) :
    TaskWoken s (s.dropStreamRef k) := by
  -- the stream exists (a dangling key reads as a blank stream with `ref_count = 0`)
  obtain ⟨a, ha⟩ : ∃ a, s.store.get? k = some a := by
    cases hg : s.store.get? k with
    | some a => exact ⟨a, rfl⟩
    | none => simp [Streams.stream, hg] at h1
  have hst : s.stream k = a := stream_eq_of_get? ha
  rw [hst] at h1 hc hr
  unfold Streams.dropStreamRef
  simp only
  have hget0 : ({ s with refs := s.refs - 1 } : Streams).store.get? k = some a := ha
  have hst0 : ({ s with refs := s.refs - 1 } : Streams).stream k = a := stream_eq_of_get? hget0
  rw [hst0, if_pos (by omega : a.refCount > 0)]
  generalize hs1 : (({ s with refs := s.refs - 1 } : Streams).modStream k fun st => { st with refCount := st.refCount - 1 }) = s1
  have hget1 : s1.store.get? k = some { a with refCount := a.refCount - 1 } := by
    rw [← hs1]; exact get?_modStream_same (fun st => { st with refCount := st.refCount - 1 }) hget0 rfl
  have hst1 : s1.stream k = { a with refCount := a.refCount - 1 } := stream_eq_of_get? hget1
  have hstep1 : Step none s s1 := by
    rw [← hs1]
    exact (setRefs_i _ _).trans (modStream_i _ k _ (Inert.sstep (by rw [hst0]; inert) _))
  -- the (possible) wake of F35 in between does not touch the store
  generalize hs2 : (if ((s1.stream k).refCount == 0 && (s1.stream k).isClosed || s1.refs == 1) = true then s1.notifyTask else s1) = s2
  have hstore2 : s2.store = s1.store := by
    subst hs2; split
    · unfold Streams.notifyTask; split <;> rfl
    · rfl
  have hst2 : s2.stream k = { a with refCount := a.refCount - 1 } := by
    unfold Streams.stream; rw [hstore2]; exact hst1
  have hstep2 : Step none s s2 := by
    subst hs2; split
    · exact hstep1.trans (notifyTask_i _)
    · exact hstep1
  -- inside `transition`: `maybe_cancel` wakes, the rest are steps
  have hw : TaskWoken s2 (s2.maybeCancel k) :=
    maybeCancel_woken (by rw [hst2]; simp [h1]) (by rw [hst2]; exact hc) (by rw [hst2]; exact hr)
  have hsm : Step none s2 (s2.maybeCancel k) := .of_step (Streams.maybeCancel_step (by decide) s2 k)
  have hw2 : TaskWoken s (s2.maybeCancel k) := TaskWoken.after hstep2 hw hsm.wakes
  have hwk : s.wakes <+: (s2.maybeCancel k).wakes := hstep2.wakes.trans hsm.wakes
  rw [Streams.transition_fst]
  refine hw2.before hwk ?_
  i_auto

/-- **`drop_stream_ref` of the last reference besides the connection's own** (repair F35: a `SendRequest` drops its
    `Streams` handle before its `pending` stream reference, so a stream reference can be the last one): the
    connection task is woken — an idle client can notice that nobody is left and close itself -/
theorem dropStreamRef_last_ref_woken {s : Streams} {k : Nat} (hrefs : s.refs = 2) : TaskWoken s (s.dropStreamRef k) := by
  unfold Streams.dropStreamRef
  simp only
  generalize hs1 : ((if (({ s with refs := s.refs - 1 } : Streams).stream k).refCount > 0 then ({ s with refs := s.refs - 1 } : Streams)
      else ({ s with refs := s.refs - 1 } : Streams).panic "assertion failed: self.ref_count > 0").modStream k
        fun st => { st with refCount := st.refCount - 1 }) = s1
  have hstep1 : Step none s s1 := by subst hs1; i_auto
  have hr1 : s1.refs = 1 := by
    subst hs1; rw [Streams.modStream_refs]; split
    · simp [hrefs]
    · rw [Streams.panic_refs]; simp [hrefs]
  have hcond : ((s1.stream k).refCount == 0 && (s1.stream k).isClosed || s1.refs == 1) = true := by simp [hr1]
  rw [hcond]
  simp only [if_true]
  refine TaskWoken.step_notify_step hstep1 ?_
  i_auto

namespace F35
/-- client: one request whose only stream reference is the `SendRequest`'s `pending` one; the `SendRequest` drops its
    `Streams` handle first (no wake: two references left), the connection task parks … -/
def f1 : Streams := ((Conn.init {}).streams.sendRequest false [] true none).1.dropHandle
def f2 : Streams := { f1 with actions := { f1.actions with task := some "c" }, wakes := [] }
/-- … then the `pending` reference goes: it was the last one besides the connection's own -/
def f3 : Streams := f2.dropStreamRef 0
theorem last_stream_ref_wakes_connection_example :
    f2.refs = 2 ∧ f2.actions.task = some "c" ∧ f3.refs = 1 ∧ "c" ∈ f3.wakes ∧ f3.actions.task = none := by decide
end F35

/-- the stream has buffered DATA but not one octet of send capacity: nothing of it can be written -/
def NoCapacity (s : Streams) (k : Nat) : Prop :=
  (s.stream k).sendFlow.available.gtUsize 0 = false ∧ (s.stream k).bufferedSendData ≠ 0

/-- `Prioritize::send_data` up to the point where it decides whether to schedule the stream -/
def sdPrefix (s : Streams) (k len : Nat) (eos : Bool) : Streams :=
  let s := s.modStream k fun st => { st with bufferedSendData := st.bufferedSendData + len }
  let st := s.stream k
  let s :=
    if st.requestedSendCapacity < st.bufferedSendData then
      (s.modStream k fun st => { st with requestedSendCapacity := min st.bufferedSendData U32_MAX }).tryAssignCapacity k
    else s
  if eos then
    let s := match (s.stream k).state.sendClose with
      | some st' => s.modStream k fun st => { st with state := st' }
      | none => s.panic "send_close: unexpected state"
    s.reserveCapacity k 0
  else s

theorem prioSendData_eq {s : Streams} {k len : Nat} {eos : Bool} (h1 : ¬ len > Generated.Consts.MAX_WINDOW_SIZE)
    (h2 : (s.stream k).state.isSendStreaming = true) :
    s.prioSendData k len eos =
      (if ((sdPrefix s k len eos).stream k).sendFlow.available.gtUsize 0 || ((sdPrefix s k len eos).stream k).bufferedSendData == 0 then
        ((sdPrefix s k len eos).queueFrame k (.data len eos), .ok ())
      else
        ((sdPrefix s k len eos).modStream k fun st => { st with pendingSend := st.pendingSend ++ [.data len eos] }, .ok ())) := by
  unfold Streams.prioSendData sdPrefix
  simp only [h1, if_false, h2, Bool.not_true, Bool.false_eq_true]
  rfl

theorem sdPrefix_lstep {K : Kind → Bool}
    (hK : Kind.Has K [.enqueue .pendingSend, .enqueue .pendingCapacity, .dequeue .pendingCapacity, .state .sendClose, .buffer,
      .sendFlow, .connSendFlow])
    (s : Streams) (k len : Nat) (eos : Bool) : Streams.Step K s (sdPrefix s k len eos) := by
  unfold sdPrefix; stp_auto

/-- **`Prioritize::send_data`** that succeeds on a stream that may send: the connection task is woken —
    unless the stream has no capacity at all (then the frame only joins the stream's own queue, and
    the connection learns about it when capacity arrives: `try_assign_capacity` schedules the stream) -/
theorem prioSendData_woken {s : Streams} {k len : Nat} {eos : Bool}
    (hok : (s.prioSendData k len eos).2 = .ok ()) (hr : (s.stream k).isSendReady = true) :
    TaskWoken s (s.prioSendData k len eos).1 ∨ NoCapacity (s.prioSendData k len eos).1 k := by
  by_cases h1 : len > Generated.Consts.MAX_WINDOW_SIZE
  · unfold Streams.prioSendData at hok; simp [h1] at hok
  · by_cases h2 : (s.stream k).state.isSendStreaming = true
    · rw [prioSendData_eq h1 h2]
      split
      · exact Or.inl (queueFrame_woken_after (sdPrefix_lstep (by decide) s k len eos) _ hr)
      · next hcond =>
        refine Or.inr ?_
        simp only [Bool.or_eq_true, not_or, Bool.not_eq_true, beq_eq_false_iff_ne] at hcond
        cases hg : (sdPrefix s k len eos).store.get? k with
        | none => simp [Streams.stream, hg] at hcond
        | some a =>
          rw [stream_eq_of_get? hg] at hcond
          unfold NoCapacity
          simp only
          rw [stream_modStream_same _ hg rfl]
          exact hcond
    · unfold Streams.prioSendData at hok; simp [h1, h2] at hok

/-- **`StreamRef::send_data`** (the handle operation) -/
theorem refSendData_woken {s : Streams} {k len : Nat} {eos : Bool}
    (hok : (s.refSendData k len eos).2 = .ok ()) (hr : (s.stream k).isSendReady = true) :
    TaskWoken s (s.refSendData k len eos).1 ∨ NoCapacity (s.refSendData k len eos).1 k := by
  unfold Streams.refSendData Streams.transition at hok ⊢
  simp only at hok ⊢
  rcases prioSendData_woken hok hr with h | h
  · exact Or.inl (h.before (Step.of_step (cx := none) (Streams.prioSendData_step (by decide) s k len eos)).wakes
      (.of_step (Streams.transitionAfter_step (by decide) _ _ _)))
  · refine Or.inr ?_
    have hnc : ((s.prioSendData k len eos).1.stream k).isClosed = false := by
      unfold Stream.isClosed; simp [h.2]
    unfold NoCapacity Streams.stream at h ⊢
    rw [Streams.transitionAfter_store_of_not_closed hnc]
    exact h

end H2V.Lemmas.ConnWakeP
