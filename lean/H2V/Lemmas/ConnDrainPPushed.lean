import H2V.Lemmas.ConnDrainPSReach
/-
  ConnDrainP — `poll_pushed`: the `Reach` definitions of ConnFlowP, ConnCountsP and ConnRecvP have no constructor for it;
  it keeps `SReach`.
-/
namespace H2V.Lemmas.ConnDrainP
open H2V H2V.Model H2V.Model.Conn
open H2V.Lemmas.ConnFlowP

theorem KInv.recvPollPushed {s : Streams} (h : KInv s) (id : Nat) (tag : String) : KInv (s.recvPollPushed id tag).1 :=
  h.sfr (.of_step (Streams.recvPollPushed_step (by decide) s id tag))

theorem KInv.refPollPushed {s : Streams} (h : KInv s) (id : Nat) (tag : String) : KInv (s.refPollPushed id tag).1 := by
  unfold Streams.refPollPushed
  have h1 := h.recvPollPushed id tag
  split
  · rename_i heq; rw [heq] at h1; exact (ConnFlowP.Mv.op (.cloneStreamRef _) trivial _).kinv h1
  · exact h1

theorem SReach.refPollPushed {s : Streams} (h : SReach s) (k : Nat) (t : String) : SReach (s.refPollPushed k t).1 :=
  h.of_ev (h.k.refPollPushed k t) (.ev (ConnCountsP.refPollPushed_ev s k t)) (.of_step (Streams.refPollPushed_step (by decide) s k t))

end H2V.Lemmas.ConnDrainP
