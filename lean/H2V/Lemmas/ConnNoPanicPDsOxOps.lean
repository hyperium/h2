import H2V.Lemmas.ConnNoPanicPDsOxHdr
import H2V.Lemmas.ConnDataRule
/-
  C08 (no panic) — the residual hypothesis `OH` as an invariant: streams.rs — the operations that reach `Send::handle_error`
  (the entry is closed by then) or `send_reset`.
-/
namespace H2V.Lemmas.ConnNoPanicP
open H2V H2V.Model H2V.Model.Conn H2V.Lemmas.ConnCountsP
attribute [local irreducible] wrapSubU32 wrapSubUsize

variable {sv : Bool}

theorem ClosedAt.modStreamW {s : Streams} {k : Nat} (g : Stream → Stream × List String) (hk : ∀ x, (g x).1.key = x.key)
    (hg : ∀ x, (g x).1.state = x.state) (hc : ClosedAt s k) : ClosedAt (s.modStreamW k g) k := by
  intro hl
  have hl0 : Live s k := by
    by_cases h : Live s k
    · exact h
    · unfold Live Streams.modStreamW at hl; rw [get?_none_of_not_live h, panic_store] at hl; exact hl
  rw [stream_modStreamW_live hl0 g hk, hg]; exact hc hl0

theorem ClosedAt.notify3 {s : Streams} {k : Nat} (hc : ClosedAt s k) :
    ClosedAt (((s.modStreamW k Stream.notifySend).modStreamW k Stream.notifyRecv).modStreamW k Stream.notifyPush) k :=
  ((hc.modStreamW _ (fun x => (notifySend_proj7 x).1) (fun x => (notifySend_proj7 x).2.2.1)).modStreamW _
    (fun x => (notifyRecv_xp (sv := true) x).1) (fun x => notifyRecv_state x)).modStreamW _
    (fun x => (notifyPush_xp (sv := true) x).1) (fun x => notifyPush_state x)

theorem closedAt_setState (s : Streams) (k : Nat) (g : Stream → State) (hg : ∀ x, (g x).isClosed = true) :
    ClosedAt (s.modStream k fun st => { st with state := g st }) k := by
  intro hl
  have hl0 : Live s k := (SameKeys.modStream s k _).live.mp hl
  have := stream_modStream_live hl0 (fun st => ({ st with state := g st } : Stream)) (fun _ => rfl)
  rw [this]; exact hg _

theorem recvHandleError_closedAt (s : Streams) (k : Nat) (e : PErr) : ClosedAt (s.recvHandleError k e) k := by
  unfold Streams.recvHandleError
  exact (closedAt_setState s k (fun st => st.state.handleError e) (fun _ => State.handleError_isClosed _ _)).notify3
theorem recvRecvEof_closedAt (s : Streams) (k : Nat) : ClosedAt (s.recvRecvEof k) k := by
  unfold Streams.recvRecvEof
  exact (closedAt_setState s k (fun st => st.state.recvEof) (fun _ => State.recvEof_isClosed _)).notify3
theorem recvRecvReset_closedAt {s s' : Streams} {k : Nat} {r : Reason} {u : Unit} (h : s.recvRecvReset k r = (s', .ok u)) :
    ClosedAt s' k := by
  unfold Streams.recvRecvReset at h
  dsimp only at h
  split at h
  · cases h
  · next s0 _ =>
    simp only [Prod.mk.injEq] at h
    rw [← h.1]
    exact (closedAt_setState s0 k (fun st => st.state.recvReset st.id r st.isPendingSend)
      (fun _ => State.recvReset_isClosed _ _ _ _)).notify3

theorem maybeCancel_xk (s : Streams) (k : Nat) : XK sv s (s.maybeCancel k) := by
  unfold Streams.maybeCancel; xk_auto
theorem dropStreamRef_xk (s : Streams) (k : Nat) : XK sv s (s.dropStreamRef k) := by
  unfold Streams.dropStreamRef; xk_auto
theorem refSendTrailers_xk (s : Streams) (k : Nat) (f : List Hpack.Field) : XK sv s (s.refSendTrailers k f).1 := by
  unfold Streams.refSendTrailers; xk_auto
theorem refReserveCapacity_xk (s : Streams) (k c : Nat) : XK sv s (s.refReserveCapacity k c) := by
  unfold Streams.refReserveCapacity; xk_auto
theorem refPollPushed_xk (s : Streams) (k : Nat) (t : String) : XK sv s (s.refPollPushed k t).1 :=
  .of_step (Streams.refPollPushed_step (by decide) s k t)
theorem recvData_xk (s : Streams) (id : Nat) (p : Bytes) (eos : Bool) (pad : Option Nat) : XK sv s (s.recvData id p eos pad).1 :=
  Streams.recvData_rel xk_relOK (K := XK.kinds) (by decide) XK.of_step (fun s k _ => resetOnRecvStreamErr_xk s k _) s id p eos pad
theorem recvWindowUpdate_xk (s : Streams) (id inc : Nat) : XK sv s (s.recvWindowUpdate id inc).1 := by
  unfold Streams.recvWindowUpdate; xk_auto
theorem innerSendReset_xk (s : Streams) (id : Nat) (r : Reason) : XK sv s (s.innerSendReset id r).1 := by
  unfold Streams.innerSendReset; xk_auto
theorem refSendReset_xk (s : Streams) (k : Nat) (r : Reason) : XK sv s (s.refSendReset k r) := by
  unfold Streams.refSendReset; xk_auto
theorem applyRemoteSettings_xk (s : Streams) (v : List (Nat × Nat)) (b : Bool) : XK sv s (s.applyRemoteSettings v b).1 := by
  unfold Streams.applyRemoteSettings; xk_auto

attribute [local irreducible] ClosedAt

syntax "xc_side" : tactic
macro_rules | `(tactic| xc_side) => `(tactic| with_reducible exact recvHandleError_closedAt _ _ _)
macro_rules | `(tactic| xc_side) => `(tactic| with_reducible exact recvRecvEof_closedAt _ _)
macro_rules | `(tactic| xc_side) => `(tactic| with_reducible exact recvRecvReset_closedAt (by assumption))
macro "xk_auto2" : tactic => `(tactic| repeat (first | xk_step | xk_side | xc_side | intro _ | split | dsimp only))

theorem recvReset_xk (s : Streams) (id : Nat) (r : Reason) : XK sv s (s.recvReset id r).1 := by
  unfold Streams.recvReset; xk_auto2
theorem handleError_xk (s : Streams) (e : PErr) : XK sv s (s.handleError e).1 := by
  unfold Streams.handleError; xk_auto2
theorem recvGoAwayFrame_xk (s : Streams) (l : Nat) (r : Reason) (d : Bytes) : XK sv s (s.recvGoAwayFrame l r d).1 := by
  unfold Streams.recvGoAwayFrame; xk_auto2
theorem recvEof_xk (s : Streams) (b : Bool) : XK sv s (s.recvEof b) := by
  unfold Streams.recvEof; xk_auto2

end H2V.Lemmas.ConnNoPanicP
