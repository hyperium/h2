import H2V.Lemmas.ConnNoPanicPHist
/-
  C08 (no panic) — `IBS`: every locally initiated slab entry has an id below `next_stream_id`.
  With `IdsOK` this discharges `assert!(self.ids.insert(id, index).is_none())` of `Store::insert`
  (`IBS.hfree`).  Steps without insertion (`EvB false`, the pops of `pending_reset_expired`) are `LD`.
-/
namespace H2V.Lemmas.ConnNoPanicP
open H2V H2V.Model H2V.Model.Conn H2V.Lemmas.ConnCountsP
open H2V.Lemmas.ConnResetP (Op run)

def IBS (s : Streams) : Prop :=
  ∀ x ∈ s.store.slab, s.counts.isLocalInit x.id = true → ∀ n, s.actions.send.nextStreamId = some n → x.id < n

theorem IBS_blank {s : Streams} (h : Blank s) (_hq : ∀ q, s.getQ q = []) : IBS s := by
  intro x hx; rw [h.slab] at hx; cases hx

theorem IBS.hfree {s : Streams} (hn : NPI (fun _ => False) s) (hi : IBS s) :
    ∀ id, s.actions.send.nextStreamId = some id → s.store.contains id = false := by
  intro id hid
  cases hc : s.store.contains id with
  | false => rfl
  | true =>
    exfalso
    unfold Store.contains at hc
    obtain ⟨k, hk⟩ := Option.isSome_iff_exists.mp hc
    obtain ⟨⟨x, hx⟩, hxid⟩ := hn.ids.findKey hk
    rw [stream_of_get? hx] at hxid
    have := hi x (get?_mem hx) (by rw [hxid]; exact hn.nl id hid) id hid
    omega

theorem IBS.of_ld {s s' : Streams} (hi : IBS s) (hk' : KeysOK s') (hld : LD s s') (hnx : NX s s') : IBS s' := by
  intro x' hx' hloc n' hn'
  obtain ⟨x, hx, _, hid⟩ := hld.desc x'.key x' (hk'.get?_of_mem hx')
  obtain ⟨n, hn, hle, _⟩ := hnx.next n' hn'
  rw [isLocalInit_eq, hnx.role, ← isLocalInit_eq, hid] at hloc
  have := hi x (get?_mem hx) hloc n hn
  omega

theorem IBS.of_evF {s s' : Streams} (hi : IBS s) (hk : KeysOK s) (e : EvB false s s') : IBS s' :=
  hi.of_ld (e.keysOK hk) e.ld e.nx

theorem LD.transitionAfter (s : Streams) (k : Nat) (b : Bool) : LD s (s.transitionAfter k b) := by
  rw [transitionAfter_split]
  refine LD.trans ?_ (transitionAfter_ev _ k false (fun h => Bool.noConfusion h)).ld
  split
  · exact LD.modCountsA _ _ _
  · exact LD.refl _

theorem ldOK : Conn.RelOK LD := ⟨LD.refl, LD.trans, LD.panic'⟩

theorem clearExpiredResetStreams_ld (fuel : Nat) (s : Streams) : LD s (Streams.clearExpiredResetStreams fuel s) :=
  Streams.clearExpiredResetStreams_rel ldOK (fun s => LD.qPop s _) LD.transitionAfter fuel s

theorem clearAllResetStreams_ld (fuel : Nat) (s : Streams) : LD s (Streams.clearAllResetStreams fuel s) :=
  Streams.clearAllResetStreams_rel ldOK (fun s => LD.qPop s _) LD.transitionAfter fuel s

theorem recvClearQueues_ld (s : Streams) (b : Bool) : LD s (s.recvClearQueues b) := by
  unfold Streams.recvClearQueues
  dsimp only
  split
  · exact .trans (.trans (clearStreamWindowUpdateQueue_ev _ _).ld (clearAllResetStreams_ld _ _)) (clearAllPendingAccept_ev _ _).ld
  · exact .trans (clearStreamWindowUpdateQueue_ev _ _).ld (clearAllResetStreams_ld _ _)

theorem clearQueues_ld (s : Streams) (b : Bool) : LD s (s.clearQueues b) := by
  unfold Streams.clearQueues
  exact .trans (recvClearQueues_ld _ _) (sendClearQueues_ev _).ld

theorem recvEof_ld (s : Streams) (b : Bool) : LD s (s.recvEof b) := by
  unfold Streams.recvEof
  dsimp only
  refine .trans (EvB.ld ?_) (clearQueues_ld _ _)
  refine .trans ?_ (storeForEach_ev _ _ (fun s id => eofStream_ev s id))
  split
  · exact setMisc_ev _ _ _ _ _ _ ⟨rfl, rfl, rfl, rfl, rfl⟩
  · exact .refl _

end H2V.Lemmas.ConnNoPanicP
