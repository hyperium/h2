import H2V.Lemmas.ConnNoPanicPRespHandles
/-
  C08 (no panic) — the client response path: what the operations that DO touch the receive queue of a
  request stream `k` (response head / DATA / trailers routed to it, the polls of its `ResponseFuture`) do to `RGood`.
-/
namespace H2V.Lemmas.ConnNoPanicP
open H2V H2V.Model H2V.Model.Conn H2V.Lemmas.ConnCountsP
attribute [local irreducible] wrapSubU32 wrapSubUsize

theorem RGood.of_head {y : Stream} (h : respHead y.pendingRecv = true) : RGood y := ⟨respShape_of_head h, fun _ => h⟩

theorem RGood.append_headers {x y : Stream} (g : RGood x) {a : Bytes} {f : Fields} (hq : y.pendingRecv = x.pendingRecv ++ [.headers a f]) :
    RGood y := .of_head (by rw [hq]; exact respHead_append_headers a f g.shape)

theorem RGood.append_info {x y : Stream} (g : RGood x) {a : Bytes} {f : Fields} (hq : y.pendingRecv = x.pendingRecv ++ [.informational a f])
    (hs : y.state.isRecvStreaming = false) : RGood y :=
  ⟨by rw [hq]; exact respShape_append_info a f g.shape, fun h => by rw [hs] at h; cases h⟩

theorem RGood.append_streaming {x y : Stream} (g : RGood x) (hs : x.state.isRecvStreaming = true) {l : List REvent}
    (hq : y.pendingRecv = x.pendingRecv ++ l) : RGood y := .of_head (by rw [hq]; exact respHead_append l (g.head hs))

theorem RGood.of_shape {x y : Stream} (g : RGood x) (hq : y.pendingRecv = x.pendingRecv) (hs : y.state.isRecvStreaming = false) : RGood y :=
  ⟨by rw [hq]; exact g.shape, fun h => by rw [hs] at h; cases h⟩

theorem RP.good {s s' : Streams} {k : Nat} (h : RP [] s s') (hr : 0 < (s.stream k).refCount) (g : RGood (s.stream k)) :
    RGood (s'.stream k) ∧ 0 < (s'.stream k).refCount :=
  have r := h.fr k List.not_mem_nil hr
  ⟨r.good g, Nat.lt_of_lt_of_le hr r.ref⟩

theorem good_of_dec {s s' : Streams} {k : Nat} (hr : 0 < (s.stream k).refCount) (g : RGood (s.stream k))
    (hdec : RP [] s s' ∨ ∃ t e, RP [] s t ∧ RP [] (t.appendTo k e) s' ∧ (s.stream k).state.isRecvStreaming = true) :
    RGood (s'.stream k) ∧ 0 < (s'.stream k).refCount := by
  rcases hdec with h | ⟨t, e, ht, hap, hstr⟩
  · exact h.good hr g
  · have rt := ht.fr k List.not_mem_nil hr
    have hrt : 0 < (t.stream k).refCount := Nat.lt_of_lt_of_le hr rt.ref
    obtain ⟨hq, _, hrc⟩ := appendTo_stream (live_of_ref_pos hrt) e
    have ga : RGood ((t.appendTo k e).stream k) := g.append_streaming hstr (by rw [hq, rt.q])
    exact hap.good (by rw [hrc]; exact hrt) ga

theorem isReset_not_streaming {st : State} (h : st.isReset = true) : st.isRecvStreaming = false := by
  obtain ⟨i⟩ := st
  cases i <;> first | rfl | cases h

/-- `reset_on_recv_stream_err` on a stream error, while the local-error-reset quota lasts: the stream is closed -/
theorem resetOnRecvStreamErr_closes {s : Streams} (k : Nat) (he : ErrOK s) (i : Nat) (r : Reason) (init : Initiator) :
    ((s.resetOnRecvStreamErr k (.error (.reset i r init))).1.stream k).state.isRecvStreaming = false := by
  rcases ConnHttpP.resetOnRecvStreamErr_fails s k i r init with h | ⟨_, h⟩
  · have : (s.resetOnRecvStreamErr k (.error (.reset i r init))).2 = .ok () := by
      unfold Streams.resetOnRecvStreamErr; unfold ErrOK at he; simp only [he, if_true]
    rw [this] at h; cases h
  · cases hg : (s.resetOnRecvStreamErr k (.error (.reset i r init))).1.store.get? k with
    | none => rw [Streams.stream_of_none hg]; rfl
    | some st' =>
      obtain ⟨st, _, f⟩ := h st' hg
      rw [Streams.stream_of_get? hg]; exact isReset_not_streaming f.isReset

theorem recvOpen_info_str {st st' : State} {eos ini : Bool} (h : st.recvOpen eos true = (st', .ok ini)) :
    st'.isRecvStreaming = false := by
  obtain ⟨i⟩ := st
  unfold State.recvOpen at h
  cases i with
  | «open» l r =>
    cases r <;> first | (cases h; done) | (simp only [Prod.mk.injEq] at h; rw [← h.1]; cases eos <;> rfl)
  | halfClosedLocal p =>
    cases p <;> first | (cases h; done) | (simp only [Prod.mk.injEq] at h; rw [← h.1]; cases eos <;> rfl)
  | _ => first | (cases h; done) | (simp only [Prod.mk.injEq] at h; rw [← h.1]; cases eos <;> rfl)

theorem recvClose_ok_streaming {st st' : State} {u : Unit} (h : st.recvClose = (st', .ok u)) (hh : st.isRecvHeaders = false) :
    st.isRecvStreaming = true := by
  obtain ⟨i⟩ := st
  unfold State.recvClose at h
  cases i with
  | «open» l r => cases r <;> first | rfl | cases hh
  | halfClosedLocal p => cases p <;> first | rfl | cases hh
  | _ => first | (cases h; done) | cases hh

theorem qhSt_stream {s : Streams} {k : Nat} (hk : Live s k) (st' : State) : (qhSt s k st').stream k = { s.stream k with state := st' } := by
  unfold qhSt; exact stream_modStream_live hk _ (fun _ => rfl)

theorem resetOnRecvStreamErr_ok (s : Streams) (k : Nat) : (s.resetOnRecvStreamErr k (.ok ())).1 = s := rfl
theorem resetOnRecvStreamErr_goAway (s : Streams) (k : Nat) (d : Bytes) (r : Reason) (i : Initiator) :
    (s.resetOnRecvStreamErr k (.error (.goAway d r i))).1 = s := rfl

/-- after a stream error from `recv_headers` the stream is reset: the queue keeps its shape, nothing streams -/
theorem good_after_reset {s t : Streams} {k : Nat} (g : RGood (s.stream k))
    (hq : (t.stream k).pendingRecv = (s.stream k).pendingRecv) (hrt : 0 < (t.stream k).refCount) (het : ErrOK t)
    (i : Nat) (r : Reason) (init : Initiator) :
    RGood ((t.resetOnRecvStreamErr k (.error (.reset i r init))).1.stream k) ∧
    0 < ((t.resetOnRecvStreamErr k (.error (.reset i r init))).1.stream k).refCount := by
  have hrs := (RP.of_step (X := []) (Streams.resetOnRecvStreamErr_step (by decide) t k (.error (.reset i r init)) fun _ _ _ => rfl)).fr k List.not_mem_nil hrt
  exact ⟨g.of_shape (hrs.q.trans hq) (resetOnRecvStreamErr_closes k het i r init), Nat.lt_of_lt_of_le hrt hrs.ref⟩

theorem recvHeadersBody_good {s : Streams} {k : Nat} (h : HeadersIn) (hr : 0 < (s.stream k).refCount)
    (hsv : s.counts.isServer = false) (he : ErrOK s) (g : RGood (s.stream k)) :
    RGood ((s.recvHeadersBody k h).1.stream k) ∧ 0 < ((s.recvHeadersBody k h).1.stream k).refCount := by
  have hk := live_of_ref_pos hr
  unfold Streams.recvHeadersBody Streams.recvHeadersDispatch
  dsimp only
  split
  · exact ⟨g, hr⟩
  · split
    · -- the response head (or an interim one)
      have hdec := recvRecvHeaders_dec (X := []) s k h hsv
      have herr : ErrSame s (s.recvRecvHeaders k h).1 := (recvRecvHeaders_lt s k h).err
      generalize s.recvRecvHeaders k h = p at hdec herr
      obtain ⟨s1, res⟩ := p
      dsimp only at hdec herr
      rcases hdec with h0 | ⟨st', ini, hro, t, ht, ⟨h1, hcls⟩ | ⟨e, hap, hok, hev⟩⟩
      · cases h0
        exact ⟨g, hr⟩
      · -- a stream error after the state transition
        subst h1
        have hst := qhSt_stream hk st'
        have hr0 : 0 < ((qhSt s k st').stream k).refCount := by rw [hst]; exact hr
        have rt := ht.fr k List.not_mem_nil hr0
        have hq : (s1.stream k).pendingRecv = (s.stream k).pendingRecv := by rw [rt.q, hst]
        have hrt : 0 < (s1.stream k).refCount := Nat.lt_of_lt_of_le hr0 rt.ref
        cases hcls with
        | oversize => exact good_after_reset g hq hrt (herr.errOK he) _ _ _
        | state i r init => exact good_after_reset g hq hrt (herr.errOK he) _ _ _
      · -- the hand-over
        subst hok
        have hst := qhSt_stream hk st'
        have hr0 : 0 < ((qhSt s k st').stream k).refCount := by rw [hst]; exact hr
        have rt := ht.fr k List.not_mem_nil hr0
        have hrt : 0 < (t.stream k).refCount := Nat.lt_of_lt_of_le hr0 rt.ref
        obtain ⟨hq, hstate, hrc⟩ := appendTo_stream (live_of_ref_pos hrt) e
        have hq' : ((t.appendTo k e).stream k).pendingRecv = (s.stream k).pendingRecv ++ [e] := by rw [hq, rt.q, hst]
        have ga : RGood ((t.appendTo k e).stream k) := by
          rcases hev with ⟨a, f, rfl⟩ | ⟨hinf, a, f, rfl⟩
          · exact g.append_headers hq'
          · refine g.append_info hq' ?_
            rw [hstate]
            cases hh : (t.stream k).state.isRecvStreaming with
            | false => rfl
            | true =>
              have := rt.str hh
              rw [hst] at this
              rw [hinf] at hro
              rw [recvOpen_info_str hro] at this
              cases this
        exact hap.good (by rw [hrc]; exact hrt) ga
    · -- trailers
      next hnh =>
      have hnh' : (s.stream k).state.isRecvHeaders = false := by
        cases hh : (s.stream k).state.isRecvHeaders with
        | false => rfl
        | true => exact absurd hh hnh
      have hdec := recvRecvTrailers_dec (X := []) s k h
      generalize s.recvRecvTrailers k h = p at hdec
      obtain ⟨s1, res⟩ := p
      dsimp only at hdec
      have h1 : RGood (s1.stream k) ∧ 0 < (s1.stream k).refCount := by
        refine good_of_dec hr g ?_
        rcases hdec with h | ⟨t, e, ht, hap, st', u, hrc⟩
        · exact .inl h
        · exact .inr ⟨t, e, ht, hap, recvClose_ok_streaming hrc hnh'⟩
      exact (RP.of_step (X := []) (Streams.resetOnRecvStreamErr_step (by decide) s1 k res fun _ _ _ => rfl)).good h1.2 h1.1

/-- **a HEADERS frame routed to a request stream keeps its queue in shape** (client, quota not exhausted) -/
theorem recvHeaders_good {s : Streams} {k : Nat} (h : HeadersIn) (hfk : s.store.findKey? h.sid = some k)
    (hr : 0 < (s.stream k).refCount) (hsv : s.counts.isServer = false) (he : ErrOK s) (g : RGood (s.stream k)) :
    RGood ((s.recvHeaders h).1.stream k) := by
  rw [Streams.recvHeaders_eq]
  split
  · exact g
  · unfold Streams.recvHeadersEntry
    simp only [hfk]
    split
    · exact g
    · split
      · exact g
      · have h1 := recvHeadersBody_good h hr hsv he g
        rw [Streams.transition_fst]
        exact ((transitionAfter_rp (X := []) _ _ _).good h1.2 h1.1).1

theorem recvData_good {s : Streams} {k : Nat} (id : Nat) (payload : Bytes) (eos : Bool) (pad : Option Nat)
    (hfk : s.store.findKey? id = some k) (hr : 0 < (s.stream k).refCount) (g : RGood (s.stream k)) :
    RGood ((s.recvData id payload eos pad).1.stream k) := by
  have step : ∀ {t t' : Streams}, RGood (t.stream k) ∧ 0 < (t.stream k).refCount → RP [] t t' →
      RGood (t'.stream k) ∧ 0 < (t'.stream k).refCount := fun h hrp => hrp.good h.2 h.1
  have hb : RGood ((s.recvDataBody k payload eos pad).1.stream k) ∧ 0 < ((s.recvDataBody k payload eos pad).1.stream k).refCount :=
    Streams.DataBodyRule.run (I := fun t => RGood (t.stream k) ∧ 0 < (t.stream k).refCount)
      (I' := fun t => RGood (t.stream k) ∧ 0 < (t.stream k).refCount)
      { data := fun t ht => good_of_dec ht.2 ht.1 (recvRecvData_dec (X := []) t k payload eos pad)
        count := fun _ ht => step ht (.of_store rfl)
        release := fun t sz ht => step ht (RP.of_step (Streams.releaseConnectionCapacity_step (by decide) t sz false))
        done := fun _ ht => ht
        rst := fun t _ ht _ => step ht (RP.of_step (Streams.resetOnRecvStreamErr_step (by decide) _ _ _ fun _ _ _ => rfl)) } s ⟨g, hr⟩
  rw [Streams.recvData_eq]
  simp only [hfk]
  rw [Streams.transition_fst]
  exact (step hb (transitionAfter_rp _ _ _)).1

/-- `poll_data` on a queue in shape pops nothing (no DATA in front) -/
theorem recvPollData_rp' {X : List Nat} (s : Streams) (k : Nat) (t : String) (hs : respShape (s.stream k).pendingRecv = true) :
    RP X s (s.recvPollData k t).1 := by
  unfold Streams.recvPollData
  split
  · next heq => rw [heq] at hs; cases hs
  · rp_auto
  · rp_auto

theorem refPollData_rp' {X : List Nat} (s : Streams) (k : Nat) (t : String) (hs : respShape (s.stream k).pendingRecv = true) :
    RP X s (s.refPollData k t).1 := by
  unfold Streams.refPollData
  have := recvPollData_rp' (X := X) s k t hs
  split
  · next s1 _ _ heq => rw [heq] at this; dsimp only; rp_auto
  · exact this

theorem recvPollTrailers_rp' {X : List Nat} (s : Streams) (k : Nat) (t : String) (hs : respShape (s.stream k).pendingRecv = true) :
    RP X s (s.recvPollTrailers k t).1 := by
  unfold Streams.recvPollTrailers
  split
  · next heq => rw [heq] at hs; cases hs
  · rp_auto
  · rp_auto

/-- `poll_informational` pops a leading interim head only -/
theorem recvPollInformational_good {s : Streams} {k : Nat} (hr : 0 < (s.stream k).refCount) (g : RGood (s.stream k)) (t : String) :
    RGood ((s.recvPollInformational k t).1.stream k) := by
  have hk := live_of_ref_pos hr
  unfold Streams.recvPollInformational
  rcases hq : (s.stream k).pendingRecv with _ | ⟨_ | _ | _ | _ | _, rest⟩ <;> dsimp only
  case cons.informational a f =>
    rw [stream_modStream_live hk (fun st => { st with pendingRecv := rest }) (fun _ => rfl)]
    exact ⟨by have := g.shape; rw [hq] at this; exact this, fun h => by have := g.head h; rw [hq] at this; exact this⟩
  all_goals (
    refine (RP.good (s := s) ?_ hr g).1
    rp_auto)

theorem modStream_queue_npi {s : Streams} (hn : NPI (fun _ => False) s) {k : Nat} (hk : Live s k) (rest : List REvent) :
    NPI (fun _ => False) (s.modStream k fun st => { st with pendingRecv := rest }) :=
  hn.lt (modStream_lt s k (fun st => { st with pendingRecv := rest }) (fun _ => ⟨rfl, rfl, rfl, rfl, fun h => h⟩)).w (liveAll1 hk)
    (modStream_ev (ρ := false) s k _ (fun st _ => by same_fields)) noE

theorem modStream_recvTask_npi {s : Streams} (hn : NPI (fun _ => False) s) {k : Nat} (hk : Live s k) (o : Option String) :
    NPI (fun _ => False) (s.modStream k fun st => { st with recvTask := o }) :=
  hn.lt (modStream_lt s k (fun st => { st with recvTask := o }) (fun _ => ⟨rfl, rfl, rfl, rfl, fun h => h⟩)).w (liveAll1 hk)
    (modStream_ev (ρ := false) s k _ (fun st _ => by same_fields)) noE

/-- **`poll_response` on a stream whose future has not completed**: it does not panic, and unless it completes the
    future (any answer but `Pending`) the queue stays in shape -/
theorem recvPollResponse_spec (fuel : Nat) {s : Streams} (hn : NPI (fun _ => False) s) {k : Nat} (hr : 0 < (s.stream k).refCount)
    (g : RGood (s.stream k)) (tag : String) :
    NPI (fun _ => False) (Streams.recvPollResponse fuel s k tag).1 ∧
    ((Streams.recvPollResponse fuel s k tag).2 = .pending → RGood ((Streams.recvPollResponse fuel s k tag).1.stream k)) := by
  induction fuel generalizing s with
  | zero => exact ⟨hn, fun _ => g⟩
  | succ n ih =>
    have hk := live_of_ref_pos hr
    unfold Streams.recvPollResponse
    rcases hq : (s.stream k).pendingRecv with _ | ⟨_ | _ | _ | _ | _, rest⟩ <;> dsimp only
    case nil =>
      split
      · exact ⟨hn, fun h => by cases h⟩
      · exact ⟨hn, fun h => by cases h⟩
      · refine ⟨modStream_recvTask_npi hn hk _, fun _ => ?_⟩
        refine (RP.good (s := s) ?_ hr g).1
        rp_auto
    case cons.headers a f => exact ⟨modStream_queue_npi hn hk rest, fun h => by cases h⟩
    case cons.informational a f =>
      have hst := stream_modStream_live hk (fun st => { st with pendingRecv := rest }) (fun _ => rfl)
      refine ih (modStream_queue_npi hn hk rest) (by rw [hst]; exact hr) ?_
      rw [hst]
      exact ⟨by have := g.shape; rw [hq] at this; exact this, fun h => by have := g.head h; rw [hq] at this; exact this⟩
    all_goals (have := g.shape; rw [hq] at this; cases this)

/-- **`Recv::poll_response` cannot panic on a stream whose `ResponseFuture` has not completed** -/
theorem recvPollResponse_good_npi {s : Streams} (hn : NPI (fun _ => False) s) {k : Nat} (hr : 0 < (s.stream k).refCount)
    (g : RGood (s.stream k)) (fuel : Nat) (tag : String) : NPI (fun _ => False) (Streams.recvPollResponse fuel s k tag).1 :=
  (recvPollResponse_spec fuel hn hr g tag).1

end H2V.Lemmas.ConnNoPanicP
