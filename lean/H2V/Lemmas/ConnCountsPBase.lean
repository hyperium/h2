import H2V.Model.ConnProto
/-
  C05 / C18 / C19: the evolution relation `Ev`.

  Every function of the stream layer is a composition of a few kinds of elementary steps on a `Streams` value; `Ev s s'`
  is the reflexive and transitive closure of those steps.  It over-approximates what the model can do (any order, any
  arguments), so an invariant of `Ev` is an invariant of every reachable state.  The steps leave out ONE thing: popping
  `pending_reset_expired` (`clear_expired_reset_streams`, `clear_all_reset_streams`), which only happens at the top of
  `Connection::poll2` / `recv_eof` and never inside a `counts.transition` closure; `EvT` adds it.
-/
namespace H2V.Lemmas.ConnCountsP
open H2V H2V.Model H2V.Model.Conn

/-- a stream that has not been opened in either direction (`Idle`, `ReservedRemote`): the states in
    which the first HEADERS frame of the peer counts the stream (`recv_open` answers `initial`) -/
def Early (st : Stream) : Prop := st.state.inner = .idle ∨ st.state.inner = .reservedRemote

instance (st : Stream) : Decidable (Early st) := by unfold Early; infer_instance

def SFrame.isPP : SFrame → Bool
  | .pushPromise .. => true
  | _ => false

/-- `b` is an update of the slab entry `a` that keeps everything the counting invariants look at:
    key, stream id, `is_counted`, the six queue links; it does not go back to an unopened state and
    does not invent PUSH_PROMISE frames -/
structure Same (a b : Stream) : Prop where
  key : b.key = a.key
  id : b.id = a.id
  counted : b.isCounted = a.isCounted
  fl : ∀ q, b.isQueued q = a.isQueued q
  early : Early b → Early a
  pp : ∀ f ∈ b.pendingSend, SFrame.isPP f = true → f ∈ a.pendingSend

/-- an update of `Counts` that leaves the stream counters alone and moves the two error-reset
    counters only the way `inc_num_local_error_resets` / `inc/dec_num_remote_reset_streams` do -/
structure CStep (c c' : Counts) : Prop where
  isServer : c'.isServer = c.isServer
  numSend : c'.numSendStreams = c.numSendStreams
  numRecv : c'.numRecvStreams = c.numRecvStreams
  numReset : c'.numLocalResetStreams = c.numLocalResetStreams
  maxRecv : c'.maxRecvStreams = c.maxRecvStreams
  maxReset : c'.maxLocalResetStreams = c.maxLocalResetStreams
  maxRemote : c'.maxRemoteResetStreams = c.maxRemoteResetStreams
  maxErr : c'.maxLocalErrorResetStreams = c.maxLocalErrorResetStreams
  err : c'.numLocalErrorResetStreams = c.numLocalErrorResetStreams ∨
        (c'.numLocalErrorResetStreams = c.numLocalErrorResetStreams + 1 ∧ c.canIncNumLocalErrorResets = true)
  remote : c'.numRemoteResetStreams ≤ c.numRemoteResetStreams ∨
        (c'.numRemoteResetStreams = c.numRemoteResetStreams + 1 ∧ c.canIncNumRemoteResetStreams = true)

theorem CStep.refl (c : Counts) : CStep c c :=
  ⟨rfl, rfl, rfl, rfl, rfl, rfl, rfl, rfl, .inl rfl, .inl (Nat.le_refl _)⟩

/-- `next_stream_id` of the send half only moves forward, keeping its parity or jumping behind a
    locally initiated id -/
def NextOK (isServer : Bool) (a b : Option Nat) : Prop :=
  ∀ y, b = some y → ∃ x, a = some x ∧ x ≤ y ∧ (y % 2 = x % 2 ∨ (isServer == (y % 2 == 0)) = true)

theorem NextOK.refl (sv : Bool) (a : Option Nat) : NextOK sv a a :=
  fun y h => ⟨y, h, Nat.le_refl _, .inl rfl⟩

/-- a step that touches neither the store nor a queue -/
structure Frame (s s' : Streams) : Prop where
  store : s'.store = s.store
  counts : CStep s.counts s'.counts
  q : ∀ q, s'.getQ q = s.getQ q
  panic : s.panicked.isSome = true → s'.panicked.isSome = true
  next : NextOK s.counts.isServer s.actions.send.nextStreamId s'.actions.send.nextStreamId

/-- `inc_num_local_error_resets` is still possible -/
def ErrOK (s : Streams) : Prop := s.counts.canIncNumLocalErrorResets = true

structure Fresh (st : Stream) : Prop where
  counted : st.isCounted = false
  fl : ∀ q, st.isQueued q = false
  send : st.pendingSend = []
  idle : st.state.inner = .idle

/-- the `pending_send` / `pending_open` activation of a promised stream in `pop_frame`'s
    PUSH_PROMISE arm -/
def ppActivate (s : Streams) (pushed : Nat) : Streams :=
  let s := s.modStream pushed fun st => { st with isPendingPush := false }
  if !(s.stream pushed).pendingSend.isEmpty then
    if s.counts.canIncNumSendStreams then (((s.incNumSendStreams pushed).qPush .pendingSend pushed).1)
    else s.queueOpen pushed
  else s

/-- the part of `transition_after` that follows the reset-counter decrement -/
def transitionTail (s : Streams) (id : Nat) : Streams := s.transitionAfter id false

/-- `EvB ρ s s'`: `s` evolves into `s'` by elementary steps.  With `ρ = false` the three steps that
    create or count a peer-visible entry (`insert`, `bracket`, `incRecv`) are not available: that is
    the relation for what a function does to an entry *it has just created itself* (the body of
    `bracket`).  `Ev = EvB true` is the full relation. -/
inductive EvB : Bool → Streams → Streams → Prop
  | refl {ρ : Bool} (s : Streams) : EvB ρ s s
  | trans {ρ : Bool} {a b c : Streams} : EvB ρ a b → EvB ρ b c → EvB ρ a c
  | free {ρ : Bool} {s s' : Streams} : Frame s s' → EvB ρ s s'
  | setStream {ρ : Bool} {s : Streams} (st' : Stream) :
      (∀ st, s.store.get? st'.key = some st → Same st st') → EvB ρ s (s.setStream st')
  | qPush {ρ : Bool} {s : Streams} (q : QName) (k : Nat) : q ≠ .pendingResetExpired → q ≠ .pendingOpen → EvB ρ s (s.qPush q k).1
  | qPushFront {ρ : Bool} {s : Streams} (q : QName) (k : Nat) : q ≠ .pendingResetExpired → q ≠ .pendingOpen → EvB ρ s (s.qPushFront q k).1
  | qPushOpen {ρ : Bool} {s : Streams} (k : Nat) : s.counts.isLocalInit (s.stream k).id = true → EvB ρ s (s.qPush .pendingOpen k).1
  | qPop {ρ : Bool} {s : Streams} (q : QName) : q ≠ .pendingResetExpired → q ≠ .pendingOpen → EvB ρ s (s.qPop q).1
  /-- `clear_pending_open`'s pop -/
  | qPopOpen {ρ : Bool} {s : Streams} : EvB ρ s (s.qPop .pendingOpen).1
  /-- `enqueue_reset_expiration` -/
  | resetEnq {ρ : Bool} {s : Streams} (k : Nat) :
      s.counts.canIncNumResetStreams = true → (s.stream k).resetAt = false → (s.store.get? k).isSome = true →
      EvB ρ s ((s.modCountsA "can_inc_num_reset_streams" Counts.incNumResetStreams).qPush .pendingResetExpired k).1
  /-- a new slab entry whose first HEADERS the peer may still send (remote initiated) -/
  | insert {s : Streams} (st : Stream) : Fresh st → s.counts.isLocalInit st.id = false →
      EvB true s { s with store := (s.store.insert st).1 }
  /-- a new slab entry of any direction, together with what the caller does to it at once -/
  | bracket {s s' : Streams} (st : Stream) : Fresh st →
      EvB false { s with store := (s.store.insert st).1 } s' →
      (ErrOK s' → ∀ x, s'.store.get? s.store.nextKey = some x → ¬ Early x) → EvB true s s'
  | unlink {ρ : Bool} {s : Streams} (id : Nat) : EvB ρ s { s with store := s.store.unlink id }
  | remove {ρ : Bool} {s : Streams} (k n : Nat) :
      (∀ st, s.store.get? k = some st → st.isCounted = false ∧ (∀ q, st.isQueued q = false)) →
      EvB ρ s { s with store := s.store.remove k, recvBufferLeaked := n }
  /-- `pop_pending_open`'s pop + `inc_num_send_streams` -/
  | popOpen {ρ : Bool} {s : Streams} : s.counts.canIncNumSendStreams = true →
      EvB ρ s (match s.qPop .pendingOpen with
            | (s', some id) => s'.incNumSendStreams id
            | (s', none) => s')
  /-- the `NextAccept` link of a promised stream is also used by its parent's `pending_push_promises` -/
  | acceptFlag {ρ : Bool} {s : Streams} (k : Nat) (v : Bool) : EvB ρ s (s.modStream k fun st => { st with isPendingAccept := v })
  /-- `send_push_promise`: a PUSH_PROMISE frame for a locally initiated (promised) id is queued -/
  | queuePP {ρ : Bool} {s : Streams} (k pk pid : Nat) (fields : List Hpack.Field) : s.counts.isLocalInit pid = true →
      EvB ρ s (s.modStream k fun st => { st with pendingSend := st.pendingSend ++ [.pushPromise pk pid fields] })
  /-- `pop_frame`'s PUSH_PROMISE arm: the frame leaves the parent's queue, the promised stream is activated -/
  | ppAct {ρ : Bool} {s : Streams} (id pk pid : Nat) (fields : List Hpack.Field) (rest : List SFrame) (pushed : Nat) :
      (s.stream id).pendingSend = .pushPromise pk pid fields :: rest → s.store.findKey? pid = some pushed →
      EvB ρ s (ppActivate (s.modStream id fun st => { st with pendingSend := rest }) pushed)
  /-- `recv_headers`: the state moves out of `Idle`/`ReservedRemote` and the stream is counted -/
  | incRecv {s : Streams} (k : Nat) (st' : State) (s1 : Streams) : Early (s.stream k) →
      Frame (s.modStream k fun st => { st with state := st' }) s1 → EvB true s (s1.incNumRecvStreams k)
  | decNum {ρ : Bool} {s : Streams} (k : Nat) : EvB ρ s (s.decNumStreams k)

abbrev Ev : Streams → Streams → Prop := EvB true

theorem EvB.lift {ρ : Bool} {s s' : Streams} (h : EvB ρ s s') : Ev s s' := by
  induction h with
  | refl s => exact .refl s
  | trans _ _ ih1 ih2 => exact .trans ih1 ih2
  | free h => exact .free h
  | setStream st' h => exact .setStream st' h
  | qPush q k h1 h2 => exact .qPush q k h1 h2
  | qPushFront q k h1 h2 => exact .qPushFront q k h1 h2
  | qPushOpen k h => exact .qPushOpen k h
  | qPop q h1 h2 => exact .qPop q h1 h2
  | qPopOpen => exact .qPopOpen
  | resetEnq k h1 h2 h3 => exact .resetEnq k h1 h2 h3
  | insert st h1 h2 => exact .insert st h1 h2
  | bracket st h1 h2 h3 _ => exact .bracket st h1 h2 h3
  | unlink id => exact .unlink id
  | remove k n h => exact .remove k n h
  | popOpen h => exact .popOpen h
  | acceptFlag k v => exact .acceptFlag k v
  | queuePP k pk pid f h => exact .queuePP k pk pid f h
  | ppAct id pk pid f rest pushed h1 h2 => exact .ppAct id pk pid f rest pushed h1 h2
  | incRecv k st' s1 h1 h2 => exact .incRecv k st' s1 h1 h2
  | decNum k => exact .decNum k

/-- `Ev` plus the pop of `pending_reset_expired` followed by its `transition_after(stream, true)` -/
inductive EvT : Streams → Streams → Prop
  | ev {s s' : Streams} : Ev s s' → EvT s s'
  | trans {a b c : Streams} : EvT a b → EvT b c → EvT a c
  | resetPop {s : Streams} :
      EvT s (match s.qPop .pendingResetExpired with
             | (s', some id) => s'.transitionAfter id true
             | (s', none) => s')

theorem EvT.refl (s : Streams) : EvT s s := .ev (.refl s)

theorem EvB.of_eq {ρ : Bool} {s a b : Streams} (h : a = b) (e : EvB ρ s a) : EvB ρ s b := h ▸ e
theorem EvT.of_fst_eq {s : Streams} {α : Type} {p : Streams × α} {a : Streams} {x : α}
    (h : p = (a, x)) (e : EvT s p.1) : EvT s a := by subst h; exact e

end H2V.Lemmas.ConnCountsP
