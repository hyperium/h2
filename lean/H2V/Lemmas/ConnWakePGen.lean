import H2V.Lemmas.ConnWakePTask
import H2V.Lemmas.CompBasic
/-
  ConnWakeP — a second, generic frame relation `GStep rm R` used for the teardown functions
  (`handle_error`, `recv_go_away`, `recv_eof` and everything they call):
    * every stream entry of `s` is still there in `s'` and related by `R` (a reflexive, transitive
      relation that fixes the key), or — only when `rm` — was removed from the slab;
    * the id map is unchanged unless `rm`.
  Instances of `R`: `Keep` (receive queue, reference count and "END_STREAM seen" are kept: a complete
  message survives the teardown), `Frame` (`state`, `pending_send`, `buffered_send_data` untouched),
  `Res` (`Resolved` — closed and nobody parked — is kept).
-/
namespace H2V.Lemmas.ConnWakeP
open H2V H2V.Model H2V.Model.Conn

class IsPre (R : Stream → Stream → Prop) : Prop where
  refl : ∀ a, R a a
  trans : ∀ {a b c}, R a b → R b c → R a c
  key : ∀ {a b}, R a b → b.key = a.key

/-- (only for functions that never insert a stream: an absent key stays absent) -/
structure GStep (rm : Prop) (R : Stream → Stream → Prop) (s s' : Streams) : Prop where
  fresh : ∀ k, s.store.get? k = none → s'.store.get? k = none
  keep : ∀ k a, s.store.get? k = some a →
    (rm ∧ s'.store.get? k = none) ∨ ∃ b, s'.store.get? k = some b ∧ R a b
  ids : rm ∨ s'.store.ids = s.store.ids

section
variable {rm : Prop} {R : Stream → Stream → Prop} [IsPre R]

theorem GStep.refl (s : Streams) : GStep rm R s s :=
  ⟨fun _ h => h, fun _ a h => Or.inr ⟨a, h, IsPre.refl a⟩, Or.inr rfl⟩

theorem GStep.trans {s s' s'' : Streams} (h1 : GStep rm R s s') (h2 : GStep rm R s' s'') : GStep rm R s s'' where
  fresh := fun k h => h2.fresh k (h1.fresh k h)
  keep := fun k a h => by
    rcases h1.keep k a h with ⟨r, h'⟩ | ⟨b, hb, hab⟩
    · exact Or.inl ⟨r, h2.fresh k h'⟩
    · rcases h2.keep k b hb with h'' | ⟨c, hc, hbc⟩
      · exact Or.inl h''
      · exact Or.inr ⟨c, hc, IsPre.trans hab hbc⟩
  ids := by
    rcases h1.ids with r | e1
    · exact Or.inl r
    · rcases h2.ids with r | e2
      · exact Or.inl r
      · exact Or.inr (e2.trans e1)

theorem GStep.of_store_eq {s s' : Streams} (h : s'.store = s.store) : GStep rm R s s' := by
  refine ⟨by rw [h]; exact fun _ h => h, ?_, Or.inr (by rw [h])⟩
  rw [h]; exact fun _ a h => Or.inr ⟨a, h, IsPre.refl a⟩

theorem GStep.of_fst {α : Type} {s s' : Streams} {p : Streams × α} {r : α}
    (e : p = (s', r)) (h : GStep rm R s p.1) : GStep rm R s s' := by
  rw [e] at h; exact h

/-- read through `Streams.stream` (an absent key reads as the blank stream before and after) -/
theorem GStep.stream {s s' : Streams} (h : GStep False R s s') (k : Nat) : R (s.stream k) (s'.stream k) := by
  cases h1 : s.store.get? k with
  | none => rw [Streams.stream_of_none h1, Streams.stream_of_none (h.fresh k h1)]; exact IsPre.refl _
  | some a =>
    rcases h.keep k a h1 with ⟨f, _⟩ | ⟨b, hb, hab⟩
    · exact f.elim
    · rw [stream_eq_of_get? h1, stream_eq_of_get? hb]; exact hab

omit [IsPre R] in
theorem GStep.mono {rm' : Prop} {R' : Stream → Stream → Prop} {s s' : Streams} (hrm : rm → rm')
    (hR : ∀ a b, R a b → R' a b) (h : GStep rm R s s') : GStep rm' R' s s' :=
  ⟨h.fresh, fun k a ha => (h.keep k a ha).imp (fun ⟨r, hn⟩ => ⟨hrm r, hn⟩) fun ⟨b, hb, hab⟩ => ⟨b, hb, hR a b hab⟩,
    h.ids.imp hrm id⟩

variable {s0 s : Streams}

theorem g_panic (m : String) (h : GStep rm R s0 s) : GStep rm R s0 (s.panic m) :=
  h.trans (.of_store_eq (Streams.panic_store s m))
theorem g_unsup (m : String) (h : GStep rm R s0 s) : GStep rm R s0 (s.unsup m) :=
  h.trans (.of_store_eq (by unfold Streams.unsup; split <;> rfl))
theorem g_modPrio (f : Prioritize → Prioritize) (h : GStep rm R s0 s) : GStep rm R s0 (s.modPrio f) :=
  h.trans (.of_store_eq rfl)
theorem g_setQ (q : QName) (l : List Nat) (h : GStep rm R s0 s) : GStep rm R s0 (s.setQ q l) := by
  cases q <;> exact h.trans (.of_store_eq rfl)
theorem g_setCounts (c : Counts) (h : GStep rm R s0 s) : GStep rm R s0 { s with counts := c } :=
  h.trans (.of_store_eq rfl)
theorem g_setConnError (e : PErr) (h : GStep rm R s0 s) :
    GStep rm R s0 { s with actions := { s.actions with connError := some e } } := h.trans (.of_store_eq rfl)

theorem g_setStream (k : Nat) (b : Stream) (hb : R (s.stream k) b) (h : GStep rm R s0 s) :
    GStep rm R s0 (s.setStream b) := by
  have hk : b.key = k := by rw [IsPre.key hb, stream_key]
  subst hk
  cases hg : s.store.get? b.key with
  | none =>
    have : s.setStream b = s := by unfold Streams.setStream; rw [Store.set_of_none hg]
    rw [this]; exact h
  | some a =>
    rw [stream_eq_of_get? hg] at hb
    refine h.trans ⟨fun k hn => ?_, fun k x hx => Or.inr ?_, Or.inr rfl⟩
    · show (s.store.set b).get? k = none
      rw [Store.get?_set]; split <;> simp [hn]
    · show ∃ y, (s.store.set b).get? k = some y ∧ _
      rw [Store.get?_set]
      by_cases hk : k = b.key
      · subst hk
        rw [hg] at hx; cases hx
        exact ⟨b, by simp [hg], hb⟩
      · exact ⟨x, by simp [hk, hx], IsPre.refl _⟩

theorem g_modStream (k : Nat) (f : Stream → Stream) (hf : R (s.stream k) (f (s.stream k))) (h : GStep rm R s0 s) :
    GStep rm R s0 (s.modStream k f) := by
  unfold Streams.modStream
  split
  · next a ha => rw [stream_eq_of_get? ha] at hf; exact g_setStream k _ (by rw [stream_eq_of_get? ha]; exact hf) h
  · exact g_panic _ h

theorem g_modStreamW (k : Nat) (f : Stream → Stream × List String) (hf : R (s.stream k) (f (s.stream k)).1)
    (h : GStep rm R s0 s) : GStep rm R s0 (s.modStreamW k f) :=
  (g_modStream k (fun x => (f x).1) hf h).trans (.of_store_eq (by rw [Streams.modStreamW_store, Streams.modStream_store]))

theorem g_unlink (hr : rm) (id : Nat) (h : GStep rm R s0 s) : GStep rm R s0 { s with store := s.store.unlink id } :=
  h.trans ⟨fun _ h => h, fun _ a h => Or.inr ⟨a, h, IsPre.refl a⟩, Or.inl hr⟩

end

/-- entry by entry this is the lift of the step to the slab (`Step.lift`) -/
theorem GStep.of_step {rm : Prop} {R : Stream → Stream → Prop} [IsPre R] {K : Kind → Bool} (hi : K .insert = false)
    (hr : K .release = true → rm) (hu : K .unlink = true → rm) (hR : ∀ x y, Stream.Upd K x y → R x y)
    (hW : ∀ x p, Stream.UpdW K x p → R x p.1)
    (hq : ∀ x q v, (v = true → K (.enqueue q)) → (v = false → K (.dequeue q)) → R x (x.setQueued q v))
    (hc : ∀ x v, (v = true → K .count) → R x { x with isCounted := v })
    {s s' : Streams} (h : Streams.Step K s s') : GStep rm R s s' where
  fresh := fun k hk => h.lift.new' hi hk
  keep := fun k a ha => by
    rcases h.lift.old' hi ha with ⟨y, hy, hu'⟩ | ⟨h', hn, _⟩
    · exact .inr ⟨y, hy, hu'.lift IsPre.refl IsPre.trans hR hW hq hc⟩
    · exact .inl ⟨hr h', hn⟩
  ids := by
    cases hk : K .unlink
    · exact .inr (h.ids_rel (r := fun l l' => l' = l) (fun _ => rfl) (fun a b => b.trans a)
        (fun u => by rw [hk] at u; cases u) hi)
    · exact .inl (hu hk)

/-- what the teardown keeps of a stream: its receive queue, its handles, "END_STREAM was received" -/
structure Keep (a b : Stream) : Prop where
  key : b.key = a.key
  id : b.id = a.id
  recv : b.pendingRecv = a.pendingRecv
  refCount : b.refCount = a.refCount
  eos : a.state.isRecvEndStream = true → b.state.isRecvEndStream = true

instance : IsPre Keep where
  refl _ := ⟨rfl, rfl, rfl, rfl, fun h => h⟩
  trans h1 h2 := ⟨h2.key.trans h1.key, h2.id.trans h1.id, h2.recv.trans h1.recv, h2.refCount.trans h1.refCount,
    fun h => h2.eos (h1.eos h)⟩
  key h := h.key

/-- the fields `Stream::is_closed` looks at -/
structure Frame (a b : Stream) : Prop where
  key : b.key = a.key
  id : b.id = a.id
  state : b.state = a.state
  buffered : b.bufferedSendData = a.bufferedSendData
  pendingSend : b.pendingSend = a.pendingSend

instance : IsPre Frame where
  refl _ := ⟨rfl, rfl, rfl, rfl, rfl⟩
  trans h1 h2 := ⟨h2.key.trans h1.key, h2.id.trans h1.id, h2.state.trans h1.state, h2.buffered.trans h1.buffered,
    h2.pendingSend.trans h1.pendingSend⟩
  key h := h.key

theorem setQueued_fields (a : Stream) (q : QName) (v : Bool) :
    (a.setQueued q v).key = a.key ∧ (a.setQueued q v).id = a.id ∧ (a.setQueued q v).state = a.state ∧
    (a.setQueued q v).pendingRecv = a.pendingRecv ∧ (a.setQueued q v).refCount = a.refCount ∧
    (a.setQueued q v).bufferedSendData = a.bufferedSendData ∧ (a.setQueued q v).pendingSend = a.pendingSend := by
  cases q <;> exact ⟨rfl, rfl, rfl, rfl, rfl, rfl, rfl⟩
theorem keep_setQueued (a : Stream) (q : QName) (v : Bool) : Keep a (a.setQueued q v) := by
  obtain ⟨h1, h2, h3, h4, h5, _⟩ := setQueued_fields a q v; exact ⟨h1, h2, h4, h5, by rw [h3]; exact fun h => h⟩

def Resolved (a : Stream) : Prop :=
  a.state.isClosed = true ∧ a.sendTask = none ∧ a.openTask = none ∧ a.recvTask = none ∧ a.pushTask = none

structure Res (a b : Stream) : Prop where
  key : b.key = a.key
  id : b.id = a.id
  res : Resolved a → Resolved b

instance : IsPre Res where
  refl _ := ⟨rfl, rfl, fun h => h⟩
  trans h1 h2 := ⟨h2.key.trans h1.key, h2.id.trans h1.id, fun h => h2.res (h1.res h)⟩
  key h := h.key

theorem res_setQueued (a : Stream) (q : QName) (v : Bool) : Res a (a.setQueued q v) := by
  cases q <;> exact ⟨rfl, rfl, fun h => h⟩
theorem recvEof_closed_of_closed (x : State) (h : x.isClosed = true) : x.recvEof.isClosed = true := x.recvEof_isClosed

def KR (a b : Stream) : Prop := Keep a b ∧ Res a b

instance : IsPre KR where
  refl a := ⟨IsPre.refl a, IsPre.refl a⟩
  trans h1 h2 := ⟨IsPre.trans h1.1 h2.1, IsPre.trans h1.2 h2.2⟩
  key h := h.1.key

end H2V.Lemmas.ConnWakeP
