import H2V.Lemmas.ConnDrainPInv
/-
  ConnDrainP — from any state satisfying `CInv`, `Connection::poll` answers `Pending` only with the
  connection task parked and everything writable written (`protoPoll_pending_parked`, `clientPoll_pending_parked`);
  fresh connections satisfy `CInv` (`cinv_init`, `cinv_initServer`).
-/
namespace H2V.Lemmas.ConnDrainP
open H2V H2V.Model H2V.Model.Conn
open H2V.Lemmas.ConnFlowP (FrameOk SettingsOk)


/-- **`proto::Connection::poll` answers `Pending` only with the connection task parked and nothing left to write** -/
theorem protoPoll_pending_parked (n : Nat) : ∀ (c c' : Conn), CInv c → Conn.protoPoll n c = (c', .pending) →
    c'.streams.panicked = none → PollParked c' := by
  induction n with
  | zero =>
    intro c c' _ h hp
    unfold Conn.protoPoll at h
    cases h
    exact absurd hp (conn_panic_panicked _ _)
  | succ n ih =>
    intro c c' hi h hp
    unfold Conn.protoPoll at h
    split at h
    · -- Open
      have h1 := hi.poll2 (n + 1)
      rcases hp2 : Conn.poll2 (n + 1) c with ⟨c1, r1⟩
      rw [hp2] at h1 h
      dsimp only at h1 h
      cases r1 with
      | ready res =>
        dsimp only at h
        have h2 := h1.handlePoll2Result res
        rcases hh : c1.handlePoll2Result res with ⟨c2, r2⟩
        rw [hh] at h2 h
        cases r2 with
        | ok u => exact ih _ _ h2 h hp
        | error e => cases h
      | pending =>
        dsimp only at h
        have hs : SReach (Streams.pollComplete (n + 1) c1.streams c1.codec.w c1.codec.io c1.cx).1 :=
          h1.sr.op (.pollComplete ..) trivial trivial
        have hc := CapOK.pollComplete (n + 1) c1.streams c1.codec.w c1.codec.io c1.cx h1.cap
        rcases hpc : Streams.pollComplete (n + 1) c1.streams c1.codec.w c1.codec.io c1.cx with ⟨s2, w2, io2, r2⟩
        rw [hpc] at hs hc h
        dsimp only at hs hc h
        have h2 : CInv { c1 with streams := s2, codec := { c1.codec with w := w2, io := io2 } } :=
          ⟨hc, hs, h1.remote, h1.loc⟩
        have hp2' : ∃ c0 : Conn, CapOK c0.codec.w ∧ Conn.poll2Loop (n + 1) c0 = (c1, .pending) := by
          unfold Conn.poll2 at hp2
          dsimp only at hp2
          refine ⟨_, ?_, hp2⟩
          exact hi.cap
        obtain ⟨c0, hc0, hp2'⟩ := hp2'
        -- the turn ends here: `open_turn`
        have turn : s2.panicked = none → (∀ k, r2 ≠ .err k) →
            PollParked { c1 with streams := s2, codec := { c1.codec with w := w2, io := io2 } } := by
          intro hps hne
          have hp1 : c1.streams.panicked = none := by
            have e := ConnCountsP.pollComplete_ev (ρ := true) (n + 1) c1.streams c1.codec.w c1.codec.io c1.cx
            rw [hpc] at e
            exact Ev.panic_none e hps
          obtain ⟨pi, ri⟩ := h1.sr.pinv hp1
          exact (open_turn (n + 1) (n + 1) c0 c1 s2 w2 io2 r2 hc0 hp2' pi ri hpc hne hps).1
        cases r2 with
        | pending =>
          dsimp only at h; cases h
          exact turn hp (fun k => (fun e => nomatch e))
        | err k => dsimp only at h; cases h
        | ready =>
          dsimp only at h
          split at h
          · exact ih _ _ (h2.goAwayNowData _ _) h hp
          · cases h
            exact turn hp (fun k => (fun e => nomatch e))
    · -- Closing
      next r i hst =>
      rcases hs : shutdownW c.codec.w c.codec.io c.cx with ⟨w, io, r'⟩
      rw [hs] at h
      dsimp only at h
      have h2 : CInv { c with codec := { c.codec with w := w, io := io } } :=
        ⟨shutdownW_cap hi.cap hs, hi.sr, hi.remote, hi.loc⟩
      cases r' with
      | pending =>
        dsimp only at h; cases h
        exact Or.inl (ConnWakeP.shutdownW_pending_parks hs)
      | err k => dsimp only at h; cases h
      | ready =>
        dsimp only at h
        have h3 : CInv { c with codec := { c.codec with w := w, io := io }, state := .closed r i } := h2.of_streams h2.sr rfl rfl
        exact ih _ _ h3 h hp
    · cases h

theorem Settled.wake {c : Conn} (h : Settled c) (t : List String) : Settled { c with streams := c.streams.wake t } :=
  ⟨h.read, h.goAway, ⟨h.ready.pong, h.ready.ping, h.ready.remote, h.ready.loc, h.ready.refused⟩,
   ⟨h.drained.pendingSend, h.drained.windowUpdates, h.drained.connWindow, h.drained.parked, h.drained.flushed⟩⟩

/-- the client's `Connection::poll` likewise (its self-wake only writes to the wake log) -/
theorem clientPoll_pending_parked (n : Nat) (c c' : Conn) (hi : CInv c) (h : Conn.clientPoll n c = (c', .pending))
    (hp : c'.streams.panicked = none) : PollParked c' := by
  unfold Conn.clientPoll at h
  dsimp only at h
  have h0 : CInv (if (!c.hasStreamsOrOtherReferences) = true then c.goAwayNow NO_ERROR else c) :=
    CInv.ite _ (hi.goAwayNowData _ _) hi
  rcases hpp : Conn.protoPoll n (if (!c.hasStreamsOrOtherReferences) = true then c.goAwayNow NO_ERROR else c) with ⟨c1, r1⟩
  rw [hpp] at h
  dsimp only at h
  injection h with hc hr
  subst hr
  have hcase : c' = c1 ∨ c' = { c1 with streams := c1.streams.wake [c1.cx] } := by
    rw [← hc]
    by_cases hh : ((match (PollRes.pending : PollRes) with | .pending => true | _ => false) &&
        (if (!c.hasStreamsOrOtherReferences) = true then c.goAwayNow NO_ERROR else c).hasStreamsOrOtherReferences &&
        !c1.hasStreamsOrOtherReferences) = true
    · rw [if_pos hh]; exact Or.inr rfl
    · rw [if_neg hh]; exact Or.inl rfl
  rcases hcase with e | e
  · subst e
    exact protoPoll_pending_parked n _ _ h0 hpp hp
  · subst e
    have hp1 : c1.streams.panicked = none := hp
    rcases protoPoll_pending_parked n _ c1 h0 hpp hp1 with hw | hs
    · exact Or.inl hw
    · exact Or.inr (hs.wake _)


theorem capOK_default : CapOK ({} : Writer) := by unfold CapOK; decide

theorem kinv_init (g : Conn.Cfg) : KInv (Conn.init g).streams := by
  have h0 : ∀ s : Streams, ConnFlowP.Init s → s.prio.pendingCapacity = [] → KInv s :=
    fun s hi hp => ⟨hi.safe, hi.reqOk, Or.inl hp⟩
  unfold Conn.init
  dsimp only
  split
  · unfold Conn.setTargetWindowSize
    dsimp only
    refine (ConnFlowP.Mv.op (.setTargetConnectionWindow _) trivial _).kinv ((ConnFlowP.Mv.op .cloneHandle trivial _).kinv ?_)
    rw [ConnFlowP.bufferSettings_streams]
    exact h0 _ ⟨rfl, rfl⟩ rfl
  · dsimp only
    refine (ConnFlowP.Mv.op .cloneHandle trivial _).kinv ?_
    rw [ConnFlowP.bufferSettings_streams]
    exact h0 _ ⟨rfl, rfl⟩ rfl

theorem kinv_initServer (g : Conn.Cfg) (ecp : Bool) (pf : Bytes) : KInv (Conn.initServer g ecp pf).streams := by
  have h0 : ∀ s : Streams, ConnFlowP.Init s → s.prio.pendingCapacity = [] → KInv s :=
    fun s hi hp => ⟨hi.safe, hi.reqOk, Or.inl hp⟩
  unfold Conn.initServer
  dsimp only
  split
  · unfold Conn.setTargetWindowSize
    dsimp only
    refine (ConnFlowP.Mv.op (.setTargetConnectionWindow _) trivial _).kinv ?_
    rw [ConnFlowP.bufferSettings_streams]
    exact h0 _ ⟨rfl, rfl⟩ rfl
  · dsimp only
    rw [ConnFlowP.bufferSettings_streams]
    exact h0 _ ⟨rfl, rfl⟩ rfl

theorem sreach_init (g : Conn.Cfg) (hodd : g.firstId % 2 = 1) (hcws : ∀ sz, g.cws = some sz → sz ≤ 2147483647) :
    SReach (Conn.init g).streams := by
  cases hc : g.cws with
  | none => exact .of_reach (kinv_init g) (.init (.client g hodd)) (.init (ConnRecvP.init_client g hc))
  | some sz => exact .of_reach (kinv_init g) (.init (.client g hodd)) (ConnRecvP.init_client_cws g sz hc (hcws sz hc))

theorem sreach_initServer (g : Conn.Cfg) (ecp : Bool) (pf : Bytes) (hcws : ∀ sz, g.cws = some sz → sz ≤ 2147483647) :
    SReach (Conn.initServer g ecp pf).streams := by
  cases hc : g.cws with
  | none => exact .of_reach (kinv_initServer g ecp pf) (.init (.server g ecp pf)) (.init (ConnRecvP.init_server g ecp pf hc))
  | some sz =>
    exact .of_reach (kinv_initServer g ecp pf) (.init (.server g ecp pf)) (ConnRecvP.init_server_cws g ecp pf sz hc (hcws sz hc))

/-- **a fresh client connection satisfies the invariant** (for the builder options h2 accepts: odd first stream id,
    window sizes at most 2^31-1) -/
theorem cinv_init (g : Conn.Cfg) (hodd : g.firstId % 2 = 1) (hcws : ∀ sz, g.cws = some sz → sz ≤ 2147483647)
    (hiws : ∀ t, g.iws = some t → t ≤ 2147483647) : CInv (Conn.init g) := by
  have hs := sreach_init g hodd hcws
  have key : CapOK (Conn.init g).codec.w := by
    unfold Conn.init
    dsimp only
    split
    · unfold Conn.setTargetWindowSize
      exact (bufferSettings_step _ false g.settings).cap capOK_default
    · exact (bufferSettings_step _ false g.settings).cap capOK_default
  obtain ⟨-, -, hloc, hrem⟩ := Conn.init_parts g
  refine ⟨key, hs, ?_, ?_⟩
  · intro v hv; rw [hrem] at hv; cases hv
  · intro v hv
    rw [hloc] at hv
    rcases hv with hv | hv
    · injection hv with e; subst e
      intro t ht; exact hiws t ((Conn.Cfg.settings_iws g).symm.trans ht)
    · cases hv

/-- … and so does a fresh server connection -/
theorem cinv_initServer (g : Conn.Cfg) (ecp : Bool) (pf : Bytes) (hcws : ∀ sz, g.cws = some sz → sz ≤ 2147483647)
    (hiws : ∀ t, g.iws = some t → t ≤ 2147483647) : CInv (Conn.initServer g ecp pf) := by
  have hs := sreach_initServer g ecp pf hcws
  have key : CapOK (Conn.initServer g ecp pf).codec.w := by
    unfold Conn.initServer
    dsimp only
    -- the outcome of the flush as a variable: left in place, every step that looks at the record evaluates it
    generalize hfl : flush _ _ _ = x
    obtain ⟨w, io, r⟩ := x
    have hw : CapOK w := ((bufferSettings_step _ false _).cap capOK_default).ofFlush hfl
    split
    · exact hw
    · exact hw
  obtain ⟨-, -, hloc, hrem⟩ := Conn.initServer_parts g ecp pf
  refine ⟨key, hs, ?_, ?_⟩
  · intro v hv; rw [hrem] at hv; cases hv
  · intro v hv
    rw [hloc] at hv
    rcases hv with hv | hv
    · injection hv with e; subst e
      intro t ht
      rw [show ConnRecvP.settingsIws _ = _ from (Conn.find_append_ecp _ ecp (by decide)).trans (Conn.Cfg.settings_iws _)] at ht
      exact hiws t ht
    · cases hv

end H2V.Lemmas.ConnDrainP
