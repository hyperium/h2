import H2V.Lemmas.ConnCtlPViolCodec
import H2V.Lemmas.ConnCtlPGoAwayRecv
import H2V.Lemmas.CodecReader
import H2V.Lemmas.ConnCtlPViewRecv
import H2V.Lemmas.ConnCtlPViolStreams
/-
  ConnCtlP — C09 at the connection level: a complete frame at the head of the input whose `decode_frame` fails makes
  `poll_next` yield that error, which ends the turn of `poll2`; `handle_poll2_result` turns a connection error into "GOAWAY
  with that code queued (or already announced), connection dead" (`connection_error_fatal`); the connection-window overrun of
  `Recv::recv_data`.
-/
set_option autoImplicit false
set_option linter.unusedSimpArgs false
namespace H2V.Lemmas.ConnCtlP
open H2V H2V.Model H2V.Model.Conn H2V.Model.Frame H2V.Model.CodecRead

theorem consumeConnectionWindow_overrun (s : Streams) (sz : Nat) (h : s.recv.flow.windowSz < sz) :
    s.consumeConnectionWindow sz = (s, .error (PErr.libraryGoAway FLOW_CONTROL_ERROR)) := by
  unfold Streams.consumeConnectionWindow
  rw [if_pos h]

/-- DATA beyond the connection window on a stream that is receiving: `Recv::recv_data` answers the
    connection error FLOW_CONTROL_ERROR and changes nothing -/
theorem recvDataCore_conn_overrun (s : Streams) (k : Nat) (payload : Bytes) (eos : Bool) (flowLen : Nat)
    (h1 : (s.stream k).state.isLocalError = false) (h2 : (s.stream k).state.isRecvStreaming = true)
    (h : s.recv.flow.windowSz < usizeAsU32 flowLen) :
    recvDataCore s k payload eos flowLen = (s, .error (PErr.libraryGoAway FLOW_CONTROL_ERROR)) := by
  unfold recvDataCore
  simp only [h1, h2, Bool.not_false, Bool.not_true, Bool.and_false, Bool.false_eq_true, if_false]
  rw [consumeConnectionWindow_overrun s _ h]

/-- **from `decode_frame` to `poll_next`**: the read buffer followed by what the transport holds
    starts with one complete frame `frameBytes` (length field consistent, within the advertised
    max frame size) on which `decode_frame` answers the error `e` ⇒ `poll_next` yields `e` -/
theorem pollNext_frame_error (c : Codec) (tag : String) (fuel : Nat) (frameBytes rest : Bytes) (e : RErr) (r2 : Reader)
    (hne : c.hasErrored = false) (hneed : c.r.need = none)
    (hbuf : c.r.buf ++ c.io.rd = frameBytes ++ rest)
    (hlen : frameBytes.length = rd24 frameBytes + 9) (hmax : rd24 frameBytes ≤ c.r.maxFrameLen)
    (hdec : decodeFrame { c.r with buf := rest, need := none } frameBytes = (r2, .err e)) :
    (pollNext (fuel + 1) c tag).2 = .err e := by
  unfold pollNext
  simp only [hne, Bool.false_eq_true, if_false]
  have h3 : 3 ≤ frameBytes.length := by omega
  have hrd : rd24 (frameBytes ++ rest) = rd24 frameBytes := H2V.Lemmas.Codec.rd24_append _ _ h3
  have hdrain : Reader.drain 1 { c.r with buf := c.r.buf ++ c.io.rd } [] = (r2, [.err e], true) := by
    unfold Reader.drain
    simp only [hneed, hbuf, hrd]
    have hl3 : ¬ (frameBytes ++ rest).length < 3 := by simp; omega
    have hmx : ¬ rd24 frameBytes > c.r.maxFrameLen := by omega
    simp only [hl3, if_false, hmx]
    have hge : ¬ (frameBytes ++ rest).length < rd24 frameBytes + 9 := by simp; omega
    simp only [hge, if_false]
    have htake : (frameBytes ++ rest).take (rd24 frameBytes + 9) = frameBytes := by
      rw [← hlen]; simp
    have hdrop : (frameBytes ++ rest).drop (rd24 frameBytes + 9) = rest := by
      rw [← hlen]; simp
    rw [htake, hdrop, hdec]
    rfl
  rw [hdrain]

theorem poll2Read_codec_error (k : Conn → Conn × PollRes) (c : Conn) (e : RErr)
    (h : (pollNext (c.codec.r.buf.length + c.codec.io.rd.length + 2) c.codec c.cx).2 = .err e) :
    (poll2Read k c).2 = .ready (.error (Conn.rerrToPErr e)) := by
  unfold poll2Read
  rcases hp : pollNext (c.codec.r.buf.length + c.codec.io.rd.length + 2) c.codec c.cx with ⟨codec, polled⟩
  rw [hp] at h
  dsimp only at h ⊢
  subst h
  rfl

/-- a GOAWAY-class codec error (`connErr` = PROTOCOL_ERROR, FRAME_SIZE_ERROR, COMPRESSION_ERROR, …)
    becomes the library connection error with the same code -/
theorem rerrToPErr_goAway (code : Nat) (dbg : String) :
    Conn.rerrToPErr (.goAway code dbg) = .goAway (Http.str dbg) code .library := rfl

/-- **a connection-level error is fatal and answered with GOAWAY**: when `poll2` ends with
    `Error::GoAway(debug, reason, initiator)`, `handle_poll2_result` leaves the connection dead (it
    reads nothing and acknowledges nothing any more, `protoPollT_dead`), with `reason` announced:
    either a GOAWAY with this reason had been announced before and the connection goes to `Closing`,
    or `go_away_now` runs: every stream is failed with the error (`handle_error`), and a GOAWAY
    frame with `last_processed_id`, the reason and the debug data is pending — unless exactly that
    GOAWAY (same id, same reason) was announced already. -/
theorem connection_error_fatal (c : Conn) (d : Bytes) (r : Reason) (i : Initiator)
    (hinv : GoAwayInv { c with streams := (c.streams.handleError (.goAway d r i)).1 }) :
    let c' := (c.handlePoll2Result (.error (.goAway d r i))).1
    let lpi := (c.streams.handleError (.goAway d r i)).1.recv.lastProcessedId
    (c.handlePoll2Result (.error (.goAway d r i))).2 = .ok () ∧ Dead c' ∧
    ((c'.state = .closing r i ∧ (∃ ga, c.goAway.goingAway = some ga ∧ ga.reason = r) ∧ c'.goAway = c.goAway ∧
        c'.streams = c.streams) ∨
     (Halting c' ∧ c'.streams = (c.streams.handleError (.goAway d r i)).1 ∧ c'.state = c.state ∧
      c'.goAway.goingAway = some { lastProcessedId := lpi, reason := r } ∧
      (c'.goAway.pending = some { lastStreamId := lpi, reason := r, debugData := d } ∨
       (c'.goAway.pending = c.goAway.pending ∧
        c.goAway.goingAway = some { lastProcessedId := lpi, reason := r })))) := by
  intro c' lpi
  have hc' : c' = c.handleGoAway r d i := rfl
  refine ⟨rfl, handlePoll2Result_kills c _ (Or.inr ⟨d, r, i, rfl⟩), ?_⟩
  rw [hc']
  have key : ∀ c1 : Conn, GoAwayInv c1 → c1.goAway = c.goAway → c1.state = c.state →
      Halting (c1.goAwayNowData r d) ∧ (c1.goAwayNowData r d).streams = c1.streams ∧
      (c1.goAwayNowData r d).state = c.state ∧
      (c1.goAwayNowData r d).goAway.goingAway = some { lastProcessedId := c1.streams.recv.lastProcessedId, reason := r } ∧
      ((c1.goAwayNowData r d).goAway.pending =
          some { lastStreamId := c1.streams.recv.lastProcessedId, reason := r, debugData := d } ∨
       ((c1.goAwayNowData r d).goAway.pending = c.goAway.pending ∧
        c.goAway.goingAway = some { lastProcessedId := c1.streams.recv.lastProcessedId, reason := r })) := by
    intro c1 h1 hg hs
    obtain ⟨r1, r2, r3, r4⟩ := goAwayNow_result c1 r d c1.goAway.isUserInitiated
    refine ⟨goAwayNowData_halting c1 r d, (goAwayNowData_inv c1 r d h1).2, ?_, ?_, ?_⟩
    · rw [(goAwayNowData_same c1 r d).2.2.1]; exact hs
    · rw [goAwayNowData_eq c1 r d h1]; exact r2
    · rw [goAwayNowData_eq c1 r d h1]
      rcases r4 with r4 | ⟨r4, r5⟩
      · exact Or.inl r4
      · right; rw [← hg]; exact ⟨r4, r5⟩
  rcases handleGoAway_cases c r d i with ⟨hx, h⟩ | h
  · left
    rw [h]
    exact ⟨rfl, hx, rfl, rfl⟩
  · right
    rw [h]
    exact key _ hinv rfl rfl

end H2V.Lemmas.ConnCtlP
