import H2V.Lemmas.ConnWakePPoll
import H2V.Lemmas.ConnStepLift
/-
  ConnWakeP — C06 (D): the connection task is woken whenever a handle gives it work.
  `TaskWoken s s'`: the connection task's slot (`Actions.task`) is empty in `s'` and the tag that
  was parked in `s` (if any) was written to the wake log between `s` and `s'`.
  For every handle operation that schedules a stream for sending, makes a window update due, or
  drops the last handle, the lemma states the exact condition under which there is new work and
  proves `TaskWoken` under it.
-/
namespace H2V.Lemmas.ConnWakeP
open H2V H2V.Model H2V.Model.Conn

def TaskWoken (s s' : Streams) : Prop :=
  s'.actions.task = none ∧ ∀ t, s.actions.task = some t → t ∈ newWakes s s'

theorem notifyTask_woken (s : Streams) : TaskWoken s s.notifyTask := by
  unfold Streams.notifyTask
  split
  · next t ht => exact ⟨rfl, fun t' ht' => by rw [ht] at ht'; cases ht'; simp [newWakes]⟩
  · next ht => exact ⟨ht, fun t' ht' => by rw [ht] at ht'; cases ht'⟩

theorem TaskWoken.after {s s1 s2 : Streams} (h1 : Step none s s1) (h2 : TaskWoken s1 s2) (hw : s1.wakes <+: s2.wakes) :
    TaskWoken s s2 := by
  refine ⟨h2.1, fun t ht => ?_⟩
  rw [newWakes_trans h1.wakes hw]
  rcases h1.task with e | ⟨_, e⟩
  · exact List.mem_append_right _ (h2.2 t (e ▸ ht))
  · rcases e t ht with e | e
    · exact List.mem_append_left _ e
    · cases e

theorem TaskWoken.before {s s1 s2 : Streams} (h1 : TaskWoken s s1) (hw : s.wakes <+: s1.wakes) (h2 : Step none s1 s2) :
    TaskWoken s s2 := by
  have hn : s2.actions.task = none := by
    rcases h2.task with e | ⟨e, _⟩
    · rw [e, h1.1]
    · simpa using e
  refine ⟨hn, fun t ht => ?_⟩
  rw [newWakes_trans hw h2.wakes]
  exact List.mem_append_left _ (h1.2 t ht)

theorem TaskWoken.step_notify {s s1 : Streams} (h1 : Step none s s1) : TaskWoken s s1.notifyTask :=
  .after h1 (notifyTask_woken s1) (notifyTask_i (cx := none) s1).wakes

theorem TaskWoken.step_notify_step {s s1 s2 : Streams} (h1 : Step none s s1) (h2 : Step none s1.notifyTask s2) :
    TaskWoken s s2 :=
  (TaskWoken.step_notify h1).before (h1.wakes.trans (notifyTask_i (cx := none) s1).wakes) h2

/-- `schedule_send` on a stream that may send (not waiting in `pending_open`, not an unannounced
    pushed stream) wakes the connection task -/
theorem scheduleSend_woken {s : Streams} {k : Nat} (h : (s.stream k).isSendReady = true) :
    TaskWoken s (s.scheduleSend k) := by
  unfold Streams.scheduleSend
  rw [if_pos h]
  exact .step_notify (qPush_i _ _ _)

/-- the kinds of update that are a `Step` and leave `is_pending_open` and `is_pending_push` (= `is_send_ready`) alone,
    adding and releasing no entry -/
def Ready.kinds : Kind → Bool
  | .park | .appendRecv | .chargeData | .insert | .release | .enqueue .pendingOpen | .dequeue .pendingOpen | .pendPush
  | .activatePush => false
  | _ => true

theorem isSendReady_of_step {s s' : Streams} (h : Streams.Step Ready.kinds s s') (j : Nat) :
    (s'.stream j).isSendReady = (s.stream j).isSendReady := by
  refine h.stream_rel (r := fun x y => y.isSendReady = x.isSendReady) (fun _ => rfl) (fun h1 h2 => h2.trans h1)
    ?_ ?_ ?_ (fun _ _ _ => rfl) (fun h => by cases h) rfl j
  · intro x y u
    cases u with
    | reserved _ _ h | activated h | sendData _ _ h => cases h
    | decContentLength n _ e => obtain ⟨_, rfl⟩ := Stream.decContentLength_eq e; rfl
    | _ => rfl
  · intro x p u
    cases u with
    | notifySend => rw [Stream.notifySend_fst]; rfl
    | notifyRecv => rw [Stream.notifyRecv_fst]; rfl
    | notifyPush => rw [Stream.notifyPush_fst]; rfl
    | notifyCapacity => rw [Stream.notifyCapacity_fst]; rfl
    | assignCapacity c m => rw [Stream.assignCapacity_fst]; split <;> rfl
    | setReset r i t => rw [Stream.setReset_fst]; rfl
  · intro x q v h1 h2
    cases q <;> first | rfl | (cases v <;> first | cases h1 rfl | cases h2 rfl)

theorem Step.of_ready {s s' : Streams} (t : Streams.Step Ready.kinds s s') : Step none s s' :=
  .of_step (t.mono fun k h => by cases k <;> first | rfl | cases h)

theorem scheduleSend_woken_after {s s1 : Streams} {k : Nat} (t : Streams.Step Ready.kinds s s1)
    (h : (s.stream k).isSendReady = true) : TaskWoken s (s1.scheduleSend k) :=
  .after (.of_ready t) (scheduleSend_woken (by rw [isSendReady_of_step t]; exact h))
    (Step.of_step (cx := none) (Streams.scheduleSend_step (by decide) _ k)).wakes

/-- `queue_frame` (HEADERS, DATA with capacity, RST_STREAM, PUSH_PROMISE, trailers) on a stream that may send wakes the
    connection task -/
theorem queueFrame_woken_after {s s1 : Streams} {k : Nat} (t : Streams.Step Ready.kinds s s1) (f : SFrame)
    (h : (s.stream k).isSendReady = true) : TaskWoken s (s1.queueFrame k f) := by
  unfold Streams.queueFrame
  exact scheduleSend_woken_after (t.trans (.modStream s1 k _ (.pushSend f rfl))) h

theorem queueFrame_woken {s : Streams} {k : Nat} (f : SFrame) (h : (s.stream k).isSendReady = true) :
    TaskWoken s (s.queueFrame k f) := queueFrame_woken_after (.refl s) f h

/-- `send_reset` (from a handle or from the library) that has something to tell the peer — the stream
    was not reset already and is not both closed and flushed — wakes the connection task, provided the
    stream may send -/
theorem sendSendReset_woken {s : Streams} {k : Nat} (r : Reason) (i : Initiator)
    (h1 : (s.stream k).state.isReset = false)
    (h2 : ((s.stream k).state.isClosed && ((s.stream k).pendingSend.isEmpty && (s.stream k).bufferedSendData == 0)) = false)
    (h3 : (s.stream k).isSendReady = true) : TaskWoken s (s.sendSendReset k r i) := by
  unfold Streams.sendSendReset
  simp only [h1, h2, Bool.false_eq_true, if_false]
  have t1 : Streams.Step Ready.kinds s (s.modStreamW k fun st => st.setReset r i) :=
    .modStreamW s k _ (.setReset r i (.setReset r i rfl (fun _ => rfl) h1))
  have hpo : ((s.modStreamW k fun st => st.setReset r i).stream k).isPendingOpen = false := by
    have := isSendReady_of_step t1 k; rw [h3] at this; simp [Stream.isSendReady] at this; exact this.1
  simp only [hpo, Bool.false_eq_true, if_false]
  have t2 := t1.trans (Streams.clearQueue_step (by decide) _ k)
  exact (queueFrame_woken_after t2 _ h3).before ((Step.of_ready t2).wakes.trans (queueFrame_i (cx := none) _ k _).wakes)
    (.of_step (Streams.reclaimAllCapacity_step (by decide) _ k))

/-- `SendStream::send_reset` / `SendResponse::send_reset` -/
theorem refSendReset_woken {s : Streams} {k : Nat} (r : Reason)
    (h1 : (s.stream k).state.isReset = false)
    (h2 : ((s.stream k).state.isClosed && ((s.stream k).pendingSend.isEmpty && (s.stream k).bufferedSendData == 0)) = false)
    (h3 : (s.stream k).isSendReady = true) : TaskWoken s (s.refSendReset k r) := by
  have hw := sendSendReset_woken r .user h1 h2 h3
  have hs : Step none s (s.sendSendReset k r .user) := .of_step (Streams.sendSendReset_step (by decide) s k r .user fun h => Initiator.noConfusion h)
  have key : TaskWoken s (s.actionsSendReset k r .user).1 := by
    unfold Streams.actionsSendReset Streams.transition
    simp only [Initiator.isLibrary, Bool.false_eq_true, if_false]
    refine TaskWoken.before hw hs.wakes ?_
    i_auto
  unfold Streams.refSendReset
  split
  · next s1 _ heq => rw [heq] at key; exact key
  · next s1 _ heq =>
    rw [heq] at key
    exact key.before ((Step.of_step (cx := none) (Streams.actionsSendReset_step (by decide) s k r .user)).of_fst heq).wakes (panic_i _ _)

/-- `SendStream::reserve_capacity` with a smaller value (capacity is given back and handed to the
    streams waiting for it, which are scheduled): the connection task is woken.
    (Before fix 6a8a003 it was not: the lost wake-up found with this model.) -/
theorem refReserveCapacity_woken {s : Streams} {k c : Nat}
    (h : ((s.reserveCapacity k c).stream k).requestedSendCapacity < (s.stream k).requestedSendCapacity) :
    TaskWoken s (s.refReserveCapacity k c) := by
  unfold Streams.refReserveCapacity
  simp only [h, if_true]
  exact .step_notify (.of_step (Streams.reserveCapacity_step (by decide) s k c))

/-- `release_capacity` that makes a connection-level WINDOW_UPDATE due wakes the connection task -/
theorem releaseConnectionCapacity_woken {s : Streams} {c : Nat}
    (h : (s.modRecv fun r => { r with inFlightData := wrapSubU32 r.inFlightData c, flow := (r.flow.assignCapacity c).1 }).recv.flow.unclaimedCapacity.isSome = true) :
    TaskWoken s (s.releaseConnectionCapacity c true) := by
  unfold Streams.releaseConnectionCapacity
  simp only [h, Bool.and_self, if_true]
  exact .step_notify (modRecv_i _ _)

/-- `FlowControl::release_capacity` (the handle): when the released octets make a stream-level
    WINDOW_UPDATE due the stream is queued in `pending_window_updates` and the connection task is woken -/
theorem refReleaseCapacity_woken {s : Streams} {k c : Nat}
    (hc : ¬ c > (s.stream k).inFlightRecvData)
    (h : (((s.releaseConnectionCapacity c true).modStream k fun st => { st with inFlightRecvData := wrapSubU32 st.inFlightRecvData c, recvFlow := (st.recvFlow.assignCapacity c).1 }).stream k).recvFlow.unclaimedCapacity.isSome = true) :
    TaskWoken s (s.refReleaseCapacity k c).1 := by
  unfold Streams.refReleaseCapacity Streams.releaseCapacity
  simp only [hc, if_false, h, if_true]
  refine .step_notify ?_
  i_auto

/-- `Drop for Streams` (a `SendRequest` clone, …): when only the connection's own handle is left the
    connection task is woken (it may have to shut down) -/
theorem dropHandle_woken {s : Streams} (h : s.refs = 2) : TaskWoken s s.dropHandle := by
  unfold Streams.dropHandle
  simp only [h]
  exact .step_notify (setRefs_i _ _)

theorem notifyTask_recv (s : Streams) : s.notifyTask.recv = s.recv := by
  unfold Streams.notifyTask; split <;> rfl

/-- `Connection::set_target_window_size` that makes a connection WINDOW_UPDATE due -/
theorem setTargetConnectionWindow_woken {s : Streams} {t : Nat}
    (hok : (s.setTargetConnectionWindow t).2 = .ok ()) (hp : (s.setTargetConnectionWindow t).1.panicked = none)
    (hu : (s.setTargetConnectionWindow t).1.recv.flow.unclaimedCapacity.isSome = true) :
    TaskWoken s (s.setTargetConnectionWindow t).1 := by
  unfold Streams.setTargetConnectionWindow at hok hp hu ⊢
  cases hadd : s.recv.flow.available.add s.recv.inFlightData with
  | error e => simp [hadd] at hok
  | ok w =>
    simp only [hadd] at hok hp hu ⊢
    cases hcs : w.checkedSize with
    | none =>
      simp only [hcs] at hp
      unfold Streams.panic at hp
      split at hp
      · next hh => rw [hh] at hp; cases hp
      · cases hp
    | some cur =>
      simp only [hcs] at hok hp hu ⊢
      rcases hfl : (if t > cur then s.recv.flow.assignCapacity (t - cur) else s.recv.flow.claimCapacity (cur - t)) with ⟨fl, r⟩
      simp only [hfl] at hok hp hu ⊢
      cases r with
      | error e => simp at hok
      | ok u =>
        simp only at hok hp hu ⊢
        split
        · exact .step_notify (modRecv_i _ _)
        · next hn => simp only [hn, Bool.false_eq_true, if_false] at hu

/-- `send_headers` (request head, response head): the connection task is woken — explicitly when the
    stream has to wait in `pending_open`, through `schedule_send` otherwise -/
theorem sendHeaders_woken {s : Streams} {k : Nat} {eos : Bool} {f : List Hpack.Field}
    (hok : (s.sendHeaders k eos f).2 = .ok ()) (hr : (s.stream k).isSendReady = true) :
    TaskWoken s (s.sendHeaders k eos f).1 := by
  unfold Streams.sendHeaders at hok ⊢
  cases hc : Streams.checkHeaders f with
  | error e => simp [hc] at hok
  | ok u =>
    simp only [hc] at hok ⊢
    rcases hso : (s.stream k).state.sendOpen eos with ⟨st', r⟩
    cases r with
    | error e => simp [hso] at hok
    | ok u =>
      simp only [hso] at hok ⊢
      have t1 : Streams.Step Ready.kinds s (s.modStream k fun st => { st with state := st' }) :=
        .modStream s k _ (.state _ (.sendOpen eos rfl hso))
      split
      · exact .step_notify ((Step.of_ready t1).trans ((Step.of_step (Streams.queueOpen_step (by decide) _ k)).trans (queueFrame_i _ k _)))
      · next hpo =>
        try simp only [hpo, Bool.false_eq_true, if_false]
        exact queueFrame_woken_after t1 _ hr

theorem sendTrailers_woken {s : Streams} {k : Nat} {f : List Hpack.Field}
    (hok : (s.sendTrailers k f).2 = .ok ()) (hr : (s.stream k).isSendReady = true) :
    TaskWoken s (s.sendTrailers k f).1 := by
  unfold Streams.sendTrailers at hok ⊢
  cases hc : Streams.checkHeaders f with
  | error e => simp [hc] at hok
  | ok u =>
    simp only [hc] at hok ⊢
    split
    · next hn => simp [hn] at hok
    · next hss =>
      simp only
      have t1 : Streams.Step Ready.kinds s (match (s.stream k).state.sendClose with
          | some st' => s.modStream k fun st => { st with state := st' }
          | none => s.panic "send_close: unexpected state") := by
        split
        · next st' hc => exact .modStream s k _ (.state _ (.sendClose rfl hc))
        · exact .panic _ _
      exact (queueFrame_woken_after t1 _ hr).before ((Step.of_ready t1).wakes.trans (queueFrame_i (cx := none) _ k _).wakes)
        (.of_step (Streams.reserveCapacity_step (by decide) _ k 0))

theorem panic_store (s : Streams) (m : String) : (s.panic m).store = s.store := Streams.panic_store s m

/-- the `pending` stream of the `SendRequest` only matters for the "rejected" answer -/
theorem sendRequest_ok_none {s s' : Streams} {b : Bool} {f : List Hpack.Field} {eos : Bool} {p : Option Nat} {r : Nat × Bool}
    (h : s.sendRequest b f eos p = (s', .ok r)) : s.sendRequest b f eos none = (s', .ok r) := by
  rcases p with _ | q
  · exact h
  · unfold Streams.sendRequest at h ⊢
    cases hq : (s.stream q).isPendingOpen with
    | false => simpa [hq] using h
    | true =>
      simp only [hq, if_true] at h
      split at h
      · cases h
      · split at h <;> cases h

/-- `SendRequest::send_request` that succeeds wakes the connection task (the new stream is either
    queued in `pending_open` — explicit wake — or scheduled for sending) -/
theorem sendRequest_woken {s s' : Streams} {b : Bool} {f : List Hpack.Field} {eos : Bool} {p : Option Nat} {r : Nat × Bool}
    (hb : KeysBounded s.store) (h : s.sendRequest b f eos p = (s', .ok r)) : TaskWoken s s' := by
  replace h := sendRequest_ok_none h
  unfold Streams.sendRequest at h
  cases hce : s.ensureNoConnError with
  | error e => simp [hce] at h
  | ok u =>
  cases hnx : s.actions.send.nextStreamId.isNone with
  | true => simp [hce, hnx] at h
  | false =>
  simp only [hce, hnx, Bool.false_eq_true, if_false] at h
  cases hsv : s.counts.isServer with
    | true => simp [hsv] at h
    | false =>
    rcases hso : s.sendOpenId with ⟨s1, e | id⟩
    · simp [hsv, hso] at h
    · simp only [hsv, hso, Bool.false_eq_true, if_false] at h
      have h1 : Step none s s1 := (Step.of_step (Streams.sendOpenId_step (by decide) s)).of_fst hso
      -- the state just before `send_headers`
      generalize hst : (if b = true then { Stream.new id s1.actions.send.initWindowSz s1.recv.initWindowSz with contentLength := ContentLength.head }
          else Stream.new id s1.actions.send.initWindowSz s1.recv.initWindowSz) = st at h
      generalize hs2 : (if s1.store.contains id = true then s1.panic "assertion failed: self.ids.insert(id, index).is_none()" else s1) = s2 at h
      have h2 : Step none s s2 := by subst hs2; split; exact h1.trans (panic_i _ _); exact h1
      have hb2 : KeysBounded s2.store := h2.bounded hb
      have hflags : st.isPendingOpen = false ∧ st.isPendingPush = false := by
        subst hst; split <;> exact ⟨rfl, rfl⟩
      have hready : (({ s2 with store := (s2.store.insert st).1 } : Streams).stream s2.store.nextKey).isSendReady = true := by
        simp only [Streams.stream, Store.get?_insert, hb2.fresh, if_true, Option.getD_some,
          Stream.isSendReady, hflags.1, hflags.2]
        rfl
      have h3 : Step none s ({ s2 with store := (s2.store.insert st).1 } : Streams) := h2.trans (insert_i _ st)
      simp only [Store.insert_snd] at h
      rcases hsh : Streams.sendHeaders { s2 with store := (s2.store.insert st).1 } s2.store.nextKey eos f with ⟨s3, e | u⟩
      · simp [hsh] at h
      · simp only [hsh] at h
        obtain ⟨rfl, _⟩ := Prod.mk.inj h
        have hok : (Streams.sendHeaders { s2 with store := (s2.store.insert st).1 } s2.store.nextKey eos f).2 = .ok () := by
          rw [hsh]
        have hw := sendHeaders_woken hok hready
        rw [hsh] at hw
        have hs3 : Step none ({ s2 with store := (s2.store.insert st).1 } : Streams) s3 :=
          (Step.of_step (Streams.sendHeaders_step (by decide) _ _ eos f)).of_fst hsh
        exact (TaskWoken.after h3 hw hs3.wakes).before (h3.wakes.trans hs3.wakes)
          ((setRefs_i _ _).trans (.of_step (Streams.refInc_step (by decide) _ _)))

end H2V.Lemmas.ConnWakeP
