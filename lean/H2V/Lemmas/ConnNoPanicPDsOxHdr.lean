import H2V.Lemmas.ConnNoPanicPDsOxReset
/-
  C08 (no panic) — the residual hypothesis `OH` as an invariant: `send_headers` (the step that puts an entry into
  `pending_open`: its queue was empty, it is not scheduled) and `Prioritize::send_data` (DATA goes to the back of a non-empty
  queue of a virgin entry).
-/
namespace H2V.Lemmas.ConnNoPanicP
open H2V H2V.Model H2V.Model.Conn H2V.Lemmas.ConnCountsP
attribute [local irreducible] wrapSubU32 wrapSubUsize

variable {sv : Bool}

theorem xp_hdr (x : Stream) (st' : State) (e : Bool) (u : Unit) (H : SFrame) (ho : x.state.sendOpen e = (st', .ok u))
    (hH : H.isData = false) :
    Xp sv x { ({ x with state := st' } : Stream) with pendingSend := x.pendingSend ++ [H] } := by
  have hd := dsum_single_of_notData hH
  refine ⟨fun r hx => ⟨fun _ hs => ?_, fun hfl => ?_, fun hfl => ?_⟩⟩
  · have hs' : suB st' = true := hs
    rw [sendOpen_nsu ho] at hs'; cases hs'
  rotate_left
  · show x.bufferedSendData ≤ dsum (x.pendingSend ++ [H]) + r
    rw [dsum_append, hd]; exact hx.e hfl
  · have hfl' : flagB x = true := hfl
    rcases hx.f hfl' with hw | hdd
    · refine .inl ⟨hw.1, ?_, fun hp => absurd hp (by show x.pendingSend ++ [H] ≠ []; simp)⟩
      show dsum (x.pendingSend ++ [H]).head?.toList = 0
      cases hps : x.pendingSend with
      | nil => exact hd
      | cons g l => have := hw.2.1; unfold hnd at this; rw [hps] at this; exact this
    · have := sendOpen_su ho
      rw [suB_closed hdd.1] at this; cases this

theorem xp_hdr_open (x : Stream) (st' : State) (e : Bool) (u : Unit) (H : SFrame) (ho : x.state.sendOpen e = (st', .ok u))
    (hH : H.isData = false) (hl : locId sv x.id = true) :
    Xp sv x { ({ ({ x with state := st' } : Stream) with isPendingOpen := true } : Stream) with
      pendingSend := x.pendingSend ++ [H] } := by
  have hd := dsum_single_of_notData hH
  refine ⟨fun r hx => ⟨fun _ hs => ?_, fun _ => ?_, fun _ => ?_⟩⟩
  · have hs' : suB st' = true := hs
    rw [sendOpen_nsu ho] at hs'; cases hs'
  rotate_left
  · show x.bufferedSendData ≤ _
    rw [(hx.n hl (sendOpen_su ho)).2.2]; exact Nat.zero_le _
  · have hn := hx.n hl (sendOpen_su ho)
    refine .inl ⟨hn.2.1, ?_, fun hp => absurd hp (by show x.pendingSend ++ [H] ≠ []; simp)⟩
    show dsum (x.pendingSend ++ [H]).head?.toList = 0
    rw [hn.1]; exact hd

/-- **`Send::send_headers`** (`sv` is the role of the connection) -/
theorem sendHeaders_xk (s : Streams) (k : Nat) (eos : Bool) (fl : List Hpack.Field) (hr : s.counts.isServer = sv) :
    XK sv s (s.sendHeaders k eos fl).1 := by
  unfold Streams.sendHeaders
  split
  · exact .refl _
  · split
    · exact .refl _
    · next st' u heq =>
      dsimp only
      have hAC := modStream_modStream s k (fun st => ({ st with state := st' } : Stream))
        (fun st => ({ st with pendingSend := st.pendingSend ++ [SFrame.headers eos fl] } : Stream)) (fun _ => rfl) (fun _ => rfl)
      -- the plain case: state, then the frame
      have plain : XK sv s ((s.modStream k fun st => { st with state := st' }).queueFrame k (.headers eos fl)) := by
        unfold Streams.queueFrame
        rw [hAC]
        refine (modStream_xk_live _ _ _ (fun _ => ⟨rfl, xp_hdr _ st' eos u _ heq rfl⟩)).trans (scheduleSend_xk' _ _ ?_)
        intro hl _ _ _ hsu
        have hl0 : Live s k := (SameKeys.modStream s k _).live.mp hl
        have := stream_modStream_live hl0 (fun x => ({ ({ x with state := st' } : Stream) with
          pendingSend := x.pendingSend ++ [SFrame.headers eos fl] } : Stream)) (fun _ => rfl)
        rw [this] at hsu
        have hsu' : suB st' = true := hsu
        rw [sendOpen_nsu heq] at hsu'; cases hsu'
      generalize hb : ((s.modStream k fun st => { st with state := st' }).counts.isLocalInit
          ((s.modStream k fun st => { st with state := st' }).stream k).id &&
        !((s.modStream k fun st => { st with state := st' }).stream k).isPendingPush) = b
      cases b with
      | false => simp only [Bool.false_eq_true, if_false]; exact plain
      | true =>
        simp only [if_true]
        refine XK.trans ?_ (notifyTask_xk _)
        unfold Streams.queueOpen Streams.qPush
        split
        · exact plain
        · dsimp only
          unfold Streams.queueFrame
          have hset : ∀ (t : Streams) (l : List Nat), t.setQ .pendingOpen l = t.modPrio (fun p => { p with pendingOpen := l }) :=
            fun _ _ => rfl
          rw [hset, modPrio_modStream,
            modStream_modStream s k (fun st => ({ st with state := st' } : Stream)) (fun st => st.setQueued .pendingOpen true)
              (fun _ => rfl) (fun _ => rfl),
            modStream_modStream s k (fun x => ({ x with state := st' } : Stream).setQueued .pendingOpen true)
              (fun st => ({ st with pendingSend := st.pendingSend ++ [SFrame.headers eos fl] } : Stream))
              (fun _ => rfl) (fun _ => rfl)]
          refine ((modStream_xk_live s k _ (fun hl => ⟨rfl, ?_⟩)).trans (modPrio_xk _ _)).trans (scheduleSend_xk' _ _ ?_)
          · -- the entry is locally initiated
            have hst := stream_modStream_live hl (fun st => ({ st with state := st' } : Stream)) (fun _ => rfl)
            rw [hst, Streams.modStream_counts, isLocalInit_eq, hr] at hb
            have hloc : locId sv (s.stream k).id = true := by
              simp only [Bool.and_eq_true] at hb; exact hb.1
            exact xp_hdr_open _ st' eos u _ heq rfl hloc
          · intro hl _ _ _ hsu
            have hl0 : Live s k := (SameKeys.modStream s k _).live.mp hl
            have := stream_modStream_live hl0 (fun x => ({ ({ ({ x with state := st' } : Stream) with isPendingOpen := true } : Stream) with
              pendingSend := x.pendingSend ++ [SFrame.headers eos fl] } : Stream)) (fun _ => rfl)
            have hsu2 : suB ((s.modStream k (fun x => ({ ({ ({ x with state := st' } : Stream) with isPendingOpen := true } : Stream) with
              pendingSend := x.pendingSend ++ [SFrame.headers eos fl] } : Stream))).stream k).state = true := hsu
            rw [this] at hsu2
            have hsu' : suB st' = true := hsu2
            rw [sendOpen_nsu heq] at hsu'; cases hsu'

theorem Opn.nsu {s : Streams} {k : Nat} (h : Opn sv s k) :
    Live s k → ∀ r, XEr sv r (s.stream k) → locId sv (s.stream k).id = true → suB (s.stream k).state = true → False := by
  intro hl _ _ hloc hsu
  rcases h with h | h | h
  · exact h hl
  · rw [h] at hsu; cases hsu
  · rw [h] at hloc; cases hloc

theorem xe_bufup (x : Stream) (len : Nat) (hst : x.state.isSendStreaming = true) (r : Nat) (hx : XEr sv r x) :
    XEr sv (r + len) { x with bufferedSendData := x.bufferedSendData + len } := by
  refine ⟨fun _ hs => ?_, fun hfl => ?_, fun hfl => ?_⟩
  · have hs' : suB x.state = true := hs
    rw [su_of_streaming hst] at hs'; cases hs'
  · have hfl' : flagB x = true := hfl
    rcases hx.f hfl' with hw | hd
    · refine .inl ⟨hw.1, hw.2.1, fun hp => ?_⟩
      have := (hw.2.2 hp).1
      rw [hst] at this; cases this
    · have := State.isSendStreaming_of_isClosed hd.1
      rw [hst] at this; cases this
  · have := hx.e hfl
    show x.bufferedSendData + len ≤ dsum x.pendingSend + (r + len)
    omega

/-- DATA goes to the back of the queue; if the queue is empty nothing is buffered, hence the frame is empty -/
theorem xe_append_data (x : Stream) (len : Nat) (eos : Bool)
    (hns : locId sv x.id = true → suB x.state = true → False) (hb : len = 0 ∨ x.bufferedSendData ≠ 0) (r : Nat)
    (hx : XEr sv (r + len) x) : XEr sv r { x with pendingSend := x.pendingSend ++ [.data len eos] } := by
  have he : flagB x = true → x.bufferedSendData ≤ dsum (x.pendingSend ++ [SFrame.data len eos]) + r := by
    intro hfl
    have := hx.e hfl
    rw [dsum_append]; simp only [dsum]; omega
  refine ⟨fun hl hs => (hns hl hs).elim, fun hfl => ?_, fun hfl => he hfl⟩
  have hfl' : flagB x = true := hfl
  rcases hx.f hfl' with hw | hd
  · refine .inl ⟨hw.1, ?_, fun hp => absurd hp (by show x.pendingSend ++ [SFrame.data len eos] ≠ []; simp)⟩
    show dsum (x.pendingSend ++ [SFrame.data len eos]).head?.toList = 0
    cases hps : x.pendingSend with
    | nil =>
      have h0 := (hw.2.2 hps).2
      rcases hb with hb | hb
      · subst hb; rfl
      · exact absurd h0 hb
    | cons g l => have := hw.2.1; unfold hnd at this; rw [hps] at this; exact this
  · rcases hb with hb | hb
    · subst hb
      refine .inr ⟨hd.1, ?_, hd.2.2⟩
      show dsum (x.pendingSend ++ [SFrame.data 0 eos]) = 0
      rw [dsum_append, hd.2.1]; rfl
    · exact absurd hd.2.2 hb

theorem prioSendData_xk (s : Streams) (k len : Nat) (eos : Bool) (hds : DS (s.stream k))
    (hb : (s.stream k).bufferedSendData + len < USIZE_MOD) : XK sv s (s.prioSendData k len eos).1 := by
  unfold Streams.prioSendData
  -- the conditionals by `rel_ite_fst`: `split` would rewrite the whole unfolded goal
  refine rel_ite_fst (R := XK sv) (fun _ => .refl _) fun _ => ?_
  · dsimp only
    refine rel_ite_fst (R := XK sv) (fun _ => .refl _) fun hss => ?_
    · have hss' : (s.stream k).state.isSendStreaming = true := by
        cases h : (s.stream k).state.isSendStreaming with
        | true => rfl
        | false => rw [h] at hss; simp at hss
      have hl : Live s k := live_of_sendStreaming hss'
      have o0 : Opn sv s k := opn_of_streaming hss'
      have hA0 := stream_modStream_live hl (fun st => ({ st with bufferedSendData := st.bufferedSendData + len } : Stream)) (fun _ => rfl)
      have hA1 := fun j (hj : j ≠ k) => ConnFlowP.stream_modStream_other (s := s) (id := k) (k := j)
        (fun st => ({ st with bufferedSendData := st.bufferedSendData + len } : Stream)) (fun _ => rfl) hj
      have k1 : SK sv s (s.modStream k fun st => { st with bufferedSendData := st.bufferedSendData + len }) :=
        modStream_sk_opn o0 _ (fun _ => by exact ⟨rfl, rfl, rfl, rfl⟩)
      have d1 : DSr len ((s.modStream k fun st => { st with bufferedSendData := st.bufferedSendData + len }).stream k) := by
        rw [hA0]
        unfold DSr
        unfold DS at hds
        show len + dsum (s.stream k).pendingSend ≤ (s.stream k).bufferedSendData + len ∧ _
        exact ⟨by have := hds.1; omega, hb⟩
      have hA : ∀ r j, XEr sv r (s.stream j) →
          XEr sv (r + (if j = k then len else 0))
            ((s.modStream k fun st => { st with bufferedSendData := st.bufferedSendData + len }).stream j) := by
        intro r j h
        by_cases hj : j = k
        · subst hj; rw [hA0, if_pos rfl]; exact xe_bufup _ len hss' r h
        · rw [hA1 j hj, if_neg hj]; exact h
      generalize (s.modStream k fun st => { st with bufferedSendData := st.bufferedSendData + len }) = s1 at k1 d1 hA ⊢
      generalize hs2 : (if (s1.stream k).requestedSendCapacity < (s1.stream k).bufferedSendData then _ else s1) = s2
      have x2 : XK sv s1 s2 := by rw [← hs2]; xk_auto
      have k2 : SK sv s1 s2 := by rw [← hs2]; sk_auto
      have u2 : UK s1 s2 := by rw [← hs2]; uk_auto
      generalize hs3 : (if eos = true then _ else s2) = s3
      have x3 : XK sv s2 s3 := by rw [← hs3]; xk_auto
      have u3 : UK s2 s3 := by rw [← hs3]; uk_auto
      have k3 : SK sv s2 s3 := by
        rw [← hs3]; split
        · refine SK.trans ?_ (SK.of_step (Streams.reserveCapacity_step (by decide) _ _ _))
          split
          · next st' heq => exact modStream_sk _ _ _ (fun x => setState_sr x st' (sendClose_nsu heq))
          · exact panic_sk _ _
        · exact .refl _
      have x23 := x2.trans x3
      have o3 : Opn sv s3 k := o0.sk ((k1.trans k2).trans k3)
      have d3 : DSr len (s3.stream k) := ((u2.trans u3).kp k).ds len d1
      have hZ : ∀ r j, XEr sv (r + (if j = k then len else 0)) (s3.stream j) →
          XEr sv r ((s3.modStream k fun st => { st with pendingSend := st.pendingSend ++ [.data len eos] }).stream j) := by
        intro r j h
        by_cases hj : j = k
        · subst hj
          rw [if_pos rfl] at h
          by_cases hl3 : Live s3 j
          · have := stream_modStream_live hl3
              (fun st => ({ st with pendingSend := st.pendingSend ++ [.data len eos] } : Stream)) (fun _ => rfl)
            rw [this]
            refine xe_append_data _ len eos (fun h1 h2 => ?_) ?_ r h
            · rcases o3 with o | o | o
              · exact o hl3
              · rw [o] at h2; cases h2
              · rw [o] at h1; cases h1
            · have := d3.1
              by_cases h0 : len = 0
              · exact .inl h0
              · exact .inr (by omega)
          · rw [stream_modStream_dead hl3, stream_blank_of_not_live hl3]; exact XEr.blank _ _
        · rw [if_neg hj] at h
          have := ConnFlowP.stream_modStream_other (s := s3) (id := k) (k := j)
            (fun st => ({ st with pendingSend := st.pendingSend ++ [.data len eos] } : Stream)) (fun _ => rfl) hj
          rw [this]; exact h
      have hAZ : XK sv s (s3.modStream k fun st => { st with pendingSend := st.pendingSend ++ [.data len eos] }) :=
        ⟨fun r j h => hZ r j (x23.xe _ j (hA r j h))⟩
      have kZ : SK sv s3 (s3.modStream k fun st => { st with pendingSend := st.pendingSend ++ [.data len eos] }) :=
        modStream_sk_opn o3 _ (fun _ => by exact ⟨rfl, rfl, rfl, rfl⟩)
      refine rel_ite_fst (R := XK sv) (fun _ => ?_) fun _ => ?_
      · unfold Streams.queueFrame
        exact hAZ.trans (scheduleSend_xk' _ _ (o3.sk kZ).nsu)
      · exact hAZ

end H2V.Lemmas.ConnNoPanicP
