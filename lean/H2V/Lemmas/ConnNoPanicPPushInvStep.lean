import H2V.Lemmas.ConnNoPanicPPushInvIns
import H2V.Lemmas.ConnPushRule
import H2V.Lemmas.ConnStepOp
import H2V.Lemmas.ConnStepLift
/-
  C08 (no panic) — PUSH_PROMISE bookkeeping: the frame `PF` along the operations of ConnResetP's `Op`, and the
  connections that never accept a PUSH_PROMISE (every server; every client that announced SETTINGS_ENABLE_PUSH = 0).
  `NoPush` (role and `recv.is_push_enabled`: written by no step of the stream layer, `RoleKeep.of_step`) and `NoPPP`
  (every `pending_push_promises` list is empty) are preserved by EVERY operation, without any precondition; hence
  `dropPPP s k = []`, the hypothesis of `dropStreamRef_npi`, always holds there, and `poll_pushed` only parks the task
  (`panic!("Headers not set on pushed stream")` is not reachable).
-/
namespace H2V.Lemmas.ConnNoPanicP
open H2V H2V.Model H2V.Model.Conn H2V.Lemmas.ConnCountsP
open H2V.Lemmas.ConnResetP (Op run)
attribute [local irreducible] wrapSubU32 wrapSubUsize

/-- no entry has a promised stream waiting to be accepted -/
def NoPPP (s : Streams) : Prop := ∀ j, (s.stream j).pendingPushPromises = []

/-- the connection refuses every PUSH_PROMISE: a server, or a client that disabled push -/
def NoPush (s : Streams) : Prop := s.counts.isServer = true ∨ s.recv.isPushEnabled = false

theorem PW.noPPP {s s' : Streams} (h : PW s s') (hj : NoPPP s) : NoPPP s' := fun j => by
  rcases h j with e | e
  · rw [e]; exact hj j
  · exact e

theorem NoPPP_blank {s : Streams} (hb : Blank s) : NoPPP s := fun j => by
  have : s.store.get? j = none := by unfold Store.get?; rw [hb.slab]; rfl
  unfold Streams.stream; rw [this]; rfl

def RoleKeep (s s' : Streams) : Prop :=
  s'.counts.isServer = s.counts.isServer ∧ s'.recv.isPushEnabled = s.recv.isPushEnabled

theorem RoleKeep.noPush {s s' : Streams} (h : RoleKeep s s') (hp : NoPush s) : NoPush s' := by
  unfold NoPush; rw [h.1, h.2]; exact hp

/-- **no step of the stream layer, of whatever kind, changes the role or `recv.is_push_enabled`**: the counter
    updates keep `is_server`, and no update of `Recv` writes the switch -/
theorem RoleKeep.of_step {K : Kind → Bool} {s s' : Streams} (h : Streams.Step K s s') : RoleKeep s s' :=
  h.role_recv (·.isPushEnabled) (fun _ q _ => by cases q <;> rfl) fun _ _ h => h.isPushEnabled

theorem op_roleKeep (s : Streams) (op : Op) : RoleKeep s (op.apply s) := by
  by_cases h : op = .clearWakes
  · subst h; exact ⟨rfl, rfl⟩
  · exact .of_step (Streams.op_step (K := fun _ => true) (fun _ => rfl) s op h)

theorem RoleKeep.noPush_back {s s' : Streams} (h : RoleKeep s s') (hp : NoPush s') : NoPush s := by
  unfold NoPush at hp ⊢; rw [h.1, h.2] at hp; exact hp

theorem NoPush_step {s : Streams} (hp : NoPush s) (op : Op) : NoPush (op.apply s) := (op_roleKeep s op).noPush hp

theorem NoPush_run {s : Streams} (hp : NoPush s) (ops : List Op) : NoPush (run s ops) := by
  induction ops generalizing s with
  | nil => exact hp
  | cons op ops ih => exact ih (NoPush_step hp op)

theorem recvPushPromise_nopush {s : Streams} (hp : NoPush s) (id : Nat) (h : HeadersIn) : (s.recvPushPromise id h).1 = s :=
  (Streams.recvPushPromise_refused hp id h).1

theorem recvPushPromise_npi_nopush {E : Nat → Prop} {s : Streams} (hn : NPI E s) (hp : NoPush s) (id : Nat) (h : HeadersIn) :
    NPI E (s.recvPushPromise id h).1 := by rw [recvPushPromise_nopush hp]; exact hn

/-- the stream whose `ref_count` / `pending_recv` an operation may lower / pop: the handle it is called through -/
def popKey : Op → Option Nat
  | .cloneStreamRef k => some k
  | .dropStreamRef k => some k
  | .recvTakeRequest k => some k
  | .recvPollResponse _ k _ => some k
  | .recvPollInformational k _ => some k
  | .refPollData k _ => some k
  | .recvPollTrailers k _ => some k
  | .refClearRecvBuffer k => some k
  | _ => none

/-- the operations with a frame of their own: `recv_push_promise` links a promised stream, `drop_stream_ref` lets
    promised streams go, `send_request` and `send_push_promise` may take out again the entry they inserted -/
def Framed : Op → Prop
  | .recvPushPromise _ _ => False
  | .dropStreamRef _ => False
  | .sendRequest _ _ _ _ => False
  | .refSendPushPromise _ _ _ => False
  | _ => True

/-- every other operation is `PF`, up to the stream of the handle it is called through -/
theorem op_pf (s : Streams) (op : Op) (hop : Framed op) : PF (popKey op).toList s (op.apply s) := by
  cases op <;> simp only [Op.apply]
  case recvPushPromise id h => exact hop.elim
  case dropStreamRef k => exact hop.elim
  case sendRequest a b c d => exact hop.elim
  case refSendPushPromise p v f => exact hop.elim
  case cloneStreamRef k => exact cloneStreamRef_pf s k (List.mem_cons_self ..)
  case recvTakeRequest k => exact recvTakeRequest_pf s k (List.mem_cons_self ..)
  case recvPollResponse fuel k t => exact recvPollResponse_pf fuel s k t (List.mem_cons_self ..)
  case recvPollInformational k t => exact recvPollInformational_pf s k t (List.mem_cons_self ..)
  case refPollData k t => exact refPollData_pf s k t (List.mem_cons_self ..)
  case recvPollTrailers k t => exact recvPollTrailers_pf s k t (List.mem_cons_self ..)
  case refClearRecvBuffer k => exact refClearRecvBuffer_pf s k (List.mem_cons_self ..)
  case recvHeaders h => exact recvHeaders_pf s h
  case innerSendReset id r => exact innerSendReset_pf s id r
  case clearWakes => exact PF.of_store (s' := { s with wakes := [] }) rfl rfl rfl
  case nextIncoming => exact nextIncoming_pf s
  -- the rest are steps of the stream layer whose footprint `PF.kinds` covers
  all_goals exact .of_step (by stp_step <;> first | exact .refl _ | decide | exact fun _ => rfl)

/-- with fresh keys so are `send_request` and `send_push_promise` -/
theorem op_pf_keys {s : Streams} (hk : KeysOK s) (op : Op) (hne : ∀ id h, op ≠ .recvPushPromise id h)
    (hnd : ∀ k, op ≠ .dropStreamRef k) : PF (popKey op).toList s (op.apply s) := by
  cases op
  case recvPushPromise id h => exact absurd rfl (hne id h)
  case dropStreamRef k => exact absurd rfl (hnd k)
  case sendRequest a b c d => exact (sendRequest_pf s a b c d).2 hk
  case refSendPushPromise p v f => exact (refSendPushPromise_pf s p v f).2 hk
  all_goals exact op_pf s _ (by trivial)

theorem op_pw (s : Streams) (op : Op) (hne : ∀ id h, op ≠ .recvPushPromise id h) : PW s (op.apply s) := by
  cases op
  case recvPushPromise id h => exact absurd rfl (hne id h)
  case dropStreamRef k => exact (dropStreamRef_df s k).pw
  case sendRequest a b c d => exact (sendRequest_pf (ks := []) s a b c d).1
  case refSendPushPromise p v f => exact (refSendPushPromise_pf (ks := []) s p v f).1
  all_goals exact (op_pf s _ (by trivial)).pw

/-- **`NoPPP` is kept by every operation** of a connection that refuses PUSH_PROMISE (no precondition at all) -/
theorem NoPPP_step {s : Streams} (hj : NoPPP s) (hp : NoPush s) (op : Op) : NoPPP (op.apply s) := by
  by_cases hne : ∀ id h, op ≠ .recvPushPromise id h
  · exact (op_pw s op hne).noPPP hj
  · have : ∃ id h, op = .recvPushPromise id h := by
      apply Classical.byContradiction
      intro hcon
      exact hne (fun id h e => hcon ⟨id, h, e⟩)
    obtain ⟨id, h, e⟩ := this
    subst e
    show NoPPP (s.recvPushPromise id h).1
    rw [recvPushPromise_nopush hp]; exact hj

theorem NoPPP_run {s : Streams} (hj : NoPPP s) (hp : NoPush s) (ops : List Op) : NoPPP (run s ops) ∧ NoPush (run s ops) := by
  induction ops generalizing s with
  | nil => exact ⟨hj, hp⟩
  | cons op ops ih => exact ih (NoPPP_step hj hp op) (NoPush_step hp op)

theorem NoPPP.dropPPP {s : Streams} (hj : NoPPP s) (k : Nat) : dropPPP s k = [] := by
  unfold ConnNoPanicP.dropPPP
  exact ((dropPre_pf (ks := [k]) s k (List.mem_cons_self ..)).trans (dropClosure_head k _)).pw.noPPP hj k

/-- **`drop_stream_ref` keeps the invariant** on a connection without pending promises: the hypothesis
    `dropPPP s k = []` of `dropStreamRef_npi` is discharged -/
theorem dropStreamRef_npi_noPPP {s : Streams} (h : NPI (fun _ => False) s) (hj : NoPPP s) {k : Nat} (hk : Live s k)
    (hr : (s.stream k).refCount > 0) (he : ErrOK s) :
    NPI (fun _ => False) (s.dropStreamRef k) ∧ NoPPP (s.dropStreamRef k) :=
  ⟨dropStreamRef_npi h hk hr (hj.dropPPP k) he, (dropStreamRef_df s k).pw.noPPP hj⟩

theorem NoPPP.opPre_drop {s : Streams} (hj : NoPPP s) (k : Nat) : opPre s (.dropStreamRef k) := hj.dropPPP k

/-- in the ghost-handle histories of ConnNoPanicPHist: a reachable state that refuses PUSH_PROMISE has no pending promises
    (so the precondition `opPre s (.dropStreamRef k)` is automatic there) -/
theorem hreach_noPPP {s : Streams} {H : List Nat} (h : HReach s H) (hp : NoPush s) : NoPPP s := by
  induction h with
  | init hb _ _ => exact NoPPP_blank hb
  | step op _ _ _ ih => exact NoPPP_step (ih ((op_roleKeep _ op).noPush_back hp)) ((op_roleKeep _ op).noPush_back hp) op

/-- `Recv::poll_pushed` when the stream's `pending_push_promises` is empty (copied from the model) -/
def pollPushedNil (s : Streams) (id : Nat) (tag : String) : Streams × Streams.PollPushed :=
    match (s.stream id).state.ensureRecvOpen with
    | .error e => (s, .err e)
    | .ok true => (s.modStream id fun st => { st with pushTask := some tag }, .pending)
    | .ok false => (s, .none)

theorem recvPollPushed_nil {s : Streams} {k : Nat} (h : (s.stream k).pendingPushPromises = []) (t : String) :
    s.recvPollPushed k t = pollPushedNil s k t := by
  unfold Streams.recvPollPushed pollPushedNil
  rw [h]
  rfl

theorem pollPushedNil_not_pushed (s : Streams) (k : Nat) (t : String) :
    ∀ c m u f, (pollPushedNil s k t).2 ≠ .pushed c m u f := by
  intro c m u f
  unfold pollPushedNil
  split <;> (intro h; cases h)

theorem refPollPushed_nil {s : Streams} {k : Nat} (h : (s.stream k).pendingPushPromises = []) (t : String) :
    s.refPollPushed k t = pollPushedNil s k t := by
  unfold Streams.refPollPushed
  rw [recvPollPushed_nil h]
  have := pollPushedNil_not_pushed s k t
  generalize pollPushedNil s k t = p at this ⊢
  obtain ⟨s1, r⟩ := p
  cases r with
  | pushed c m u f => exact absurd rfl (this c m u f)
  | _ => rfl

theorem pollPushedNil_lt (s : Streams) (k : Nat) (t : String) : LT [k] s (pollPushedNil s k t).1 := by
  unfold pollPushedNil; lt_auto
theorem pollPushedNil_pf (s : Streams) (k : Nat) (t : String) : PF [] s (pollPushedNil s k t).1 := by
  unfold pollPushedNil; pf_auto

/-- **`poll_pushed` on a connection without pending promises**: the invariant and `NoPPP` are kept, nothing is handed
    out (no new handle), in particular no panic -/
theorem refPollPushed_npi_noPPP {E : Nat → Prop} {s : Streams} (hn : NPI E s) (hj : NoPPP s) {k : Nat} (hk : Live s k) (t : String) :
    NPI E (s.refPollPushed k t).1 ∧ NoPPP (s.refPollPushed k t).1 ∧
    (∀ c m u f, (s.refPollPushed k t).2 ≠ .pushed c m u f) ∧ ErrSame s (s.refPollPushed k t).1 := by
  have e := refPollPushed_ev (ρ := false) s k t
  rw [refPollPushed_nil (hj k)] at e ⊢
  exact ⟨hn.lt (pollPushedNil_lt s k t).w (liveAll1 hk) e noE, (pollPushedNil_pf s k t).pw.noPPP hj,
    pollPushedNil_not_pushed s k t, (pollPushedNil_lt s k t).err⟩

theorem refPollPushed_panicked_noPPP {s : Streams} (hj : NoPPP s) {k : Nat} (hk : Live s k) (t : String) :
    (s.refPollPushed k t).1.panicked = s.panicked := by
  rw [refPollPushed_nil (hj k)]
  unfold pollPushedNil
  split
  · rfl
  · exact modStream_panicked_live hk _
  · rfl

theorem recvPollPushed_npi_noPPP {E : Nat → Prop} {s : Streams} (hn : NPI E s) (hj : NoPPP s) {k : Nat} (hk : Live s k) (t : String) :
    NPI E (s.recvPollPushed k t).1 ∧ NoPPP (s.recvPollPushed k t).1 := by
  have e := recvPollPushed_ev (ρ := false) s k t
  rw [recvPollPushed_nil (hj k)] at e ⊢
  exact ⟨hn.lt (pollPushedNil_lt s k t).w (liveAll1 hk) e noE, (pollPushedNil_pf s k t).pw.noPPP hj⟩

theorem refPollPushed_noPush {s : Streams} (hp : NoPush s) (k : Nat) (t : String) : NoPush (s.refPollPushed k t).1 :=
  (RoleKeep.of_step (Streams.refPollPushed_step (K := fun _ => true) (fun _ _ => rfl) s k t)).noPush hp

end H2V.Lemmas.ConnNoPanicP
