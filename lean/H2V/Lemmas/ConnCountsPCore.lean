import H2V.Lemmas.ConnCountsPMono
/-
  C05 / C18 / C19: `Ev` for `transition_after`, `counts.transition`, `Store::for_each`.
-/
namespace H2V.Lemmas.ConnCountsP
open H2V H2V.Model H2V.Model.Conn
variable {ρ : Bool}
attribute [local irreducible] wrapSubU32 wrapSubUsize

theorem modStream_get?_self (s : Streams) (k : Nat) (f : Stream → Stream) (st : Stream)
    (h : s.store.get? k = some st) (hk : (f st).key = st.key) : (s.modStream k f).store.get? k = some (f st) := by
  rw [Streams.modStream_of_some h, Streams.setStream_get?, if_pos (by rw [hk, get?_key h]), h]; rfl

theorem decNumStreams_get?_self (s : Streams) (k : Nat) (st : Stream) (h : s.store.get? k = some st) :
    (s.decNumStreams k).store.get? k = some { st with isCounted := false } := by
  rw [Streams.decNumStreams_get?, if_pos rfl, h]; rfl

theorem stream_get?_or (s : Streams) (k : Nat) :
    (∃ x, s.store.get? k = some x ∧ s.stream k = x) ∨ (s.store.get? k = none) := by
  cases h : s.store.get? k with
  | none => right; rfl
  | some x => left; exact ⟨x, rfl, stream_of_get? h⟩

theorem unlink_ev (s : Streams) (id : Nat) : EvB ρ s { s with store := s.store.unlink id } := .unlink id

theorem decNumStreams_ev (s : Streams) (k : Nat) : EvB ρ s (s.decNumStreams k) := .decNum k

/-- `transition_after(stream, is_reset_counted)` for a stream that did not leave
    `pending_reset_expired` in between -/
theorem transitionAfter_ev (s : Streams) (k : Nat) (b : Bool) (h : b = true → (s.stream k).resetAt = true) :
    EvB ρ s (s.transitionAfter k b) := by
  rw [Streams.transitionAfter_eq]
  have h0 : s.taResetCount k b = s := by
    unfold Streams.taResetCount
    cases b with
    | false => rfl
    | true => simp [Stream.isPendingResetExpiration, h rfl]
  rw [h0]
  exact .trans (.of_step (Streams.taClose_step (by decide) s _ k)) (.of_step (Streams.taRelease_step (by decide) _ k))

theorem EvB.relOK : RelOK (EvB ρ) := ⟨.refl, .trans, panic_ev⟩

theorem transition_ev {α : Type} (s : Streams) (k : Nat) (f : Streams → Streams × α) (hf : ∀ s, EvB ρ s (f s).1) :
    EvB ρ s (s.transition k f).1 := by
  rw [Streams.transition_fst]
  exact .trans (hf s) (transitionAfter_ev _ _ _ (fun hb => (hf s).mono.resetAt k hb))

theorem taBody_ev (s : Streams) (k : Nat) : EvB ρ s (Streams.taBody s k) := transitionAfter_ev s k _ id

theorem storeForEach_ev (s : Streams) (f : Streams → Nat → Streams) (hf : ∀ s k, EvB ρ s (f s k)) :
    EvB ρ s (s.storeForEach f) := Streams.storeForEach_rel EvB.relOK s f hf

end H2V.Lemmas.ConnCountsP
