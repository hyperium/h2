import H2V.Lemmas.ConnNoPanicPTac
import H2V.Lemmas.ConnWakePTear
import H2V.Lemmas.CompState
/-
  C08 (no panic): `LT` for the functions of prioritize.rs / send.rs that work on one stream
  (everything except the loops that release streams: `pop_frame`, `clear_pending_*`, `try_for_each`).
  `SP`: no entry's core (`coreOf`: state, buffered data, send queue, reset mark) changes; a step has it by its footprint (`SP.of_step`).
-/
namespace H2V.Lemmas.ConnNoPanicP
open H2V H2V.Model H2V.Model.Conn H2V.Lemmas.ConnCountsP
attribute [local irreducible] wrapSubU32 wrapSubUsize

theorem scheduleSend_lt (s : Streams) (k : Nat) : LT [k] s (s.scheduleSend k) := by
  unfold Streams.scheduleSend; lt_auto
theorem queueFrame_lt (s : Streams) (k : Nat) (f : SFrame) : LT [k] s (s.queueFrame k f) := by
  unfold Streams.queueFrame; lt_auto
theorem queueOpen_lt (s : Streams) (k : Nat) : LT [k] s (s.queueOpen k) := by
  unfold Streams.queueOpen; lt_auto
theorem tryAssignCapacity_lt (s : Streams) (k : Nat) : LT [k] s (s.tryAssignCapacity k) := by
  unfold Streams.tryAssignCapacity; lt_auto

/-- the fields of a stream that decide `is_closed` / `is_send_streaming` / `reset_at` -/
def coreOf (x : Stream) : State × Nat × List SFrame × Bool := (x.state, x.bufferedSendData, x.pendingSend, x.resetAt)

def SP (s s' : Streams) : Prop := ∀ j, coreOf (s'.stream j) = coreOf (s.stream j)

theorem assignCapacity_core (x : Stream) (a b : Nat) : coreOf (x.assignCapacity a b).1 = coreOf x := by
  unfold Stream.assignCapacity Stream.notifyCapacity Stream.notifySend
  simp only []
  split
  · cases h1 : x.sendTask <;> cases h2 : x.openTask <;> rfl
  · rfl

/-- the kinds of update that leave the core of every entry alone -/
def SP.kinds : Kind → Bool
  | .insert | .release | .state _ | .frame _ | .popFrame | .clearSend | .chargeData | .buffer
  | .enqueue .pendingResetExpired | .dequeue .pendingResetExpired => false
  | _ => true

/-- entry by entry (`Streams.Step.stream_rel`) -/
theorem SP.of_step {s s' : Streams} (h : Streams.Step SP.kinds s s') : SP s s' :=
  h.stream_rel (r := fun x y => coreOf y = coreOf x) (fun _ => rfl) (fun h1 h2 => h2.trans h1)
    (fun x y u => by
      cases u with
      | state v h | reserved v h => obtain ⟨f, hf⟩ := h.kind; cases hf
      | sendData _ _ h | buffered _ h | pushSend _ h | unpopData _ _ h | popSend _ _ h | dropSend h | clearSend h | keepOnlyHead h =>
        cases h
      | decContentLength n _ h => obtain ⟨_, rfl⟩ := Stream.decContentLength_eq h; rfl
      | _ => rfl)
    (fun x p u => by
      cases u with
      | notifySend => rw [Stream.notifySend_fst]; rfl
      | notifyRecv => rw [Stream.notifyRecv_fst]; rfl
      | notifyPush => rw [Stream.notifyPush_fst]; rfl
      | notifyCapacity => rw [Stream.notifyCapacity_fst]; rfl
      | assignCapacity c m _ => exact assignCapacity_core x c m
      | setReset r i h => obtain ⟨f, hf⟩ := h.kind; cases hf)
    (fun x q v h1 h2 => by
      cases q <;> first | rfl | (cases v <;> first | cases h1 rfl | cases h2 rfl))
    (fun _ _ _ => rfl) (fun h => absurd h (by decide)) rfl

theorem tryAssignCapacity_sp (s : Streams) (k : Nat) : SP s (s.tryAssignCapacity k) :=
  .of_step (Streams.tryAssignCapacity_step (by decide) s k)

theorem transitionAfter_noop {s : Streams} {k : Nat} {b : Bool} (hc : (s.stream k).isClosed = false)
    (hb : b = true → (s.stream k).resetAt = true) : s.transitionAfter k b = s := by
  rw [Streams.transitionAfter_of_not_closed hc, Streams.taResetCount]
  cases b
  · rfl
  · simp [Stream.isPendingResetExpiration, hb rfl]

theorem isClosed_of_core {a b : Stream} (h : coreOf b = coreOf a) : b.isClosed = a.isClosed := by
  unfold coreOf at h
  simp only [Prod.mk.injEq] at h
  unfold Stream.isClosed; rw [h.1, h.2.1, h.2.2.1]
theorem resetAt_of_core {a b : Stream} (h : coreOf b = coreOf a) : b.resetAt = a.resetAt := by
  unfold coreOf at h
  simp only [Prod.mk.injEq] at h
  exact h.2.2.2

theorem assignConnectionCapacityLoop_lt (n : Nat) (s : Streams) : LT [] s (Streams.assignConnectionCapacityLoop n s) := by
  induction n generalizing s with
  | zero => unfold Streams.assignConnectionCapacityLoop; exact .refl _ _
  | succ n ih =>
    unfold Streams.assignConnectionCapacityLoop
    split
    · split
      · next s1 heq => exact of_fst_eq heq (qPopCap_lt s)
      · next s1 id heq =>
        have h1 : LT [] s s1 := of_fst_eq heq (qPopCap_lt s)
        dsimp only
        split
        · exact h1.trans (ih s1) (fun _ h => h)
        · next hc =>
          have hc' : ((s1.stream id).state.isSendStreaming || decide ((s1.stream id).bufferedSendData > 0)) = true := by
            cases hh : ((s1.stream id).state.isSendStreaming || decide ((s1.stream id).bufferedSendData > 0)) with
            | true => rfl
            | false => rw [hh] at hc; simp at hc
          have hsp := tryAssignCapacity_sp s1 id id
          have hnc : ((s1.tryAssignCapacity id).stream id).isClosed = false := by
            rw [isClosed_of_core hsp]; exact Streams.Stream.isClosed_of_sending hc'
          rw [transitionAfter_noop hnc (fun hb => by rw [resetAt_of_core hsp]; exact hb)]
          refine LT.trans (ks' := []) ?_ (ih _) (fun _ h => h)
          exact ⟨h1.keys.trans (tryAssignCapacity_lt s1 id).keys, (tryAssignCapacity_lt s1 id).ids.trans h1.ids,
            h1.sid.trans (tryAssignCapacity_lt s1 id).sid, h1.ref.trans (tryAssignCapacity_lt s1 id).ref,
            h1.err.trans (tryAssignCapacity_lt s1 id).err,
            fun hl hq => (tryAssignCapacity_lt s1 id).ok
              (fun k hk => by rw [List.mem_singleton] at hk; subst hk; exact (qPop_live hq.qc.live heq).2) (h1.ok hl hq)⟩
    · exact .refl _ _

theorem assignConnectionCapacity_lt (s : Streams) (inc : Nat) : LT [] s (s.assignConnectionCapacity inc) := by
  unfold Streams.assignConnectionCapacity; lt_auto

theorem reserveCapacity_lt (s : Streams) (k cap : Nat) : LT [k] s (s.reserveCapacity k cap) := by
  unfold Streams.reserveCapacity; lt_auto

theorem recvConnectionWindowUpdate_lt (s : Streams) (inc : Nat) : LT [] s (s.recvConnectionWindowUpdate inc).1 := by
  unfold Streams.recvConnectionWindowUpdate; lt_auto

theorem reclaimAllCapacity_lt (s : Streams) (k : Nat) : LT [k] s (s.reclaimAllCapacity k) := by
  unfold Streams.reclaimAllCapacity; lt_auto

theorem clearQueue_lt (s : Streams) (k : Nat) : LT [k] s (s.clearQueue k) := by
  unfold Streams.clearQueue; lt_auto

theorem sendOpenId_lt (s : Streams) : LT [] s s.sendOpenId.1 := by
  unfold Streams.sendOpenId; lt_auto

theorem sendHeaders_lt (s : Streams) (k : Nat) (eos : Bool) (f : List Hpack.Field) : LT [k] s (s.sendHeaders k eos f).1 := by
  unfold Streams.sendHeaders; lt_auto

theorem sendReserveLocal_lt (s : Streams) : LT [] s s.sendReserveLocal.1 := by
  unfold Streams.sendReserveLocal; exact sendOpenId_lt s

theorem sendPushPromise_lt (s : Streams) (p pk pid : Nat) (f : List Hpack.Field) : LT [p] s (s.sendPushPromise p pk pid f).1 := by
  unfold Streams.sendPushPromise; lt_auto

theorem sendInterimInformationalHeaders_lt (s : Streams) (k : Nat) (f : List Hpack.Field) :
    LT [k] s (s.sendInterimInformationalHeaders k f).1 := by
  unfold Streams.sendInterimInformationalHeaders; lt_auto

theorem sendSendReset_lt (s : Streams) (k : Nat) (r : Reason) (i : Initiator) : LT [k] s (s.sendSendReset k r i) := by
  unfold Streams.sendSendReset; lt_auto

theorem pollCapacity_lt (s : Streams) (k : Nat) (tag : String) : LT [k] s (s.pollCapacity k tag).1 := by
  unfold Streams.pollCapacity; lt_auto

theorem pollReset_lt (s : Streams) (k : Nat) (m : PollReset) (tag : String) : LT [k] s (s.pollReset k m tag).1 := by
  unfold Streams.pollReset; lt_auto

theorem sendRecvGoAway_lt (s : Streams) (l : Nat) : LT [] s (s.sendRecvGoAway l).1 := by
  unfold Streams.sendRecvGoAway; lt_auto

theorem sendHandleError_lt (s : Streams) (k : Nat) : LT [k] s (s.sendHandleError k) := by
  unfold Streams.sendHandleError; lt_auto

theorem sendMaybeResetNextStreamId_lt (s : Streams) (id : Nat) : LT [] s (s.sendMaybeResetNextStreamId id) := by
  unfold Streams.sendMaybeResetNextStreamId; lt_auto
/-- a panicking branch behind a light step: fine if it cannot be reached -/
theorem LT.panic_of {ks : List Nat} {s t : Streams} (m : String) (h : LT ks s t) (hf : LiveAll s ks → NPQ s → False) :
    LT ks s (t.panic m) :=
  ⟨h.keys.trans (SameKeys.panic' _ _), (by rw [panic_store]; exact h.ids), h.sid.trans (.of_store (panic_store _ _)),
   h.ref.trans (.of_store (panic_store _ _)), h.err.trans (panic_errSame _ _), fun hl hq => (hf hl hq).elim⟩

theorem state_of_core {a b : Stream} (h : coreOf b = coreOf a) : b.state = a.state := by
  unfold coreOf at h
  simp only [Prod.mk.injEq] at h
  exact h.1

def SS (s s' : Streams) : Prop := ∀ j, (s'.stream j).state = (s.stream j).state
theorem SS.refl (s : Streams) : SS s s := fun _ => rfl
theorem SS.trans {a b c : Streams} (h1 : SS a b) (h2 : SS b c) : SS a c := fun j => (h2 j).trans (h1 j)
theorem SS.modStream (s : Streams) (k : Nat) (f : Stream → Stream) (hk : ∀ x, (f x).key = x.key)
    (h : ∀ x, (f x).state = x.state) : SS s (s.modStream k f) := SPr.modStream s k f hk h

theorem sendTrailers_lt (s : Streams) (k : Nat) (f : List Hpack.Field) : LT [k] s (s.sendTrailers k f).1 := by
  unfold Streams.sendTrailers
  split
  · exact .refl _ _
  · split
    · exact .refl _ _
    · next hss =>
      have hss' : (s.stream k).state.isSendStreaming = true := by
        cases h : (s.stream k).state.isSendStreaming with
        | true => rfl
        | false => rw [h] at hss; simp at hss
      obtain ⟨st', hst'⟩ := Option.isSome_iff_exists.mp (Comp.sendClose_some_of_isSendStreaming _ hss')
      simp only [hst']
      lt_auto

theorem prioSendData_lt (s : Streams) (k len : Nat) (eos : Bool) : LT [k] s (s.prioSendData k len eos).1 := by
  unfold Streams.prioSendData
  refine LT.ite_fst _ (fun _ => .refl _ _) (fun _ => ?_)
  · dsimp only
    refine LT.ite_fst _ (fun _ => .refl _ _) (fun hss => ?_)
    · have hss' : (s.stream k).state.isSendStreaming = true := by
        cases h : (s.stream k).state.isSendStreaming with
        | true => rfl
        | false => rw [h] at hss; simp at hss
      have key : ∀ t : Streams, SS s t → (t.stream k).state.sendClose = none → False := fun t ht h => by
        rw [ht k] at h
        have := Comp.sendClose_some_of_isSendStreaming _ hss'
        rw [h] at this; cases this
      have h1 : SS s (s.modStream k fun st => { st with bufferedSendData := st.bufferedSendData + len }) :=
        SS.modStream _ _ _ (fun _ => rfl) (fun _ => rfl)
      split
      · split
        · lt_auto
        · next heq =>
          refine (key _ ?_ heq).elim
          split
          · refine SS.trans ?_ (fun j => state_of_core (tryAssignCapacity_sp _ _ j))
            refine SS.trans h1 (SS.modStream _ _ _ ?_ ?_)
            · intro _; rfl
            · intro _; rfl
          · exact h1
      · lt_auto

theorem claim_reserved_ok (f : FlowControl) (B : Nat) (hA : f.available.val ≤ 2147483647) (hB : f.available.asSize > B) :
    (f.claimCapacity (wrapSubU32 f.available.asSize (usizeAsU32 B))).2 = .ok () := by
  have hpos : ¬ f.available.val < 0 := by
    intro h; unfold Window.asSize at hB; rw [if_pos h] at hB; omega
  have ha : f.available.asSize = f.available.val.toNat := by unfold Window.asSize; rw [if_neg hpos]
  rw [ha] at hB ⊢
  generalize hv : f.available.val = A at *
  have hr : wrapSubU32 A.toNat (usizeAsU32 B) = A.toNat - B := by
    unfold wrapSubU32 usizeAsU32 U32_MOD; omega
  rw [hr]
  have hu : u32AsI32 (A.toNat - B) = ((A.toNat - B : Nat) : Int) := by
    unfold u32AsI32 U32_MOD
    have : (A.toNat - B) % 4294967296 = A.toNat - B := by omega
    simp only [this]
    rw [if_pos (by omega)]
  unfold FlowControl.claimCapacity Window.decreaseBy checkedSub
  rw [hv, hu]
  have : inI32 (A - ((A.toNat - B : Nat) : Int)) = true := by
    unfold inI32 I32_MIN I32_MAX
    simp only [Bool.and_eq_true, decide_eq_true_eq]
    omega
  simp only [this, if_true]

/-- an `expect` on a `Result` that is `Ok` in every good state -/
theorem LT.guard_ok {ks : List Nat} {s : Streams} (r : FlowRes) (m : String) :
    (LiveAll s ks → NPQ s → r = .ok ()) → LT ks s (match r with | .ok _ => s | .error _ => s.panic m) := by
  intro h
  cases r with
  | ok _ => exact .refl _ _
  | error e => exact LT.unreachable (panic_store _ _) (panic_errSame _ _) (fun hl hq => by have := h hl hq; cases this)

theorem reclaimReservedCapacity_lt (s : Streams) (k : Nat) : LT [k] s (s.reclaimReservedCapacity k) := by
  unfold Streams.reclaimReservedCapacity
  dsimp only
  split
  · next hgt =>
    refine LT.trans (ks' := []) ?_ (assignConnectionCapacity_lt _ _) (fun _ h => absurd h List.not_mem_nil)
    have hav : LiveAll s [k] → NPQ s → (s.stream k).sendFlow.available.val ≤ 2147483647 := fun hl hq =>
      hq.av _ (get?_mem (hl k (List.mem_cons_self ..)).stream)
    have hg := LT.guard_ok (ks := [k]) (s := s)
      ((s.stream k).sendFlow.claimCapacity (wrapSubU32 (s.stream k).sendFlow.available.asSize (usizeAsU32 (s.stream k).bufferedSendData))).2
      "window size should be greater than reserved" (fun hl hq => claim_reserved_ok _ _ (hav hl hq) hgt)
    refine LT.trans hg (modStream_lt' _ _ _ ?_) (fun _ h => h)
    refine setSendFlow_inert _ _ ?_
    intro hle
    refine claimCapacity_le _ _ ?_
    have : ∀ (r : FlowRes) (m : String), ((match r with | .ok _ => s | .error _ => s.panic m).stream k) = s.stream k := by
      intro r m; cases r
      · exact panic_stream _ _ _
      · rfl
    rw [this] at hle; exact hle
  · exact .refl _ _

theorem scheduleImplicitReset_lt (s : Streams) (k : Nat) (r : Reason) : LT [k] s (s.scheduleImplicitReset k r) := by
  unfold Streams.scheduleImplicitReset; lt_auto

theorem incWindow_available (f : FlowControl) (n : Nat) : (f.incWindow n).1.available = f.available := by
  unfold FlowControl.incWindow; dsimp only; split
  · rfl
  · split <;> rfl

theorem decSendWindow_available (f : FlowControl) (n : Nat) : (f.decSendWindow n).1.available = f.available := by
  unfold FlowControl.decSendWindow; rfl

theorem prioRecvStreamWindowUpdate_lt (s : Streams) (k inc : Nat) : LT [k] s (s.prioRecvStreamWindowUpdate k inc).1 := by
  unfold Streams.prioRecvStreamWindowUpdate
  dsimp only
  split
  · exact .refl _ _
  · split
    · exact .refl _ _
    · exact .refl _ _
    · next fl _ heq =>
      refine LT.trans (modStream_lt' _ _ _ ?_) (tryAssignCapacity_lt _ _) (fun _ h => h)
      refine setSendFlow_inert _ _ (fun h => ?_)
      have : fl = ((s.stream k).sendFlow.incWindow inc).1 := by rw [heq]
      rw [this, incWindow_available]; exact h

theorem sendRecvStreamWindowUpdate_lt (s : Streams) (k sz : Nat) : LT [k] s (s.sendRecvStreamWindowUpdate k sz).1 := by
  unfold Streams.sendRecvStreamWindowUpdate; lt_auto

theorem decStreamWindow_lt (dec acc : Nat) (s : Streams) (k : Nat) : LT [k] s (Streams.decStreamWindow dec acc s k).1 := by
  unfold Streams.decStreamWindow
  dsimp only
  split
  · exact .refl _ _
  · split
    · exact .refl _ _
    · next fl _ heq =>
      have hfl : fl.available = (s.stream k).sendFlow.available := by
        have : fl = ((s.stream k).sendFlow.decSendWindow dec).1 := by rw [heq]
        rw [this, decSendWindow_available]
      split
      · split
        · refine modStream_lt' _ _ _ (setSendFlow_inert _ _ (fun h => ?_))
          rw [hfl]; exact h
        · next fl2 _ heq2 =>
          refine modStream_lt' _ _ _ (setSendFlow_inert _ _ (fun h => ?_))
          have : fl2 = (fl.claimCapacity (fl.available.asSize - fl.windowSz)).1 := by rw [heq2]
          rw [this]; exact claimCapacity_le _ _ (by rw [hfl]; exact h)
      · refine modStream_lt' _ _ _ (setSendFlow_inert _ _ (fun h => ?_))
        rw [hfl]; exact h
