import H2V.Lemmas.ConnNoPanicPPollComplete
import H2V.Lemmas.ConnNoPanicPIdsPush
import H2V.Lemmas.ConnNoPanicPRel
/-
  C08 (no panic) — `FI` is a reachable invariant: the frame relation `SK`.

  `FI` (ConnNoPanicPPollOpen.lean) alone is not inductive: `send_headers` puts a locally initiated stream
  into `pending_open` whenever `State::send_open` succeeds, so one has to know that such a stream is not
  counted.  The fact behind it: a locally initiated stream whose send half has NOT been opened yet
  (`suB`: `Idle`, `ReservedLocal`, `Open{local: AwaitingHeaders}`, `HalfClosedRemote(AwaitingHeaders)` — the
  states from which `send_open` succeeds) carries nothing: not counted, not in `pending_open`, nothing
  queued, nothing buffered (`Nil`).  `SK sv s s'` is the frame relation for it: no entry is created, an
  entry that is still send-unopened afterwards was so before, kept `is_pending_push` and, if locally
  initiated, stayed `Nil`.  Every step of the stream layer whose kinds are among `SK.kinds` is `SK` (`SK.of_step`; per
  entry `SR.of_upd`; the state machine's part is `suB_of_step`), so a function has it by its footprint.  The functions that
  queue a frame, count a stream or put it into `pending_open` do so for an entry whose send half is open (`Opn`): a fact
  of their context; they are walked by `sk_auto` (same design as `fk_auto`), which takes the other callees from `SK.of_step`.
-/
namespace H2V.Lemmas.ConnNoPanicP
open H2V H2V.Model H2V.Model.Conn H2V.Lemmas.ConnCountsP
attribute [local irreducible] wrapSubU32 wrapSubUsize

/-- the send half has not been opened: `State::send_open` would succeed -/
def suB (st : State) : Bool :=
  match st.inner with
  | .idle | .reservedLocal | .open .awaitingHeaders _ | .halfClosedRemote .awaitingHeaders => true
  | _ => false

/-- the stream carries nothing: not counted, not waiting to be opened, nothing queued or buffered -/
structure Nil (x : Stream) : Prop where
  c : x.isCounted = false
  po : x.isPendingOpen = false
  ps : x.pendingSend = []
  bd : x.bufferedSendData = 0

/-- `b` is an update of `a`: same key and id, `is_pending_push` is not raised; if `b` is still send-unopened then
    so was `a`, `is_pending_push` was not cleared and (locally initiated) `Nil` was kept -/
structure SR (sv : Bool) (a b : Stream) : Prop where
  key : b.key = a.key
  id : b.id = a.id
  ppu : b.isPendingPush = true → a.isPendingPush = true
  su : suB b.state = true → suB a.state = true
  pp : suB b.state = true → a.isPendingPush = true → b.isPendingPush = true
  nil : suB b.state = true → locId sv a.id = true → Nil a → Nil b

variable {sv : Bool}

theorem SR.refl (a : Stream) : SR sv a a := ⟨rfl, rfl, fun h => h, fun h => h, fun _ h => h, fun _ _ h => h⟩
theorem SR.trans {a b c : Stream} (h1 : SR sv a b) (h2 : SR sv b c) : SR sv a c :=
  ⟨h2.key.trans h1.key, h2.id.trans h1.id, fun h => h1.ppu (h2.ppu h), fun h => h1.su (h2.su h),
   fun h hp => h2.pp h (h1.pp (h2.su h) hp),
   fun h hl hn => h2.nil h (by rw [h1.id]; exact hl) (h1.nil (h2.su h) hl hn)⟩

theorem SR.of_fields {a b : Stream} (hk : b.key = a.key) (hi : b.id = a.id) (hs : b.state = a.state)
    (h1 : b.isCounted = a.isCounted) (h2 : b.isPendingPush = a.isPendingPush) (h3 : b.isPendingOpen = a.isPendingOpen)
    (h4 : b.pendingSend = a.pendingSend) (h5 : b.bufferedSendData = a.bufferedSendData) : SR sv a b :=
  ⟨hk, hi, fun h => h2 ▸ h, fun h => hs ▸ h, fun _ h => h2 ▸ h,
   fun _ _ hn => ⟨h1.trans hn.c, h3.trans hn.po, h4.trans hn.ps, h5.trans hn.bd⟩⟩

theorem SR.of_nsu {a b : Stream} (hk : b.key = a.key) (hi : b.id = a.id) (hp : b.isPendingPush = true → a.isPendingPush = true)
    (h : suB b.state = false) : SR sv a b :=
  ⟨hk, hi, hp, fun h' => (by rw [h] at h'; cases h'), fun h' _ => (by rw [h] at h'; cases h'),
   fun h' _ _ => (by rw [h] at h'; cases h')⟩

theorem SR.of_not_nil {a b : Stream} (hk : b.key = a.key) (hi : b.id = a.id) (hs : b.state = a.state)
    (h2 : b.isPendingPush = a.isPendingPush) (h : locId sv a.id = true → Nil a → False) : SR sv a b :=
  ⟨hk, hi, fun h => h2 ▸ h, fun h => hs ▸ h, fun _ h => h2 ▸ h, fun _ hl hn => (h hl hn).elim⟩

theorem SR.of_nil {a b : Stream} (hk : b.key = a.key) (hi : b.id = a.id) (hs : b.state = a.state)
    (h2 : b.isPendingPush = a.isPendingPush) (h : Nil a → Nil b) : SR sv a b :=
  ⟨hk, hi, fun h => h2 ▸ h, fun h => hs ▸ h, fun _ h => h2 ▸ h, fun _ _ hn => h hn⟩

macro "sr_fields" : tactic => `(tactic| with_reducible exact SR.of_fields rfl rfl rfl rfl rfl rfl rfl rfl)

theorem notifySend_sr (x : Stream) : SR sv x x.notifySend.1 := by rw [Stream.notifySend_fst]; sr_fields
theorem notifyRecv_sr (x : Stream) : SR sv x x.notifyRecv.1 := by rw [Stream.notifyRecv_fst]; sr_fields
theorem notifyPush_sr (x : Stream) : SR sv x x.notifyPush.1 := by rw [Stream.notifyPush_fst]; sr_fields
theorem notifyCapacity_sr (x : Stream) : SR sv x x.notifyCapacity.1 := by rw [Stream.notifyCapacity_fst]; sr_fields
theorem assignCapacity_sr (x : Stream) (a b : Nat) : SR sv x (x.assignCapacity a b).1 := by
  rw [Stream.assignCapacity_fst]; split <;> sr_fields
theorem waitSend_sr (x : Stream) (t : String) : SR sv x (x.waitSend t) := by unfold Stream.waitSend; sr_fields
theorem waitOpen_sr (x : Stream) (t : String) : SR sv x (x.waitOpen t) := by unfold Stream.waitOpen; sr_fields

theorem suB_closed {st : State} (h : st.isClosed = true) : suB st = false := by
  obtain ⟨inner⟩ := st
  cases inner <;> first | rfl | (simp [State.isClosed] at h)

theorem setReset_sr (x : Stream) (r : Reason) (i : Initiator) : SR sv x (x.setReset r i).1 := by
  rw [Stream.setReset_fst]; exact SR.of_nsu rfl rfl (fun h => h) rfl

theorem setQueued_sr (x : Stream) (q : QName) (v : Bool) (h : q ≠ .pendingOpen ∨ v = false) : SR sv x (x.setQueued q v) := by
  cases q <;> first | exact SR.of_fields rfl rfl rfl rfl rfl rfl rfl rfl | skip
  rcases h with h | h
  · exact absurd rfl h
  · subst h; exact SR.of_nil rfl rfl rfl rfl (fun hn => ⟨hn.c, rfl, hn.ps, hn.bd⟩)

theorem setState_sr (x : Stream) (st' : State) (h : suB st' = false) : SR sv x { x with state := st' } :=
  SR.of_nsu rfl rfl (fun h => h) h

theorem setState_sr' (x : Stream) (st' : State) (h : suB st' = true → suB x.state = true) : SR sv x { x with state := st' } :=
  ⟨rfl, rfl, fun h => h, h, fun _ hp => hp, fun _ _ hn => ⟨hn.c, hn.po, hn.ps, hn.bd⟩⟩

theorem sendOpen_nsu {st st' : State} {eos : Bool} {u : Unit} (h : st.sendOpen eos = (st', .ok u)) : suB st' = false := by
  obtain ⟨inner⟩ := st
  unfold State.sendOpen at h
  cases inner with
  | idle => cases eos <;> cases h <;> rfl
  | reservedLocal => cases eos <;> cases h <;> rfl
  | «open» l r => cases l <;> cases eos <;> cases h <;> rfl
  | halfClosedRemote p => cases p <;> cases eos <;> cases h <;> rfl
  | _ => cases h
theorem sendOpen_su {st st' : State} {eos : Bool} {u : Unit} (h : st.sendOpen eos = (st', .ok u)) : suB st = true := by
  obtain ⟨inner⟩ := st
  unfold State.sendOpen at h
  cases inner with
  | idle => rfl
  | reservedLocal => rfl
  | «open» l r => cases l <;> first | rfl | cases h
  | halfClosedRemote p => cases p <;> first | rfl | cases h
  | _ => cases h
theorem sendClose_nsu {st st' : State} (h : st.sendClose = some st') : suB st' = false := by
  unfold State.sendClose at h
  split at h <;> cases h <;> rfl
theorem recvOpen_su {st st' : State} {a b : Bool} {r : Except PErr Bool} (h : st.recvOpen a b = (st', r)) :
    suB st' = true → suB st = true := by
  have : st' = (st.recvOpen a b).1 := by rw [h]
  subst this
  obtain ⟨inner⟩ := st
  cases inner with
  | idle => intro _; rfl
  | reservedLocal => intro _; rfl
  | reservedRemote => cases a <;> cases b <;> simp [State.recvOpen, suB]
  | «open» l r => cases l <;> cases r <;> cases a <;> cases b <;> simp [State.recvOpen, suB]
  | halfClosedLocal p => cases p <;> cases a <;> cases b <;> simp [State.recvOpen, suB]
  | halfClosedRemote p => cases p <;> simp [State.recvOpen, suB]
  | closed c => simp [State.recvOpen, suB]
theorem recvClose_su {st st' : State} {r : Except PErr Unit} (h : st.recvClose = (st', r)) :
    suB st' = true → suB st = true := by
  have : st' = st.recvClose.1 := by rw [h]
  subst this
  obtain ⟨inner⟩ := st
  cases inner with
  | «open» l r => cases l <;> simp [State.recvClose, suB]
  | halfClosedLocal p => simp [State.recvClose, suB]
  | _ => simp [State.recvClose]
theorem reserveRemote_su {st st' : State} {r : Except PErr Unit} (h : st.reserveRemote = (st', r)) :
    suB st' = true → suB st = true := by
  have : st' = st.reserveRemote.1 := by rw [h]
  subst this
  obtain ⟨inner⟩ := st
  cases inner <;> simp [State.reserveRemote, suB]
theorem reserveLocal_su {st st' : State} {r : Except UserError Unit} (h : st.reserveLocal = (st', r)) :
    suB st' = true → suB st = true := by
  have : st' = st.reserveLocal.1 := by rw [h]
  subst this
  obtain ⟨inner⟩ := st
  cases inner <;> simp [State.reserveLocal, suB]
theorem recvReset_nsu (st : State) (sid : Nat) (r : Reason) (q : Bool) : suB (st.recvReset sid r q) = false :=
  suB_closed (State.recvReset_isClosed st sid r q)
theorem handleError_nsu (st : State) (e : PErr) : suB (st.handleError e) = true → suB st = true := by
  obtain ⟨inner⟩ := st
  cases inner <;> simp [State.handleError, suB]
theorem recvEof_nsu (st : State) : suB st.recvEof = true → suB st = true := by
  obtain ⟨inner⟩ := st
  cases inner <;> simp [State.recvEof, suB]

/-- no function of state.rs takes a stream back to "send half unopened" -/
theorem suB_of_step {K : Kind → Bool} {id : Nat} {a b : State} (h : State.Step K id a b) : suB b = true → suB a = true := by
  cases h with
  | sendOpen eos _ h =>
    have : b = (a.sendOpen eos).1 := by rw [h]
    subst this
    obtain ⟨inner⟩ := a
    cases inner with
    | «open» l r => cases l <;> cases eos <;> simp [State.sendOpen, suB]
    | halfClosedRemote p => cases p <;> cases eos <;> simp [State.sendOpen, suB]
    | _ => cases eos <;> simp [State.sendOpen, suB]
  | sendClose _ h => intro hb; rw [sendClose_nsu h] at hb; cases hb
  | recvOpen _ _ _ h => exact recvOpen_su h
  | recvClose _ h => exact recvClose_su h
  | reserveRemote _ h => exact reserveRemote_su h
  | reserveLocal _ h => exact reserveLocal_su h
  | recvReset r q _ _ => intro hb; rw [recvReset_nsu] at hb; cases hb
  | handleError e _ _ => exact handleError_nsu _ _
  | recvEof _ => exact recvEof_nsu _
  | setScheduledReset | setReset | setResetScheduled => intro hb; cases hb

structure SK (sv : Bool) (s s' : Streams) : Prop where
  live : ∀ j, Live s' j → Live s j
  st : ∀ j, Live s' j → SR sv (s.stream j) (s'.stream j)
  nx : ∀ n', s'.actions.send.nextStreamId = some n' → ∃ n, s.actions.send.nextStreamId = some n ∧ n ≤ n'

theorem SK.refl (s : Streams) : SK sv s s := ⟨fun _ h => h, fun _ _ => SR.refl _, fun n h => ⟨n, h, Nat.le_refl _⟩⟩
theorem SK.trans {a b c : Streams} (h1 : SK sv a b) (h2 : SK sv b c) : SK sv a c :=
  ⟨fun j h => h1.live j (h2.live j h), fun j h => (h1.st j (h2.live j h)).trans (h2.st j h),
   fun n'' h => by
     obtain ⟨n', hn', hle'⟩ := h2.nx n'' h
     obtain ⟨n, hn, hle⟩ := h1.nx n' hn'
     exact ⟨n, hn, Nat.le_trans hle hle'⟩⟩
theorem SK.of_store {s s' : Streams} (h : s'.store = s.store)
    (hn : s'.actions.send.nextStreamId = s.actions.send.nextStreamId) : SK sv s s' :=
  ⟨fun j hl => by unfold Live at *; rw [← h]; exact hl, fun j _ => by rw [stream_of_store_eqP h]; exact SR.refl _,
   fun n h' => ⟨n, hn ▸ h', Nat.le_refl _⟩⟩

theorem panic_sk (s : Streams) (m : String) : SK sv s (s.panic m) := .of_store (panic_store _ _) (by rw [panic_actions])
theorem sk_relOK : Conn.RelOK (SK sv) := ⟨SK.refl, SK.trans, panic_sk⟩
theorem unsup_sk (s : Streams) (m : String) : SK sv s (s.unsup m) := by
  unfold Streams.unsup; split
  · exact .refl _
  · exact .of_store rfl rfl
theorem wake_sk (s : Streams) (t : List String) : SK sv s (s.wake t) := .of_store rfl rfl
theorem notifyTask_sk (s : Streams) : SK sv s s.notifyTask := by
  unfold Streams.notifyTask; split
  · exact .of_store rfl rfl
  · exact .refl _
theorem modPrio_sk (s : Streams) (f : Prioritize → Prioritize) : SK sv s (s.modPrio f) := .of_store rfl rfl
theorem modRecv_sk (s : Streams) (f : Recv → Recv) : SK sv s (s.modRecv f) := .of_store rfl rfl
theorem modSend_sk (s : Streams) (f : Send → Send) (h : ∀ p, (f p).nextStreamId = p.nextStreamId) : SK sv s (s.modSend f) :=
  .of_store rfl (h _)
theorem modSend_sk_next (s : Streams) (f : Send → Send)
    (h : ∀ n', (f s.actions.send).nextStreamId = some n' → ∃ n, s.actions.send.nextStreamId = some n ∧ n ≤ n') :
    SK sv s (s.modSend f) :=
  ⟨fun _ hl => hl, fun _ _ => SR.refl _, h⟩
theorem modCounts_sk (s : Streams) (f : Counts → Counts) : SK sv s (s.modCounts f) := .of_store rfl rfl
theorem modCountsA_sk (s : Streams) (w : String) (f : Counts → Option Counts) : SK sv s (s.modCountsA w f) := by
  unfold Streams.modCountsA; split
  · exact .of_store rfl rfl
  · exact panic_sk _ _
theorem setQ_sk (s : Streams) (q : QName) (l : List Nat) : SK sv s (s.setQ q l) :=
  .of_store (setQ_store _ _ _) (by cases q <;> rfl)
theorem setCounts_sk (s : Streams) (c : Counts) : SK sv s { s with counts := c } := .of_store rfl rfl

theorem setStream_sk (s : Streams) (st' : Stream) (h : SR sv (s.stream st'.key) st') : SK sv s (s.setStream st') := by
  refine ⟨fun j hl => (SameKeys.setStream _ _).live.mp hl, fun j _ => ?_, fun n h' => ⟨n, h', Nat.le_refl _⟩⟩
  rcases setStream_stream s st' j with e | ⟨e, hj, _⟩
  · rw [e]; exact SR.refl _
  · rw [e, hj]; exact h

theorem modStream_sk' (s : Streams) (k : Nat) (f : Stream → Stream) (h : SR sv (s.stream k) (f (s.stream k))) :
    SK sv s (s.modStream k f) := by
  unfold Streams.modStream
  split
  · next st hst =>
    rw [stream_of_get? hst] at h
    refine setStream_sk s _ ?_
    rw [h.key, get?_key hst, stream_of_get? hst]; exact h
  · exact panic_sk _ _

theorem modStream_sk (s : Streams) (k : Nat) (f : Stream → Stream) (h : ∀ x, SR sv x (f x)) : SK sv s (s.modStream k f) :=
  modStream_sk' s k f (h _)

theorem modStreamW_sk' (s : Streams) (k : Nat) (f : Stream → Stream × List String) (h : SR sv (s.stream k) (f (s.stream k)).1) :
    SK sv s (s.modStreamW k f) := by
  unfold Streams.modStreamW
  split
  · next st hst =>
    rw [stream_of_get? hst] at h
    refine (setStream_sk s _ ?_).trans (wake_sk _ _)
    rw [h.key, get?_key hst, stream_of_get? hst]; exact h
  · exact panic_sk _ _

theorem modStreamW_sk (s : Streams) (k : Nat) (f : Stream → Stream × List String) (h : ∀ x, SR sv x (f x).1) :
    SK sv s (s.modStreamW k f) := modStreamW_sk' s k f (h _)

theorem qPush_sk (s : Streams) (q : QName) (k : Nat) (hq : q ≠ .pendingOpen) : SK sv s (s.qPush q k).1 := by
  unfold Streams.qPush; split
  · exact .refl _
  · exact (modStream_sk _ _ _ (fun x => setQueued_sr x q true (.inl hq))).trans (setQ_sk _ _ _)
theorem qPushFront_sk (s : Streams) (q : QName) (k : Nat) (hq : q ≠ .pendingOpen) : SK sv s (s.qPushFront q k).1 := by
  unfold Streams.qPushFront; split
  · exact .refl _
  · exact (modStream_sk _ _ _ (fun x => setQueued_sr x q true (.inl hq))).trans (setQ_sk _ _ _)
theorem qPop_sk (s : Streams) (q : QName) : SK sv s (s.qPop q).1 := by
  unfold Streams.qPop; split
  · exact .refl _
  · exact (setQ_sk _ _ _).trans (modStream_sk _ _ _ (fun x => setQueued_sr x q false (.inr rfl)))

theorem decNumStreams_sk (s : Streams) (k : Nat) : SK sv s (s.decNumStreams k) := by
  have hlow : ∀ x : Stream, SR sv x { x with isCounted := false } :=
    fun x => SR.of_nil rfl rfl rfl rfl (fun hn => ⟨rfl, hn.po, hn.ps, hn.bd⟩)
  unfold Streams.decNumStreams
  dsimp only
  generalize hs1 : (if (s.stream k).isCounted = true then s else s.panic _) = s1
  have h1 : SK sv s s1 := by rw [← hs1]; split; exact .refl _; exact panic_sk _ _
  split
  · generalize hs2 : (if s1.counts.numSendStreams > 0 then s1 else s1.panic _) = s2
    have h2 : SK sv s1 s2 := by rw [← hs2]; split; exact .refl _; exact panic_sk _ _
    exact (h1.trans (h2.trans (modCounts_sk _ _))).trans (modStream_sk _ _ _ hlow)
  · generalize hs2 : (if s1.counts.numRecvStreams > 0 then s1 else s1.panic _) = s2
    have h2 : SK sv s1 s2 := by rw [← hs2]; split; exact .refl _; exact panic_sk _ _
    exact (h1.trans (h2.trans (modCounts_sk _ _))).trans (modStream_sk _ _ _ hlow)

theorem remove_sk (s : Streams) (k n : Nat) : SK sv s { s with store := s.store.remove k, recvBufferLeaked := n } := by
  refine ⟨fun j ⟨x, hx⟩ => ?_, fun j ⟨x, hx⟩ => ?_, fun n h' => ⟨n, h', Nat.le_refl _⟩⟩
  all_goals
    have hx' : (s.store.remove k).get? j = some x := hx
    rw [Store.get?_remove] at hx'
    split at hx'
    · cases hx'
  · exact ⟨x, hx'⟩
  · rw [stream_remove, if_neg ‹_›]; exact SR.refl _

theorem unlink_sk (s : Streams) (id : Nat) : SK sv s { s with store := s.store.unlink id } :=
  ⟨fun _ hl => hl, fun _ _ => SR.refl _, fun n h' => ⟨n, h', Nat.le_refl _⟩⟩

theorem drop_nil {α : Type} {l : List α} (h : l = []) : l.drop 1 = [] := by rw [h]; rfl

macro "sr_tac" : tactic => `(tactic| with_reducible first
  | exact SR.of_fields rfl rfl rfl rfl rfl rfl rfl rfl
  | exact notifySend_sr _ | exact notifyRecv_sr _ | exact notifyPush_sr _ | exact notifyCapacity_sr _
  | exact assignCapacity_sr _ _ _ | exact setReset_sr _ _ _ | exact waitSend_sr _ _ | exact waitOpen_sr _ _
  | exact SR.of_nsu rfl rfl (fun h => h) rfl
  | exact SR.of_nsu rfl rfl (fun h => h) (recvReset_nsu _ _ _ _)
  | exact setState_sr' _ _ (handleError_nsu _ _)
  | exact setState_sr' _ _ (recvEof_nsu _)
  | exact SR.of_nil rfl rfl rfl rfl (fun hn => ⟨hn.c, hn.po, rfl, rfl⟩)
  | exact SR.of_nil rfl rfl rfl rfl (fun hn => ⟨hn.c, hn.po, drop_nil hn.ps, hn.bd⟩)
  | exact SR.of_nil rfl rfl rfl rfl (fun hn => ⟨rfl, hn.po, hn.ps, hn.bd⟩))

theorem decContentLength_sr {x y : Stream} {n : Nat} (h : x.decContentLength n = some y) : SR sv x y := by
  unfold Stream.decContentLength at h
  split at h
  · split at h
    · cases h; sr_fields
    · cases h
  · split at h
    · cases h
    · cases h; exact SR.refl _
  · cases h; exact SR.refl _

/-- all kinds but those that can break `SK`: a new entry; `is_counted`, `is_pending_open`, `is_pending_push` raised,
    `is_pending_push` lowered; a frame queued, `buffered_send_data` raised, or lowered by `send_data` (a send-unopened
    local entry carries nothing: `Nil`) -/
def SK.kinds : Kind → Bool
  | .insert | .count | .enqueue .pendingOpen | .pendPush | .activatePush | .frame _ | .buffer | .chargeData => false
  | _ => true

theorem SR.of_updW {K : Kind → Bool} {x : Stream} {p : Stream × List String} (h : Stream.UpdW K x p) : SR sv x p.1 := by
  cases h with
  | notifySend => exact notifySend_sr x
  | notifyRecv => exact notifyRecv_sr x
  | notifyPush => exact notifyPush_sr x
  | notifyCapacity => exact notifyCapacity_sr x
  | assignCapacity c m _ => exact assignCapacity_sr x c m
  | setReset r i _ => exact setReset_sr x r i

theorem SR.of_upd {x y : Stream} (h : Stream.Upd SK.kinds x y) : SR sv x y := by
  cases h with
  | state v hs => exact setState_sr' x v (suB_of_step hs)
  | reserved _ _ h | activated h | buffered _ h | unpopData _ _ h | sendData _ _ h _ => exact absurd h (by decide)
  | pushSend f h => cases h
  -- an entry that has a front frame is not `Nil`
  | popSend f rest _ h => exact SR.of_nil rfl rfl rfl rfl (fun hn => by rw [hn.ps] at h; cases h)
  | keepOnlyHead _ => exact SR.of_nil rfl rfl rfl rfl (fun hn => ⟨hn.c, hn.po, by show List.take 1 x.pendingSend = []; rw [hn.ps]; rfl, rfl⟩)
  | decContentLength n _ h => exact decContentLength_sr h
  | dropSend _ => exact SR.of_nil rfl rfl rfl rfl (fun hn => ⟨hn.c, hn.po, drop_nil hn.ps, hn.bd⟩)
  | clearSend _ => exact SR.of_nil rfl rfl rfl rfl (fun hn => ⟨hn.c, hn.po, rfl, rfl⟩)
  | _ => exact SR.of_fields rfl rfl rfl rfl rfl rfl rfl rfl

theorem next_of_upd {K : Kind → Bool} {p q : Send} (h : Send.Upd K p q) :
    ∀ n', q.nextStreamId = some n' → ∃ n, p.nextStreamId = some n ∧ n ≤ n' := by
  cases h with
  | bumpNext n id _ hn hle =>
    intro n' hn'
    refine ⟨n, hn, ?_⟩
    have hn'' : (if id + 2 > 2147483647 then none else some (id + 2)) = some n' := hn'
    split at hn''
    · cases hn''
    · cases hn''; omega
  | _ => exact fun n' hn' => ⟨n', hn', Nat.le_refl _⟩

theorem SK.of_step {s s' : Streams} (h : Streams.Step SK.kinds s s') : SK sv s s' := by
  induction h with
  | refl s => exact .refl s
  | trans _ _ ih1 ih2 => exact ih1.trans ih2
  | panic s m => exact panic_sk s m
  | unsup s m => exact unsup_sk s m
  | wake s t => exact wake_sk s t
  | notifyTask s _ => exact notifyTask_sk s
  | setTask | setConnError | setRefs => exact .of_store rfl rfl
  | modPrio s f _ => exact modPrio_sk s f
  | modSend s f h => exact modSend_sk_next s f (next_of_upd h)
  | modRecv s f _ => exact modRecv_sk s f
  | setCounts s c _ => exact setCounts_sk s c
  | qPush s q k h => exact qPush_sk s q k fun e => by subst e; exact absurd h (by decide)
  | qPushFront s q k h => exact qPushFront_sk s q k fun e => by subst e; exact absurd h (by decide)
  | qPop s q _ => exact qPop_sk s q
  | incNumSendStreams _ _ h | incNumRecvStreams _ _ h | insert _ _ _ _ h | insertWith _ _ _ _ _ h | undoInsert _ _ _ h =>
    exact absurd h (by decide)
  | decNumStreams s k => exact decNumStreams_sk s k
  | modStream s k f h => exact modStream_sk' s k f (.of_upd h)
  | modStreamW s k f h => exact modStreamW_sk' s k f (.of_updW h)
  | setStream s x h => exact setStream_sk s x (.of_upd h)
  | unlink s id _ => exact unlink_sk s id
  | remove s k n _ _ _ => exact remove_sk s k n

theorem transitionAfter_sk (s : Streams) (k : Nat) (b : Bool) : SK sv s (s.transitionAfter k b) :=
  .of_step (Streams.transitionAfter_step (by decide) s k b)

syntax "sk_side" : tactic
macro_rules | `(tactic| sk_side) => `(tactic| (intro _; exact Eq.refl _))
macro_rules | `(tactic| sk_side) => `(tactic| (intro _; sr_tac))
macro_rules | `(tactic| sk_side) => `(tactic| decide)
macro_rules | `(tactic| sk_side) => `(tactic| with_reducible assumption)

syntax "sk_step" : tactic
macro_rules | `(tactic| sk_step) => `(tactic| (intro _; with_reducible refine (show SK _ _ _ from ?_)))
macro_rules | `(tactic| sk_step) => `(tactic| with_reducible first
  | refine rel_ite (R := SK _) ?_ ?_ | refine rel_ite_fst (R := SK _) ?_ ?_)
macro_rules | `(tactic| sk_step) => `(tactic| with_reducible refine of_fst_eq (P := SK _ _) (by with_reducible assumption) ?_)
macro_rules | `(tactic| sk_step) => `(tactic| open H2V.Model.Conn.Streams in rel_head SK "_sk" via SK.of_step "_step" =>
  with_reducible refine SK.trans ?_ (setCounts_sk _ _))
macro_rules | `(tactic| sk_step) => `(tactic| with_reducible exact SK.refl _)
macro_rules | `(tactic| sk_step) => `(tactic| with_reducible assumption)

macro "sk_auto" : tactic => `(tactic| repeat (first | sk_step | sk_side | intro _ | split | dsimp only))
macro "sk_auto_ih" ih:ident : tactic =>
  `(tactic| repeat (first | sk_step | with_reducible refine SK.trans ?_ ($ih ..) | sk_side | intro _ | split | dsimp only))

/-- entry `k` is dangling, or its send half is open/closed, or it is not locally initiated: `SR` allows any update
    that keeps key, id, state and `is_pending_push` -/
def Opn (sv : Bool) (s : Streams) (k : Nat) : Prop :=
  ¬ Live s k ∨ suB (s.stream k).state = false ∨ locId sv (s.stream k).id = false

theorem Opn.sk {s s' : Streams} {k : Nat} (h : Opn sv s k) (hs : SK sv s s') : Opn sv s' k := by
  by_cases hl : Live s' k
  · have r := hs.st k hl
    rcases h with h | h | h
    · exact absurd (hs.live k hl) h
    · right; left
      cases hb : suB (s'.stream k).state with
      | false => rfl
      | true => rw [r.su hb] at h; cases h
    · right; right; rw [r.id]; exact h
  · exact .inl hl

theorem SR.of_opn {a b : Stream} (hk : b.key = a.key) (hi : b.id = a.id) (hs : b.state = a.state)
    (h2 : b.isPendingPush = a.isPendingPush) (h : suB a.state = false ∨ locId sv a.id = false) : SR sv a b := by
  rcases h with h | h
  · exact SR.of_nsu hk hi (fun hp => h2 ▸ hp) (by rw [hs]; exact h)
  · exact SR.of_not_nil hk hi hs h2 (fun hl _ => by rw [h] at hl; cases hl)

theorem modStream_dangling {s : Streams} {k : Nat} (h : ¬ Live s k) (f : Stream → Stream) : (s.modStream k f).store = s.store := by
  have : s.store.get? k = none := by
    cases hx : s.store.get? k with
    | none => rfl
    | some x => exact absurd ⟨x, hx⟩ h
  unfold Streams.modStream; rw [this]; exact panic_store _ _

theorem modStream_streams (s : Streams) (k : Nat) (f : Stream → Stream) (hk : ∀ x, (f x).key = x.key) (j : Nat) :
    (s.modStream k f).stream j = s.stream j ∨ (j = k ∧ Live s k ∧ (s.modStream k f).stream k = f (s.stream k)) := by
  by_cases hl : Live s k
  · by_cases hj : j = k
    · subst hj; exact .inr ⟨rfl, hl, stream_modStream_live hl f hk⟩
    · left
      obtain ⟨x, hx⟩ := hl
      unfold Streams.modStream; rw [hx]
      rcases setStream_stream s (f x) j with e | ⟨_, hj', _⟩
      · exact e
      · exact absurd (hj'.trans ((hk x).trans (get?_key hx))) hj
  · left
    have : s.store.get? k = none := by
      cases hx : s.store.get? k with
      | none => rfl
      | some x => exact absurd ⟨x, hx⟩ hl
    unfold Streams.modStream; rw [this]; exact panic_stream _ _ _

theorem modStream_sk_opn {s : Streams} {k : Nat} (h : Opn sv s k) (f : Stream → Stream)
    (hf : ∀ x, (f x).key = x.key ∧ (f x).id = x.id ∧ (f x).state = x.state ∧ (f x).isPendingPush = x.isPendingPush) :
    SK sv s (s.modStream k f) := by
  rcases h with h | h
  · exact .of_store (modStream_dangling h f) (by unfold Streams.modStream; split; rfl; rw [panic_actions])
  · exact modStream_sk' s k f (SR.of_opn (hf _).1 (hf _).2.1 (hf _).2.2.1 (hf _).2.2.2 h)

theorem opn_of_streaming {s : Streams} {k : Nat} (h : (s.stream k).state.isSendStreaming = true) : Opn sv s k := by
  right; left
  generalize (s.stream k).state = st at h
  obtain ⟨inner⟩ := st
  cases inner with
  | «open» l r => cases l <;> first | rfl | (simp [State.isSendStreaming] at h)
  | halfClosedRemote p => cases p <;> first | rfl | (simp [State.isSendStreaming] at h)
  | _ => simp [State.isSendStreaming] at h

theorem opn_of_nsu {s : Streams} {k : Nat} (h : suB (s.stream k).state = false) : Opn sv s k := .inr (.inl h)

theorem opn_setState (s : Streams) (k : Nat) (st' : State) (h : suB st' = false) :
    Opn sv (s.modStream k fun st => { st with state := st' }) k := by
  by_cases hl : Live s k
  · right; left
    rw [stream_modStream_live hl (fun st => { st with state := st' }) (fun _ => rfl)]; exact h
  · left; intro hl'; exact hl ((SameKeys.modStream _ _ _).live.mp hl')

theorem opn_setReset (s : Streams) (k : Nat) (r : Reason) (i : Initiator) :
    Opn sv (s.modStreamW k fun st => st.setReset r i) k := by
  by_cases hl : Live s k
  · right; left
    rw [stream_modStreamW_live hl (fun st => st.setReset r i) (fun x => (setReset_inert x r i).key)]
    have : ((s.stream k).setReset r i).1.state = (s.stream k).state.setReset (s.stream k).id r i := by
      unfold Stream.setReset; simp only []
      rw [notifyRecv_state, notifyPush_state, notifySend_state]
    rw [this]; rfl
  · left; intro hl'; exact hl ((modStreamW_sk (sv := sv) s k _ (fun x => setReset_sr x r i)).live k hl')

theorem queueFrame_sk (s : Streams) (k : Nat) (f : SFrame) (h : Opn sv s k) : SK sv s (s.queueFrame k f) := by
  unfold Streams.queueFrame
  exact (modStream_sk_opn h _ (fun _ => by exact ⟨rfl, rfl, rfl, rfl⟩)).trans (.of_step (Streams.scheduleSend_step (by decide) _ _))

theorem queueOpen_sk (s : Streams) (k : Nat) (h : Opn sv s k) : SK sv s (s.queueOpen k) := by
  unfold Streams.queueOpen Streams.qPush
  split
  · exact .refl _
  · dsimp only
    exact (modStream_sk_opn h (fun st => st.setQueued .pendingOpen true) (fun _ => ⟨rfl, rfl, rfl, rfl⟩)).trans (setQ_sk _ _ _)

theorem incNumSendStreams_sk (s : Streams) (k : Nat) (h : Opn sv s k) : SK sv s (s.incNumSendStreams k) := by
  unfold Streams.incNumSendStreams
  dsimp only
  generalize hs1 : (if s.counts.canIncNumSendStreams = true then s else s.panic _) = s1
  have h1 : SK sv s s1 := by rw [← hs1]; split; exact .refl _; exact panic_sk _ _
  generalize hs2 : (if (s1.stream k).isCounted = true then s1.panic _ else s1) = s2
  have h2 : SK sv s1 s2 := by rw [← hs2]; split; exact panic_sk _ _; exact .refl _
  have h3 : SK sv s2 (s2.modCounts fun c => { c with numSendStreams := c.numSendStreams + 1 }) := modCounts_sk _ _
  exact ((h1.trans h2).trans h3).trans
    (modStream_sk_opn (h.sk ((h1.trans h2).trans h3)) _ (fun _ => by exact ⟨rfl, rfl, rfl, rfl⟩))

theorem incNumRecvStreams_sk (s : Streams) (k : Nat) (h : Opn sv s k) : SK sv s (s.incNumRecvStreams k) := by
  unfold Streams.incNumRecvStreams
  dsimp only
  generalize hs1 : (if s.counts.canIncNumRecvStreams = true then s else s.panic _) = s1
  have h1 : SK sv s s1 := by rw [← hs1]; split; exact .refl _; exact panic_sk _ _
  generalize hs2 : (if (s1.stream k).isCounted = true then s1.panic _ else s1) = s2
  have h2 : SK sv s1 s2 := by rw [← hs2]; split; exact panic_sk _ _; exact .refl _
  have h3 : SK sv s2 (s2.modCounts fun c => { c with numRecvStreams := c.numRecvStreams + 1 }) := modCounts_sk _ _
  exact ((h1.trans h2).trans h3).trans
    (modStream_sk_opn (h.sk ((h1.trans h2).trans h3)) _ (fun _ => by exact ⟨rfl, rfl, rfl, rfl⟩))

end H2V.Lemmas.ConnNoPanicP
