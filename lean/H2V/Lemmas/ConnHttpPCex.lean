import H2V.Lemmas.ConnHttpPMain
import H2V.Lemmas.ConnHttpPSend
import H2V.Lemmas.ConnHttpPCl
import H2V.Lemmas.ConnHttpPData
import H2V.Lemmas.ConnHttpPWire
import H2V.Model.ConnDriver
/-
  C13 (ConnHttpP) — witnesses: concrete wire bytes through `decode_frame` and the stream layer of
  a freshly handshaken connection.  Every `…_counterexample` is a malformed message (per
  `H2V.Spec.Http`) that the model — and the real code, see ConnHttpPNOTES.md — hands to the application.

  The vectors are evaluated by the kernel, and what they have in common is dear: the handshake and first
  poll of the connection, and the string constants of `H2V.Spec.Http` (a string literal becomes a byte list
  character by character).  The kernel remembers what it has evaluated only within one declaration, so the
  vectors that `Props/C13.lean` states as theorems of its own stand here in one theorem per connection —
  `server_vectors`, `content_length_vectors`, `client_vectors` — and the theorems there are components of
  these.  (A `Decidable` instance for more than some twenty equations in one statement is beyond the size
  instance synthesis accepts: hence three theorems, not one.)
-/
namespace H2V.Lemmas.ConnHttpP
open H2V H2V.Model H2V.Model.Frame H2V.Model.Hpack H2V.Model.Conn H2V.Model.CodecRead

/-- a server connection right after the handshake -/
def srv0 : Streams := (Conn.initServer {} false []).streams
/-- a client connection right after the handshake -/
def cli0 : Streams := (Conn.init {}).streams

/-- the head a HEADERS frame is delivered with (`None`: not delivered by `decode_frame`) -/
def hdrOf (r : Reader) (bytes : Bytes) : Option HeadersIn :=
  match (decodeFrame r bytes).2 with
  | .frame (.headers sid eos _ blk) => some (Conn.headersIn sid eos blk)
  | _ => none

/-- the field list HPACK decodes from the block of a single HEADERS frame -/
def fieldsOf (r : Reader) (bytes : Bytes) : List Header := ghostNext [] r bytes

/-- the receive queues after `Inner::recv_headers` -/
def queuesAfter (s : Streams) (r : Reader) (bytes : Bytes) : Option (List (List REvent)) :=
  (hdrOf r bytes).map fun h => (s.recvHeaders h).1.store.slab.map (·.pendingRecv)

def rd0 : Reader := Reader.new 16384

/-- per stream after `Inner::recv_headers`: (reset?, receive queue, send queue) — in three lists -/
def resetsAfter (s : Streams) (r : Reader) (bytes : Bytes) : Option (List Bool) :=
  (hdrOf r bytes).map fun h => (s.recvHeaders h).1.store.slab.map (·.state.isReset)
def sendQueuesAfter (s : Streams) (r : Reader) (bytes : Bytes) : Option (List (List SFrame)) :=
  (hdrOf r bytes).map fun h => (s.recvHeaders h).1.store.slab.map (·.pendingSend)

/-- a valid request: `82 86 84 41 01 61` = GET http://a/ -/
def getFrame : Bytes := [0, 0, 6, 1, 5, 0, 0, 0, 1, 0x82, 0x86, 0x84, 0x41, 1, 97]

/-- N2 (repaired): HEADERS[`02 07 "CONNECT"`] — CONNECT without `:authority` -/
def connectOnly : Bytes := [0, 0, 9, 1, 5, 0, 0, 0, 1, 0x02, 7, 67, 79, 78, 78, 69, 67, 84]

/-- N3 (repaired): HEADERS[`82 86`] — GET with `:scheme` only (no `:path`, no `:authority`) -/
def getSchemeOnly : Bytes := [0, 0, 2, 1, 5, 0, 0, 0, 1, 0x82, 0x86]

/-- HEADERS(END_STREAM, no END_HEADERS)[GET http://a/, `connection: close`, `00 01`] — the fragment ends
    inside the next field — followed by CONTINUATION(END_HEADERS)[`78 01 79`] (`x: y`) -/
def splitMalformed1 : Bytes :=
  [0, 0, 26, 1, 1, 0, 0, 0, 1, 0x82, 0x86, 0x84, 0x41, 1, 97,
   0, 10, 99, 111, 110, 110, 101, 99, 116, 105, 111, 110, 5, 99, 108, 111, 115, 101, 0, 1]
def splitMalformed2 : Bytes := [0, 0, 3, 9, 4, 0, 0, 0, 1, 120, 1, 121]

def dfErr : DF → Option RErr
  | .err e => some e
  | _ => none

def rd200 : Reader := rd0.setMaxHeaderListSize 200

/-- POST http://a/ (no END_STREAM) -/
def postFrame : Bytes := [0, 0, 6, 1, 4, 0, 0, 0, 1, 0x83, 0x86, 0x84, 0x41, 1, 97]

/-- trailers `x-a: a…a` (20) and `x-b: b…b` (120): 55 + 155 octets against a limit of 200 -/
def bigTrailers : Bytes :=
  [0, 0, 151, 1, 5, 0, 0, 0, 1] ++ [0, 3, 120, 45, 97, 20] ++ List.replicate 20 97 ++
    [0, 3, 120, 45, 98, 120] ++ List.replicate 120 98

/-- the valid request is queued; for the heads `Spec.Http.request` finds fault with, nothing is queued, the
    stream is reset and RST_STREAM(PROTOCOL_ERROR) is queued.  N1: the `malformed` flag survives a fragment
    boundary: before the repair the block of `splitMalformed1/2` was delivered (without the `connection`
    field); now the final `load` answers `MalformedMessage`: stream error PROTOCOL_ERROR.  N6: before the
    repair `bigTrailers` were handed over without `x-b`; now the block is flagged over-size, no `trailers`
    event is queued (the queue still holds just the request), and the stream is reset with PROTOCOL_ERROR. -/
theorem server_vectors :
    (queuesAfter srv0 rd0 getFrame = some [[.request [71, 69, 84] [104, 116, 116, 112, 58, 47, 47, 97, 47] []]] ∧
      Spec.Http.request (fieldsOf rd0 getFrame) false = []) ∧
    (Spec.Http.request (fieldsOf rd0 connectOnly) false = ["connect-without-authority"] ∧
      queuesAfter srv0 rd0 connectOnly = some [[]] ∧ resetsAfter srv0 rd0 connectOnly = some [true] ∧
      sendQueuesAfter srv0 rd0 connectOnly = some [[.reset Conn.PROTOCOL_ERROR]]) ∧
    (Spec.Http.request (fieldsOf rd0 getSchemeOnly) false = ["missing-path"] ∧
      queuesAfter srv0 rd0 getSchemeOnly = some [[]] ∧ resetsAfter srv0 rd0 getSchemeOnly = some [true] ∧
      sendQueuesAfter srv0 rd0 getSchemeOnly = some [[.reset Conn.PROTOCOL_ERROR]]) ∧
    (dfErr (decodeFrame (decodeFrame rd0 splitMalformed1).1 splitMalformed2).2 = some (.reset 1 CodecRead.PROTOCOL_ERROR) ∧
      Spec.Http.common (ghostNext (ghostNext [] rd0 splitMalformed1) (decodeFrame rd0 splitMalformed1).1 splitMalformed2)
        = ["connection-specific-field"]) ∧
    (((hdrOf rd200 postFrame).bind fun h =>
        (hdrOf (decodeFrame rd200 postFrame).1 bigTrailers).map fun t =>
          (t.isOverSize, ((srv0.recvHeaders h).1.recvHeaders t).1.store.slab.map fun st =>
            (st.state.isReset, st.pendingRecv.length))) = some (true, [(true, 1)]) ∧
      ((hdrOf rd200 postFrame).bind fun h =>
        (hdrOf (decodeFrame rd200 postFrame).1 bigTrailers).map fun t =>
          ((srv0.recvHeaders h).1.recvHeaders t).1.store.slab.map fun st => st.pendingSend) =
        some [[.reset Conn.PROTOCOL_ERROR]] ∧
      (ghostNext [] (decodeFrame rd200 postFrame).1 bigTrailers).map (·.1) = [[120, 45, 97], [120, 45, 98]]) := by
  decide +kernel

theorem valid_request_delivered :
    queuesAfter srv0 rd0 getFrame = some [[.request [71, 69, 84] [104, 116, 116, 112, 58, 47, 47, 97, 47] []]] ∧
    Spec.Http.request (fieldsOf rd0 getFrame) false = [] :=
  server_vectors.1

/-- POST http://a/ with `content-length: 5` and `content-length: 7`, no END_STREAM -/
def twoClFrame : Bytes :=
  [0, 0, 42, 1, 4, 0, 0, 0, 1, 0x83, 0x86, 0x84, 0x41, 1, 97,
   0, 14, 99, 111, 110, 116, 101, 110, 116, 45, 108, 101, 110, 103, 116, 104, 1, 53,
   0, 14, 99, 111, 110, 116, 101, 110, 116, 45, 108, 101, 110, 103, 116, 104, 1, 55]

/-- the same with `content-length: 5` twice -/
def sameClFrame : Bytes :=
  [0, 0, 42, 1, 4, 0, 0, 0, 1, 0x83, 0x86, 0x84, 0x41, 1, 97,
   0, 14, 99, 111, 110, 116, 101, 110, 116, 45, 108, 101, 110, 103, 116, 104, 1, 53,
   0, 14, 99, 111, 110, 116, 101, 110, 116, 45, 108, 101, 110, 103, 116, 104, 1, 53]

/-- POST http://a/ with an EMPTY `content-length` value, END_STREAM -/
def emptyClFrame : Bytes :=
  [0, 0, 23, 1, 5, 0, 0, 0, 1, 0x83, 0x86, 0x84, 0x41, 1, 97,
   0, 14, 99, 111, 110, 116, 101, 110, 116, 45, 108, 101, 110, 103, 116, 104, 0]

/-- POST http://a/ with `content-length: 5`, no END_STREAM -/
def oneClFrame : Bytes :=
  [0, 0, 24, 1, 4, 0, 0, 0, 1, 0x83, 0x86, 0x84, 0x41, 1, 97,
   0, 14, 99, 111, 110, 116, 101, 110, 116, 45, 108, 101, 110, 103, 116, 104, 1, 53]

/-- N4a: two different values — before the repair the first one counted — and N4b: an empty value
    — `parse_u64("")` was `Ok(0)` — are refused: nothing queued, stream reset.  A repeated value with EQUAL
    occurrences: the reference (RFC 9110 §8.6) reads 5, the code accepts the head and the ledger starts at
    5 — reference and code agree. -/
theorem content_length_vectors :
    (Spec.Http.contentLength (fieldsOf rd0 twoClFrame) = some none ∧
      queuesAfter srv0 rd0 twoClFrame = some [[]] ∧ resetsAfter srv0 rd0 twoClFrame = some [true] ∧
      sendQueuesAfter srv0 rd0 twoClFrame = some [[.reset Conn.PROTOCOL_ERROR]]) ∧
    (Spec.Http.contentLength (fieldsOf rd0 emptyClFrame) = some none ∧ parseU64 [] = none ∧
      queuesAfter srv0 rd0 emptyClFrame = some [[]] ∧ resetsAfter srv0 rd0 emptyClFrame = some [true]) ∧
    (Spec.Http.contentLength (fieldsOf rd0 sameClFrame) = some (some 5) ∧
      ((hdrOf rd0 sameClFrame).map fun h => clOf (srv0.recvHeaders h).1 0) = some (some (.remaining 5)) ∧
      ((queuesAfter srv0 rd0 sameClFrame).map fun q => q.map (·.length)) = some [1]) := by
  decide +kernel

/-- the client after `send_request(GET http://example.com/, end_of_stream)` and one `poll` of the
    connection (the HEADERS frame of stream 1 is on the wire) -/
def cli1 : Streams :=
  (({ (Conn.init {}) with streams :=
      (cli0.sendRequest false [Conn.field ":method" "GET", Conn.field ":scheme" "http",
        Conn.field ":authority" "example.com", Conn.field ":path" "/"] true none).1 } : Conn).clientPoll 100).1.streams

/-- a valid response: HEADERS[`88`] = `:status: 200` -/
def okResp : Bytes := [0, 0, 1, 1, 4, 0, 0, 0, 1, 0x88]

/-- F5b: HEADERS[`00 03 "x-a" 01 "1"`] — a response without `:status` is delivered, as status 200 -/
def noStatusResp : Bytes := [0, 0, 7, 1, 4, 0, 0, 0, 1, 0, 3, 120, 45, 97, 1, 49]

/-- F5a: HEADERS[`88 84`] — a response carrying `:path` is delivered -/
def pathResp : Bytes := [0, 0, 2, 1, 4, 0, 0, 0, 1, 0x88, 0x84]

/-- F5c: after the response head, HEADERS(END_STREAM)[`88`] — trailers carrying `:status` are delivered -/
def statusTrailers : Bytes := [0, 0, 1, 1, 5, 0, 0, 0, 1, 0x88]

/-- In this order: the four responses on `cli1`; N5: `te: trailers` followed by `te: gzip` — before the
    repair only the first value was looked at — is refused by `check_headers`; F8: the send side keeps no
    content-length ledger: a request announcing `content-length: 5` may send 10 octets of DATA with
    END_STREAM (and, equally, end after 0). -/
theorem client_vectors :
    (queuesAfter cli1 rd0 okResp = some [[.headers [50, 48, 48] []]] ∧
      Spec.Http.response (fieldsOf rd0 okResp) = []) ∧
    (queuesAfter cli1 rd0 noStatusResp = some [[.headers [50, 48, 48] [([120, 45, 97], [[49]])]]] ∧
      Spec.Http.response (fieldsOf rd0 noStatusResp) = ["missing-status"]) ∧
    (queuesAfter cli1 rd0 pathResp = some [[.headers [50, 48, 48] []]] ∧
      Spec.Http.response (fieldsOf rd0 pathResp) = ["request-pseudo-in-response"]) ∧
    (((hdrOf rd0 okResp).bind fun h => queuesAfter (cli1.recvHeaders h).1 (decodeFrame rd0 okResp).1 statusTrailers)
        = some [[.headers [50, 48, 48] [], .trailers []]] ∧
      Spec.Http.trailers (fieldsOf (decodeFrame rd0 okResp).1 statusTrailers) = ["pseudo-in-trailers"]) ∧
    ((Streams.checkHeaders [Conn.field "te" "trailers", Conn.field "te" "gzip"]).toOption = none ∧
      (Streams.checkHeaders [Conn.field "te" "trailers", Conn.field "te" "trailers"]).toOption = some () ∧
      Spec.Http.common (wireFields [Conn.field "te" "trailers", Conn.field "te" "gzip"]) = ["te-not-trailers"]) ∧
    (let r := cli0.sendRequest false [Conn.field ":method" "POST", Conn.field ":scheme" "http",
      Conn.field ":authority" "example.com", Conn.field ":path" "/", Conn.field "content-length" "5"] false none
    r.2.toOption = some (0, false) ∧ (r.1.refSendData 0 10 true).2.toOption = some () ∧
      (r.1.refSendData 0 0 true).2.toOption = some ()) := by
  decide +kernel

theorem valid_response_delivered :
    queuesAfter cli1 rd0 okResp = some [[.headers [50, 48, 48] []]] ∧
    Spec.Http.response (fieldsOf rd0 okResp) = [] :=
  client_vectors.1

def errOf {α : Type} : Except PErr α → Option PErr
  | .error e => some e
  | .ok _ => none

def stateErrOf : RecvHeadersRes → Option PErr
  | .state e => some e
  | _ => none

/-- a request head carrying `:status` (`82 86 84 41 01 61 88`) -/
def statusReqFrame : Bytes := [0, 0, 7, 1, 5, 0, 0, 0, 1, 0x82, 0x86, 0x84, 0x41, 1, 97, 0x88]

/-- `Recv::recv_headers` refuses it with a stream error; after `Inner::recv_headers` the stream is reset
    (state `Closed(Error(Reset(Conn.PROTOCOL_ERROR, Library)))`), RST_STREAM is queued, nothing is handed over -/
theorem status_in_request_refused :
    ((hdrOf rd0 statusReqFrame).map fun h => stateErrOf ((rhEntry srv0 h).1.recvRecvHeaders 0 h).2) =
      some (some (.reset 1 Conn.PROTOCOL_ERROR .library)) ∧
    ((hdrOf rd0 statusReqFrame).map fun h => ((rhEntry srv0 h).1.stream 0).state.isRecvHeaders) = some true ∧
    ((hdrOf rd0 statusReqFrame).map fun h => (srv0.recvHeaders h).1.store.slab.map fun st => st.state.isReset) = some [true] ∧
    ((hdrOf rd0 statusReqFrame).map fun h => (srv0.recvHeaders h).1.store.slab.map fun st => st.pendingRecv) = some [[]] ∧
    ((hdrOf rd0 statusReqFrame).map fun h => (srv0.recvHeaders h).1.store.slab.map fun st => st.pendingSend) =
      some [[.reset Conn.PROTOCOL_ERROR]] ∧
    Spec.Http.request (fieldsOf rd0 statusReqFrame) false = ["status-in-request"] := by decide +kernel

/-- with `content-length: 5` announced, a 6-octet DATA frame is refused with a stream error, and so is
    END_STREAM after 4 octets -/
theorem data_against_content_length_witness :
    ((hdrOf rd0 oneClFrame).map fun h =>
      errOf ((srv0.recvHeaders h).1.recvRecvData 0 [1, 2, 3, 4, 5, 6] false none).2) =
        some (some (.reset 1 Conn.PROTOCOL_ERROR .library)) ∧
    ((hdrOf rd0 oneClFrame).map fun h =>
      errOf ((srv0.recvHeaders h).1.recvRecvData 0 [1, 2, 3, 4] true none).2) =
        some (some (.reset 1 Conn.PROTOCOL_ERROR .library)) ∧
    ((hdrOf rd0 oneClFrame).map fun h => ((srv0.recvHeaders h).1.stream 0).state.isLocalError) = some false ∧
    ((hdrOf rd0 oneClFrame).map fun h =>
      ((srv0.recvHeaders h).1.recvRecvData 0 [104, 101, 108, 108, 111] true none).2.toOption) = some (some ()) := by
  decide +kernel


def pollErr : Streams.PollData → Option PErr
  | .err e => some e
  | _ => none

/-- … and the application's `poll_data` on that stream answers the reset error -/
theorem refused_head_poll_witness :
    ((hdrOf rd0 statusReqFrame).map fun h => pollErr ((srv0.recvHeaders h).1.recvPollData 0 "b0").2) =
      some (some (.reset 1 Conn.PROTOCOL_ERROR .library)) := by decide +kernel

/-- the announced length is what the ledger starts from; trailers right after the head (no DATA) are
    refused with a stream error -/
theorem content_length_witness :
    Spec.Http.contentLength (fieldsOf rd0 oneClFrame) = some (some 5) ∧
    ((hdrOf rd0 oneClFrame).map fun h => clOf (rhEntry srv0 h).1 0) = some (some .omitted) ∧
    ((hdrOf rd0 oneClFrame).map fun h => ((rhEntry srv0 h).1.recvRecvHeaders 0 h).2.isOk) = some true ∧
    ((hdrOf rd0 oneClFrame).map fun h => clOf (srv0.recvHeaders h).1 0) = some (some (.remaining 5)) ∧
    ((hdrOf rd0 oneClFrame).map fun h => ((srv0.recvHeaders h).1.stream 0).state.isRecvHeaders) = some false ∧
    ((hdrOf rd0 oneClFrame).map fun h =>
      errOf ((srv0.recvHeaders h).1.recvRecvTrailers 0 { sid := 1, eos := true, status := none }).2) =
        some (some (.reset 1 Conn.PROTOCOL_ERROR .library)) := by decide +kernel


/-- a valid request cut into HEADERS[`82 86 84`] + CONTINUATION[`41`] + CONTINUATION(END_HEADERS)[`01 61`]
    (the last cut falls inside the `:authority` literal) -/
def cut1 : Bytes := [0, 0, 3, 1, 1, 0, 0, 0, 1, 0x82, 0x86, 0x84]
def cut2 : Bytes := [0, 0, 1, 9, 0, 0, 0, 0, 1, 0x41]
def cut3 : Bytes := [0, 0, 2, 9, 4, 0, 0, 0, 1, 1, 97]

/-- the second ghost collects exactly the concatenation of the fragments, the first ghost the fields of
    its decoding, and the block is delivered -/
theorem fragmented_block_witness :
    (wireNext (runFrames (rd0, [], none) [cut1, cut2]).2.2 (runFrames (rd0, [], none) [cut1, cut2]).1 cut3).map (·.2)
      = some [0x82, 0x86, 0x84, 0x41, 1, 97] ∧
    ghostNext (runFrames (rd0, [], none) [cut1, cut2]).2.1 (runFrames (rd0, [], none) [cut1, cut2]).1 cut3 =
      (rd0.hpack.decode [0x82, 0x86, 0x84, 0x41, 1, 97]).fields ∧
    (dfBlock (decodeFrame (runFrames (rd0, [], none) [cut1, cut2]).1 cut3).2).isSome = true ∧
    Spec.Http.request (rd0.hpack.decode [0x82, 0x86, 0x84, 0x41, 1, 97]).fields false = [] := by decide +kernel


/-- a client that allows ONE concurrent pushed stream, after `send_request` and one `poll` -/
def cliLim : Conn :=
  (({ (Conn.init { mcs := some 1 }) with streams :=
      ((Conn.init { mcs := some 1 }).streams.sendRequest false [Conn.field ":method" "GET", Conn.field ":scheme" "http",
        Conn.field ":authority" "example.com", Conn.field ":path" "/"] true none).1 } : Conn).clientPoll 100).1

/-- PUSH_PROMISE on stream 1 promising `promised`: GET http://a/ -/
def ppFrame (promised : Nat) : Bytes := [0, 0, 10, 5, 4, 0, 0, 0, 1, 0, 0, 0, promised, 0x82, 0x86, 0x84, 0x41, 1, 97]
/-- HEADERS[`88`] (`:status: 200`) on stream `sid` -/
def respFrame (sid : Nat) : Bytes := [0, 0, 1, 1, 4, 0, 0, 0, sid, 0x88]

def frameOf (r : Reader) (b : Bytes) : Option Frame.Frame :=
  match (decodeFrame r b).2 with | .frame f => some f | _ => none

def feedFrame (c : Conn) (b : Bytes) : Conn := (c.recvFrame (frameOf rd0 b)).1

/-- two promises are reserved (2 and 4), the response on 2 takes the only slot -/
def cliLim3 : Conn := feedFrame (feedFrame (feedFrame cliLim (ppFrame 2)) (ppFrame 4)) (respFrame 2)

/-- the (perfectly valid) response on stream 4 is then refused with REFUSED_STREAM — the only way that code
    comes out of `Recv::recv_headers` —, nothing more is queued for it, the stream is reset -/
theorem refused_stream_witness :
    ((hdrOf rd0 (respFrame 4)).map fun h => stateErrOf (cliLim3.streams.recvRecvHeaders 2 h).2) =
      some (some (.reset 4 REFUSED_STREAM .library)) ∧
    (feedFrame cliLim3 (respFrame 4)).streams.store.slab.map (fun st => (st.id, st.state.isReset, st.pendingRecv.length)) =
      [(1, false, 0), (2, false, 2), (4, true, 1)] ∧
    cliLim3.streams.store.slab.map (fun st => (st.id, st.pendingRecv.length)) = [(1, 0), (2, 2), (4, 1)] := by
  decide +kernel

end H2V.Lemmas.ConnHttpP
