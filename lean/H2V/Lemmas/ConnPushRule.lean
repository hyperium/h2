import H2V.Lemmas.ConnStepLoops
/-
  `PushRule`: the server's `send_push_promise` (`StreamRef::send_push_promise`), walked once: `reserve_local`, the
  insertion of the promised stream, its state change, `Send::send_push_promise` on the parent, and either the way back
  (`unlink`, `remove`) or the handle.  `PromiseRule`: the receiving side, `Inner::recv_push_promise`; where push is not
  accepted the frame is refused and nothing changes (`recvPushPromise_refused`); `recvPushPromise_rel`: the same for a
  relation, by the step layer.
-/
namespace H2V.Model.Conn
open H2V H2V.Model

/-- `send_push_promise` once the promised stream `child` (stream id `pid`) is in the slab -/
def Streams.pushReserved (s : Streams) (parent child pid : Nat) (valid : Bool) (fields : List Hpack.Field) :
    Streams × Except UserError Nat :=
  match (s.stream child).state.reserveLocal with
  | (_, .error e) => (s, .error e)
  | (st', .ok _) =>
    let s := s.modStream child fun st => { st with state := st', isPendingPush := true }
    if !valid then (s, .error .malformedHeaders)
    else
      match s.sendPushPromise parent child pid fields with
      | (s, .error e) => ({ s with store := (s.store.unlink pid).remove child }, .error e)
      | (s, .ok _) => (({ s with refs := s.refs + 1 } : Streams).refInc child, .ok child)

theorem Streams.refSendPushPromise_eq (s : Streams) (parent : Nat) (valid : Bool) (fields : List Hpack.Field) :
    s.refSendPushPromise parent valid fields =
      match s.sendReserveLocal with
      | (s, .error e) => (s, .error e)
      | (s1, .ok pid) =>
        let sP := if s1.store.contains pid then s1.panic "assertion failed: self.ids.insert(id, index).is_none()" else s1
        ({ sP with store := (sP.store.insert (Stream.new pid sP.actions.send.initWindowSz sP.recv.initWindowSz)).1 } :
          Streams).pushReserved parent sP.store.nextKey pid valid fields := by rfl

/-- **`StreamRef::send_push_promise`, from the state `s`.**  `I` holds inside, `Q` is claimed of the state it returns;
    `L pid k t`: what the invariant knows of the promised entry `k` with stream id `pid` once it is inserted, `L' pid k t`
    once it is reserved.  One field per thing the function does: `reserve_local` on the connection (`opn`), an exit
    without handle (`done`: no id left, the entry's state refuses, the request is malformed — the entry stays), the
    insertion (`ins`; `sP` is the state behind the `assert!` of `Store::insert`), the state change (`reserve`),
    and from the state before `Send::send_push_promise`: the way back when that fails (`undo`), the handle when it
    succeeds (`fin`). -/
structure PushRule (parent : Nat) (fields : List Hpack.Field) (s : Streams) (I Q : Streams → Prop)
    (L L' : Nat → Nat → Streams → Prop) : Prop where
  opn : I s.sendReserveLocal.1
  done : ∀ t, I t → Q t
  ins : ∀ s1 pid sP, s.sendReserveLocal = (s1, .ok pid) →
    sP = (if s1.store.contains pid then s1.panic "assertion failed: self.ids.insert(id, index).is_none()" else s1) →
    I { sP with store := (sP.store.insert (Stream.new pid sP.actions.send.initWindowSz sP.recv.initWindowSz)).1 } ∧
    L pid sP.store.nextKey
      { sP with store := (sP.store.insert (Stream.new pid sP.actions.send.initWindowSz sP.recv.initWindowSz)).1 }
  reserve : ∀ t pid k st' u, I t → L pid k t → (t.stream k).state.reserveLocal = (st', .ok u) →
    I (t.modStream k fun st => { st with state := st', isPendingPush := true }) ∧
    L' pid k (t.modStream k fun st => { st with state := st', isPendingPush := true })
  undo : ∀ t pid k s5 e, I t → L' pid k t → t.sendPushPromise parent k pid fields = (s5, .error e) →
    Q { s5 with store := (s5.store.unlink pid).remove k }
  fin : ∀ t pid k s5 u, I t → L' pid k t → t.sendPushPromise parent k pid fields = (s5, .ok u) →
    Q (({ s5 with refs := s5.refs + 1 } : Streams).refInc k)

section
variable {parent : Nat} {fields : List Hpack.Field} {s : Streams} {I Q : Streams → Prop} {L L' : Nat → Nat → Streams → Prop}

theorem PushRule.reserved (r : PushRule parent fields s I Q L L') (t : Streams) (pid k : Nat) (valid : Bool)
    (hi : I t) (hl : L pid k t) : Q (t.pushReserved parent k pid valid fields).1 := by
  unfold Streams.pushReserved
  split
  · exact r.done _ hi
  · next st' u heq =>
    obtain ⟨h5, hl5⟩ := r.reserve t pid k st' u hi hl heq
    dsimp only
    split
    · exact r.done _ h5
    · have h6 := fun s5 u => r.fin _ pid k s5 u h5 hl5
      have h7 := fun s5 e => r.undo _ pid k s5 e h5 hl5
      generalize Streams.sendPushPromise _ parent k pid fields = q at h6 h7
      obtain ⟨s5, r5⟩ := q
      cases r5 with
      | error e => exact h7 s5 e rfl
      | ok u => exact h6 s5 u rfl

theorem PushRule.run (r : PushRule parent fields s I Q L L') (valid : Bool) : Q (s.refSendPushPromise parent valid fields).1 := by
  rw [Streams.refSendPushPromise_eq]
  have h1 := r.opn
  have h2 := r.ins
  generalize s.sendReserveLocal = p at h1 h2
  obtain ⟨s1, res⟩ := p
  cases res with
  | error e => exact r.done _ h1
  | ok pid =>
    obtain ⟨h3, hl3⟩ := h2 s1 pid _ rfl rfl
    exact r.reserved _ pid _ valid h3 hl3
end

namespace Streams

theorem ensureCanReserve_disabled {s : Streams} (h : s.recv.isPushEnabled = false) :
    s.ensureCanReserve = .error (PErr.libraryGoAway PROTOCOL_ERROR) := by
  unfold ensureCanReserve; rw [h]; rfl

/-- **a server, or a client that disabled push, refuses every PUSH_PROMISE without touching the state**: the frame is
    a connection error, or (on a stream above the GOAWAY cut-off) ignored -/
theorem recvPushPromise_refused {s : Streams} (hp : s.counts.isServer = true ∨ s.recv.isPushEnabled = false) (id : Nat)
    (h : HeadersIn) :
    (s.recvPushPromise id h).1 = s ∧
    ((s.recvPushPromise id h).2 = .error (PErr.libraryGoAway PROTOCOL_ERROR) ∨ (s.recvPushPromise id h).2 = .ok ()) := by
  rw [recvPushPromise_eq]
  cases hsv : s.counts.isServer with
  | true => exact ⟨rfl, .inl rfl⟩
  | false =>
    have hec := ensureCanReserve_disabled (hp.resolve_left (by rw [hsv]; exact Bool.false_ne_true))
    -- the look-up of the initiating stream changes nothing; when it succeeds, `ensure_can_reserve` refuses
    have hpar : (s.pushPromiseParent id h).1 = s ∧
        ∀ e, (s.pushPromiseParent id h).2 = .error e → e = PErr.libraryGoAway PROTOCOL_ERROR := by
      unfold pushPromiseParent
      split
      · split
        · exact ⟨rfl, fun e he => by cases he⟩
        · split
          · rw [hec]; exact ⟨rfl, fun e he => by cases he; rfl⟩
          · split
            · exact ⟨rfl, fun e he => by cases he⟩
            · exact ⟨rfl, fun e he => by cases he; rfl⟩
      · exact ⟨rfl, fun e he => by cases he; rfl⟩
    simp only [Bool.false_eq_true, if_false]
    generalize s.pushPromiseParent id h = p at hpar
    obtain ⟨s', r⟩ := p
    obtain ⟨h1, h2⟩ := hpar
    dsimp only at h1 h2
    subst h1
    cases r with
    | error e => rw [h2 e rfl]; exact ⟨rfl, .inl rfl⟩
    | ok o =>
      cases o with
      | none => exact ⟨rfl, .inr rfl⟩
      | some pk => unfold pushPromiseRest; simp only [hec]; exact ⟨trivial, .inl trivial⟩

end Streams

theorem Streams.insertNew_fst (s : Streams) (id : Nat) : (s.insertNew id).1 =
    { s with store := (s.store.insert (Stream.new id s.actions.send.initWindowSz s.recv.initWindowSz)).1 } := rfl
theorem Streams.insertNew_snd (s : Streams) (id : Nat) : (s.insertNew id).2 = s.store.nextKey := rfl

/-- the look-up of the initiating stream: it is found and receive-open, nothing has changed; or the frame goes no further,
    and the state is the old one or the one `Recv::open` left -/
theorem Streams.pushPromiseParent_cases (s : Streams) (id : Nat) (h : HeadersIn) :
    (∃ pk, s.pushPromiseParent id h = (s, .ok (some pk)) ∧ s.store.findKey? id = some pk) ∨
    ((∀ pk, (s.pushPromiseParent id h).2 ≠ .ok (some pk)) ∧
      ((s.pushPromiseParent id h).1 = s ∨ (s.pushPromiseParent id h).1 = (s.recvOpen h.sid true).1)) := by
  unfold Streams.pushPromiseParent
  split
  · next k hfk =>
    split
    · exact .inr ⟨fun _ e => (nomatch e), .inl rfl⟩
    · split
      · split
        · exact .inr ⟨fun _ e => (nomatch e), .inl rfl⟩
        · generalize s.recvOpen h.sid true = p
          obtain ⟨s1, r⟩ := p
          cases r with
          | error e => exact .inr ⟨fun _ e => (nomatch e), .inr rfl⟩
          | ok b => cases b <;> exact .inr ⟨fun _ e => (nomatch e), .inr rfl⟩
      · split
        · exact .inl ⟨k, rfl, hfk⟩
        · exact .inr ⟨fun _ e => (nomatch e), .inl rfl⟩
  · exact .inr ⟨fun _ e => (nomatch e), .inl rfl⟩

/-- **`Inner::recv_push_promise`, from the state `s`.**  `I` holds from the entry on; `L pk child t`: what is known of
    the entry `child` of the promised stream once it is inserted (`pk`: the entry of the initiating stream), `L'` once
    `Recv::recv_push_promise` has reserved it.  One field per thing the function does: nothing (`pre`), `Recv::open`
    (`opn`), the insertion (`ins`; `sP` is the state behind the `assert!` of `Store::insert`), the closure with its
    `transition_after` (`body`), the link to the initiating stream (`link`). -/
structure PromiseRule (id : Nat) (h : HeadersIn) (s : Streams) (I : Streams → Prop) (L L' : Nat → Nat → Streams → Prop) :
    Prop where
  pre : I s
  opn : I (s.recvOpen h.sid true).1
  ins : ∀ pk s1 sP, s.store.findKey? id = some pk → s.recvOpen h.sid true = (s1, .ok true) →
    sP = (if s1.store.contains h.sid then s1.panic "assertion failed: self.ids.insert(id, index).is_none()" else s1) →
    I (sP.insertNew h.sid).1 ∧ L pk (sP.insertNew h.sid).2 (sP.insertNew h.sid).1
  body : ∀ pk child t, I t → L pk child t →
    I (t.transition child fun u => u.pushPromiseBody child h).1 ∧
    ((t.transition child fun u => u.pushPromiseBody child h).2 = .ok true →
      L' pk child (t.transition child fun u => u.pushPromiseBody child h).1)
  link : ∀ pk child t, I t → L' pk child t → I (t.pushPromiseLink pk child)

theorem PromiseRule.run {id : Nat} {h : HeadersIn} {s : Streams} {I : Streams → Prop} {L L' : Nat → Nat → Streams → Prop}
    (r : PromiseRule id h s I L L') : I (s.recvPushPromise id h).1 := by
  rw [Streams.recvPushPromise_eq]
  split
  · exact r.pre
  rcases s.pushPromiseParent_cases id h with ⟨pk, e, hfk⟩ | ⟨hno, hst⟩
  · rw [e]
    dsimp only
    unfold Streams.pushPromiseRest
    split
    · exact r.pre
    · have h1 := r.opn
      generalize hro : s.recvOpen h.sid true = p at h1
      obtain ⟨s1, r1⟩ := p
      cases r1 with
      | error e => exact h1
      | ok b =>
        cases b with
        | false => exact h1
        | true =>
          dsimp only
          rw [Streams.pushPromiseChild_eq]
          obtain ⟨h2, l2⟩ := r.ins pk s1 _ hfk hro rfl
          dsimp only
          generalize (if s1.store.contains h.sid then s1.panic "assertion failed: self.ids.insert(id, index).is_none()" else s1)
            = sP at h2 l2
          generalize sP.insertNew h.sid = q at h2 l2
          obtain ⟨s2, child⟩ := q
          obtain ⟨h3, l3⟩ := r.body pk child s2 h2 l2
          dsimp only
          generalize s2.transition child (fun u => u.pushPromiseBody child h) = q at h3 l3
          obtain ⟨s3, res⟩ := q
          cases res with
          | error e => exact h3
          | ok b =>
            cases b with
            | false => exact h3
            | true => exact r.link pk child s3 h3 (l3 rfl)
  · generalize s.pushPromiseParent id h = p at hno hst
    obtain ⟨s1, res⟩ := p
    have h1 : I s1 := by
      rcases hst with e | e
      · have e : s1 = s := e
        rw [e]; exact r.pre
      · have e : s1 = (s.recvOpen h.sid true).1 := e
        rw [e]; exact r.opn
    cases res with
    | error e => exact h1
    | ok o =>
      cases o with
      | none => exact h1
      | some pk => exact absurd rfl (hno pk)

/-- **`Inner::recv_push_promise` for a relation** that has the steps of the footprint, the insertion of a fresh entry
    and the reset of the stream -/
theorem Streams.recvPushPromise_rel {R : Streams → Streams → Prop} (ok : RelOK R) {K : Kind → Bool}
    (hK : Kind.Has K [.release, .unlink, .counterDown .localReset, .state .reserveRemote, .appendRecv, .promise, .nextId])
    (of : ∀ {s s'}, Streams.Step K s s' → R s s') (hins : ∀ s id, R s (s.insertNew id).1)
    (hrst : ∀ s k e, R s (s.resetOnRecvStreamErr k (.error e)).1) (s : Streams) (id : Nat) (h : HeadersIn) :
    R s (s.recvPushPromise id h).1 :=
  have hbody : ∀ t child, R t (t.pushPromiseBody child h).1 := by
    intro t child
    unfold Streams.pushPromiseBody
    have h1 := of (Streams.recvRecvPushPromise_step (hK.mono (of_decide_eq_true rfl)) t child h)
    generalize t.recvRecvPushPromise child h = p at h1
    obtain ⟨t1, r⟩ := p
    cases r with
    | ok => exact h1
    | unsupported => exact ok.trans h1 (of (.unsup _ _))
    | err e =>
      have h2 := ok.trans h1 (hrst t1 child e)
      dsimp only
      generalize t1.resetOnRecvStreamErr child (.error e) = q at h2
      obtain ⟨t2, r2⟩ := q
      cases r2 <;> exact h2
  PromiseRule.run (I := R s) (L := fun _ _ _ => True) (L' := fun _ _ _ => True)
    { pre := ok.refl s
      opn := of (Streams.recvOpen_step (hK.mono (of_decide_eq_true rfl)) s h.sid true)
      ins := fun _ s1 sP _ hro hP => by
        have h1 : R s s1 := by
          have := of (Streams.recvOpen_step (hK.mono (of_decide_eq_true rfl)) s h.sid true); rw [hro] at this; exact this
        refine ⟨ok.trans (ok.trans h1 ?_) (hins sP h.sid), trivial⟩
        rw [hP]; split
        · exact ok.panic _ _
        · exact ok.refl _
      body := fun _ child t ht _ => ⟨ok.trans ht (Streams.transition_rel ok t child _ (hbody t child)
        fun u b => of (Streams.transitionAfter_step (hK.mono (of_decide_eq_true rfl)) u child b)), fun _ => trivial⟩
      link := fun pk child t ht _ => ok.trans ht (of (Streams.pushPromiseLink_step (hK.mono (of_decide_eq_true rfl)) t pk child)) }

end H2V.Model.Conn
