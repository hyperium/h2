import H2V.Lemmas.ConnFlowPSFr
/-
  ConnFlowP — the send-side *safety* invariant `SafeInv` (per-stream and connection bounds, and the send ledger in its
  safety direction: `Σ stream.available + conn.available ≤ conn.window`) and its preservation by frame steps.
  (The equality `=`, the conservation direction, does not hold in every reachable state: ConnFlowPNOTES §2.)
-/
namespace H2V.Lemmas.ConnFlowP
open H2V H2V.Model H2V.Model.Conn

/-- capacity assigned to the streams of a slab -/
def sumAv : List Stream → Int
  | [] => 0
  | x :: t => x.sendFlow.available.val + sumAv t

structure FlOk (f : FlowControl) : Prop where
  av0 : 0 ≤ f.available.val
  avw : 0 < f.available.val → f.available.val ≤ f.windowSize.val
  wlo : I32_MIN ≤ f.windowSize.val
  whi : f.windowSize.val ≤ I32_MAX

/-- `g` = capacity taken from a stream and not yet handed back to the connection (non-zero only in
    the middle of a model function: between `claim_capacity` on the stream and
    `assign_connection_capacity`) -/
structure SafeInvG (g : Int) (s : Streams) : Prop where
  g0 : 0 ≤ g
  keys : KeysOk s.store
  st : ∀ x ∈ s.store.slab, FlOk x.sendFlow
  a0 : 0 ≤ s.prio.flow.available.val
  whi : s.prio.flow.windowSize.val ≤ I32_MAX
  ledger : sumAv s.store.slab + s.prio.flow.available.val + g ≤ s.prio.flow.windowSize.val

/-- the invariant between two model functions -/
@[reducible] def SafeInv (s : Streams) : Prop := SafeInvG 0 s

theorem Fresh.flOk {x : Stream} (h : Fresh x) : FlOk x.sendFlow :=
  ⟨by rw [h.1]; exact Int.le_refl _, by rw [h.1]; intro h0; exact absurd h0 (by decide), h.2.1, h.2.2⟩

theorem sumAv_nonneg {l : List Stream} (h : ∀ x ∈ l, 0 ≤ x.sendFlow.available.val) : 0 ≤ sumAv l := by
  induction l with
  | nil => exact Int.le_refl _
  | cons a t ih =>
    have h1 := h a (List.mem_cons_self ..)
    have h2 := ih (fun x hx => h x (List.mem_cons_of_mem _ hx))
    simp only [sumAv]; omega

theorem sumAv_append (a b : List Stream) : sumAv (a ++ b) = sumAv a + sumAv b := by
  induction a with
  | nil => simp [sumAv]
  | cons x t ih => simp only [List.cons_append, sumAv, ih]; omega

theorem mem_le_sumAv {l : List Stream} (h : ∀ x ∈ l, 0 ≤ x.sendFlow.available.val) {x : Stream} (hx : x ∈ l) :
    x.sendFlow.available.val ≤ sumAv l := by
  induction l with
  | nil => cases hx
  | cons a t ih =>
    have hn : 0 ≤ sumAv t := sumAv_nonneg (fun y hy => h y (List.mem_cons_of_mem _ hy))
    have ha := h a (List.mem_cons_self ..)
    rcases List.mem_cons.1 hx with rfl | hx'
    · simp only [sumAv]; omega
    · have := ih (fun y hy => h y (List.mem_cons_of_mem _ hy)) hx'
      simp only [sumAv]; omega

theorem sumAv_split {l : List Stream} (hn : (l.map (·.key)).Nodup) {x : Stream} (hx : x ∈ l) :
    sumAv l = x.sendFlow.available.val + sumAv (l.filter (fun z => z.key != x.key)) := by
  induction l with
  | nil => cases hx
  | cons a t ih =>
    simp only [List.map_cons, List.nodup_cons, List.mem_map, not_exists, not_and] at hn
    rcases List.mem_cons.1 hx with rfl | hx'
    · have h1 : (x :: t).filter (fun z => z.key != x.key) = t := by
        rw [List.filter_cons_of_neg (by simp)]
        exact Store.filter_ne_of_ne (fun y hy => hn.1 y hy)
      rw [h1]; rfl
    · have hne : a.key ≠ x.key := fun h => hn.1 x hx' h.symm
      rw [List.filter_cons_of_pos (by simpa using hne)]
      simp only [sumAv]
      rw [ih hn.2 hx']; omega

/-- the frame step can only lower the assigned total -/
theorem sumAv_le_of_match : ∀ (l' l : List Stream), (l'.map (·.key)).Nodup → (l.map (·.key)).Nodup →
    (∀ x ∈ l, 0 ≤ x.sendFlow.available.val) →
    (∀ y ∈ l', (∃ x ∈ l, x.key = y.key ∧ x.sendFlow.available.val = y.sendFlow.available.val) ∨
      y.sendFlow.available.val = 0) →
    sumAv l' ≤ sumAv l := by
  intro l'
  induction l' with
  | nil => intro l _ _ h0 _; exact sumAv_nonneg h0
  | cons y t ih =>
    intro l hn' hn h0 hm
    simp only [List.map_cons, List.nodup_cons, List.mem_map, not_exists, not_and] at hn'
    rcases hm y (List.mem_cons_self ..) with ⟨x, hx, hk, hav⟩ | hz
    · have hsplit := sumAv_split hn hx
      have hsub : ((l.filter (fun z => z.key != x.key)).map (·.key)).Nodup :=
        (List.filter_sublist.map _).nodup hn
      have := ih (l.filter (fun z => z.key != x.key)) hn'.2 hsub
        (fun z hz => h0 z (List.mem_filter.1 hz).1)
        (fun y' hy' => by
          rcases hm y' (List.mem_cons_of_mem _ hy') with ⟨x', hx', hk', hav'⟩ | hz'
          · refine Or.inl ⟨x', List.mem_filter.2 ⟨hx', ?_⟩, hk', hav'⟩
            simp only [bne_iff_ne, ne_eq]
            intro he
            exact hn'.1 y' hy' (hk'.symm.trans (he.trans hk))
          · exact Or.inr hz')
      simp only [sumAv]; omega
    · have := ih l hn'.2 hn h0 (fun y' hy' => hm y' (List.mem_cons_of_mem _ hy'))
      simp only [sumAv]; omega

theorem SafeInvG.fr {g : Int} {s s' : Streams} (hfr : Fr s s') (h : SafeInvG g s) : SafeInvG g s' := by
  obtain ⟨hflow, _, hst⟩ := hfr
  obtain ⟨hk', _, hm⟩ := hst h.keys
  refine ⟨h.g0, hk', ?_, by rw [hflow]; exact h.a0, by rw [hflow]; exact h.whi, ?_⟩
  · intro y hy
    rcases hm y hy with ⟨x, hx, _, hf⟩ | ⟨_, hf⟩
    · rw [← hf]; exact h.st x hx
    · exact hf.flOk
  · rw [hflow]
    have : sumAv s'.store.slab ≤ sumAv s.store.slab := by
      apply sumAv_le_of_match _ _ hk'.1 h.keys.1 (fun x hx => (h.st x hx).av0)
      intro y hy
      rcases hm y hy with ⟨x, hx, hk, hf⟩ | ⟨_, hf⟩
      · exact Or.inl ⟨x, hx, hk, by rw [hf]⟩
      · exact Or.inr hf.1
    have := h.ledger
    omega

theorem SafeInvG.sfr {g : Int} {s s' : Streams} (hf : SFr s s') (h : SafeInvG g s) : SafeInvG g s' := h.fr hf.fr

theorem sumAv_set {a : Store} (hk : KeysOk a) {k : Nat} {st : Stream} (hget : a.get? k = some st)
    (st' : Stream) (hkey : st'.key = k) :
    sumAv (a.set st').slab = sumAv a.slab - st.sendFlow.available.val + st'.sendFlow.available.val := by
  have hm := get?_mem hget
  have hsplit := sumAv_split hk.1 hm.1
  have hset : (a.set st').slab = a.slab.map (fun x => if x.key == k then st' else x) := by
    simp only [Store.set, hkey]
  have hmem' : st' ∈ (a.set st').slab := by
    rw [hset]; exact List.mem_map.2 ⟨st, hm.1, by simp [hm.2]⟩
  have hnd' : ((a.set st').slab.map (·.key)).Nodup := by
    have : (a.set st').slab.map (·.key) = a.slab.map (·.key) := by
      rw [hset, List.map_map]
      apply List.map_congr_left
      intro x _
      simp only [Function.comp]
      split
      · rename_i h; rw [hkey]; exact (beq_iff_eq.1 h).symm
      · rfl
    rw [this]; exact hk.1
  have hsplit' := sumAv_split hnd' hmem'
  have hfilt : (a.set st').slab.filter (fun z => z.key != st'.key) = a.slab.filter (fun z => z.key != st.key) := by
    rw [hset, hkey, hm.2, List.filter_map]
    have : ((fun z : Stream => z.key != k) ∘ fun x => if x.key == k then st' else x) = fun z => z.key != k := by
      funext x
      simp only [Function.comp]
      split
      · rename_i h; simp [hkey, beq_iff_eq.1 h]
      · rfl
    rw [this]
    have hid : ∀ x ∈ a.slab.filter (fun z => z.key != k), (fun x : Stream => if x.key == k then st' else x) x = x := by
      intro x hx
      have := (List.mem_filter.1 hx).2
      simp only [bne_iff_ne, ne_eq] at this
      simp [this]
    rw [List.map_congr_left hid, List.map_id'']
    intro x; rfl
  rw [hsplit', hsplit, hfilt]; omega

/-- the shape every flow-changing step of the model has: one slab entry replaced (same key), the
    connection `FlowControl` replaced, nothing else of the store touched -/
structure Upd (s s' : Streams) (k : Nat) (st st' : Stream) : Prop where
  get : s.store.get? k = some st
  key : st'.key = k
  slab : s'.store.slab = (s.store.set st').slab
  next : s'.store.nextKey = s.store.nextKey

theorem mem_of_map_key_eq {l l' : List Stream} (h : l'.map (·.key) = l.map (·.key)) {y : Stream} (hy : y ∈ l') :
    ∃ x ∈ l, x.key = y.key := by
  have : y.key ∈ l'.map (·.key) := List.mem_map.2 ⟨y, hy, rfl⟩
  rw [h] at this
  obtain ⟨x, hx, hk⟩ := List.mem_map.1 this
  exact ⟨x, hx, hk⟩

theorem SafeInvG.upd {g g' : Int} {s s' : Streams} {k : Nat} {st st' : Stream} (h : SafeInvG g s)
    (hu : Upd s s' k st st') (hg : 0 ≤ g')
    (hst : FlOk st'.sendFlow) (ha : 0 ≤ s'.prio.flow.available.val) (hw : s'.prio.flow.windowSize.val ≤ I32_MAX)
    (hl : (st'.sendFlow.available.val - st.sendFlow.available.val) +
          (s'.prio.flow.available.val - s.prio.flow.available.val) + (g' - g) ≤
          s'.prio.flow.windowSize.val - s.prio.flow.windowSize.val) : SafeInvG g' s' := by
  have hkeys : s'.store.slab.map (·.key) = s.store.slab.map (·.key) := by rw [hu.slab]; exact set_keys _ _
  refine ⟨hg, ⟨by rw [hkeys]; exact h.keys.1, ?_⟩, ?_, ha, hw, ?_⟩
  · intro y hy
    obtain ⟨x, hx, hk⟩ := mem_of_map_key_eq hkeys hy
    rw [hu.next, ← hk]; exact h.keys.2 x hx
  · intro y hy
    rw [hu.slab] at hy
    simp only [Store.set, List.mem_map] at hy
    obtain ⟨x, hx, rfl⟩ := hy
    split
    · exact hst
    · exact h.st x hx
  · rw [hu.slab, sumAv_set h.keys hu.get st' hu.key]
    have := h.ledger
    omega

theorem SafeInvG.conn {g g' : Int} {s s' : Streams} (h : SafeInvG g s) (hs : s'.store = s.store) (hg : 0 ≤ g')
    (ha : 0 ≤ s'.prio.flow.available.val) (hw : s'.prio.flow.windowSize.val ≤ I32_MAX)
    (hl : (s'.prio.flow.available.val - s.prio.flow.available.val) + (g' - g) ≤
          s'.prio.flow.windowSize.val - s.prio.flow.windowSize.val) : SafeInvG g' s' := by
  refine ⟨hg, hs ▸ h.keys, hs ▸ h.st, ha, hw, ?_⟩
  rw [hs]; have := h.ledger; omega

end H2V.Lemmas.ConnFlowP
