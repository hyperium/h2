import H2V.Lemmas.ConnFidPPop
import H2V.Lemmas.ConnFlush
/-
  ConnFidP — the write path with the codec: `held w` = the DATA frame the codec holds; `Inv` across
  `pop_frame` (a run of pops), across `buffer_out` (the chunk goes out, the remainder is in flight) and across
  `reclaim_frame` (the remainder comes back to the FRONT of its queue — or is dropped when the marker says `Drop`).
-/
set_option linter.unusedSectionVars false
namespace H2V.Lemmas.ConnFidP
open H2V H2V.Model H2V.Model.Conn H2V.Lemmas.ConnWakeP

/-- the DATA frame the codec holds: `Next::Data` while the payload is being written, `last_data_frame` afterwards -/
def held (w : Writer) : Option DataFrame :=
  match w.next with
  | some n => some n.frame
  | none => w.lastDataFrame

/-- the codec never holds two DATA frames -/
def WOk (w : Writer) : Prop := w.next.isSome = true → w.lastDataFrame = none

theorem held_none_iff (w : Writer) : held w = none ↔ w.next = none ∧ w.lastDataFrame = none := by
  unfold held
  cases w.next <;> simp

def SameHeld (w0 w' : Writer) : Prop := held w' = held w0 ∧ (WOk w0 → WOk w')

theorem SameHeld.refl (w : Writer) : SameHeld w w := ⟨rfl, fun h => h⟩

/-- the two facts about a writer that `held` / `WOk` look at -/
def SameW (w w' : Writer) : Prop := w'.next.map (·.frame) = w.next.map (·.frame) ∧ w'.lastDataFrame = w.lastDataFrame

theorem SameW.held {w w' : Writer} (h : SameW w w') : SameHeld w w' := by
  obtain ⟨h1, h2⟩ := h
  unfold SameHeld ConnFidP.held WOk
  cases hn : w.next <;> cases hx : w'.next <;> simp_all

theorem held_put (w : Writer) (seg : Seg) : held (w.put seg) = held w ∧ (WOk w → WOk (w.put seg)) :=
  SameW.held (w' := w.put seg) ⟨rfl, rfl⟩
theorem held_bufferSimple (w : Writer) (n : Nat) (r : String) : SameHeld w (w.bufferSimple n r) :=
  SameW.held (w' := w.bufferSimple n r) ⟨rfl, rfl⟩
theorem SameHeld.bufferSimple {w0 w : Writer} (h : SameHeld w0 w) (n : Nat) (r : String) : SameHeld w0 (w.bufferSimple n r) :=
  ⟨(held_bufferSimple w n r).1.trans h.1, fun hk => (held_bufferSimple w n r).2 (h.2 hk)⟩
theorem held_bufferHeaders (w : Writer) (sid : Nat) (eos : Bool) (f : List Hpack.Field) :
    SameHeld w (w.bufferHeaders sid eos f) :=
  SameW.held ⟨by rw [(bufferHeaders_keeps w sid eos f).2], (bufferHeaders_keeps w sid eos f).1⟩
theorem held_bufferPushPromise (w : Writer) (sid p : Nat) (f : List Hpack.Field) :
    SameHeld w (w.bufferPushPromise sid p f) :=
  SameW.held ⟨by rw [(bufferPushPromise_keeps w sid p f).2], (bufferPushPromise_keeps w sid p f).1⟩

theorem held_unsetFrame (x : Writer) (hx : WOk x) : held x.unsetFrame = held x ∧ WOk x.unsetFrame := by
  rcases unsetFrame_cases x with ⟨_, e⟩ | ⟨n, hn, e⟩ <;> rw [e]
  · exact ⟨(SameW.held (w := x) ⟨rfl, rfl⟩).1, (SameW.held (w := x) ⟨rfl, rfl⟩).2 hx⟩
  · exact ⟨by unfold held; rw [hn], nofun⟩

theorem held_flush (w : Writer) (io : Tio) (t : String) (hw : WOk w) :
    held (flush w io t).1 = held w ∧ WOk (flush w io t).1 := by
  rcases flush_cases w io t with e | ⟨b, nx, _, _, _, hn, e⟩
  · rw [e]; exact ⟨rfl, hw⟩
  · have h1 := SameW.held (w := w) (w' := { w with buf := b, next := nx }) ⟨hn.frame, rfl⟩
    rcases e with e | e <;> rw [e]
    · exact ⟨h1.1, h1.2 hw⟩
    · have h2 := held_unsetFrame _ (h1.2 hw)
      exact ⟨h2.1.trans h1.1, h2.2⟩

theorem held_pollReadyW (w : Writer) (io : Tio) (t : String) (hw : WOk w) :
    held (pollReadyW w io t).1 = held w ∧ WOk (pollReadyW w io t).1 := by
  rcases pollReadyW_cases w io t with ⟨_, e⟩ | ⟨w1, io1, r1, hf, e⟩ <;> rw [e]
  · exact ⟨rfl, hw⟩
  · have := held_flush w io t hw; rw [hf] at this; exact this

/-- `Encoder::buffer(Data)` into a codec that holds no DATA frame -/
theorem held_bufferData (w : Writer) (len : Nat) (fe : Bool) (fr : DataFrame) (hn : held w = none)
    (hl : len ≤ w.maxFrameSize) : ∃ w', w.bufferData len fe fr = some w' ∧ held w' = some fr ∧ WOk w' := by
  obtain ⟨h1, h2⟩ := (held_none_iff w).mp hn
  obtain ⟨w', hw', ⟨hl', hn'⟩ | ⟨hl', nd, hn', hf⟩⟩ := bufferData_some hl fe fr
  · exact ⟨w', hw', by unfold held; rw [hn', h1, hl'], fun h => by rw [hn', h1] at h; cases h⟩
  · exact ⟨w', hw', by unfold held; rw [hn']; exact congrArg some hf, fun _ => hl'.trans h2⟩

theorem held_takeLast (w : Writer) (hw : WOk w) :
    (w.takeLastDataFrame.2 = none ∧ held w.takeLastDataFrame.1 = held w ∧ WOk w.takeLastDataFrame.1) ∨
    (∃ fr, w.takeLastDataFrame.2 = some fr ∧ held w = some fr ∧ held w.takeLastDataFrame.1 = none ∧ WOk w.takeLastDataFrame.1) := by
  unfold Writer.takeLastDataFrame
  cases hl : w.lastDataFrame with
  | none =>
    refine Or.inl ⟨rfl, ?_, ?_⟩
    · unfold held; simp [hl]
    · intro _; rfl
  | some fr =>
    have hn : w.next = none := by
      cases hx : w.next with
      | none => rfl
      | some n => have := hw (by rw [hx]; rfl); rw [hl] at this; cases this
    refine Or.inr ⟨fr, rfl, ?_, ?_, ?_⟩
    · unfold held; simp [hn, hl]
    · unfold held; simp [hn]
    · intro _; rfl

section
variable {s : Streams} {g : Ghost}

/-- `Inv` across `pop_frame` (the codec holds nothing while it runs) -/
theorem popFrame_inv (n m : Nat) (hI : Inv s none g) :
    ∃ g', Run permPop s g (Streams.popFrame n s m).1 g' ∧ DataLast g' m (Streams.popFrame n s m).2 ∧
      (g'.weird = false → Inv (Streams.popFrame n s m).1 none g') := by
  obtain ⟨g', r, o⟩ := popFrame_sid n m s g
  have d := o.outLast.1
  refine ⟨g', r, d, fun hw => ?_⟩
  exact r.inv_pop hI hw

/-- ghost of `buffer_out`: of a DATA frame only the chunk `(len, flag_eos)` has left, not the whole frame -/
def gbuf (g : Ghost) (f : Streams.OutFrame) : Ghost :=
  match f with
  | .data len fe fr => { g with emi := upd g.emi fr.key ((g.emi fr.key).dropLast ++ [.data len fe]) }
  | _ => g

theorem marker_markF (s : Streams) (m : InFlightData) : marker (s.modPrio (markF m)) = m := rfl

theorem bufferOut_wok (s : Streams) (w : Writer) (f : Streams.OutFrame) {m : Nat} (hd : DataLast g m (some f))
    (hh : held w = none) (hm : m ≤ w.maxFrameSize) : WOk (s.bufferOut w f).2 := by
  have hwok : WOk w := fun _ => ((held_none_iff w).mp hh).2
  cases f with
  | headers sid eos fl => exact (held_bufferHeaders w sid eos fl).2 hwok
  | reset sid r => exact (held_bufferSimple w 4 _).2 hwok
  | pushPromise sid p fl => exact (held_bufferPushPromise w sid p fl).2 hwok
  | data len fe fr =>
    obtain ⟨_, _, _, hlen⟩ := hd len fe fr rfl
    obtain ⟨w', hw', _, hwok'⟩ := held_bufferData w len fe fr hh (Nat.le_trans hlen hm)
    simp only [Streams.bufferOut, hw']
    exact hwok'

theorem bufferOut_inv (w : Writer) (f : Streams.OutFrame) (m : Nat) (hI : Inv s none g) (hd : DataLast g m (some f))
    (hh : held w = none) (hm : m ≤ w.maxFrameSize) : Inv (s.bufferOut w f).1 (held (s.bufferOut w f).2) (gbuf g f) := by
  cases f with
  | headers sid eos fl =>
    simp only [Streams.bufferOut, gbuf]
    rw [(held_bufferHeaders w sid eos fl).1, hh]; exact hI
  | reset sid r =>
    simp only [Streams.bufferOut, gbuf]
    rw [(held_bufferSimple w 4 s!"R:{sid}:{r}").1, hh]; exact hI
  | pushPromise sid p fl =>
    simp only [Streams.bufferOut, gbuf]
    rw [(held_bufferPushPromise w sid p fl).1, hh]; exact hI
  | data len fe fr =>
    obtain ⟨E0, hE, hfe, hlen⟩ := hd len fe fr rfl
    obtain ⟨w', hw', hheld, _⟩ := held_bufferData w len fe fr hh (Nat.le_trans hlen hm)
    simp only [Streams.bufferOut, markF_fold, hw', gbuf]
    rw [hheld]
    have hmk : marker (s.modPrio (markF (.dataFrame fr.key))) = .dataFrame fr.key := rfl
    have hst : (s.modPrio (markF (.dataFrame fr.key))).store = s.store := rfl
    have hsq : ∀ k, sq (s.modPrio (markF (.dataFrame fr.key))) k = sq s k := fun _ => rfl
    have hlt : fr.key < s.store.nextKey := by
      apply Nat.lt_of_not_le; intro hle
      have := (hI.ghostKey fr.key hle).2.1
      rw [hE] at this
      exact absurd this (by simp)
    have hinf : ∀ k, inflight (s.modPrio (markF (.dataFrame fr.key))) (some fr) k =
        if fr.key = k ∧ fr.rest > 0 then [.data fr.rest fr.eos] else [] := by
      intro k; unfold inflight; rw [hmk]
    have hcp : Coupled (s.modPrio (markF (.dataFrame fr.key))) (some fr) := by
      refine ⟨⟨fun h => ?_, fun h => ?_⟩, fun j hj => ?_⟩
      · rw [hmk] at h; cases h
      · cases h
      · rw [hmk] at hj; cases hj; exact ⟨fr, rfl, rfl⟩
    refine ⟨hI.kb, hcp, ?_, ?_, ?_, ?_, ?_, ?_⟩
    · intro k hk
      rw [hinf] at hk
      split at hk
      · next hc => rw [← hc.1]; exact hlt
      · exact absurd rfl hk
    · intro k hk
      have hne : k ≠ fr.key := by intro e; subst e; exact absurd hlt (Nat.not_lt.mpr hk)
      obtain ⟨h1, h2, h3⟩ := hI.ghostKey k hk
      exact ⟨h1, by show upd g.emi fr.key _ k = []; rw [upd_other _ _ hne]; exact h2, h3⟩
    · intro k
      obtain ⟨D, hR, hD⟩ := hI.ref k
      have ho : out s none k = sq s k := by unfold out; rw [inflight_none]; rfl
      rw [ho] at hR
      by_cases hk : fr.key = k
      · subst hk
        refine ⟨D, ?_, hD⟩
        show Refine (upd g.emi fr.key _ fr.key ++ msg (out (s.modPrio (markF (.dataFrame fr.key))) (some fr) fr.key) ++ D) _
        rw [upd_same, hE, List.dropLast_concat]
        unfold out
        rw [hinf, hsq]
        rw [hE] at hR
        by_cases hr : fr.rest > 0
        · simp only [hr, and_self, if_true] at hfe ⊢
          subst hfe
          have := hR.cut E0 (msg (sq s fr.key) ++ D) len fr.rest fr.eos (by simp)
          simpa only [msg_append, msg_data, msg_nil, List.append_assoc, List.singleton_append, List.cons_append,
            List.nil_append] using this
        · have h0 : fr.rest = 0 := by omega
          simp only [hr, and_false, if_false] at hfe ⊢
          subst hfe
          rw [h0] at hR
          simpa only [Nat.add_zero, List.nil_append] using hR
      · have hne : k ≠ fr.key := fun e => hk e.symm
        refine ⟨D, ?_, hD⟩
        show Refine (upd g.emi fr.key _ k ++ msg (out (s.modPrio (markF (.dataFrame fr.key))) (some fr) k) ++ D) _
        rw [upd_other _ _ hne]
        unfold out
        rw [hinf, hsq, if_neg (fun h => hk h.1)]
        exact hR
    · intro k hc; exact hI.closed k hc
    · intro k hk
      rw [hinf] at hk
      split at hk
      · next hc =>
        rw [← hc.1]
        exact hI.live fr.key (by rw [hE]; simp)
      · exact absurd rfl hk
    · intro k hk
      by_cases hkk : k = fr.key
      · subst hkk; exact hI.live _ (by rw [hE]; simp)
      · have : upd g.emi fr.key ((g.emi fr.key).dropLast ++ [.data len fe]) k = g.emi k := upd_other _ _ hkk
        exact hI.live k (by rw [← this]; exact hk)

end
end H2V.Lemmas.ConnFidP
