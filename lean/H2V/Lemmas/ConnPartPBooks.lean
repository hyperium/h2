import H2V.Lemmas.ConnRecvPPoll
import H2V.Lemmas.ConnCtlPHist
import H2V.Lemmas.ConnLoops
import H2V.Lemmas.ConnStages
/-
  ConnPartP — C03: the stream-level receive-window books at CONNECTION level, without the
  hypothesis "`apply_local_settings` / `Inner::send_reset` did not fail".

  ConnRecvP proves the stream-level invariant (`Inv true`) for `ReachOk`: histories of stream-layer calls
  in which those two calls never fail.  A failure is a connection error (FLOW_CONTROL_ERROR /
  ENHANCE_YOUR_CALM); here it is shown that inside `Connection::poll` the failing call is the LAST thing
  the stream layer sees before the connection dies:
    * `recv_settings` (ACK of our SETTINGS) → `apply_local_settings` fails → `recv_frame` answers the
      error → the `poll2` loop ends with it → `handle_poll2_result` → `handle_go_away` → `Dead`;
    * `handle_poll2_result(Err(Reset))` → `Inner::send_reset` fails → `handle_go_away` → `Dead`;
  and a dead connection (ConnCtlP: `go_away_now` has run or the state left `Open`) reads no frame any more
  and stays dead.  Hence for every reachable connection: **`Dead c` or the stream layer is `ReachOk`**
  (`sreach_books`), i.e. every receive window is conserved or the connection is dying.

  Every call of ConnProto that cannot end in one of the two errors keeps the books by ConnRecvP's lift
  (`X_lift` with `P := OkT T H`, closed under the calls that do not fail: `okT_closed`).
-/
namespace H2V.Lemmas.ConnPartP
open H2V H2V.Model H2V.Model.Conn
open H2V.Model.Conn.Streams
open H2V.Lemmas.ConnRecvP
open H2V.Lemmas.ConnCtlP (Dead Halting IsGoAwayErr)

/-- the stream layer is `ReachOk` (no failed `apply_local_settings` / `Inner::send_reset` so far), the
    connection window configured last is `T`, the largest so far `H` -/
def OkT (T H : Nat) (s : Streams) : Prop := ∃ g, ReachOk g s ∧ g.target = T ∧ g.hiTarget = H

abbrev SI (T H : Nat) (s : Streams) (loc : Local) : Prop := PI (OkT T H) s loc

abbrev SInv (T H : Nat) (c : Conn) : Prop := PInv (OkT T H) c

variable {T H : Nat}

theorem okT_closed : OpClosed (OkT T H) := fun _ op hv hok hk ⟨g, hg, ht, hh⟩ =>
  ⟨_, .step op hg hv hok, (Op.ghost_target hk g).1.trans ht, (Op.ghost_target hk g).2.trans hh⟩

theorem alsLoop_err (s : Streams) (oldSz target : Nat) (e : PErr) (h : (s.alsLoop oldSz target).2 = some e) :
    IsGoAwayErr e := by
  unfold Streams.alsLoop at h
  split at h
  · refine Streams.storeTryForEach_err (Q := IsGoAwayErr) ?_ h
    intro t id e hfe
    unfold Streams.alsDec at hfe
    split at hfe
    · simp only [Option.some.injEq] at hfe; exact ⟨_, _, _, hfe.symm⟩
    · simp only at hfe
      split at hfe <;> cases hfe
  · split at h
    · refine Streams.storeTryForEach_err (Q := IsGoAwayErr) ?_ h
      intro t id e hfe
      unfold Streams.alsInc at hfe
      split at hfe
      · simp only [Option.some.injEq] at hfe; exact ⟨_, _, _, hfe.symm⟩
      · split at hfe
        · simp only [Option.some.injEq] at hfe; exact ⟨_, _, _, hfe.symm⟩
        · cases hfe
    · cases h

theorem applyLocalSettingsFrame_err (s : Streams) (vals : List (Nat × Nat)) (s' : Streams) (e : PErr)
    (h : s.applyLocalSettingsFrame vals = (s', .error e)) : IsGoAwayErr e := by
  unfold Streams.applyLocalSettingsFrame at h
  rw [Streams.applyLocalSettings_eq] at h
  split at h
  · cases h
  · dsimp only at h
    split at h
    · next res heq =>
      injection h with h1 h2
      injection h2 with h2
      subst h2
      exact alsLoop_err _ _ _ _ heq
    · cases h

/-- `Settings::recv_settings`: the ACK of our SETTINGS applies exactly the values we sent; either the
    books stay good, or `apply_local_settings` failed and the answer is a connection error -/
theorem recvSettings_sinv {c : Conn} (h : SInv T H c) (ack : Bool) (vals : List (Nat × Nat)) :
    SInv T H (c.recvSettings ack vals).1 ∨ ∃ e, (c.recvSettings ack vals).2 = .error e ∧ IsGoAwayErr e := by
  unfold Conn.recvSettings
  split
  · split
    · next loc hloc =>
      have hv : valsValid loc := by have := h.2; rw [hloc] at this; exact this
      dsimp only
      split
      · next s e heq =>
        exact Or.inr ⟨e, rfl, applyLocalSettingsFrame_err _ _ _ _ heq⟩
      · next s u heq =>
        left
        have hok : (Op.applyLocalSettings loc).ok c.streams := by
          show (c.streams.applyLocalSettingsFrame loc).2 = .ok ()
          rw [heq]
        have h1 : SI T H (c.streams.applyLocalSettingsFrame loc).1 c.settings.loc :=
          h.op okT_closed (.applyLocalSettings loc) hv hok
        rw [heq] at h1
        exact ⟨h1.1, trivial⟩
    · exact Or.inr ⟨_, rfl, _, _, _, rfl⟩
  · left
    dsimp only
    split
    · exact h.op okT_closed (.panic _) trivial
    · exact h

theorem setTargetWindowSize_sinv {c : Conn} (h : SInv T H c) (size : Nat) (hs : size ≤ 2147483647) :
    SInv size (max H size) (c.setTargetWindowSize size) := by
  unfold Conn.setTargetWindowSize
  obtain ⟨g, hg, -, hh⟩ := h.1
  refine ⟨⟨_, ReachOk.step (.setTargetConnectionWindow size) hg hs trivial, rfl, ?_⟩, h.2⟩
  show max g.hiTarget size = _
  rw [hh]

theorem recvStep_sinv {c : Conn} (h : SInv T H c) (f : Option Frame.Frame) :
    SInv T H (H2V.Lemmas.ConnCtlP.recvStep c f).1 ∨
      ∃ e, (H2V.Lemmas.ConnCtlP.recvStep c f).2 = .error e ∧ IsGoAwayErr e := by
  have h3 := recvFrame_lift okT_closed h f
  unfold H2V.Lemmas.ConnCtlP.recvStep
  rcases hF : c.recvFrame f with ⟨c1, r1⟩
  rw [hF] at h3
  rcases r1 with e | rf
  · exact Or.inl h3
  · cases rf with
    | «continue» => exact Or.inl h3
    | done => exact Or.inl h3
    | settings ack vals =>
      dsimp only
      have h4 := recvSettings_sinv h3 ack vals
      rcases hS : c1.recvSettings ack vals with ⟨c2, r2⟩
      rw [hS] at h4
      rcases r2 with e | u
      · exact h4.imp id fun ⟨e', he, hk⟩ => ⟨e', by cases he; rfl, hk⟩
      · exact Or.inl (h4.resolve_right fun ⟨_, h, _⟩ => by cases h)

/-- inside `poll2` the books stay good, or `recv_settings` answers the connection error of a failed
    `apply_local_settings` and the loop ends with it -/
theorem booksRule2 : H2V.Lemmas.ConnCtlP.Poll2Rule (SInv T H) (fun _ _ _ => True) (fun _ _ _ => True)
    (fun _ => True) (fun _ => True) (fun _ _ => True) where
  trans _ _ := trivial
  transF _ _ := trivial
  panic _ m h := ⟨panic_lift okT_closed h m, trivial⟩
  goAway c h := ⟨by rw [H2V.Lemmas.ConnCtlP.sendPendingGoAwayT_fst]; exact sendPendingGoAway_lift h, trivial, fun _ => trivial⟩
  ready c h _ := Or.inl ⟨by rw [H2V.Lemmas.ConnCtlP.pollReadyT_fst]; exact pollReady_lift okT_closed h, trivial, fun _ => trivial⟩
  next _ h _ := ⟨⟨h, trivial⟩, trivial⟩
  recv c f h _ := (recvStep_sinv h f).imp (⟨·, trivial⟩) fun ⟨e, he, hk⟩ => ⟨e, he, hk, trivial⟩

end H2V.Lemmas.ConnPartP
