import H2V.Lemmas.ConnNoPanicPFiBase
import H2V.Lemmas.ConnDataRule
/-
  C08 (no panic) — `FI` is a reachable invariant: the frame `SK` for the functions that do not have it by their
  footprint: those that open the send half, queue a frame or count a stream, which take the local fact they need (`Opn`)
  as a hypothesis or find it in their own tests, and their callers.
-/
namespace H2V.Lemmas.ConnNoPanicP
open H2V H2V.Model H2V.Model.Conn H2V.Lemmas.ConnCountsP
attribute [local irreducible] wrapSubU32 wrapSubUsize

variable {sv : Bool}

theorem sendHeaders_sk (s : Streams) (k : Nat) (eos : Bool) (f : List Hpack.Field) : SK sv s (s.sendHeaders k eos f).1 := by
  unfold Streams.sendHeaders
  split
  · exact .refl _
  · split
    · exact .refl _
    · next st' _ heq =>
      dsimp only
      have o1 : Opn sv (s.modStream k fun st => { st with state := st' }) k := opn_setState s k st' (sendOpen_nsu heq)
      have h1 : SK sv s (s.modStream k fun st => { st with state := st' }) :=
        modStream_sk _ _ _ (fun x => setState_sr x st' (sendOpen_nsu heq))
      generalize (s.modStream k fun st => { st with state := st' }) = s1 at o1 h1 ⊢
      generalize hs2 : (if (s1.counts.isLocalInit (s1.stream k).id && !(s1.stream k).isPendingPush) = true then s1.queueOpen k else s1) = s2
      have h2 : SK sv s1 s2 := by rw [← hs2]; split; exact queueOpen_sk _ _ o1; exact .refl _
      have h3 : SK sv s2 (s2.queueFrame k (.headers eos f)) := queueFrame_sk _ _ _ (o1.sk h2)
      split
      · exact ((h1.trans h2).trans h3).trans (notifyTask_sk _)
      · exact (h1.trans h2).trans h3
theorem sendReserveLocal_sk (s : Streams) : SK sv s s.sendReserveLocal.1 := .of_step (Streams.sendReserveLocal_step (by decide) s)
theorem sendPushPromise_sk (s : Streams) (p pk pid : Nat) (f : List Hpack.Field) (h : Opn sv s p) :
    SK sv s (s.sendPushPromise p pk pid f).1 := by
  unfold Streams.sendPushPromise
  split
  · exact .refl _
  · split
    · exact .refl _
    · split
      · exact .refl _
      · exact queueFrame_sk _ _ _ h
theorem sendInterimInformationalHeaders_sk (s : Streams) (k : Nat) (f : List Hpack.Field) (h : Opn sv s k) :
    SK sv s (s.sendInterimInformationalHeaders k f).1 := by
  unfold Streams.sendInterimInformationalHeaders
  split
  · exact .refl _
  · dsimp only
    split
    · exact .refl _
    · exact queueFrame_sk _ _ _ h
theorem sendSendReset_sk (s : Streams) (k : Nat) (r : Reason) (i : Initiator) : SK sv s (s.sendSendReset k r i) := by
  rw [Streams.sendSendReset_eq]
  dsimp only
  split
  · exact .refl _
  · have o1 : Opn sv (s.modStreamW k fun st => st.setReset r i) k := opn_setReset s k r i
    have h1 : SK sv s (s.modStreamW k fun st => st.setReset r i) := modStreamW_sk _ _ _ (fun x => setReset_sr x r i)
    generalize (s.modStreamW k fun st => st.setReset r i) = s1 at o1 h1 ⊢
    split
    · exact h1
    · -- what is left of the queue is cleared or cut down to its head: steps of `SK.kinds`; the RST_STREAM goes to a reset entry
      have h2 : SK sv s1 (if (s1.stream k).isPendingOpen = true then s1.keepOnlyHead k else s1.clearQueue k) := by sk_auto
      exact ((h1.trans h2).trans (queueFrame_sk _ _ _ (o1.sk h2))).trans (.of_step (Streams.reclaimAllCapacity_step (by decide) _ _))
theorem sendTrailers_sk (s : Streams) (k : Nat) (f : List Hpack.Field) : SK sv s (s.sendTrailers k f).1 := by
  unfold Streams.sendTrailers
  split
  · exact .refl _
  · split
    · exact .refl _
    · next hss =>
      have hss' : (s.stream k).state.isSendStreaming = true := by
        cases h : (s.stream k).state.isSendStreaming with
        | true => rfl
        | false => rw [h] at hss; simp at hss
      have o0 : Opn sv s k := opn_of_streaming hss'
      dsimp only
      refine SK.trans ?_ (.of_step (Streams.reserveCapacity_step (by decide) _ _ _))
      split
      · next st' heq =>
        have h1 : SK sv s (s.modStream k fun st => { st with state := st' }) :=
          modStream_sk _ _ _ (fun x => setState_sr x st' (sendClose_nsu heq))
        exact h1.trans (queueFrame_sk _ _ _ (o0.sk h1))
      · exact (panic_sk _ _).trans (queueFrame_sk _ _ _ (o0.sk (panic_sk _ _)))
theorem prioSendData_sk (s : Streams) (k len : Nat) (eos : Bool) : SK sv s (s.prioSendData k len eos).1 := by
  unfold Streams.prioSendData
  split
  · exact .refl _
  · dsimp only
    split
    · exact .refl _
    · next hss =>
      have hss' : (s.stream k).state.isSendStreaming = true := by
        cases h : (s.stream k).state.isSendStreaming with
        | true => rfl
        | false => rw [h] at hss; simp at hss
      have o0 : Opn sv s k := opn_of_streaming hss'
      have h1 : SK sv s (s.modStream k fun st => { st with bufferedSendData := st.bufferedSendData + len }) :=
        modStream_sk_opn o0 _ (fun _ => by exact ⟨rfl, rfl, rfl, rfl⟩)
      generalize (s.modStream k fun st => { st with bufferedSendData := st.bufferedSendData + len }) = s1 at h1 ⊢
      generalize hs2 : (if (s1.stream k).requestedSendCapacity < (s1.stream k).bufferedSendData then _ else s1) = s2
      have h2 : SK sv s1 s2 := by rw [← hs2]; sk_auto
      generalize hs3 : (if eos = true then _ else s2) = s3
      have h3 : SK sv s2 s3 := by
        rw [← hs3]; split
        · refine SK.trans ?_ (.of_step (Streams.reserveCapacity_step (by decide) _ _ _))
          split
          · next st' heq => exact modStream_sk _ _ _ (fun x => setState_sr x st' (sendClose_nsu heq))
          · exact panic_sk _ _
        · exact .refl _
      have h123 := (h1.trans h2).trans h3
      have o3 := o0.sk h123
      split
      · exact h123.trans (queueFrame_sk _ _ _ o3)
      · exact h123.trans (modStream_sk_opn o3 _ (fun _ => by exact ⟨rfl, rfl, rfl, rfl⟩))
theorem sendRecvStreamWindowUpdate_sk (s : Streams) (k sz : Nat) : SK sv s (s.sendRecvStreamWindowUpdate k sz).1 := by
  unfold Streams.sendRecvStreamWindowUpdate; sk_auto

theorem recvRecvPushPromise_sk (s : Streams) (k : Nat) (h : HeadersIn) : SK sv s (s.recvRecvPushPromise k h).1 :=
  .of_step (Streams.recvRecvPushPromise_step (by decide) s k h)

/-- `Recv::recv_headers`: the stream it counts (`Idle`/`ReservedRemote` so far) must not be locally initiated -/
theorem recvRecvHeaders_sk (s : Streams) (k : Nat) (h : HeadersIn)
    (hE : Early (s.stream k) → locId sv (s.stream k).id = false) : SK sv s (s.recvRecvHeaders k h).1 :=
  Streams.RecvHeadersRule.run (I := SK sv s) (P := fun _ _ t => SK sv s t)
    { err := .refl _
      refuse := fun _ _ heq => modStream_sk' _ _ _ (setState_sr' _ _ (recvOpen_su heq))
      stc := fun st' ini heq _ => by
        have h1 : SK sv s (s.recvHeadersSt k st') := modStream_sk' _ _ _ (setState_sr' _ _ (recvOpen_su heq))
        generalize s.recvHeadersSt k st' = s1 at h1 ⊢
        unfold Streams.recvHeadersCount
        split
        · next hc =>
          have hi : ini = true := by
            cases ini
            · simp at hc
            · rfl
          subst hi
          have o0 : Opn sv s k := .inr (.inr (hE (recvOpen_initial_early heq)))
          have ha : SK sv s1 (if h.sid > s1.recv.lastProcessedId then s1.modRecv fun r => { r with lastProcessedId := h.sid } else s1) := by
            split
            · exact modRecv_sk _ _
            · exact .refl _
          exact h1.trans (ha.trans (incNumRecvStreams_sk _ _ ((o0.sk h1).sk ha)))
        · exact h1
      out := fun _ _ _ ht => ht
      -- the content-length step and the queueing of the message are steps of `SK.kinds`
      cl := fun _ _ t ht => ht.trans (.of_step (Streams.recvHeadersCl_step (by decide) t k h))
      queue := fun _ ini t ht => ht.trans (.of_step (Streams.recvHeadersQueue_step (by decide) t k h ini)) }

theorem transition_sk {α : Type} (s : Streams) (k : Nat) (f : Streams → Streams × α) (hf : ∀ s, SK sv s (f s).1) :
    SK sv s (s.transition k f).1 :=
  Streams.transition_rel sk_relOK s k f (hf s) fun t b => transitionAfter_sk t k b
theorem storeTryForEach_sk (s : Streams) (f : Streams → Nat → Streams × Option PErr) (hf : ∀ s k, SK sv s (f s k).1) :
    SK sv s (s.storeTryForEach f).1 := Streams.storeTryForEach_rel sk_relOK s f hf

/-- `Send::apply_remote_settings` by its stages (ConnStages): only the WINDOW_UPDATE for every stream, when the window grows,
    can reset a stream -/
theorem sarsMore_sk (s : Streams) (inc : Nat) : SK sv s (s.sarsMore inc).1 := by
  unfold Streams.sarsMore; sk_auto
theorem sarsWindow_sk (s : Streams) (val : Nat) : SK sv s (s.sarsWindow val).1 := by
  unfold Streams.sarsWindow; sk_auto
theorem sendApplyRemoteSettings_sk (s : Streams) (a b c : Option Nat) : SK sv s (s.sendApplyRemoteSettings a b c).1 := by
  rw [Streams.sendApplyRemoteSettings_eq]; sk_auto
theorem applyRemoteSettings_sk (s : Streams) (vals : List (Nat × Nat)) (b : Bool) : SK sv s (s.applyRemoteSettings vals b).1 := by
  unfold Streams.applyRemoteSettings; sk_auto

theorem resetOnRecvStreamErr_sk (s : Streams) (k : Nat) (r : Except PErr Unit) : SK sv s (s.resetOnRecvStreamErr k r).1 := by
  unfold Streams.resetOnRecvStreamErr; sk_auto

theorem actionsSendReset_sk (s : Streams) (k : Nat) (r : Reason) (i : Initiator) : SK sv s (s.actionsSendReset k r i).1 := by
  unfold Streams.actionsSendReset
  refine transition_sk s k _ (fun s => ?_)
  sk_auto

theorem refSendReset_sk (s : Streams) (k : Nat) (r : Reason) : SK sv s (s.refSendReset k r) := by
  unfold Streams.refSendReset
  have := actionsSendReset_sk (sv := sv) s k r .user
  sk_auto

theorem recvData_sk (s : Streams) (id : Nat) (p : Bytes) (eos : Bool) (pad : Option Nat) : SK sv s (s.recvData id p eos pad).1 :=
  Streams.recvData_rel sk_relOK (K := SK.kinds) (by decide) SK.of_step (fun s k _ => resetOnRecvStreamErr_sk s k _) s id p eos pad

theorem recvWindowUpdate_sk (s : Streams) (id inc : Nat) : SK sv s (s.recvWindowUpdate id inc).1 := by
  unfold Streams.recvWindowUpdate; sk_auto

theorem refSendResponse_sk (s : Streams) (k : Nat) (f : List Hpack.Field) (eos : Bool) : SK sv s (s.refSendResponse k f eos).1 :=
  transition_sk s k _ (fun s => sendHeaders_sk s k eos f)
theorem refSendInformationalHeaders_sk (s : Streams) (k : Nat) (f : List Hpack.Field) (h : Opn sv s k) :
    SK sv s (s.refSendInformationalHeaders k f).1 :=
  Streams.transition_rel sk_relOK s k _ (sendInterimInformationalHeaders_sk s k f h) fun t b => transitionAfter_sk t k b
theorem refSendData_sk (s : Streams) (k len : Nat) (eos : Bool) : SK sv s (s.refSendData k len eos).1 :=
  transition_sk s k _ (fun s => prioSendData_sk s k len eos)
theorem refSendTrailers_sk (s : Streams) (k : Nat) (f : List Hpack.Field) : SK sv s (s.refSendTrailers k f).1 :=
  transition_sk s k _ (fun s => sendTrailers_sk s k f)

theorem unlinkRemove_sk (s : Streams) (id k : Nat) : SK sv s { s with store := (s.store.unlink id).remove k } :=
  (unlink_sk s id).trans (remove_sk { s with store := s.store.unlink id } k s.recvBufferLeaked)

end H2V.Lemmas.ConnNoPanicP
