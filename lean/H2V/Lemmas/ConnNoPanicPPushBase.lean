import H2V.Lemmas.ConnNoPanicPHist
import H2V.Lemmas.ConnNoPanicPPollBase
import H2V.Lemmas.ConnLoops
import H2V.Lemmas.ConnStepLoops
import H2V.Lemmas.ConnStepWrite
/-
  C08 (no panic) — PUSH_PROMISE bookkeeping: the frame `PF` of everything that is not part of the promise path.

  A promised stream waits in its parent's `pending_push_promises`, linked through the `NextAccept` flag it shares with
  `recv.pending_accept`.  `Held s c`: entry `c` is live, carries that flag and is NOT in `recv.pending_accept`, i.e. the
  link is used by some parent's list.  Three invariants speak about these entries (`NoPPP`, `PPPOK`, `PRH` below this
  file) and each needs its own frame: `PW` (every list unchanged or emptied), `HR` (held entries stay held,
  `recv.next_stream_id` moves forward), `HB` (an entry held afterwards was held before, with the same `ref_count` and a
  `pending_recv` that only grew at its end).  `PF ks` states the three at once, `HB` for the entries outside `ks` (the
  stream of the handle a call goes through may lose `ref_count` and `pending_recv`; by `PRH` it is not held).  Every step
  of the stream layer that neither inserts, touches `ref_count`, takes from `pending_recv` nor writes the promise
  bookkeeping by hand is `PF ks` for every `ks` (`PF.of_step`); the functions that consume from a handle's stream `k` have
  a lemma `f_pf` with `k ∈ ks`, proved by the peeling tactic `pf_auto`, which takes every other callee from the layer.
-/
namespace H2V.Lemmas.ConnNoPanicP
open H2V H2V.Model H2V.Model.Conn H2V.Lemmas.ConnCountsP
attribute [local irreducible] wrapSubU32 wrapSubUsize

structure PP (s s' : Streams) : Prop where
  live : ∀ j, Live s' j → Live s j
  eq : ∀ j, Live s' j → (s'.stream j).pendingPushPromises = (s.stream j).pendingPushPromises

theorem setQ_pp (s : Streams) (q : QName) (l : List Nat) : PP s (s.setQ q l) :=
  ⟨fun _ hl => (SameKeys.of_store_eq (setQ_store s q l)).live.mp hl, fun j _ => by unfold Streams.stream; rw [setQ_store]⟩
theorem waitSend_ppp (x : Stream) (t : String) : (x.waitSend t).pendingPushPromises = x.pendingPushPromises := rfl
theorem waitOpen_ppp (x : Stream) (t : String) : (x.waitOpen t).pendingPushPromises = x.pendingPushPromises := rfl

/-- every `pending_push_promises` list is unchanged or emptied (a dangling key reads the blank stream, whose list is
    empty; a new entry starts with an empty list) -/
def PW (s s' : Streams) : Prop :=
  ∀ j, (s'.stream j).pendingPushPromises = (s.stream j).pendingPushPromises ∨ (s'.stream j).pendingPushPromises = []

theorem PW.refl (s : Streams) : PW s s := fun _ => .inl rfl
theorem PW.trans {a b c : Streams} (h1 : PW a b) (h2 : PW b c) : PW a c := fun j => by
  rcases h2 j with e | e
  · rw [e]; exact h1 j
  · exact .inr e
theorem PW.of_fst_eq {s : Streams} {α : Type} {p : Streams × α} {a : Streams} {x : α}
    (h : p = (a, x)) (e : PW s p.1) : PW s a := by subst h; exact e

theorem PW.of_live {s s' : Streams}
    (h : ∀ j, Live s' j → (s'.stream j).pendingPushPromises = (s.stream j).pendingPushPromises ∨
      (s'.stream j).pendingPushPromises = []) : PW s s' := fun j => by
  by_cases hl : Live s' j
  · exact h j hl
  · right; rw [stream_blank_of_not_live hl]

/-- a live entry whose `NextAccept` link is in use, but not by `recv.pending_accept` -/
def Held (s : Streams) (c : Nat) : Prop := Flagged .pendingAccept s c ∧ c ∉ s.recv.pendingAccept

theorem held_live {s : Streams} {c : Nat} (h : Held s c) : Live s c := let ⟨x, hx, _⟩ := h.1; ⟨x, hx⟩

/-- `next_stream_id` (`Err(StreamIdOverflow)` = `none`) only moves forward -/
def RNext (a b : Option Nat) : Prop := ∀ y, b = some y → ∃ x, a = some x ∧ x ≤ y

theorem RNext.refl (a : Option Nat) : RNext a a := fun y h => ⟨y, h, Nat.le_refl _⟩
theorem RNext.trans {a b c : Option Nat} (h1 : RNext a b) (h2 : RNext b c) : RNext a c := fun z hz => by
  obtain ⟨y, hy, hyz⟩ := h2 z hz
  obtain ⟨x, hx, hxy⟩ := h1 y hy
  exact ⟨x, hx, Nat.le_trans hxy hyz⟩

structure HR (s s' : Streams) : Prop where
  held : ∀ c, Held s c → Held s' c
  next : RNext s.recv.nextStreamId s'.recv.nextStreamId

theorem HR.trans {a b c : Streams} (h1 : HR a b) (h2 : HR b c) : HR a c :=
  ⟨fun k h => h2.held k (h1.held k h), h1.next.trans h2.next⟩

abbrev Grows (a b : Stream) : Prop := ∃ l, b.pendingRecv = a.pendingRecv ++ l

theorem Grows.refl (a : Stream) : Grows a a := ⟨[], (List.append_nil _).symm⟩
theorem Grows.trans {a b c : Stream} (h1 : Grows a b) (h2 : Grows b c) : Grows a c := by
  obtain ⟨l1, e1⟩ := h1
  obtain ⟨l2, e2⟩ := h2
  exact ⟨l1 ++ l2, by rw [e2, e1, List.append_assoc]⟩

/-- backward frame: held afterwards ⇒ held before, same `ref_count`, `pending_recv` grown at its end -/
structure HB (s s' : Streams) : Prop where
  back : ∀ c, Held s' c → Held s c ∧ (s'.stream c).refCount = (s.stream c).refCount ∧ Grows (s.stream c) (s'.stream c)

theorem HB.refl (s : Streams) : HB s s := ⟨fun _ h => ⟨h, rfl, .refl _⟩⟩
theorem HB.trans {a b c : Streams} (h1 : HB a b) (h2 : HB b c) : HB a c := ⟨fun k hk => by
  obtain ⟨hb, r2, g2⟩ := h2.back k hk
  obtain ⟨ha, r1, g1⟩ := h1.back k hb
  exact ⟨ha, r2.trans r1, g1.trans g2⟩⟩

structure Kept (a b : Stream) : Prop where
  key : b.key = a.key
  acc : b.isPendingAccept = a.isPendingAccept
  ppp : b.pendingPushPromises = a.pendingPushPromises ∨ b.pendingPushPromises = []
  ref : b.refCount = a.refCount
  app : Grows a b

/-- the projections the frames look at -/
def rp (x : Stream) : Nat × Bool × Nat × List REvent := (x.key, x.isPendingAccept, x.refCount, x.pendingRecv)

theorem rp_setQueued (x : Stream) (q : QName) (v : Bool) (h : q ≠ .pendingAccept) : rp (x.setQueued q v) = rp x := by
  cases q <;> first | rfl | exact absurd rfl h

def pj (x : Stream) : (Nat × Bool × Nat × List REvent) × List Nat := (rp x, x.pendingPushPromises)

theorem Kept.of_pj {a b : Stream} (h : pj b = pj a) : Kept a b := by
  unfold pj rp at h
  simp only [Prod.mk.injEq] at h
  exact ⟨h.1.1, h.1.2.1, .inl h.2, h.1.2.2.1, [], by rw [h.1.2.2.2, List.append_nil]⟩

theorem pj_notifySend (x : Stream) : pj x.notifySend.1 = pj x := by rw [Stream.notifySend_fst]; rfl
theorem pj_notifyRecv (x : Stream) : pj x.notifyRecv.1 = pj x := by rw [Stream.notifyRecv_fst]; rfl
theorem pj_notifyPush (x : Stream) : pj x.notifyPush.1 = pj x := by rw [Stream.notifyPush_fst]; rfl
theorem pj_notifyCapacity (x : Stream) : pj x.notifyCapacity.1 = pj x := by rw [Stream.notifyCapacity_fst]; rfl
theorem pj_assignCapacity (x : Stream) (a b : Nat) : pj (x.assignCapacity a b).1 = pj x := by
  rw [Stream.assignCapacity_fst]; split <;> rfl
theorem pj_setReset (x : Stream) (r : Reason) (i : Initiator) : pj (x.setReset r i).1 = pj x := by
  rw [Stream.setReset_fst]; rfl
theorem pj_sendData (x : Stream) (a b : Nat) : pj (x.sendData a b).1 = pj x := by
  rw [Stream.sendData_fst]; split <;> rfl

/-- the three frames at once; `ref_count` and `pending_recv` of the entries in `ks` are free -/
structure PF (ks : List Nat) (s s' : Streams) : Prop where
  pw : PW s s'
  held : ∀ c, Held s' c ↔ Held s c
  next : RNext s.recv.nextStreamId s'.recv.nextStreamId
  keep : ∀ c, Held s' c → c ∉ ks → (s'.stream c).refCount = (s.stream c).refCount ∧ Grows (s.stream c) (s'.stream c)

variable {ks : List Nat}

theorem PF.refl (ks : List Nat) (s : Streams) : PF ks s s := ⟨.refl _, fun _ => Iff.rfl, .refl _, fun _ _ _ => ⟨rfl, .refl _⟩⟩
theorem PF.trans {a b c : Streams} (h1 : PF ks a b) (h2 : PF ks b c) : PF ks a c :=
  ⟨h1.pw.trans h2.pw, fun k => (h2.held k).trans (h1.held k), h1.next.trans h2.next, fun k hk hn => by
    obtain ⟨r2, g2⟩ := h2.keep k hk hn
    obtain ⟨r1, g1⟩ := h1.keep k ((h2.held k).mp hk) hn
    exact ⟨r2.trans r1, g1.trans g2⟩⟩

theorem PF.hr {s s' : Streams} (h : PF ks s s') : HR s s' := ⟨fun c hc => (h.held c).mpr hc, h.next⟩
/-- the streams of the handles are not held -/
theorem PF.hb {s s' : Streams} (h : PF ks s s') (hk : ∀ k ∈ ks, ¬ Held s k) : HB s s' := ⟨fun c hc =>
  have h0 := (h.held c).mp hc
  ⟨h0, h.keep c hc (fun hm => hk c hm h0)⟩⟩
/-- a key that is not held afterwards needs no exception -/
theorem PF.drop_key {k : Nat} {s s' : Streams} (h : PF (k :: ks) s s') (hk : ¬ Held s' k) : PF ks s s' :=
  ⟨h.pw, h.held, h.next, fun c hc hn => h.keep c hc (fun hm => by
    rcases List.mem_cons.mp hm with e | e
    · exact hk (e ▸ hc)
    · exact hn e)⟩

theorem PF.of_qf {s s' : Streams} (h : QF .pendingAccept s s') (hn : RNext s.recv.nextStreamId s'.recv.nextStreamId)
    (he : ∀ j, Live s' j → ((s'.stream j).pendingPushPromises = (s.stream j).pendingPushPromises ∨
        (s'.stream j).pendingPushPromises = []) ∧
      (j ∉ ks → (s'.stream j).refCount = (s.stream j).refCount ∧ Grows (s.stream j) (s'.stream j))) : PF ks s s' := by
  have hq : s'.recv.pendingAccept = s.recv.pendingAccept := h.queue
  refine ⟨.of_live fun j hl => (he j hl).1, fun c => ?_, hn, fun c hc hn => (he c (held_live hc)).2 hn⟩
  unfold Held; rw [h.fl c, hq]

theorem PF.of_store {s s' : Streams} (h1 : s'.store = s.store) (h2 : s'.recv.pendingAccept = s.recv.pendingAccept)
    (h3 : s'.recv.nextStreamId = s.recv.nextStreamId) : PF ks s s' :=
  .of_qf (.of_store_q h1 h2) (by rw [h3]; exact .refl _) (fun j _ => by unfold Streams.stream; rw [h1]; exact ⟨.inl rfl, fun _ => ⟨rfl, .refl _⟩⟩)

theorem wake_pf (s : Streams) (t : List String) : PF ks s (s.wake t) := .of_store rfl rfl rfl
theorem panic_pf (s : Streams) (m : String) : PF ks s (s.panic m) :=
  .of_store (panic_store _ _) (by rw [Streams.panic_recv]) (by rw [Streams.panic_recv])
theorem pf_relOK : Conn.RelOK (PF ks) := ⟨PF.refl ks, PF.trans, panic_pf⟩
theorem modCountsA_pf (s : Streams) (w : String) (f : Counts → Option Counts) : PF ks s (s.modCountsA w f) := by
  unfold Streams.modCountsA; split
  · exact .of_store rfl rfl rfl
  · exact panic_pf _ _
theorem setMisc_pf (s : Streams) (a : Actions) (refs leaked : Nat) (wk : List String) (un : Option String)
    (ha : a.recv.pendingAccept = s.actions.recv.pendingAccept ∧ a.recv.nextStreamId = s.actions.recv.nextStreamId) :
    PF ks s { s with actions := a, refs := refs, recvBufferLeaked := leaked, wakes := wk, unsupported := un } :=
  .of_store rfl ha.1 ha.2
theorem setCounts_pf (s : Streams) (c : Counts) : PF ks s { s with counts := c } := .of_store rfl rfl rfl

/-- an update of entry `k`: it keeps the projections (appending to `pending_recv` allowed), or `k` is the stream of a
    handle and the update keeps key, flag and list -/
theorem setStream_pf (s : Streams) (k : Nat) (st' : Stream) (hk : st'.key = k)
    (h : Kept (s.stream k) st' ∨ (k ∈ ks ∧ st'.isPendingAccept = (s.stream k).isPendingAccept ∧
      st'.pendingPushPromises = (s.stream k).pendingPushPromises)) : PF ks s (s.setStream st') := by
  have hfl : st'.isPendingAccept = (s.stream k).isPendingAccept := by
    rcases h with h | h
    · exact h.acc
    · exact h.2.1
  refine .of_qf (QF.setStream _ s st' fun x hx => ?_) (.refl _) fun j _ => ?_
  · rw [hk] at hx
    show st'.isPendingAccept = x.isPendingAccept
    rw [hfl, stream_of_get? hx]
  · rcases setStream_stream s st' j with e | ⟨e, hjk, _⟩
    · rw [e]; exact ⟨.inl rfl, fun _ => ⟨rfl, .refl _⟩⟩
    · rw [hk] at hjk
      subst hjk
      rw [e]
      rcases h with h | h
      · exact ⟨h.ppp, fun _ => ⟨h.ref, h.app⟩⟩
      · exact ⟨.inl h.2.2, fun hn => absurd h.1 hn⟩

theorem modStream_pf' (s : Streams) (k : Nat) (f : Stream → Stream)
    (h : Kept (s.stream k) (f (s.stream k)) ∨ (k ∈ ks ∧ (f (s.stream k)).key = (s.stream k).key ∧
      (f (s.stream k)).isPendingAccept = (s.stream k).isPendingAccept ∧
      (f (s.stream k)).pendingPushPromises = (s.stream k).pendingPushPromises)) : PF ks s (s.modStream k f) := by
  unfold Streams.modStream
  split
  · next st hst =>
    rw [stream_of_get? hst] at h
    have hkey : (f st).key = k := by
      rcases h with h | h
      · rw [h.key, get?_key hst]
      · rw [h.2.1, get?_key hst]
    refine setStream_pf s k (f st) hkey ?_
    rw [stream_of_get? hst]
    exact h.imp id fun h => ⟨h.1, h.2.2⟩
  · exact panic_pf _ _

theorem modStream_pf (s : Streams) (k : Nat) (f : Stream → Stream)
    (h : (∀ x, Kept x (f x)) ∨ (k ∈ ks ∧ ∀ x, (f x).key = x.key ∧ (f x).isPendingAccept = x.isPendingAccept ∧
      (f x).pendingPushPromises = x.pendingPushPromises)) : PF ks s (s.modStream k f) :=
  modStream_pf' s k f (h.imp (· _) fun h => ⟨h.1, h.2 _⟩)

theorem modStreamW_pf' (s : Streams) (k : Nat) (f : Stream → Stream × List String)
    (h : Kept (s.stream k) (f (s.stream k)).1 ∨ (k ∈ ks ∧ (f (s.stream k)).1.key = (s.stream k).key ∧
      (f (s.stream k)).1.isPendingAccept = (s.stream k).isPendingAccept ∧
      (f (s.stream k)).1.pendingPushPromises = (s.stream k).pendingPushPromises)) : PF ks s (s.modStreamW k f) := by
  have h1 := modStream_pf' s k (fun x => (f x).1) h
  unfold Streams.modStream at h1
  unfold Streams.modStreamW
  split
  · next st hst => rw [hst] at h1; exact h1.trans (wake_pf _ _)
  · exact panic_pf _ _

theorem modStreamW_pf (s : Streams) (k : Nat) (f : Stream → Stream × List String)
    (h : (∀ x, Kept x (f x).1) ∨ (k ∈ ks ∧ ∀ x, (f x).1.key = x.key ∧ (f x).1.isPendingAccept = x.isPendingAccept ∧
      (f x).1.pendingPushPromises = x.pendingPushPromises)) : PF ks s (s.modStreamW k f) :=
  modStreamW_pf' s k f (h.imp (· _) fun h => ⟨h.1, h.2 _⟩)

/-- projections of the entry `transition_after` does not touch (anything but `is_counted`) -/
theorem transitionAfter_proj {α : Type} (P : Stream → α) (hP : ∀ x b, P ({ x with isCounted := b } : Stream) = P x)
    {s : Streams} {j : Nat} (b : Bool) {k : Nat} (hl : Live (s.transitionAfter k b) j) : P ((s.transitionAfter k b).stream j) = P (s.stream j) := by
  obtain ⟨m, hfr, _, hfin⟩ := transitionAfter_shapeP P hP s k b
  rcases hfin with e | ⟨_, _, e⟩
  · have : (s.transitionAfter k b).stream j = m.stream j := by unfold Streams.stream; rw [e]
    rw [this]; exact hfr.p j
  · have hjk : j ≠ k := by
      intro hjk; subst hjk
      obtain ⟨x, hx⟩ := hl
      rw [e, remove_get?_self] at hx; cases hx
    have : (s.transitionAfter k b).stream j = m.stream j := by
      unfold Streams.stream; rw [e, remove_get?_ne _ _ _ hjk]
    rw [this]; exact hfr.p j

theorem flagged_setQueued (s : Streams) (k : Nat) (v : Bool) (c : Nat) :
    Flagged .pendingAccept (s.modStream k fun st => st.setQueued .pendingAccept v) c ↔
      if c = k then v = true ∧ Live s k else Flagged .pendingAccept s c := by
  cases hg : s.store.get? k with
  | none =>
    have hst : (s.modStream k fun st => st.setQueued .pendingAccept v).store = s.store := by
      unfold Streams.modStream; rw [hg]; dsimp only; rw [panic_store]
    unfold Flagged; rw [hst]
    split
    · next e =>
      rw [e, hg]
      exact ⟨fun ⟨_, h, _⟩ => (nomatch h), fun ⟨_, _, h⟩ => (nomatch hg.symm.trans h)⟩
    · exact Iff.rfl
  | some y =>
    rw [flagged_modStream_set .pendingAccept s k v y hg c]
    split
    · exact ⟨fun h => ⟨h, y, hg⟩, fun h => h.1⟩
    · exact Iff.rfl

/-- `Queue::push` on `pending_accept` makes its entry flagged AND queued, `Queue::pop` unflags the key it pops: that
    entry is held neither before nor after, the others are not touched -/
theorem held_congr {s s' : Streams} {k : Nat}
    (hfl : ∀ c, c ≠ k → (Flagged .pendingAccept s' c ↔ Flagged .pendingAccept s c))
    (hq : ∀ c, c ≠ k → (c ∈ s'.recv.pendingAccept ↔ c ∈ s.recv.pendingAccept))
    (hk : ¬ Held s k) (hk' : ¬ Held s' k) (c : Nat) : Held s' c ↔ Held s c := by
  by_cases hck : c = k
  · subst hck; exact ⟨fun h => absurd h hk', fun h => absurd h hk⟩
  · unfold Held; rw [hfl c hck, hq c hck]

theorem qPush_held (s : Streams) (k c : Nat) : Held (s.qPush .pendingAccept k).1 c ↔ Held s c := by
  unfold Streams.qPush; split
  · exact Iff.rfl
  · next hk =>
    refine held_congr (k := k) (fun c hc => ?_) (fun c hc => ?_) (fun h => ?_) (fun h => h.2 ?_) c
    · unfold Flagged; rw [setQ_store]; have := flagged_setQueued s k true c; rw [if_neg hc] at this; exact this
    · exact ⟨fun h => (List.mem_append.mp h).elim id (fun h => absurd (List.mem_singleton.mp h) hc),
        fun h => List.mem_append.mpr (.inl h)⟩
    · obtain ⟨x, hx, hq⟩ := h.1
      rw [stream_of_get? hx, hq] at hk; exact hk rfl
    · exact List.mem_append.mpr (.inr (List.mem_singleton.mpr rfl))

theorem qPushFront_held (s : Streams) (k c : Nat) : Held (s.qPushFront .pendingAccept k).1 c ↔ Held s c := by
  unfold Streams.qPushFront; split
  · exact Iff.rfl
  · next hk =>
    refine held_congr (k := k) (fun c hc => ?_) (fun c hc => ?_) (fun h => ?_) (fun h => h.2 (List.mem_cons_self ..)) c
    · unfold Flagged; rw [setQ_store]; have := flagged_setQueued s k true c; rw [if_neg hc] at this; exact this
    · exact ⟨fun h => (List.mem_cons.mp h).elim (fun h => absurd h hc) id, fun h => List.mem_cons_of_mem _ h⟩
    · obtain ⟨x, hx, hq⟩ := h.1
      rw [stream_of_get? hx, hq] at hk; exact hk rfl

theorem qPop_held (s : Streams) (c : Nat) : Held (s.qPop .pendingAccept).1 c ↔ Held s c := by
  unfold Streams.qPop; split
  · exact Iff.rfl
  · next id rest hrest =>
    have hql : s.recv.pendingAccept = id :: rest := hrest
    have hfl := flagged_setQueued (s.setQ .pendingAccept rest) id false
    refine held_congr (k := id) (fun c hc => ?_) (fun c hc => ?_) (fun h => h.2 ?_) (fun h => ?_) c
    · have := hfl c; rw [if_neg hc] at this; rw [this]; unfold Flagged; rw [setQ_store]
    · rw [Streams.modStream_recv, hql]
      exact ⟨fun h => List.mem_cons_of_mem _ h, fun h => (List.mem_cons.mp h).elim (fun h => absurd h hc) (fun h => h)⟩
    · rw [hql]; exact List.mem_cons_self ..
    · have := (hfl id).mp h.1; rw [if_pos rfl] at this; cases this.1

theorem setQueued_proj (x : Stream) (q : QName) (v : Bool) :
    ((x.setQueued q v).pendingPushPromises, (x.setQueued q v).refCount, (x.setQueued q v).pendingRecv) =
      (x.pendingPushPromises, x.refCount, x.pendingRecv) := by cases q <;> rfl

theorem PF.of_held {s s' : Streams} (hh : ∀ c, Held s' c ↔ Held s c) (hn : s'.recv.nextStreamId = s.recv.nextStreamId)
    (hs : SPr (fun x => (x.pendingPushPromises, x.refCount, x.pendingRecv)) s s') : PF ks s s' := by
  have hs' := fun j => Prod.mk.inj (hs j)
  exact ⟨fun j => .inl (hs' j).1, hh, by rw [hn]; exact .refl _, fun c _ _ =>
    ⟨(Prod.mk.inj (hs' c).2).1, [], by rw [(Prod.mk.inj (hs' c).2).2, List.append_nil]⟩⟩

theorem held_iff_of_qf {s s' : Streams} (h : QF .pendingAccept s s') (c : Nat) : Held s' c ↔ Held s c := by
  have hq : s'.recv.pendingAccept = s.recv.pendingAccept := h.queue
  unfold Held; rw [h.fl c, hq]

theorem setQ_recv_next (s : Streams) (q : QName) (l : List Nat) : (s.setQ q l).recv.nextStreamId = s.recv.nextStreamId := by
  cases q <;> rfl

theorem qPush_pf (s : Streams) (q : QName) (k : Nat) : PF ks s (s.qPush q k).1 := by
  refine .of_held (fun c => ?_) ?_ (qPush_spr _ _ _ (fun x v => setQueued_proj x q v))
  · by_cases hq : QName.pendingAccept = q
    · subst hq; exact qPush_held s k c
    · exact held_iff_of_qf (QF.qPush _ _ _ _ hq) c
  · unfold Streams.qPush; split
    · rfl
    · rw [setQ_recv_next, Streams.modStream_recv]
theorem qPushFront_pf (s : Streams) (q : QName) (k : Nat) : PF ks s (s.qPushFront q k).1 := by
  refine .of_held (fun c => ?_) ?_ (qPushFront_spr _ _ _ (fun x v => setQueued_proj x q v))
  · by_cases hq : QName.pendingAccept = q
    · subst hq; exact qPushFront_held s k c
    · exact held_iff_of_qf (QF.qPushFront _ _ _ _ hq) c
  · unfold Streams.qPushFront; split
    · rfl
    · rw [setQ_recv_next, Streams.modStream_recv]
theorem qPop_pf (s : Streams) (q : QName) : PF ks s (s.qPop q).1 := by
  refine .of_held (fun c => ?_) ?_ (qPop_spr _ _ (fun x v => setQueued_proj x q v))
  · by_cases hq : QName.pendingAccept = q
    · subst hq; exact qPop_held s c
    · exact held_iff_of_qf (QF.qPop _ _ _ hq) c
  · unfold Streams.qPop; split
    · rfl
    · rw [Streams.modStream_recv, setQ_recv_next]

theorem PF.ite {s a b : Streams} {c : Prop} [Decidable c] (h1 : PF ks s a) (h2 : PF ks s b) :
    PF ks s (if c then a else b) := by split <;> assumption

theorem counted_pf (s : Streams) (f : Counts → Counts) (k : Nat) (b : Bool) :
    PF ks s ((s.modCounts f).modStream k fun st => { st with isCounted := b }) :=
  PF.trans (b := s.modCounts f) (.of_store rfl rfl rfl) (modStream_pf _ _ _ (.inl fun _ => .of_pj rfl))

theorem incNumSendStreams_pf (s : Streams) (k : Nat) : PF ks s (s.incNumSendStreams k) :=
  Streams.incNumSendStreams_rel pf_relOK (fun _ _ => .of_store rfl rfl rfl) (fun _ _ => modStream_pf _ _ _ (.inl fun _ => .of_pj rfl)) s k
theorem incNumRecvStreams_pf (s : Streams) (k : Nat) : PF ks s (s.incNumRecvStreams k) :=
  Streams.incNumRecvStreams_rel pf_relOK (fun _ _ => .of_store rfl rfl rfl) (fun _ _ => modStream_pf _ _ _ (.inl fun _ => .of_pj rfl)) s k
theorem decNumStreams_pf (s : Streams) (k : Nat) : PF ks s (s.decNumStreams k) := by
  unfold Streams.decNumStreams
  dsimp only
  refine PF.ite ?_ ?_ <;> refine .trans (.trans ?_ (PF.ite (.refl _ _) (panic_pf _ _))) (counted_pf _ _ _ _) <;>
    exact PF.ite (.refl _ _) (panic_pf _ _)

/-- the kinds of update `PF ks` takes whatever `ks` is: no new entry (`insert_pf` asks for its flags), no change of
    `ref_count` and nothing taken from `pending_recv` (that is what `ks` is for), the promise bookkeeping not written
    by hand -/
def PF.kinds : Kind → Bool
  | .insert | .refInc | .refDec | .takeRecv | .promise => false
  | _ => true

theorem Kept.of_updW {x : Stream} {p : Stream × List String} (h : Stream.UpdW PF.kinds x p) : Kept x p.1 := by
  cases h with
  | notifySend => exact .of_pj (pj_notifySend x)
  | notifyRecv => exact .of_pj (pj_notifyRecv x)
  | notifyPush => exact .of_pj (pj_notifyPush x)
  | notifyCapacity => exact .of_pj (pj_notifyCapacity x)
  | assignCapacity c m _ => exact .of_pj (pj_assignCapacity x c m)
  | setReset r i _ => exact .of_pj (pj_setReset x r i)

theorem Kept.of_upd {x y : Stream} (h : Stream.Upd PF.kinds x y) : Kept x y := by
  cases h with
  | refInc h | refDec h | popRecv _ _ h | clearRecv h | accept _ h | popPromise _ _ h | pushPromise _ h =>
    exact absurd h (by decide)
  | sendData n m => exact .of_pj (pj_sendData x n m)
  | pushRecv e => exact ⟨rfl, rfl, .inl rfl, rfl, [e], rfl⟩
  | clearPromises => exact ⟨rfl, rfl, .inr rfl, rfl, .refl _⟩
  | decContentLength n _ h => obtain ⟨_, rfl⟩ := Stream.decContentLength_eq h; exact .of_pj rfl
  | _ => exact .of_pj rfl

/-- the stream layer moves `recv.next_stream_id` only past an id at or above it -/
theorem RNext.of_upd {K : Kind → Bool} {p p' : Recv} (h : Recv.Upd K p p') : RNext p.nextStreamId p'.nextStreamId := by
  cases h with
  | bumpNext n id _ hn hle =>
    refine fun y hy => ⟨n, hn, ?_⟩
    dsimp only at hy
    split at hy
    · cases hy
    · cases hy; omega
  | _ => exact .refl _

theorem PF.of_step {s s' : Streams} (h : Streams.Step PF.kinds s s') : PF ks s s' := by
  induction h with
  | refl s => exact .refl _ s
  | trans _ _ ih1 ih2 => exact ih1.trans ih2
  | panic s m => exact panic_pf s m
  | unsup s m => unfold Streams.unsup; split <;> first | exact .refl _ _ | exact .of_store rfl rfl rfl
  | notifyTask s _ =>
    exact .of_store (Streams.notifyTask_store s) (by unfold Streams.notifyTask; split <;> rfl) (by unfold Streams.notifyTask; split <;> rfl)
  | wake | setTask | setConnError | setRefs | modPrio | modSend | setCounts => exact .of_store rfl rfl rfl
  | modRecv s f h =>
    exact .of_qf (.of_store_q rfl h.queues.2.1) (.of_upd h) fun _ _ => ⟨.inl rfl, fun _ => ⟨rfl, .refl _⟩⟩
  | qPush s q k _ => exact qPush_pf s q k
  | qPushFront s q k _ => exact qPushFront_pf s q k
  | qPop s q _ => exact qPop_pf s q
  | incNumSendStreams s k _ => exact incNumSendStreams_pf s k
  | incNumRecvStreams s k _ => exact incNumRecvStreams_pf s k
  | decNumStreams s k => exact decNumStreams_pf s k
  | modStream s k f h => exact modStream_pf' s k f (.inl (.of_upd h))
  | modStreamW s k f h => exact modStreamW_pf' s k f (.inl (.of_updW h))
  | setStream s x h => exact setStream_pf s x.key x rfl (.inl (.of_upd h))
  | insert _ _ _ _ h | insertWith _ _ _ _ _ h | undoInsert _ _ _ h => exact absurd h (by decide)
  | unlink s id _ => exact .of_qf (QF.unlink _ s id) (.refl _) fun j _ => ⟨.inl rfl, fun _ => ⟨rfl, .refl _⟩⟩
  | remove s k n _ h =>
    refine .of_qf (QF.remove _ s k n fun st hst => isReleased_flags (stream_of_get? hst ▸ h) _) (.refl _) fun j hl => ?_
    have hjk : j ≠ k := by
      intro hjk; subst hjk
      obtain ⟨x, hx⟩ := hl
      have hx : (s.store.remove j).get? j = some x := hx
      rw [remove_get?_self] at hx; cases hx
    have : ({ s with store := s.store.remove k, recvBufferLeaked := n } : Streams).stream j = s.stream j := by
      unfold Streams.stream; dsimp only; rw [remove_get?_ne _ _ _ hjk]
    rw [this]; exact ⟨.inl rfl, fun _ => ⟨rfl, .refl _⟩⟩

theorem transitionAfter_pf (s : Streams) (k : Nat) (b : Bool) : PF ks s (s.transitionAfter k b) :=
  .of_step (Streams.transitionAfter_step (by decide) s k b)

/-- side conditions of the building blocks -/
syntax "pf_side" : tactic
macro_rules | `(tactic| pf_side) => `(tactic| decide)
macro_rules | `(tactic| pf_side) => `(tactic| upd_tac)
macro_rules | `(tactic| pf_side) => `(tactic| with_reducible exact .inl (fun _ => ⟨rfl, rfl, .inl rfl, rfl, [], (List.append_nil _).symm⟩))
macro_rules | `(tactic| pf_side) => `(tactic| with_reducible exact .inl (fun _ => ⟨rfl, rfl, .inl rfl, rfl, _, rfl⟩))
macro_rules | `(tactic| pf_side) => `(tactic| exact .inl (fun _ => Kept.of_pj (by with_reducible first
  | exact pj_notifySend _ | exact pj_notifyRecv _ | exact pj_notifyPush _ | exact pj_notifyCapacity _
  | exact pj_assignCapacity _ _ _ | exact pj_setReset _ _ _)))
macro_rules | `(tactic| pf_side) => `(tactic| exact .inr ⟨by assumption, fun _ => ⟨rfl, rfl, rfl⟩⟩)
macro_rules | `(tactic| pf_side) => `(tactic| with_reducible assumption)

/-- one call peeled off: its lemma `g_pf` if there is one, else `g_step` of the layer through `PF.of_step` (the
    footprint is then checked against `PF.kinds` by `decide`) -/
syntax "pf_step" : tactic
macro_rules | `(tactic| pf_step) => `(tactic| open H2V.Model.Conn.Streams in rel_head PF "_pf" via PF.of_step "_step" => (first
    | with_reducible refine PF.trans ?_ (setMisc_pf _ _ _ _ _ _ ⟨rfl, rfl⟩)
    | with_reducible refine PF.trans ?_ (setCounts_pf _ _))
  on_ite (with_reducible refine PF.ite ?_ ?_))
macro_rules | `(tactic| pf_step) => `(tactic| with_reducible refine of_fst_eq (P := PF _ _) (by with_reducible assumption) ?_)
macro_rules | `(tactic| pf_step) => `(tactic| with_reducible assumption)
macro_rules | `(tactic| pf_step) => `(tactic| with_reducible exact PF.refl _ _)

macro "pf_auto" : tactic => `(tactic| repeat (first | pf_step | pf_side | intro _ | split | dsimp only))

-- the same peeling for a goal of one frame alone, inside a fuel induction with hypothesis `ih`; the rules for
-- `*_step` and `*_side` are given where such a goal comes up
syntax "pp_step" : tactic
syntax "pp_side" : tactic
macro "pp_auto_ih" ih:ident : tactic =>
  `(tactic| repeat (first | pp_step | with_reducible refine PP.trans ?_ ($ih ..) | pp_side | intro _ | split | dsimp only))
syntax "hr_step" : tactic
syntax "hr_side" : tactic
macro "hr_auto_ih" ih:ident : tactic =>
  `(tactic| repeat (first | hr_step | with_reducible refine HR.trans ?_ ($ih ..) | hr_side | intro _ | split | dsimp only))
syntax "hb_step" : tactic
syntax "hb_side" : tactic
macro "hb_auto_ih" ih:ident : tactic =>
  `(tactic| repeat (first | hb_step | with_reducible refine HB.trans ?_ ($ih ..) | hb_side | intro _ | split | dsimp only))

end H2V.Lemmas.ConnNoPanicP
