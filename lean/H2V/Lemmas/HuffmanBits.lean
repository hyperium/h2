import H2V.Spec.Huffman
/-
  Bit-string lemmas: `codeBits n v` (the `n` low bits of `v`, most significant first) versus
  arithmetic on `v`.
-/
namespace H2V.Lemmas.Huffman
open H2V H2V.Spec.Huffman

theorem bit_eq_testBit (v n : Nat) : (v / 2 ^ n % 2 == 1) = v.testBit n := by
  rw [Nat.testBit_eq_decide_div_mod_eq]
  by_cases h : v / 2 ^ n % 2 = 1 <;> simp [h]

theorem codeBits_succ (n v : Nat) : codeBits (n + 1) v = v.testBit n :: codeBits n v := by
  simp only [codeBits, bit_eq_testBit]

@[simp] theorem codeBits_length (n v : Nat) : (codeBits n v).length = n := by
  induction n with
  | zero => rfl
  | succ n ih => simp [codeBits, ih]

theorem codeBits_congr {n v w : Nat} (h : ∀ i, i < n → v.testBit i = w.testBit i) :
    codeBits n v = codeBits n w := by
  induction n with
  | zero => rfl
  | succ n ih =>
    rw [codeBits_succ, codeBits_succ, h n (Nat.lt_succ_self n), ih (fun i hi => h i (by omega))]

theorem codeBits_mod {n m : Nat} (v : Nat) (h : n ≤ m) : codeBits n (v % 2 ^ m) = codeBits n v := by
  apply codeBits_congr
  intro i hi
  rw [Nat.testBit_mod_two_pow]
  simp [show i < m by omega]

theorem codeBits_add (a b v : Nat) :
    codeBits (a + b) v = codeBits a (v / 2 ^ b) ++ codeBits b v := by
  induction a with
  | zero => simp [codeBits]
  | succ a ih =>
    rw [show a + 1 + b = (a + b) + 1 by omega, codeBits_succ, codeBits_succ, ih,
      Nat.testBit_div_two_pow]
    rfl

theorem codeBits_split {k n : Nat} (v : Nat) (h : k ≤ n) :
    codeBits n v = codeBits k (v / 2 ^ (n - k)) ++ codeBits (n - k) v := by
  have := codeBits_add k (n - k) v
  rwa [show k + (n - k) = n by omega] at this

theorem byteBits_eq (b : Nat) : byteBits b = codeBits 8 b := by
  simp [byteBits, codeBits]

theorem shl_add_div {a r k : Nat} (h : r < 2 ^ k) : (a * 2 ^ k + r) / 2 ^ k = a := by
  rw [Nat.add_comm, Nat.add_mul_div_right _ _ (Nat.two_pow_pos k), Nat.div_eq_of_lt h, Nat.zero_add]

/-- the numeric value of a bit, as used by `go` -/
theorem bitNat_eq (y : Nat) : (if (y % 2 == 1) = true then 1 else 0) = y % 2 := by
  rcases Nat.mod_two_eq_zero_or_one y with h | h <;> simp [h]

theorem step_arith (val x k : Nat) :
    val * 2 ^ (k + 1) + x % 2 ^ (k + 1) = (2 * val + x / 2 ^ k % 2) * 2 ^ k + x % 2 ^ k := by
  rw [Nat.mod_pow_succ, Nat.pow_succ]
  generalize 2 ^ k = P
  generalize x % P = r
  generalize x / P % 2 = b
  grind

theorem bitsVal_codeBits (k x a : Nat) : bitsVal (codeBits k x) a = a * 2 ^ k + x % 2 ^ k := by
  induction k generalizing a with
  | zero => simp [codeBits, bitsVal, Nat.mod_one]
  | succ k ih => simp only [codeBits, bitsVal, bitNat_eq, ih, step_arith]

theorem bitsVal_append (P Q : List Bool) (a : Nat) :
    bitsVal (P ++ Q) a = bitsVal Q (bitsVal P a) := by
  induction P generalizing a with
  | nil => rfl
  | cons b P ih => simp only [List.cons_append, bitsVal, ih]

theorem split_arith (val x a b : Nat) :
    val * 2 ^ (a + b) + x % 2 ^ (a + b) =
      (val * 2 ^ a + x / 2 ^ b % 2 ^ a) * 2 ^ b + x % 2 ^ b := by
  have := congrArg (bitsVal · val) (codeBits_add a b x)
  simpa only [bitsVal_append, bitsVal_codeBits] using this

theorem codeBits_ones (n : Nat) : codeBits n (2 ^ n - 1) = List.replicate n true := by
  induction n with
  | zero => rfl
  | succ n ih =>
    rw [codeBits_succ, Nat.testBit_two_pow_sub_one, List.replicate_succ, ← ih]
    congr 1
    · simp
    · apply codeBits_congr
      intro i hi
      simp [Nat.testBit_two_pow_sub_one, hi, Nat.lt_succ_of_lt hi]

end H2V.Lemmas.Huffman
