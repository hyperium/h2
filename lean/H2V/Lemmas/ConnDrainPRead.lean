import H2V.Model.ConnProto
import H2V.Lemmas.ConnFlush
/-
  ConnDrainP — the read side of `Connection::poll2`: `Codec::poll_next` answers `Pending` only
  after the transport holds the caller's read waker.
-/
namespace H2V.Lemmas.ConnDrainP
open H2V H2V.Model H2V.Model.Conn

/-- `Codec::poll_next` answers `Pending` only after handing the caller's waker to the transport's read
    half — provided the fuel covers the octets still to be scanned (`poll2` passes
    `buffered + unread + 2`; every recursive call has consumed at least one buffered octet). -/
theorem pollNext_pending_parks (fuel : Nat) (c c' : Codec) (tag : String)
    (hf : c.r.buf.length + c.io.rd.length < fuel)
    (h : pollNext fuel c tag = (c', .pending)) : c'.io.readWaker = some tag := by
  induction fuel generalizing c with
  | zero => omega
  | succ n ih =>
    rcases pollNext_cases n c tag with e | ⟨_, _, _, e⟩ | ⟨_, _, e⟩ | ⟨hl, e⟩ | ⟨_, _, _, hq, e⟩ | e <;> rw [e] at h
    · cases h
    · cases h
    · cases h
    · exact ih _ (by show _ + 0 < n; omega) h
    · rcases hq with rfl | ⟨_, _, rfl⟩ <;> cases h
    · cases h; rfl

end H2V.Lemmas.ConnDrainP
