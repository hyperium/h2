import H2V.Lemmas.CodecBytes
/-
  Codec lemmas (goal A): what `encodeSimple` writes is read back by the reference parser
  `Spec.Frame.parse` as the frame that was meant.
-/
namespace H2V.Lemmas.Codec
open H2V H2V.Model.Frame

/-- the RFC-level frame a decoded/encodable model frame stands for (header frames carry a decoded
    block in the model and an opaque fragment in the spec: no correspondence at this level) -/
def toSpec : Model.Frame.Frame → Option Spec.Frame.Frame
  | .data sid payload eos padLen => some (.data sid eos padLen payload)
  | .priority sid dep weight excl => some (.priority sid ⟨excl, dep, weight⟩)
  | .reset sid code => some (.rstStream sid code)
  | .settings ack vals => some (.settings ack vals)
  | .ping ack p => some (.ping ack p)
  | .goAway last code dbg => some (.goaway last code dbg)
  | .windowUpdate sid inc => some (.windowUpdate sid inc)
  | .headers .. => none
  | .pushPromise .. => none

theorem flag_ite_one (b : Bool) : Spec.Frame.flag (if b then 1 else 0) 1 = b := by
  cases b <;> rfl
theorem flag_ite_one_8 (b : Bool) : Spec.Frame.flag (if b then 1 else 0) 8 = false := by
  cases b <;> rfl

theorem parse_encode_data (sid : Nat) (payload : Bytes) (eos : Bool) (pad : Option Nat)
    (hs0 : sid ≠ 0) (hs : sid < 2 ^ 31) (hp : payload.length < 2 ^ 24) :
    ∃ bytes, encodeSimple (.data sid payload eos pad) = some bytes ∧
      Spec.Frame.parse bytes = some (.ok (.data sid eos none payload)) := by
  refine ⟨_, rfl, ?_⟩
  rw [parse_head_encode _ _ hs hp]
  simp [Spec.Frame.ofParts, hs0, Spec.Frame.unpad, flag_ite_one, flag_ite_one_8]

theorem parse_encode_ping (ack : Bool) (p : Bytes) (hp : p.length = 8) :
    ∃ bytes, encodeSimple (.ping ack p) = some bytes ∧
      Spec.Frame.parse bytes = some (.ok (.ping ack p)) := by
  refine ⟨_, rfl, ?_⟩
  have := parse_head_encode (Head.mk 6 (if ack then 1 else 0) 0) p (by simp) (by omega)
  rw [hp] at this
  rw [this]
  simp [Spec.Frame.ofParts, hp, flag_ite_one]

theorem parse_encode_goaway (last code : Nat) (dbg : Bytes)
    (hl : last < 2 ^ 31) (hc : code < 2 ^ 32) (hd : 8 + dbg.length < 2 ^ 24) :
    ∃ bytes, encodeSimple (.goAway last code dbg) = some bytes ∧
      Spec.Frame.parse bytes = some (.ok (.goaway last code dbg)) := by
  refine ⟨_, rfl, ?_⟩
  have := parse_head_encode (Head.mk 7 0 0) (be32 last ++ be32 code ++ dbg) (by decide) (by simpa using by omega)
  have hlen : (be32 last ++ be32 code ++ dbg).length = 8 + dbg.length := by simp; omega
  rw [hlen] at this
  simp only [List.append_assoc] at this ⊢
  rw [this]
  have h1 : Spec.Frame.u31 (be32 last ++ (be32 code ++ dbg)) = last := be32_u31 last hl _
  have h2 : (be32 last ++ (be32 code ++ dbg)).drop 4 = be32 code ++ dbg := rfl
  have h3 : (be32 last ++ (be32 code ++ dbg)).drop 8 = dbg := rfl
  have h4 : ¬ ((be32 last ++ (be32 code ++ dbg)).length < 8) := by simp; omega
  simp only [Spec.Frame.ofParts, h1, h2, h3, be32_u32 code hc]
  simp
  omega

theorem parse_encode_window_update (sid inc : Nat)
    (hs : sid < 2 ^ 31) (hi0 : inc ≠ 0) (hi : inc < 2 ^ 31) :
    ∃ bytes, encodeSimple (.windowUpdate sid inc) = some bytes ∧
      Spec.Frame.parse bytes = some (.ok (.windowUpdate sid inc)) := by
  refine ⟨_, rfl, ?_⟩
  have := parse_head_encode (Head.mk 8 0 sid) (be32 inc) hs (by simp)
  simp only [be32_length] at this
  rw [this]
  have h1 : Spec.Frame.u31 (be32 inc) = inc := by simpa using be32_u31 inc hi []
  simp [Spec.Frame.ofParts, h1, hi0]

theorem parse_encode_reset (sid code : Nat)
    (hs0 : sid ≠ 0) (hs : sid < 2 ^ 31) (hc : code < 2 ^ 32) :
    ∃ bytes, encodeSimple (.reset sid code) = some bytes ∧
      Spec.Frame.parse bytes = some (.ok (.rstStream sid code)) := by
  refine ⟨_, rfl, ?_⟩
  have := parse_head_encode (Head.mk 3 0 sid) (be32 code) hs (by simp)
  simp only [be32_length] at this
  rw [this]
  have h1 : Spec.Frame.u32 (be32 code) = code := by simpa using be32_u32 code hc []
  simp [Spec.Frame.ofParts, h1, hs0]

/-- the values h2's own setters produce (`set_enable_push(bool)`, `set_initial_window_size` ≤ 2^31-1,
    `set_max_frame_size` asserts 2^14 ≤ v ≤ 2^24-1, `set_enable_connect_protocol` ≤ 1), all u32 -/
def SettingOK (p : Nat × Nat) : Prop :=
  p.2 < 2 ^ 32 ∧ (p.1 = 2 ∨ p.1 = 8 → p.2 ≤ 1) ∧ (p.1 = 4 → p.2 ≤ 2 ^ 31 - 1) ∧
    (p.1 = 5 → 2 ^ 14 ≤ p.2 ∧ p.2 ≤ 2 ^ 24 - 1)

instance (p : Nat × Nat) : Decidable (SettingOK p) := by unfold SettingOK; infer_instance

theorem paramViolation_of_ok (p : Nat × Nat) (h : SettingOK p) : Spec.Frame.paramViolation p = none := by
  obtain ⟨_, h28, h4, h5⟩ := h
  unfold Spec.Frame.paramViolation
  split
  · have := h28 (Or.inl rfl); simp at this ⊢; omega
  · have := h4 rfl; simp at this ⊢; omega
  · have := h5 rfl; simp at this ⊢; omega
  · have := h28 (Or.inr rfl); simp at this ⊢; omega
  · rfl

theorem mem_settingsOrder {vals : List (Nat × Nat)} {p : Nat × Nat} (h : p ∈ settingsOrder vals) :
    p ∈ vals ∧ p.1 ∈ [1, 2, 3, 4, 5, 6, 8] := by
  unfold settingsOrder at h
  rw [List.mem_filterMap] at h
  obtain ⟨id, hid, hf⟩ := h
  have h1 := List.mem_of_find?_eq_some hf
  have h2 := List.find?_some hf
  simp only [decide_eq_true_eq] at h2
  exact ⟨h1, h2 ▸ hid⟩

theorem settingsOrder_length_le (vals : List (Nat × Nat)) : (settingsOrder vals).length ≤ 7 := by
  unfold settingsOrder
  exact Nat.le_trans (List.length_filterMap_le _ _) (by simp)

theorem flatMap_setting_length (l : List (Nat × Nat)) :
    (l.flatMap fun (id, v) => be16 id ++ be32 v).length = 6 * l.length := by
  induction l with
  | nil => rfl
  | cons x xs ih => simp only [List.flatMap_cons, List.length_append, ih, be16_length, be32_length, List.length_cons]; omega

theorem settingsPayload_length (vals : List (Nat × Nat)) :
    (settingsPayload vals).length = 6 * (settingsOrder vals).length := flatMap_setting_length _

theorem params_flatMap (l : List (Nat × Nat)) (n : Nat) (hn : l.length ≤ n)
    (hr : ∀ p ∈ l, p.1 < 2 ^ 16 ∧ p.2 < 2 ^ 32) :
    Spec.Frame.params n (l.flatMap fun (id, v) => be16 id ++ be32 v) = l := by
  induction l generalizing n with
  | nil => cases n <;> simp [Spec.Frame.params]
  | cons x xs ih =>
    obtain ⟨id, v⟩ := x
    cases n with
    | zero => simp at hn
    | succ n =>
      have hx := hr (id, v) (List.mem_cons_self ..)
      simp only [List.flatMap_cons, Spec.Frame.params]
      have hl : ¬ ((be16 id ++ be32 v ++ List.flatMap (fun x => be16 x.1 ++ be32 x.2) xs).length < 6) := by
        simp only [List.length_append, be16_length, be32_length]; omega
      have h16 : Spec.Frame.u16 (be16 id ++ be32 v ++ List.flatMap (fun x => be16 x.1 ++ be32 x.2) xs) = id := by
        rw [List.append_assoc]; exact be16_u16 id hx.1 _
      have hd2 : (be16 id ++ be32 v ++ List.flatMap (fun x => be16 x.1 ++ be32 x.2) xs).drop 2
          = be32 v ++ List.flatMap (fun x => be16 x.1 ++ be32 x.2) xs := rfl
      have hd6 : (be16 id ++ be32 v ++ List.flatMap (fun x => be16 x.1 ++ be32 x.2) xs).drop 6
          = List.flatMap (fun x => be16 x.1 ++ be32 x.2) xs := rfl
      rw [if_neg hl, h16, hd2, hd6, be32_u32 v hx.2]
      have := ih n (by simpa using hn) (fun p hp => hr p (List.mem_cons_of_mem _ hp))
      simp only at this
      rw [this]

theorem parse_encode_settings (vals : List (Nat × Nat)) (hv : ∀ p ∈ vals, SettingOK p) :
    ∃ bytes, encodeSimple (.settings false vals) = some bytes ∧
      Spec.Frame.parse bytes = some (.ok (.settings false (settingsOrder vals))) := by
  refine ⟨_, rfl, ?_⟩
  have hlen := settingsPayload_length vals
  have hle := settingsOrder_length_le vals
  rw [parse_head_encode _ _ (by decide) (by omega)]
  have hpar : Spec.Frame.params ((settingsPayload vals).length / 6) (settingsPayload vals) = settingsOrder vals := by
    unfold settingsPayload at hlen ⊢
    apply params_flatMap
    · omega
    · intro p hp
      obtain ⟨h1, h2⟩ := mem_settingsOrder hp
      refine ⟨?_, (hv p h1).1⟩
      simp at h2; omega
  have hviol : (settingsOrder vals).findSome? Spec.Frame.paramViolation = none := by
    rw [List.findSome?_eq_none_iff]
    intro p hp
    exact paramViolation_of_ok p (hv p (mem_settingsOrder hp).1)
  have hmod : ¬ ((settingsPayload vals).length % 6 ≠ 0) := by omega
  simp only [Spec.Frame.ofParts]
  rw [hpar, hviol]
  have hf : Spec.Frame.flag 0 1 = false := rfl
  simp [hmod, hf]

/-- SETTINGS ACK (`Settings::ack()`: no values) -/
theorem parse_encode_settings_ack :
    ∃ bytes, encodeSimple (.settings true []) = some bytes ∧
      Spec.Frame.parse bytes = some (.ok (.settings true [])) :=
  ⟨_, rfl, by
    rw [parse_head_encode _ _ (by simp) (by simp [settingsPayload, settingsOrder])]
    rfl⟩

theorem settingsPayload_valid (vals : List (Nat × Nat)) : Bytes.Valid (settingsPayload vals) := by
  unfold settingsPayload
  intro b hb
  rw [List.mem_flatMap] at hb
  obtain ⟨⟨id, v⟩, _, hb⟩ := hb
  exact valid_append (be16_valid id) (be32_valid v) b hb

theorem encodeSimple_valid (f : Model.Frame.Frame) (bs : Bytes) (h : encodeSimple f = some bs)
    (hp : match f with
      | .data _ p _ _ => Bytes.Valid p
      | .ping _ p => Bytes.Valid p
      | .goAway _ _ d => Bytes.Valid d
      | _ => True) : Bytes.Valid bs := by
  cases f <;> simp only [encodeSimple, Option.some.injEq, reduceCtorEq] at h <;> subst h
  · rename_i sid p eos _
    exact valid_append (Head.encode_valid _ _ (by simp) (by cases eos <;> simp)) hp
  · exact valid_append (Head.encode_valid _ _ (by simp) (by simp)) (be32_valid _)
  · rename_i ack vals
    exact valid_append (Head.encode_valid _ _ (by simp) (by cases ack <;> simp)) (settingsPayload_valid _)
  · rename_i ack p
    exact valid_append (Head.encode_valid _ _ (by simp) (by cases ack <;> simp)) hp
  · exact valid_append (valid_append (valid_append (Head.encode_valid _ _ (by simp) (by simp)) (be32_valid _)) (be32_valid _)) hp
  · exact valid_append (Head.encode_valid _ _ (by simp) (by simp)) (be32_valid _)

end H2V.Lemmas.Codec
