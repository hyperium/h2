import H2V.Lemmas.ConnHttpPBasic
/-
  C13 (ConnHttpP) — the send side: `Send::check_headers` and the four places that call it
  (`send_headers` for requests and responses, `send_trailers`, `send_push_promise`,
  `send_interim_informational_headers`).
-/
namespace H2V.Lemmas.ConnHttpP
open H2V H2V.Model H2V.Model.Conn

/-- the names and values of a field list handed to the send API, as the reference sees them -/
def wireFields (fields : List Hpack.Field) : List (Bytes × Bytes) := fields.map (·.h)

theorem checkHeaders_err (fields : List Hpack.Field) (e : UserError) (h : Streams.checkHeaders fields = .error e) :
    e = .malformedHeaders := by
  unfold Streams.checkHeaders at h
  simp only at h
  repeat' split at h
  all_goals first | (cases h; rfl) | cases h

theorem any_name_false (fields : List Hpack.Field) (n : Bytes)
    (h : (fields.any fun f => f.h.1 == n) = false) : ∀ f ∈ fields, f.h.1 ≠ n := by
  intro f hf e
  have := List.any_eq_false.mp h f hf
  simp [e] at this

/-- **what `check_headers` guarantees**: no connection-specific field at all, and EVERY `te` field is
    `trailers` (since the repair of finding N5) -/
theorem checkHeaders_ok (fields : List Hpack.Field) (h : Streams.checkHeaders fields = .ok ()) :
    (∀ f ∈ fields, Spec.Http.connectionSpecific.contains f.h.1 = false) ∧
    (∀ f ∈ fields, f.h.1 = Spec.Http.ascii "te" → f.h.2 = Spec.Http.ascii "trailers") := by
  unfold Streams.checkHeaders at h
  simp only at h
  split at h
  · cases h
  · rename_i hc
    simp only [Bool.or_eq_true, not_or, Bool.not_eq_true] at hc
    obtain ⟨⟨⟨⟨c1, c2⟩, c3⟩, c4⟩, c5⟩ := hc
    constructor
    · intro f hf
      have a1 := any_name_false _ _ c1 f hf
      have a2 := any_name_false _ _ c2 f hf
      have a3 := any_name_false _ _ c3 f hf
      have a4 := any_name_false _ _ c4 f hf
      have a5 := any_name_false _ _ c5 f hf
      rw [← connHeaders_contains]
      simp [Frame.connHeaders, a1, a2, a3, a4, a5]
    · intro f hf hte
      split at h
      · cases h
      · rename_i hv
        have hv' : ∀ x ∈ fields, x.h.1 = Http.str "te" → x.h.2 = Http.str "trailers" := by simpa using hv
        rw [ascii_te, ← str_te] at hte
        rw [ascii_trailers, ← str_trailers]
        exact hv' f hf hte

/-- in the reference's terms: an accepted field list violates neither `connection-specific-field` nor
    `te-not-trailers` -/
theorem checkHeaders_ok_spec (fields : List Hpack.Field) (h : Streams.checkHeaders fields = .ok ()) :
    "connection-specific-field" ∉ Spec.Http.common (wireFields fields) ∧
    "te-not-trailers" ∉ Spec.Http.common (wireFields fields) := by
  obtain ⟨h1, h2⟩ := checkHeaders_ok fields h
  unfold Spec.Http.common
  have e1 : (wireFields fields).any (fun f => Spec.Http.connectionSpecific.contains f.1) = false := by
    rw [List.any_eq_false]
    intro x hx
    obtain ⟨f, hf, rfl⟩ := List.mem_map.mp hx
    rw [h1 f hf]; simp
  have e2 : (Spec.Http.get (wireFields fields) "te").any (· != Spec.Http.ascii "trailers") = false := by
    rw [List.any_eq_false]
    intro v hv
    unfold Spec.Http.get at hv
    obtain ⟨x, hx, rfl⟩ := List.mem_map.mp hv
    obtain ⟨hx1, hx2⟩ := List.mem_filter.mp hx
    obtain ⟨f, hf, rfl⟩ := List.mem_map.mp hx1
    have := h2 f hf (by simpa using hx2)
    simp [this]
  rw [e1, e2]
  simp only [Bool.false_eq_true, if_false, List.append_nil, List.mem_append, not_or]
  constructor
  · refine ⟨⟨⟨?_, ?_⟩, ?_⟩, ?_⟩ <;> (split <;> simp)
  · refine ⟨⟨⟨?_, ?_⟩, ?_⟩, ?_⟩ <;> (split <;> simp)

theorem sendHeaders_refuses (s : Streams) (id : Nat) (eos : Bool) (fields : List Hpack.Field) (e : UserError)
    (h : Streams.checkHeaders fields = .error e) : s.sendHeaders id eos fields = (s, .error e) := by
  unfold Streams.sendHeaders; rw [h]

theorem sendTrailers_refuses (s : Streams) (id : Nat) (fields : List Hpack.Field) (e : UserError)
    (h : Streams.checkHeaders fields = .error e) : s.sendTrailers id fields = (s, .error e) := by
  unfold Streams.sendTrailers; rw [h]

theorem sendInterim_refuses (s : Streams) (id : Nat) (fields : List Hpack.Field) (e : UserError)
    (h : Streams.checkHeaders fields = .error e) : s.sendInterimInformationalHeaders id fields = (s, .error e) := by
  unfold Streams.sendInterimInformationalHeaders; rw [h]

theorem sendPushPromise_refuses (s : Streams) (parent pk pid : Nat) (fields : List Hpack.Field) (e : UserError)
    (h : Streams.checkHeaders fields = .error e) :
    (s.sendPushPromise parent pk pid fields).1 = s ∧ ∃ e', (s.sendPushPromise parent pk pid fields).2 = .error e' := by
  unfold Streams.sendPushPromise
  split
  · exact ⟨rfl, _, rfl⟩
  · split
    · exact ⟨rfl, _, rfl⟩
    · rw [h]; exact ⟨rfl, _, rfl⟩

/-- `Streams::send_request`: a refused head leaves no stream behind and no frame queued -/
theorem sendRequest_refuses (s : Streams) (isHead : Bool) (fields : List Hpack.Field) (eos : Bool) (p : Option Nat)
    (e : UserError) (h : Streams.checkHeaders fields = .error e) : ∃ e', (s.sendRequest isHead fields eos p).2 = .error e' := by
  unfold Streams.sendRequest
  simp only [sendHeaders_refuses _ _ _ _ _ h]
  repeat' split
  all_goals exact ⟨_, rfl⟩

/-- conversely: an entry point that refuses whenever `check_headers` does accepts checked fields only -/
theorem checked_of_ok {ε α : Type} {x : Except ε α} {fields : List Hpack.Field} {a : α} (h : x = .ok a)
    (hr : ∀ e, Streams.checkHeaders fields = .error e → ∃ e', x = .error e') : Streams.checkHeaders fields = .ok () := by
  cases hc : Streams.checkHeaders fields with
  | ok u => rfl
  | error e => obtain ⟨e', he⟩ := hr e hc; rw [he] at h; cases h

theorem send_accepts_checked (fields : List Hpack.Field)
    (h : (∃ s id eos, (Streams.sendHeaders s id eos fields).2 = .ok ()) ∨
         (∃ s id, (Streams.sendTrailers s id fields).2 = .ok ()) ∨
         (∃ s id, (Streams.sendInterimInformationalHeaders s id fields).2 = .ok ()) ∨
         (∃ s p pk pid, (Streams.sendPushPromise s p pk pid fields).2 = .ok ()) ∨
         (∃ s isHead eos p r, (Streams.sendRequest s isHead fields eos p).2 = .ok r)) :
    "connection-specific-field" ∉ Spec.Http.common (wireFields fields) ∧
    "te-not-trailers" ∉ Spec.Http.common (wireFields fields) ∧
    (∀ f ∈ fields, f.h.1 = Spec.Http.ascii "te" → f.h.2 = Spec.Http.ascii "trailers") := by
  have hc : Streams.checkHeaders fields = .ok () := by
    rcases h with ⟨s, id, eos, h⟩ | ⟨s, id, h⟩ | ⟨s, id, h⟩ | ⟨s, p, pk, pid, h⟩ | ⟨s, ih, eos, p, r, h⟩
    · exact checked_of_ok h fun e hc => ⟨e, by rw [sendHeaders_refuses _ _ _ _ _ hc]⟩
    · exact checked_of_ok h fun e hc => ⟨e, by rw [sendTrailers_refuses _ _ _ _ hc]⟩
    · exact checked_of_ok h fun e hc => ⟨e, by rw [sendInterim_refuses _ _ _ _ hc]⟩
    · exact checked_of_ok h fun e hc => (sendPushPromise_refuses s p pk pid fields e hc).2
    · exact checked_of_ok h (sendRequest_refuses s ih fields eos p)
  exact ⟨(checkHeaders_ok_spec fields hc).1, (checkHeaders_ok_spec fields hc).2, (checkHeaders_ok fields hc).2⟩

end H2V.Lemmas.ConnHttpP
