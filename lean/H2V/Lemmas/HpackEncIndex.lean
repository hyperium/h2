import H2V.Model.HpackEnc
import H2V.Spec.Hpack
import H2V.Props.C10Tables
import H2V.Lemmas.HpackEncTable
/-
  C10 — `Table::index`: the index it hands to `encode_header` denotes, in the table as it
  is *before* the insertion, an entry with the field's name (and value for `Indexed`), in the
  RFC 7541 §2.3.3 address space (`Spec.Hpack.lookup`).
-/
namespace H2V.Lemmas.HpackEnc
open H2V H2V.Model.Hpack H2V.Spec.Hpack

theorem staticTable_length : Spec.Rfc7541.staticTable.length = 61 := by decide +kernel
theorem dyn_offset : Generated.Consts.TABLE_DYN_OFFSET = 62 := by decide +kernel

theorem indexStatic_go_sound (h : Header) :
    ∀ (rs : List (List Nat × Option (List Nat) × Nat × Bool)),
      rs.all Props.C10.ruleSound = true → ∀ n b, indexStatic.go h rs = some (n, b) →
      1 ≤ n ∧ ∃ v, Spec.Rfc7541.staticTable[n - 1]? = some (h.1, v) ∧ (b = true → v = h.2) := by
  intro rs
  induction rs with
  | nil => intro _ n b hgo; cases hgo
  | cons r rest ih =>
    intro hall n b hgo
    obtain ⟨rn, pat, idx, rb⟩ := r
    simp only [List.all_cons, Bool.and_eq_true] at hall
    simp only [indexStatic.go] at hgo
    have hm : ∀ (c : Bool), (if c = true then some (idx, rb) else indexStatic.go h rest) = some (n, b) →
        (c = true ∧ idx = n ∧ rb = b) ∨ indexStatic.go h rest = some (n, b) := by
      intro c hc
      cases c with
      | true => simp only [if_true, Option.some.injEq, Prod.mk.injEq] at hc; exact Or.inl ⟨rfl, hc⟩
      | false => exact Or.inr (by simpa using hc)
    rcases hm _ hgo with ⟨hcond, rfl, rfl⟩ | hgo'
    · simp only [Bool.and_eq_true, beq_iff_eq] at hcond
      obtain ⟨hname, hpat⟩ := hcond
      have hr := hall.1
      unfold Props.C10.ruleSound at hr
      simp only at hr
      split at hr
      · rename_i sn sv hs
        simp only [Bool.and_eq_true, decide_eq_true_eq, beq_iff_eq] at hr
        obtain ⟨⟨h1, h2⟩, h3⟩ := hr
        refine ⟨h1, sv, ?_, ?_⟩
        · rw [hs, h2, hname]
        · intro hb
          rw [if_pos hb] at h3
          simp only [beq_iff_eq] at h3
          subst h3
          simpa using hpat
      · cases hr
    · exact ih hall.2 n b hgo'

theorem indexStatic_sound (h : Header) (n : Nat) (b : Bool) (hs : indexStatic h = some (n, b)) :
    1 ≤ n ∧ ∃ v, Spec.Rfc7541.staticTable[n - 1]? = some (h.1, v) ∧ (b = true → v = h.2) :=
  indexStatic_go_sound h _ Props.C10.index_static_sound n b hs

theorem static_lookup (st : St) (h : Header) (n : Nat) (b : Bool)
    (hs : indexStatic h = some (n, b)) :
    ∃ v, lookup st n = some (h.1, v) ∧ (b = true → v = h.2) := by
  obtain ⟨h1, v, hv, hb⟩ := indexStatic_sound h n b hs
  refine ⟨v, ?_, hb⟩
  have hlt : n - 1 < Spec.Rfc7541.staticTable.length := by
    have := List.getElem?_eq_some_iff.1 hv
    exact this.1
  rw [staticTable_length] at hlt
  unfold lookup
  rw [if_neg (by omega), if_pos (by omega)]
  exact hv

theorem mem_sameName (entries : List Header) (name : Bytes) (i : Nat) :
    i ∈ sameNameOldestFirst entries name ↔
      i < entries.length ∧ (entries.getD i ([], [])).1 = name := by
  simp [sameNameOldestFirst]

theorem dyn_lookup (st : St) (i : Nat) (hi : i < st.entries.length) :
    lookup st (i + Generated.Consts.TABLE_DYN_OFFSET) = some (st.entries.getD i ([], [])) := by
  rw [dyn_offset]
  unfold lookup
  rw [if_neg (by omega), if_neg (by omega)]
  have : i + 62 - 62 = i := by omega
  rw [this, List.getD_eq_getElem?_getD, List.getElem?_eq_getElem hi]
  rfl

theorem lookup_bound (st : St) (i : Nat) (f : Spec.Hpack.Field) (h : lookup st i = some f) :
    1 ≤ i ∧ i < 62 + st.entries.length := by
  unfold lookup at h
  split at h
  · cases h
  · split at h
    · omega
    · have := (List.getElem?_eq_some_iff.1 h).1
      omega

/-- what an `Index` must denote in the decoder's table for `encode_header` to be right -/
def IndexDenotes (st : St) (h : Header) : Index → Prop
  | .indexed i => lookup st i = some h
  | .name i => ∃ f, lookup st i = some f ∧ f.1 = h.1
  | .insertedValue i => ∃ f, lookup st i = some f ∧ f.1 = h.1
  | .inserted => True
  | .notIndexed => True

def _root_.H2V.Model.Hpack.Index.inserts : Index → Bool
  | .inserted => true
  | .insertedValue _ => true
  | _ => false

theorem inserts_resolveIdx {ix : Index} (h : ix.inserts = true) :
    ix.resolveIdx = some Generated.Consts.TABLE_DYN_OFFSET := by
  cases ix <;> first | rfl | cases h

theorem ofStatic_denotes (st : St) (h : Header) (s : Option (Nat × Bool)) (hs : indexStatic h = s) :
    IndexDenotes st h (Index.ofStatic s) ∧ (Index.ofStatic s).inserts = false := by
  match s, hs with
  | none, _ => exact ⟨trivial, rfl⟩
  | some (n, true), hs =>
    obtain ⟨v, hv, hb⟩ := static_lookup st h n true hs
    refine ⟨?_, rfl⟩
    show lookup st n = some h
    rw [hv, hb rfl]
  | some (n, false), hs =>
    obtain ⟨v, hv, _⟩ := static_lookup st h n false hs
    exact ⟨⟨_, hv, rfl⟩, rfl⟩

/-- the index chosen by `Table::index` is right for the table *before* the
    insertion; an insertion happens exactly for `Inserted` / `InsertedValue`, and only for a header
    within 3/4 of the table's maximum size. -/
theorem index_sound (e : Encoder) (st : St) (h : Header) (s : Bool) (hent : e.entries = st.entries) :
    IndexDenotes st h (e.index h s).2 ∧
    ((e.index h s).2.inserts = false ∧ (e.index h s).1 = e ∨
     (e.index h s).2.inserts = true ∧ (e.index h s).1 = e.insert h ∧ h.size * 4 ≤ e.maxSize * 3) := by
  unfold Encoder.index
  simp only
  split
  · -- skip_value_index
    obtain ⟨h1, h2⟩ := ofStatic_denotes st h _ rfl
    exact ⟨h1, Or.inl ⟨h2, rfl⟩⟩
  · split
    · -- full static match
      rename_i n hs
      exact ⟨(ofStatic_denotes st h _ hs).1, Or.inl ⟨rfl, rfl⟩⟩
    · split
      · -- the 3/4 rule
        obtain ⟨h1, h2⟩ := ofStatic_denotes st h _ rfl
        exact ⟨h1, Or.inl ⟨h2, rfl⟩⟩
      · rename_i hfit
        have hfit' : h.size * 4 ≤ e.maxSize * 3 := by omega
        split
        · -- vacant
          split
          · obtain ⟨h1, h2⟩ := ofStatic_denotes st h _ rfl
            exact ⟨h1, Or.inl ⟨h2, rfl⟩⟩
          · split
            · rename_i n b hs
              obtain ⟨v, hv, _⟩ := static_lookup st h n b hs
              exact ⟨⟨_, hv, rfl⟩, Or.inr ⟨rfl, rfl, hfit'⟩⟩
            · exact ⟨trivial, Or.inr ⟨rfl, rfl, hfit'⟩⟩
        · -- occupied
          rename_i hchain
          split
          · -- same name, same value
            rename_i i hfind
            have hmem := List.mem_of_find?_eq_some hfind
            have hval := List.find?_some hfind
            rw [mem_sameName] at hmem
            simp only [decide_eq_true_eq] at hval
            refine ⟨?_, Or.inl ⟨rfl, rfl⟩⟩
            show lookup st (i + Generated.Consts.TABLE_DYN_OFFSET) = some h
            rw [dyn_lookup st i (by rw [← hent]; exact hmem.1), ← hent]
            congr 1
            exact Prod.ext hmem.2 hval
          · -- same name, other value: the newest entry of the chain carries the name
            have hlast : ∃ j, (sameNameOldestFirst e.entries h.1).getLast? = some j := by
              cases hc : (sameNameOldestFirst e.entries h.1).getLast? with
              | none => exact absurd (List.getLast?_eq_none_iff.1 hc) hchain
              | some j => exact ⟨j, rfl⟩
            obtain ⟨j, hj⟩ := hlast
            have hmem := List.mem_of_getLast? hj
            rw [mem_sameName] at hmem
            have hlook : ∃ f, lookup st (j + Generated.Consts.TABLE_DYN_OFFSET) = some f ∧ f.1 = h.1 :=
              ⟨_, dyn_lookup st j (by rw [← hent]; exact hmem.1), by rw [← hent]; exact hmem.2⟩
            simp only [hj, Option.getD_some]
            split
            · exact ⟨hlook, Or.inl ⟨rfl, rfl⟩⟩
            · split
              · rename_i n b hs
                obtain ⟨v, hv, _⟩ := static_lookup st h n b hs
                exact ⟨⟨_, hv, rfl⟩, Or.inr ⟨rfl, rfl, hfit'⟩⟩
              · exact ⟨hlook, Or.inr ⟨rfl, rfl, hfit'⟩⟩

end H2V.Lemmas.HpackEnc
