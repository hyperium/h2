import H2V.Lemmas.ConnHttpPQuiet
/-
  C13 (ConnHttpP) — the receive functions of `recv.rs`: what `recv_headers`, `recv_trailers`,
  `recv_push_promise` hand over (one event, only when every check of the model passed), and that they
  are `Quiet` whenever they answer anything but `Ok`.
-/
namespace H2V.Lemmas.ConnHttpP
open H2V H2V.Model H2V.Model.Conn

theorem delivers_append (P : Nat → REvent → Prop) (s : Streams) (k : Nat) (ev : REvent) (hp : P k ev) :
    Delivers P s (s.modStream k fun st => { st with pendingRecv := st.pendingRecv ++ [ev] }) := fun k' st' g => by
  rcases modStream_entry g (fun _ => rfl) with g0 | ⟨rfl, st, g0, rfl⟩
  · exact Or.inr (Or.inl (by simp [prOf, g0]))
  · exact Or.inr (Or.inr ⟨ev, hp, Or.inl (by simp [prOf, g0])⟩)

/-- the two configuration bits the head checks look at: role, extended CONNECT enabled locally -/
def cfgOf (s : Streams) : Bool × Bool := (s.counts.isServer, s.recv.isExtendedConnectProtocolEnabled)

/-- what `Recv::recv_headers` may put into a receive queue for the head `h` -/
def HeadAccepted (cfg : Bool × Bool) (h : HeadersIn) (ev : REvent) : Prop :=
  h.isOverSize = false ∧
  match ev with
  | .request m u f => cfg.1 = true ∧ convertPollMessageServer h = .ok m u ∧ h.status = none ∧
      (h.hasProtocol = true → cfg.2 = true) ∧ f = h.fields
  | .headers st f => cfg.1 = false ∧ h.isInformational = false ∧ st = h.status.getD (Http.str "200") ∧ f = h.fields
  | .informational st f => cfg.1 = false ∧ h.isInformational = true ∧ st = h.status.getD (Http.str "200") ∧ f = h.fields
  | _ => False

theorem cfg_modStreamW (s : Streams) (k : Nat) (f : Stream → Stream × List String) : cfgOf (s.modStreamW k f) = cfgOf s := by
  unfold cfgOf; rw [Streams.modStreamW_counts, Streams.modStreamW_recv]

theorem cfg_of_step {K : Kind → Bool} (hK : K .config = false) {s s' : Streams} (t : Streams.Step K s s') :
    cfgOf s' = cfgOf s := by
  have h := t.role_recv (·.isExtendedConnectProtocolEnabled) (fun _ q _ => by cases q <;> rfl)
    fun _ _ u => u.extendedConnect_eq hK
  unfold cfgOf; rw [h.1, h.2]

def _root_.H2V.Model.Conn.RecvHeadersRes.isOk : RecvHeadersRes → Bool
  | .ok => true
  | _ => false

/-- the `204` / `304` exemption of the END_STREAM check -/
def statusNot204304 (h : HeadersIn) : Bool :=
  match h.status with
  | some st => st != Http.str "204" && st != Http.str "304"
  | none => true

/-- stage 0: the state transition alone -/
def rhSt (s : Streams) (k : Nat) (st' : State) : Streams := s.modStream k fun st => { st with state := st' }

/-- the receive-stream limit was reached while the (promised) stream was only reserved: REFUSED_STREAM -/
def rhRefuse (s : Streams) (k : Nat) (st' : State) (isInitial : Bool) : Bool :=
  isInitial && !((rhSt s k st').stream k).isCounted && !(rhSt s k st').counts.canIncNumRecvStreams

theorem rhSt_quiet (s : Streams) (k : Nat) (st' : State) : Quiet s (rhSt s k st') := (Quiet.refl s).mod k


theorem rhTail_delivers (s : Streams) (k : Nat) (h : HeadersIn) (i : Bool) :
    Delivers (fun k' ev => k' = k ∧ HeadAccepted (cfgOf s) h ev) s (Streams.recvHeadersQueue s k h i).1 ∧
    ((Streams.recvHeadersQueue s k h i).2.isOk = false → (Streams.recvHeadersQueue s k h i).1 = s) := by
  unfold Streams.recvHeadersQueue
  by_cases ho : h.isOverSize = true
  · rw [if_pos ho]; exact ⟨(Quiet.refl s).delivers, fun _ => rfl⟩
  rw [if_neg ho]
  have ho' : h.isOverSize = false := by simpa using ho
  by_cases hp : (h.hasProtocol && s.counts.isServer && !s.recv.isExtendedConnectProtocolEnabled) = true
  · rw [if_pos hp]; exact ⟨(Quiet.refl s).delivers, fun _ => rfl⟩
  rw [if_neg hp]
  by_cases hs : (h.status.isSome && s.counts.isServer) = true
  · rw [if_pos hs]; exact ⟨(Quiet.refl s).delivers, fun _ => rfl⟩
  rw [if_neg hs]
  simp only
  by_cases hsrv : s.counts.isServer = true
  · rw [if_pos hsrv]
    split
    · exact ⟨(Quiet.refl s).delivers, fun _ => rfl⟩
    · exact ⟨(Quiet.refl s).delivers, fun _ => rfl⟩
    · rename_i m u hc
      refine ⟨?_, fun x => by cases x⟩
      refine Delivers.step (Delivers.step (delivers_append _ s k _ ⟨rfl, ho', ?_⟩) (Quiet.of_step (.modStreamW _ _ _ .notifyRecv) (Quiet.refl _)))
        (.of_step (.qPush _ _ _ rfl) (.of_step (Streams.notifyPushIfRecvEnded_step _ _) (Quiet.refl _)))
      refine ⟨hsrv, hc, ?_, fun hpr => ?_, rfl⟩
      · cases hst : h.status with
        | none => rfl
        | some v => simp [hst, hsrv] at hs
      · cases he : s.recv.isExtendedConnectProtocolEnabled with
        | true => exact he
        | false => simp [hpr, hsrv, he] at hp
  · rw [if_neg hsrv]
    have hsrv' : s.counts.isServer = false := by simpa using hsrv
    split
    · rename_i hi
      refine ⟨?_, fun x => by cases x⟩
      refine Delivers.step (Delivers.step (delivers_append _ s k _ ⟨rfl, ho', ?_⟩) (Quiet.of_step (.modStreamW _ _ _ .notifyRecv) (Quiet.refl _)))
        (.of_step (Streams.notifyPushIfRecvEnded_step _ _) (Quiet.refl _))
      exact ⟨hsrv', by simpa using hi, rfl, rfl⟩
    · rename_i hi
      refine ⟨?_, fun x => by cases x⟩
      refine Delivers.step (delivers_append _ s k _ ⟨rfl, ho', ?_⟩) (Quiet.of_step (.modStreamW _ _ _ .notifyRecv) (Quiet.refl _))
      exact ⟨hsrv', by simpa using hi, rfl, rfl⟩


/-- **`Recv::recv_headers`**: whatever the state, at most one event is handed over, to stream `k`, and
    only if the head passed every check (`HeadAccepted`); any answer but `Ok` hands over nothing -/
theorem recvRecvHeaders_delivers (s : Streams) (k : Nat) (h : HeadersIn) :
    Delivers (fun k' ev => k' = k ∧ HeadAccepted (cfgOf s) h ev) s (s.recvRecvHeaders k h).1 ∧
    ((s.recvRecvHeaders k h).2.isOk = false → Quiet s (s.recvRecvHeaders k h).1) := by
  rw [Streams.recvRecvHeaders_eq]
  split
  · exact ⟨(Quiet.refl s).delivers, fun _ => Quiet.refl s⟩
  · rename_i st' i _
    dsimp only
    split
    · exact ⟨(rhSt_quiet s k st').delivers, fun _ => rhSt_quiet s k st'⟩
    have t := (Streams.recvHeadersCount_step (K := kindsQuiet) (by decide) (s.recvHeadersSt k st') k h i).trans
      (Streams.recvHeadersCl_step (by decide) _ k h)
    have q := Quiet.of_step t (rhSt_quiet s k st')
    have c : _ = cfgOf s := (cfg_of_step rfl t).trans (by unfold cfgOf Streams.recvHeadersSt; rw [Streams.modStream_counts, Streams.modStream_recv])
    generalize Streams.recvHeadersCl (Streams.recvHeadersCount (s.recvHeadersSt k st') k h i) k h = r at q c ⊢
    obtain ⟨s2, o⟩ := r
    cases o with
    | some e => exact ⟨q.delivers, fun _ => q⟩
    | none =>
      obtain ⟨d, hq⟩ := rhTail_delivers s2 k h i
      rw [c] at d
      exact ⟨q.then d, fun hn => by rw [hq hn]; exact q⟩

/-- what `recv_trailers` may hand over: the fields of a block that is not over-size -/
def TrailersAccepted (h : HeadersIn) (ev : REvent) : Prop := ev = .trailers h.fields ∧ h.isOverSize = false

theorem recvRecvTrailers_delivers (s : Streams) (k : Nat) (h : HeadersIn) :
    Delivers (fun k' ev => k' = k ∧ TrailersAccepted h ev) s (s.recvRecvTrailers k h).1 ∧
    (∀ e, (s.recvRecvTrailers k h).2 = .error e → Quiet s (s.recvRecvTrailers k h).1) := by
  unfold Streams.recvRecvTrailers
  split
  · exact ⟨(Quiet.refl s).delivers, fun _ _ => Quiet.refl s⟩
  · simp only
    have q1 : Quiet s (s.modStream k fun st => { st with state := ‹State› }) := (Quiet.refl s).mod k
    generalize (s.modStream k fun st => { st with state := ‹State› }) = s1 at q1 ⊢
    split
    · exact ⟨q1.delivers, fun _ _ => q1⟩
    · split
      · exact ⟨q1.delivers, fun _ _ => q1⟩
      · rename_i hov
        refine ⟨q1.then (Delivers.step (Delivers.step (delivers_append _ s1 k _ ⟨rfl, rfl, by simpa using hov⟩)
          (Quiet.of_step (.modStreamW _ _ _ .notifyRecv) (Quiet.refl _))) (Quiet.of_step (.modStreamW _ _ _ .notifyPush) (Quiet.refl _))), fun e he => by cases he⟩

end H2V.Lemmas.ConnHttpP
