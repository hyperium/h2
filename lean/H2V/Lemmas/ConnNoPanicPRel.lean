import H2V.Lemmas.ConnRelHead
import H2V.Lemmas.ConnLoops
import H2V.Lemmas.ConnStages
/-
  C08 (no panic) — what all frame relations of the family (`LT`, `ST`, `FK`, `SK`, `UK`, `XK`, `AL`, `RP`, `PF`, …) share
  besides the peeling step `rel_head` (ConnRelHead): the entries after `Store::remove`.

  Every relation's `X_step` has the same alternatives, tried from the last one declared: a hypothesis, `R.refl`,
  `rel_head`, `R.of_fst_eq` (the state is a component of a pair bound by a `match`), `rel_ite` (a conditional
  call; some relations give it to `rel_head` as its `on_ite` case instead), and `intro` on the hypotheses `∀ t, R t (…)` of `transition_X` / `storeForEach_X` (taken here, so that
  the alternatives for side goals are not run on a goal of the relation).
-/
namespace H2V.Lemmas.ConnNoPanicP
open H2V H2V.Model H2V.Model.Conn
attribute [local irreducible] wrapSubU32 wrapSubUsize

theorem stream_remove (s : Streams) (k n j : Nat) :
    ({ s with store := s.store.remove k, recvBufferLeaked := n } : Streams).stream j =
      if j = k then { key := j, id := 0 } else s.stream j := by
  unfold Streams.stream
  show ((s.store.remove k).get? j).getD _ = _
  rw [Store.get?_remove]; split <;> rfl

end H2V.Lemmas.ConnNoPanicP
