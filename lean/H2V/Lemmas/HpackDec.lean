import H2V.Lemmas.HpackDecInt
import H2V.Lemmas.HpackDecTable
import H2V.Lemmas.HpackDecLit
import H2V.Lemmas.HpackDecStep
import H2V.Lemmas.HpackDecInv
import H2V.Lemmas.HpackDecRefine
import H2V.Lemmas.HpackDecSplit
/-
  HPACK decoder lemmas (namespace `H2V.Lemmas.HpackDec`), for property C11.

  A  integers           HpackDecInt
  B  table invariant    HpackDecTable (with HpackEvict), HpackDecInv
  C  refinement         HpackDecLit (strings, literals), HpackDecRefine
  D  split invariance   HpackDecSplit
  one turn of the loop  HpackDecStep (`step`, under extension of the buffer; `Turn`, `Halt`)

  The Huffman theorem of `H2V.Lemmas.Huffman` enters as the hypothesis `HuffSpec`; the `example`
  below checks that a proof of the statement in its original form is accepted as such.
-/
namespace H2V.Lemmas.HpackDec
open H2V

example
    (h : ∀ bs : Bytes, Bytes.Valid bs →
      Model.Huffman.decode bs =
        (match Spec.Huffman.decode bs with | some out => Res.ok out | none => Res.err ())) :
    HuffSpec := h

end H2V.Lemmas.HpackDec
