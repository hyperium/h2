import H2V.Lemmas.ConnNoPanicPIds
/-
  C08 (no panic) — `IBS`: the inserting operations (`send_request`, `Inner::send_reset`,
  `recv_headers`) and `IBS_step` over every operation covered by `opPre`.
-/
namespace H2V.Lemmas.ConnNoPanicP
open H2V H2V.Model H2V.Model.Conn H2V.Lemmas.ConnCountsP
open H2V.Lemmas.ConnResetP (Op run)
attribute [local irreducible] wrapSubU32 wrapSubUsize

/-- every entry of `s'` sits under the key of an entry of `s` with the same stream id; role kept,
    `next_stream_id` moved forward: what `IBS` needs of a step that inserts nothing -/
structure DN (s s' : Streams) : Prop where
  desc : ∀ k x', s'.store.get? k = some x' → ∃ x, s.store.get? k = some x ∧ x'.id = x.id
  nx : NX s s'

theorem DN.refl (s : Streams) : DN s s := ⟨fun _ x' h => ⟨x', h, rfl⟩, NX.refl s⟩
theorem DN.trans {a b c : Streams} (h1 : DN a b) (h2 : DN b c) : DN a c := by
  refine ⟨fun k x'' h => ?_, h1.nx.trans h2.nx⟩
  obtain ⟨x', hx', i'⟩ := h2.desc k x'' h
  obtain ⟨x, hx, i⟩ := h1.desc k x' hx'
  exact ⟨x, hx, i'.trans i⟩
theorem DN.of_ld {s s' : Streams} (h : LD s s') (hnx : NX s s') : DN s s' :=
  ⟨fun k x' hx' => let ⟨x, hx, _, i⟩ := h.desc k x' hx'; ⟨x, hx, i⟩, hnx⟩
theorem DN.of_evF {s s' : Streams} (e : EvB false s s') : DN s s' := .of_ld e.ld e.nx
theorem DN.of_ltw {ρ : Bool} {ks : List Nat} {s s' : Streams} (h : LTw ks s s') (e : EvB ρ s s') : DN s s' := by
  refine ⟨fun k x' hx' => ?_, e.nx⟩
  obtain ⟨x, hx⟩ := h.keys.live.mp ⟨x', hx'⟩
  have := h.sid k
  simp only [stream_of_get? hx, stream_of_get? hx'] at this
  exact ⟨x, hx, this⟩
theorem DN.of_le {ks : List Nat} {s s' : Streams} (h : LE ks s s') : DN s s' := .of_ltw h.lt h.ev
theorem DN.transitionAfter (s : Streams) (k : Nat) (b : Bool) : DN s (s.transitionAfter k b) :=
  .of_ld (LD.transitionAfter s k b) (NX.transitionAfter s k b)
theorem DN.transition {α : Type} {s : Streams} (k : Nat) (f : Streams → Streams × α) (h : DN s (f s).1) :
    DN s (s.transition k f).1 := by
  rw [Streams.transition_fst]; exact h.trans (.transitionAfter _ _ _)

theorem IBS.of_dn {s s' : Streams} (hi : IBS s) (hk' : KeysOK s') (h : DN s s') : IBS s' := by
  intro x' hx' hloc n' hn'
  obtain ⟨x, hx, hid⟩ := h.desc x'.key x' (hk'.get?_of_mem hx')
  obtain ⟨n, hn, hle, _⟩ := h.nx.next n' hn'
  rw [isLocalInit_eq, h.nx.role, ← isLocalInit_eq, hid] at hloc
  have := hi x (get?_mem hx) hloc n hn
  omega

theorem IBS.of_sub {s s' : Streams} (hi : IBS s) (hsub : ∀ x ∈ s'.store.slab, x ∈ s.store.slab)
    (hc : s'.counts.isServer = s.counts.isServer) (ha : s'.actions.send.nextStreamId = s.actions.send.nextStreamId) : IBS s' := by
  intro x hx hloc n hn
  rw [isLocalInit_eq, hc, ← isLocalInit_eq] at hloc
  rw [ha] at hn
  exact hi x (hsub x hx) hloc n hn

theorem IBS.insert {s : Streams} (hi : IBS s) (st : Stream)
    (hnew : s.counts.isLocalInit st.id = true → ∀ n, s.actions.send.nextStreamId = some n → st.id < n) :
    IBS { s with store := (s.store.insert st).1 } := by
  intro x hx hloc n hn
  have hx' : x ∈ s.store.slab ++ [({ st with key := s.store.nextKey } : Stream)] := hx
  rcases List.mem_append.mp hx' with h1 | h1
  · exact hi x h1 hloc n hn
  · rw [List.mem_singleton] at h1; subst h1
    exact hnew hloc n hn

theorem sendMaybeResetNextStreamId_above (s : Streams) (id : Nat) :
    ∀ n, (s.sendMaybeResetNextStreamId id).actions.send.nextStreamId = some n → id < n := by
  intro n hn
  unfold Streams.sendMaybeResetNextStreamId at hn
  split at hn
  · next nxt hnx =>
    split at hn
    · simp only [Streams.modSend] at hn
      split at hn
      · cases hn
      · cases hn; omega
    · rw [hnx] at hn; cases hn; omega
  · next hnx => rw [hnx] at hn; cases hn

theorem innerSendReset_ibs {s : Streams} (hn : NPI (fun _ => False) s) (hi : IBS s) (id : Nat) (reason : Reason) :
    IBS (s.innerSendReset id reason).1 := by
  unfold Streams.innerSendReset
  cases hfk : s.store.findKey? id with
  | some k =>
    simp only []
    exact hi.of_evF hn.keys (actionsSendReset_ev (ρ := false) s k reason .library)
  | none =>
    simp only []
    generalize hs1 : (if s.counts.isLocalInit id = true then s.sendMaybeResetNextStreamId id else s.recvMaybeResetNextStreamId id) = s1
    have h1 : IBS s1 ∧ KeysOK s1 ∧ (s1.counts.isLocalInit id = true → ∀ n, s1.actions.send.nextStreamId = some n → id < n) := by
      rw [← hs1]; split
      · next hloc =>
        have e := sendMaybeResetNextStreamId_ev (ρ := false) s id hloc
        exact ⟨hi.of_evF hn.keys e, e.keysOK hn.keys, fun _ => sendMaybeResetNextStreamId_above s id⟩
      · next hloc =>
        have e := recvMaybeResetNextStreamId_ev (ρ := false) s id
        refine ⟨hi.of_evF hn.keys e, e.keysOK hn.keys, fun h => ?_⟩
        rw [isLocalInit_eq, e.nx.role, ← isLocalInit_eq] at h
        exact absurd h hloc
    have h2 : IBS { s1 with store := (s1.store.insert (Stream.new id 0 0)).1 } := h1.1.insert _ h1.2.2
    exact h2.of_evF (h1.2.1.insert _) (actionsSendReset_ev (ρ := false) _ _ reason .library)

theorem sendOpenId_next {s s1 : Streams} {id : Nat} (h : s.sendOpenId = (s1, .ok id)) :
    s1.counts = s.counts ∧ ∀ n, s1.actions.send.nextStreamId = some n → n = id + 2 := by
  unfold Streams.sendOpenId at h
  split at h
  · cases h
  · next id' hn' =>
    simp only [Prod.mk.injEq, Except.ok.injEq] at h
    obtain ⟨h1, h2⟩ := h
    subst h1 h2
    refine ⟨rfl, fun n hn => ?_⟩
    simp only [Streams.modSend] at hn
    split at hn
    · cases hn
    · cases hn; rfl

/-- `Streams::send_request` keeps `IBS`: the new id is the old `next_stream_id`, which `send.open` has moved past it -/
theorem sendRequest_ibs {s : Streams} (hn : NPI (fun _ => False) s) (hi : IBS s) (isHead : Bool) (fields : List Hpack.Field)
    (eos : Bool) (pending : Option Nat) : IBS (s.sendRequest isHead fields eos pending).1 :=
  SendRequestRule.run (I := IBS) (L := fun _ _ t => KeysOK t) (L' := fun _ _ t => KeysOK t)
    { pre := hi
      done _ hi := hi
      opn := hi.of_evF hn.keys (sendOpenId_ev (ρ := false) s)
      ins s1 id sP hso hP := by
        have e1 : EvB false s s1 := of_fst_eq hso (sendOpenId_ev (ρ := false) s)
        have hst1 : s1.store = s.store := by have := sendOpenId_store s; rw [hso] at this; exact this
        have hnc : s1.store.contains id = false := by rw [hst1]; exact hi.hfree hn id (sendOpenId_ok hso)
        rw [hnc, if_neg Bool.false_ne_true] at hP
        subst hP
        refine ⟨(hi.of_evF hn.keys e1).insert _ (fun _ n hn => ?_), (e1.keysOK hn.keys).insert _⟩
        rw [(sendOpenId_next hso).2 n hn, request_id]; omega
      hdr t _ k hi hk :=
        have e3 := sendHeaders_ev (ρ := false) t k eos fields
        ⟨hi.of_evF hk e3, e3.keysOK hk⟩
      undo t _ k _ _ hi hk heq :=
        (hi.of_evF hk (of_fst_eq heq (sendHeaders_ev (ρ := false) t k eos fields))).of_sub
          (fun x hx => (List.mem_filter.mp hx).1) rfl rfl
      fin t _ k hi hk :=
        IBS.of_evF (s := { t with refs := t.refs + 1 }) (hi.of_sub (fun _ hx => hx) rfl rfl) ⟨hk.nodup, hk.fresh⟩ (refInc_ev (ρ := false) _ _) } pending

/-- `Inner::recv_headers` keeps `IBS`: up to the insertion of the entry along ConnCountsP's trace (`IBS.of_evF`,
    `IBS.insert`: the new id is the peer's), from there on the look-ups only descend (`DN`) -/
theorem recvHeaders_ibs {s : Streams} (hn : NPI (fun _ => False) s) (hi : IBS s) (h : HeadersIn) :
    IBS (s.recvHeaders h).1 :=
  let ⟨_, hi0, dn⟩ := Streams.HeadersRule.run (I := fun t => ∃ s0, IBS s0 ∧ DN s0 t) (L := fun _ _ => True)
    { pre := ⟨s, hi, .refl s⟩
      found _ _ := trivial
      opn _ := ⟨_, hi.of_evF hn.keys (recvOpen_ev (ρ := false) s h.sid false), .refl _⟩
      ins s1 _ hro :=
        have h1 : IBS s1 := hi.of_evF hn.keys (of_fst_eq hro (recvOpen_ev (ρ := false) s h.sid false))
        have hrem : s1.counts.isLocalInit (Stream.new h.sid s1.actions.send.initWindowSz s1.recv.initWindowSz).id = false :=
          recvOpen_true_remote hro
        ⟨⟨_, h1.insert _ (fun hl => by rw [hrem] at hl; cases hl), .refl _⟩, trivial⟩
      body s k hi _ := let ⟨s0, hi0, dn⟩ := hi; ⟨s0, hi0, dn.trans (.of_le (recvHeadersBody_le k h s))⟩
      ta s k b hi := let ⟨s0, hi0, dn⟩ := hi; ⟨s0, hi0, dn.trans (.transitionAfter s k b)⟩ }
  hi0.of_dn ((recvHeaders_ev s h).keysOK hn.keys) dn

theorem IBS_step {s : Streams} (hn : NPI (fun _ => False) s) (hj : IBS s) (op : Op) (hpre : opPre s op) :
    IBS (op.apply s) := by
  have hk := hn.keys
  cases op <;> simp only [opPre] at hpre <;> try exact hpre.elim
  case recvHeaders h => exact recvHeaders_ibs hn hj h
  case innerSendReset id r => exact innerSendReset_ibs hn hj id r
  case sendRequest a b c d => exact sendRequest_ibs hn hj a b c d
  case recvEof b => exact hj.of_dn ((recvEof_evT s b).keysOK hk) (.of_ld (recvEof_ld s b) (recvEof_evT s b).nx)
  case clearExpiredResetStreams n =>
    exact hj.of_dn ((clearExpiredResetStreams_evT n s).keysOK hk)
      (.of_ld (clearExpiredResetStreams_ld n s) (clearExpiredResetStreams_evT n s).nx)
  all_goals exact hj.of_evF hk (op_ev s _ trivial)

end H2V.Lemmas.ConnNoPanicP
