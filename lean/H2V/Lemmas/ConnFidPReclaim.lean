import H2V.Lemmas.ConnFidPWrite
/-
  ConnFidP — `Inv` across `reclaim_frame`: the remainder of the chunk the codec has finished with goes
  back to the FRONT of the queue of ITS stream (`frame.key`), or is dropped when — and only when — the marker was
  turned to `Drop` by a cut of that very stream.
-/
set_option linter.unusedSectionVars false
namespace H2V.Lemmas.ConnFidP
open H2V H2V.Model H2V.Model.Conn H2V.Lemmas.ConnWakeP

theorem Tr.inv_silent {s s' : Streams} {h : Option DataFrame} {g : Ghost} (t : Tr {} s s') (hI : Inv s h g)
    (hw : g.weird = false) : Inv s' h g := by
  obtain ⟨g', r⟩ := t.run g
  have hg : g' = g := by
    clear hI hw t
    induction r with
    | refl => rfl
    | tau _ _ ih => exact ih
    | lbl l _ _ ok ih =>
      exfalso
      cases l <;> simp only [Perm.ok] at ok
      rcases ok with h' | ⟨_, h'⟩ <;> exact h'
  subst hg
  exact (r.inv (fun h => h) (fun h => absurd h id) (Or.inr (fun _ _ _ h => h)) hI hw).1

section
variable {s : Streams} {g : Ghost}

theorem inv_unmark (fr : DataFrame) (hI : Inv s (some fr) g) (h0 : ∀ k, inflight s (some fr) k = []) :
    Inv (s.modPrio (markF .nothing)) none g := by
  have hsq : ∀ k, sq (s.modPrio (markF .nothing)) k = sq s k := fun _ => rfl
  have hin : ∀ k, inflight (s.modPrio (markF .nothing)) none k = [] := fun k => inflight_none _ k
  refine ⟨hI.kb, ⟨⟨fun _ => rfl, fun _ => rfl⟩, fun j hj => by cases hj⟩, ?_, hI.ghostKey, ?_, hI.closed, ?_, hI.live⟩
  · intro k hk; exact absurd (hin k) hk
  · intro k
    obtain ⟨D, hR, hD⟩ := hI.ref k
    refine ⟨D, ?_, hD⟩
    have : out (s.modPrio (markF .nothing)) none k = out s (some fr) k := by
      unfold out; rw [hin, h0, hsq]
    rw [this]; exact hR
  · intro k hk; exact absurd (hin k) hk

theorem inv_unpop (fr : DataFrame) (hI : Inv s (some fr) g) (hm : marker s = .dataFrame fr.key) (hr : fr.rest > 0) :
    Inv ((s.modPrio (markF .nothing)).modStream fr.key (unpopF (.data fr.rest fr.eos))) none g := by
  generalize hs2 : (s.modPrio (markF .nothing)).modStream fr.key (unpopF (.data fr.rest fr.eos)) = s2
  have hget : ∀ j, s2.store.get? j = if j = fr.key then (s.store.get? fr.key).map (unpopF (.data fr.rest fr.eos))
      else s.store.get? j := by
    intro j; subst hs2; exact Streams.modStream_get? _ fr.key (unpopF (.data fr.rest fr.eos)) (fun _ => rfl) j
  have hnk : s2.store.nextKey = s.store.nextKey := by
    subst hs2; unfold Streams.modStream; split
    · rfl
    · unfold Streams.panic; split <;> rfl
  have hmk : marker s2 = .nothing := by subst hs2; rw [marker_modStream]; rfl
  have hin : ∀ k, inflight s2 none k = [] := fun k => inflight_none _ k
  have hinf : ∀ k, inflight s (some fr) k = if fr.key = k then [.data fr.rest fr.eos] else [] := by
    intro k; unfold inflight; rw [hm]; simp [hr]
  have hpres : ∀ j, (s2.store.get? j).isSome = (s.store.get? j).isSome := by
    intro j; rw [hget]; split
    · next e => subst e; cases s.store.get? fr.key <;> rfl
    · rfl
  refine ⟨?_, ⟨⟨fun _ => rfl, fun _ => hmk⟩, fun j hj => by rw [hmk] at hj; cases hj⟩, ?_, ?_, ?_, ?_, ?_, ?_⟩
  · intro k b hb
    have : (s.store.get? k).isSome = true := by rw [← hpres, hb]; rfl
    obtain ⟨a, ha⟩ := Option.isSome_iff_exists.mp this
    rw [hnk]; exact hI.kb k a ha
  · intro k hk; exact absurd (hin k) hk
  · intro k hk; rw [hnk] at hk; exact hI.ghostKey k hk
  · intro k
    obtain ⟨D, hR, hD⟩ := hI.ref k
    by_cases hk : k = fr.key
    · subst hk
      cases hp : s.store.get? fr.key with
      | some a =>
        refine ⟨D, ?_, hD⟩
        have h2 : s2.store.get? fr.key = some (unpopF (.data fr.rest fr.eos) a) := by rw [hget, if_pos rfl, hp]; rfl
        have : out s2 none fr.key = out s (some fr) fr.key := by
          unfold out
          rw [hin, hinf, if_pos rfl, sq_of_get? h2, sq_of_get? hp]; rfl
        rw [this]; exact hR
      | none =>
        -- the entry is gone: it was removed, i.e. cut, and the remainder is part of the discarded suffix
        have hc : g.cut fr.key = true := by
          rcases hI.infl fr.key (by rw [hinf, if_pos rfl]; simp) with h' | h'
          · rw [hp] at h'; cases h'
          · exact h'
        have h2 : s2.store.get? fr.key = none := by rw [hget, if_pos rfl, hp]; rfl
        refine ⟨msg (out s (some fr) fr.key) ++ D, ?_, fun h' => by rw [hc] at h'; cases h'⟩
        have : out s2 none fr.key = [] := by unfold out; rw [hin, sq_of_none h2]; rfl
        rw [this, msg_nil, List.append_nil, ← List.append_assoc]; exact hR
    · refine ⟨D, ?_, hD⟩
      have h2 : s2.store.get? k = s.store.get? k := by rw [hget, if_neg hk]
      have hsq : sq s2 k = sq s k := by unfold sq Streams.stream; rw [h2]
      have : out s2 none k = out s (some fr) k := by
        unfold out; rw [hin, hinf, if_neg (fun e => hk e.symm), hsq]
      rw [this]; exact hR
  · intro k hc b hb
    rw [hget] at hb
    split at hb
    · next e =>
      subst e
      cases hp : s.store.get? fr.key with
      | none => rw [hp] at hb; cases hb
      | some a => rw [hp] at hb; cases hb; exact hI.closed _ hc a hp
    · exact hI.closed k hc b hb
  · intro k hk; exact absurd (hin k) hk
  · intro k hk
    rcases hI.live k hk with h' | h'
    · exact Or.inl (by rw [hpres]; exact h')
    · exact Or.inr h'

theorem reclaimFrame_wok (s : Streams) (w : Writer) (hw : WOk w) : WOk (s.reclaimFrame w).2.1 := by
  have h : WOk w.takeLastDataFrame.1 := by
    rcases held_takeLast w hw with ⟨_, _, h⟩ | ⟨_, _, _, _, h⟩ <;> exact h
  unfold Streams.reclaimFrame
  rcases hp : w.takeLastDataFrame with ⟨w', o⟩
  rw [hp] at h
  cases o <;> exact h

/-- **`Inv` across `reclaim_frame`** -/
theorem reclaimFrame_inv (w : Writer) (hI : Inv s (held w) g) (hw : WOk w) (hwd : g.weird = false) :
    Inv (s.reclaimFrame w).1 (held (s.reclaimFrame w).2.1) g := by
  unfold Streams.reclaimFrame
  rcases held_takeLast w hw with ⟨h1, h2, h3⟩ | ⟨fr, h1, h2, h3, h4⟩
  · rcases hp : w.takeLastDataFrame with ⟨w', o⟩
    rw [hp] at h1 h2 h3
    simp only at h1 h2 h3
    subst h1
    simp only
    rw [h2]; exact hI
  · rcases hp : w.takeLastDataFrame with ⟨w', o⟩
    rw [hp] at h1 h3 h4
    simp only at h1 h3 h4
    subst h1
    simp only
    rw [h3]
    rw [h2] at hI
    unfold Streams.reclaimFrameInner
    simp only [markF_fold, unpopF_fold]
    cases hm : s.prio.inFlightDataFrame with
    | nothing =>
      exfalso
      have := hI.cp.nothing.mp hm
      cases this
    | drop =>
      simp only
      exact inv_unmark fr hI (fun k => inflight_of_marker_ne (by intro j hj; rw [show marker s = _ from hm] at hj; cases hj))
    | dataFrame j =>
      simp only
      obtain ⟨fr', hfr, hj⟩ := hI.cp.data j hm
      cases hfr
      subst hj
      by_cases hr : fr.rest > 0
      · simp only [hr, if_true]
        have hI2 := inv_unpop fr hI hm hr
        have ite_inv : ∀ (c : Bool) (A B : Streams), Inv A none g → Inv B none g →
            Inv (if c = true then A else B) none g := by
          intro c A B hA hB; cases c
          · exact hB
          · exact hA
        exact ite_inv _ _ _ ((qPush_acc _ _ (Tr.refl {} _)).inv_silent hI2 hwd) hI2
      · simp only [hr, if_false]
        refine inv_unmark fr hI (fun k => ?_)
        unfold inflight
        rw [show marker s = _ from hm]
        simp only
        rw [if_neg (fun h' => hr h'.2)]

end
end H2V.Lemmas.ConnFidP
