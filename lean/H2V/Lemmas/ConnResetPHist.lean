import H2V.Lemmas.ConnResetPStreams
/-
  ConnResetP — histories.  `Op` lists every operation that the connection (`Conn`, ConnProto.lean)
  or the driver (`step`, ConnDriver.lean) performs on a `Streams` value, with arbitrary arguments
  (so any interleaving of peer frames, connection progress and user calls is a list of `Op`s);
  `run` applies a list of them.  `run_evolves`: the slab entries of the final state are related to
  those of the initial one by `SRel` — for every history.
-/
namespace H2V.Lemmas.ConnResetP
open H2V H2V.Model H2V.Model.Conn
variable {D : Nat → Prop}

inductive Op where
  | recvHeaders (h : HeadersIn)
  | recvData (id : Nat) (payload : Bytes) (eos : Bool) (padLen : Option Nat)
  | recvReset (id : Nat) (reason : Reason)
  | recvWindowUpdate (id inc : Nat)
  | recvPushPromise (id : Nat) (h : HeadersIn)
  | handleError (e : PErr)
  | recvGoAwayFrame (last : Nat) (reason : Reason) (debug : Bytes)
  | recvGoAway (last : Nat)
  | recvEof (clearPendingAccept : Bool)
  | innerSendReset (id : Nat) (reason : Reason)
  | setTargetConnectionWindow (target : Nat)
  | applyRemoteSettings (vals : List (Nat × Nat)) (isInitial : Bool)
  | applyLocalSettingsFrame (vals : List (Nat × Nat))
  | pollComplete (fuel : Nat) (w : Writer) (io : Tio) (tag : String)
  | pollSendPendingRefusal (fuel : Nat) (w : Writer) (io : Tio) (tag : String)
  | clearExpiredResetStreams (fuel : Nat)
  | wake (tags : List String)
  | clearWakes
  | panic (msg : String)
  | cloneHandle
  | dropHandle
  | sendRequest (isHead : Bool) (fields : List Hpack.Field) (eos : Bool) (pending : Option Nat)
  | pollPendingOpen (pending : Option Nat) (tag : String)
  | nextIncoming
  | recvTakeRequest (k : Nat)
  | cloneStreamRef (k : Nat)
  | dropStreamRef (k : Nat)
  | refSendResponse (k : Nat) (fields : List Hpack.Field) (eos : Bool)
  | refSendInformationalHeaders (k : Nat) (fields : List Hpack.Field)
  | refSendPushPromise (parent : Nat) (requestValid : Bool) (fields : List Hpack.Field)
  | refSendData (k len : Nat) (eos : Bool)
  | refSendTrailers (k : Nat) (fields : List Hpack.Field)
  | refReserveCapacity (k cap : Nat)
  | pollCapacity (k : Nat) (tag : String)
  | refSendReset (k : Nat) (reason : Reason)
  | pollReset (k : Nat) (mode : PollReset) (tag : String)
  | recvPollResponse (fuel k : Nat) (tag : String)
  | recvPollInformational (k : Nat) (tag : String)
  | refPollData (k : Nat) (tag : String)
  | recvPollTrailers (k : Nat) (tag : String)
  | refReleaseCapacity (k n : Nat)
  | refClearRecvBuffer (k : Nat)

def Op.apply (s : Streams) : Op → Streams
  | .recvHeaders h => (s.recvHeaders h).1
  | .recvData id p eos pad => (s.recvData id p eos pad).1
  | .recvReset id r => (s.recvReset id r).1
  | .recvWindowUpdate id inc => (s.recvWindowUpdate id inc).1
  | .recvPushPromise id h => (s.recvPushPromise id h).1
  | .handleError e => (s.handleError e).1
  | .recvGoAwayFrame l r d => (s.recvGoAwayFrame l r d).1
  | .recvGoAway l => s.recvGoAway l
  | .recvEof c => s.recvEof c
  | .innerSendReset id r => (s.innerSendReset id r).1
  | .setTargetConnectionWindow t => (s.setTargetConnectionWindow t).1
  | .applyRemoteSettings v b => (s.applyRemoteSettings v b).1
  | .applyLocalSettingsFrame v => (s.applyLocalSettingsFrame v).1
  | .pollComplete fuel w io tag => (Streams.pollComplete fuel s w io tag).1
  | .pollSendPendingRefusal fuel w io tag => (Streams.pollSendPendingRefusal fuel s w io tag).1
  | .clearExpiredResetStreams fuel => Streams.clearExpiredResetStreams fuel s
  | .wake t => s.wake t
  | .clearWakes => { s with wakes := [] }
  | .panic m => s.panic m
  | .cloneHandle => s.cloneHandle
  | .dropHandle => s.dropHandle
  | .sendRequest isHead f eos p => (s.sendRequest isHead f eos p).1
  | .pollPendingOpen p tag => (s.pollPendingOpen p tag).1
  | .nextIncoming => s.nextIncoming.1
  | .recvTakeRequest k => (s.recvTakeRequest k).1
  | .cloneStreamRef k => s.cloneStreamRef k
  | .dropStreamRef k => s.dropStreamRef k
  | .refSendResponse k f eos => (s.refSendResponse k f eos).1
  | .refSendInformationalHeaders k f => (s.refSendInformationalHeaders k f).1
  | .refSendPushPromise p v f => (s.refSendPushPromise p v f).1
  | .refSendData k len eos => (s.refSendData k len eos).1
  | .refSendTrailers k f => (s.refSendTrailers k f).1
  | .refReserveCapacity k c => s.refReserveCapacity k c
  | .pollCapacity k tag => (s.pollCapacity k tag).1
  | .refSendReset k r => s.refSendReset k r
  | .pollReset k m tag => (s.pollReset k m tag).1
  | .recvPollResponse fuel k tag => (Streams.recvPollResponse fuel s k tag).1
  | .recvPollInformational k tag => (s.recvPollInformational k tag).1
  | .refPollData k tag => (s.refPollData k tag).1
  | .recvPollTrailers k tag => (s.recvPollTrailers k tag).1
  | .refReleaseCapacity k n => (s.refReleaseCapacity k n).1
  | .refClearRecvBuffer k => s.refClearRecvBuffer k

def run (s : Streams) (ops : List Op) : Streams := ops.foldl Op.apply s

theorem Op.apply_evolves {a : Store} {s : Streams} (h : Evolves (SRel D) RInv a s.store) (op : Op)
    (hD : ∀ k, op = .dropStreamRef k → D k) : Evolves (SRel D) RInv a (op.apply s).store := by
  cases op
  case dropStreamRef k => exact dropStreamRef_sr h k (hD k rfl)
  all_goals (dsimp only [Op.apply]; ev)

theorem run_evolves' {a : Store} (ops : List Op) {s : Streams} (h : Evolves (SRel D) RInv a s.store)
    (hD : ∀ op ∈ ops, ∀ k, op = .dropStreamRef k → D k) : Evolves (SRel D) RInv a (run s ops).store := by
  induction ops generalizing s with
  | nil => exact h
  | cons op ops ih =>
    exact ih (Op.apply_evolves h op (hD op (List.mem_cons_self ..))) (fun o ho => hD o (List.mem_cons_of_mem _ ho))

/-- **every history**: the final slab relates to the initial one by `SRel` -/
theorem run_evolves (s : Streams) (ops : List Op) : Evolves SRelAny RInv s.store (run s ops).store :=
  run_evolves' ops (Evolves.refl _) (fun _ _ _ _ => trivial)

theorem run_evolves_keep (s : Streams) (ops : List Op) (k : Nat) (hk : Op.dropStreamRef k ∉ ops) :
    Evolves (SRel (· ≠ k)) RInv s.store (run s ops).store :=
  run_evolves' ops (Evolves.refl _) (fun op ho k' e hkk => hk (by rw [← hkk, ← e]; exact ho))

/-- the reset invariant holds in every state reachable from a state in which it holds -/
theorem run_rinv (s : Streams) (ops : List Op) (h : AllStreams RInv s.store) : AllStreams RInv (run s ops).store :=
  (run_evolves s ops).allStreams (fun _ _ i p => p.inv i) (fun _ n => n) h

theorem allStreams_empty (I : Stream → Prop) (s : Streams) (h : s.store.slab = []) : AllStreams I s.store := by
  intro k st hg; unfold Store.get? at hg; rw [h] at hg; cases hg

theorem keysBelow_empty (s : Streams) (h : s.store.slab = []) : KeysBelow s.store := by
  intro k st hg; unfold Store.get? at hg; rw [h] at hg; cases hg

theorem run_keysBelow (s : Streams) (ops : List Op) (h : KeysBelow s.store) : KeysBelow (run s ops).store :=
  (run_evolves s ops).keysBelow h

theorem run_srel (s : Streams) (ops : List Op) (hk : KeysBelow s.store) {k : Nat} {st st' : Stream}
    (h0 : s.store.get? k = some st) (h1 : (run s ops).store.get? k = some st') : SRelAny st st' := by
  obtain ⟨st0, hg, p⟩ := (run_evolves s ops).same_key h1 (hk k st h0)
  rw [h0] at hg; cases hg; exact p

/-- **a stream is never released while a handle is alive**: along a history that does not drop a handle
    of entry `k`, an entry with `ref_count > 0` stays in the slab and its `ref_count` does not go down -/
theorem run_keeps_referenced (s : Streams) (ops : List Op) (k : Nat) (st : Stream) (hkb : KeysBelow s.store)
    (h0 : s.store.get? k = some st) (hr : 0 < st.refCount) (hk : Op.dropStreamRef k ∉ ops) :
    ∃ st', (run s ops).store.get? k = some st' ∧ st.refCount ≤ st'.refCount ∧ st'.id = st.id := by
  have e := run_evolves_keep s ops k hk
  have hkey : st.key = k := Store.get?_key h0
  rcases e.fwd k st h0 (hkb k st h0) with ⟨st', h', r⟩ | ⟨st'', r, d⟩
  · exact ⟨st', h', r.refs (by rw [hkey]; exact fun h => h rfl), r.id⟩
  · exfalso
    have := r.refs (by rw [hkey]; exact fun h => h rfl)
    rw [d.2] at this
    omega

end H2V.Lemmas.ConnResetP
