import H2V.Model.ConnCodec
import H2V.Lemmas.CodecArms
/-
  ConnCtlP — C09 at the framing level (`decode_frame`): the vocabulary of the statements (`hd`, `pl`: head and payload of
  a complete frame; `InvalidSetting`) and what `C09` uses more than once or proves by induction: WINDOW_UPDATE(0), and a forbidden
  SETTINGS value at any position of the payload (`settingsLoop_invalid`).  The rules themselves stand under
  `C09.framing_violations` / `tolerated_framing`.
-/
set_option autoImplicit false
set_option linter.unusedSimpArgs false
namespace H2V.Lemmas.ConnCtlP
open H2V H2V.Model H2V.Model.Frame H2V.Model.CodecRead

/-- head and payload of a complete frame -/
abbrev hd (bytes : Bytes) : Head := Head.parse bytes
abbrev pl (bytes : Bytes) : Bytes := bytes.drop 9

/-- WINDOW_UPDATE with a zero increment, on the connection or on a stream (h2 treats both as a
    connection error) -/
theorem decode_windowUpdate_zero (r : Reader) (bytes : Bytes) (hp : r.partialBlk = none)
    (hk : (hd bytes).kind = 8) (hz : rd32 (pl bytes) % 2147483648 = 0) : decodeFrame r bytes = (r, connErr) := by
  rw [Codec.decodeFrame_windowUpdate hp hk]
  by_cases hl : (pl bytes).length = 4 <;>
    (have hl' := hl; simp only [List.length_drop] at hl'; simp [Codec.simpleDF, loadWindowUpdate, hl, hl', hz])

/-- a setting whose value RFC 9113 §6.5.2 forbids: ENABLE_PUSH / ENABLE_CONNECT_PROTOCOL above 1,
    INITIAL_WINDOW_SIZE above 2^31-1, MAX_FRAME_SIZE outside [2^14, 2^24-1] -/
def InvalidSetting (id val : Nat) : Prop :=
  ((id = 2 ∨ id = 8) ∧ val > 1) ∨ (id = 4 ∧ val > 2147483647) ∨ (id = 5 ∧ (val < 16384 ∨ val > 16777215))

theorem applySetting_invalid (acc : List (Nat × Nat)) (id val : Nat) (h : InvalidSetting id val) :
    applySetting acc id val = none := by
  unfold applySetting
  simp only [Generated.Consts.MAX_INITIAL_WINDOW_SIZE, Generated.Consts.DEFAULT_MAX_FRAME_SIZE,
    Generated.Consts.MAX_MAX_FRAME_SIZE]
  rcases h with ⟨h1 | h1, h2⟩ | ⟨h1, h2⟩ | ⟨h1, h2⟩
  · subst h1; simp; omega
  · subst h1; simp; omega
  · subst h1; simp; omega
  · subst h1; simp; omega

theorem settingsLoop_invalid : ∀ (n fuel : Nat) (p : Bytes) (acc : List (Nat × Nat)), n < fuel → 6 * n + 6 ≤ p.length →
    InvalidSetting (rd16 (p.drop (6 * n))) (rd32 (p.drop (6 * n + 2))) →
    settingsLoop fuel p acc = .error .invalidSettingValue := by
  intro n
  induction n with
  | zero =>
    intro fuel p acc hf hl hi
    cases fuel with
    | zero => omega
    | succ f =>
      unfold settingsLoop
      have : ¬ p.length < 6 := by omega
      simp only [this, if_false]
      simp only [Nat.mul_zero, List.drop_zero, Nat.zero_add] at hi
      rw [applySetting_invalid acc _ _ hi]
  | succ n ih =>
    intro fuel p acc hf hl hi
    cases fuel with
    | zero => omega
    | succ f =>
      unfold settingsLoop
      have : ¬ p.length < 6 := by omega
      simp only [this, if_false]
      cases ha : applySetting acc (rd16 p) (rd32 (p.drop 2)) with
      | none => rfl
      | some acc' =>
        dsimp only
        apply ih f (p.drop 6) acc' (by omega) (by simp; omega)
        have e1 : 6 + 6 * n = 6 * (n + 1) := by omega
        have e2 : 6 + (6 * n + 2) = 6 * (n + 1) + 2 := by omega
        simpa [List.drop_drop, e1, e2] using hi

end H2V.Lemmas.ConnCtlP
