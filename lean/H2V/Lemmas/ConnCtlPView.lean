import H2V.Lemmas.ConnStepLoops
import H2V.Lemmas.ConnStepWrite
import H2V.Lemmas.ConnCtlPViewAttr
/-
  ConnCtlP, view lemmas — the configuration-like part of the stream layer (`View`): fields
  that only a handful of functions write (`last_processed_id`, the two `max_stream_id`s, the peer
  role, the concurrency limits, the initial window sizes, the push switches, `conn_error`).
  Every update of the stream layer but those of three kinds keeps the view (`kindsView`: not the
  settings, the ids, `conn_error`), so every step made of such updates does (`view_of_step`), and a
  model function whose footprint avoids the three kinds keeps the view because it is such a step
  (`view_of_step (Streams.f_step (by decide) s …)`, written where a proof needs it).  What the GOAWAY invariant reads of the
  view is less: the two ids of the receive side, and whether `conn_error` is set.  A step that writes no id (`kindsNoIds`)
  keeps the ids, and no step clears `conn_error` (`ids_of_step`); that covers the functions that write settings or
  `conn_error`.  ConnCtlPViewRecv / ViewFrames treat the two that write an id, `recv_headers` and `recv_go_away`.
-/
set_option autoImplicit false
namespace H2V.Lemmas.ConnCtlP
open H2V H2V.Model H2V.Model.Conn

/-- the configuration-like part of `Streams` -/
structure View where
  lpi : Nat            -- `recv.last_processed_id`
  rmax : Nat           -- `recv.max_stream_id`
  smax : Nat           -- `send.max_stream_id`
  isServer : Bool
  maxSend : Nat        -- `counts.max_send_streams`
  maxRecv : Nat        -- `counts.max_recv_streams`
  sInitWin : Nat       -- `send.init_window_sz`
  rInitWin : Nat       -- `recv.init_window_sz`
  sPush : Bool         -- `send.is_push_enabled`
  rPush : Bool         -- `recv.is_push_enabled`
  connErr : Option PErr
  deriving DecidableEq

def view (s : Streams) : View :=
  { lpi := s.actions.recv.lastProcessedId, rmax := s.actions.recv.maxStreamId, smax := s.actions.send.maxStreamId,
    isServer := s.counts.isServer, maxSend := s.counts.maxSendStreams, maxRecv := s.counts.maxRecvStreams,
    sInitWin := s.actions.send.initWindowSz, rInitWin := s.actions.recv.initWindowSz,
    sPush := s.actions.send.isPushEnabled, rPush := s.actions.recv.isPushEnabled, connErr := s.actions.connError }

@[simp, view_simp] theorem view_panic (s : Streams) (m : String) : view (s.panic m) = view s := by
  unfold Streams.panic; split <;> rfl
@[simp, view_simp] theorem view_unsup (s : Streams) (m : String) : view (s.unsup m) = view s := by
  unfold Streams.unsup; split <;> rfl
@[simp, view_simp] theorem view_wake (s : Streams) (t : List String) : view (s.wake t) = view s := rfl
@[simp] theorem view_setStream (s : Streams) (st : Stream) : view (s.setStream st) = view s := rfl
@[simp, view_simp] theorem view_modStream (s : Streams) (id : Nat) (f : Stream → Stream) : view (s.modStream id f) = view s := by
  unfold Streams.modStream; split <;> simp
@[simp] theorem view_modPrio (s : Streams) (f : Prioritize → Prioritize) : view (s.modPrio f) = view s := rfl
@[simp, view_simp] theorem view_setQ (s : Streams) (q : QName) (l : List Nat) : view (s.setQ q l) = view s := by
  cases q <;> rfl
@[simp, view_simp] theorem view_qPush (s : Streams) (q : QName) (id : Nat) : view (s.qPush q id).1 = view s := by
  unfold Streams.qPush; split <;> simp
@[simp] theorem view_store (s : Streams) (st : Store) : view { s with store := st } = view s := rfl
@[simp] theorem view_refs (s : Streams) (n : Nat) : view { s with refs := n } = view s := rfl

attribute [view_simp] view_setStream view_modPrio view_store view_refs

theorem view_setCounts (s : Streams) (c : Counts) (h : c.isServer = s.counts.isServer ∧
    c.maxSendStreams = s.counts.maxSendStreams ∧ c.maxRecvStreams = s.counts.maxRecvStreams) : view { s with counts := c } = view s := by
  obtain ⟨h1, h2, h3⟩ := h
  simp [view, h1, h2, h3]

/-- the updates of `counts`, `actions.send`, `actions.recv` by a function that keeps the fields `view`
    reads; as rewrite rules of `view_simp` the side conditions are projections of a structure update,
    which `simp` closes by itself -/
@[simp, view_simp] theorem view_modCounts (s : Streams) (f : Counts → Counts) (h1 : (f s.counts).isServer = s.counts.isServer)
    (h2 : (f s.counts).maxSendStreams = s.counts.maxSendStreams)
    (h3 : (f s.counts).maxRecvStreams = s.counts.maxRecvStreams) : view (s.modCounts f) = view s :=
  view_setCounts s _ ⟨h1, h2, h3⟩

@[simp, view_simp] theorem view_modSend (s : Streams) (f : Send → Send)
    (h1 : (f s.actions.send).maxStreamId = s.actions.send.maxStreamId)
    (h2 : (f s.actions.send).initWindowSz = s.actions.send.initWindowSz)
    (h3 : (f s.actions.send).isPushEnabled = s.actions.send.isPushEnabled) : view (s.modSend f) = view s := by
  simp [view, Streams.modSend, h1, h2, h3]

@[simp, view_simp] theorem view_modRecv (s : Streams) (f : Recv → Recv)
    (h1 : (f s.actions.recv).lastProcessedId = s.actions.recv.lastProcessedId)
    (h2 : (f s.actions.recv).maxStreamId = s.actions.recv.maxStreamId)
    (h3 : (f s.actions.recv).initWindowSz = s.actions.recv.initWindowSz)
    (h4 : (f s.actions.recv).isPushEnabled = s.actions.recv.isPushEnabled) : view (s.modRecv f) = view s := by
  simp [view, Streams.modRecv, h1, h2, h3, h4]

@[simp, view_simp] theorem view_ite (c : Prop) [Decidable c] (a b : Streams) :
    view (if c then a else b) = if c then view a else view b := by split <;> rfl

attribute [view_simp] ite_self implies_true

@[simp] theorem view_setTask (s : Streams) (t : Option String) :
    view { s with actions := { s.actions with task := t } } = view s := rfl

@[simp] theorem view_storeLeak (s : Streams) (st : Store) (n : Nat) :
    view { s with store := st, recvBufferLeaked := n } = view s := rfl

attribute [view_simp] view_setTask view_storeLeak

@[simp, view_simp] theorem view_incNumRecvStreams (s : Streams) (id : Nat) : view (s.incNumRecvStreams id) = view s := by
  unfold Streams.incNumRecvStreams
  simp only [view_simp]

/-- the kinds of update `view` does not see: not the settings, the ids and `conn_error`, which it reads -/
def kindsView : Kind → Bool
  | .config | .ids | .connError => false
  | _ => true

theorem sendUpd_view {p p' : Send} (h : Send.Upd kindsView p p') :
    p'.maxStreamId = p.maxStreamId ∧ p'.initWindowSz = p.initWindowSz ∧ p'.isPushEnabled = p.isPushEnabled := by
  cases h with
  | bumpNext => exact ⟨rfl, rfl, rfl⟩
  | initWindowSz _ hk | extendedConnect _ hk | pushEnabled _ hk | maxStreamId _ hk => cases hk

theorem recvUpd_view {r r' : Recv} (h : Recv.Upd kindsView r r') :
    r'.lastProcessedId = r.lastProcessedId ∧ r'.maxStreamId = r.maxStreamId ∧ r'.initWindowSz = r.initWindowSz ∧
      r'.isPushEnabled = r.isPushEnabled := by
  cases h with
  | flow | flowIn | refused | bumpNext => exact ⟨rfl, rfl, rfl, rfl⟩
  | initWindowSz _ hk | extendedConnect _ hk | lastProcessedId _ hk | maxStreamId _ hk => cases hk

theorem countsUpd_view {c c' : Counts} (h : Counts.Upd kindsView c c') :
    c'.isServer = c.isServer ∧ c'.maxSendStreams = c.maxSendStreams ∧ c'.maxRecvStreams = c.maxRecvStreams := by
  -- the guarded updates are `if … then some { c with n := … } else none`
  have of_ite : ∀ {p : Prop} [Decidable p] {c0 c' : Counts}, (if p then some c0 else none) = some c' → c' = c0 :=
    fun h => by split at h <;> cases h; rfl
  induction h with
  | refl c => exact ⟨rfl, rfl, rfl⟩
  | trans _ _ ih1 ih2 => exact ⟨ih2.1.trans ih1.1, ih2.2.1.trans ih1.2.1, ih2.2.2.trans ih1.2.2⟩
  | incNumResetStreams _ h | decNumResetStreams _ h | incNumRemoteResetStreams _ h | decNumRemoteResetStreams _ h
  | incNumLocalErrorResets _ h => rw [of_ite h]; exact ⟨rfl, rfl, rfl⟩
  | applyRemoteSettings _ _ _ hk => cases hk
  | recordDataFrame c n _ => unfold Counts.recordDataFrame; dsimp only; (repeat' split) <;> exact ⟨rfl, rfl, rfl⟩
  | releaseDataFrame c n _ => unfold Counts.releaseDataFrame; dsimp only; split <;> exact ⟨rfl, rfl, rfl⟩

/-- the one walk over a step for what is read off the view: only an update of `Send`, `Recv`, `Counts` or of `conn_error`
    can write it -/
theorem view_rel {K : Kind → Bool} {Q : Streams → Streams → Prop} (hq : ∀ {s s' : Streams}, view s' = view s → Q s s')
    (ht : ∀ {a b c : Streams}, Q a b → Q b c → Q a c)
    (hs : ∀ (s : Streams) f, Send.Upd K s.actions.send (f s.actions.send) → Q s (s.modSend f))
    (hr : ∀ (s : Streams) f, Recv.Upd K s.actions.recv (f s.actions.recv) → Q s (s.modRecv f))
    (hc : ∀ (s : Streams) c, Counts.Upd K s.counts c → Q s { s with counts := c })
    (he : K .connError → ∀ (s : Streams) e, Q s { s with actions := { s.actions with connError := some e } })
    {s s' : Streams} (h : Streams.Step K s s') : Q s s' := by
  induction h with
  | refl s => exact hq rfl
  | trans _ _ ih1 ih2 => exact ht ih1 ih2
  | panic s m => exact hq (view_panic s m)
  | unsup s m => exact hq (view_unsup s m)
  | wake s t => exact hq (view_wake s t)
  | notifyTask s _ => exact hq (by unfold Streams.notifyTask; split <;> rfl)
  | setTask s t => exact hq (view_setTask s t)
  | setConnError s e hk => exact he hk s e
  | setRefs s n => exact hq (view_refs s n)
  | modPrio s f _ => exact hq (view_modPrio s f)
  | modSend s f h => exact hs s f h
  | modRecv s f h => exact hr s f h
  | setCounts s c h => exact hc s c h
  | qPush s q k _ => exact hq (view_qPush s q k)
  | qPushFront s q k _ => exact hq (by unfold Streams.qPushFront; split <;> simp)
  | qPop s q _ => exact hq (by unfold Streams.qPop; split <;> simp)
  | incNumSendStreams s k _ => exact hq (by unfold Streams.incNumSendStreams; simp only [view_simp])
  | incNumRecvStreams s k _ => exact hq (view_incNumRecvStreams s k)
  | decNumStreams s k => exact hq (by unfold Streams.decNumStreams; simp only [view_simp])
  | modStream s k f _ => exact hq (view_modStream s k f)
  | modStreamW s k f _ => exact hq (by unfold Streams.modStreamW; split <;> simp)
  | setStream s x _ => exact hq (view_setStream s x)
  | insert s | insertWith s | undoInsert s | unlink s => exact hq (view_store s _)
  | remove s k n => exact hq (view_storeLeak s _ n)

theorem view_of_step {s s' : Streams} (h : Streams.Step kindsView s s') : view s' = view s :=
  view_rel (Q := fun s s' => view s' = view s) id (fun h1 h2 => h2.trans h1)
    (fun s f h => by obtain ⟨h1, h2, h3⟩ := sendUpd_view h; exact view_modSend s f h1 h2 h3)
    (fun s f h => by obtain ⟨h1, h2, h3, h4⟩ := recvUpd_view h; exact view_modRecv s f h1 h2 h3 h4)
    (fun s c h => view_setCounts s c (countsUpd_view h)) (fun hk => nomatch hk) h

@[view_simp] theorem view_transition {α : Type} (s : Streams) (id : Nat) (f : Streams → Streams × α) :
    view (s.transition id f).1 = view (f s).1 := by
  rw [Streams.transition_fst]
  exact view_of_step (Streams.transitionAfter_step (by decide) _ id _)

theorem view_modSend_eq (s : Streams) (f : Send → Send) :
    view (s.modSend f) = { view s with smax := (f s.actions.send).maxStreamId,
                                       sInitWin := (f s.actions.send).initWindowSz,
                                       sPush := (f s.actions.send).isPushEnabled } := rfl

/-- every kind of update but the one that writes `last_processed_id` and the two `max_stream_id`s -/
def kindsNoIds : Kind → Bool
  | .ids => false
  | _ => true

theorem recvUpd_ids {r r' : Recv} (h : Recv.Upd kindsNoIds r r') :
    r'.lastProcessedId = r.lastProcessedId ∧ r'.maxStreamId = r.maxStreamId := by
  cases h with
  | lastProcessedId _ hk | maxStreamId _ hk => cases hk
  | _ => exact ⟨rfl, rfl⟩

/-- a step that writes no id keeps `last_processed_id` and `max_stream_id`; no step of the layer clears `conn_error` -/
theorem ids_of_step {s s' : Streams} (h : Streams.Step kindsNoIds s s') :
    (view s').lpi = (view s).lpi ∧ (view s').rmax = (view s).rmax ∧
      ((view s).connErr.isSome = true → (view s').connErr.isSome = true) :=
  view_rel (Q := fun s s' => (view s').lpi = (view s).lpi ∧ (view s').rmax = (view s).rmax ∧
      ((view s).connErr.isSome = true → (view s').connErr.isSome = true))
    (fun h => by rw [h]; exact ⟨rfl, rfl, id⟩)
    (fun h1 h2 => ⟨h2.1.trans h1.1, h2.2.1.trans h1.2.1, fun h => h2.2.2 (h1.2.2 h)⟩)
    (fun _ _ _ => ⟨rfl, rfl, id⟩) (fun _ _ h => ⟨(recvUpd_ids h).1, (recvUpd_ids h).2, id⟩)
    (fun _ _ _ => ⟨rfl, rfl, id⟩) (fun _ _ _ => ⟨rfl, rfl, fun _ => rfl⟩) h

end H2V.Lemmas.ConnCtlP
