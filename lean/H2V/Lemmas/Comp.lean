import H2V.Lemmas.CompBasic
import H2V.Lemmas.CompState
import H2V.Lemmas.CompFlow
import H2V.Lemmas.CompLedger
/-
  Component lemmas: stream state machine vs RFC 9113 §5.1 (`CompState`), flow-control arithmetic
  (`CompFlow`) and its ledger over histories (`CompLedger`).  This file only re-exports and prints
  the axioms the main theorems rest on.
-/
namespace H2V.Lemmas.Comp

#print axioms sendOpen_refines
#print axioms sendOpen_error_iff
#print axioms recvOpen_refines
#print axioms recvOpen_error_iff
#print axioms recvOpen_informational
#print axioms reserveRemote_refines
#print axioms reserveLocal_refines
#print axioms recvClose_refines
#print axioms sendClose_refines
#print axioms recvReset_refines
#print axioms recvReset_idle_exception
#print axioms setReset_refines
#print axioms setReset_idle_exception
#print axioms isClosed_iff
#print axioms ensureRecvOpen_isOk
#print axioms sendClose_none_iff
#print axioms recvReset_preserves_eos
#print axioms handleError_preserves_eos
#print axioms recvEof_preserves_eos
#print axioms closed_is_absorbing
#print axioms closed_still_changes
#print axioms reachable_all
#print axioms reachable_states
#print axioms eos_accepted_at_most_once
#print axioms errorAfterEndStream_only_after_eos
#print axioms op_refines
#print axioms op_forbidden
#print axioms trace_refines
#print axioms incWindow_ok
#print axioms incWindow_err
#print axioms decSendWindow_ok
#print axioms assignCapacity_ok
#print axioms claimCapacity_ok
#print axioms sendData_ok
#print axioms sendData_assert_iff
#print axioms decRecvWindow_partial_iff
#print axioms sendData_partial_iff
#print axioms unclaimedCapacity_spec
#print axioms unclaimedCapacity_spec'
#print axioms unclaimed_when_exhausted
#print axioms unclaimed_when_exhausted_iff
#print axioms window_ledger
#print axioms available_ledger
#print axioms window_never_above_max
#print axioms window_never_above_max_small
#print axioms values_stay_i32

end H2V.Lemmas.Comp
