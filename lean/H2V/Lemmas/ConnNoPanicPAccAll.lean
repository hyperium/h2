import H2V.Lemmas.ConnNoPanicPAccExtra
import H2V.Lemmas.ConnNoPanicPAccNext
/-
  C08 (no panic) — the server accept path: `J` along EVERY operation of ConnResetP's `Op` (except `.panic`); `J_step` is
  its restriction to the operations `opPre` covers; and the counterexample that shows why `handle_error` needs its argument precondition.
-/
namespace H2V.Lemmas.ConnNoPanicP
open H2V H2V.Model H2V.Model.Conn H2V.Lemmas.ConnCountsP
open H2V.Lemmas.ConnResetP (Op run)
attribute [local irreducible] wrapSubU32 wrapSubUsize

/-- the handle an operation is called through (as far as `J` needs it) -/
def accKey : Op → Option Nat
  | .recvPollResponse _ k _ => some k
  | .recvTakeRequest k => some k
  | op => opKey op

/-- what `J` needs of an operation:
    * `handle_error` is never called with `Reset(_, _, Initiator::Remote)` (ARGUMENT; connection.rs hands over GOAWAY / I/O errors);
    * a PUSH_PROMISE frame is refused without touching the state (`recvPushPromise_nopush` under `NoPush`);
    * `take_request` is called on the handle `next_incoming` has just handed out (its `pending_recv` starts with the request);
    * `drop_stream_ref`: no promised streams left (`NoPPP`);
    * `.panic` is not an operation of the code. -/
def accPre2 (s : Streams) : Op → Prop
  | .handleError e => NotRR e
  | .recvPushPromise id h => (s.recvPushPromise id h).1 = s
  | .recvTakeRequest k => ReqHead (s.stream k)
  | .dropStreamRef k => dropPPP s k = []
  | .panic _ => False
  | _ => True

/-- **every operation keeps `J`** -/
theorem J_stepAll {s : Streams} {H : List Nat} (hn : NPI (fun _ => False) s) (hh : HOK s H) (hj : J s) (op : Op)
    (hacc : accPre2 s op) (hin : ∀ k, accKey op = some k → k ∈ H) : J (op.apply s) := by
  have hk : ∀ k, accKey op = some k → Live s k ∧ (s.stream k).refCount > 0 := fun k hk => hh.held (hin k hk)
  cases op
  case recvHeaders h => exact recvHeaders_j hn hj h
  case recvData id p eos pad => exact recvData_j hj id p eos pad
  case recvReset id r => exact recvReset_j hn hj id r
  case recvPushPromise id h => exact recvPushPromise_j hj id h hacc
  case innerSendReset id r => exact innerSendReset_j hj id r
  case handleError e => exact hj.at (.of_step (Streams.handleError_step (by decide) s e fun ⟨i, r, h⟩ => absurd h (hacc i r)))
  case recvEof b => exact recvEof_j hj b
  case panic m => exact hacc.elim
  case sendRequest a b c d => exact sendRequest_j hj a b c d
  case nextIncoming => exact (nextIncoming_npi hn hj hh).2.1
  case recvTakeRequest k => exact (recvTakeRequest_npi hn hj (hk k rfl).1 (hk k rfl).2 hacc).2.1
  case cloneStreamRef k => exact cloneStreamRef_j hj (hk k rfl).1 (hk k rfl).2
  case dropStreamRef k => exact dropStreamRef_j hj (hk k rfl).1 (hk k rfl).2 hacc
  case refSendPushPromise p v f => exact refSendPushPromise_j hn hj p v f
  case recvPollResponse n k t => exact recvPollResponse_j hj n (hk k rfl).2 t
  case recvPollInformational k t => exact hj.al1 (Streams.recvPollInformational_takes (by decide) s k t).al (hj.not_mem_of_ref (hk k rfl).2)
  case refPollData k t => exact hj.al1 (Streams.refPollData_takes (by decide) s k t).al (hj.not_mem_of_ref (hk k rfl).2)
  case recvPollTrailers k t => exact hj.al1 (Streams.recvPollTrailers_takes (by decide) s k t).al (hj.not_mem_of_ref (hk k rfl).2)
  case refClearRecvBuffer k => exact hj.al1 (Streams.refClearRecvBuffer_takes (by decide) s k).al (hj.not_mem_of_ref (hk k rfl).2)
  all_goals exact hj.at (op_at s _ trivial)

/-- **every covered operation keeps `J`** -/
theorem J_step {s : Streams} {H : List Nat} (hn : NPI (fun _ => False) s) (hh : HOK s H) (hj : J s) (op : Op)
    (hpre : opPre s op) (hacc : accPre op) (hin : ∀ k, opKey op = some k → k ∈ H) : J (op.apply s) := by
  cases op <;> first
    | exact False.elim hpre
    | exact J_stepAll hn hh hj _ (by first | exact hacc | exact hpre | exact trivial) hin

/-- `poll_pushed` on a stream without pending push promises (`NoPPP`): only `push_task` is written -/
theorem recvPollPushed_al (s : Streams) (k : Nat) (t : String) (h : (s.stream k).pendingPushPromises = []) :
    AL [] s (s.recvPollPushed k t).1 := by
  unfold Streams.recvPollPushed
  rw [h]
  dsimp only
  al_auto

theorem recvPollPushed_not_pushed (s : Streams) (k : Nat) (t : String) (h : (s.stream k).pendingPushPromises = []) :
    ∀ c m u f, (s.recvPollPushed k t).2 ≠ .pushed c m u f := by
  unfold Streams.recvPollPushed
  rw [h]
  dsimp only
  intro c m u f
  split <;> simp

theorem refPollPushed_j {s : Streams} (hj : J s) (k : Nat) (t : String) (h : (s.stream k).pendingPushPromises = []) :
    J (s.refPollPushed k t).1 := by
  unfold Streams.refPollPushed
  have h1 := hj.al0 (recvPollPushed_al s k t h)
  have h2 := recvPollPushed_not_pushed s k t h
  generalize s.recvPollPushed k t = p at h1 h2
  obtain ⟨s1, r⟩ := p
  cases r with
  | pushed c m u f => exact absurd rfl (h2 c m u f)
  | pending => exact h1
  | none => exact h1
  | err e => exact h1
  | panic => exact h1

/-- a new server connection's stream layer -/
def cxInit : Streams :=
  { counts := { isServer := true },
    actions := { recv := { nextStreamId := some 1, flow := { windowSize := { val := 65535 }, available := { val := 65535 } } },
                 send := { nextStreamId := some 2 } } }

/-- `GET /` on stream 1 -/
def cxReq : HeadersIn :=
  { sid := 1, eos := false, status := none, method := some [71, 69, 84], scheme := some [104, 116, 116, 112], path := some [47] }

/-- request, then `handle_error(Reset(1, NO_ERROR, Remote))` — a call connection.rs never makes —, then `next_incoming` -/
def cxOps : List Op := [.recvHeaders cxReq, .handleError (.reset 1 0 .remote), .nextIncoming]

theorem cxInit_blank : Blank cxInit ∧ cxInit.panicked = none ∧ ∀ q, cxInit.getQ q = [] :=
  ⟨⟨rfl, rfl, rfl, rfl, rfl, rfl, rfl, rfl, rfl, rfl, by intro x hx; cases hx; rfl⟩, rfl, fun q => by cases q <;> rfl⟩

set_option maxRecDepth 8000 in
/-- **model artifact, not a defect of h2**: with an arbitrary error argument `Op.handleError` can mark a queued stream
    "reset by the peer" without counting it, and `next_incoming`'s `assert!(num_remote_reset_streams > 0)` fires.
    With a GOAWAY error (what the code really passes) the same history is fine. -/
theorem handleError_remoteReset_counterexample :
    (run cxInit cxOps).panicked = some "assertion failed: self.num_remote_reset_streams > 0" ∧
    (run cxInit [.recvHeaders cxReq, .handleError (.goAway [] 0 .remote), .nextIncoming]).panicked = none := by
  constructor <;> decide +kernel

end H2V.Lemmas.ConnNoPanicP
