import H2V.Lemmas.ConnResetPHist
import H2V.Lemmas.ConnCountsPReach
import H2V.Lemmas.ConnRecvPReach
/-
  One operation of the `Streams` API in three vocabularies: `ConnResetP.Op` (the type the families' inductions run
  over), ConnCountsP's relation `ApiStep`, ConnRecvP's `Op`.
-/
namespace H2V.Lemmas
open H2V H2V.Model H2V.Model.Conn

theorem ConnCountsP.ApiStep.op (s : Streams) (op : ConnResetP.Op) : ConnCountsP.ApiStep s (op.apply s) := by
  cases op <;> (simp only [ConnResetP.Op.apply]; with_reducible constructor)

/-- the same operation in ConnRecvP's vocabulary -/
def ConnRecvP.Op.ofReset : ConnResetP.Op → ConnRecvP.Op
  | .recvHeaders h => .recvHeaders h
  | .recvData id p eos pad => .recvData id p eos pad
  | .recvReset id r => .recvReset id r
  | .recvWindowUpdate id inc => .recvWindowUpdate id inc
  | .recvPushPromise id h => .recvPushPromise id h
  | .handleError e => .handleError e
  | .recvGoAwayFrame l r d => .recvGoAwayFrame l r d
  | .recvGoAway l => .recvGoAway l
  | .recvEof c => .recvEof c
  | .innerSendReset id r => .innerSendReset id r
  | .setTargetConnectionWindow t => .setTargetConnectionWindow t
  | .applyRemoteSettings v b => .applyRemoteSettings v b
  | .applyLocalSettingsFrame v => .applyLocalSettings v
  | .pollComplete fuel w io tag => .pollComplete fuel w io tag
  | .pollSendPendingRefusal fuel w io tag => .pollSendPendingRefusal fuel w io tag
  | .clearExpiredResetStreams fuel => .clearExpiredResetStreams fuel
  | .wake t => .wake t
  | .clearWakes => .clearWakes
  | .panic m => .panic m
  | .cloneHandle => .cloneHandle
  | .dropHandle => .dropHandle
  | .sendRequest a b c d => .sendRequest a b c d
  | .pollPendingOpen p tag => .pollPendingOpen p tag
  | .nextIncoming => .nextIncoming
  | .recvTakeRequest k => .recvTakeRequest k
  | .cloneStreamRef k => .cloneStreamRef k
  | .dropStreamRef k => .dropStreamRef k
  | .refSendResponse k f eos => .refSendResponse k f eos
  | .refSendInformationalHeaders k f => .refSendInformationalHeaders k f
  | .refSendPushPromise p v f => .refSendPushPromise p v f
  | .refSendData k len eos => .refSendData k len eos
  | .refSendTrailers k f => .refSendTrailers k f
  | .refReserveCapacity k c => .refReserveCapacity k c
  | .pollCapacity k tag => .pollCapacity k tag
  | .refSendReset k r => .refSendReset k r
  | .pollReset k m tag => .pollReset k m tag
  | .recvPollResponse fuel k tag => .recvPollResponse fuel k tag
  | .recvPollInformational k tag => .recvPollInformational k tag
  | .refPollData k tag => .refPollData k tag
  | .recvPollTrailers k tag => .recvPollTrailers k tag
  | .refReleaseCapacity k n => .refReleaseCapacity k n
  | .refClearRecvBuffer k => .refClearRecvBuffer k

theorem ConnRecvP.Op.ofReset_apply (s : Streams) (op : ConnResetP.Op) : (ConnRecvP.Op.ofReset op).apply s = op.apply s := by
  cases op <;> rfl

end H2V.Lemmas
