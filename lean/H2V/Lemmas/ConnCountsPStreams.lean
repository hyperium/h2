import H2V.Lemmas.ConnCountsPRecv
import H2V.Lemmas.ConnCountsPEarly
/-
  C05 / C18 / C19: `Ev` for `streams.rs` (`ConnStreams.lean`).
-/
namespace H2V.Lemmas.ConnCountsP
open H2V H2V.Model H2V.Model.Conn
variable {ρ : Bool}
attribute [local irreducible] wrapSubU32 wrapSubUsize

theorem sendSendReset_ev (s : Streams) (id : Nat) (reason : Reason) (init : Initiator) : EvB ρ s (s.sendSendReset id reason init) :=
  .of_step (Streams.sendSendReset_step (by decide) s id reason init)

theorem resetOnRecvStreamErr_ev (s : Streams) (id : Nat) (res : Except PErr Unit) : EvB ρ s (s.resetOnRecvStreamErr id res).1 := by
  unfold Streams.resetOnRecvStreamErr
  ev_auto

theorem actionsSendReset_ev (s : Streams) (id : Nat) (reason : Reason) (init : Initiator) :
    EvB ρ s (s.actionsSendReset id reason init).1 := by
  unfold Streams.actionsSendReset
  ev_auto

theorem recvData_ev (s : Streams) (id : Nat) (payload : Bytes) (eos : Bool) (pad : Option Nat) :
    EvB ρ s (s.recvData id payload eos pad).1 := by
  rw [Streams.recvData_eq]
  unfold Streams.recvDataBody
  ev_auto

theorem recvReset_ev (s : Streams) (id : Nat) (reason : Reason) : EvB ρ s (s.recvReset id reason).1 := by
  unfold Streams.recvReset
  ev_auto

theorem recvWindowUpdate_ev (s : Streams) (id inc : Nat) : EvB ρ s (s.recvWindowUpdate id inc).1 := by
  unfold Streams.recvWindowUpdate
  ev_auto

theorem handleError_ev (s : Streams) (err : PErr) : EvB ρ s (s.handleError err).1 := by
  unfold Streams.handleError
  dsimp only
  generalize hS : s.storeForEach _ = S
  have e : EvB ρ s S := by
    rw [← hS]
    exact storeForEach_ev _ _ fun s id => by ev_auto
  exact .trans e (setMisc_ev _ _ _ _ _ _ ⟨rfl, rfl, rfl, rfl, rfl⟩)

theorem recvGoAwayFrame_ev (s : Streams) (last : Nat) (reason : Reason) (debug : Bytes) :
    EvB ρ s (s.recvGoAwayFrame last reason debug).1 := by
  unfold Streams.recvGoAwayFrame
  ev_auto

theorem pollComplete_ev : ∀ (fuel : Nat) (s : Streams) (w : Writer) (io : Tio) (tag : String),
    EvB ρ s (Streams.pollComplete fuel s w io tag).1 :=
  have hrec : ∀ (s : Streams) (w : Writer), EvB ρ s (s.reclaimFrame w).1 :=
    fun s w => .of_step (Streams.reclaimFrame_step (by decide) s w)
  Streams.pollComplete_rel EvB.relOK
    (Streams.bufferPending_rel EvB.relOK recvBufferPending_ev (Streams.prioBufferPending_rel EvB.relOK hrec prioBufferPendingLoop_ev))
    (fun s _ => setMisc_ev s _ _ _ _ _ ⟨rfl, rfl, rfl, rfl, rfl⟩) hrec

theorem pollSendPendingRefusal_ev : ∀ (fuel : Nat) (s : Streams) (w : Writer) (io : Tio) (tag : String),
    EvB ρ s (Streams.pollSendPendingRefusal fuel s w io tag).1 :=
  Streams.pollSendPendingRefusal_rel EvB.relOK sendPendingRefusal_ev

theorem refInc_ev (s : Streams) (id : Nat) : EvB ρ s (s.refInc id) :=
  .of_step (Streams.refInc_step (by decide) s id)

theorem maybeCancel_ev (s : Streams) (id : Nat) : EvB ρ s (s.maybeCancel id) := by
  unfold Streams.maybeCancel
  ev_auto

theorem nextIncoming_ev (s : Streams) : EvB ρ s s.nextIncoming.1 :=
  .of_step (Streams.nextIncoming_step (by decide) s)

theorem refSendResponse_ev (s : Streams) (k : Nat) (f : List Hpack.Field) (eos : Bool) : EvB ρ s (s.refSendResponse k f eos).1 := by
  unfold Streams.refSendResponse
  ev_auto

theorem refSendInformationalHeaders_ev (s : Streams) (k : Nat) (f : List Hpack.Field) : EvB ρ s (s.refSendInformationalHeaders k f).1 := by
  unfold Streams.refSendInformationalHeaders
  ev_auto

theorem cloneHandle_ev (s : Streams) : EvB ρ s s.cloneHandle :=
  .of_step (Streams.cloneHandle_step s)

theorem refSendData_ev (s : Streams) (id len : Nat) (eos : Bool) : EvB ρ s (s.refSendData id len eos).1 := by
  unfold Streams.refSendData
  ev_auto

theorem refSendTrailers_ev (s : Streams) (id : Nat) (f : List Hpack.Field) : EvB ρ s (s.refSendTrailers id f).1 := by
  unfold Streams.refSendTrailers
  ev_auto

theorem refSendReset_ev (s : Streams) (id : Nat) (r : Reason) : EvB ρ s (s.refSendReset id r) := by
  unfold Streams.refSendReset
  ev_auto

theorem refPollPushed_ev (s : Streams) (id : Nat) (tag : String) : EvB ρ s (s.refPollPushed id tag).1 := by
  unfold Streams.refPollPushed
  ev_auto

theorem dropPromise_ev (s : Streams) (promise : Nat) :
    EvB ρ s ((s.modStream promise fun st => { st with isPendingAccept := false }).transition promise fun s =>
            (if ((s.maybeCancel promise).stream promise).refCount == 0 then (s.maybeCancel promise).releaseClosedCapacity promise
             else s.maybeCancel promise, ())).1 := by
  refine .trans (.acceptFlag promise false) ?_
  ev_auto

theorem dropStreamRef_ev (s : Streams) (id : Nat) : EvB ρ s (s.dropStreamRef id) := by
  unfold Streams.dropStreamRef
  dsimp only
  refine .trans ?_ (transition_ev _ _ _ ?_)
  · ev_auto
  · intro s5
    split
    · dsimp only
      have hf : ∀ (s : Streams) (p : Nat), EvB ρ s ((s.modStream p fun st => { st with isPendingAccept := false }).transition p fun s =>
            (if ((s.maybeCancel p).stream p).refCount == 0 then (s.maybeCancel p).releaseClosedCapacity p
             else s.maybeCancel p, ())).1 :=
        fun s p => dropPromise_ev s p
      refine EvB.trans ?_ (Streams.foldl_rel EvB.relOK hf _ _)
      refine EvB.trans ?_ (modStream_ev _ _ _ ?_)
      · exact .trans (maybeCancel_ev _ _) (releaseClosedCapacity_ev _ _)
      · intro _ _; same_tac
    · exact maybeCancel_ev _ _

theorem recvOpen_remote {s s1 : Streams} {id : Nat} {pp : Bool} (h : s.recvOpen id pp = (s1, .ok true)) :
    s1.counts.isLocalInit id = false := by
  have hc : s1.counts = s.counts := by
    have := Streams.RecvFrame.counts.recvOpen s id pp; rw [h] at this; exact this
  rw [hc]
  have hsv : ∀ m, (if s.recv.refused.isSome = true then s.panic m else s).counts.isServer = s.counts.isServer := by
    intro m; split
    · rw [panic_counts]
    · rfl
  have key : (if s.counts.isServer = true then !(pp || id % 2 == 0) else !(!pp || !(id % 2 == 0))) = true := by
    cases hcan : (if s.counts.isServer = true then !(pp || id % 2 == 0) else !(!pp || !(id % 2 == 0))) with
    | true => rfl
    | false =>
      exfalso
      unfold Streams.recvOpen at h
      simp only [hsv, hcan, Bool.not_false, if_true] at h
      cases h
  unfold Counts.isLocalInit
  cases hs : s.counts.isServer <;> simp only [hs, Bool.false_eq_true, if_false, if_true] at key <;>
    cases pp <;> simp_all

theorem fresh_new (id a b : Nat) : Fresh (Stream.new id a b) :=
  ⟨rfl, fun q => by cases q <;> rfl, rfl, rfl⟩

theorem recvHeaders_ev (s : Streams) (h : HeadersIn) : EvB true s (s.recvHeaders h).1 := by
  unfold Streams.recvHeaders
  extract_lets id entry f431
  split
  · exact .refl _
  · have eE : EvB true s entry.1 := by
      simp only [entry]
      split
      · exact .refl _
      · split
        · exact .refl _
        · split
          · next s1 e heq => exact of_fst_eq heq (recvOpen_ev _ _ _)
          · next s1 heq => exact of_fst_eq heq (recvOpen_ev _ _ _)
          · next s1 heq =>
            refine .trans (of_fst_eq heq (recvOpen_ev _ _ _)) ?_
            exact .insert _ (fresh_new _ _ _) (recvOpen_remote heq)
    clear_value entry
    split
    · exact eE
    · exact eE
    · refine .trans eE ?_
      clear eE
      ev_auto

end H2V.Lemmas.ConnCountsP
