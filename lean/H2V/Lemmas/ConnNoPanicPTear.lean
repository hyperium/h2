import H2V.Lemmas.ConnNoPanicPApi
import H2V.Lemmas.ConnLoops
/-
  C08 (no panic): teardown carries `NPE E s`, the full invariant `NPI E s` together with `ErrOK s`.
  Here: `Queue::pop`, a light step followed by `transition_after` (the shape of every loop body of the
  teardown), and the loops that drain an intrusive queue and release the streams they pop
  (`clear_pending_capacity`, `clear_pending_send`, `clear_pending_open`, `clear_stream_window_update_queue`).
-/
namespace H2V.Lemmas.ConnNoPanicP
open H2V H2V.Model H2V.Model.Conn H2V.Lemmas.ConnCountsP

/-- the invariant the teardown loops carry -/
def NPE (E : Nat → Prop) (s : Streams) : Prop := NPI E s ∧ ErrOK s

theorem NPE.light {E : Nat → Prop} {ρ : Bool} {ks : List Nat} {s s' : Streams} (h : NPE E s) (hlt : LT ks s s')
    (hl : LiveAll s ks) (e : EvB ρ s s') (hE : ρ = true → ∀ k, ¬ E k) : NPE E s' :=
  ⟨h.1.lt hlt.w hl e hE, hlt.err.errOK h.2⟩

/-- a light step from `s` to `t`, then `transition_after` on `k` with the flag read in `s`: this is
    `counts.transition(stream, f)` around a light closure, and the body of the draining loops; it removes
    at most one entry of the id map -/
theorem NPE.release {E : Nat → Prop} {ρ : Bool} {ks : List Nat} {s t : Streams} (h : NPE E s) (hlt : LT ks s t)
    (hl : LiveAll s ks) (e : EvB ρ s t) (hE : ρ = true → ∀ k, ¬ E k) (k : Nat) :
    NPE E (t.transitionAfter k (s.stream k).isPendingResetExpiration) ∧
      s.store.ids.length ≤ (t.transitionAfter k (s.stream k).isPendingResetExpiration).store.ids.length + 1 := by
  have hn := transition_light_npi k (fun _ => (t, ())) h.1 hlt hl e hE h.2
  rw [Streams.transition_fst] at hn
  refine ⟨⟨hn, (transitionAfter_errSame _ _ _).errOK (hlt.err.errOK h.2)⟩, ?_⟩
  rw [← hlt.ids]
  rcases ConnWakeP.transitionAfter_ids t k (s.stream k).isPendingResetExpiration with e | ⟨_, e⟩
  · rw [e]; omega
  · rw [e]; exact Store.swapRemove_length_ge _ _

theorem qPop_errSame (s : Streams) (q : QName) : ErrSame s (s.qPop q).1 := by
  unfold ErrSame; rw [Streams.qPop_counts]; exact ⟨rfl, rfl⟩

theorem qPop_evB {ρ : Bool} (s : Streams) (q : QName) (h : q ≠ .pendingResetExpired) : EvB ρ s (s.qPop q).1 := by
  by_cases h2 : q = .pendingOpen
  · subst h2; exact .qPopOpen
  · exact .qPop q h h2

/-- `pending_reset_expired` apart: the counter `num_local_reset_streams` follows its length -/
theorem qPop_npi_of_live {E : Nat → Prop} {s : Streams} (h : NPI E s) {q : QName} (h2 : q ≠ .pendingResetExpired)
    (hl : ∀ k ∈ s.getQ q, Live s k) : NPI E (s.qPop q).1 :=
  h.lt (ρ := false) (qPop_lt s q fun _ => hl).w (liveAll0 s) (qPop_evB s q h2) noE

/-- `pending_accept` apart: its link flag is shared with `pending_push_promises`, so `QOK` does not hold of it -/
theorem qPop_npi {E : Nat → Prop} {s : Streams} (h : NPI E s) (q : QName) (h1 : q ≠ .pendingAccept)
    (h2 : q ≠ .pendingResetExpired) : NPI E (s.qPop q).1 :=
  qPop_npi_of_live h h2 (h.qs q h1).live

theorem popLoop_npe {E : Nat → Prop} {q : QName} (h1 : q ≠ .pendingAccept) (h2 : q ≠ .pendingResetExpired)
    {body : Streams → Nat → Streams} (hbody : ∀ t k, NPE E t → Live t k → NPE E (body t k))
    (n : Nat) {s : Streams} (h : NPE E s) : NPE E (Streams.popLoop q body n s) :=
  Streams.popLoop_inv (P := NPE E) (fun s t k h heq =>
    hbody t k (Conn.of_fst_eq (P := NPE E) heq ⟨qPop_npi h.1 q h1 h2, (qPop_errSame s q).errOK h.2⟩)
      (qPop_live (h.1.qs q h1).live heq).2) n s h

theorem taBody_npe {E : Nat → Prop} {t : Streams} {k : Nat} (h : NPE E t) (hk : Live t k) : NPE E (Streams.taBody t k) :=
  (h.release (.refl _ _) (liveAll1 hk) (.refl (ρ := false) _) noE k).1

theorem clearPendingCapacity_npe {E : Nat → Prop} (n : Nat) {s : Streams} (h : NPE E s) :
    NPE E (Streams.clearPendingCapacity n s) := by
  rw [Streams.clearPendingCapacity_eq]
  exact popLoop_npe (by decide) (by decide) (fun _ _ => taBody_npe) n h

theorem clearPendingOpen_npe {E : Nat → Prop} (n : Nat) {s : Streams} (h : NPE E s) :
    NPE E (Streams.clearPendingOpen n s) := by
  rw [Streams.clearPendingOpen_eq]
  exact popLoop_npe (by decide) (by decide) (fun _ _ => taBody_npe) n h

theorem clearStreamWindowUpdateQueue_npe {E : Nat → Prop} (n : Nat) {s : Streams} (h : NPE E s) :
    NPE E (Streams.clearStreamWindowUpdateQueue n s) := by
  rw [Streams.clearStreamWindowUpdateQueue_eq]
  exact popLoop_npe (by decide) (by decide) (fun _ _ => taBody_npe) n h

/-- `clear_pending_send` carries out a scheduled reset (a light step) before it lets the stream go -/
theorem clearPendingSend_npe {E : Nat → Prop} (n : Nat) {s : Streams} (h : NPE E s) :
    NPE E (Streams.clearPendingSend n s) := by
  rw [Streams.clearPendingSend_eq]
  refine popLoop_npe (by decide) (by decide) (fun t k ht hk => ?_) n h
  unfold Streams.clearPendingSendBody
  dsimp only
  split
  · next reason _ =>
    exact (ht.release (modStreamW_lt _ _ _ (fun x => setReset_inert x reason .library)) (liveAll1 hk)
      (modStreamW_ev' (ρ := false) t k (fun st => st.setReset reason .library) (setReset_same (t.stream k) reason .library))
      noE k).1
  · exact taBody_npe ht hk

theorem clearPendingCapacity_npi {E : Nat → Prop} (n : Nat) {s : Streams} (h : NPI E s) (he : ErrOK s) :
    NPI E (Streams.clearPendingCapacity n s) := (clearPendingCapacity_npe n ⟨h, he⟩).1
theorem clearPendingSend_npi {E : Nat → Prop} (n : Nat) {s : Streams} (h : NPI E s) (he : ErrOK s) :
    NPI E (Streams.clearPendingSend n s) := (clearPendingSend_npe n ⟨h, he⟩).1
theorem clearPendingOpen_npi {E : Nat → Prop} (n : Nat) {s : Streams} (h : NPI E s) (he : ErrOK s) :
    NPI E (Streams.clearPendingOpen n s) := (clearPendingOpen_npe n ⟨h, he⟩).1
theorem clearStreamWindowUpdateQueue_npi {E : Nat → Prop} (n : Nat) {s : Streams} (h : NPI E s) (he : ErrOK s) :
    NPI E (Streams.clearStreamWindowUpdateQueue n s) := (clearStreamWindowUpdateQueue_npe n ⟨h, he⟩).1

theorem sendClearQueues_npe {E : Nat → Prop} {s : Streams} (h : NPE E s) : NPE E s.sendClearQueues :=
  clearPendingOpen_npe _ (clearPendingSend_npe _ (clearPendingCapacity_npe _ h))

theorem sendClearQueues_npi {E : Nat → Prop} {s : Streams} (h : NPI E s) (he : ErrOK s) : NPI E s.sendClearQueues :=
  (sendClearQueues_npe ⟨h, he⟩).1

end H2V.Lemmas.ConnNoPanicP
