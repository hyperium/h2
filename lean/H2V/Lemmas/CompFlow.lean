import H2V.Model.ConnFlow
import H2V.Lemmas.CompBasic
/-
  Part 2a -- flow-control arithmetic of `Model.Conn.FlowControl` (mirror of
  `src/proto/streams/flow_control.rs`): exact `i32` arithmetic of every operation, one operation at
  a time.  The history ("ledger") theorems are in `CompLedger.lean`.

  Conventions: `ws = f.windowSize.val`, `av = f.available.val`, `d = u32AsI32 sz` (the Rust
  `sz as i32`; equal to `sz` for `sz < 2^31`, negative for `2^31 ≤ sz < 2^32`).
-/
namespace H2V.Lemmas.Comp
open H2V H2V.Model.Conn
open H2V.Generated.Consts (MAX_WINDOW_SIZE UNCLAIMED_NUMERATOR UNCLAIMED_DENOMINATOR)

theorem MAX_WINDOW_SIZE_le_I32_MAX : (MAX_WINDOW_SIZE : Int) ≤ I32_MAX := by decide
/-- with the pinned source the bound is tight (`MAX_WINDOW_SIZE = i32::MAX`) -/
theorem MAX_WINDOW_SIZE_eq_I32_MAX : (MAX_WINDOW_SIZE : Int) = I32_MAX := by decide
theorem MAX_WINDOW_SIZE_nonneg : (0 : Int) ≤ (MAX_WINDOW_SIZE : Int) := Int.natCast_nonneg _
theorem UNCLAIMED_NUMERATOR_nonneg : (0 : Int) ≤ (UNCLAIMED_NUMERATOR : Int) := Int.natCast_nonneg _
theorem UNCLAIMED_NUMERATOR_lt_DENOMINATOR : UNCLAIMED_NUMERATOR < UNCLAIMED_DENOMINATOR := by decide
theorem UNCLAIMED_DENOMINATOR_pos : (0 : Int) < (UNCLAIMED_DENOMINATOR : Int) := by decide

theorem inI32_iff (x : Int) : inI32 x = true ↔ (-2147483648 ≤ x ∧ x ≤ 2147483647) := by
  unfold inI32 I32_MIN I32_MAX
  rw [Bool.and_eq_true, decide_eq_true_iff, decide_eq_true_iff]

theorem not_inI32_iff (x : Int) : inI32 x = false ↔ (x < -2147483648 ∨ 2147483647 < x) := by
  rw [← Bool.not_eq_true, inI32_iff]; omega

/-- `sz as i32` is the `i32` congruent to `sz` modulo `2^32`; this determines it, and every other
    fact about the cast is linear arithmetic from here -/
theorem u32AsI32_spec (x : Nat) :
    -2147483648 ≤ u32AsI32 x ∧ u32AsI32 x ≤ 2147483647 ∧ (u32AsI32 x - x) % 4294967296 = 0 := by
  unfold u32AsI32; simp only []; split <;> simp only [U32_MOD] at * <;> omega

/-- the same for `wrapI32` -/
theorem wrapI32_spec (x : Int) :
    -2147483648 ≤ wrapI32 x ∧ wrapI32 x ≤ 2147483647 ∧ (wrapI32 x - x) % 4294967296 = 0 := by
  have := u32AsI32_spec (x % (U32_MOD : Int)).toNat
  unfold wrapI32; simp only [U32_MOD] at *; omega

theorem u32AsI32_range (x : Nat) : -2147483648 ≤ u32AsI32 x ∧ u32AsI32 x ≤ 2147483647 :=
  ⟨(u32AsI32_spec x).1, (u32AsI32_spec x).2.1⟩

theorem u32AsI32_inI32 (x : Nat) : inI32 (u32AsI32 x) = true := (inI32_iff _).2 (u32AsI32_range x)

theorem u32AsI32_of_lt {x : Nat} (h : x < 2147483648) : u32AsI32 x = (x : Int) := by
  have := u32AsI32_spec x; omega

@[simp] theorem u32AsI32_zero : u32AsI32 0 = 0 := by decide

theorem u32AsI32_eq_zero_iff {x : Nat} (h : x < 4294967296) : u32AsI32 x = 0 ↔ x = 0 := by
  have := u32AsI32_spec x; omega

theorem u32AsI32_neg_iff {x : Nat} (h : x < 4294967296) : u32AsI32 x < 0 ↔ 2147483648 ≤ x := by
  have := u32AsI32_spec x; omega

theorem wrapI32_of_inI32 {x : Int} (h : inI32 x = true) : wrapI32 x = x := by
  rw [inI32_iff] at h; have := wrapI32_spec x; omega

theorem wrapI32_of_above {x : Int} (h1 : 2147483647 < x) (h2 : x ≤ 4294967295) :
    wrapI32 x = x - 4294967296 := by
  have := wrapI32_spec x; omega

theorem wrapI32_emod (x : Int) : wrapI32 x % (U32_MOD : Int) = x % (U32_MOD : Int) :=
  Int.emod_eq_emod_iff_emod_sub_eq_zero.2 (wrapI32_spec x).2.2


/-- `Window::decrease_by` as one `if`: `checked_sub` -/
theorem Window.decreaseBy_eq (w : Window) (n : Nat) :
    w.decreaseBy n =
      if inI32 (w.val - u32AsI32 n) = true then (⟨w.val - u32AsI32 n⟩, .ok ())
      else (w, .error (.reason FLOW_CONTROL_ERROR)) := by
  simp only [Window.decreaseBy, checkedSub]
  by_cases h : inI32 (w.val - u32AsI32 n) = true
  · simp only [h, if_true]
  · simp only [h]; rfl

/-- `Window::increase_by` as one `if`: `checked_add` -/
theorem Window.increaseBy_eq (w : Window) (n : Nat) :
    w.increaseBy n =
      if inI32 (w.val + u32AsI32 n) = true then (⟨w.val + u32AsI32 n⟩, .ok ())
      else (w, .error (.reason FLOW_CONTROL_ERROR)) := by
  simp only [Window.increaseBy, Window.add, checkedAdd]
  by_cases h : inI32 (w.val + u32AsI32 n) = true
  · simp only [h, if_true]
  · simp only [h]; rfl

theorem wrapSubU32_of_le {a b : Nat} (ha : a < 4294967296) (hb : b ≤ a) : wrapSubU32 a b = a - b := by
  unfold wrapSubU32 U32_MOD; omega
theorem wrapAddU32_of_lt {a b : Nat} (h : a + b < 4294967296) : wrapAddU32 a b = a + b := by
  unfold wrapAddU32 U32_MOD; omega

namespace Flow

theorem incWindow_eq (f : FlowControl) (sz : Nat) :
    f.incWindow sz =
      if inI32 (f.windowSize.val + u32AsI32 sz) = true ∧
          f.windowSize.val + u32AsI32 sz ≤ (MAX_WINDOW_SIZE : Int)
      then ({ f with windowSize := ⟨f.windowSize.val + u32AsI32 sz⟩ }, .ok ())
      else (f, .error (.reason FLOW_CONTROL_ERROR)) := by
  unfold FlowControl.incWindow
  by_cases h1 : inI32 (f.windowSize.val + u32AsI32 sz) = true
  · by_cases h2 : f.windowSize.val + u32AsI32 sz ≤ (MAX_WINDOW_SIZE : Int)
    · exact (if_neg (not_not_intro h1)).trans
        ((if_neg (Int.not_lt.2 h2)).trans (if_pos ⟨h1, h2⟩).symm)
    · exact (if_neg (not_not_intro h1)).trans
        ((if_pos (Int.not_le.1 h2)).trans (if_neg fun h => h2 h.2).symm)
  · exact (if_pos h1).trans (if_neg fun h => h1 h.1).symm


theorem decSendWindow_eq (f : FlowControl) (sz : Nat) :
    f.decSendWindow sz =
      if inI32 (f.windowSize.val - u32AsI32 sz) = true
      then ({ f with windowSize := ⟨f.windowSize.val - u32AsI32 sz⟩ }, .ok ())
      else (f, .error (.reason FLOW_CONTROL_ERROR)) := by
  simp only [FlowControl.decSendWindow, Window.decreaseBy_eq]
  split <;> rfl

theorem assignCapacity_eq (f : FlowControl) (sz : Nat) :
    f.assignCapacity sz =
      if inI32 (f.available.val + u32AsI32 sz) = true
      then ({ f with available := ⟨f.available.val + u32AsI32 sz⟩ }, .ok ())
      else (f, .error (.reason FLOW_CONTROL_ERROR)) := by
  simp only [FlowControl.assignCapacity, Window.increaseBy_eq]
  split <;> rfl

theorem claimCapacity_eq (f : FlowControl) (sz : Nat) :
    f.claimCapacity sz =
      if inI32 (f.available.val - u32AsI32 sz) = true
      then ({ f with available := ⟨f.available.val - u32AsI32 sz⟩ }, .ok ())
      else (f, .error (.reason FLOW_CONTROL_ERROR)) := by
  simp only [FlowControl.claimCapacity, Window.decreaseBy_eq]
  split <;> rfl

/-- `dec_recv_window`, closed form: three outcomes; the middle one is the *partial update*
    (the first `?` passed and was committed, the second `?` failed) -/
theorem decRecvWindow_eq (f : FlowControl) (sz : Nat) :
    f.decRecvWindow sz =
      if inI32 (f.windowSize.val - u32AsI32 sz) = true then
        if inI32 (f.available.val - u32AsI32 sz) = true then
          (⟨⟨f.windowSize.val - u32AsI32 sz⟩, ⟨f.available.val - u32AsI32 sz⟩⟩, .ok ())
        else
          (⟨⟨f.windowSize.val - u32AsI32 sz⟩, f.available⟩, .error (.reason FLOW_CONTROL_ERROR))
      else (f, .error (.reason FLOW_CONTROL_ERROR)) := by
  simp only [FlowControl.decRecvWindow, Window.decreaseBy_eq]
  by_cases h1 : inI32 (f.windowSize.val - u32AsI32 sz) = true
  · by_cases h2 : inI32 (f.available.val - u32AsI32 sz) = true
    · simp [h1, h2]
    · simp [h1, h2]
  · simp [h1]

/-- `send_data`: two guards, and then -- the rest of its body is that of `dec_recv_window`
    verbatim -- `dec_recv_window` -/
theorem sendData_guards (f : FlowControl) (sz : Nat) :
    f.sendData sz =
      if sz = 0 then (f, .ok ())
      else if f.windowSize.val < u32AsI32 sz then (f, .error .assertFailed)
      else f.decRecvWindow sz := by
  by_cases h0 : sz = 0
  · rw [if_pos h0, h0]; rfl
  · rw [if_neg h0]
    exact if_pos (Nat.pos_of_ne_zero h0)

theorem sendData_eq (f : FlowControl) (sz : Nat) :
    f.sendData sz =
      if sz = 0 then (f, .ok ())
      else if f.windowSize.val < u32AsI32 sz then (f, .error .assertFailed)
      else if inI32 (f.windowSize.val - u32AsI32 sz) = true then
        if inI32 (f.available.val - u32AsI32 sz) = true then
          (⟨⟨f.windowSize.val - u32AsI32 sz⟩, ⟨f.available.val - u32AsI32 sz⟩⟩, .ok ())
        else
          (⟨⟨f.windowSize.val - u32AsI32 sz⟩, f.available⟩, .error (.reason FLOW_CONTROL_ERROR))
      else (f, .error (.reason FLOW_CONTROL_ERROR)) := by
  rw [sendData_guards, decRecvWindow_eq]

theorem sendData_eq_decRecv (f : FlowControl) {sz : Nat} (h0 : sz ≠ 0)
    (hle : u32AsI32 sz ≤ f.windowSize.val) : f.sendData sz = f.decRecvWindow sz := by
  rw [sendData_guards, if_neg h0, if_neg (Int.not_lt.2 hle)]


end Flow

/-- `inc_window`, `dec_send_window`, `assign_capacity`, `claim_capacity` all have the closed form
    `if c then (a, Ok) else (f, Err e₀)`; the three ways of reading such a result -/
theorem guard_ok {α : Type} {c : Prop} [Decidable c] {a f x : α} {e₀ : FlowErr}
    (h : (if c then (a, (.ok () : FlowRes)) else (f, .error e₀)) = (x, .ok ())) : c ∧ x = a := by
  split at h
  · next hc => exact ⟨hc, (congrArg Prod.fst h).symm⟩
  · simp at h

theorem guard_err {α : Type} {c : Prop} [Decidable c] {a f x : α} {e₀ e : FlowErr}
    (h : (if c then (a, (.ok () : FlowRes)) else (f, .error e₀)) = (x, .error e)) :
    x = f ∧ e = e₀ := by
  split at h
  · simp at h
  · simp only [Prod.mk.injEq, Except.error.injEq] at h
    exact ⟨h.1.symm, h.2.symm⟩

theorem guard_isOk {α : Type} {c : Prop} [Decidable c] {a f : α} {e₀ : FlowErr} :
    isOk (if c then (a, (.ok () : FlowRes)) else (f, .error e₀)).2 = true ↔ c := by
  split <;> simp [*]

theorem incWindow_ok {f f' : FlowControl} {sz : Nat} (h : f.incWindow sz = (f', .ok ())) :
    f'.windowSize.val = f.windowSize.val + u32AsI32 sz ∧
    f'.windowSize.val ≤ (MAX_WINDOW_SIZE : Int) ∧
    inI32 f'.windowSize.val = true ∧
    f'.available = f.available := by
  obtain ⟨hc, rfl⟩ := guard_ok ((Flow.incWindow_eq f sz).symm.trans h)
  exact ⟨rfl, hc.2, hc.1, rfl⟩

theorem incWindow_err {f f' : FlowControl} {sz : Nat} {e : FlowErr}
    (h : f.incWindow sz = (f', .error e)) : f' = f ∧ e = .reason FLOW_CONTROL_ERROR :=
  guard_err ((Flow.incWindow_eq f sz).symm.trans h)

theorem incWindow_ok_iff (f : FlowControl) (sz : Nat) :
    isOk (f.incWindow sz).2 = true ↔
      (inI32 (f.windowSize.val + u32AsI32 sz) = true ∧
        f.windowSize.val + u32AsI32 sz ≤ (MAX_WINDOW_SIZE : Int)) := by
  rw [Flow.incWindow_eq]; exact guard_isOk

theorem decSendWindow_ok {f f' : FlowControl} {sz : Nat} (h : f.decSendWindow sz = (f', .ok ())) :
    f'.windowSize.val = f.windowSize.val - u32AsI32 sz ∧
    inI32 f'.windowSize.val = true ∧
    f'.available = f.available := by
  obtain ⟨hc, rfl⟩ := guard_ok ((Flow.decSendWindow_eq f sz).symm.trans h)
  exact ⟨rfl, hc, rfl⟩

theorem decSendWindow_err {f f' : FlowControl} {sz : Nat} {e : FlowErr}
    (h : f.decSendWindow sz = (f', .error e)) : f' = f ∧ e = .reason FLOW_CONTROL_ERROR :=
  guard_err ((Flow.decSendWindow_eq f sz).symm.trans h)

theorem decSendWindow_ok_iff (f : FlowControl) (sz : Nat) :
    isOk (f.decSendWindow sz).2 = true ↔ inI32 (f.windowSize.val - u32AsI32 sz) = true := by
  rw [Flow.decSendWindow_eq]; exact guard_isOk

theorem assignCapacity_ok {f f' : FlowControl} {sz : Nat} (h : f.assignCapacity sz = (f', .ok ())) :
    f'.available.val = f.available.val + u32AsI32 sz ∧
    inI32 f'.available.val = true ∧
    f'.windowSize = f.windowSize := by
  obtain ⟨hc, rfl⟩ := guard_ok ((Flow.assignCapacity_eq f sz).symm.trans h)
  exact ⟨rfl, hc, rfl⟩

theorem assignCapacity_err {f f' : FlowControl} {sz : Nat} {e : FlowErr}
    (h : f.assignCapacity sz = (f', .error e)) : f' = f ∧ e = .reason FLOW_CONTROL_ERROR :=
  guard_err ((Flow.assignCapacity_eq f sz).symm.trans h)

theorem assignCapacity_ok_iff (f : FlowControl) (sz : Nat) :
    isOk (f.assignCapacity sz).2 = true ↔ inI32 (f.available.val + u32AsI32 sz) = true := by
  rw [Flow.assignCapacity_eq]; exact guard_isOk

theorem claimCapacity_ok {f f' : FlowControl} {sz : Nat} (h : f.claimCapacity sz = (f', .ok ())) :
    f'.available.val = f.available.val - u32AsI32 sz ∧
    inI32 f'.available.val = true ∧
    f'.windowSize = f.windowSize := by
  obtain ⟨hc, rfl⟩ := guard_ok ((Flow.claimCapacity_eq f sz).symm.trans h)
  exact ⟨rfl, hc, rfl⟩

theorem claimCapacity_err {f f' : FlowControl} {sz : Nat} {e : FlowErr}
    (h : f.claimCapacity sz = (f', .error e)) : f' = f ∧ e = .reason FLOW_CONTROL_ERROR :=
  guard_err ((Flow.claimCapacity_eq f sz).symm.trans h)

theorem claimCapacity_ok_iff (f : FlowControl) (sz : Nat) :
    isOk (f.claimCapacity sz).2 = true ↔ inI32 (f.available.val - u32AsI32 sz) = true := by
  rw [Flow.claimCapacity_eq]; exact guard_isOk

theorem decRecvWindow_ok {f f' : FlowControl} {sz : Nat} (h : f.decRecvWindow sz = (f', .ok ())) :
    f'.windowSize.val = f.windowSize.val - u32AsI32 sz ∧
    f'.available.val = f.available.val - u32AsI32 sz ∧
    inI32 f'.windowSize.val = true ∧ inI32 f'.available.val = true := by
  rw [Flow.decRecvWindow_eq] at h
  split at h
  · next h1 =>
    split at h
    · next h2 =>
      simp only [Prod.mk.injEq, and_true] at h
      subst h
      exact ⟨rfl, rfl, h1, h2⟩
    · simp at h
  · simp at h

theorem decRecvWindow_err {f f' : FlowControl} {sz : Nat} {e : FlowErr}
    (h : f.decRecvWindow sz = (f', .error e)) :
    e = .reason FLOW_CONTROL_ERROR ∧ f'.available = f.available ∧
    (f' = f ∨
      (f'.windowSize.val = f.windowSize.val - u32AsI32 sz ∧
        inI32 (f.windowSize.val - u32AsI32 sz) = true ∧
        inI32 (f.available.val - u32AsI32 sz) = false)) := by
  rw [Flow.decRecvWindow_eq] at h
  split at h
  · next h1 =>
    split at h
    · simp at h
    · next h2 =>
      simp only [Prod.mk.injEq, Except.error.injEq] at h
      obtain ⟨rfl, rfl⟩ := h
      exact ⟨rfl, rfl, .inr ⟨rfl, h1, by simpa using h2⟩⟩
  · simp only [Prod.mk.injEq, Except.error.injEq] at h
    obtain ⟨rfl, rfl⟩ := h
    exact ⟨rfl, rfl, .inl rfl⟩

theorem decRecvWindow_partial_iff (f : FlowControl) (sz : Nat) :
    (isOk (f.decRecvWindow sz).2 = false ∧ (f.decRecvWindow sz).1.windowSize ≠ f.windowSize) ↔
      (inI32 (f.windowSize.val - u32AsI32 sz) = true ∧
        inI32 (f.available.val - u32AsI32 sz) = false ∧ u32AsI32 sz ≠ 0) := by
  rw [Flow.decRecvWindow_eq]
  rcases f with ⟨⟨ws⟩, ⟨av⟩⟩
  generalize u32AsI32 sz = d
  by_cases h1 : inI32 (ws - d) = true
  · by_cases h2 : inI32 (av - d) = true
    · simp [h1, h2]
    · simp [h1, h2]
      omega
  · simp [h1]

theorem decRecvWindow_partial_state {f : FlowControl} {sz : Nat}
    (h1 : inI32 (f.windowSize.val - u32AsI32 sz) = true)
    (h2 : inI32 (f.available.val - u32AsI32 sz) = false) :
    f.decRecvWindow sz =
      (⟨⟨f.windowSize.val - u32AsI32 sz⟩, f.available⟩, .error (.reason FLOW_CONTROL_ERROR)) := by
  rw [Flow.decRecvWindow_eq]; simp [h1, h2]

theorem decRecvWindow_partial_iff_small (f : FlowControl) (sz : Nat) (hsz : sz < 2147483648)
    (hw : inI32 f.windowSize.val = true) (ha : inI32 f.available.val = true) :
    (isOk (f.decRecvWindow sz).2 = false ∧ (f.decRecvWindow sz).1.windowSize ≠ f.windowSize) ↔
      (0 < sz ∧ -2147483648 ≤ f.windowSize.val - sz ∧ f.available.val - sz < -2147483648) := by
  rw [decRecvWindow_partial_iff, u32AsI32_of_lt hsz, inI32_iff, not_inI32_iff]
  rw [inI32_iff] at hw ha
  omega

/-- concrete witness: window 0, available = `i32::MIN`, 1 byte received: the call fails, but the
    window has moved to -1 while `available` stayed -/
example :
    (FlowControl.decRecvWindow ⟨⟨0⟩, ⟨-2147483648⟩⟩ 1) =
      (⟨⟨-1⟩, ⟨-2147483648⟩⟩, .error (.reason FLOW_CONTROL_ERROR)) := by decide

/-- a witness with a positive window -/
example :
    (FlowControl.decRecvWindow ⟨⟨65535⟩, ⟨-2147483000⟩⟩ 16384) =
      (⟨⟨49151⟩, ⟨-2147483000⟩⟩, .error (.reason FLOW_CONTROL_ERROR)) := by decide

@[simp] theorem sendData_zero (f : FlowControl) : f.sendData 0 = (f, .ok ()) := by
  simp [FlowControl.sendData]

theorem sendData_ok' {f f' : FlowControl} {sz : Nat} (hpos : 0 < sz)
    (h : f.sendData sz = (f', .ok ())) :
    u32AsI32 sz ≤ f.windowSize.val ∧
    f'.windowSize.val = f.windowSize.val - u32AsI32 sz ∧
    f'.available.val = f.available.val - u32AsI32 sz ∧
    inI32 f'.windowSize.val = true ∧ inI32 f'.available.val = true := by
  have h0 : sz ≠ 0 := by omega
  have hle : u32AsI32 sz ≤ f.windowSize.val := by
    apply Int.not_lt.1
    intro hlt
    rw [Flow.sendData_eq, if_neg h0, if_pos hlt] at h
    simp at h
  rw [Flow.sendData_eq_decRecv f h0 hle] at h
  exact ⟨hle, decRecvWindow_ok h⟩

/-- **sendData_ok**: for `0 < sz < 2^31`, success means `sz ≤ window_size` and both fields
    decrease by exactly `sz`.

    The statement is *false* for `sz = 0` (`send_data(0)` is `Ok` whatever the window, e.g. with
    window `-1`, see the `example` below); that case is `sendData_zero`: nothing changes. -/
theorem sendData_ok {f f' : FlowControl} {sz : Nat} (hpos : 0 < sz) (hsz : sz < 2147483648)
    (h : f.sendData sz = (f', .ok ())) :
    (sz : Int) ≤ f.windowSize.val ∧
    f'.windowSize.val = f.windowSize.val - sz ∧
    f'.available.val = f.available.val - sz := by
  have := sendData_ok' hpos h
  rw [u32AsI32_of_lt hsz] at this
  exact ⟨this.1, this.2.1, this.2.2.1⟩

/-- the counterexample for `sz = 0` -/
example : (FlowControl.sendData ⟨⟨-1⟩, ⟨0⟩⟩ 0) = (⟨⟨-1⟩, ⟨0⟩⟩, .ok ()) ∧ ¬ ((0 : Int) ≤ -1) := by
  decide

/-- **sendData_assert_iff**: the Rust `assert!(self.window_size.0 >= sz as i32)` fires exactly when
    `sz > 0` and the window is smaller than `sz as i32` (`dec_recv_window` never asserts) -/
theorem sendData_assert_iff (f : FlowControl) (sz : Nat) :
    (f.sendData sz).2 = .error .assertFailed ↔ (sz > 0 ∧ f.windowSize.val < u32AsI32 sz) := by
  rw [Flow.sendData_guards]
  split
  · next h0 => exact ⟨nofun, fun h => absurd h0 (Nat.ne_of_gt h.1)⟩
  split
  · next h0 hlt => exact ⟨fun _ => ⟨Nat.pos_of_ne_zero h0, hlt⟩, fun _ => rfl⟩
  · next hlt =>
    refine ⟨fun h => ?_, fun h => absurd h.2 hlt⟩
    cases (decRecvWindow_err (f' := (f.decRecvWindow sz).1) (Prod.ext rfl h)).1


theorem sendData_assert_iff_small (f : FlowControl) (sz : Nat) (hsz : sz < 2147483648) :
    (f.sendData sz).2 = .error .assertFailed ↔ (0 < sz ∧ f.windowSize.val < (sz : Int)) := by
  rw [sendData_assert_iff, u32AsI32_of_lt hsz]

theorem sendData_err {f f' : FlowControl} {sz : Nat} {e : FlowErr}
    (h : f.sendData sz = (f', .error e)) :
    f'.available = f.available ∧
    (f' = f ∨
      (e = .reason FLOW_CONTROL_ERROR ∧ f'.windowSize.val = f.windowSize.val - u32AsI32 sz ∧
        u32AsI32 sz ≤ f.windowSize.val ∧
        inI32 (f.windowSize.val - u32AsI32 sz) = true ∧
        inI32 (f.available.val - u32AsI32 sz) = false)) := by
  by_cases h0 : sz = 0
  · rw [h0, sendData_zero] at h; simp at h
  by_cases hlt : f.windowSize.val < u32AsI32 sz
  · rw [Flow.sendData_eq, if_neg h0, if_pos hlt] at h
    simp only [Prod.mk.injEq] at h; obtain ⟨rfl, -⟩ := h; exact ⟨rfl, .inl rfl⟩
  have hle := Int.not_lt.1 hlt
  rw [Flow.sendData_eq_decRecv f h0 hle] at h
  obtain ⟨he, ha, hw⟩ := decRecvWindow_err h
  exact ⟨ha, hw.imp id fun ⟨a, b, c⟩ => ⟨he, a, hle, b, c⟩⟩

theorem sendData_partial_iff (f : FlowControl) (sz : Nat) :
    (isOk (f.sendData sz).2 = false ∧ (f.sendData sz).1.windowSize ≠ f.windowSize) ↔
      (sz ≠ 0 ∧ u32AsI32 sz ≤ f.windowSize.val ∧
        inI32 (f.windowSize.val - u32AsI32 sz) = true ∧
        inI32 (f.available.val - u32AsI32 sz) = false ∧ u32AsI32 sz ≠ 0) := by
  by_cases h0 : sz = 0
  · simp [h0]
  by_cases hlt : f.windowSize.val < u32AsI32 sz
  · have : ¬ (u32AsI32 sz ≤ f.windowSize.val) := by omega
    simp [Flow.sendData_eq, h0, hlt, this]
  have hle := Int.not_lt.1 hlt
  rw [Flow.sendData_eq_decRecv f h0 hle, decRecvWindow_partial_iff]
  simp [h0, hle]

theorem sendData_partial_iff_small (f : FlowControl) (sz : Nat) (hsz : sz < 2147483648)
    (hw : inI32 f.windowSize.val = true) (ha : inI32 f.available.val = true) :
    (isOk (f.sendData sz).2 = false ∧ (f.sendData sz).1.windowSize ≠ f.windowSize) ↔
      (0 < sz ∧ (sz : Int) ≤ f.windowSize.val ∧ f.available.val - sz < -2147483648) := by
  rw [sendData_partial_iff, u32AsI32_of_lt hsz, inI32_iff, not_inI32_iff]
  rw [inI32_iff] at hw ha
  omega

/-- concrete witness: window 10, available close to `i32::MIN`: `send_data(10)` fails, the window
    is 0 afterwards, `available` unchanged -/
example :
    (FlowControl.sendData ⟨⟨10⟩, ⟨-2147483640⟩⟩ 10) =
      (⟨⟨0⟩, ⟨-2147483640⟩⟩, .error (.reason FLOW_CONTROL_ERROR)) := by decide

/-- no partial update as long as `available - sz` fits `i32` (e.g. `available ≥ 0` and
    `sz < 2^31`): then the two operations are all-or-nothing -/
theorem no_partial_of_available_fits (f : FlowControl) (sz : Nat)
    (h : inI32 (f.available.val - u32AsI32 sz) = true) :
    (isOk (f.decRecvWindow sz).2 = false → (f.decRecvWindow sz).1 = f) ∧
    (isOk (f.sendData sz).2 = false → (f.sendData sz).1 = f) := by
  have hd : isOk (f.decRecvWindow sz).2 = false → (f.decRecvWindow sz).1 = f := by
    rw [Flow.decRecvWindow_eq, if_pos h]
    split
    · exact nofun
    · exact fun _ => rfl
  refine ⟨hd, ?_⟩
  rw [Flow.sendData_guards]
  split
  · exact fun _ => rfl
  · split
    · exact fun _ => rfl
    · exact hd


/-- remark (sizes ≥ 2^31 are negative as `i32`): `send_data` then *raises* both fields.  Not
    reachable from h2's callers (frame payloads are < 2^24), stated for completeness. -/
example :
    (FlowControl.sendData ⟨⟨0⟩, ⟨0⟩⟩ 4294967295) = (⟨⟨1⟩, ⟨1⟩⟩, .ok ()) := by decide

theorem decRecvWindow_ok_iff (f : FlowControl) (sz : Nat) :
    isOk (f.decRecvWindow sz).2 = true ↔
      (inI32 (f.windowSize.val - u32AsI32 sz) = true ∧ inI32 (f.available.val - u32AsI32 sz) = true) := by
  rw [Flow.decRecvWindow_eq]
  by_cases h1 : inI32 (f.windowSize.val - u32AsI32 sz) = true
  · by_cases h2 : inI32 (f.available.val - u32AsI32 sz) = true
    · simp [h1, h2]
    · simp [h1, h2]
  · simp [h1]

theorem sendData_ok_iff (f : FlowControl) (sz : Nat) :
    isOk (f.sendData sz).2 = true ↔
      (sz = 0 ∨ (u32AsI32 sz ≤ f.windowSize.val ∧ inI32 (f.windowSize.val - u32AsI32 sz) = true ∧
        inI32 (f.available.val - u32AsI32 sz) = true)) := by
  by_cases h0 : sz = 0
  · simp [h0]
  by_cases hlt : f.windowSize.val < u32AsI32 sz
  · have : ¬ (u32AsI32 sz ≤ f.windowSize.val) := by omega
    simp [Flow.sendData_eq, h0, hlt, this]
  have hle := Int.not_lt.1 hlt
  rw [Flow.sendData_eq_decRecv f h0 hle, decRecvWindow_ok_iff]
  simp [h0, hle]

theorem sendData_ok_iff_small (f : FlowControl) (sz : Nat) (hsz : sz < 2147483648)
    (hw : inI32 f.windowSize.val = true) (ha : inI32 f.available.val = true) :
    isOk (f.sendData sz).2 = true ↔
      (sz = 0 ∨ ((sz : Int) ≤ f.windowSize.val ∧ -2147483648 ≤ f.available.val - sz)) := by
  rw [sendData_ok_iff, u32AsI32_of_lt hsz, inI32_iff, inI32_iff]
  rw [inI32_iff] at hw ha
  omega

theorem hasUnavailable_iff (f : FlowControl) :
    f.hasUnavailable = true ↔ (0 ≤ f.windowSize.val ∧ f.available.val < f.windowSize.val) := by
  simp only [FlowControl.hasUnavailable]
  split <;> simp <;> omega

/-- the threshold as coded: `window_size / UNCLAIMED_DENOMINATOR * UNCLAIMED_NUMERATOR`
    (`i32` division, truncating toward zero) -/
def unclaimedThreshold (f : FlowControl) : Int :=
  f.windowSize.val.tdiv (UNCLAIMED_DENOMINATOR : Int) * (UNCLAIMED_NUMERATOR : Int)

/-- the `as WindowSize` of the result: for `i32` fields it is the true difference, always -/
theorem unclaimed_cast {ws av : Int} (hw : inI32 ws = true) (ha : inI32 av = true) (hlt : ws < av) :
    (wrapI32 (av - ws) % (U32_MOD : Int)).toNat = (av - ws).toNat := by
  rw [inI32_iff] at hw ha
  rw [wrapI32_emod, U32_MOD, Int.emod_eq_of_lt (by omega) (by omega)]


/-- **unclaimedCapacity_spec'**: the exact characterisation for `i32` fields.  The returned amount
    is always the true difference; the *comparison with the threshold* is made on the wrapped
    difference (release build; a debug build panics on the overflow instead). -/
theorem unclaimedCapacity_spec' (f : FlowControl) (n : Nat)
    (hw : inI32 f.windowSize.val = true) (ha : inI32 f.available.val = true) :
    f.unclaimedCapacity = some n ↔
      (f.available.val > f.windowSize.val ∧
        n = (f.available.val - f.windowSize.val).toNat ∧
        wrapI32 (f.available.val - f.windowSize.val) ≥ unclaimedThreshold f) := by
  simp only [FlowControl.unclaimedCapacity, unclaimedThreshold]
  by_cases h1 : f.windowSize.val ≥ f.available.val
  · simp only [h1, if_true]
    constructor
    · intro h; cases h
    · intro h; omega
  · simp only [h1, if_false]
    have hlt : f.windowSize.val < f.available.val := by omega
    split
    · next h2 =>
      constructor
      · intro h; cases h
      · intro h; omega
    · next h2 =>
      rw [unclaimed_cast hw ha hlt]
      simp only [Option.some.injEq]
      constructor
      · intro h; exact ⟨by omega, h.symm, by omega⟩
      · intro h; exact h.2.1.symm

/-- **unclaimedCapacity_spec**: when the subtraction `available - window_size` does not overflow
    `i32` (always the case when `window_size ≥ 0`, or `available ≤ 0`), the code computes the
    intended predicate -/
theorem unclaimedCapacity_spec (f : FlowControl) (n : Nat)
    (hw : inI32 f.windowSize.val = true) (ha : inI32 f.available.val = true)
    (hd : inI32 (f.available.val - f.windowSize.val) = true) :
    f.unclaimedCapacity = some n ↔
      (f.available.val > f.windowSize.val ∧
        n = (f.available.val - f.windowSize.val).toNat ∧
        f.available.val - f.windowSize.val ≥ unclaimedThreshold f) := by
  rw [unclaimedCapacity_spec' f n hw ha, wrapI32_of_inI32 hd]

theorem unclaimed_diff_inI32_of_nonneg {f : FlowControl}
    (hw : inI32 f.windowSize.val = true) (ha : inI32 f.available.val = true)
    (h0 : 0 ≤ f.windowSize.val) (hlt : f.windowSize.val < f.available.val) :
    inI32 (f.available.val - f.windowSize.val) = true := by
  rw [inI32_iff] at *; omega

/-- **the spec as literally requested is false without the no-overflow hypothesis**: window `-1`,
    available `i32::MAX`: `2^31` bytes are unclaimed, far above the threshold `0`, but the wrapped
    difference is `i32::MIN` and the function answers `None` -/
example :
    let f : FlowControl := ⟨⟨-1⟩, ⟨2147483647⟩⟩
    f.unclaimedCapacity = none ∧
    inI32 f.windowSize.val = true ∧ inI32 f.available.val = true ∧
    f.available.val > f.windowSize.val ∧
    f.available.val - f.windowSize.val ≥ unclaimedThreshold f := by decide

theorem unclaimedThreshold_nonpos {f : FlowControl} (h : f.windowSize.val ≤ 0) :
    unclaimedThreshold f ≤ 0 := by
  unfold unclaimedThreshold
  have h1 : f.windowSize.val.tdiv (UNCLAIMED_DENOMINATOR : Int) ≤ 0 := by
    have h2 : 0 ≤ (-f.windowSize.val).tdiv (UNCLAIMED_DENOMINATOR : Int) :=
      Int.tdiv_nonneg (by omega) (Int.le_of_lt UNCLAIMED_DENOMINATOR_pos)
    rw [Int.neg_tdiv] at h2
    omega
  exact Int.mul_nonpos_of_nonpos_of_nonneg h1 UNCLAIMED_NUMERATOR_nonneg

/-- ... and between `0` and the window for a non-negative one (this is where
    `NUMERATOR < DENOMINATOR` is used) -/
theorem unclaimedThreshold_le_window {f : FlowControl} (h : 0 ≤ f.windowSize.val) :
    0 ≤ unclaimedThreshold f ∧ unclaimedThreshold f ≤ f.windowSize.val := by
  unfold unclaimedThreshold
  have hD := UNCLAIMED_DENOMINATOR_pos
  have hq : 0 ≤ f.windowSize.val.tdiv (UNCLAIMED_DENOMINATOR : Int) :=
    Int.tdiv_nonneg h (Int.le_of_lt hD)
  refine ⟨Int.mul_nonneg hq UNCLAIMED_NUMERATOR_nonneg, ?_⟩
  have h1 : f.windowSize.val.tdiv (UNCLAIMED_DENOMINATOR : Int) * (UNCLAIMED_NUMERATOR : Int)
      ≤ f.windowSize.val.tdiv (UNCLAIMED_DENOMINATOR : Int) * (UNCLAIMED_DENOMINATOR : Int) :=
    Int.mul_le_mul_of_nonneg_left (Int.ofNat_le.2 (Nat.le_of_lt UNCLAIMED_NUMERATOR_lt_DENOMINATOR)) hq
  have h2 : f.windowSize.val.tdiv (UNCLAIMED_DENOMINATOR : Int) * (UNCLAIMED_DENOMINATOR : Int)
      ≤ f.windowSize.val := by
    rw [Int.tdiv_eq_ediv_of_nonneg h]
    exact Int.ediv_mul_le _ (by omega)
  omega

/-- **unclaimed_when_exhausted**: with an exhausted window (`≤ 0`) every unit of `available` above
    the window is owed at once -- a WINDOW_UPDATE of exactly `available - window_size` is due --
    provided the difference fits `i32` -/
theorem unclaimed_when_exhausted (f : FlowControl)
    (hw : inI32 f.windowSize.val = true) (ha : inI32 f.available.val = true)
    (h0 : f.windowSize.val ≤ 0) (hlt : f.windowSize.val < f.available.val)
    (hd : inI32 (f.available.val - f.windowSize.val) = true) :
    f.unclaimedCapacity = some (f.available.val - f.windowSize.val).toNat := by
  rw [unclaimedCapacity_spec f _ hw ha hd]
  have := unclaimedThreshold_nonpos h0
  exact ⟨hlt, rfl, by omega⟩

theorem unclaimed_when_zero (f : FlowControl) (ha : inI32 f.available.val = true)
    (h0 : f.windowSize.val = 0) (hlt : 0 < f.available.val) :
    f.unclaimedCapacity = some f.available.val.toNat := by
  have hw : inI32 f.windowSize.val = true := by rw [h0]; decide
  have := unclaimed_when_exhausted f hw ha (by omega) (by omega) (by rw [h0]; simpa using ha)
  simpa [h0] using this

/-- the iff for an exhausted window: an update is owed iff the wrapped difference is not below the
    (non-positive) threshold; without overflow that is always, with overflow (`available -
    window_size > i32::MAX`, only possible for a negative window) it can fail -- see the
    counterexample above -/
theorem unclaimed_when_exhausted_iff (f : FlowControl)
    (hw : inI32 f.windowSize.val = true) (ha : inI32 f.available.val = true)
    (h0 : f.windowSize.val ≤ 0) (hlt : f.windowSize.val < f.available.val) :
    f.unclaimedCapacity.isSome = true ↔
      (f.available.val - f.windowSize.val ≤ 2147483647 ∨
        f.available.val - f.windowSize.val - 4294967296 ≥ unclaimedThreshold f) := by
  have hthr := unclaimedThreshold_nonpos h0
  have hwr := wrapI32_spec (f.available.val - f.windowSize.val)
  have hex : f.unclaimedCapacity.isSome = true ↔
      wrapI32 (f.available.val - f.windowSize.val) ≥ unclaimedThreshold f := by
    rw [Option.isSome_iff_exists]
    exact ⟨fun ⟨n, hn⟩ => ((unclaimedCapacity_spec' f n hw ha).1 hn).2.2,
      fun h => ⟨_, (unclaimedCapacity_spec' f _ hw ha).2 ⟨hlt, rfl, h⟩⟩⟩
  rw [inI32_iff] at hw ha
  rw [hex]
  omega


theorem unclaimed_none_of_le (f : FlowControl) (h : f.available.val ≤ f.windowSize.val) :
    f.unclaimedCapacity = none := by
  simp only [FlowControl.unclaimedCapacity]
  have : f.windowSize.val ≥ f.available.val := h
  simp [this]

end H2V.Lemmas.Comp
