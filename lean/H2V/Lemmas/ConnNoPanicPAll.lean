import H2V.Lemmas.ConnNoPanicPIdsPush
import H2V.Lemmas.ConnNoPanicPWin
/-
  C08 (no panic) — everything together (stage 1): histories with handle accounting over 35 operations,
  the invariants `NPI`, `HOK`, `IBS` (ids below `next_stream_id`: discharges the `Store::insert` assert),
  ConnRecvP's connection-level receive-window invariant (`set_target_window_size` cannot panic) and
  ConnFlowP's `SafeInv`.
-/
namespace H2V.Lemmas.ConnNoPanicP
open H2V H2V.Model H2V.Model.Conn H2V.Lemmas.ConnCountsP
open H2V.Lemmas.ConnResetP (Op run)

/-- preconditions: as `opPre`, with `send_request` free, three more operations, and the bounds the decoder guarantees -/
def opPre2 (s : Streams) : Op → Prop
  | .sendRequest _ _ _ _ => True
  | .setTargetConnectionWindow t => t ≤ 2147483647
  | .refSendPushPromise _ _ _ => True
  | .recvWindowUpdate _ inc => inc ≤ 2147483647
  | .applyRemoteSettings vals _ => ConnFlowP.SettingsOk vals
  | .applyLocalSettingsFrame vals => ∀ t, ConnRecvP.settingsIws vals = some t → t ≤ 2147483647
  | op => opPre s op

def opKey2 : Op → Option Nat
  | .refSendPushPromise p _ _ => some p
  | op => opKey op

def opHandles2 (s : Streams) (H : List Nat) : Op → List Nat
  | .refSendPushPromise p v f => match (s.refSendPushPromise p v f).2 with | .ok c => c :: H | .error _ => H
  | op => opHandles s H op

structure Good (s : Streams) (H : List Nat) : Prop where
  npi : NPI (fun _ => False) s
  hok : HOK s H
  ibs : IBS s
  jr : JR s
  safe : ConnFlowP.SafeInv s

/-- what a new connection's stream layer satisfies -/
structure Init2 (s : Streams) : Prop where
  blank : Blank s
  np : s.panicked = none
  q : ∀ q, s.getQ q = []
  recv : ConnRecvP.Init s
  flow : ConnFlowP.Init s

inductive AReach : Streams → List Nat → Prop
  | init {s : Streams} : Init2 s → AReach s []
  | step {s : Streams} {H : List Nat} (op : Op) : AReach s H → opPre2 s op → (∀ k, opKey2 op = some k → k ∈ H) →
      AReach (op.apply s) (opHandles2 s H op)

theorem flowPre_of {s : Streams} {op : Op} (h : opPre2 s op) : flowPre op := by
  cases op <;> first | exact h | exact trivial

theorem recvValid_of {s : Streams} {op : Op} (h : opPre2 s op) : (ConnRecvP.Op.ofReset op).valid s := by
  cases op <;> first | exact h | exact trivial

theorem AReach.evT {s : Streams} {H : List Nat} (h : AReach s H) : KeysOK s ∧ NextLocal s := by
  induction h with
  | init hi => exact ⟨hi.blank.keysOK, hi.blank.next⟩
  | step op _ _ _ ih => exact keys_step_op ih.1 ih.2 op

theorem good_step {s : Streams} {H : List Nat} (g : Good s H) (op : Op) (hpre : opPre2 s op)
    (hin : ∀ k, opKey2 op = some k → k ∈ H) (_he : ErrOK s) (he' : ErrOK (op.apply s)) :
    Good (op.apply s) (opHandles2 s H op) := by
  have hk := g.npi.keys
  have hjr : JR (op.apply s) := JR_step g.jr op (recvValid_of hpre)
  have hsf : ConnFlowP.SafeInv (op.apply s) := safeInv_step g.safe op (flowPre_of hpre)
  have below : ∀ (_ : opPre s op) (_ : ∀ k, opKey op = some k → k ∈ H), Good (op.apply s) (opHandles s H op) :=
    fun hold hkey => ⟨(op_step s op hold fun k hk' => g.hok.held (hkey k hk')).npi g.npi he', hok_step g.npi g.hok op hold hkey,
      IBS_step g.npi g.ibs op hold, hjr, hsf⟩
  cases op
  case sendRequest a b c d =>
    exact ⟨sendRequest_npi g.npi a b c d (g.ibs.hfree g.npi), hok_step g.npi g.hok (.sendRequest a b c d) (g.ibs.hfree g.npi)
      (fun k h => by cases h), sendRequest_ibs g.npi g.ibs a b c d, hjr, hsf⟩
  case setTargetConnectionWindow t =>
    exact ⟨setTargetConnectionWindow_npi g.npi g.jr t, hok_generic hk g.hok _ (by intro j e; cases e),
      g.ibs.of_evF hk (setTargetConnectionWindow_ev (ρ := false) s t), hjr, hsf⟩
  case refSendPushPromise p v f =>
    have hpH : p ∈ H := hin p rfl
    obtain ⟨x, hx, _⟩ := g.hok p hpH
    obtain ⟨hn', hi', hch⟩ := refSendPushPromise_npi g.npi g.ibs (parent := p) ⟨x, hx⟩ v f
    refine ⟨hn', ?_, hi', hjr, hsf⟩
    show HOK _ (match (s.refSendPushPromise p v f).2 with | .ok c => c :: H | .error _ => H)
    cases hres : (s.refSendPushPromise p v f).2 with
    | error e => exact hok_generic hk g.hok (.refSendPushPromise p v f) (by intro j e; cases e)
    | ok c =>
      simp only []
      obtain ⟨hcn, x', hx', hr'⟩ := hch c hres
      exact g.hok.cons_fresh hk (.refSendPushPromise p v f) (by intro j e; cases e) hcn hx' hr'
  all_goals first | exact below hpre hin | exact below trivial hin

theorem Init2.good {s : Streams} (hi : Init2 s) : Good s [] :=
  ⟨blank_npi hi.blank hi.np hi.q, fun k hk => absurd hk List.not_mem_nil, IBS_blank hi.blank hi.q, ⟨_, ConnRecvP.Inv.init hi.recv false⟩,
    ConnFlowP.Init.safe hi.flow⟩

/-- **No panic, handle discipline, 35 operations** -/
theorem areach_good {s : Streams} {H : List Nat} (h : AReach s H) (he : ErrOK s) : Good s H := by
  induction h with
  | init hi => exact hi.good
  | step op hr hpre hin ih =>
    have he0 := errOK_back_op hr.evT.1 hr.evT.2 op he
    exact good_step (ih he0) op hpre hin he0 he

/-- witness: the stream layer of a new client connection (both connection windows 65 535) -/
def wInit : Streams :=
  { actions := { recv := { flow := { windowSize := { val := 65535 }, available := { val := 65535 } } },
                 send := { prioritize := { flow := { windowSize := { val := 65535 }, available := { val := 65535 } } } } } }

theorem wInit_init2 : Init2 wInit :=
  ⟨⟨rfl, rfl, rfl, rfl, rfl, rfl, rfl, rfl, rfl, rfl, by intro x hx; cases hx; rfl⟩, rfl, fun q => by cases q <;> rfl,
   ⟨rfl, rfl, rfl, rfl, rfl⟩, ⟨rfl, by decide⟩⟩

/-- witness history: request, response head, DATA in, DATA out, window raised, handle cloned, both dropped, EOF -/
def wOps2 : List Op :=
  [.sendRequest false [] false none, .recvHeaders { sid := 1, eos := false, status := some [50, 48, 48] },
   .recvData 1 [1, 2, 3] false none, .refSendData 0 10 false, .setTargetConnectionWindow 100000, .cloneStreamRef 0,
   .dropStreamRef 0, .dropStreamRef 0, .recvEof false]

set_option maxRecDepth 8000 in
theorem wOps2_areach : AReach (run wInit wOps2) [] := by
  have r0 : AReach wInit [] := .init wInit_init2
  have r1 := AReach.step (.sendRequest false [] false none) r0 trivial (by intro k h; cases h)
  have r2 := AReach.step (.recvHeaders { sid := 1, eos := false, status := some [50, 48, 48] }) r1 (by show _ = none; decide) (by intro k h; cases h)
  have r3 := AReach.step (.recvData 1 [1, 2, 3] false none) r2 (by show FrameLenOK [1, 2, 3] none; unfold FrameLenOK; decide) (by intro k h; cases h)
  have r4 := AReach.step (.refSendData 0 10 false) r3 trivial (by intro k h; cases h; decide)
  have r5 := AReach.step (.setTargetConnectionWindow 100000) r4 (by show 100000 ≤ 2147483647; decide) (by intro k h; cases h)
  have r6 := AReach.step (.cloneStreamRef 0) r5 trivial (by intro k h; cases h; decide)
  have r7 := AReach.step (.dropStreamRef 0) r6 (by show dropPPP _ 0 = []; decide) (by intro k h; cases h; decide)
  have r8 := AReach.step (.dropStreamRef 0) r7 (by show dropPPP _ 0 = []; decide) (by intro k h; cases h; decide)
  have r9 := AReach.step (.recvEof false) r8 (by intro h; cases h) (by intro k h; cases h)
  exact r9

set_option maxRecDepth 8000 in
theorem wOps2_facts : ErrOK (run wInit wOps2) ∧ (run wInit wOps2).store.slab.length = 0 :=
  ⟨by unfold ErrOK; decide +kernel, by decide +kernel⟩

end H2V.Lemmas.ConnNoPanicP
