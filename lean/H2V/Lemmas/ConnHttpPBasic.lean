import H2V.Spec.Http
import H2V.Model.ConnProto
/-
  C13 (ConnHttpP) — constants: the byte strings the model compares header names with
  (`Http.str`, UTF-8 of a literal) against the reference's (`Spec.Http.ascii`).
-/
namespace H2V.Lemmas.ConnHttpP
open H2V H2V.Model H2V.Model.Frame H2V.Model.Hpack

theorem str_te : Http.str "te" = [116, 101] := by decide +kernel
theorem str_trailers : Http.str "trailers" = [116, 114, 97, 105, 108, 101, 114, 115] := by decide +kernel
theorem str_content_length : Http.str "content-length" =
    [99, 111, 110, 116, 101, 110, 116, 45, 108, 101, 110, 103, 116, 104] := by decide +kernel
theorem str_CONNECT : Http.str "CONNECT" = [67, 79, 78, 78, 69, 67, 84] := by decide +kernel
theorem str_GET : Http.str "GET" = [71, 69, 84] := by decide +kernel
theorem str_HEAD : Http.str "HEAD" = [72, 69, 65, 68] := by decide +kernel
theorem str_200 : Http.str "200" = [50, 48, 48] := by decide +kernel
theorem str_204 : Http.str "204" = [50, 48, 52] := by decide +kernel
theorem str_304 : Http.str "304" = [51, 48, 52] := by decide +kernel

theorem ascii_te : Spec.Http.ascii "te" = [116, 101] := by decide +kernel
theorem ascii_trailers : Spec.Http.ascii "trailers" = [116, 114, 97, 105, 108, 101, 114, 115] := by decide +kernel
theorem ascii_content_length : Spec.Http.ascii "content-length" =
    [99, 111, 110, 116, 101, 110, 116, 45, 108, 101, 110, 103, 116, 104] := by decide +kernel
theorem ascii_CONNECT : Spec.Http.ascii "CONNECT" = [67, 79, 78, 78, 69, 67, 84] := by decide +kernel
theorem ascii_method : Spec.Http.ascii ":method" = pMethod := by decide +kernel
theorem ascii_scheme : Spec.Http.ascii ":scheme" = pScheme := by decide +kernel
theorem ascii_authority : Spec.Http.ascii ":authority" = pAuthority := by decide +kernel
theorem ascii_path : Spec.Http.ascii ":path" = pPath := by decide +kernel
theorem ascii_protocol : Spec.Http.ascii ":protocol" = pProtocol := by decide +kernel
theorem ascii_status : Spec.Http.ascii ":status" = pStatus := by decide +kernel

theorem knownPseudo_eq : Spec.Http.knownPseudo = [pMethod, pScheme, pAuthority, pPath, pStatus, pProtocol] := by decide +kernel

theorem connHeaders_contains (n : Bytes) : connHeaders.contains n = Spec.Http.connectionSpecific.contains n := by
  have p : connHeaders.Perm Spec.Http.connectionSpecific := by decide +kernel
  rw [Bool.eq_iff_iff, List.contains_iff_mem, List.contains_iff_mem]
  exact p.mem_iff

theorem connHeaders_regular : ∀ n ∈ connHeaders, n.head? ≠ some 58 := by decide +kernel

end H2V.Lemmas.ConnHttpP
