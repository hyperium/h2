import H2V.Lemmas.ConnFlowPMoves
/-
  ConnFlowP — capacity handed back to the connection reaches the streams that wait for it:
  `assign_connection_capacity` stops only when the connection has nothing left or no stream waits in
  `pending_capacity` (and the model's fuel `len + 2` is enough for that).
-/
namespace H2V.Lemmas.ConnFlowP
open H2V H2V.Model H2V.Model.Conn H2V.Lemmas.Comp

theorem qPush_pc_other (s : Streams) (id : Nat) :
    (s.qPush .pendingSend id).1.prio.pendingCapacity = s.prio.pendingCapacity := by
  unfold Streams.qPush
  split
  · rfl
  · show (s.modStream id _).prio.pendingCapacity = _
    rw [modStream_prio]

theorem qPush_pc (s : Streams) (id : Nat) :
    (s.qPush .pendingCapacity id).1.prio.pendingCapacity = s.prio.pendingCapacity ∨
    (s.qPush .pendingCapacity id).1.prio.pendingCapacity = s.prio.pendingCapacity ++ [id] := by
  unfold Streams.qPush
  split
  · exact Or.inl rfl
  · exact Or.inr rfl

theorem wrapSubU32_big {a b : Nat} (h1 : a < b) (h2 : b ≤ 2147483647) : 2147483648 ≤ wrapSubU32 a b := by
  unfold wrapSubU32 U32_MOD; omega

/-- a stream that got all it asked for (`additional`, limited by request and window) and not just
    what the connection had left does not want more -/
theorem not_wantsMore_after_full_assign {x : Stream} (hok : FlOk x.sendFlow) (hreq : x.requestedSendCapacity < 4294967296)
    (y : Stream) (hy1 : y.requestedSendCapacity = x.requestedSendCapacity)
    (hy2 : y.sendFlow = (x.sendFlow.assignCapacity
      (min (wrapSubU32 x.requestedSendCapacity x.sendFlow.available.asSize)
           (wrapSubU32 x.sendFlow.windowSz x.sendFlow.available.asSize))).1) :
    y.wantsMore = false := by
  have hle := hok.asSize_le
  have hlt := hok.windowSz_lt
  have hb : wrapSubU32 x.sendFlow.windowSz x.sendFlow.available.asSize = x.sendFlow.windowSz - x.sendFlow.available.asSize :=
    wrapSubU32_of_le (by omega) hle
  have hassign := flOk_assign hok (n := min (wrapSubU32 x.requestedSendCapacity x.sendFlow.available.asSize)
    (wrapSubU32 x.sendFlow.windowSz x.sendFlow.available.asSize)) (Nat.min_le_right _ _)
  have hF1 : y.sendFlow.available.val = x.sendFlow.available.val +
      ((min (wrapSubU32 x.requestedSendCapacity x.sendFlow.available.asSize)
        (wrapSubU32 x.sendFlow.windowSz x.sendFlow.available.asSize) : Nat) : Int) := by rw [hy2]; exact hassign.2.1
  have hF2 : y.sendFlow.windowSize.val = x.sendFlow.windowSize.val := by rw [hy2, hassign.2.2]
  have h0 := hok.av0; have hw := hok.avw; have hhi := hok.whi
  rw [hb] at hF1
  have hsz1 : x.sendFlow.available.asSize = x.sendFlow.available.val.toNat := asSize_eq _
  have hsz2 : x.sendFlow.windowSz = x.sendFlow.windowSize.val.toNat := asSize_eq _
  rw [hsz1, hsz2] at hF1 hle
  rw [hsz2] at hlt
  unfold Stream.wantsMore Window.ltUsize FlowControl.hasUnavailable
  rw [hy1]
  show ((if y.sendFlow.available.val < 0 then true else decide (y.sendFlow.available.val.toNat < x.requestedSendCapacity)) &&
    (if y.sendFlow.windowSize.val < 0 then false else decide (y.sendFlow.windowSize.val > y.sendFlow.available.val))) = false
  generalize y.sendFlow.available.val = ya at hF1 ⊢
  generalize y.sendFlow.windowSize.val = yw at hF2 ⊢
  have key : (ya.toNat < x.requestedSendCapacity → ¬ (0 ≤ yw ∧ yw > ya)) ∧ 0 ≤ ya := by
    subst hF2
    refine ⟨fun h1 h2 => ?_, by rw [hF1]; exact Int.add_nonneg h0 (Int.natCast_nonneg _)⟩
    rcases Nat.lt_or_ge x.requestedSendCapacity x.sendFlow.available.val.toNat with hlt' | hge
    · -- more assigned than requested (never seen): the `u32` difference wraps, the window limits
      have hbig := wrapSubU32_big hlt' (by omega)
      rw [Nat.min_eq_right (by omega)] at hF1
      omega
    · rw [wrapSubU32_of_le hreq hge] at hF1
      rcases Nat.le_total (x.requestedSendCapacity - x.sendFlow.available.val.toNat)
        (x.sendFlow.windowSize.val.toNat - x.sendFlow.available.val.toNat) with hc | hc
      · rw [Nat.min_eq_left hc] at hF1; omega
      · rw [Nat.min_eq_right hc] at hF1; omega
  have hya : ¬ ya < 0 := by omega
  simp only [hya, if_false]
  by_cases hyw : yw < 0
  · simp [hyw]
  · simp only [hyw, if_false]
    by_cases h1 : ya.toNat < x.requestedSendCapacity
    · have := key.1 h1
      have : ¬ (yw > ya) := fun h => this ⟨by omega, h⟩
      simp [this]
    · simp [h1]

theorem stream_modStreamW_self {s : Streams} {id : Nat} {st : Stream} (h : s.store.get? id = some st)
    (f : Stream → Stream × List String) (hk : (f st).1.key = st.key) : (s.modStreamW id f).stream id = (f st).1 := by
  have hm := get?_mem h
  unfold Streams.modStreamW; rw [h]
  show ((s.setStream (f st).1).wake (f st).2).stream id = _
  unfold Streams.stream Streams.wake Streams.setStream
  simp only
  rw [get?_set_self h (hk.trans hm.2)]; rfl

theorem relink_pc (s : Streams) (id : Nat) :
    (s.relink id).prio.pendingCapacity = s.prio.pendingCapacity ∨
    ((s.stream id).wantsMore = true ∧ (s.relink id).prio.pendingCapacity = s.prio.pendingCapacity ++ [id]) := by
  have hfin : ∀ (S2 : Streams) (c : Prop) [Decidable c],
      (if c then (S2.qPush .pendingSend id).1 else S2).prio.pendingCapacity = S2.prio.pendingCapacity := by
    intro S2 c _; split
    · exact qPush_pc_other _ _
    · rfl
  unfold Streams.relink
  dsimp only
  rw [hfin]
  split
  · next hw =>
    rcases qPush_pc s id with e | e
    · exact Or.inl e
    · exact Or.inr ⟨hw, e⟩
  · exact Or.inl rfl

theorem assignN_uses_up {s : Streams} (h : SafeInv s) (hr : ReqOk s) (id : Nat) (hi : (s.stream id).assignIdle = false)
    (hwm : ((s.assignN id (min s.prio.flow.available.asSize (s.stream id).assignWant)).stream id).wantsMore = true) :
    (s.assignN id (min s.prio.flow.available.asSize (s.stream id).assignWant)).prio.flow.available.val ≤ 0 := by
  have hadd : ¬ (s.stream id).assignWant = 0 := by
    intro h0
    unfold Stream.assignIdle at hi
    rw [h0] at hi
    simp at hi
  have hb := Nat.le_trans (Nat.min_le_right s.prio.flow.available.asSize (s.stream id).assignWant) (Nat.min_le_right ..)
  rw [(assignN_exact h id _ (Nat.min_le_left ..) hb).2.2.2]
  have hA0 := h.a0
  rcases Nat.le_total s.prio.flow.available.asSize (s.stream id).assignWant with hc | hc
  · rw [Nat.min_eq_left hc, asSize_eq]; omega
  · -- the stream got all it wanted: it does not want more
    exfalso
    rw [Nat.min_eq_right hc] at hwm
    cases hget : s.store.get? id with
    | none =>
      have hb : s.stream id = { key := id, id := 0 } := by unfold Streams.stream; rw [hget]; rfl
      apply hadd
      rw [hb]
      show min _ (wrapSubU32 0 0) = 0
      rw [wrapSubU32_of_le (a := 0) (by omega) (Nat.le_refl _)]
      exact Nat.min_eq_zero_iff.2 (Or.inr rfl)
    | some st =>
      rw [Streams.stream_of_get? hget] at hwm
      have hkf := assignCapacity_kf st st.assignWant s.prio.maxBufferSize
      have hstream : (s.assignN id st.assignWant).stream id = (st.assignCapacity st.assignWant s.prio.maxBufferSize).1 :=
        stream_modStreamW_self hget _ hkf.1
      rw [hstream] at hwm
      have := not_wantsMore_after_full_assign (h.st st (get?_mem hget).1) (hr st (get?_mem hget).1) _
        (assignCapacity_req st _ _) hkf.2
      rw [this] at hwm; cases hwm

/-- `try_assign_capacity` puts the stream back into `pending_capacity` only when the connection has
    nothing left -/
theorem tryAssign_queue {s : Streams} (h : SafeInv s) (hr : ReqOk s) (id : Nat) :
    ((s.tryAssignCapacity id).prio.pendingCapacity = s.prio.pendingCapacity ∨
      ((s.tryAssignCapacity id).prio.pendingCapacity = s.prio.pendingCapacity ++ [id] ∧
        (s.tryAssignCapacity id).prio.flow.available.val ≤ 0)) ∧
    ReqOk (s.tryAssignCapacity id) := by
  refine s.tryAssignCapacity_cases id (P := fun t => (t.prio.pendingCapacity = s.prio.pendingCapacity ∨
    (t.prio.pendingCapacity = s.prio.pendingCapacity ++ [id] ∧ t.prio.flow.available.val ≤ 0)) ∧ ReqOk t)
    ⟨Or.inl rfl, hr⟩ (fun hi _ => ⟨?_, (hr.assignN id _).relink id⟩) (fun _ hp => ⟨?_, hr.relink id⟩)
  · rcases relink_pc (s.assignN id (min s.prio.flow.available.asSize (s.stream id).assignWant)) id with e | ⟨hw, e⟩
    · exact Or.inl (by rw [e, assignN_pc])
    · exact Or.inr ⟨by rw [e, assignN_pc], by rw [relink_flow]; exact assignN_uses_up h hr id hi hw⟩
  · rcases relink_pc s id with e | ⟨_, e⟩
    · exact Or.inl e
    · refine Or.inr ⟨e, ?_⟩
      rw [relink_flow]; rw [asSize_eq] at hp; omega

theorem qPop_pc {s s' : Streams} {r : Option Nat} (h : s.qPop .pendingCapacity = (s', r)) :
    (r = none ∧ s' = s ∧ s.prio.pendingCapacity = []) ∨
    (∃ id, r = some id ∧ s.prio.pendingCapacity = id :: s'.prio.pendingCapacity ∧ s'.prio.flow = s.prio.flow) := by
  unfold Streams.qPop at h
  split at h
  · rename_i hq
    cases h
    exact Or.inl ⟨rfl, rfl, hq⟩
  · rename_i id rest hq
    cases h
    refine Or.inr ⟨id, rfl, ?_, ?_⟩
    · rw [modStream_prio]; exact hq
    · rw [modStream_prio]; rfl

theorem gtUsize_zero_false {w : Window} (h : w.gtUsize 0 = false) : w.val ≤ 0 := by
  unfold Window.gtUsize at h
  split at h
  · omega
  · simp at h; omega

theorem loop_stop (fuel : Nat) {s : Streams} (h : s.prio.flow.available.gtUsize 0 = false) :
    Streams.assignConnectionCapacityLoop fuel s = s := by
  cases fuel with
  | zero => rfl
  | succ n => unfold Streams.assignConnectionCapacityLoop; simp [h]

/-- **`assign_connection_capacity`'s loop drains**: it ends with the connection holding nothing or with
    `pending_capacity` empty; `len + 1` units of fuel are enough -/
theorem loop_drains (fuel : Nat) : ∀ {s : Streams}, SafeInv s → ReqOk s → s.prio.pendingCapacity.length < fuel →
    (Streams.assignConnectionCapacityLoop fuel s).prio.flow.available.val ≤ 0 ∨
    (Streams.assignConnectionCapacityLoop fuel s).prio.pendingCapacity = [] := by
  induction fuel with
  | zero => intro s _ _ h; omega
  | succ n ih =>
    intro s h hr hlen
    unfold Streams.assignConnectionCapacityLoop
    split
    · split
      · rename_i s' heq
        rcases qPop_pc heq with ⟨_, hs, hq⟩ | ⟨id, hid, _, _⟩
        · right; rw [hs]; exact hq
        · cases hid
      · rename_i s' id heq
        have hs' : SafeInv s' := of_fst_eq heq (h.fr ((Fr.refl _).qPop _))
        have hr' : ReqOk s' := by have := hr.qPop .pendingCapacity; rw [heq] at this; exact this
        rcases qPop_pc heq with ⟨hn, _, _⟩ | ⟨id', hid, hq, _⟩
        · cases hn
        · cases hid
          rw [hq] at hlen
          simp only [List.length_cons] at hlen
          dsimp only
          split
          · first
            | exact ih hs' hr' (by omega)
            | exact ih (hs'.sfr (transitionAfter_sfr _ _ _)) ((transitionAfter_sfr _ _ _).req hr')
                (by rw [transitionAfter_prio]; omega)
          · have hT := tryAssign_queue hs' hr' id
            have hs2 := hs'.tryAssignCapacity id
            rcases hT.1 with hpc | ⟨hpc, hA⟩
            · exact ih (hs2.sfr (transitionAfter_sfr _ _ _)) ((transitionAfter_sfr _ _ _).req hT.2)
                (by rw [transitionAfter_prio, hpc]; omega)
            · left
              have hstop : ((s'.tryAssignCapacity id).transitionAfter id (s'.stream id).isPendingResetExpiration).prio.flow.available.gtUsize 0 = false := by
                rw [transitionAfter_prio]
                unfold Window.gtUsize
                split
                · rfl
                · simp; omega
              rw [loop_stop n hstop, transitionAfter_prio]
              exact hA
    · rename_i hng
      left
      exact gtUsize_zero_false (by simpa using hng)

/-- `assign_connection_capacity(inc)`: what was handed back is passed on until the connection has
    nothing left or nobody waits -/
theorem assignConnectionCapacity_drains {s : Streams} {inc : Nat} (h : SafeInvG inc s) (hr : ReqOk s) :
    (s.assignConnectionCapacity inc).prio.flow.available.val ≤ 0 ∨
    (s.assignConnectionCapacity inc).prio.pendingCapacity = [] := by
  unfold Streams.assignConnectionCapacity
  dsimp only
  exact loop_drains _ h.release (hr.same rfl) (by show s.prio.pendingCapacity.length < s.prio.pendingCapacity.length + 2; omega)

end H2V.Lemmas.ConnFlowP
