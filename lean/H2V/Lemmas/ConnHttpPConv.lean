import H2V.Lemmas.ConnHttpPTrack
/-
  C13 (ConnHttpP) — `server::Peer::convert_poll_message` (+ the `:status` / `:protocol` checks of
  `Recv::recv_headers`) against the request rules of RFC 9113 §8.3.1 (`Spec.Http.request`).
-/
namespace H2V.Lemmas.ConnHttpP
open H2V H2V.Model H2V.Model.Frame H2V.Model.Hpack H2V.Model.Conn

/-- the request rules of `Spec.Http.request` (without the common ones) on the pseudo-header part of a
    block that holds each pseudo-header field at most once -/
def reqRules (method scheme authority path : Option Bytes) (hasProto : Bool) (status : Option Bytes)
    (ecp : Bool) : List String :=
  let m := method.toList
  let isConnect := m == [Spec.Http.ascii "CONNECT"]
  (if !status.toList.isEmpty then ["status-in-request"] else []) ++
  (if m.length != 1 then ["missing-method"] else []) ++
  (if isConnect && !hasProto then
     (if authority.toList.isEmpty then ["connect-without-authority"] else []) ++
     (if !scheme.toList.isEmpty || !path.toList.isEmpty then ["connect-with-scheme-or-path"] else [])
   else
     (if scheme.toList.length != 1 then ["missing-scheme"] else []) ++
     (if path.toList.length != 1 || path.toList == [[]] then ["missing-path"] else [])) ++
  (if hasProto && !(isConnect && ecp) then ["protocol-without-extended-connect"] else [])

/-- one guard of `convert_poll_message`: an answer `Ok` means the guard did not fire -/
theorem ite_ok {c : Prop} [Decidable c] {a b : ConvReq} {m u : Bytes} (ha : ∀ m u, a ≠ .ok m u)
    (h : (if c then a else b) = .ok m u) : ¬c ∧ b = .ok m u := by
  split at h
  · exact absurd h (ha m u)
  · exact ⟨‹_›, h⟩

theorem convert_ok_guards (h : HeadersIn) (m u : Bytes) (hc : convertPollMessageServer h = .ok m u) :
    h.method = some m ∧ (h.hasProtocol = true → m = Http.str "CONNECT") ∧ h.status = none ∧
    ¬ (h.authority.isNone && (m == Http.str "CONNECT")) = true ∧
    ¬ (h.scheme.isSome && (m == Http.str "CONNECT") && !h.hasProtocol) = true ∧
    ¬ (h.scheme.isNone && (!(m == Http.str "CONNECT") || h.hasProtocol)) = true ∧
    ¬ (match h.path with | some _ => (m == Http.str "CONNECT") && !h.hasProtocol | none => false) = true ∧
    ¬ (h.path == some []) = true ∧
    ¬ (h.path.isNone && (m == Http.str "CONNECT") && h.hasProtocol) = true ∧
    ¬ (h.path.isNone && !(m == Http.str "CONNECT")) = true := by
  unfold convertPollMessageServer at hc
  cases hm : h.method with
  | none => rw [hm] at hc; cases hc
  | some meth =>
    rw [hm] at hc
    have bad : ∀ m u, ConvReq.malformed ≠ .ok m u := fun _ _ h => by cases h
    have uns : ∀ m u, ConvReq.unsupported ≠ .ok m u := fun _ _ h => by cases h
    obtain ⟨g1, h1⟩ := ite_ok bad hc
    obtain ⟨g2, h2⟩ := ite_ok bad h1
    obtain ⟨-, h3⟩ := ite_ok uns h2
    obtain ⟨g4, h4⟩ := ite_ok bad h3
    obtain ⟨g5, h5⟩ := ite_ok bad h4
    obtain ⟨-, h6⟩ := ite_ok uns h5
    obtain ⟨g7, h7⟩ := ite_ok bad h6
    obtain ⟨g8, h8⟩ := ite_ok bad h7
    obtain ⟨g9, h9⟩ := ite_ok bad h8
    obtain ⟨-, h10⟩ := ite_ok uns h9
    obtain ⟨g11, h11⟩ := ite_ok bad h10
    obtain ⟨g12, h12⟩ := ite_ok bad h11
    have e : meth = m := (ConvReq.ok.inj (ite_ok bad (ite_ok bad h12).2).2).1
    subst e
    refine ⟨rfl, fun hp => ?_, ?_, g4, g5, g7, g8, g9, g11, g12⟩
    · cases hcon : meth == Http.str "CONNECT" with
      | true => exact eq_of_beq hcon
      | false => exact absurd (by rw [hp, hcon]; rfl) g1
    · cases hs : h.status with
      | none => rfl
      | some v => exact absurd (by rw [hs]; rfl) g2

/-- what the server accepts: `convert_poll_message` succeeds, `:protocol` only with the extended CONNECT setting.
    Every request rule holds. -/
theorem convert_ok_rules (h : HeadersIn) (ecp : Bool) (m u : Bytes)
    (hc : convertPollMessageServer h = .ok m u) (hst : h.status = none)
    (hpr : h.hasProtocol = true → ecp = true) :
    reqRules h.method h.scheme h.authority h.path h.hasProtocol h.status ecp = [] := by
  obtain ⟨hm, g1, -, g4, g5, g7, g8, g9, g11, g12⟩ := convert_ok_guards h m u hc
  rw [hst, hm]
  simp only [str_CONNECT] at g1 g4 g5 g7 g8 g9 g11 g12
  unfold reqRules
  simp only [ascii_CONNECT]
  cases hp : h.hasProtocol <;> cases hs : h.scheme <;> cases ha : h.authority <;> cases hpa : h.path <;>
    by_cases hcon : m = [67, 79, 78, 78, 69, 67, 84] <;> simp_all

theorem getPseudo_method (p : Pseudo) : getPseudo p pMethod = p.method := by simp [getPseudo]
theorem getPseudo_scheme (p : Pseudo) : getPseudo p pScheme = p.scheme := by
  simp [getPseudo, pMethod, pScheme]
theorem getPseudo_authority (p : Pseudo) : getPseudo p pAuthority = p.authority := by
  simp [getPseudo, pMethod, pScheme, pAuthority]
theorem getPseudo_path (p : Pseudo) : getPseudo p pPath = p.path := by
  simp [getPseudo, pMethod, pScheme, pAuthority, pPath]
theorem getPseudo_protocol (p : Pseudo) : getPseudo p pProtocol = p.protocol := by
  simp [getPseudo, pMethod, pScheme, pAuthority, pPath, pProtocol]
theorem getPseudo_status (p : Pseudo) : getPseudo p pStatus = p.status := by
  simp [getPseudo, pMethod, pScheme, pAuthority, pPath, pProtocol, pStatus]

/-- the values of the six pseudo-header names in a field list that went through the callback clean -/
structure PseudoExact (fs : List Header) (p : Pseudo) : Prop where
  method : Spec.Http.get fs ":method" = p.method.toList
  scheme : Spec.Http.get fs ":scheme" = p.scheme.toList
  authority : Spec.Http.get fs ":authority" = p.authority.toList
  path : Spec.Http.get fs ":path" = p.path.toList
  protocol : Spec.Http.get fs ":protocol" = p.protocol.toList
  status : Spec.Http.get fs ":status" = p.status.toList

theorem track_pseudoExact (fs : List Header) (st' : TSt) (ht : track fs (false, {}, []) = some st')
    (hok : ∀ f ∈ fs, fieldOk f = true) : PseudoExact fs st'.2.1 := by
  have h := track_vals fs st' ht hok
  refine ⟨?_, ?_, ?_, ?_, ?_, ?_⟩
  · rw [get_eq_vals, ascii_method, h _ (by simp [known]), getPseudo_method]
  · rw [get_eq_vals, ascii_scheme, h _ (by simp [known]), getPseudo_scheme]
  · rw [get_eq_vals, ascii_authority, h _ (by simp [known]), getPseudo_authority]
  · rw [get_eq_vals, ascii_path, h _ (by simp [known]), getPseudo_path]
  · rw [get_eq_vals, ascii_protocol, h _ (by simp [known]), getPseudo_protocol]
  · rw [get_eq_vals, ascii_status, h _ (by simp [known]), getPseudo_status]

theorem request_eq_reqRules (fs : List Header) (p : Pseudo) (ecp : Bool)
    (hc : Spec.Http.common fs = []) (hp : PseudoExact fs p) :
    Spec.Http.request fs ecp = reqRules p.method p.scheme p.authority p.path p.protocol.isSome p.status ecp := by
  unfold Spec.Http.request reqRules
  simp only [hc, hp.method, hp.scheme, hp.authority, hp.path, hp.protocol, hp.status, List.nil_append]
  cases p.protocol <;> rfl

end H2V.Lemmas.ConnHttpP
