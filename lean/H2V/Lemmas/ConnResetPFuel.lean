import H2V.Lemmas.ConnResetPEvolve
import H2V.Lemmas.ConnLoops
/-
  ConnResetP — termination / bounded work (C08): the fuel the callers hand to the queue-draining loops
  of the model is sufficient — more fuel does not change the result, so the real `while let Some(..) =
  queue.pop()` loops terminate after at most `queue length` rounds.
-/
namespace H2V.Lemmas.ConnResetP
open H2V H2V.Model H2V.Model.Conn

@[simp] theorem getQ_panic (s : Streams) (m : String) (q : QName) : (s.panic m).getQ q = s.getQ q :=
  Streams.panic_getQ s m q
@[simp] theorem getQ_modCountsA (s : Streams) (w : String) (f : Counts → Option Counts) (q : QName) :
    (s.modCountsA w f).getQ q = s.getQ q := Streams.modCountsA_getQ s w f q
@[simp] theorem getQ_modCounts (s : Streams) (f : Counts → Counts) (q : QName) : (s.modCounts f).getQ q = s.getQ q := rfl

export H2V.Model.Conn.Streams (transitionAfter_actions)

/-- with a body that leaves the queue alone, `length + 1` units of fuel are as good as any larger amount:
    the loop ends (queue empty) after exactly `length` rounds -/
theorem popLoop_fuel (q : QName) (body : Streams → Nat → Streams) (hb : ∀ s id, (body s id).getQ q = s.getQ q)
    (n m : Nat) (s : Streams) (hn : (s.getQ q).length < n) (hm : (s.getQ q).length < m) :
    Streams.popLoop q body n s = Streams.popLoop q body m s := by
  induction n generalizing m s with
  | zero => omega
  | succ n ih =>
    cases m with
    | zero => omega
    | succ m =>
      rw [Streams.popLoop_succ, Streams.popLoop_succ]
      cases hq : s.getQ q with
      | nil => rw [Streams.qPop_nil hq]
      | cons id rest =>
        rw [Streams.qPop_cons hq]
        have h3 : (body ((s.setQ q rest).modStream id fun st => st.setQueued q false) id).getQ q = rest := by
          rw [hb, Streams.modStream_getQ, Streams.getQ_setQ_self]
        rw [hq] at hn hm
        simp only [List.length_cons] at hn hm
        exact ih m _ (by rw [h3]; omega) (by rw [h3]; omega)

section
variable (n m : Nat) (s : Streams)

theorem clearPendingCapacity_fuel (hn : s.prio.pendingCapacity.length < n) (hm : s.prio.pendingCapacity.length < m) :
    Streams.clearPendingCapacity n s = Streams.clearPendingCapacity m s := by
  rw [Streams.clearPendingCapacity_eq, Streams.clearPendingCapacity_eq]
  exact popLoop_fuel _ _ (fun s id => Streams.transitionAfter_getQ s id _ _) n m s hn hm

theorem clearPendingOpen_fuel (hn : s.prio.pendingOpen.length < n) (hm : s.prio.pendingOpen.length < m) :
    Streams.clearPendingOpen n s = Streams.clearPendingOpen m s := by
  rw [Streams.clearPendingOpen_eq, Streams.clearPendingOpen_eq]
  exact popLoop_fuel _ _ (fun s id => Streams.transitionAfter_getQ s id _ _) n m s hn hm

theorem clearPendingSend_fuel (hn : s.prio.pendingSend.length < n) (hm : s.prio.pendingSend.length < m) :
    Streams.clearPendingSend n s = Streams.clearPendingSend m s := by
  rw [Streams.clearPendingSend_eq, Streams.clearPendingSend_eq]
  refine popLoop_fuel _ _ (fun s id => ?_) n m s hn hm
  unfold Streams.clearPendingSendBody
  rw [Streams.transitionAfter_getQ]
  split
  · exact Streams.modStreamW_getQ s id _ _
  · rfl

theorem clearStreamWindowUpdateQueue_fuel (hn : s.recv.pendingWindowUpdates.length < n)
    (hm : s.recv.pendingWindowUpdates.length < m) :
    Streams.clearStreamWindowUpdateQueue n s = Streams.clearStreamWindowUpdateQueue m s := by
  rw [Streams.clearStreamWindowUpdateQueue_eq, Streams.clearStreamWindowUpdateQueue_eq]
  exact popLoop_fuel _ _ (fun s id => Streams.transitionAfter_getQ s id _ _) n m s hn hm

theorem clearAllResetStreams_fuel (hn : s.recv.pendingResetExpired.length < n) (hm : s.recv.pendingResetExpired.length < m) :
    Streams.clearAllResetStreams n s = Streams.clearAllResetStreams m s := by
  rw [Streams.clearAllResetStreams_eq, Streams.clearAllResetStreams_eq]
  exact popLoop_fuel _ _ (fun s id => Streams.transitionAfter_getQ s id _ _) n m s hn hm

theorem clearAllPendingAccept_fuel (hn : s.recv.pendingAccept.length < n) (hm : s.recv.pendingAccept.length < m) :
    Streams.clearAllPendingAccept n s = Streams.clearAllPendingAccept m s := by
  rw [Streams.clearAllPendingAccept_eq, Streams.clearAllPendingAccept_eq]
  exact popLoop_fuel _ _ (fun s id => Streams.transitionAfter_getQ s id _ _) n m s hn hm

end

/-- `clear_expired_reset_streams` (the loop at the head of every `poll2`) -/
theorem clearExpiredResetStreams_fuel (n m : Nat) (s : Streams)
    (hn : s.recv.pendingResetExpired.length < n) (hm : s.recv.pendingResetExpired.length < m) :
    Streams.clearExpiredResetStreams n s = Streams.clearExpiredResetStreams m s := by
  induction n generalizing m s with
  | zero => omega
  | succ n ih =>
    cases m with
    | zero => omega
    | succ m =>
      unfold Streams.clearExpiredResetStreams
      split
      · rfl
      · cases hq : s.getQ .pendingResetExpired with
        | nil => rw [Streams.qPop_nil hq]
        | cons id rest =>
          rw [Streams.qPop_cons hq]
          have hq' : s.recv.pendingResetExpired = id :: rest := hq
          rw [hq'] at hn hm
          simp only [List.length_cons] at hn hm
          have h4 : (((s.setQ .pendingResetExpired rest).modStream id fun st =>
              st.setQueued .pendingResetExpired false).transitionAfter id true).recv.pendingResetExpired = rest := by
            show Streams.getQ _ .pendingResetExpired = rest
            rw [Streams.transitionAfter_getQ, Streams.modStream_getQ, Streams.getQ_setQ_self]
          exact ih m _ (by rw [h4]; omega) (by rw [h4]; omega)

/-- `poll_response` skips one queued 1xx head per round: `pending_recv.len() + 1` rounds suffice -/
theorem recvPollResponse_fuel (n m : Nat) (s : Streams) (id : Nat) (tag : String)
    (hn : (s.stream id).pendingRecv.length < n) (hm : (s.stream id).pendingRecv.length < m) :
    Streams.recvPollResponse n s id tag = Streams.recvPollResponse m s id tag := by
  induction n generalizing m s with
  | zero => omega
  | succ n ih =>
    cases m with
    | zero => omega
    | succ m =>
      unfold Streams.recvPollResponse
      cases hq : (s.stream id).pendingRecv with
      | nil => rfl
      | cons e rest =>
        cases e with
        | informational st f =>
          simp only
          cases hg : s.store.get? id with
          | none => rw [Streams.stream_of_none hg] at hq; cases hq
          | some x =>
            have hx : s.stream id = x := stream_of_get? hg
            have h1 : ((s.modStream id fun st => { st with pendingRecv := rest }).stream id).pendingRecv = rest := by
              unfold Streams.stream
              rw [modStream_store, Store.get?_mod' _ _ _ (by intro; rfl), if_pos rfl, hg]; rfl
            rw [hq] at hn hm
            simp only [List.length_cons] at hn hm
            exact ih m _ (by rw [h1]; omega) (by rw [h1]; omega)
        | headers _ _ => rfl
        | request _ _ _ => rfl
        | data _ _ => rfl
        | trailers _ => rfl

end H2V.Lemmas.ConnResetP
