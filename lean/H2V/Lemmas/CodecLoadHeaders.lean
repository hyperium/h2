import H2V.Lemmas.CodecLoad
/-
  Codec lemmas (goal B, header frames): the framing part of `Headers::load` and
  `PushPromise::load` (everything before HPACK) against RFC 9113 §6.2 / §6.6.
-/
namespace H2V.Lemmas.Codec
open H2V H2V.Model.Frame

theorem and45 (f i : Nat) (h : 45 &&& 2 ^ i = 2 ^ i) : f &&& 45 &&& 2 ^ i = f &&& 2 ^ i := by
  rw [Nat.and_assoc, h]
theorem and12 (f i : Nat) (h : 12 &&& 2 ^ i = 2 ^ i) : f &&& 12 &&& 2 ^ i = f &&& 2 ^ i := by
  rw [Nat.and_assoc, h]

theorem and45_1 (f : Nat) : f &&& 45 &&& 1 = f &&& 1 := and45 f 0 rfl
theorem and45_4 (f : Nat) : f &&& 45 &&& 4 = f &&& 4 := and45 f 2 rfl
theorem and45_8 (f : Nat) : f &&& 45 &&& 8 = f &&& 8 := and45 f 3 rfl
theorem and45_32 (f : Nat) : f &&& 45 &&& 32 = f &&& 32 := and45 f 5 rfl
theorem and12_4 (f : Nat) : f &&& 12 &&& 4 = f &&& 4 := and12 f 2 rfl
theorem and12_8 (f : Nat) : f &&& 12 &&& 8 = f &&& 8 := and12 f 3 rfl

theorem prioOf_take (l : Bytes) (n : Nat) (h : 5 ≤ n) : Spec.Frame.prioOf (l.take n) = Spec.Frame.prioOf l := by
  obtain ⟨k, rfl⟩ : ∃ k, n = k + 5 := ⟨n - 5, by omega⟩
  match l with
  | [] | [_] | [_, _] | [_, _, _] | [_, _, _, _] => simp [List.take]
  | a :: b :: c :: d :: e :: t => rfl

theorem u31_take (l : Bytes) (n : Nat) (h : 4 ≤ n) : Spec.Frame.u31 (l.take n) = Spec.Frame.u31 l := by
  obtain ⟨k, rfl⟩ : ∃ k, n = k + 4 := ⟨n - 4, by omega⟩
  match l with
  | [] | [_] | [_, _] | [_, _, _] => simp [List.take]
  | a :: b :: c :: d :: t => rfl

/-- `unpad` over the pad length and the octets behind it as the loaders take them: with `c`, the first octet and
    the rest; without, 0 and everything -/
theorem unpad_decide (c : Prop) [Decidable c] (p : Bytes) :
    Spec.Frame.unpad (decide c) p =
      if c ∧ p = [] then .error .frameSize
      else if (if c then p.getD 0 0 else 0) > (if c then p.drop 1 else p).length then .error .protocol
      else .ok (if c then some (p.getD 0 0) else none,
        (if c then p.drop 1 else p).take ((if c then p.drop 1 else p).length - (if c then p.getD 0 0 else 0))) := by
  by_cases hc : c
  · simp only [hc, decide_true, unpad_true, true_and, if_true]
  · simp [Spec.Frame.unpad, hc]

/-- the RFC view of what `Headers::load` returns -/
def headersToSpec (x : Nat × Bool × Bool × Option (Nat × Nat × Bool) × Bytes) : Spec.Frame.Frame :=
  .headers x.1 x.2.1 x.2.2.1 (x.2.2.2.1.map fun d => ⟨d.2.2, d.1, d.2.1⟩) x.2.2.2.2

theorem loadHeadersHead_eq (h : Head) (p : Bytes) :
    loadHeadersHead h p =
      if h.sid = 0 then .error .invalidStreamId
      else if h.flag &&& 8 = 8 ∧ p = [] then .error .malformedMessage
      else
        let pad := if h.flag &&& 8 = 8 then p.getD 0 0 else 0
        let src := if h.flag &&& 8 = 8 then p.drop 1 else p
        if h.flag &&& 32 = 32 ∧ src.length < 5 then .error .malformedMessage
        else if h.flag &&& 32 = 32 ∧ (parseStreamId src).1 = h.sid then .error .invalidDependencyId
        else
          let src' := if h.flag &&& 32 = 32 then src.drop 5 else src
          if pad > src'.length then .error .tooMuchPadding
          else .ok (h.sid, decide (h.flag &&& 1 = 1), decide (h.flag &&& 4 = 4),
            (if h.flag &&& 32 = 32 then some ((parseStreamId src).1, src.getD 4 0, (parseStreamId src).2) else none),
            src'.take (src'.length - pad)) := by
  unfold loadHeadersHead
  simp only [and45_1, and45_4, and45_8, and45_32, List.isEmpty_iff]

def SelfDependent (f' : Spec.Frame.Frame) : Prop :=
  ∃ sid eos eh pr frag, f' = .headers sid eos eh (some pr) frag ∧ pr.dependency = sid

/-- `Headers::load` and RFC 9113 §6.2 accept the same frames with the same content, except that `Headers::load` refuses
    the self-dependent ones (RFC 7540 §5.3.1; a stream error in `decode_frame`).  Behind the pad-length octet both
    sides are functions of the pad length `pad` and the octets `src`: the RFC strips the padding first, `Headers::load`
    last. -/
theorem loadHeadersHead_agree (h : Head) (p : Bytes) :
    AgreeBy (fun x f' => headersToSpec x = f') SelfDependent
      (loadHeadersHead h p) (Spec.Frame.ofParts 1 h.flag h.sid p) := by
  rw [loadHeadersHead_eq]
  simp only [Spec.Frame.ofParts, flag1, flag4, flag8, flag32, unpad_decide]
  by_cases hs : h.sid = 0
  · rw [if_pos hs, if_pos hs]; trivial
  rw [if_neg hs, if_neg hs]
  by_cases hnil : h.flag &&& 8 = 8 ∧ p = []
  · rw [if_pos hnil, if_pos hnil]; trivial
  rw [if_neg hnil, if_neg hnil]
  generalize (if h.flag &&& 8 = 8 then p.getD 0 0 else 0) = pad
  generalize (if h.flag &&& 8 = 8 then p.drop 1 else p) = src
  generalize (if h.flag &&& 8 = 8 then some (p.getD 0 0) else none) = pl
  by_cases h32 : h.flag &&& 32 = 32
  · simp only [h32, true_and, if_true, decide_true]
    by_cases hlt : src.length < pad + 5
    · refine .of_errors ?_ ?_
      · by_cases h5 : src.length < 5
        · exact ⟨_, if_pos h5⟩
        by_cases hdep : (parseStreamId src).1 = h.sid
        · exact ⟨_, by rw [if_neg h5, if_pos hdep]⟩
        · exact ⟨_, by rw [if_neg h5, if_neg hdep, if_pos (by simp only [List.length_drop]; omega)]⟩
      · by_cases hp : pad > src.length
        · exact ⟨_, by rw [if_pos hp]⟩
        · exact ⟨_, by rw [if_neg hp]; exact if_pos (by simp only [List.length_take]; omega)⟩
    rw [if_neg (show ¬ src.length < 5 by omega), if_neg (show ¬ pad > src.length by omega)]
    simp only [List.length_take, if_neg (show ¬ min (src.length - pad) src.length < 5 by omega)]
    by_cases hdep : (parseStreamId src).1 = h.sid
    · rw [if_pos hdep]
      refine ⟨_, _, _, _, _, rfl, ?_⟩
      rw [prioOf_take _ _ (by omega), prioOf_eq]
      exact hdep
    · rw [if_neg hdep, if_neg (by simp only [List.length_drop]; omega)]
      show headersToSpec _ = _
      simp only [headersToSpec, Option.map_some, prioOf_take _ _ (show 5 ≤ src.length - pad by omega), prioOf_eq,
        List.length_drop, List.drop_take]
      rw [Nat.sub_right_comm]
  · simp only [h32, false_and, if_false, decide_false, Bool.false_eq_true]
    by_cases hp : pad > src.length
    · rw [if_pos hp, if_pos hp]; trivial
    · rw [if_neg hp, if_neg hp]; exact rfl

/-- exception (stricter than RFC 9113): HEADERS with a priority block naming its own stream -/
example : loadHeadersHead ⟨1, 36, 3⟩ [0, 0, 0, 3, 16] = .error .invalidDependencyId ∧
    Spec.Frame.ofParts 1 36 3 [0, 0, 0, 3, 16] = .ok (.headers 3 false true (some ⟨false, 3, 16⟩) []) := ⟨rfl, rfl⟩

def pushPromiseToSpec (x : Nat × Nat × Bool × Bytes) : Spec.Frame.Frame :=
  .pushPromise x.1 x.2.2.1 x.2.1 x.2.2.2

theorem loadPushPromiseHead_eq (h : Head) (p : Bytes) :
    loadPushPromiseHead h p =
      if h.sid = 0 then .error .invalidStreamId
      else if h.flag &&& 8 = 8 ∧ p = [] then .error .malformedMessage
      else
        let pad := if h.flag &&& 8 = 8 then p.getD 0 0 else 0
        let src := if h.flag &&& 8 = 8 then p.drop 1 else p
        if src.length < 4 then .error .malformedMessage
        else if pad > (src.drop 4).length then .error .tooMuchPadding
        else .ok (h.sid, (parseStreamId src).1, decide (h.flag &&& 4 = 4),
          (src.drop 4).take ((src.drop 4).length - pad)) := by
  unfold loadPushPromiseHead
  simp only [and12_4, and12_8, List.isEmpty_iff]

/-- `PushPromise::load` and RFC 9113 §6.6 accept the same frames with the same content (since the fix of the `< 5`
    length test: a payload of just the promised stream id, the header block following in CONTINUATION frames, is
    accepted) -/
theorem loadPushPromiseHead_agree (h : Head) (p : Bytes) :
    AgreeBy (fun x f' => pushPromiseToSpec x = f') (fun _ => False)
      (loadPushPromiseHead h p) (Spec.Frame.ofParts 5 h.flag h.sid p) := by
  rw [loadPushPromiseHead_eq]
  simp only [Spec.Frame.ofParts, flag4, flag8, unpad_decide]
  by_cases hs : h.sid = 0
  · rw [if_pos hs, if_pos hs]; trivial
  rw [if_neg hs, if_neg hs]
  by_cases hnil : h.flag &&& 8 = 8 ∧ p = []
  · rw [if_pos hnil, if_pos hnil]; trivial
  rw [if_neg hnil, if_neg hnil]
  generalize (if h.flag &&& 8 = 8 then p.getD 0 0 else 0) = pad
  generalize (if h.flag &&& 8 = 8 then p.drop 1 else p) = src
  generalize (if h.flag &&& 8 = 8 then some (p.getD 0 0) else none) = pl
  by_cases hlt : src.length < pad + 4
  · refine .of_errors ?_ ?_
    · by_cases h4 : src.length < 4
      · exact ⟨_, if_pos h4⟩
      · exact ⟨_, by rw [if_neg h4, if_pos (by simp only [List.length_drop]; omega)]⟩
    · by_cases hp : pad > src.length
      · exact ⟨_, by rw [if_pos hp]⟩
      · exact ⟨_, by rw [if_neg hp]; exact if_pos (by simp only [List.length_take]; omega)⟩
  rw [if_neg (show ¬ src.length < 4 by omega),
    if_neg (show ¬ pad > (src.drop 4).length by simp only [List.length_drop]; omega),
    if_neg (show ¬ pad > src.length by omega)]
  simp only [List.length_take, if_neg (show ¬ min (src.length - pad) src.length < 4 by omega)]
  show pushPromiseToSpec _ = _
  simp only [pushPromiseToSpec, u31_take _ _ (show 4 ≤ src.length - pad by omega), u31_eq,
    List.length_drop, List.drop_take]
  rw [Nat.sub_right_comm]

/-- regression witness for the former finding: `00 00 04 05 00 00 00 00 01 | 00 00 00 02`
    (PUSH_PROMISE on stream 1 promising stream 2, no END_HEADERS, empty fragment) now loads -/
example : loadPushPromiseHead ⟨5, 0, 1⟩ [0, 0, 0, 2] = .ok (1, 2, false, []) ∧
    Spec.Frame.ofParts 5 0 1 [0, 0, 0, 2] = .ok (.pushPromise 1 false 2 []) := ⟨rfl, rfl⟩

/-- PUSH_PROMISE framing: `PushPromise::load` and RFC 9113 §6.6 agree exactly — same frames accepted,
    same content, same frames rejected -/
theorem loadPushPromiseHead_exact (h : Head) (p : Bytes) :
    (∀ x, loadPushPromiseHead h p = .ok x → Spec.Frame.ofParts 5 h.flag h.sid p = .ok (pushPromiseToSpec x)) ∧
    (∀ f', Spec.Frame.ofParts 5 h.flag h.sid p = .ok f' →
      ∃ x, loadPushPromiseHead h p = .ok x ∧ pushPromiseToSpec x = f') ∧
    ((∃ e, loadPushPromiseHead h p = .error e) ↔ (∃ v, Spec.Frame.ofParts 5 h.flag h.sid p = .error v)) := by
  have a := loadPushPromiseHead_agree h p
  refine ⟨fun x hl => ?_, fun f' hs => a.complete hs id, ?_, fun ⟨v, hv⟩ => a.error hv⟩
  · obtain ⟨_, rfl, hs⟩ := a.sound hl
    exact hs
  · rintro ⟨e, he⟩
    cases hs : Spec.Frame.ofParts 5 h.flag h.sid p with
    | error v => exact ⟨v, rfl⟩
    | ok f' => exact (a.refused hs he).elim

/-- HEADERS framing: `Headers::load` and RFC 9113 §6.2 agree exactly, except that h2 also refuses a
    priority block naming the frame's own stream (RFC 7540 §5.3.1, `InvalidDependencyId`):
    sound; complete for every frame that is not self-dependent; and a frame the RFC accepts is
    refused only with `InvalidDependencyId`, only when self-dependent. -/
theorem loadHeadersHead_exact_except_self_dependency (h : Head) (p : Bytes) :
    (∀ x, loadHeadersHead h p = .ok x → Spec.Frame.ofParts 1 h.flag h.sid p = .ok (headersToSpec x)) ∧
    (∀ f', Spec.Frame.ofParts 1 h.flag h.sid p = .ok f' →
      (∀ sid eos eh pr frag, f' = .headers sid eos eh (some pr) frag → pr.dependency ≠ sid) →
      ∃ x, loadHeadersHead h p = .ok x ∧ headersToSpec x = f') ∧
    (∀ v, Spec.Frame.ofParts 1 h.flag h.sid p = .error v → ∃ e, loadHeadersHead h p = .error e) ∧
    (∀ f' e, Spec.Frame.ofParts 1 h.flag h.sid p = .ok f' → loadHeadersHead h p = .error e →
      ∃ sid eos eh pr frag, f' = .headers sid eos eh (some pr) frag ∧ pr.dependency = sid) := by
  have a := loadHeadersHead_agree h p
  refine ⟨fun x hl => ?_, fun f' hs hself => a.complete hs fun ⟨_, _, _, _, _, hf, hd⟩ => hself _ _ _ _ _ hf hd,
    fun v hv => a.error hv, fun f' e hs he => a.refused hs he⟩
  obtain ⟨_, rfl, hs⟩ := a.sound hl
  exact hs

end H2V.Lemmas.Codec
