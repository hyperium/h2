import H2V.Lemmas.HuffmanCode
import H2V.Lemmas.HuffmanBits
import H2V.Lemmas.HuffmanGo
import H2V.Lemmas.HuffmanTables
import H2V.Lemmas.HuffmanDecode
import H2V.Lemmas.HuffmanPack
import H2V.Lemmas.HuffmanEncode
/-
  Huffman codec of h2's HPACK (model in `H2V.Model.Huffman`, mirror of `src/hpack/huffman/mod.rs`
  over the tables regenerated from `table.rs`) against RFC 7541 §5.2 / Appendix B
  (`H2V.Spec.Huffman` over the independent table `H2V.Spec.Rfc7541.huffmanCode`).
-/
namespace H2V.Lemmas.Huffman
open H2V

/-- **Round trip through the model codec**: decoding what `huffman::encode` produced gives the
    input back, for every byte string. -/
theorem roundtrip (s : Bytes) (h : Bytes.Valid s) :
    Model.Huffman.decode (Model.Huffman.encode s) = Res.ok s := by
  rw [encode_eq_spec s h, decode_eq_spec _ (spec_encode_valid s), spec_roundtrip s h]

theorem encode_valid (s : Bytes) (h : Bytes.Valid s) : Bytes.Valid (Model.Huffman.encode s) := by
  rw [encode_eq_spec s h]; exact spec_encode_valid s

theorem decode_ne_loop (bs : Bytes) (h : Bytes.Valid bs) : Model.Huffman.decode bs ≠ Res.loop := by
  rw [decode_eq_spec bs h]
  cases Spec.Huffman.decode bs <;> simp

end H2V.Lemmas.Huffman
