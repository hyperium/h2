import H2V.Model.HpackEnc
import H2V.Lemmas.HpackEvict
/-
  C10 — the encoder's dynamic table (`Table::converge`, `Table::resize`, `insert`) against
  RFC 7541 §4 (`Spec.Hpack.evict`, `Spec.Hpack.insert`).  h2 evicts from the back while the size is
  over the limit; the reference keeps the longest newest-first prefix that fits.
-/
namespace H2V.Lemmas.HpackEnc
open H2V H2V.Model.Hpack H2V.Spec.Hpack H2V.Lemmas.Hpack

@[simp] theorem tableSize_nil : tableSize ([] : List Header) = 0 := rfl
@[simp] theorem tableSize_cons (h : Header) (l : List Header) :
    tableSize (h :: l) = fieldSize h + tableSize l := rfl

theorem converge_eq_reserve : ∀ (fuel : Nat) (e : Encoder),
    Encoder.converge fuel e =
      { e with entries := (Table.reserve.go 0 fuel ⟨e.entries, e.size, e.maxSize⟩).entries,
               size := (Table.reserve.go 0 fuel ⟨e.entries, e.size, e.maxSize⟩).size } := by
  intro fuel
  induction fuel with
  | zero => intro e; rfl
  | succ fuel ih =>
    intro e
    simp only [Encoder.converge, Table.reserve.go, Nat.add_zero]
    split
    · cases e.entries.getLast? with
      | some last => exact ih _
      | none => rfl
    · rfl

/-- `converge` with `k` octets of the size not (yet) backed by an entry: `k = 0` for `resize`,
    `k = header size` inside `insert` (h2 adds the new header's size *before* evicting) -/
theorem converge_spec (k : Nat) (fuel : Nat) (e : Encoder)
    (hs : e.size = tableSize e.entries + k) (hl : e.entries.length ≤ fuel) :
    (Encoder.converge fuel e).entries = evict e.entries (e.maxSize - k) ∧
    (Encoder.converge fuel e).size = tableSize (Encoder.converge fuel e).entries + k ∧
    (Encoder.converge fuel e).maxSize = e.maxSize ∧
    (Encoder.converge fuel e).maxAllowed = e.maxAllowed ∧
    (Encoder.converge fuel e).sizeUpdate = e.sizeUpdate := by
  obtain ⟨h1, h2, -⟩ := reserve_go_evict 0 k fuel ⟨e.entries, e.size, e.maxSize⟩ hs hl
  rw [Nat.zero_add] at h1
  rw [converge_eq_reserve]
  exact ⟨h1, h2, rfl, rfl, rfl⟩

/-- while `size` is the sum of the entry sizes, `Table::converge` leaves
    exactly what RFC 7541 §4.3 keeps -/
theorem converge_eq_evict (e : Encoder) (hs : e.size = tableSize e.entries) :
    (Encoder.converge (e.entries.length + 1) e).entries = evict e.entries e.maxSize :=
  (converge_spec 0 (e.entries.length + 1) e hs (Nat.le_succ _)).1

theorem resize_spec (e : Encoder) (n : Nat) (hs : e.size = tableSize e.entries) :
    (e.resize n).entries = evict e.entries n ∧
    (e.resize n).size = tableSize (e.resize n).entries ∧
    (e.resize n).size ≤ n ∧
    (e.resize n).maxSize = n ∧
    (e.resize n).maxAllowed = e.maxAllowed ∧
    (e.resize n).sizeUpdate = e.sizeUpdate := by
  unfold Encoder.resize
  by_cases hn : n = 0
  · subst hn
    simp [evict_zero]
  · rw [if_neg hn]
    obtain ⟨i1, i2, i3, i4, i5⟩ :=
      converge_spec 0 (e.entries.length + 1) { e with maxSize := n } hs (Nat.le_succ _)
    refine ⟨i1, i2, ?_, i3, i4, i5⟩
    rw [i2, i1]
    exact tableSize_evict_le _ _

theorem insert_spec (e : Encoder) (h : Header) (hs : e.size = tableSize e.entries)
    (hfit : h.size ≤ e.maxSize) :
    (e.insert h).entries = h :: evict e.entries (e.maxSize - h.size) ∧
    (e.insert h).size = tableSize (e.insert h).entries ∧
    (e.insert h).size ≤ e.maxSize ∧
    (e.insert h).maxSize = e.maxSize ∧
    (e.insert h).maxAllowed = e.maxAllowed ∧
    (e.insert h).sizeUpdate = e.sizeUpdate := by
  unfold Encoder.insert
  obtain ⟨i1, i2, i3, i4, i5⟩ :=
    converge_spec h.size (e.entries.length + 1) { e with size := e.size + h.size }
      (by simp [hs]) (Nat.le_succ _)
  simp only at i1 i2 i3 i4 i5
  have hf := fieldSize_eq h
  have hle := tableSize_evict_le e.entries (e.maxSize - h.size)
  refine ⟨by simp only [i1], ?_, ?_, i3, i4, i5⟩
  · simp only [i2, tableSize_cons, hf]; omega
  · simp only [i2, i1]; omega

structure TableSim (e : Encoder) (st : St) : Prop where
  entries : e.entries = st.entries
  maxSize : e.maxSize = st.maxSize
  size : e.size = tableSize e.entries
  le : e.size ≤ e.maxSize

/-- inserting a header that fits (`Table::index` only inserts when
    `4·size ≤ 3·max_size`) is RFC 7541 §4.4 -/
theorem insert_eq_spec_insert (e : Encoder) (st : St) (h : Header) (hsim : TableSim e st)
    (hfit : h.size ≤ e.maxSize) :
    Spec.Hpack.insert st h = { st with entries := (e.insert h).entries } ∧
    TableSim (e.insert h) (Spec.Hpack.insert st h) ∧
    (e.insert h).maxSize = e.maxSize ∧ (e.insert h).maxAllowed = e.maxAllowed ∧
    (e.insert h).sizeUpdate = e.sizeUpdate := by
  obtain ⟨i1, i2, i3, i4, i5, i6⟩ := insert_spec e h hsim.size hfit
  have hf := fieldSize_eq h
  have h1 : Spec.Hpack.insert st h = { st with entries := (e.insert h).entries } := by
    unfold Spec.Hpack.insert
    rw [if_pos (by rw [hf, ← hsim.maxSize]; exact hfit), i1, hf, ← hsim.maxSize, ← hsim.entries]
  refine ⟨h1, ?_, i4, i5, i6⟩
  rw [h1]
  exact ⟨rfl, by rw [i4]; exact hsim.maxSize, i2, by rw [i4]; exact i3⟩

theorem resize_sim (e : Encoder) (st : St) (n : Nat) (hsim : TableSim e st) :
    TableSim (e.resize n) { st with maxSize := n, entries := evict st.entries n } ∧
    (e.resize n).maxAllowed = e.maxAllowed ∧ (e.resize n).sizeUpdate = e.sizeUpdate := by
  obtain ⟨i1, i2, i3, i4, i5, i6⟩ := resize_spec e n hsim.size
  exact ⟨⟨by rw [i1, hsim.entries], i4, i2, by rw [i4]; exact i3⟩, i5, i6⟩

end H2V.Lemmas.HpackEnc
