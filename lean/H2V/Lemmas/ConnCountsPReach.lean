import H2V.Lemmas.ConnCountsPInvJ
/-
  C05 / C18 / C19 — reachable states of the stream layer.

  `ApiStep s s'`: `s'` is what one call of a function of the stream layer makes of `s` — the
  functions are exactly those that `ConnProto.lean` (the connection loop: `recv_frame`, `poll2`,
  `poll_complete`, settings, GOAWAY, EOF) and `ConnDriver.lean` (the user handles: `SendRequest`,
  `SendStream`, `RecvStream`, `ResponseFuture`, `SendResponse`, …) call on `Conn.streams`, with
  arbitrary arguments, in arbitrary order.  `Reach s`: `s` is reachable from the stream state of a
  freshly built client or server connection (any builder configuration) by such calls.  This
  over-approximates what a real run can do (arguments and order are unconstrained).
-/
namespace H2V.Lemmas.ConnCountsP
open H2V H2V.Model H2V.Model.Conn
variable {ρ : Bool}

inductive ApiStep : Streams → Streams → Prop
  | recvHeaders (s : Streams) (h : HeadersIn) : ApiStep s (s.recvHeaders h).1
  | recvData (s : Streams) (id : Nat) (p : Bytes) (eos : Bool) (pad : Option Nat) : ApiStep s (s.recvData id p eos pad).1
  | recvReset (s : Streams) (id : Nat) (r : Reason) : ApiStep s (s.recvReset id r).1
  | recvWindowUpdate (s : Streams) (id inc : Nat) : ApiStep s (s.recvWindowUpdate id inc).1
  | recvPushPromise (s : Streams) (id : Nat) (h : HeadersIn) : ApiStep s (s.recvPushPromise id h).1
  | recvGoAwayFrame (s : Streams) (last : Nat) (r : Reason) (d : Bytes) : ApiStep s (s.recvGoAwayFrame last r d).1
  | recvEof (s : Streams) (b : Bool) : ApiStep s (s.recvEof b)
  | handleError (s : Streams) (e : PErr) : ApiStep s (s.handleError e).1
  | innerSendReset (s : Streams) (id : Nat) (r : Reason) : ApiStep s (s.innerSendReset id r).1
  | recvGoAway (s : Streams) (last : Nat) : ApiStep s (s.recvGoAway last)
  | applyRemoteSettings (s : Streams) (v : List (Nat × Nat)) (b : Bool) : ApiStep s (s.applyRemoteSettings v b).1
  | applyLocalSettingsFrame (s : Streams) (v : List (Nat × Nat)) : ApiStep s (s.applyLocalSettingsFrame v).1
  | setTargetConnectionWindow (s : Streams) (t : Nat) : ApiStep s (s.setTargetConnectionWindow t).1
  | pollComplete (fuel : Nat) (s : Streams) (w : Writer) (io : Tio) (tag : String) : ApiStep s (Streams.pollComplete fuel s w io tag).1
  | pollSendPendingRefusal (fuel : Nat) (s : Streams) (w : Writer) (io : Tio) (tag : String) :
      ApiStep s (Streams.pollSendPendingRefusal fuel s w io tag).1
  | clearExpiredResetStreams (fuel : Nat) (s : Streams) : ApiStep s (Streams.clearExpiredResetStreams fuel s)
  | sendRequest (s : Streams) (isHead : Bool) (f : List Hpack.Field) (eos : Bool) (p : Option Nat) : ApiStep s (s.sendRequest isHead f eos p).1
  | pollPendingOpen (s : Streams) (p : Option Nat) (tag : String) : ApiStep s (s.pollPendingOpen p tag).1
  | cloneHandle (s : Streams) : ApiStep s s.cloneHandle
  | dropHandle (s : Streams) : ApiStep s s.dropHandle
  | cloneStreamRef (s : Streams) (k : Nat) : ApiStep s (s.cloneStreamRef k)
  | dropStreamRef (s : Streams) (k : Nat) : ApiStep s (s.dropStreamRef k)
  | nextIncoming (s : Streams) : ApiStep s s.nextIncoming.1
  | recvTakeRequest (s : Streams) (k : Nat) : ApiStep s (s.recvTakeRequest k).1
  | refSendResponse (s : Streams) (k : Nat) (f : List Hpack.Field) (eos : Bool) : ApiStep s (s.refSendResponse k f eos).1
  | refSendInformationalHeaders (s : Streams) (k : Nat) (f : List Hpack.Field) : ApiStep s (s.refSendInformationalHeaders k f).1
  | refSendData (s : Streams) (k len : Nat) (eos : Bool) : ApiStep s (s.refSendData k len eos).1
  | refSendTrailers (s : Streams) (k : Nat) (f : List Hpack.Field) : ApiStep s (s.refSendTrailers k f).1
  | refSendPushPromise (s : Streams) (parent : Nat) (valid : Bool) (f : List Hpack.Field) : ApiStep s (s.refSendPushPromise parent valid f).1
  | refSendReset (s : Streams) (k : Nat) (r : Reason) : ApiStep s (s.refSendReset k r)
  | refReserveCapacity (s : Streams) (k cap : Nat) : ApiStep s (s.refReserveCapacity k cap)
  | pollCapacity (s : Streams) (k : Nat) (tag : String) : ApiStep s (s.pollCapacity k tag).1
  | pollReset (s : Streams) (k : Nat) (m : PollReset) (tag : String) : ApiStep s (s.pollReset k m tag).1
  | recvPollResponse (fuel : Nat) (s : Streams) (k : Nat) (tag : String) : ApiStep s (Streams.recvPollResponse fuel s k tag).1
  | recvPollInformational (s : Streams) (k : Nat) (tag : String) : ApiStep s (s.recvPollInformational k tag).1
  | refPollData (s : Streams) (k : Nat) (tag : String) : ApiStep s (s.refPollData k tag).1
  | refPollPushed (s : Streams) (k : Nat) (tag : String) : ApiStep s (s.refPollPushed k tag).1
  | recvPollTrailers (s : Streams) (k : Nat) (tag : String) : ApiStep s (s.recvPollTrailers k tag).1
  | refReleaseCapacity (s : Streams) (k cap : Nat) : ApiStep s (s.refReleaseCapacity k cap).1
  | refClearRecvBuffer (s : Streams) (k : Nat) : ApiStep s (s.refClearRecvBuffer k)
  | wake (s : Streams) (t : List String) : ApiStep s (s.wake t)
  | clearWakes (s : Streams) : ApiStep s { s with wakes := [] }
  /-- an `assert!` of the connection layer fires / the model gives up -/
  | panic (s : Streams) (m : String) : ApiStep s (s.panic m)
  | unsup (s : Streams) (m : String) : ApiStep s (s.unsup m)

theorem ApiStep.evT {s s' : Streams} (h : ApiStep s s') (hA : KeysOK s) (hN : NextLocal s) : EvT s s' := by
  cases h with
  | recvHeaders _ h => exact .ev (recvHeaders_ev _ _)
  | recvData _ id p eos pad => exact .ev (recvData_ev _ _ _ _ _)
  | recvReset _ id r => exact .ev (recvReset_ev _ _ _)
  | recvWindowUpdate _ id inc => exact .ev (recvWindowUpdate_ev _ _ _)
  | recvPushPromise _ id h => exact .ev (recvPushPromise_ev _ _ _)
  | recvGoAwayFrame _ last r d => exact .ev (recvGoAwayFrame_ev _ _ _ _)
  | recvEof _ b => exact recvEof_evT _ _
  | handleError _ e => exact .ev (handleError_ev _ _)
  | innerSendReset _ id r => exact .ev (innerSendReset_ev _ _ _)
  | pollComplete fuel _ w io tag => exact .ev (pollComplete_ev _ _ _ _ _)
  | pollSendPendingRefusal fuel _ w io tag => exact .ev (pollSendPendingRefusal_ev _ _ _ _ _)
  | clearExpiredResetStreams fuel _ => exact clearExpiredResetStreams_evT _ _
  | sendRequest _ isHead f eos p => exact .ev (sendRequest_ev _ hA.fresh _ _ _ _)
  | dropStreamRef _ k => exact .ev (dropStreamRef_ev _ _)
  | refSendResponse _ k f eos => exact .ev (refSendResponse_ev _ _ _ _)
  | refSendInformationalHeaders _ k f => exact .ev (refSendInformationalHeaders_ev _ _ _)
  | refSendData _ k len eos => exact .ev (refSendData_ev _ _ _ _)
  | refSendTrailers _ k f => exact .ev (refSendTrailers_ev _ _ _)
  | refSendPushPromise _ parent valid f => exact .ev (refSendPushPromise_ev _ hA.fresh hN _ _ _)
  | refSendReset _ k r => exact .ev (refSendReset_ev _ _ _)
  | refPollPushed _ k tag => exact .ev (refPollPushed_ev _ _ _)
  | clearWakes _ => exact .ev (setMisc_ev _ _ _ _ _ _ ⟨rfl, rfl, rfl, rfl, rfl⟩)
  | _ => exact .ev (.of_step (by stp_step <;> first | exact Streams.Step.refl _ | decide))

/-- the stream state of a freshly built connection -/
inductive InitS : Streams → Prop
  /-- (`client::Builder::initial_stream_id` asserts that the id is odd) -/
  | client (g : Conn.Cfg) (hodd : g.firstId % 2 = 1) : InitS (Conn.init g).streams
  | server (g : Conn.Cfg) (ecp : Bool) (peerFirst : Bytes) : InitS (Conn.initServer g ecp peerFirst).streams

inductive Reach : Streams → Prop
  | init {s : Streams} : InitS s → Reach s
  | step {s s' : Streams} : Reach s → ApiStep s s' → Reach s'

structure Blank (s : Streams) : Prop where
  slab : s.store.slab = []
  ids : s.store.ids = []
  nextKey : s.store.nextKey = 0
  numSend : s.counts.numSendStreams = 0
  numRecv : s.counts.numRecvStreams = 0
  numReset : s.counts.numLocalResetStreams = 0
  numRemote : s.counts.numRemoteResetStreams = 0
  numErr : s.counts.numLocalErrorResetStreams = 0
  resetQ : s.recv.pendingResetExpired = []
  openQ : s.prio.pendingOpen = []
  next : NextLocal s

theorem Blank.keysOK {s : Streams} (h : Blank s) : KeysOK s :=
  ⟨by rw [h.slab]; exact List.nodup_nil, by intro x hx; rw [h.slab] at hx; cases hx⟩

theorem Blank.inv1 {s : Streams} (h : Blank s) : Inv1 s :=
  ⟨by unfold cntAll; rw [h.numSend, h.numRecv, h.slab]; rfl, by rw [h.numReset, h.resetQ]; rfl,
   by rw [h.numRecv]; exact Nat.zero_le _, by rw [h.numReset]; exact Nat.zero_le _,
   by rw [h.numRemote]; exact Nat.zero_le _, by intro m _; rw [h.numErr]; exact Nat.zero_le _⟩

theorem Blank.get?_none {s : Streams} (h : Blank s) (k : Nat) : s.store.get? k = none := by
  unfold Store.get?; rw [h.slab]; rfl

theorem Blank.inv2 {s : Streams} (h : Blank s) : Inv2 s.counts.isServer (fun _ => False) s := by
  refine ⟨rfl, ?_, ?_, ?_, ?_, ?_, ?_⟩
  · intro k hk; rw [h.openQ] at hk; cases hk
  · intro p hp; rw [h.ids] at hp; cases hp
  · intro k st hst; rw [h.get?_none] at hst; cases hst
  · intro _ k st hst; rw [h.get?_none] at hst; cases hst
  · intro _; unfold cntP; rw [h.numSend, h.slab]; rfl
  · intro x hx; have := h.next x hx; rw [isLocalInit_eq] at this; exact this

theorem InitS.from_blank {s : Streams} (h : InitS s) : ∃ s0, Blank s0 ∧ Ev s0 s := by
  cases h with
  | client g hodd =>
    have hnl : ∀ x, some g.firstId = some x → (false == (x % 2 == 0)) = true := by
      intro x hx; cases hx; simp [hodd]
    unfold Conn.init
    dsimp only
    split
    · next sz _ =>
      refine ⟨_, ?_, .trans (cloneHandle_ev _) (setTargetConnectionWindow_ev _ sz)⟩
      exact ⟨rfl, rfl, rfl, rfl, rfl, rfl, rfl, rfl, rfl, rfl, hnl⟩
    · refine ⟨_, ?_, cloneHandle_ev _⟩
      exact ⟨rfl, rfl, rfl, rfl, rfl, rfl, rfl, rfl, rfl, rfl, hnl⟩
  | server g ecp pf =>
    have hnl : ∀ x, some 2 = some x → (true == (x % 2 == 0)) = true := by
      intro x hx; cases hx; rfl
    unfold Conn.initServer
    dsimp only
    split
    · next sz _ =>
      refine ⟨_, ?_, setTargetConnectionWindow_ev _ sz⟩
      exact ⟨rfl, rfl, rfl, rfl, rfl, rfl, rfl, rfl, rfl, rfl, hnl⟩
    · refine ⟨_, ?_, .refl _⟩
      exact ⟨rfl, rfl, rfl, rfl, rfl, rfl, rfl, rfl, rfl, rfl, hnl⟩

/-- **the invariants hold in every reachable state**: keys and the parity of `next_stream_id` always,
    the counting invariants as long as no `assert!` has fired -/
theorem Reach.inv {s : Streams} (h : Reach s) :
    KeysOK s ∧ NextLocal s ∧ (s.panicked = none → Inv1 s ∧ Inv2 s.counts.isServer (fun _ => False) s) := by
  induction h with
  | init hi =>
    obtain ⟨s0, hb, e⟩ := hi.from_blank
    refine ⟨e.keysOK hb.keysOK, e.nx.nextLocal hb.next, fun hp => ⟨e.inv1 hp hb.keysOK hb.inv1, ?_⟩⟩
    rw [e.nx.role]
    exact e.inv2 _ _ hp hb.keysOK (fun _ _ h => h) hb.inv2
  | step _ hs ih =>
    have e := hs.evT ih.1 ih.2.1
    refine ⟨e.keysOK ih.1, e.nx.nextLocal ih.2.1, fun hp => ?_⟩
    have hi := ih.2.2 (e.mono_panic hp)
    refine ⟨e.inv1 hp ih.1 hi.1, ?_⟩
    rw [e.nx.role]
    exact e.inv2 _ hp ih.1 hi.2

end H2V.Lemmas.ConnCountsP
