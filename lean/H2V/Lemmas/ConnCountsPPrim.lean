import H2V.Lemmas.ConnCountsPBase
import H2V.Lemmas.ConnLoops
/-
  C05 / C18 / C19: `Ev` for the primitives of the model (`modStream`, `modPrio`, `modRecv`, `modSend`, `setCounts`,
  `panic`, `wake`, …).
-/
namespace H2V.Lemmas.ConnCountsP
open H2V H2V.Model H2V.Model.Conn
variable {ρ : Bool}

export H2V.Model.Conn.Store (get?_key)
export H2V.Model.Conn.Streams (stream_key stream_of_get?)

theorem panic_ev (s : Streams) (m : String) : EvB ρ s (s.panic m) := by
  unfold Streams.panic
  split
  · exact .refl _
  · exact .free ⟨rfl, CStep.refl _, fun _ => rfl, fun _ => rfl, NextOK.refl _ _⟩

theorem unsup_ev (s : Streams) (m : String) : EvB ρ s (s.unsup m) := by
  unfold Streams.unsup
  split
  · exact .refl _
  · exact .free ⟨rfl, CStep.refl _, fun _ => rfl, id, NextOK.refl _ _⟩

theorem wake_ev (s : Streams) (t : List String) : EvB ρ s (s.wake t) :=
  .free ⟨rfl, CStep.refl _, fun _ => rfl, id, NextOK.refl _ _⟩

theorem notifyTask_ev (s : Streams) : EvB ρ s s.notifyTask := by
  unfold Streams.notifyTask
  split
  · exact .free ⟨rfl, CStep.refl _, fun q => by cases q <;> rfl, id, NextOK.refl _ _⟩
  · exact .refl _

theorem modPrio_ev' (s : Streams) (f : Prioritize → Prioritize)
    (h : (f s.actions.send.prioritize).pendingSend = s.actions.send.prioritize.pendingSend ∧
      (f s.actions.send.prioritize).pendingCapacity = s.actions.send.prioritize.pendingCapacity ∧
      (f s.actions.send.prioritize).pendingOpen = s.actions.send.prioritize.pendingOpen) :
    EvB ρ s (s.modPrio f) := by
  refine .free ⟨rfl, CStep.refl _, ?_, id, NextOK.refl _ _⟩
  intro q
  cases q <;> simp [Streams.getQ, Streams.prio, Streams.recv, Streams.modPrio, h]

theorem modPrio_ev (s : Streams) (f : Prioritize → Prioritize)
    (h : ∀ p, (f p).pendingSend = p.pendingSend ∧ (f p).pendingCapacity = p.pendingCapacity ∧ (f p).pendingOpen = p.pendingOpen) :
    EvB ρ s (s.modPrio f) := modPrio_ev' s f (h _)

theorem modRecv_ev' (s : Streams) (f : Recv → Recv)
    (h : (f s.actions.recv).pendingWindowUpdates = s.actions.recv.pendingWindowUpdates ∧
      (f s.actions.recv).pendingAccept = s.actions.recv.pendingAccept ∧
      (f s.actions.recv).pendingResetExpired = s.actions.recv.pendingResetExpired) :
    EvB ρ s (s.modRecv f) := by
  refine .free ⟨rfl, CStep.refl _, ?_, id, NextOK.refl _ _⟩
  intro q
  cases q <;> simp [Streams.getQ, Streams.prio, Streams.recv, Streams.modRecv, h]

theorem modRecv_ev (s : Streams) (f : Recv → Recv)
    (h : ∀ p, (f p).pendingWindowUpdates = p.pendingWindowUpdates ∧ (f p).pendingAccept = p.pendingAccept ∧
      (f p).pendingResetExpired = p.pendingResetExpired) :
    EvB ρ s (s.modRecv f) := modRecv_ev' s f (h _)

theorem modSend_ev' (s : Streams) (f : Send → Send)
    (h : (f s.actions.send).prioritize = s.actions.send.prioritize)
    (hn : NextOK s.counts.isServer s.actions.send.nextStreamId (f s.actions.send).nextStreamId) :
    EvB ρ s (s.modSend f) := by
  refine .free ⟨rfl, CStep.refl _, ?_, id, hn⟩
  intro q
  cases q <;> simp [Streams.getQ, Streams.prio, Streams.recv, Streams.modSend, h]

theorem modSend_ev (s : Streams) (f : Send → Send)
    (h : ∀ p, (f p).prioritize = p.prioritize) (hn : NextOK s.counts.isServer s.actions.send.nextStreamId (f s.actions.send).nextStreamId) :
    EvB ρ s (s.modSend f) := modSend_ev' s f (h _) hn

theorem setCounts_ev (s : Streams) (c : Counts) (h : CStep s.counts c) : EvB ρ s { s with counts := c } :=
  .free ⟨rfl, h, fun q => by cases q <;> rfl, id, by rw [show s.counts.isServer = s.counts.isServer from rfl]; exact NextOK.refl _ _⟩

theorem modCounts_ev (s : Streams) (f : Counts → Counts) (h : CStep s.counts (f s.counts)) : EvB ρ s (s.modCounts f) :=
  setCounts_ev s _ h

theorem modCountsA_ev (s : Streams) (w : String) (f : Counts → Option Counts)
    (h : ∀ c', f s.counts = some c' → CStep s.counts c') : EvB ρ s (s.modCountsA w f) := by
  unfold Streams.modCountsA
  split
  · next c hc => exact setCounts_ev s c (h c hc)
  · exact panic_ev _ _

theorem setMisc_ev (s : Streams) (a : Actions) (refs leaked : Nat) (wk : List String) (un : Option String)
    (ha : a.recv.pendingWindowUpdates = s.actions.recv.pendingWindowUpdates ∧ a.recv.pendingAccept = s.actions.recv.pendingAccept ∧
          a.recv.pendingResetExpired = s.actions.recv.pendingResetExpired ∧ a.send.prioritize = s.actions.send.prioritize ∧
          a.send.nextStreamId = s.actions.send.nextStreamId) :
    EvB ρ s { s with actions := a, refs := refs, recvBufferLeaked := leaked, wakes := wk, unsupported := un } := by
  refine .free ⟨rfl, CStep.refl _, ?_, id, ?_⟩
  · intro q
    cases q <;> simp [Streams.getQ, Streams.prio, Streams.recv, ha]
  · simp only [ha.2.2.2.2]; exact NextOK.refl _ _

theorem setStream_ev (s : Streams) (k : Nat) (st' : Stream) (h : Same (s.stream k) st') : EvB ρ s (s.setStream st') := by
  refine .setStream st' ?_
  intro x hx
  have hk : st'.key = k := h.key.trans (stream_key s k)
  rw [hk] at hx
  rw [← stream_of_get? hx]; exact h

theorem modStream_ev (s : Streams) (k : Nat) (f : Stream → Stream)
    (h : ∀ st, s.store.get? k = some st → Same st (f st)) : EvB ρ s (s.modStream k f) := by
  cases hk : s.store.get? k with
  | none => rw [Streams.modStream_of_none hk]; exact panic_ev _ _
  | some st =>
    rw [Streams.modStream_of_some hk]
    exact setStream_ev s k _ (by rw [stream_of_get? hk]; exact h st hk)

theorem modStreamW_ev (s : Streams) (k : Nat) (f : Stream → Stream × List String)
    (h : ∀ st, s.store.get? k = some st → Same st (f st).1) : EvB ρ s (s.modStreamW k f) := by
  rcases Streams.modStreamW_eq s k f with e | ⟨_, e⟩ <;> rw [e]
  · exact .trans (modStream_ev s k _ h) (wake_ev _ _)
  · exact modStream_ev s k _ h

theorem modStream_ev' (s : Streams) (k : Nat) (f : Stream → Stream)
    (h : Same (s.stream k) (f (s.stream k))) : EvB ρ s (s.modStream k f) :=
  modStream_ev s k f (fun st hst => by rw [stream_of_get? hst] at h; exact h)

theorem modStreamW_ev' (s : Streams) (k : Nat) (f : Stream → Stream × List String)
    (h : Same (s.stream k) (f (s.stream k)).1) : EvB ρ s (s.modStreamW k f) :=
  modStreamW_ev s k f (fun st hst => by rw [stream_of_get? hst] at h; exact h)

theorem setStream_get? (s : Streams) (st' : Stream) (k : Nat) :
    (s.setStream st').store.get? k = (s.store.get? k).map fun x => if x.key == st'.key then st' else x := by
  rw [Streams.setStream_get?]
  cases h : s.store.get? k with
  | none => simp only [Option.map_none, ite_self]
  | some x =>
    rw [← Store.get?_key h]
    by_cases hk : x.key = st'.key
    · simp only [hk, if_true, Option.map_some, beq_self_eq_true]
    · simp only [hk, if_false, Option.map_some, beq_eq_false_iff_ne.mpr hk, Bool.false_eq_true]

end H2V.Lemmas.ConnCountsP
