import H2V.Lemmas.ConnFlowPStreams
/-
  ConnFlowP — reachable stream-layer states and the safety invariant on all of them.

  `Reach s`: `s` is obtained from an initial `Streams` value (empty store, connection send window
  65 535 fully available — what `Conn.init` / `Conn.initServer` build) by any finite sequence of the
  stream-layer API functions that `ConnProto.lean` (the connection: received frames, `poll`, settings,
  GOAWAY, errors, EOF) and `ConnDriver.lean` (the user handles) call on `Conn.streams`; these two
  files touch `Conn.streams` through nothing else (plus `wake`, `panic` and clearing the wake log).
  Arguments are arbitrary, except the two values that the frame decoder bounds by `2^31 - 1`:
  WINDOW_UPDATE increments (`Frame.loadWindowUpdate` masks the reserved bit) and
  SETTINGS_INITIAL_WINDOW_SIZE (`Frame.applySetting` rejects larger values).
-/
namespace H2V.Lemmas.ConnFlowP
open H2V H2V.Model H2V.Model.Conn H2V.Lemmas.Comp

/-- the connection-level send `FlowControl` of a new connection -/
def flowInit : FlowControl :=
  ((FlowControl.new.incWindow Generated.Consts.DEFAULT_INITIAL_WINDOW_SIZE).1.assignCapacity
    Generated.Consts.DEFAULT_INITIAL_WINDOW_SIZE).1

theorem flowInit_eq : flowInit = ⟨⟨65535⟩, ⟨65535⟩⟩ := by decide

/-- an initial stream layer: no stream yet, the default connection window, all of it available -/
structure Init (s : Streams) : Prop where
  slab : s.store.slab = []
  flow : s.prio.flow = flowInit

/-- SETTINGS values as the decoder delivers them: identifier 4 carries at most `2^31 - 1` -/
def SettingsOk (vals : List (Nat × Nat)) : Prop :=
  ∀ v, (vals.find? (·.1 = 4)).map (·.2) = some v → v ≤ 2147483647

/-- the argument bounds the frame decoder guarantees -/
def flowOk : ConnResetP.Op → Prop
  | .recvWindowUpdate _ inc => inc ≤ 2147483647
  | .applyRemoteSettings vals _ => SettingsOk vals
  | _ => True

/-- all operations but `poll_complete` (DATA is written) and WINDOW_UPDATE on stream 0 leave the connection window alone -/
def keepsWindow : ConnResetP.Op → Bool
  | .pollComplete .. => false
  | .recvWindowUpdate id _ => id != 0
  | _ => true

/-- **every operation of the API is a step of the send side** -/
theorem Mv.op (op : ConnResetP.Op) (hv : flowOk op) (s : Streams) : Mv (keepsWindow op) s (op.apply s) := by
  cases op with
  | recvHeaders hd => show Mv true s (s.recvHeaders hd).1; rw [Streams.recvHeaders_eq]; mv_auto
  | recvData id p eos pad => show Mv true s (s.recvData id p eos pad).1; rw [Streams.recvData_eq]; mv_auto
  | recvReset id r => show Mv true s (s.recvReset id r).1; mv_by Streams.recvReset
  | recvWindowUpdate id inc =>
    by_cases hid : id = 0
    · subst hid; exact (Mv.refl false s).recvWindowUpdate 0 inc hv
    · have e : keepsWindow (.recvWindowUpdate id inc) = true := by simpa [keepsWindow] using hid
      rw [e]; exact (Mv.refl true s).recvWindowUpdate_stream id inc hid hv
  | recvPushPromise id hd => show Mv true s (s.recvPushPromise id hd).1; rw [Streams.recvPushPromise_eq]; mv_auto
  | handleError e => show Mv true s (s.handleError e).1; mv_by Streams.handleError
  | recvGoAwayFrame l r d => show Mv true s (s.recvGoAwayFrame l r d).1; mv_by Streams.recvGoAwayFrame
  | recvGoAway l => exact .frame (Streams.recvGoAway_step (by decide) s l)
  | recvEof b => show Mv true s (s.recvEof b); mv_by Streams.recvEof
  | innerSendReset id r => show Mv true s (s.innerSendReset id r).1; mv_by Streams.innerSendReset
  | setTargetConnectionWindow n => exact .frame (Streams.setTargetConnectionWindow_step (by decide) s n)
  | applyRemoteSettings vals b => exact (Mv.refl _ s).applyRemoteSettings vals b hv
  | applyLocalSettingsFrame vals => exact .frame (Streams.applyLocalSettingsFrame_step (by decide) s vals)
  | pollComplete fuel w io tag => exact Mv.pollComplete fuel (Mv.refl false s) w io tag
  | pollSendPendingRefusal fuel w io tag => exact .frame (Streams.pollSendPendingRefusal_step (by decide) fuel s w io tag)
  | clearExpiredResetStreams fuel => exact .frame (Streams.clearExpiredResetStreams_step (by decide) fuel s)
  | wake t => exact .frame (.wake s t)
  | clearWakes => exact (Mv.refl _ s).sfr ((SFr.refl s).same rfl rfl)
  | panic m => exact .frame (.panic s m)
  | cloneHandle => exact .frame (Streams.cloneHandle_step s)
  | dropHandle => exact .frame (Streams.dropHandle_step (by decide) s)
  | sendRequest b f eos p => exact .frame (Streams.sendRequest_step (by decide) s b f eos p)
  | pollPendingOpen p tag => exact .frame (Streams.pollPendingOpen_step (by decide) s p tag)
  | nextIncoming => exact .frame (Streams.nextIncoming_step (by decide) s)
  | recvTakeRequest k => exact .frame (Streams.recvTakeRequest_step (by decide) s k)
  | cloneStreamRef k => exact .frame (Streams.cloneStreamRef_step (by decide) s k)
  | dropStreamRef k => show Mv true s (s.dropStreamRef k); mv_by Streams.dropStreamRef
  | refSendResponse k f eos => exact .frame (Streams.refSendResponse_step (by decide) s k f eos)
  | refSendInformationalHeaders k f => exact .frame (Streams.refSendInformationalHeaders_step (by decide) s k f)
  | refSendPushPromise k b f => exact .frame (Streams.refSendPushPromise_step (by decide) s k b f)
  | refSendData k len eos => show Mv true s (s.refSendData k len eos).1; mv_by Streams.refSendData
  | refSendTrailers k f => show Mv true s (s.refSendTrailers k f).1; mv_by Streams.refSendTrailers
  | refReserveCapacity k c => show Mv true s (s.refReserveCapacity k c); mv_by Streams.refReserveCapacity
  | pollCapacity k tag => exact .frame (Streams.pollCapacity_step (by decide) s k tag)
  | refSendReset k r => show Mv true s (s.refSendReset k r); mv_by Streams.refSendReset
  | pollReset k m tag => exact .frame (Streams.pollReset_step (by decide) s k m tag)
  | recvPollResponse fuel k tag => exact .frame (Streams.recvPollResponse_step (by decide) fuel s k tag)
  | recvPollInformational k tag => exact .frame (Streams.recvPollInformational_step (by decide) s k tag)
  | refPollData k tag => exact .frame (Streams.refPollData_step (by decide) s k tag)
  | recvPollTrailers k tag => exact .frame (Streams.recvPollTrailers_step (by decide) s k tag)
  | refReleaseCapacity k n => exact .frame (Streams.refReleaseCapacity_step (by decide) s k n)
  | refClearRecvBuffer k => exact .frame (Streams.refClearRecvBuffer_step (by decide) s k)

inductive Reach : Streams → Prop
  | init {s} : Init s → Reach s
  | recvHeaders {s} (hd) : Reach s → Reach (s.recvHeaders hd).1
  | recvData {s} (id p eos pad) : Reach s → Reach (s.recvData id p eos pad).1
  | recvReset {s} (id r) : Reach s → Reach (s.recvReset id r).1
  | recvWindowUpdate {s} (id inc) : inc ≤ 2147483647 → Reach s → Reach (s.recvWindowUpdate id inc).1
  | recvPushPromise {s} (id hd) : Reach s → Reach (s.recvPushPromise id hd).1
  | recvGoAwayFrame {s} (l r d) : Reach s → Reach (s.recvGoAwayFrame l r d).1
  | recvGoAway {s} (id) : Reach s → Reach (s.recvGoAway id)
  | recvEof {s} (b) : Reach s → Reach (s.recvEof b)
  | handleError {s} (e) : Reach s → Reach (s.handleError e).1
  | innerSendReset {s} (id r) : Reach s → Reach (s.innerSendReset id r).1
  | applyRemoteSettings {s} (vals b) : SettingsOk vals → Reach s → Reach (s.applyRemoteSettings vals b).1
  | applyLocalSettingsFrame {s} (vals) : Reach s → Reach (s.applyLocalSettingsFrame vals).1
  | setTargetConnectionWindow {s} (n) : Reach s → Reach (s.setTargetConnectionWindow n).1
  | clearExpiredResetStreams {s} (fuel) : Reach s → Reach (Streams.clearExpiredResetStreams fuel s)
  | pollComplete {s} (fuel w io tag) : Reach s → Reach (Streams.pollComplete fuel s w io tag).1
  | pollSendPendingRefusal {s} (fuel w io tag) : Reach s → Reach (Streams.pollSendPendingRefusal fuel s w io tag).1
  | wake {s} (w) : Reach s → Reach (s.wake w)
  | panic {s} (m) : Reach s → Reach (s.panic m)
  | clearWakes {s} : Reach s → Reach { s with wakes := [] }
  | cloneHandle {s} : Reach s → Reach s.cloneHandle
  | dropHandle {s} : Reach s → Reach s.dropHandle
  | cloneStreamRef {s} (id) : Reach s → Reach (s.cloneStreamRef id)
  | dropStreamRef {s} (id) : Reach s → Reach (s.dropStreamRef id)
  | sendRequest {s} (b f eos p) : Reach s → Reach (s.sendRequest b f eos p).1
  | pollPendingOpen {s} (p tag) : Reach s → Reach (s.pollPendingOpen p tag).1
  | nextIncoming {s} : Reach s → Reach s.nextIncoming.1
  | recvTakeRequest {s} (id) : Reach s → Reach (s.recvTakeRequest id).1
  | refSendResponse {s} (k f eos) : Reach s → Reach (s.refSendResponse k f eos).1
  | refSendInformationalHeaders {s} (k f) : Reach s → Reach (s.refSendInformationalHeaders k f).1
  | refSendPushPromise {s} (k b f) : Reach s → Reach (s.refSendPushPromise k b f).1
  | refSendData {s} (id len eos) : Reach s → Reach (s.refSendData id len eos).1
  | refSendTrailers {s} (id f) : Reach s → Reach (s.refSendTrailers id f).1
  | refSendReset {s} (id r) : Reach s → Reach (s.refSendReset id r)
  | refReserveCapacity {s} (id c) : Reach s → Reach (s.refReserveCapacity id c)
  | pollCapacity {s} (id tag) : Reach s → Reach (s.pollCapacity id tag).1
  | pollReset {s} (id m tag) : Reach s → Reach (s.pollReset id m tag).1
  | recvPollResponse {s} (fuel id tag) : Reach s → Reach (Streams.recvPollResponse fuel s id tag).1
  | recvPollInformational {s} (id tag) : Reach s → Reach (s.recvPollInformational id tag).1
  | refPollData {s} (id tag) : Reach s → Reach (s.refPollData id tag).1
  | recvPollTrailers {s} (id tag) : Reach s → Reach (s.recvPollTrailers id tag).1
  | refReleaseCapacity {s} (id c) : Reach s → Reach (s.refReleaseCapacity id c).1
  | refClearRecvBuffer {s} (id) : Reach s → Reach (s.refClearRecvBuffer id)

theorem Init.safe {s : Streams} (h : Init s) : SafeInv s := by
  have hf := h.flow
  rw [flowInit_eq] at hf
  refine ⟨Int.le_refl _, ⟨?_, ?_⟩, ?_, ?_, ?_, ?_⟩
  · rw [h.slab]; exact List.nodup_nil
  · rw [h.slab]; intro x hx; cases hx
  · rw [h.slab]; intro x hx; cases hx
  · rw [hf]; decide
  · rw [hf]; decide
  · rw [h.slab, hf]; decide

/-- **every reachable state** is reached from an initial one by operations of the API: what an initial state has and
    every operation with decoder-bounded arguments keeps holds in every reachable state -/
theorem Reach.ind {I : Streams → Prop} (hi : ∀ s, Init s → I s) (hop : ∀ s (op : ConnResetP.Op), flowOk op → I s → I (op.apply s))
    {s : Streams} (h : Reach s) : I s := by
  induction h with
  | init h => exact hi _ h
  | recvHeaders hd _ ih => exact hop _ (.recvHeaders hd) trivial ih
  | recvData id p eos pad _ ih => exact hop _ (.recvData id p eos pad) trivial ih
  | recvReset id r _ ih => exact hop _ (.recvReset id r) trivial ih
  | recvWindowUpdate id inc hinc _ ih => exact hop _ (.recvWindowUpdate id inc) hinc ih
  | recvPushPromise id hd _ ih => exact hop _ (.recvPushPromise id hd) trivial ih
  | recvGoAwayFrame l r d _ ih => exact hop _ (.recvGoAwayFrame l r d) trivial ih
  | recvGoAway id _ ih => exact hop _ (.recvGoAway id) trivial ih
  | recvEof b _ ih => exact hop _ (.recvEof b) trivial ih
  | handleError e _ ih => exact hop _ (.handleError e) trivial ih
  | innerSendReset id r _ ih => exact hop _ (.innerSendReset id r) trivial ih
  | applyRemoteSettings vals b hv _ ih => exact hop _ (.applyRemoteSettings vals b) hv ih
  | applyLocalSettingsFrame vals _ ih => exact hop _ (.applyLocalSettingsFrame vals) trivial ih
  | setTargetConnectionWindow n _ ih => exact hop _ (.setTargetConnectionWindow n) trivial ih
  | clearExpiredResetStreams fuel _ ih => exact hop _ (.clearExpiredResetStreams fuel) trivial ih
  | pollComplete fuel w io tag _ ih => exact hop _ (.pollComplete fuel w io tag) trivial ih
  | pollSendPendingRefusal fuel w io tag _ ih => exact hop _ (.pollSendPendingRefusal fuel w io tag) trivial ih
  | wake w _ ih => exact hop _ (.wake w) trivial ih
  | panic m _ ih => exact hop _ (.panic m) trivial ih
  | clearWakes _ ih => exact hop _ .clearWakes trivial ih
  | cloneHandle _ ih => exact hop _ .cloneHandle trivial ih
  | dropHandle _ ih => exact hop _ .dropHandle trivial ih
  | cloneStreamRef id _ ih => exact hop _ (.cloneStreamRef id) trivial ih
  | dropStreamRef id _ ih => exact hop _ (.dropStreamRef id) trivial ih
  | sendRequest b f eos p _ ih => exact hop _ (.sendRequest b f eos p) trivial ih
  | pollPendingOpen p tag _ ih => exact hop _ (.pollPendingOpen p tag) trivial ih
  | nextIncoming _ ih => exact hop _ .nextIncoming trivial ih
  | recvTakeRequest id _ ih => exact hop _ (.recvTakeRequest id) trivial ih
  | refSendResponse k f eos _ ih => exact hop _ (.refSendResponse k f eos) trivial ih
  | refSendInformationalHeaders k f _ ih => exact hop _ (.refSendInformationalHeaders k f) trivial ih
  | refSendPushPromise k b f _ ih => exact hop _ (.refSendPushPromise k b f) trivial ih
  | refSendData id len eos _ ih => exact hop _ (.refSendData id len eos) trivial ih
  | refSendTrailers id f _ ih => exact hop _ (.refSendTrailers id f) trivial ih
  | refSendReset id r _ ih => exact hop _ (.refSendReset id r) trivial ih
  | refReserveCapacity id c _ ih => exact hop _ (.refReserveCapacity id c) trivial ih
  | pollCapacity id tag _ ih => exact hop _ (.pollCapacity id tag) trivial ih
  | pollReset id m tag _ ih => exact hop _ (.pollReset id m tag) trivial ih
  | recvPollResponse fuel id tag _ ih => exact hop _ (.recvPollResponse fuel id tag) trivial ih
  | recvPollInformational id tag _ ih => exact hop _ (.recvPollInformational id tag) trivial ih
  | refPollData id tag _ ih => exact hop _ (.refPollData id tag) trivial ih
  | recvPollTrailers id tag _ ih => exact hop _ (.recvPollTrailers id tag) trivial ih
  | refReleaseCapacity id c _ ih => exact hop _ (.refReleaseCapacity id c) trivial ih
  | refClearRecvBuffer id _ ih => exact hop _ (.refClearRecvBuffer id) trivial ih

/-- **the send-side safety invariant holds in every reachable state** -/
theorem Reach.safe {s : Streams} (h : Reach s) : SafeInv s :=
  h.ind (fun _ h => h.safe) (fun s op hv => (Mv.op op hv s).safe)

end H2V.Lemmas.ConnFlowP
