import H2V.Lemmas.ConnNoPanicPPushInvBack
/-
  C08 (no panic) — PUSH_PROMISE bookkeeping, stage 2: `OpaqueStreamRef::poll_pushed` in general, and the summary.
  With `PPPOK` the key at the front of the list resolves; with `PRH` its `pending_recv` starts with the promised
  request, so `panic!("Headers not set on pushed stream")` is dead; the promised stream leaves the list, loses the link
  flag and gets its first handle.
  The bundle `PushInv` (`PPPOK`, `IBR`, `PRH`) is kept along every operation of ConnResetP's `Op` and along
  `poll_pushed`; with it `drop_stream_ref`, `recv_push_promise` and `poll_pushed` keep `NPI` on ANY connection (for the
  connections that refuse PUSH_PROMISE — every server, every client with SETTINGS_ENABLE_PUSH = 0 — the simpler
  `NoPPP`/`NoPush` of ConnNoPanicPPushInvStep does, without any side condition).
-/
namespace H2V.Lemmas.ConnNoPanicP
open H2V H2V.Model H2V.Model.Conn H2V.Lemmas.ConnCountsP
open H2V.Lemmas.ConnResetP (Op run)
attribute [local irreducible] wrapSubU32 wrapSubUsize

/-- `Recv::poll_pushed` when the list is `child :: rest` (copied from the model) -/
def pollPushedCons (s : Streams) (id child : Nat) (rest : List Nat) : Streams × Streams.PollPushed :=
    let s := s.modStream id fun st => { st with pendingPushPromises := rest }
    let s := s.modStream child fun st => { st with isPendingAccept := false }
    match (s.stream child).pendingRecv with
    | .request method uri f :: r => (s.modStream child fun st => { st with pendingRecv := r }, .pushed child method uri f)
    | _ => (s.panic "Headers not set on pushed stream", .panic)

theorem recvPollPushed_cons {s : Streams} {k child : Nat} {rest : List Nat}
    (h : (s.stream k).pendingPushPromises = child :: rest) (t : String) : s.recvPollPushed k t = pollPushedCons s k child rest := by
  unfold Streams.recvPollPushed pollPushedCons
  rw [h]
  rfl

/-- the state after the two bookkeeping updates -/
def pollPushedMid (s : Streams) (id child : Nat) (rest : List Nat) : Streams :=
  (s.modStream id fun st => { st with pendingPushPromises := rest }).modStream child fun st => { st with isPendingAccept := false }

theorem pollPushedMid_hb (s : Streams) (k child : Nat) (rest : List Nat) :
    HB s (pollPushedMid s k child rest) ∧ ¬ Held (pollPushedMid s k child rest) child := by
  unfold pollPushedMid
  have h1 := setPPP_hb s k fun _ => rest
  obtain ⟨h2, hn⟩ := unflag_hb (s.modStream k fun st => { st with pendingPushPromises := rest }) child
  exact ⟨h1.trans h2, hn⟩

theorem pollPushedMid_recv (s : Streams) (k child : Nat) (rest : List Nat) (j : Nat) :
    ((pollPushedMid s k child rest).stream j).pendingRecv = (s.stream j).pendingRecv ∧
    ((pollPushedMid s k child rest).stream j).refCount = (s.stream j).refCount := by
  unfold pollPushedMid
  have a1 := SPr.modStream (P := (·.pendingRecv)) s k (fun st => { st with pendingPushPromises := rest }) (fun _ => rfl) (fun _ => rfl) j
  have a2 := SPr.modStream (P := (·.pendingRecv)) (s.modStream k fun st => { st with pendingPushPromises := rest }) child
    (fun st => { st with isPendingAccept := false }) (fun _ => rfl) (fun _ => rfl) j
  have b1 := SPr.modStream (P := (·.refCount)) s k (fun st => { st with pendingPushPromises := rest }) (fun _ => rfl) (fun _ => rfl) j
  have b2 := SPr.modStream (P := (·.refCount)) (s.modStream k fun st => { st with pendingPushPromises := rest }) child
    (fun st => { st with isPendingAccept := false }) (fun _ => rfl) (fun _ => rfl) j
  exact ⟨a2.trans a1, b2.trans b1⟩

theorem pollPushedCons_cases (s : Streams) (k child : Nat) (rest : List Nat) :
    (∃ m u f r, ((pollPushedMid s k child rest).stream child).pendingRecv = .request m u f :: r ∧
      pollPushedCons s k child rest =
        ((pollPushedMid s k child rest).modStream child fun st => { st with pendingRecv := r }, .pushed child m u f)) ∨
    pollPushedCons s k child rest = ((pollPushedMid s k child rest).panic "Headers not set on pushed stream", .panic) := by
  have hform : pollPushedCons s k child rest = (match ((pollPushedMid s k child rest).stream child).pendingRecv with
      | .request method uri f :: r => ((pollPushedMid s k child rest).modStream child fun st => { st with pendingRecv := r },
          Streams.PollPushed.pushed child method uri f)
      | _ => ((pollPushedMid s k child rest).panic "Headers not set on pushed stream", Streams.PollPushed.panic)) := rfl
  rw [hform]
  cases hpr : ((pollPushedMid s k child rest).stream child).pendingRecv with
  | nil => exact .inr rfl
  | cons e r =>
    cases e with
    | request m u f => exact .inl ⟨m, u, f, r, rfl, rfl⟩
    | _ => exact .inr rfl

theorem modStream_hb (s : Streams) (k : Nat) (f : Stream → Stream) (hk : ¬ Held s k)
    (h : ∀ x, (f x).key = x.key ∧ (f x).isPendingAccept = x.isPendingAccept ∧ (f x).pendingPushPromises = x.pendingPushPromises) :
    HB s (s.modStream k f) :=
  (modStream_pf (ks := [k]) s k f (.inr ⟨List.mem_cons_self .., h⟩)).hb fun c hc => by rw [List.mem_singleton.mp hc]; exact hk

/-- **`poll_pushed` is a backward frame** (the promised stream is unflagged before anything is popped or counted) -/
theorem recvPollPushed_hb (s : Streams) (k : Nat) (t : String) : HB s (s.recvPollPushed k t).1 := by
  cases hl : (s.stream k).pendingPushPromises with
  | nil => rw [recvPollPushed_nil hl]; exact (pollPushedNil_pf s k t).hb fun _ h => nomatch h
  | cons child rest =>
    rw [recvPollPushed_cons hl]
    obtain ⟨h1, hn⟩ := pollPushedMid_hb s k child rest
    rcases pollPushedCons_cases s k child rest with ⟨m, u, f, r, _, e⟩ | e
    · rw [e]; exact h1.trans (modStream_hb _ _ _ hn fun _ => ⟨rfl, rfl, rfl⟩)
    · rw [e]; exact h1.trans ((panic_pf (ks := []) _ _).hb fun _ h => nomatch h)

theorem refPollPushed_hb (s : Streams) (k : Nat) (t : String) : HB s (s.refPollPushed k t).1 := by
  cases hl : (s.stream k).pendingPushPromises with
  | nil => rw [refPollPushed_nil hl, ← recvPollPushed_nil hl]; exact recvPollPushed_hb s k t
  | cons child rest =>
    unfold Streams.refPollPushed
    rw [recvPollPushed_cons hl]
    obtain ⟨h1, hn⟩ := pollPushedMid_hb s k child rest
    rcases pollPushedCons_cases s k child rest with ⟨m, u, f, r, _, e⟩ | e
    · rw [e]
      have h2 : HB (pollPushedMid s k child rest) ((pollPushedMid s k child rest).modStream child fun st => { st with pendingRecv := r }) :=
        modStream_hb _ _ _ hn fun _ => ⟨rfl, rfl, rfl⟩
      refine (h1.trans h2).trans ((cloneStreamRef_pf (ks := [child]) _ _ (List.mem_cons_self ..)).hb fun c hc => ?_)
      rw [List.mem_singleton.mp hc]; exact fun h => hn (h2.back _ h).1
    · rw [e]; exact h1.trans ((panic_pf (ks := []) _ _).hb fun _ h => nomatch h)

theorem pollPushedCons_req {s : Streams} {k child : Nat} {rest : List Nat} {m u : Bytes} {f : Fields} {r : List REvent}
    (h : ((pollPushedMid s k child rest).stream child).pendingRecv = .request m u f :: r) :
    pollPushedCons s k child rest =
      ((pollPushedMid s k child rest).modStream child fun st => { st with pendingRecv := r }, .pushed child m u f) := by
  rcases pollPushedCons_cases s k child rest with ⟨m', u', f', r', h', e⟩ | e
  · rw [h] at h'
    simp only [List.cons.injEq, REvent.request.injEq] at h'
    obtain ⟨⟨e1, e2, e3⟩, e4⟩ := h'
    subst e1; subst e2; subst e3; subst e4
    exact e
  · exfalso
    have hform : pollPushedCons s k child rest = (match ((pollPushedMid s k child rest).stream child).pendingRecv with
      | .request method uri f :: r => ((pollPushedMid s k child rest).modStream child fun st => { st with pendingRecv := r },
          Streams.PollPushed.pushed child method uri f)
      | _ => ((pollPushedMid s k child rest).panic "Headers not set on pushed stream", Streams.PollPushed.panic)) := rfl
    rw [hform, h] at e
    have := congrArg Prod.snd e
    cases this

/-- the state `poll_pushed` hands back when it hands out the promised stream `child` -/
def pollPushedOut (s : Streams) (k child : Nat) (rest : List Nat) (r : List REvent) : Streams :=
  ((pollPushedMid s k child rest).modStream child fun st => { st with pendingRecv := r }).cloneStreamRef child

theorem pollPushedOut_ppp (s : Streams) {k : Nat} (hk : Live s k) (child : Nat) (rest : List Nat) (r : List REvent) (j : Nat) :
    ((pollPushedOut s k child rest r).stream j).pendingPushPromises = if j = k then rest else (s.stream j).pendingPushPromises := by
  unfold pollPushedOut Streams.cloneStreamRef Streams.refInc pollPushedMid
  have a4 := modStream_ppp_frame (((s.modStream k fun st => { st with pendingPushPromises := rest }).modStream child
      fun st => { st with isPendingAccept := false }).modStream child fun st => { st with pendingRecv := r }) child
    (fun st => { st with refCount := st.refCount + 1 }) (fun _ => rfl) (fun _ => rfl) j
  have a3 := modStream_ppp_frame ((s.modStream k fun st => { st with pendingPushPromises := rest }).modStream child
      fun st => { st with isPendingAccept := false }) child (fun st => { st with pendingRecv := r }) (fun _ => rfl) (fun _ => rfl) j
  have a2 := modStream_ppp_frame (s.modStream k fun st => { st with pendingPushPromises := rest }) child
    (fun st => { st with isPendingAccept := false }) (fun _ => rfl) (fun _ => rfl) j
  refine (a4.trans (a3.trans a2)).trans ?_
  by_cases hjk : j = k
  · subst hjk
    rw [if_pos rfl, stream_modStream_live hk (fun st => { st with pendingPushPromises := rest }) (fun _ => rfl)]
  · rw [if_neg hjk, Streams.stream_modStream_ne s k (f := fun st => { st with pendingPushPromises := rest }) (fun _ => rfl) hjk]

theorem pollPushedOut_held {s : Streams} {k child c : Nat} (rest : List Nat) (r : List REvent) (h : Held s c) (hne : c ≠ child) :
    Held (pollPushedOut s k child rest r) c := by
  unfold pollPushedOut Streams.cloneStreamRef Streams.refInc pollPushedMid
  have h1 : Held (s.modStream k fun st => { st with pendingPushPromises := rest }) c :=
    (setPPP_hr s k fun _ => rest).held c h
  have h2 := held_modStream_ne h1 hne (fun st => { st with isPendingAccept := false }) (fun _ => rfl)
  have h3 := held_modStream_ne h2 hne (fun st => { st with pendingRecv := r }) (fun _ => rfl)
  have h4 := held_modStream_ne h3 hne (fun st => { st with refCount := st.refCount + 1 }) (fun _ => rfl)
  exact h4

/-- **`poll_pushed` keeps the invariants**; `panic!("Headers not set on pushed stream")` is dead under `PRH` -/
theorem refPollPushed_npi_gen {s : Streams} (hn : NPI (fun _ => False) s) (hj : PPPOK s) (hp : PRH s) {k : Nat} (hk : Live s k)
    (t : String) :
    NPI (fun _ => False) (s.refPollPushed k t).1 ∧ PPPOK (s.refPollPushed k t).1 ∧ PRH (s.refPollPushed k t).1 ∧
    (∀ c m u f, (s.refPollPushed k t).2 = .pushed c m u f →
      (s.stream k).pendingPushPromises.head? = some c ∧ Live s c ∧
      ∃ x, (s.refPollPushed k t).1.store.get? c = some x ∧ x.refCount = 1) := by
  refine ⟨?_, ?_, hp.step (refPollPushed_hb s k t), ?_⟩ <;> cases hl : (s.stream k).pendingPushPromises with
  | nil =>
    first
    | (have e := refPollPushed_ev (ρ := false) s k t
       rw [refPollPushed_nil hl] at e ⊢
       exact hn.lt (pollPushedNil_lt s k t).w (liveAll1 hk) e noE)
    | (rw [refPollPushed_nil hl]
       exact hj.pf (pollPushedNil_pf s k t))
    | (rw [refPollPushed_nil hl]
       intro c m u f hc
       exact absurd hc (pollPushedNil_not_pushed s k t c m u f))
  | cons child rest =>
    have hmem : child ∈ (s.stream k).pendingPushPromises := by rw [hl]; exact List.mem_cons_self ..
    have hheld : Held s child := hj.held k child hmem
    have hlc : Live s child := held_live hheld
    obtain ⟨hr0, m, u, f, r, hreq⟩ := hp child hheld
    have hreq' : ((pollPushedMid s k child rest).stream child).pendingRecv = .request m u f :: r := by
      rw [(pollPushedMid_recv s k child rest child).1]; exact hreq
    have hres : s.refPollPushed k t = (pollPushedOut s k child rest r, .pushed child m u f) := by
      unfold Streams.refPollPushed
      rw [recvPollPushed_cons hl, pollPushedCons_req hreq']
      rfl
    rw [hres]
    first
    |
      (unfold pollPushedOut pollPushedMid
       have h1 : NPI (fun _ => False) (s.modStream k fun st => { st with pendingPushPromises := rest }) :=
         hn.lt (modStream_lt s k _ (fun _ => by inert_tac)).w (liveAll1 hk) (modStream_ev (ρ := false) _ _ _ (fun st _ => by same_fields)) noE
       have hl1 : Live (s.modStream k fun st => { st with pendingPushPromises := rest }) child := (SameKeys.modStream _ _ _).live.mpr hlc
       generalize (s.modStream k fun st => { st with pendingPushPromises := rest }) = s1 at h1 hl1 ⊢
       have h2 : NPI (fun _ => False) (s1.modStream child fun st => { st with isPendingAccept := false }) :=
         h1.lt (modStream_lt s1 child _ (fun _ => by inert_tac)).w (liveAll1 hl1) (ρ := false) (.acceptFlag child false) noE
       have hl2 : Live (s1.modStream child fun st => { st with isPendingAccept := false }) child := (SameKeys.modStream _ _ _).live.mpr hl1
       generalize (s1.modStream child fun st => { st with isPendingAccept := false }) = s2 at h2 hl2 ⊢
       have h3 : NPI (fun _ => False) (s2.modStream child fun st => { st with pendingRecv := r }) :=
         h2.lt (modStream_lt s2 child _ (fun _ => by inert_tac)).w (liveAll1 hl2) (modStream_ev (ρ := false) _ _ _ (fun st _ => by same_fields)) noE
       have hl3 : Live (s2.modStream child fun st => { st with pendingRecv := r }) child := (SameKeys.modStream _ _ _).live.mpr hl2
       exact cloneStreamRef_npi h3 hl3)
    |
      (have hnd := hj.nodup k
       rw [hl] at hnd
       have hnd' := List.nodup_cons.mp hnd
       have hsub : ∀ j c, c ∈ ((pollPushedOut s k child rest r).stream j).pendingPushPromises →
           c ∈ (s.stream j).pendingPushPromises ∧ c ≠ child := by
         intro j c hm
         rw [pollPushedOut_ppp s hk] at hm
         by_cases hjk : j = k
         · subst hjk
           rw [if_pos rfl] at hm
           exact ⟨by rw [hl]; exact List.mem_cons_of_mem _ hm, fun e => hnd'.1 (e ▸ hm)⟩
         · rw [if_neg hjk] at hm
           exact ⟨hm, fun e => hjk (hj.disj j k c hm (e ▸ hmem))⟩
       refine ⟨fun j => ?_, fun j j' c h1 h2 => hj.disj j j' c (hsub j c h1).1 (hsub j' c h2).1,
         fun j c hm => pollPushedOut_held rest r (hj.held j c (hsub j c hm).1) (hsub j c hm).2⟩
       rw [pollPushedOut_ppp s hk]
       by_cases hjk : j = k
       · rw [if_pos hjk]; exact hnd'.2
       · rw [if_neg hjk]; exact hj.nodup j)
    |
      (intro c m' u' f' hc
       simp only [Streams.PollPushed.pushed.injEq] at hc
       obtain ⟨e1, _⟩ := hc
       subst e1
       refine ⟨rfl, hlc, ?_⟩
       unfold pollPushedOut
       have hl3 : Live ((pollPushedMid s k child rest).modStream child fun st => { st with pendingRecv := r }) child := by
         unfold pollPushedMid
         exact (SameKeys.modStream _ _ _).live.mpr ((SameKeys.modStream _ _ _).live.mpr ((SameKeys.modStream _ _ _).live.mpr hlc))
       obtain ⟨y, hy⟩ := hl3
       refine ⟨_, cloneStreamRef_get hy, ?_⟩
       show y.refCount + 1 = 1
       have hy' := stream_of_get? hy
       have e3 := SPr.modStream (P := (·.refCount)) (pollPushedMid s k child rest) child (fun st => { st with pendingRecv := r })
         (fun _ => rfl) (fun _ => rfl) child
       have : y.refCount = 0 := by
         rw [← hy']
         exact e3.trans (((pollPushedMid_recv s k child rest child).2).trans hr0)
       omega)

theorem refPollPushed_counts (s : Streams) (k : Nat) (t : String) : (s.refPollPushed k t).1.counts = s.counts := by
  cases hl : (s.stream k).pendingPushPromises with
  | nil =>
    rw [refPollPushed_nil hl]
    unfold pollPushedNil
    split
    · rfl
    · exact Streams.modStream_counts _ _ _
    · rfl
  | cons child rest =>
    unfold Streams.refPollPushed
    rw [recvPollPushed_cons hl]
    have hmid : (pollPushedMid s k child rest).counts = s.counts := by
      unfold pollPushedMid; rw [Streams.modStream_counts, Streams.modStream_counts]
    rcases pollPushedCons_cases s k child rest with ⟨m, u, f, r, _, e⟩ | e
    · rw [e]
      show (((pollPushedMid s k child rest).modStream child fun st => { st with pendingRecv := r }).cloneStreamRef child).counts = _
      unfold Streams.cloneStreamRef Streams.refInc
      show (Streams.modStream _ child _).counts = _
      rw [Streams.modStream_counts, Streams.modStream_counts]; exact hmid
    · rw [e]
      show ((pollPushedMid s k child rest).panic _).counts = _
      rw [panic_counts]; exact hmid

structure PushInv (s : Streams) : Prop where
  ok : PPPOK s
  ids : IBR s
  rh : PRH s

theorem PushInv_blank {s : Streams} (hb : Blank s) : PushInv s := ⟨PPPOK_blank hb, IBR_blank hb, PRH_blank hb⟩

/-- **the bundle is kept by every operation.**  Side conditions: the handle discipline for the operations called
    through a stream handle that lower `ref_count` or pop `pending_recv` (`popKey`: the stream is live with
    `ref_count > 0` — `HOK`), `ErrOK` for `drop_stream_ref`, and for `recv_push_promise` what `recv_headers` needs too
    (no refusal pending, quota not exhausted by it) plus resolvable `pending_accept` keys (`AccOK`; `[]` on a client) -/
theorem PushInv_step {s : Streams} (hn : NPI (fun _ => False) s) (hj : PushInv s) (op : Op)
    (hkey : ∀ k, popKey op = some k → Live s k ∧ (s.stream k).refCount > 0)
    (hdrop : ∀ k, op = .dropStreamRef k → ErrOK s)
    (hpp : ∀ id h, op = .recvPushPromise id h →
      (∀ k ∈ s.recv.pendingAccept, Live s k) ∧ s.recv.refused = none ∧ ErrOK (s.recvPushPromise id h).1) :
    PushInv (op.apply s) := by
  refine ⟨?_, IBR_step hn hj.ids op, ?_⟩
  · refine PPPOK_step hn hj.ok op (fun k e => ?_) (fun id h e => ?_)
    · have := hkey k (by rw [e]; rfl)
      exact ⟨this.1, this.2, hdrop k e⟩
    · obtain ⟨a, b, c⟩ := hpp id h e
      exact ⟨hj.ids, a, b, c⟩
  · by_cases h1 : ∃ id h, op = .recvPushPromise id h
    · obtain ⟨id, h, e⟩ := h1
      subst e
      exact recvPushPromise_prh hn hj.rh id h (hpp id h rfl).2.1
    · exact PRH_step hn.keys hj.rh op (fun id h e => h1 ⟨id, h, e⟩) (fun k hk => (hkey k hk).2)

/-- `poll_pushed` (not a constructor of `Op`): `NPI` and the bundle are kept, no panic; the new handle -/
theorem refPollPushed_pushInv {s : Streams} (hn : NPI (fun _ => False) s) (hj : PushInv s) {k : Nat} (hk : Live s k) (t : String) :
    NPI (fun _ => False) (s.refPollPushed k t).1 ∧ PushInv (s.refPollPushed k t).1 ∧ ErrSame s (s.refPollPushed k t).1 :=
  let r := refPollPushed_npi_gen hn hj.ok hj.rh hk t
  ⟨r.1, ⟨r.2.1, hj.ids.of_dr ((refPollPushed_ev (ρ := false) s k t).keysOK hn.keys)
      (.of_step (Streams.refPollPushed_step (by decide) s k t)), r.2.2.1⟩,
    by unfold ErrSame; rw [refPollPushed_counts s k t]; exact ⟨rfl, rfl⟩⟩

theorem NoPPP.pppok {s : Streams} (h : NoPPP s) : PPPOK s := pppok_of_nil h

end H2V.Lemmas.ConnNoPanicP
