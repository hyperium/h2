import H2V.Lemmas.ConnFlowPMovers
/-
  ConnFlowP — the connection send window is touched by nothing but WINDOW_UPDATE on stream 0
  and `pop_frame`: `CW W t` (“the connection window of `t` is `W`”) is kept by every strong frame step (`CW.sfr`);
  a step of the send side says itself whether it keeps the window (`MvG.win`).
-/
namespace H2V.Lemmas.ConnFlowP
open H2V H2V.Model H2V.Model.Conn H2V.Lemmas.Comp

def CW (W : Window) (t : Streams) : Prop := t.prio.flow.windowSize = W

section
variable {W : Window} {t : Streams}

theorem CW.same {t' : Streams} (h : CW W t) (hp : t'.prio.flow.windowSize = t.prio.flow.windowSize) : CW W t' :=
  hp.trans h

theorem CW.sfr {t' : Streams} (hf : SFr t t') (h : CW W t) : CW W t' := h.same (by rw [hf.fr.1])

theorem CW.withTask (h : CW W t) (e : Option String) :
    CW W { t with actions := { t.actions with task := e } } := h.same rfl
theorem CW.withStore (h : CW W t) (st : Store) : CW W { t with store := st } := h.same rfl

theorem CW.qPushFront (h : CW W t) (q : QName) (id : Nat) : CW W (t.qPushFront q id).1 :=
  h.same (by rw [((Fr.refl t).qPushFront q id).1])
theorem CW.popPendingOpen (h : CW W t) : CW W t.popPendingOpen.1 := h.sfr (.of_step (Streams.popPendingOpen_step (by decide) t))
theorem CW.reclaimFrame (h : CW W t) (w : Writer) : CW W (t.reclaimFrame w).1 := h.sfr (.of_step (Streams.reclaimFrame_step (by decide) t w))
theorem CW.bufferOut (h : CW W t) (w : Writer) (f : Streams.OutFrame) : CW W (t.bufferOut w f).1 :=
  h.sfr (.of_step (Streams.bufferOut_step (by decide) t w f))
theorem CW.recvBufferPending (h : CW W t) (w : Writer) : CW W (t.recvBufferPending w).1 :=
  h.sfr (.of_step (Streams.recvBufferPending_step (by decide) t w))

end

end H2V.Lemmas.ConnFlowP
