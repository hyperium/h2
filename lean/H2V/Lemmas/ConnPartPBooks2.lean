import H2V.Lemmas.ConnPartPBooks
/-
  ConnPartP — C03: `handle_poll2_result`, `proto::Connection::poll`, `client::Connection::poll`,
  the user-side calls; connection-level reachability `SReach` and the theorem
  **`Dead c` or the stream layer is `ReachOk`** for every reachable connection (`sreach_books`).
-/
namespace H2V.Lemmas.ConnPartP
open H2V H2V.Model H2V.Model.Conn
open H2V.Model.Conn.Streams
open H2V.Lemmas.ConnRecvP
open H2V.Lemmas.ConnCtlP (Dead Halting)

variable {T H : Nat}

def BK (T H : Nat) (c : Conn) : Prop := SInv T H c ∨ Dead c

theorem handlePoll2Result_bk {c : Conn} (h : SInv T H c) (res : Except PErr Unit) : BK T H (c.handlePoll2Result res).1 := by
  cases res with
  | ok u => exact Or.inr (H2V.Lemmas.ConnCtlP.handlePoll2Result_kills c _ (Or.inl rfl))
  | error e =>
    cases e with
    | goAway d r i => exact Or.inr (H2V.Lemmas.ConnCtlP.handlePoll2Result_kills c _ (Or.inr ⟨d, r, i, rfl⟩))
    | reset id reason init =>
      unfold Conn.handlePoll2Result
      dsimp only
      split
      · exact Or.inl h
      · split
        · next s u heq =>
          left
          have hok : (Op.innerSendReset id reason).ok c.streams := by
            show (c.streams.innerSendReset id reason).2 = .ok ()
            rw [heq]
          have h1 : SI T H (c.streams.innerSendReset id reason).1 c.settings.loc :=
            h.op okT_closed (.innerSendReset id reason) trivial hok
          rw [heq] at h1
          exact h1
        · next s g heq =>
          exact Or.inr (H2V.Lemmas.ConnCtlP.handleGoAway_spec _ _ _ _).1
    | io kind msg =>
      unfold Conn.handlePoll2Result
      dsimp only
      left
      split <;> exact h.op okT_closed (.handleError _) trivial

theorem protoPoll_dead (fuel : Nat) (c : Conn) (hd : Dead c) : Dead (Conn.protoPoll fuel c).1 := by
  have := (H2V.Lemmas.ConnCtlP.protoPollT_dead fuel c hd).2.1
  rw [H2V.Lemmas.ConnCtlP.protoPollT_fst] at this
  exact this

theorem clientPoll_dead (fuel : Nat) (c : Conn) (hd : Dead c) : Dead (Conn.clientPoll fuel c).1 := by
  have := (H2V.Lemmas.ConnCtlP.clientPollT_dead fuel c hd).2.1
  rw [H2V.Lemmas.ConnCtlP.clientPollT_fst] at this
  exact this

/-- around `poll2`: a failed `Inner::send_reset` in `handle_poll2_result` goes through `handle_go_away`,
    as does the connection error `poll2` ended with; either way the connection is dead afterwards -/
theorem booksRule : H2V.Lemmas.ConnCtlP.PollRule (SInv T H) (SInv T H) (fun _ _ _ => True) (fun _ _ _ => True)
    (fun _ => True) (fun _ => True) (fun _ _ => True) Dead where
  toPoll2Rule := booksRule2
  leave _ h := h
  fuel _ m h := ⟨panic_lift okT_closed h m, trivial⟩
  enter _ h _ := ⟨h.op okT_closed (.clearExpiredResetStreams _) trivial, trivial⟩
  result c res h := (handlePoll2Result_bk h res).imp (⟨·, trivial⟩) (⟨·, trivial⟩)
  failed _ _ c e he _ :=
    ⟨H2V.Lemmas.ConnCtlP.handlePoll2Result_kills c _
      (Or.inr (he.imp fun _ h => h.imp fun _ h => h.imp fun _ h => by rw [h])), trivial⟩
  dead fuel _ _ c hd _ := ⟨(H2V.Lemmas.ConnCtlP.protoPollT_dead fuel c hd).2.1, trivial⟩
  complete fuel c h := ⟨h.op okT_closed (.pollComplete fuel c.codec.w c.codec.io c.cx) trivial, trivial⟩
  now _ h := ⟨goAwayNow_lift okT_closed h _, trivial⟩
  shut _ _ _ h _ := ⟨⟨h, trivial⟩, h, trivial⟩
  closed _ _ _ h _ := ⟨takeError_lift h _ _, trivial⟩
  wake _ h := ⟨h.op okT_closed (.wake _) trivial, trivial⟩
  wakeF _ _ _ hd _ := ⟨hd.of_goAway_state rfl rfl, trivial⟩

theorem protoPoll_bk' (fuel : Nat) {c : Conn} (h : BK T H c) : BK T H (Conn.protoPoll fuel c).1 :=
  h.elim (H2V.Lemmas.ConnCtlP.protoPoll_rule booksRule fuel c) fun h => Or.inr (protoPoll_dead fuel c h)

theorem clientPoll_bk (fuel : Nat) {c : Conn} (h : BK T H c) : BK T H (Conn.clientPoll fuel c).1 :=
  h.elim (H2V.Lemmas.ConnCtlP.clientPoll_rule booksRule fuel c) fun h => Or.inr (clientPoll_dead fuel c h)

-- see `ConnRecvP.init_locValid`: a goal `LocValid (Conn.initServer …).settings.loc` must not be evaluated
attribute [local irreducible] Conn.init Conn.initServer

theorem init_sinv (cfg : Conn.Cfg) (hv : CfgValid cfg) : SInv (cfgTarget cfg) (max 65535 (cfgTarget cfg)) (Conn.init cfg) := by
  constructor
  · unfold cfgTarget
    cases hc : cfg.cws with
    | none => exact ⟨_, .init (init_client cfg hc), rfl, rfl⟩
    | some sz =>
      refine ⟨Ghost.init.setTarget sz, ?_, rfl, rfl⟩
      unfold Conn.init
      simp only [hc]
      refine ReachOk.step (.setTargetConnectionWindow sz) (.init ?_) (hv.2 sz hc) trivial
      exact ⟨rfl, rfl, flowInit_eq, rfl, rfl⟩
  · exact init_locValid cfg hv

theorem init_server_sinv (cfg : Conn.Cfg) (ecp : Bool) (pf : Bytes) (hv : CfgValid cfg) :
    SInv (cfgTarget cfg) (max 65535 (cfgTarget cfg)) (Conn.initServer cfg ecp pf) := by
  constructor
  · unfold cfgTarget
    cases hc : cfg.cws with
    | none => exact ⟨_, .init (init_server cfg ecp pf hc), rfl, rfl⟩
    | some sz =>
      refine ⟨Ghost.init.setTarget sz, ?_, rfl, rfl⟩
      unfold Conn.initServer
      simp only [hc]
      refine ReachOk.step (.setTargetConnectionWindow sz) (.init ?_) (hv.2 sz hc) trivial
      exact ⟨rfl, rfl, flowInit_eq, rfl, rfl⟩
  · exact init_server_locValid cfg ecp pf hv

theorem dead_of_same {c c' : Conn} (h : Dead c) (hg : c'.goAway = c.goAway) (hs : c'.state = c.state) : Dead c' :=
  h.of_goAway_state hg hs

/-- the connection window configured last / the largest so far, after the call: as in ConnRecvP -/
theorem COp.step_bk {c : Conn} (h : BK T H c) (op : COp) (hv : op.valid c)
    (hh : ∀ o, op = .handle o → o.ok c.streams) :
    BK (op.target T) (op.hi H) (op.apply c) := by
  cases op with
  | protoPoll fuel => exact protoPoll_bk' fuel h
  | clientPoll fuel => exact clientPoll_bk fuel h
  | setTargetWindowSize size =>
    rcases h with h | h
    · exact Or.inl (setTargetWindowSize_sinv h size hv)
    · exact Or.inr (h.of_goAway_state rfl rfl)
  | setInitialWindowSize size =>
    rcases h with h | h
    · exact Or.inl (setInitialWindowSize_lift h size hv)
    · exact Or.inr ((H2V.Lemmas.ConnCtlP.inert_setInitialWindowSize c size).2 h)
  | goAwayGracefully =>
    rcases h with h | h
    · exact Or.inl (goAwayGracefully_lift okT_closed h)
    · exact Or.inr ((H2V.Lemmas.ConnCtlP.inert_goAwayGracefully c).2 h)
  | goAwayFromUser e =>
    rcases h with h | h
    · exact Or.inl (goAwayFromUser_lift okT_closed h e)
    · exact Or.inr (Or.inl (H2V.Lemmas.ConnCtlP.inert_goAwayFromUser c e).2)
  | goAwayNow e =>
    rcases h with h | h
    · exact Or.inl (goAwayNow_lift okT_closed h e)
    · exact Or.inr (Or.inl (H2V.Lemmas.ConnCtlP.goAwayNow_halting c e))
  | userSendPing =>
    rcases h with h | h
    · exact Or.inl (userSendPing_lift okT_closed h)
    · exact Or.inr ((H2V.Lemmas.ConnCtlP.inert_userSendPing c).2 h)
  | userPollPong t =>
    rcases h with h | h
    · exact Or.inl (userPollPong_lift h t)
    · exact Or.inr ((H2V.Lemmas.ConnCtlP.inert_userPollPong c t).2 h)
  | dropUserPingsRx =>
    rcases h with h | h
    · exact Or.inl (dropUserPingsRx_lift okT_closed h)
    · exact Or.inr ((H2V.Lemmas.ConnCtlP.inert_dropUserPingsRx c).2 h)
  | takeUserPings =>
    rcases h with h | h
    · exact Or.inl (takeUserPings_lift h)
    · exact Or.inr ((H2V.Lemmas.ConnCtlP.inert_takeUserPings c).2 h)
  | handle op =>
    rcases h with h | h
    · -- a handle never calls `apply_local_settings` / `Inner::send_reset` (`hh`)
      exact Or.inl (h.op okT_closed op hv.1 (hh op rfl) hv.2)
    · exact Or.inr (h.of_goAway_state rfl rfl)

/-- connections reachable from a new client or server connection — as ConnRecvP's `CReach`, with two
    differences: a `handle` step is a stream-layer call the HANDLES make (so not `apply_local_settings`
    or `Inner::send_reset`, which only `Connection::poll` calls: `op.ok` is asked of it), and the
    environment step leaves `go_away` and the connection state alone (it stands for the transport and
    the wakers) -/
inductive SReach : Nat → Nat → Conn → Prop where
  | client (cfg : Conn.Cfg) (hv : CfgValid cfg) : SReach (cfgTarget cfg) (max 65535 (cfgTarget cfg)) (Conn.init cfg)
  | server (cfg : Conn.Cfg) (ecp : Bool) (pf : Bytes) (hv : CfgValid cfg) :
      SReach (cfgTarget cfg) (max 65535 (cfgTarget cfg)) (Conn.initServer cfg ecp pf)
  | step {T H : Nat} {c : Conn} (op : COp) (h : SReach T H c) (hv : op.valid c)
      (hh : ∀ o, op = .handle o → o.ok c.streams) : SReach (op.target T) (op.hi H) (op.apply c)
  | env {T H : Nat} {c c' : Conn} (h : SReach T H c) (hs : c'.streams = c.streams) (hl : c'.settings = c.settings)
      (hg : c'.goAway = c.goAway) (hst : c'.state = c.state) : SReach T H c'

/-- **books or dead**: for every reachable connection the stream layer is in a `ReachOk` state — no
    `apply_local_settings` / `Inner::send_reset` has failed — or the connection is dead -/
theorem sreach_bk {c : Conn} (h : SReach T H c) : BK T H c := by
  induction h with
  | client cfg hv => exact Or.inl (init_sinv cfg hv)
  | server cfg ecp pf hv => exact Or.inl (init_server_sinv cfg ecp pf hv)
  | step op _ hv hh ih => exact COp.step_bk ih op hv hh
  | env _ hs hl hg hst ih =>
    rcases ih with ih | ih
    · left; unfold SInv PInv; rw [hs, hl]; exact ih
    · right; exact ih.of_goAway_state hg hst

/-- **every receive window of every stream is conserved, or the connection is dying**: for every
    reachable connection, `Dead c` or the full (connection- and stream-level) invariant of ConnRecvP holds
    for its stream layer, with `target = T` -/
theorem sreach_books {c : Conn} (h : SReach T H c) :
    Dead c ∨ ∃ g, Inv true g c.streams ∧ g.target = T ∧ g.hiTarget = H := by
  rcases sreach_bk h with ⟨⟨g, hg, ht, hh⟩, -⟩ | hd
  · exact Or.inr ⟨g, reachOk_inv hg, ht, hh⟩
  · exact Or.inl hd

/-- an `SReach` connection is a `CReach` connection: the connection-level theorems of ConnRecvP apply to
    it unconditionally (dead or not) -/
theorem SReach.creach {c : Conn} (h : SReach T H c) : CReach T H c := by
  induction h with
  | client cfg hv => exact .client cfg hv
  | server cfg ecp pf hv => exact .server cfg ecp pf hv
  | step op _ hv _ ih => exact .step op ih hv
  | env _ hs hl _ _ ih => exact .env ih hs hl

end H2V.Lemmas.ConnPartP
