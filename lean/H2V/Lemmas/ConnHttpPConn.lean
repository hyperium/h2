import H2V.Lemmas.ConnHttpPFrame
import H2V.Lemmas.ConnPollRule
import H2V.Lemmas.ConnRecvFrame
/-
  C13 (ConnHttpP) — the connection loop never touches the frame reader except through
  `poll_next` and the acknowledged local settings: `RInv'` of `c.codec.r` is an invariant of
  `Connection::poll` (both roles), established by `handshake2` / the server handshake.
-/
namespace H2V.Lemmas.ConnHttpP
open H2V H2V.Model H2V.Model.Frame H2V.Model.Hpack H2V.Model.Conn H2V.Model.CodecRead

def CInv (c : Conn) : Prop := RInv' c.codec.r

theorem cinv_of_reader {c c' : Conn} (h : CInv c) (e : c'.codec.r = c.codec.r) : CInv c' := by
  unfold CInv; rw [e]; exact h

theorem bufferSimple_r (c : Conn) (n : Nat) (s : String) : (c.bufferSimple n s).codec.r = c.codec.r := rfl
theorem bufferSettings_r (c : Conn) (a : Bool) (v : List (Nat × Nat)) : (c.bufferSettings a v).codec.r = c.codec.r := rfl
theorem panic_r (c : Conn) (m : String) : (c.panic m).codec.r = c.codec.r := rfl

theorem cinv_ready : ConnPoll.ReadyInv CInv where
  codecPollReady _ h := h
  buffer _ _ _ h := h
  goAwayDone _ h := h
  pongDone _ h := h
  pingSent _ _ h _ := h
  userPings _ _ h := h
  remoteSeen _ h := h
  applyRemote _ _ _ h _ := h
  writer _ _ _ h := h
  remoteDone _ h := h
  localSent _ _ h _ := h
  refusal _ h := h

/-- what an acknowledged local SETTINGS frame does to the reader -/
def ackReader (r : Reader) (g5 g6 g1 : Option Nat) : Reader :=
  let r := match g5 with | some m => r.setMaxFrameSize m | none => r
  let r := match g6 with | some m => r.setMaxHeaderListSize m | none => r
  match g1 with | some v => { r with hpack := r.hpack.queueSizeUpdate v } | none => r

theorem ackReader_inv (r : Reader) (g5 g6 g1 : Option Nat) (h : RInv' r) : RInv' (ackReader r g5 g6 g1) := by
  obtain ⟨g, hg⟩ := h
  unfold ackReader
  cases g5 <;> cases g6 <;> cases g1 <;> exact ⟨g, ⟨hg.table, hg.part⟩⟩

theorem recvSettings_reader (c : Conn) (ack : Bool) (vals : List (Nat × Nat)) :
    (c.recvSettings ack vals).1.codec.r = c.codec.r ∨
    ∃ g5 g6 g1, (c.recvSettings ack vals).1.codec.r = ackReader c.codec.r g5 g6 g1 := by
  unfold Conn.recvSettings
  split
  · split
    · rename_i loc _
      right
      refine ⟨(loc.find? (fun p => p.1 = 5)).map (·.2), (loc.find? (fun p => p.1 = 6)).map (·.2),
        (loc.find? (fun p => p.1 = 1)).map (·.2), ?_⟩
      simp only
      split <;> rfl
    · exact Or.inl rfl
  · left
    simp only
    split <;> rfl

theorem recvSettings_cinv (c : Conn) (ack : Bool) (vals : List (Nat × Nat)) (h : CInv c) :
    CInv (c.recvSettings ack vals).1 := by
  unfold CInv at h ⊢
  rcases recvSettings_reader c ack vals with e | ⟨g5, g6, g1, e⟩
  · rw [e]; exact h
  · rw [e]; exact ackReader_inv _ _ _ _ h


theorem goAwayNowData_codec (c : Conn) (e : Reason) (d : Bytes) : (c.goAwayNowData e d).codec = c.codec := by
  unfold Conn.goAwayNowData
  simp only
  split <;> rfl

theorem ite_codec {p : Prop} [Decidable p] {a b : Conn} {x : Codec} (ha : a.codec = x) (hb : b.codec = x) :
    (if p then a else b).codec = x := by
  split <;> assumption

theorem handleGoAway_codec (c : Conn) (r : Reason) (d : Bytes) (i : Initiator) : (c.handleGoAway r d i).codec = c.codec := by
  unfold Conn.handleGoAway
  apply ite_codec rfl
  simp only
  rw [goAwayNowData_codec]

theorem handlePoll2Result_codec (c : Conn) (res : Except PErr Unit) : (c.handlePoll2Result res).1.codec = c.codec := by
  unfold Conn.handlePoll2Result
  split
  · rfl
  · exact handleGoAway_codec _ _ _ _
  · split
    · rfl
    · split
      · rfl
      · simp only; rw [handleGoAway_codec]
  · simp only
    split <;> (split <;> rfl)

theorem poll2Dispatch_cinv (k : Conn → Conn × PollRes) (hk : ∀ c, CInv c → CInv (k c).1) (c : Conn)
    (frame : Option Frame.Frame) (h : CInv c) : CInv (ConnCtlP.poll2Dispatch k c frame).1 := by
  unfold ConnCtlP.poll2Dispatch
  have hf : CInv (c.recvFrame frame).1 := cinv_of_reader h (by rw [(Conn.recvFrame_keeps c frame).1])
  split
  · rename_i e; rw [e] at hf; exact hf
  · rename_i e; rw [e] at hf; exact hk _ hf
  · rename_i e; rw [e] at hf; exact hf
  · rename_i c4 ack vals e
    rw [e] at hf
    have hs := recvSettings_cinv c4 ack vals hf
    split
    · rename_i e; rw [e] at hs; exact hs
    · rename_i e; rw [e] at hs; exact hk _ hs

theorem cinv_rule : ConnPoll.PollInv CInv (fun c _ => CInv c) where
  panic := fun _ _ _ h => h
  sendPendingGoAway := fun _ => cinv_ready.sendPendingGoAway
  pollReady := fun _ => cinv_ready.pollReady
  pollNext := fun _ c n _ h _ => (pollNext_good n c.codec c.cx h).1
  ofJ := fun _ _ h => h
  dispatch := fun c f h => poll2Dispatch_cinv _ (fun _ h => h) c f h
  clearExpiredResetStreams := fun _ _ h => h
  handlePoll2Result := fun c r h => cinv_of_reader h (by rw [handlePoll2Result_codec])
  pollComplete := fun _ _ h => h
  goAwayNow := fun c e h => cinv_of_reader h (by unfold Conn.goAwayNow; rw [goAwayNowData_codec])
  shutdown := fun _ h => h
  closed := fun _ _ _ h => h
  takeError := fun c o i h => cinv_of_reader h (by unfold Conn.takeError; simp only; (repeat' split) <;> rfl)
  wake := fun _ h => h

theorem protoPoll_cinv (fuel : Nat) (c : Conn) (h : CInv c) : CInv (Conn.protoPoll fuel c).1 :=
  ConnPoll.protoPoll_inv cinv_rule fuel h

theorem clientPoll_cinv (fuel : Nat) (c : Conn) (h : CInv c) : CInv (Conn.clientPoll fuel c).1 :=
  ConnPoll.clientPoll_inv cinv_rule fuel h

/-- the reader both handshakes start from, whatever the builder options -/
theorem rinv'_cfg (mhl mfs : Option Nat) : RInv' (match mhl with
    | some m => (match mfs with
        | some m => (Reader.new Generated.Consts.DEFAULT_MAX_FRAME_SIZE).setMaxFrameSize m
        | none => Reader.new Generated.Consts.DEFAULT_MAX_FRAME_SIZE).setMaxHeaderListSize m
    | none => (match mfs with
        | some m => (Reader.new Generated.Consts.DEFAULT_MAX_FRAME_SIZE).setMaxFrameSize m
        | none => Reader.new Generated.Consts.DEFAULT_MAX_FRAME_SIZE)) := by
  have base := rinv_new Generated.Consts.DEFAULT_MAX_FRAME_SIZE
  cases mhl <;> cases mfs <;> exact ⟨[], ⟨base.table, base.part⟩⟩

theorem init_cinv (g : Conn.Cfg) : CInv (Conn.init g) := by
  unfold Conn.init CInv
  simp only
  split <;> exact rinv'_cfg g.mhl g.mfs

theorem initServer_cinv (g : Conn.Cfg) (ecp : Bool) (pf : Bytes) : CInv (Conn.initServer g ecp pf) := by
  unfold Conn.initServer CInv
  simp only
  split <;> exact rinv'_cfg g.mhl g.mfs


/-- what `recv_frame` may hand to the application for a frame `poll_next` yielded, in terms of
    `H2V.Spec.Http` on the block's field list -/
def ValidFrameEvent (cfg : Bool × Bool) (f : Option Frame.Frame) (ev : REvent) : Prop :=
  match f with
  | some (.headers _ _ _ blk) => ∃ g, BlockInv blk g ∧ (∀ x ∈ g, fieldOk x = true) ∧ ValidEvent cfg g ev
  | some (.data _ payload eos _) => ev = .data payload (!eos)
  | some (.pushPromise _ promised blk) => ∃ g, BlockInv blk g ∧ (∀ x ∈ g, fieldOk x = true) ∧
      ∃ m u, ev = .request m u (groupInto [] (regular g)) ∧ Spec.Http.request g false = [] ∧
        (Spec.Http.get g ":method" = [Http.str "GET"] ∨ Spec.Http.get g ":method" = [Http.str "HEAD"]) ∧
        promiseClOk (Conn.headersIn promised false blk) = true
  | _ => False

/-- **one turn of the read loop, every connection state**: for a frame as `poll_next` yields it
    (`GoodFrame`, see `pollNext_good`), everything `recv_frame` puts into any receive queue is one
    message that satisfies the reference's rules (responses / trailers: up to the known findings F5a–c) -/
theorem recvFrame_valid (c : Conn) (f : Option Frame.Frame) (hgood : ∀ fr, f = some fr → GoodFrame fr) :
    Delivers (fun _ ev => ValidFrameEvent (cfgOf c.streams) f ev) c.streams (c.recvFrame f).1.streams := by
  refine (recvFrame_delivers c f).mono fun _ ev he => ?_
  cases f with
  | none => exact he
  | some fr =>
    have hg := hgood fr rfl
    cases fr with
    | headers sid eos d blk =>
      obtain ⟨hm, g, hb, hok⟩ := hg blk rfl
      exact ⟨g, hb, hok, frameAccepted_valid blk g sid eos _ ev hm hb hok he⟩
    | data sid payload eos pad => exact he
    | pushPromise sid promised blk =>
      obtain ⟨hm, g, hb, hok⟩ := hg blk rfl
      exact ⟨g, hb, hok, accepted_promise_rules blk g promised ev hm hb hok he⟩
    | reset sid code => exact he
    | windowUpdate sid inc => exact he
    | settings ack vals => exact he
    | priority sid dep w e => exact he
    | goAway last code debug => exact he
    | ping ack payload => exact he

end H2V.Lemmas.ConnHttpP
