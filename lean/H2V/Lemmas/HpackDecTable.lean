import H2V.Lemmas.HpackEvict
import H2V.Props.C11Tables
/-
  Part B (table level) — the dynamic-table invariant of h2's `Table` (`size` is the sum of the entry
  sizes and never exceeds `max_size`), its preservation by `insert` / `set_max_size`, the
  unreachability of the `panic!` in `consolidate`, and the equivalence of h2's back-eviction
  (`reserve`, `consolidate`) with the reference's front-recursive `Spec.Hpack.evict`.
-/
namespace H2V.Lemmas.HpackDec
open H2V H2V.Model.Hpack H2V.Generated.Static

/-- sum of the RFC 7541 §4.1 entry sizes -/
def sumSizes (l : List Header) : Nat := (l.map Header.size).sum

@[simp] theorem sumSizes_nil : sumSizes [] = 0 := rfl
@[simp] theorem sumSizes_cons (h : Header) (l : List Header) :
    sumSizes (h :: l) = h.size + sumSizes l := by simp [sumSizes]

def Table.SizeOk (t : Table) : Prop := t.size = sumSizes t.entries

def Table.Inv (t : Table) : Prop := t.size = (t.entries.map Header.size).sum ∧ t.size ≤ t.maxSize

theorem Table.Inv.sizeOk {t : Table} (h : Table.Inv t) : Table.SizeOk t := h.1

instance (t : Table) : Decidable (Table.Inv t) := by unfold Table.Inv; infer_instance

theorem tableSize_eq (l : List Header) : Spec.Hpack.tableSize l = sumSizes l := by
  induction l with
  | nil => rfl
  | cons h t ih => simp [Spec.Hpack.tableSize, ih, Hpack.fieldSize_eq]

theorem sumSizes_evict_le (l : List Header) (m : Nat) : sumSizes (Spec.Hpack.evict l m) ≤ m := by
  rw [← tableSize_eq]; exact Hpack.tableSize_evict_le l m

theorem reserve_spec (t : Table) (n : Nat) (hs : Table.SizeOk t) :
    Table.SizeOk (t.reserve n) ∧ (t.reserve n).maxSize = t.maxSize ∧
    (t.reserve n).entries = Spec.Hpack.evict t.entries (t.maxSize - n) := by
  obtain ⟨h1, h2, h3⟩ := Hpack.reserve_go_evict n 0 _ t (by rw [tableSize_eq]; exact hs) (Nat.le_refl _)
  exact ⟨by rw [tableSize_eq] at h2; exact h2, h3, h1⟩

theorem insert_maxSize (t : Table) (h : Header) (hs : Table.SizeOk t) :
    (t.insert h).maxSize = t.maxSize := by
  obtain ⟨_, r2, _⟩ := reserve_spec t h.size hs
  unfold Table.insert
  simp only
  split <;> simp [r2]

/-- B — `insert` preserves the invariant -/
theorem insert_preserves_inv (t : Table) (h : Header) (hi : Table.Inv t) : Table.Inv (t.insert h) := by
  obtain ⟨r1, r2, r3⟩ := reserve_spec t h.size hi.sizeOk
  have r1' : (t.reserve h.size).size = sumSizes (t.reserve h.size).entries := r1
  unfold Table.insert
  simp only
  split
  · rename_i hfit
    refine ⟨?_, hfit⟩
    simp only [List.map_cons, List.sum_cons]
    unfold sumSizes at r1'
    omega
  · have := sumSizes_evict_le t.entries (t.maxSize - h.size)
    rw [← r3, ← r1'] at this
    exact ⟨r1, by omega⟩

/-- `insert` is the reference's §4.4 insertion -/
theorem insert_entries (t : Table) (h : Header) (hi : Table.Inv t) :
    (t.insert h).entries =
      (if h.size ≤ t.maxSize then h :: Spec.Hpack.evict t.entries (t.maxSize - h.size) else []) := by
  obtain ⟨r1, r2, r3⟩ := reserve_spec t h.size hi.sizeOk
  have r1' : (t.reserve h.size).size = sumSizes (t.reserve h.size).entries := r1
  have hsum := sumSizes_evict_le t.entries (t.maxSize - h.size)
  rw [← r3, ← r1'] at hsum
  unfold Table.insert
  simp only
  by_cases hle : h.size ≤ t.maxSize
  · rw [if_pos hle, if_pos (by omega), r3]
  · rw [if_neg hle, if_neg (by omega), r3, Nat.sub_eq_zero_of_le (by omega), Hpack.evict_zero]

/-- `consolidate` is `reserve(0)`'s loop, followed by the test that ends in the `panic!` -/
theorem consolidate_eq_reserve : ∀ (fuel : Nat) (t : Table),
    Table.consolidate fuel t =
      if (Table.reserve.go 0 fuel t).size > t.maxSize then none
      else some (Table.reserve.go 0 fuel t) := by
  intro fuel
  induction fuel with
  | zero => intro t; rfl
  | succ fuel ih =>
    intro t
    simp only [Table.consolidate, Table.reserve.go, Nat.add_zero]
    split
    · rename_i hgt
      split
      · exact ih _
      · rw [if_pos hgt]
    · rfl

theorem consolidate_spec (fuel : Nat) (t : Table) (hs : Table.SizeOk t) (hl : t.entries.length ≤ fuel) :
    ∃ r, Table.consolidate fuel t = some r ∧ Table.Inv r ∧ r.maxSize = t.maxSize ∧
      r.entries = Spec.Hpack.evict t.entries t.maxSize := by
  obtain ⟨h1, h2, h3⟩ := Hpack.reserve_go_evict 0 0 fuel t (by rw [tableSize_eq]; exact hs) hl
  have hle := sumSizes_evict_le t.entries t.maxSize
  rw [tableSize_eq] at h2
  simp only [Nat.add_zero, Nat.sub_zero] at h1 h2
  rw [← h1, ← h2] at hle
  exact ⟨_, by rw [consolidate_eq_reserve, if_neg (by omega)], ⟨h2, by omega⟩, h3, h1⟩

/-- B — `set_max_size` never reaches the `panic!` of `consolidate`, re-establishes the invariant,
    and is the reference's §4.3 eviction -/
theorem setMaxSize_spec (t : Table) (n : Nat) (hs : Table.SizeOk t) :
    ∃ r, t.setMaxSize n = some r ∧ Table.Inv r ∧ r.maxSize = n ∧
      r.entries = Spec.Hpack.evict t.entries n :=
  consolidate_spec _ { t with maxSize := n } hs (Nat.le_refl _)

/-- B — the `panic!` in `consolidate` is unreachable (only `size = Σ entry sizes` is needed) -/
theorem consolidate_ne_none (t : Table) (n : Nat) (hs : Table.SizeOk t) : t.setMaxSize n ≠ none := by
  obtain ⟨r, h, _⟩ := setMaxSize_spec t n hs
  rw [h]; simp

theorem setMaxSize_preserves_inv (t r : Table) (n : Nat) (hi : Table.Inv t)
    (h : t.setMaxSize n = some r) : Table.Inv r ∧ r.maxSize = n := by
  obtain ⟨r', h', i1, i2, _⟩ := setMaxSize_spec t n hi.sizeOk
  rw [h] at h'
  cases h'
  exact ⟨i1, i2⟩

/-- B — the table of a fresh decoder satisfies the invariant -/
theorem new_inv (n : Nat) : Table.Inv (Decoder.new n).table := by
  simp [Decoder.new, Table.Inv]

theorem get_eq_lookup (t : Table) (st : Spec.Hpack.St) (i : Nat) (he : st.entries = t.entries) :
    t.get i = (match Spec.Hpack.lookup st i with | some h => .ok h | none => .error .invalidTableIndex) := by
  unfold Table.get Spec.Hpack.lookup
  simp only [STATIC_LEN, DYN_OFFSET, H2V.Props.C11.static_table_is_rfc, he]
  split
  · rfl
  · split
    · split <;> simp_all
    · split <;> simp_all

end H2V.Lemmas.HpackDec
