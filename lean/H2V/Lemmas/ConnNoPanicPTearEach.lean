import H2V.Lemmas.ConnNoPanicPTear
/-
  C08 (no panic): `Store::try_for_each` / `for_each` (its index arithmetic never reads past the
  id map as long as the closure removes at most one entry), and the teardown functions built on it:
  `Inner::handle_error`, `Inner::recv_go_away`.
-/
namespace H2V.Lemmas.ConnNoPanicP
open H2V H2V.Model H2V.Model.Conn H2V.Lemmas.ConnCountsP

/-- **`Store::try_for_each` does not index past the id map**: `I` is any invariant the closure keeps when
    called on an entry of the id map; the closure may shorten the id map by at most one entry.
    (`Streams.tryForEach_inv` is the case of an `I` that survives `panic`; the full invariant does not.) -/
theorem tryForEach_inv {I : Streams → Prop} {f : Streams → Nat → Streams × Option PErr}
    (hf : ∀ t e, I t → e ∈ t.store.ids → I (f t e.2).1 ∧ t.store.ids.length ≤ (f t e.2).1.store.ids.length + 1) :
    ∀ (fuel i len : Nat) (s : Streams), I s → len ≤ s.store.ids.length → I (Streams.tryForEach f fuel i len s).1
  | 0, _, _, _, h, _ => h
  | fuel + 1, i, len, s, h, hlen => by
    unfold Streams.tryForEach
    split
    · split
      · next hn => have := List.getElem?_eq_none_iff.mp hn; omega
      · next sid id hget =>
        have := hf s (sid, id) h (List.mem_of_getElem? hget)
        split
        · next heq => rw [show f s (sid, id).2 = f s id from rfl, heq] at this; exact this.1
        · next heq =>
          rw [show f s (sid, id).2 = f s id from rfl, heq] at this
          dsimp only at this ⊢
          split
          · exact tryForEach_inv hf _ _ _ _ this.1 (by omega)
          · exact tryForEach_inv hf _ _ _ _ this.1 (by omega)
    · exact h

theorem storeTryForEach_inv {I : Streams → Prop} {f : Streams → Nat → Streams × Option PErr}
    (hf : ∀ t e, I t → e ∈ t.store.ids → I (f t e.2).1 ∧ t.store.ids.length ≤ (f t e.2).1.store.ids.length + 1)
    {s : Streams} (h : I s) : I (s.storeTryForEach f).1 :=
  tryForEach_inv hf _ _ _ s h (Nat.le_refl _)

theorem storeForEach_inv {I : Streams → Prop} {f : Streams → Nat → Streams}
    (hf : ∀ t e, I t → e ∈ t.store.ids → I (f t e.2) ∧ t.store.ids.length ≤ (f t e.2).store.ids.length + 1)
    {s : Streams} (h : I s) : I (s.storeForEach f) :=
  storeTryForEach_inv (f := fun s id => (f s id, none)) hf h

/-- the same loop with an accumulator -/
theorem tryForEachAcc_inv {I : Streams → Prop} {f : Nat → Streams → Nat → Streams × Nat × Option PErr}
    (hf : ∀ a t e, I t → e ∈ t.store.ids → I (f a t e.2).1 ∧ t.store.ids.length ≤ (f a t e.2).1.store.ids.length + 1) :
    ∀ (fuel i len acc : Nat) (s : Streams), I s → len ≤ s.store.ids.length → I (Streams.tryForEachAcc f fuel i len acc s).1
  | 0, _, _, _, _, h, _ => h
  | fuel + 1, i, len, acc, s, h, hlen => by
    unfold Streams.tryForEachAcc
    split
    · split
      · next hn => have := List.getElem?_eq_none_iff.mp hn; omega
      · next sid id hget =>
        have := hf acc s (sid, id) h (List.mem_of_getElem? hget)
        split
        · next heq => rw [show f acc s (sid, id).2 = f acc s id from rfl, heq] at this; exact this.1
        · next heq =>
          rw [show f acc s (sid, id).2 = f acc s id from rfl, heq] at this
          dsimp only at this ⊢
          split
          · exact tryForEachAcc_inv hf _ _ _ _ _ this.1 (by omega)
          · exact tryForEachAcc_inv hf _ _ _ _ _ this.1 (by omega)
    · exact h

theorem storeTryForEach_npe {E : Nat → Prop} {f : Streams → Nat → Streams × Option PErr}
    (hf : ∀ t k, NPE E t → Live t k → NPE E (f t k).1 ∧ t.store.ids.length ≤ (f t k).1.store.ids.length + 1)
    {s : Streams} (h : NPE E s) : NPE E (s.storeTryForEach f).1 :=
  storeTryForEach_inv (I := NPE E) (fun t e ht hm => hf t e.2 ht (ht.1.ids.live e hm).1) h

theorem storeForEach_npe {E : Nat → Prop} {f : Streams → Nat → Streams}
    (hf : ∀ t k, NPE E t → Live t k → NPE E (f t k) ∧ t.store.ids.length ≤ (f t k).store.ids.length + 1)
    {s : Streams} (h : NPE E s) : NPE E (s.storeForEach f) :=
  storeTryForEach_npe (f := fun s id => (f s id, none)) hf h

theorem tryForEachAcc_npe {E : Nat → Prop} {f : Nat → Streams → Nat → Streams × Nat × Option PErr}
    (hf : ∀ a t k, NPE E t → Live t k → NPE E (f a t k).1 ∧ t.store.ids.length ≤ (f a t k).1.store.ids.length + 1)
    {s : Streams} (h : NPE E s) (fuel acc : Nat) : NPE E (Streams.tryForEachAcc f fuel 0 s.store.ids.length acc s).1 :=
  tryForEachAcc_inv (I := NPE E) (fun a t e ht hm => hf a t e.2 ht (ht.1.ids.live e hm).1) _ _ _ _ s h (Nat.le_refl _)

/-- a light closure as a loop body: it leaves the id map as it is -/
theorem light_body {E : Nat → Prop} {ρ : Bool} {t t' : Streams} {k : Nat} (ht : NPE E t) (hk : Live t k)
    (hlt : LT [k] t t') (e : EvB ρ t t') (hE : ρ = true → ∀ k, ¬ E k) :
    NPE E t' ∧ t.store.ids.length ≤ t'.store.ids.length + 1 :=
  ⟨ht.light hlt (liveAll1 hk) e hE, by rw [hlt.ids]; omega⟩

/-- the closure of `handle_error` / `recv_go_away` (`g` = `Recv::handle_error`) and of `recv_eof` (`g` = `Recv::recv_eof`):
    `counts.transition` around two light steps.
    (`dsimp only` turns `(x, ()).1` into `x`; the unifier, asked to do it, unfolds the model functions in `x` first.) -/
theorem teardownClosure_npe {E : Nat → Prop} {s : Streams} {k : Nat} (g : Streams → Streams) (hlt : ∀ s, LT [k] s (g s))
    (hev : ∀ s, EvB false s (g s)) (h : NPE E s) (hk : Live s k) :
    NPE E (s.transition k fun s => ((g s).sendHandleError k, ())).1 ∧
    s.store.ids.length ≤ (s.transition k fun s => ((g s).sendHandleError k, ())).1.store.ids.length + 1 := by
  rw [Streams.transition_fst]
  dsimp only
  exact h.release ((hlt s).trans (sendHandleError_lt _ k) (fun _ h => h)) (liveAll1 hk)
    (.trans (hev s) (sendHandleError_ev (ρ := false) _ k)) noE k

theorem errClosure_npe {E : Nat → Prop} {s : Streams} (err : PErr) (k : Nat) (h : NPE E s) (hk : Live s k) :
    NPE E (s.transition k fun s => ((s.recvHandleError k err).sendHandleError k, ())).1 ∧
    s.store.ids.length ≤ (s.transition k fun s => ((s.recvHandleError k err).sendHandleError k, ())).1.store.ids.length + 1 :=
  teardownClosure_npe (·.recvHandleError k err) (recvHandleError_lt · k err)
    (fun s => .of_step (Streams.recvHandleError_step (by decide) s k err)) h hk

theorem setConnError_npe {E : Nat → Prop} {s : Streams} (o : Option PErr) (h : NPE E s) :
    NPE E { s with actions := { s.actions with connError := o } } :=
  h.light (ks := []) (.of_eqs rfl rfl rfl rfl) (liveAll0 s)
    (.free (ρ := false) ⟨rfl, CStep.refl _, fun q => by cases q <;> rfl, id, NextOK.refl _ _⟩) noE

theorem handleError_npe {E : Nat → Prop} {s : Streams} (h : NPE E s) (err : PErr) : NPE E (s.handleError err).1 := by
  unfold Streams.handleError
  exact setConnError_npe _ (storeForEach_npe (fun t k => errClosure_npe err k) h)

theorem handleError_npi {E : Nat → Prop} {s : Streams} (h : NPI E s) (he : ErrOK s) (err : PErr) :
    NPI E (s.handleError err).1 := (handleError_npe ⟨h, he⟩ err).1

theorem recvGoAwayFrame_npe {E : Nat → Prop} {s : Streams} (h : NPE E s) (last : Nat) (r : Reason) (d : Bytes) :
    NPE E (s.recvGoAwayFrame last r d).1 := by
  unfold Streams.recvGoAwayFrame
  have h1 : NPE E (s.sendRecvGoAway last).1 :=
    h.light (sendRecvGoAway_lt s last) (liveAll0 s) (EvB.of_step (ρ := false) (Streams.sendRecvGoAway_step (by decide) s last)) noE
  split
  · next heq => rw [heq] at h1; exact h1
  · next heq =>
    rw [heq] at h1
    refine setConnError_npe _ (storeForEach_npe (fun t k ht hk => ?_) h1)
    dsimp only
    split
    · exact errClosure_npe _ k ht hk
    · exact ⟨ht, by omega⟩

theorem recvGoAwayFrame_npi {E : Nat → Prop} {s : Streams} (h : NPI E s) (he : ErrOK s) (last : Nat) (r : Reason) (d : Bytes) :
    NPI E (s.recvGoAwayFrame last r d).1 := (recvGoAwayFrame_npe ⟨h, he⟩ last r d).1

end H2V.Lemmas.ConnNoPanicP
