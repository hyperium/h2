import H2V.Lemmas.ConnRecvPProto
import H2V.Lemmas.ConnPollRule
/-
  C03: `DynConnection::recv_frame`, `Connection::poll2`, `proto::Connection::poll`,
  `client::Connection::poll`, shutdown, lifted for any predicate closed under the stream-layer calls
  (see `ConnRecvPProto.lean`); then the initial connections, connection-level reachability (`CReach`)
  and the receive-window invariant for every reachable connection (`creach_inv`).
-/
namespace H2V.Lemmas.ConnRecvP
open H2V H2V.Model H2V.Model.Conn
open H2V.Model.Conn.Streams

variable {P : Streams → Prop}

theorem pinv_ite {p : Prop} [Decidable p] {a b : Conn} (ha : PInv P a) (hb : PInv P b) : PInv P (if p then a else b) := by
  split <;> assumption

theorem takeError_lift {c : Conn} (h : PInv P c) (o : Reason) (i : Initiator) : PInv P (c.takeError o i).1 := by
  unfold Conn.takeError
  dsimp only
  repeat' split
  all_goals exact h

theorem handleGoAway_lift (hP : OpClosed P) {c : Conn} (h : PInv P c) (r : Reason) (d : Bytes) (i : Initiator) :
    PInv P (c.handleGoAway r d i) := by
  unfold Conn.handleGoAway
  apply pinv_ite
  · exact h
  · dsimp only
    apply goAwayNowData_lift hP
    exact h.op hP (.handleError _) trivial

theorem handlePoll2Result_lift (hA : OpClosedAll P) {c : Conn} (h : PInv P c) (res : Except PErr Unit) : PInv P (c.handlePoll2Result res).1 := by
  have hP := hA.closed
  unfold Conn.handlePoll2Result
  split
  · exact h
  · exact handleGoAway_lift hP h _ _ _
  · split
    · exact h
    · rename_i id reason init _
      have h1 : PI P (c.streams.innerSendReset id reason).1 c.settings.loc :=
        ⟨hA _ (.innerSendReset id reason) trivial rfl h.1, h.2⟩
      split
      · rename_i heq; exact PI.fst heq h1
      · rename_i s g heq
        apply handleGoAway_lift hP
        exact PI.fst heq h1
  · dsimp only
    split <;> exact h.op hP (.handleError _) trivial

theorem lift_pinv {c : Conn} {α : Type} (r : Streams × Except PErr Unit) (hr : PI P r.1 c.settings.loc) (a : α) :
    PInv P (match r with
      | (s, .ok _) => ({ c with streams := s }, (Except.ok a : Except PErr α))
      | (s, .error e) => ({ c with streams := s }, Except.error e)).1 := by
  split <;> exact hr

/-- **`DynConnection::recv_frame`**: every frame the peer can send -/
theorem recvFrame_lift (hP : OpClosed P) {c : Conn} (h : PInv P c) (f : Option Frame.Frame) : PInv P (c.recvFrame f).1 := by
  unfold Conn.recvFrame
  dsimp only
  split
  · exact lift_pinv _ (h.op hP (.recvHeaders _) trivial) _
  · exact lift_pinv _ (h.op hP (.recvData _ _ _ _) trivial) _
  · exact lift_pinv _ (h.op hP (.recvReset _ _) trivial) _
  · exact lift_pinv _ (h.op hP (.recvPushPromise _ _) trivial) _
  · exact h
  · rename_i last code debug
    have := h.op hP (.recvGoAwayFrame last code debug) trivial
    split <;> (rename_i heq; exact PI.fst heq this)
  · -- PING
    rename_i ack payload
    have h1 : PI P (c.streams.wake (c.pingPong.recvPing ack payload).2.2.1) c.settings.loc := h.op hP (.wake _) trivial
    have h1' : PInv P { c with
        pingPong := (c.pingPong.recvPing ack payload).1,
        streams := c.streams.wake (c.pingPong.recvPing ack payload).2.2.1 } := h1
    have h2 := pinv_ite (p := (c.pingPong.recvPing ack payload).2.2.2 = true) h1' (panic_lift hP h1' "ping_pong assertion")
    generalize (if (c.pingPong.recvPing ack payload).2.2.2 = true then _ else Conn.panic _ "ping_pong assertion") = c2 at h2 ⊢
    split
    · apply dynGoAway_lift hP
      exact pinv_ite h2 (panic_lift hP h2 _)
    · exact h2
  · exact lift_pinv _ (h.op hP (.recvWindowUpdate _ _) trivial) _
  · exact h
  · exact h.op hP (.recvEof false) trivial

theorem pollInv (hA : OpClosedAll P) : ConnPoll.PollInv (PInv P) (fun c _ => PInv P c) :=
  have hP := hA.closed
  .simple (fun _ m _ h => panic_lift hP h m) (fun _ h => sendPendingGoAway_lift h) (fun _ h => pollReady_lift hP h)
    (fun _ _ h => h) (fun _ f h => recvFrame_lift hP h f) (fun _ a v h => recvSettings_lift hA h a v)
    (fun _ n h => h.op hP (.clearExpiredResetStreams n) trivial) (fun _ r h => handlePoll2Result_lift hA h r)
    (fun c n h => h.op hP (.pollComplete n c.codec.w c.codec.io c.cx) trivial)
    (fun _ e h => goAwayNow_lift hP h e) (fun _ _ _ h => h) (fun _ o i h => takeError_lift h o i)
    (fun _ h => h.op hP (.wake _) trivial)

/-- **`proto::Connection::poll`**: whatever the peer sent, however the transport chops it -/
theorem protoPoll_lift (hA : OpClosedAll P) (fuel : Nat) {c : Conn} (h : PInv P c) : PInv P (Conn.protoPoll fuel c).1 :=
  ConnPoll.protoPoll_inv (pollInv hA) fuel h

theorem clientPoll_lift (hA : OpClosedAll P) (fuel : Nat) {c : Conn} (h : PInv P c) : PInv P (Conn.clientPoll fuel c).1 :=
  ConnPoll.clientPoll_inv (pollInv hA) fuel h

theorem goAwayGracefully_lift (hP : OpClosed P) {c : Conn} (h : PInv P c) : PInv P c.goAwayGracefully := by
  unfold Conn.goAwayGracefully
  split
  · exact h
  · dsimp only
    have h1 := dynGoAway_lift hP h Conn.STREAM_ID_MAX NO_ERROR
    exact pinv_ite (panic_lift hP h1 _) h1

theorem goAwayFromUser_lift (hP : OpClosed P) {c : Conn} (h : PInv P c) (e : Reason) : PInv P (c.goAwayFromUser e) := by
  unfold Conn.goAwayFromUser
  dsimp only
  split
  · exact h.op hP (.handleError _) trivial
  · exact (h.op hP (.panic _) trivial).op hP (.handleError _) trivial


variable {T H : Nat}

/-- the builder was given legal window sizes (`initial_window_size`, `initial_connection_window_size`
    ≤ 2^31-1; the real builder panics on a larger connection window and does not check the stream
    window — see the notes) -/
def CfgValid (cfg : Conn.Cfg) : Prop :=
  (∀ v, cfg.iws = some v → v ≤ 2147483647) ∧ (∀ v, cfg.cws = some v → v ≤ 2147483647)

theorem settingsIws_cfg (cfg : Conn.Cfg) : settingsIws cfg.settings = cfg.iws := Conn.Cfg.settings_iws cfg

/-- the connection window the builder configured (`initial_connection_window_size`, default 65 535) -/
def cfgTarget (cfg : Conn.Cfg) : Nat := cfg.cws.getD 65535

-- `LocValid` is a `match` on its argument: with the constructors reducible, every elaboration against
-- `LocValid (Conn.initServer …).settings.loc` evaluates them, the server's flush included; they are known by their parts
attribute [local irreducible] Conn.init Conn.initServer

theorem init_locValid (cfg : Conn.Cfg) (hv : CfgValid cfg) : LocValid (Conn.init cfg).settings.loc := by
  rw [(Conn.init_parts cfg).2.2.1]
  intro t ht
  rw [settingsIws_cfg] at ht
  exact hv.1 t ht

theorem init_server_locValid (cfg : Conn.Cfg) (ecp : Bool) (pf : Bytes) (hv : CfgValid cfg) :
    LocValid (Conn.initServer cfg ecp pf).settings.loc := by
  rw [(Conn.initServer_parts cfg ecp pf).2.2.1]
  intro t ht
  have h4 : settingsIws ((({ cfg with push := none } : Conn.Cfg).settings) ++ (if ecp then [(8, 1)] else [])) = cfg.iws :=
    (Conn.find_append_ecp _ ecp (by decide)).trans (Conn.Cfg.settings_iws _)
  rw [h4] at ht
  exact hv.1 t ht

theorem init_cinv (cfg : Conn.Cfg) (hv : CfgValid cfg) : CInv (cfgTarget cfg) (max 65535 (cfgTarget cfg)) (Conn.init cfg) := by
  refine ⟨?_, init_locValid cfg hv⟩
  unfold cfgTarget
  cases hc : cfg.cws with
  | none => exact ⟨_, .init (init_client cfg hc), rfl, rfl⟩
  | some sz => exact ⟨_, init_client_cws cfg sz hc (hv.2 sz hc), rfl, rfl⟩

theorem init_server_cinv (cfg : Conn.Cfg) (ecp : Bool) (pf : Bytes) (hv : CfgValid cfg) :
    CInv (cfgTarget cfg) (max 65535 (cfgTarget cfg)) (Conn.initServer cfg ecp pf) := by
  refine ⟨?_, init_server_locValid cfg ecp pf hv⟩
  unfold cfgTarget
  cases hc : cfg.cws with
  | none => exact ⟨_, .init (init_server cfg ecp pf hc), rfl, rfl⟩
  | some sz => exact ⟨_, init_server_cws cfg ecp pf sz hc (hv.2 sz hc), rfl, rfl⟩


/-- what an application (or the harness) can do with a connection: drive it (`poll`), reconfigure
    the windows, shut it down, ping — and any call of the stream layer that the handles
    (`SendRequest`, `SendStream`, `RecvStream`, `ResponseFuture`, …) make directly -/
inductive COp where
  | protoPoll (fuel : Nat)
  | clientPoll (fuel : Nat)
  | setTargetWindowSize (size : Nat)
  | setInitialWindowSize (size : Nat)
  | goAwayGracefully
  | goAwayFromUser (e : Reason)
  | goAwayNow (e : Reason)
  | userSendPing
  | userPollPong (tag : String)
  | dropUserPingsRx
  | takeUserPings
  | handle (op : Op)

def COp.apply (c : Conn) : COp → Conn
  | .protoPoll fuel => (c.protoPoll fuel).1
  | .clientPoll fuel => (c.clientPoll fuel).1
  | .setTargetWindowSize size => c.setTargetWindowSize size
  | .setInitialWindowSize size => (c.setInitialWindowSize size).1
  | .goAwayGracefully => c.goAwayGracefully
  | .goAwayFromUser e => c.goAwayFromUser e
  | .goAwayNow e => c.goAwayNow e
  | .userSendPing => c.userSendPing.1
  | .userPollPong t => (c.userPollPong t).1
  | .dropUserPingsRx => c.dropUserPingsRx
  | .takeUserPings => c.takeUserPings.1
  | .handle op => { c with streams := op.apply c.streams }

/-- window sizes are legal (`set_target_window_size` / `set_initial_window_size` assert it); a
    handle does not reconfigure the connection window -/
def COp.valid (c : Conn) : COp → Prop
  | .setTargetWindowSize size => size ≤ 2147483647
  | .setInitialWindowSize size => size ≤ 2147483647
  | .handle op => op.valid c.streams ∧ op.keepsTarget = true
  | _ => True

def COp.target (T : Nat) : COp → Nat
  | .setTargetWindowSize size => size
  | _ => T
def COp.hi (H : Nat) : COp → Nat
  | .setTargetWindowSize size => max H size
  | _ => H

theorem COp.step_cinv {c : Conn} (h : CInv T H c) (op : COp) (hv : op.valid c) :
    CInv (op.target T) (op.hi H) (op.apply c) := by
  cases op with
  | protoPoll fuel => exact protoPoll_lift reachT_closed fuel h
  | clientPoll fuel => exact clientPoll_lift reachT_closed fuel h
  | setTargetWindowSize size => exact setTargetWindowSize_cinv h size hv
  | setInitialWindowSize size => exact setInitialWindowSize_lift h size hv
  | goAwayGracefully => exact goAwayGracefully_lift reachT_closed.closed h
  | goAwayFromUser e => exact goAwayFromUser_lift reachT_closed.closed h e
  | goAwayNow e => exact goAwayNow_lift reachT_closed.closed h e
  | userSendPing => exact userSendPing_lift reachT_closed.closed h
  | userPollPong t => exact userPollPong_lift h t
  | dropUserPingsRx => exact dropUserPingsRx_lift reachT_closed.closed h
  | takeUserPings => exact takeUserPings_lift h
  | handle op => exact ⟨reachT_closed _ op hv.1 hv.2 h.1, h.2⟩

/-- connections reachable from a new client or server connection; `T` = the connection window the
    application configured last, `H` = the largest one so far -/
inductive CReach : Nat → Nat → Conn → Prop where
  | client (cfg : Conn.Cfg) (hv : CfgValid cfg) : CReach (cfgTarget cfg) (max 65535 (cfgTarget cfg)) (Conn.init cfg)
  | server (cfg : Conn.Cfg) (ecp : Bool) (pf : Bytes) (hv : CfgValid cfg) :
      CReach (cfgTarget cfg) (max 65535 (cfgTarget cfg)) (Conn.initServer cfg ecp pf)
  | step {T H : Nat} {c : Conn} (op : COp) (h : CReach T H c) (hv : op.valid c) :
      CReach (op.target T) (op.hi H) (op.apply c)
  /-- the environment: anything but the stream layer and the SETTINGS bookkeeping may change in any
      way (octets arriving on the transport, the transport taking or refusing writes, wakers, …) -/
  | env {T H : Nat} {c c' : Conn} (h : CReach T H c) (hs : c'.streams = c.streams) (hl : c'.settings = c.settings) :
      CReach T H c'

theorem creach_cinv {c : Conn} (h : CReach T H c) : CInv T H c := by
  induction h with
  | client cfg hv => exact init_cinv cfg hv
  | server cfg ecp pf hv => exact init_server_cinv cfg ecp pf hv
  | step op _ hv ih => exact COp.step_cinv ih op hv
  | env _ hs hl ih => unfold CInv; rw [hs, hl]; exact ih

/-- **the stream layer of every reachable connection is in a `Reach` state** — whatever the peer
    sends, however the transport chops reads and writes, whatever the application does: the
    connection-level theorems of `H2V/Props/C03.lean` apply to it, with `target = T` -/
theorem creach_reach {c : Conn} (h : CReach T H c) : ∃ g, Reach g c.streams ∧ g.target = T ∧ g.hiTarget = H :=
  (creach_cinv h).1

theorem creach_inv {c : Conn} (h : CReach T H c) : ∃ g, Inv false g c.streams ∧ g.target = T ∧ g.hiTarget = H :=
  let ⟨g, hg, ht, hh⟩ := creach_reach h; ⟨g, reach_inv hg, ht, hh⟩

end H2V.Lemmas.ConnRecvP
