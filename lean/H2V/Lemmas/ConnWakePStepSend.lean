import H2V.Lemmas.ConnWakePGood
import H2V.Lemmas.ConnStepLoops
import H2V.Lemmas.ConnStepWrite
/-
  ConnWakeP — every step of the stream layer whose kinds are in `Step.kinds` is a `Step` (`Step.of_step`, one induction
  over `Streams.Step`; per entry `SStep.of_upd` / `SStep.of_updW`, by cases on the update).  So every model function whose
  footprint avoids parking a task, the bare append to `pending_recv` and `Stream::send_data` is a `Step`, by its `f_step`;
  the peeling tactic `i_auto` walks the few functions that are not, taking their callees from there.  `Good.of_step`: a
  step of the layer, of whatever kinds, keeps the store invariant.
-/
namespace H2V.Lemmas.ConnWakeP
open H2V H2V.Model H2V.Model.Conn

section
variable {cx : Option String}

theorem setQueued_inert (a : Stream) (q : QName) (v : Bool) : Inert a (a.setQueued q v) := by
  cases q <;> inert

theorem qPush_i (s : Streams) (q : QName) (k : Nat) : Step cx s (s.qPush q k).1 := by
  unfold Streams.qPush
  exact .ite_fst (.refl _ _) ((modStream_i s k _ ((setQueued_inert _ q true).sstep _)).trans (setQ_i _ q _))
theorem qPushFront_i (s : Streams) (q : QName) (k : Nat) : Step cx s (s.qPushFront q k).1 := by
  unfold Streams.qPushFront
  exact .ite_fst (.refl _ _) ((modStream_i s k _ ((setQueued_inert _ q true).sstep _)).trans (setQ_i _ q _))

/-- `inc_num_send_streams`, `inc_num_recv_streams`, `dec_num_streams`: assertions, a counter, the flag `is_counted` -/
theorem counted_i {s s1 s2 : Streams} {f : Counts → Counts} {v : Bool} (k : Nat) (h1 : Step cx s s1) (h2 : Step cx s1 s2) :
    Step cx s ((s2.modCounts f).modStream k fun st => { st with isCounted := v }) :=
  ((h1.trans h2).trans (modCounts_i s2 f)).trans (modStream_i _ k _ (Inert.sstep (by inert) _))

/-- the kinds of update a `Step` survives: all but parking a task, which fills a waker slot (`poll_capacity`'s clearing of
    `send_capacity_inc` comes with it), and the two updates that are a step only together with what follows them: the
    append to `pending_recv` before its `notify_recv` (`modStreamW_pushed_i`), `Stream::send_data` in `pop_frame` before
    its tags are written to the wake log (`pfData_i`) -/
def Step.kinds : Kind → Bool
  | .park | .appendRecv | .chargeData => false
  | _ => true

theorem SStep.of_upd {x y : Stream} (h : Stream.Upd Step.kinds x y) : SStep [] x y := by
  cases h with
  | waitSend _ h | waitOpen _ h | recvTask _ h | pushTask _ h | pushRecv _ h | sendData _ _ h | capacityIncSeen h =>
    exact absurd h (by decide)
  | state v t | reserved v t => exact .of_quiet _ rfl rfl rfl rfl rfl rfl rfl ⟨0, rfl⟩ (stateOK_of t)
  | popRecv e rest _ e => exact .of_quiet _ rfl rfl rfl rfl rfl rfl rfl ⟨1, by rw [e]; rfl⟩ (.refl _)
  | clearRecv =>
    exact .of_quiet _ rfl rfl rfl rfl rfl rfl rfl ⟨x.pendingRecv.length, by rw [List.drop_length]⟩ (.refl _)
  | decContentLength _ _ e => obtain ⟨_, rfl⟩ := Stream.decContentLength_eq e; exact Inert.sstep (by inert) _
  | _ => exact Inert.sstep (by inert) _

theorem Step.of_step {s s' : Streams} (h : Streams.Step Step.kinds s s') : Step cx s s' := by
  induction h with
  | refl s => exact .refl _ s
  | trans _ _ ih1 ih2 => exact ih1.trans ih2
  | panic s m => exact panic_i s m
  | unsup s m =>
    unfold Streams.unsup; split
    · exact .refl _ _
    · exact .of_frame rfl rfl rfl id rfl
  | wake s t => exact wake_i s t
  | notifyTask s => exact notifyTask_i s
  | setTask s t _ h => exact absurd h (by decide)
  | setConnError s e => exact setConnError_i s e
  | setRefs s n => exact setRefs_i s n
  | modPrio s f h => exact .of_frame rfl rfl rfl id (by show (f _).maxBufferSize = _; generalize f _ = q at h; cases h <;> rfl)
  | modSend s f h => exact .of_frame rfl rfl rfl id (by show (f _).prioritize.maxBufferSize = _; generalize f _ = q at h; cases h <;> rfl)
  | modRecv s f => exact modRecv_i s f
  | setCounts s c => exact setCounts_i s c
  | qPush s q k => exact qPush_i s q k
  | qPushFront s q k => exact qPushFront_i s q k
  | qPop s q =>
    unfold Streams.qPop; split
    · exact .refl _ _
    · exact (setQ_i s q _).trans (modStream_i _ _ _ ((setQueued_inert _ q false).sstep _))
  | incNumSendStreams s k =>
    unfold Streams.incNumSendStreams; exact counted_i k (.ite (.refl _ _) (panic_i _ _)) (.ite (panic_i _ _) (.refl _ _))
  | incNumRecvStreams s k =>
    unfold Streams.incNumRecvStreams; exact counted_i k (.ite (.refl _ _) (panic_i _ _)) (.ite (panic_i _ _) (.refl _ _))
  | decNumStreams s k =>
    unfold Streams.decNumStreams
    exact .ite (counted_i k (.ite (.refl _ _) (panic_i _ _)) (.ite (.refl _ _) (panic_i _ _)))
      (counted_i k (.ite (.refl _ _) (panic_i _ _)) (.ite (.refl _ _) (panic_i _ _)))
  | modStream s k f h => exact modStream_i s k f (.of_upd h)
  | modStreamW s k f h => exact modStreamW_i s k f (.of_updW h)
  | setStream s x h => exact setStream_i x.key x (.of_upd h)
  | insert s | insertWith s => exact insert_i s _
  | undoInsert s id k => exact unlinkRemove_i s id k
  | unlink s id => exact unlink_i s id
  | remove s k n => exact remove_i s k n

theorem Good.of_mod {s t : Streams} {k : Nat} {f : Stream → Stream} (g : Good s) (e : t.store = s.store.mod k f)
    (hk : ∀ x, (f x).key = x.key) (hi : ∀ x, (f x).id = x.id) : Good t :=
  (modStream_good_id k f (hk _) (hi _) g).of_store_eq (e.trans (Streams.modStream_store s k f).symm)

theorem Good.of_step {K : Kind → Bool} {s s' : Streams} (h : Streams.Step K s s') (g : Good s) : Good s' := by
  induction h with
  | refl => exact g
  | trans _ _ ih1 ih2 => exact ih2 (ih1 g)
  | panic s m => exact panic_good m g
  | unsup s m => exact g.of_store_eq (Streams.unsup_store s m)
  | notifyTask s => exact g.of_store_eq (Streams.notifyTask_store s)
  | wake | setTask | setConnError | setRefs | modPrio | modSend | modRecv | setCounts => exact g.of_store_eq rfl
  | qPush s q k =>
    have e := Streams.qPush_store s q k
    split at e
    · exact g.of_store_eq e
    · exact g.of_mod e (fun x => x.setQueued_key q true) (fun x => x.setQueued_id q true)
  | qPushFront s q k =>
    have e := Streams.qPushFront_store s q k
    split at e
    · exact g.of_store_eq e
    · exact g.of_mod e (fun x => x.setQueued_key q true) (fun x => x.setQueued_id q true)
  | qPop s q =>
    unfold Streams.qPop; split
    · exact g
    · exact modStream_good_id _ _ (Stream.setQueued_key _ q false) (Stream.setQueued_id _ q false)
        (g.of_store_eq (Streams.setQ_store s q _))
  | incNumSendStreams s k => exact g.of_mod (Streams.incNumSendStreams_store s k) (fun _ => rfl) (fun _ => rfl)
  | incNumRecvStreams s k => exact g.of_mod (Streams.incNumRecvStreams_store s k) (fun _ => rfl) (fun _ => rfl)
  | decNumStreams s k => exact g.of_mod (Streams.decNumStreams_store s k) (fun _ => rfl) (fun _ => rfl)
  | modStream s k f u => exact modStream_good_id k f u.key u.id g
  | modStreamW s k f u =>
    exact (modStream_good_id k (fun x => (f x).1) u.key u.id g).of_store_eq (by rw [Streams.modStreamW_store, Streams.modStream_store])
  | setStream s x u => exact setStream_good' x u.id g
  | insert s | insertWith s => exact insert_good _ g
  | undoInsert s id k => exact remove_good k s.recvBufferLeaked (unlink_good id g)
  | unlink s id => exact unlink_good id g
  | remove s k n => exact remove_good k n g

theorem queueFrame_i (s : Streams) (k : Nat) (f : SFrame) : Step cx s (s.queueFrame k f) :=
  .of_step (Streams.queueFrame_step (of_decide_eq_true rfl) s k)

/-- side goals of the walk: a footprint or a kind against `Step.kinds`; what a direct `modStream` / `modStreamW` /
    `setStream` does to the entry, from the shape of the update (`upd_tac`) -/
syntax "i_side" : tactic
macro_rules | `(tactic| i_side) => `(tactic| (with_reducible (first | show Kind.Has _ _ | show Step.kinds _ = true); decide))
macro_rules | `(tactic| i_side) => `(tactic| upd_tac)
macro_rules | `(tactic| i_side) => `(tactic| (refine SStep.of_upd ?_; upd_tac))
macro_rules | `(tactic| i_side) => `(tactic| (refine SStep.of_updW (K := Step.kinds) ?_; upd_tac))
macro_rules | `(tactic| i_side) => `(tactic| with_reducible assumption)

syntax "i_step" : tactic
macro_rules | `(tactic| i_step) => `(tactic| open H2V.Model.Conn.Streams in rel_head Step "_i" via Step.of_step "_step" =>
    (with_reducible first
      | refine Step.trans ?_ (setCounts_i _ _) | refine Step.trans ?_ (setConnError_i _ _)
      | refine Step.trans ?_ (setRefs_i _ _) | refine Step.trans ?_ (insert_i _ _) | refine Step.trans ?_ (unlinkRemove_i _ _ _))
  on_ite (with_reducible first | refine Step.ite ?_ ?_ | refine Step.ite_fst ?_ ?_))
macro_rules | `(tactic| i_step) => `(tactic| with_reducible refine Step.of_fst (by with_reducible assumption) ?_)
macro_rules | `(tactic| i_step) => `(tactic| with_reducible assumption)
macro_rules | `(tactic| i_step) => `(tactic| with_reducible exact Step.refl _ _)

/-- `Step cx s0 (f … s …)` by peeling the calls from the outside in (`rel_head`): a callee's own lemma `g_i`, else
    `Step.of_step` of its `g_step`, whose footprint is then checked against `Step.kinds` -/
macro "i_auto" : tactic => `(tactic| repeat (first | i_step | i_side | intro _ | split | dsimp only))
macro "i_auto_ih" ih:ident : tactic =>
  `(tactic| repeat (first | i_step | with_reducible refine Step.trans ?_ ($ih ..) | i_side | intro _ | split | dsimp only))

/-- the DATA arm of `pop_frame`: the entry `send_data` returns is put back and its tags are written to the wake log -/
theorem pfData_i (sd : Stream → Nat → Nat → Stream × List String × Bool)
    (hsd : ∀ a len m, SStep (sd a len m).2.1 a (sd a len m).1) (s : Streams) (k len : Nat) (rest : List SFrame) :
    Step cx s (pfData sd s k len rest) := by
  unfold pfData
  dsimp only
  generalize hs1 : s.modStream k _ = s1
  have h1 : Step cx s s1 := hs1 ▸ modStream_i s k _ (Inert.sstep (by inert) _)
  have hs := hsd (s1.stream k) len s1.prio.maxBufferSize
  generalize sd (s1.stream k) len s1.prio.maxBufferSize = p at hs ⊢
  obtain ⟨b, w, f⟩ := p
  have h2 := h1.trans (setStream_wake_i k b w hs)
  generalize (s1.setStream b).wake w = s2 at h2 ⊢
  i_auto

theorem popFrameC_i (sd : Stream → Nat → Nat → Stream × List String × Bool)
    (hsd : ∀ a len m, SStep (sd a len m).2.1 a (sd a len m).1) (n : Nat) :
    ∀ (s : Streams) (m : Nat), Step cx s (popFrameC sd n s m).1 := by
  induction n with
  | zero => intro s m; rw [popFrameC_zero]; exact .refl _ _
  | succ n ih =>
    intro s m; rw [popFrameC_succ]
    -- the recursive call behind a variable: the walk must not take `popFrameC` for a callee
    generalize popFrameC sd n = r at ih ⊢
    i_auto_ih ih

theorem popFrame_i (n : Nat) (s : Streams) (m : Nat) : Step cx s (Streams.popFrame n s m).1 := by
  rw [popFrameC.eq]; exact popFrameC_i _ sendData_sstep n s m

theorem prioBufferPendingLoop_i (n : Nat) (s : Streams) (w : Writer) : Step cx s (Streams.prioBufferPendingLoop n s w).1 :=
  Streams.prioBufferPendingLoop_rel (Step.relOK cx)
    (Streams.bufferPendingOpen_rel (Step.relOK cx) (fun s => .of_step (Streams.popPendingOpen_step (by decide) s))
      (fun s k => qPushFront_i s _ k) fun s k => .of_step (Streams.tryAssignCapacity_step (by decide) s k))
    popFrame_i (fun s w f => .of_step (Streams.bufferOut_step (by decide) s w f))
    (fun s w => .of_step (Streams.reclaimFrame_step (by decide) s w)) n s w
theorem prioBufferPending_i (n : Nat) (s : Streams) (w : Writer) : Step cx s (Streams.prioBufferPending n s w).1 :=
  Streams.prioBufferPending_rel (Step.relOK cx) (fun s w => .of_step (Streams.reclaimFrame_step (by decide) s w))
    prioBufferPendingLoop_i n s w
theorem bufferPending_i (n : Nat) (s : Streams) (w : Writer) : Step cx s (Streams.bufferPending n s w).1 :=
  Streams.bufferPending_rel (Step.relOK cx) (fun s w => .of_step (Streams.recvBufferPending_step (by decide) s w))
    prioBufferPending_i n s w

end
end H2V.Lemmas.ConnWakeP
