import H2V.Lemmas.ConnResetPEvolve
import H2V.Lemmas.ConnStepLoops
import H2V.Lemmas.ConnStepWrite
/-
  ConnResetP — `Evolves` along a step of the stream layer (`Evolves.of_step`: one induction over `Streams.Step`, given
  what the updates of the allowed kinds do to one entry), and its instance for an arbitrary per-stream relation `P`
  (class `Good`): the kinds `coreK` never touch the core fields (`key`, `id`, `state`, `pendingSend`, `refCount`) of any
  slab entry, so every model function whose footprint lies in `coreK` keeps `Evolves P N a ·.store` — the queues, the
  counters, `transition_after`, the whole capacity machinery of prioritize.rs, the receive-side bookkeeping of recv.rs
  that does not move the state machine.  `ev` finds those through `f_step`.
-/
set_option linter.unusedSectionVars false

namespace H2V.Lemmas.ConnResetP
open H2V H2V.Model H2V.Model.Conn

section
variable {P : Stream → Stream → Prop} {N : Stream → Prop} [Good P N] {a : Store} {s : Streams}

export H2V.Model.Conn.Streams (setQ_store)
attribute [simp, crp_store] Streams.setQ_store
@[simp] theorem setQ_counts (s : Streams) (q : QName) (l : List Nat) : (s.setQ q l).counts = s.counts := by
  cases q <;> rfl

theorem coreEq_setQueued (st : Stream) (q : QName) (v : Bool) : CoreEq st (st.setQueued q v) := by
  cases q <;> exact ⟨rfl, rfl, rfl, rfl, rfl⟩

macro_rules | `(tactic| core_tac) => `(tactic| exact coreEq_setQueued _ _ _)

theorem coreEq_notifySend (st : Stream) : CoreEq st st.notifySend.1 := by
  rw [st.notifySend_fst]; exact ⟨rfl, rfl, rfl, rfl, rfl⟩
theorem coreEq_notifyRecv (st : Stream) : CoreEq st st.notifyRecv.1 := by
  rw [st.notifyRecv_fst]; exact ⟨rfl, rfl, rfl, rfl, rfl⟩
theorem coreEq_notifyPush (st : Stream) : CoreEq st st.notifyPush.1 := by
  rw [st.notifyPush_fst]; exact ⟨rfl, rfl, rfl, rfl, rfl⟩
theorem coreEq_notifyCapacity (st : Stream) : CoreEq st st.notifyCapacity.1 := by
  rw [st.notifyCapacity_fst]; exact ⟨rfl, rfl, rfl, rfl, rfl⟩
theorem coreEq_assignCapacity (st : Stream) (c m : Nat) : CoreEq st (st.assignCapacity c m).1 := by
  rw [st.assignCapacity_fst]; split <;> exact ⟨rfl, rfl, rfl, rfl, rfl⟩

macro_rules | `(tactic| core_tac) => `(tactic| exact coreEq_notifyRecv _)

/-- "`Evolves P N a ·.store` is kept", in the form the loop lemmas take a relation -/
theorem evolves_relOK : RelOK fun s t : Streams => Evolves P N a s.store → Evolves P N a t.store :=
  RelOK.of_pred fun s m h => by rw [panic_store]; exact h

theorem qPush_ev (h : Evolves P N a s.store) (q : QName) (id : Nat) : Evolves P N a (s.qPush q id).1.store := by
  unfold Streams.qPush; ev

theorem qPop_ev (h : Evolves P N a s.store) (q : QName) : Evolves P N a (s.qPop q).1.store := by
  unfold Streams.qPop; ev

theorem isReleased_removable {st : Stream} (h : st.isReleased = true) : Removable st := by
  unfold Stream.isReleased Stream.isClosed at h
  simp only [Bool.and_eq_true] at h
  exact ⟨List.isEmpty_iff.mp h.1.1.1.1.1.1.1.1.2, by simpa using h.1.1.1.1.1.1.2⟩

/-- the part of `transition_after` before the release test -/
def taPrefix (s : Streams) (id : Nat) (isResetCounted : Bool) : Streams :=
  let st := s.stream id
  let s :=
    if isResetCounted && !st.isPendingResetExpiration then
      s.modCountsA "self.num_local_reset_streams > 0" Counts.decNumResetStreams
    else s
  if st.isClosed then
    let s := if !st.isPendingResetExpiration then { s with store := s.store.unlink st.id } else s
    if !st.state.isScheduledReset && st.isCounted then s.decNumStreams id else s
  else s

/-- an entry that goes was released, hence `Removable` -/
theorem Evolves.of_step {K : Kind → Bool} (hI : K .insert = false) (hP : ∀ x y, Stream.Upd K x y → P x y)
    (hW : ∀ x p, Stream.UpdW K x p → P x p.1) {s s' : Streams} (t : Streams.Step K s s') (h : Evolves P N a s.store) : Evolves P N a s'.store := by
  induction t with
  | refl => exact h
  | trans _ _ ih1 ih2 => exact ih2 (ih1 h)
  | panic s m => rw [panic_store]; exact h
  | unsup s m => rw [unsup_store]; exact h
  | notifyTask s _ => rw [notifyTask_store]; exact h
  | wake | setTask | setConnError | setRefs | modPrio | modSend | modRecv | setCounts => exact h
  | qPush s q k _ => exact qPush_ev h q k
  | qPushFront s q k _ => unfold Streams.qPushFront; ev
  | qPop s q _ => exact qPop_ev h q
  | incNumSendStreams s k _ => unfold Streams.incNumSendStreams; ev
  | incNumRecvStreams s k _ => unfold Streams.incNumRecvStreams; ev
  | decNumStreams s k => unfold Streams.decNumStreams; ev
  | modStream s k f u =>
    rw [modStream_store]
    exact h.mod k f fun st hg => by have := hP _ _ u; rwa [Streams.stream_of_get? hg] at this
  | modStreamW s k f u =>
    rw [modStreamW_store]
    exact h.mod k _ fun st hg => by have := hW _ _ u; rwa [Streams.stream_of_get? hg] at this
  | setStream s x u => exact h.set x fun st hg => by have := hP _ _ u; rwa [Streams.stream_of_get? hg] at this
  | insert _ _ _ _ hk | insertWith _ _ _ _ _ hk | undoInsert _ _ _ hk => cases hI.symm.trans hk
  | unlink s id _ => exact h.unlink id
  | remove s k n _ hr _ =>
    exact h.remove k fun _ st hg => isReleased_removable (by rwa [Streams.stream_of_get? hg] at hr)

/-- the kinds of update that leave `key`, `id`, `state`, `pending_send` and `ref_count` of every entry alone and create
    none: all but a new entry, a state function, a change of `pending_send`, a handle taken or dropped -/
def coreK : Kind → Bool
  | .insert | .state _ | .frame _ | .popFrame | .clearSend | .refInc | .refDec => false
  | _ => true

theorem coreEq_sendData (x : Stream) (n m : Nat) : CoreEq x (x.sendData n m).1 := by
  rw [Stream.sendData_fst]; split <;> exact ⟨rfl, rfl, rfl, rfl, rfl⟩

theorem coreEq_decContentLength {x y : Stream} {n : Nat} (h : x.decContentLength n = some y) : CoreEq x y := by
  unfold Stream.decContentLength at h
  repeat' split at h
  all_goals first | cases h; exact ⟨rfl, rfl, rfl, rfl, rfl⟩ | cases h

theorem CoreEq.of_updW {x : Stream} {p : Stream × List String} (w : Stream.UpdW coreK x p) : CoreEq x p.1 := by
  cases w with
  | notifySend => exact coreEq_notifySend x
  | notifyRecv => exact coreEq_notifyRecv x
  | notifyPush => exact coreEq_notifyPush x
  | notifyCapacity => exact coreEq_notifyCapacity x
  | assignCapacity c m _ => exact coreEq_assignCapacity x c m
  | setReset r i h => obtain ⟨f, hf⟩ := h.kind; cases hf

theorem CoreEq.of_upd {x y : Stream} (u : Stream.Upd coreK x y) : CoreEq x y := by
  cases u with
  | state v h | reserved v h _ => obtain ⟨f, hf⟩ := h.kind; cases hf
  | sendData n m _ _ => exact coreEq_sendData x n m
  | decContentLength n _ h => exact coreEq_decContentLength h
  | refInc hk | refDec hk | pushSend _ hk | unpopData _ _ hk | popSend _ _ hk _ | dropSend hk | clearSend hk | keepOnlyHead hk => cases hk
  | _ => exact ⟨rfl, rfl, rfl, rfl, rfl⟩

theorem Evolves.of_step_core {s s' : Streams} (t : Streams.Step coreK s s') (h : Evolves P N a s.store) :
    Evolves P N a s'.store :=
  Evolves.of_step rfl (fun _ _ u => Good.core (CoreEq.of_upd u)) (fun _ _ w => Good.core (CoreEq.of_updW w)) t h

theorem transitionAfter_ev (h : Evolves P N a s.store) (id : Nat) (b : Bool) : Evolves P N a (s.transitionAfter id b).store :=
  Evolves.of_step_core (Streams.transitionAfter_step (by decide) s id b) h

theorem storeTryForEach_ev (f : Streams → Nat → Streams × Option PErr)
    (hf : ∀ (s : Streams) (id : Nat), Evolves P N a s.store → Evolves P N a (f s id).1.store)
    (h : Evolves P N a s.store) : Evolves P N a (s.storeTryForEach f).1.store :=
  Streams.storeTryForEach_rel evolves_relOK s f hf h

theorem transition_ev {α : Type} (id : Nat) (f : Streams → Streams × α)
    (hf : Evolves P N a (f s).1.store) : Evolves P N a (s.transition id f).1.store :=
  Streams.transition_inv (P := fun s => Evolves P N a s.store) hf (fun _ b h => transitionAfter_ev h id b)

end
end H2V.Lemmas.ConnResetP
