import H2V.Lemmas.ConnNoPanicPTearEof
/-
  C08 (no panic): SETTINGS.  `Send::apply_remote_settings` / `Recv::apply_local_settings` walk
  the store with light closures.
-/
namespace H2V.Lemmas.ConnNoPanicP
open H2V H2V.Model H2V.Model.Conn H2V.Lemmas.ConnCountsP

theorem modSend_npe {E : Nat → Prop} {s : Streams} (h : NPE E s) (f : Send → Send)
    (hp : ∀ p, (f p).prioritize = p.prioritize) (hn : (f s.actions.send).nextStreamId = s.actions.send.nextStreamId) :
    NPE E (s.modSend f) :=
  h.light (modSend_lt (ks := []) s f hp) (liveAll0 s) (modSend_ev (ρ := false) s f hp (by rw [hn]; exact NextOK.refl _ _)) noE

theorem sarsWindow_npe {E : Nat → Prop} {s : Streams} (h : NPE E s) (val : Nat) : NPE E (s.sarsWindow val).1 := by
  unfold Streams.sarsWindow
  dsimp only
  have h2 : NPE E (s.modSend fun sd => { sd with initWindowSz := val }) := modSend_npe h _ (fun _ => rfl) rfl
  generalize (s.modSend fun sd => { sd with initWindowSz := val }) = s2 at h2 ⊢
  split
  · unfold Streams.sarsLess
    have h3 := tryForEachAcc_npe (f := Streams.decStreamWindow (s.actions.send.initWindowSz - val))
      (fun a t k ht hk => light_body ht hk (decStreamWindow_lt _ a t k) (EvB.of_step (ρ := false) (Streams.decStreamWindow_step (by decide) _ a t k)) noE)
      h2 (2 * s2.store.ids.length + 1) 0
    split
    · next heq => rw [heq] at h3; exact h3
    · next s3 total heq =>
      rw [heq] at h3
      exact h3.light (assignConnectionCapacity_lt s3 total) (liveAll0 _) (EvB.of_step (ρ := false) (Streams.assignConnectionCapacity_step (by decide) s3 total)) noE
  · split
    · unfold Streams.sarsMore
      refine storeTryForEach_npe (fun t k ht hk => ?_) h2
      have := light_body ht hk (sendRecvStreamWindowUpdate_lt t k (val - s.actions.send.initWindowSz))
        (EvB.of_step (ρ := false) (Streams.sendRecvStreamWindowUpdate_step (by decide) t k _)) noE
      split
      · next heq => rw [heq] at this; exact this
      · next heq => rw [heq] at this; exact this
    · exact h2

theorem sendApplyRemoteSettings_npe {E : Nat → Prop} {s : Streams} (h : NPE E s) (a b c : Option Nat) :
    NPE E (s.sendApplyRemoteSettings a b c).1 := by
  rw [Streams.sendApplyRemoteSettings_eq]
  have hc : NPE E (s.sarsConnect c) := by
    unfold Streams.sarsConnect; split
    · exact modSend_npe h _ (fun _ => rfl) rfl
    · exact h
  have hp : ∀ {t : Streams}, NPE E t → NPE E (t.sarsPush b) := fun ht => by
    unfold Streams.sarsPush; split
    · exact modSend_npe ht _ (fun _ => rfl) rfl
    · exact ht
  split
  · exact hp hc
  · next val =>
    have h2 := sarsWindow_npe hc val
    generalize Streams.sarsWindow _ val = p at h2 ⊢
    obtain ⟨s2, res⟩ := p
    dsimp only at h2 ⊢
    split
    · exact h2
    · exact hp h2

theorem sendApplyRemoteSettings_npi {E : Nat → Prop} {s : Streams} (h : NPI E s) (he : ErrOK s) (a b c : Option Nat) :
    NPI E (s.sendApplyRemoteSettings a b c).1 := (sendApplyRemoteSettings_npe ⟨h, he⟩ a b c).1

theorem applyRemoteSettings_npe {E : Nat → Prop} {s : Streams} (h : NPI E s) (he : ErrOK s) (vals : List (Nat × Nat)) (b : Bool) :
    NPE E (s.applyRemoteSettings vals b).1 := by
  unfold Streams.applyRemoteSettings
  dsimp only
  have hc : ∀ o, CStep s.counts (s.counts.applyRemoteSettings o b) := by
    intro o
    unfold Counts.applyRemoteSettings
    split
    · exact ⟨rfl, rfl, rfl, rfl, rfl, rfl, rfl, rfl, .inl rfl, .inl (Nat.le_refl _)⟩
    · split
      · exact ⟨rfl, rfl, rfl, rfl, rfl, rfl, rfl, rfl, .inl rfl, .inl (Nat.le_refl _)⟩
      · exact CStep.refl _
  have h1 : NPE E (s.modCounts fun c => c.applyRemoteSettings ((vals.find? (·.1 = 3)).map (·.2)) b) := by
    refine NPE.light (ks := []) ⟨h, he⟩ (modCounts_lt s _ ?_) (liveAll0 s) (modCounts_ev (ρ := false) s _ (hc _)) noE
    unfold Counts.applyRemoteSettings
    split
    · exact ⟨rfl, rfl⟩
    · split <;> exact ⟨rfl, rfl⟩
  exact sendApplyRemoteSettings_npe h1 _ _ _

theorem applyRemoteSettings_npi {E : Nat → Prop} {s : Streams} (h : NPI E s) (he : ErrOK s) (vals : List (Nat × Nat)) (b : Bool) :
    NPI E (s.applyRemoteSettings vals b).1 := (applyRemoteSettings_npe h he vals b).1

theorem alsDec_lt (dec : Nat) (s : Streams) (k : Nat) : LT [k] s (Streams.alsDec dec s k).1 := by
  unfold Streams.alsDec; lt_auto
theorem alsInc_lt (inc : Nat) (s : Streams) (k : Nat) : LT [k] s (Streams.alsInc inc s k).1 := by
  unfold Streams.alsInc; lt_auto

theorem modRecv_npe {E : Nat → Prop} {s : Streams} (h : NPE E s) (f : Recv → Recv)
    (hq : ∀ p, (f p).pendingWindowUpdates = p.pendingWindowUpdates ∧ (f p).pendingAccept = p.pendingAccept ∧
      (f p).pendingResetExpired = p.pendingResetExpired) : NPE E (s.modRecv f) :=
  h.light (modRecv_lt (ks := []) s f) (liveAll0 s) (modRecv_ev (ρ := false) s f hq) noE

theorem applyLocalSettings_npe {E : Nat → Prop} {s : Streams} (h : NPE E s) (a b : Option Nat) :
    NPE E (s.applyLocalSettings a b).1 := by
  rw [Streams.applyLocalSettings_eq]
  have h1 : NPE E (s.alsConnect b) := by
    unfold Streams.alsConnect; split
    · exact modRecv_npe h _ (fun _ => ⟨rfl, rfl, rfl⟩)
    · exact h
  split
  · exact h1
  · next target =>
    have h3 : NPE E ((s.alsConnect b).alsWindow target).1 := by
      unfold Streams.alsWindow Streams.alsLoop
      have h2 := modRecv_npe h1 (fun r => { r with initWindowSz := target }) (fun _ => ⟨rfl, rfl, rfl⟩)
      split
      · exact storeTryForEach_npe (fun t k ht hk => light_body ht hk (alsDec_lt _ t k)
          (EvB.of_step (ρ := false) (Streams.alsDec_step (by decide) _ t k)) noE) h2
      · split
        · exact storeTryForEach_npe (fun t k ht hk => light_body ht hk (alsInc_lt _ t k)
            (EvB.of_step (ρ := false) (Streams.alsInc_step (by decide) _ t k)) noE) h2
        · exact h2
    generalize Streams.alsWindow _ target = p at h3 ⊢
    obtain ⟨s3, res⟩ := p
    dsimp only at h3 ⊢
    split <;> exact h3

theorem applyLocalSettings_npi {E : Nat → Prop} {s : Streams} (h : NPI E s) (he : ErrOK s) (a b : Option Nat) :
    NPI E (s.applyLocalSettings a b).1 := (applyLocalSettings_npe ⟨h, he⟩ a b).1

theorem applyLocalSettingsFrame_npe {E : Nat → Prop} {s : Streams} (h : NPI E s) (he : ErrOK s) (vals : List (Nat × Nat)) :
    NPE E (s.applyLocalSettingsFrame vals).1 := by
  unfold Streams.applyLocalSettingsFrame
  exact applyLocalSettings_npe ⟨h, he⟩ _ _

theorem applyLocalSettingsFrame_npi {E : Nat → Prop} {s : Streams} (h : NPI E s) (he : ErrOK s) (vals : List (Nat × Nat)) :
    NPI E (s.applyLocalSettingsFrame vals).1 := (applyLocalSettingsFrame_npe h he vals).1

end H2V.Lemmas.ConnNoPanicP
