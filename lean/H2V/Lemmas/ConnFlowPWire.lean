import H2V.Model.Frame
import H2V.Lemmas.CodecDecoded
import H2V.Lemmas.ConnFlowPReach
/-
  ConnFlowP — the two argument bounds `Reach` asks for are what the frame decoder delivers:
    * `WindowUpdate::load` masks the reserved bit: the increment is below `2^31`;
    * `Settings::load` rejects SETTINGS_INITIAL_WINDOW_SIZE above `2^31 - 1`.
-/
namespace H2V.Lemmas.ConnFlowP
open H2V H2V.Model H2V.Model.Conn

theorem loadWindowUpdate_bound {h : Frame.Head} {payload : Bytes} {sid inc : Nat}
    (hl : Frame.loadWindowUpdate h payload = .ok (.windowUpdate sid inc)) : inc ≤ 2147483647 := by
  unfold Frame.loadWindowUpdate at hl
  split at hl
  · cases hl
  · dsimp only at hl
    split at hl
    · cases hl
    · injection hl with hl
      injection hl with _ hinc
      omega

def AccOk (acc : List (Nat × Nat)) : Prop := ∀ p ∈ acc, p.1 = 4 → p.2 ≤ 2147483647

theorem applySetting_ok {acc acc' : List (Nat × Nat)} {id val : Nat} (h : AccOk acc)
    (ha : Frame.applySetting acc id val = some acc') : AccOk acc' := by
  unfold Frame.applySetting at ha
  dsimp only at ha
  have hset : ∀ (hv : id = 4 → val ≤ 2147483647), AccOk (acc.filter (·.1 ≠ id) ++ [(id, val)]) := by
    intro hv p hp h4
    rcases List.mem_append.1 hp with hp | hp
    · exact h p (List.mem_filter.1 hp).1 h4
    · simp only [List.mem_singleton] at hp; subst hp; exact hv h4
  split at ha
  · rename_i hid
    cases ha
    exact hset (by intro h4; omega)
  · split at ha
    · rename_i hid
      split at ha
      · cases ha; exact hset (by intro h4; omega)
      · cases ha
    · split at ha
      · rename_i hid
        split at ha
        · cases ha
        · rename_i hle
          cases ha
          exact hset (by intro _; simp only [Generated.Consts.MAX_INITIAL_WINDOW_SIZE] at hle; omega)
      · split at ha
        · rename_i hid
          split at ha
          · cases ha; exact hset (by intro h4; omega)
          · cases ha
        · cases ha; exact h

theorem settingsLoop_ok (fuel : Nat) : ∀ (p : Bytes) (acc vals : List (Nat × Nat)), AccOk acc →
    Frame.settingsLoop fuel p acc = .ok vals → AccOk vals := by
  induction fuel with
  | zero => intro p acc vals h hl; unfold Frame.settingsLoop at hl; cases hl; exact h
  | succ n ih =>
    intro p acc vals h hl
    unfold Frame.settingsLoop at hl
    split at hl
    · cases hl; exact h
    · split at hl
      · cases hl
      · rename_i acc' ha
        exact ih _ _ _ (applySetting_ok h ha) hl

theorem settingsOrder_mem {vals : List (Nat × Nat)} {p : Nat × Nat} (hp : p ∈ Frame.settingsOrder vals) : p ∈ vals := by
  unfold Frame.settingsOrder at hp
  obtain ⟨id, _, hf⟩ := List.mem_filterMap.1 hp
  exact List.mem_of_find?_eq_some hf

/-- **what `Settings::load` delivers satisfies `SettingsOk`** -/
theorem loadSettings_settingsOk {h : Frame.Head} {payload : Bytes} {ack : Bool} {vals : List (Nat × Nat)}
    (hl : Frame.loadSettings h payload = .ok (.settings ack vals)) : SettingsOk vals := by
  have hacc : AccOk vals := by
    unfold Frame.loadSettings at hl
    split at hl
    · cases hl
    · split at hl
      · split at hl
        · cases hl; intro p hp; cases hp
        · cases hl
      · split at hl
        · cases hl
        · split at hl
          · cases hl
          · rename_i acc hloop
            cases hl
            intro p hp h4
            exact settingsLoop_ok _ _ _ _ (by intro p hp; cases hp) hloop p (settingsOrder_mem hp) h4
  intro v hv
  cases hf : vals.find? (·.1 = 4) with
  | none => rw [hf] at hv; cases hv
  | some p =>
    rw [hf] at hv
    simp only [Option.map_some, Option.some.injEq] at hv
    have hm := List.mem_of_find?_eq_some hf
    have h4 := List.find?_some hf
    simp only [decide_eq_true_eq] at h4
    rw [← hv]; exact hacc p hm h4

/-- the two bounds, as a predicate on decoded frames -/
def FrameOk : Frame.Frame → Prop
  | .windowUpdate _ inc => inc ≤ 2147483647
  | .settings _ vals => SettingsOk vals
  | _ => True

open CodecRead in
theorem toFrame_ok (c : Continuable) : FrameOk c.toFrame := by
  cases c <;> exact trivial

/-- **every frame `decode_frame` yields satisfies the two bounds**: only the SETTINGS and the WINDOW_UPDATE
    parser yield a frame the bounds speak of -/
theorem decodeFrame_ok {r r' : CodecRead.Reader} {bytes : Bytes} {f : Frame.Frame}
    (h : CodecRead.decodeFrame r bytes = (r', .frame f)) : FrameOk f := by
  cases Codec.decodeFrame_decoded h with
  | block c => exact toFrame_ok c
  | loaded hl =>
    have := hl.own
    cases f with
    | settings => exact loadSettings_settingsOk this
    | windowUpdate => exact loadWindowUpdate_bound this
    | _ => exact trivial

end H2V.Lemmas.ConnFlowP
