import Lean
import H2V.Lemmas.ConnRecvPInv
import H2V.Lemmas.ConnStepLoops
import H2V.Lemmas.ConnStepWrite
/-
  C03: proof automation for `Ext` and `InvD` goals.

  A goal `Ext s0 (f a (g b s))` is peeled from the outside: `ext_step` looks at the head function
  `f` of the target and applies `Ext.trans ?_ (f_ext ..)` where `f_ext : Ext s (f a s)` is found BY
  NAME (`<last component of f>_ext` in this namespace); `ext_via_step` takes a function that has no lemma of its
  own from the step layer, `Ext.of_step (Streams.f_step ..)`, when its footprint is within `kindsExt`.  `ext_auto`
  tries the two in this order and repeats, splitting `if`s and `match`es and forgetting intermediate states at `let`s.
  `inv_step` / `inv_via_step` / `inv_auto` do the same for `InvD full g d t` with lemmas `f_inv`, falling back on `f_ext`.
-/
namespace H2V.Lemmas.ConnRecvP
open H2V H2V.Model H2V.Model.Conn
attribute [local irreducible] wrapSubU32 wrapSubUsize

/-- proves `SameR x (f x)` for the updates and stream methods that do not touch the receive side -/
syntax "samer" : tactic
macro_rules | `(tactic| samer) => `(tactic| with_reducible exact ⟨rfl, rfl, rfl, fun h => h, fun h => h⟩)

theorem setQueued_same (x : Stream) (q : QName) (v : Bool) : SameR x (x.setQueued q v) := by
  cases q <;> exact ⟨rfl, rfl, rfl, fun h => h, fun h => h⟩
macro_rules | `(tactic| samer) => `(tactic| with_reducible exact setQueued_same _ _ _)

theorem decContentLength_same (x x1 : Stream) (n : Nat) (h : x.decContentLength n = some x1) : SameR x x1 := by
  obtain ⟨_, rfl⟩ := Stream.decContentLength_eq h; exact ⟨rfl, rfl, rfl, fun h => h, fun h => h⟩

-- the two state functions whose result is closed whatever the state

-- `by rfl`, not the term: see `Stream.new_recvFlow`
theorem setReset_closed (st : State) (sid : Nat) (r : Reason) (i : Initiator) : (st.setReset sid r i).isClosed = true := by rfl
theorem setScheduledReset_closed (st : State) (r : Reason) : (st.setScheduledReset r).isClosed = true := by rfl
theorem setReset_same (x : Stream) (r : Reason) (i : Initiator) : SameR x (x.setReset r i).1 := by
  rw [Stream.setReset_fst]; exact ⟨rfl, rfl, rfl, fun _ => rfl, fun h => h⟩
macro_rules | `(tactic| samer) => `(tactic| with_reducible exact setReset_same _ _ _)

/-- a new `state` computed from the entry itself: closedness must be kept -/
theorem setState_same (x : Stream) (st' : State) (h : x.state.isClosed = true → st'.isClosed = true) :
    SameR x { x with state := st' } := ⟨rfl, rfl, rfl, h, fun h => h⟩

/-- the kinds of update `Ext` tolerates: not the receive windows (what `Ext` says is kept), not a setting (`init_window_sz` of
    `Recv` is one), not an insertion (the new entry's window must be the CURRENT `init_window_sz`, which the step does not record) -/
def kindsExt : Kind → Bool
  | .recvFlow | .connRecvFlow | .config | .insert => false
  | _ => true

-- the methods of stream.rs by their equations (ConnBasics): each is a record update off the receive side
theorem SameR.of_updW {x : Stream} {p : Stream × List String} (h : Stream.UpdW kindsExt x p) : SameR x p.1 := by
  cases h with
  | notifySend => rw [Stream.notifySend_fst]; samer
  | notifyRecv => rw [Stream.notifyRecv_fst]; samer
  | notifyPush => rw [Stream.notifyPush_fst]; samer
  | notifyCapacity => rw [Stream.notifyCapacity_fst]; samer
  | assignCapacity c m => rw [Stream.assignCapacity_fst]; split <;> samer
  | setReset r i => exact setReset_same x r i

theorem SameR.of_upd {x y : Stream} (h : Stream.Upd kindsExt x y) : SameR x y := by
  cases h with
  | state v st => exact setState_same x v st.closed
  | reserved v st => exact ⟨rfl, rfl, rfl, st.closed, fun h => h⟩
  | sendData n m => rw [Stream.sendData_fst]; split <;> exact ⟨rfl, rfl, rfl, fun h => h, fun h => h⟩
  | recvFlow _ hk | recvFlowIn _ _ hk | inFlight _ hk => exact nomatch hk
  | decContentLength n _ e => exact decContentLength_same x y n e
  | noRecv => exact ⟨rfl, rfl, rfl, fun h => h, fun h => nomatch h⟩
  | _ => exact ⟨rfl, rfl, rfl, fun h => h, fun h => h⟩

macro_rules | `(tactic| samer) => `(tactic| ((with_reducible refine SameR.of_updW ?_); with_reducible constructor))
macro_rules | `(tactic| samer) => `(tactic| ((with_reducible refine SameR.of_updW (.assignCapacity _ _ ?_)); rfl))
macro_rules | `(tactic| samer) => `(tactic| ((with_reducible refine SameR.of_upd (.sendData _ _ ?_ ?_)) <;> rfl))
macro_rules | `(tactic| samer) => `(tactic| ((with_reducible refine SameR.of_upd (.waitSend _ ?_)); rfl))
macro_rules | `(tactic| samer) => `(tactic| ((with_reducible refine SameR.of_upd (.waitOpen _ ?_)); rfl))

theorem recv_of_upd {r r' : Recv} (h : Recv.Upd kindsExt r r') :
    r'.flow = r.flow ∧ r'.inFlightData = r.inFlightData ∧ r'.initWindowSz = r.initWindowSz := by
  cases h with
  | flow _ hk | flowIn _ _ hk | initWindowSz _ hk => exact nomatch hk
  | _ => exact ⟨rfl, rfl, rfl⟩

open Lean Elab Tactic Meta in
/-- the head function of the target state of an `Ext` goal, looking through `.1`/`.2` -/
def extHeadOfAux : Nat → Expr → Option Expr
  | 0, _ => none
  | fuel + 1, e =>
    match e with
    | .proj _ _ b => extHeadOfAux fuel b
    | .mdata _ b => extHeadOfAux fuel b
    | _ =>
      let f := e.getAppFn
      match f with
      | .const n _ =>
        if n == ``Prod.fst || n == ``Prod.snd then
          match e.getAppArgs.back? with
          | some a => extHeadOfAux fuel a
          | none => none
        else some f
      | .fvar _ => if e.isFVar then some f else none
      | _ => none

open Lean Elab Tactic Meta in
def extHeadOf (e : Expr) : Option Expr := extHeadOfAux 16 e

open Lean Elab Tactic Meta in
/-- One step on a goal `Ext s0 t`, chosen by looking at the head of `t` only (no search):
    * `t` a variable: close the goal with a hypothesis, `Ext.refl`, or rewrite along a destructuring
      equation `p = (t, _)`;
    * `t = f … s …`: `Ext.trans ?_ (f_ext ..)` with the lemma found BY NAME (`<last component of f>_ext`),
      `modStream`/`modStreamW`/`modRecv` leave their side condition when `samer` cannot prove it;
    * `t` a structure literal: the field-update lemmas;
    * anything else (`if`, `match`, `let`): fails, so that `peel_let` / `split` take over. -/
elab "ext_step" ih:(ident)? : tactic => withMainContext do
  let g ← getMainGoal
  let t ← instantiateMVars (← g.getType)
  unless t.isAppOfArity ``Ext 2 do throwError "ext_step: not an Ext goal"
  let e := t.appArg!
  if t.appFn!.appArg! == e then
    g.assign (mkApp (mkConst ``Ext.refl) e)
    replaceMainGoal []
    return
  match extHeadOf e with
  | none => throwError "ext_step: no head"
  | some (.fvar _) =>
    evalTactic (← `(tactic| first
      | with_reducible exact Ext.refl _
      | with_reducible assumption
      | with_reducible refine Ext.of_fst_eq (by assumption) ?_))
  | some (.const n _) =>
    if n == ``Streams.mk then
      evalTactic (← `(tactic| first
        | with_reducible refine Ext.trans ?_ (setCounts_ext ..)
        | with_reducible refine Ext.trans ?_ (setRefs_ext ..)
        | with_reducible refine Ext.trans ?_ (setConnError_ext ..)
        | with_reducible refine Ext.trans ?_ (setTask_ext ..)
        | with_reducible refine Ext.trans ?_ (unlink_ext ..)
        | with_reducible refine Ext.trans ?_ (remove_ext ..)
        | with_reducible refine Ext.trans ?_ (unlinkRemove_ext ..)
        | with_reducible refine Ext.trans ?_ (remove_ext' ..)
        | with_reducible refine Ext.trans ?_ (insert_ext' _ _ _ _ (by assumption) ?_ ?_)))
    else if n == ``Streams.modStream then
      evalTactic (← `(tactic| first
        | ((with_reducible refine Ext.trans ?_ (modStream_ext _ _ _ ?side)); case side => intro _ _; samer)
        | with_reducible refine Ext.trans ?_ (modStream_ext _ _ _ ?_)))
    else if n == ``Streams.modStreamW then
      evalTactic (← `(tactic| first
        | ((with_reducible refine Ext.trans ?_ (modStreamW_ext _ _ _ ?side)); case side => intro _ _; samer)
        | with_reducible refine Ext.trans ?_ (modStreamW_ext _ _ _ ?_)))
    else if n == ``Streams.modRecv then
      evalTactic (← `(tactic| first
        | ((with_reducible refine Ext.trans ?_ (modRecv_ext _ _ ?side)); case side => intro _; exact ⟨rfl, rfl, rfl⟩)
        | with_reducible refine Ext.trans ?_ (modRecv_ext _ _ ?_)))
    else if n == ``ite || n == ``dite || (← isMatcher n) then
      throwError "ext_step: control structure"
    else
      let last := match n with
        | .str _ s => s
        | _ => "?"
      let lemmaName := (`H2V.Lemmas.ConnRecvP).str (last ++ "_ext")
      if (← getEnv).contains lemmaName then
        -- `Ext.trans ?_ (lemma args)`: unify the target of the lemma with `e`; hypotheses of the lemma
        -- that unification does not determine become new goals
        let s0 := t.appFn!.appArg!
        let lem ← mkConstWithFreshMVarLevels lemmaName
        let (args, _, concl) ← forallMetaTelescopeReducing (← inferType lem)
        unless concl.isAppOfArity ``Ext 2 do throwError "ext_step: {lemmaName} is not an Ext lemma"
        let mid := concl.appFn!.appArg!
        unless (← withReducible <| isDefEq concl.appArg! e) do throwError "ext_step: {lemmaName} does not apply"
        let g1 ← mkFreshExprSyntheticOpaqueMVar (mkApp2 (mkConst ``Ext) s0 mid)
        let mut newGoals := #[g1.mvarId!]
        for a in args do
          let a ← instantiateMVars a
          if a.isMVar then
            unless (← a.mvarId!.isAssigned) do
              unless (← isProp (← inferType a)) do throwError "ext_step: {lemmaName} leaves data undetermined"
              newGoals := newGoals.push a.mvarId!
        g.assign (mkApp5 (mkConst ``Ext.trans) s0 mid e g1 (mkAppN lem args))
        replaceMainGoal newGoals.toList
      else
        match ih with
        | some ih => evalTactic (← `(tactic| with_reducible refine Ext.trans ?_ ($ih ..)))
        | none => throwError "ext_step: no lemma {lemmaName}"
  | _ => throwError "ext_step: no head"

open Lean Elab Tactic Meta in
/-- the outermost `let` of `e`, looking through `.1`/`.2`, with the context it sits in -/
def outerLet (e : Expr) : Option (Expr × (Expr → Expr)) :=
  let rec strip (e : Expr) (fuel : Nat) : Option (Expr × (Expr → Expr)) :=
    match fuel with
    | 0 => none
    | fuel + 1 =>
      match e with
      | .letE .. => some (e, id)
      | .mdata _ b => strip b fuel
      | .proj n i b => (strip b fuel).map fun (l, k) => (l, fun x => .proj n i (k x))
      | .app f a =>
        if (f.isAppOfArity ``Prod.fst 2 || f.isAppOfArity ``Prod.snd 2) then
          (strip a fuel).map fun (l, k) => (l, fun x => .app f (k x))
        else none
      | _ => none
  strip e 6

open Lean Elab Tactic Meta in
/-- goal `Q (let x := v; b)` (possibly under `.1`), `Q` = `Ext s0` or `InvD full g d`:
    * `x : Streams` — two goals `Q v` and `∀ x, Q x → Q b`: the intermediate state is forgotten, only
      the fact `Q x` is kept (no duplication of `v` in `b`);
    * any other `let` is substituted. -/
elab "peel_let" : tactic => withMainContext do
  let g ← getMainGoal
  let t ← whnfR (← instantiateMVars (← g.getType))
  unless t.isAppOfArity ``Ext 2 || t.isAppOfArity ``InvD 4 do throwError "peel_let: not an Ext or InvD goal"
  let Q := t.appFn!
  match outerLet t.appArg! with
  | some (.letE n ty v b _, k) =>
    if ty.isConstOf ``Streams then
      let g1 ← mkFreshExprSyntheticOpaqueMVar (mkApp Q v)
      let ty2 ← withLocalDeclD n ty fun x => do
        withLocalDeclD `hx (mkApp Q x) fun hx => do
          mkForallFVars #[x, hx] (mkApp Q (k ((b.instantiate1 x).replace fun e => if e == v then some x else none)))
      let g2 ← mkFreshExprSyntheticOpaqueMVar ty2
      g.assign (mkApp2 g2 v g1)
      let (_, g2') ← g2.mvarId!.introNP 2
      replaceMainGoal [g1.mvarId!, g2']
    else
      let g' ← g.replaceTargetDefEq (mkApp Q (k (b.instantiate1 v)))
      replaceMainGoal [g']
  | _ => throwError "peel_let: no let"

open Lean Elab Tactic Meta in
/-- `∀ …, Ext s t`: introduce the binders -/
elab "ext_intro" : tactic => withMainContext do
  let g ← getMainGoal
  let t ← instantiateMVars (← g.getType)
  unless t.isForall do throwError "ext_intro: not a ∀"
  let rec concl (e : Expr) : Expr := match e with
    | .forallE _ _ b _ => concl b
    | .mdata _ b => concl b
    | e => e
  unless (concl t).isAppOfArity ``Ext 2 do throwError "ext_intro: conclusion is not Ext"
  let (_, g') ← g.intros
  replaceMainGoal [g']

/-- a callee without a lemma `f_ext` is taken from the step layer (its rule stands next to `Ext.of_step`, ConnRecvPSend) -/
syntax "ext_via_step" : tactic

macro "ext_auto" : tactic =>
  `(tactic| repeat (any_goals (first | ext_step | ext_via_step | ext_intro | peel_let | split |
      dsimp (config := { zeta := false }) only)))


/- The same engine: the head function `f` of `t` is peeled with `f_inv` (an invariant lemma, found by
   name) or, when there is none, with `f_ext` through `InvD.of_ext`. -/

theorem InvD.of_fst_eq {α : Type} {full : Bool} {g : Ghost} {d : Int} {s' : Streams} {r : α} {p : Streams × α}
    (h : p = (s', r)) (hp : InvD full g d p.1) : InvD full g d s' := by subst h; exact hp

open Lean Elab Tactic Meta in
/-- close a `SameR`/`modRecv` side condition if the standard tactics can -/
def trySide (g : MVarId) (tac : Syntax) : TacticM (List MVarId) := do
  let saved ← saveState
  try
    let gs ← Lean.Elab.Tactic.run g (evalTactic tac)
    if gs.isEmpty then pure [] else do saved.restore; pure [g]
  catch _ => saved.restore; pure [g]

open Lean Elab Tactic Meta in
elab "inv_step" ih:(ident)? : tactic => withMainContext do
  let g ← getMainGoal
  let t ← whnfR (← instantiateMVars (← g.getType))
  unless t.isAppOfArity ``InvD 4 do throwError "inv_step: not an InvD goal"
  let P := t.appFn!
  let pargs := t.getAppArgs     -- full g d t
  let e := t.appArg!
  match extHeadOf e with
  | none => throwError "inv_step: no head"
  | some (.fvar _) =>
    evalTactic (← `(tactic| first
      | with_reducible assumption
      | with_reducible refine InvD.of_fst_eq (by assumption) ?_))
  | some (.const n _) =>
    if n == ``ite || n == ``dite || (← isMatcher n) then throwError "inv_step: control structure"
    let last := match n with
      | .str _ s => s
      | _ => "?"
    let invName := (`H2V.Lemmas.ConnRecvP).str (last ++ "_inv")
    if (← getEnv).contains invName then
      -- apply the invariant lemma: its conclusion must be the goal
      let lem ← mkConstWithFreshMVarLevels invName
      let (args, _, concl) ← forallMetaTelescopeReducing (← inferType lem)
      let concl ← whnfR concl
      unless (← withReducible <| isDefEq concl t) do throwError "inv_step: {invName} does not apply"
      let mut newGoals : Array MVarId := #[]
      for a in args do
        let a ← instantiateMVars a
        if a.isMVar then
          unless (← a.mvarId!.isAssigned) do
            unless (← isProp (← inferType a)) do throwError "inv_step: {invName} leaves data undetermined"
            newGoals := newGoals.push a.mvarId!
      g.assign (mkAppN lem args)
      replaceMainGoal newGoals.toList
    else
      -- an `Ext` step: the field-update lemmas, `modStream`…, or `f_ext` by name
      let candidates : List Name :=
        if n == ``Streams.mk then
          [``setCounts_ext, ``setRefs_ext, ``setConnError_ext, ``setTask_ext, ``unlink_ext, ``remove_ext,
           ``unlinkRemove_ext, ``remove_ext']
        else if n == ``Streams.modStream then [``modStream_ext]
        else if n == ``Streams.modStreamW then [``modStreamW_ext]
        else if n == ``Streams.modRecv then [``modRecv_ext]
        else [(`H2V.Lemmas.ConnRecvP).str (last ++ "_ext")]
      for extName in candidates do
        unless (← getEnv).contains extName do continue
        let saved ← saveState
        let lem ← mkConstWithFreshMVarLevels extName
        let (args, _, concl) ← forallMetaTelescopeReducing (← inferType lem)
        unless concl.isAppOfArity ``Ext 2 do saved.restore; continue
        let mid := concl.appFn!.appArg!
        unless (← withReducible <| isDefEq concl.appArg! e) do saved.restore; continue
        let g1 ← mkFreshExprSyntheticOpaqueMVar (mkApp P mid)
        let mut side : Array MVarId := #[]
        let mut ok := true
        for a in args do
          let a ← instantiateMVars a
          if a.isMVar then
            unless (← a.mvarId!.isAssigned) do
              unless (← isProp (← inferType a)) do ok := false
              side := side.push a.mvarId!
        unless ok do saved.restore; continue
        g.assign (mkApp7 (mkConst ``InvD.of_ext) pargs[0]! pargs[1]! pargs[2]! mid e g1 (mkAppN lem args))
        let mut rest : List MVarId := []
        for sg in side do
          let tac ← if extName == ``modRecv_ext then `(tactic| (intro _; exact ⟨rfl, rfl, rfl⟩))
                    else `(tactic| (intro _ _; samer))
          rest := rest ++ (← trySide sg tac)
        replaceMainGoal (g1.mvarId! :: rest)
        return
      match ih with
      | some ih => evalTactic (← `(tactic| with_reducible exact $ih ..))
      | none => throwError "inv_step: no lemma for {n}"
  | _ => throwError "inv_step: no head"

/-- the same on an `InvD` goal: `InvD.of_ext ?_ (Ext.of_step (Streams.f_step ..))` -/
macro "inv_via_step" : tactic => `(tactic|
  ((with_reducible apply InvD.of_ext); case e => (ext_via_step; exact Ext.refl _)))

macro "inv_auto" : tactic =>
  `(tactic| repeat (any_goals (first | inv_step | inv_via_step | ext_step | ext_via_step | ext_intro | peel_let | split |
      dsimp (config := { zeta := false }) only)))

end H2V.Lemmas.ConnRecvP
