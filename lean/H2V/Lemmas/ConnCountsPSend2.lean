import H2V.Lemmas.ConnCountsPSend
/-
  C05 / C18 / C19: `Ev` for the rest of `prioritize.rs` and for `send.rs` (`ConnSend.lean`).
-/
namespace H2V.Lemmas.ConnCountsP
open H2V H2V.Model H2V.Model.Conn
variable {ρ : Bool}
attribute [local irreducible] wrapSubU32 wrapSubUsize

theorem prioBufferPendingLoop_ev : ∀ (fuel : Nat) (s : Streams) (w : Writer), EvB ρ s (Streams.prioBufferPendingLoop fuel s w).1 :=
  Streams.prioBufferPendingLoop_rel EvB.relOK
    (Streams.bufferPendingOpen_rel EvB.relOK popPendingOpen_ev (fun s k => qPushFront_ev s _ k (by decide) (by decide))
      fun s k => .of_step (Streams.tryAssignCapacity_step (by decide) s k))
    popFrame_ev (fun s w f => .of_step (Streams.bufferOut_step (by decide) s w f))
    fun s w => .of_step (Streams.reclaimFrame_step (by decide) s w)

theorem isLocalInit_add_two (c : Counts) (id : Nat) : c.isLocalInit (id + 2) = c.isLocalInit id := by
  unfold Counts.isLocalInit
  have : (id + 2) % 2 = id % 2 := by omega
  rw [this]

theorem sendOpenId_ev (s : Streams) : EvB ρ s s.sendOpenId.1 := by
  unfold Streams.sendOpenId
  split
  · exact .refl _
  · next id hid =>
    dsimp only
    refine modSend_ev _ _ ?_ ?_
    · intro _; rfl
    intro y hy
    refine ⟨id, hid, ?_⟩
    dsimp only at hy
    split at hy
    · cases hy
    · cases hy; exact ⟨by omega, .inl (by omega)⟩

theorem sendMaybeResetNextStreamId_ev (s : Streams) (id : Nat) (h : s.counts.isLocalInit id = true) :
    EvB ρ s (s.sendMaybeResetNextStreamId id) := by
  unfold Streams.sendMaybeResetNextStreamId
  split
  · next nxt hn =>
    split
    · next hge =>
      refine modSend_ev _ _ ?_ ?_
      · intro _; rfl
      intro y hy
      refine ⟨nxt, hn, ?_⟩
      dsimp only at hy
      split at hy
      · cases hy
      · cases hy
        refine ⟨by omega, .inr ?_⟩
        have := isLocalInit_add_two s.counts id
        unfold Counts.isLocalInit at this h
        rw [this]; exact h
    · exact .refl _
  · exact .refl _

theorem sendHeaders_ev (s : Streams) (id : Nat) (eos : Bool) (fields : List Hpack.Field) :
    EvB ρ s (s.sendHeaders id eos fields).1 := by
  unfold Streams.sendHeaders
  split
  · exact .refl _
  · split
    · exact .refl _
    · next st' u heq =>
      dsimp only
      have e1 : EvB ρ s (s.modStream id fun st => { st with state := st' }) :=
        modStream_ev' _ _ _ (setState_same _ _ (early_of_step (K := fun _ => true) (id := 0) (.sendOpen _ rfl heq)))
      refine .trans e1 ?_
      generalize (s.modStream id fun st => { st with state := st' }) = s1
      split
      · next hpo =>
        have hl : s1.counts.isLocalInit (s1.stream id).id = true := by
          simp only [Bool.and_eq_true] at hpo; exact hpo.1
        refine .trans (queueOpen_ev _ _ hl) (.trans (queueFrame_ev _ _ _ rfl) (notifyTask_ev _))
      · exact queueFrame_ev _ _ _ rfl

theorem sendHandleError_ev (s : Streams) (id : Nat) : EvB ρ s (s.sendHandleError id) :=
  .of_step (Streams.sendHandleError_step (by decide) s id)

theorem sendClearQueues_ev (s : Streams) : EvB ρ s s.sendClearQueues := by
  unfold Streams.sendClearQueues
  exact .trans (.trans (clearPendingCapacity_ev _ _) (clearPendingSend_ev _ _)) (clearPendingOpen_ev _ _)

theorem modStream_modStream (s : Streams) (k : Nat) (f g : Stream → Stream) (hf : ∀ x, (f x).key = x.key)
    (hg : ∀ x, (g x).key = x.key) : (s.modStream k f).modStream k g = s.modStream k (fun x => g (f x)) :=
  s.modStream_modStream k hf hg

export H2V.Model.Conn.Streams (modPrio_modStream)

def fDrop : Stream → Stream := fun st => { st with pendingSend := st.pendingSend.drop 1 }
def fClr : Stream → Stream := fun st => { st with pendingSend := [], bufferedSendData := 0, requestedSendCapacity := 0 }
def fApp (f : SFrame) : Stream → Stream := fun st => { st with pendingSend := st.pendingSend ++ [f] }
def pDrop : Prioritize → Prioritize := fun p => { p with inFlightDataFrame := .drop }

theorem modStream_prio (s : Streams) (k : Nat) (f : Stream → Stream) : (s.modStream k f).prio = s.prio := s.modStream_prio k f

theorem clearQueue_eq (t : Streams) (id : Nat) :
    t.clearQueue id =
      (match t.prio.inFlightDataFrame with
       | .dataFrame k => if k = id then (t.modStream id fClr).modPrio pDrop else t.modStream id fClr
       | _ => t.modStream id fClr) := by
  unfold Streams.clearQueue
  show (match (t.modStream id fClr).prio.inFlightDataFrame with
        | .dataFrame k => if k = id then (t.modStream id fClr).modPrio pDrop else t.modStream id fClr
        | _ => t.modStream id fClr) = _
  rw [modStream_prio]

theorem sendPushPromise_ev (s : Streams) (parent pk pid : Nat) (fields : List Hpack.Field)
    (hl : s.counts.isLocalInit pid = true) : EvB ρ s (s.sendPushPromise parent pk pid fields).1 := by
  unfold Streams.sendPushPromise
  split
  · exact .refl _
  · split
    · exact .refl _
    · split
      · exact .refl _
      · unfold Streams.queueFrame
        exact .trans (.queuePP parent pk pid fields hl) (.of_step (Streams.scheduleSend_step (by decide) _ _))

end H2V.Lemmas.ConnCountsP
