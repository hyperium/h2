import H2V.Lemmas.CodecLoad
import H2V.Lemmas.CodecReader
import H2V.Lemmas.CodecDecoded
/-
  Codec lemmas (goal B at the level of `decode_frame`): every non-header frame that
  `decode_frame` delivers is a frame of RFC 9113 §6 with the same content — except for the
  one stream-identifier check h2 does not make at this layer (RST_STREAM on stream 0, made later in
  `Streams::recv_reset`).  GOAWAY on a non-zero stream used to be a second exception (finding F11);
  `decode_frame` now rejects it and the theorem needs no hypothesis for it.
-/
namespace H2V.Lemmas.Codec
open H2V H2V.Model.Frame H2V.Model.CodecRead

/-- model frame `f` is the RFC frame `f'` (SETTINGS: the model keeps `lastWins` of the parameter list) -/
def Corr (f : Model.Frame.Frame) (f' : Spec.Frame.Frame) : Prop :=
  match f, f' with
  | .settings ack vals, .settings ack' ps => ack = ack' ∧ vals = lastWins ps
  | .settings .., _ => False
  | f, f' => toSpec f = some f'

theorem Corr_of_toSpec {f : Model.Frame.Frame} {f' : Spec.Frame.Frame} (h : toSpec f = some f')
    (hs : ∀ a v, f ≠ .settings a v) : Corr f f' := by
  cases f <;> first | exact h | exact absurd rfl (hs _ _)

theorem ofParts_ne_settings (k fl sid : Nat) (p : Bytes) (a : Bool) (v : List (Nat × Nat)) (hk : k ≠ 4) :
    Spec.Frame.ofParts k fl sid p ≠ .ok (.settings a v) := by
  unfold Spec.Frame.ofParts
  split <;> (try (exact absurd rfl hk)) <;> (repeat' split) <;> simp

theorem corr_of_sound {k fl sid : Nat} {p : Bytes} {f : Model.Frame.Frame} (hk : k ≠ 4)
    (hs : ∃ f', toSpec f = some f' ∧ Spec.Frame.ofParts k fl sid p = .ok f') :
    ∃ f', Corr f f' ∧ Spec.Frame.ofParts k fl sid p = .ok f' := by
  obtain ⟨f', h1, h2⟩ := hs
  refine ⟨f', Corr_of_toSpec h1 ?_, h2⟩
  intro a v hf; subst hf; cases h1; exact ofParts_ne_settings _ _ _ _ _ _ hk h2

theorem Loaded.sound {bytes : Bytes} {f : Frame} (hl : Loaded bytes f)
    (hx : ¬ ((Head.parse bytes).kind = 3 ∧ (Head.parse bytes).sid = 0)) :
    ∃ f', Corr f f' ∧ Spec.Frame.ofParts (Head.parse bytes).kind (Head.parse bytes).flag (Head.parse bytes).sid
      (bytes.drop 9) = .ok f' := by
  cases hl with
  | settings hk hl =>
    rw [hk]
    obtain ⟨ack, ps, h1, rfl⟩ := loadSettings_sound _ _ _ hl
    refine ⟨_, ?_, h1⟩
    exact ⟨rfl, rfl⟩
  | ping hk hl => rw [hk]; exact corr_of_sound (by decide) ((loadPing_agree _ _).sound hl)
  | windowUpdate hk hl => rw [hk]; exact corr_of_sound (by decide) ((loadWindowUpdate_agree _ _).sound hl)
  | data hk hl => rw [hk]; exact corr_of_sound (by decide) ((loadData_agree _ _).sound hl)
  | reset hk hl => rw [hk]; exact corr_of_sound (by decide) ((loadReset_agree _ _ fun h0 => hx ⟨hk, h0⟩).sound hl)
  | goAway hk hs hl => rw [hk]; exact corr_of_sound (by decide) ((loadGoAway_agree _ _ hs).sound hl)
  | priority hk hs hl => rw [hk]; exact corr_of_sound (by decide) ((loadPriority_agree _ _ hs).sound hl)

/-- `decode_frame` soundness for DATA, PRIORITY, RST_STREAM, SETTINGS, PING, GOAWAY, WINDOW_UPDATE.
    The excluded case is exactly the frame h2 lets through here although §6.4 makes it a connection
    error (`loadReset_stream_zero`). -/
theorem decodeFrame_sound (r r' : Reader) (bytes : Bytes) (f : Model.Frame.Frame)
    (hk : (Head.parse bytes).kind ∈ [0, 2, 3, 4, 6, 7, 8])
    (h : decodeFrame r bytes = (r', .frame f))
    (hx : ¬ ((Head.parse bytes).kind = 3 ∧ (Head.parse bytes).sid = 0)) :
    r' = r ∧ ∃ f', Corr f f' ∧
      Spec.Frame.ofParts (bytes.getD 3 0) (bytes.getD 4 0) (Spec.Frame.u31 (bytes.drop 5)) (bytes.drop 9) = .ok f' := by
  rcases decodeFrame_frame_or h with ⟨hr, hl⟩ | ⟨hb, _⟩
  · have := hl.sound hx
    rw [Head.parse_eq_spec bytes] at this
    exact ⟨hr, this⟩
  · simp only [List.mem_cons, List.not_mem_nil, or_false] at hk hb
    omega

/-- the same against `Spec.Frame.parse`, for a complete frame as the reassembler cuts it -/
theorem decodeFrame_sound_parse (r r' : Reader) (bytes : Bytes) (f : Model.Frame.Frame)
    (hlen : 9 ≤ bytes.length) (hcut : bytes.length = 9 + rd24 bytes)
    (hk : (Head.parse bytes).kind ∈ [0, 2, 3, 4, 6, 7, 8])
    (h : decodeFrame r bytes = (r', .frame f))
    (hx : ¬ ((Head.parse bytes).kind = 3 ∧ (Head.parse bytes).sid = 0)) :
    ∃ f', Corr f f' ∧ Spec.Frame.parse bytes = some (.ok f') := by
  obtain ⟨_, f', h1, h2⟩ := decodeFrame_sound r r' bytes f hk h hx
  refine ⟨f', h1, ?_⟩
  unfold Spec.Frame.parse
  rw [u24_eq_rd24, if_neg (by omega), if_neg (by omega), h2]

/-- the exception does reach the caller of `decode_frame`: RST_STREAM on stream 0 -/
example : (decodeFrame (Reader.new 16384) [0, 0, 4, 3, 0, 0, 0, 0, 0, 0, 0, 0, 8]).2 matches DF.frame (.reset 0 8) := rfl
/-- GOAWAY on stream 1 is caught here (since the fix for F11) -/
example : (decodeFrame (Reader.new 16384) [0, 0, 8, 7, 0, 0, 0, 0, 1, 0, 0, 0, 0, 0, 0, 0, 0]).2 matches DF.err (.goAway 1 "") := rfl
/-- whereas PRIORITY on stream 0 is caught here -/
example : (decodeFrame (Reader.new 16384) [0, 0, 5, 2, 0, 0, 0, 0, 0, 0, 0, 0, 1, 16]).2 matches DF.err (.goAway 1 "") := rfl
/-- PUSH_PROMISE carrying only the promised id (block to follow in CONTINUATION), valid per §6.6: used to
    be a connection error (`src.len() < 5` in `PushPromise::load`); now stored as a partial block -/
example : (decodeFrame (Reader.new 16384) [0, 0, 4, 5, 0, 0, 0, 0, 1, 0, 0, 0, 2]).2 matches DF.none := rfl

end H2V.Lemmas.Codec
