import H2V.Lemmas.ConnNoPanicPConnPoll
import H2V.Lemmas.ConnRecvPPoll
/-
  C08 (no panic) — connection layer: the calls of the application on a connection
  (`graceful_shutdown`, `abrupt_shutdown`, `set_target_window_size`, `set_initial_window_size`, the ping handle,
  `take_error`) as histories of `(streams, codec.w)`, and the summary over ConnRecvP's `COp`.
-/
namespace H2V.Lemmas.ConnNoPanicP
open H2V H2V.Model H2V.Model.Conn
open H2V.Lemmas.ConnResetP (Op run)
open H2V.Lemmas.ConnCtlP (GoAwayInv Keep15 Step15 GaLe gaLast view)
open H2V.Lemmas.ConnRecvP (COp)

variable {A : List (Nat × Nat) → Prop}

/-- the result of a call on a connection satisfying the invariant: the invariant again, and a history -/
structure CStepA (A : List (Nat × Nat) → Prop) (X : String → Prop) (c c' : Conn) : Prop where
  ok : OKA A c'
  hist : HistWX (ConnPA A) X c.streams c.codec.w c'.streams c'.codec.w

theorem CSA.cstep {X : String → Prop} {c c' : Conn} (h : CSA A X c c') (hc : OKA A c) : CStepA A X c c' := ⟨h.oka hc, h.hist⟩

/-- **`Connection::go_away_gracefully`**: `Recv::go_away(2^31-1)` with `max_stream_id = 2^31-1` (no GOAWAY was built
    yet), the shutdown PING armed; `assert!(self.pending_ping.is_none())` holds by `PingInv` -/
theorem goAwayGracefully_step {X : String → Prop} {c : Conn} (hc : OKA A c) : CStepA A X c c.goAwayGracefully := by
  cases hn : c.goAway.goingAway with
  | some ga =>
    have : c.goAwayGracefully = c := by
      unfold Conn.goAwayGracefully
      simp [GoAway.isGoingAway, hn]
    rw [this]
    exact ⟨hc, .refl⟩
  | none =>
    have hp : c.pingPong.pendingPing = none := by
      cases hq : c.pingPong.pendingPing with
      | none => rfl
      | some q => have := (hc.ok.ping q hq).2; rw [hn] at this; cases this
    have hmax := hc.ok.ga.none_max hn
    have h1 : (view c.streams).lpi ≤ STREAM_ID_MAX := by rw [← hmax]; exact hc.ok.ga.lpi_le_max
    have h2 : STREAM_ID_MAX ≤ (view c.streams).rmax := by rw [hmax]; exact Nat.le_refl _
    have h3 : ∀ ga, c.goAway.goingAway = some ga → STREAM_ID_MAX ≤ ga.lastProcessedId := by
      intro ga hga; rw [hn] at hga; cases hga
    have d := dynGoAway_csa (A := A) (X := X) STREAM_ID_MAX NO_ERROR h1 h2 h3
    obtain ⟨-, -, -, d4, -, -⟩ := ConnCtlP.dynGoAway_inv c STREAM_ID_MAX NO_ERROR h1 h2 h3
    have hpp : (c.dynGoAway STREAM_ID_MAX NO_ERROR).pingPong = c.pingPong := (Conn.dynGoAway_keeps c _ _).2.2.2
    have heq : c.goAwayGracefully =
        { (c.dynGoAway STREAM_ID_MAX NO_ERROR) with pingPong := (c.dynGoAway STREAM_ID_MAX NO_ERROR).pingPong.pingShutdown } := by
      unfold Conn.goAwayGracefully
      have : c.goAway.isGoingAway = false := by simp [GoAway.isGoingAway, hn]
      simp only [this, Bool.false_eq_true, if_false]
      rw [hpp, hp]
      simp [hpp]
    rw [heq]
    refine ⟨⟨⟨d.ga.keep rfl rfl (fun _ h => h) rfl (.inl (Nat.le_refl _)), ?_, (d.rd hc.ok.rd).keep rfl (.of_eq rfl rfl)⟩, (d.fl hc.fl).le (.of_eq rfl rfl)⟩, d.hist⟩
    intro p hp'
    have : p = { payload := Generated.Consts.PING_SHUTDOWN_PAYLOAD, sent := false } := by
      have h' : some ({ payload := Generated.Consts.PING_SHUTDOWN_PAYLOAD, sent := false } : PendingPing) = some p := hp'
      injection h' with h'; exact h'.symm
    subst this
    refine ⟨rfl, ?_⟩
    show (c.dynGoAway STREAM_ID_MAX NO_ERROR).goAway.goingAway.isSome = true
    rw [d4]; rfl

/-- **`Connection::go_away_from_user`** (`abrupt_shutdown`): `Streams::handle_error(user GOAWAY)` -/
theorem goAwayFromUser_csa {X : String → Prop} {c : Conn} (hi : GoAwayInv c) (e : Reason) : CSA A X c (c.goAwayFromUser e) := by
  have k := ConnCtlP.goAwayFromUser_step15 c e hi
  have hok := ConnCtlP.goAwayNow_ok c e [] true hi
  have heq : c.goAwayFromUser e = { c with
      goAway := (({ c.goAway with isUserInitiated := true } : GoAway).goAwayNow { lastStreamId := c.streams.recv.lastProcessedId, reason := e, debugData := [] }).1,
      streams := (c.streams.handleError (PErr.userGoAway e)).1 } := by
    unfold Conn.goAwayFromUser GoAway.goAwayFromUser
    dsimp only
    rw [if_pos hok]
  rw [heq] at k ⊢
  exact .mk' k rfl rfl rfl (.op1 (.handleError (PErr.goAway [] e .user)) (fun _ _ h => by cases h) rfl rfl rfl)

theorem setTargetWindowSize_csa {X : String → Prop} {c : Conn} (hi : GoAwayInv c) (size : Nat) (hs : size ≤ 2147483647) :
    CSA A X c (c.setTargetWindowSize size) :=
  .viewKeep hi rfl (ConnCtlP.view_setTargetConnectionWindow c.streams size) rfl rfl rfl
    (.op1 (.setTargetConnectionWindow size) hs rfl rfl rfl)

/-- `Connection::set_initial_window_size` = `Settings::send_settings([INITIAL_WINDOW_SIZE = size])`: `streams` untouched;
    the new values come into flight, so `A` has to hold of them -/
theorem setInitialWindowSize_csa {X : String → Prop} {c : Conn} (hi : GoAwayInv c) (size : Nat) (hA : A [(4, size)]) :
    CSA A X c (c.setInitialWindowSize size).1 := by
  unfold Conn.setInitialWindowSize Conn.sendSettings
  cases hl : c.settings.loc with
  | synced =>
    have k := (Keep15.of_view (c := c) (c' := { c with settings := { c.settings with loc := .toSend [(4, size)] } }) rfl rfl).step hi
    have only : ∀ v, LocIn ({ c with settings := { c.settings with loc := .toSend [(4, size)] } } : Conn) v → v = [(4, size)] := by
      intro v hv
      rcases hv with hv | hv
      · injection hv with hv; exact hv.symm
      · cases hv
    refine ⟨⟨k.1, k.2, fun p hp => ⟨p, hp, rfl⟩, fun hn => ⟨hn.max, hn.need, ?_, hn.rem⟩⟩, fun _ v hv => only v hv ▸ hA, .refl⟩
    intro v m hv hm
    rw [only v hv] at hm
    simp [ConnCtlP.getS] at hm
  | toSend v => exact .refl hi
  | waitingAck v => exact .refl hi

theorem takeUserPings_csa {X : String → Prop} {c : Conn} (hi : GoAwayInv c) : CSA A X c c.takeUserPings.1 := by
  unfold Conn.takeUserPings
  split
  · exact .refl hi
  · exact .viewKeep hi rfl rfl rfl rfl rfl .refl

theorem userSendPing_csa {X : String → Prop} {c : Conn} (hi : GoAwayInv c) : CSA A X c c.userSendPing.1 := by
  unfold Conn.userSendPing
  cases hu : c.pingPong.userPings with
  | none => exact .refl hi
  | some u =>
    dsimp only
    split
    · exact .viewKeep hi rfl rfl rfl rfl rfl (.op1 (.wake _) trivial rfl rfl rfl)
    · split <;> exact .refl hi

theorem userPollPong_csa {X : String → Prop} {c : Conn} (hi : GoAwayInv c) (tag : String) : CSA A X c (c.userPollPong tag).1 := by
  unfold Conn.userPollPong
  cases hu : c.pingPong.userPings with
  | none => exact .refl hi
  | some u =>
    dsimp only
    split
    · exact .viewKeep hi rfl rfl rfl rfl rfl .refl
    · split <;> exact .viewKeep hi rfl rfl rfl rfl rfl .refl

theorem dropUserPingsRx_csa {X : String → Prop} {c : Conn} (hi : GoAwayInv c) : CSA A X c c.dropUserPingsRx := by
  unfold Conn.dropUserPingsRx
  cases hu : c.pingPong.userPings with
  | none => exact .refl hi
  | some u => exact .viewKeep hi rfl rfl rfl rfl rfl (.op1 (.wake _) trivial rfl rfl rfl)

/-- `Conn.unsup` marks the connection, not the streams -/
theorem unsup_csa {X : String → Prop} {c : Conn} (hi : GoAwayInv c) (m : String) : CSA A X c (c.unsup m) := by
  unfold Conn.unsup
  split
  · exact .refl hi
  · exact .same hi rfl rfl rfl rfl rfl

/-- **every call of the application on a connection** (polls, window configuration, shutdown, the ping handle): the
    invariant again, and `(streams, codec.w)` moved by a history whose calls satisfy `ConnPA A`; the only panics the
    connection layer records are the model's fuel markers -/
theorem cop_csa {c : Conn} (hc : OKA A c) (op : COp) (hop : ∀ o, op ≠ .handle o)
    (hs : ∀ size, op = .setInitialWindowSize size → A [(4, size)])
    (hv : ∀ size, op = .setTargetWindowSize size → size ≤ 2147483647) : CStepA A FuelMsg c (op.apply c) := by
  cases op with
  | protoPoll fuel => exact (protoPoll_csa fuel hc).cstep hc
  | clientPoll fuel => exact (clientPoll_csa fuel hc).cstep hc
  | setTargetWindowSize size => exact (setTargetWindowSize_csa hc.ok.ga size (hv size rfl)).cstep hc
  | setInitialWindowSize size => exact (setInitialWindowSize_csa hc.ok.ga size (hs size rfl)).cstep hc
  | goAwayGracefully => exact goAwayGracefully_step hc
  | goAwayFromUser e => exact (goAwayFromUser_csa hc.ok.ga e).cstep hc
  | goAwayNow e => exact (goAwayNow_csa hc.ok.ga e).cstep hc
  | userSendPing => exact (userSendPing_csa hc.ok.ga).cstep hc
  | userPollPong t => exact (userPollPong_csa hc.ok.ga t).cstep hc
  | dropUserPingsRx => exact (dropUserPingsRx_csa hc.ok.ga).cstep hc
  | takeUserPings => exact (takeUserPings_csa hc.ok.ga).cstep hc
  | handle o => exact absurd rfl (hop o)

end H2V.Lemmas.ConnNoPanicP
