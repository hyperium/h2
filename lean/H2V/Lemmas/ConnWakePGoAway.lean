import H2V.Lemmas.ConnWakePConn
/-
  ConnWakeP — C07 for a received GOAWAY: `Inner::recv_go_away` fails every locally initiated
  stream above `last_stream_id` (and the streams still waiting in `pending_open`): same guarantee as
  for `recv_eof`, for the streams whose id is above `last_stream_id`.
  The role (`counts.peer`) is not changed by the per-stream closure: no step of the stream layer changes it.
-/
namespace H2V.Lemmas.ConnWakeP
open H2V H2V.Model H2V.Model.Conn

/-- the role of the endpoint -/
def Srv (b : Bool) (s : Streams) : Prop := s.counts.isServer = b

section
variable {b : Bool} {s : Streams}

theorem srv_of_counts_eq {t : Streams} (h : Srv b s) (e : t.counts.isServer = s.counts.isServer) : Srv b t := e.trans h

theorem wake_srv (w : List String) (h : Srv b s) : Srv b (s.wake w) := srv_of_counts_eq h rfl
theorem notifyTask_srv (h : Srv b s) : Srv b s.notifyTask :=
  srv_of_counts_eq h (by rw [Streams.notifyTask_counts])
theorem modRecv_srv (f : Recv → Recv) (h : Srv b s) : Srv b (s.modRecv f) := srv_of_counts_eq h rfl
theorem setConnError_srv (e : PErr) (h : Srv b s) :
    Srv b { s with actions := { s.actions with connError := some e } } := srv_of_counts_eq h rfl

theorem errClosure_srv (e : PErr) (k : Nat) (h : Srv b s) :
    Srv b (s.transition k fun s => ((s.recvHandleError k e).sendHandleError k, ())).1 := by
  refine srv_of_counts_eq h (Streams.Step.isServer (K := fun _ => true)
    (Streams.transition_step (fun _ _ => rfl) s k _ fun s => ?_))
  -- (reduce the projection of the pair first: unifying against it would unfold `handle_error`)
  dsimp only
  exact .trans (Streams.recvHandleError_step (fun _ _ => rfl) s k e) (Streams.sendHandleError_step (fun _ _ => rfl) _ k)
theorem sendRecvGoAway_srv (l : Nat) (h : Srv b s) : Srv b (s.sendRecvGoAway l).1 :=
  srv_of_counts_eq h (Streams.sendRecvGoAway_step (K := fun _ => true) (fun _ _ => rfl) s l).isServer
end

theorem isLocalInit_of_srv {b : Bool} {t : Streams} (h : Srv b t) (x : Nat) :
    t.counts.isLocalInit x = (b == (x % 2 == 0)) := by
  unfold Counts.isLocalInit; rw [h]

/-- the closure of `recv_go_away` -/
def goAwayClosure (last : Nat) (err : PErr) (t : Streams) (k : Nat) : Streams :=
  let st := t.stream k
  if (st.id > last || st.isPendingOpen) && t.counts.isLocalInit st.id then
    (t.transition k fun s => ((s.recvHandleError k err).sendHandleError k, ())).1
  else t

theorem goAwayClosure_cases (last : Nat) (err : PErr) (t : Streams) (k : Nat) :
    goAwayClosure last err t k = (t.transition k fun s => ((s.recvHandleError k err).sendHandleError k, ())).1 ∨
    goAwayClosure last err t k = t := by
  unfold goAwayClosure; simp only; split
  · exact Or.inl rfl
  · exact Or.inr rfl

/-- **`Inner::recv_go_away`** (GOAWAY received): `conn_error` is the remote GOAWAY, and every locally initiated
    stream above `last_stream_id` that the id map knew is released or closed with all parked wakers
    woken, its receive queue / reference count / END_STREAM flag untouched -/
theorem recvGoAwayFrame_all (s s' : Streams) (hg : Good s) (last : Nat) (r : Reason) (d : Bytes)
    (hok : s.recvGoAwayFrame last r d = (s', .ok ())) :
    s'.actions.connError = some (PErr.remoteGoAway d r) ∧
    ∀ e ∈ s.store.ids, e.1 > last → s.counts.isLocalInit e.1 = true →
      ∀ a, s.store.get? e.2 = some a → EndedAt s s' e.2 a := by
  have hstep : Step none s s' := (Step.of_step (Streams.recvGoAwayFrame_step (by decide) s last r d)).of_fst hok
  have hkeep : KS s s' := (k_recvGoAwayFrame last r d (GStep.refl s)).of_fst hok
  unfold Streams.recvGoAwayFrame at hok
  rcases hsg : s.sendRecvGoAway last with ⟨s1, e | u⟩
  · rw [hsg] at hok; cases hok
  · rw [hsg] at hok
    simp only at hok
    obtain ⟨rfl, _⟩ := Prod.mk.inj hok
    refine ⟨rfl, fun e he hlast hloc a ha => endedAt_of hg.bounded ha ?_ hkeep hstep⟩
    have h1s : s1.store = s.store := by
      have : s1 = (s.sendRecvGoAway last).1 := by rw [hsg]
      rw [this]; unfold Streams.sendRecvGoAway; split <;> rfl
    have hsrv1 : Srv s.counts.isServer s1 := by
      have := sendRecvGoAway_srv last (b := s.counts.isServer) (s := s) rfl
      rw [hsg] at this; exact this
    have hd := storeForEach_some (errClosure_closure (PErr.remoteGoAway d r)) (g := goAwayClosure last (PErr.remoteGoAway d r))
      (J := Srv s.counts.isServer) (hit := fun e => e.1 > last ∧ (s.counts.isServer == (e.1 % 2 == 0)) = true)
      (fun t k => (goAwayClosure_cases last _ t k)) (fun t k hJ => errClosure_srv _ k hJ)
      (fun t e a0 hI hJ he hga hh => by
        unfold goAwayClosure
        simp only [stream_eq_of_get? hga, hI.2 e he a0 hga, isLocalInit_of_srv hJ, hh.2, Bool.and_true]
        simp [hh.1])
      s1 (h1s ▸ hg.ids) hsrv1 e (h1s ▸ he) ⟨hlast, by have := hloc; unfold Counts.isLocalInit at this; exact this⟩
    exact hd.of_rs (g_setConnError _ (GStep.refl _))

end H2V.Lemmas.ConnWakeP
