import H2V.Lemmas.CodecRoundTrip
import H2V.Lemmas.CodecWriter
/-
  Codec lemmas (A–D together): a sequence of serialised frames, cut into chunks in any way
  by the transport, is delivered by `FramedRead` as exactly that sequence of frames.
-/
namespace H2V.Lemmas.Codec
open H2V H2V.Model.Frame H2V.Model.CodecRead

/-- `bytes` is one complete frame within the receiver's limit which `decode_frame` (between header
    blocks) turns into `f` without touching its state -/
structure FrameBytes (maxLen : Nat) (bytes : Bytes) (f : Model.Frame.Frame) : Prop where
  complete : bytes.length = rd24 bytes + 9
  within : rd24 bytes ≤ maxLen
  decodes : ∀ r : Reader, r.partialBlk = none → decodeFrame r bytes = (r, .frame f)

theorem atBoundary_eta (r : Reader) (hb : AtBoundary r) : ({ r with buf := [], need := none } : Reader) = r := by
  obtain ⟨h1, h2⟩ := hb
  cases r
  simp only at h1 h2
  subst h1 h2
  rfl

theorem feed_one_frame (maxLen : Nat) (bytes : Bytes) (f : Model.Frame.Frame) (hf : FrameBytes maxLen bytes f)
    (r : Reader) (hb : AtBoundary r) (hpb : r.partialBlk = none) (hm : r.maxFrameLen = maxLen) :
    r.feed bytes = (r, [.frame f], false) := by
  have hlen := hf.complete
  have happ : r.app bytes = { r with buf := bytes } := by
    unfold Reader.app; rw [hb.1, List.nil_append]
  rw [feed_eq]
  show Reader.drain (((r.app bytes).buf.length / 9 + 1) + 1) _ _ = _
  rw [drain_succ]
  rw [needOf_boundary hb, if_neg (by omega), if_neg (by have := hf.within; omega)]
  simp only
  rw [if_neg (by simp only [app_buf, hb.1, List.nil_append]; omega)]
  have htf : takeFrame (r.app bytes) (rd24 bytes + 9) = (r, .frame f) := by
    unfold takeFrame
    rw [happ]
    simp only
    rw [← hlen, List.take_length, List.drop_length, atBoundary_eta r hb]
    exact hf.decodes r hpb
  rw [htf]
  simp only [isErr, Bool.false_eq_true, if_false, itemsOf, List.nil_append]
  rw [drain_succ, show needOf r = none from app_nil r ▸ needOf_boundary hb []]

/-- WIRE ROUND TRIP: the concatenation of any number of serialised frames, delivered at once … -/
theorem feed_wire (maxLen : Nat) (l : List (Bytes × Model.Frame.Frame))
    (hl : ∀ x ∈ l, FrameBytes maxLen x.1 x.2)
    (r : Reader) (hb : AtBoundary r) (hpb : r.partialBlk = none) (hm : r.maxFrameLen = maxLen) :
    r.feed (l.map (·.1)).flatten = (r, l.map (fun x => Item.frame x.2), false) := by
  induction l with
  | nil =>
    simp only [List.map_nil, List.flatten_nil]
    rw [feed_eq, drain_succ, needOf_boundary hb, app_nil]
    rfl
  | cons x xs ih =>
    simp only [List.map_cons, List.flatten_cons]
    rw [feed_append, feed_one_frame maxLen x.1 x.2 (hl x (List.mem_cons_self ..)) r hb hpb hm]
    simp only [Bool.false_eq_true, if_false]
    rw [ih (fun y hy => hl y (List.mem_cons_of_mem _ hy))]
    rfl

/-- … or in any chunks whatsoever: the same frames, in order, stream alive, reader back at the boundary -/
theorem feed_wire_chunks (maxLen : Nat) (l : List (Bytes × Model.Frame.Frame))
    (hl : ∀ x ∈ l, FrameBytes maxLen x.1 x.2)
    (r : Reader) (hb : AtBoundary r) (hpb : r.partialBlk = none) (hm : r.maxFrameLen = maxLen)
    (c : Bytes) (cs : List Bytes) (hc : (c :: cs).flatten = (l.map (·.1)).flatten) :
    feedAll r (c :: cs) = (r, l.map (fun x => Item.frame x.2), false) := by
  obtain ⟨h1, h2⟩ := feed_chunks_cons c cs r
  rw [hc, feed_wire maxLen l hl r hb hpb hm] at h1 h2
  have h3 : (feedAll r (c :: cs)).2.2 = false := congrArg Prod.snd h1
  exact Prod.ext (h2 h3) h1

theorem frameBytes_of_encode {maxLen : Nat} {h : Head} {p : Bytes} {f : Model.Frame.Frame}
    (hp : p.length < 2 ^ 24) (hm : p.length ≤ maxLen)
    (hd : ∀ r : Reader, r.partialBlk = none → decodeFrame r (h.encode p.length ++ p) = (r, .frame f)) :
    FrameBytes maxLen (h.encode p.length ++ p) f := by
  have hrd := Head.rd24_encode h p.length hp p
  refine ⟨?_, by rw [hrd]; exact hm, hd⟩
  rw [hrd]; simp; omega

theorem frameBytes_data (maxLen sid : Nat) (payload : Bytes) (eos : Bool)
    (hs0 : sid ≠ 0) (hs : sid < 2 ^ 31) (hp : payload.length < 2 ^ 24) (hm : payload.length ≤ maxLen) :
    FrameBytes maxLen ((Head.mk 0 (if eos then 1 else 0) sid).encode payload.length ++ payload)
      (.data sid payload eos none) :=
  frameBytes_of_encode hp hm fun r hpb => roundtrip_data r hpb sid payload eos hs0 hs hp

theorem frameBytes_ping (maxLen : Nat) (ack : Bool) (p : Bytes) (hp : p.length = 8) (hm : 8 ≤ maxLen) :
    FrameBytes maxLen ((Head.mk 6 (if ack then 1 else 0) 0).encode 8 ++ p) (.ping ack p) := by
  have := frameBytes_of_encode (maxLen := maxLen) (h := Head.mk 6 (if ack then 1 else 0) 0) (p := p) (f := .ping ack p)
    (by omega) (by omega)
  rw [hp] at this
  exact this fun r hpb => roundtrip_ping r hpb ack p hp

theorem frameBytes_window_update (maxLen sid inc : Nat) (hs : sid < 2 ^ 31) (hi0 : inc ≠ 0) (hi : inc < 2 ^ 31)
    (hm : 4 ≤ maxLen) :
    FrameBytes maxLen ((Head.mk 8 0 sid).encode 4 ++ be32 inc) (.windowUpdate sid inc) :=
  frameBytes_of_encode (p := be32 inc) (by simp) (by simpa using hm) fun r hpb =>
    roundtrip_window_update r hpb sid inc hs hi0 hi

theorem frameBytes_reset (maxLen sid code : Nat) (hs0 : sid ≠ 0) (hs : sid < 2 ^ 31) (hc : code < 2 ^ 32)
    (hm : 4 ≤ maxLen) :
    FrameBytes maxLen ((Head.mk 3 0 sid).encode 4 ++ be32 code) (.reset sid code) :=
  frameBytes_of_encode (p := be32 code) (by simp) (by simpa using hm) fun r hpb =>
    roundtrip_reset r hpb sid code hs0 hs hc

theorem frameBytes_settings (maxLen : Nat) (vals : List (Nat × Nat)) (hv : ∀ p ∈ vals, SettingOK p)
    (hm : 42 ≤ maxLen) :
    FrameBytes maxLen ((Head.mk 4 0 0).encode (settingsPayload vals).length ++ settingsPayload vals)
      (.settings false (settingsOrder vals)) := by
  have hlen := settingsPayload_length vals
  have hle := settingsOrder_length_le vals
  exact frameBytes_of_encode (by omega) (by omega) fun r hpb => roundtrip_settings r hpb vals hv

end H2V.Lemmas.Codec
