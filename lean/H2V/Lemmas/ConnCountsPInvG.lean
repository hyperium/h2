import H2V.Lemmas.ConnCountsPInvF
/-
  C05 — invariants, part G: `Inv2` through the counter primitives and the steps on `pending_open`.
-/
namespace H2V.Lemmas.ConnCountsP
open H2V H2V.Model H2V.Model.Conn

theorem Inv2.incSend {s : Streams} {k : Nat} {sv : Bool} {E : Nat → Prop} (hA : KeysOK s) (hi : Inv2 sv E s)
    (hp : (s.incNumSendStreams k).panicked = none) (hloc : ∀ x, s.store.get? k = some x → locId sv x.id = true) :
    Inv2 sv E (s.incNumSendStreams k) := by
  have hde := DE.incNumSendStreams (G := fun _ => False) s k
  refine hde.inv2 hi (fun _ _ _ h => h.elim) ?_
  intro herr
  obtain ⟨_, _, x, hx, hxc, e⟩ := incNumSendStreams_of_noPanic hp
  have hd := hi.dir (hde.counts.errOK herr)
  have hcnt := cntP_upd (sendCounted sv) hA (fun c => { c with numSendStreams := c.numSendStreams + 1 }) hx
    { x with isCounted := true } rfl
  have h0 : sendCounted sv x = false := by unfold sendCounted; rw [hxc]; rfl
  have h1 : sendCounted sv { x with isCounted := true } = true := by unfold sendCounted; simp [hloc x hx]
  rw [h0, h1, b2n_false, b2n_true] at hcnt
  rw [e]
  show s.counts.numSendStreams + 1 = _
  omega

theorem Inv2.incRecvStep {s : Streams} {k : Nat} {sv : Bool} {E : Nat → Prop} (hA : KeysOK s) (hi : Inv2 sv E s)
    (hp : (s.incNumRecvStreams k).panicked = none)
    (hrem : ErrOK (s.incNumRecvStreams k) → ∀ x, s.store.get? k = some x → locId sv x.id = false) :
    Inv2 sv E (s.incNumRecvStreams k) := by
  have hde := DE.incNumRecvStreams (G := fun _ => False) s k
  refine hde.inv2 hi (fun _ _ _ h => h.elim) ?_
  intro herr
  obtain ⟨_, _, x, hx, hxc, e⟩ := incNumRecvStreams_of_noPanic hp
  have hd := hi.dir (hde.counts.errOK herr)
  have hcnt := cntP_upd (sendCounted sv) hA (fun c => { c with numRecvStreams := c.numRecvStreams + 1 }) hx
    { x with isCounted := true } rfl
  have h0 : sendCounted sv x = false := by unfold sendCounted; rw [hxc]; rfl
  have h1 : sendCounted sv { x with isCounted := true } = false := by unfold sendCounted; simp [hrem herr x hx]
  rw [h0, h1, b2n_false] at hcnt
  rw [e]
  show s.counts.numSendStreams = _
  omega

theorem Inv2.decNum {s : Streams} {k : Nat} {sv : Bool} {E : Nat → Prop} (hA : KeysOK s) (hi : Inv2 sv E s)
    (hp : (s.decNumStreams k).panicked = none) : Inv2 sv E (s.decNumStreams k) := by
  have hde := DE.decNumStreams (G := fun _ => False) s k
  refine hde.inv2 hi (fun _ _ _ h => h.elim) ?_
  intro herr
  obtain ⟨_, x, hx, hxc, hcase⟩ := decNumStreams_of_noPanic hp
  have hd := hi.dir (hde.counts.errOK herr)
  have hcnt := fun g => cntP_upd (sendCounted sv) hA g hx { x with isCounted := false } rfl
  have h1 : sendCounted sv { x with isCounted := false } = false := rfl
  rcases hcase with ⟨hloc, hpos, e⟩ | ⟨hloc, hpos, e⟩ <;> rw [e]
  · have h0 : sendCounted sv x = true := by unfold sendCounted; simp [hxc, ← hi.role, ← isLocalInit_eq, hloc]
    have := hcnt fun c => { c with numSendStreams := c.numSendStreams - 1 }
    rw [h0, h1, b2n_false, b2n_true] at this
    show s.counts.numSendStreams - 1 = _
    omega
  · have h0 : sendCounted sv x = false := by unfold sendCounted; simp [← hi.role, ← isLocalInit_eq, hloc]
    have := hcnt fun c => { c with numRecvStreams := c.numRecvStreams - 1 }
    rw [h0, h1, b2n_false] at this
    show s.counts.numSendStreams = _
    omega

theorem Inv2.qPushOpen {s : Streams} {k : Nat} {sv : Bool} {E : Nat → Prop} (hA : KeysOK s) (hi : Inv2 sv E s)
    (hp : (s.qPush .pendingOpen k).1.panicked = none) (hloc : s.counts.isLocalInit (s.stream k).id = true) :
    Inv2 sv E (s.qPush .pendingOpen k).1 := by
  unfold Streams.qPush at hp ⊢
  split at hp
  · next hq => simp only [hq, if_true]; exact hi
  · next hq =>
    simp only [hq, Bool.false_eq_true, if_false] at ⊢
    have hdf := DF.modStream s k (fun st => st.setQueued .pendingOpen true) (fun x => setQueued_key x _ true) (fun x => setQueued_sameD x _ true)
    rw [setQ_panicked] at hp
    obtain ⟨_, x, hx⟩ := modStream_noPanic hp
    generalize hs1 : (s.modStream k fun st => st.setQueued .pendingOpen true) = s1 at hdf hp
    have hi1 := hdf.inv2 hA hi
    have hsx : s.stream k = x := stream_of_get? hx
    have hl : locId sv x.id = true := by rw [← hi.role, ← hsx]; exact hloc
    -- the queue gains `k`
    have hst : (s1.setQ .pendingOpen (s.getQ .pendingOpen ++ [k])).store = s1.store := setQ_store _ _ _
    refine ⟨hi1.role, ?_, ?_, ?_, ?_, ?_, ?_⟩
    · intro j hj
      have hj' : j ∈ s.prio.pendingOpen ++ [k] := hj
      rw [hst]
      rcases List.mem_append.mp hj' with h1 | h1
      · have := hi.p1 j h1
        refine ⟨by rw [hdf.nextKey]; exact this.1, ?_⟩
        intro st' hst'
        obtain ⟨y, hy, d⟩ := hdf.desc j st' hst'
        rw [d.id]; exact this.2 y hy
      · simp only [List.mem_singleton] at h1
        subst h1
        refine ⟨by rw [hdf.nextKey]; exact hA.fresh x (get?_mem hx) |> fun h => by rw [get?_key hx] at h; exact h, ?_⟩
        intro st' hst'
        obtain ⟨y, hy, d⟩ := hdf.desc j st' hst'
        rw [hx] at hy; cases hy
        rw [d.id]; exact hl
    · rw [hst]; exact hi1.ids
    · rw [hst]; exact hi1.fr
    · intro herr; rw [hst]; exact hi1.p3 herr
    · intro herr
      have : cntP (sendCounted sv) (s1.setQ .pendingOpen (s.getQ .pendingOpen ++ [k])) = cntP (sendCounted sv) s1 := cntP_of_store_eq _ hst
      rw [this, setQ_counts]
      exact hi1.dir (by unfold ErrOK at herr ⊢; rw [setQ_counts] at herr; exact herr)
    · exact hi1.next

end H2V.Lemmas.ConnCountsP
