import H2V.Lemmas.ConnCountsPCore
import H2V.Lemmas.ConnWakePTurn
/-
  C05 / C18 / C19: `Ev` for `prioritize.rs` (`ConnSend.lean`, first half).
-/
namespace H2V.Lemmas.ConnCountsP
open H2V H2V.Model H2V.Model.Conn
variable {ρ : Bool}
attribute [local irreducible] wrapSubU32 wrapSubUsize

theorem qPush_ev (s : Streams) (q : QName) (k : Nat) (h1 : q ≠ .pendingResetExpired) (h2 : q ≠ .pendingOpen) :
    EvB ρ s (s.qPush q k).1 := .qPush q k h1 h2
theorem qPushFront_ev (s : Streams) (q : QName) (k : Nat) (h1 : q ≠ .pendingResetExpired) (h2 : q ≠ .pendingOpen) :
    EvB ρ s (s.qPushFront q k).1 := .qPushFront q k h1 h2
theorem qPop_ev (s : Streams) (q : QName) (h1 : q ≠ .pendingResetExpired) (h2 : q ≠ .pendingOpen) :
    EvB ρ s (s.qPop q).1 := .qPop q h1 h2

theorem queueFrame_ev (s : Streams) (id : Nat) (f : SFrame) (hf : SFrame.isPP f = false) : EvB ρ s (s.queueFrame id f) := by
  unfold Streams.queueFrame
  refine .trans (modStream_ev' _ _ _ ?_) (.of_step (Streams.scheduleSend_step (by decide) _ _))
  exact setPendingSend_same' _ _ (mem_append_single_pp hf)

theorem queueOpen_ev (s : Streams) (id : Nat) (h : s.counts.isLocalInit (s.stream id).id = true) : EvB ρ s (s.queueOpen id) :=
  .qPushOpen id h

/-- `transition_after` behind a piece of code, with the flag read before it -/
theorem transitionAfter_after {s1 s2 : Streams} (k : Nat) (e : EvB ρ s1 s2) :
    EvB ρ s1 (s2.transitionAfter k (s1.stream k).isPendingResetExpiration) :=
  .trans e (transitionAfter_ev _ _ _ (fun hb => e.mono.resetAt k hb))

macro_rules | `(tactic| ev_side) => `(tactic| (show SFrame.isPP _ = false; rfl))

theorem reclaimAllCapacity_ev (s : Streams) (id : Nat) : EvB ρ s (s.reclaimAllCapacity id) :=
  .of_step (Streams.reclaimAllCapacity_step (by decide) s id)

theorem clearQueue_ev (s : Streams) (id : Nat) : EvB ρ s (s.clearQueue id) :=
  .of_step (Streams.clearQueue_step (by decide) s id)

theorem clearPendingCapacity_ev (fuel : Nat) (s : Streams) : EvB ρ s (Streams.clearPendingCapacity fuel s) := by
  rw [Streams.clearPendingCapacity_eq]
  exact Streams.popLoop_rel EvB.relOK (fun s => qPop_ev s _ (by decide) (by decide)) taBody_ev fuel s

theorem clearPendingOpen_ev (fuel : Nat) (s : Streams) : EvB ρ s (Streams.clearPendingOpen fuel s) := by
  rw [Streams.clearPendingOpen_eq]
  exact Streams.popLoop_rel EvB.relOK (fun _ => .qPopOpen) taBody_ev fuel s

theorem clearPendingSend_ev (fuel : Nat) (s : Streams) : EvB ρ s (Streams.clearPendingSend fuel s) := by
  rw [Streams.clearPendingSend_eq]
  refine Streams.popLoop_rel EvB.relOK (fun s => qPop_ev s _ (by decide) (by decide)) (fun s id => ?_) fuel s
  refine transitionAfter_after id ?_
  split
  · exact modStreamW_ev' _ _ _ (setReset_same _ _ _)
  · exact .refl _

/-- what follows the `match stream.pending_send.pop_front(buffer)` in `pop_frame` -/
theorem popFrame_finish {s' s2 : Streams} (id : Nat) (c : Prop) [Decidable c] (e : EvB ρ s' s2) :
    EvB ρ s' ((if c then (s2.qPush .pendingSend id).1 else s2).transitionAfter id (s'.stream id).isPendingResetExpiration) := by
  refine transitionAfter_after id (.trans e ?_)
  split
  · exact qPush_ev _ _ _ (by decide) (by decide)
  · exact .refl _

theorem popRest_same {s : Streams} {id : Nat} {x : SFrame} {rest : List SFrame} (h : (s.stream id).pendingSend = x :: rest) :
    Same (s.stream id) { s.stream id with pendingSend := rest } := by
  refine setPendingSend_same' _ _ ?_
  intro f hf _
  rw [h]; exact List.mem_cons_of_mem _ hf

/-- the DATA arm of `pop_frame` -/
theorem pfData_ev (sd : Stream → Nat → Nat → Stream × List String × Bool) (hsd : ∀ x a b, Same x (sd x a b).1)
    {s0 : Streams} {id : Nat} {x : SFrame} {rest : List SFrame} (hps : (s0.stream id).pendingSend = x :: rest) (len : Nat) :
    EvB ρ s0 (ConnWakeP.pfData sd s0 id len rest) := by
  unfold ConnWakeP.pfData
  ev_head
  · exact modStream_ev' _ _ _ (popRest_same hps)
  · have hsame := hsd (s.stream id) len s.prio.maxBufferSize
    generalize sd (s.stream id) len s.prio.maxBufferSize = p at hsame ⊢
    obtain ⟨st', w, bad⟩ := p
    dsimp only
    refine .trans e (.trans (setStream_ev (ρ := ρ) s id st' hsame) ?_)
    ev_auto

theorem pfFinish_ev {s' s2 : Streams} (id : Nat) (f : Streams.OutFrame) (e : EvB ρ s' s2) :
    EvB ρ s' (ConnWakeP.pfFinish id (s'.stream id).isPendingResetExpiration s2 f).1 :=
  popFrame_finish id _ e

theorem popTurn_ev (sd : Stream → Nat → Nat → Stream × List String × Bool) (hsd : ∀ x a b, Same x (sd x a b).1)
    (s : Streams) (m : Nat) : EvB ρ s (ConnWakeP.popTurn sd s m).state := by
  have pop : ∀ {s0 : Streams} {o : Option Nat}, s.qPop .pendingSend = (s0, o) → EvB ρ s s0 :=
    fun hq => of_fst_eq hq (qPop_ev _ _ (by decide) (by decide))
  refine ConnWakeP.popTurn_cases sd s m (P := fun t => EvB ρ s t.state) ?_ ?_ ?_ ?_ ?_ ?_ ?_ ?_ ?_ ?_
  · exact fun s0 hq => pop hq
  · intro s0 id sz eos rest hq _ _
    exact .trans (pop hq) (.trans (.trans (clearQueue_ev _ _) (reclaimAllCapacity_ev _ _)) (qPush_ev _ _ _ (by decide) (by decide)))
  · exact fun s0 id sz eos rest hq _ _ _ => pop hq
  · exact fun s0 id sz eos rest hq hps _ _ => .trans (pop hq) (pfFinish_ev id _ (pfData_ev sd hsd hps _))
  · exact fun s0 id heos fields rest hq hps => .trans (pop hq) (pfFinish_ev id _ (modStream_ev' _ _ _ (popRest_same hps)))
  · exact fun s0 id reason rest hq hps => .trans (pop hq) (pfFinish_ev id _ (modStream_ev' _ _ _ (popRest_same hps)))
  · intro s0 id pk pid fields rest hq hps _
    exact .trans (pop hq) (popFrame_finish id _ (modStream_ev' _ _ _ (popRest_same hps)))
  · intro s0 id pk pid fields rest pushed hq hps hfind
    exact .trans (pop hq) (pfFinish_ev id _ (.ppAct id pk pid fields rest pushed hps (by
      rw [show s0.store.findKey? pid = (s0.modStream id fun st => { st with pendingSend := rest }).store.findKey? pid by
        unfold Store.findKey?; rw [Streams.modStream_ids]]
      exact hfind)))
  · exact fun s0 id reason hq _ _ => .trans (pop hq) (pfFinish_ev id _ (modStreamW_ev' _ _ _ (setReset_same _ _ _)))
  · exact fun s0 id hq _ _ => .trans (pop hq) (transitionAfter_after id (.refl _))

theorem popFrame_ev (fuel : Nat) (s : Streams) (maxLen : Nat) : EvB ρ s (Streams.popFrame fuel s maxLen).1 := by
  rw [ConnWakeP.popFrameC.eq]
  exact ConnWakeP.popFrameC_inv (I := EvB ρ s) (fun t ht => .trans ht (popTurn_ev _ sendData_same t maxLen)) fuel s (.refl s)

theorem popPendingOpen_ev (s : Streams) : EvB ρ s s.popPendingOpen.1 := by
  unfold Streams.popPendingOpen
  split
  · next hc =>
    have h := EvB.popOpen (ρ := ρ) (s := s) hc
    split
    · next s' id heq =>
      rw [heq] at h
      exact .trans h (modStreamW_ev' (s'.incNumSendStreams id) id Stream.notifySend (Same.of_updW .notifySend))
    · next s' heq => rw [heq] at h; exact h
  · exact .refl _

end H2V.Lemmas.ConnCountsP
