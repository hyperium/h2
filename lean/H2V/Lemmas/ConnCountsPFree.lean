import H2V.Lemmas.ConnCountsPReach
/-
  C05 — `transition_after` frees the slot of a closed, counted stream.
-/
namespace H2V.Lemmas.ConnCountsP
open H2V H2V.Model H2V.Model.Conn

theorem modCountsA_decReset_facts (s : Streams) (m : String) :
    (s.modCountsA m Counts.decNumResetStreams).store = s.store ∧
    (s.modCountsA m Counts.decNumResetStreams).counts.numSendStreams = s.counts.numSendStreams ∧
    (s.modCountsA m Counts.decNumResetStreams).counts.numRecvStreams = s.counts.numRecvStreams := by
  unfold Streams.modCountsA Counts.decNumResetStreams
  split
  · next c hc =>
    split at hc
    · cases hc; exact ⟨rfl, rfl, rfl⟩
    · cases hc
  · rw [panic_store, panic_counts]; exact ⟨rfl, rfl, rfl⟩

/-- **`transition_after` on a stream that is closed, flushed, counted and not waiting for its
    implicit RST_STREAM: exactly one slot is given back** (whatever else happens to the entry:
    unlinked, kept for the reset queue, released) -/
theorem transitionAfter_frees_slot (s : Streams) (k : Nat) (b : Bool) (hA : KeysOK s)
    (hp : (s.transitionAfter k b).panicked = none)
    (hcl : (s.stream k).isClosed = true) (hcn : (s.stream k).isCounted = true)
    (hns : (s.stream k).state.isScheduledReset = false) :
    (s.transitionAfter k b).counts.numSendStreams + (s.transitionAfter k b).counts.numRecvStreams + 1 =
      s.counts.numSendStreams + s.counts.numRecvStreams := by
  rw [transitionAfter_split] at hp ⊢
  generalize hs1 : (if (b && !(s.stream k).isPendingResetExpiration) = true then
      s.modCountsA "self.num_local_reset_streams > 0" Counts.decNumResetStreams else s) = s1 at hp ⊢
  have h1 : s1.store = s.store ∧ s1.counts.numSendStreams = s.counts.numSendStreams ∧ s1.counts.numRecvStreams = s.counts.numRecvStreams := by
    rw [← hs1]; split
    · exact modCountsA_decReset_facts s _
    · exact ⟨rfl, rfl, rfl⟩
  have hst1 : s1.stream k = s.stream k := by unfold Streams.stream; rw [h1.1]
  have hA1 : KeysOK s1 := ⟨by rw [h1.1]; exact hA.nodup, by unfold KeysFresh; rw [h1.1]; exact hA.fresh⟩
  rw [← h1.2.1, ← h1.2.2]
  rw [← hst1] at hcl hcn hns
  clear hs1 h1 hst1 hA
  -- `transition_after(stream, false)` on `s1`
  unfold Streams.transitionAfter at hp ⊢
  simp only [Bool.false_and, Bool.false_eq_true, if_false, hcl, if_true, hns, Bool.not_false, hcn, Bool.and_self] at hp ⊢
  generalize hs2 : (if (!(s1.stream k).isPendingResetExpiration) = true then
      ({ s1 with store := s1.store.unlink (s1.stream k).id } : Streams) else s1) = s2 at hp ⊢
  have h2 : s2.store.slab = s1.store.slab ∧ s2.store.nextKey = s1.store.nextKey ∧ s2.counts = s1.counts := by
    rw [← hs2]; split <;> exact ⟨rfl, rfl, rfl⟩
  have hA2 : KeysOK s2 := ⟨by rw [h2.1]; exact hA1.nodup, by unfold KeysFresh; rw [h2.1, h2.2.1]; exact hA1.fresh⟩
  rw [← h2.2.2]
  clear hs2 h2 hA1
  -- the decrement
  have hp3 : (s2.decNumStreams k).panicked = none := by
    split at hp
    · have hp' : (if ((s2.decNumStreams k).stream k).isCounted = true then (s2.decNumStreams k).decNumStreams k
          else s2.decNumStreams k).panicked = none := hp
      split at hp'
      · exact noPanic_of_mono (Mono.decNumStreams _ _).panic hp'
      · exact hp'
    · exact hp
  obtain ⟨_, x, hx, _, hcase⟩ := decNumStreams_of_noPanic hp3
  have hx3 := decNumStreams_get?_self s2 k x hx
  have hnc3 : ((s2.decNumStreams k).stream k).isCounted = false := by rw [stream_of_get? hx3]
  have hcounts : (s2.decNumStreams k).counts.numSendStreams + (s2.decNumStreams k).counts.numRecvStreams + 1 =
      s2.counts.numSendStreams + s2.counts.numRecvStreams := by
    rcases hcase with ⟨_, hpos, hc⟩ | ⟨_, hpos, hc⟩ <;> rw [hc]
    · show s2.counts.numSendStreams - 1 + s2.counts.numRecvStreams + 1 = _; omega
    · show s2.counts.numSendStreams + (s2.counts.numRecvStreams - 1) + 1 = _; omega
  split
  · simp only [hnc3, Bool.false_eq_true, if_false]
    exact hcounts
  · exact hcounts

theorem decNumStreams_get?_any (t : Streams) (k j : Nat) (x : Stream) (hx : t.store.get? j = some x) :
    ∃ x', (t.decNumStreams k).store.get? j = some x' ∧ x'.refCount = x.refCount ∧ x'.id = x.id := by
  rw [Streams.decNumStreams_get?]
  split
  · next hj => subst hj; exact ⟨{ x with isCounted := false }, by rw [hx]; rfl, rfl, rfl⟩
  · exact ⟨x, hx, rfl, rfl⟩

/-- **an entry that a handle still refers to (`ref_count > 0`), or any entry other than the one
    `transition_after` was called for, stays in the slab with its stream id and `ref_count`** -/
theorem transitionAfter_keeps (s : Streams) (k j : Nat) (b : Bool) (x : Stream) (hx : s.store.get? j = some x)
    (hkeep : j ≠ k ∨ x.refCount ≠ 0) :
    ∃ x', (s.transitionAfter k b).store.get? j = some x' ∧ x'.refCount = x.refCount ∧ x'.id = x.id := by
  rw [Streams.transitionAfter_eq]
  have hx1 : (s.taResetCount k b).store.get? j = some x := by rw [Streams.taResetCount_store]; exact hx
  have hx2 : ∃ x2, ((s.taResetCount k b).taClose (s.stream k) k).store.get? j = some x2 ∧
      x2.refCount = x.refCount ∧ x2.id = x.id := by
    unfold Streams.taClose
    split
    · extract_lets s3
      have hx3 : s3.store.get? j = some x := by unfold s3; split <;> exact hx1
      split
      · exact decNumStreams_get?_any s3 k j x hx3
      · exact ⟨x, hx3, rfl, rfl⟩
    · exact ⟨x, hx1, rfl, rfl⟩
  generalize (s.taResetCount k b).taClose (s.stream k) k = s2 at hx2
  unfold Streams.taRelease
  obtain ⟨x2, hx2, hr2, hi2⟩ := hx2
  split
  · next hrel =>
    -- released: then `j ≠ k`, because a released entry has `ref_count = 0`
    have hjk : j ≠ k := by
      rcases hkeep with h | h
      · exact h
      · intro he
        subst he
        rw [stream_of_get? hx2] at hrel
        unfold Stream.isReleased at hrel
        simp only [Bool.and_eq_true, beq_iff_eq] at hrel
        rw [hr2] at hrel
        exact h hrel.1.1.1.1.1.1.2
    generalize hs4 : (if (s2.stream k).isCounted = true then s2.decNumStreams k else s2) = s4
    have hx4 : ∃ x4, s4.store.get? j = some x4 ∧ x4.refCount = x2.refCount ∧ x4.id = x2.id := by
      rw [← hs4]; split
      · exact decNumStreams_get?_any s2 k j x2 hx2
      · exact ⟨x2, hx2, rfl, rfl⟩
    obtain ⟨x4, hx4, hr4, hi4⟩ := hx4
    refine ⟨x4, ?_, hr4.trans hr2, hi4.trans hi2⟩
    show (Store.remove _ k).get? j = some x4
    rw [remove_get?_ne _ _ _ hjk]; exact hx4
  · exact ⟨x2, hx2, hr2, hi2⟩

end H2V.Lemmas.ConnCountsP
