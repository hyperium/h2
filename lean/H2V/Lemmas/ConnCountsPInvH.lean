import H2V.Lemmas.ConnCountsPInvG
/-
  C05 — invariants, part H: `Inv2` through insertion, removal and the PUSH_PROMISE steps (along
  `EvB` / `EvT`: part I).
-/
namespace H2V.Lemmas.ConnCountsP
open H2V H2V.Model H2V.Model.Conn

export H2V.Model.Conn.Store (findKey?_mem)

theorem insert_ids_mem (st : Store) (x : Stream) : ∀ p ∈ (st.insert x).1.ids, p ∈ st.ids ∨ p = (x.id, st.nextKey) := by
  intro p hp
  unfold Store.insert at hp
  dsimp only at hp
  split at hp
  · obtain ⟨e, he, hpe⟩ := List.mem_map.mp hp
    split at hpe
    · right; exact hpe.symm
    · left; rw [← hpe]; exact he
  · rcases List.mem_append.mp hp with h | h
    · left; exact h
    · right; simpa using h

theorem DF.unlink (s : Streams) (id : Nat) : DF s { s with store := s.store.unlink id } :=
  ⟨CD.refl _, rfl, fun _ => Store.mem_swapRemove, fun _ h => h, fun _ x' h => ⟨x', h, SameD.refl _⟩, ⟨rfl, rfl⟩, fun _ _ => rfl, NextOK.refl _ _⟩

theorem Inv2.insert {s : Streams} {sv : Bool} {E : Nat → Prop} (hA : KeysOK s) (hi : Inv2 sv E s) (st : Stream) (hf : Fresh st)
    (hE : locId sv st.id = true → E s.store.nextKey) : Inv2 sv E { s with store := (s.store.insert st).1 } := by
  have hnone := get?_nextKey_none hA.fresh
  have hold : ∀ k x, k < s.store.nextKey → (s.store.insert st).1.get? k = some x → s.store.get? k = some x := by
    intro k x hk hx
    rcases insert_get?_cases s.store st k with e | ⟨_, e, _⟩
    · rw [e] at hx; exact hx
    · omega
  have hnew : ∀ x, (s.store.insert st).1.get? s.store.nextKey = some x → x = { st with key := s.store.nextKey } := by
    intro x hx
    rw [insert_get?_new hA.fresh st] at hx; cases hx; rfl
  have hcases : ∀ k x, (s.store.insert st).1.get? k = some x → s.store.get? k = some x ∨ (k = s.store.nextKey ∧ x = { st with key := s.store.nextKey }) := by
    intro k x hx
    rcases insert_get?_cases s.store st k with e | ⟨_, e, e2⟩
    · left; rw [e] at hx; exact hx
    · right; rw [e2] at hx; cases hx; exact ⟨e, rfl⟩
  refine ⟨hi.role, ?_, ?_, ?_, ?_, ?_, hi.next⟩
  · intro k hk
    have := hi.p1 k hk
    refine ⟨Nat.lt_succ_of_lt this.1, ?_⟩
    intro x hx
    exact this.2 x (hold k x this.1 hx)
  · intro p hp
    rcases insert_ids_mem s.store st p hp with h | h
    · have := hi.ids p h
      refine ⟨Nat.lt_succ_of_lt this.1, ?_⟩
      intro x hx
      exact this.2 x (hold _ x this.1 hx)
    · rw [h]
      refine ⟨Nat.lt_succ_self _, ?_⟩
      intro x hx
      rw [hnew x hx]
  · intro k x hx pk pid fl hfr
    rcases hcases k x hx with h | ⟨_, h⟩
    · exact hi.fr k x h pk pid fl hfr
    · rw [h] at hfr
      have : ({ st with key := s.store.nextKey } : Stream).pendingSend = [] := hf.send
      rw [this] at hfr; cases hfr
  · intro herr k x hx hloc he
    rcases hcases k x hx with h | ⟨hk, h⟩
    · exact hi.p3 herr k x h hloc he
    · rw [hk]; apply hE; rw [h] at hloc; exact hloc
  · intro herr
    have : cntP (sendCounted sv) { s with store := (s.store.insert st).1 } = cntP (sendCounted sv) s := by
      apply cntP_insert
      unfold sendCounted
      have : ({ st with key := s.store.nextKey } : Stream).isCounted = false := hf.counted
      rw [this]; rfl
    rw [this]; exact hi.dir herr

theorem Inv2.remove {s : Streams} {sv : Bool} {E : Nat → Prop} (hA : KeysOK s) (hi : Inv2 sv E s) (k n : Nat)
    (hg : ∀ st, s.store.get? k = some st → st.isCounted = false) :
    Inv2 sv E { s with store := s.store.remove k, recvBufferLeaked := n } := by
  have hde : DE (fun _ => False) s { s with store := s.store.remove k, recvBufferLeaked := n } := by
    refine ⟨CE.refl _, rfl, fun _ h => h, fun _ h => h, ?_, NextOK.refl _ _⟩
    intro j x' hx'
    have hx'' : (s.store.remove k).get? j = some x' := hx'
    by_cases hjk : j = k
    · rw [hjk, remove_get?_self] at hx''; cases hx''
    · rw [remove_get?_ne _ _ _ hjk] at hx''
      exact ⟨x', hx'', SameE.refl _⟩
  refine hde.inv2 hi (fun _ _ _ h => h.elim) ?_
  intro herr
  rw [cntP_remove (sendCounted sv) hA k n (fun st hst => by unfold sendCounted; rw [hg st hst]; rfl)]
  exact hi.dir herr

theorem Inv2.queuePP {s : Streams} {sv : Bool} {E : Nat → Prop} (hA : KeysOK s) (hi : Inv2 sv E s) (k pk pid : Nat)
    (fields : List Hpack.Field) (hl : s.counts.isLocalInit pid = true) :
    Inv2 sv E (s.modStream k fun st => { st with pendingSend := st.pendingSend ++ [.pushPromise pk pid fields] }) := by
  have hde : DE (fun f => f = .pushPromise pk pid fields) s
      (s.modStream k fun st => { st with pendingSend := st.pendingSend ++ [.pushPromise pk pid fields] }) := by
    refine DE.modStream s k _ (fun _ => rfl) ?_
    intro x
    refine ⟨rfl, fun h => h, ?_⟩
    intro f hf _
    rcases List.mem_append.mp hf with h | h
    · exact .inl h
    · exact .inr (List.mem_singleton.mp h)
  refine hde.inv2 hi ?_ ?_
  · intro pk' pid' fl' h
    cases h
    rw [← hi.role]; exact hl
  · intro herr
    rw [Streams.modStream_counts, cntP_modStream_same (sendCounted sv) hA k
      (fun st => { st with pendingSend := st.pendingSend ++ [.pushPromise pk pid fields] }) (fun _ => rfl) (fun _ => rfl)]
    exact hi.dir (by unfold ErrOK at herr ⊢; rw [Streams.modStream_counts] at herr; exact herr)

theorem stream_pendingSend_live {s : Streams} {k : Nat} {f : SFrame} {l : List SFrame} (h : (s.stream k).pendingSend = f :: l) :
    ∃ x, s.store.get? k = some x ∧ s.stream k = x := by
  rcases stream_get?_or s k with h1 | h1
  · exact h1
  · unfold Streams.stream at h
    rw [h1] at h
    cases h

theorem Inv2.ppAct {s : Streams} {sv : Bool} {E : Nat → Prop} (hA : KeysOK s) (hi : Inv2 sv E s)
    (sid pk pid : Nat) (fields : List Hpack.Field) (rest : List SFrame) (pushed : Nat)
    (hhead : (s.stream sid).pendingSend = .pushPromise pk pid fields :: rest) (hfind : s.store.findKey? pid = some pushed)
    (hp : (ppActivate (s.modStream sid fun st => { st with pendingSend := rest }) pushed).panicked = none) :
    Inv2 sv E (ppActivate (s.modStream sid fun st => { st with pendingSend := rest }) pushed) := by
  -- the promised id is locally initiated, and `pushed` is its entry
  obtain ⟨x, hx, hxs⟩ := stream_pendingSend_live hhead
  have hlpid : locId sv pid = true := hi.fr sid x hx pk pid fields (by rw [← hxs, hhead]; exact List.mem_cons_self)
  have hids := (hi.ids (pid, pushed) (Store.findKey?_mem hfind)).2
  have hdf1 : DF s (s.modStream sid fun st => { st with pendingSend := rest }) := by
    refine DF.modStreamAt s sid _ (fun _ => rfl) ?_
    intro y hy
    refine ⟨rfl, rfl, fun h => h, ?_⟩
    intro f hf _
    rw [hx] at hy; cases hy
    rw [← hxs, hhead]; exact List.mem_cons_of_mem _ hf
  generalize (s.modStream sid fun st => { st with pendingSend := rest }) = s1 at hdf1 hp ⊢
  have hA1 := hdf1.keys.keysOK hA
  have hi1 := hdf1.inv2 hA hi
  unfold ppActivate at hp ⊢
  dsimp only at hp ⊢
  have hdf2 := DF.modStream s1 pushed (fun st => { st with isPendingPush := false }) (fun _ => rfl) (fun _ => ⟨rfl, rfl, fun h => h, fun _ h _ => h⟩)
  generalize (s1.modStream pushed fun st => { st with isPendingPush := false }) = s2 at hdf2 hp ⊢
  have hA2 := hdf2.keys.keysOK hA1
  have hi2 := hdf2.inv2 hA1 hi1
  have hloc2 : ∀ y, s2.store.get? pushed = some y → locId sv y.id = true := by
    intro y hy
    obtain ⟨y1, hy1, d1⟩ := hdf2.desc pushed y hy
    obtain ⟨y0, hy0, d0⟩ := hdf1.desc pushed y1 hy1
    rw [d1.id, d0.id, hids y0 hy0]; exact hlpid
  by_cases hne : (!(s2.stream pushed).pendingSend.isEmpty) = true
  · simp only [hne, if_true] at hp ⊢
    by_cases hcan : s2.counts.canIncNumSendStreams = true
    · simp only [hcan, if_true] at hp ⊢
      have hp3 : (s2.incNumSendStreams pushed).panicked = none := noPanic_of_mono (Mono.qPush _ _ _).panic hp
      have hi3 := hi2.incSend hA2 hp3 hloc2
      have hA3 := (SameKeys.incNumSendStreams s2 pushed).keysOK hA2
      exact (DF.qPush _ _ _ (by decide)).inv2 hA3 hi3
    · simp only [hcan] at hp ⊢
      unfold Streams.queueOpen at hp ⊢
      refine hi2.qPushOpen hA2 hp ?_
      rcases stream_get?_or s2 pushed with ⟨y, hy, hys⟩ | hn
      · rw [hys, isLocalInit_eq, hi2.role]; exact hloc2 y hy
      · -- a dangling key: `modStream` panics
        exfalso
        have hq : (s2.stream pushed).isQueued .pendingOpen = false := by
          unfold Streams.stream; rw [hn]; rfl
        unfold Streams.qPush at hp
        simp only [hq, Bool.false_eq_true, if_false] at hp
        rw [setQ_panicked] at hp
        obtain ⟨_, y, hy⟩ := modStream_noPanic hp
        rw [hn] at hy; cases hy
  · simp only [hne] at hp ⊢
    exact hi2

end H2V.Lemmas.ConnCountsP
