import H2V.Lemmas.ConnFidPPoll
/-
  ConnFidP — reachability through the API of the stream layer and the main theorems.

  `ApiStep s w s' w'`: one operation of the connection task (`Conn`, connection.rs) or of an application handle
  on the stream layer `s` and the codec `w`, with arbitrary arguments (so every interleaving of peer
  frames, polls of the connection and user calls is a sequence of `ApiStep`s); the codec may, between
  two operations, do anything that keeps the DATA frame it holds (`codec`: flushes, connection-level frames).
  `Reach`: reached from a fresh stream layer by `ApiStep`s.  `Reach.hist`: every reachable pair is a history,
  so the fidelity invariant (`Hist.inv`) holds in it.  Every `ApiStep` is also a path of elementary steps, so a
  reachable stream layer is reached from an empty one by ONE path, along which the receive ledger holds
  (`Reach.recv_ledger`).
-/
set_option linter.unusedSectionVars false
namespace H2V.Lemmas.ConnFidP
open H2V H2V.Model H2V.Model.Conn H2V.Lemmas.ConnWakeP

theorem held_pollSendPendingRefusal (n : Nat) (s : Streams) (w : Writer) (io : Tio) (t : String) (hw : WOk w) :
    held (Streams.pollSendPendingRefusal n s w io t).2.1 = held w ∧ WOk (Streams.pollSendPendingRefusal n s w io t).2.1 :=
  Streams.pollSendPendingRefusal_inv (I := fun _ w' => held w' = held w ∧ WOk w')
    (fun s w' h => by
      unfold Streams.sendPendingRefusal
      split
      · split
        · exact h
        · exact ⟨(held_bufferSimple w' 4 _).1.trans h.1, (held_bufferSimple w' 4 _).2 h.2⟩
      · exact h)
    (fun _ w' io h => ⟨(held_pollReadyW w' io t h.2).1.trans h.1, (held_pollReadyW w' io t h.2).2⟩) n s w io ⟨rfl, hw⟩

inductive ApiStep : Streams → Writer → Streams → Writer → Prop
  | recvHeaders (s : Streams) (w : Writer) (h : HeadersIn) (hov : h.isOverSize = false) : ApiStep s w (s.recvHeaders h).1 w
  | recvHeadersAny (s : Streams) (w : Writer) (h : HeadersIn) : ApiStep s w (s.recvHeaders h).1 w
  | recvData (s : Streams) (w : Writer) (id : Nat) (p : Bytes) (eos : Bool) (pad : Option Nat) : ApiStep s w (s.recvData id p eos pad).1 w
  | recvReset (s : Streams) (w : Writer) (id : Nat) (r : Reason) : ApiStep s w (s.recvReset id r).1 w
  | recvWindowUpdate (s : Streams) (w : Writer) (id inc : Nat) : ApiStep s w (s.recvWindowUpdate id inc).1 w
  | recvPushPromise (s : Streams) (w : Writer) (id : Nat) (h : HeadersIn) : ApiStep s w (s.recvPushPromise id h).1 w
  | handleError (s : Streams) (w : Writer) (e : PErr) : ApiStep s w (s.handleError e).1 w
  | recvGoAwayFrame (s : Streams) (w : Writer) (l : Nat) (r : Reason) (d : Bytes) : ApiStep s w (s.recvGoAwayFrame l r d).1 w
  | recvGoAway (s : Streams) (w : Writer) (l : Nat) : ApiStep s w (s.recvGoAway l) w
  | recvEof (s : Streams) (w : Writer) (b : Bool) : ApiStep s w (s.recvEof b) w
  | innerSendReset (s : Streams) (w : Writer) (id : Nat) (r : Reason) : ApiStep s w (s.innerSendReset id r).1 w
  | setTargetConnectionWindow (s : Streams) (w : Writer) (t : Nat) : ApiStep s w (s.setTargetConnectionWindow t).1 w
  | applyRemoteSettings (s : Streams) (w : Writer) (v : List (Nat × Nat)) (b : Bool) : ApiStep s w (s.applyRemoteSettings v b).1 w
  | applyLocalSettingsFrame (s : Streams) (w : Writer) (v : List (Nat × Nat)) : ApiStep s w (s.applyLocalSettingsFrame v).1 w
  | clearExpiredResetStreams (s : Streams) (w : Writer) (n : Nat) : ApiStep s w (Streams.clearExpiredResetStreams n s) w
  | pollComplete (s : Streams) (w : Writer) (n : Nat) (io : Tio) (t : String) :
      ApiStep s w (Streams.pollComplete n s w io t).1 (Streams.pollComplete n s w io t).2.1
  | pollSendPendingRefusal (s : Streams) (w : Writer) (n : Nat) (io : Tio) (t : String) :
      ApiStep s w (Streams.pollSendPendingRefusal n s w io t).1 (Streams.pollSendPendingRefusal n s w io t).2.1
  | codec (s : Streams) (w w' : Writer) : held w' = held w → (WOk w → WOk w') → ApiStep s w s w'
  | wake (s : Streams) (w : Writer) (t : List String) : ApiStep s w (s.wake t) w
  | clearWakes (s : Streams) (w : Writer) : ApiStep s w { s with wakes := [] } w
  | panic (s : Streams) (w : Writer) (m : String) : ApiStep s w (s.panic m) w
  | cloneHandle (s : Streams) (w : Writer) : ApiStep s w s.cloneHandle w
  | dropHandle (s : Streams) (w : Writer) : ApiStep s w s.dropHandle w
  | sendRequest (s : Streams) (w : Writer) (b : Bool) (f : List Hpack.Field) (eos : Bool) (p : Option Nat) :
      ApiStep s w (s.sendRequest b f eos p).1 w
  | pollPendingOpen (s : Streams) (w : Writer) (p : Option Nat) (t : String) : ApiStep s w (s.pollPendingOpen p t).1 w
  | nextIncoming (s : Streams) (w : Writer) : ApiStep s w s.nextIncoming.1 w
  | recvTakeRequest (s : Streams) (w : Writer) (k : Nat) : ApiStep s w (s.recvTakeRequest k).1 w
  | cloneStreamRef (s : Streams) (w : Writer) (k : Nat) : ApiStep s w (s.cloneStreamRef k) w
  | dropStreamRef (s : Streams) (w : Writer) (k : Nat) : ApiStep s w (s.dropStreamRef k) w
  | refSendResponse (s : Streams) (w : Writer) (k : Nat) (f : List Hpack.Field) (eos : Bool) : ApiStep s w (s.refSendResponse k f eos).1 w
  | refSendInformationalHeaders (s : Streams) (w : Writer) (k : Nat) (f : List Hpack.Field) :
      ApiStep s w (s.refSendInformationalHeaders k f).1 w
  | refSendPushPromise (s : Streams) (w : Writer) (parent : Nat) (v : Bool) (f : List Hpack.Field) :
      ApiStep s w (s.refSendPushPromise parent v f).1 w
  | refSendData (s : Streams) (w : Writer) (k len : Nat) (eos : Bool) : ApiStep s w (s.refSendData k len eos).1 w
  | refSendTrailers (s : Streams) (w : Writer) (k : Nat) (f : List Hpack.Field) : ApiStep s w (s.refSendTrailers k f).1 w
  | refReserveCapacity (s : Streams) (w : Writer) (k c : Nat) : ApiStep s w (s.refReserveCapacity k c) w
  | pollCapacity (s : Streams) (w : Writer) (k : Nat) (t : String) : ApiStep s w (s.pollCapacity k t).1 w
  | refSendReset (s : Streams) (w : Writer) (k : Nat) (r : Reason) : ApiStep s w (s.refSendReset k r) w
  | pollReset (s : Streams) (w : Writer) (k : Nat) (m : PollReset) (t : String) : ApiStep s w (s.pollReset k m t).1 w
  | recvPollResponse (s : Streams) (w : Writer) (n k : Nat) (t : String) : ApiStep s w (Streams.recvPollResponse n s k t).1 w
  | recvPollInformational (s : Streams) (w : Writer) (k : Nat) (t : String) : ApiStep s w (s.recvPollInformational k t).1 w
  | refPollData (s : Streams) (w : Writer) (k : Nat) (t : String) : ApiStep s w (s.refPollData k t).1 w
  | refPollPushed (s : Streams) (w : Writer) (k : Nat) (t : String) : ApiStep s w (s.refPollPushed k t).1 w
  | recvPollTrailers (s : Streams) (w : Writer) (k : Nat) (t : String) : ApiStep s w (s.recvPollTrailers k t).1 w
  | refReleaseCapacity (s : Streams) (w : Writer) (k c : Nat) : ApiStep s w (s.refReleaseCapacity k c).1 w
  | refClearRecvBuffer (s : Streams) (w : Writer) (k : Nat) : ApiStep s w (s.refClearRecvBuffer k) w

/-- **`recv_headers` of any header list maps a history to a history**: each of its three phases (`recvHeaders_ph3`) does -/
theorem HistP.recvHeaders {s : Streams} {w : Writer} (h : HistP s w) (hd : HeadersIn) : HistP (s.recvHeaders hd).1 w := by
  obtain ⟨Z, h2, h3⟩ := recvHeaders_ph3 s hd
  have hZ : HistP Z w := by
    rcases h2 with t | ⟨Y, k, t1, t2, t3⟩
    · exact h.any (t.mono (PA0_le trivial fun _ _ => trivial))
    · obtain ⟨g, hY⟩ := h.any (t1.mono (PA0_le trivial fun _ _ => trivial))
      rcases closed_cases Y k with hc | hnc
      · obtain ⟨g', h', _⟩ := hY.tr_quiet permG (fun h => h) (fun h => h) (fun _ _ _ h => h) (t3 hc)
        exact ⟨g', h'⟩
      · obtain ⟨g', h', _⟩ := hY.accept (P431 k) k (fun h => h) (fun h => h) (fun _ h => h) (fun j f _ hp => hp.1) hnc t2
        exact ⟨g', h'⟩
  exact hZ.any (h3.mono (PB_le trivial fun _ => trivial))

def permAll : Perm :=
  { push := fun _ _ => True, pop := True, write := True, cut := fun _ => True, rpush := fun _ _ => True,
    rpop := fun _ => True, rclear := fun _ => True, gone := True }

theorem permAll_ok (l : Lbl) : permAll.ok l := by
  cases l <;> simp only [Perm.ok, permAll] <;> first | trivial | exact Or.inl trivial

theorem Tr.all {P : Perm} {s s' : Streams} (t : Tr P s s') : Tr permAll s s' := t.mono fun l _ => permAll_ok l

/-- every API operation is a path of elementary steps on the stream layer and maps a history to a history: all but the
    calls that accept a message frame and the write path are paths that queue no message frame (`permAny`) -/
theorem ApiStep.path_hist {s s' : Streams} {w w' : Writer} (st : ApiStep s w s' w') :
    Tr permAll s s' ∧ (HistP s w → HistP s' w') := by
  have hg : permAny.gone := trivial
  have hc : CutAll permAny := fun _ => trivial
  have hA : RpushAll permAny := fun _ _ => trivial
  have hr : RclearAll permAny := fun _ => trivial
  have t0 := Tr.refl permAny s
  have any : ∀ {s' : Streams}, Tr permAny s s' → Tr permAll s s' ∧ (HistP s w → HistP s' w) :=
    fun t => ⟨t.all, fun h => h.any t⟩
  have stp : ∀ {s' : Streams}, Streams.Step kindsTr s s' → Tr permAll s s' ∧ (HistP s w → HistP s' w) :=
    fun t => any (.of_step hg t)
  have acc : ∀ {s' : Streams} {ok : Nat → SFrame → Prop} {P : Perm}, Tr P s s' →
      (∀ g, Hist s w g → ∃ g', Hist s' w g' ∧ AcceptDelta g g' ok) → Tr permAll s s' ∧ (HistP s w → HistP s' w) :=
    fun t hh => ⟨t.all, fun ⟨g, h⟩ => (let ⟨g', h', _⟩ := hh g h; ⟨g', h'⟩)⟩
  cases st with
  | recvHeaders hd _ | recvHeadersAny hd =>
    exact ⟨(recvHeaders_ph3 s hd).tr (P := permAll) trivial (fun _ => trivial) (fun _ _ => trivial) fun _ => Or.inl trivial,
      fun h => h.recvHeaders hd⟩
  | recvData id p eos pad => exact any (recvData_acc hg id p eos pad hc hA t0)
  | recvReset id r => exact any (recvReset_acc hg id r hc t0)
  | recvWindowUpdate id inc => exact any (recvWindowUpdate_acc hg id inc hc t0)
  | recvPushPromise id hd => exact any (recvPushPromise_acc hg id hd hc hA t0)
  | handleError e => exact any (handleError_acc hg e hc t0)
  | recvGoAwayFrame l r d => exact any (recvGoAwayFrame_acc hg l r d hc t0)
  | recvGoAway l => exact stp (Streams.recvGoAway_step (by decide) s l)
  | recvEof b => exact any (recvEof_acc hg b hc t0)
  | innerSendReset id r => exact any (innerSendReset_acc hg id r hc t0)
  | setTargetConnectionWindow t => exact stp (Streams.setTargetConnectionWindow_step (by decide) s t)
  | applyRemoteSettings v b => exact any (applyRemoteSettings_acc hg v b hc t0)
  | applyLocalSettingsFrame v => exact stp (Streams.applyLocalSettingsFrame_step (by decide) s v)
  | clearExpiredResetStreams n => exact stp (Streams.clearExpiredResetStreams_step (by decide) n s)
  | pollComplete n io t =>
    exact ⟨pollComplete_acc (P := permAll) trivial n w io t trivial trivial (fun _ => trivial) (Tr.refl _ _),
      hist_pollComplete n s w io t⟩
  | pollSendPendingRefusal n io t =>
    have hh := fun hw => held_pollSendPendingRefusal n s w io t hw
    have X : Tr permAny s _ := .of_step hg (Streams.pollSendPendingRefusal_step (by decide) n s w io t)
    exact ⟨X.all, fun h => (h.any X).codec (hh h.wok).1 (fun _ => (hh h.wok).2)⟩
  | codec _ hh hk => exact ⟨Tr.refl _ _, fun h => h.codec hh hk⟩
  | wake t => exact any (wake_acc t t0)
  | clearWakes => exact any (setWakes_acc [] t0)
  | panic m => exact any (panic_acc m t0)
  | cloneHandle => exact stp (Streams.cloneHandle_step s)
  | dropHandle => exact stp (Streams.dropHandle_step (by decide) s)
  | sendRequest b f eos p => exact acc (sendRequest_tr s b f eos p) fun _ h => h.sendRequest b f eos p
  | pollPendingOpen p t => exact stp (Streams.pollPendingOpen_step (by decide) s p t)
  | nextIncoming => exact stp (Streams.nextIncoming_step (by decide) s)
  | recvTakeRequest k => exact any (recvTakeRequest_acc hg k trivial t0)
  | cloneStreamRef k => exact stp (Streams.cloneStreamRef_step (by decide) s k)
  | dropStreamRef k => exact any (dropStreamRef_acc hg k hr t0)
  | refSendResponse k f eos => exact acc (refSendResponse_tr s k f eos) fun _ h => h.refSendResponse k f eos
  | refSendInformationalHeaders k f =>
    exact acc (refSendInformationalHeaders_tr s k f) fun _ h => h.refSendInformationalHeaders k f
  | refSendPushPromise parent v f =>
    exact ⟨refSendPushPromise_acc (P := permAll) trivial parent v f (fun _ _ => Or.inl trivial) (Tr.refl _ _),
      fun ⟨_, h⟩ => h.refSendPushPromise parent v f⟩
  | refSendData k len eos => exact acc (refSendData_tr s k len eos) fun _ h => h.refSendData k len eos
  | refSendTrailers k f => exact acc (refSendTrailers_tr s k f) fun _ h => h.refSendTrailers k f
  | refReserveCapacity k c => exact stp (Streams.refReserveCapacity_step (by decide) s k c)
  | pollCapacity k t => exact stp (Streams.pollCapacity_step (by decide) s k t)
  | refSendReset k r => exact any (refSendReset_acc hg k r trivial t0)
  | pollReset k m t => exact stp (Streams.pollReset_step (by decide) s k m t)
  | recvPollResponse n k t => exact any (recvPollResponse_acc hg n k t trivial t0)
  | recvPollInformational k t => exact any (recvPollInformational_acc hg k t trivial t0)
  | refPollData k t => exact any (refPollData_acc hg k t trivial t0)
  | refPollPushed k t => exact any (refPollPushed_acc hg k t (fun _ => trivial) t0)
  | recvPollTrailers k t => exact any (recvPollTrailers_acc hg k t trivial t0)
  | refReleaseCapacity k c => exact stp (Streams.refReleaseCapacity_step (by decide) s k c)
  | refClearRecvBuffer k => exact any (refClearRecvBuffer_acc hg k trivial t0)

/-- **every API operation maps a history to a history** -/
theorem ApiStep.hist {s s' : Streams} {w w' : Writer} (st : ApiStep s w s' w') (h : HistP s w) : HistP s' w' :=
  st.path_hist.2 h

/-- reachable from a fresh stream layer (no stream yet, nothing in flight, codec holding no DATA frame) -/
inductive Reach : Streams → Writer → Prop
  | init (s : Streams) (w : Writer) : s.store.slab = [] → marker s = .nothing → held w = none → Reach s w
  | step {s s' : Streams} {w w' : Writer} : Reach s w → ApiStep s w s' w' → Reach s' w'

/-- **every reachable (stream layer, codec) pair is a history** -/
theorem Reach.hist {s : Streams} {w : Writer} (r : Reach s w) : HistP s w := by
  induction r with
  | init s w h0 hm hh => exact ⟨{}, .init s w h0 hm hh⟩
  | step _ st ih => exact st.hist ih

/-- **SEND-SIDE FIDELITY IN EVERY HISTORY.**  For every history with ghost log `g` (and the `weird` flag down)
    and every slab entry `k`:  emitted ++ (in-flight remainder ++ queued) ++ discarded  REFINES  accepted,
    where the discarded suffix `D` is empty unless `k` was cut (reset, error) or removed. -/
theorem Hist.fidelity {s : Streams} {w : Writer} {g : Ghost} (h : Hist s w g) (hw : g.weird = false) (k : Nat) :
    ∃ D, Refine (g.emi k ++ msg (out s (held w) k) ++ D) (g.acc k) ∧ (g.cut k = false → D = []) :=
  (h.inv hw).ref k

/-- what has been emitted for a stream is (a splitting of) an octet-wise PREFIX of what was accepted on it: the peer
    sees the accepted header blocks, DATA octets and END_STREAM in order, none twice, none skipped -/
theorem Hist.emitted_prefix {s : Streams} {w : Writer} {g : Ghost} (h : Hist s w g) (hw : g.weird = false) (k : Nat) :
    EmitsPrefix (g.emi k) (g.acc k) ∧ toks (g.emi k) <+: toks (g.acc k) := by
  obtain ⟨D, hR, _⟩ := h.fidelity hw k
  have : EmitsPrefix (g.emi k) (g.acc k) := ⟨msg (out s (held w) k) ++ D, by rw [← List.append_assoc]; exact hR⟩
  exact ⟨this, this.toks_prefix⟩

/-- a queue is only ever cut on a closed stream, and a removed or cut entry accepts nothing further (its accepted
    log is final) — stated as: while the entry exists and is not closed, nothing accepted on it was lost -/
theorem Hist.nothing_lost_while_open {s : Streams} {w : Writer} {g : Ghost} (h : Hist s w g) (hw : g.weird = false)
    (k : Nat) (a : Stream) (ha : s.store.get? k = some a) (hc : a.state.isClosed = false) :
    Refine (g.emi k ++ msg (out s (held w) k)) (g.acc k) := by
  have hI := h.inv hw
  have hcut : g.cut k = false := by
    cases hk : g.cut k with
    | false => rfl
    | true => have := hI.closed k hk a ha; rw [hc] at this; cases this
  obtain ⟨D, hR, hD⟩ := hI.ref k
  rw [hD hcut, List.append_nil] at hR; exact hR

theorem Reach.path {s : Streams} {w : Writer} (r : Reach s w) :
    ∃ s0 tr, s0.store.slab = [] ∧ Path permAll s0 s tr := by
  induction r with
  | init s w h0 _ _ => exact ⟨s, [], h0, .refl s⟩
  | step _ st ih =>
    obtain ⟨s0, tr, h0, p⟩ := ih
    obtain ⟨tr', p'⟩ := st.path_hist.1
    exact ⟨s0, tr ++ tr', h0, p.trans p'⟩

/-- **RECEIVE-SIDE FIDELITY IN EVERY REACHABLE STATE.**  There is a label sequence `tr` explaining the whole history —
    every `rpush k e` in it is an event queued at the BACK of `pending_recv` of `k`, every `rpop k e` an event taken off
    its HEAD by a receive handle — such that for every entry `k` whose receive queue was never cleared
    (`clear_recv_buffer`) and that was not removed:   taken off so far ++ still queued = everything ever queued on it. -/
theorem Reach.recv_ledger {s : Streams} {w : Writer} (r : Reach s w) :
    ∃ s0 tr, Path permAll s0 s tr ∧ ∀ k, rlost k tr = false → dlvd k tr ++ rq s k = rcvd k tr := by
  obtain ⟨s0, tr, h0, p⟩ := r.path
  refine ⟨s0, tr, p, fun k hl => ?_⟩
  have := p.recv_ledger k hl
  have hq : rq s0 k = [] := by
    apply rq_of_none; unfold Store.get?; rw [h0]; rfl
  rw [hq, List.nil_append] at this; exact this

end H2V.Lemmas.ConnFidP
