import H2V.Lemmas.ConnStages
import H2V.Lemmas.CompFlow
import H2V.Lemmas.ConnBasics
/-
  ConnCtlP — C09 at the stream layer: the two refusals of `Recv::open` (parity, decreasing id), `reset_on_recv_stream_err` (a
  stream error is answered in place), the WINDOW_UPDATE that overflows a stream's window, `Recv::recv_data` after its `assert!` in three pieces
  (`recvDataCore`, the vocabulary of `C09.flow_control_overruns`).  The catalogue of connection errors and tolerated frames stands under
  `C09.stream_layer_connection_errors` / `tolerated_late_frames`.
-/
set_option autoImplicit false
set_option linter.unusedSimpArgs false
namespace H2V.Lemmas.ConnCtlP
open H2V H2V.Model H2V.Model.Conn

/-- `Recv::open` refuses an id of the wrong parity for the role and the frame (§5.1.1): a client
    opening with an even id, a server "opening" with HEADERS, a promised id that is odd -/
theorem recvOpen_wrong_parity (s : Streams) (id : Nat) (isPP : Bool)
    (h : (if s.counts.isServer then !(isPP || id % 2 == 0) else !(!isPP || !(id % 2 == 0))) = false) :
    (s.recvOpen id isPP).2 = .error (PErr.libraryGoAway PROTOCOL_ERROR) := by
  unfold Streams.recvOpen
  dsimp only
  rw [show (if s.recv.refused.isSome = true then s.panic "assertion failed: self.refused.is_none()" else s).counts = s.counts by
    split; exact Streams.panic_counts s _; rfl, h]
  rfl

/-- `Recv::open` refuses an id below the next expected one (§5.1.1: ids must increase) -/
theorem recvOpen_decreasing (s : Streams) (id n : Nat) (isPP : Bool)
    (hn : s.recv.nextStreamId = some n) (hlt : id < n) :
    (s.recvOpen id isPP).2 = .error (PErr.libraryGoAway PROTOCOL_ERROR) := by
  unfold Streams.recvOpen
  dsimp only
  rw [show (if s.recv.refused.isSome = true then s.panic "assertion failed: self.refused.is_none()" else s).recv.nextStreamId = some n by
    split; rw [Streams.panic_recv]; exact hn; exact hn]
  simp only [hlt, if_true]
  (repeat' split) <;> rfl

/-- **`reset_on_recv_stream_err`**: a stream error (`Error::Reset`) raised while a frame is processed
    does not reach the connection: as long as the budget of locally caused resets is not used up the
    stream is reset through `send_reset` (RST_STREAM with the reason, see `Send::send_reset`) and the
    result is `Ok` — the connection and the other streams go on; when the budget is used up the
    answer is the connection error ENHANCE_YOUR_CALM; every other result passes through -/
theorem resetOnRecvStreamErr_spec (s : Streams) (k sid : Nat) (reason : Reason) (init : Initiator) :
    s.resetOnRecvStreamErr k (.error (.reset sid reason init)) =
      (if s.counts.canIncNumLocalErrorResets then
        ((((s.modCountsA "can_inc_num_local_error_resets" Counts.incNumLocalErrorResets).sendSendReset k reason init
            ).enqueueResetExpiration k).modStreamW k Stream.notifyRecv, .ok ())
       else (s, .error (PErr.libraryGoAwayData ENHANCE_YOUR_CALM "too_many_internal_resets"))) ∧
    (∀ d r i, s.resetOnRecvStreamErr k (.error (.goAway d r i)) = (s, .error (.goAway d r i))) ∧
    s.resetOnRecvStreamErr k (.ok ()) = (s, .ok ()) := by
  unfold Streams.resetOnRecvStreamErr
  exact ⟨rfl, fun _ _ _ => rfl, rfl⟩

/-- **WINDOW_UPDATE overflowing a stream's send window** (§6.9.1): a stream error FLOW_CONTROL_ERROR,
    answered in place — the stream is reset by `send_reset(FLOW_CONTROL_ERROR)`, the frame's result
    is `Ok` (budget permitting) -/
theorem recvWindowUpdate_stream_overflow (s : Streams) (id inc k : Nat) (h0 : id ≠ 0)
    (hk : s.store.findKey? id = some k) (hp : (s.stream k).isPendingOpen = false)
    (hc : ¬ ((s.stream k).state.isSendClosed = true ∧ (s.stream k).bufferedSendData = 0))
    (ho : ¬ (inI32 ((s.stream k).sendFlow.windowSize.val + u32AsI32 inc) = true ∧
            (s.stream k).sendFlow.windowSize.val + u32AsI32 inc ≤ (Generated.Consts.MAX_WINDOW_SIZE : Int))) :
    s.recvWindowUpdate id inc =
      (s.sendSendReset k FLOW_CONTROL_ERROR .library).resetOnRecvStreamErr k
        (.error (PErr.libraryReset id FLOW_CONTROL_ERROR)) := by
  have hinc : ∃ fl e, (s.stream k).sendFlow.incWindow inc = (fl, .error e) := by
    rcases hi : (s.stream k).sendFlow.incWindow inc with ⟨fl, r⟩
    cases r with
    | ok u =>
      exfalso
      apply ho
      exact (H2V.Lemmas.Comp.incWindow_ok_iff _ inc).1 (by rw [hi]; rfl)
    | error e => exact ⟨fl, e, rfl⟩
  obtain ⟨fl, e, hi⟩ := hinc
  obtain ⟨-, he⟩ := H2V.Lemmas.Comp.incWindow_err hi
  subst he
  have hprio : s.prioRecvStreamWindowUpdate k inc = (s, .error FLOW_CONTROL_ERROR) := by
    unfold Streams.prioRecvStreamWindowUpdate
    dsimp only
    have : ((s.stream k).state.isSendClosed && (s.stream k).bufferedSendData == 0) = false := by
      cases h1 : (s.stream k).state.isSendClosed <;> cases h2 : ((s.stream k).bufferedSendData == 0) <;> simp_all
    rw [this, hi]
    rfl
  unfold Streams.recvWindowUpdate Streams.sendRecvStreamWindowUpdate
  simp only [h0, if_false, hk, hp, Bool.false_eq_true]
  rw [hprio]

/-- END_STREAM handling of `Recv::recv_data` (a copy) -/
def recvDataEos (s : Streams) (id : Nat) (eos : Bool) : Streams × Option PErr :=
  if eos then
    if !(s.stream id).ensureContentLengthZero then (s, some (PErr.libraryReset (s.stream id).id PROTOCOL_ERROR))
    else match (s.stream id).state.recvClose with
      | (_, .error _) => (s, some (PErr.libraryGoAway PROTOCOL_ERROR))
      | (st', .ok _) => (s.modStream id fun st => { st with state := st' }, none)
  else (s, none)

/-- the delivery part of `Recv::recv_data` (a copy) -/
def recvDataDeliver (s : Streams) (id : Nat) (payload : Bytes) (eos : Bool) (flowLen sz : Nat) : Streams × Except PErr Unit :=
  if !(s.stream id).isRecv then ((s.releaseConnectionCapacity sz false).notifyPushIfRecvEnded id, .ok ())
  else
    match (s.stream id).recvFlow.sendData sz with
    | (fl, .error (.reason r)) => (s.modStream id fun st => { st with recvFlow := fl }, .error (PErr.libraryGoAway r))
    | (_, .error .assertFailed) => (s.panic "assertion failed: self.window_size.0 >= sz as i32 (stream recv)", .ok ())
    | (fl, .ok _) =>
      let s := s.modStream id fun st => { st with recvFlow := fl, inFlightRecvData := wrapAddU32 st.inFlightRecvData sz }
      let padding := usizeAsU32 (flowLen - payload.length)
      let s := if padding > 0 then (s.releaseCapacity id padding false).1 else s
      if payload.isEmpty && !eos then (s, .ok ())
      else
        let s := s.modStream id fun st => { st with pendingRecv := st.pendingRecv ++ [.data payload (!eos)] }
        ((s.modStreamW id Stream.notifyRecv).notifyPushIfRecvEnded id, .ok ())

/-- `Recv::recv_data` after its `assert!(sz <= MAX_WINDOW_SIZE)` (a copy of the model's code) -/
def recvDataCore (s : Streams) (id : Nat) (payload : Bytes) (eos : Bool) (flowLen : Nat) : Streams × Except PErr Unit :=
  let sz := usizeAsU32 flowLen
  let st := s.stream id
  let isIgnoringFrame := st.state.isLocalError
  if !isIgnoringFrame && !st.state.isRecvStreaming then (s, .error (PErr.libraryGoAway PROTOCOL_ERROR))
  else if isIgnoringFrame then s.ignoreData sz
  else
    match s.consumeConnectionWindow sz with
    | (s, .error e) => (s, .error e)
    | (s, .ok _) =>
      if (s.stream id).recvFlow.windowSz < sz then (s, .error (PErr.libraryReset (s.stream id).id FLOW_CONTROL_ERROR))
      else
        match (s.stream id).decContentLength payload.length with
        | none => (s, .error (PErr.libraryReset (s.stream id).id PROTOCOL_ERROR))
        | some st1 =>
          match recvDataEos (s.setStream st1) id eos with
          | (s, some e) => (s, .error e)
          | (s, none) => recvDataDeliver s id payload eos flowLen sz

theorem recvRecvData_eq (s : Streams) (id : Nat) (p : Bytes) (eos : Bool) (pad : Option Nat) :
    s.recvRecvData id p eos pad =
      recvDataCore (if p.length + (match pad with | some x => x + 1 | none => 0) > Generated.Consts.MAX_WINDOW_SIZE
        then s.panic "assertion failed: sz <= MAX_WINDOW_SIZE" else s) id p eos
        (p.length + (match pad with | some x => x + 1 | none => 0)) := by
  cases pad <;> rfl

end H2V.Lemmas.ConnCtlP
