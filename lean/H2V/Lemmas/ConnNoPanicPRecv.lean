import H2V.Lemmas.ConnNoPanicPSend
import H2V.Lemmas.ConnHeadersRule
/-
  C08 (no panic): `LT` for the functions of recv.rs that work on one stream / on the
  connection-level receive state.  Where a function contains an `assert!` that its own code guards
  (`consume_connection_window`, `recv_data`, `recv_reset`, `enqueue_reset_expiration`,
  `inc_num_recv_streams`: the `can_inc` test of F31) the guard is used here; asserts that depend on the caller
  appear as hypotheses (`recv_open`: no refusal pending; `recv_data`: frame length; `go_away`).
-/
namespace H2V.Lemmas.ConnNoPanicP
open H2V H2V.Model H2V.Model.Conn H2V.Lemmas.ConnCountsP
attribute [local irreducible] wrapSubU32 wrapSubUsize

theorem releaseConnectionCapacity_lt (s : Streams) (c : Nat) (b : Bool) : LT [] s (s.releaseConnectionCapacity c b) := by
  unfold Streams.releaseConnectionCapacity; lt_auto

theorem releaseCapacity_lt (s : Streams) (k c : Nat) (b : Bool) : LT [k] s (s.releaseCapacity k c b).1 := by
  unfold Streams.releaseCapacity; lt_auto

theorem clearRecvBufferLoop_err (n : Nat) (l : List REvent) (acc : Nat) (c : Counts) :
    (Streams.clearRecvBufferLoop n l acc c).2.numLocalErrorResetStreams = c.numLocalErrorResetStreams ∧
    (Streams.clearRecvBufferLoop n l acc c).2.maxLocalErrorResetStreams = c.maxLocalErrorResetStreams := by
  induction l generalizing acc c with
  | nil => exact ⟨rfl, rfl⟩
  | cons e l ih =>
    cases e <;> unfold Streams.clearRecvBufferLoop <;> try exact ih _ _
    next payload budgeted =>
      dsimp only
      refine ⟨(ih _ _).1.trans ?_, (ih _ _).2.trans ?_⟩
      · split
        · unfold Counts.releaseDataFrame; dsimp only; split <;> rfl
        · rfl
      · split
        · unfold Counts.releaseDataFrame; dsimp only; split <;> rfl
        · rfl

theorem clearRecvBuffer_lt (s : Streams) (k : Nat) (b : Bool) : LT [k] s (s.clearRecvBuffer k b) := by
  unfold Streams.clearRecvBuffer
  dsimp only
  have h0 : LT [k] s { s with counts := (Streams.clearRecvBufferLoop (s.stream k).inFlightRecvData (s.stream k).pendingRecv 0 s.counts).2 } :=
    setCounts_lt _ _ (clearRecvBufferLoop_err _ _ _ _)
  split
  · lt_auto
  · lt_auto

theorem releaseClosedCapacity_lt (s : Streams) (k : Nat) : LT [k] s (s.releaseClosedCapacity k) := by
  unfold Streams.releaseClosedCapacity; lt_auto

theorem u32AsI32_le (n : Nat) : u32AsI32 n ≤ (n : Int) := by
  unfold u32AsI32 U32_MOD; dsimp only; split <;> omega

/-- `FlowControl::send_data` after the caller's `window_size() < sz` check: the `assert!` is dead -/
theorem sendData_no_assert' (f : FlowControl) (sz : Nat) (h : ¬ f.windowSz < sz) :
    (f.sendData sz).2 ≠ .error .assertFailed := by
  unfold FlowControl.sendData
  split
  · split
    · next hlt =>
      exfalso
      have := u32AsI32_le sz
      unfold FlowControl.windowSz Window.asSize at h
      split at h <;> omega
    · unfold Window.decreaseBy
      dsimp only
      cases checkedSub f.windowSize.val (u32AsI32 sz) with
      | none => simp
      | some v =>
        dsimp only
        cases checkedSub f.available.val (u32AsI32 sz) <;> simp
  · simp

theorem sendData_no_assert (f : FlowControl) (sz : Nat) (h : ¬ f.windowSz < sz) :
    ∀ fl, f.sendData sz ≠ (fl, .error .assertFailed) := by
  intro fl he
  exact sendData_no_assert' f sz h (by rw [he])

theorem consumeConnectionWindow_lt (s : Streams) (sz : Nat) : LT [] s (s.consumeConnectionWindow sz).1 := by
  unfold Streams.consumeConnectionWindow
  split
  · exact .refl _ _
  · next hw =>
    split
    · lt_auto
    · next heq => exact absurd heq (sendData_no_assert _ _ hw _)
    · lt_auto

theorem ignoreData_lt (s : Streams) (sz : Nat) : LT [] s (s.ignoreData sz).1 := by
  unfold Streams.ignoreData; lt_auto

theorem recvOpen_lt (s : Streams) (id : Nat) (b : Bool) (h : s.recv.refused = none) : LT [] s (s.recvOpen id b).1 := by
  unfold Streams.recvOpen
  simp only [h, Option.isSome_none, Bool.false_eq_true, if_false]
  lt_auto

theorem incNumRecvStreams_lt (s : Streams) (k : Nat) (h1 : s.counts.canIncNumRecvStreams = true)
    (h2 : (s.stream k).isCounted = false) : LT [k] s (s.incNumRecvStreams k) := by
  unfold Streams.incNumRecvStreams
  simp only [h1, h2, if_true, Bool.false_eq_true, if_false]
  lt_auto

theorem incNumSendStreams_lt (s : Streams) (k : Nat) (h1 : s.counts.canIncNumSendStreams = true)
    (h2 : (s.stream k).isCounted = false) : LT [k] s (s.incNumSendStreams k) := by
  unfold Streams.incNumSendStreams
  simp only [h1, h2, if_true, Bool.false_eq_true, if_false]
  lt_auto

theorem notifyPushIfRecvEnded_lt (s : Streams) (k : Nat) : LT [k] s (s.notifyPushIfRecvEnded k) := by
  unfold Streams.notifyPushIfRecvEnded; lt_auto

theorem recvRecvTrailers_lt (s : Streams) (k : Nat) (h : HeadersIn) : LT [k] s (s.recvRecvTrailers k h).1 := by
  unfold Streams.recvRecvTrailers; lt_auto

theorem recvRecvPushPromise_lt (s : Streams) (k : Nat) (h : HeadersIn) : LT [k] s (s.recvRecvPushPromise k h).1 := by
  unfold Streams.recvRecvPushPromise; lt_auto

theorem recvHandleError_lt (s : Streams) (k : Nat) (e : PErr) : LT [k] s (s.recvHandleError k e) := by
  unfold Streams.recvHandleError; lt_auto

theorem recvGoAway_lt (s : Streams) (l : Nat) (h : s.recv.maxStreamId ≥ l) : LT [] s (s.recvGoAway l) := by
  unfold Streams.recvGoAway
  simp only [h, if_true]
  lt_auto

theorem recvRecvEof_lt (s : Streams) (k : Nat) : LT [k] s (s.recvRecvEof k) := by
  unfold Streams.recvRecvEof; lt_auto

theorem recvMaybeResetNextStreamId_lt (s : Streams) (id : Nat) : LT [] s (s.recvMaybeResetNextStreamId id) := by
  unfold Streams.recvMaybeResetNextStreamId; lt_auto

theorem sendPendingRefusal_lt (s : Streams) (w : Writer) : LT [] s (s.sendPendingRefusal w).1 := by
  unfold Streams.sendPendingRefusal; lt_auto

theorem scheduleRecv_lt (s : Streams) (k : Nat) (t : String) : LT [k] s (s.scheduleRecv k t).1 := by
  unfold Streams.scheduleRecv; lt_auto

theorem recvPollData_lt (s : Streams) (k : Nat) (t : String) : LT [k] s (s.recvPollData k t).1 := by
  unfold Streams.recvPollData; lt_auto

theorem recvPollTrailers_lt (s : Streams) (k : Nat) (t : String) : LT [k] s (s.recvPollTrailers k t).1 := by
  unfold Streams.recvPollTrailers; lt_auto

theorem recvPollInformational_lt (s : Streams) (k : Nat) (t : String) : LT [k] s (s.recvPollInformational k t).1 := by
  unfold Streams.recvPollInformational; lt_auto

theorem enqueueResetExpiration_lt (s : Streams) (k : Nat) : LT [k] s (s.enqueueResetExpiration k) := by
  unfold Streams.enqueueResetExpiration
  dsimp only
  split
  · exact .refl _ _
  · split
    · next hc =>
      refine LT.trans (modCountsA_lt (ks := [k]) s _ _ { s.counts with numLocalResetStreams := s.counts.numLocalResetStreams + 1 }
        (by unfold Counts.incNumResetStreams; rw [if_pos hc]) ⟨rfl, rfl⟩) (qPush_lt _ _ _) (fun _ h => h)
    · exact .refl _ _

theorem recvRecvReset_pre_lt (s : Streams) (k : Nat) :
    LT [k] s (if (s.stream k).isPendingAccept = true then
      if s.counts.canIncNumRemoteResetStreams = true then
        (s.modCountsA "can_inc_num_remote_reset_streams" Counts.incNumRemoteResetStreams, (none : Option PErr))
      else (s, some (PErr.libraryGoAwayData ENHANCE_YOUR_CALM "too_many_resets"))
    else (s, none)).1 := by
  split
  · split
    · next hc =>
      exact modCountsA_lt s _ _ { s.counts with numRemoteResetStreams := s.counts.numRemoteResetStreams + 1 }
        (by unfold Counts.incNumRemoteResetStreams; rw [if_pos hc]) ⟨rfl, rfl⟩
    · exact .refl _ _
  · exact .refl _ _

theorem recvRecvReset_lt (s : Streams) (k : Nat) (r : Reason) : LT [k] s (s.recvRecvReset k r).1 := by
  unfold Streams.recvRecvReset
  dsimp only
  split
  · next heq => exact of_fst_eq heq (recvRecvReset_pre_lt s k)
  · next heq =>
    have h1 := of_fst_eq heq (recvRecvReset_pre_lt s k)
    lt_auto

theorem modRecv_stream (s : Streams) (f : Recv → Recv) (j : Nat) : (s.modRecv f).stream j = s.stream j := rfl
theorem modRecv_counts (s : Streams) (f : Recv → Recv) : (s.modRecv f).counts = s.counts := rfl

/-- `Recv::recv_headers`: `inc_num_recv_streams` finds the stream uncounted and a slot free, the stream not being refused -/
theorem recvRecvHeaders_lt (s : Streams) (k : Nat) (h : HeadersIn) : LT [k] s (s.recvRecvHeaders k h).1 :=
  Streams.RecvHeadersRule.run (I := LT [k] s) (P := fun _ _ t => LT [k] s t)
    { err := .refl _ _
      refuse := fun _ _ _ => modStream_lt _ _ _ (fun _ => by inert_tac)
      stc := fun st' ini _ hguard => by
        have h1 : LT [k] s (s.recvHeadersSt k st') := modStream_lt _ _ _ (fun _ => by inert_tac)
        generalize s.recvHeadersSt k st' = s1 at h1 hguard ⊢
        unfold Streams.recvHeadersCount
        refine LT.ite _ (fun hc => ?_) (fun _ => h1)
        have hc1 : (s1.stream k).isCounted = false := by
          cases hh : (s1.stream k).isCounted with
          | false => rfl
          | true => rw [hh] at hc; simp at hc
        have hc2 : s1.counts.canIncNumRecvStreams = true := by
          cases hh : s1.counts.canIncNumRecvStreams with
          | true => rfl
          | false =>
            rw [hh] at hguard; simp at hguard
            simp only [Bool.and_eq_true, Bool.not_eq_true'] at hc
            have := hguard hc.1; rw [hc1] at this; cases this
        refine LT.trans (ks' := [k]) ?_ (incNumRecvStreams_lt _ _ ?_ ?_) (fun _ h => h)
        · split
          · exact h1.trans (modRecv_lt _ _) (fun _ h => absurd h List.not_mem_nil)
          · exact h1
        · split
          · exact hc2
          · exact hc2
        · split
          · exact hc1
          · exact hc1
      out := fun _ _ _ ht => ht
      cl := fun _ _ t ht => ht.trans (ks' := [k]) (by unfold Streams.recvHeadersCl; lt_auto) (fun _ h => h)
      queue := fun _ ini t ht => ht.trans (ks' := [k]) (by unfold Streams.recvHeadersQueue; lt_auto) (fun _ h => h) }

theorem decContentLength_spec {x y : Stream} {n : Nat} (h : x.decContentLength n = some y) :
    Inert x y ∧ y.recvFlow = x.recvFlow := by
  unfold Stream.decContentLength at h
  split at h
  · split at h
    · cases h; exact ⟨⟨rfl, rfl, rfl, rfl, fun h => h⟩, rfl⟩
    · cases h
  · split at h
    · cases h
    · cases h; exact ⟨Inert.refl _, rfl⟩
  · cases h; exact ⟨Inert.refl _, rfl⟩

theorem consumeConnectionWindow_store (s : Streams) (sz : Nat) : (s.consumeConnectionWindow sz).1.store = s.store := by
  unfold Streams.consumeConnectionWindow
  split
  · rfl
  · split
    · rfl
    · exact panic_store _ _
    · rfl

theorem recvRecvData_lt (s : Streams) (k : Nat) (payload : Bytes) (eos : Bool) (pad : Option Nat)
    (hlen : payload.length + (match pad with | some p => p + 1 | none => 0) ≤ Generated.Consts.MAX_WINDOW_SIZE) :
    LT [k] s (s.recvRecvData k payload eos pad).1 := by
  unfold Streams.recvRecvData
  -- the frame length is a variable from here on (the padding only enters through it)
  generalize hfl : (payload.length + _ : Nat) = flowLen
  replace hlen : flowLen ≤ Generated.Consts.MAX_WINDOW_SIZE := by rw [← hfl]; cases pad <;> exact hlen
  clear hfl
  dsimp only
  rw [if_neg (Nat.not_lt.mpr hlen)]
  refine LT.ite_fst _ (fun _ => .refl _ _) (fun _ => LT.ite_fst _ (fun _ => ?_) (fun _ => ?_))
  · lt_auto
  split
  · lt_auto
  · next s1 _ heq1 =>
    have h1 : LT [k] s s1 := of_fst_eq heq1 ((consumeConnectionWindow_lt s _).mono (fun _ h => absurd h List.not_mem_nil))
    refine LT.ite_fst _ (fun _ => h1) (fun hw => ?_)
    · split
      · exact h1
      · next st1 hdc =>
        have hsp := decContentLength_spec hdc
        generalize hs2 : s1.setStream st1 = s2
        have hkey : st1.key = k := hsp.1.key.trans (stream_key _ _)
        have h2 : LT [k] s s2 := by
          rw [← hs2]; exact h1.trans (setStream_lt s1 k st1 hsp.1) (fun _ h => h)
        have hf2 : SPr (·.recvFlow) s1 s2 := by
          rw [← hs2]; exact SPr.setStream s1 k st1 hkey hsp.2
        generalize hs3 : (if eos = true then _ else (s2, (none : Option PErr))) = p3
        have h3 : LT [k] s p3.1 ∧ SPr (·.recvFlow) s1 p3.1 := by
          rw [← hs3]
          split
          · split
            · exact ⟨h2, hf2⟩
            · split
              · exact ⟨h2, hf2⟩
              · exact ⟨h2.trans (modStream_lt _ _ _ (fun _ => by inert_tac)) (fun _ h => h),
                  hf2.trans (SPr.modStream _ _ _ (fun _ => rfl) (fun _ => rfl))⟩
          · exact ⟨h2, hf2⟩
        split
        · exact h3.1
        · next s4 =>
          have h4 : LT [k] s s4 := h3.1
          have hf4 : (s4.stream k).recvFlow = (s1.stream k).recvFlow := h3.2 k
          refine LT.ite_fst _ (fun _ => ?_) (fun _ => ?_)
          · lt_auto
          · split
            · lt_auto
            · next heq5 =>
              rw [hf4] at heq5
              exact absurd heq5 (sendData_no_assert _ _ hw _)
            · lt_auto

end H2V.Lemmas.ConnNoPanicP
