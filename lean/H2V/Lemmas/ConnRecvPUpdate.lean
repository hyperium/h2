import H2V.Lemmas.ConnRecvPData
/-
  C03: WINDOW_UPDATE emission (`send_connection_window_update`,
  `send_stream_window_updates`) and `set_target_connection_window`.
  A WINDOW_UPDATE carries exactly `available − window` and makes the window equal to `available`.
-/
namespace H2V.Lemmas.ConnRecvP
open H2V H2V.Model H2V.Model.Conn
open H2V.Model.Conn.Streams
open H2V.Lemmas.Comp
attribute [local irreducible] wrapSubU32 wrapSubUsize

theorem incWindow_unclaimed {f : FlowControl} {incr : Nat} (hw : inI32 f.windowSize.val = true)
    (ha : inI32 f.available.val = true) (hu : f.unclaimedCapacity = some incr)
    (hd : f.available.val - f.windowSize.val ≤ 2147483647) :
    (incr : Int) = f.available.val - f.windowSize.val ∧ 0 < incr ∧
    f.incWindow incr = ({ f with windowSize := ⟨f.available.val⟩ }, .ok ()) := by
  have hs := (unclaimedCapacity_spec' f incr hw ha).1 hu
  have hW := (inI32_iff _).1 hw
  have hA := (inI32_iff _).1 ha
  have hincr : (incr : Int) = f.available.val - f.windowSize.val := by
    rw [hs.2.1]; omega
  have hu32 : u32AsI32 incr = (incr : Int) := u32AsI32_of_lt (by omega)
  refine ⟨hincr, by omega, ?_⟩
  rw [Flow.incWindow_eq, hu32]
  have hsum : f.windowSize.val + (incr : Int) = f.available.val := by omega
  have : inI32 (f.windowSize.val + (incr : Int)) = true ∧
      f.windowSize.val + (incr : Int) ≤ (Generated.Consts.MAX_WINDOW_SIZE : Int) := by
    rw [hsum]
    exact ⟨ha, by simp [Generated.Consts.MAX_WINDOW_SIZE]; omega⟩
  rw [if_pos this, hsum]

theorem sendConnectionWindowUpdate_inv {full : Bool} {g : Ghost} {s : Streams} (h : Inv full g s) (w : Writer) :
    Inv full g (s.sendConnectionWindowUpdate w).1 := by
  have hW := h.w0
  have hcons := h.cons
  have hsum := h.sum
  have htHi := h.tHi
  have hA := (inI32_iff _).1 h.aI32
  simp only [cW, cA, cI] at hW hcons hsum hA
  unfold Streams.sendConnectionWindowUpdate
  split
  · next incr hu =>
    split
    · exact h
    · have hinc := incWindow_unclaimed h.wI32 h.aI32 hu (by omega)
      rw [hinc.2.2]
      dsimp only
      refine h.connSet (ConnSet.modRecv s _ rfl) hcons ?_ ?_ hsum
      · show 0 ≤ s.recv.flow.available.val
        have := hinc.1; have := hinc.2.1; omega
      · show s.recv.flow.available.val + (s.recv.inFlightData : Int) ≤ _
        omega
  · exact h

theorem not_closed_of_recvStreaming {st : State} (h : st.isRecvStreaming = true) : st.isClosed = false := by
  obtain ⟨inner⟩ := st
  cases inner <;> simp [State.isRecvStreaming, State.isClosed] at h ⊢

theorem StreamOK.update {s : Streams} {g : Ghost} {x : Stream} (ok : StreamOK s g x) {incr : Nat}
    (hrs : x.state.isRecvStreaming = true) (hu : x.recvFlow.unclaimedCapacity = some incr)
    (hM : g.hiInit ≤ 2147483647) :
    (incr : Int) = x.recvFlow.available.val - x.recvFlow.windowSize.val ∧
    x.recvFlow.incWindow incr = ({ x.recvFlow with windowSize := ⟨x.recvFlow.available.val⟩ }, .ok ()) ∧
    StreamOK s g { x with recvFlow := { x.recvFlow with windowSize := ⟨x.recvFlow.available.val⟩ } } := by
  have hnc := not_closed_of_recvStreaming hrs
  have hl : x.recvFlow.available.val - x.recvFlow.windowSize.val + (x.inFlightRecvData : Int) ≤ (g.hiInit : Int) ∧
      x.recvFlow.available.val + (x.inFlightRecvData : Int) ≤ (g.hiInit : Int) := by
    rcases ok.live with hc | hl
    · rw [hnc] at hc; cases hc
    · exact hl
  have hinc := incWindow_unclaimed ok.wI32 ok.aI32 hu (by omega)
  exact ⟨hinc.1, hinc.2.2, ok.move _ _ ok.aI32 ok.aI32 (Int.le_refl _) rfl
    (.inl (by show x.recvFlow.available.val - x.recvFlow.available.val + (x.inFlightRecvData : Int) ≤ _; have := ok.wa; omega))⟩

theorem sendStreamWindowUpdates_inv {full : Bool} {g : Ghost} (n : Nat) {s : Streams} (h : Inv full g s) (w : Writer) :
    Inv full g (sendStreamWindowUpdates n s w).1 := by
  induction n generalizing s w with
  | zero => unfold sendStreamWindowUpdates; exact h
  | succ n ih =>
    unfold sendStreamWindowUpdates
    split
    · exact h
    · cases hq : s.qPop .pendingWindowUpdates with
      | mk s1 o =>
        have h1 : Inv full g s1 := by
          have := h.of_ext (qPop_ext s .pendingWindowUpdates); rw [hq] at this; exact this
        cases o with
        | none => exact h1
        | some id =>
          dsimp only
          refine ih (InvD.of_ext ?_ (transitionAfter_ext _ _ _)) _
          split
          · exact h1
          · next hrs =>
            have hrs' : (s1.stream id).state.isRecvStreaming = true := by simpa using hrs
            split
            · next incr hu =>
              split
              · next fl _ hinc =>
                refine h1.modStream id _ (fun _ => Int.le_refl _) (fun _ => rfl) (fun _ _ => Int.le_refl _) ?_
                intro hf x hx ok
                rw [Streams.stream_of_get? hx] at hrs' hu hinc
                have hup := ok.update hrs' hu h1.initMax
                rw [hup.2.1] at hinc
                cases hinc
                exact hup.2.2
              · exact h1.of_ext (panic_ext _ _)
            · exact h1

theorem recvBufferPending_inv {full : Bool} {g : Ghost} {s : Streams} (h : Inv full g s) (w : Writer) :
    Inv full g (s.recvBufferPending w).1 := by
  unfold Streams.recvBufferPending
  have h1 := sendConnectionWindowUpdate_inv h w
  cases hc : s.sendConnectionWindowUpdate w with
  | mk s1 r =>
    rw [hc] at h1
    obtain ⟨w1, st⟩ := r
    cases st with
    | codecFull => exact h1
    | complete => exact sendStreamWindowUpdates_inv _ h1 w1


/-- the ghost after `set_target_window_size(target)` -/
def Ghost.setTarget (g : Ghost) (target : Nat) : Ghost :=
  { g with target := target, hiTarget := max g.hiTarget target }

/-- `Recv::set_target_connection_window(target)` with a valid size: `available` moves by
    `target − (available + in_flight_data)`, so that `available + in_flight_data = target` again -/
theorem setTargetConnectionWindow_inv {full : Bool} {g : Ghost} {s : Streams} (h : Inv full g s) (target : Nat)
    (ht : target ≤ 2147483647) :
    Inv full (g.setTarget target) (s.setTargetConnectionWindow target).1 ∧
    (s.setTargetConnectionWindow target).2 = .ok () := by
  have hb := h.cI_bound
  have hA := (inI32_iff _).1 h.aI32
  have hw0 := h.w0
  have hwhi := h.wI
  have hhi := h.hiMax
  have hcons := h.cons
  have hsum := h.sum
  have htHi := h.tHi
  simp only [cW, cA, cI] at hb hA hw0 hwhi hcons hsum
  have hI : s.recv.inFlightData ≤ 2147483647 := by omega
  have hu : u32AsI32 s.recv.inFlightData = (s.recv.inFlightData : Int) := u32AsI32_of_lt (by omega)
  unfold Streams.setTargetConnectionWindow
  have hadd : s.recv.flow.available.add s.recv.inFlightData = .ok ⟨(g.target : Int)⟩ := by
    unfold Window.add checkedAdd
    rw [hu]
    have : inI32 (s.recv.flow.available.val + (s.recv.inFlightData : Int)) = true := by
      apply inI32_of_range <;> omega
    simp only [this, if_true]
    rw [hcons]
  rw [hadd]
  dsimp only
  have hcs : (⟨(g.target : Int)⟩ : Window).checkedSize = some g.target := by
    unfold Window.checkedSize
    have : ¬ ((g.target : Int) < 0) := by omega
    simp [this]
  rw [hcs]
  dsimp only
  -- both branches: `available` becomes `available + (target − old target)`
  have key : ∀ (fl : FlowControl), fl.windowSize = s.recv.flow.windowSize →
      fl.available.val = s.recv.flow.available.val + (target : Int) - (g.target : Int) →
      Inv full (g.setTarget target) (s.modRecv fun rc => { rc with flow := fl }) := by
    intro fl hflw hfla
    refine h.connSet' (ConnSet.modRecv s _ rfl) (g.setTarget target) rfl ?_ ?_ ?_ ?_ ?_ hsum
    · show fl.available.val + (s.recv.inFlightData : Int) = (target : Int); rw [hfla]; omega
    · show 0 ≤ fl.windowSize.val; rw [hflw]; exact hw0
    · show fl.windowSize.val + (s.recv.inFlightData : Int) ≤ ((max g.hiTarget target : Nat) : Int)
      rw [hflw]; omega
    · show target ≤ max g.hiTarget target; omega
    · show max g.hiTarget target ≤ 2147483647; omega
  by_cases hgt : target > g.target
  · simp only [hgt, if_true]
    have hu2 : u32AsI32 (target - g.target) = ((target - g.target : Nat) : Int) := u32AsI32_of_lt (by omega)
    have hass : s.recv.flow.assignCapacity (target - g.target) =
        ({ s.recv.flow with available := ⟨s.recv.flow.available.val + ((target - g.target : Nat) : Int)⟩ }, .ok ()) := by
      rw [Flow.assignCapacity_eq, hu2]
      have : inI32 (s.recv.flow.available.val + ((target - g.target : Nat) : Int)) = true := by
        apply inI32_of_range <;> omega
      simp [this]
    rw [hass]
    dsimp only
    have k := key { s.recv.flow with available := ⟨s.recv.flow.available.val + ((target - g.target : Nat) : Int)⟩ } rfl
      (by show s.recv.flow.available.val + ((target - g.target : Nat) : Int) = _; omega)
    constructor
    · split
      · exact k.of_ext (notifyTask_ext _)
      · exact k
    · rfl
  · simp only [hgt, if_false]
    have hu2 : u32AsI32 (g.target - target) = ((g.target - target : Nat) : Int) := u32AsI32_of_lt (by omega)
    have hcl : s.recv.flow.claimCapacity (g.target - target) =
        ({ s.recv.flow with available := ⟨s.recv.flow.available.val - ((g.target - target : Nat) : Int)⟩ }, .ok ()) := by
      rw [Flow.claimCapacity_eq, hu2]
      have : inI32 (s.recv.flow.available.val - ((g.target - target : Nat) : Int)) = true := by
        apply inI32_of_range <;> omega
      simp [this]
    rw [hcl]
    dsimp only
    have k := key { s.recv.flow with available := ⟨s.recv.flow.available.val - ((g.target - target : Nat) : Int)⟩ } rfl
      (by show s.recv.flow.available.val - ((g.target - target : Nat) : Int) = _; omega)
    constructor
    · split
      · exact k.of_ext (notifyTask_ext _)
      · exact k
    · rfl

end H2V.Lemmas.ConnRecvP
