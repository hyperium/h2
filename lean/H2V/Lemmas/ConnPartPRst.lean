import H2V.Lemmas.ConnResetPSpec
import H2V.Lemmas.ConnCountsPQueueR
import H2V.Lemmas.ConnPartPGaClosure
/-
  C09: after a stream-level error of the receive path the RST_STREAM is OWED.
  `Actions::reset_on_recv_stream_err` (the in-place dispatcher of `Inner::recv_headers/recv_data/
  recv_window_update/recv_push_promise`) and `Actions::send_reset` (what `Inner::send_reset` runs for the
  stream errors that travel up to `handle_poll2_result`) are the same three calls after the quota check:
      send.send_reset(reason, initiator, …); recv.enqueue_reset_expiration(stream); stream.notify_recv()
  (`resetCore`).  On a stream that is not reset yet and not (closed with nothing unsent) they leave the
  entry closed with `Reset(id, reason, initiator)`, its queue = [RST_STREAM(reason)] (after the HEADERS
  when the stream still waits in `pending_open`), linked in the connection's `pending_send` queue when it
  is send-ready; every other entry keeps key, id, state, queue and handle count.

  The link: a stream that `Send::send_reset` resets is SCHEDULED (its `is_pending_send` link is set, i.e. it
  sits in the connection's `pending_send` queue) whenever it is send-ready (not waiting in `pending_open`, not
  an unannounced pushed stream), and nothing `reset_on_recv_stream_err` / `Actions::send_reset` does afterwards
  takes it out again.  `Rdy a b`: key, id, `is_pending_open`, `is_pending_push` unchanged; `is_pending_send`
  not cleared.
-/
namespace H2V.Lemmas.ConnPartP
open H2V H2V.Model H2V.Model.Conn

section link
open H2V.Lemmas.ConnWakeP

structure Rdy (a b : Stream) : Prop where
  key : b.key = a.key
  id : b.id = a.id
  isPendingOpen : b.isPendingOpen = a.isPendingOpen
  isPendingPush : b.isPendingPush = a.isPendingPush
  isPendingSend : a.isPendingSend = true → b.isPendingSend = true

instance : IsPre Rdy where
  refl _ := ⟨rfl, rfl, rfl, rfl, fun h => h⟩
  trans h1 h2 := ⟨h2.key.trans h1.key, h2.id.trans h1.id, h2.isPendingOpen.trans h1.isPendingOpen,
    h2.isPendingPush.trans h1.isPendingPush, fun h => h2.isPendingSend (h1.isPendingSend h)⟩
  key h := h.key

theorem Rdy.isSendReady {a b : Stream} (h : Rdy a b) : b.isSendReady = a.isSendReady := by
  unfold Stream.isSendReady; rw [h.isPendingOpen, h.isPendingPush]

@[grind ←] theorem rdy_notifyPush (x : Stream) : Rdy x x.notifyPush.1 := by
  rw [Stream.notifyPush_fst]; exact ⟨rfl, rfl, rfl, rfl, fun h => h⟩

abbrev YS := GStep False Rdy

/-- the kinds of update that respect `Rdy`: nothing is created or released, no stream enters or leaves `pending_open`, none
    becomes or stops being an unannounced pushed stream, none is taken out of `pending_send` (and no DATA is charged:
    the reset path sends none) -/
def Rdy.kinds : Kind → Bool
  | .insert | .release | .unlink | .pendPush | .activatePush | .chargeData | .enqueue .pendingOpen | .dequeue .pendingOpen
  | .dequeue .pendingSend => false
  | _ => true

theorem YS.of_step {s s' : Streams} (h : Streams.Step Rdy.kinds s s') : YS s s' :=
  GStep.of_step rfl nofun nofun
    (fun x y u => by
      cases u with
      | reserved _ _ h | activated h | sendData _ _ h => cases h
      | decContentLength n _ e => obtain ⟨_, rfl⟩ := Stream.decContentLength_eq e; exact ⟨rfl, rfl, rfl, rfl, fun h => h⟩
      | _ => exact ⟨rfl, rfl, rfl, rfl, fun h => h⟩)
    (fun x p u => by
      cases u with
      | notifySend => rw [Stream.notifySend_fst]; exact ⟨rfl, rfl, rfl, rfl, fun h => h⟩
      | notifyRecv => rw [Stream.notifyRecv_fst]; exact ⟨rfl, rfl, rfl, rfl, fun h => h⟩
      | notifyPush => exact rdy_notifyPush x
      | notifyCapacity => rw [Stream.notifyCapacity_fst]; exact ⟨rfl, rfl, rfl, rfl, fun h => h⟩
      | assignCapacity c m => rw [Stream.assignCapacity_fst]; split <;> exact ⟨rfl, rfl, rfl, rfl, fun h => h⟩
      | setReset r i t => rw [Stream.setReset_fst]; exact ⟨rfl, rfl, rfl, rfl, fun h => h⟩)
    (fun x q v he hd => by
      cases q <;> cases v <;> first
        | exact ⟨rfl, rfl, rfl, rfl, fun h => h⟩
        | exact ⟨rfl, rfl, rfl, rfl, fun _ => rfl⟩
        | exact absurd (he rfl) nofun
        | exact absurd (hd rfl) nofun)
    (fun x v _ => ⟨rfl, rfl, rfl, rfl, fun h => h⟩) h

section
variable {s0 s : Streams}

theorem qPush_flag (q : QName) (k : Nat) (x : Stream) (hx : s.store.get? k = some x) :
    ∃ y, (s.qPush q k).1.store.get? k = some y ∧ y.isQueued q = true := by
  unfold Streams.qPush
  have hst : s.stream k = x := stream_eq_of_get? hx
  rw [hst]
  by_cases hq : x.isQueued q = true
  · rw [if_pos hq]; exact ⟨x, hx, hq⟩
  · rw [if_neg hq]
    refine ⟨x.setQueued q true, ?_, by cases q <;> rfl⟩
    have h1 := get?_modStream_same (fun st => st.setQueued q true) hx (by cases q <;> rfl)
    cases q <;> exact h1

theorem queueFrame_flag (k : Nat) (f : SFrame) (x : Stream) (hx : s.store.get? k = some x) (hr : x.isSendReady = true) :
    ∃ y, (s.queueFrame k f).store.get? k = some y ∧ y.isPendingSend = true := by
  unfold Streams.queueFrame Streams.scheduleSend
  have h1 := get?_modStream_same (fun st => { st with pendingSend := st.pendingSend ++ [f] }) hx rfl
  have hst := stream_eq_of_get? h1
  rw [hst]
  have : ({ x with pendingSend := x.pendingSend ++ [f] } : Stream).isSendReady = true := hr
  rw [if_pos this]
  obtain ⟨y, hy, hq⟩ := qPush_flag (s := s.modStream k fun st => { st with pendingSend := st.pendingSend ++ [f] })
    .pendingSend k _ h1
  refine ⟨y, ?_, hq⟩
  rw [Streams.notifyTask_store]; exact hy

end

end link

set_option linter.unusedSectionVars false
open H2V.Lemmas.ConnResetP

/-- what follows the quota check in `reset_on_recv_stream_err` and in `Actions::send_reset` -/
def resetCore (s : Streams) (k : Nat) (reason : Reason) (init : Initiator) : Streams :=
  ((s.sendSendReset k reason init).enqueueResetExpiration k).modStreamW k Stream.notifyRecv

theorem resetOnRecvStreamErr_ok (s : Streams) (k sid : Nat) (reason : Reason) (init : Initiator)
    (hq : s.counts.canIncNumLocalErrorResets = true) :
    s.resetOnRecvStreamErr k (.error (.reset sid reason init)) =
      (resetCore (s.modCountsA "can_inc_num_local_error_resets" Counts.incNumLocalErrorResets) k reason init, .ok ()) := by
  unfold Streams.resetOnRecvStreamErr resetCore
  simp only [hq, if_true]

/-- the three clauses of `ConnResetP.refSendReset_spec`, for any continuation of `sendResetPre` that
    only moves core fields of no stream and removes nothing that has a queued frame -/
theorem reset_spec_of_tail (s : Streams) (id : Nat) (r : Reason) (i : Initiator) (st : Stream)
    (hkb : KeysBelow s.store) (hg : s.store.get? id = some st) (fin : Streams)
    (ev : Evolves CoreEq (fun _ => True) (sendResetPre s id r i).store fin.store) :
    (∃ st', fin.store.get? id = some st' ∧ st'.id = st.id ∧
        st'.state = ⟨.closed (.error (.reset st.id r i))⟩ ∧
        st'.pendingSend = (if st.isPendingOpen then st.pendingSend.head?.toList else []) ++ [.reset r]) ∧
    (∀ k st'', k ≠ id → k < s.store.nextKey → fin.store.get? k = some st'' →
        ∃ st0, s.store.get? k = some st0 ∧ CoreEq st0 st'') ∧
    (∀ k st0, k ≠ id → s.store.get? k = some st0 → st0.pendingSend ≠ [] →
        ∃ st'', fin.store.get? k = some st'' ∧ CoreEq st0 st'') := by
  obtain ⟨G, hG, hGk, hspec⟩ := sendResetPre_store s id r i
  have sp := hspec st hg
  rw [hG] at ev
  have hnk : (ConnResetP.Store.mod s.store id G).nextKey = s.store.nextKey := Store.nextKey_mod _ _ _
  have hget : ∀ k, (ConnResetP.Store.mod s.store id G).get? k = if k = id then (s.store.get? id).map G else s.store.get? k :=
    fun k => Store.get?_mod' _ _ _ hGk k
  refine ⟨?_, ?_, ?_⟩
  · have h3 : (ConnResetP.Store.mod s.store id G).get? id = some (G st) := by rw [hget, if_pos rfl, hg]; rfl
    rcases ev.fwd id (G st) h3 (by rw [hnk]; exact hkb id st hg) with ⟨st', h', c⟩ | ⟨st'', c, d⟩
    · refine ⟨st', h', c.id.trans sp.id, ?_, ?_⟩
      · rw [c.state, sp.state]; rfl
      · rw [c.pendingSend, sp.pendingSend]
    · exfalso
      have : (G st).pendingSend = [] := by rw [← c.pendingSend]; exact d.1
      rw [sp.pendingSend] at this
      simp at this
  · intro k st'' hk hlt' h'
    rcases ev.back k st'' h' with ⟨st0, h0, c⟩ | ⟨hge, _, _⟩
    · rw [hget, if_neg hk] at h0; exact ⟨st0, h0, c⟩
    · exfalso; rw [hnk] at hge; omega
  · intro k st0 hk h0 hq
    have h3 : (ConnResetP.Store.mod s.store id G).get? k = some st0 := by rw [hget, if_neg hk]; exact h0
    rcases ev.fwd k st0 h3 (by rw [hnk]; exact hkb k st0 h0) with ⟨st', h', c⟩ | ⟨st'', c, d⟩
    · exact ⟨st', h', c⟩
    · exfalso; apply hq; rw [← c.pendingSend]; exact d.1

/-- after `Send::send_reset` a send-ready stream is linked in `pending_send`: what comes before `queue_frame(RST_STREAM)`
    (the state, the queue cut down) and what comes after (`reclaim_all_capacity`) are steps that respect `Rdy` -/
theorem sendSendReset_flag (x : Streams) (k : Nat) (r : Reason) (i : Initiator) (st : Stream)
    (hg : x.store.get? k = some st) (hr : st.state.isReset = false)
    (hne : (st.state.isClosed && (st.pendingSend.isEmpty && st.bufferedSendData == 0)) = false)
    (hrdy : st.isSendReady = true) :
    ∃ y, (x.sendSendReset k r i).store.get? k = some y ∧ y.isPendingSend = true := by
  have hs : x.stream k = st := stream_of_get? hg
  rw [Streams.sendSendReset_eq, hs, if_neg (by rw [hr]; exact Bool.false_ne_true),
    if_neg (by rw [hne]; exact Bool.false_ne_true)]
  have t : Streams.Step Rdy.kinds x (if ((x.modStreamW k fun st => st.setReset r i).stream k).isPendingOpen = true
      then (x.modStreamW k fun st => st.setReset r i).keepOnlyHead k else (x.modStreamW k fun st => st.setReset r i).clearQueue k) :=
    (Streams.Step.modStreamW x k _ (.setReset r i (.setReset r i rfl (fun _ => rfl) (by rw [hs]; exact hr)))).trans
      (.ite (Streams.keepOnlyHead_step (by decide) _ k) (Streams.clearQueue_step (by decide) _ k))
  generalize (if ((x.modStreamW k fun st => st.setReset r i).stream k).isPendingOpen = true
      then (x.modStreamW k fun st => st.setReset r i).keepOnlyHead k else (x.modStreamW k fun st => st.setReset r i).clearQueue k) = x0 at t ⊢
  obtain ⟨x1, hx1, hr1⟩ := ((YS.of_step t).keep k st hg).resolve_left fun h => h.1
  obtain ⟨y, hy, hf⟩ := queueFrame_flag (s := x0) k (.reset r) x1 hx1 (by rw [hr1.isSendReady]; exact hrdy)
  obtain ⟨y', hy', hyy⟩ := ((YS.of_step (Streams.reclaimAllCapacity_step (by decide) (x0.queueFrame k (.reset r)) k)).keep k y hy).resolve_left
    fun h => h.1
  exact ⟨y', hy', hyy.isPendingSend hf⟩

theorem resetCore_flag (x : Streams) (k : Nat) (r : Reason) (i : Initiator) (st : Stream)
    (hg : x.store.get? k = some st) (hr : st.state.isReset = false)
    (hne : (st.state.isClosed && (st.pendingSend.isEmpty && st.bufferedSendData == 0)) = false)
    (hrdy : st.isSendReady = true) :
    ∃ y, (resetCore x k r i).store.get? k = some y ∧ y.isPendingSend = true := by
  obtain ⟨y, hy, hf⟩ := sendSendReset_flag x k r i st hg hr hne hrdy
  have htail : YS (x.sendSendReset k r i) (resetCore x k r i) :=
    .of_step ((Streams.enqueueResetExpiration_step (by decide) _ k).trans (.modStreamW _ k _ .notifyRecv))
  rcases htail.keep k y hy with ⟨f, _⟩ | ⟨y', hy', hyy⟩
  · exact f.elim
  · exact ⟨y', hy', hyy.isPendingSend hf⟩

theorem transitionAfter_flag (t : Streams) (k : Nat) (b : Bool) (y c : Stream) (hy : t.store.get? k = some y)
    (hf : y.isPendingSend = true) (hc : (t.transitionAfter k b).store.get? k = some c) : c.isPendingSend = true := by
  rcases (transitionAfter_get? t k b).2 with hn | ⟨a, c', ha, hc', hac⟩
  · rw [hn] at hc; cases hc
  · rw [hy] at ha; cases ha
    rw [hc'] at hc; cases hc
    have : c.isPendingSend = y.isPendingSend := by
      have e := congrArg Stream.isPendingSend hac; exact e
    rw [this]; exact hf

theorem mem_pendingSend_of_flag {s' : Streams} (hq : ConnCountsP.QOK .pendingSend s') {k : Nat} {y : Stream}
    (hy : s'.store.get? k = some y) (hf : y.isPendingSend = true) : k ∈ s'.prio.pendingSend :=
  (hq.mem k).mpr ⟨y, hy, hf⟩

end H2V.Lemmas.ConnPartP
