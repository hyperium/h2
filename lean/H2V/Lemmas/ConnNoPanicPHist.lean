import H2V.Lemmas.ConnNoPanicPReach
import H2V.Lemmas.ConnResetPHist
import H2V.Lemmas.ConnCountsPFree
import H2V.Lemmas.ConnOps
/-
  C08 (no panic): histories with handle accounting.
  `HReach s H`: `s` reachable through the operations of ConnResetP's `Op`, `H` = the multiset of stream
  handles the application holds (one entry per `StreamRef`/`OpaqueStreamRef`); a handle call needs its key in `H`.
  `hreach_npi`: `NPI` and `HOK` (every held handle names a live entry whose `ref_count` covers the handles).
  `op_ev`: the operations that insert no entry are steps of `EvB` (the table over `Op`, once for the invariants of the family).
  `ApiStep.op` (ConnOps): every operation is an `ApiStep` of ConnCountsP, so `KeysOK`, `NextLocal` travel forwards along every
  history and `ErrOK` backwards (`keys_step_op`, `errOK_back_op`) — used by all the history relations of the family.
-/
namespace H2V.Lemmas.ConnNoPanicP
open H2V H2V.Model H2V.Model.Conn H2V.Lemmas.ConnCountsP
open H2V.Lemmas.ConnResetP (Op run)
attribute [local irreducible] wrapSubU32 wrapSubUsize

/-- the stream handle an operation is called through -/
def opKey : Op → Option Nat
  | .cloneStreamRef k => some k
  | .dropStreamRef k => some k
  | .refSendResponse k _ _ => some k
  | .refSendInformationalHeaders k _ => some k
  | .refSendData k _ _ => some k
  | .refSendTrailers k _ => some k
  | .refReserveCapacity k _ => some k
  | .pollCapacity k _ => some k
  | .refSendReset k _ => some k
  | .pollReset k _ _ => some k
  | .recvPollInformational k _ => some k
  | .refPollData k _ => some k
  | .recvPollTrailers k _ => some k
  | .refReleaseCapacity k _ => some k
  | .refClearRecvBuffer k => some k
  | .pollPendingOpen (some p) _ => some p
  | _ => none

/-- the operations that are steps of `EvB` for either `ρ`: not those that may insert an entry, `recv_eof` and
    `clear_expired_reset_streams` (`Ev` only), `clearWakes` -/
def opEv : Op → Prop
  | .recvHeaders _ | .recvPushPromise _ _ | .innerSendReset _ _ | .sendRequest _ _ _ _ | .refSendPushPromise _ _ _
  | .recvEof _ | .clearExpiredResetStreams _ | .clearWakes => False
  | _ => True

theorem op_ev {ρ : Bool} (s : Streams) (op : Op) (h : opEv op) : EvB ρ s (op.apply s) := by
  cases op <;> first | exact h.elim | (simp only [Op.apply]; ev_head; exact .refl _)

/-- the preconditions of an operation other than "the handle exists"; `False` = not covered yet -/
def opPre (s : Streams) : Op → Prop
  | .recvHeaders _ => s.recv.refused = none
  | .recvData _ p _ pad => FrameLenOK p pad
  | .recvReset _ _ => True
  | .recvWindowUpdate _ _ => True
  | .innerSendReset _ _ => True
  | .recvGoAway l => s.recv.maxStreamId ≥ l
  | .handleError _ => True
  | .recvGoAwayFrame _ _ _ => True
  | .recvEof b => b = true → AccOK s
  | .clearExpiredResetStreams _ => True
  | .applyRemoteSettings _ _ => True
  | .applyLocalSettingsFrame _ => True
  | .wake _ => True
  | .cloneHandle => True
  | .dropHandle => True
  | .sendRequest _ _ _ _ => ∀ id, s.actions.send.nextStreamId = some id → s.store.contains id = false
  | .pollPendingOpen _ _ => True
  | .cloneStreamRef _ => True
  | .dropStreamRef k => dropPPP s k = []
  | .refSendResponse _ _ _ => True
  | .refSendInformationalHeaders _ _ => True
  | .refSendData _ _ _ => True
  | .refSendTrailers _ _ => True
  | .refReserveCapacity _ _ => True
  | .pollCapacity _ _ => True
  | .refSendReset _ _ => True
  | .pollReset _ _ _ => True
  | .recvPollInformational _ _ => True
  | .refPollData _ _ => True
  | .recvPollTrailers _ _ => True
  | .refReleaseCapacity _ _ => True
  | .refClearRecvBuffer _ => True
  | _ => False

theorem op_step (s : Streams) (op : Op) (hpre : opPre s op)
    (hk : ∀ k, opKey op = some k → Live s k ∧ (s.stream k).refCount > 0) : Step s (op.apply s) := by
  cases op <;> simp only [opPre] at hpre <;> try exact hpre.elim
  case pollPendingOpen p t =>
    refine .pollPendingOpen s p t ?_
    intro k hp; subst hp; exact (hk k rfl).1
  case dropStreamRef k => exact .dropStreamRef s k (hk k rfl).1 (hk k rfl).2 hpre
  all_goals (simp only [Op.apply]; with_reducible constructor <;> first | exact hpre | exact (hk _ rfl).1)

/-- every held handle names a live entry whose `ref_count` covers the handles held on it -/
def HOK (s : Streams) (H : List Nat) : Prop := ∀ k ∈ H, ∃ x, s.store.get? k = some x ∧ H.count k ≤ x.refCount

/-- the handles after an operation -/
def opHandles (s : Streams) (H : List Nat) : Op → List Nat
  | .cloneStreamRef k => k :: H
  | .dropStreamRef k => H.erase k
  | .sendRequest a b c d => match (s.sendRequest a b c d).2 with | .ok (k, _) => k :: H | .error _ => H
  | _ => H

theorem keysBelow_of_keysOK {s : Streams} (h : KeysOK s) : ConnResetP.KeysBelow s.store := by
  intro k st hk
  have := h.fresh st (get?_mem hk)
  rw [get?_key hk] at this; exact this

/-- an operation that is not a drop of `k` keeps entry `k` and does not lower its `ref_count` (ConnResetP) -/
theorem op_keeps_ref {s : Streams} (hk : KeysOK s) (op : Op) {k : Nat} {x : Stream} (hx : s.store.get? k = some x)
    (hr : 0 < x.refCount) (hnd : op ≠ .dropStreamRef k) :
    ∃ x', (op.apply s).store.get? k = some x' ∧ x.refCount ≤ x'.refCount := by
  have := ConnResetP.run_keeps_referenced s [op] k x (keysBelow_of_keysOK hk) hx hr
    (by intro h; rw [List.mem_singleton] at h; exact hnd h.symm)
  obtain ⟨x', h1, h2, _⟩ := this
  exact ⟨x', h1, h2⟩

theorem cloneStreamRef_get {s : Streams} {k : Nat} {x : Stream} (hx : s.store.get? k = some x) :
    (s.cloneStreamRef k).store.get? k = some { x with refCount := x.refCount + 1 } := refInc_get hx

theorem count_pos_of_mem {H : List Nat} {k : Nat} (h : k ∈ H) : 0 < H.count k := List.count_pos_iff.mpr h

theorem HOK.held {s : Streams} {H : List Nat} (hh : HOK s H) {k : Nat} (hk : k ∈ H) : Live s k ∧ (s.stream k).refCount > 0 := by
  obtain ⟨x, hx, hc⟩ := hh k hk
  have hpos := count_pos_of_mem hk
  exact ⟨⟨x, hx⟩, by rw [stream_of_get? hx]; omega⟩

theorem dropPre_stream {s : Streams} {k : Nat} (hk : Live s k) (hr : (s.stream k).refCount > 0) :
    Live (dropPre s k) k ∧ ((dropPre s k).stream k).refCount = (s.stream k).refCount - 1 := by
  unfold dropPre
  dsimp only
  have hs0 : ({ s with refs := s.refs - 1 } : Streams).stream k = s.stream k := rfl
  rw [hs0]
  simp only [hr, if_true]
  have hk0 : Live ({ s with refs := s.refs - 1 } : Streams) k := hk
  have hk1 := (SameKeys.modStream ({ s with refs := s.refs - 1 } : Streams) k fun st => { st with refCount := st.refCount - 1 }).live.mpr hk0
  have hs1 := stream_modStream_live hk0 (fun st => { st with refCount := st.refCount - 1 }) (fun _ => rfl)
  rw [hs0] at hs1
  split
  · refine ⟨?_, ?_⟩
    · unfold Live at hk1 ⊢; rw [Streams.notifyTask_store]; exact hk1
    · unfold Streams.stream; rw [Streams.notifyTask_store]; exact congrArg Stream.refCount hs1
  · exact ⟨hk1, congrArg Stream.refCount hs1⟩

/-- dropping one of several handles keeps the entry, with one reference less -/
theorem dropStreamRef_get_self {s : Streams} {k : Nat} {x : Stream} (hx : s.store.get? k = some x) (hr : x.refCount ≥ 2)
    (hppp : dropPPP s k = []) :
    ∃ x', (s.dropStreamRef k).store.get? k = some x' ∧ x'.refCount = x.refCount - 1 := by
  have hk : Live s k := ⟨x, hx⟩
  have hsx : s.stream k = x := stream_of_get? hx
  obtain ⟨hl1, hr1⟩ := dropPre_stream hk (by rw [hsx]; omega)
  rw [dropStreamRef_eq]
  unfold dropPPP at hppp
  generalize dropPre s k = t at hl1 hr1 hppp ⊢
  have hX : Live (dropClosure k t).1 k ∧ ((dropClosure k t).1.stream k).refCount = (t.stream k).refCount := by
    rw [dropClosure_nil t k hppp]
    split
    · have h2 : LT [k] t (((t.maybeCancel k).releaseClosedCapacity k).modStream k
          fun st => { st with pendingPushPromises := [] }) := by lt_auto
      exact ⟨h2.keys.live.mpr hl1, h2.ref k⟩
    · exact ⟨(maybeCancel_lt t k).keys.live.mpr hl1, (maybeCancel_lt t k).ref k⟩
  obtain ⟨⟨y, hy⟩, hry⟩ := hX
  rw [Streams.transition_fst]
  have hys : (dropClosure k t).1.stream k = y := stream_of_get? hy
  obtain ⟨x', h1, h2, _⟩ := transitionAfter_keeps (dropClosure k t).1 k k (t.stream k).isPendingResetExpiration y hy
    (.inr (by rw [← hys, hry, hr1, hsx]; omega))
  exact ⟨x', h1, by rw [h2, ← hys, hry, hr1, hsx]⟩

inductive HReach : Streams → List Nat → Prop
  | init {s : Streams} : Blank s → s.panicked = none → (∀ q, s.getQ q = []) → HReach s []
  | step {s : Streams} {H : List Nat} (op : Op) : HReach s H → opPre s op → (∀ k, opKey op = some k → k ∈ H) →
      HReach (op.apply s) (opHandles s H op)

theorem hok_generic {s : Streams} {H : List Nat} (hk : KeysOK s) (h : HOK s H) (op : Op) (hnd : ∀ j, op ≠ .dropStreamRef j) :
    HOK (op.apply s) H := by
  intro j hj
  obtain ⟨x, hx, hc⟩ := h j hj
  have hpos := count_pos_of_mem hj
  obtain ⟨x', h1, h2⟩ := op_keeps_ref hk op hx (by omega) (hnd j)
  exact ⟨x', h1, by omega⟩

/-- an operation that hands out the key of the entry it has just created (`k = next_key`, held by nobody yet) -/
theorem HOK.cons_fresh {s : Streams} {H : List Nat} (h : HOK s H) (hk : KeysOK s) (op : Op) (hnd : ∀ j, op ≠ .dropStreamRef j)
    {k : Nat} (hkn : k = s.store.nextKey) {x' : Stream} (hx' : (op.apply s).store.get? k = some x') (hr' : 1 ≤ x'.refCount) :
    HOK (op.apply s) (k :: H) := by
  have hnot : k ∉ H := by
    intro hkH
    obtain ⟨x, hx, _⟩ := h k hkH
    have := hk.fresh x (get?_mem hx)
    rw [get?_key hx, hkn] at this; omega
  intro j hj
  rcases List.mem_cons.mp hj with e | e
  · subst e
    exact ⟨x', hx', by rw [List.count_cons_self, List.count_eq_zero_of_not_mem hnot]; exact hr'⟩
  · have hjk : j ≠ k := fun e' => hnot (e' ▸ e)
    obtain ⟨y, h1, hc⟩ := hok_generic hk h op hnd j e
    exact ⟨y, h1, by rw [List.count_cons_of_ne (fun e => hjk e.symm)]; exact hc⟩

theorem hok_step {s : Streams} {H : List Nat} (hn : NPI (fun _ => False) s) (h : HOK s H) (op : Op) (hpre : opPre s op)
    (hin : ∀ k, opKey op = some k → k ∈ H) : HOK (op.apply s) (opHandles s H op) := by
  have hk := hn.keys
  cases op
  case cloneStreamRef k0 =>
    have hk0 : k0 ∈ H := hin k0 rfl
    obtain ⟨x0, hx0, hc0⟩ := h k0 hk0
    intro j hj
    by_cases hjk : j = k0
    · subst hjk
      exact ⟨_, cloneStreamRef_get hx0, by show (j :: H).count j ≤ x0.refCount + 1; rw [List.count_cons_self]; omega⟩
    · have hjH : j ∈ H := by
        have : j ∈ k0 :: H := hj
        rcases List.mem_cons.mp this with e | e
        · exact absurd e hjk
        · exact e
      obtain ⟨x, hx, hc⟩ := h j hjH
      have hpos := count_pos_of_mem hjH
      obtain ⟨x', h1, h2⟩ := op_keeps_ref hk (.cloneStreamRef k0) hx (by omega) (by intro e; cases e)
      refine ⟨x', h1, ?_⟩
      show (k0 :: H).count j ≤ x'.refCount
      rw [List.count_cons_of_ne (fun e => hjk e.symm)]; omega
  case dropStreamRef k0 =>
    have hk0 : k0 ∈ H := hin k0 rfl
    obtain ⟨x0, hx0, hc0⟩ := h k0 hk0
    intro j hj
    have hj' : j ∈ H.erase k0 := hj
    have hjH : j ∈ H := List.mem_of_mem_erase hj'
    by_cases hjk : j = k0
    · subst hjk
      have hc2 : 0 < (H.erase j).count j := count_pos_of_mem hj'
      rw [List.count_erase_self] at hc2
      obtain ⟨x', h1, h2⟩ := dropStreamRef_get_self hx0 (by omega) hpre
      refine ⟨x', h1, ?_⟩
      show (H.erase j).count j ≤ x'.refCount
      rw [List.count_erase_self, h2]; omega
    · obtain ⟨x, hx, hc⟩ := h j hjH
      have hpos := count_pos_of_mem hjH
      obtain ⟨x', h1, h2⟩ := op_keeps_ref hk (.dropStreamRef k0) hx (by omega) (by intro e; cases e; exact hjk rfl)
      refine ⟨x', h1, ?_⟩
      show (H.erase k0).count j ≤ x'.refCount
      rw [List.count_erase_of_ne hjk]; omega
  case sendRequest a b c d =>
    show HOK _ (match (s.sendRequest a b c d).2 with | .ok (k, _) => k :: H | .error _ => H)
    cases hres : (s.sendRequest a b c d).2 with
    | error e => exact hok_generic hk h _ (by intro j e; cases e)
    | ok kf =>
      obtain ⟨k, f⟩ := kf
      simp only []
      obtain ⟨hkn, x', hx', hr'⟩ := sendRequest_ok hn hpre hres
      exact h.cons_fresh hk (.sendRequest a b c d) (by intro j e; cases e) hkn hx' hr'
  all_goals exact hok_generic hk h _ (by intro j e; cases e)

theorem errOK_back_op {s : Streams} (hk : KeysOK s) (hn : NextLocal s) (op : Op) (he : ErrOK (op.apply s)) : ErrOK s :=
  ErrOK.backT ((ApiStep.op s op).evT hk hn) he

theorem keys_step_op {s : Streams} (hk : KeysOK s) (hn : NextLocal s) (op : Op) : KeysOK (op.apply s) ∧ NextLocal (op.apply s) :=
  let e := (ApiStep.op s op).evT hk hn
  ⟨e.keysOK hk, e.nx.nextLocal hn⟩

theorem HReach.evT {s : Streams} {H : List Nat} (h : HReach s H) : KeysOK s ∧ NextLocal s := by
  induction h with
  | init hb _ _ => exact ⟨hb.keysOK, hb.next⟩
  | step op _ _ _ ih => exact keys_step_op ih.1 ih.2 op

/-- **No panic in any history that respects the handle discipline**: `NPI` (first component `panicked = none`) and
    `HOK` hold after every history, as long as the local-error-reset quota is not exhausted. -/
theorem hreach_npi {s : Streams} {H : List Nat} (h : HReach s H) (he : ErrOK s) : NPI (fun _ => False) s ∧ HOK s H := by
  induction h with
  | init hb hp hq => exact ⟨blank_npi hb hp hq, fun k hk => absurd hk List.not_mem_nil⟩
  | step op hr hpre hin ih =>
    rename_i s0 H0
    obtain ⟨hn, hh⟩ := ih (errOK_back_op hr.evT.1 hr.evT.2 op he)
    exact ⟨(op_step s0 op hpre fun k hk => hh.held (hin k hk)).npi hn he, hok_step hn hh op hpre hin⟩

/-- witness history: request, response head, DATA in, DATA out, handle cloned, both handles dropped, EOF -/
def wOps : List Op :=
  [.sendRequest false [] false none, .recvHeaders { sid := 1, eos := false, status := some [50, 48, 48] },
   .recvData 1 [1, 2, 3] false none, .refSendData 0 10 false, .cloneStreamRef 0, .dropStreamRef 0, .dropStreamRef 0,
   .recvEof false]

set_option maxRecDepth 8000 in
theorem wOps_hreach : HReach (run wBlank wOps) [] := by
  have r0 : HReach wBlank [] := .init wBlank_blank rfl (fun q => by cases q <;> rfl)
  have r1 := HReach.step (.sendRequest false [] false none) r0 (by intro id h; cases h; rfl) (by intro k h; cases h)
  have r2 := HReach.step (.recvHeaders { sid := 1, eos := false, status := some [50, 48, 48] }) r1 (by show _ = none; decide) (by intro k h; cases h)
  have r3 := HReach.step (.recvData 1 [1, 2, 3] false none) r2 (by unfold opPre FrameLenOK; decide) (by intro k h; cases h)
  have r4 := HReach.step (.refSendData 0 10 false) r3 trivial (by intro k h; cases h; decide)
  have r5 := HReach.step (.cloneStreamRef 0) r4 trivial (by intro k h; cases h; decide)
  have r6 := HReach.step (.dropStreamRef 0) r5 (by show dropPPP _ 0 = []; decide) (by intro k h; cases h; decide)
  have r7 := HReach.step (.dropStreamRef 0) r6 (by show dropPPP _ 0 = []; decide) (by intro k h; cases h; decide)
  have r8 := HReach.step (.recvEof false) r7 (by intro h; cases h) (by intro k h; cases h)
  exact r8

set_option maxRecDepth 8000 in
theorem wOps_facts : ErrOK (run wBlank wOps) ∧ ((run wBlank wOps).stream 0).refCount = 0 ∧
    (run wBlank wOps).store.slab.length = 0 :=
  ⟨by unfold ErrOK; decide +kernel, by decide +kernel, by decide +kernel⟩

end H2V.Lemmas.ConnNoPanicP
