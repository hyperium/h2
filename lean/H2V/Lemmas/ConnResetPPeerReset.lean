import H2V.Lemmas.ConnResetPDrop
import H2V.Lemmas.ConnResetPPeer
/-
  ConnResetP — `Inner::recv_reset` on a live stream: the peer's code is recorded on that stream and its
  unsent frames are discarded (C17).
-/
set_option linter.unusedSectionVars false
namespace H2V.Lemmas.ConnResetP
open H2V H2V.Model H2V.Model.Conn
/-- the state `recv_reset` leaves on a stream that was not closed -/
def peerResetState (st : Stream) (code : Reason) : State :=
  ⟨.closed (if st.state.isRecvEndStream then .errorAfterEndStream (.reset st.id code .remote)
            else .error (.reset st.id code .remote))⟩

@[simp] theorem notifySend_key (x : Stream) : x.notifySend.1.key = x.key := (coreEq_notifySend x).key
@[simp] theorem notifyRecv_key (x : Stream) : x.notifyRecv.1.key = x.key := (coreEq_notifyRecv x).key
@[simp] theorem notifyPush_key (x : Stream) : x.notifyPush.1.key = x.key := (coreEq_notifyPush x).key

theorem recvRecvReset_store (s : Streams) (k : Nat) (code : Reason) (st : Stream)
    (hg : s.store.get? k = some st) (hpa : st.isPendingAccept = false) (hn : st.state.isClosed = false) :
    (s.recvRecvReset k code).2 = .ok () ∧
    ∃ y, (s.recvRecvReset k code).1.store.get? k = some y ∧ CoreEq { st with state := peerResetState st code } y ∧
      (s.recvRecvReset k code).1.store.nextKey = s.store.nextKey := by
  have hs : s.stream k = st := stream_of_get? hg
  unfold Streams.recvRecvReset
  have hpa' : (st.isPendingAccept = true) = False := by simp [hpa]
  simp only [hs, hpa', if_false]
  refine ⟨by first | rfl | trivial, ?_⟩
  simp only [crp_store]
  rw [Store.mod_mod _ _ _ _ (by intro x; simp) (by intro x; simp),
    Store.mod_mod _ _ _ _ (by intro x; simp) (by intro x; simp),
    Store.mod_mod _ _ _ _ (by intro x; simp) (by intro x; simp)]
  refine ⟨(({ st with state := st.state.recvReset st.id code st.isPendingSend } : Stream).notifySend.1.notifyRecv.1).notifyPush.1,
    ?_, ?_, by simp⟩
  · rw [Store.get?_mod' _ _ _ (by intro x; simp), if_pos rfl, hg]; rfl
  · have e : st.state.recvReset st.id code st.isPendingSend = peerResetState st code := by
      unfold peerResetState
      have := recvReset_state_open st.state st.id code st.isPendingSend hn
      generalize st.state.recvReset st.id code st.isPendingSend = x at this ⊢
      rcases x with ⟨i⟩; simp only at this; subst this; rfl
    rw [← e]
    exact ((coreEq_notifySend _).trans (coreEq_notifyRecv _)).trans (coreEq_notifyPush _)

/-- **`Inner::recv_reset(id, code)` on a live stream**: the call succeeds; the stream (if it is still in
    the slab afterwards) is closed with exactly `Reset(id, code, Remote)` — `ErrorAfterEndStream` when the
    peer had already ended its side — and its `pending_send` is empty: every unsent frame is discarded. -/
theorem recvReset_records (s : Streams) (id : Nat) (code : Reason) (k : Nat) (st : Stream) (hkb : KeysBelow s.store)
    (hid : id ≠ 0) (hmax : ¬ id > s.recv.maxStreamId) (hf : s.store.findKey? id = some k)
    (hg : s.store.get? k = some st) (hpo : st.isPendingOpen = false) (hpa : st.isPendingAccept = false)
    (hn : st.state.isClosed = false) :
    (s.recvReset id code).2 = .ok () ∧
    ∀ st', (s.recvReset id code).1.store.get? k = some st' →
      st'.id = st.id ∧ st'.state = peerResetState st code ∧ st'.pendingSend = [] := by
  have hs : s.stream k = st := stream_of_get? hg
  obtain ⟨hok, y, hy, cy, hnk⟩ := recvRecvReset_store s k code st hg hpa hn
  unfold Streams.recvReset Streams.transition
  simp only [hid, hmax, hf, hs, hpo, if_false, Bool.false_eq_true]
  generalize s.recvRecvReset k code = r at hok hy hnk
  obtain ⟨sA, res⟩ := r
  simp only at hok hy hnk
  subst hok
  simp only
  have hyk : y.key = k := Store.get?_key hy
  have hkA : k < sA.store.nextKey := by rw [hnk]; exact hkb k st hg
  -- only what we need of KeysBelow for `sA`: the key `k`
  have hns : y.state.getScheduledReset = none := by
    rw [cy.state]; unfold peerResetState State.getScheduledReset; cases st.state.isRecvEndStream <;> rfl
  -- `sendHandleError`, with the key bound at hand
  have h2 : (sA.clearQueue k).store.get? k =
      some { y with pendingSend := [], bufferedSendData := 0, requestedSendCapacity := 0 } := by
    rw [clearQueue_store, Store.get?_mod' _ _ _ (by intro; rfl), if_pos rfl, hy]; rfl
  have h3 : (sA.clearQueue k).store.nextKey = sA.store.nextKey := by rw [clearQueue_store]; simp
  have evC : Evolves CoreEq (fun _ => True) (sA.clearQueue k).store ((sA.clearQueue k).reclaimAllCapacity k).store :=
    Evolves.of_step_core (Streams.reclaimAllCapacity_step (by decide) _ k) (Evolves.refl _)
  have evD : Evolves CoreEq (fun _ => True) (sA.clearQueue k).store (sA.sendHandleError k).store := by
    unfold Streams.sendHandleError
    dsimp only
    split
    · split
      · next reason hsr =>
        exfalso
        cases hz : ((sA.clearQueue k).reclaimAllCapacity k).store.get? k with
        | none => rw [Streams.stream_of_none hz] at hsr; cases hsr
        | some z =>
          rw [stream_of_get? hz] at hsr
          rcases evC.back k z hz with ⟨z0, hz0, c⟩ | ⟨hge, _, _⟩
          · rw [h2] at hz0; cases hz0
            rw [c.state] at hsr
            simp only at hsr
            rw [hns] at hsr; cases hsr
          · rw [h3] at hge; omega
      · exact evC
    · exact evC
  refine ⟨by first | rfl | trivial, fun st' h' => ?_⟩
  have evF : Evolves CoreEq (fun _ => True) (sA.clearQueue k).store
      ((if ((sA.sendHandleError k).stream k).state.isClosed = true then sA.sendHandleError k
        else (sA.sendHandleError k).panic "assertion failed: stream.state.is_closed()").transitionAfter k
          st.isPendingResetExpiration).store := by
    have h := evD
    ev
  rcases evF.back k st' h' with ⟨z0, hz0, c⟩ | ⟨hge, _, _⟩
  · rw [h2] at hz0; cases hz0
    refine ⟨c.id.trans cy.id, ?_, c.pendingSend⟩
    rw [c.state]; exact cy.state
  · exfalso; rw [h3] at hge; omega

end H2V.Lemmas.ConnResetP
