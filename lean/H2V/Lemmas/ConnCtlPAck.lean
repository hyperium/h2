import H2V.Lemmas.ConnCtlPRule
import H2V.Lemmas.ConnRecvFrame
/-
  ConnCtlP — C14: the acknowledgement ledger of one `Connection::poll2`.

  `owedS c` / `owedP c` = the SETTINGS frame / PING payload the connection still has to acknowledge
  (`settings.remote`, `ping_pong.pending_pong`: at most one each).  Over the events of any run of
  `poll2Loop`:   acks ++ owed(after) = owed(before) ++ received     (lists: order and values),
  both for SETTINGS and for PING.  The read of the next frame is gated by `poll_ready`, which
  returns `Ready` only with both slots empty — so the `assert!(self.remote.is_none())` /
  `assert!(self.pending_pong.is_none())` of the real code cannot fire and nothing is overwritten.
-/
set_option autoImplicit false
set_option linter.unusedSimpArgs false
namespace H2V.Lemmas.ConnCtlP
open H2V H2V.Model H2V.Model.Conn

/-- the SETTINGS frames received, in order -/
def rxS (evs : List Ev) : List (List (Nat × Nat)) :=
  evs.filterMap fun | .rxSettings v => some v | _ => none
/-- the SETTINGS frames acknowledged (an ACK handed to the codec), in order -/
def ackS (evs : List Ev) : List (List (Nat × Nat)) :=
  evs.filterMap fun | .ackSettings v _ => some v | _ => none
/-- the PING payloads received, in order -/
def rxP (evs : List Ev) : List Bytes :=
  evs.filterMap fun | .rxPing p => some p | _ => none
/-- the PING payloads echoed (a PING ACK handed to the codec), in order -/
def pongP (evs : List Ev) : List Bytes :=
  evs.filterMap fun | .pong p => some p | _ => none
/-- the PING payloads taken out of `pending_pong`: echoed, or dropped on a transport error -/
def ansP (evs : List Ev) : List Bytes :=
  evs.filterMap fun | .pong p => some p | .pongLost p => some p | _ => none
/-- the GOAWAY frames handed to the codec, in order -/
def sentG (evs : List Ev) : List GoAwayFrame :=
  evs.filterMap fun | .goAwaySent f => some f | _ => none

@[simp] theorem rxS_append (a b : List Ev) : rxS (a ++ b) = rxS a ++ rxS b := by simp [rxS]
@[simp] theorem ackS_append (a b : List Ev) : ackS (a ++ b) = ackS a ++ ackS b := by simp [ackS]
@[simp] theorem rxP_append (a b : List Ev) : rxP (a ++ b) = rxP a ++ rxP b := by simp [rxP]
@[simp] theorem pongP_append (a b : List Ev) : pongP (a ++ b) = pongP a ++ pongP b := by simp [pongP]
@[simp] theorem ansP_append (a b : List Ev) : ansP (a ++ b) = ansP a ++ ansP b := by simp [ansP]
@[simp] theorem sentG_append (a b : List Ev) : sentG (a ++ b) = sentG a ++ sentG b := by simp [sentG]
@[simp] theorem rxS_nil : rxS [] = [] := rfl
@[simp] theorem ackS_nil : ackS [] = [] := rfl
@[simp] theorem rxP_nil : rxP [] = [] := rfl
@[simp] theorem pongP_nil : pongP [] = [] := rfl
@[simp] theorem ansP_nil : ansP [] = [] := rfl
@[simp] theorem sentG_nil : sentG [] = [] := rfl

/-- what is still to be acknowledged -/
def owedS (c : Conn) : List (List (Nat × Nat)) := c.settings.remote.toList
def owedP (c : Conn) : List Bytes := c.pingPong.pendingPong.toList

@[simp] theorem panic_settings (c : Conn) (m : String) : (c.panic m).settings = c.settings := rfl
@[simp] theorem panic_pingPong (c : Conn) (m : String) : (c.panic m).pingPong = c.pingPong := rfl
@[simp] theorem panic_goAway (c : Conn) (m : String) : (c.panic m).goAway = c.goAway := rfl
@[simp] theorem panic_state (c : Conn) (m : String) : (c.panic m).state = c.state := rfl
@[simp] theorem panic_error (c : Conn) (m : String) : (c.panic m).error = c.error := rfl
@[simp] theorem panic_codec (c : Conn) (m : String) : (c.panic m).codec = c.codec := rfl

@[simp] theorem codecPollReady_settings (c : Conn) : c.codecPollReady.1.settings = c.settings := rfl
@[simp] theorem codecPollReady_pingPong (c : Conn) : c.codecPollReady.1.pingPong = c.pingPong := rfl
@[simp] theorem codecPollReady_goAway (c : Conn) : c.codecPollReady.1.goAway = c.goAway := rfl
@[simp] theorem codecPollReady_streams (c : Conn) : c.codecPollReady.1.streams = c.streams := rfl
@[simp] theorem codecPollReady_state (c : Conn) : c.codecPollReady.1.state = c.state := rfl
@[simp] theorem codecPollReady_error (c : Conn) : c.codecPollReady.1.error = c.error := rfl

@[simp] theorem bufferSimple_settings (c : Conn) (n : Nat) (r : String) : (c.bufferSimple n r).settings = c.settings := rfl
@[simp] theorem bufferSimple_pingPong (c : Conn) (n : Nat) (r : String) : (c.bufferSimple n r).pingPong = c.pingPong := rfl
@[simp] theorem bufferSimple_goAway (c : Conn) (n : Nat) (r : String) : (c.bufferSimple n r).goAway = c.goAway := rfl
@[simp] theorem bufferSimple_streams (c : Conn) (n : Nat) (r : String) : (c.bufferSimple n r).streams = c.streams := rfl
@[simp] theorem bufferSimple_state (c : Conn) (n : Nat) (r : String) : (c.bufferSimple n r).state = c.state := rfl
@[simp] theorem bufferSimple_error (c : Conn) (n : Nat) (r : String) : (c.bufferSimple n r).error = c.error := rfl
@[simp] theorem bufferSettings_settings (c : Conn) (a : Bool) (v : List (Nat × Nat)) : (c.bufferSettings a v).settings = c.settings := rfl
@[simp] theorem bufferSettings_pingPong (c : Conn) (a : Bool) (v : List (Nat × Nat)) : (c.bufferSettings a v).pingPong = c.pingPong := rfl
@[simp] theorem bufferSettings_goAway (c : Conn) (a : Bool) (v : List (Nat × Nat)) : (c.bufferSettings a v).goAway = c.goAway := rfl
@[simp] theorem bufferSettings_streams (c : Conn) (a : Bool) (v : List (Nat × Nat)) : (c.bufferSettings a v).streams = c.streams := rfl
@[simp] theorem bufferSettings_state (c : Conn) (a : Bool) (v : List (Nat × Nat)) : (c.bufferSettings a v).state = c.state := rfl
@[simp] theorem bufferSettings_error (c : Conn) (a : Bool) (v : List (Nat × Nat)) : (c.bufferSettings a v).error = c.error := rfl

theorem codecPollReady_eq (c c1 : Conn) (st : Step) (h : c.codecPollReady = (c1, st)) :
    c1.settings = c.settings ∧ c1.pingPong = c.pingPong ∧ c1.goAway = c.goAway ∧ c1.streams = c.streams ∧
    c1.state = c.state ∧ c1.error = c.error := by
  have := congrArg Prod.fst h
  subst this
  simp

theorem codecPollReady_frame {c c1 : Conn} {st : Step} (h : c.codecPollReady = (c1, st)) :
    c1 = { c with codec := c1.codec } := by
  have := congrArg Prod.fst h
  subst this
  rfl

theorem sendPendingGoAwayT_frame (c : Conn) :
    ∃ k p, (sendPendingGoAwayT c).1.1 = { c with codec := k, goAway := { c.goAway with pending := p } } := by
  unfold sendPendingGoAwayT
  cases hp : c.goAway.pending with
  | none => dsimp only; (repeat' split) <;> exact ⟨c.codec, c.goAway.pending, rfl⟩
  | some f =>
    dsimp only
    rcases h : c.codecPollReady with ⟨c1, st⟩
    have e := codecPollReady_frame h
    cases st with
    | pending => exact ⟨c1.codec, _, e⟩
    | err _ => exact ⟨c1.codec, none, by dsimp only; rw [e]⟩
    | ok => exact ⟨_, none, by dsimp only [Conn.bufferSimple]; rw [e]⟩

theorem sendPendingPongT_frame (c : Conn) :
    ∃ k p, (sendPendingPongT c).1.1 = { c with codec := k, pingPong := { c.pingPong with pendingPong := p } } := by
  unfold sendPendingPongT
  cases hp : c.pingPong.pendingPong with
  | none => exact ⟨c.codec, c.pingPong.pendingPong, rfl⟩
  | some f =>
    dsimp only
    rcases h : c.codecPollReady with ⟨c1, st⟩
    have e := codecPollReady_frame h
    cases st with
    | pending => exact ⟨c1.codec, _, e⟩
    | err _ => exact ⟨c1.codec, none, by dsimp only; rw [e]⟩
    | ok => exact ⟨_, none, by dsimp only [Conn.bufferSimple]; rw [e]⟩

theorem sendPendingPing_frame (c : Conn) :
    ∃ k p u, c.sendPendingPing.1 = { c with codec := k, pingPong := { c.pingPong with pendingPing := p, userPings := u } } := by
  have same : ∃ k p u, c = { c with codec := k, pingPong := { c.pingPong with pendingPing := p, userPings := u } } :=
    ⟨c.codec, c.pingPong.pendingPing, c.pingPong.userPings, rfl⟩
  unfold Conn.sendPendingPing
  cases hp : c.pingPong.pendingPing with
  | some ping =>
    dsimp only
    split
    · rcases h : c.codecPollReady with ⟨c1, st⟩
      have e := codecPollReady_frame h
      cases st with
      | ok => exact ⟨_, _, c.pingPong.userPings, by dsimp only [Conn.bufferSimple]; rw [e]⟩
      | pending => exact ⟨c1.codec, _, _, e⟩
      | err _ => exact ⟨c1.codec, _, _, e⟩
    · exact same
  | none =>
    dsimp only
    cases hu : c.pingPong.userPings with
    | none => exact same
    | some u =>
      dsimp only
      split
      · rcases h : Conn.codecPollReady _ with ⟨c1, st⟩
        have e := codecPollReady_frame h
        cases st with
        | ok => exact ⟨_, c.pingPong.pendingPing, _, by dsimp only [Conn.bufferSimple]; rw [e]⟩
        | pending => exact ⟨c1.codec, c.pingPong.pendingPing, _, e⟩
        | err _ => exact ⟨c1.codec, c.pingPong.pendingPing, _, e⟩
      · exact ⟨c.codec, c.pingPong.pendingPing, _, rfl⟩

/-- the two ledgers of a run from `c` to `c'` that emitted `evs`:
    acknowledged ++ still owed = owed before ++ received -/
structure Led (c : Conn) (evs : List Ev) (c' : Conn) : Prop where
  settings : ackS evs ++ owedS c' = owedS c ++ rxS evs
  pings : ansP evs ++ owedP c' = owedP c ++ rxP evs

/-- the ledger of a run that ended because `apply_remote_settings` failed: the ACK is out but
    `remote` was not cleared -/
structure LedF (c : Conn) (evs : List Ev) (c' : Conn) : Prop where
  settings : ackS evs = owedS c ++ rxS evs
  pings : ansP evs ++ owedP c' = owedP c ++ rxP evs

theorem Led.of_same {c c' : Conn} {evs : List Ev} (hs : c'.settings.remote = c.settings.remote)
    (hp : c'.pingPong.pendingPong = c.pingPong.pendingPong)
    (h1 : rxS evs = []) (h2 : ackS evs = []) (h3 : rxP evs = []) (h4 : ansP evs = []) : Led c evs c' := by
  constructor <;> simp [owedS, owedP, *]

theorem Led.trans {c c1 c2 : Conn} {e1 e2 : List Ev} (h1 : Led c e1 c1) (h2 : Led c1 e2 c2) : Led c (e1 ++ e2) c2 := by
  constructor
  · rw [ackS_append, rxS_append, List.append_assoc, h2.settings, ← List.append_assoc, h1.settings, List.append_assoc]
  · rw [ansP_append, rxP_append, List.append_assoc, h2.pings, ← List.append_assoc, h1.pings, List.append_assoc]

theorem Led.transF {c c1 c2 : Conn} {e1 e2 : List Ev} (h1 : Led c e1 c1) (h2 : LedF c1 e2 c2) : LedF c (e1 ++ e2) c2 := by
  constructor
  · rw [ackS_append, rxS_append, h2.settings, ← List.append_assoc, h1.settings, List.append_assoc]
  · rw [ansP_append, rxP_append, List.append_assoc, h2.pings, ← List.append_assoc, h1.pings, List.append_assoc]

theorem sendPendingPongT_spec (c : Conn) :
    (sendPendingPongT c).1.1.settings = c.settings ∧ Led c (sendPendingPongT c).2 (sendPendingPongT c).1.1 ∧
    (stepOk (sendPendingPongT c).1.2 = true → (sendPendingPongT c).1.1.pingPong.pendingPong = none) := by
  unfold sendPendingPongT
  cases hp : c.pingPong.pendingPong with
  | none => exact ⟨rfl, Led.of_same rfl rfl rfl rfl rfl rfl, fun _ => hp⟩
  | some p =>
    dsimp only
    rcases h : c.codecPollReady with ⟨c1, st⟩
    obtain ⟨h1, h2, -⟩ := codecPollReady_eq c c1 st h
    cases st with
    | pending => exact ⟨h1, Led.of_same (by rw [h1]) (by rw [h2]) rfl rfl rfl rfl, fun h => by simp [stepOk] at h⟩
    | ok =>
      refine ⟨h1, ⟨?_, ?_⟩, fun _ => rfl⟩
      · simp [owedS, ackS, rxS, h1]
      · simp [owedP, ansP, rxP, hp, h2]
    | err e =>
      refine ⟨h1, ⟨?_, ?_⟩, fun h => by simp [stepOk] at h⟩
      · simp [owedS, ackS, rxS, h1]
      · simp [owedP, ansP, rxP, hp, h2]

theorem ackAndApply_same (c : Conn) (v : List (Nat × Nat)) :
    (ackAndApply c v).1.settings.remote = c.settings.remote ∧ (ackAndApply c v).1.pingPong = c.pingPong := by
  unfold ackAndApply
  dsimp only
  split <;> exact ⟨rfl, rfl⟩

theorem settingsLocalSendT_frame (c : Conn) :
    ∃ k l, (settingsLocalSendT c).1.1 = { c with codec := k, settings := { c.settings with loc := l } } := by
  unfold settingsLocalSendT
  cases hl : c.settings.loc with
  | toSend vals =>
    dsimp only
    rcases h : c.codecPollReady with ⟨c1, st⟩
    have e := codecPollReady_frame h
    cases st with
    | ok => exact ⟨_, _, by dsimp only [Conn.bufferSettings, Conn.bufferSimple]; rw [e]⟩
    | pending => exact ⟨c1.codec, c.settings.loc, e⟩
    | err _ => exact ⟨c1.codec, c.settings.loc, e⟩
  | waitingAck _ => exact ⟨c.codec, c.settings.loc, rfl⟩
  | synced => exact ⟨c.codec, c.settings.loc, rfl⟩

theorem settingsLocalSendT_spec (c : Conn) :
    (settingsLocalSendT c).1.1.settings.remote = c.settings.remote ∧
    (settingsLocalSendT c).1.1.pingPong = c.pingPong ∧
    rxS (settingsLocalSendT c).2 = [] ∧ ackS (settingsLocalSendT c).2 = [] ∧
    rxP (settingsLocalSendT c).2 = [] ∧ ansP (settingsLocalSendT c).2 = [] := by
  obtain ⟨k, l, h⟩ := settingsLocalSendT_frame c
  refine ⟨by rw [h], by rw [h], ?_⟩
  unfold settingsLocalSendT
  (repeat' split) <;> simp [rxS, ackS, rxP, ansP]

theorem settingsRemotePartT_spec (c : Conn) :
    (settingsRemotePartT c).1.1.pingPong = c.pingPong ∧
    (settingsRemotePartT c).1.1.settings.remote = c.settings.remote ∧
    rxS (settingsRemotePartT c).2 = [] ∧ rxP (settingsRemotePartT c).2 = [] ∧ ansP (settingsRemotePartT c).2 = [] ∧
    ((stepOk (settingsRemotePartT c).1.2 = true ∧ ackS (settingsRemotePartT c).2 = owedS c) ∨
     (stepOk (settingsRemotePartT c).1.2 = false ∧ ackS (settingsRemotePartT c).2 = []) ∨
     (stepOk (settingsRemotePartT c).1.2 = false ∧ (∃ e, (settingsRemotePartT c).1.2 = .err e ∧ IsGoAwayErr e) ∧
        ackS (settingsRemotePartT c).2 = owedS c)) := by
  unfold settingsRemotePartT
  cases hr : c.settings.remote with
  | none => simp [rxS, rxP, ansP, ackS, owedS, hr, stepOk]
  | some v =>
    dsimp only
    rcases h : c.codecPollReady with ⟨c1, st⟩
    obtain ⟨h1, h2, -⟩ := codecPollReady_eq c c1 st h
    cases st with
    | pending => simp [rxS, rxP, ansP, ackS, owedS, hr, stepOk, h1, h2]
    | err e => simp [rxS, rxP, ansP, ackS, owedS, hr, stepOk, h1, h2]
    | ok =>
      obtain ⟨a1, a2⟩ := ackAndApply_same c1 v
      refine ⟨by simp [a2, h2], by simp [a1, h1, hr], rfl, rfl, rfl, ?_⟩
      dsimp only
      rcases ha : ackAndApply c1 v with ⟨c2, st2⟩
      cases st2 with
      | ok => left; simp [stepOk, ackS, owedS, hr]
      | pending =>
        exfalso
        unfold ackAndApply at ha
        dsimp only at ha
        split at ha <;> simp at ha
      | err e =>
        right; right
        exact ⟨rfl, ⟨e, rfl, ackAndApply_err c1 v e (by rw [ha])⟩, by simp [ackS, owedS, hr]⟩

theorem settingsPollSendT_spec (c : Conn) :
    (settingsPollSendT c).1.1.pingPong = c.pingPong ∧
    rxS (settingsPollSendT c).2 = [] ∧ rxP (settingsPollSendT c).2 = [] ∧ ansP (settingsPollSendT c).2 = [] ∧
    (ackS (settingsPollSendT c).2 ++ owedS (settingsPollSendT c).1.1 = owedS c ∨
      ((∃ e, (settingsPollSendT c).1.2 = .err e ∧ IsGoAwayErr e) ∧ ackS (settingsPollSendT c).2 = owedS c)) ∧
    (stepOk (settingsPollSendT c).1.2 = true → (settingsPollSendT c).1.1.settings.remote = none) := by
  obtain ⟨r1, r2, r3, r4, r5, r6⟩ := settingsRemotePartT_spec c
  unfold settingsPollSendT
  rcases hR : settingsRemotePartT c with ⟨⟨c1, st⟩, e1⟩
  rw [hR] at r1 r2 r3 r4 r5 r6
  dsimp only at r1 r2 r3 r4 r5 r6
  cases st with
  | ok =>
    dsimp only
    obtain ⟨l1, l2, l3, l4, l5, l6⟩ := settingsLocalSendT_spec { c1 with settings := { c1.settings with remote := none } }
    have hack : ackS e1 = owedS c := by
      rcases r6 with ⟨-, h⟩ | ⟨h, -⟩ | ⟨h, -⟩
      · exact h
      · simp [stepOk] at h
      · simp [stepOk] at h
    unfold settingsLocalPartT
    refine ⟨by rw [l2, ← r1], by simp [r3, l3], by simp [r4, l5], by simp [r5, l6], Or.inl ?_, fun _ => l1⟩
    simp [hack, l4, owedS, l1]
  | pending =>
    dsimp only
    refine ⟨r1, r3, r4, r5, Or.inl ?_, fun h => by simp [stepOk] at h⟩
    rcases r6 with ⟨h, -⟩ | ⟨-, h⟩ | ⟨-, ⟨e, h, -⟩, -⟩
    · simp [stepOk] at h
    · simp [h, owedS, r2]
    · cases h
  | err e =>
    dsimp only
    refine ⟨r1, r3, r4, r5, ?_, fun h => by simp [stepOk] at h⟩
    rcases r6 with ⟨h, -⟩ | ⟨-, h⟩ | ⟨-, ⟨e', he', hk⟩, h⟩
    · simp [stepOk] at h
    · left; simp [h, owedS, r2]
    · right; cases he'; exact ⟨⟨e, rfl, hk⟩, h⟩

/-- both slots are empty: what `poll_ready` establishes before the next frame is read -/
def NothingOwed (c : Conn) : Prop := c.settings.remote = none ∧ c.pingPong.pendingPong = none

theorem Led.same {c c' : Conn} (hs : c'.settings.remote = c.settings.remote)
    (hp : c'.pingPong.pendingPong = c.pingPong.pendingPong) : Led c [] c' := Led.of_same hs hp rfl rfl rfl rfl

/-- the ledger through `poll_ready`: `send_pending_pong` empties `pending_pong`, `Settings::poll_send`
    empties `remote` or fails after its ACK went out -/
theorem ledReady : ReadyRule (fun _ => True) Led LedF (fun _ => True) (fun c => c.pingPong.pendingPong = none) NothingOwed where
  trans := Led.trans
  transF := Led.transF
  pong c _ _ :=
    have ⟨_, p2, p3⟩ := sendPendingPongT_spec c
    ⟨trivial, p2, fun h => p3 (by rw [h]; rfl)⟩
  ping c _ a := by
    obtain ⟨k, p, u, h⟩ := sendPendingPing_frame c
    rw [h]
    exact ⟨trivial, Led.same rfl rfl, a⟩
  settings c _ a := by
    obtain ⟨s1, s2, s3, s4, s5, s6⟩ := settingsPollSendT_spec c
    have hp : ansP (settingsPollSendT c).2 ++ owedP (settingsPollSendT c).1.1 = owedP c ++ rxP (settingsPollSendT c).2 := by
      simp [s4, s3, owedP, s1]
    rcases s5 with h | ⟨⟨e, he, hk⟩, h⟩
    · exact Or.inl ⟨trivial, ⟨by simpa [s2] using h, hp⟩, fun hok => ⟨s6 (by rw [hok]; rfl), by rw [s1]; exact a⟩⟩
    · exact Or.inr ⟨e, he, hk, ⟨by simpa [s2] using h, hp⟩⟩
  refusal _ _ g := ⟨trivial, Led.same rfl rfl, g⟩

theorem pollReadyT_spec (c : Conn) :
    (Led c (pollReadyT c).2 (pollReadyT c).1.1 ∨
      ((∃ e, (pollReadyT c).1.2 = .err e ∧ IsGoAwayErr e) ∧ LedF c (pollReadyT c).2 (pollReadyT c).1.1)) ∧
    (stepOk (pollReadyT c).1.2 = true →
      (pollReadyT c).1.1.settings.remote = none ∧ (pollReadyT c).1.1.pingPong.pendingPong = none) := by
  have h := pollReadyT_rule ledReady c trivial trivial
  refine ⟨h.imp (·.2.1) fun ⟨e, he, hk, f⟩ => ⟨⟨e, he, hk⟩, f⟩, fun hok => ?_⟩
  rcases h with ⟨-, -, g⟩ | ⟨e, he, -⟩
  · apply g
    cases hst : (pollReadyT c).1.2 <;> simp [hst, stepOk] at hok ⊢
  · rw [he] at hok; simp [stepOk] at hok

theorem recvSettings_same (c : Conn) (ack : Bool) (vals : List (Nat × Nat)) :
    (c.recvSettings ack vals).1.pingPong = c.pingPong ∧
    (c.recvSettings ack vals).1.settings.remote = if ack then c.settings.remote else some vals := by
  unfold Conn.recvSettings
  cases ack with
  | true =>
    simp only [if_true]
    cases hl : c.settings.loc with
    | waitingAck loc => dsimp only; split <;> exact ⟨rfl, rfl⟩
    | toSend _ => exact ⟨rfl, rfl⟩
    | synced => exact ⟨rfl, rfl⟩
  | false =>
    simp only [Bool.false_eq_true, if_false]
    split <;> simp

/-- `pending_pong` after `recv_frame`, which is all it writes of what the ledger reads: the payload of a PING that asks for an
    answer -/
theorem recvFrame_pendingPong (c : Conn) (frame : Option Frame.Frame) (hp : c.pingPong.pendingPong = none) :
    owedP (c.recvFrame frame).1 = rxP (frameEv frame) := by
  have same : ∀ {c' : Conn} {f : Option Frame.Frame}, c'.pingPong = c.pingPong → frameEv f = [.rxOther] → owedP c' = rxP (frameEv f) :=
    fun h he => by unfold owedP; rw [h, hp, he]; rfl
  cases frame with
  | none => unfold Conn.recvFrame; exact same rfl rfl
  | some f =>
    cases f with
    | headers | data | reset | pushPromise | windowUpdate =>
      rw [show c.recvFrame (some _) = Conn.recvLift c _ from rfl, Conn.recvLift_fst]; exact same rfl rfl
    | priority => exact same rfl rfl
    | settings ack vals => cases ack <;> (unfold owedP; rw [show (c.recvFrame _).1 = c from rfl, hp]; rfl)
    | goAway last code debug =>
      unfold Conn.recvFrame
      dsimp only
      split <;> exact same rfl rfl
    | ping ack payload =>
      rw [Conn.recvFrame_ping_eq]
      unfold owedP
      rw [(Conn.pingTail_keeps _ _).2.2.2.1]
      dsimp only
      cases ack with
      | false => split <;> rfl
      | true =>
        have : (c.pingPong.recvPing true payload).1.pendingPong = none := by
          unfold PingPong.recvPing
          simp only [if_true]
          (repeat' split) <;> exact hp
        split <;> exact congrArg Option.toList this

theorem recvStep_led (c : Conn) (frame : Option Frame.Frame)
    (hr : c.settings.remote = none) (hp : c.pingPong.pendingPong = none) :
    Led c (frameEv frame) (recvStep c frame).1 := by
  by_cases hs : ∃ ack vals, frame = some (.settings ack vals)
  · obtain ⟨ack, vals, rfl⟩ := hs
    have hrf : c.recvFrame (some (.settings ack vals)) = (c, .ok (.settings ack vals)) := rfl
    unfold recvStep
    rw [hrf]
    dsimp only
    obtain ⟨s1, s2⟩ := recvSettings_same c ack vals
    rcases hS : c.recvSettings ack vals with ⟨c2, r2⟩
    rw [hS] at s1 s2
    dsimp only at s1 s2
    have led : Led c (frameEv (some (.settings ack vals))) c2 := by
      cases ack with
      | true => exact ⟨by simp [owedS, s2, frameEv, ackS, rxS], by simp [owedP, s1, frameEv, ansP, rxP]⟩
      | false => exact ⟨by simp [owedS, s2, hr, frameEv, ackS, rxS], by simp [owedP, s1, frameEv, ansP, rxP]⟩
    cases r2 <;> exact led
  · have ev : rxS (frameEv frame) = [] ∧ ackS (frameEv frame) = [] ∧ ansP (frameEv frame) = [] := by
      rcases frame with _ | f
      · exact ⟨rfl, rfl, rfl⟩
      · cases f <;> first | exact ⟨rfl, rfl, rfl⟩ | exact absurd ⟨_, _, rfl⟩ hs | (rename_i a _; cases a <;> exact ⟨rfl, rfl, rfl⟩)
    obtain ⟨-, -, f1, f6⟩ := Conn.recvFrame_keeps c frame
    have f2 := recvFrame_pendingPong c frame hp
    unfold recvStep
    rcases hF : c.recvFrame frame with ⟨c1, r1⟩
    rw [hF] at f1 f2 f6
    dsimp only at f1 f2 f6
    have led : Led c (frameEv frame) c1 :=
      ⟨by simp [owedS, f1, ev.1, ev.2.1], by rw [ev.2.2, f2]; simp [owedP, hp]⟩
    cases r1 with
    | error e => exact led
    | ok rf =>
      cases rf with
      | «continue» => exact led
      | done => exact led
      | settings a v => exact absurd ⟨a, v, f6 a v rfl⟩ hs

end H2V.Lemmas.ConnCtlP
