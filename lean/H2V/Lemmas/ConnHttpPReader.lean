import H2V.Lemmas.ConnHttpPBlock
import H2V.Lemmas.CodecReader
import H2V.Lemmas.ConnPollNextRule
/-
  C13 (ConnHttpP) — `decode_frame`: over any sequence of frames, the header block a HEADERS /
  PUSH_PROMISE frame is delivered with stands for the concatenation of the field lists HPACK decoded
  from its fragments (a ghost list carried next to the reader), all of them `fieldOk`; `decode_frame`
  is taken arm by arm (`decodeFrame_shape`), and `FramedRead::poll_next` keeps the invariant.
-/
namespace H2V.Lemmas.ConnHttpP
open H2V H2V.Model H2V.Model.Frame H2V.Model.Hpack H2V.Model.CodecRead

/-- ghost: the fields decoded so far for the header block in progress, after `decodeFrame r bytes` -/
def ghostNext (g : List Header) (r : Reader) (bytes : Bytes) : List Header :=
  let head := Head.parse bytes
  let payload := bytes.drop 9
  if r.partialBlk.isSome ∧ head.kind ≠ 9 then g
  else match head.kind with
    | 1 => match loadHeadersHead head payload with
      | .ok (_, _, _, _, frag) => loadedFields r.hpack frag
      | .error _ => g
    | 5 => match loadPushPromiseHead head payload with
      | .ok (_, _, _, frag) => loadedFields r.hpack frag
      | .error _ => g
    | 9 => match r.partialBlk with
      | some p => g ++ loadedFields r.hpack.continueBlock (p.buf ++ payload)
      | none => g
    | _ => g

/-- the reader invariant: the dynamic table holds accepted fields only, and the partial block stands
    for the ghost list -/
structure RInv (r : Reader) (g : List Header) : Prop where
  table : TableOk r.hpack.table
  part : ∀ p, r.partialBlk = some p → BlockInv p.frame.blk g ∧ ∀ f ∈ g, fieldOk f = true

/-- the block of a delivered header frame -/
def dfBlock : DF → Option HeaderBlock
  | .frame (.headers _ _ _ blk) => some blk
  | .frame (.pushPromise _ _ blk) => some blk
  | _ => none

theorem afterHpack_cases (r : Reader) (c : Continuable) (tail : Bytes) (count : Nat) (eh : Bool) (sid : Nat)
    (res : Except FErr Unit) :
    (afterHpack r c tail count eh sid res).1.hpack = r.hpack ∧
    ((afterHpack r c tail count eh sid res).1.partialBlk = none ∨
      ((afterHpack r c tail count eh sid res).1.partialBlk = some { frame := c, buf := tail, count := count } ∧
        (res = .ok () ∨ ∃ e, res = .error (.hpack e) ∧ e.isNeedMore = true))) ∧
    (∀ b, dfBlock (afterHpack r c tail count eh sid res).2 = some b → b = c.blk ∧ res = .ok ()) := by
  unfold afterHpack
  cases res with
  | ok u =>
    cases eh
    · exact ⟨rfl, Or.inr ⟨rfl, .inl rfl⟩, fun b hb => by cases hb⟩
    · refine ⟨rfl, Or.inl rfl, fun b hb => ?_⟩
      cases c <;> (simp only [if_true, Continuable.toFrame, dfBlock, Option.some.injEq] at hb; exact ⟨hb.symm, rfl⟩)
  | error e =>
    cases e with
    | hpack e =>
      simp only
      split
      · rename_i hc
        have : eh = false := by simpa using hc.2
        subst this
        exact ⟨rfl, Or.inr ⟨rfl, .inr ⟨e, rfl, hc.1⟩⟩, fun b hb => by cases hb⟩
      · exact ⟨rfl, Or.inl rfl, fun b hb => by cases hb⟩
    | _ => exact ⟨rfl, Or.inl rfl, fun b hb => by cases hb⟩

/-- `g0` = the ghost list of `b` (`[]` for a first frame) -/
theorem load_after (r : Reader) (b : HeaderBlock) (g0 : List Header) (src : Bytes) (dec : Decoder)
    (mk : HeaderBlock → Continuable) (hmk : ∀ x, (mk x).blk = x) (cnt : Nat) (eh : Bool) (sid : Nat)
    (ht : TableOk dec.table) (hb : BlockInv b g0) (hg : ∀ f ∈ g0, fieldOk f = true) :
    RInv (Codec.loadThen r b src dec mk cnt eh sid).1 (g0 ++ loadedFields dec src) ∧
    ∀ blk, dfBlock (Codec.loadThen r b src dec mk cnt eh sid).2 = some blk →
      blk.isMalformed = false ∧ BlockInv blk (g0 ++ loadedFields dec src) ∧
      ∀ f ∈ g0 ++ loadedFields dec src, fieldOk f = true := by
  unfold Codec.loadThen
  obtain ⟨a1, a2, a3⟩ := afterHpack_cases { r with hpack := (HeaderBlock.load b src r.maxHeaderListSize dec).2.1 }
    (mk (HeaderBlock.load b src r.maxHeaderListSize dec).1) (HeaderBlock.load b src r.maxHeaderListSize dec).2.2.1
    cnt eh sid (HeaderBlock.load b src r.maxHeaderListSize dec).2.2.2
  obtain ⟨d1, d2⟩ := decode_ok dec src ht
  have hall : ∀ f ∈ g0 ++ loadedFields dec src, fieldOk f = true := fun f hf => by
    rcases List.mem_append.mp hf with h | h
    · exact hg f h
    · exact d2 f h
  refine ⟨⟨?_, fun p hp => ?_⟩, fun blk hblk => ?_⟩
  · rw [a1]
    simp only [load_eq]
    exact d1
  · rcases a2 with a2 | ⟨a2, hw⟩
    · rw [a2] at hp; cases hp
    · rw [a2] at hp
      cases hp
      simp only [hmk]
      exact ⟨load_inv b g0 src _ dec hb (by rcases hw with e | ⟨_, e, _⟩ <;> (rw [e]; simp)), hall⟩
  · obtain ⟨e1, e2⟩ := a3 blk hblk
    rw [hmk] at e1
    subst e1
    exact ⟨load_ok_not_malformed _ _ _ _ e2, load_inv b g0 src _ dec hb (by rw [e2]; simp), hall⟩

theorem rinv_same (r r' : Reader) (g : List Header) (hi : RInv r g) (h1 : r'.hpack = r.hpack)
    (h2 : r'.partialBlk = r.partialBlk) : RInv r' g :=
  ⟨by rw [h1]; exact hi.table, fun p hp => hi.part p (by rw [← h2]; exact hp)⟩

theorem rinv_drop (r r' : Reader) (g g' : List Header) (hi : RInv r g) (h1 : r'.hpack = r.hpack)
    (h2 : r'.partialBlk = none) : RInv r' g' :=
  ⟨by rw [h1]; exact hi.table, fun p hp => by rw [h2] at hp; cases hp⟩

theorem nb_loaded {bytes : Bytes} {f : Frame} (h : Codec.Loaded bytes f) : dfBlock (.frame f) = none := by
  have := h.own
  cases f <;> first | rfl | exact this.elim

/-- ghost: (HPACK decoder when the block in progress started, block fragments concatenated so far) -/
abbrev WGhost := Option (Decoder × Bytes)

def wireNext (w : WGhost) (r : Reader) (bytes : Bytes) : WGhost :=
  let head := Head.parse bytes
  let payload := bytes.drop 9
  if r.partialBlk.isSome ∧ head.kind ≠ 9 then w
  else match head.kind with
    | 1 => match loadHeadersHead head payload with
      | .ok (_, _, _, _, frag) => some (r.hpack, frag)
      | .error _ => w
    | 5 => match loadPushPromiseHead head payload with
      | .ok (_, _, _, frag) => some (r.hpack, frag)
      | .error _ => w
    | 9 => match w with
      | some (d0, src) => some (d0, src ++ payload)
      | none => none
    | _ => w

/-- `decode_frame` (`d` = its result) as far as header blocks go: nothing happens to the block in progress (or
    it is dropped), a first fragment is loaded, or a CONTINUATION fragment is — with what the two ghosts do -/
inductive DecodeShape (r : Reader) (bytes : Bytes) (d : Reader × DF) (next : List Header → List Header)
    (wnext : WGhost → WGhost) : Prop
  | inert (hh : d.1.hpack = r.hpack) (hb : dfBlock d.2 = none)
      (hp : d.1.partialBlk = none ∨ (d.1.partialBlk = r.partialBlk ∧ (∀ g, next g = g) ∧ ∀ w, wnext w = w))
  | first (frag : Bytes) (mk : HeaderBlock → Continuable) (hmk : ∀ x, (mk x).blk = x) (eh : Bool)
      (hd : d = Codec.loadThen r {} frag r.hpack mk 0 eh (Head.parse bytes).sid)
      (hg : ∀ g, next g = loadedFields r.hpack frag) (hw : ∀ w, wnext w = some (r.hpack, frag))
  | cont (p : Partial) (cnt : Nat) (eh : Bool) (hp : r.partialBlk = some p)
      (hd : d = Codec.loadThen { r with partialBlk := none } p.frame.blk (p.buf ++ bytes.drop 9)
        r.hpack.continueBlock (fun b => p.frame.setBlk b) cnt eh (Head.parse bytes).sid)
      (hg : ∀ g, next g = g ++ loadedFields r.hpack.continueBlock (p.buf ++ bytes.drop 9))
      (hw : ∀ d0 src, wnext (some (d0, src)) = some (d0, src ++ bytes.drop 9))

theorem decodeFrame_shape (r : Reader) (bytes : Bytes) :
    DecodeShape r bytes (decodeFrame r bytes) (fun g => ghostNext g r bytes) (fun w => wireNext w r bytes) := by
  obtain ⟨F, a, hF⟩ := Codec.decodeFrame_arm r bytes
  rw [show decodeFrame r bytes = F r from hF r.buf r.need r.maxFrameLen]
  cases a with
  | interleaved hs hk =>
    exact .inert rfl rfl (Or.inr ⟨rfl, fun g => if_pos ⟨hs, hk⟩, fun w => if_pos ⟨hs, hk⟩⟩)
  | refused e hp => exact .inert rfl rfl (Or.inl hp)
  | skipped hp => exact .inert rfl rfl (Or.inl hp)
  | loaded hp hl => exact .inert rfl (nb_loaded hl) (Or.inl hp)
  | headers hp hk hl =>
    refine .first _ _ (fun _ => rfl) _ rfl (fun g => ?_) (fun w => ?_)
    · unfold ghostNext; simp only [hp, hk, hl, Option.isSome_none, Bool.false_eq_true, false_and, if_false]
    · unfold wireNext; simp only [hp, hk, hl, Option.isSome_none, Bool.false_eq_true, false_and, if_false]
  | pushPromise hp hk hl =>
    refine .first _ _ (fun _ => rfl) _ rfl (fun g => ?_) (fun w => ?_)
    · unfold ghostNext; simp only [hp, hk, hl, Option.isSome_none, Bool.false_eq_true, false_and, if_false]
    · unfold wireNext; simp only [hp, hk, hl, Option.isSome_none, Bool.false_eq_true, false_and, if_false]
  | dropped e hk hp => exact .inert rfl rfl (Or.inl rfl)
  | continuation hk hp hc =>
    refine .cont _ _ _ hp rfl (fun g => ?_) (fun d0 src => ?_)
    · unfold ghostNext; simp only [hp, hk, ne_eq, not_true_eq_false, and_false, if_false]
    · unfold wireNext; simp only [hk, ne_eq, not_true_eq_false, and_false, if_false]

/-- **`decode_frame` keeps the reader invariant, and a header block it delivers is unflagged and stands
    for the ghost list** — for every reader state, every frame -/
theorem decodeFrame_inv (r : Reader) (g : List Header) (bytes : Bytes) (hi : RInv r g) :
    RInv (decodeFrame r bytes).1 (ghostNext g r bytes) ∧
    ∀ blk, dfBlock (decodeFrame r bytes).2 = some blk →
      blk.isMalformed = false ∧ BlockInv blk (ghostNext g r bytes) ∧ ∀ f ∈ ghostNext g r bytes, fieldOk f = true := by
  cases decodeFrame_shape r bytes with
  | inert hh hb hp =>
    refine ⟨?_, fun blk h => by rw [hb] at h; cases h⟩
    rcases hp with hp | ⟨hp, hg, -⟩
    · exact rinv_drop r _ g _ hi hh hp
    · rw [hg]; exact rinv_same r _ g hi hh hp
  | first frag mk hmk eh hd hg _ =>
    rw [hd, hg]
    exact load_after r {} [] frag r.hpack mk hmk 0 eh _ hi.table blockInv_empty (fun f hf => by cases hf)
  | cont p cnt eh hp hd hg _ =>
    rw [hd, hg]
    exact load_after _ p.frame.blk g _ r.hpack.continueBlock _ (fun x => by cases p.frame <;> rfl) cnt eh _
      hi.table (hi.part p hp).1 (hi.part p hp).2


theorem rinv_new (mfs : Nat) : RInv (Reader.new mfs) [] :=
  ⟨new_tableOk _, fun p hp => by cases hp⟩

/-- what the connection does to its reader: decode a frame, or apply acknowledged local settings -/
inductive ROp where
  | frame (bytes : Bytes)
  | setMaxFrameSize (v : Nat)
  | setMaxHeaderListSize (v : Nat)
  | queueSizeUpdate (v : Nat)
  | buffer (buf : Bytes) (need : Option Nat)      -- the reassembly buffer (`LengthDelimitedCodec`)

def ROp.apply (rg : Reader × List Header) : ROp → Reader × List Header
  | .frame bytes => ((decodeFrame rg.1 bytes).1, ghostNext rg.2 rg.1 bytes)
  | .setMaxFrameSize v => (rg.1.setMaxFrameSize v, rg.2)
  | .setMaxHeaderListSize v => (rg.1.setMaxHeaderListSize v, rg.2)
  | .queueSizeUpdate v => ({ rg.1 with hpack := rg.1.hpack.queueSizeUpdate v }, rg.2)
  | .buffer buf need => ({ rg.1 with buf := buf, need := need }, rg.2)

def runROps (rg : Reader × List Header) (ops : List ROp) : Reader × List Header := ops.foldl ROp.apply rg

theorem rinv_apply (rg : Reader × List Header) (op : ROp) (hi : RInv rg.1 rg.2) :
    RInv (op.apply rg).1 (op.apply rg).2 := by
  cases op with
  | frame bytes => exact (decodeFrame_inv rg.1 rg.2 bytes hi).1
  | setMaxFrameSize v => exact rinv_same _ _ _ hi rfl rfl
  | setMaxHeaderListSize v => exact rinv_same _ _ _ hi rfl rfl
  | queueSizeUpdate v => exact ⟨hi.table, hi.part⟩
  | buffer buf need => exact rinv_same _ _ _ hi rfl rfl

/-- the invariant holds after ANY sequence of frames and settings changes from a fresh reader -/
theorem rinv_reachable (mfs : Nat) (ops : List ROp) :
    RInv (runROps (Reader.new mfs, []) ops).1 (runROps (Reader.new mfs, []) ops).2 := by
  suffices h : ∀ (ops : List ROp) (rg : Reader × List Header), RInv rg.1 rg.2 → RInv (runROps rg ops).1 (runROps rg ops).2 from
    h ops _ (rinv_new mfs)
  intro ops
  induction ops with
  | nil => intro rg h; exact h
  | cons op rest ih => intro rg h; exact ih _ (rinv_apply rg op h)

open H2V.Model.Conn

/-- a frame as `decode_frame` delivers it: if it carries a header block, the block is unflagged and
    stands for some list of fields that passed HPACK -/
def GoodFrame (f : Frame.Frame) : Prop :=
  ∀ blk, dfBlock (.frame f) = some blk →
    blk.isMalformed = false ∧ ∃ g, BlockInv blk g ∧ ∀ x ∈ g, fieldOk x = true

/-- the reader invariant with the ghost list hidden -/
def RInv' (r : Reader) : Prop := ∃ g, RInv r g

theorem rinv'_buf (r : Reader) (buf : Bytes) (need : Option Nat) (h : RInv' r) : RInv' { r with buf := buf, need := need } := by
  obtain ⟨g, hg⟩ := h
  exact ⟨g, rinv_same _ _ _ hg rfl rfl⟩

theorem decodeFrame_good (r : Reader) (bytes : Bytes) (h : RInv' r) :
    RInv' (decodeFrame r bytes).1 ∧ ∀ f, (decodeFrame r bytes).2 = .frame f → GoodFrame f := by
  obtain ⟨g, hg⟩ := h
  obtain ⟨h1, h2⟩ := decodeFrame_inv r g bytes hg
  refine ⟨⟨_, h1⟩, fun f hf blk hb => ?_⟩
  rw [← hf] at hb
  obtain ⟨a, b, c⟩ := h2 blk hb
  exact ⟨a, _, b, c⟩

theorem drain_good (r : Reader) (h : RInv' r) :
    RInv' (Reader.drain 1 r []).1 ∧ ∀ f, Item.frame f ∈ (Reader.drain 1 r []).2.1 → GoodFrame f :=
  Codec.drain_rule (I := RInv') (G := GoodFrame) (fun r n h _ => rinv'_buf r r.buf (some n) h)
    (fun r n h _ _ => decodeFrame_good _ (r.buf.take n) (rinv'_buf r (r.buf.drop n) none h)) 1 r [] h
    (fun _ hf => nomatch hf)

/-- **`FramedRead::poll_next`**: the reader invariant is kept, and a frame it yields is a `GoodFrame` -/
theorem pollNext_good (fuel : Nat) (c : Codec) (tag : String) (h : RInv' c.r) :
    RInv' (pollNext fuel c tag).1.r ∧ ∀ f, (pollNext fuel c tag).2 = .frame f → GoodFrame f :=
  have r := pollNext_rule (I := RInv') (G := GoodFrame) (fun r buf h => rinv'_buf r buf r.need h)
    drain_good fuel c tag h
  ⟨r.1, r.2.2⟩

end H2V.Lemmas.ConnHttpP
