import H2V.Lemmas.ConnCtlPDead
import H2V.Lemmas.ConnCtlPViewRecv
/-
  ConnCtlP — C15: the GOAWAY invariant.  `last_processed_id ≤ recv.max_stream_id`, the
  identifier announced in the last GOAWAY bounds `last_processed_id` from above (and equals
  `max_stream_id` as long as `go_away_now` has not run), the pending frame is the one announced.
  Under the invariant the `assert!`s of `GoAway::go_away` ("GOAWAY stream IDs shouldn't be higher")
  and `Recv::go_away` (`max_stream_id >= last_processed_id`) hold at each of their call sites.
-/
set_option autoImplicit false
set_option linter.unusedSimpArgs false
namespace H2V.Lemmas.ConnCtlP
open H2V H2V.Model H2V.Model.Conn

/-- the last-stream-id announced by the most recent GOAWAY built (`going_away`), if any -/
def gaLast (c : Conn) : Option Nat := c.goAway.goingAway.map (·.lastProcessedId)

structure GoAwayInv (c : Conn) : Prop where
  /-- `last_processed_id ≤ max_stream_id` -/
  lpi_le_max : (view c.streams).lpi ≤ (view c.streams).rmax
  /-- the announced id bounds the processed one -/
  lpi_le_ga : ∀ ga, c.goAway.goingAway = some ga → (view c.streams).lpi ≤ ga.lastProcessedId
  /-- before `go_away_now`, what is announced is what is enforced (`max_stream_id`) -/
  ga_eq_max : ∀ ga, c.goAway.goingAway = some ga → c.goAway.closeNow = false →
    ga.lastProcessedId = (view c.streams).rmax
  /-- no GOAWAY built yet: nothing is cut off -/
  none_max : c.goAway.goingAway = none → (view c.streams).rmax = STREAM_ID_MAX
  /-- the frame waiting to be written is the one announced -/
  pend : ∀ f, c.goAway.pending = some f →
    c.goAway.goingAway = some { lastProcessedId := f.lastStreamId, reason := f.reason }
  /-- `close_now` only together with `going_away` -/
  close_ga : c.goAway.closeNow = true → c.goAway.goingAway.isSome = true

theorem GoAwayInv.halting_of_closeNow {c : Conn} (h : GoAwayInv c) (hc : c.goAway.closeNow = true) : Halting c :=
  ⟨hc, h.close_ga hc⟩

/-- the second alternative of `hl` is an accepted HEADERS: while `close_now` is unset, `max_stream_id` is what was announced -/
theorem GoAwayInv.keep {c c' : Conn} (h : GoAwayInv c) (hcn : c'.goAway.closeNow = c.goAway.closeNow)
    (hga : c'.goAway.goingAway = c.goAway.goingAway) (hp : ∀ f, c'.goAway.pending = some f → c.goAway.pending = some f)
    (hr : (view c'.streams).rmax = (view c.streams).rmax)
    (hl : (view c'.streams).lpi ≤ (view c.streams).lpi ∨
      c.goAway.closeNow = false ∧ (view c'.streams).lpi ≤ (view c.streams).rmax) : GoAwayInv c' := by
  constructor
  · rw [hr]; exact hl.elim (Nat.le_trans · h.lpi_le_max) (·.2)
  · rw [hga]
    exact fun ga e => hl.elim (Nat.le_trans · (h.lpi_le_ga ga e)) fun hl => h.ga_eq_max ga e hl.1 ▸ hl.2
  · rw [hr, hga, hcn]; exact h.ga_eq_max
  · rw [hr, hga]; exact h.none_max
  · rw [hga]; exact fun f e => h.pend f (hp f e)
  · rw [hcn, hga]; exact h.close_ga

theorem GoAwayInv.congr {c c' : Conn} (h : GoAwayInv c) (hg : c'.goAway = c.goAway)
    (hv : view c'.streams = view c.streams) : GoAwayInv c' :=
  h.keep (by rw [hg]) (by rw [hg]) (by rw [hg]; exact fun _ => id) (by rw [hv]) (.inl (by rw [hv]; exact Nat.le_refl _))

theorem GoAwayInv.lpi_le_gaLast {c : Conn} (h : GoAwayInv c) {m : Nat} (hm : gaLast c = some m) : (view c.streams).lpi ≤ m := by
  unfold gaLast at hm
  cases hga : c.goAway.goingAway with
  | none => rw [hga] at hm; cases hm
  | some ga =>
    rw [hga] at hm
    cases hm
    exact h.lpi_le_ga ga hga

/-- the `assert!` of `GoAway::go_away` holds iff the new id is not above the announced one -/
theorem GoAway.goAway_ok_iff (g : GoAway) (f : GoAwayFrame) :
    (g.goAway f).2 = true ↔ ∀ ga, g.goingAway = some ga → f.lastStreamId ≤ ga.lastProcessedId := by
  unfold GoAway.goAway
  cases h : g.goingAway with
  | none => simp
  | some ga => simp

/-- `go_away_now`: either the very same GOAWAY was already announced (nothing new is queued), or
    `go_away(f)` runs -/
theorem GoAway.goAwayNow_cases (g : GoAway) (f : GoAwayFrame) :
    (g.goAwayNow f = ({ g with closeNow := true }, true) ∧
      g.goingAway = some { lastProcessedId := f.lastStreamId, reason := f.reason }) ∨
    (g.goAwayNow f = ({ g with closeNow := true } : GoAway).goAway f) := by
  unfold GoAway.goAwayNow
  dsimp only
  cases h : g.goingAway with
  | none => right; rfl
  | some ga =>
    dsimp only
    split
    · rename_i hc
      left
      refine ⟨rfl, ?_⟩
      simp at hc
      obtain ⟨h1, h2⟩ := hc
      cases ga
      simp_all
    · right; rfl

/-- `Recv::go_away(id)` with `id ≤ max_stream_id`: the `assert!` holds, only `max_stream_id` changes -/
theorem recvGoAway_ok (s : Streams) (id : Nat) (h : id ≤ (view s).rmax) :
    s.recvGoAway id = s.modRecv (fun r => { r with maxStreamId := id }) ∧
    view (s.recvGoAway id) = { view s with rmax := id } ∧ (s.recvGoAway id).panicked = s.panicked ∧
    (s.recvGoAway id).store = s.store ∧ (s.recvGoAway id).counts = s.counts := by
  have h' : s.recv.maxStreamId ≥ id := h
  unfold Streams.recvGoAway
  rw [if_pos h']
  exact ⟨rfl, rfl, rfl, rfl, rfl⟩

/-- at a call site of `DynConnection::go_away(id, e)` with these bounds neither `assert!` fires (no panic is recorded) -/
theorem dynGoAway_inv (c : Conn) (id : Nat) (e : Reason)
    (h1 : (view c.streams).lpi ≤ id) (h2 : id ≤ (view c.streams).rmax)
    (h3 : ∀ ga, c.goAway.goingAway = some ga → id ≤ ga.lastProcessedId) :
    GoAwayInv (c.dynGoAway id e) ∧ (c.dynGoAway id e).streams = c.streams.recvGoAway id ∧
    (c.dynGoAway id e).goAway.pending = some { lastStreamId := id, reason := e } ∧
    (c.dynGoAway id e).goAway.goingAway = some { lastProcessedId := id, reason := e } ∧
    (c.dynGoAway id e).goAway.closeNow = c.goAway.closeNow ∧
    (c.dynGoAway id e).streams.panicked = c.streams.panicked := by
  obtain ⟨-, hv, hnp, -, -⟩ := recvGoAway_ok c.streams id h2
  have hok : (c.goAway.goAway { lastStreamId := id, reason := e }).2 = true :=
    (GoAway.goAway_ok_iff _ _).2 h3
  have heq : c.dynGoAway id e = { c with streams := c.streams.recvGoAway id, goAway := (c.goAway.goAway { lastStreamId := id, reason := e }).1 } := by
    unfold Conn.dynGoAway
    dsimp only
    rw [if_pos hok]
  rw [heq]
  refine ⟨?_, rfl, rfl, rfl, rfl, hnp⟩
  constructor
  · dsimp only; rw [hv]; exact h1
  · intro ga hga; dsimp only at hga ⊢; rw [hv]; simp [GoAway.goAway] at hga; subst hga; exact h1
  · intro ga hga _; dsimp only at hga ⊢; rw [hv]; simp [GoAway.goAway] at hga; subst hga; rfl
  · intro hn; simp [GoAway.goAway] at hn
  · intro f hf; simp [GoAway.goAway] at hf ⊢; subst hf; exact ⟨rfl, rfl⟩
  · intro _; rfl

/-- `DynConnection::go_away_now(e)` never trips the `assert!`: it announces `last_processed_id`,
    which the invariant keeps below the announced id -/
theorem goAwayNow_ok (c : Conn) (e : Reason) (d : Bytes) (isUser : Bool) (h : GoAwayInv c) :
    (({ c.goAway with isUserInitiated := isUser } : GoAway).goAwayNow
      { lastStreamId := c.streams.recv.lastProcessedId, reason := e, debugData := d }).2 = true := by
  rcases GoAway.goAwayNow_cases { c.goAway with isUserInitiated := isUser }
    { lastStreamId := c.streams.recv.lastProcessedId, reason := e, debugData := d } with ⟨h1, -⟩ | h1
  · rw [h1]
  · rw [h1]
    exact (GoAway.goAway_ok_iff _ _).2 (fun ga hga => h.lpi_le_ga ga hga)

theorem goAwayNow_result (c : Conn) (e : Reason) (d : Bytes) (isUser : Bool) :
    let g' := (({ c.goAway with isUserInitiated := isUser } : GoAway).goAwayNow
      { lastStreamId := c.streams.recv.lastProcessedId, reason := e, debugData := d }).1
    g'.closeNow = true ∧
    g'.goingAway = some { lastProcessedId := c.streams.recv.lastProcessedId, reason := e } ∧
    g'.isUserInitiated = isUser ∧
    (g'.pending = some { lastStreamId := c.streams.recv.lastProcessedId, reason := e, debugData := d } ∨
      (g'.pending = c.goAway.pending ∧
        c.goAway.goingAway = some { lastProcessedId := c.streams.recv.lastProcessedId, reason := e })) := by
  intro g'
  rcases GoAway.goAwayNow_cases { c.goAway with isUserInitiated := isUser }
    { lastStreamId := c.streams.recv.lastProcessedId, reason := e, debugData := d } with ⟨h1, h2⟩ | h1
  · have : g' = { ({ c.goAway with isUserInitiated := isUser } : GoAway) with closeNow := true } := by
      show (GoAway.goAwayNow _ _).1 = _; rw [h1]
    rw [this]
    exact ⟨rfl, h2, rfl, Or.inr ⟨rfl, h2⟩⟩
  · have : g' = (({ ({ c.goAway with isUserInitiated := isUser } : GoAway) with closeNow := true } : GoAway).goAway
        { lastStreamId := c.streams.recv.lastProcessedId, reason := e, debugData := d }).1 := by
      show (GoAway.goAwayNow _ _).1 = _; rw [h1]
    rw [this]
    exact ⟨rfl, rfl, rfl, Or.inl rfl⟩

theorem goAwayNowData_eq (c : Conn) (e : Reason) (d : Bytes) (h : GoAwayInv c) :
    c.goAwayNowData e d = { c with goAway := (c.goAway.goAwayNow
      { lastStreamId := c.streams.recv.lastProcessedId, reason := e, debugData := d }).1 } := by
  have := goAwayNow_ok c e d c.goAway.isUserInitiated h
  unfold Conn.goAwayNowData
  dsimp only
  rw [if_pos this]

/-- `GoAway::go_away_now(last_processed_id, e, d)` on the `goAway` of a connection that has the invariant, the ids of the
    streams being left alone: what `go_away_now`, `abrupt_shutdown` and a connection error do -/
theorem GoAwayInv.goAwayNow {c c' : Conn} (h : GoAwayInv c) (e : Reason) (d : Bytes) (isUser : Bool)
    (hg : c'.goAway = (({ c.goAway with isUserInitiated := isUser } : GoAway).goAwayNow
      { lastStreamId := c.streams.recv.lastProcessedId, reason := e, debugData := d }).1)
    (hl : (view c'.streams).lpi = (view c.streams).lpi) (hr : (view c'.streams).rmax = (view c.streams).rmax) :
    GoAwayInv c' := by
  obtain ⟨r1, r2, -, r4⟩ := goAwayNow_result c e d isUser
  constructor
  · rw [hl, hr]; exact h.lpi_le_max
  · intro ga hga
    rw [hg, r2] at hga
    cases hga
    rw [hl]; exact Nat.le_refl _
  · intro ga _ hcn
    rw [hg, r1] at hcn
    cases hcn
  · intro hn
    rw [hg, r2] at hn
    cases hn
  · intro f hf
    rw [hg] at hf ⊢
    rcases r4 with r4 | ⟨r4, r5⟩
    · rw [r4] at hf; cases hf; exact r2
    · rw [r4] at hf
      have := h.pend f hf
      rw [r5] at this
      rw [r2]
      exact this
  · intro _
    rw [hg, r2]; rfl

theorem goAwayNowData_inv (c : Conn) (e : Reason) (d : Bytes) (h : GoAwayInv c) :
    GoAwayInv (c.goAwayNowData e d) ∧ (c.goAwayNowData e d).streams = c.streams := by
  rw [goAwayNowData_eq c e d h]
  exact ⟨h.goAwayNow e d c.goAway.isUserInitiated rfl rfl rfl, rfl⟩

theorem view_modRecv_flow (s : Streams) (fl : FlowControl) :
    view (s.modRecv fun rc => { rc with flow := fl }) = view s := rfl

theorem GoAwayInv.of_fresh {c : Conn} (h1 : c.goAway.goingAway = none) (h2 : c.goAway.pending = none)
    (h3 : c.goAway.closeNow = false) (h4 : (view c.streams).lpi = 0) (h5 : (view c.streams).rmax = STREAM_ID_MAX) :
    GoAwayInv c := by
  constructor
  · rw [h4]; exact Nat.zero_le _
  · intro ga hga; rw [h1] at hga; cases hga
  · intro ga hga; rw [h1] at hga; cases hga
  · intro _; exact h5
  · intro f hf; rw [h2] at hf; cases hf
  · intro hc; rw [h3] at hc; cases hc

theorem goAwayInv_init (g : Conn.Cfg) : GoAwayInv (Conn.init g) := by
  unfold Conn.init
  dsimp only
  split
  · apply GoAwayInv.of_fresh <;> first | rfl | (unfold Conn.setTargetWindowSize; dsimp only; rw [view_setTargetConnectionWindow]; rfl)
  · apply GoAwayInv.of_fresh <;> rfl

theorem goAwayInv_initServer (g : Conn.Cfg) (ecp : Bool) (peer : Bytes) : GoAwayInv (Conn.initServer g ecp peer) := by
  unfold Conn.initServer
  dsimp only
  split
  · apply GoAwayInv.of_fresh <;> first | rfl | (unfold Conn.setTargetWindowSize; dsimp only; rw [view_setTargetConnectionWindow]; rfl)
  · apply GoAwayInv.of_fresh <;> rfl

end H2V.Lemmas.ConnCtlP
