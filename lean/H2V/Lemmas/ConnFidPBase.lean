import H2V.Model.ConnStreams
/-
  ConnFidP (C01 at the stream layer) — the vocabulary of "fidelity" for a stream's send queue.

  The model tracks DATA by length only (`SFrame.data len eos`), so what "the message survives the
  stream layer" means on the send side is an ORDER + LENGTH statement:

    `Refine es as` — the frame sequence `es` (what left `pop_frame`, possibly followed by what is still
    queued) is obtained from the sequence `as` (what the API accepted) by cutting DATA frames into
    consecutive pieces: every other frame is kept as it is and where it is, the pieces of a DATA
    frame of `sz` octets have lengths summing to `sz`, appear in place of the frame, and only the last
    piece carries the frame's END_STREAM flag.

  `toks` flattens a frame sequence into what the peer's application can observe of it (header
  blocks, one token per DATA octet, END_STREAM marks); `Refine es as → toks es = toks as`.
-/
namespace H2V.Lemmas.ConnFidP
open H2V H2V.Model H2V.Model.Conn

def isMsg : SFrame → Bool
  | .reset _ => false
  | _ => true

def msg (l : List SFrame) : List SFrame := l.filter isMsg

@[simp] theorem msg_nil : msg [] = [] := rfl
@[simp] theorem msg_append (a b : List SFrame) : msg (a ++ b) = msg a ++ msg b := List.filter_append ..
theorem msg_cons_msg {f : SFrame} (h : isMsg f = true) (l : List SFrame) : msg (f :: l) = f :: msg l := by
  simp [msg, h]
theorem msg_cons_reset (r : Reason) (l : List SFrame) : msg (.reset r :: l) = msg l := by
  simp [msg, isMsg]
@[simp] theorem msg_data (n : Nat) (e : Bool) (l : List SFrame) : msg (.data n e :: l) = .data n e :: msg l :=
  msg_cons_msg rfl l
@[simp] theorem msg_headers (e : Bool) (f : List Hpack.Field) (l : List SFrame) :
    msg (.headers e f :: l) = .headers e f :: msg l := msg_cons_msg rfl l
@[simp] theorem msg_pushPromise (a b : Nat) (f : List Hpack.Field) (l : List SFrame) :
    msg (.pushPromise a b f :: l) = .pushPromise a b f :: msg l := msg_cons_msg rfl l

theorem msg_take_prefix (l : List SFrame) (n : Nat) : msg (l.take n) <+: msg l := by
  have : l = l.take n ++ l.drop n := (List.take_append_drop n l).symm
  conv => rhs; rw [this]
  rw [msg_append]; exact List.prefix_append _ _

/-- **refinement by splitting**: `es` is `as` with DATA frames cut into consecutive pieces -/
inductive Refine : List SFrame → List SFrame → Prop
  | nil : Refine [] []
  | same (f : SFrame) {es as : List SFrame} : Refine es as → Refine (f :: es) (f :: as)
  /-- a first piece of `l` octets (never flagged END_STREAM) cut off a DATA frame of `l + r` octets;
      the remainder `data r eos` is refined further -/
  | split (l r : Nat) (eos : Bool) {es as : List SFrame} :
      Refine es (.data r eos :: as) → Refine (.data l false :: es) (.data (l + r) eos :: as)

theorem Refine.refl : ∀ l : List SFrame, Refine l l
  | [] => .nil
  | f :: l => .same f (Refine.refl l)

theorem Refine.append {e1 a1 e2 a2 : List SFrame} (h1 : Refine e1 a1) (h2 : Refine e2 a2) :
    Refine (e1 ++ e2) (a1 ++ a2) := by
  induction h1 with
  | nil => exact h2
  | same f _ ih => exact .same f ih
  | split l r eos _ ih => exact .split l r eos ih

theorem Refine.snoc {e a : List SFrame} (h : Refine e a) (f : SFrame) : Refine (e ++ [f]) (a ++ [f]) :=
  h.append (.refl [f])

theorem Refine.nil_right {e : List SFrame} (h : Refine e []) : e = [] := by
  cases h; rfl

theorem Refine.nil_left {a : List SFrame} (h : Refine [] a) : a = [] := by
  cases h; rfl

theorem Refine.cut {L A : List SFrame} (h : Refine L A) :
    ∀ (E X : List SFrame) (l r : Nat) (eos : Bool), L = E ++ .data (l + r) eos :: X →
      Refine (E ++ .data l false :: .data r eos :: X) A := by
  induction h with
  | nil => intro E X l r eos e; cases E <;> cases e
  | @same f es as h ih =>
    intro E X l r eos e
    cases E with
    | nil =>
      simp only [List.nil_append, List.cons.injEq] at e
      obtain ⟨rfl, rfl⟩ := e
      exact .split l r eos (.same _ h)
    | cons x E =>
      simp only [List.cons_append, List.cons.injEq] at e
      obtain ⟨rfl, rfl⟩ := e
      exact .same _ (ih E X l r eos rfl)
  | @split l' r' eos' es as h ih =>
    intro E X l r eos e
    cases E with
    | nil =>
      simp only [List.nil_append, List.cons.injEq, SFrame.data.injEq] at e
      obtain ⟨⟨hl, rfl⟩, rfl⟩ := e
      have : Refine (.data l false :: .data r false :: es) (.data (l + (r + r')) eos' :: as) :=
        .split l (r + r') eos' (.split r r' eos' h)
      have e2 : l' + r' = l + (r + r') := by omega
      rw [e2]; exact this
    | cons x E =>
      simp only [List.cons_append, List.cons.injEq] at e
      obtain ⟨rfl, rfl⟩ := e
      exact .split l' r' eos' (ih E X l r eos rfl)

/-- the form in which `pop_frame` uses it: the head of the queued part is a DATA frame of `sz` octets, `len ≤ sz`
    octets go out now; when something is left, the remainder keeps the END_STREAM flag and goes back to
    the front -/
theorem Refine.pop_data {E X A : List SFrame} {sz len : Nat} {eos : Bool}
    (h : Refine (E ++ .data sz eos :: X) A) (hl : len ≤ sz) :
    Refine (E ++ .data len (if sz > len then false else eos) ::
      ((if sz - len > 0 then [.data (sz - len) eos] else []) ++ X)) A := by
  by_cases hlt : sz > len
  · have e : sz = len + (sz - len) := by omega
    have := h.cut E X len (sz - len) eos (by rw [← e])
    simp only [hlt, if_true, show sz - len > 0 by omega]
    exact this
  · have e : len = sz := by omega
    subst e
    simp only [Nat.lt_irrefl, if_false, Nat.sub_self, List.nil_append]
    exact h

/-- what a frame sequence amounts to for the receiving application: header blocks, DATA octets
    (one token per octet; the model does not track their values), END_STREAM marks, resets -/
inductive Tok where
  | head (eos : Bool) (fields : List Hpack.Field)
  | promise (promisedId : Nat) (fields : List Hpack.Field)
  | octet
  | endStream
  | rst (reason : Reason)
  deriving DecidableEq

def tok : SFrame → List Tok
  | .headers eos f => .head eos f :: (if eos then [.endStream] else [])
  | .data len eos => List.replicate len .octet ++ (if eos then [.endStream] else [])
  | .reset r => [.rst r]
  | .pushPromise _ pid f => [.promise pid f]

def toks (l : List SFrame) : List Tok := l.flatMap tok

@[simp] theorem toks_nil : toks [] = [] := rfl
@[simp] theorem toks_cons (f : SFrame) (l : List SFrame) : toks (f :: l) = tok f ++ toks l := rfl
@[simp] theorem toks_append (a b : List SFrame) : toks (a ++ b) = toks a ++ toks b := List.flatMap_append ..

/-- **a refinement carries the same message**: same header blocks in the same places, the same
    number of DATA octets between them, END_STREAM at the same octet position -/
theorem Refine.toks_eq {e a : List SFrame} (h : Refine e a) : toks e = toks a := by
  induction h with
  | nil => rfl
  | same f _ ih => simp only [toks_cons, ih]
  | split l r eos _ ih =>
    simp only [toks_cons, ih, tok, ← List.replicate_append_replicate, List.append_assoc, if_false, Bool.false_eq_true,
      List.nil_append]

def dataLen : List SFrame → Nat
  | [] => 0
  | .data n _ :: l => n + dataLen l
  | _ :: l => dataLen l

theorem Refine.dataLen_eq {e a : List SFrame} (h : Refine e a) : dataLen e = dataLen a := by
  induction h with
  | nil => rfl
  | same f _ ih => cases f <;> simp only [dataLen, ih]
  | split l r eos _ ih => simp only [dataLen] at ih ⊢; omega

def nonData (l : List SFrame) : List SFrame := l.filter (fun f => !f.isData)

theorem Refine.nonData_eq {e a : List SFrame} (h : Refine e a) : nonData e = nonData a := by
  induction h with
  | nil => rfl
  | same f _ ih => cases f <;> simp_all [nonData, SFrame.isData]
  | split l r eos _ ih => simp_all [nonData, SFrame.isData]

def eosCount : List SFrame → Nat
  | [] => 0
  | .data _ true :: l => 1 + eosCount l
  | .headers true _ :: l => 1 + eosCount l
  | _ :: l => eosCount l

theorem Refine.eosCount_eq {e a : List SFrame} (h : Refine e a) : eosCount e = eosCount a := by
  induction h with
  | nil => rfl
  | same f _ ih =>
    cases f with
    | data n eos => cases eos <;> simp only [eosCount, ih]
    | headers eos f => cases eos <;> simp only [eosCount, ih]
    | _ => simp only [eosCount, ih]
  | split l r eos _ ih => cases eos <;> simp_all [eosCount]

/-- `es` is what has left so far of a refinement of `as`: a refinement of an octet-wise prefix -/
def EmitsPrefix (es as : List SFrame) : Prop := ∃ T, Refine (es ++ T) as

theorem EmitsPrefix.toks_prefix {es as : List SFrame} (h : EmitsPrefix es as) : toks es <+: toks as := by
  obtain ⟨T, h⟩ := h
  rw [← h.toks_eq, toks_append]; exact List.prefix_append _ _

end H2V.Lemmas.ConnFidP

