import H2V.Lemmas.ConnNoPanicPHeaders
import H2V.Lemmas.ConnSendRequestRule
/-
  C08 (no panic): the handle calls keep `NPI`.
-/
namespace H2V.Lemmas.ConnNoPanicP
open H2V H2V.Model H2V.Model.Conn H2V.Lemmas.ConnCountsP
attribute [local irreducible] wrapSubU32 wrapSubUsize


theorem NPI.parts {E : Nat → Prop} {ρ : Bool} {s s' : Streams} (h : NPI E s) (hk : SameKeys s s')
    (hids : s'.store.ids = s.store.ids) (hsid : SPr (·.id) s s') (hq : NPQ s') (e : EvB ρ s s')
    (hE : ρ = true → ∀ k, ¬ E k) : NPI E s' :=
  h.ev e hE hq.np hq.av (h.ids.of_frame hk hids hsid)

theorem npq_modStream_flagfree {s : Streams} (hq : NPQ s) {k : Nat} (hk : Live s k) (f : Stream → Stream)
    (h1 : ∀ x, (f x).key = x.key) (h2 : ∀ x, (f x).isQueued .pendingCapacity = x.isQueued .pendingCapacity)
    (h3 : ∀ x, (f x).sendFlow = x.sendFlow) : NPQ (s.modStream k f) :=
  ⟨by rw [modStream_panicked_live hk]; exact hq.np, (SameKeys.modStream _ _ _).keysOK hq.keys,
   (QF.modStream _ s k f h1 h2).qok hq.qc, avOK_modStream_flow _ _ h3 hq.av⟩

theorem refInc_npi {E : Nat → Prop} {s : Streams} (h : NPI E s) {k : Nat} (hk : Live s k) : NPI E (s.refInc k) := by
  unfold Streams.refInc
  exact h.parts (SameKeys.modStream _ _ _) (Streams.modStream_ids _ _ _) (SPr.modStream _ _ _ (fun _ => rfl) (fun _ => rfl))
    (npq_modStream_flagfree h.npq hk _ (fun _ => rfl) (fun _ => rfl) (fun _ => rfl)) (refInc_ev (ρ := false) s k) noE

theorem cloneStreamRef_npi {E : Nat → Prop} {s : Streams} (h : NPI E s) {k : Nat} (hk : Live s k) : NPI E (s.cloneStreamRef k) := by
  have h1 := refInc_npi h hk
  unfold Streams.cloneStreamRef
  exact h1.lt (setMisc_lt (ks := []) _ _ _ _ _ _ rfl).w (liveAll0 _) (setMisc_ev (ρ := false) _ _ _ _ _ _ ⟨rfl, rfl, rfl, rfl, rfl⟩) noE


export H2V.Model.Conn.Streams (sendOpenId_store)

theorem sendOpenId_ok {s s1 : Streams} {id : Nat} (h : s.sendOpenId = (s1, .ok id)) : s.actions.send.nextStreamId = some id := by
  unfold Streams.sendOpenId at h
  split at h
  · cases h
  · next id' hn => simp only [Prod.mk.injEq, Except.ok.injEq] at h; rw [hn, h.2]

theorem refInc_get {s : Streams} {k : Nat} {x : Stream} (hx : s.store.get? k = some x) :
    (s.refInc k).store.get? k = some { x with refCount := x.refCount + 1 } := by
  unfold Streams.refInc Streams.modStream
  rw [hx]
  show (s.setStream _).store.get? k = _
  rw [setStream_get?, hx]
  simp only [Option.map_some, get?_key hx, beq_self_eq_true, if_true]

/-- the error path `unlink(id); remove(key)` of an entry that carries that id -/
theorem unlink_remove_parts {E : Nat → Prop} {s3 : Streams} (h3 : NPI E s3) {k id : Nat} (hid3 : (s3.stream k).id = id) :
    AvOK ({ s3 with store := (s3.store.unlink id).remove k } : Streams) ∧
    IdsOK ({ s3 with store := (s3.store.unlink id).remove k } : Streams) := by
  have hne : ∀ x ∈ Store.swapRemove s3.store.ids id, x.2 ≠ k := by
    intro x hx hxk
    have hx' := Store.mem_swapRemove hx
    have := (h3.ids.live x hx').2
    rw [hxk, hid3] at this
    exact Store.swapRemove_not_mem h3.ids.nodup id x hx this.symm
  refine ⟨?_, ⟨Store.swapRemove_nodup h3.ids.nodup _, ?_⟩⟩
  · intro x hx
    exact h3.av x (List.mem_filter.mp hx).1
  · intro x hx
    have hx' := Store.mem_swapRemove hx
    have hl := h3.ids.live x hx'
    have hn := hne x hx
    refine ⟨?_, ?_⟩
    · obtain ⟨y, hy⟩ := hl.1
      exact ⟨y, by show ((s3.store.unlink id).remove k).get? x.2 = some y; rw [remove_get?_ne _ _ _ hn]; exact hy⟩
    · have : ({ s3 with store := (s3.store.unlink id).remove k } : Streams).stream x.2 = s3.stream x.2 := by
        unfold Streams.stream
        show (((s3.store.unlink id).remove k).get? x.2).getD _ = _
        rw [remove_get?_ne _ _ _ hn]; rfl
      rw [this]; exact hl.2

theorem request_id (isHead : Bool) (id a b : Nat) : (requestStream isHead id a b).id = id := by
  unfold requestStream; split <;> rfl
theorem request_av (isHead : Bool) (id a b : Nat) : (requestStream isHead id a b).sendFlow.available.val ≤ 2147483647 := by
  unfold requestStream; split <;> exact new_av id a b

theorem sendRequestCore_npi {s : Streams} (h : NPI (fun _ => False) s) (isHead : Bool) (fields : List Hpack.Field) (eos : Bool)
    (hfree : ∀ id, s.actions.send.nextStreamId = some id → s.store.contains id = false)
    (ew : Ev s (sendRequestCore isHead fields eos s).1) :
    NPI (fun _ => False) (sendRequestCore isHead fields eos s).1 ∧
    ∀ k f, (sendRequestCore isHead fields eos s).2 = .ok (k, f) →
      k = s.store.nextKey ∧ ∃ x', (sendRequestCore isHead fields eos s).1.store.get? k = some x' ∧ 1 ≤ x'.refCount := by
  unfold sendRequestCore at ew ⊢
  generalize hso : s.sendOpenId = p at ew ⊢
  obtain ⟨s1, r⟩ := p
  have hst1 : s1.store = s.store := by have := sendOpenId_store s; rw [hso] at this; exact this
  have h1 : NPI (fun _ => False) s1 :=
    h.lt (of_fst_eq hso (sendOpenId_lt s)).w (liveAll0 s) (of_fst_eq hso (sendOpenId_ev (ρ := true) s)) (fun _ _ h => h)
  cases r with
  | error e => exact ⟨h1, fun _ _ hc => by cases hc⟩
  | ok id =>
    simp only [] at ew ⊢
    have hnc : s1.store.contains id = false := by rw [hst1]; exact hfree id (sendOpenId_ok hso)
    simp only [hnc, Bool.false_eq_true, if_false] at ew ⊢
    generalize hst : requestStream isHead id s1.actions.send.initWindowSz s1.recv.initWindowSz = st at ew ⊢
    obtain ⟨h2, hl2⟩ := h1.insert st (hst ▸ fresh_request _ _ _ _) (hst ▸ request_av _ _ _ _)
    generalize hsh : Streams.sendHeaders _ s1.store.nextKey eos fields = q at ew ⊢
    obtain ⟨s3, r3⟩ := q
    have h3 : NPI (fun j => j = s1.store.nextKey) s3 :=
      h2.lt (of_fst_eq hsh (sendHeaders_lt _ _ _ _)).w (liveAll1 hl2) (of_fst_eq hsh (sendHeaders_ev (ρ := false) _ _ _ _)) noE
    have hlt3 := of_fst_eq hsh (sendHeaders_lt _ s1.store.nextKey eos fields)
    have hl3 : Live s3 s1.store.nextKey := hlt3.keys.live.mpr hl2
    cases r3 with
    | error e =>
      simp only [] at ew ⊢
      have hid3 : (s3.stream s1.store.nextKey).id = id := by
        have hs := hlt3.sid s1.store.nextKey
        simp only [] at hs
        rw [hs]
        have : ({ s1 with store := (s1.store.insert st).1 } : Streams).stream s1.store.nextKey = { st with key := s1.store.nextKey } :=
          stream_of_get? (insert_get?_new h1.keys.fresh st)
        rw [this]
        show st.id = id
        rw [← hst]; exact request_id _ _ _ _
      obtain ⟨hav', hids'⟩ := unlink_remove_parts h3 hid3
      exact ⟨h.ev ew (fun _ _ h => h) h3.np hav' hids', fun _ _ hc => by cases hc⟩
    | ok u =>
      simp only [] at ew ⊢
      have h4 := h3.lt (setMisc_lt (ks := []) s3 s3.actions (s3.refs + 1) s3.recvBufferLeaked s3.wakes s3.unsupported rfl).w (liveAll0 _)
        (setMisc_ev (ρ := false) _ _ _ _ _ _ ⟨rfl, rfl, rfl, rfl, rfl⟩) noE
      have hX := refInc_npi h4 (k := s1.store.nextKey) hl3
      refine ⟨h.ev ew (fun _ _ h => h) hX.np hX.av hX.ids, fun k f hc => ?_⟩
      simp only [Except.ok.injEq, Prod.mk.injEq] at hc
      obtain ⟨y, hy⟩ := hl3
      rw [← hc.1]
      exact ⟨by rw [hst1], _, refInc_get (s := { s3 with refs := s3.refs + 1 }) hy, Nat.le_add_left _ _⟩

/-- `Streams::send_request` keeps the invariant, given that the next stream id is not yet in the id map
    (the `assert!(self.ids.insert(id, index).is_none())` of `Store::insert`) -/
theorem sendRequest_npi {s : Streams} (h : NPI (fun _ => False) s) (isHead : Bool) (fields : List Hpack.Field) (eos : Bool)
    (pending : Option Nat)
    (hfree : ∀ id, s.actions.send.nextStreamId = some id → s.store.contains id = false) :
    NPI (fun _ => False) (s.sendRequest isHead fields eos pending).1 := by
  have ew := sendRequest_ev s h.keys.fresh isHead fields eos pending
  rcases sendRequest_cases s isHead fields eos pending with e | e
  · rw [e]; exact h
  · rw [e] at ew ⊢; exact (sendRequestCore_npi h isHead fields eos hfree ew).1

/-- a successful `send_request` hands out the fresh key `next_key`, with one reference -/
theorem sendRequest_ok {s : Streams} (h : NPI (fun _ => False) s) {isHead : Bool} {fields : List Hpack.Field} {eos : Bool}
    {pending : Option Nat} (hfree : ∀ id, s.actions.send.nextStreamId = some id → s.store.contains id = false)
    {k : Nat} {f : Bool} (hr : (s.sendRequest isHead fields eos pending).2 = .ok (k, f)) :
    k = s.store.nextKey ∧ ∃ x', (s.sendRequest isHead fields eos pending).1.store.get? k = some x' ∧ 1 ≤ x'.refCount := by
  have ew := sendRequest_ev s h.keys.fresh isHead fields eos pending
  rcases sendRequest_cases' s isHead fields eos pending with ⟨e, he⟩ | ⟨_, he⟩
  · rw [he] at hr; cases hr
  · rw [he] at ew hr ⊢; exact (sendRequestCore_npi h isHead fields eos hfree ew).2 k f hr

/-- the state `drop_stream_ref` hands to its `transition`: handle count decremented, task notified -/
def dropPre (s : Streams) (k : Nat) : Streams :=
  let s := { s with refs := s.refs - 1 }
  let s := if (s.stream k).refCount > 0 then s else s.panic "assertion failed: self.ref_count > 0"
  let s := s.modStream k fun st => { st with refCount := st.refCount - 1 }
  let st := s.stream k
  if (st.refCount == 0 && st.isClosed) || s.refs == 1 then s.notifyTask else s

/-- the loop over the promised streams in `drop_stream_ref` -/
def dropFold (ppp : List Nat) (s : Streams) : Streams :=
  ppp.foldl (fun s promise =>
        let s := s.modStream promise fun st => { st with isPendingAccept := false }
        (s.transition promise fun s =>
          let s := s.maybeCancel promise
          (if (s.stream promise).refCount == 0 then s.releaseClosedCapacity promise else s, ())).1) s

/-- the closure of `drop_stream_ref` -/
def dropClosure (k : Nat) (s : Streams) : Streams × Unit :=
    let s := s.maybeCancel k
    if (s.stream k).refCount == 0 then
      let s := s.releaseClosedCapacity k
      let ppp := (s.stream k).pendingPushPromises
      let s := s.modStream k fun st => { st with pendingPushPromises := [] }
      (dropFold ppp s, ())
    else (s, ())

theorem dropClosure_nil (t : Streams) (k : Nat)
    (hppp : (((t.maybeCancel k).releaseClosedCapacity k).stream k).pendingPushPromises = []) :
    (dropClosure k t).1 = if ((t.maybeCancel k).stream k).refCount == 0 then
      (((t.maybeCancel k).releaseClosedCapacity k).modStream k fun st => { st with pendingPushPromises := [] })
      else t.maybeCancel k := by
  unfold dropClosure
  dsimp only
  split
  · rw [hppp, dropFold, List.foldl_nil]
  · rfl

theorem dropStreamRef_eq (s : Streams) (k : Nat) : s.dropStreamRef k = ((dropPre s k).transition k (dropClosure k)).1 := rfl

/-- the promised streams `drop_stream_ref` would visit -/
def dropPPP (s : Streams) (k : Nat) : List Nat :=
  ((((dropPre s k).maybeCancel k).releaseClosedCapacity k).stream k).pendingPushPromises

theorem dropPre_npi {E : Nat → Prop} {s : Streams} (h : NPI E s) {k : Nat} (hk : Live s k) (hr : (s.stream k).refCount > 0) :
    NPI E (dropPre s k) ∧ Live (dropPre s k) k ∧ ErrSame s (dropPre s k) := by
  unfold dropPre
  dsimp only
  have hs0 : ({ s with refs := s.refs - 1 } : Streams).stream k = s.stream k := rfl
  rw [hs0]
  simp only [hr, if_true]
  have h0 : NPI E { s with refs := s.refs - 1 } :=
    h.lt (setMisc_lt (ks := []) s s.actions (s.refs - 1) s.recvBufferLeaked s.wakes s.unsupported rfl).w (liveAll0 _)
      (setMisc_ev (ρ := false) _ _ _ _ _ _ ⟨rfl, rfl, rfl, rfl, rfl⟩) noE
  have hk0 : Live ({ s with refs := s.refs - 1 } : Streams) k := hk
  have h1 : NPI E (({ s with refs := s.refs - 1 } : Streams).modStream k fun st => { st with refCount := st.refCount - 1 }) :=
    h0.parts (SameKeys.modStream _ _ _) (Streams.modStream_ids _ _ _) (SPr.modStream _ _ _ (fun _ => rfl) (fun _ => rfl))
      (npq_modStream_flagfree h0.npq hk0 _ (fun _ => rfl) (fun _ => rfl) (fun _ => rfl))
      (modStream_ev (ρ := false) _ k _ (fun st _ => by same_fields)) noE
  have hk1 := (SameKeys.modStream ({ s with refs := s.refs - 1 } : Streams) k fun st => { st with refCount := st.refCount - 1 }).live.mpr hk0
  have he1 : ErrSame s (({ s with refs := s.refs - 1 } : Streams).modStream k fun st => { st with refCount := st.refCount - 1 }) := by
    unfold ErrSame; rw [Streams.modStream_counts]; exact ⟨rfl, rfl⟩
  split
  · exact ⟨h1.lt (notifyTask_lt (ks := []) _).w (liveAll0 _) (notifyTask_ev (ρ := false) _) noE,
      (notifyTask_lt (ks := []) _).keys.live.mpr hk1, he1.trans (notifyTask_lt (ks := []) _).err⟩
  · exact ⟨h1, hk1, he1⟩

/-- **`drop_stream_ref` keeps the invariant** when the handle exists (`ref_count > 0`) and the stream has no
    promised streams left to cancel (always on a server; on a client unless PUSH_PROMISEs were received on
    this stream and never polled) -/
theorem dropStreamRef_npi {s : Streams} (h : NPI (fun _ => False) s) {k : Nat} (hk : Live s k)
    (hr : (s.stream k).refCount > 0) (hppp : dropPPP s k = []) (he : ErrOK s) : NPI (fun _ => False) (s.dropStreamRef k) := by
  rw [dropStreamRef_eq]
  obtain ⟨h1, hk1, he1⟩ := dropPre_npi h hk hr
  unfold dropPPP at hppp
  generalize dropPre s k = t at h1 hk1 he1 hppp ⊢
  have hle : LE [k] t (dropClosure k t).1 ∧ ErrSame t (dropClosure k t).1 := by
    rw [dropClosure_nil t k hppp]
    have hm := maybeCancel_lt t k
    split
    · have h2 : LT [k] t (((t.maybeCancel k).releaseClosedCapacity k).modStream k
          fun st => { st with pendingPushPromises := [] }) := by lt_auto
      refine ⟨LE.of h2 ?_, h2.err⟩
      exact .trans (.trans (maybeCancel_ev _ _) (releaseClosedCapacity_ev _ _)) (modStream_ev _ _ _ (fun st _ => by same_fields))
    · exact ⟨LE.of hm (maybeCancel_ev _ _), hm.err⟩
  exact transition_npi k _ (h1.lt hle.1.lt (liveAll1 hk1) (ρ := true) hle.1.ev (fun _ _ h => h)) (ρ := true) hle.1.ev (hle.2.errOK (he1.errOK he))

end H2V.Lemmas.ConnNoPanicP
