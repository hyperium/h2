import H2V.Lemmas.ConnCtlPGoAwayPoll
import H2V.Lemmas.ConnCtlPHist
import H2V.Lemmas.ConnCtlPViolConn
/-
  ConnCtlP — C15 over `proto::Connection::poll`, `client::Connection::poll` and whole
  histories: the GOAWAY invariant holds in every reachable state (so none of the GOAWAY `assert!`s can
  fire), the last-stream-ids of the GOAWAY frames sent never increase, `conn_error` once set stays set.
-/
set_option autoImplicit false
set_option linter.unusedSimpArgs false
namespace H2V.Lemmas.ConnCtlP
open H2V H2V.Model H2V.Model.Conn

/-- around `poll2`, `Connection::poll` touches `goAway` only in `handle_poll2_result` and `go_away_now` -/
theorem sentRule : PollRule GoAwayInv GoAwayInv SentOK (fun _ _ _ => False)
    (fun c => c.goAway.closeNow = false) (fun c => c.goAway.closeNow = false) (fun c _ => c.goAway.closeNow = false)
    (fun _ => False) where
  toPoll2Rule := sentRule2
  leave _ hi := hi
  fuel _ _ hi := Keep15.ok hi rfl (by simp [Conn.panic])
  enter _ hi _ := Keep15.ok hi rfl (view_clearExpiredResetStreams ..)
  result c res hi := Or.inl ((handlePoll2Result_step15 c res hi).ok rfl)
  failed _ _ _ _ _ h := h.elim
  dead _ _ _ _ h := h.elim
  complete _ _ hi := Keep15.ok hi rfl (view_pollComplete ..)
  now c hi := (goAwayNowData_step15 c _ [] hi).ok rfl
  shut _ _ _ hi _ := ⟨Keep15.ok hi rfl rfl, Keep15.ok hi rfl rfl⟩
  closed c r i hi _ := by rw [takeError_fst]; exact Keep15.ok hi rfl rfl
  wake _ hi := Keep15.ok hi rfl (by simp)
  wakeF _ _ _ h := h.elim

/-- the histories of one connection for C15: polls, the two shutdown calls, and calls that leave
    `goAway`, `last_processed_id` and `max_stream_id` alone (`Keep15`: every handle call and transport
    event; `send_settings`; the ping handle) -/
inductive Hist15 (c0 : Conn) : List Ev → Conn → Prop
  | init : Hist15 c0 [] c0
  | serverPoll {evs : List Ev} {c : Conn} (cx : String) (fuel : Nat) : Hist15 c0 evs c →
      Hist15 c0 (evs ++ (protoPollT fuel { c with cx := cx }).2) (protoPollT fuel { c with cx := cx }).1.1
  | clientPoll {evs : List Ev} {c : Conn} (cx : String) (fuel : Nat) : Hist15 c0 evs c →
      Hist15 c0 (evs ++ (clientPollT fuel { c with cx := cx }).2) (clientPollT fuel { c with cx := cx }).1.1
  | graceful {evs : List Ev} {c : Conn} : Hist15 c0 evs c → Hist15 c0 evs c.goAwayGracefully
  | abrupt {evs : List Ev} {c : Conn} (e : Reason) : Hist15 c0 evs c → Hist15 c0 evs (c.goAwayFromUser e)
  | call {evs : List Ev} {c : Conn} (c' : Conn) : Hist15 c0 evs c → Keep15 c c' → Hist15 c0 evs c'

theorem goAwayGracefully_step15 (c : Conn) (hi : GoAwayInv c) : Step15 c c.goAwayGracefully := by
  unfold Conn.goAwayGracefully
  split
  · exact (Keep15.refl c).step hi
  · rename_i hng
    have hn : c.goAway.goingAway = none := by
      cases h : c.goAway.goingAway with
      | none => rfl
      | some ga => simp [GoAway.isGoingAway, h] at hng
    have hmax := hi.none_max hn
    refine (dynGoAway_step15 c STREAM_ID_MAX NO_ERROR (by rw [← hmax]; exact hi.lpi_le_max) (by rw [hmax]; exact Nat.le_refl _)
      fun m hm => by unfold gaLast at hm; rw [hn] at hm; cases hm).trans fun h1 => ?_
    dsimp only
    split
    · exact Keep15.step (c := c.dynGoAway STREAM_ID_MAX NO_ERROR) ⟨rfl, by simp [Conn.panic], by simp [Conn.panic], by simp [Conn.panic]⟩ h1
    · exact Keep15.step (c := c.dynGoAway STREAM_ID_MAX NO_ERROR) ⟨rfl, rfl, rfl, id⟩ h1

theorem goAwayFromUser_step15 (c : Conn) (e : Reason) (hi : GoAwayInv c) : Step15 c (c.goAwayFromUser e) := by
  have heq : c.goAwayFromUser e = { c with
      goAway := (({ c.goAway with isUserInitiated := true } : GoAway).goAwayNow { lastStreamId := c.streams.recv.lastProcessedId, reason := e, debugData := [] }).1,
      streams := (c.streams.handleError (PErr.userGoAway e)).1 } := by
    unfold Conn.goAwayFromUser GoAway.goAwayFromUser
    dsimp only
    rw [if_pos (goAwayNow_ok c e [] true hi)]
  rw [heq]
  exact .of_goAwayNow hi e [] true rfl (ids_of_step (Streams.handleError_step (by decide) ..))

/-- **over every history: the GOAWAY invariant holds and the GOAWAYs sent carry non-increasing
    last-stream-ids** -/
theorem hist15 {c0 c : Conn} {evs : List Ev} (h : Hist15 c0 evs c) (h0 : GoAwayInv c0) :
    GoAwayInv c ∧ SentOK c0 evs c := by
  induction h with
  | init => exact ⟨h0, SentOK.quiet rfl (GaLe.refl _)⟩
  | @serverPoll evs c cx fuel _ ih =>
    have k := Keep15.ok (c' := { c with cx := cx }) ih.1 rfl rfl
    have r := (protoPollT_rule sentRule fuel _ k.1).ok fun _ _ _ => id
    exact ⟨r.1, by simpa using ih.2.trans (k.2.trans r.2)⟩
  | @clientPoll evs c cx fuel _ ih =>
    have k := Keep15.ok (c' := { c with cx := cx }) ih.1 rfl rfl
    have r := (clientPollT_rule sentRule fuel _ k.1).ok fun _ _ _ => id
    exact ⟨r.1, by simpa using ih.2.trans (k.2.trans r.2)⟩
  | @graceful evs c _ ih =>
    have s := goAwayGracefully_step15 c ih.1
    exact ⟨s.1, by simpa using ih.2.trans (s.sent (evs := []) rfl)⟩
  | @abrupt evs c e _ ih =>
    have s := goAwayFromUser_step15 c e ih.1
    exact ⟨s.1, by simpa using ih.2.trans (s.sent (evs := []) rfl)⟩
  | @call evs c c' _ hk ih =>
    exact ⟨hk.inv ih.1, by simpa using ih.2.trans ((hk.step ih.1).sent (evs := []) rfl)⟩

theorem keep15_streams (c : Conn) (s : Streams) (k : Codec) (cx : String) (u : Option String) (p : PingPong) (l : Settings)
    (hv : view s = view c.streams) :
    Keep15 c { c with streams := s, codec := k, cx := cx, unsupported := u, pingPong := p, settings := l } :=
  Keep15.of_view rfl hv

end H2V.Lemmas.ConnCtlP
