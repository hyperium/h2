import H2V.Lemmas.ConnFidPFnStreams
/-
  ConnFidP — what an elementary step means for the two queues of ONE entry (`El.view`), and the
  ledgers that follow by induction over a path:

    * receive side (`Path.recv_ledger`): as long as entry `k` was neither cleared nor removed,
        (events taken off `pending_recv` of k) ++ (events still queued) = (queued at the start) ++ (events queued since)
      — every event is handed out exactly once, unmodified, in arrival order;
    * send side without the write path (`Path.send_ledger`): as long as entry `k` was not cut or removed,
        `pending_send` of k = (queued at the start) ++ (frames queued since), in order.
-/
namespace H2V.Lemmas.ConnFidP
open H2V H2V.Model H2V.Model.Conn H2V.Lemmas.ConnWakeP

/-- `pending_send` of the entry with key `k` (empty when there is no such entry) -/
def sq (s : Streams) (k : Nat) : List SFrame := (s.stream k).pendingSend
/-- `pending_recv` of the entry with key `k` (empty when there is no such entry) -/
def rq (s : Streams) (k : Nat) : List REvent := (s.stream k).pendingRecv

theorem sq_of_get? {s : Streams} {k : Nat} {a : Stream} (h : s.store.get? k = some a) : sq s k = a.pendingSend := by
  unfold sq; rw [Streams.stream_of_get? h]
theorem rq_of_get? {s : Streams} {k : Nat} {a : Stream} (h : s.store.get? k = some a) : rq s k = a.pendingRecv := by
  unfold rq; rw [Streams.stream_of_get? h]
theorem sq_of_none {s : Streams} {k : Nat} (h : s.store.get? k = none) : sq s k = [] := by
  unfold sq Streams.stream; rw [h]; rfl
theorem rq_of_none {s : Streams} {k : Nat} (h : s.store.get? k = none) : rq s k = [] := by
  unfold rq Streams.stream; rw [h]; rfl

theorem El.view {l : Option Lbl} {s s' : Streams} (h : El l s s') (k : Nat) :
    (l = some (.gone k) ∧ s'.store.get? k = none) ∨
    (sq s' k = sendEff l k (sq s k) ∧ rq s' k = recvEff l k (rq s k)) := by
  cases ha : s.store.get? k with
  | some a =>
    rcases h.keep k a ha with ⟨b, hb, es⟩ | ⟨hn, hl⟩
    · refine Or.inr ?_
      have hk := Conn.Store.get?_key ha
      rw [sq_of_get? hb, rq_of_get? hb, sq_of_get? ha, rq_of_get? ha, es.send, es.recv, hk]
      exact ⟨rfl, rfl⟩
    · exact Or.inl ⟨hl, hn⟩
  | none =>
    refine Or.inr ?_
    rw [sq_of_none ha, rq_of_none ha]
    have hpres : ∀ l', l = some l' → l'.key? = some k → l'.isCut = false → False := by
      intro l' e hk hc
      have := h.pres l' k e hk hc
      rw [ha] at this; cases this
    have hs : sendEff l k [] = [] := by
      cases l with
      | none => rfl
      | some l' =>
        cases l' <;> simp only [sendEff] <;> (try rfl) <;> split <;> (try rfl)
        · next e => subst e; exact absurd (hpres _ rfl rfl rfl) id
        · simp
        · next e => subst e; exact absurd (hpres _ rfl rfl rfl) id
    have hr : recvEff l k [] = [] := by
      cases l with
      | none => rfl
      | some l' =>
        cases l' <;> simp only [recvEff] <;> (try rfl) <;> split <;> (try rfl)
        · next e => subst e; exact absurd (hpres _ rfl rfl rfl) id
    rw [hs, hr]
    cases hb : s'.store.get? k with
    | none => rw [sq_of_none hb, rq_of_none hb]; exact ⟨rfl, rfl⟩
    | some b =>
      obtain ⟨_, _, h1, h2⟩ := h.new k b ha hb
      rw [sq_of_get? hb, rq_of_get? hb, h1, h2]; exact ⟨rfl, rfl⟩

theorem El.view_gone {l : Option Lbl} {s s' : Streams} (_h : El l s s') {k : Nat} (hn : s'.store.get? k = none) :
    sq s' k = [] ∧ rq s' k = [] := ⟨sq_of_none hn, rq_of_none hn⟩

theorem El.view_rpop {s s' : Streams} {k : Nat} {e : REvent} (h : El (some (.rpop k e)) s s') :
    rq s k = e :: rq s' k := by
  have hp := h.pres _ k rfl rfl rfl
  obtain ⟨a, ha⟩ := Option.isSome_iff_exists.mp hp
  rcases h.keep k a ha with ⟨b, hb, es⟩ | ⟨_, hl⟩
  · have hk := Conn.Store.get?_key ha
    have hs := es.side
    simp only [sideOk] at hs
    have hh := hs hk.symm
    rw [rq_of_get? ha, rq_of_get? hb, es.recv]
    simp only [recvEff, hk, if_true]
    cases hq : a.pendingRecv with
    | nil => rw [hq] at hh; cases hh
    | cons x r => rw [hq] at hh; simp only [List.head?_cons, Option.some.injEq] at hh; subst hh; rfl
  · cases hl

theorem El.view_pop {s s' : Streams} {k : Nat} {f : SFrame} (h : El (some (.pop k f)) s s') :
    sq s k = f :: sq s' k := by
  have hp := h.pres _ k rfl rfl rfl
  obtain ⟨a, ha⟩ := Option.isSome_iff_exists.mp hp
  rcases h.keep k a ha with ⟨b, hb, es⟩ | ⟨_, hl⟩
  · have hk := Conn.Store.get?_key ha
    have hs := es.side
    simp only [sideOk] at hs
    have hh := hs hk.symm
    rw [sq_of_get? ha, sq_of_get? hb, es.send]
    simp only [sendEff, hk, if_true]
    cases hq : a.pendingSend with
    | nil => rw [hq] at hh; cases hh
    | cons x r => rw [hq] at hh; simp only [List.head?_cons, Option.some.injEq] at hh; subst hh; rfl
  · cases hl

def rcvd1 (k : Nat) : Lbl → Option REvent
  | .rpush j e => if j = k then some e else none
  | _ => none
def dlvd1 (k : Nat) : Lbl → Option REvent
  | .rpop j e => if j = k then some e else none
  | _ => none
def pushed1 (k : Nat) : Lbl → Option SFrame
  | .push j f => if j = k then some f else none
  | _ => none
def rlost1 (k : Nat) : Lbl → Bool
  | .rclear j => j = k
  | .gone j => j = k
  | _ => false
def wasCut1 (k : Nat) : Lbl → Bool
  | .cut j _ => j = k
  | .gone j => j = k
  | _ => false

/-- events queued on entry `k` -/
def rcvd (k : Nat) (tr : List Lbl) : List REvent := tr.filterMap (rcvd1 k)
/-- events taken off `pending_recv` of entry `k` (handed to the application) -/
def dlvd (k : Nat) (tr : List Lbl) : List REvent := tr.filterMap (dlvd1 k)
/-- `pending_recv` of entry `k` was cleared, or the entry removed -/
def rlost (k : Nat) (tr : List Lbl) : Bool := tr.any (rlost1 k)
/-- frames queued on entry `k` -/
def pushed (k : Nat) (tr : List Lbl) : List SFrame := tr.filterMap (pushed1 k)
/-- `pending_send` of entry `k` was cut, or the entry removed -/
def wasCut (k : Nat) (tr : List Lbl) : Bool := tr.any (wasCut1 k)

@[simp] theorem rcvd_nil (k : Nat) : rcvd k [] = [] := rfl
@[simp] theorem dlvd_nil (k : Nat) : dlvd k [] = [] := rfl
@[simp] theorem pushed_nil (k : Nat) : pushed k [] = [] := rfl
@[simp] theorem rlost_nil (k : Nat) : rlost k [] = false := rfl
@[simp] theorem wasCut_nil (k : Nat) : wasCut k [] = false := rfl
theorem rcvd_snoc (k : Nat) (a : List Lbl) (l : Lbl) : rcvd k (a ++ [l]) = rcvd k a ++ (rcvd1 k l).toList := by
  unfold rcvd; rw [List.filterMap_append]; cases h : rcvd1 k l <;> simp [h]
theorem dlvd_snoc (k : Nat) (a : List Lbl) (l : Lbl) : dlvd k (a ++ [l]) = dlvd k a ++ (dlvd1 k l).toList := by
  unfold dlvd; rw [List.filterMap_append]; cases h : dlvd1 k l <;> simp [h]
theorem pushed_snoc (k : Nat) (a : List Lbl) (l : Lbl) : pushed k (a ++ [l]) = pushed k a ++ (pushed1 k l).toList := by
  unfold pushed; rw [List.filterMap_append]; cases h : pushed1 k l <;> simp [h]
theorem rlost_snoc (k : Nat) (a : List Lbl) (l : Lbl) : rlost k (a ++ [l]) = (rlost k a || rlost1 k l) := by
  unfold rlost; simp
theorem wasCut_snoc (k : Nat) (a : List Lbl) (l : Lbl) : wasCut k (a ++ [l]) = (wasCut k a || wasCut1 k l) := by
  unfold wasCut; simp
@[simp] theorem rcvd_append (k : Nat) (a b : List Lbl) : rcvd k (a ++ b) = rcvd k a ++ rcvd k b := List.filterMap_append ..
@[simp] theorem dlvd_append (k : Nat) (a b : List Lbl) : dlvd k (a ++ b) = dlvd k a ++ dlvd k b := List.filterMap_append ..
@[simp] theorem pushed_append (k : Nat) (a b : List Lbl) : pushed k (a ++ b) = pushed k a ++ pushed k b := List.filterMap_append ..
@[simp] theorem rlost_append (k : Nat) (a b : List Lbl) : rlost k (a ++ b) = (rlost k a || rlost k b) := List.any_append ..
@[simp] theorem wasCut_append (k : Nat) (a b : List Lbl) : wasCut k (a ++ b) = (wasCut k a || wasCut k b) := List.any_append ..

theorem mem_pushed {k : Nat} {f : SFrame} {tr : List Lbl} (h : f ∈ pushed k tr) : .push k f ∈ tr := by
  obtain ⟨l, hl, e⟩ := List.mem_filterMap.mp h
  cases l <;> simp only [pushed1] at e <;> (try cases e)
  split at e <;> cases e
  next hi => subst hi; exact hl
theorem mem_rcvd {k : Nat} {e : REvent} {tr : List Lbl} (h : e ∈ rcvd k tr) : .rpush k e ∈ tr := by
  obtain ⟨l, hl, e'⟩ := List.mem_filterMap.mp h
  cases l <;> simp only [rcvd1] at e' <;> (try cases e')
  split at e' <;> cases e'
  next hi => subst hi; exact hl
theorem mem_dlvd {k : Nat} {e : REvent} {tr : List Lbl} (h : e ∈ dlvd k tr) : .rpop k e ∈ tr := by
  obtain ⟨l, hl, e'⟩ := List.mem_filterMap.mp h
  cases l <;> simp only [dlvd1] at e' <;> (try cases e')
  split at e' <;> cases e'
  next hi => subst hi; exact hl

/-- **receive ledger**: until `pending_recv` of `k` is cleared (`clear_recv_buffer`) or the entry removed,
    delivered ++ still queued = queued at the start ++ received since -/
theorem Path.recv_ledger {P : Perm} {s0 s : Streams} {tr : List Lbl} (h : Path P s0 s tr) (k : Nat)
    (hl : rlost k tr = false) : dlvd k tr ++ rq s k = rq s0 k ++ rcvd k tr := by
  induction h with
  | refl => simp
  | tau _ e ih =>
    rcases e.view k with ⟨hg, _⟩ | ⟨_, hr⟩
    · cases hg
    · rw [hr]; exact ih hl
  | lbl l _ e _ ih =>
    rw [rlost_snoc, Bool.or_eq_false_iff] at hl
    have ih := ih hl.1
    have hl2 := hl.2
    rw [dlvd_snoc, rcvd_snoc]
    rcases e.view k with ⟨hg, _⟩ | ⟨_, hr⟩
    · cases hg; simp [rlost1] at hl2
    · cases l with
      | rpush j ev =>
        by_cases hj : j = k
        · subst hj
          simp only [recvEff, if_true] at hr
          simp only [dlvd1, rcvd1, if_true, Option.toList, List.append_nil, hr]
          rw [← List.append_assoc, ih, List.append_assoc]
        · simp only [recvEff, hj, if_false] at hr
          simp only [dlvd1, rcvd1, hj, if_false, Option.toList, List.append_nil, hr]
          exact ih
      | rpop j ev =>
        by_cases hj : j = k
        · subst hj
          have hv := e.view_rpop
          simp only [dlvd1, rcvd1, if_true, Option.toList, List.append_nil]
          rw [hv] at ih
          rw [List.append_assoc]; exact ih
        · simp only [recvEff, hj, if_false] at hr
          simp only [dlvd1, rcvd1, hj, if_false, Option.toList, List.append_nil, hr]
          exact ih
      | rclear j =>
        have : j ≠ k := by intro e; subst e; simp [rlost1] at hl2
        simp only [recvEff, this, if_false] at hr
        simp only [dlvd1, rcvd1, Option.toList, List.append_nil, hr]
        exact ih
      | _ =>
        simp only [recvEff] at hr
        simp only [dlvd1, rcvd1, Option.toList, List.append_nil, hr]
        exact ih

/-- **send ledger (everything but the write path)**: on a path without `pop`/`unpop`, until `pending_send` of
    `k` is cut (reset, error) or the entry removed, the queue is what it was, followed by what was
    queued since, in order -/
theorem Path.send_ledger {P : Perm} {s0 s : Streams} {tr : List Lbl} (h : Path P s0 s tr) (hw : ¬P.write) (hp : ¬P.pop) (k : Nat)
    (hl : wasCut k tr = false) : sq s k = sq s0 k ++ pushed k tr := by
  induction h with
  | refl => simp
  | tau _ e ih =>
    rcases e.view k with ⟨hg, _⟩ | ⟨hs, _⟩
    · cases hg
    · rw [hs]; exact ih hl
  | lbl l _ e ok ih =>
    rw [wasCut_snoc, Bool.or_eq_false_iff] at hl
    have ih := ih hl.1
    have hl2 := hl.2
    rw [pushed_snoc]
    rcases e.view k with ⟨hg, _⟩ | ⟨hs, _⟩
    · cases hg; simp [wasCut1] at hl2
    · cases l with
      | push j f =>
        by_cases hj : j = k
        · subst hj
          simp only [sendEff, if_true] at hs
          simp only [pushed1, if_true, Option.toList, hs, ih, List.append_assoc]
        · simp only [sendEff, hj, if_false] at hs
          simp only [pushed1, hj, if_false, Option.toList, List.append_nil, hs, ih]
      | pop j f => exact absurd ok hp
      | unpop j f => exact absurd ok hw
      | cut j n =>
        have : j ≠ k := by intro e; subst e; simp [wasCut1] at hl2
        simp only [sendEff, this, if_false] at hs
        simp only [pushed1, Option.toList, List.append_nil, hs, ih]
      | _ =>
        simp only [sendEff] at hs
        simp only [pushed1, Option.toList, List.append_nil, hs, ih]

end H2V.Lemmas.ConnFidP
