import H2V.Model.ConnProto
import H2V.Lemmas.ConnBasics
import H2V.Lemmas.ConnStages
/-
  The model functions one step above the primitives: those of `recv.rs` that move the connection window or the stream-id
  counter (`RecvFrame`), `sendOpenId` by cases, `clearQueue` seen from the store, `keepOnlyHead` as one update of the entry.
-/
namespace H2V.Model.Conn
open H2V H2V.Model

namespace Streams

/-- a reading `P` of the state that `panic`, `modRecv` and `notifyTask` leave alone.  The functions of
    `recv.rs` that only move the connection receive window or the stream-id counter are built from
    these three, so they leave `P` alone too: one proof per function, whatever `P` is. -/
structure RecvFrame {α : Type} (P : Streams → α) : Prop where
  panic : ∀ s m, P (Streams.panic s m) = P s
  modRecv : ∀ s f, P (Streams.modRecv s f) = P s
  notifyTask : ∀ s, P (Streams.notifyTask s) = P s

theorem RecvFrame.store : RecvFrame Streams.store := ⟨panic_store, modRecv_store, notifyTask_store⟩
theorem RecvFrame.counts : RecvFrame Streams.counts := ⟨panic_counts, modRecv_counts, notifyTask_counts⟩

section
variable {α : Type} {P : Streams → α} (hP : RecvFrame P)
include hP

theorem RecvFrame.releaseConnectionCapacity (s : Streams) (c : Nat) (t : Bool) : P (s.releaseConnectionCapacity c t) = P s := by
  unfold Streams.releaseConnectionCapacity; dsimp only; split <;> simp only [hP.notifyTask, hP.modRecv]

theorem RecvFrame.consumeConnectionWindow (s : Streams) (sz : Nat) : P (s.consumeConnectionWindow sz).1 = P s := by
  unfold Streams.consumeConnectionWindow; split
  · rfl
  · split <;> simp only [hP.panic, hP.modRecv]

theorem RecvFrame.ignoreData (s : Streams) (sz : Nat) : P (s.ignoreData sz).1 = P s := by
  unfold Streams.ignoreData
  have := hP.consumeConnectionWindow s sz
  split <;> simp_all only [hP.releaseConnectionCapacity]

theorem RecvFrame.recvOpen (s : Streams) (id : Nat) (pp : Bool) : P (s.recvOpen id pp).1 = P s := by
  unfold Streams.recvOpen; dsimp only
  generalize hs0 : (if s.recv.refused.isSome = true then s.panic _ else s) = s0
  have h0 : P s0 = P s := by rw [← hs0]; split; exact hP.panic _ _; rfl
  repeat' split
  all_goals simp only [hP.modRecv, h0]

theorem RecvFrame.recvMaybeResetNextStreamId (s : Streams) (id : Nat) : P (s.recvMaybeResetNextStreamId id) = P s := by
  unfold Streams.recvMaybeResetNextStreamId; split
  · split
    · exact hP.modRecv _ _
    · rfl
  · rfl

end

theorem releaseConnectionCapacity_store (s : Streams) (c : Nat) (t : Bool) : (s.releaseConnectionCapacity c t).store = s.store :=
  RecvFrame.store.releaseConnectionCapacity s c t
theorem consumeConnectionWindow_store (s : Streams) (sz : Nat) : (s.consumeConnectionWindow sz).1.store = s.store :=
  RecvFrame.store.consumeConnectionWindow s sz
theorem ignoreData_store (s : Streams) (sz : Nat) : (s.ignoreData sz).1.store = s.store := RecvFrame.store.ignoreData s sz
theorem recvOpen_store (s : Streams) (id : Nat) (pp : Bool) : (s.recvOpen id pp).1.store = s.store :=
  RecvFrame.store.recvOpen s id pp

theorem sendOpenId_of_some {s : Streams} {id : Nat} (h : s.actions.send.nextStreamId = some id) :
    s.sendOpenId =
      (s.modSend fun sd => { sd with nextStreamId := if id + 2 > 2147483647 then none else some (id + 2) }, .ok id) := by
  unfold sendOpenId; rw [h]
theorem sendOpenId_of_none {s : Streams} (h : s.actions.send.nextStreamId = none) :
    s.sendOpenId = (s, .error .overflowedStreamId) := by
  unfold sendOpenId; rw [h]

@[conn_basics] theorem sendOpenId_store (s : Streams) : s.sendOpenId.1.store = s.store := by
  unfold sendOpenId; split <;> rfl

@[conn_basics] theorem sendMaybeResetNextStreamId_store (s : Streams) (id : Nat) :
    (s.sendMaybeResetNextStreamId id).store = s.store := by
  unfold sendMaybeResetNextStreamId; split
  · split <;> rfl
  · rfl
@[conn_basics] theorem sendMaybeResetNextStreamId_counts (s : Streams) (id : Nat) :
    (s.sendMaybeResetNextStreamId id).counts = s.counts := by
  unfold sendMaybeResetNextStreamId; split
  · split <;> rfl
  · rfl

/-- what `clear_queue` does to the stream -/
def clearQueueF (st : Stream) : Stream := { st with pendingSend := [], bufferedSendData := 0, requestedSendCapacity := 0 }

@[conn_basics] theorem clearQueue_store (s : Streams) (k : Nat) : (s.clearQueue k).store = s.store.mod k clearQueueF := by
  unfold clearQueue; dsimp only
  split
  · split <;> simp only [conn_basics] <;> rfl
  · simp only [conn_basics]; rfl
@[conn_basics] theorem clearQueue_counts (s : Streams) (k : Nat) : (s.clearQueue k).counts = s.counts := by
  unfold clearQueue; dsimp only
  split
  · split <;> simp only [conn_basics]
  · simp only [conn_basics]
theorem clearQueue_get? (s : Streams) (k j : Nat) :
    (s.clearQueue k).store.get? j = if j = k then (s.store.get? k).map clearQueueF else s.store.get? j := by
  rw [clearQueue_store, Store.get?_mod]; exact fun _ => rfl

theorem modStream_congr (s : Streams) (k : Nat) {f g : Stream → Stream} (h : f (s.stream k) = g (s.stream k)) :
    s.modStream k f = s.modStream k g := by
  cases hx : s.store.get? k with
  | none => rw [modStream_of_none hx, modStream_of_none hx]
  | some x => rw [modStream_of_some hx, modStream_of_some hx, ← stream_of_get? hx, h]

theorem modPrio_modStream (s : Streams) (k : Nat) (g : Stream → Stream) (h : Prioritize → Prioritize) :
    (s.modPrio h).modStream k g = (s.modStream k g).modPrio h := by
  unfold modStream
  show (match s.store.get? k with | some st => _ | none => _) = _
  cases s.store.get? k with
  | none =>
    unfold panic
    show (match s.panicked with | some _ => s.modPrio h | none => _) = _
    cases s.panicked <;> rfl
  | some st => rfl

/-- what `send_reset` leaves of the queue of a stream that still waits in `pending_open` -/
def keepOnlyHeadF (st : Stream) : Stream :=
  { st with pendingSend := st.pendingSend.take 1, bufferedSendData := 0, requestedSendCapacity := 0 }

/-- the three updates of the entry (drop the head, `clear_queue`, put the head back) are one; the marker is `clear_queue`'s -/
theorem keepOnlyHead_eq (s : Streams) (k : Nat) :
    s.keepOnlyHead k =
      match s.prio.inFlightDataFrame with
      | .dataFrame j =>
        if j = k then (s.modStream k keepOnlyHeadF).modPrio fun p => { p with inFlightDataFrame := .drop }
        else s.modStream k keepOnlyHeadF
      | _ => s.modStream k keepOnlyHeadF := by
  have mark : ∀ (t : Streams) (m : InFlightData) (g : Stream → Stream) (h : Prioritize → Prioritize),
      (match m with
        | .dataFrame j => if j = k then t.modPrio h else t
        | _ => t).modStream k g =
      match m with
        | .dataFrame j => if j = k then (t.modStream k g).modPrio h else t.modStream k g
        | _ => t.modStream k g := by
    intro t m g h
    cases m <;> first | rfl | (dsimp only; split <;> first | rfl | exact modPrio_modStream t k g h)
  unfold keepOnlyHead clearQueue
  dsimp only
  rw [modStream_prio, modStream_prio]
  cases hp : (s.stream k).pendingSend with
  | nil =>
    dsimp only [List.head?_nil]
    rw [modStream_modStream s k, modStream_congr s k (g := keepOnlyHeadF)]
    all_goals first | exact fun _ => rfl | (unfold keepOnlyHeadF; rw [hp]; rfl) | rfl
  | cons f r =>
    dsimp only [List.head?_cons]
    refine (mark _ _ _ _).trans ?_
    rw [modStream_modStream s k, modStream_modStream s k, modStream_congr s k (g := keepOnlyHeadF)]
    all_goals first | exact fun _ => rfl | (unfold keepOnlyHeadF; rw [hp]; rfl) | rfl

@[conn_basics] theorem keepOnlyHead_store (s : Streams) (k : Nat) : (s.keepOnlyHead k).store = s.store.mod k keepOnlyHeadF := by
  rw [keepOnlyHead_eq]; split
  · split <;> simp only [conn_basics]
  · simp only [conn_basics]
theorem keepOnlyHead_get? (s : Streams) (k j : Nat) :
    (s.keepOnlyHead k).store.get? j = if j = k then (s.store.get? k).map keepOnlyHeadF else s.store.get? j := by
  rw [keepOnlyHead_store, Store.get?_mod]; exact fun _ => rfl
theorem keepOnlyHead_nextKey (s : Streams) (k : Nat) : (s.keepOnlyHead k).store.nextKey = s.store.nextKey := by
  rw [keepOnlyHead_store, Store.mod_nextKey]
theorem keepOnlyHead_marker (s : Streams) (k : Nat) :
    (s.keepOnlyHead k).prio.inFlightDataFrame =
      if s.prio.inFlightDataFrame = .dataFrame k then .drop else s.prio.inFlightDataFrame := by
  rw [keepOnlyHead_eq]
  cases h : s.prio.inFlightDataFrame with
  | dataFrame j =>
    dsimp only
    by_cases hjk : j = k
    · rw [if_pos hjk, if_pos (congrArg _ hjk), modPrio_prio]
    · rw [if_neg hjk, if_neg fun e => hjk (InFlightData.dataFrame.inj e), modStream_prio, h]
  | _ => dsimp only; rw [modStream_prio, h, if_neg (fun e => InFlightData.noConfusion e)]

end Streams

namespace Conn

@[conn_basics] theorem bufferSettings_streams (c : Conn) (ack : Bool) (vals : List (Nat × Nat)) :
    (c.bufferSettings ack vals).streams = c.streams := rfl

end Conn

end H2V.Model.Conn
