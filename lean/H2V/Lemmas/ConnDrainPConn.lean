import H2V.Lemmas.ConnDrainPWriter
import H2V.Lemmas.ConnDrainPRead
import H2V.Lemmas.ConnCtlPTrace
/-
  ConnDrainP — `Connection::poll_ready` and `Connection::poll2` (ConnProto.lean): what each step of
  `poll_ready` leaves behind (`*_spec`); from them `ConnDrainPPoll2` gets `poll2Loop_pending`: `poll2` answers `Pending` only with the
  connection task parked on the transport's write waker, or on its read waker with every slot of `poll_ready`
  (PONG, PING, SETTINGS ACK, local SETTINGS, refusal) and the GOAWAY slot empty.
-/
namespace H2V.Lemmas.ConnDrainP
open H2V H2V.Model H2V.Model.Conn


/-- the connection task is parked on the transport's write waker -/
def WriteParked (c : Conn) : Prop := c.codec.io.writeWaker = some c.cx

/-- what a step of `poll_ready` that only talks to the codec keeps -/
structure CodecStep (c c' : Conn) : Prop where
  cx : c'.cx = c.cx
  cap : CapOK c.codec.w → CapOK c'.codec.w

theorem CodecStep.refl (c : Conn) : CodecStep c c := ⟨rfl, id⟩
theorem CodecStep.trans {a b c : Conn} (h1 : CodecStep a b) (h2 : CodecStep b c) : CodecStep a c :=
  ⟨h2.cx.trans h1.cx, fun h => h2.cap (h1.cap h)⟩

theorem CodecStep.of_codec_eq {c c' : Conn} (h1 : c'.cx = c.cx) (h2 : c'.codec = c.codec) : CodecStep c c' :=
  ⟨h1, fun h => by rw [h2]; exact h⟩

/-- `dst.poll_ready(cx)` touches the codec only; on `Pending` the write waker is the connection task's.
    (Every step of `poll_ready` below starts with it, then buffers a frame and clears its slot.) -/
theorem codecPollReady_spec {c c1 : Conn} {r : Step} (h : c.codecPollReady = (c1, r)) :
    ∃ cd, c1 = { c with codec := cd } ∧ CodecStep c { c with codec := cd } ∧
      (r = .pending → CapOK c.codec.w → WriteParked { c with codec := cd }) := by
  unfold Conn.codecPollReady at h
  rcases hp : pollReadyW c.codec.w c.codec.io c.cx with ⟨w, io, r0⟩
  rw [hp] at h
  cases h
  refine ⟨_, rfl, ⟨rfl, fun h => h.ofPollReadyW hp⟩, fun hr hc => ?_⟩
  cases r0 <;> simp at hr
  exact pollReadyW_pending hc hp

theorem bufferSimple_step (c : Conn) (n : Nat) (r : String) : CodecStep c (c.bufferSimple n r) :=
  ⟨rfl, fun h => h.bufferSimple _ _⟩

theorem bufferSettings_step (c : Conn) (a : Bool) (v : List (Nat × Nat)) : CodecStep c (c.bufferSettings a v) :=
  bufferSimple_step _ _ _

/-- the PING slot needs nothing from the connection task: the shutdown PING is on its way, and a user's PING is
    on its way or the connection task is registered in `ping_task` (woken by `send_ping`) -/
def PingIdle (pp : PingPong) (cx : String) : Prop :=
  match pp.pendingPing with
  | some p => p.sent = true
  | none => ∀ u, pp.userPings = some u → u.state ≠ Generated.Consts.USER_STATE_PENDING_PING ∧ u.pingTask = some cx

theorem PingIdle.of_none {pp : PingPong} {cx : String} (h : pp.pendingPing = none)
    (hu : ∀ u, pp.userPings = some u → u.state ≠ Generated.Consts.USER_STATE_PENDING_PING ∧ u.pingTask = some cx) :
    PingIdle pp cx := by
  unfold PingIdle; rw [h]; exact hu

theorem sendPendingGoAway_spec (c : Conn) :
    CodecStep c c.sendPendingGoAway.1 ∧
    (c.sendPendingGoAway.2 = .pending → CapOK c.codec.w → WriteParked c.sendPendingGoAway.1) ∧
    (c.sendPendingGoAway.2 ≠ .pending → (∀ e, c.sendPendingGoAway.2 ≠ .err e) → c.sendPendingGoAway.1.goAway.pending = none) := by
  unfold Conn.sendPendingGoAway
  split
  · next frame hpend =>
    rcases hcp : c.codecPollReady with ⟨c1, r1⟩
    obtain ⟨cd, rfl, st, hpe⟩ := codecPollReady_spec hcp
    cases r1 with
    | pending => exact ⟨st, fun _ hc => hpe rfl hc, fun h _ => absurd rfl h⟩
    | ok => exact ⟨st.trans ⟨rfl, fun h => h.bufferSimple _ _⟩, nofun, fun _ _ => rfl⟩
    | err e => exact ⟨st.trans (.of_codec_eq rfl rfl), nofun, fun _ h => absurd rfl (h e)⟩
  · next hpend =>
    repeat' split
    all_goals exact ⟨.refl _, nofun, fun _ _ => hpend⟩

theorem sendPendingPong_spec (c : Conn) :
    CodecStep c c.sendPendingPong.1 ∧
    c.sendPendingPong.1.goAway = c.goAway ∧
    (c.sendPendingPong.2 = .pending → CapOK c.codec.w → WriteParked c.sendPendingPong.1) ∧
    (c.sendPendingPong.2 = .ok → c.sendPendingPong.1.pingPong.pendingPong = none) := by
  unfold Conn.sendPendingPong
  split
  · next pong hpend =>
    rcases hcp : c.codecPollReady with ⟨c1, r1⟩
    obtain ⟨cd, rfl, st, hpe⟩ := codecPollReady_spec hcp
    cases r1 with
    | pending => exact ⟨st, rfl, fun _ hc => hpe rfl hc, nofun⟩
    | ok => exact ⟨st.trans ⟨rfl, fun h => h.bufferSimple _ _⟩, rfl, nofun, fun _ => rfl⟩
    | err e => exact ⟨st.trans (.of_codec_eq rfl rfl), rfl, nofun, nofun⟩
  · next hpend => exact ⟨.refl _, rfl, nofun, fun _ => hpend⟩

theorem sendPendingPing_spec (c : Conn) :
    CodecStep c c.sendPendingPing.1 ∧
    c.sendPendingPing.1.goAway = c.goAway ∧
    c.sendPendingPing.1.pingPong.pendingPong = c.pingPong.pendingPong ∧
    (c.sendPendingPing.2 = .pending → CapOK c.codec.w → WriteParked c.sendPendingPing.1) ∧
    (c.sendPendingPing.2 = .ok → PingIdle c.sendPendingPing.1.pingPong c.cx) := by
  unfold Conn.sendPendingPing
  split
  · next ping hping =>
    split
    · rcases hcp : c.codecPollReady with ⟨c1, r1⟩
      obtain ⟨cd, rfl, st, hpe⟩ := codecPollReady_spec hcp
      cases r1 with
      | pending => exact ⟨st, rfl, rfl, fun _ hc => hpe rfl hc, nofun⟩
      | ok =>
        exact ⟨st.trans ⟨rfl, fun h => h.bufferSimple _ _⟩, rfl, rfl, nofun, fun _ => by unfold PingIdle; rfl⟩
      | err e => exact ⟨st, rfl, rfl, nofun, nofun⟩
    · next hsent =>
      exact ⟨.refl _, rfl, rfl, nofun, fun _ => by unfold PingIdle; rw [hping]; simpa using hsent⟩
  · next hping =>
    split
    · next u hu =>
      dsimp only
      split
      · -- the user's PING is due: the connection task is registered first, then `poll_ready` on the codec
        rcases hcp : Conn.codecPollReady { c with pingPong := { c.pingPong with userPings := some { u with pingTask := some c.cx } } }
          with ⟨c1, r1⟩
        obtain ⟨cd, rfl, st, hpe⟩ := codecPollReady_spec hcp
        have st : CodecStep c _ := ⟨st.cx, st.cap⟩
        cases r1 with
        | pending => exact ⟨st, rfl, rfl, fun _ hc => hpe rfl hc, nofun⟩
        | ok =>
          refine ⟨st.trans ⟨rfl, fun h => h.bufferSimple _ _⟩, rfl, rfl, nofun, fun _ => ?_⟩
          refine .of_none hping fun u' hu' => ?_
          cases hu'
          exact ⟨(by decide : Generated.Consts.USER_STATE_PENDING_PONG ≠ Generated.Consts.USER_STATE_PENDING_PING), rfl⟩
        | err e => exact ⟨st, rfl, rfl, nofun, nofun⟩
      · next hstate =>
        refine ⟨.of_codec_eq rfl rfl, rfl, rfl, nofun, fun _ => .of_none hping fun u' hu' => ?_⟩
        cases hu'
        exact ⟨by simpa using hstate, rfl⟩
    · next hu =>
      exact ⟨.refl _, rfl, rfl, nofun, fun _ => .of_none hping fun u' hu' => by rw [hu] at hu'; cases hu'⟩

open H2V.Lemmas.ConnCtlP (ackAndApply settingsRemotePart settingsLocalSend settingsLocalPart settingsPollSend_eq)

theorem ackAndApply_spec (c : Conn) (settings : List (Nat × Nat)) :
    CodecStep c (ackAndApply c settings).1 ∧ (ackAndApply c settings).1.goAway = c.goAway ∧
    (ackAndApply c settings).1.pingPong = c.pingPong ∧ (ackAndApply c settings).2 ≠ .pending := by
  unfold ackAndApply
  dsimp only
  split
  · exact ⟨(bufferSettings_step c true []).trans (.of_codec_eq rfl rfl), rfl, rfl, nofun⟩
  · dsimp only
    refine ⟨(bufferSettings_step c true []).trans ⟨rfl, fun hc => CapOK.of_eq hc ?_ ?_⟩, rfl, rfl, nofun⟩
    · cases (List.find? (fun x => decide (x.fst = 1)) settings) <;> cases (List.find? (fun x => decide (x.fst = 5)) settings) <;> rfl
    · cases (List.find? (fun x => decide (x.fst = 1)) settings) <;> cases (List.find? (fun x => decide (x.fst = 5)) settings) <;> exact Nat.le_refl _

theorem settingsRemotePart_spec (c : Conn) :
    CodecStep c (settingsRemotePart c).1 ∧ (settingsRemotePart c).1.goAway = c.goAway ∧
    (settingsRemotePart c).1.pingPong = c.pingPong ∧
    ((settingsRemotePart c).2 = .pending → CapOK c.codec.w → WriteParked (settingsRemotePart c).1) := by
  unfold settingsRemotePart
  split
  · next settings hrem =>
    rcases hcp : c.codecPollReady with ⟨c1, r1⟩
    obtain ⟨cd, rfl, st, hpe⟩ := codecPollReady_spec hcp
    cases r1 with
    | pending => exact ⟨st, rfl, rfl, fun _ hc => hpe rfl hc⟩
    | err e => exact ⟨st, rfl, rfl, nofun⟩
    | ok =>
      have ha := ackAndApply_spec { c with codec := cd } settings
      exact ⟨st.trans ha.1, ha.2.1, ha.2.2.1, fun h => absurd h ha.2.2.2⟩
  · exact ⟨.refl _, rfl, rfl, nofun⟩

theorem settingsLocalSend_spec (c : Conn) :
    CodecStep c (settingsLocalSend c).1 ∧ (settingsLocalSend c).1.goAway = c.goAway ∧
    (settingsLocalSend c).1.pingPong = c.pingPong ∧
    (settingsLocalSend c).1.settings.remote = c.settings.remote ∧
    ((settingsLocalSend c).2 = .pending → CapOK c.codec.w → WriteParked (settingsLocalSend c).1) ∧
    ((settingsLocalSend c).2 = .ok → ∀ v, (settingsLocalSend c).1.settings.loc ≠ .toSend v) := by
  unfold settingsLocalSend
  split
  · next settings hloc =>
    rcases hcp : c.codecPollReady with ⟨c1, r1⟩
    obtain ⟨cd, rfl, st, hpe⟩ := codecPollReady_spec hcp
    cases r1 with
    | pending => exact ⟨st, rfl, rfl, rfl, fun _ hc => hpe rfl hc, nofun⟩
    | err e => exact ⟨st, rfl, rfl, rfl, nofun, nofun⟩
    | ok => exact ⟨st.trans ((bufferSettings_step _ _ _).trans (.of_codec_eq rfl rfl)), rfl, rfl, rfl, nofun, fun _ v => nofun⟩
  · next hloc => exact ⟨.refl _, rfl, rfl, rfl, nofun, fun _ v hv => hloc v hv⟩

theorem settingsPollSend_spec (c : Conn) :
    CodecStep c c.settingsPollSend.1 ∧
    c.settingsPollSend.1.goAway = c.goAway ∧ c.settingsPollSend.1.pingPong = c.pingPong ∧
    (c.settingsPollSend.2 = .pending → CapOK c.codec.w → WriteParked c.settingsPollSend.1) ∧
    (c.settingsPollSend.2 = .ok → c.settingsPollSend.1.settings.remote = none ∧
      ∀ v, c.settingsPollSend.1.settings.loc ≠ .toSend v) := by
  rw [settingsPollSend_eq]
  have h1 := settingsRemotePart_spec c
  generalize settingsRemotePart c = p at h1 ⊢
  obtain ⟨c1, r1⟩ := p
  obtain ⟨st1, g1, p1, w1⟩ := h1
  cases r1 with
  | pending => exact ⟨st1, g1, p1, fun _ hc => w1 rfl hc, nofun⟩
  | err e => exact ⟨st1, g1, p1, nofun, nofun⟩
  | ok =>
    obtain ⟨st2, g2, p2, r2, w2, l2⟩ := settingsLocalSend_spec { c1 with settings := { c1.settings with remote := none } }
    exact ⟨st1.trans ⟨st2.cx, st2.cap⟩, g2.trans g1, p2.trans p1,
      fun hp hc => w2 hp (st1.cap hc), fun hok => ⟨r2, l2 hok⟩⟩


theorem sendPendingRefusal_cap {s : Streams} {w : Writer} (hc : w.hasCapacity = true) :
    (s.sendPendingRefusal w).2.2 = .complete ∧ (s.sendPendingRefusal w).1.recv.refused = none := by
  unfold Streams.sendPendingRefusal
  cases hr : s.recv.refused with
  | none => exact ⟨rfl, hr⟩
  | some sid =>
    dsimp only
    rw [hc]
    exact ⟨rfl, rfl⟩

theorem sendPendingRefusal_full {s : Streams} {w : Writer} (hc : w.hasCapacity = false) :
    ((s.sendPendingRefusal w).2.2 = .complete → (s.sendPendingRefusal w).1.recv.refused = none) ∧
    (s.sendPendingRefusal w).1 = s ∧ (s.sendPendingRefusal w).2.1 = w := by
  unfold Streams.sendPendingRefusal
  cases hr : s.recv.refused with
  | none => exact ⟨fun _ => hr, rfl, rfl⟩
  | some sid =>
    dsimp only
    rw [hc]
    exact ⟨nofun, rfl, rfl⟩

theorem CapOK.refusal (n : Nat) (s : Streams) (w : Writer) (io : Tio) (tag : String) (h : CapOK w) :
    CapOK (Streams.pollSendPendingRefusal n s w io tag).2.1 :=
  Streams.pollSendPendingRefusal_inv (I := fun _ w => CapOK w)
    (fun s w h => by unfold Streams.sendPendingRefusal; (repeat' split) <;> first | exact h | exact h.bufferSimple _ _)
    (fun _ _ _ h => h.ofPollReadyW rfl) n s w io h

theorem refusal_eq (n : Nat) (s : Streams) (w : Writer) (io : Tio) (tag : String) :
    Streams.pollSendPendingRefusal (n + 1) s w io tag =
      match (s.sendPendingRefusal w).2.2 with
      | .complete => ((s.sendPendingRefusal w).1, (s.sendPendingRefusal w).2.1, io, .ready)
      | .codecFull =>
        match pollReadyW (s.sendPendingRefusal w).2.1 io tag with
        | (w1, io1, .ready) => Streams.pollSendPendingRefusal n (s.sendPendingRefusal w).1 w1 io1 tag
        | (w1, io1, r) => ((s.sendPendingRefusal w).1, w1, io1, r) := by
  rw [Streams.pollSendPendingRefusal]
  rcases s.sendPendingRefusal w with ⟨s1, w1, st⟩
  cases st <;> rfl

theorem refusal_cap {s : Streams} {w : Writer} (n : Nat) (io : Tio) (tag : String) (hc : w.hasCapacity = true) :
    (Streams.pollSendPendingRefusal (n + 1) s w io tag).2.2.2 = .ready ∧
    (Streams.pollSendPendingRefusal (n + 1) s w io tag).1.recv.refused = none := by
  have h := sendPendingRefusal_cap (s := s) hc
  rw [refusal_eq, h.1]
  exact ⟨rfl, h.2⟩

theorem refusal_spec {s : Streams} {w : Writer} (n : Nat) (io : Tio) (tag : String) :
    ((Streams.pollSendPendingRefusal (n + 2) s w io tag).2.2.2 = .ready →
      (Streams.pollSendPendingRefusal (n + 2) s w io tag).1.recv.refused = none) ∧
    ((Streams.pollSendPendingRefusal (n + 2) s w io tag).2.2.2 = .pending → CapOK w →
      (Streams.pollSendPendingRefusal (n + 2) s w io tag).2.2.1.writeWaker = some tag) := by
  cases hc : w.hasCapacity with
  | true =>
    have := refusal_cap (s := s) (n + 1) io tag hc
    refine ⟨fun _ => this.2, fun h => ?_⟩
    rw [this.1] at h; cases h
  | false =>
    have h := sendPendingRefusal_full (s := s) hc
    rw [refusal_eq]
    cases hst : (s.sendPendingRefusal w).2.2 with
    | complete => exact ⟨fun _ => h.1 hst, nofun⟩
    | codecFull =>
      dsimp only
      rw [h.2.1, h.2.2]
      rcases hp : pollReadyW w io tag with ⟨w1, io1, r1⟩
      cases r1 with
      | ready =>
        dsimp only
        have := refusal_cap (s := s) n io1 tag ((pollReadyW_io hp).2.2 rfl)
        refine ⟨fun _ => this.2, fun h => ?_⟩
        rw [this.1] at h; cases h
      | pending => exact ⟨nofun, fun _ hcap => pollReadyW_pending hcap hp⟩
      | err k => exact ⟨nofun, nofun⟩


/-- nothing that `poll_ready` sends is owed any more -/
structure ReadyDone (c : Conn) : Prop where
  pong : c.pingPong.pendingPong = none
  ping : PingIdle c.pingPong c.cx
  remote : c.settings.remote = none
  loc : ∀ v, c.settings.loc ≠ .toSend v
  refused : c.streams.recv.refused = none

/-- what `poll_ready`, or a part of it, started in `c` guarantees of its answer `q`; `D` of the state on `Ready(Ok)` -/
def ReadySpec (c : Conn) (D : Conn → Prop) (q : Conn × Step) : Prop :=
  CodecStep c q.1 ∧ q.1.goAway = c.goAway ∧ (q.2 = .pending → CapOK c.codec.w → WriteParked q.1) ∧ (q.2 = .ok → D q.1)

/-- `f(c)?` followed by `g`, the shape of `poll_ready` -/
theorem ReadySpec.andThen {c : Conn} {D1 D : Conn → Prop} {p : Conn × Step} {g : Conn → Conn × Step}
    (h1 : ReadySpec c D1 p) (h2 : ∀ c1, c1.cx = c.cx → D1 c1 → ReadySpec c1 D (g c1)) :
    ReadySpec c D (match p with | (c, .ok) => g c | r => r) := by
  obtain ⟨c1, r⟩ := p
  obtain ⟨st, g1, w1, ok1⟩ := h1
  cases r with
  | ok =>
    obtain ⟨st2, g2, w2, ok2⟩ := h2 c1 st.cx (ok1 rfl)
    exact ⟨st.trans st2, g2.trans g1, fun hp hc => w2 hp (st.cap hc), ok2⟩
  | pending => exact ⟨st, g1, w1, nofun⟩
  | err e => exact ⟨st, g1, w1, nofun⟩

theorem pollReady_spec (c : Conn) :
    CodecStep c c.pollReady.1 ∧ c.pollReady.1.goAway = c.goAway ∧
    (c.pollReady.2 = .pending → CapOK c.codec.w → WriteParked c.pollReady.1) ∧
    (c.pollReady.2 = .ok → ReadyDone c.pollReady.1) := by
  show ReadySpec c ReadyDone c.pollReady
  unfold Conn.pollReady
  refine ReadySpec.andThen (D1 := fun c1 => c1.pingPong.pendingPong = none)
    (let h := sendPendingPong_spec c; ⟨h.1, h.2.1, h.2.2.1, h.2.2.2⟩) fun c1 cx1 d1 => ?_
  refine ReadySpec.andThen (D1 := fun c2 => c2.pingPong.pendingPong = none ∧ PingIdle c2.pingPong c.cx)
    (let h := sendPendingPing_spec c1; ⟨h.1, h.2.1, h.2.2.2.1, fun ok => ⟨h.2.2.1.trans d1, cx1 ▸ h.2.2.2.2 ok⟩⟩)
    fun c2 cx2 d2 => ?_
  refine ReadySpec.andThen (D1 := fun c3 => c3.pingPong = c2.pingPong ∧ c3.settings.remote = none ∧ ∀ v, c3.settings.loc ≠ .toSend v)
    (let h := settingsPollSend_spec c2; ⟨h.1, h.2.1, h.2.2.2.1, fun ok => ⟨h.2.2.1, h.2.2.2.2 ok⟩⟩) fun c3 cx3 d3 => ?_
  -- `send_pending_refusal`, polled on the codec
  have h4 := refusal_spec (s := c3.streams) (w := c3.codec.w) 2 c3.codec.io c3.cx
  have cap4 := CapOK.refusal 4 c3.streams c3.codec.w c3.codec.io c3.cx
  generalize Streams.pollSendPendingRefusal 4 c3.streams c3.codec.w c3.codec.io c3.cx = p at h4 cap4 ⊢
  obtain ⟨s4, w4, io4, r4⟩ := p
  obtain ⟨ok4, pe4⟩ := h4
  refine ⟨⟨rfl, cap4⟩, rfl, fun hp hc => ?_, fun hok => ?_⟩
  · cases r4 with
    | pending => exact pe4 rfl hc
    | ready => cases hp
    | err k => cases hp
  · cases r4 with
    | pending => cases hok
    | err k => cases hok
    | ready =>
      refine ⟨?_, ?_, d3.2.1, d3.2.2, ok4 rfl⟩
      · show c3.pingPong.pendingPong = none
        rw [d3.1]; exact d2.1
      · show PingIdle c3.pingPong c3.cx
        rw [d3.1, cx3, cx2, cx1]; exact d2.2

end H2V.Lemmas.ConnDrainP
