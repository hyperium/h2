import H2V.Lemmas.ConnWakePTear
/-
  ConnWakeP — C07 main lemmas: after `recv_eof` / `handle_error` every stream that was linked
  in the id map is released or `Resolved`; the tags parked on it are in the wake log; its receive
  queue, its reference count and "END_STREAM was received" are untouched.
-/
namespace H2V.Lemmas.ConnWakeP
open H2V H2V.Model H2V.Model.Conn

theorem modCountsA_stream (s : Streams) (m : String) (f : Counts → Option Counts) (k : Nat) :
    (s.modCountsA m f).stream k = s.stream k := Streams.modCountsA_stream s m f k

theorem transitionAfter_ids (s : Streams) (k : Nat) (b : Bool) :
    (s.transitionAfter k b).store.ids = s.store.ids ∨
    ((s.stream k).isClosed = true ∧ (s.transitionAfter k b).store.ids = Store.swapRemove s.store.ids (s.stream k).id) := by
  rw [Streams.transitionAfter_eq, Streams.taRelease_ids]
  unfold Streams.taClose
  dsimp only
  split
  · next hc =>
    have key : ∀ t : Streams, (if (!(s.stream k).state.isScheduledReset && (s.stream k).isCounted) = true then
        t.decNumStreams k else t).store.ids = t.store.ids := by
      intro t; split
      · exact Streams.decNumStreams_ids _ _
      · rfl
    rw [key]
    by_cases hr : (s.stream k).isPendingResetExpiration = true
    · left; simp only [hr, Bool.not_true, Bool.false_eq_true, if_false, Streams.taResetCount_store]
    · right
      simp only [hr, Bool.not_false, if_true]
      exact ⟨hc, by show Store.swapRemove _ _ = _; rw [Streams.taResetCount_store]⟩
  · left; rw [Streams.taResetCount_store]

theorem get?_modStreamW_same {s : Streams} {k : Nat} {a : Stream} (f : Stream → Stream × List String)
    (ha : s.store.get? k = some a) (hk : (f a).1.key = a.key) : (s.modStreamW k f).store.get? k = some (f a).1 := by
  have hak : a.key = k := Store.get?_key ha
  simp only [Streams.modStreamW, ha, Streams.setStream, Streams.wake, Store.get?_set, hk, hak, if_true, Option.map_some]

theorem three_notifies_resolved (x : Stream) (hc : x.state.isClosed = true) :
    Resolved ((x.notifySend.1).notifyRecv.1).notifyPush.1 := by
  rw [Stream.notifyPush_fst, Stream.notifyRecv_fst, Stream.notifySend_fst]
  exact ⟨hc, rfl, rfl, rfl, rfl⟩

theorem three_notifies_key (x : Stream) : (((x.notifySend.1).notifyRecv.1).notifyPush.1).key = x.key := by
  rw [Stream.notifyPush_fst, Stream.notifyRecv_fst, Stream.notifySend_fst]

/-- the entry after an update followed by `notify_send; notify_recv; notify_push` (`Recv::recv_eof`, `Recv::handle_error`) -/
theorem get?_notified {s : Streams} {k : Nat} {a : Stream} (g : Stream → Stream) (hg : (g a).key = a.key)
    (ha : s.store.get? k = some a) :
    ((((s.modStream k g).modStreamW k Stream.notifySend).modStreamW k Stream.notifyRecv).modStreamW k
      Stream.notifyPush).store.get? k = some (((g a).notifySend.1).notifyRecv.1).notifyPush.1 :=
  get?_modStreamW_same Stream.notifyPush
    (get?_modStreamW_same Stream.notifyRecv
      (get?_modStreamW_same Stream.notifySend (get?_modStream_same g ha hg) (by rw [Stream.notifySend_fst]))
      (by rw [Stream.notifyRecv_fst])) (by rw [Stream.notifyPush_fst])

def Done (k : Nat) (t : Streams) : Prop := t.store.get? k = none ∨ ∃ b, t.store.get? k = some b ∧ Resolved b

theorem Done.of_rs {k : Nat} {t t' : Streams} (h : Done k t) (hr : RS t t') : Done k t' := by
  rcases h with h | ⟨b, hb, hres⟩
  · exact Or.inl (hr.fresh k h)
  · rcases hr.keep k b hb with ⟨_, h'⟩ | ⟨c, hc, hbc⟩
    · exact Or.inl h'
    · exact Or.inr ⟨c, hc, hbc.res hres⟩

/-- the two per-stream closures, abstractly: first a function that resolves the stream, then teardown steps -/
structure Closure (f : Streams → Nat → Streams) : Prop where
  rs : ∀ s k, RS s (f s k)
  done : ∀ s k, Done k (f s k)
  ids : ∀ s k a, s.store.get? k = some a →
    (f s k).store.ids = s.store.ids ∨ (f s k).store.ids = Store.swapRemove s.store.ids a.id
  ids_none : ∀ s k, s.store.get? k = none → (f s k).store.ids = s.store.ids

theorem closure_of_mid (g : Streams → Nat → Streams)
    (hres : ∀ s k a, s.store.get? k = some a → ∃ b, (g s k).store.get? k = some b ∧ Resolved b)
    (hg : ∀ s k, GStep False KR s (g s k)) :
    Closure fun s k => (s.transition k fun s => ((g s k).sendHandleError k, ())).1 := by
  have hmid : ∀ s k, GStep False KR s ((g s k).sendHandleError k) := fun s k => t_sendHandleError k (hg s k)
  have hta : ∀ s k b, RS s (s.transitionAfter k b) := fun s k b =>
    (GStep.of_step_ts (Streams.transitionAfter_step (by decide) s k b)).res_of_kr
  refine ⟨fun s k => ?_, fun s k => ?_, fun s k a ha => ?_, fun s k hn => ?_⟩ <;> simp only [Streams.transition_fst]
  · exact ((hmid s k).mono False.elim fun _ _ h => h.2).trans (hta _ _ _)
  · have hd : Done k (g s k) := by
      cases ha : s.store.get? k with
      | none => exact Or.inl ((hg s k).fresh k ha)
      | some a => exact Or.inr (hres s k a ha)
    exact (hd.of_rs ((t_sendHandleError k (.refl _)).res_of_kr)).of_rs (hta _ _ _)
  · have hid := (hmid s k).ids.resolve_left id
    have hst : (((g s k).sendHandleError k).stream k).id = a.id := by
      have := ((hmid s k).stream k).1.id; rwa [stream_eq_of_get? ha] at this
    rcases transitionAfter_ids ((g s k).sendHandleError k) k (s.stream k).isPendingResetExpiration with h | ⟨_, h⟩
    · exact Or.inl (h.trans hid)
    · exact Or.inr (h.trans (by rw [hid, hst]))
  · have hid := (hmid s k).ids.resolve_left id
    have hg : ((g s k).sendHandleError k).store.get? k = none := (hmid s k).fresh k hn
    rcases transitionAfter_ids ((g s k).sendHandleError k) k (s.stream k).isPendingResetExpiration with h | ⟨hc, _⟩
    · exact h.trans hid
    · simp [Streams.stream, hg, Stream.isClosed, State.isClosed] at hc

theorem eofClosure_closure : Closure fun s k => (s.transition k fun s => ((s.recvRecvEof k).sendHandleError k, ())).1 :=
  closure_of_mid (fun s k => s.recvRecvEof k) (fun _ _ _ ha => ⟨_, get?_notified _ rfl ha, three_notifies_resolved _ (State.recvEof_isClosed _)⟩)
    (fun s k => .of_step_kr (Streams.recvRecvEof_step (by decide) s k))

theorem errClosure_closure (e : PErr) :
    Closure fun s k => (s.transition k fun s => ((s.recvHandleError k e).sendHandleError k, ())).1 :=
  closure_of_mid (fun s k => s.recvHandleError k e) (fun _ _ _ ha => ⟨_, get?_notified _ rfl ha, three_notifies_resolved _ (State.handleError_isClosed _ _)⟩)
    (fun s k => .of_step_kr (Streams.recvHandleError_step (by decide) s k e))

theorem Closure.idsOK {f : Streams → Nat → Streams} (hf : Closure f) {t : Streams} (hI : IdsOK t.store)
    {e : Nat × Nat} (_ : e ∈ t.store.ids) : IdsOK (f t e.2).store := by
  have hsub : ∀ e' ∈ (f t e.2).store.ids, e' ∈ t.store.ids := by
    intro e' he'
    cases ha : t.store.get? e.2 with
    | none => rw [hf.ids_none t e.2 ha] at he'; exact he'
    | some a =>
      rcases hf.ids t e.2 a ha with h | h
      · rw [h] at he'; exact he'
      · rw [h] at he'; exact Store.mem_swapRemove he'
  refine ⟨?_, fun e' he' b hb => ?_⟩
  · cases ha : t.store.get? e.2 with
    | none => rw [hf.ids_none t e.2 ha]; exact hI.1
    | some a =>
      rcases hf.ids t e.2 a ha with h | h
      · rw [h]; exact hI.1
      · rw [h]; exact Store.swapRemove_nodup hI.1 _
  · cases ha' : t.store.get? e'.2 with
    | none => rw [(hf.rs t e.2).fresh e'.2 ha'] at hb; cases hb
    | some a' =>
      rcases (hf.rs t e.2).keep e'.2 a' ha' with ⟨_, h⟩ | ⟨c, hc, hac⟩
      · rw [h] at hb; cases hb
      · rw [hc] at hb; cases hb
        rw [hac.id]; exact hI.2 e' (hsub e' he') a' ha'

/-- `Store::for_each(g)`, where `g` runs the closure `f` or does nothing, and runs it on every entry `hit` holds of (as long
    as `J`, which `f` keeps, holds): every such entry of the id map is dealt with -/
theorem storeForEach_some {f g : Streams → Nat → Streams} (hf : Closure f) {J : Streams → Prop} {hit : Nat × Nat → Prop}
    (hg : ∀ t k, g t k = f t k ∨ g t k = t) (hJ : ∀ t k, J t → J (f t k))
    (hhit : ∀ t e a, IdsOK t.store → J t → e ∈ t.store.ids → t.store.get? e.2 = some a → hit e → g t e.2 = f t e.2)
    (s : Streams) (hok : IdsOK s.store) (hj : J s) : ∀ e ∈ s.store.ids, hit e → Done e.2 (s.storeForEach g) := by
  have key := tryForEach_visits g (fun t => IdsOK t.store ∧ J t) (fun e t => hit e → Done e.2 t)
    (fun t hI => hI.1.1)
    (fun t e hI he hh => by
      cases ha : t.store.get? e.2 with
      | none =>
        rcases hg t e.2 with h | h <;> rw [h]
        · exact Or.inl ((hf.rs t e.2).fresh e.2 ha)
        · exact Or.inl ha
      | some a => rw [hhit t e a hI.1 hI.2 he ha hh]; exact hf.done t e.2)
    (fun t e e' _ _ hP hh => by
      rcases hg t e.2 with h | h <;> rw [h]
      · exact (hP hh).of_rs (hf.rs t e.2)
      · exact hP hh)
    (fun t e hI he => by
      rcases hg t e.2 with h | h <;> rw [h]
      · exact ⟨hf.idsOK hI.1 he, hJ t e.2 hI.2⟩
      · exact hI)
    (fun t e hI he => by
      rcases hg t e.2 with h | h <;> rw [h]
      · cases ha : t.store.get? e.2 with
        | none => exact Or.inl (hf.ids_none t e.2 ha)
        | some a => rw [← hI.1.2 e he a ha]; exact hf.ids t e.2 a ha
      · exact Or.inl rfl)
    s.store.ids (2 * s.store.ids.length + 1) 0 s ⟨hok, hj⟩ (by omega)
    (fun e he => by
      obtain ⟨j, hj⟩ := List.getElem?_of_mem he
      exact Or.inr ⟨j, Nat.zero_le _, hj⟩)
  unfold Streams.storeForEach Streams.storeTryForEach
  exact key.2

theorem storeForEach_closure {f : Streams → Nat → Streams} (hf : Closure f) (s : Streams) (hok : IdsOK s.store) :
    ∀ e ∈ s.store.ids, Done e.2 (s.storeForEach f) := fun e he =>
  storeForEach_some hf (J := fun _ => True) (hit := fun _ => True) (fun _ _ => .inl rfl) (fun _ _ _ => trivial)
    (fun _ _ _ _ _ _ _ _ => rfl) s hok trivial e he trivial

/-- what the teardown guarantees for one stream entry `a` that was at key `k` -/
def EndedAt (s s' : Streams) (k : Nat) (a : Stream) : Prop :=
  s'.store.get? k = none ∨ ∃ a', s'.store.get? k = some a' ∧ Resolved a' ∧ Keep a a' ∧
    ∀ t, (a.sendTask = some t ∨ a.openTask = some t ∨ a.recvTask = some t ∨ a.pushTask = some t) → t ∈ newWakes s s'

theorem woken_of_resolved {w : List String} {a b : Stream} (hres : Resolved b) (hab : SStep w a b) (t : String)
    (ht : a.sendTask = some t ∨ a.openTask = some t ∨ a.recvTask = some t ∨ a.pushTask = some t) : t ∈ w := by
  obtain ⟨_, h1, h2, h3, h4⟩ := hres
  rcases ht with ht | ht | ht | ht
  · exact SlotStep.woken_of_none (h1 ▸ hab.sendTask) ht
  · exact SlotStep.woken_of_none (h2 ▸ hab.openTask) ht
  · exact SlotStep.woken_of_none (h3 ▸ hab.recvTask) ht
  · exact SlotStep.woken_of_none (h4 ▸ hab.pushTask) ht

theorem endedAt_of {s s' : Streams} {k : Nat} {a : Stream} (hb : KeysBounded s.store) (ha : s.store.get? k = some a)
    (hd : Done k s') (hk : KS s s') (hs : Step none s s') : EndedAt s s' k a := by
  rcases hd with h | ⟨a', ha', hres⟩
  · exact Or.inl h
  · refine Or.inr ⟨a', ha', hres, ?_, ?_⟩
    · rcases hk.keep k a ha with ⟨_, h⟩ | ⟨b, hb', hab⟩
      · rw [h] at ha'; cases ha'
      · rw [hb'] at ha'; cases ha'; exact hab
    · exact woken_of_resolved hres (hs.sstep hb ha ha')

/-- **`Inner::recv_eof`** (EOF seen by the connection, or `Drop for Connection`): the connection has an
    error afterwards, and every stream that was linked in the id map is released or closed with all
    its parked wakers woken, its receive queue / reference count / END_STREAM flag untouched -/
theorem recvEof_all (s : Streams) (hok : IdsOK s.store) (hb : KeysBounded s.store) (b : Bool) :
    (s.recvEof b).actions.connError.isSome = true ∧
    ∀ e ∈ s.store.ids, ∀ a, s.store.get? e.2 = some a → EndedAt s (s.recvEof b) e.2 a := by
  have hstep : Step none s (s.recvEof b) := .of_step (Streams.recvEof_step (by decide) s b)
  have hkeep : KS s _ := (GStep.of_step_ts (Streams.recvEof_step (by decide) s b)).keep_of_kr
  refine ⟨?_, fun e he a ha => endedAt_of hb ha ?_ hkeep hstep⟩
  · -- `conn_error` is set first and never cleared
    unfold Streams.recvEof
    generalize hs1 : (if s.actions.connError.isNone = true then
      ({ s with actions := { s.actions with connError := some (.io "BrokenPipe" (some "connection closed because of a broken pipe")) } } : Streams)
      else s) = s1
    have h1 : s1.actions.connError.isSome = true := by
      subst hs1; split
      · rfl
      · next h => cases hh : s.actions.connError <;> simp_all
    have h2 : Step none s1 ((s1.storeForEach fun s id =>
        (s.transition id fun s => ((s.recvRecvEof id).sendHandleError id, ())).1).clearQueues b) :=
      by i_auto
    exact h2.connError h1
  · unfold Streams.recvEof
    generalize hs1 : (if s.actions.connError.isNone = true then
      ({ s with actions := { s.actions with connError := some (.io "BrokenPipe" (some "connection closed because of a broken pipe")) } } : Streams)
      else s) = s1
    have h1 : s1.store = s.store := by subst hs1; split <;> rfl
    have := storeForEach_closure eofClosure_closure s1 (h1 ▸ hok) e (h1 ▸ he)
    exact this.of_rs (GStep.of_step_ts (Streams.clearQueues_step (by decide) _ b)).res_of_kr

/-- **`Inner::handle_error`** (I/O error, connection error, `abrupt_shutdown`, GOAWAY sent for a fatal
    error): same guarantee -/
theorem handleError_all (s : Streams) (hok : IdsOK s.store) (hb : KeysBounded s.store) (err : PErr) :
    (s.handleError err).1.actions.connError = some err ∧
    ∀ e ∈ s.store.ids, ∀ a, s.store.get? e.2 = some a → EndedAt s (s.handleError err).1 e.2 a := by
  have hstep : Step none s (s.handleError err).1 := .of_step (Streams.handleError_step (by decide) s err)
  have hkeep := k_handleError err (GStep.refl s)
  refine ⟨by unfold Streams.handleError; rfl, fun e he a ha => endedAt_of hb ha ?_ hkeep hstep⟩
  unfold Streams.handleError
  have := storeForEach_closure (errClosure_closure err) s hok e he
  exact this.of_rs (g_setConnError _ (GStep.refl _))

end H2V.Lemmas.ConnWakeP
