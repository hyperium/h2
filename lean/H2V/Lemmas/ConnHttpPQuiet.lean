import H2V.Lemmas.ConnHttpPStore
import H2V.Lemmas.ConnStepLoops
import H2V.Lemmas.ConnStepLift
/-
  C13 (ConnHttpP) — `Quiet` and `Still` hold of every step of the stream layer (`Streams.Step`) whose kinds stay off
  what they look at (`Quiet.of_step`, `Still.of_step`), hence of the bookkeeping functions, of reset, and of the frame
  entry points of `Inner` that hand nothing over, by their footprints.  Lemmas are in continuation form
  `Q s0 s → Q s0 s'`: a proof by hand reads like the model function, inside out.
-/
namespace H2V.Lemmas.ConnHttpP
open H2V H2V.Model H2V.Model.Conn

/-- the kinds of update `Quiet` tolerates: no event is put on a receive queue (`appendRecv`), none is taken from the front
    of one (`takeRecv`: what is left is neither the old queue nor empty), no entry is created (by hand: `quiet_insert`);
    and no setting is applied (`config`), so that the same step keeps what the checks of a head read (`cfg_of_step`) -/
def kindsQuiet : Kind → Bool
  | .appendRecv | .takeRecv | .insert | .config => false
  | _ => true

theorem quiet_respects : Respects kindsQuiet fun x y => y.pendingRecv = x.pendingRecv ∨ y.pendingRecv = [] where
  refl _ := .inl rfl
  trans h1 h2 := h2.elim (fun e => h1.elim (fun e1 => .inl (e.trans e1)) fun e1 => .inr (e.trans e1)) .inr
  upd x y u := by
    cases u
    case sendData => rw [Stream.sendData_fst]; split <;> exact .inl rfl
    case pushRecv hk | popRecv hk _ | clearRecv hk => cases hk
    case decContentLength _ hd => obtain ⟨_, rfl⟩ := Stream.decContentLength_eq hd; exact .inl rfl
    all_goals exact .inl rfl
  updW x p u := by
    cases u
    case notifySend => rw [Stream.notifySend_fst]; exact .inl rfl
    case notifyRecv => rw [Stream.notifyRecv_fst]; exact .inl rfl
    case notifyPush => rw [Stream.notifyPush_fst]; exact .inl rfl
    case notifyCapacity => rw [Stream.notifyCapacity_fst]; exact .inl rfl
    case assignCapacity => rw [Stream.assignCapacity_fst]; split <;> exact .inl rfl
    case setReset => rw [Stream.setReset_fst]; exact .inl rfl
  queued x q v := by cases q <;> exact .inl rfl
  counted _ _ := .inl rfl

theorem Quiet.of_step {s0 s s' : Streams} (t : Streams.Step kindsQuiet s s') (h : Quiet s0 s) : Quiet s0 s' :=
  h.trans fun k y hy =>
    have ⟨x, hx, hr⟩ := entries_of_step quiet_respects rfl t k y hy
    hr.elim (fun e => .inr ⟨x, hx, e⟩) .inl

/-- an update of fields other than key and receive queue -/
macro "keeps" : tactic => `(tactic| exact fun _ => ⟨rfl, Or.inl rfl⟩)

theorem Quiet.mod {s0 s : Streams} (h : Quiet s0 s) (k : Nat) {f : Stream → Stream} (hf : Keeps f := by keeps) :
    Quiet s0 (s.modStream k f) := h.trans (quiet_modAt _ _ _ (hf _))

theorem Quiet.resetOnRecvStreamErr {s0 s : Streams} (h : Quiet s0 s) (id : Nat) (res : Except PErr Unit) :
    Quiet s0 (s.resetOnRecvStreamErr id res).1 := .of_step (Streams.resetOnRecvStreamErr_step (by decide) s id res fun _ _ _ => rfl) h

theorem Quiet.transitionAfter {s0 s : Streams} (h : Quiet s0 s) (id : Nat) (b : Bool) : Quiet s0 (s.transitionAfter id b) :=
  .of_step (Streams.transitionAfter_step (by decide) s id b) h

theorem Quiet.transition {s0 s : Streams} {α : Type} (id : Nat) (f : Streams → Streams × α)
    (hf : Quiet s0 (f s).1) : Quiet s0 (s.transition id f).1 := by
  unfold Streams.transition
  exact hf.transitionAfter _ _

theorem Quiet.handleError {s0 s : Streams} (h : Quiet s0 s) (e : PErr) : Quiet s0 (s.handleError e).1 :=
  .of_step (Streams.handleError_step (by decide) s e) h

theorem Quiet.modSend {s0 s : Streams} (h : Quiet s0 s) (f : Send → Send) : Quiet s0 (s.modSend f) := h.out rfl
theorem Quiet.qPushFront {s0 s : Streams} (h : Quiet s0 s) (q : QName) (id : Nat) : Quiet s0 (s.qPushFront q id).1 :=
  .of_step (.qPushFront s q id rfl) h
theorem Quiet.incNumSendStreams {s0 s : Streams} (h : Quiet s0 s) (id : Nat) : Quiet s0 (s.incNumSendStreams id) :=
  .of_step (.incNumSendStreams s id rfl) h

theorem Still.refl (s : Streams) : Still s s := fun _ st' h => ⟨st', h, rfl⟩
theorem Still.trans {a b c : Streams} (h1 : Still a b) (h2 : Still b c) : Still a c := fun k st'' h =>
  have ⟨st', g', e'⟩ := h2 k st'' h
  have ⟨st, g, e⟩ := h1 k st' g'
  ⟨st, g, e'.trans e⟩

def kindsStill : Kind → Bool
  | .state _ | .insert => false
  | _ => true

theorem still_respects : Respects kindsStill fun x y => y.state = x.state where
  refl _ := rfl
  trans h1 h2 := h2.trans h1
  upd x y u := by
    cases u
    case state t | reserved t _ => exact t.kind.elim fun _ hk => nomatch hk
    case sendData => rw [Stream.sendData_fst]; split <;> rfl
    case decContentLength _ hd => obtain ⟨_, rfl⟩ := Stream.decContentLength_eq hd; rfl
    all_goals rfl
  updW x p u := by
    cases u
    case notifySend => rw [Stream.notifySend_fst]
    case notifyRecv => rw [Stream.notifyRecv_fst]
    case notifyPush => rw [Stream.notifyPush_fst]
    case notifyCapacity => rw [Stream.notifyCapacity_fst]
    case assignCapacity => rw [Stream.assignCapacity_fst]; split <;> rfl
    case setReset t => exact t.kind.elim fun _ hk => nomatch hk
  queued x q v := by cases q <;> rfl
  counted _ _ := rfl

theorem Still.of_step {s0 s s' : Streams} (t : Streams.Step kindsStill s s') (h : Still s0 s) : Still s0 s' :=
  h.trans (entries_of_step still_respects rfl t)

/-- `send_reset` behind `set_reset` is bookkeeping -/
theorem Still.sendSendReset {s0 s : Streams} (id : Nat) (r : Reason) (i : Initiator) (hr : (s.stream id).state.isReset = false)
    (h1 : Still s0 (s.modStreamW id fun st => st.setReset r i)) : Still s0 (s.sendSendReset id r i) := by
  rw [Streams.sendSendReset_eq, hr, if_neg Bool.false_ne_true]
  exact rel_ite (fun _ => h1) fun _ => (.of_step (Streams.reclaimAllCapacity_step (by decide) _ _)
    (.of_step (Streams.queueFrame_step (of_decide_eq_true rfl) _ _)
      (rel_ite (fun _ => .of_step (Streams.keepOnlyHead_step (by decide) _ _) h1) fun _ =>
        (.of_step (Streams.clearQueue_step (by decide) _ _) h1))))

theorem Still.unsup {s0 s : Streams} (h : Still s0 s) (m : String) : Still s0 (s.unsup m) := .of_step (.unsup s m) h
theorem Still.wake {s0 s : Streams} (h : Still s0 s) (t : List String) : Still s0 (s.wake t) := .of_step (.wake s t) h
theorem Still.modSend {s0 s : Streams} (h : Still s0 s) (f : Send → Send) : Still s0 (s.modSend f) :=
  h.trans fun _ st' g => ⟨st', g, rfl⟩
theorem Still.modRecv {s0 s : Streams} (h : Still s0 s) (f : Recv → Recv) : Still s0 (s.modRecv f) :=
  h.trans fun _ st' g => ⟨st', g, rfl⟩
theorem Still.qPushFront {s0 s : Streams} (h : Still s0 s) (q : QName) (id : Nat) : Still s0 (s.qPushFront q id).1 :=
  .of_step (.qPushFront s q id rfl) h
theorem Still.mw_notifySend {s0 s : Streams} (h : Still s0 s) (k : Nat) : Still s0 (s.modStreamW k Stream.notifySend) :=
  .of_step (.modStreamW s k _ .notifySend) h
theorem Still.mw_notifyPush {s0 s : Streams} (h : Still s0 s) (k : Nat) : Still s0 (s.modStreamW k Stream.notifyPush) :=
  .of_step (.modStreamW s k _ .notifyPush) h
theorem Still.incNumRecvStreams {s0 s : Streams} (h : Still s0 s) (id : Nat) : Still s0 (s.incNumRecvStreams id) :=
  .of_step (.incNumRecvStreams s id rfl) h
theorem Still.incNumSendStreams {s0 s : Streams} (h : Still s0 s) (id : Nat) : Still s0 (s.incNumSendStreams id) :=
  .of_step (.incNumSendStreams s id rfl) h
theorem Still.queueOpen {s0 s : Streams} (h : Still s0 s) (id : Nat) : Still s0 (s.queueOpen id) :=
  .of_step (Streams.queueOpen_step (by decide) s id) h
theorem Still.reclaimReservedCapacity {s0 s : Streams} (h : Still s0 s) (id : Nat) :
    Still s0 (s.reclaimReservedCapacity id) := .of_step (Streams.reclaimReservedCapacity_step (by decide) s id) h

end H2V.Lemmas.ConnHttpP
