import H2V.Lemmas.ConnStepLoops
/-
  `Inner::recv_data`, walked once over the stages of `ConnStages` (the way `ConnHeadersRule` walks `Inner::recv_headers`):
  `DataBodyRule` for the closure handed to `counts.transition`, `DataRule` for the function; the stream errors of
  `Recv::recv_data` are library errors.  `recvData_rel`: the function for a relation, by the step layer.
-/
namespace H2V.Model.Conn
open H2V H2V.Model

namespace Streams

theorem libErr_ok (u : Unit) : LibErr (.ok u) := fun _ _ e => by cases e

theorem libErr_of_eq {p : Streams × Except PErr Unit} {s : Streams} {e : PErr} (h : LibErr p.2) (heq : p = (s, .error e)) :
    LibErr (.error e) := by subst heq; exact h

theorem consumeConnectionWindow_libErr (s : Streams) (sz : Nat) : LibErr (s.consumeConnectionWindow sz).2 := by
  unfold consumeConnectionWindow
  repeat' split
  all_goals first | exact libErr_goAway _ _ _ | exact libErr_ok _

theorem ignoreData_libErr (s : Streams) (sz : Nat) : LibErr (s.ignoreData sz).2 := by
  unfold ignoreData
  split
  · next heq => exact libErr_of_eq (consumeConnectionWindow_libErr _ _) heq
  · exact libErr_ok _

theorem recvDataEos_libErr (s : Streams) (k : Nat) (eos : Bool) {e : PErr} (he : (s.recvDataEos k eos).2 = some e) :
    LibErr (.error e) := by
  unfold recvDataEos at he
  repeat' split at he
  all_goals first | (cases he; first | exact libErr_library _ _ | exact libErr_goAway _ _ _) | cases he

theorem recvDataDeliver_libErr (s : Streams) (k : Nat) (payload : Bytes) (eos : Bool) (flowLen sz : Nat) :
    LibErr (s.recvDataDeliver k payload eos flowLen sz).2 := by
  unfold recvDataDeliver
  repeat' split
  all_goals first | exact libErr_goAway _ _ _ | exact libErr_ok _

theorem recvDataTail_libErr (s : Streams) (k : Nat) (payload : Bytes) (eos : Bool) (sz flowLen : Nat) :
    LibErr (s.recvDataTail k payload eos sz flowLen).2 := by
  unfold recvDataTail
  split
  · next heq => exact recvDataEos_libErr _ k eos (by rw [heq])
  · exact recvDataDeliver_libErr _ _ _ _ _ _

theorem recvDataCore_libErr (s : Streams) (k : Nat) (payload : Bytes) (eos : Bool) (flowLen : Nat) :
    LibErr (s.recvDataCore k payload eos flowLen).2 := by
  unfold recvDataCore
  dsimp only
  split
  · exact libErr_goAway _ _ _
  split
  · exact ignoreData_libErr _ _
  split
  · next heq => exact libErr_of_eq (consumeConnectionWindow_libErr _ _) heq
  · split
    · exact libErr_library _ _
    · split
      · exact libErr_library _ _
      · exact recvDataTail_libErr _ _ _ _ _ _

theorem recvRecvData_libErr (s : Streams) (k : Nat) (payload : Bytes) (eos : Bool) (padLen : Option Nat) :
    LibErr (s.recvRecvData k payload eos padLen).2 := by
  rw [recvRecvData_eq]; exact recvDataCore_libErr _ _ _ _ _

/-- `Recv::recv_data` up to `dec_content_length`: from a state `t` that `s` reaches by a step on the connection's receive
    window alone, it is an error, the frame of an ignored stream dropped, or the stage `recvDataTail` -/
theorem recvRecvData_cases {K : Kind → Bool} (hK : Kind.Has K [.connRecvFlow, .connTask]) (s : Streams) (id : Nat)
    (payload : Bytes) (eos : Bool) (padLen : Option Nat) :
    ∃ t, Streams.Step K s t ∧
      ((∃ e, s.recvRecvData id payload eos padLen = (t, .error e)) ∨
       ((s.stream id).state.isLocalError = true ∧ ∃ r, s.recvRecvData id payload eos padLen = (t, r)) ∨
       (∃ st1 sz flowLen, (t.stream id).decContentLength payload.length = some st1 ∧
          s.recvRecvData id payload eos padLen = Streams.recvDataTail (t.setStream st1) id payload eos sz flowLen)) := by
  rw [recvRecvData_eq]
  unfold recvDataCore
  generalize dataFlowLen payload padLen = flowLen
  have h0 : Streams.Step K s (if flowLen > Generated.Consts.MAX_WINDOW_SIZE
      then s.panic "assertion failed: sz <= MAX_WINDOW_SIZE" else s) := .ite (.panic _ _) (.refl _)
  have e0 : (if flowLen > Generated.Consts.MAX_WINDOW_SIZE
      then s.panic "assertion failed: sz <= MAX_WINDOW_SIZE" else s).store.slab = s.store.slab :=
    congrArg Store.slab (Streams.ite_panic_store' _ _ _)
  generalize (if flowLen > Generated.Consts.MAX_WINDOW_SIZE
      then s.panic "assertion failed: sz <= MAX_WINDOW_SIZE" else s) = s0 at h0 e0 ⊢
  dsimp only
  generalize usizeAsU32 flowLen = sz
  rw [Streams.stream_congr_slab e0]
  split
  · exact ⟨s0, h0, .inl ⟨_, rfl⟩⟩
  · split
    · rename_i hl
      exact ⟨_, h0.trans (Streams.ignoreData_step hK s0 sz), .inr (.inl ⟨hl, _, rfl⟩)⟩
    · have h1 := h0.trans (Streams.consumeConnectionWindow_step (hK.mono (of_decide_eq_true rfl)) s0 sz)
      generalize s0.consumeConnectionWindow sz = r1 at h1 ⊢
      obtain ⟨s1, res1⟩ := r1
      cases res1 with
      | error e => exact ⟨s1, h1, .inl ⟨_, rfl⟩⟩
      | ok u =>
        simp only at h1 ⊢
        split
        · exact ⟨s1, h1, .inl ⟨_, rfl⟩⟩
        · split
          · exact ⟨s1, h1, .inl ⟨_, rfl⟩⟩
          · rename_i st1 hd
            exact ⟨s1, h1, .inr (.inr ⟨st1, sz, flowLen, hd, rfl⟩)⟩

/-- **The closure `Inner::recv_data` hands to `counts.transition`, for entry `k`.**  `I` holds when it starts, `I'` from
    `Recv::recv_data` on (a fact about what that one call did need not survive a second one), `Q` is claimed of the
    state the closure returns.  One field per thing the closure does: `Recv::recv_data` (`data`), counting the frame
    (`count`), giving the window back on a stream error (`release`); and per way it ends: without a stream error
    (`done`), with `reset_on_recv_stream_err` on a library error (`rst`). -/
structure DataBodyRule (k : Nat) (payload : Bytes) (eos : Bool) (padLen : Option Nat) (I I' Q : Streams → Prop) : Prop where
  data : ∀ s, I s → I' (s.recvRecvData k payload eos padLen).1
  count : ∀ s, I' s → I' { s with counts := (s.counts.recordDataFrame payload.length).1 }
  release : ∀ s sz, I' s → I' (s.releaseConnectionCapacity sz false)
  done : ∀ s, I' s → Q s
  rst : ∀ s e, I' s → LibErr (.error e) → Q (s.resetOnRecvStreamErr k (.error e)).1

theorem DataBodyRule.run {k : Nat} {payload : Bytes} {eos : Bool} {padLen : Option Nat} {I I' Q : Streams → Prop}
    (r : DataBodyRule k payload eos padLen I I' Q) (s : Streams) (hi : I s) : Q (s.recvDataBody k payload eos padLen).1 := by
  unfold recvDataBody
  have h1 := r.data s hi
  have hlib := recvRecvData_libErr s k payload eos padLen
  generalize s.recvRecvData k payload eos padLen = p at h1 hlib
  obtain ⟨s1, res⟩ := p
  cases res with
  | ok u =>
    cases eos
    · have hc := r.count s1 h1
      cases hok : (s1.counts.recordDataFrame payload.length).2
      · simp only [hok, Bool.not_false, if_true, Bool.false_eq_true, if_false]
        exact r.done _ hc
      · simp only [hok, Bool.not_false, if_true]
        exact r.done _ hc
    · simp only [Bool.not_true, Bool.false_eq_true, if_false]
      exact r.done _ h1
  | error e =>
    simp only []
    refine r.rst _ e ?_ hlib
    split
    · exact r.release _ _ h1
    · exact h1

/-- **`Inner::recv_data`, from the state `s0`.**  `I` holds from the entry on; `L k s`: what is known of the entry the frame
    is for.  A frame for an unknown id is ignored (`ignore`: `Recv::ignore_data`); otherwise the closure (`body`: a
    `DataBodyRule`) and `transition_after` (`ta`). -/
structure DataRule (id : Nat) (payload : Bytes) (eos : Bool) (padLen : Option Nat) (s0 : Streams) (I : Streams → Prop)
    (L : Nat → Streams → Prop) : Prop where
  pre : I s0
  found : ∀ k, s0.store.findKey? id = some k → L k s0
  ignore : ∀ sz, I (s0.ignoreData sz).1
  body : ∀ s k, I s → L k s → I (s.recvDataBody k payload eos padLen).1
  ta : ∀ s k b, I s → I (s.transitionAfter k b)

theorem DataRule.run {id : Nat} {payload : Bytes} {eos : Bool} {padLen : Option Nat} {s : Streams} {I : Streams → Prop}
    {L : Nat → Streams → Prop} (r : DataRule id payload eos padLen s I L) : I (s.recvData id payload eos padLen).1 := by
  rw [recvData_eq]
  cases hfk : s.store.findKey? id with
  | none =>
    have hig := r.ignore (usizeAsU32 (dataFlowLen payload padLen))
    dsimp only
    generalize s.ignoreData (usizeAsU32 (dataFlowLen payload padLen)) = p at hig
    obtain ⟨s1, res⟩ := p
    split
    · cases res <;> exact hig
    · split
      · cases res <;> exact hig
      · exact r.pre
  | some k => exact transition_inv (r.body s k r.pre (r.found k hfk)) (r.ta · k ·)

/-- **`Inner::recv_data` for a relation** that has the steps of the footprint and the reset of the stream
    (`reset_on_recv_stream_err` queues a frame and clears the send side, which few relations have without a fact) -/
theorem recvData_rel {R : Streams → Streams → Prop} (ok : RelOK R) {K : Kind → Bool}
    (hK : Kind.Has K [.release, .unlink, .enqueue .pendingWindowUpdates, .counterUp .dataFrames, .counterDown .localReset,
      .state .recvClose, .appendRecv, .recvFlow, .connRecvFlow, .contentLength, .connTask])
    (of : ∀ {s s'}, Step K s s' → R s s') (hrst : ∀ s k e, R s (s.resetOnRecvStreamErr k (.error e)).1)
    (s : Streams) (id : Nat) (payload : Bytes) (eos : Bool) (padLen : Option Nat) : R s (s.recvData id payload eos padLen).1 :=
  DataRule.run (I := R s) (L := fun _ _ => True)
    { pre := ok.refl s
      found := fun _ _ => trivial
      ignore := fun sz => of (ignoreData_step (hK.mono (of_decide_eq_true rfl)) s sz)
      body := fun t k ht _ => DataBodyRule.run (I := R s) (I' := R s) (Q := R s)
        { data := fun t ht => ok.trans ht (of (recvRecvData_step (hK.mono (of_decide_eq_true rfl)) t k payload eos padLen))
          count := fun t ht => ok.trans ht (of (.setCounts t _ (.recordDataFrame _ _ (hK _ (of_decide_eq_true rfl)))))
          release := fun t sz ht => ok.trans ht (of (releaseConnectionCapacity_step (hK.mono (of_decide_eq_true rfl)) t sz false))
          done := fun _ ht => ht
          rst := fun t e ht _ => ok.trans ht (hrst t k e) } t ht
      ta := fun t k b ht => ok.trans ht (of (transitionAfter_step (hK.mono (of_decide_eq_true rfl)) t k b)) }

end Streams
end H2V.Model.Conn
