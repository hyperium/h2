import H2V.Lemmas.ConnDrainPPhi
import H2V.Lemmas.ConnWakePTear
/-
  ConnDrainP — `CoreFr`: the capacity machinery that runs inside `pop_frame`'s `continue`s
  (`reclaim_all_capacity` → `assign_connection_capacity` → `try_assign_capacity`, `transition_after` of a
  stream that is still sending) leaves every stream's queue, state and buffered count alone, and removes
  no slab entry.  The facts are ConnWakeP's frame relation `FS` (`ConnWakePTear.lean`: the capacity
  bookkeeping proved once for `Cap`) read through `Streams.stream`.
-/
namespace H2V.Lemmas.ConnDrainP
open H2V H2V.Model H2V.Model.Conn


/-- what `pop_frame` looks at in a stream to decide whether to go on -/
def core (x : Stream) : List SFrame × State × Nat := (x.pendingSend, x.state, x.bufferedSendData)

/-- every stream reads back with the same queue, state and buffered count -/
def CoreFr (s s' : Streams) : Prop := ∀ j, core (s'.stream j) = core (s.stream j)

theorem CoreFr.of_store {s s' : Streams} (h : s'.store = s.store) : CoreFr s s' := fun j => by
  rw [Streams.stream_congr_store h]
theorem CoreFr.modCountsA (s : Streams) (w : String) (f : Counts → Option Counts) : CoreFr s (s.modCountsA w f) :=
  .of_store (s.modCountsA_store w f)

/-- ConnWakeP's frame relation (`state`, `pending_send`, `buffered_send_data` of every entry kept, nothing
    removed) read through `Streams.stream` -/
theorem CoreFr.of_fs {s s' : Streams} (h : ConnWakeP.FS s s') : CoreFr s s' := fun j => by
  cases h1 : s.store.get? j with
  | none => simp [Streams.stream, h1, h.fresh j h1]
  | some a =>
    rcases h.keep j a h1 with ⟨f, _⟩ | ⟨b, hb, hab⟩
    · exact f.elim
    · simp [Streams.stream, h1, hb, core, hab.state, hab.buffered, hab.pendingSend]

theorem CoreFr.qPop (s : Streams) (q : QName) : CoreFr s (s.qPop q).1 := .of_fs (ConnWakeP.f_qPop q (.refl s))

theorem key_notifySend (x : Stream) : x.notifySend.1.key = x.key := by rw [Stream.notifySend_fst]

theorem key_assignCapacity (x : Stream) (a b : Nat) : (x.assignCapacity a b).1.key = x.key :=
  (ConnFlowP.assignCapacity_kf x a b).1

theorem CoreFr.reclaimAllCapacity (s : Streams) (k : Nat) : CoreFr s (s.reclaimAllCapacity k) :=
  .of_fs (ConnWakeP.f_reclaimAllCapacity k (.refl s))

end H2V.Lemmas.ConnDrainP
