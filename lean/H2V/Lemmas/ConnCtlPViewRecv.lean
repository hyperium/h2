import H2V.Lemmas.ConnStages
import H2V.Lemmas.ConnCtlPView
/-
  ConnCtlP, view lemmas — ConnRecv.lean (recv.rs): `recvRecvHeaders` writes `lpi`, only upwards, to the id of the frame.
-/
set_option autoImplicit false
namespace H2V.Lemmas.ConnCtlP
open H2V H2V.Model H2V.Model.Conn

@[simp, view_simp] theorem view_setTargetConnectionWindow (s : Streams) (n : Nat) :
    view (s.setTargetConnectionWindow n).1 = view s :=
  view_of_step (Streams.setTargetConnectionWindow_step (by decide) s n)

@[view_simp] theorem view_recvHeadersSt (s : Streams) (id : Nat) (st' : State) : view (s.recvHeadersSt id st') = view s :=
  view_modStream s id _

theorem view_recvHeadersCount (s : Streams) (id : Nat) (h : HeadersIn) (b : Bool) :
    ∃ l, view (s.recvHeadersCount id h b) = { view s with lpi := l } ∧
      (l = (view s).lpi ∨ (l = h.sid ∧ (view s).lpi < h.sid)) ∧
      (b = true → (s.stream id).isCounted = false → h.sid ≤ l) := by
  unfold Streams.recvHeadersCount
  by_cases hc : (b && !(s.stream id).isCounted) = true
  · rw [if_pos hc]
    dsimp only
    by_cases hgt : h.sid > s.recv.lastProcessedId
    · rw [if_pos hgt, view_incNumRecvStreams]
      exact ⟨h.sid, rfl, Or.inr ⟨rfl, hgt⟩, fun _ _ => Nat.le_refl _⟩
    · rw [if_neg hgt, view_incNumRecvStreams]
      exact ⟨(view s).lpi, rfl, Or.inl rfl, fun _ _ => Nat.le_of_not_gt hgt⟩
  · rw [if_neg hc]
    refine ⟨(view s).lpi, rfl, Or.inl rfl, fun hb hcn => ?_⟩
    simp [hb, hcn] at hc

/-- **`Recv::recv_headers`** writes nothing of the view but `last_processed_id`, which it can only
    raise, and only to the stream id of the frame; an initial HEADERS on a stream that is not counted
    yet (a fresh entry) leaves it at or above that id -/
theorem view_recvRecvHeaders (s : Streams) (id : Nat) (h : HeadersIn) :
    ∃ l, view (s.recvRecvHeaders id h).1 = { view s with lpi := l } ∧
      (l = (view s).lpi ∨ (l = h.sid ∧ (view s).lpi < h.sid)) ∧
      ((s.stream id).state.inner = .idle → (s.stream id).isCounted = false →
        (∀ e, (s.recvRecvHeaders id h).2 ≠ .state e) → h.sid ≤ l) := by
  rw [Streams.recvRecvHeaders_eq]
  rcases ho : (s.stream id).state.recvOpen h.eos h.isInformational with ⟨st', r⟩
  cases r with
  | error e => exact ⟨(view s).lpi, rfl, Or.inl rfl, fun _ _ hne => absurd rfl (hne e)⟩
  | ok isInitial =>
    dsimp only
    obtain ⟨l, hl1, hl2, hl3⟩ := view_recvHeadersCount (s.recvHeadersSt id st') id h isInitial
    rw [view_recvHeadersSt] at hl1 hl2
    rcases hcl : ((s.recvHeadersSt id st').recvHeadersCount id h isInitial).recvHeadersCl id h with ⟨s2, r2⟩
    have hv2 : view s2 = { view s with lpi := l } := by
      rw [← hl1, ← view_of_step (Streams.recvHeadersCl_step (by decide) ((s.recvHeadersSt id st').recvHeadersCount id h isInitial) id h), hcl]
    have hinit : (s.stream id).state.inner = .idle → isInitial = true := by
      intro hi
      unfold State.recvOpen at ho
      rw [hi] at ho
      simp at ho
      exact ho.2
    have hcnt : ((s.recvHeadersSt id st').stream id).isCounted = (s.stream id).isCounted := by
      unfold Streams.recvHeadersSt
      rw [Streams.stream_modStream s id (fun st => { st with state := st' }) (fun _ => rfl)]; split <;> rfl
    split
    · -- the concurrency limit was reached while the stream was only reserved: REFUSED_STREAM
      exact ⟨(view s).lpi, by rw [view_recvHeadersSt], Or.inl rfl, fun _ _ hne => absurd rfl (hne _)⟩
    · cases r2 with
      | some e =>
        refine ⟨l, hv2, hl2, fun _ _ hne => absurd rfl (hne e)⟩
      | none =>
        dsimp only
        refine ⟨l, by rw [view_of_step (Streams.recvHeadersQueue_step (by decide) ..), hv2], hl2, fun hi hc _ => hl3 (hinit hi) (by rw [hcnt]; exact hc)⟩

end H2V.Lemmas.ConnCtlP
