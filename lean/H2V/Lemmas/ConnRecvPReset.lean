import H2V.Lemmas.ConnRecvPStreams
import H2V.Lemmas.ConnRecvPFlow
/-
  C03: `Inner::send_reset(id, reason)` (`DynStreams::send_reset`, called by
  `handle_poll2_result` for a stream error that travelled up).  For an id the store does not know it
  inserts `Stream::new(id, 0, 0)` — receive window 0 whatever SETTINGS_INITIAL_WINDOW_SIZE is — and
  resets it at once.  The connection-level invariant is not concerned; the stream-level invariant
  holds again once the new entry is closed, i.e. when the call succeeds (it fails only when the
  limit of locally reset streams is exhausted: GOAWAY ENHANCE_YOUR_CALM).
-/
namespace H2V.Lemmas.ConnRecvP
open H2V H2V.Model H2V.Model.Conn
open H2V.Model.Conn.Streams
open H2V.Lemmas.Comp
attribute [local irreducible] wrapSubU32 wrapSubUsize

theorem Ext.closed_of_get? {s s' : Streams} (hk : KeysOK s.store) (e : Ext s s') {k : Nat} {x x' : Stream}
    (hx : s.store.get? k = some x) (hc : x.state.isClosed = true) (hx' : s'.store.get? k = some x') :
    x'.state.isClosed = true := by
  rcases e.slab hk x' (Store.get?_mem hx') with ⟨y, hy, hs⟩ | hfr
  · have : y = x := Store.KeysNodup.eq_of_key_eq hk.nodup hy (Store.get?_mem hx) (by rw [← hs.key, Store.get?_key hx', Store.get?_key hx])
    subst this
    exact hs.closed hc
  · have h1 := hfr.key
    have h2 := hk.lt x (Store.get?_mem hx)
    rw [Store.get?_key hx'] at h1; rw [Store.get?_key hx] at h2; omega

theorem isClosed_of_isReset {st : State} (h : st.isReset = true) : st.isClosed = true := by
  obtain ⟨inner⟩ := st
  cases inner <;> simp [State.isReset, State.isClosed] at h ⊢

theorem sendSendReset_closed (s : Streams) (k : Nat) (r : Reason) (i : Initiator) (hk : KeysOK s.store)
    {x : Stream} (hx : s.store.get? k = some x) {x' : Stream}
    (hx' : (s.sendSendReset k r i).store.get? k = some x') : x'.state.isClosed = true := by
  unfold Streams.sendSendReset at hx'
  dsimp only at hx'
  split at hx'
  · next hr =>
    rw [hx] at hx'; cases hx'
    rw [Streams.stream_of_get? hx] at hr
    exact isClosed_of_isReset hr
  · -- `set_reset`, then steps that do not reopen anything
    have hg1 : (s.modStreamW k fun st => st.setReset r i).store.get? k = some (x.setReset r i).1 := by
      rw [Streams.modStreamW_get? _ _ _ (fun y => (setReset_same y r i).key), if_pos rfl, hx]; rfl
    have hc1 : (x.setReset r i).1.state.isClosed = true := by rw [Stream.setReset_fst]; rfl
    have hk1 : KeysOK (s.modStreamW k fun st => st.setReset r i).store :=
      (modStreamW_ext s k _ fun y _ => setReset_same y r i).keys hk
    generalize (s.modStreamW k fun st => st.setReset r i) = s1 at hx' hg1 hk1
    split at hx'
    · rw [hg1] at hx'; cases hx'; exact hc1
    · refine Ext.closed_of_get? hk1 ?_ hg1 hc1 hx'
      ext_auto

/-- `Inv.of_ext` with one entry (key `k`) that is not covered by the invariant before — it has the
    zero window of `Stream::new(id, 0, 0)` — but is closed afterwards -/
theorem Inv.of_ext_exempt {full : Bool} {g : Ghost} {s s' : Streams} (k : Nat) (hbase : Inv false g s)
    (hstreams : full = true → ∀ x ∈ s.store.slab, x.key ≠ k → StreamOK s g x)
    (hz : ∀ x ∈ s.store.slab, x.key = k → x.recvFlow = ⟨⟨0⟩, ⟨0⟩⟩ ∧ x.inFlightRecvData = 0)
    (e : Ext s s') (hcl : ∀ x' ∈ s'.store.slab, x'.key = k → x'.state.isClosed = true) : Inv full g s' := by
  have hb' := hbase.of_ext e
  refine { hb' with streams := fun hf x' hx' => ?_ }
  rcases e.slab hbase.keys x' hx' with ⟨y, hy, hs⟩ | hfr
  · by_cases hyk : y.key = k
    · have hzz := hz y hy hyk
      have hc := hcl x' hx' (by rw [hs.key]; exact hyk)
      refine ⟨?_, ?_, ?_, .inl hc, fun _ => .inl hc⟩
      · rw [hs.flow, hzz.1]; decide
      · rw [hs.flow, hzz.1]; decide
      · rw [hs.flow, hzz.1]; exact Int.le_refl _
    · exact (hstreams hf y hy hyk).of_sameR hbase.keys e hy hs
  · exact StreamOK.of_fresh e hfr hbase.initHi hbase.initMax

theorem Ext.closed_of_mem {s s' : Streams} (hk : KeysOK s.store) (e : Ext s s') {k : Nat}
    (hc : ∀ y, s.store.get? k = some y → y.state.isClosed = true) (hlt : k < s.store.nextKey)
    {x' : Stream} (hx' : x' ∈ s'.store.slab) (hkx : x'.key = k) : x'.state.isClosed = true := by
  rcases e.slab hk x' hx' with ⟨y, hy, hs⟩ | hfr
  · have hg := Store.get?_of_mem hk.nodup hy
    rw [← hs.key, hkx] at hg
    exact hs.closed (hc y hg)
  · have h1 := hfr.key
    rw [hkx] at h1; omega

/-- the same without knowing that the key is an old one: an entry created on the way has nothing in
    flight -/
theorem Ext.closed_or_empty_of_mem {s s' : Streams} (hk : KeysOK s.store) (e : Ext s s') {k : Nat}
    (hc : ∀ y, s.store.get? k = some y → y.state.isClosed = true)
    {x' : Stream} (hx' : x' ∈ s'.store.slab) (hkx : x'.key = k) :
    x'.state.isClosed = true ∨ x'.inFlightRecvData = 0 := by
  rcases e.slab hk x' hx' with ⟨y, hy, hs⟩ | hfr
  · have hg := Store.get?_of_mem hk.nodup hy
    rw [← hs.key, hkx] at hg
    exact .inl (hs.closed (hc y hg))
  · exact .inr hfr.infl

theorem actionsSendReset_ok_closed (s : Streams) (k : Nat) (r : Reason) (i : Initiator) (hk : KeysOK s.store)
    (hlt : k < s.store.nextKey) (hok : (s.actionsSendReset k r i).2 = .ok ())
    {x' : Stream} (hx' : x' ∈ (s.actionsSendReset k r i).1.store.slab) (hkx : x'.key = k) :
    x'.state.isClosed = true := by
  unfold Streams.actionsSendReset Streams.transition at hok hx'
  dsimp only at hok hx'
  -- the counter check leaves the store alone
  generalize hp : (if i.isLibrary = true then _ else (s, true) : Streams × Bool) = pre at hok hx'
  have hst : pre.1.store = s.store := by
    rw [← hp]
    split
    · split
      · exact Streams.modCountsA_store _ _ _
      · rfl
    · rfl
  obtain ⟨s1, b⟩ := pre
  cases b with
  | false => cases hok
  | true =>
    dsimp only at hx' hst
    have hk1 : KeysOK s1.store := by rw [hst]; exact hk
    have e1 : Ext s1 (s1.sendSendReset k r i) := .of_step (sendSendReset_step (by decide) s1 k r i fun _ => rfl)
    have hk2 : KeysOK (s1.sendSendReset k r i).store := e1.keys hk1
    have hlt2 : k < (s1.sendSendReset k r i).store.nextKey :=
      Nat.lt_of_lt_of_le (by rw [hst]; exact hlt) e1.nk
    have e : Ext (s1.sendSendReset k r i)
        ((((s1.sendSendReset k r i).enqueueResetExpiration k).modStreamW k Stream.notifyRecv).transitionAfter k
          (s.stream k).isPendingResetExpiration) :=
      ((Ext.of_step (enqueueResetExpiration_step (by decide) _ _)).trans (modStreamW_ext _ _ _ (fun _ _ => .of_updW .notifyRecv))).trans
        (transitionAfter_ext _ _ _)
    refine Ext.closed_of_mem hk2 e (k := k) ?_ hlt2 hx' hkx
    intro y hy
    cases hg : s1.store.get? k with
    | none =>
      -- no entry before: none after (no fresh key below `nextKey`)
      exfalso
      rcases e1.slab hk1 y (Store.get?_mem hy) with ⟨z, hz, hs⟩ | hfr
      · have := Store.get?_of_mem hk1.nodup hz
        rw [← hs.key, Store.get?_key hy, hg] at this; cases this
      · have := hfr.key
        rw [Store.get?_key hy, hst] at this; omega
    | some x => exact sendSendReset_closed s1 k r i hk1 hg hy

theorem Inv.false_insert {g : Ghost} {s : Streams} (h : Inv false g s) (x : Stream) (hi : x.inFlightRecvData = 0) :
    Inv false g { s with store := (s.store.insert x).1 } :=
  ⟨insert_keysOK _ _ h.keys, h.wI32, h.aI32, h.cons, h.w0, h.wI, h.tHi, h.hiMax,
   by have e : sumInfl (s.store.insert x).1.slab = sumInfl s.store.slab := by simp [Store.insert, hi]
      rw [e]; exact h.sum,
   h.initHi, h.initMax, fun hc => by cases hc⟩

theorem insert_link (st : Store) (x : Stream) (q : Nat) (hq : q ∈ (st.insert x).1.ids.map (·.2)) :
    q ∈ st.ids.map (·.2) ∨ q = st.nextKey := by
  simp only [Store.insert] at hq
  split at hq
  · obtain ⟨p, hp, rfl⟩ := List.mem_map.1 hq
    obtain ⟨p0, hp0, rfl⟩ := List.mem_map.1 hp
    split
    · exact .inr rfl
    · exact .inl (List.mem_map_of_mem hp0)
  · simp only [List.map_append, List.map_cons, List.map_nil, List.mem_append, List.mem_singleton] at hq
    rcases hq with hq | rfl
    · exact .inl hq
    · exact .inr rfl

theorem innerSendReset_inv {full : Bool} {g : Ghost} {s : Streams} (h : Inv full g s) (id : Nat) (r : Reason) :
    Inv false g (s.innerSendReset id r).1 ∧
    ((s.innerSendReset id r).2 = .ok () → Inv full g (s.innerSendReset id r).1) := by
  unfold Streams.innerSendReset
  cases hfk : s.store.findKey? id with
  | some k =>
    dsimp only
    have := h.of_ext (.of_step (actionsSendReset_step (by decide) s k r .library))
    exact ⟨this.drop_full, fun _ => this⟩
  | none =>
    dsimp only
    generalize hs0 : (if s.counts.isLocalInit id = true then _ else s.recvMaybeResetNextStreamId id) = s0
    have h0 : Inv full g s0 := by rw [← hs0]; inv_auto
    -- the new entry: key `nextKey`, window 0
    have hbase : Inv false g { s0 with store := (s0.store.insert (Stream.new id 0 0)).1 } :=
      Inv.false_insert h0.drop_full _ rfl
    have hslab : ∀ y ∈ ({ s0 with store := (s0.store.insert (Stream.new id 0 0)).1 } : Streams).store.slab,
        (y ∈ s0.store.slab ∧ y.key ≠ s0.store.nextKey) ∨
        (y = { Stream.new id 0 0 with key := s0.store.nextKey }) := by
      intro y hy
      have hy' : y ∈ s0.store.slab ++ [{ Stream.new id 0 0 with key := s0.store.nextKey }] := hy
      rcases List.mem_append.1 hy' with hy' | hy'
      · left; exact ⟨hy', by have := h0.keys.lt y hy'; omega⟩
      · right; simpa using hy'
    have hstreams : full = true → ∀ y ∈ ({ s0 with store := (s0.store.insert (Stream.new id 0 0)).1 } : Streams).store.slab,
        y.key ≠ s0.store.nextKey → StreamOK { s0 with store := (s0.store.insert (Stream.new id 0 0)).1 } g y := by
      intro hf y hy hne
      rcases hslab y hy with ⟨hy0, -⟩ | rfl
      · have ok := h0.streams hf y hy0
        refine ⟨ok.wI32, ok.aI32, ok.wa, ok.live, fun hl => ?_⟩
        apply ok.bud
        rcases insert_link _ _ _ hl with hl' | hl'
        · exact hl'
        · exact absurd hl' hne
      · exact absurd rfl hne
    have hz : ∀ y ∈ ({ s0 with store := (s0.store.insert (Stream.new id 0 0)).1 } : Streams).store.slab,
        y.key = s0.store.nextKey → y.recvFlow = ⟨⟨0⟩, ⟨0⟩⟩ ∧ y.inFlightRecvData = 0 := by
      intro y hy hk
      rcases hslab y hy with ⟨-, hne⟩ | rfl
      · exact absurd hk hne
      · exact ⟨newRecvFlow_zero, rfl⟩
    have e := Ext.of_step (actionsSendReset_step (by decide) { s0 with store := (s0.store.insert (Stream.new id 0 0)).1 } s0.store.nextKey r .library)
    refine ⟨hbase.of_ext e, fun hok => ?_⟩
    refine Inv.of_ext_exempt s0.store.nextKey hbase hstreams hz e fun x' hx' hkx => ?_
    exact actionsSendReset_ok_closed _ _ r .library hbase.keys (by show s0.store.nextKey < s0.store.nextKey + 1; omega)
      hok hx' hkx

end H2V.Lemmas.ConnRecvP
