import H2V.Lemmas.ConnResetPHist
import H2V.Lemmas.ConnCtlPGoAwayHist
import H2V.Lemmas.ConnNoPanicPReach
import H2V.Lemmas.ConnFlowPWire
/-
  C08 (no panic) — connection layer: histories with per-call guarantees.
  `Hist P s t`: `t` is reached from `s` by a sequence of stream-layer operations (`ConnResetP.Op`), the
  operation `op` applied in state `u` satisfying `P u op`.  `ConnP`: what the connection layer
  (ConnProto.lean) guarantees at each of its calls into `streams`.  `HistX P X`: the same, but the
  connection layer may also record a panic of its own (`Conn.panic m`, `X m`).
  `ConnOK`: the connection invariant under which the guarantees hold (ConnCtlP's GOAWAY invariant, the
  shutdown-PING invariant `PingInv`, the length-delimited decoder's `RdOK`).
-/
namespace H2V.Lemmas.ConnNoPanicP
open H2V H2V.Model H2V.Model.Conn
open H2V.Lemmas.ConnResetP (Op run)
open H2V.Lemmas.ConnCtlP (GoAwayInv Keep15 Step15 GaLe gaLast view)

inductive Hist (P : Streams → Op → Prop) : Streams → Streams → Prop
  | refl (s : Streams) : Hist P s s
  | step {s t : Streams} (op : Op) : Hist P s t → P t op → Hist P s (op.apply t)

theorem Hist.trans {P : Streams → Op → Prop} {a b c : Streams} (h1 : Hist P a b) (h2 : Hist P b c) : Hist P a c := by
  induction h2 with
  | refl => exact h1
  | step op _ hp ih => exact .step op ih hp

theorem Hist.mono {P Q : Streams → Op → Prop} (hpq : ∀ s op, P s op → Q s op) {a b : Streams} (h : Hist P a b) :
    Hist Q a b := by
  induction h with
  | refl => exact .refl _
  | step op _ hp ih => exact .step op ih (hpq _ _ hp)

theorem Hist.of_eq {P : Streams → Op → Prop} {s t : Streams} (h : t = s) : Hist P s t := by subst h; exact .refl _

theorem Hist.one {P : Streams → Op → Prop} {s : Streams} (op : Op) (hp : P s op) : Hist P s (op.apply s) :=
  .step op (.refl s) hp

/-- one operation, the result given up to an equation (`rfl` in all uses) -/
theorem Hist.one' {P : Streams → Op → Prop} {s t : Streams} (op : Op) (hp : P s op) (e : t = op.apply s) : Hist P s t := by
  subst e; exact Hist.one op hp

theorem Hist.snoc {P : Streams → Op → Prop} {a b c : Streams} (h : Hist P a b) (op : Op) (hp : P b op)
    (e : c = op.apply b) : Hist P a c := by subst e; exact .step op h hp

theorem Hist.run {P : Streams → Op → Prop} {s t : Streams} (h : Hist P s t) : ∃ ops, t = run s ops := by
  induction h with
  | refl => exact ⟨[], rfl⟩
  | step op _ _ ih =>
    obtain ⟨ops, e⟩ := ih
    exact ⟨ops ++ [op], by rw [e]; unfold ConnResetP.run; rw [List.foldl_append]; rfl⟩

theorem Hist.inv {P : Streams → Op → Prop} {I : Streams → Prop} (hI : ∀ s op, I s → P s op → I (op.apply s))
    {a b : Streams} (h : Hist P a b) (ha : I a) : I b := by
  induction h with
  | refl => exact ha
  | step op _ hp ih => exact hI _ op ih hp

/-- what the length-delimited decoder guarantees about a frame it hands to `recv_frame` -/
def WireOK : Frame.Frame → Prop
  | .windowUpdate _ inc => inc ≤ 2147483647
  | .data _ payload _ pad => FrameLenOK payload pad
  | .settings _ vals => ConnFlowP.SettingsOk vals
  | _ => True

/-- **the guarantees of the connection layer** at each call it makes on `streams`; `False` = the connection
    layer (ConnProto.lean) never makes this call.  `handle_error` is never given a reset of the peer (the connection
    passes GOAWAYs — library, remote, user — and I/O errors only). -/
def ConnP (s : Streams) : Op → Prop
  | .recvHeaders _ => s.recv.refused = none
  | .recvPushPromise _ _ => s.recv.refused = none
  | .recvGoAway l => s.recv.maxStreamId ≥ l
  | .recvData _ p _ pad => FrameLenOK p pad
  | .recvWindowUpdate _ inc => inc ≤ 2147483647
  | .recvEof b => b = false
  | .recvReset _ _ => True
  | .handleError e => ∀ id r, e ≠ .reset id r .remote
  | .recvGoAwayFrame _ _ _ => True
  | .innerSendReset _ _ => True
  | .setTargetConnectionWindow t => t ≤ 2147483647
  | .applyRemoteSettings vals _ => ConnFlowP.SettingsOk vals
  | .applyLocalSettingsFrame _ => True
  | .pollComplete _ _ _ _ => True
  | .pollSendPendingRefusal _ _ _ _ => True
  | .clearExpiredResetStreams _ => True
  | .wake _ => True
  | .cloneHandle => True
  | _ => False

def withPanic (P : Streams → Op → Prop) (X : String → Prop) (s : Streams) : Op → Prop
  | .panic m => X m
  | op => P s op

/-- histories in which the connection layer may record its own panics `X` -/
abbrev HistX (P : Streams → Op → Prop) (X : String → Prop) : Streams → Streams → Prop := Hist (withPanic P X)

/-- the two fuel markers of the model (`poll2Loop`, `protoPoll`): not part of the real code -/
def FuelMsg (m : String) : Prop := m = "model: poll2 out of fuel" ∨ m = "model: poll out of fuel"

theorem withPanic.intro {P : Streams → Op → Prop} {X : String → Prop} (hP : ∀ s m, ¬ P s (.panic m)) (s : Streams) (op : Op)
    (h : P s op) : withPanic P X s op := by
  cases op <;> first | exact h | exact (hP _ _ h).elim

theorem withPanic.mono {P Q : Streams → Op → Prop} {X Y : String → Prop} (hpq : ∀ s op, P s op → Q s op) (hxy : ∀ m, X m → Y m)
    (s : Streams) (op : Op) (h : withPanic P X s op) : withPanic Q Y s op := by
  cases op <;> first | exact hpq _ _ h | exact hxy _ h

theorem withPanic.elim {P : Streams → Op → Prop} (s : Streams) (op : Op) (h : withPanic P (fun _ => False) s op) : P s op := by
  cases op <;> first | exact h | exact False.elim h

theorem connP_noPanic (s : Streams) (m : String) : ¬ ConnP s (.panic m) := id

theorem Hist.toX {X : String → Prop} {a b : Streams} (h : Hist ConnP a b) : HistX ConnP X a b :=
  h.mono (withPanic.intro connP_noPanic)

theorem HistX.monoX {P : Streams → Op → Prop} {X Y : String → Prop} (hxy : ∀ m, X m → Y m) {a b : Streams}
    (h : HistX P X a b) : HistX P Y a b :=
  Hist.mono (withPanic.mono (fun _ _ hp => hp) hxy) h

theorem HistX.toHist {P : Streams → Op → Prop} {a b : Streams} (h : HistX P (fun _ => False) a b) : Hist P a b :=
  Hist.mono withPanic.elim h

theorem HistX.panic {P : Streams → Op → Prop} {X : String → Prop} {a b : Streams} (h : HistX P X a b) (m : String) (hm : X m) :
    HistX P X a (b.panic m) := .step (.panic m) h hm

/-- the two operations that run against the codec's `Writer` -/
def usesWriter : Op → Bool
  | .pollComplete _ _ _ _ => true
  | .pollSendPendingRefusal _ _ _ _ => true
  | _ => false

/-- **what the connection layer itself does to the codec's `Writer`** (`FramedWrite`): control frames
    (`buffer` of SETTINGS / PING / GOAWAY: `Writer.bufferSimple`), `poll_ready`, `flush`, `shutdown`, and the two
    settings of the peer (`set_max_send_frame_size`, `set_send_header_table_size`).  `buffer_data`,
    `take_last_data_frame`, `buffer_headers`, `unset_frame` … occur only inside `Streams::poll_complete`. -/
inductive WStep : Writer → Writer → Prop
  | bufferSimple (w : Writer) (payloadLen : Nat) (render : String) : WStep w (w.bufferSimple payloadLen render)
  | pollReadyW (w : Writer) (io : Tio) (tag : String) : WStep w (pollReadyW w io tag).1
  | flush (w : Writer) (io : Tio) (tag : String) : WStep w (flush w io tag).1
  | shutdownW (w : Writer) (io : Tio) (tag : String) : WStep w (shutdownW w io tag).1
  | setHpackMax (w : Writer) (v : Nat) : WStep w { w with hpack := w.hpack.updateMaxSize v }
  | setMaxFrameSize (w : Writer) (v : Nat) : WStep w { w with maxFrameSize := v }

/-- `(s, w)` is reached from `(s0, w0)` by (1) stream-layer operations that do not see the writer, (2)
    `poll_complete` / `send_pending_refusal` run WITH THE CURRENT WRITER, (3) writer steps of the connection -/
inductive HistW (P : Streams → Op → Prop) (s0 : Streams) (w0 : Writer) : Streams → Writer → Prop
  | refl : HistW P s0 w0 s0 w0
  | op {s : Streams} {w : Writer} (op : Op) : HistW P s0 w0 s w → P s op → usesWriter op = false → HistW P s0 w0 (op.apply s) w
  | pollComplete {s : Streams} {w : Writer} (fuel : Nat) (io : Tio) (tag : String) : HistW P s0 w0 s w →
      P s (.pollComplete fuel w io tag) →
      HistW P s0 w0 (Streams.pollComplete fuel s w io tag).1 (Streams.pollComplete fuel s w io tag).2.1
  | pollSendPendingRefusal {s : Streams} {w : Writer} (fuel : Nat) (io : Tio) (tag : String) : HistW P s0 w0 s w →
      P s (.pollSendPendingRefusal fuel w io tag) →
      HistW P s0 w0 (Streams.pollSendPendingRefusal fuel s w io tag).1 (Streams.pollSendPendingRefusal fuel s w io tag).2.1
  | writer {s : Streams} {w w' : Writer} : HistW P s0 w0 s w → WStep w w' → HistW P s0 w0 s w'

theorem HistW.trans {P : Streams → Op → Prop} {s0 s1 s2 : Streams} {w0 w1 w2 : Writer} (h1 : HistW P s0 w0 s1 w1)
    (h2 : HistW P s1 w1 s2 w2) : HistW P s0 w0 s2 w2 := by
  induction h2 with
  | refl => exact h1
  | op o _ hp hu ih => exact .op o ih hp hu
  | pollComplete f io t _ hp ih => exact .pollComplete f io t ih hp
  | pollSendPendingRefusal f io t _ hp ih => exact .pollSendPendingRefusal f io t ih hp
  | writer _ hw ih => exact .writer ih hw

theorem HistW.mono {P Q : Streams → Op → Prop} (hpq : ∀ s op, P s op → Q s op) {s0 s : Streams} {w0 w : Writer}
    (h : HistW P s0 w0 s w) : HistW Q s0 w0 s w := by
  induction h with
  | refl => exact .refl
  | op o _ hp hu ih => exact .op o ih (hpq _ _ hp) hu
  | pollComplete f io t _ hp ih => exact .pollComplete f io t ih (hpq _ _ hp)
  | pollSendPendingRefusal f io t _ hp ih => exact .pollSendPendingRefusal f io t ih (hpq _ _ hp)
  | writer _ hw ih => exact .writer ih hw

theorem HistW.hist {P : Streams → Op → Prop} {s0 s : Streams} {w0 w : Writer} (h : HistW P s0 w0 s w) : Hist P s0 s := by
  induction h with
  | refl => exact .refl _
  | op o _ hp _ ih => exact .step o ih hp
  | pollComplete f io t _ hp ih => exact .step (.pollComplete f _ io t) ih hp
  | pollSendPendingRefusal f io t _ hp ih => exact .step (.pollSendPendingRefusal f _ io t) ih hp
  | writer _ _ ih => exact ih

theorem HistW.same {P : Streams → Op → Prop} {s s' : Streams} {w w' : Writer} (hs : s' = s) (hw : w' = w) : HistW P s w s' w' := by
  subst hs; subst hw; exact .refl

theorem HistW.op1 {P : Streams → Op → Prop} {s s' : Streams} {w w' : Writer} (o : Op) (hp : P s o) (hu : usesWriter o = false)
    (es : s' = o.apply s) (ew : w' = w) : HistW P s w s' w' := by
  subst es; subst ew; exact .op o .refl hp hu

theorem HistW.w1 {P : Streams → Op → Prop} {s s' : Streams} {w w' : Writer} (hw : WStep w w') (es : s' = s) : HistW P s w s' w' := by
  subst es; exact .writer .refl hw

/-- histories of `(streams, writer)` in which the connection layer may record its own panics `X` -/
abbrev HistWX (P : Streams → Op → Prop) (X : String → Prop) := HistW (withPanic P X)

theorem HistW.toX {P : Streams → Op → Prop} {X : String → Prop} (hP : ∀ s m, ¬ P s (.panic m)) {s0 s : Streams} {w0 w : Writer}
    (h : HistW P s0 w0 s w) : HistWX P X s0 w0 s w :=
  h.mono (withPanic.intro hP)

theorem HistWX.mono {P Q : Streams → Op → Prop} {X Y : String → Prop} (hpq : ∀ s op, P s op → Q s op) (hxy : ∀ m, X m → Y m)
    {s0 s : Streams} {w0 w : Writer} (h : HistWX P X s0 w0 s w) : HistWX Q Y s0 w0 s w :=
  HistW.mono (withPanic.mono hpq hxy) h

theorem HistWX.toHistW {P : Streams → Op → Prop} {s0 s : Streams} {w0 w : Writer} (h : HistWX P (fun _ => False) s0 w0 s w) :
    HistW P s0 w0 s w :=
  HistW.mono withPanic.elim h

theorem HistWX.panic {P : Streams → Op → Prop} {X : String → Prop} {s0 s : Streams} {w0 w : Writer} (h : HistWX P X s0 w0 s w)
    (m : String) (hm : X m) : HistWX P X s0 w0 (s.panic m) w := .op (.panic m) h hm rfl

/-- `poll_ready`'s last step answered `Ready`: no refused stream is left to answer -/
theorem pollSendPendingRefusal_ready (fuel : Nat) (s : Streams) (w : Writer) (io : Tio) (tag : String)
    (h : (Streams.pollSendPendingRefusal fuel s w io tag).2.2.2 = .ready) :
    (Streams.pollSendPendingRefusal fuel s w io tag).1.recv.refused = none := by
  induction fuel generalizing s w io with
  | zero => unfold Streams.pollSendPendingRefusal at h; cases h
  | succ n ih =>
    unfold Streams.pollSendPendingRefusal at h ⊢
    have hc : ∀ s1 w1, s.sendPendingRefusal w = (s1, w1, .complete) → s1.recv.refused = none := by
      intro s1 w1 he
      unfold Streams.sendPendingRefusal at he
      split at he
      · split at he
        · cases he
        · cases he; rfl
      · rename_i hn; cases he; exact hn
    rcases hr : s.sendPendingRefusal w with ⟨s1, w1, st⟩
    rw [hr] at h
    cases st with
    | complete => exact hc s1 w1 hr
    | codecFull =>
      dsimp only at h ⊢
      rcases hp : pollReadyW w1 io tag with ⟨w2, io2, r⟩
      rw [hp] at h
      cases r with
      | ready => exact ih _ _ _ h
      | pending => cases h
      | err k => cases h

/-- a pending PING of the connection is the shutdown PING of `go_away_gracefully` (the only PING the connection
    itself sends), and the first GOAWAY of the graceful shutdown has been built -/
def PingInv (c : Conn) : Prop :=
  ∀ p, c.pingPong.pendingPing = some p →
    p.payload = Generated.Consts.PING_SHUTDOWN_PAYLOAD ∧ c.goAway.goingAway.isSome = true

/-- the local SETTINGS values `v` are in flight (queued, or sent and waiting for the peer's ACK) -/
def LocIn (c : Conn) (v : List (Nat × Nat)) : Prop := c.settings.loc = .toSend v ∨ c.settings.loc = .waitingAck v

/-- the length-delimited decoder: `max_frame_size` is at most 2^24-1 (`MAX_MAX_FRAME_SIZE`; the builder asserts it), the
    frame awaited (`DecodeState::Data(n)`) passed the size check, and a SETTINGS_MAX_FRAME_SIZE in flight is legal too -/
structure RdOK (c : Conn) : Prop where
  max : c.codec.r.maxFrameLen ≤ 16777215
  need : ∀ n, c.codec.r.need = some n → n ≤ 16777224
  loc : ∀ v m, LocIn c v → ConnCtlP.getS v 5 = some m → m ≤ 16777215
  /-- the peer's SETTINGS waiting for their ACK came through the decoder (INITIAL_WINDOW_SIZE ≤ 2^31-1) -/
  rem : ∀ v, c.settings.remote = some v → ConnFlowP.SettingsOk v

/-- no new local SETTINGS come into flight, no new SETTINGS of the peer are remembered -/
def LocLe (c c' : Conn) : Prop :=
  (∀ v, LocIn c' v → LocIn c v) ∧ (∀ v, c'.settings.remote = some v → c.settings.remote = some v)

theorem LocLe.refl (c : Conn) : LocLe c c := ⟨fun _ h => h, fun _ h => h⟩
theorem LocLe.trans {a b c : Conn} (h1 : LocLe a b) (h2 : LocLe b c) : LocLe a c :=
  ⟨fun v h => h1.1 v (h2.1 v h), fun v h => h1.2 v (h2.2 v h)⟩
theorem LocLe.of_eq {c c' : Conn} (h : c'.settings.loc = c.settings.loc) (hr : c'.settings.remote = c.settings.remote) :
    LocLe c c' := by
  refine ⟨?_, fun v hv => by rw [← hr]; exact hv⟩
  intro v hv; unfold LocIn at *; rw [← h]; exact hv

theorem RdOK.keep {c c' : Conn} (h : RdOK c) (hr : c'.codec.r = c.codec.r) (hl : LocLe c c') : RdOK c' :=
  ⟨by rw [hr]; exact h.max, by rw [hr]; exact h.need, fun v m hv hm => h.loc v m (hl.1 v hv) hm,
    fun v hv => h.rem v (hl.2 v hv)⟩

structure ConnOK (c : Conn) : Prop where
  ga : GoAwayInv c
  ping : PingInv c
  rd : RdOK c

/-- a step that keeps the pending PING (up to its `sent` flag) or drops it, and keeps `going_away` set -/
def PingLe (c c' : Conn) : Prop :=
  (∀ p', c'.pingPong.pendingPing = some p' → ∃ p, c.pingPong.pendingPing = some p ∧ p'.payload = p.payload) ∧
  (c.goAway.goingAway.isSome = true → c'.goAway.goingAway.isSome = true)

theorem PingLe.refl (c : Conn) : PingLe c c := ⟨fun p h => ⟨p, h, rfl⟩, id⟩
theorem PingLe.trans {a b c : Conn} (h1 : PingLe a b) (h2 : PingLe b c) : PingLe a c := by
  refine ⟨fun p hp => ?_, fun h => h2.2 (h1.2 h)⟩
  obtain ⟨q, hq, e1⟩ := h2.1 p hp
  obtain ⟨r, hr, e2⟩ := h1.1 q hq
  exact ⟨r, hr, e1.trans e2⟩
theorem PingLe.of_eq {c c' : Conn} (hp : c'.pingPong.pendingPing = c.pingPong.pendingPing)
    (hg : c'.goAway.goingAway = c.goAway.goingAway) : PingLe c c' :=
  ⟨fun p h => ⟨p, by rw [← hp]; exact h, rfl⟩, fun h => by rw [hg]; exact h⟩
theorem PingLe.inv {c c' : Conn} (h : PingLe c c') (hi : PingInv c) : PingInv c' := by
  intro p' hp'
  obtain ⟨p, hp, e⟩ := h.1 p' hp'
  exact ⟨e.trans (hi p hp).1, h.2 (hi p hp).2⟩

theorem gaLe_isSome {c c' : Conn} (h : GaLe c c') (hs : c.goAway.goingAway.isSome = true) :
    c'.goAway.goingAway.isSome = true := by
  cases hg : c.goAway.goingAway with
  | none => rw [hg] at hs; cases hs
  | some ga =>
    obtain ⟨m', hm', -⟩ := h.1 ga.lastProcessedId (by unfold gaLast; rw [hg]; rfl)
    unfold gaLast at hm'
    cases hg' : c'.goAway.goingAway with
    | none => rw [hg'] at hm'; cases hm'
    | some _ => rfl

/-- a step seen from the invariant: what it must keep -/
structure OKStep (c c' : Conn) : Prop where
  ga : GoAwayInv c'
  gale : GaLe c c'
  ping : ∀ p', c'.pingPong.pendingPing = some p' → ∃ p, c.pingPong.pendingPing = some p ∧ p'.payload = p.payload
  rd : RdOK c → RdOK c'

theorem OKStep.ok {c c' : Conn} (h : OKStep c c') (hc : ConnOK c) : ConnOK c' :=
  ⟨h.ga, PingLe.inv ⟨h.ping, gaLe_isSome h.gale⟩ hc.ping, h.rd hc.rd⟩

theorem OKStep.of_step15 {c c' : Conn} (h : Step15 c c') (hp : c'.pingPong.pendingPing = c.pingPong.pendingPing)
    (hr : c'.codec.r = c.codec.r) (hl : LocLe c c') : OKStep c c' :=
  ⟨h.1, h.2, fun p hp' => ⟨p, by rw [← hp]; exact hp', rfl⟩, fun hn => hn.keep hr hl⟩

theorem OKStep.of_keep {c c' : Conn} (hi : GoAwayInv c) (h : Keep15 c c') (hp : c'.pingPong.pendingPing = c.pingPong.pendingPing)
    (hr : c'.codec.r = c.codec.r) (hl : LocLe c c') : OKStep c c' := .of_step15 (h.step hi) hp hr hl

theorem ConnOK.keep {c c' : Conn} (hc : ConnOK c) (h : Keep15 c c') (hp : c'.pingPong.pendingPing = c.pingPong.pendingPing)
    (hr : c'.codec.r = c.codec.r) (hl : LocLe c c') : ConnOK c' := (OKStep.of_keep hc.ga h hp hr hl).ok hc

theorem ConnOK.congr {c c' : Conn} (hc : ConnOK c) (hg : c'.goAway = c.goAway) (hs : c'.streams = c.streams)
    (hp : c'.pingPong.pendingPing = c.pingPong.pendingPing) (hr : c'.codec.r = c.codec.r)
    (hl : c'.settings.loc = c.settings.loc) (hrem : c'.settings.remote = c.settings.remote) : ConnOK c' :=
  hc.keep (Keep15.of_view hg (by rw [hs])) hp hr (.of_eq hl hrem)

/-- `A` holds of every list of local SETTINGS in flight.  `Settings::recv_settings` hands exactly such a list to
    `apply_local_settings` when the peer's ACK arrives, so `A` is what the connection layer can guarantee at that call. -/
def InFlight (A : List (Nat × Nat) → Prop) (c : Conn) : Prop := ∀ v, LocIn c v → A v

theorem InFlight.le {A : List (Nat × Nat) → Prop} {c c' : Conn} (h : InFlight A c) (hl : LocLe c c') : InFlight A c' :=
  fun v hv => h v (hl.1 v hv)

/-- `ConnP`, with `apply_local_settings` called only on values satisfying `A` -/
def ConnPA (A : List (Nat × Nat) → Prop) (s : Streams) : Op → Prop
  | .applyLocalSettingsFrame vals => A vals
  | op => ConnP s op

theorem connPA_noPanic {A : List (Nat × Nat) → Prop} (s : Streams) (m : String) : ¬ ConnPA A s (.panic m) := id

theorem ConnPA.plain {A : List (Nat × Nat) → Prop} (s : Streams) (op : Op) (h : ConnPA A s op) : ConnP s op := by
  cases op <;> first | exact h | exact trivial

end H2V.Lemmas.ConnNoPanicP
