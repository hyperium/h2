import H2V.Lemmas.ConnWakePBasic
import H2V.Lemmas.ConnStep
/-
  ConnWakeP — the changes of `State` the stream layer makes respect the state clauses of `SStep` (`stateOK_of`); the
  waker-touching methods of `Stream` satisfy `SStep` with the tags they return (`SStep.of_updW`, `sendData_sstep`).
-/
namespace H2V.Lemmas.ConnWakeP
open H2V H2V.Model H2V.Model.Conn

/-- a change of `State` that respects the three state clauses of `SStep` -/
def StateOK (x y : State) : Prop :=
  (x.isClosed = true → y.isClosed = true) ∧ (lostEos x = true → lostEos y = true) ∧
  (x.isRecvEndStream = true → y.isRecvEndStream = true ∨ lostEos y = true)

theorem StateOK.refl (x : State) : StateOK x x := ⟨fun h => h, fun h => h, Or.inl⟩

/-- full case split of a `State` -/
macro "state_cases " x:ident : tactic =>
  `(tactic| rcases $x:ident with ⟨_|_|_|⟨_|_,_|_⟩|⟨_|_⟩|⟨_|_⟩|⟨_|⟨_|_|_⟩|⟨_|_|_⟩|_⟩⟩)

theorem sendOpen_ok (x : State) (eos : Bool) : StateOK x (x.sendOpen eos).1 := by
  state_cases x <;> cases eos <;> simp [StateOK, lostEos, State.isClosed, State.isRecvEndStream, State.sendOpen]
theorem recvOpen_ok (x : State) (eos info : Bool) : StateOK x (x.recvOpen eos info).1 := by
  state_cases x <;> cases eos <;> cases info <;>
    simp [StateOK, lostEos, State.isClosed, State.isRecvEndStream, State.recvOpen]
theorem reserveRemote_ok (x : State) : StateOK x (x.reserveRemote).1 := by
  state_cases x <;> simp [StateOK, lostEos, State.isClosed, State.isRecvEndStream, State.reserveRemote]
theorem reserveLocal_ok (x : State) : StateOK x (x.reserveLocal).1 := by
  state_cases x <;> simp [StateOK, lostEos, State.isClosed, State.isRecvEndStream, State.reserveLocal]
theorem recvClose_ok (x : State) : StateOK x (x.recvClose).1 := by
  state_cases x <;> simp [StateOK, lostEos, State.isClosed, State.isRecvEndStream, State.recvClose]
theorem sendClose_ok {x y : State} (h : x.sendClose = some y) : StateOK x y := by
  state_cases x <;> simp [State.sendClose] at h <;> subst h <;>
    simp [StateOK, lostEos, State.isClosed, State.isRecvEndStream]
theorem setReset_ok (x : State) (sid : Nat) (r : Reason) (i : Initiator) : StateOK x (x.setReset sid r i) := by
  simp [StateOK, lostEos, State.isClosed, State.isRecvEndStream, State.setReset]

theorem stateOK_of {K : Kind → Bool} {id : Nat} {a b : State} (h : State.Step K id a b) : StateOK a b := by
  cases h with
  | sendOpen eos _ e => have := sendOpen_ok a eos; rwa [e] at this
  | sendClose _ e => exact sendClose_ok e
  | recvOpen eos inf _ e => have := recvOpen_ok a eos inf; rwa [e] at this
  | recvClose _ e => have := recvClose_ok a; rwa [e] at this
  | reserveRemote _ e => have := reserveRemote_ok a; rwa [e] at this
  | reserveLocal _ e => have := reserveLocal_ok a; rwa [e] at this
  | recvReset r q =>
    state_cases a <;> cases q <;>
      simp [StateOK, lostEos, State.isClosed, State.isRecvEndStream, State.recvReset, PErr.remoteReset]
  | handleError e => state_cases a <;> simp [StateOK, lostEos, State.isClosed, State.isRecvEndStream, State.handleError]
  | recvEof => state_cases a <;> simp [StateOK, lostEos, State.isClosed, State.isRecvEndStream, State.recvEof]
  | setScheduledReset r => simp [StateOK, lostEos, State.isClosed, State.isRecvEndStream, State.setScheduledReset]
  | setReset r i => exact setReset_ok a id r i
  | setResetScheduled r => exact setReset_ok a id r .library

theorem SStep.of_quiet {a b : Stream} (w : List String) (hk : b.key = a.key) (hi : b.id = a.id)
    (hs : b.sendTask = a.sendTask) (ho : b.openTask = a.openTask) (hr : b.recvTask = a.recvTask)
    (hp : b.pushTask = a.pushTask) (hc : b.sendCapacityInc = a.sendCapacityInc)
    (hq : ∃ n, b.pendingRecv = a.pendingRecv.drop n) (hst : StateOK a.state b.state) : SStep w a b where
  key := hk
  id := hi
  closed := hst.1
  lost := hst.2.1
  eos := hst.2.2
  sendTask := Or.inl hs
  openTask := Or.inl ho
  recvTask := Or.inl hr
  pushTask := Or.inl hp
  capKeep := by rw [hc]; exact fun h => h
  capRise := Or.inl hc
  recvPush := Or.inl hq

theorem SlotStep.take {w : List String} {x : Option String} (h : ∀ t, x = some t → t ∈ w) : SlotStep w x none :=
  Or.inr ⟨rfl, h⟩

theorem notifyCapacity_sstep (a : Stream) : SStep a.notifyCapacity.2 a a.notifyCapacity.1 := by
  rw [Stream.notifyCapacity_fst, Stream.notifyCapacity_snd]
  exact ⟨rfl, rfl, id, id, Or.inl, .take fun t h => by simp [h], .take fun t h => by simp [h], .refl _ _, .refl _ _,
    fun _ => rfl, Or.inr ⟨rfl, rfl, fun t h => by rcases h with h | h <;> simp [h]⟩, Or.inl ⟨0, rfl⟩⟩

/-- `Stream::send_data` charges counters `SStep` does not look at; when the capacity rises it is a `notify_capacity` -/
theorem sendData_sstep (a : Stream) (len m : Nat) : SStep (a.sendData len m).2.1 a (a.sendData len m).1 := by
  rw [Stream.sendData_fst, Stream.sendData_wakes]
  split
  · exact ⟨rfl, rfl, id, id, Or.inl, .take fun t h => by simp [h], .take fun t h => by simp [h], .refl _ _, .refl _ _,
      fun _ => rfl, Or.inr ⟨rfl, rfl, fun t h => by rcases h with h | h <;> simp [h]⟩, Or.inl ⟨0, rfl⟩⟩
  · exact Inert.sstep (by exact ⟨rfl, rfl, rfl, rfl, rfl, rfl, rfl, rfl, rfl⟩) _

theorem SStep.of_updW {K : Kind → Bool} {x : Stream} {p : Stream × List String} (h : Stream.UpdW K x p) :
    SStep p.2 x p.1 := by
  cases h with
  | notifySend =>
    rw [Stream.notifySend_fst, Stream.notifySend_snd]
    exact ⟨rfl, rfl, fun h => h, fun h => h, Or.inl, .take fun t h => by simp [h], .take fun t h => by simp [h], .refl _ _, .refl _ _, fun h => h,
      Or.inl rfl, Or.inl ⟨0, rfl⟩⟩
  | notifyRecv =>
    rw [Stream.notifyRecv_fst, Stream.notifyRecv_snd]
    exact ⟨rfl, rfl, fun h => h, fun h => h, Or.inl, .refl _ _, .refl _ _, .take fun t h => by simp [h], .refl _ _, fun h => h, Or.inl rfl,
      Or.inl ⟨0, rfl⟩⟩
  | notifyPush =>
    rw [Stream.notifyPush_fst, Stream.notifyPush_snd]
    exact ⟨rfl, rfl, fun h => h, fun h => h, Or.inl, .refl _ _, .refl _ _, .refl _ _, .take fun t h => by simp [h], fun h => h, Or.inl rfl,
      Or.inl ⟨0, rfl⟩⟩
  | notifyCapacity => exact notifyCapacity_sstep x
  | assignCapacity c m =>
    unfold Stream.assignCapacity
    dsimp only
    split
    · exact (Inert.sstep (b := { x with sendFlow := (x.sendFlow.assignCapacity c).1 }) (by inert) []).trans
        (notifyCapacity_sstep _)
    · exact Inert.sstep (by inert) _
  | setReset r i t =>
    have hs := stateOK_of t
    rw [Stream.setReset_fst, Stream.setReset_snd]
    exact ⟨rfl, rfl, hs.1, hs.2.1, hs.2.2, .take fun t h => by simp [h], .take fun t h => by simp [h],
      .take fun t h => by simp [h], .take fun t h => by simp [h], fun h => h, Or.inl rfl, Or.inl ⟨0, rfl⟩⟩

end H2V.Lemmas.ConnWakeP
