import H2V.Lemmas.ConnFidPView
import H2V.Lemmas.CompState
/-
  ConnFidP — consequences for single API calls: what a call can do to the queues of ALL entries
  (from the path lemmas with the tightest permission) and the exact behaviour of the receive handles
  (`poll_data`, `poll_trailers`): FIFO hand-out, and when a clean end is reported.
-/
namespace H2V.Lemmas.ConnFidP
open H2V H2V.Model H2V.Model.Conn H2V.Lemmas.ConnWakeP

theorem Tr.send_frames {P : Perm} {s s' : Streams} (h : Tr P s s') (hw : ¬P.write) (hp : ¬P.pop) :
    ∃ tr, Path P s s' tr ∧ (∀ j, wasCut j tr = false → sq s' j = sq s j ++ pushed j tr) ∧
      (∀ j f, f ∈ pushed j tr → P.ok (.push j f)) := by
  obtain ⟨tr, p⟩ := h
  exact ⟨tr, p, fun j hj => p.send_ledger hw hp j hj, fun j f hf => p.allowed _ (mem_pushed hf)⟩

/-- `send_data(k, len, eos)` may queue `DATA(len, eos)` on entry `k`, nothing else -/
def permSendData (k len : Nat) (eos : Bool) : Perm := { push := fun j f => j = k ∧ f = .data len eos, gone := True }
/-- `send_trailers` / `send_response` / `send_informational` may queue that one HEADERS frame on `k` -/
def permSendHeaders (k : Nat) (eos : Bool) (f : List Hpack.Field) : Perm := { push := fun j g => j = k ∧ g = .headers eos f, gone := True }
/-- `send_request` may queue the request head on an entry (the new one) -/
def permSendRequest (eos : Bool) (f : List Hpack.Field) : Perm := { push := fun _ g => g = .headers eos f, gone := True }
/-- `send_reset(k)` may cut the queue of `k` (and queue RST_STREAM on it), no other -/
def permReset (k : Nat) : Perm := { cut := fun j => j = k, gone := True }
/-- a receive handle of `k` may take events off `pending_recv` of `k` -/
def permPoll (k : Nat) : Perm := { rpop := fun j => j = k, gone := True }
/-- `recv_data(payload, eos)` may queue that payload on any entry, and reset streams -/
def permRecvData (_p : Bytes) (_eos : Bool) : Perm := { rpush := fun _ _ => True, cut := fun _ => True, gone := True }

theorem refSendData_tr (s : Streams) (k len : Nat) (eos : Bool) :
    Tr (permSendData k len eos) s (s.refSendData k len eos).1 :=
  (refSendData_accR s k len eos).tr trivial (Or.inl ⟨rfl, rfl⟩)
theorem refSendTrailers_tr (s : Streams) (k : Nat) (f : List Hpack.Field) :
    Tr (permSendHeaders k true f) s (s.refSendTrailers k f).1 :=
  (refSendTrailers_accR s k f).tr trivial (Or.inl ⟨rfl, rfl⟩)
theorem refSendResponse_tr (s : Streams) (k : Nat) (f : List Hpack.Field) (eos : Bool) :
    Tr (permSendHeaders k eos f) s (s.refSendResponse k f eos).1 :=
  (refSendResponse_accR s k f eos).tr trivial (Or.inl ⟨rfl, rfl⟩)
theorem refSendInformationalHeaders_tr (s : Streams) (k : Nat) (f : List Hpack.Field) :
    Tr (permSendHeaders k false f) s (s.refSendInformationalHeaders k f).1 :=
  (refSendInformationalHeaders_accR s k f).tr trivial (Or.inl ⟨rfl, rfl⟩)
theorem sendRequest_tr (s : Streams) (b : Bool) (f : List Hpack.Field) (eos : Bool) (p : Option Nat) :
    Tr (permSendRequest eos f) s (s.sendRequest b f eos p).1 :=
  sendRequest_acc trivial b f eos p (Or.inl rfl) (Tr.refl _ _)
theorem refSendReset_tr (s : Streams) (k : Nat) (r : Reason) : Tr (permReset k) s (s.refSendReset k r) :=
  refSendReset_acc trivial k r rfl (Tr.refl _ _)
theorem recvPollTrailers_tr (s : Streams) (k : Nat) (t : String) : Tr (permPoll k) s (s.recvPollTrailers k t).1 :=
  recvPollTrailers_acc trivial k t rfl (Tr.refl _ _)
theorem recvData_tr (s : Streams) (id : Nat) (p : Bytes) (eos : Bool) (pad : Option Nat) :
    Tr (permRecvData p eos) s (s.recvData id p eos pad).1 :=
  recvData_acc trivial id p eos pad (fun _ => trivial) (fun _ _ => trivial) (Tr.refl _ _)

theorem recvPollData_data {s : Streams} {k : Nat} {t : String} {p : Bytes} {b : Bool}
    (h : (s.recvPollData k t).2 = .data p b) : ∃ rest, (s.stream k).pendingRecv = .data p b :: rest := by
  cases hq : (s.stream k).pendingRecv with
  | nil =>
    cases he : (s.stream k).state.ensureRecvOpen with
    | error e => simp [Streams.recvPollData, Streams.scheduleRecv, hq, he] at h
    | ok v => cases v <;> simp [Streams.recvPollData, Streams.scheduleRecv, hq, he] at h
  | cons e rest =>
    cases e <;> simp [Streams.recvPollData, hq] at h
    obtain ⟨rfl, rfl⟩ := h
    exact ⟨rest, rfl⟩

/-- **a clean end of the body is reported only when the next event is not DATA (headers / trailers follow)
    or the queue is empty and the receive half ended with END_STREAM** (or the stream never had one:
    `ReservedLocal`).  In particular never for a stream closed by a reset or a connection error before
    END_STREAM arrived (`recvPollData_error`). -/
theorem recvPollData_none {s : Streams} {k : Nat} {t : String} (h : (s.recvPollData k t).2 = .none) :
    (∃ e rest, (s.stream k).pendingRecv = e :: rest ∧ ∀ p b, e ≠ .data p b) ∨
    ((s.stream k).pendingRecv = [] ∧
      ((s.stream k).state.isRecvEndStream = true ∨ H2V.Lemmas.Comp.phase (s.stream k).state = .reservedLocal)) := by
  cases hq : (s.stream k).pendingRecv with
  | nil =>
    refine Or.inr ⟨rfl, ?_⟩
    cases he : (s.stream k).state.ensureRecvOpen with
    | error e => simp [Streams.recvPollData, Streams.scheduleRecv, hq, he] at h
    | ok v =>
      cases v
      · exact (H2V.Lemmas.Comp.ensureRecvOpen_false_iff _).mp he
      · simp [Streams.recvPollData, Streams.scheduleRecv, hq, he] at h
  | cons e rest =>
    refine Or.inl ⟨e, rest, rfl, ?_⟩
    intro p b he; subst he
    simp [Streams.recvPollData, hq] at h

/-- **a stream cut short is not a clean end**: with nothing left in the queue, a stream that was closed by
    an error (peer RST_STREAM — also `NO_ERROR` —, local reset, GOAWAY, I/O error) before END_STREAM
    arrived makes `poll_data` answer that error -/
theorem recvPollData_error (s : Streams) (k : Nat) (t : String) (e : PErr) (hq : (s.stream k).pendingRecv = [])
    (he : (s.stream k).state.inner = .closed (.error e)) : (s.recvPollData k t).2 = .err e := by
  unfold Streams.recvPollData Streams.scheduleRecv
  rw [hq]
  have : (s.stream k).state.ensureRecvOpen = .error e := by
    unfold State.ensureRecvOpen; rw [he]
  simp only [this]

theorem recvPollTrailers_trailers {s : Streams} {k : Nat} {t : String} {f : Fields}
    (h : (s.recvPollTrailers k t).2 = .trailers f) : ∃ rest, (s.stream k).pendingRecv = .trailers f :: rest := by
  cases hq : (s.stream k).pendingRecv with
  | nil =>
    cases he : (s.stream k).state.ensureRecvOpen with
    | error e => simp [Streams.recvPollTrailers, Streams.scheduleRecv, hq, he] at h
    | ok v => cases v <;> simp [Streams.recvPollTrailers, Streams.scheduleRecv, hq, he] at h
  | cons e rest =>
    cases e <;> simp [Streams.recvPollTrailers, hq] at h
    subst h
    exact ⟨rest, rfl⟩

theorem recvPollTrailers_none {s : Streams} {k : Nat} {t : String} (h : (s.recvPollTrailers k t).2 = .none) :
    (s.stream k).pendingRecv = [] ∧
      ((s.stream k).state.isRecvEndStream = true ∨ H2V.Lemmas.Comp.phase (s.stream k).state = .reservedLocal) := by
  cases hq : (s.stream k).pendingRecv with
  | nil =>
    refine ⟨rfl, ?_⟩
    cases he : (s.stream k).state.ensureRecvOpen with
    | error e => simp [Streams.recvPollTrailers, Streams.scheduleRecv, hq, he] at h
    | ok v =>
      cases v
      · exact (H2V.Lemmas.Comp.ensureRecvOpen_false_iff _).mp he
      · simp [Streams.recvPollTrailers, Streams.scheduleRecv, hq, he] at h
  | cons e rest =>
    cases e <;> simp [Streams.recvPollTrailers, hq] at h

end H2V.Lemmas.ConnFidP
