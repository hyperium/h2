import H2V.Lemmas.ConnNoPanicPPushInvIds
/-
  C08 (no panic) — PUSH_PROMISE bookkeeping, stage 2: `PRH`, for `panic!("Headers not set on pushed stream")` of
  `Recv::poll_pushed`.
  `PRH`: every held entry (live, `is_pending_accept`, not in `recv.pending_accept` — the promised streams waiting in
  some `pending_push_promises`) has no handle (`ref_count = 0`) and the promised request at the FRONT of its
  `pending_recv`.  It is kept along the backward frame `HB`.  Everything is `HB` except `recv_push_promise` (creates a
  held entry); the functions that pop `pending_recv` or move `ref_count` of a handle's stream `k` are `HB` given
  `¬ Held s k` (a handle's stream has `ref_count > 0`, so it is not held by `PRH`).  `recv_push_promise` keeps `PRH`
  too: the promised stream it links is fresh (`ref_count = 0`) and `Recv::recv_push_promise` has just queued the
  promised request on its empty `pending_recv`.
-/
namespace H2V.Lemmas.ConnNoPanicP
open H2V H2V.Model H2V.Model.Conn H2V.Lemmas.ConnCountsP
open H2V.Lemmas.ConnResetP (Op run)
attribute [local irreducible] wrapSubU32 wrapSubUsize

def ReqHd (x : Stream) : Prop := ∃ m u f rest, x.pendingRecv = .request m u f :: rest

def PRH (s : Streams) : Prop := ∀ c, Held s c → (s.stream c).refCount = 0 ∧ ReqHd (s.stream c)

theorem PRH.step {s s' : Streams} (h : PRH s) (hb : HB s s') : PRH s' := fun c hc => by
  obtain ⟨h0, r, l, e⟩ := hb.back c hc
  obtain ⟨hr, m, u, f, rest, hq⟩ := h c h0
  exact ⟨r.trans hr, m, u, f, rest ++ l, by rw [e, hq]; rfl⟩
theorem PRH.pf {s s' : Streams} (h : PRH s) (hf : PF [] s s') : PRH s' := h.step (hf.hb fun _ h => nomatch h)

theorem PRH_blank {s : Streams} (hb : Blank s) : PRH s := fun c hc => by
  obtain ⟨x, hx, _⟩ := hc.1
  have : s.store.get? c = none := by unfold Store.get?; rw [hb.slab]; rfl
  rw [this] at hx; cases hx

/-- a handle's stream is not held -/
theorem PRH.not_held {s : Streams} (h : PRH s) {k : Nat} (hr : (s.stream k).refCount > 0) : ¬ Held s k :=
  fun hk => by have := (h k hk).1; omega


/-- **`PRH` is kept by every operation but `recv_push_promise`**, given the handle discipline: the stream of the handle
    the operation is called through has `ref_count > 0` (`HOK` of ConnNoPanicPHist for the keys of `popKey`) -/
theorem PRH_step {s : Streams} (hk : KeysOK s) (hp : PRH s) (op : Op) (hne : ∀ id h, op ≠ .recvPushPromise id h)
    (hkey : ∀ k, popKey op = some k → (s.stream k).refCount > 0) : PRH (op.apply s) := by
  by_cases hd : ∃ k, op = .dropStreamRef k
  · obtain ⟨k, e⟩ := hd
    subst e
    exact hp.step ((dropStreamRef_df s k).hb (hp.not_held (hkey k rfl)))
  · exact hp.step ((op_pf_keys hk op hne fun k e => hd ⟨k, e⟩).hb fun k hm =>
      hp.not_held (hkey k (Option.mem_toList.mp hm)))

theorem ReqHd.of_app {x y : Stream} (h : ReqHd x) {l : List REvent} (e : y.pendingRecv = x.pendingRecv ++ l) : ReqHd y := by
  obtain ⟨m, u, f, rest, hq⟩ := h
  exact ⟨m, u, f, rest ++ l, by rw [e, hq]; rfl⟩

/-- raising the link flag of one entry (`ppp.push(child)`): `PRH` survives if that entry has no handle and its
    `pending_recv` starts with the request -/
theorem PRH.flagTrue {s : Streams} (hp : PRH s) (child : Nat)
    (hnew : Live s child → (s.stream child).refCount = 0 ∧ ReqHd (s.stream child)) :
    PRH (s.modStream child fun st => { st with isPendingAccept := true }) := by
  intro c hc
  have hl' : Live (s.modStream child fun st => { st with isPendingAccept := true }) c := held_live hc
  have hl : Live s c := (SameKeys.modStream _ _ _).live.mp hl'
  by_cases hcc : c = child
  · subst hcc
    rw [stream_modStream_live hl (fun st => { st with isPendingAccept := true }) (fun _ => rfl)]
    exact hnew hl
  · have hst := Streams.stream_modStream_ne s child (f := fun st => { st with isPendingAccept := true }) (fun _ => rfl) hcc
    rw [hst]
    refine hp c ?_
    obtain ⟨⟨x, hx, hfl⟩, hq⟩ := hc
    obtain ⟨y, hy⟩ := hl
    have hxy : x = y := by rw [← stream_of_get? hx, hst, stream_of_get? hy]
    refine ⟨⟨y, hy, hxy ▸ hfl⟩, ?_⟩
    rw [ConnResetP.modStream_recv] at hq; exact hq

theorem new_ref_recv (id a b : Nat) : (Stream.new id a b).refCount = 0 ∧ (Stream.new id a b).pendingRecv = [] := ⟨rfl, rfl⟩

/-- **`recv_push_promise` keeps `PRH`**: every step is a frame but the raising of the link flag; the entry it is raised on
    has no handle and the promised request alone in `pending_recv` -/
theorem recvPushPromise_prh {s : Streams} (hn : NPI (fun _ => False) s) (hp : PRH s) (id : Nat) (h : HeadersIn)
    (href : s.recv.refused = none) : PRH (s.recvPushPromise id h).1 :=
  have hopen : PF [] s (s.recvOpen h.sid true).1 := recvOpen_pf s h.sid true
  PromiseRule.run (I := PRH)
    (L := fun _ child t => Live t child ∧ (t.stream child).refCount = 0 ∧ (t.stream child).pendingRecv = [])
    (L' := fun _ child t => Live t child → (t.stream child).refCount = 0 ∧ ReqHd (t.stream child))
    { pre := hp
      opn := hp.pf hopen
      ins := fun _ s1 sP _ hro hP => by
        have h1 : PF [] s s1 := of_fst_eq hro hopen
        obtain ⟨_, _, hst1, _, _⟩ := recvOpen_pp_true href hro
        have h2 : PF [] s sP := by
          rw [hP]; split
          · exact h1.trans (panic_pf _ _)
          · exact h1
        have hfrP : KeysFresh sP := by
          have : sP.store = s.store := by rw [hP]; split; rw [panic_store, hst1]; exact hst1
          unfold KeysFresh; rw [this]; exact hn.keys.fresh
        rw [Streams.insertNew_fst, Streams.insertNew_snd]
        have hget := insert_get?_new hfrP (Stream.new h.sid sP.actions.send.initWindowSz sP.recv.initWindowSz)
        refine ⟨hp.pf (h2.trans (insert_pf sP _ (new_acc' _ _ _) (new_ppp _ _ _))), ⟨_, hget⟩, ?_⟩
        rw [stream_of_get? hget]; exact ⟨rfl, rfl⟩
      body := fun _ child t ht ⟨hl2, hs2⟩ => by
        rw [Streams.transition_eq]
        refine ⟨ht.pf ((PF.of_step (Streams.pushPromiseBody_step (by decide) t child h)).trans (transitionAfter_pf _ _ _)), ?_⟩
        generalize hpc : t.pushPromiseBody child h = q
        obtain ⟨s3, r3⟩ := q
        intro hr3 hl4
        cases hr3
        have hok := recvRecvPushPromise_ok hl2 (pushPromiseBody_true hpc)
        have e := transitionAfter_proj (fun x => (x.refCount, x.pendingRecv)) (fun _ _ => rfl)
          (t.stream child).isPendingResetExpiration hl4 (s := s3)
        simp only [Prod.mk.injEq] at e
        obtain ⟨m, u, hreq⟩ := hok.2.2.2
        refine ⟨by rw [e.1, hok.2.1]; exact hs2.1, m, u, h.fields, [], ?_⟩
        rw [e.2, hreq, hs2.2]; rfl
      link := fun pk child t ht hnew => by
        have hfin : ∀ t : Streams, PRH t → PRH (t.modStreamW pk Stream.notifyPush) := fun t ht =>
          ht.pf (modStreamW_pf t pk _ (.inl fun x => .of_pj (pj_notifyPush x)))
        unfold Streams.pushPromiseLink
        dsimp only
        split
        · exact hfin _ ht
        · exact hfin _ ((ht.flagTrue child hnew).step (setPPP_hb _ pk _)) }

theorem recvPushPromise_all {s : Streams} (hn : NPI (fun _ => False) s) (hj : PPPOK s) (hi : IBR s) (hp : PRH s)
    (hacc : ∀ k ∈ s.recv.pendingAccept, Live s k) (id : Nat) (h : HeadersIn) (href : s.recv.refused = none)
    (he' : ErrOK (s.recvPushPromise id h).1) :
    NPI (fun _ => False) (s.recvPushPromise id h).1 ∧ PPPOK (s.recvPushPromise id h).1 ∧ IBR (s.recvPushPromise id h).1 ∧
    PRH (s.recvPushPromise id h).1 :=
  let r := recvPushPromise_npi hn hj hi hacc id h href he'
  ⟨r.1, r.2, recvPushPromise_ibr hn hi id h, recvPushPromise_prh hn hp id h href⟩

end H2V.Lemmas.ConnNoPanicP
