import H2V.Model.ConnProto
/-
  The long functions of the stream layer cut into named stages (`recvHeaders`, `recvData`, `recvPushPromise`,
  `applyLocalSettings`, `sendApplyRemoteSettings`, `tryAssignCapacity`, `sendSendReset`; those of the connection —
  `settingsPollSend`, `poll2Loop` — are in ConnCtlPTrace).  Every stage is a piece of the model's own text and every `_eq`
  is proved by `rfl` (after a case split where the model matches first): the build re-checks that the pieces compose to
  the model's function.  `tryAssignCapacity_eq` alone is by cases: it merges the function's three early returns into `assignIdle`.
-/
namespace H2V.Model.Conn
open H2V H2V.Model

namespace Streams

/-- the state transition of `Recv::recv_headers` -/
def recvHeadersSt (s : Streams) (id : Nat) (st' : State) : Streams := s.modStream id fun st => { st with state := st' }

/-- the counting step: an initial HEADERS on a stream that is not counted yet raises
    `last_processed_id` to the frame's stream id and takes a concurrency slot -/
def recvHeadersCount (s : Streams) (id : Nat) (h : HeadersIn) (isInitial : Bool) : Streams :=
  if isInitial && !(s.stream id).isCounted then
    let s := if h.sid > s.recv.lastProcessedId then s.modRecv fun r => { r with lastProcessedId := h.sid } else s
    s.incNumRecvStreams id
  else s

def recvHeadersCl (s : Streams) (id : Nat) (h : HeadersIn) : Streams × Option PErr :=
  if (s.stream id).contentLength != .head then
    match h.fields.find? (fun f => f.1 == Http.str "content-length") with
    | some (_, v :: rest) =>
      match parseU64 v with
      | none => (s, some (PErr.libraryReset (s.stream id).id PROTOCOL_ERROR))
      | some cl =>
        if rest.any (fun o => parseU64 o != some cl) then (s, some (PErr.libraryReset (s.stream id).id PROTOCOL_ERROR))
        else
        let s := s.modStream id fun st => { st with contentLength := .remaining cl }
        let statusNot204304 := match h.status with
          | some st => st != Http.str "204" && st != Http.str "304"
          | none => true
        if h.eos && cl > 0 && statusNot204304 then (s, some (PErr.libraryReset (s.stream id).id PROTOCOL_ERROR)) else (s, none)
    | _ => (s, none)
  else (s, none)

/-- the checks of the head and the queueing of the message -/
def recvHeadersQueue (s : Streams) (id : Nat) (h : HeadersIn) (isInitial : Bool) : Streams × RecvHeadersRes :=
  if h.isOverSize then (s, .oversize (s.counts.isServer && isInitial))
  else if h.hasProtocol && s.counts.isServer && !s.recv.isExtendedConnectProtocolEnabled then
    (s, .state (PErr.libraryReset (s.stream id).id PROTOCOL_ERROR))
  else if h.status.isSome && s.counts.isServer then (s, .state (PErr.libraryReset (s.stream id).id PROTOCOL_ERROR))
  else
    let status := h.status.getD (Http.str "200")
    if s.counts.isServer then
      match convertPollMessageServer h with
      | .malformed => (s, .state (PErr.libraryReset (s.stream id).id PROTOCOL_ERROR))
      | .unsupported => (s, .unsupported)
      | .ok method uri =>
        let s := s.modStream id fun st => { st with pendingRecv := st.pendingRecv ++ [.request method uri h.fields] }
        let s := s.modStreamW id Stream.notifyRecv
        let s := s.notifyPushIfRecvEnded id
        ((s.qPush .pendingAccept id).1, .ok)
    else if !h.isInformational then
      let s := s.modStream id fun st => { st with pendingRecv := st.pendingRecv ++ [.headers status h.fields] }
      ((s.modStreamW id Stream.notifyRecv).notifyPushIfRecvEnded id, .ok)
    else
      let s := s.modStream id fun st => { st with pendingRecv := st.pendingRecv ++ [.informational status h.fields] }
      (s.modStreamW id Stream.notifyRecv, .ok)

theorem recvRecvHeaders_eq (s : Streams) (id : Nat) (h : HeadersIn) :
    s.recvRecvHeaders id h =
      match (s.stream id).state.recvOpen h.eos h.isInformational with
      | (_, .error e) => (s, .state e)
      | (st', .ok isInitial) =>
        let s := s.recvHeadersSt id st'
        if isInitial && !(s.stream id).isCounted && !s.counts.canIncNumRecvStreams then
          (s, .state (PErr.libraryReset (s.stream id).id REFUSED_STREAM))
        else
        match (s.recvHeadersCount id h isInitial).recvHeadersCl id h with
        | (s, some e) => (s, .state e)
        | (s, none) => s.recvHeadersQueue id h isInitial := by rfl

/-- `find_entry(id)`, or opening a new stream: the key to go on with, or `Ok(None)` -/
def recvHeadersEntry (s : Streams) (h : HeadersIn) : Streams × Except PErr (Option Nat) :=
  match s.store.findKey? h.sid with
  | some k => (s, .ok (some k))
  | none =>
    if !s.counts.isServer && s.mayHaveForgottenStream h.sid then (s, .error (PErr.libraryReset h.sid STREAM_CLOSED))
    else
      match s.recvOpen h.sid false with
      | (s, .error e) => (s, .error e)
      | (s, .ok false) => (s, .ok none)
      | (s, .ok true) =>
        let st := Stream.new h.sid s.actions.send.initWindowSz s.recv.initWindowSz
        let (store, k) := s.store.insert st
        ({ s with store := store }, .ok (some k))

def recvHeadersDispatch (s : Streams) (k : Nat) (h : HeadersIn) : Streams × Except PErr Unit :=
  if (s.stream k).state.isRecvHeaders then
    match s.recvRecvHeaders k h with
    | (s, .ok) => (s, .ok ())
    | (s, .oversize true) =>
      let f431 : List Hpack.Field := [{ h := (Hpack.pStatus, Http.str "431"), sensitive := false, nameless := false }]
      let s := (s.sendHeaders k true f431).1
      let s := s.scheduleImplicitReset k PROTOCOL_ERROR
      (s.enqueueResetExpiration k, .ok ())
    | (s, .oversize false) => (s, .error (PErr.libraryReset h.sid PROTOCOL_ERROR))
    | (s, .state e) => (s, .error e)
    | (s, .unsupported) => (s.unsup "request URI outside the modelled subset", .ok ())
  else s.recvRecvTrailers k h

/-- the closure handed to `counts.transition` -/
def recvHeadersBody (s : Streams) (k : Nat) (h : HeadersIn) : Streams × Except PErr Unit :=
  if !(s.stream k).state.isRecvHeaders && !h.eos then (s, .error (PErr.libraryReset h.sid PROTOCOL_ERROR))
  else
  let (s, res) : Streams × Except PErr Unit := s.recvHeadersDispatch k h
  s.resetOnRecvStreamErr k res

theorem recvHeaders_eq (s : Streams) (h : HeadersIn) :
    s.recvHeaders h =
      if h.sid > s.recv.maxStreamId then (s, .ok ())
      else
        match s.recvHeadersEntry h with
        | (s, .error e) => (s, .error e)
        | (s, .ok none) => (s, .ok ())
        | (s, .ok (some k)) =>
          let st := s.stream k
          if st.isPendingOpen then (s, .error (PErr.libraryGoAway PROTOCOL_ERROR))
          else if st.state.isLocalError then (s, .ok ())
          else s.transition k fun s => s.recvHeadersBody k h := by rfl

/-- the flow-controlled length of a DATA frame: payload, padding, pad-length octet -/
def dataFlowLen (payload : Bytes) (padLen : Option Nat) : Nat :=
  payload.length + (match padLen with | some p => p + 1 | none => 0)

/-- END_STREAM: content-length must be used up, then the state moves -/
def recvDataEos (s : Streams) (id : Nat) (eos : Bool) : Streams × Option PErr :=
  if eos then
    if !(s.stream id).ensureContentLengthZero then (s, some (PErr.libraryReset (s.stream id).id PROTOCOL_ERROR))
    else match (s.stream id).state.recvClose with
      | (_, .error _) => (s, some (PErr.libraryGoAway PROTOCOL_ERROR))
      | (st', .ok _) => (s.modStream id fun st => { st with state := st' }, none)
  else (s, none)

/-- the stream window is charged and the payload queued -/
def recvDataDeliver (s : Streams) (id : Nat) (payload : Bytes) (eos : Bool) (flowLen sz : Nat) : Streams × Except PErr Unit :=
  if !(s.stream id).isRecv then ((s.releaseConnectionCapacity sz false).notifyPushIfRecvEnded id, .ok ())
  else
    match (s.stream id).recvFlow.sendData sz with
    | (fl, .error (.reason r)) => (s.modStream id fun st => { st with recvFlow := fl }, .error (PErr.libraryGoAway r))
    | (_, .error .assertFailed) => (s.panic "assertion failed: self.window_size.0 >= sz as i32 (stream recv)", .ok ())
    | (fl, .ok _) =>
      let s := s.modStream id fun st => { st with recvFlow := fl, inFlightRecvData := wrapAddU32 st.inFlightRecvData sz }
      let padding := usizeAsU32 (flowLen - payload.length)
      let s := if padding > 0 then (s.releaseCapacity id padding false).1 else s
      if payload.isEmpty && !eos then (s, .ok ())
      else
        let s := s.modStream id fun st => { st with pendingRecv := st.pendingRecv ++ [.data payload (!eos)] }
        ((s.modStreamW id Stream.notifyRecv).notifyPushIfRecvEnded id, .ok ())

/-- what follows `dec_content_length` -/
def recvDataTail (s : Streams) (id : Nat) (payload : Bytes) (eos : Bool) (sz flowLen : Nat) : Streams × Except PErr Unit :=
  match s.recvDataEos id eos with
  | (s, some e) => (s, .error e)
  | (s, none) => s.recvDataDeliver id payload eos flowLen sz

/-- `Recv::recv_data` after its `assert!(sz <= MAX_WINDOW_SIZE)` -/
def recvDataCore (s : Streams) (id : Nat) (payload : Bytes) (eos : Bool) (flowLen : Nat) : Streams × Except PErr Unit :=
  let sz := usizeAsU32 flowLen
  let st := s.stream id
  let isIgnoringFrame := st.state.isLocalError
  if !isIgnoringFrame && !st.state.isRecvStreaming then (s, .error (PErr.libraryGoAway PROTOCOL_ERROR))
  else if isIgnoringFrame then s.ignoreData sz
  else
    match s.consumeConnectionWindow sz with
    | (s, .error e) => (s, .error e)
    | (s, .ok _) =>
      if (s.stream id).recvFlow.windowSz < sz then (s, .error (PErr.libraryReset (s.stream id).id FLOW_CONTROL_ERROR))
      else
        match (s.stream id).decContentLength payload.length with
        | none => (s, .error (PErr.libraryReset (s.stream id).id PROTOCOL_ERROR))
        | some st1 => (s.setStream st1).recvDataTail id payload eos sz flowLen

theorem recvRecvData_eq (s : Streams) (id : Nat) (payload : Bytes) (eos : Bool) (padLen : Option Nat) :
    s.recvRecvData id payload eos padLen =
      (if dataFlowLen payload padLen > Generated.Consts.MAX_WINDOW_SIZE then s.panic "assertion failed: sz <= MAX_WINDOW_SIZE"
        else s).recvDataCore id payload eos (dataFlowLen payload padLen) := by
  cases padLen <;> rfl

/-- the closure handed to `counts.transition` -/
def recvDataBody (s : Streams) (k : Nat) (payload : Bytes) (eos : Bool) (padLen : Option Nat) : Streams × Except PErr Unit :=
  let sz := dataFlowLen payload padLen
  let (s, res) := s.recvRecvData k payload eos padLen
  let (s, res) : Streams × Except PErr Unit :=
    match res with
    | .ok _ =>
      if !eos then
        let (c, ok) := s.counts.recordDataFrame payload.length
        let s := { s with counts := c }
        if ok then (s, .ok ()) else (s, .error (PErr.libraryGoAwayData ENHANCE_YOUR_CALM "too_many_data_frames"))
      else (s, .ok ())
    | .error e => (s, .error e)
  let s := match res with
    | .error (.reset ..) => s.releaseConnectionCapacity (usizeAsU32 sz) false
    | _ => s
  s.resetOnRecvStreamErr k res

theorem recvData_eq (s : Streams) (id : Nat) (payload : Bytes) (eos : Bool) (padLen : Option Nat) :
    s.recvData id payload eos padLen =
      match s.store.findKey? id with
      | none =>
        if id > s.recv.maxStreamId then
          match s.ignoreData (usizeAsU32 (dataFlowLen payload padLen)) with
          | (s, .error e) => (s, .error e)
          | (s, .ok _) => (s, .ok ())
        else if s.mayHaveForgottenStream id then
          match s.ignoreData (usizeAsU32 (dataFlowLen payload padLen)) with
          | (s, .error e) => (s, .error e)
          | (s, .ok _) => (s, .error (PErr.libraryReset id STREAM_CLOSED))
        else (s, .error (PErr.libraryGoAway PROTOCOL_ERROR))
      | some k => s.transition k fun s => s.recvDataBody k payload eos padLen := by rfl

/-- the initiating stream must exist and be receive-open -/
def pushPromiseParent (s : Streams) (id : Nat) (h : HeadersIn) : Streams × Except PErr (Option Nat) :=
  match s.store.findKey? id with
  | some k =>
    if id > s.recv.maxStreamId then (s, .ok none)
    else if (s.stream k).state.isLocalError then
      match s.ensureCanReserve with
      | .error e => (s, .error e)
      | .ok _ =>
        match s.recvOpen h.sid true with
        | (s, .error e) => (s, .error e)
        | (s, .ok true) => (s, .error (PErr.libraryReset h.sid REFUSED_STREAM))
        | (s, .ok false) => (s, .ok none)
    else match (s.stream k).state.ensureRecvOpen with
      | .ok true => (s, .ok (some k))
      | _ => (s, .error (PErr.libraryGoAway PROTOCOL_ERROR))
  | none => (s, .error (PErr.libraryGoAway PROTOCOL_ERROR))

/-- the closure handed to `counts.transition` for the promised stream -/
def pushPromiseBody (s : Streams) (child : Nat) (h : HeadersIn) : Streams × Except PErr Bool :=
  match s.recvRecvPushPromise child h with
  | (s, .ok) => (s, .ok true)
  | (s, .unsupported) => (s.unsup "promised request URI outside the modelled subset", .ok false)
  | (s, .err e) =>
    match s.resetOnRecvStreamErr child (.error e) with
    | (s, .ok _) => (s, .ok false)
    | (s, .error e) => (s, .error e)

/-- the promised stream enters the store, the closure runs, the parent is told -/
def pushPromiseChild (s : Streams) (parentKey : Nat) (h : HeadersIn) : Streams × Except PErr Unit :=
  let s := if s.store.contains h.sid then s.panic "assertion failed: self.ids.insert(id, index).is_none()" else s
  let (store, child) := s.store.insert (Stream.new h.sid s.actions.send.initWindowSz s.recv.initWindowSz)
  let s := { s with store := store }
  let (s, res) : Streams × Except PErr Bool := s.transition child fun s => s.pushPromiseBody child h
  match res with
  | .error e => (s, .error e)
  | .ok false => (s, .ok ())
  | .ok true =>
    let s :=
      if (s.stream child).isPendingAccept then s
      else (s.modStream child fun st => { st with isPendingAccept := true }).modStream parentKey
             fun st => { st with pendingPushPromises := st.pendingPushPromises ++ [child] }
    (s.modStreamW parentKey Stream.notifyPush, .ok ())

/-- what follows a successful look-up of the initiating stream -/
def pushPromiseRest (s : Streams) (parentKey : Nat) (h : HeadersIn) : Streams × Except PErr Unit :=
  match s.ensureCanReserve with
  | .error e => (s, .error e)
  | .ok _ =>
    match s.recvOpen h.sid true with
    | (s, .error e) => (s, .error e)
    | (s, .ok false) => (s, .ok ())
    | (s, .ok true) => s.pushPromiseChild parentKey h

theorem recvPushPromise_eq (s : Streams) (id : Nat) (h : HeadersIn) :
    s.recvPushPromise id h =
      if s.counts.isServer then (s, .error (PErr.libraryGoAway PROTOCOL_ERROR)) else
      match s.pushPromiseParent id h with
      | (s, .error e) => (s, .error e)
      | (s, .ok none) => (s, .ok ())
      | (s, .ok (some parentKey)) => s.pushPromiseRest parentKey h := by rfl

def alsConnect (s : Streams) (enableConnect : Option Nat) : Streams :=
  match enableConnect with
  | some v => s.modRecv fun r => { r with isExtendedConnectProtocolEnabled := v != 0 }
  | none => s

/-- the closure of the "window shrinks" branch -/
def alsDec (dec : Nat) (s : Streams) (id : Nat) : Streams × Option PErr :=
  match (s.stream id).recvFlow.decRecvWindow dec with
  | (fl, .error _) => (s.modStream id fun st => { st with recvFlow := fl }, some (PErr.libraryGoAway FLOW_CONTROL_ERROR))
  | (fl, .ok _) =>
    let s := s.modStream id fun st => { st with recvFlow := fl }
    if fl.unclaimedCapacity.isSome then ((s.qPush .pendingWindowUpdates id).1, none) else (s, none)

/-- the closure of the "window grows" branch -/
def alsInc (inc : Nat) (s : Streams) (id : Nat) : Streams × Option PErr :=
  match (s.stream id).recvFlow.incWindow inc with
  | (_, .error _) => (s, some (PErr.libraryGoAway FLOW_CONTROL_ERROR))
  | (fl, .ok _) =>
    match fl.assignCapacity inc with
    | (fl2, .error _) => (s.modStream id fun st => { st with recvFlow := fl2 }, some (PErr.libraryGoAway FLOW_CONTROL_ERROR))
    | (fl2, .ok _) => (s.modStream id fun st => { st with recvFlow := fl2 }, none)

/-- the `try_for_each` over all streams -/
def alsLoop (s : Streams) (oldSz target : Nat) : Streams × Option PErr :=
  if target < oldSz then s.storeTryForEach (alsDec (oldSz - target))
  else if target > oldSz then s.storeTryForEach (alsInc (target - oldSz))
  else (s, none)

/-- the SETTINGS_INITIAL_WINDOW_SIZE part -/
def alsWindow (s : Streams) (target : Nat) : Streams × Option PErr :=
  (s.modRecv fun r => { r with initWindowSz := target }).alsLoop s.recv.initWindowSz target

theorem applyLocalSettings_eq (s : Streams) (initialWindowSize enableConnect : Option Nat) :
    s.applyLocalSettings initialWindowSize enableConnect =
      match initialWindowSize with
      | none => (s.alsConnect enableConnect, .ok ())
      | some target =>
        let (s, res) := (s.alsConnect enableConnect).alsWindow target
        match res with
        | some e => (s, .error e)
        | none => (s, .ok ()) := by
  cases initialWindowSize <;> rfl

/-- a new slab entry for stream `id`, with the initial windows of the moment: the state, and the entry's key -/
def insertNew (s : Streams) (id : Nat) : Streams × Nat :=
  let (store, k) := s.store.insert (Stream.new id s.actions.send.initWindowSz s.recv.initWindowSz)
  ({ s with store := store }, k)

theorem recvHeadersEntry_eq (s : Streams) (h : HeadersIn) :
    s.recvHeadersEntry h =
      match s.store.findKey? h.sid with
      | some k => (s, .ok (some k))
      | none =>
        if !s.counts.isServer && s.mayHaveForgottenStream h.sid then (s, .error (PErr.libraryReset h.sid STREAM_CLOSED))
        else
          match s.recvOpen h.sid false with
          | (s, .error e) => (s, .error e)
          | (s, .ok false) => (s, .ok none)
          | (s, .ok true) => ((s.insertNew h.sid).1, .ok (some (s.insertNew h.sid).2)) := by rfl

/-- an accepted PUSH_PROMISE: the promised stream is linked to its parent, the parent's pusher woken -/
def pushPromiseLink (s : Streams) (parentKey child : Nat) : Streams :=
  let s :=
    if (s.stream child).isPendingAccept then s
    else (s.modStream child fun st => { st with isPendingAccept := true }).modStream parentKey
           fun st => { st with pendingPushPromises := st.pendingPushPromises ++ [child] }
  s.modStreamW parentKey Stream.notifyPush

theorem pushPromiseChild_eq (s : Streams) (parentKey : Nat) (h : HeadersIn) :
    s.pushPromiseChild parentKey h =
      let s := if s.store.contains h.sid then s.panic "assertion failed: self.ids.insert(id, index).is_none()" else s
      let (s, child) := s.insertNew h.sid
      let (s, res) : Streams × Except PErr Bool := s.transition child fun s => s.pushPromiseBody child h
      match res with
      | .error e => (s, .error e)
      | .ok false => (s, .ok ())
      | .ok true => (s.pushPromiseLink parentKey child, .ok ()) := by rfl

/-- SETTINGS_INITIAL_WINDOW_SIZE lowered by `dec`: every stream's send window shrinks; what the streams held above
    their new windows goes back to the connection -/
def sarsLess (s : Streams) (dec : Nat) : Streams × Option PErr :=
  match tryForEachAcc (decStreamWindow dec) (2 * s.store.ids.length + 1) 0 s.store.ids.length 0 s with
  | (s, _, some e) => (s, some e)
  | (s, total, none) => (s.assignConnectionCapacity total, none)

/-- raised by `inc`: a WINDOW_UPDATE for every stream -/
def sarsMore (s : Streams) (inc : Nat) : Streams × Option PErr :=
  s.storeTryForEach fun s id =>
    match s.sendRecvStreamWindowUpdate id inc with
    | (s, .error r) => (s, some (PErr.libraryGoAway r))
    | (s, .ok _) => (s, none)

/-- the SETTINGS_INITIAL_WINDOW_SIZE part of `Send::apply_remote_settings` -/
def sarsWindow (s : Streams) (val : Nat) : Streams × Option PErr :=
  let oldVal := s.actions.send.initWindowSz
  let s := s.modSend fun sd => { sd with initWindowSz := val }
  if val < oldVal then s.sarsLess (oldVal - val)
  else if val > oldVal then s.sarsMore (val - oldVal)
  else (s, none)

def sarsConnect (s : Streams) (enableConnect : Option Nat) : Streams :=
  match enableConnect with
  | some v => s.modSend fun sd => { sd with isExtendedConnectProtocolEnabled := v != 0 }
  | none => s

def sarsPush (s : Streams) (enablePush : Option Nat) : Streams :=
  match enablePush with
  | some v => s.modSend fun sd => { sd with isPushEnabled := v != 0 }
  | none => s

theorem sendApplyRemoteSettings_eq (s : Streams) (initialWindowSize enablePush enableConnect : Option Nat) :
    s.sendApplyRemoteSettings initialWindowSize enablePush enableConnect =
      match initialWindowSize with
      | none => ((s.sarsConnect enableConnect).sarsPush enablePush, .ok ())
      | some val =>
        let (s, res) := (s.sarsConnect enableConnect).sarsWindow val
        match res with
        | some e => (s, .error e)
        | none => (s.sarsPush enablePush, .ok ()) := by
  cases initialWindowSize <;> rfl

end Streams

namespace Stream

/-- what `try_assign_capacity` would still give the stream: limited by its request and by its window -/
def assignWant (x : Stream) : Nat :=
  min (wrapSubU32 x.requestedSendCapacity x.sendFlow.available.asSize) (wrapSubU32 x.sendFlow.windowSz x.sendFlow.available.asSize)

/-- `try_assign_capacity` returns at once: the stream waits to be opened, wants nothing, or can send nothing -/
def assignIdle (x : Stream) : Bool :=
  x.isPendingOpen || assignWant x == 0 || (!x.state.isSendStreaming && x.bufferedSendData == 0)

/-- the stream has less than it asked for and its window would allow more: it waits in `pending_capacity` -/
def wantsMore (x : Stream) : Bool :=
  x.sendFlow.available.ltUsize x.requestedSendCapacity && x.sendFlow.hasUnavailable

end Stream

namespace Streams

/-- connection → stream: `n` octets -/
def assignN (s : Streams) (id n : Nat) : Streams :=
  (s.modStreamW id fun st => st.assignCapacity n s.prio.maxBufferSize).modPrio
    fun p => { p with flow := (p.flow.claimCapacity n).1 }

/-- the end of `try_assign_capacity`: the stream is linked into `pending_capacity` if it still wants more, into
    `pending_send` if it has data and may send -/
def relink (s : Streams) (id : Nat) : Streams :=
  let st := s.stream id
  let s := if st.wantsMore then (s.qPush .pendingCapacity id).1 else s
  if st.bufferedSendData > 0 && st.isSendReady then (s.qPush .pendingSend id).1 else s

theorem tryAssignCapacity_eq (s : Streams) (id : Nat) :
    s.tryAssignCapacity id =
      if (s.stream id).assignIdle then s
      else (if s.prio.flow.available.asSize > 0
        then s.assignN id (min s.prio.flow.available.asSize (s.stream id).assignWant) else s).relink id := by
  unfold tryAssignCapacity Stream.assignIdle
  dsimp only
  by_cases h1 : (s.stream id).isPendingOpen = true
  · simp only [h1, if_true, Bool.true_or]
  have h1' : (s.stream id).isPendingOpen = false := Bool.eq_false_iff.2 h1
  by_cases h2 : (s.stream id).assignWant = 0
  · have h2' := h2
    unfold Stream.assignWant at h2'
    simp only [h1', h2, h2', if_true, Bool.false_or, beq_self_eq_true, Bool.true_or, Bool.false_eq_true, if_false]
  have h2' := h2
  unfold Stream.assignWant at h2'
  have h2b : ((s.stream id).assignWant == 0) = false := by simpa using h2
  by_cases h3 : (!(s.stream id).state.isSendStreaming && (s.stream id).bufferedSendData == 0) = true
  · simp only [h1', h2', h2b, h3, if_true, Bool.or_true, Bool.false_eq_true, if_false]
  · simp only [h1', h2', h2b, h3, Bool.false_eq_true, if_false, Bool.or_self]
    rfl

theorem tryAssignCapacity_cases {P : Streams → Prop} (s : Streams) (id : Nat) (idle : P s)
    (move : (s.stream id).assignIdle = false → 0 < s.prio.flow.available.asSize →
      P ((s.assignN id (min s.prio.flow.available.asSize (s.stream id).assignWant)).relink id))
    (stay : (s.stream id).assignIdle = false → ¬ 0 < s.prio.flow.available.asSize → P (s.relink id)) :
    P (s.tryAssignCapacity id) := by
  rw [tryAssignCapacity_eq]
  split
  · exact idle
  · next hi =>
    split
    · next hp => exact move (Bool.eq_false_iff.2 hi) hp
    · next hp => exact stay (Bool.eq_false_iff.2 hi) hp

/-- `send_reset` on a stream that still waits in `pending_open`: of what is queued only the initial HEADERS stay -/
def keepOnlyHead (s : Streams) (id : Nat) : Streams :=
  let headers := (s.stream id).pendingSend.head?
  let s := s.modStream id fun st => { st with pendingSend := st.pendingSend.drop 1 }
  let s := s.clearQueue id
  match headers with
  | some f => s.modStream id fun st => { st with pendingSend := st.pendingSend ++ [f] }
  | none => s

theorem sendSendReset_eq (s : Streams) (id : Nat) (reason : Reason) (init : Initiator) :
    s.sendSendReset id reason init =
      if (s.stream id).state.isReset then s
      else
        let t := s.modStreamW id fun st => st.setReset reason init
        if (s.stream id).state.isClosed && ((s.stream id).pendingSend.isEmpty && (s.stream id).bufferedSendData == 0) then t
        else ((if (t.stream id).isPendingOpen then t.keepOnlyHead id else t.clearQueue id).queueFrame id
          (.reset reason)).reclaimAllCapacity id := by rfl

end Streams

end H2V.Model.Conn
