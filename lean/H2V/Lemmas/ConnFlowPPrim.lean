import Lean.Elab.Tactic
import H2V.Lemmas.ConnFlowPBase
import H2V.Lemmas.ConnStages
/-
  ConnFlowP — `Fr` for the primitives of `ConnStore.lean` that are not strong frame steps or that a proof names (an
  update of an entry, the queues), and the walker `walk_with` the tactics of the family are instances of.
-/
namespace H2V.Lemmas.ConnFlowP
open H2V H2V.Model H2V.Model.Conn

theorem NoFlow.id : NoFlow (fun x => x) := fun _ => ⟨rfl, rfl⟩

theorem NoFlow.comp {f g : Stream → Stream} (hf : NoFlow f) (hg : NoFlow g) : NoFlow (fun x => f (g x)) :=
  fun x => ⟨(hf (g x)).1.trans (hg x).1, (hf (g x)).2.trans (hg x).2⟩

theorem noFlow_setQueued (q : QName) (v : Bool) : NoFlow (fun st => st.setQueued q v) := by
  intro x; cases q <;> exact ⟨rfl, rfl⟩

theorem noFlow_waitSend (tag : String) : NoFlow (fun st => st.waitSend tag) := fun _ => ⟨rfl, rfl⟩
theorem noFlow_waitOpen (tag : String) : NoFlow (fun st => st.waitOpen tag) := fun _ => ⟨rfl, rfl⟩

theorem notifySend_kf (x : Stream) : x.notifySend.1.key = x.key ∧ x.notifySend.1.sendFlow = x.sendFlow := by
  unfold Stream.notifySend
  cases x.sendTask <;> dsimp only <;> split <;> exact ⟨rfl, rfl⟩

theorem notifyRecv_kf (x : Stream) : x.notifyRecv.1.key = x.key ∧ x.notifyRecv.1.sendFlow = x.sendFlow := by
  unfold Stream.notifyRecv
  split <;> exact ⟨rfl, rfl⟩

theorem notifyPush_kf (x : Stream) : x.notifyPush.1.key = x.key ∧ x.notifyPush.1.sendFlow = x.sendFlow := by
  unfold Stream.notifyPush
  split <;> exact ⟨rfl, rfl⟩

theorem notifyCapacity_kf (x : Stream) :
    x.notifyCapacity.1.key = x.key ∧ x.notifyCapacity.1.sendFlow = x.sendFlow := by
  unfold Stream.notifyCapacity
  exact notifySend_kf _

theorem noFlowW_notifyRecv : NoFlowW Stream.notifyRecv := notifyRecv_kf
theorem noFlowW_notifyCapacity : NoFlowW Stream.notifyCapacity := notifyCapacity_kf

theorem setReset_kf (x : Stream) (r : Reason) (i : Initiator) :
    (x.setReset r i).1.key = x.key ∧ (x.setReset r i).1.sendFlow = x.sendFlow := by
  unfold Stream.setReset
  simp only
  have h1 := notifySend_kf { x with state := x.state.setReset x.id r i }
  have h2 := notifyPush_kf ({ x with state := x.state.setReset x.id r i } : Stream).notifySend.1
  have h3 := notifyRecv_kf (({ x with state := x.state.setReset x.id r i } : Stream).notifySend.1).notifyPush.1
  exact ⟨h3.1.trans (h2.1.trans h1.1), h3.2.trans (h2.2.trans h1.2)⟩

theorem noFlowW_setReset (r : Reason) (i : Initiator) : NoFlowW (fun st => st.setReset r i) :=
  fun x => setReset_kf x r i

section
variable {s t : Streams}

theorem Fr.panic (h : Fr s t) (m : String) : Fr s (t.panic m) := by
  refine h.of_same ?_ ?_ ?_ <;> (unfold Streams.panic; split <;> rfl)

theorem Fr.wake (h : Fr s t) (w : List String) : Fr s (t.wake w) := h.of_same rfl rfl rfl

theorem Fr.setQ (h : Fr s t) (q : QName) (l : List Nat) : Fr s (t.setQ q l) := by
  cases q <;> exact h.of_same rfl rfl rfl

theorem Fr.setStream_of (h : Fr s t) (st' : Stream)
    (hk : ∀ x ∈ t.store.slab, x.key = st'.key → x.sendFlow = st'.sendFlow) : Fr s (t.setStream st') :=
  h.of_store (StoreFr.set _ _ hk) rfl rfl

theorem Fr.modStream (h : Fr s t) (id : Nat) (f : Stream → Stream) (hf : NoFlow f) : Fr s (t.modStream id f) := by
  unfold Streams.modStream
  split
  · rename_i st hget
    refine h.trans ⟨rfl, rfl, ?_⟩
    intro hk
    have hm := get?_mem hget
    refine StoreFr.set _ _ ?_ hk
    intro x hx hxk
    have : x = st := key_inj hk.1 hx hm.1 (hxk.trans (hf st).1)
    rw [this, (hf st).2]
  · exact h.panic _

theorem Fr.modStreamW (h : Fr s t) (id : Nat) (f : Stream → Stream × List String) (hf : NoFlowW f) :
    Fr s (t.modStreamW id f) := by
  unfold Streams.modStreamW
  split
  · rename_i st hget
    show Fr s ((t.setStream (f st).1).wake (f st).2)
    refine Fr.wake (t := t.setStream (f st).1) (h.trans ⟨rfl, rfl, ?_⟩) _
    intro hk
    have hm := get?_mem hget
    refine StoreFr.set _ _ ?_ hk
    intro x hx hxk
    have : x = st := key_inj hk.1 hx hm.1 (hxk.trans (hf st).1)
    rw [this, (hf st).2]
  · exact h.panic _

theorem Fr.qPush (h : Fr s t) (q : QName) (id : Nat) : Fr s (t.qPush q id).1 := by
  unfold Streams.qPush
  split
  · exact h
  · exact (h.modStream id _ (noFlow_setQueued q true)).setQ q _

theorem Fr.qPushFront (h : Fr s t) (q : QName) (id : Nat) : Fr s (t.qPushFront q id).1 := by
  unfold Streams.qPushFront
  split
  · exact h
  · exact (h.modStream id _ (noFlow_setQueued q true)).setQ q _

theorem Fr.qPop (h : Fr s t) (q : QName) : Fr s (t.qPop q).1 := by
  unfold Streams.qPop
  split
  · exact h
  · exact (h.setQ q _).modStream _ _ (noFlow_setQueued q false)

/-- a state that a `match f … with | (t', r) => …` bound: go back to `(f …).1` -/
theorem Fr.qPop_eq' {t' : Streams} {r : Option Nat} {q : QName} (he : t.qPop q = (t', r)) (h : Fr s t) : Fr s t' :=
  of_fst_eq he (h.qPop q)
theorem Fr.qPush_eq' {t' : Streams} {r : Bool} {q : QName} {id : Nat} (he : t.qPush q id = (t', r)) (h : Fr s t) :
    Fr s t' := of_fst_eq he (h.qPush q id)
end

/-- side conditions `NoFlow f` / `NoFlowW f` -/
syntax "noflow" : tactic
macro_rules | `(tactic| noflow) => `(tactic| first
  | (intro _; exact ⟨rfl, rfl⟩)
  | exact noFlow_setQueued _ _
  | exact noFlow_waitSend _
  | exact noFlow_waitOpen _
  | exact noFlowW_notifyRecv
  | exact noFlowW_notifyCapacity
  | exact noFlowW_setReset _ _)

open Lean Elab Tactic Meta in
/-- succeeds when the goal is `Fr s (Streams.mk …)` syntactically (structure eta would otherwise let
    the record-update lemmas match anything) -/
elab "guard_mk" : tactic => do
  let g ← instantiateMVars (← getMainTarget)
  unless g.isApp && g.appArg!.consumeMData.getAppFn.isConstOf ``Streams.mk do
    throwError "guard_mk: not a record update"

open Lean Elab Tactic Meta in
/-- the opposite of `guard_mk` -/
elab "guard_not_mk" : tactic => do
  let g ← instantiateMVars (← getMainTarget)
  if g.isApp && g.appArg!.consumeMData.getAppFn.isConstOf ``Streams.mk then
    throwError "guard_not_mk: a record update"

open Lean Elab Tactic Meta in
/-- succeeds when the last argument of the goal is an application of the constant `c` -/
elab "guard_last_arg " c:ident : tactic => do
  let g ← instantiateMVars (← getMainTarget)
  let n ← realizeGlobalConstNoOverloadWithInfo c
  unless g.isApp && g.appArg!.consumeMData.getAppFn.isConstOf n do
    throwError "guard_last_arg: head is not {n}"

set_option hygiene false in
/-- inside an induction on fuel: the hypothesis must be called `ih` -/
macro "apply_ih" : tactic => `(tactic| with_reducible apply ih)

/- Every relation of this family is, in its last argument, a predicate `P` on states (`Fr s`, `SFr s`,
   `SafeInvG g`, `MvG w g s g'`, …); a goal `P (body of a model function)` is walked from the outside. -/
section
variable {P : Streams → Prop}

/-- name an intermediate state: its value is forgotten, only `P x` is kept (so the value is walked
    once, however often the continuation mentions `x`) -/
theorem state_let {x y : Streams} (hx : P x) (k : P x → P y) : P y := k hx

/- (the `Decidable` instance is an ordinary implicit argument: it is read off the goal, not searched for) -/
theorem state_ite {c : Prop} {d : Decidable c} {a b : Streams} (ha : c → P a) (hb : ¬c → P b) :
    P (@ite _ c d a b) := by
  split
  · exact ha ‹_›
  · exact hb ‹_›

theorem state_ite_fst {α : Type} {c : Prop} {d : Decidable c} {a b : Streams × α} (ha : c → P a.1)
    (hb : ¬c → P b.1) : P (@ite _ c d a b).1 := by
  split
  · exact ha ‹_›
  · exact hb ‹_›

theorem state_transition {α : Type} {t : Streams} {id : Nat} {f : Streams → Streams × α}
    (hta : ∀ u b, P u → P (u.transitionAfter id b)) (hf : P (f t).1) : P (t.transition id f).1 := by
  rw [Streams.transition_fst]; exact hta _ _ hf

end

set_option hygiene false in
/-- the outermost `let x := v; b` of the goal: a state `x` is named (`state_let`), any other `let` is substituted -/
macro "state_let" : tactic => `(tactic| (extract_lets +onlyGivenNames x; first
  | (refine state_let (x := x) ?a (fun hx => ?b); (case' b => clear_value x); (case' a => unfold x))
  | ((try unfold x); (try clear x))))

/-- an `if` at the head of the state (`split` would run `simp` over the whole goal) -/
macro "state_ite" : tactic => `(tactic| first
  | with_reducible refine state_ite (fun _ => ?_) (fun _ => ?_)
  | with_reducible refine state_ite_fst (fun _ => ?_) (fun _ => ?_))

/-- the closure loops of the store (`try_for_each`, `for_each`) and a fold over a list: `P` passes when
    it survives `panic` and every call of the closure -/
macro "state_loop" : tactic => `(tactic| first
  | with_reducible refine Streams.storeTryForEach_inv (fun _ _ _ => ?_) (fun _ _ _ _ => ?_) ?_
  | with_reducible refine Streams.storeForEach_inv (fun _ _ _ => ?_) (fun _ _ _ _ => ?_) ?_
  | with_reducible refine Streams.foldl_inv (fun _ _ _ => ?_) _ _ ?_
  | with_reducible refine Streams.tryForEachAcc_inv (fun _ _ _ => ?_) (fun _ _ _ _ _ => ?_) _ _ _ _ _ ?_)

/-- `counts.transition` is not unfolded: the closure's body is walked, `transition_after` is a step like any other -/
macro "state_transition" : tactic =>
  `(tactic| with_reducible refine state_transition (fun _ _ _ => ?_) ?_)

/-- walk the goal: `step` closes it or peels one function; otherwise name a state, go into a loop or a
    `counts.transition`, or split an `if`/`match` -/
macro "walk_with " step:tactic : tactic =>
  `(tactic| repeat' (first | $step:tactic | state_let | state_ite | state_loop | state_transition | dsimp -zeta only | split))

end H2V.Lemmas.ConnFlowP
