import H2V.Lemmas.ConnCountsPInvB
/-
  C05 / C18 / C19 — invariants, part C: the counters.
  `Inv1`: `num_send_streams + num_recv_streams` = number of counted slab entries,
  `num_local_reset_streams` = length of `pending_reset_expired`, and the four quotas.
  It holds along `Ev` / `EvT` as long as no `assert!` of the real code fires (`panicked = none`).
-/
namespace H2V.Lemmas.ConnCountsP
open H2V H2V.Model H2V.Model.Conn

structure CB (c c' : Counts) : Prop where
  numSend : c'.numSendStreams = c.numSendStreams
  numRecv : c'.numRecvStreams = c.numRecvStreams
  numReset : c'.numLocalResetStreams = c.numLocalResetStreams
  maxRecv : c'.maxRecvStreams = c.maxRecvStreams
  maxReset : c'.maxLocalResetStreams = c.maxLocalResetStreams
  err : (∀ m, c.maxLocalErrorResetStreams = some m → c.numLocalErrorResetStreams ≤ m) →
        (∀ m, c'.maxLocalErrorResetStreams = some m → c'.numLocalErrorResetStreams ≤ m)
  remote : c.numRemoteResetStreams ≤ c.maxRemoteResetStreams → c'.numRemoteResetStreams ≤ c'.maxRemoteResetStreams

theorem CB.refl (c : Counts) : CB c c := ⟨rfl, rfl, rfl, rfl, rfl, id, id⟩
theorem CB.trans {a b c : Counts} (h1 : CB a b) (h2 : CB b c) : CB a c :=
  ⟨h2.numSend.trans h1.numSend, h2.numRecv.trans h1.numRecv, h2.numReset.trans h1.numReset,
   h2.maxRecv.trans h1.maxRecv, h2.maxReset.trans h1.maxReset, fun h => h2.err (h1.err h), fun h => h2.remote (h1.remote h)⟩

theorem CB.of_cstep {c c' : Counts} (h : CStep c c') : CB c c' := by
  refine ⟨h.numSend, h.numRecv, h.numReset, h.maxRecv, h.maxReset, ?_, ?_⟩
  · intro hb m hm
    rw [h.maxErr] at hm
    rcases h.err with e | ⟨e, hc⟩
    · rw [e]; exact hb m hm
    · rw [e]
      unfold Counts.canIncNumLocalErrorResets at hc
      rw [hm] at hc
      simp only [decide_eq_true_eq] at hc
      omega
  · intro hb
    rw [h.maxRemote]
    rcases h.remote with e | ⟨e, hc⟩
    · omega
    · rw [e]
      unfold Counts.canIncNumRemoteResetStreams at hc
      simp only [decide_eq_true_eq] at hc
      omega

/-- a step that touches neither the counters, nor `pending_reset_expired`, nor the counted entries -/
structure CF (s s' : Streams) : Prop where
  counts : CB s.counts s'.counts
  resetQ : s'.recv.pendingResetExpired = s.recv.pendingResetExpired
  keys : SameKeys s s'
  cnt : KeysOK s → cntAll s' = cntAll s

theorem CF.trans {a b c : Streams} (h1 : CF a b) (h2 : CF b c) : CF a c :=
  ⟨h1.counts.trans h2.counts, h2.resetQ.trans h1.resetQ, h1.keys.trans h2.keys,
   fun h => (h2.cnt (h1.keys.keysOK h)).trans (h1.cnt h)⟩

theorem CF.panic' (s : Streams) (m : String) : CF s (s.panic m) :=
  ⟨by rw [panic_counts]; exact CB.refl _, by unfold Streams.recv; rw [panic_actions], SameKeys.panic' _ _,
   fun _ => cntAll_of_store_eq (panic_store _ _)⟩

theorem CF.setCounts (s : Streams) (c : Counts) (h : CB s.counts c) : CF s { s with counts := c } :=
  ⟨h, rfl, SameKeys.of_store_eq rfl, fun _ => rfl⟩

theorem CF.closed : PrimClosed CF (fun x y => y.isCounted = x.isCounted) (fun _ q _ => q ≠ .pendingResetExpired) CB where
  refl _ := ⟨CB.refl _, rfl, SameKeys.refl _, fun _ => rfl⟩
  trans := CF.trans
  frame h := ⟨CB.of_cstep h.counts, h.q .pendingResetExpired, SameKeys.of_store_eq h.store, fun _ => cntAll_of_store_eq h.store⟩
  setStream s st' h := by
    refine ⟨CB.refl _, rfl, SameKeys.setStream _ _, ?_⟩
    intro hA
    cases hx : s.store.get? st'.key with
    | none => exact cntAll_of_store_eq (setStream_dangling s st' hx)
    | some x =>
      have := cntAll_setStream hA st' x hx
      rw [h x hx] at this; omega
  setQ s q l hq :=
    ⟨by rw [setQ_counts]; exact CB.refl _, by cases q <;> first | rfl | exact absurd rfl hq, SameKeys.setQ _ _ _,
     fun _ => cntAll_of_store_eq (setQ_store _ _ _)⟩
  setCounts := CF.setCounts

theorem CF.modStream (s : Streams) (k : Nat) (f : Stream → Stream) (hf : ∀ x, (f x).key = x.key)
    (hc : ∀ x, (f x).isCounted = x.isCounted) : CF s (s.modStream k f) := CF.closed.modStream s k f hf fun x _ => hc x

theorem CF.qPush (s : Streams) (q : QName) (k : Nat) (hq : q ≠ .pendingResetExpired) : CF s (s.qPush q k).1 :=
  CF.closed.qPush s q k (Stream.setQueued_isCounted · q true) fun _ => hq

theorem CF.qPushFront (s : Streams) (q : QName) (k : Nat) (hq : q ≠ .pendingResetExpired) : CF s (s.qPushFront q k).1 :=
  CF.closed.qPushFront s q k (Stream.setQueued_isCounted · q true) fun _ => hq

theorem CF.qPop (s : Streams) (q : QName) (hq : q ≠ .pendingResetExpired) : CF s (s.qPop q).1 :=
  CF.closed.qPop s q (Stream.setQueued_isCounted · q false) fun _ _ _ => hq

structure Inv1 (s : Streams) : Prop where
  sum : s.counts.numSendStreams + s.counts.numRecvStreams = cntAll s
  reset : s.counts.numLocalResetStreams = s.recv.pendingResetExpired.length
  recvLe : s.counts.numRecvStreams ≤ s.counts.maxRecvStreams
  resetLe : s.counts.numLocalResetStreams ≤ s.counts.maxLocalResetStreams
  remoteLe : s.counts.numRemoteResetStreams ≤ s.counts.maxRemoteResetStreams
  errLe : ∀ m, s.counts.maxLocalErrorResetStreams = some m → s.counts.numLocalErrorResetStreams ≤ m

theorem Inv1.of_cb {s s' : Streams} (hi : Inv1 s) (hc : CB s.counts s'.counts)
    (hq : s'.recv.pendingResetExpired = s.recv.pendingResetExpired) (hcnt : cntAll s' = cntAll s) : Inv1 s' :=
  ⟨by rw [hc.numSend, hc.numRecv, hcnt]; exact hi.sum,
   by rw [hc.numReset, hq]; exact hi.reset,
   by rw [hc.numRecv, hc.maxRecv]; exact hi.recvLe,
   by rw [hc.numReset, hc.maxReset]; exact hi.resetLe,
   hc.remote hi.remoteLe, hc.err hi.errLe⟩

theorem CF.inv1 {s s' : Streams} (h : CF s s') (hA : KeysOK s) (hi : Inv1 s) : Inv1 s' := hi.of_cb h.counts h.resetQ (h.cnt hA)

end H2V.Lemmas.ConnCountsP
