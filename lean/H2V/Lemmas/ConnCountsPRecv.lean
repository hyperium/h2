import H2V.Lemmas.ConnCountsPSend2
import H2V.Lemmas.ConnStages
/-
  C05 / C18 / C19: `Ev` for `recv.rs` (`ConnRecv.lean`).
-/
namespace H2V.Lemmas.ConnCountsP
open H2V H2V.Model H2V.Model.Conn
variable {ρ : Bool}
attribute [local irreducible] wrapSubU32 wrapSubUsize

macro_rules | `(tactic| ev_side) => `(tactic| exact cstep_recordDataFrame _ _)
macro_rules | `(tactic| ev_side) => `(tactic| (intro _ h; exact cstep_incErr h))

theorem releaseClosedCapacity_ev (s : Streams) (id : Nat) : EvB ρ s (s.releaseClosedCapacity id) :=
  .of_step (Streams.releaseClosedCapacity_step (by decide) s id)

theorem setTargetConnectionWindow_ev (s : Streams) (t : Nat) : EvB ρ s (s.setTargetConnectionWindow t).1 :=
  .of_step (Streams.setTargetConnectionWindow_step (by decide) s t)

/-- `Recv::open` writes `next_stream_id` and `refused` of the receive half only -/
theorem recvOpen_ev (s : Streams) (id : Nat) (pp : Bool) : EvB ρ s (s.recvOpen id pp).1 := by
  unfold Streams.recvOpen
  dsimp only
  generalize hs0 : (if s.recv.refused.isSome = true then s.panic _ else s) = s0
  have h0 : EvB ρ s s0 := by rw [← hs0]; split; exact panic_ev _ _; exact .refl _
  refine rel_ite_fst (fun _ => h0) fun _ => ?_
  split
  · exact h0
  · have h1 := h0.trans (modRecv_ev (ρ := ρ) s0
      (fun r => { r with nextStreamId := if id + 2 > 2147483647 then none else some (id + 2) }) fun _ => ⟨rfl, rfl, rfl⟩)
    refine rel_ite_fst (fun _ => h0) fun _ => rel_ite_fst (fun _ => h1.trans (modRecv_ev _ (fun r => { r with refused := some id }) fun _ => ⟨rfl, rfl, rfl⟩)) fun _ => h1

theorem recvOpen_initial_early {st st' : State} {a b : Bool} (h : st.recvOpen a b = (st', .ok true)) :
    st.inner = .idle ∨ st.inner = .reservedRemote := by
  obtain ⟨inner⟩ := st
  cases inner with
  | idle => left; rfl
  | reservedRemote => right; rfl
  | «open» l r => cases r <;> simp [State.recvOpen] at h
  | halfClosedLocal p => cases p <;> simp [State.recvOpen] at h
  | _ => simp [State.recvOpen] at h

theorem modRecv_frame (s : Streams) (f : Recv → Recv)
    (h : ∀ p, (f p).pendingWindowUpdates = p.pendingWindowUpdates ∧ (f p).pendingAccept = p.pendingAccept ∧
      (f p).pendingResetExpired = p.pendingResetExpired) : Frame s (s.modRecv f) := by
  refine ⟨rfl, CStep.refl _, ?_, id, NextOK.refl _ _⟩
  intro q
  cases q <;> simp [Streams.getQ, Streams.prio, Streams.recv, Streams.modRecv, h]

theorem recvHeadersSt_ev {s : Streams} {id : Nat} {a b : Bool} {st' : State} {r : Except PErr Bool}
    (heq : (s.stream id).state.recvOpen a b = (st', r)) : EvB ρ s (s.recvHeadersSt id st') :=
  modStream_ev' _ _ _ (setState_same _ _ (early_of_step (K := fun _ => true) (id := 0) (.recvOpen _ _ rfl heq)))

/-- the state leaves `Idle`/`ReservedRemote` and the stream is counted: one `incRecv` step -/
theorem recvHeadersCount_ev {s : Streams} {id : Nat} {a b : Bool} {st' : State} {isInitial : Bool}
    (heq : (s.stream id).state.recvOpen a b = (st', .ok isInitial)) (h : HeadersIn) :
    EvB true s ((s.recvHeadersSt id st').recvHeadersCount id h isInitial) := by
  unfold Streams.recvHeadersCount
  split
  · next hc =>
    have hi : isInitial = true := by simp only [Bool.and_eq_true] at hc; exact hc.1
    subst hi
    refine .incRecv id st' _ (recvOpen_initial_early heq) ?_
    split
    · exact modRecv_frame _ _ (fun _ => ⟨rfl, rfl, rfl⟩)
    · exact ⟨rfl, CStep.refl _, fun _ => rfl, fun h => h, NextOK.refl _ _⟩
  · exact recvHeadersSt_ev heq

theorem recvRecvHeaders_ev (s : Streams) (id : Nat) (h : HeadersIn) : EvB true s (s.recvRecvHeaders id h).1 := by
  rw [Streams.recvRecvHeaders_eq]
  split
  · exact .refl _
  · next st' isInitial heq =>
    dsimp only
    split
    · -- a promised stream whose response arrives when the limit is reached is refused (uncounted)
      exact recvHeadersSt_ev heq
    · refine .trans (recvHeadersCount_ev heq h) ?_
      split
      · next heq2 => exact of_fst_eq heq2 (.of_step (Streams.recvHeadersCl_step (by decide) _ _ _))
      · next heq2 => exact .trans (of_fst_eq heq2 (.of_step (Streams.recvHeadersCl_step (by decide) _ _ _))) (.of_step (Streams.recvHeadersQueue_step (by decide) _ _ _ _))

theorem recvTakeRequest_ev (s : Streams) (id : Nat) : EvB ρ s (s.recvTakeRequest id).1 :=
  .of_step (Streams.recvTakeRequest_step (by decide) s id)

theorem recvMaybeResetNextStreamId_ev (s : Streams) (id : Nat) : EvB ρ s (s.recvMaybeResetNextStreamId id) := by
  unfold Streams.recvMaybeResetNextStreamId
  ev_auto

theorem stream_isLocalError_live {s : Streams} {k : Nat} (h : (s.stream k).state.isLocalError = true) :
    (s.store.get? k).isSome = true := by
  unfold Streams.stream at h
  cases hx : s.store.get? k with
  | none => rw [hx] at h; simp [State.isLocalError] at h
  | some x => rfl

theorem enqueueResetExpiration_ev (s : Streams) (id : Nat) : EvB ρ s (s.enqueueResetExpiration id) := by
  unfold Streams.enqueueResetExpiration
  dsimp only
  split
  · exact .refl _
  · next h1 =>
    split
    · next hc =>
      simp only [Bool.or_eq_true, Bool.not_eq_true', not_or, Bool.not_eq_false] at h1
      refine .resetEnq id hc ?_ (stream_isLocalError_live h1.1)
      simpa [Stream.isPendingResetExpiration] using h1.2
    · exact .refl _

theorem sendPendingRefusal_ev (s : Streams) (w : Writer) : EvB ρ s (s.sendPendingRefusal w).1 := by
  unfold Streams.sendPendingRefusal
  ev_auto

theorem clearStreamWindowUpdateQueue_ev (fuel : Nat) (s : Streams) :
    EvB ρ s (Streams.clearStreamWindowUpdateQueue fuel s) := by
  rw [Streams.clearStreamWindowUpdateQueue_eq]
  exact Streams.popLoop_rel EvB.relOK (fun s => qPop_ev s _ (by decide) (by decide)) taBody_ev fuel s

theorem clearAllPendingAccept_ev (fuel : Nat) (s : Streams) : EvB ρ s (Streams.clearAllPendingAccept fuel s) := by
  rw [Streams.clearAllPendingAccept_eq]
  exact Streams.popLoop_rel EvB.relOK (fun s => qPop_ev s _ (by decide) (by decide))
    (fun s id => transitionAfter_ev s id _ (fun h => Bool.noConfusion h)) fuel s

theorem sendStreamWindowUpdates_ev : ∀ (fuel : Nat) (s : Streams) (w : Writer), EvB ρ s (Streams.sendStreamWindowUpdates fuel s w).1 := by
  intro fuel
  induction fuel with
  | zero => intro s w; exact .refl _
  | succ n ih =>
    intro s w
    unfold Streams.sendStreamWindowUpdates
    split
    · exact .refl _
    · split
      · next s' heq => exact of_fst_eq heq (qPop_ev _ _ (by decide) (by decide))
      · next s' id heq =>
        have e0 : EvB ρ s s' := of_fst_eq heq (qPop_ev _ _ (by decide) (by decide))
        refine .trans e0 ?_
        dsimp only
        refine .trans (transitionAfter_after id ?_) (ih _ _)
        ev_auto

theorem recvBufferPending_ev (s : Streams) (w : Writer) : EvB ρ s (s.recvBufferPending w).1 := by
  unfold Streams.recvBufferPending
  ev_auto

theorem recvPollResponse_ev (fuel : Nat) (s : Streams) (id : Nat) (tag : String) :
    EvB ρ s (Streams.recvPollResponse fuel s id tag).1 :=
  .of_step (Streams.recvPollResponse_step (by decide) fuel s id tag)

theorem clearExpiredResetStreams_evT : ∀ (fuel : Nat) (s : Streams), EvT s (Streams.clearExpiredResetStreams fuel s) := by
  intro fuel
  induction fuel with
  | zero => intro s; exact .refl _
  | succ n ih =>
    intro s
    unfold Streams.clearExpiredResetStreams
    split
    · exact .refl _
    · have h := EvT.resetPop (s := s)
      split
      · next s' heq => rw [heq] at h; exact h
      · next s' id heq => rw [heq] at h; exact .trans h (ih _)

theorem clearAllResetStreams_evT : ∀ (fuel : Nat) (s : Streams), EvT s (Streams.clearAllResetStreams fuel s) := by
  intro fuel
  induction fuel with
  | zero => intro s; exact .refl _
  | succ n ih =>
    intro s
    unfold Streams.clearAllResetStreams
    have h := EvT.resetPop (s := s)
    split
    · next s' heq => rw [heq] at h; exact h
    · next s' id heq => rw [heq] at h; exact .trans h (ih _)

theorem recvClearQueues_evT (s : Streams) (b : Bool) : EvT s (s.recvClearQueues b) := by
  unfold Streams.recvClearQueues
  dsimp only
  split
  · exact .trans (.trans (.ev (clearStreamWindowUpdateQueue_ev _ _)) (clearAllResetStreams_evT _ _)) (.ev (clearAllPendingAccept_ev _ _))
  · exact .trans (.ev (clearStreamWindowUpdateQueue_ev _ _)) (clearAllResetStreams_evT _ _)

/-- `Recv::poll_pushed` (F32): the promised stream leaves its parent's `pending_push_promises`
    (link flag cleared: `acceptFlag`), its request head is taken -/
theorem recvPollPushed_ev (s : Streams) (id : Nat) (tag : String) : EvB ρ s (s.recvPollPushed id tag).1 := by
  unfold Streams.recvPollPushed
  split
  · next child rest _ =>
    dsimp only
    have e1 : EvB ρ s ((s.modStream id fun st => { st with pendingPushPromises := rest }).modStream child
        fun st => { st with isPendingAccept := false }) :=
      .trans (by ev_auto) (.acceptFlag child false)
    generalize ((s.modStream id fun st => { st with pendingPushPromises := rest }).modStream child
        fun st => { st with isPendingAccept := false }) = s2 at e1 ⊢
    ev_auto
  · ev_auto

end H2V.Lemmas.ConnCountsP
