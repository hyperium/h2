import H2V.Lemmas.ConnNoPanicPDsReset
import H2V.Lemmas.ConnDataRule
import H2V.Lemmas.ConnPushRule
/-
  C08 (no panic) — `DSum` / `Coupled` as invariants: streams.rs — every operation of the stream layer
  outside the write path is a `UK`, `GK` or `GKo` step.
-/
namespace H2V.Lemmas.ConnNoPanicP
open H2V H2V.Model H2V.Model.Conn H2V.Lemmas.ConnCountsP
attribute [local irreducible] wrapSubU32 wrapSubUsize

theorem refSendResponse_gk (s : Streams) (k : Nat) (f : List Hpack.Field) (eos : Bool) : GK s (s.refSendResponse k f eos).1 := by
  unfold Streams.refSendResponse; gk_auto

theorem transition_gk' {α : Type} (s : Streams) (k : Nat) (f : Streams → Streams × α) (hf : GK s (f s).1) :
    GK s (s.transition k f).1 := by
  have : (s.transition k f).1 = (f s).1.transitionAfter k (s.stream k).isPendingResetExpiration := by
    unfold Streams.transition; rfl
  rw [this]
  exact hf.trans (transitionAfter_gk _ _ _)

theorem refSendData_gk (s : Streams) (k len : Nat) (eos : Bool) (hb : (s.stream k).bufferedSendData + len < USIZE_MOD) :
    GK s (s.refSendData k len eos).1 := by
  unfold Streams.refSendData
  exact transition_gk' _ _ _ (prioSendData_gk s k len eos hb)

theorem recvReset_go (s : Streams) (id : Nat) (r : Reason) : GKo s (s.recvReset id r).1 := by
  unfold Streams.recvReset; go_auto
theorem handleError_go (s : Streams) (e : PErr) : GKo s (s.handleError e).1 := by
  unfold Streams.handleError; go_auto
theorem recvGoAwayFrame_go (s : Streams) (l : Nat) (r : Reason) (d : Bytes) : GKo s (s.recvGoAwayFrame l r d).1 := by
  unfold Streams.recvGoAwayFrame; go_auto
theorem recvEof_go (s : Streams) (b : Bool) : GKo s (s.recvEof b) := by
  unfold Streams.recvEof; go_auto
theorem recvData_go (s : Streams) (id : Nat) (p : Bytes) (eos : Bool) (pad : Option Nat) : GKo s (s.recvData id p eos pad).1 :=
  Streams.recvData_rel go_relOK (K := UK.kinds) (by decide) GKo.of_step (fun s k _ => resetOnRecvStreamErr_go s k _) s id p eos pad
theorem recvWindowUpdate_go (s : Streams) (id inc : Nat) : GKo s (s.recvWindowUpdate id inc).1 := by
  unfold Streams.recvWindowUpdate; go_auto
theorem innerSendReset_go (s : Streams) (id : Nat) (r : Reason) : GKo s (s.innerSendReset id r).1 := by
  unfold Streams.innerSendReset; go_auto
theorem refSendReset_go (s : Streams) (k : Nat) (r : Reason) : GKo s (s.refSendReset k r) := by
  unfold Streams.refSendReset; go_auto
theorem applyRemoteSettings_go (s : Streams) (v : List (Nat × Nat)) (b : Bool) : GKo s (s.applyRemoteSettings v b).1 := by
  unfold Streams.applyRemoteSettings; go_auto
theorem recvPushPromise_go (s : Streams) (id : Nat) (h : HeadersIn) : GKo s (s.recvPushPromise id h).1 :=
  Streams.recvPushPromise_rel go_relOK (K := UK.kinds) (by decide) GKo.of_step (fun s id => (insertNew_uk s id _ _).toGKo)
    (fun s k _ => resetOnRecvStreamErr_go s k _) s id h

end H2V.Lemmas.ConnNoPanicP
