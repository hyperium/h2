import H2V.Lemmas.ConnNoPanicPRespOps
import H2V.Lemmas.ConnPushRule
/-
  C08 (no panic) — the client response path: the frame `RP` for the handle calls of streams.rs that drop a handle or
  create an entry.
-/
namespace H2V.Lemmas.ConnNoPanicP
open H2V H2V.Model H2V.Model.Conn H2V.Lemmas.ConnCountsP
attribute [local irreducible] wrapSubU32 wrapSubUsize

theorem dropPre_rp {X : List Nat} (s : Streams) (k : Nat) (hX : k ∈ X) : RP X s (dropPre s k) := by
  unfold dropPre
  dsimp only
  generalize hs1 : (if (({ s with refs := s.refs - 1 } : Streams).stream k).refCount > 0 then _ else _) = s1
  have h1 : RP X s s1 := by rw [← hs1]; rp_auto
  have h2 : RP X s (s1.modStream k fun st => { st with refCount := st.refCount - 1 }) := by
    refine h1.trans ?_
    exact modStream_rpx _ _ _ (fun _ => rfl) hX
  rp_auto

/-- the closure of `drop_stream_ref` clears the receive queue only when no handle is left -/
theorem dropClosure_rp {X : List Nat} (t : Streams) (k : Nat)
    (hppp : (((t.maybeCancel k).releaseClosedCapacity k).stream k).pendingPushPromises = []) : RP X t (dropClosure k t).1 := by
  rw [dropClosure_nil t k hppp]
  have hm : RP X t (t.maybeCancel k) := .of_step (Streams.maybeCancel_step (by decide) t k)
  split
  · next h0 =>
    have h0' : ((t.maybeCancel k).stream k).refCount = 0 := by simpa using h0
    by_cases hr : 0 < (t.stream k).refCount
    · by_cases hx : k ∈ X
      · have h2 : RP X t (((t.maybeCancel k).releaseClosedCapacity k).modStream k
            fun st => { st with pendingPushPromises := [] }) :=
          (hm.trans ((Streams.releaseClosedCapacity_takes (by decide) _ k).rp hx)).trans (modStream_rp _ _ _ (fun _ => ⟨rfl, rfl, Nat.le_refl _, fun h => h⟩))
        exact h2
      · have := (hm.fr k hx hr).ref
        omega
    · refine RP.drop0 (k := k) ?_ (by omega)
      exact ((RP.of_step (Streams.maybeCancel_step (by decide) t k)).trans ((Streams.releaseClosedCapacity_takes (by decide) _ k).rp (List.mem_cons_self ..))).trans
        (modStream_rp _ _ _ (fun _ => ⟨rfl, rfl, Nat.le_refl _, fun h => h⟩))
  · exact hm

theorem dropStreamRef_rp {X : List Nat} (s : Streams) (k : Nat) (hX : k ∈ X) (hppp : dropPPP s k = []) :
    RP X s (s.dropStreamRef k) := by
  rw [dropStreamRef_eq]
  exact (dropPre_rp s k hX).trans (transition_rp _ _ _ (dropClosure_rp _ _ hppp))

theorem dropStreamRef_self {s : Streams} {k : Nat} (hk : Live s k) (hr : (s.stream k).refCount ≥ 2) (hppp : dropPPP s k = []) :
    ((s.dropStreamRef k).stream k).pendingRecv = (s.stream k).pendingRecv ∧
    (((s.dropStreamRef k).stream k).state.isRecvStreaming = true → (s.stream k).state.isRecvStreaming = true) := by
  rw [dropStreamRef_eq]
  have h1 : (dropPre s k).stream k = { s.stream k with refCount := (s.stream k).refCount - 1 } := by
    unfold dropPre
    dsimp only
    have hs0 : ({ s with refs := s.refs - 1 } : Streams).stream k = s.stream k := rfl
    rw [hs0]
    have hr' : (s.stream k).refCount > 0 := by omega
    simp only [hr', if_true]
    have hk0 : Live ({ s with refs := s.refs - 1 } : Streams) k := hk
    have hs1 := stream_modStream_live hk0 (fun st => { st with refCount := st.refCount - 1 }) (fun _ => rfl)
    rw [hs0] at hs1
    split
    · unfold Streams.stream at hs1 ⊢; rw [Streams.notifyTask_store]; exact hs1
    · exact hs1
  have h2 := (transition_rp (X := []) (dropPre s k) k (dropClosure k) (dropClosure_rp _ _ hppp)).fr k List.not_mem_nil
    (by rw [h1]; show 0 < (s.stream k).refCount - 1; omega)
  rw [h1] at h2
  exact ⟨h2.q, h2.str⟩

theorem RP.of_get {X : List Nat} {s s1 s2 : Streams} (h : RP X s s1) (k : Nat) (h0 : (s.stream k).refCount = 0)
    (hg : ∀ j, j ≠ k → s2.store.get? j = s1.store.get? j) : RP X s s2 := ⟨fun j hj hr => by
  have hjk : j ≠ k := fun e => by subst e; omega
  have : s2.stream j = s1.stream j := by unfold Streams.stream; rw [hg j hjk]
  rw [this]; exact h.fr j hj hr⟩

/-- `Streams::send_request` is a frame step: the new entry had no handle before, and the way back takes only it out -/
theorem sendRequest_rp {X : List Nat} (s : Streams) (hk : KeysOK s) (isHead : Bool) (fields : List Hpack.Field) (eos : Bool)
    (pending : Option Nat) : RP X s (s.sendRequest isHead fields eos pending).1 :=
  SendRequestRule.run (I := RP X s) (Q := RP X s) (L := fun _ k _ => k = s.store.nextKey) (L' := fun _ _ _ => True)
    { pre := .refl _ _
      opn := RP.of_step (Streams.sendOpenId_step (by decide) s)
      done := fun _ ht => ht
      ins := fun s1 id sP hso hP => by
        have hst1 : s1.store = s.store := by have := sendOpenId_store s; rw [hso] at this; exact this
        have h2 : RP X s sP ∧ sP.store = s.store := by
          rw [hP]; split
          · exact ⟨(of_fst_eq hso (RP.of_step (Streams.sendOpenId_step (by decide) s))).trans (.of_store (panic_store _ _)), by rw [panic_store, hst1]⟩
          · exact ⟨of_fst_eq hso (RP.of_step (Streams.sendOpenId_step (by decide) s)), hst1⟩
        exact ⟨h2.1.trans (insert_rp sP _), by rw [h2.2]⟩
      hdr := fun t _ k ht _ => ⟨ht.trans (RP.of_step (Streams.sendHeaders_step (by decide) t k eos fields)), trivial⟩
      undo := fun t id k s3 _ ht hl heq => by
        subst hl
        refine (ht.trans (of_fst_eq heq (RP.of_step (Streams.sendHeaders_step (by decide) t _ eos fields)))).of_get s.store.nextKey
          (ref0_of_not_live (not_live_nextKey hk)) (fun j hj => ?_)
        show ((s3.store.unlink id).remove s.store.nextKey).get? j = _
        rw [remove_get?_ne _ _ _ hj]; rfl
      fin := fun t _ k ht _ =>
        (ht.trans (setMisc_rp t t.actions (t.refs + 1) t.recvBufferLeaked t.wakes t.unsupported)).trans (RP.of_step (Streams.refInc_step (by decide) _ _)) }
    pending

/-- `send_headers` on a fresh (idle) entry: nothing is queued for the application and the receive half still
    awaits the response head -/
theorem sendHeaders_idle {s : Streams} {k : Nat} (hidle : (s.stream k).state.inner = .idle) (eos : Bool) (f : List Hpack.Field) :
    ((s.sendHeaders k eos f).1.stream k).pendingRecv = (s.stream k).pendingRecv ∧
    ((s.sendHeaders k eos f).1.stream k).state.isRecvStreaming = false := by
  have r := RS.of_step (K := fun k => kindsRP k && k != .release) (fun _ h => (Bool.and_eq_true _ _ ▸ h).1)
    (Streams.sendHeaders_step (by decide) s k eos f) k (fun h => by cases h)
  refine ⟨r.q, ?_⟩
  cases h : ((s.sendHeaders k eos f).1.stream k).state.isRecvStreaming with
  | false => rfl
  | true => have := r.str h; unfold State.isRecvStreaming at this; rw [hidle] at this; cases this

theorem sendRequest_new {s : Streams} (hk : KeysOK s) {isHead : Bool} {fields : List Hpack.Field} {eos : Bool} {pending : Option Nat}
    {k : Nat} {f : Bool} (h : (s.sendRequest isHead fields eos pending).2 = .ok (k, f)) :
    ((s.sendRequest isHead fields eos pending).1.stream k).pendingRecv = [] ∧
    ((s.sendRequest isHead fields eos pending).1.stream k).state.isRecvStreaming = false ∧
    s.counts.isServer = false := by
  have hsv : s.counts.isServer = false := by
    rcases sendRequest_cases' s isHead fields eos pending with ⟨e, he⟩ | ⟨hsv, _⟩
    · rw [he] at h; cases h
    · exact hsv
  refine ⟨?_, ?_, hsv⟩ <;>
  (rcases sendRequest_cases' s isHead fields eos pending with ⟨e, he⟩ | ⟨_, he⟩
   · rw [he] at h; cases h
   · rw [he] at h ⊢
     unfold sendRequestCore at h ⊢
     have hst1 := sendOpenId_store s
     generalize s.sendOpenId = p at h hst1 ⊢
     obtain ⟨s1, r⟩ := p
     dsimp only at hst1
     cases r with
     | error e => cases h
     | ok id =>
       simp only [] at h ⊢
       generalize hsP : (if s1.store.contains id = true then s1.panic _ else s1) = sP at h ⊢
       have hstP : sP.store = s.store := by rw [← hsP]; split; rw [panic_store, hst1]; exact hst1
       generalize hst : requestStream isHead id s1.actions.send.initWindowSz s1.recv.initWindowSz = st at h ⊢
       have hkP : KeysOK sP := ⟨by rw [hstP]; exact hk.nodup, by unfold KeysFresh; rw [hstP]; exact hk.fresh⟩
       have hg2 : ({ sP with store := (sP.store.insert st).1 } : Streams).store.get? sP.store.nextKey = some { st with key := sP.store.nextKey } :=
         insert_get?_new hkP.fresh st
       have hl2 : Live ({ sP with store := (sP.store.insert st).1 } : Streams) sP.store.nextKey := ⟨_, hg2⟩
       have hs2 : ({ sP with store := (sP.store.insert st).1 } : Streams).stream sP.store.nextKey = { st with key := sP.store.nextKey } :=
         stream_of_get? hg2
       have hst0 : st.pendingRecv = [] ∧ st.state.inner = .idle := by
         rw [← hst]; unfold requestStream; split <;> exact ⟨rfl, rfl⟩
       have h5 := sendHeaders_idle (by rw [hs2]; exact hst0.2) eos fields
       rw [hs2] at h5
       have hl3 : Live (Streams.sendHeaders ({ sP with store := (sP.store.insert st).1 } : Streams) sP.store.nextKey eos fields).1 sP.store.nextKey :=
         (sendHeaders_lt _ _ _ _).keys.live.mpr hl2
       generalize Streams.sendHeaders _ sP.store.nextKey eos fields = q at h h5 hl3 ⊢
       obtain ⟨s3, r3⟩ := q
       cases r3 with
       | error e => cases h
       | ok u =>
         simp only [Except.ok.injEq, Prod.mk.injEq] at h
         rw [← h.1]
         simp only []
         have hl4 : Live ({ s3 with refs := s3.refs + 1 } : Streams) sP.store.nextKey := hl3
         unfold Streams.refInc
         have h6 := stream_modStream_live hl4 (fun st => { st with refCount := st.refCount + 1 }) (fun _ => rfl)
         rw [h6]
         first | exact h5.1.trans hst0.1 | exact h5.2)

theorem refSendPushPromise_rp {X : List Nat} (s : Streams) (hk : KeysOK s) (parent : Nat) (valid : Bool) (fields : List Hpack.Field) :
    RP X s (s.refSendPushPromise parent valid fields).1 :=
  PushRule.run (I := RP X s) (Q := RP X s) (L := fun _ k _ => k = s.store.nextKey) (L' := fun _ k _ => k = s.store.nextKey)
    { opn := RP.of_step (Streams.sendReserveLocal_step (by decide) s)
      done := fun _ ht => ht
      ins := fun s1 pid sP hso hP => by
        have hst1 : s1.store = s.store := by
          have := sendOpenId_store s; rw [Streams.sendReserveLocal] at hso; rw [hso] at this; exact this
        have h2 : RP X s sP ∧ sP.store = s.store := by
          rw [hP]; split
          · exact ⟨(of_fst_eq hso (RP.of_step (Streams.sendReserveLocal_step (by decide) s))).trans (.of_store (panic_store _ _)), by rw [panic_store, hst1]⟩
          · exact ⟨of_fst_eq hso (RP.of_step (Streams.sendReserveLocal_step (by decide) s)), hst1⟩
        exact ⟨h2.1.trans (insert_rp sP _), by rw [h2.2]⟩
      reserve := fun t _ k _ _ ht hl heq =>
        ⟨ht.trans (modStream_rp' _ _ _ ⟨rfl, rfl, Nat.le_refl _, reserveLocal_str heq⟩), hl⟩
      undo := fun t pid k s5 _ ht hl heq => by
        subst hl
        refine (ht.trans (of_fst_eq heq (RP.of_step (Streams.sendPushPromise_step (by decide) t parent _ pid fields)))).of_get s.store.nextKey
          (ref0_of_not_live (not_live_nextKey hk)) (fun j hj => ?_)
        show ((s5.store.unlink pid).remove s.store.nextKey).get? j = _
        rw [remove_get?_ne _ _ _ hj]; rfl
      fin := fun t pid k s5 _ ht _ heq =>
        ((ht.trans (of_fst_eq heq (RP.of_step (Streams.sendPushPromise_step (by decide) t parent k pid fields)))).trans
          (setMisc_rp s5 s5.actions (s5.refs + 1) s5.recvBufferLeaked s5.wakes s5.unsupported)).trans (RP.of_step (Streams.refInc_step (by decide) _ _)) }
    valid

end H2V.Lemmas.ConnNoPanicP
