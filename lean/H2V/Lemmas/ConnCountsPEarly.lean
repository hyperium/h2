import H2V.Lemmas.ConnCountsPCore
/-
  C05 / C18 / C19: slab entries descend from slab entries.
  `LD s s'` ("look-ups descend"): every entry of `s'` sits under the same key as an entry of `s` with the
  same stream id, and is not less opened than that one.  All elementary steps but the insertions
  are `LD`; `EvB.ne` concludes that an entry that has left the unopened states never returns to them.
-/
namespace H2V.Lemmas.ConnCountsP
open H2V H2V.Model H2V.Model.Conn
variable {ρ : Bool}

structure LD (s s' : Streams) : Prop where
  nextKey : s'.store.nextKey = s.store.nextKey
  desc : ∀ k x', s'.store.get? k = some x' →
    ∃ x, s.store.get? k = some x ∧ (Early x' → Early x) ∧ x'.id = x.id

theorem LD.refl (s : Streams) : LD s s := ⟨rfl, fun _ x' h => ⟨x', h, id, rfl⟩⟩

theorem LD.trans {a b c : Streams} (h1 : LD a b) (h2 : LD b c) : LD a c := by
  refine ⟨h2.nextKey.trans h1.nextKey, ?_⟩
  intro k x'' h
  obtain ⟨x', hx', e', i'⟩ := h2.desc k x'' h
  obtain ⟨x, hx, e, i⟩ := h1.desc k x' hx'
  exact ⟨x, hx, fun h => e (e' h), i'.trans i⟩

theorem LD.of_store_eq {s s' : Streams} (h : s'.store = s.store) : LD s s' :=
  ⟨by rw [h], fun k x' hx => ⟨x', by rw [← h]; exact hx, id, rfl⟩⟩

theorem LD.panic' (s : Streams) (m : String) : LD s (s.panic m) := LD.of_store_eq (panic_store _ _)

theorem LD.closed : PrimClosed LD (fun x y => (Early y → Early x) ∧ y.id = x.id) (fun _ _ _ => True) (fun _ _ => True) where
  refl := LD.refl
  trans := LD.trans
  frame h := LD.of_store_eq h.store
  setStream s st' h := by
    refine ⟨rfl, fun k x' hx' => ?_⟩
    rcases setStream_get?_cases hx' with ⟨x, hx, rfl, rfl⟩ | hx
    · exact ⟨x, hx, h x hx⟩
    · exact ⟨x', hx, id, rfl⟩
  setQ _ _ _ _ := LD.of_store_eq (setQ_store _ _ _)
  setCounts _ _ _ := LD.of_store_eq rfl

theorem LD.modCountsA (s : Streams) (w : String) (f : Counts → Option Counts) : LD s (s.modCountsA w f) :=
  LD.closed.modCountsA s w f fun _ _ => trivial

theorem setQueued_early (x : Stream) (q : QName) (v : Bool) : (Early (x.setQueued q v) → Early x) ∧ (x.setQueued q v).id = x.id := by
  cases q <;> exact ⟨id, rfl⟩

theorem LD.qPush (s : Streams) (q : QName) (k : Nat) : LD s (s.qPush q k).1 :=
  LD.closed.qPush s q k (setQueued_early · q true) fun _ => trivial

theorem LD.qPushFront (s : Streams) (q : QName) (k : Nat) : LD s (s.qPushFront q k).1 :=
  LD.closed.qPushFront s q k (setQueued_early · q true) fun _ => trivial

theorem LD.qPop (s : Streams) (q : QName) : LD s (s.qPop q).1 :=
  LD.closed.qPop s q (setQueued_early · q false) fun _ _ _ => trivial

theorem LD.remove (s : Streams) (k n : Nat) : LD s { s with store := s.store.remove k, recvBufferLeaked := n } := by
  refine ⟨rfl, ?_⟩
  intro j x' hx'
  by_cases hjk : j = k
  · subst hjk
    have : ({ s with store := s.store.remove j, recvBufferLeaked := n } : Streams).store.get? j = none := remove_get?_self _ _
    rw [this] at hx'; cases hx'
  · have : ({ s with store := s.store.remove k, recvBufferLeaked := n } : Streams).store.get? j = s.store.get? j :=
      remove_get?_ne _ _ _ hjk
    rw [this] at hx'
    exact ⟨x', hx', id, rfl⟩

theorem EvB.ld {s s' : Streams} (h : EvB false s s') : LD s s' :=
  EvB.closed (ρ := false) LD.closed (fun hs => ⟨hs.early, hs.id⟩) (fun _ _ => ⟨id, rfl⟩) (fun _ _ => ⟨id, rfl⟩) (fun _ _ => ⟨id, rfl⟩)
    (fun _ _ he => ⟨fun _ => he, rfl⟩) LD.qPush LD.qPushFront (fun t q _ => LD.qPop t q) (fun _ _ _ _ => trivial)
    (fun h => nomatch h) (fun _ _ => ⟨rfl, fun _ x' h => ⟨x', h, id, rfl⟩⟩) (fun s k n _ => LD.remove s k n) h

/-- entries that have left the unopened states stay out of them; keys are not reused -/
structure NE (s s' : Streams) : Prop where
  nextKey : s.store.nextKey ≤ s'.store.nextKey
  ne : ∀ k, k < s.store.nextKey → (∀ x, s.store.get? k = some x → ¬ Early x) → ∀ x, s'.store.get? k = some x → ¬ Early x

theorem NE.of_ld {s s' : Streams} (h : LD s s') : NE s s' := by
  refine ⟨Nat.le_of_eq h.nextKey.symm, ?_⟩
  intro k _ hne x' hx'
  obtain ⟨x, hx, e, _⟩ := h.desc k x' hx'
  exact fun he => hne x hx (e he)

theorem NE.insert (s : Streams) (st : Stream) : NE s { s with store := (s.store.insert st).1 } := by
  refine ⟨Nat.le_succ _, ?_⟩
  intro k hk hne x hx
  rcases insert_get?_cases s.store st k with h | ⟨_, hkk, _⟩
  · have : ({ s with store := (s.store.insert st).1 } : Streams).store.get? k = s.store.get? k := h
    rw [this] at hx; exact hne x hx
  · omega

theorem NE.closed : PrimClosed NE (fun x y => (Early y → Early x) ∧ y.id = x.id) (fun _ _ _ => True) (fun _ _ => True) :=
  ⟨fun _ => ⟨Nat.le_refl _, fun _ _ h => h⟩,
   fun h1 h2 => ⟨Nat.le_trans h1.nextKey h2.nextKey, fun k hk h => h2.ne k (Nat.lt_of_lt_of_le hk h1.nextKey) (h1.ne k hk h)⟩,
   fun h => .of_ld (LD.closed.frame h), fun s st' h => .of_ld (LD.closed.setStream s st' h),
   fun s q l h => .of_ld (LD.closed.setQ s q l h), fun s c h => .of_ld (LD.closed.setCounts s c h)⟩

theorem EvB.ne {s s' : Streams} (h : EvB ρ s s') : NE s s' :=
  EvB.closed NE.closed (fun hs => ⟨hs.early, hs.id⟩) (fun _ _ => ⟨id, rfl⟩)
    (fun _ _ => ⟨id, rfl⟩) (fun _ _ => ⟨id, rfl⟩) (fun _ _ he => ⟨fun _ => he, rfl⟩) (fun t q k => .of_ld (LD.qPush t q k))
    (fun t q k => .of_ld (LD.qPushFront t q k)) (fun t q _ => .of_ld (LD.qPop t q)) (fun _ _ _ _ => trivial) (fun _ s st _ => NE.insert s st) (fun _ _ => ⟨Nat.le_refl _, fun _ _ h => h⟩) (fun s k n _ => .of_ld (LD.remove s k n)) h

end H2V.Lemmas.ConnCountsP
