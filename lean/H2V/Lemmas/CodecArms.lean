import H2V.Model.CodecRead
/-
  `decode_frame`, arm by arm.  Which arm runs depends on the frame type and on whether a header block is in progress:
  an equation per frame type says which (`decodeFrame_*`), in terms of `simpleDF`, `refusal` and `loadThen`.  `Loaded`
  lists the frames the fixed-format payload parsers answer.  `Arm` lists what `decode_frame` can do, each arm a
  function of the reader, and `decodeFrame_arm` says it is one of them whatever the reassembly state (`buf`, `need`,
  `maxFrameLen`).  A fact about `decode_frame` is proved arm by arm.
-/
namespace H2V.Lemmas.Codec
open H2V H2V.Model.Frame H2V.Model.Hpack H2V.Model.CodecRead

def simpleDF (r : Reader) (x : Except FErr Frame) : Reader × DF :=
  match x with
  | .ok f => (r, .frame f)
  | .error _ => (r, connErr)

/-- what a loader's refusal becomes where `decode_frame` distinguishes the stream error -/
def refusal (sid : Nat) : FErr → RErr
  | .invalidDependencyId => .reset sid PROTOCOL_ERROR
  | _ => .goAway PROTOCOL_ERROR ""

/-- `load_hpack` on the fragment `src` (onto the block `b`, with decoder `dec`) followed by the `header_block!`
    tail: HEADERS / PUSH_PROMISE (`b = {}`) and CONTINUATION (`b` = the partial block) -/
def loadThen (r : Reader) (b : HeaderBlock) (src : Bytes) (dec : Decoder) (mk : HeaderBlock → Continuable)
    (cnt : Nat) (eh : Bool) (sid : Nat) : Reader × DF :=
  afterHpack { r with hpack := (HeaderBlock.load b src r.maxHeaderListSize dec).2.1 }
    (mk (HeaderBlock.load b src r.maxHeaderListSize dec).1) (HeaderBlock.load b src r.maxHeaderListSize dec).2.2.1
    cnt eh sid (HeaderBlock.load b src r.maxHeaderListSize dec).2.2.2

section
variable {r : Reader} {bytes : Bytes}

theorem not_interleaved (hp : r.partialBlk = none) :
    ¬ (r.partialBlk.isSome = true ∧ (Head.parse bytes).kind ≠ 9) := by simp [hp]

/- `decodeFrame r bytes` is by definition an `if` on "inside a header block and not a CONTINUATION": `if_pos` / `if_neg`
   take a branch of it up to unfolding, which is cheaper than `unfold decodeFrame` on a body of this size. -/
theorem decodeFrame_interleaved (hp : r.partialBlk.isSome = true) (hk : (Head.parse bytes).kind ≠ 9) :
    decodeFrame r bytes = (r, connErr) :=
  if_pos ⟨hp, hk⟩

theorem decodeFrame_settings (hp : r.partialBlk = none) (hk : (Head.parse bytes).kind = 4) :
    decodeFrame r bytes = simpleDF r (loadSettings (Head.parse bytes) (bytes.drop 9)) :=
  (if_neg (not_interleaved hp)).trans (by rw [hk]; rfl)

theorem decodeFrame_ping (hp : r.partialBlk = none) (hk : (Head.parse bytes).kind = 6) :
    decodeFrame r bytes = simpleDF r (loadPing (Head.parse bytes) (bytes.drop 9)) :=
  (if_neg (not_interleaved hp)).trans (by rw [hk]; rfl)

theorem decodeFrame_windowUpdate (hp : r.partialBlk = none) (hk : (Head.parse bytes).kind = 8) :
    decodeFrame r bytes = simpleDF r (loadWindowUpdate (Head.parse bytes) (bytes.drop 9)) :=
  (if_neg (not_interleaved hp)).trans (by rw [hk]; rfl)

theorem decodeFrame_data (hp : r.partialBlk = none) (hk : (Head.parse bytes).kind = 0) :
    decodeFrame r bytes = simpleDF r (loadData (Head.parse bytes) (bytes.drop 9)) :=
  (if_neg (not_interleaved hp)).trans (by rw [hk]; rfl)

theorem decodeFrame_reset (hp : r.partialBlk = none) (hk : (Head.parse bytes).kind = 3) :
    decodeFrame r bytes = simpleDF r (loadReset (Head.parse bytes) (bytes.drop 9)) :=
  (if_neg (not_interleaved hp)).trans (by rw [hk]; rfl)

theorem decodeFrame_goAway (hp : r.partialBlk = none) (hk : (Head.parse bytes).kind = 7) :
    decodeFrame r bytes =
      if (Head.parse bytes).sid ≠ 0 then (r, connErr) else simpleDF r (loadGoAway (bytes.drop 9)) :=
  (if_neg (not_interleaved hp)).trans (by rw [hk]; rfl)

theorem decodeFrame_priority (hp : r.partialBlk = none) (hk : (Head.parse bytes).kind = 2) :
    decodeFrame r bytes =
      if (Head.parse bytes).sid = 0 then (r, connErr)
      else match loadPriority (Head.parse bytes) (bytes.drop 9) with
        | .ok f => (r, .frame f)
        | .error e => (r, .err (refusal (Head.parse bytes).sid e)) := by
  refine (if_neg (not_interleaved hp)).trans ?_
  rw [hk]
  cases loadPriority (Head.parse bytes) (bytes.drop 9) with
  | ok f => rfl
  | error e => cases e <;> rfl

theorem decodeFrame_headers (hp : r.partialBlk = none) (hk : (Head.parse bytes).kind = 1) :
    decodeFrame r bytes =
      match loadHeadersHead (Head.parse bytes) (bytes.drop 9) with
      | .error e => (r, .err (refusal (Head.parse bytes).sid e))
      | .ok (sid, eos, eh, dep, frag) =>
        loadThen r {} frag r.hpack (fun b => .headers sid eos dep b) 0 eh (Head.parse bytes).sid := by
  refine (if_neg (not_interleaved hp)).trans ?_
  rw [hk]
  cases loadHeadersHead (Head.parse bytes) (bytes.drop 9) with
  | ok x => rfl
  | error e => cases e <;> rfl

theorem decodeFrame_pushPromise (hp : r.partialBlk = none) (hk : (Head.parse bytes).kind = 5) :
    decodeFrame r bytes =
      match loadPushPromiseHead (Head.parse bytes) (bytes.drop 9) with
      | .error e => (r, .err (refusal (Head.parse bytes).sid e))
      | .ok (sid, promised, eh, frag) =>
        loadThen r {} frag r.hpack (fun b => .pushPromise sid promised b) 0 eh (Head.parse bytes).sid := by
  refine (if_neg (not_interleaved hp)).trans ?_
  rw [hk]
  cases loadPushPromiseHead (Head.parse bytes) (bytes.drop 9) with
  | ok x => rfl
  | error e => cases e <;> rfl

theorem decodeFrame_unknown (hp : r.partialBlk = none) (hk : 9 < (Head.parse bytes).kind) :
    decodeFrame r bytes = (r, .none) := by
  obtain ⟨k, hk⟩ : ∃ k, (Head.parse bytes).kind = k + 10 := ⟨(Head.parse bytes).kind - 10, by omega⟩
  refine (if_neg (not_interleaved hp)).trans ?_
  rw [hk]
  rfl

/-- the checks `decode_frame` makes on a CONTINUATION frame before it loads the fragment, in the order of the
    source: another stream, too many CONTINUATION frames, an over-size block still growing -/
def contRefusal (r : Reader) (bytes : Bytes) (p : Partial) : Option RErr :=
  if p.frame.sid ≠ (Head.parse bytes).sid then some (.goAway PROTOCOL_ERROR "")
  else if ¬ (Head.parse bytes).flag &&& 4 = 4 ∧
      (if (Head.parse bytes).flag &&& 4 = 4 then 0 else p.count + 1) > r.maxContinuationFrames then
    some (.goAway ENHANCE_YOUR_CALM "too_many_continuations")
  else if ¬ p.buf.isEmpty ∧ p.frame.blk.isOverSize ∧ p.buf.length + bytes.length > r.maxHeaderListSize then
    some (.goAway COMPRESSION_ERROR "")
  else none

theorem decodeFrame_stray (hp : r.partialBlk = none) (hk : (Head.parse bytes).kind = 9) :
    decodeFrame r bytes = (r, connErr) := by
  refine (if_neg (not_interleaved hp)).trans ?_
  simp only [hk, hp]

theorem decodeFrame_continuation {p : Partial} (hp : r.partialBlk = some p) (hk : (Head.parse bytes).kind = 9) :
    decodeFrame r bytes =
      match contRefusal r bytes p with
      | some e => ({ r with partialBlk := none }, .err e)
      | none =>
        loadThen { r with partialBlk := none } p.frame.blk (p.buf ++ bytes.drop 9) r.hpack.continueBlock
          (fun b => p.frame.setBlk b) (if (Head.parse bytes).flag &&& 4 = 4 then 0 else p.count + 1)
          (decide ((Head.parse bytes).flag &&& 4 = 4)) (Head.parse bytes).sid := by
  refine (if_neg fun h => h.2 hk).trans ?_
  simp only [hk, hp]
  unfold contRefusal
  by_cases h1 : p.frame.sid ≠ (Head.parse bytes).sid
  · rw [if_pos h1, if_pos h1]; rfl
  rw [if_neg h1, if_neg h1]
  by_cases h2 : ¬ (Head.parse bytes).flag &&& 4 = 4 ∧
      (if (Head.parse bytes).flag &&& 4 = 4 then 0 else p.count + 1) > r.maxContinuationFrames
  · rw [if_pos h2, if_pos h2]
  rw [if_neg h2, if_neg h2]
  split <;> rfl

/-- a frame that one of the payload parsers answered for this frame's head and payload, past the checks
    `decode_frame` makes itself (GOAWAY on stream 0 only, PRIORITY on a stream only) -/
inductive Loaded (bytes : Bytes) : Frame → Prop
  | settings {f : Frame} : (Head.parse bytes).kind = 4 →
      loadSettings (Head.parse bytes) (bytes.drop 9) = .ok f → Loaded bytes f
  | ping {f : Frame} : (Head.parse bytes).kind = 6 →
      loadPing (Head.parse bytes) (bytes.drop 9) = .ok f → Loaded bytes f
  | windowUpdate {f : Frame} : (Head.parse bytes).kind = 8 →
      loadWindowUpdate (Head.parse bytes) (bytes.drop 9) = .ok f → Loaded bytes f
  | data {f : Frame} : (Head.parse bytes).kind = 0 →
      loadData (Head.parse bytes) (bytes.drop 9) = .ok f → Loaded bytes f
  | reset {f : Frame} : (Head.parse bytes).kind = 3 →
      loadReset (Head.parse bytes) (bytes.drop 9) = .ok f → Loaded bytes f
  | goAway {f : Frame} : (Head.parse bytes).kind = 7 → (Head.parse bytes).sid = 0 →
      loadGoAway (bytes.drop 9) = .ok f → Loaded bytes f
  | priority {f : Frame} : (Head.parse bytes).kind = 2 → (Head.parse bytes).sid ≠ 0 →
      loadPriority (Head.parse bytes) (bytes.drop 9) = .ok f → Loaded bytes f

theorem Loaded.own {bytes : Bytes} {f : Frame} (h : Loaded bytes f) :
    match (generalizing := false) f with
    | .settings .. => loadSettings (Head.parse bytes) (bytes.drop 9) = .ok f
    | .ping .. => loadPing (Head.parse bytes) (bytes.drop 9) = .ok f
    | .windowUpdate .. => loadWindowUpdate (Head.parse bytes) (bytes.drop 9) = .ok f
    | .data .. => loadData (Head.parse bytes) (bytes.drop 9) = .ok f
    | .reset .. => loadReset (Head.parse bytes) (bytes.drop 9) = .ok f
    | .goAway .. => loadGoAway (bytes.drop 9) = .ok f
    | .priority .. => loadPriority (Head.parse bytes) (bytes.drop 9) = .ok f
    | .headers .. | .pushPromise .. => False := by
  cases h with
  | settings _ hl =>
    -- a copy of `hl` is taken apart: where the parser answers, `f` becomes its answer and the `match` reduces to `hl`
    have h0 := hl
    unfold loadSettings at h0
    repeat' split at h0
    all_goals first | (cases h0; exact hl) | cases h0
  | ping _ hl =>
    have h0 := hl
    unfold loadPing at h0
    repeat' split at h0
    all_goals first | (cases h0; exact hl) | cases h0
  | windowUpdate _ hl =>
    have h0 := hl
    unfold loadWindowUpdate at h0
    dsimp only at h0
    repeat' split at h0
    all_goals first | (cases h0; exact hl) | cases h0
  | data _ hl =>
    have h0 := hl
    unfold loadData at h0
    dsimp only at h0
    repeat' split at h0
    all_goals first | (cases h0; exact hl) | cases h0
  | reset _ hl =>
    have h0 := hl
    unfold loadReset at h0
    split at h0 <;> first | (cases h0; exact hl) | cases h0
  | goAway _ _ hl =>
    have h0 := hl
    unfold loadGoAway at h0
    split at h0 <;> first | (cases h0; exact hl) | cases h0
  | priority _ _ hl =>
    have h0 := hl
    unfold loadPriority at h0
    dsimp only at h0
    repeat' split at h0
    all_goals first | (cases h0; exact hl) | cases h0

/-- `r` with another reassembly state and frame-size limit: what `decode_frame` neither reads nor changes -/
abbrev reframe (r : Reader) (b : Bytes) (n : Option Nat) (m : Nat) : Reader :=
  { r with buf := b, need := n, maxFrameLen := m }

theorem contRefusal_reframe {p : Partial} {b : Bytes} {n : Option Nat} {m : Nat} :
    contRefusal (reframe r b n m) bytes p = contRefusal r bytes p := rfl

/-- everything `decode_frame` can do with the frame `bytes` in the state `r`, as a function of the reader it is
    applied to: the choice looks at `partialBlk`, `hpack` and the two header limits only -/
inductive Arm (r : Reader) (bytes : Bytes) : (Reader → Reader × DF) → Prop
  | interleaved : r.partialBlk.isSome = true → (Head.parse bytes).kind ≠ 9 → Arm r bytes fun r' => (r', connErr)
  | refused (e : RErr) : r.partialBlk = none → Arm r bytes fun r' => (r', .err e)
  | skipped : r.partialBlk = none → Arm r bytes fun r' => (r', .none)
  | loaded {f : Frame} : r.partialBlk = none → Loaded bytes f → Arm r bytes fun r' => (r', .frame f)
  | headers {sid : Nat} {eos eh : Bool} {dep : Option (Nat × Nat × Bool)} {frag : Bytes} :
      r.partialBlk = none → (Head.parse bytes).kind = 1 →
      loadHeadersHead (Head.parse bytes) (bytes.drop 9) = .ok (sid, eos, eh, dep, frag) →
      Arm r bytes fun r' =>
        loadThen r' {} frag r.hpack (fun b => .headers sid eos dep b) 0 eh (Head.parse bytes).sid
  | pushPromise {sid promised : Nat} {eh : Bool} {frag : Bytes} :
      r.partialBlk = none → (Head.parse bytes).kind = 5 →
      loadPushPromiseHead (Head.parse bytes) (bytes.drop 9) = .ok (sid, promised, eh, frag) →
      Arm r bytes fun r' =>
        loadThen r' {} frag r.hpack (fun b => .pushPromise sid promised b) 0 eh (Head.parse bytes).sid
  | dropped {p : Partial} (e : RErr) : (Head.parse bytes).kind = 9 → r.partialBlk = some p →
      Arm r bytes fun r' => ({ r' with partialBlk := none }, .err e)
  | continuation {p : Partial} : (Head.parse bytes).kind = 9 → r.partialBlk = some p →
      contRefusal r bytes p = none →
      Arm r bytes fun r' =>
        loadThen { r' with partialBlk := none } p.frame.blk (p.buf ++ bytes.drop 9) r.hpack.continueBlock
          (fun b => p.frame.setBlk b) (if (Head.parse bytes).flag &&& 4 = 4 then 0 else p.count + 1)
          (decide ((Head.parse bytes).flag &&& 4 = 4)) (Head.parse bytes).sid

theorem Arm.simple {x : Except FErr Frame} (hp : r.partialBlk = none) (hx : ∀ f, x = .ok f → Loaded bytes f) :
    Arm r bytes fun r' => simpleDF r' x := by
  cases x with
  | ok f => exact .loaded hp (hx f rfl)
  | error e => exact .refused _ hp

theorem decodeFrame_arm (r : Reader) (bytes : Bytes) :
    ∃ F, Arm r bytes F ∧ ∀ b n m, decodeFrame (reframe r b n m) bytes = F (reframe r b n m) := by
  cases hp : r.partialBlk with
  | some p =>
    have hs : r.partialBlk.isSome = true := by rw [hp]; rfl
    by_cases hk : (Head.parse bytes).kind = 9
    · cases hc : contRefusal r bytes p with
      | some e =>
        refine ⟨_, .dropped e hk hp, fun b n m => ?_⟩
        rw [decodeFrame_continuation (r := reframe r b n m) hp hk, contRefusal_reframe, hc]
      | none =>
        refine ⟨_, .continuation hk hp hc, fun b n m => ?_⟩
        rw [decodeFrame_continuation (r := reframe r b n m) hp hk, contRefusal_reframe, hc]
    · exact ⟨_, .interleaved hs hk, fun _ _ _ => decodeFrame_interleaved hs hk⟩
  | none =>
    match hk : (Head.parse bytes).kind with
    | 0 => exact ⟨_, .simple hp fun _ => .data hk, fun _ _ _ => decodeFrame_data hp hk⟩
    | 1 =>
      cases hl : loadHeadersHead (Head.parse bytes) (bytes.drop 9) with
      | ok x =>
        exact ⟨_, .headers hp hk hl, fun b n m => by rw [decodeFrame_headers (r := reframe r b n m) hp hk, hl]⟩
      | error e =>
        exact ⟨_, .refused _ hp, fun b n m => by rw [decodeFrame_headers (r := reframe r b n m) hp hk, hl]⟩
    | 2 =>
      by_cases hs : (Head.parse bytes).sid = 0
      · exact ⟨_, .refused _ hp,
          fun b n m => (decodeFrame_priority (r := reframe r b n m) hp hk).trans (if_pos hs)⟩
      · cases hl : loadPriority (Head.parse bytes) (bytes.drop 9) with
        | ok f =>
          exact ⟨_, .loaded hp (.priority hk hs hl),
            fun b n m => by rw [decodeFrame_priority (r := reframe r b n m) hp hk, if_neg hs, hl]⟩
        | error e =>
          exact ⟨_, .refused _ hp,
            fun b n m => by rw [decodeFrame_priority (r := reframe r b n m) hp hk, if_neg hs, hl]⟩
    | 3 => exact ⟨_, .simple hp fun _ => .reset hk, fun _ _ _ => decodeFrame_reset hp hk⟩
    | 4 => exact ⟨_, .simple hp fun _ => .settings hk, fun _ _ _ => decodeFrame_settings hp hk⟩
    | 5 =>
      cases hl : loadPushPromiseHead (Head.parse bytes) (bytes.drop 9) with
      | ok x =>
        exact ⟨_, .pushPromise hp hk hl,
          fun b n m => by rw [decodeFrame_pushPromise (r := reframe r b n m) hp hk, hl]⟩
      | error e =>
        exact ⟨_, .refused _ hp, fun b n m => by rw [decodeFrame_pushPromise (r := reframe r b n m) hp hk, hl]⟩
    | 6 => exact ⟨_, .simple hp fun _ => .ping hk, fun _ _ _ => decodeFrame_ping hp hk⟩
    | 7 =>
      by_cases hs : (Head.parse bytes).sid ≠ 0
      · exact ⟨_, .refused _ hp, fun b n m => (decodeFrame_goAway (r := reframe r b n m) hp hk).trans (if_pos hs)⟩
      · exact ⟨_, .simple hp fun _ => .goAway hk (Decidable.not_not.mp hs),
          fun b n m => by rw [decodeFrame_goAway (r := reframe r b n m) hp hk, if_neg hs]⟩
    | 8 => exact ⟨_, .simple hp fun _ => .windowUpdate hk, fun _ _ _ => decodeFrame_windowUpdate hp hk⟩
    | 9 => exact ⟨_, .refused _ hp, fun _ _ _ => decodeFrame_stray hp hk⟩
    | k + 10 => exact ⟨_, .skipped hp, fun _ _ _ => decodeFrame_unknown hp (by omega)⟩

end

end H2V.Lemmas.Codec
