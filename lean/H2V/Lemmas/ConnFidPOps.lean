import H2V.Lemmas.ConnFidPHist
import H2V.Lemmas.ConnPushRule
/-
  ConnFidP — histories are closed under the API of the stream layer: every function that
  `Conn` (connection.rs) and the handles call on `Streams` maps a history to a history (`ApiStep.hist`),
  `Streams::poll_complete` included (ConnFidPPoll.lean).  The calls that accept a message frame
  (`send_request`, `send_data`, `send_trailers`, `send_response`, `send_informational`) are histories
  because a closed stream refuses them (`*_closed`): a frame is never accepted after the queue was cut.
  Likewise `send_push_promise`: a closed parent refuses the call (the reserved child entry is inserted and removed
  again, nothing is queued).  `recv_headers` of any header list, incl. the over-long one a server answers with its own
  431: ConnFidPMain.lean (`HistP.recvHeaders`).
-/
set_option linter.unusedSectionVars false
namespace H2V.Lemmas.ConnFidP
open H2V H2V.Model H2V.Model.Conn H2V.Lemmas.ConnWakeP

/-- what the calls that do not queue message frames may do -/
def permAny : Perm :=
  { cut := fun _ => True, rpush := fun _ _ => True, rpop := fun _ => True, rclear := fun _ => True, gone := True }

section
variable {s : Streams} {w : Writer} {g : Ghost}

theorem Hist.any {s' : Streams} (h : Hist s w g) (t : Tr permAny s s') :
    ∃ g', Hist s' w g' ∧ g'.acc = g.acc ∧ g'.emi = g.emi :=
  h.tr_quiet permAny (fun h => h) (fun h => h) (fun _ _ _ h => h) t

theorem Hist.accept (P : Perm) (k : Nat) (hw : ¬P.write) (hp : ¬P.pop) (hcut : ∀ j, ¬P.cut j)
    (hpk : ∀ j f, isMsg f = true → P.push j f → j = k) {s' : Streams} (h : Hist s w g)
    (hnc : ∀ a, s.store.get? k = some a → a.state.isClosed = false) (t : Tr P s s') :
    ∃ g', Hist s' w g' ∧ g'.emi = g.emi ∧
      ∀ j, ∃ added, g'.acc j = g.acc j ++ added ∧ ∀ f ∈ added, isMsg f = true ∧ P.push j f := by
  obtain ⟨g', r⟩ := t.run g
  refine ⟨g', .api P h hw hp ?_ r, r.emi_eq hp, fun j => r.acc_grows j⟩
  cases hwd : g.weird with
  | true => exact Or.inl hwd
  | false =>
    refine Or.inr (Or.inl ⟨hcut, fun j f hm hpj hc => ?_⟩)
    have hj := hpk j f hm hpj
    subst hj
    have hI := h.inv hwd
    cases ha : s.store.get? j with
    | none => rfl
    | some a =>
      have := hI.closed j hc a ha
      rw [hnc a ha] at this; cases this

/-- the ghost log after a call that may accept the message frame `F` on entry `k`: nothing is emitted, and the
    accepted logs only grow, by `F` on `k` -/
def AcceptDelta (g g' : Ghost) (ok : Nat → SFrame → Prop) : Prop :=
  g'.emi = g.emi ∧ ∀ j, ∃ added, g'.acc j = g.acc j ++ added ∧ ∀ f ∈ added, ok j f

theorem AcceptDelta.of_same {g g' : Ghost} (ok : Nat → SFrame → Prop) (h1 : g'.acc = g.acc) (h2 : g'.emi = g.emi) :
    AcceptDelta g g' ok := ⟨h2, fun j => ⟨[], by rw [h1]; simp, by simp⟩⟩

theorem closed_cases (s : Streams) (k : Nat) :
    (s.stream k).state.isClosed = true ∨ (∀ a, s.store.get? k = some a → a.state.isClosed = false) := by
  cases hc : (s.stream k).state.isClosed with
  | true => exact Or.inl rfl
  | false =>
    refine Or.inr (fun a ha => ?_)
    rw [Streams.stream_of_get? ha] at hc; exact hc

theorem Hist.transition_accept {ε α : Type} (h : Hist s w g) (P : Perm) (k : Nat) (f : Streams → Streams × Except ε α)
    (hw : ¬P.write) (hp : ¬P.pop) (hcut : ∀ j, ¬P.cut j) (hpk : ∀ j x, P.push j x → j = k)
    (hc : (s.stream k).state.isClosed = true → ∃ e, f s = (s, .error e)) (t : Tr P s (s.transition k f).1) :
    ∃ g', Hist (s.transition k f).1 w g' ∧ AcceptDelta g g' P.push := by
  rcases closed_cases s k with hcl | hnc
  · obtain ⟨e, he⟩ := hc hcl
    rw [Streams.transition_fst, he]
    obtain ⟨g', h', e1, e2⟩ := h.any (transitionAfter_acc (P := permAny) trivial _ _ (Tr.refl _ _))
    exact ⟨g', h', .of_same _ e1 e2⟩
  · obtain ⟨g', h', e1, e2⟩ := h.accept P k hw hp hcut (fun j x _ hx => hpk j x hx) hnc t
    exact ⟨g', h', e1, fun j => by obtain ⟨ad, a1, a2⟩ := e2 j; exact ⟨ad, a1, fun x hx => (a2 x hx).2⟩⟩

theorem Hist.refSendData (h : Hist s w g) (k len : Nat) (eos : Bool) : ∃ g', Hist (s.refSendData k len eos).1 w g' ∧ AcceptDelta g g' (fun j f => j = k ∧ f = .data len eos) :=
  h.transition_accept (permSendData k len eos) k _ (fun h => h) (fun h => h) (fun _ h => h) (fun _ _ hp => hp.1)
    (prioSendData_closed s k len eos) (refSendData_tr s k len eos)

theorem Hist.refSendTrailers (h : Hist s w g) (k : Nat) (f : List Hpack.Field) : ∃ g', Hist (s.refSendTrailers k f).1 w g' ∧ AcceptDelta g g' (fun j g => j = k ∧ g = .headers true f) :=
  h.transition_accept (permSendHeaders k true f) k _ (fun h => h) (fun h => h) (fun _ h => h) (fun _ _ hp => hp.1)
    (sendTrailers_closed s k f) (refSendTrailers_tr s k f)

theorem Hist.refSendResponse (h : Hist s w g) (k : Nat) (f : List Hpack.Field) (eos : Bool) :
    ∃ g', Hist (s.refSendResponse k f eos).1 w g' ∧ AcceptDelta g g' (fun j g => j = k ∧ g = .headers eos f) :=
  h.transition_accept (permSendHeaders k eos f) k _ (fun h => h) (fun h => h) (fun _ h => h) (fun _ _ hp => hp.1)
    (sendHeaders_closed s k eos f) (refSendResponse_tr s k f eos)

theorem Hist.refSendInformationalHeaders (h : Hist s w g) (k : Nat) (f : List Hpack.Field) :
    ∃ g', Hist (s.refSendInformationalHeaders k f).1 w g' ∧ AcceptDelta g g' (fun j g => j = k ∧ g = .headers false f) :=
  h.transition_accept (permSendHeaders k false f) k _ (fun h => h) (fun h => h) (fun _ h => h) (fun _ _ hp => hp.1)
    (sendInterim_closed s k f) (refSendInformationalHeaders_tr s k f)

/-- `send_request`: the head is queued on the entry the call creates -/
def permNewRequest (key : Nat) (eos : Bool) (f : List Hpack.Field) : Perm :=
  { push := fun j g => j = key ∧ g = .headers eos f, gone := True }

theorem Hist.sendRequest (h : Hist s w g) (b : Bool) (f : List Hpack.Field) (eos : Bool) (p : Option Nat) :
    ∃ g', Hist (s.sendRequest b f eos p).1 w g' ∧
      AcceptDelta g g' (fun j x => j = s.store.nextKey ∧ x = .headers eos f) := by
  have t : Tr (permNewRequest s.store.nextKey eos f) s (s.sendRequest b f eos p).1 :=
    sendRequest_acc (P := permNewRequest s.store.nextKey eos f) trivial b f eos p (Or.inl ⟨rfl, rfl⟩) (Tr.refl _ _)
  cases hwd : g.weird with
  | true =>
    obtain ⟨g', r⟩ := t.run g
    exact ⟨g', .api _ h (fun h => h) (fun h => h) (Or.inl hwd) r, r.emi_eq (fun h => h),
      fun j => (let ⟨ad, a1, a2⟩ := r.acc_grows j; ⟨ad, a1, fun x hx => (a2 x hx).2⟩)⟩
  | false =>
    -- the fresh key names no entry
    obtain ⟨g', h', e1, e2⟩ := h.accept (permNewRequest s.store.nextKey eos f) s.store.nextKey (fun h => h) (fun h => h) (fun _ h => h) (fun j x _ hp => hp.1)
      (fun a ha => absurd ((h.inv hwd).kb _ a ha) (Nat.lt_irrefl _)) t
    exact ⟨g', h', e1, fun j => (let ⟨ad, a1, a2⟩ := e2 j; ⟨ad, a1, fun x hx => (a2 x hx).2⟩)⟩

end

theorem stream_panic' (t : Streams) (m : String) (k : Nat) : (t.panic m).stream k = t.stream k :=
  Streams.panic_stream t m k

theorem closed_present {t : Streams} {k : Nat} (h : (t.stream k).state.isClosed = true) : ∃ a, t.store.get? k = some a := by
  cases hq : t.store.get? k with
  | some a => exact ⟨a, rfl⟩
  | none =>
    have : t.stream k = { key := k, id := 0 } := by unfold Streams.stream; rw [hq]; rfl
    rw [this] at h; cases h

theorem sendPushPromise_closed (t : Streams) (parent pk pid : Nat) (f : List Hpack.Field)
    (h : (t.stream parent).state.isClosed = true) : ∃ e, t.sendPushPromise parent pk pid f = (t, .error e) := by
  unfold Streams.sendPushPromise
  split
  · exact ⟨_, rfl⟩
  · simp only [State.isSendClosed_of_isClosed _ h, if_true]; exact ⟨_, rfl⟩

/-- `send_push_promise` on a closed parent queues nothing: the promised entry is inserted under a fresh key (`PushRule`),
    so the parent is still there, closed, when `Send::send_push_promise` looks at it — and refuses -/
theorem refSendPushPromise_closed_tr (s : Streams) (parent : Nat) (v : Bool) (f : List Hpack.Field)
    (hc : (s.stream parent).state.isClosed = true) (hkb : KeysBelow s) :
    Tr permG s (s.refSendPushPromise parent v f).1 := by
  have hg : permG.gone := trivial
  obtain ⟨a, ha⟩ := closed_present hc
  rw [Streams.stream_of_get? ha] at hc
  refine PushRule.run (I := Tr permG s) (Q := Tr permG s)
    (L := fun _ k t => k = s.store.nextKey ∧ t.store.get? parent = some a)
    (L' := fun _ _ t => t.store.get? parent = some a)
    { opn := sendReserveLocal_acc hg (Tr.refl permG s)
      done := fun _ ht => ht
      ins := fun s1 pid sP hso hP => ?_
      reserve := fun t pid k st' u ht hl heq => ⟨modStream_acc _ _ ⟨rfl, rfl, ?_, rfl, rfl⟩ ht, ?_⟩
      undo := fun t pid k s5 e ht hl heq => ?_
      fin := fun t pid k s5 u ht hl heq => ?_ } v
  · have h1 : Tr permG s s1 := by have := sendReserveLocal_acc hg (Tr.refl permG s); rw [hso] at this; exact this
    have e1 : s1.store = s.store := by
      have : s.sendReserveLocal.1.store = s.store := by unfold Streams.sendReserveLocal; exact sendOpenId_store s
      rw [hso] at this; exact this
    have h2 : Tr permG s sP ∧ sP.store = s.store := by
      subst hP; split
      · exact ⟨panic_acc _ h1, (Streams.panic_store _ _).trans e1⟩
      · exact ⟨h1, e1⟩
    refine ⟨insert_acc _ rfl rfl h2.1, by rw [h2.2], ?_⟩
    show (sP.store.insert _).1.get? parent = some a
    rw [Conn.Store.get?_insert, h2.2, ha]; rfl
  · have := reserveLocal_cl (t.stream k).state; rw [heq] at this; exact this
  · -- the promised entry has the fresh key: not the parent's
    have hne : parent ≠ k := by rw [hl.1]; exact Nat.ne_of_lt (hkb parent a ha)
    rw [Streams.modStream_get? t k (fun st => { st with state := st', isPendingPush := true }) (fun _ => rfl), if_neg hne]; exact hl.2
  · obtain ⟨e', he⟩ := sendPushPromise_closed t parent k pid f (by rw [Streams.stream_of_get? hl]; exact hc)
    rw [he] at heq; cases heq; exact unlinkRemove_acc pid k hg ht
  · obtain ⟨e', he⟩ := sendPushPromise_closed t parent k pid f (by rw [Streams.stream_of_get? hl]; exact hc)
    rw [he] at heq; cases heq

/-- what `send_push_promise(parent, fields)` may queue: a PUSH_PROMISE with these fields, on the parent -/
def permPushPromise (parent : Nat) (f : List Hpack.Field) : Perm :=
  { push := fun j x => j = parent ∧ ∃ pk pid, x = .pushPromise pk pid f, gone := True }

theorem Hist.refSendPushPromise {s : Streams} {w : Writer} {g : Ghost} (h : Hist s w g) (parent : Nat) (v : Bool)
    (f : List Hpack.Field) : ∃ g', Hist (s.refSendPushPromise parent v f).1 w g' := by
  have t : Tr (permPushPromise parent f) s (s.refSendPushPromise parent v f).1 :=
    refSendPushPromise_acc (P := permPushPromise parent f) trivial parent v f
      (fun pk pid => Or.inl ⟨rfl, pk, pid, rfl⟩) (Tr.refl _ _)
  cases hwd : g.weird with
  | true =>
    obtain ⟨g', r⟩ := t.run g
    exact ⟨g', .api _ h (fun h => h) (fun h => h) (Or.inl hwd) r⟩
  | false =>
    have hI := h.inv hwd
    rcases closed_cases s parent with hc | hnc
    · obtain ⟨g', h', _⟩ := h.tr_quiet permG (fun h => h) (fun h => h) (fun _ _ _ h => h)
        (refSendPushPromise_closed_tr s parent v f hc hI.kb)
      exact ⟨g', h'⟩
    · obtain ⟨g', h', _⟩ := h.accept (permPushPromise parent f) parent (fun h => h) (fun h => h) (fun _ h => h)
        (fun j x _ hp => hp.1) hnc t
      exact ⟨g', h'⟩

end H2V.Lemmas.ConnFidP
