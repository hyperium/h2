import H2V.Lemmas.ConnNoPanicPAccPath
/-
  C08 (no panic) — the server accept path: `J` along what is no step of `AT`: the pop of `pending_accept`
  (`clear_all_pending_accept`, and with it `clear_queues`, `recv_eof`).
-/
namespace H2V.Lemmas.ConnNoPanicP
open H2V H2V.Model H2V.Model.Conn H2V.Lemmas.ConnCountsP
attribute [local irreducible] wrapSubU32 wrapSubUsize

theorem al_walk : Conn.RelOK (AL []) := ⟨AL.refl [], fun h1 h2 => h1.trans h2 (fun _ h => h), panic_al⟩
theorem j_walk : Conn.RelOK fun a b => J a → J b := .of_pred fun _ _ h => h.al0 (panic_al _ _)

theorem storeForEach_al (s : Streams) (f : Streams → Nat → Streams) (hf : ∀ s k, AL [] s (f s k)) : AL [] s (s.storeForEach f) :=
  Streams.storeForEach_rel al_walk s f hf

theorem J.popAcc {s : Streams} (hj : J s) : J (s.qPop .pendingAccept).1 := by
  cases hq : s.qPop .pendingAccept with
  | mk s' o =>
    cases o with
    | none => rw [(Streams.qPop_eq_none hq).2]; exact hj
    | some id => exact (hj.qPopAcc hq).1

theorem clearAllPendingAccept_j (n : Nat) {s : Streams} (hj : J s) : J (Streams.clearAllPendingAccept n s) :=
  Streams.clearAllPendingAccept_rel j_walk (fun _ h => h.popAcc) (fun _ k b h => h.transitionAfter k b) n s hj

theorem recvClearQueues_j {s : Streams} (hj : J s) (b : Bool) : J (s.recvClearQueues b) := by
  obtain ⟨t, n, e, ht, _⟩ := recvClearQueues_split (K := kindsAT) (of_decide_eq_true rfl) s b
  rw [e]; split
  · exact clearAllPendingAccept_j _ (hj.at (.of_step ht))
  · exact hj.at (.of_step ht)

theorem sendClearQueues_j {s : Streams} (hj : J s) : J s.sendClearQueues :=
  hj.at (.of_step (Streams.sendClearQueues_step (by decide) s))

theorem clearQueues_j {s : Streams} (hj : J s) (b : Bool) : J (s.clearQueues b) := by
  unfold Streams.clearQueues
  exact sendClearQueues_j (recvClearQueues_j hj b)

theorem recvEof_j {s : Streams} (hj : J s) (b : Bool) : J (s.recvEof b) := by
  obtain ⟨t, e, ht, _⟩ := recvEof_split (K := kindsAT) (of_decide_eq_true rfl) s b
  rw [e]
  exact clearQueues_j (hj.at (.of_step ht)) b

end H2V.Lemmas.ConnNoPanicP
