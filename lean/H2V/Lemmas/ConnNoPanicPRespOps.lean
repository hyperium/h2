import H2V.Lemmas.ConnNoPanicPRespDec
import H2V.Lemmas.ConnDataRule
/-
  C08 (no panic) — the client response path: the frame `RP` for the entry points of `Inner` that create an entry or
  append to a receive queue (`recv_headers`, `recv_data`, `send_reset` on an unknown id).
-/
namespace H2V.Lemmas.ConnNoPanicP
open H2V H2V.Model H2V.Model.Conn H2V.Lemmas.ConnCountsP
attribute [local irreducible] wrapSubU32 wrapSubUsize

theorem ref0_of_not_live {s : Streams} {k : Nat} (h : ¬ Live s k) : (s.stream k).refCount = 0 := by
  cases hg : s.store.get? k with
  | some x => exact absurd ⟨x, hg⟩ h
  | none => unfold Streams.stream; rw [hg]; rfl

theorem live_of_ref_pos {s : Streams} {k : Nat} (h : 0 < (s.stream k).refCount) : Live s k := by
  apply Classical.byContradiction
  intro hn
  rw [ref0_of_not_live hn] at h; omega

theorem not_live_nextKey {s : Streams} (hk : KeysOK s) : ¬ Live s s.store.nextKey := by
  rintro ⟨x, hx⟩
  have := hk.fresh x (get?_mem hx)
  rw [get?_key hx] at this; omega

theorem insert_rp {X : List Nat} (s : Streams) (st : Stream) : RP X s { s with store := (s.store.insert st).1 } :=
  ⟨fun j _ hr => by rw [stream_insert_old st (live_of_ref_pos hr)]; exact RS.refl _⟩

theorem recvHeadersBody_rp {X : List Nat} (k : Nat) (h : HeadersIn) (s : Streams) (hX : k ∈ X) :
    RP X s (s.recvHeadersBody k h).1 :=
  Streams.HeadersBodyRule.run (I := RP X s) (L := fun _ => True) (L' := fun _ => True)
    { hdrs := fun t ht _ => ⟨ht.trans (recvRecvHeaders_rp t k h hX), trivial⟩
      unsup := fun t m ht => ht.trans (unsup_rp t m)
      trailers := fun t ht _ => ht.trans (recvRecvTrailers_rp t k h hX)
      done := fun _ ht => ht
      big := fun t ht _ => ht.trans (by unfold Streams.answer431; rp_auto)
      rst := fun t _ ht _ => ht.trans (RP.of_step (Streams.resetOnRecvStreamErr_step (by decide) _ _ _ fun _ _ _ => rfl)) } s (.refl _ _) trivial

/-- `Inner::recv_headers` is a frame step for every entry but the one the frame is routed to; a new entry has no handle,
    so it may be excepted for free -/
theorem recvHeaders_rp {X : List Nat} (s : Streams) (h : HeadersIn) (hk : KeysOK s)
    (hX : ∀ k, s.store.findKey? h.sid = some k → k ∈ X) : RP X s (s.recvHeaders h).1 :=
  RP.drop0 (k := s.store.nextKey) (h0 := ref0_of_not_live (not_live_nextKey hk)) <|
    Streams.HeadersRule.run (I := RP (s.store.nextKey :: X) s) (L := fun k _ => k ∈ s.store.nextKey :: X)
      { pre := .refl _ s
        found := fun k hfk => List.mem_cons_of_mem _ (hX k hfk)
        opn := fun _ => RP.of_step (Streams.recvOpen_step (by decide) s h.sid false)
        ins := fun s1 _ hro => by
          have hst : s1.store = s.store := by have := Streams.recvOpen_store s h.sid false; rw [hro] at this; exact this
          exact ⟨(of_fst_eq hro (RP.of_step (Streams.recvOpen_step (by decide) s h.sid false))).trans (insert_rp _ _), by rw [hst]; exact List.mem_cons_self ..⟩
        body := fun t k ht hl => ht.trans (recvHeadersBody_rp k h t hl)
        ta := fun t k b ht => ht.trans (transitionAfter_rp t k b) }

theorem recvDataBody_rp {X : List Nat} (k : Nat) (payload : Bytes) (eos : Bool) (pad : Option Nat) (s : Streams) (hX : k ∈ X) :
    RP X s (s.recvDataBody k payload eos pad).1 :=
  Streams.DataBodyRule.run (I := RP X s) (I' := RP X s)
    { data := fun t ht => ht.trans (recvRecvData_rp t k payload eos pad hX)
      count := fun _ ht => ht.trans (.of_store rfl)
      release := fun t sz ht => ht.trans (RP.of_step (Streams.releaseConnectionCapacity_step (by decide) t sz false))
      done := fun _ ht => ht
      rst := fun t _ ht _ => ht.trans (RP.of_step (Streams.resetOnRecvStreamErr_step (by decide) _ _ _ fun _ _ _ => rfl)) } s (.refl _ _)

theorem recvData_rp {X : List Nat} (s : Streams) (id : Nat) (payload : Bytes) (eos : Bool) (pad : Option Nat)
    (hX : ∀ k, s.store.findKey? id = some k → k ∈ X) : RP X s (s.recvData id payload eos pad).1 :=
  Streams.DataRule.run (I := RP X s) (L := fun k _ => k ∈ X)
    { pre := .refl _ _
      found := hX
      ignore := fun sz => .of_step (Streams.ignoreData_step (by decide) s sz)
      body := fun t k ht hl => ht.trans (recvDataBody_rp k payload eos pad t hl)
      ta := fun t k b ht => ht.trans (transitionAfter_rp t k b) }

theorem innerSendReset_rp {X : List Nat} (s : Streams) (id : Nat) (reason : Reason) : RP X s (s.innerSendReset id reason).1 := by
  unfold Streams.innerSendReset
  cases hfk : s.store.findKey? id with
  | some k => simp only []; exact .of_step (Streams.actionsSendReset_step (by decide) _ _ _ _)
  | none =>
    simp only []
    refine RP.trans ?_ (RP.of_step (Streams.actionsSendReset_step (by decide) _ _ _ _))
    refine RP.trans ?_ (insert_rp _ _)
    split
    · exact .of_step (Streams.sendMaybeResetNextStreamId_step (by decide) _ _)
    · exact .of_step (Streams.recvMaybeResetNextStreamId_step (by decide) _ _)

end H2V.Lemmas.ConnNoPanicP
