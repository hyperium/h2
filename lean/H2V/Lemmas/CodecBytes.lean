import H2V.Model.Frame
import H2V.Spec.Frame
/-
  Codec lemmas: big-endian integers (model `be*/rd*`, spec `u*`), flag bits, frame head.
-/
namespace H2V.Lemmas.Codec
open H2V H2V.Model.Frame

theorem HEADER_LEN_eq : Generated.Consts.HEADER_LEN = 9 := by decide
theorem MAX_INITIAL_WINDOW_SIZE_eq : Generated.Consts.MAX_INITIAL_WINDOW_SIZE = 2 ^ 31 - 1 := by decide
theorem DEFAULT_MAX_FRAME_SIZE_eq : Generated.Consts.DEFAULT_MAX_FRAME_SIZE = 2 ^ 14 := by decide
theorem MAX_MAX_FRAME_SIZE_eq : Generated.Consts.MAX_MAX_FRAME_SIZE = 2 ^ 24 - 1 := by decide

@[simp] theorem be16_length (n : Nat) : (be16 n).length = 2 := rfl
@[simp] theorem be24_length (n : Nat) : (be24 n).length = 3 := rfl
@[simp] theorem be32_length (n : Nat) : (be32 n).length = 4 := rfl

theorem be16_valid (n : Nat) : Bytes.Valid (be16 n) := by
  intro b hb; simp [be16] at hb; omega
theorem be24_valid (n : Nat) : Bytes.Valid (be24 n) := by
  intro b hb; simp [be24] at hb; omega
theorem be32_valid (n : Nat) : Bytes.Valid (be32 n) := by
  intro b hb; simp [be32] at hb; omega

theorem valid_append {a b : Bytes} (ha : Bytes.Valid a) (hb : Bytes.Valid b) : Bytes.Valid (a ++ b) := by
  intro x hx
  rcases List.mem_append.1 hx with h | h
  · exact ha x h
  · exact hb x h

theorem be16_rd16 (n : Nat) (h : n < 2 ^ 16) (rest : Bytes) : rd16 (be16 n ++ rest) = n := by
  simp only [be16, rd16, List.cons_append]; omega
theorem be24_rd24 (n : Nat) (h : n < 2 ^ 24) (rest : Bytes) : rd24 (be24 n ++ rest) = n := by
  simp only [be24, rd24, List.cons_append]; omega
theorem be32_rd32 (n : Nat) (h : n < 2 ^ 32) (rest : Bytes) : rd32 (be32 n ++ rest) = n := by
  simp only [be32, rd32, List.cons_append]; omega

theorem rd16_be16 (a b : Nat) (ha : a < 256) (hb : b < 256) (rest : Bytes) :
    be16 (rd16 (a :: b :: rest)) = [a, b] := by
  simp only [be16, rd16, List.cons.injEq, and_true]; omega
theorem rd24_be24 (a b c : Nat) (ha : a < 256) (hb : b < 256) (hc : c < 256) (rest : Bytes) :
    be24 (rd24 (a :: b :: c :: rest)) = [a, b, c] := by
  simp only [be24, rd24, List.cons.injEq, and_true]; omega
theorem rd32_be32 (a b c d : Nat) (ha : a < 256) (hb : b < 256) (hc : c < 256) (hd : d < 256) (rest : Bytes) :
    be32 (rd32 (a :: b :: c :: d :: rest)) = [a, b, c, d] := by
  simp only [be32, rd32, List.cons.injEq, and_true]; omega

theorem u16_eq_rd16 : (b : Bytes) → Spec.Frame.u16 b = rd16 b
  | [] | [_] | _ :: _ :: _ => rfl
theorem u24_eq_rd24 : (b : Bytes) → Spec.Frame.u24 b = rd24 b
  | [] | [_] | [_, _] => rfl
  | a :: b :: c :: _ => by simp only [Spec.Frame.u24, rd24]; omega
theorem u32_eq_rd32 : (b : Bytes) → Spec.Frame.u32 b = rd32 b
  | [] | [_] | [_, _] | [_, _, _] => rfl
  | a :: b :: c :: d :: _ => by simp only [Spec.Frame.u32, rd32]; omega
theorem u31_eq (b : Bytes) : Spec.Frame.u31 b = (parseStreamId b).1 := by
  simp [Spec.Frame.u31, parseStreamId, u32_eq_rd32]

theorem be16_u16 (n : Nat) (h : n < 2 ^ 16) (rest : Bytes) : Spec.Frame.u16 (be16 n ++ rest) = n := by
  rw [u16_eq_rd16]; exact be16_rd16 n h rest
theorem be24_u24 (n : Nat) (h : n < 2 ^ 24) (rest : Bytes) : Spec.Frame.u24 (be24 n ++ rest) = n := by
  rw [u24_eq_rd24]; exact be24_rd24 n h rest
theorem be32_u32 (n : Nat) (h : n < 2 ^ 32) (rest : Bytes) : Spec.Frame.u32 (be32 n ++ rest) = n := by
  rw [u32_eq_rd32]; exact be32_rd32 n h rest
theorem be32_u31 (n : Nat) (h : n < 2 ^ 31) (rest : Bytes) : Spec.Frame.u31 (be32 n ++ rest) = n := by
  unfold Spec.Frame.u31; rw [be32_u32 n (by omega)]; omega

/-- the mask test of the Rust (`flags & bit == bit`) is the RFC's bit test, for every power of two -/
theorem and_two_pow' (f i : Nat) : f &&& 2 ^ i = if f.testBit i then 2 ^ i else 0 := by
  apply Nat.eq_of_testBit_eq
  intro j
  rw [Nat.testBit_and, Nat.testBit_two_pow]
  by_cases hij : i = j
  · subst hij
    cases h : f.testBit i <;> simp
  · cases h : f.testBit i <;> simp [hij]

theorem and_pow_eq_iff (f i : Nat) : (f &&& 2 ^ i = 2 ^ i) ↔ f / 2 ^ i % 2 = 1 := by
  rw [and_two_pow', Nat.testBit_eq_decide_div_mod_eq]
  have : 0 < 2 ^ i := Nat.two_pow_pos i
  by_cases h : f / 2 ^ i % 2 = 1
  · simp [h]
  · simp [h]; omega

theorem and_pow_ne_zero_iff (f i : Nat) : (f &&& 2 ^ i ≠ 0) ↔ f / 2 ^ i % 2 = 1 := by
  rw [and_two_pow', Nat.testBit_eq_decide_div_mod_eq]
  have : 0 < 2 ^ i := Nat.two_pow_pos i
  by_cases h : f / 2 ^ i % 2 = 1
  · simp [h]
  · simp [h]

theorem flag_iff_and (f i : Nat) : Spec.Frame.flag f (2 ^ i) = decide (f &&& 2 ^ i = 2 ^ i) := by
  unfold Spec.Frame.flag
  rw [Bool.eq_iff_iff]; simp [and_pow_eq_iff]

theorem flag1 (f : Nat) : Spec.Frame.flag f 1 = decide (f &&& 1 = 1) := flag_iff_and f 0
theorem flag4 (f : Nat) : Spec.Frame.flag f 4 = decide (f &&& 4 = 4) := flag_iff_and f 2
theorem flag8 (f : Nat) : Spec.Frame.flag f 8 = decide (f &&& 8 = 8) := flag_iff_and f 3
theorem flag32 (f : Nat) : Spec.Frame.flag f 32 = decide (f &&& 32 = 32) := flag_iff_and f 5

theorem and9_and8 (f : Nat) : f &&& 9 &&& 8 = f &&& 8 := by rw [Nat.and_assoc]; rfl
theorem and9_and1 (f : Nat) : f &&& 9 &&& 1 = f &&& 1 := by rw [Nat.and_assoc]; rfl

@[simp] theorem Head.encode_length (h : Head) (n : Nat) : (h.encode n).length = 9 := rfl

theorem Head.encode_valid (h : Head) (n : Nat) (hk : h.kind < 256) (hf : h.flag < 256) :
    Bytes.Valid (h.encode n) := by
  refine valid_append (valid_append (be24_valid n) ?_) (be32_valid h.sid)
  intro b hb
  simp at hb
  omega

theorem Head.parse_eq_spec (b : Bytes) :
    Head.parse b = ⟨b.getD 3 0, b.getD 4 0, Spec.Frame.u31 (b.drop 5)⟩ := by
  simp [Head.parse, u31_eq]

/-- `b` starts with a frame head that reads as `h` with length field `n`, followed by `rest`: the
    RFC 9113 §4.1 layout, which is all that `Head::parse` and the reference parser look at -/
structure HeadOf (b : Bytes) (h : Head) (n : Nat) (rest : Bytes) : Prop where
  kind : b.getD 3 0 = h.kind
  flag : b.getD 4 0 = h.flag
  sid : Spec.Frame.u31 (b.drop 5) = h.sid
  len : Spec.Frame.u24 b = n
  drop9 : b.drop 9 = rest
  length : b.length = 9 + rest.length

theorem Head.encode_view (h : Head) (n : Nat) (hs : h.sid < 2 ^ 31) (hn : n < 2 ^ 24) (rest : Bytes) :
    HeadOf (h.encode n ++ rest) h n rest where
  kind := rfl
  flag := rfl
  sid := be32_u31 h.sid hs rest
  len := be24_u24 n hn ([h.kind, h.flag] ++ be32 h.sid ++ rest)
  drop9 := rfl
  length := by rw [List.length_append, Head.encode_length]

namespace HeadOf
variable {b rest : Bytes} {h : Head} {n : Nat}

theorem parse (v : HeadOf b h n rest) : Head.parse b = h := by
  rw [Head.parse_eq_spec, v.kind, v.flag, v.sid]

theorem rd24 (v : HeadOf b h n rest) : rd24 b = n := by
  rw [← u24_eq_rd24, v.len]

theorem spec_parse (v : HeadOf b h n rest) (hl : rest.length = n) :
    Spec.Frame.parse b = some (Spec.Frame.ofParts h.kind h.flag h.sid rest) := by
  unfold Spec.Frame.parse
  rw [v.len, v.length, v.kind, v.flag, v.sid, v.drop9, if_neg (by omega), if_neg (by omega)]

theorem spec_frames (v : HeadOf b h n rest) (F maxSize : Nat) (hl : n ≤ rest.length) (hm : n ≤ maxSize) :
    Spec.Frame.frames (F + 1) maxSize b =
      (Spec.Frame.ofParts h.kind h.flag h.sid (rest.take n) :: (Spec.Frame.frames F maxSize (rest.drop n)).1,
        (Spec.Frame.frames F maxSize (rest.drop n)).2) := by
  rw [Spec.Frame.frames, v.len, v.length, v.kind, v.flag, v.sid, ← List.drop_drop, v.drop9,
    if_neg (by omega), if_neg (by omega), if_neg (by omega)]

end HeadOf

theorem Head.parse_encode (h : Head) (n : Nat) (hs : h.sid < 2 ^ 31) (rest : Bytes) :
    Head.parse (h.encode n ++ rest) = h := by
  rw [Head.parse_eq_spec]
  exact congrArg (Head.mk h.kind h.flag) (be32_u31 h.sid hs rest)

theorem Head.rd24_encode (h : Head) (n : Nat) (hn : n < 2 ^ 24) (rest : Bytes) :
    rd24 (h.encode n ++ rest) = n :=
  be24_rd24 n hn ([h.kind, h.flag] ++ be32 h.sid ++ rest)

theorem parse_head_encode (h : Head) (p : Bytes) (hs : h.sid < 2 ^ 31) (hp : p.length < 2 ^ 24) :
    Spec.Frame.parse (h.encode p.length ++ p) = some (Spec.Frame.ofParts h.kind h.flag h.sid p) :=
  (Head.encode_view h _ hs hp p).spec_parse rfl

end H2V.Lemmas.Codec
