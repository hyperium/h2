import H2V.Lemmas.ConnFlowPDrain
/-
  ConnFlowP — `Mv`: one step of the send side, for the arithmetic invariants.  The footprint of a step (which fields it
  may write) is a frame (`SFr`, `WFr`); what cannot be read off a frame is the ledger inequality `SafeInvG` and ConnDrainP's
  `CapInv` (nobody waits in `pending_capacity` while the connection has capacity to give — kept only together with
  `SafeInv` and `ReqOk`).  `MvG w g s g' t` says that both pass from `s`, with `g` octets of pending credit, to `t` with
  `g'` (and requests stay `u32`; with `w = true` the connection window is untouched).  A function that moves capacity
  is walked once, for `Mv w s t` = `MvG w 0 s 0 t`; the others are strong frame steps by their footprints (`Mv.frame`).
  The leaves: `try_assign_capacity`, `claim_capacity` on a stream (credit `0 → n`), `assign_connection_capacity(n)`
  (credit `n → 0`).
-/
namespace H2V.Lemmas.ConnDrainP
open H2V H2V.Model H2V.Model.Conn

/-- nobody waits in `pending_capacity` while the connection still has capacity to give -/
def CapInv (t : Streams) : Prop := t.prio.pendingCapacity = [] ∨ t.prio.flow.available.val ≤ 0

theorem CapInv.of_prio {t t' : Streams} (h : CapInv t) (e1 : t'.prio.pendingCapacity = t.prio.pendingCapacity)
    (e2 : t'.prio.flow.available = t.prio.flow.available) : CapInv t' := by
  unfold CapInv at *; rw [e1, e2]; exact h

end H2V.Lemmas.ConnDrainP

namespace H2V.Lemmas.ConnFlowP
open H2V H2V.Model H2V.Model.Conn H2V.Lemmas.Comp
open H2V.Lemmas.ConnDrainP (CapInv)

structure MvG (w : Bool) (g : Int) (s : Streams) (g' : Int) (t : Streams) : Prop where
  safe : SafeInvG g s → SafeInvG g' t
  req : ReqOk s → ReqOk t
  cap : SafeInvG g s → ReqOk s → CapInv s → CapInv t
  win : w = true → t.prio.flow.windowSize = s.prio.flow.windowSize

/-- no credit pending: the form every model function has between its calls -/
@[reducible] def Mv (w : Bool) (s t : Streams) : Prop := MvG w 0 s 0 t

section
variable {w : Bool} {g g1 : Int} {s t : Streams}

theorem MvG.refl (w : Bool) (g : Int) (s : Streams) : MvG w g s g s := ⟨id, id, fun _ _ h => h, fun _ => rfl⟩
theorem Mv.refl (w : Bool) (s : Streams) : Mv w s s := MvG.refl w 0 s

theorem MvG.step {g2 : Int} {t' : Streams} (h : MvG w g s g1 t) (hs : SafeInvG g1 t → SafeInvG g2 t') (hr : ReqOk t → ReqOk t')
    (hc : SafeInvG g1 t → ReqOk t → CapInv t → CapInv t')
    (hw : w = true → t'.prio.flow.windowSize = t.prio.flow.windowSize) : MvG w g s g2 t' :=
  ⟨hs ∘ h.safe, hr ∘ h.req, fun a b c => hc (h.safe a) (h.req b) (h.cap a b c), fun e => (hw e).trans (h.win e)⟩

theorem MvG.trans {g2 : Int} {t' : Streams} (h : MvG w g s g1 t) (h' : MvG w g1 t g2 t') : MvG w g s g2 t' :=
  h.step h'.safe h'.req h'.cap h'.win

/-- a strong frame step moves no credit, gives the connection nothing and queues nobody in `pending_capacity` -/
theorem MvG.sfr {t' : Streams} (hf : SFr t t') (h : MvG w g s g1 t) : MvG w g s g1 t' :=
  h.step (·.sfr hf) hf.req (fun _ _ hc => by
    rcases hc with e | e
    · exact Or.inl (List.suffix_nil.1 (e ▸ hf.pc))
    · exact Or.inr (by rw [hf.fr.1]; exact e)) (fun _ => by rw [hf.fr.1])

theorem Mv.frame (h : Streams.Step sfrK s t) : Mv w s t := (MvG.refl w 0 s).sfr (.of_step h)

/-- the flag only promises: a step that keeps the connection window is a step -/
theorem MvG.weaken (h : MvG true g s g1 t) : MvG w g s g1 t := ⟨h.safe, h.req, h.cap, fun _ => h.win rfl⟩

end

/-- the `Mv` lemma of a function (rules are added where the lemmas are proved) -/
syntax "mv_fun" : tactic
macro_rules | `(tactic| mv_fun) => `(tactic| fail "mv_fun: no rule applies")

/-- close the goal, or peel one call: as a strong frame step, else by the `Mv` lemma of the function -/
macro "mv_step" : tactic => `(tactic| first
  | with_reducible assumption
  | with_reducible exact MvG.refl _ _ _
  | (with_reducible apply MvG.sfr; (· sfr_base; with_reducible exact SFr.refl _))
  | (guard_not_mk; mv_fun)
  | apply_ih
  | (with_reducible apply of_fst_eq; (· with_reducible assumption)))

macro "mv_auto" : tactic => `(tactic| walk_with mv_step)
/-- unfold a function (and `counts.transition`) and walk it -/
macro "mv_by" f:ident : tactic => `(tactic| (unfold $f; (try unfold Streams.transition); mv_auto))

theorem SafeInv.of_mv {w : Bool} {t t' : Streams} (hm : MvG w 0 t 0 t') (h : SafeInv t) : SafeInv t' := hm.safe h

/-- `safe_auto` passes a function that has an `Mv` lemma by that lemma -/
macro_rules | `(tactic| safe_peel) => `(tactic|
  (with_reducible apply SafeInv.of_mv (w := false); (· mv_fun; with_reducible exact MvG.refl _ _ _)))

section
variable {w : Bool} {g : Int} {s t : Streams}

theorem tryAssign_flow_of_nonpos {t : Streams} (h : t.prio.flow.available.val ≤ 0) (id : Nat) :
    (t.tryAssignCapacity id).prio.flow = t.prio.flow := by
  have h0 : ¬ 0 < t.prio.flow.available.asSize := by rw [asSize_eq]; omega
  exact t.tryAssignCapacity_cases id (P := fun u => u.prio.flow = t.prio.flow) rfl
    (fun _ hp => absurd hp h0) (fun _ _ => relink_flow t id)

/-- connection → stream; the stream is queued in `pending_capacity` again only when the connection has nothing left
    (`tryAssign_queue`) -/
theorem MvG.tryAssignCapacity (h : MvG w g s 0 t) (id : Nat) : MvG w g s 0 (t.tryAssignCapacity id) :=
  h.step (fun hs => SafeInv.tryAssignCapacity hs id) (·.tryAssignCapacity id)
    (fun hs hr hc => by
      rcases (tryAssign_queue hs hr id).1 with e | ⟨_, ha⟩
      · rcases hc with hc | hc
        · exact Or.inl (e.trans hc)
        · exact Or.inr (by rw [tryAssign_flow_of_nonpos hc]; exact hc)
      · exact Or.inr ha)
    (fun _ => ((WFr.refl t).tryAssignCapacity id).1)
macro_rules | `(tactic| mv_fun) => `(tactic| with_reducible apply MvG.tryAssignCapacity)

theorem MvG.assignConnectionCapacityLoop (fuel : Nat) :
    ∀ {t : Streams}, MvG w g s 0 t → MvG w g s 0 (Streams.assignConnectionCapacityLoop fuel t) := by
  induction fuel with
  | zero => intro t h; exact h
  | succ n ih => intro t h; mv_by Streams.assignConnectionCapacityLoop
macro_rules | `(tactic| mv_fun) => `(tactic| with_reducible apply MvG.assignConnectionCapacityLoop)

/-- stream → pending credit: `claim_capacity(n)` on a stream that holds at least `n` -/
theorem MvG.claim (h : MvG w g s 0 t) (id n : Nat) (hn : SafeInv t → n ≤ (t.stream id).sendFlow.available.asSize) :
    MvG w g s n (t.modStream id fun st => { st with sendFlow := (st.sendFlow.claimCapacity n).1 }) :=
  h.step (fun hs => claim_step hs id n (hn hs)) (ReqOk.modStreamF fun _ => Or.inl rfl)
    (fun _ _ hc => hc.of_prio (by rw [modStream_prio]) (by rw [modStream_prio])) (fun _ => by rw [modStream_prio])

/-- the same with the new flow computed before the update -/
theorem MvG.claim_const (h : MvG w g s 0 t) (id n : Nat) (hn : SafeInv t → n ≤ (t.stream id).sendFlow.available.asSize) :
    MvG w g s n (t.modStream id fun st => { st with sendFlow := ((t.stream id).sendFlow.claimCapacity n).1 }) :=
  h.step (fun hs => claim_step_const hs id n (hn hs)) (ReqOk.modStreamF fun _ => Or.inl rfl)
    (fun _ _ hc => hc.of_prio (by rw [modStream_prio]) (by rw [modStream_prio])) (fun _ => by rw [modStream_prio])

/-- pending credit → connection → waiting streams (`assign_connection_capacity`): whatever `pending_capacity` held
    before, afterwards it is empty or the connection has nothing left (`assignConnectionCapacity_drains`) -/
theorem MvG.release {n : Nat} (h : MvG w g s n t) : MvG w g s 0 (t.assignConnectionCapacity n) := by
  have hl := MvG.assignConnectionCapacityLoop (w := w) (t.prio.pendingCapacity.length + 2)
    (MvG.refl w 0 (t.modPrio fun p => { p with flow := (p.flow.assignCapacity n).1 }))
  exact h.step (fun hs => hl.safe hs.release) (fun hr => hl.req (hr.modPrio _))
    (fun hs hr _ => (assignConnectionCapacity_drains hs hr).symm)
    (fun e => (hl.win e).trans (assignCapacity_window _ _))
macro_rules | `(tactic| mv_fun) => `(tactic| with_reducible apply MvG.release)

theorem MvG.reclaimAllCapacity (h : MvG w g s 0 t) (id : Nat) : MvG w g s 0 (t.reclaimAllCapacity id) := by
  unfold Streams.reclaimAllCapacity
  dsimp only
  split
  · exact (h.claim id _ (fun _ => Nat.le_refl _)).release
  · exact h
macro_rules | `(tactic| mv_fun) => `(tactic| with_reducible apply MvG.reclaimAllCapacity)

theorem MvG.reclaimReservedCapacity (h : MvG w g s 0 t) (id : Nat) : MvG w g s 0 (t.reclaimReservedCapacity id) := by
  unfold Streams.reclaimReservedCapacity
  dsimp only
  split
  · have hres : ∀ {u : Streams}, u.stream id = t.stream id → SafeInv u →
        wrapSubU32 (t.stream id).sendFlow.available.asSize (usizeAsU32 (t.stream id).bufferedSendData) ≤
          (u.stream id).sendFlow.available.asSize := by
      intro u e hs
      have hlt := (hs.stream_ok id).windowSz_lt
      have hle := (hs.stream_ok id).asSize_le
      rw [e] at hlt hle ⊢
      rw [usizeAsU32_small (by omega), wrapSubU32_of_le (by omega) (by omega)]; omega
    split
    · exact (h.claim_const id _ (hres rfl)).release
    · have := (h.sfr ((SFr.refl t).panic "window size should be greater than reserved")).claim_const id _
        (hres (Streams.panic_stream _ _ _))
      rw [Streams.panic_stream] at this
      exact this.release
  · exact h
macro_rules | `(tactic| mv_fun) => `(tactic| with_reducible apply MvG.reclaimReservedCapacity)

theorem MvG.setReq {g1 : Int} (h : MvG w g s g1 t) (id v : Nat) (hv : v < 4294967296) :
    MvG w g s g1 (t.modStream id fun st => { st with requestedSendCapacity := v }) :=
  h.sfr (.of_step (.modStream t id _ (.requested v hv)))

theorem MvG.reserveCapacity (h : MvG w g s 0 t) (id capacity : Nat) : MvG w g s 0 (t.reserveCapacity id capacity) := by
  unfold Streams.reserveCapacity
  dsimp only
  split
  · exact h
  split
  · have h1 := h.setReq id _ (usizeAsU32_lt (capacity + (t.stream id).bufferedSendData))
    split
    · refine (h1.claim id _ fun hs => ?_).release
      have hlt := (hs.stream_ok id).windowSz_lt
      have hle := (hs.stream_ok id).asSize_le
      have e := stream_modStream_flow (s := t) id id (fun st : Stream =>
        { st with requestedSendCapacity := usizeAsU32 (capacity + (t.stream id).bufferedSendData) }) (fun _ => ⟨rfl, rfl⟩)
      rw [e] at hlt hle ⊢
      rw [usizeAsU32_small (by omega), wrapSubU32_of_le (by omega) (by omega)]; omega
    · exact h1
  · split
    · exact h
    · exact (h.setReq id _ (min_u32max_lt _)).tryAssignCapacity id
macro_rules | `(tactic| mv_fun) => `(tactic| with_reducible apply MvG.reserveCapacity)

end

end H2V.Lemmas.ConnFlowP
