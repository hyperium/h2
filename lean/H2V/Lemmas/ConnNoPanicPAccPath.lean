import H2V.Lemmas.ConnNoPanicPAccSub
import H2V.Lemmas.ConnHeadersRule
/-
  C08 (no panic) — the server accept path: the functions that belong to the accept path keep `J`:
  `Recv::recv_reset` (counts a reset queued stream), `Recv::recv_headers` (queues a stream whose
  `pending_recv` is exactly the request head), the handle count (`ref_inc`, the decrement of
  `drop_stream_ref`).
-/
namespace H2V.Lemmas.ConnNoPanicP
open H2V H2V.Model H2V.Model.Conn H2V.Lemmas.ConnCountsP
attribute [local irreducible] wrapSubU32 wrapSubUsize

theorem getQ_modStreamW (s : Streams) (k : Nat) (f : Stream → Stream × List String) (q : QName) :
    (s.modStreamW k f).getQ q = s.getQ q := by
  unfold Streams.modStreamW; split
  · rfl
  · exact Streams.panic_getQ _ _ _

theorem recvReset_not_recvHeaders (x : State) (sid : Nat) (r : Reason) (q : Bool) : (x.recvReset sid r q).isRecvHeaders = false := by
  have := State.recvReset_isClosed x sid r q
  generalize x.recvReset sid r q = y at this
  rcases y with ⟨_ | _ | _ | ⟨_ | _, _ | _⟩ | ⟨_ | _⟩ | ⟨_ | _⟩ | _⟩ <;> simp [State.isClosed] at this <;> rfl

/-- the state change of `recv_reset`, when a queued stream is paid for in advance -/
theorem J.recvResetState {s : Streams} (hj : J s) {k : Nat} (hk : Live s k) (r : Reason)
    (hslack : k ∈ s.recv.pendingAccept → rrCount s + 1 ≤ s.counts.numRemoteResetStreams) :
    J (s.modStream k fun st => { st with state := st.state.recvReset st.id r st.isPendingSend }) := by
  have hst := stream_modStream_live hk (fun st => { st with state := st.state.recvReset st.id r st.isPendingSend }) (fun _ => rfl)
  have hoth : ∀ j, j ≠ k → (s.modStream k fun st => { st with state := st.state.recvReset st.id r st.isPendingSend }).stream j = s.stream j :=
    fun j hjk => Streams.stream_modStream_ne _ _ (by intro _; rfl) hjk
  have hq : (s.modStream k fun st => { st with state := st.state.recvReset st.id r st.isPendingSend }).recv.pendingAccept =
      s.recv.pendingAccept := by
    show Streams.getQ _ .pendingAccept = Streams.getQ _ .pendingAccept
    rw [getQ_modStream]
  refine hj.upd (SameKeys.modStream _ _ _) hq (by rw [Streams.modStream_counts]) hoth (by rw [hst]) ?_ ?_ ?_
  · intro _ _ h
    rw [hst] at h
    rw [show (({ s.stream k with state := (s.stream k).state.recvReset (s.stream k).id r (s.stream k).isPendingSend } : Stream)).state =
      (s.stream k).state.recvReset (s.stream k).id r (s.stream k).isPendingSend from rfl, recvReset_not_recvHeaders] at h
    cases h
  · intro hkq; rw [hst]; exact hj.qd k hkq
  · rw [Streams.modStream_counts]
    by_cases hkq : k ∈ s.recv.pendingAccept
    · refine Nat.le_trans ?_ (hslack hkq)
      unfold rrCount; rw [hq]
      exact countP_upd hj.acc.nodup k (fun j hjk => by rw [hoth j hjk])
    · exact Nat.le_trans (rrCount_upd_le hq hoth (fun h => absurd h hkq)) hj.rr

theorem rrCount_of_store {s s' : Streams} (h1 : s'.store = s.store) (h2 : s'.recv.pendingAccept = s.recv.pendingAccept) :
    rrCount s' = rrCount s := by
  unfold rrCount Streams.stream; rw [h1, h2]

/-- **`Recv::recv_reset` keeps `J`**: `num_remote_reset_streams` is incremented exactly when the stream carries the
    `is_pending_accept` link -/
theorem recvRecvReset_j {s : Streams} (hj : J s) {k : Nat} (hk : Live s k) (r : Reason) : J (s.recvRecvReset k r).1 := by
  unfold Streams.recvRecvReset
  dsimp only
  have key : ∀ s0 : Streams, J s0 → Live s0 k → (k ∈ s0.recv.pendingAccept → rrCount s0 + 1 ≤ s0.counts.numRemoteResetStreams) →
      J ((((s0.modStream k fun st => { st with state := st.state.recvReset st.id r st.isPendingSend }).modStreamW k Stream.notifySend).modStreamW
        k Stream.notifyRecv).modStreamW k Stream.notifyPush) := by
    intro s0 h0 hk0 hsl
    refine J.al0 ?_ (h0.recvResetState hk0 r hsl)
    al_auto
  by_cases hfl : (s.stream k).isPendingAccept = true
  · simp only [hfl, if_true]
    by_cases hc : s.counts.canIncNumRemoteResetStreams = true
    · simp only [hc, if_true]
      have hal : AL [] s (s.modCountsA "can_inc_num_remote_reset_streams" Counts.incNumRemoteResetStreams) := by al_auto
      refine key _ (hj.al0 hal) (hal.live.mpr hk) (fun _ => ?_)
      have e0 : s.modCountsA "can_inc_num_remote_reset_streams" Counts.incNumRemoteResetStreams =
          { s with counts := { s.counts with numRemoteResetStreams := s.counts.numRemoteResetStreams + 1 } } := by
        unfold Streams.modCountsA Counts.incNumRemoteResetStreams; rw [if_pos hc]
      rw [e0]
      show rrCount s + 1 ≤ s.counts.numRemoteResetStreams + 1
      exact Nat.succ_le_succ hj.rr
    · simp only [hc, Bool.false_eq_true, if_false]
      exact hj
  · simp only [hfl, Bool.false_eq_true, if_false]
    refine key s hj hk (fun hkq => ?_)
    exact absurd (flagged_iff.mp (hj.acc.fl k hkq)).2 hfl

theorem refInc_j {s : Streams} (hj : J s) {k : Nat} (hk : Live s k) (hnq : k ∉ s.recv.pendingAccept)
    (hrh : s.counts.isServer = true → (s.stream k).state.isRecvHeaders = false) : J (s.refInc k) := by
  unfold Streams.refInc
  refine hj.modStream hk _ (fun _ => rfl) rfl (fun hs h => ?_) (fun h => absurd h hnq) (fun _ h => h)
  rw [show (({ s.stream k with refCount := (s.stream k).refCount + 1 } : Stream)).state = (s.stream k).state from rfl, hrh hs] at h
  cases h

theorem J.of_ref {s : Streams} (hj : J s) {k : Nat} (hk : Live s k) (hr : (s.stream k).refCount > 0) :
    k ∉ s.recv.pendingAccept ∧ (s.counts.isServer = true → (s.stream k).state.isRecvHeaders = false) := by
  refine ⟨hj.not_mem_of_ref hr, fun hs => ?_⟩
  cases hh : (s.stream k).state.isRecvHeaders with
  | false => rfl
  | true => have := (hj.si hs k hk hh).1; omega

theorem refDec_j {s : Streams} (hj : J s) {k : Nat} (hk : Live s k) (hnq : k ∉ s.recv.pendingAccept) :
    J (s.modStream k fun st => { st with refCount := st.refCount - 1 }) := by
  refine hj.modStream hk _ (fun _ => rfl) rfl (fun hs h => ?_) (fun h => absurd h hnq) (fun _ h => h)
  obtain ⟨h1, h2⟩ := hj.si hs k hk h
  exact ⟨by show (s.stream k).refCount - 1 = 0; omega, h2⟩

theorem recvOpen_ok_acc {x y : State} {eos inf b : Bool} (h : x.recvOpen eos inf = (y, .ok b)) :
    x.isRecvHeaders = true ∧ y.isRemoteReset = false ∧ (inf = false → y.isRecvHeaders = false) := by
  rcases x with ⟨_ | _ | _ | ⟨_ | _, _ | _⟩ | ⟨_ | _⟩ | ⟨_ | _⟩ | _⟩ <;> cases eos <;> cases inf <;> simp [State.recvOpen] at h <;>
    obtain ⟨h, _⟩ := h <;> subst h <;> simp [State.isRecvHeaders, State.isRemoteReset]

/-- the state change of `recv_headers` -/
theorem J.setRecvOpen {s : Streams} (hj : J s) {k : Nat} (hk : Live s k) {st' : State} {eos inf b : Bool}
    (h : (s.stream k).state.recvOpen eos inf = (st', .ok b)) : J (s.modStream k fun st => { st with state := st' }) := by
  obtain ⟨h1, h2, _⟩ := recvOpen_ok_acc h
  refine hj.modStream hk _ (fun _ => rfl) rfl (fun hs _ => hj.si hs k hk h1) (fun hkq => hj.qd k hkq) (fun _ hr => ?_)
  rw [show (({ s.stream k with state := st' } : Stream)).state = st' from rfl, h2] at hr; cases hr

theorem J.pushEvent {s : Streams} (hj : J s) {k : Nat} (hrh : (s.stream k).state.isRecvHeaders = false) (e : REvent) :
    J (s.modStream k fun st => { st with pendingRecv := st.pendingRecv ++ [e] }) :=
  hj.al0 (modStream_al _ _ _ (ARs.push _ _ hrh))

theorem J.modStream_client {s : Streams} (hj : J s) (hc : s.counts.isServer = false) (k : Nat) (f : Stream → Stream) :
    J (s.modStream k f) :=
  .of_client (by rw [Streams.modStream_counts]; exact hc) (by
    show Streams.getQ _ .pendingAccept = []
    rw [getQ_modStream]; exact hj.cl hc)

/-- `pending_accept.push(stream)`: a new key needs no handle, the request head, and must not be reset -/
theorem J.qPushAcc {s : Streams} (hj : J s) {k : Nat} (hk : Live s k) (hsrv : s.counts.isServer = true)
    (hnew : (s.stream k).isPendingAccept = false →
      (s.stream k).refCount = 0 ∧ ReqHead (s.stream k) ∧ (s.stream k).state.isRemoteReset = false) :
    J (s.qPush .pendingAccept k).1 := by
  unfold Streams.qPush
  split
  · exact hj
  · next hfl =>
    have hfl' : (s.stream k).isPendingAccept = false := by
      cases hh : (s.stream k).isPendingAccept with
      | false => rfl
      | true => exact absurd hh hfl
    obtain ⟨hr, hq, hnr⟩ := hnew hfl'
    dsimp only
    have hnq : k ∉ s.recv.pendingAccept := fun hkq => by
      have := (flagged_iff.mp (hj.acc.fl k hkq)).2
      rw [show (s.stream k).isQueued .pendingAccept = (s.stream k).isPendingAccept from rfl, hfl'] at this; cases this
    generalize hs1 : (s.modStream k fun st => st.setQueued .pendingAccept true) = s1
    have hst : s1.stream k = (s.stream k).setQueued .pendingAccept true := by
      rw [← hs1]; exact stream_modStream_live hk _ (fun x => setQueued_key x _ _)
    have hoth : ∀ j, j ≠ k → s1.stream j = s.stream j := fun j hjk => by
      rw [← hs1]; exact Streams.stream_modStream_ne s k (fun x => setQueued_key x _ _) hjk
    have hkeys : SameKeys s s1 := by rw [← hs1]; exact SameKeys.modStream _ _ _
    have hc1 : s1.counts = s.counts := by rw [← hs1]; exact Streams.modStream_counts _ _ _
    show J (s1.setQ .pendingAccept (s.recv.pendingAccept ++ [k]))
    have hq2 : (s1.setQ .pendingAccept (s.recv.pendingAccept ++ [k])).recv.pendingAccept = s.recv.pendingAccept ++ [k] :=
      getQ_setQ s1 .pendingAccept _
    have hstr : ∀ j, (s1.setQ .pendingAccept (s.recv.pendingAccept ++ [k])).stream j = s1.stream j := fun j => Streams.setQ_stream _ _ _ _
    have hlive : ∀ j, Live (s1.setQ .pendingAccept (s.recv.pendingAccept ++ [k])) j ↔ Live s j :=
      fun j => live_setQ.trans hkeys.live
    refine ⟨⟨fun j hjq => ?_, ?_⟩, fun j hjq => ?_, ?_, fun hs j hl => ?_, fun hs => ?_⟩
    · rw [hq2] at hjq
      refine flagged_iff.mpr ⟨(hlive j).mpr ?_, ?_⟩
      · rcases List.mem_append.mp hjq with h | h
        · exact hj.acc.live h
        · rw [List.mem_singleton.mp h]; exact hk
      · rw [hstr]
        rcases List.mem_append.mp hjq with h | h
        · rw [hoth j (fun e => hnq (e ▸ h))]; exact (flagged_iff.mp (hj.acc.fl j h)).2
        · rw [List.mem_singleton.mp h, hst]; rfl
    · rw [hq2]
      refine List.nodup_append.mpr ⟨hj.acc.nodup, (by simp), ?_⟩
      intro a ha b hb hab
      rw [List.mem_singleton.mp hb] at hab; subst hab; exact hnq ha
    · rw [hq2] at hjq
      rw [hstr]
      rcases List.mem_append.mp hjq with h | h
      · rw [hoth j (fun e => hnq (e ▸ h))]; exact hj.qd j h
      · rw [List.mem_singleton.mp h, hst]; exact ⟨hr, hq⟩
    · rw [setQ_counts, hc1]
      refine Nat.le_trans ?_ hj.rr
      unfold rrCount
      rw [hq2, List.countP_append]
      have h1 : [k].countP (fun j => ((s1.setQ .pendingAccept (s.recv.pendingAccept ++ [k])).stream j).state.isRemoteReset) = 0 := by
        rw [List.countP_cons, List.countP_nil, hstr, hst]
        rw [show ((s.stream k).setQueued .pendingAccept true).state = (s.stream k).state from rfl, hnr]; rfl
      rw [h1, Nat.add_zero]
      exact countP_mono' (fun j hjq hf => by rw [hstr, hoth j (fun e => hnq (e ▸ hjq))] at hf; exact hf)
    · rw [setQ_counts, hc1] at hs
      rw [hstr]
      have hl' := (hlive j).mp hl
      by_cases hjk : j = k
      · subst hjk; rw [hst]; exact hj.si hs j hl'
      · rw [hoth j hjk]; exact hj.si hs j hl'
    · rw [setQ_counts, hc1, hsrv] at hs; cases hs

/-- the tail of the server branch of `recv_headers`: push the request head, notify, queue -/
theorem J.accept {s : Streams} (hj : J s) {k : Nat} (hk : Live s k) (hsrv : s.counts.isServer = true)
    (hrh : (s.stream k).state.isRecvHeaders = false) (hnr : (s.stream k).state.isRemoteReset = false)
    (hfresh : (s.stream k).isPendingAccept = false → (s.stream k).refCount = 0 ∧ (s.stream k).pendingRecv = [])
    (e : REvent) (he : ∃ m u f, e = .request m u f) :
    J (((((s.modStream k fun st => { st with pendingRecv := st.pendingRecv ++ [e] }).modStreamW k Stream.notifyRecv).notifyPushIfRecvEnded
      k).qPush .pendingAccept k).1) := by
  have h4 := hj.pushEvent hrh e
  generalize hs4 : (s.modStream k fun st => { st with pendingRecv := st.pendingRecv ++ [e] }) = s4 at h4
  have hl4 : Live s4 k := by rw [← hs4]; exact (SameKeys.modStream _ _ _).live.mpr hk
  have hst4 : s4.stream k = { s.stream k with pendingRecv := (s.stream k).pendingRecv ++ [e] } := by
    rw [← hs4]; exact stream_modStream_live hk _ (fun _ => rfl)
  have hc4 : s4.counts = s.counts := by rw [← hs4]; exact Streams.modStream_counts _ _ _
  have hs6 : Streams.Step kindsKeep s4 ((s4.modStreamW k Stream.notifyRecv).notifyPushIfRecvEnded k) :=
    (Streams.Step.modStreamW _ k _ .notifyRecv).trans (Streams.notifyPushIfRecvEnded_step _ _)
  have hal : AL [] s4 ((s4.modStreamW k Stream.notifyRecv).notifyPushIfRecvEnded k) :=
    .of_step ((Streams.Step.modStreamW _ k _ .notifyRecv).trans (Streams.notifyPushIfRecvEnded_step _ _))
  have h6 := h4.al0 hal
  have hl6 := hal.live.mpr hl4
  obtain ⟨_, e1, e4, e2, e3⟩ := Keep.of_step hs6 k
  refine h6.qPushAcc hl6 (by rw [hal.srv, hc4]; exact hsrv) (fun hfl => ?_)
  rw [e4, hst4] at hfl
  obtain ⟨hr0, hp0⟩ := hfresh hfl
  refine ⟨by rw [e1, hst4]; exact hr0, ?_, by rw [e2, hst4]; exact hnr⟩
  obtain ⟨m, u, f, rfl⟩ := he
  exact ⟨m, u, f, [], by rw [e3, hst4]; show (s.stream k).pendingRecv ++ _ = _; rw [hp0]; rfl⟩

theorem isInformational_of_none {h : HeadersIn} (hs : h.status = none) : h.isInformational = false := by
  unfold HeadersIn.isInformational; rw [hs]

/-- inside `Recv::recv_headers` from `s`: `J` now, the entry as the state change left it, and what `State::recv_open` said -/
structure JHdr (k : Nat) (h : HeadersIn) (s : Streams) (st' : State) (ini : Bool) (t : Streams) : Prop where
  j : J t
  live : Live t k
  srv : t.counts.isServer = s.counts.isServer
  acc : Keep ({ s.stream k with state := st' } : Stream) (t.stream k)
  opn : (s.stream k).state.recvOpen h.eos h.isInformational = (st', .ok ini)

theorem JHdr.al {k : Nat} {h : HeadersIn} {s : Streams} {st' : State} {ini : Bool} {t t' : Streams} (p : JHdr k h s st' ini t)
    (hal : AL [] t t') (hsp : Keep (t.stream k) (t'.stream k)) : JHdr k h s st' ini t' :=
  ⟨p.j.al0 hal, hal.live.mpr p.live, hal.srv.trans p.srv, p.acc.trans hsp, p.opn⟩

/-- `Recv::recv_headers` keeps `J`: the state change is `J.setRecvOpen`; counting and content-length are frame steps that
    leave the entry as it is (`Keep.of_step`); on a server the stream that is queued has no handle and exactly the request head in
    `pending_recv` (its state was `is_recv_headers` before), and is not reset (`J.accept`) -/
theorem recvRecvHeaders_j {s : Streams} (hj : J s) {k : Nat} (hk : Live s k) (h : HeadersIn) : J (s.recvRecvHeaders k h).1 :=
  Streams.RecvHeadersRule.run (P := JHdr k h s)
    { err := hj
      refuse st' _ heq := hj.setRecvOpen hk heq
      stc st' ini heq _ :=
        have p1 : JHdr k h s st' ini (s.recvHeadersSt k st') :=
          ⟨hj.setRecvOpen hk heq, (SameKeys.modStream _ _ _).live.mpr hk, congrArg Counts.isServer (Streams.modStream_counts _ _ _),
            by rw [Streams.recvHeadersSt, stream_modStream_live hk (fun st => { st with state := st' }) (fun _ => rfl)]; exact .refl _, heq⟩
        p1.al (.of_step (Streams.recvHeadersCount_step (by decide) _ k h ini)) (Keep.of_step (Streams.recvHeadersCount_step (by decide) _ k h ini) k)
      out _ _ _ p := p.j
      cl _ _ t p := p.al (.of_step (Streams.recvHeadersCl_step (by decide) t k h)) (Keep.of_step (Streams.recvHeadersCl_step (by decide) t k h) k)
      queue st' ini t p := by
        obtain ⟨hx1, hx2, hx3⟩ := recvOpen_ok_acc p.opn
        obtain ⟨_, e1, e4, e2, e3⟩ := p.acc
        rcases Streams.recvHeadersQueue_cases (K := kindsAL) t k h ini with ⟨e, _⟩ | ⟨hsrv, hnone, m, u, e⟩ | ⟨hc, ev, _, u, hu, e⟩ <;>
          rw [e]
        · exact p.j
        · refine p.j.accept p.live hsrv ?_ ?_ (fun hfl => ?_) _ ⟨_, _, _, rfl⟩
          · rw [e2]; exact hx3 (isInformational_of_none hnone)
          · rw [e2]; exact hx2
          · rw [e1, e3]; exact hj.si (p.srv ▸ hsrv) k hk hx1
        · exact ((p.j.modStream_client hc k _).al0 (modStreamW_al _ k _ (.of_keep (notifyRecv_keep _)))).al0 (.of_step hu) }

end H2V.Lemmas.ConnNoPanicP
