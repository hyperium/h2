import H2V.Lemmas.ConnNoPanicPPollOpen
import H2V.Lemmas.ConnFlowPMain
import H2V.Lemmas.ConnPopRule
/-
  C08 (no panic): `Prioritize::pop_frame`.
  * `SdNP`: what the proof needs of `Stream::send_data` (the kernel cannot unfold it inside `pop_frame`,
    see `ConnWakePClone.lean`; the clone `ConnWakeP.popFrameC sd` is used with `sd` abstract).
  * `emitC_st`: the DATA arm from the point where the chunk is cut.  Both
    `assert!(self.window_size.0 >= sz as i32)` (stream, connection) are dead by the send-side ledger
    invariant `ConnFlowP.SafeInv` (`send_data_cannot_fail`).
  * `ppArm_pi`: the PUSH_PROMISE arm; `inc_num_send_streams(pushed)` finds the promised stream uncounted
    by `PPFresh`.
  * `PI.finish`: requeue + `counts.transition_after`.
  * the walk of `pop_frame` is ConnPopRule's (`PopRule.run`); the bundle `PI` (`pi_popRule`) is the instance here.
-/
namespace H2V.Lemmas.ConnNoPanicP
open H2V H2V.Model H2V.Model.Conn H2V.Lemmas.ConnCountsP
attribute [local irreducible] wrapSubU32 wrapSubUsize

theorem flowSendData_le (f : FlowControl) (n : Nat) (h : f.available.val ≤ 2147483647) :
    (f.sendData n).1.available.val ≤ 2147483647 := by
  unfold FlowControl.sendData
  split
  · split
    · exact h
    · dsimp only
      split
      · exact h
      · exact decreaseBy_le _ _ h
  · exact h

/-- what is used of `Stream::send_data(len, max_buffer_size)` -/
structure SdNP (sd : Stream → Nat → Nat → Stream × List String × Bool) : Prop where
  ok : ConnFlowP.SdOk sd
  same : ∀ x a b, Same x (sd x a b).1
  ref : ∀ x a b, (sd x a b).1.refCount = x.refCount
  pp : ∀ x a b, (sd x a b).1.isPendingPush = x.isPendingPush
  send : ∀ x a b, (sd x a b).1.pendingSend = x.pendingSend
  buf : ∀ x a b, (sd x a b).1.bufferedSendData = wrapSubUsize x.bufferedSendData a
  bad : ∀ x a b, (sd x a b).2.2 = (match (x.sendFlow.sendData a).2 with | .error .assertFailed => true | _ => false)

theorem sdNP_sendData : SdNP Stream.sendData :=
  ⟨ConnFlowP.sdOk_sendData, sendData_same,
   fun x a b => by rw [Stream.sendData_fst]; split <;> rfl,
   fun x a b => by rw [Stream.sendData_fst]; split <;> rfl,
   fun x a b => by rw [Stream.sendData_fst]; split <;> rfl,
   fun x a b => by rw [Stream.sendData_fst]; split <;> rfl,
   Stream.sendData_assert⟩

theorem SdNP.inert {sd : Stream → Nat → Nat → Stream × List String × Bool} (h : SdNP sd) (x : Stream) (a b : Nat) :
    Inert x (sd x a b).1 :=
  ⟨(h.ok x a b).1, (h.same x a b).id, h.ref x a b, (h.same x a b).fl .pendingCapacity,
   fun hx => by rw [(h.ok x a b).2]; exact flowSendData_le _ _ hx⟩

theorem SdNP.flg {sd : Stream → Nat → Nat → Stream × List String × Bool} (h : SdNP sd) (x : Stream) (a b : Nat) :
    Flg x (sd x a b).1 :=
  .of_fields (h.ok x a b).1 (h.same x a b).counted (h.pp x a b) ((h.same x a b).fl .pendingOpen) (h.send x a b)

/-- three relations at once: light step, evolution step, flag step -/
structure St (ks : List Nat) (s s' : Streams) : Prop where
  lt : LT ks s s'
  ev : EvB false s s'
  fk : FK s s'

theorem St.trans {ks : List Nat} {a b c : Streams} (h1 : St ks a b) (h2 : St ks b c) : St ks a c :=
  ⟨h1.lt.trans h2.lt (fun _ h => h), .trans h1.ev h2.ev, h1.fk.trans h2.fk⟩
theorem St.mono {ks ks' : List Nat} {s s' : Streams} (h : St ks s s') (hs : ∀ k ∈ ks, k ∈ ks') : St ks' s s' :=
  ⟨h.lt.mono hs, h.ev, h.fk⟩
theorem PI.st {E : Nat → Prop} {ks : List Nat} {s s' : Streams} (h : PI E s) (hst : St ks s s') (hl : LiveAll s ks) : PI E s' :=
  h.lt hst.lt hl hst.ev hst.fk

theorem popRest_st {s : Streams} {id : Nat} {f : SFrame} {rest : List SFrame} (hps : (s.stream id).pendingSend = f :: rest) :
    St [id] s (s.modStream id fun st => { st with pendingSend := rest }) :=
  ⟨modStream_lt _ _ _ (fun _ => by inert_tac), modStream_ev' _ _ _ (popRest_same hps), modStream_fk' _ _ _ (popRest_flg hps)⟩

/-- the chunk is cut: with the ledger invariant neither `assert!` of `FlowControl::send_data` fires, and
    what happens is a light step -/
theorem emitC_st {sd : Stream → Nat → Nat → Stream × List String × Bool} (hsd : SdNP sd) {s : Streams}
    (hs : ConnFlowP.SafeInv s) {id len : Nat} {f : SFrame} {rest : List SFrame}
    (hps : (s.stream id).pendingSend = f :: rest)
    (h1 : len ≤ (s.stream id).sendFlow.available.asSize) (h2 : len = 0 ∨ len ≤ (s.stream id).sendFlow.windowSz) :
    St [id] s (ConnWakeP.pfData sd s id len rest) := by
  have hok := ConnFlowP.send_data_cannot_fail hs (k := id) (len := len) (maxLen := len) ⟨Nat.le_refl _, h1, h2⟩
  have h0 := popRest_st (rest := rest) hps
  unfold ConnWakeP.pfData
  dsimp only
  generalize hs1 : (s.modStream id fun st => { st with pendingSend := rest }) = s1 at h0 ⊢
  have hfl : (s1.stream id).sendFlow = (s.stream id).sendFlow := by
    rw [← hs1]; exact ConnFlowP.stream_modStream_flow id id _ (fun _ => ⟨rfl, rfl⟩)
  have hprio : s1.prio = s.prio := by rw [← hs1]; exact modStream_prio _ _ _
  have hbad := hsd.bad (s1.stream id) len s1.prio.maxBufferSize
  have hin := hsd.inert (s1.stream id) len s1.prio.maxBufferSize
  have hsame := hsd.same (s1.stream id) len s1.prio.maxBufferSize
  have hflg := hsd.flg (s1.stream id) len s1.prio.maxBufferSize
  rw [hfl, hok.1] at hbad
  generalize sd (s1.stream id) len s1.prio.maxBufferSize = p at hbad hin hsame hflg ⊢
  obtain ⟨st', w, bad⟩ := p
  dsimp only at hbad hin hsame hflg ⊢
  subst hbad
  simp only [Bool.false_eq_true, if_false]
  have hkey : st'.key = id := hin.key.trans (stream_key _ _)
  have h3 : St [id] s1 ((s1.setStream st').wake w) :=
    ⟨(setStream_lt s1 id st' hin).trans (wake_lt _ _) (fun _ h => absurd h List.not_mem_nil),
     .trans (setStream_ev _ id st' hsame) (wake_ev _ _),
     (setStream_fk s1 st' (by rw [hkey]; exact hflg)).trans (wake_fk _ _)⟩
  generalize hs3 : (s1.setStream st').wake w = s3 at h3 ⊢
  have hp3 : s3.prio = s.prio := by rw [← hs3, ← hprio]; rfl
  have hflow : (s3.modPrio fun p => { p with flow := (p.flow.assignCapacity len).1 }).prio.flow =
      (s.prio.flow.assignCapacity len).1 := by
    show (s3.prio.flow.assignCapacity len).1 = _
    rw [hp3]
  rw [hflow, hok.2]
  dsimp only
  refine h0.trans (h3.trans ⟨?_, ?_, ?_⟩)
  · lt_auto
  · ev_auto
  · fk_auto

theorem qPushSend_st (t : Streams) (id : Nat) : St [id] t (t.qPush .pendingSend id).1 :=
  ⟨qPush_lt _ _ _, qPush_ev _ _ _ (by decide) (by decide), qPush_fk _ _ _ (by decide)⟩

/-- what follows the `match stream.pending_send.pop_front(buffer)` of `pop_frame` -/
theorem PI.finish {E : Nat → Prop} {s' t : Streams} (id : Nat) (c : Prop) [Decidable c] (h : PI E t) (hl : Live t id)
    (e : EvB false s' t) :
    PI E ((if c then (t.qPush .pendingSend id).1 else t).transitionAfter id (s'.stream id).isPendingResetExpiration) := by
  have h2 : St [id] t (if c then (t.qPush .pendingSend id).1 else t) := by
    split
    · exact qPushSend_st t id
    · exact ⟨.refl _ _, .refl _, .refl _⟩
  exact (h.st h2 (liveAll1 hl)).ta id _ (fun hb => (EvB.trans e h2.ev).mono.resetAt id hb)

theorem qPush_raise (s : Streams) (q : QName) (k : Nat) : Raise k s (s.qPush q k).1 := by
  unfold Streams.qPush; split
  · exact .of_store rfl
  · exact (Raise.modStream s k _ (fun x => setQueued_key x q true) (fun x => by cases q <;> rfl)).trans
      (.of_store (setQ_store _ _ _))

theorem mem_ppIdsOf_cons (pk pid : Nat) (fl : List Hpack.Field) (rest : List SFrame) :
    ppIdsOf (.pushPromise pk pid fl :: rest) = pid :: ppIdsOf rest := by
  unfold ppIdsOf; rfl

/-- the PUSH_PROMISE frame leaves the parent's queue and the promised stream is activated
    (`inc_num_send_streams` + `pending_send.push`, or `pending_open.push`) -/
theorem ppArm_pi {E : Nat → Prop} {s : Streams} (h : PI E s) {id pk pid pushed : Nat} {fields : List Hpack.Field}
    {rest : List SFrame} (hl : Live s id) (hps : (s.stream id).pendingSend = .pushPromise pk pid fields :: rest)
    (hfind : (s.modStream id fun st => { st with pendingSend := rest }).store.findKey? pid = some pushed) :
    PI E (ppActivate (s.modStream id fun st => { st with pendingSend := rest }) pushed) ∧
    Live (ppActivate (s.modStream id fun st => { st with pendingSend := rest }) pushed) id ∧
    EvB false s (ppActivate (s.modStream id fun st => { st with pendingSend := rest }) pushed) := by
  have hfind' : s.store.findKey? pid = some pushed := by
    unfold Store.findKey? at hfind ⊢; rw [Streams.modStream_ids] at hfind; exact hfind
  have hev : EvB false s (ppActivate (s.modStream id fun st => { st with pendingSend := rest }) pushed) :=
    .ppAct id pk pid fields rest pushed hps hfind'
  have h0 := popRest_st (rest := rest) hps
  have hget1 : (s.modStream id fun st => { st with pendingSend := rest }).store.get? id =
      some { s.stream id with pendingSend := rest } := modStream_get?_self s id _ _ hl.stream rfl
  generalize hs1 : (s.modStream id fun st => { st with pendingSend := rest }) = s1 at h0 hev hget1 ⊢
  have h1 : PI E s1 := h.st h0 (liveAll1 hl)
  have hlp := h.npi.ids.findKey hfind'
  have hlp1 : Live s1 pushed := h0.lt.keys.live.mpr hlp.1
  -- the promised stream is neither counted nor in `pending_open`
  have hmem : pid ∈ ppq s id := by unfold ppq; rw [hps, mem_ppIdsOf_cons]; exact List.mem_cons_self ..
  have hfr := h.fi.ppf id pid hmem pushed hfind'
  have hc1 : (s1.stream pushed).isCounted = false := bool_false_of_impP (h0.fk.fl pushed).c hfr.1
  have ho1 : (s1.stream pushed).isPendingOpen = false := bool_false_of_impP (h0.fk.fl pushed).po hfr.2
  -- no queued PUSH_PROMISE announces it any more
  have hr1 : ∀ k' pid', pid' ∈ ppq s1 k' → s1.store.findKey? pid' ≠ some pushed := by
    intro k' pid' hp hf
    have hf' : s.store.findKey? pid' = some pushed := (h0.fk.ids h.npi.ids.nodup).2 pid' pushed hf
    have hpid : pid' = pid := (h.npi.ids.findKey hf').2.symm.trans hlp.2
    subst hpid
    have hk : k' = id := h.fi.ppu.disj k' id pid' ((h0.fk.ppq_sub k').subset hp) hmem
    subst hk
    have hnd := h.fi.ppu.nodup k'
    unfold ppq at hnd hp
    rw [hps, mem_ppIdsOf_cons] at hnd
    rw [stream_of_get? hget1] at hp
    exact (List.nodup_cons.mp hnd).1 hp
  have key : LT [pushed] s1 (ppActivate s1 pushed) ∧ FI (ppActivate s1 pushed) := by
    unfold ppActivate
    dsimp only
    have hget2 := modStream_get?_self s1 pushed (fun st => { st with isPendingPush := false }) _ hlp1.stream rfl
    generalize hs2 : (s1.modStream pushed fun st => { st with isPendingPush := false }) = s2 at hget2 ⊢
    have h12 : LT [pushed] s1 s2 := by rw [← hs2]; exact modStream_lt _ _ _ (fun _ => by inert_tac)
    have hfk2 : FK s1 s2 := by rw [← hs2]; exact modStream_fk _ _ _ (fun _ => by flg_tac)
    have hfi2 : FI s2 := hfk2.fi h1.npi.ids.nodup h1.fi
    have hn2 : (s2.store.ids.map (·.1)).Nodup := (hfk2.ids h1.npi.ids.nodup).1
    have hlp2 : Live s2 pushed := h12.keys.live.mpr hlp1
    have hst2 : s2.stream pushed = { s1.stream pushed with isPendingPush := false } := stream_of_get? hget2
    have hc2 : (s2.stream pushed).isCounted = false := by rw [hst2]; exact hc1
    have ho2 : (s2.stream pushed).isPendingOpen = false := by rw [hst2]; exact ho1
    have hp2 : (s2.stream pushed).isPendingPush = false := by rw [hst2]
    have hr2 : ∀ k' pid', pid' ∈ ppq s2 k' → s2.store.findKey? pid' ≠ some pushed := fun k' pid' hp hf =>
      hr1 k' pid' ((hfk2.ppq_sub k').subset hp) ((hfk2.ids h1.npi.ids.nodup).2 pid' pushed hf)
    split
    · split
      · next hcan =>
        have h3 := incNumSendStreams_lt s2 pushed hcan hc2
        have hfi3 := incNumSendStreams_fi hfi2 hlp2 hcan hc2 hp2 ho2 hr2
        have hn3 : ((s2.incNumSendStreams pushed).store.ids.map (·.1)).Nodup := by
          rw [(incNumSendStreams_raise s2 pushed).ids]; exact hn2
        exact ⟨h12.trans (h3.trans (qPush_lt _ _ _) (fun _ h => h)) (fun _ h => h),
          (qPush_fk _ .pendingSend pushed (by decide)).fi hn3 hfi3⟩
      · refine ⟨h12.trans (queueOpen_lt s2 pushed) (fun _ h => h), ?_⟩
        unfold Streams.queueOpen
        refine (qPush_raise s2 .pendingOpen pushed).fi hfi2 ?_ hr2
        unfold Streams.qPush
        have hq : (s2.stream pushed).isQueued .pendingOpen = false := ho2
        simp only [hq, Bool.false_eq_true, if_false]
        rw [Streams.setQ_stream]
        have hg := modStream_get?_self s2 pushed (fun st => st.setQueued .pendingOpen true) _ hlp2.stream rfl
        rw [stream_of_get? hg]
        refine ⟨fun hp => ?_, fun _ => hc2⟩
        have hp' : (s2.stream pushed).isPendingPush = true := hp
        rw [hp2] at hp'; cases hp'
    · exact ⟨h12, hfi2⟩
  have hlt : LT [id, pushed] s (ppActivate s1 pushed) :=
    (h0.lt.mono (fun k hk => by simp at hk ⊢; omega)).trans key.1 (fun k hk => by simp at hk ⊢; omega)
  have hla : LiveAll s [id, pushed] := fun k hk => by
    simp only [List.mem_cons, or_false, List.not_mem_nil] at hk
    rcases hk with e | e
    · rw [e]; exact hl
    · rw [e]; exact hlp.1
  exact ⟨⟨h.npi.lt hlt.w hla hev noE, hlt.err.errOK h.err, key.2⟩, hlt.keys.live.mpr hl, hev⟩

section
variable {sd : Stream → Nat → Nat → Stream × List String × Bool}

/-- what the bundle contributes between two rounds of `pop_frame`: itself and the send-side ledger invariant -/
abbrev PopI (E : Nat → Prop) (s : Streams) : Prop := PI E s ∧ ConnFlowP.SafeInv s
/-- … and inside a round: also that the popped key is live and how the state evolved since it was popped -/
abbrev PopP (E : Nat → Prop) (id : Nat) (s t : Streams) : Prop :=
  PI E t ∧ ConnFlowP.SafeInv t ∧ Live t id ∧ EvB false s t

theorem pi_popRule {E : Nat → Prop} (hsd : SdNP sd) (maxLen : Nat) :
    PopRule sd maxLen (PopI E) (PopP E) (PopI E) (PopP E) (fun r => PI E r.1) where
  stop s h := h.1
  q s h :=
    ⟨h.1.lt (qPop_ltq s _ (h.1.npi.qs .pendingSend (by decide))) (liveAll0 s) (qPop_ev _ _ (by decide) (by decide))
      (qPop_fk s _), h.2.fr ((ConnFlowP.Fr.refl _).qPop _)⟩
  pop s s' id h h' heq := ⟨h'.1, h'.2, (qPopQ_live (h.1.npi.qs .pendingSend (by decide)) heq).2.1, .refl _⟩
  skip id s h := ⟨h.1, h.2.1⟩
  discard id s sz eos rest h hps _ :=
    ⟨h.1.st (ks := [id]) ⟨by lt_auto, by ev_auto, by fk_auto⟩ (liveAll1 h.2.2.1), by have := h.2.1; safe_auto⟩
  emit id s sz eos rest len c _ e h hps _ _ h1 h2 :=
    have hst := emitC_st hsd h.2.1 hps h1 h2
    PI.finish id c (h.1.st hst (liveAll1 h.2.2.1)) (hst.lt.keys.live.mpr h.2.2.1) hst.ev
  rest id s f rest h hps :=
    have hst := popRest_st (rest := rest) hps
    ⟨h.1.st hst (liveAll1 h.2.2.1), by have := h.2.1; safe_auto, hst.lt.keys.live.mpr h.2.2.1, hst.ev⟩
  pp id s pk pid fields rest pushed h hps hf :=
    have harm := ppArm_pi h.1 h.2.2.1 hps hf
    ⟨harm.1, by have := h.2.1; unfold ppActivate; safe_auto, harm.2.1, harm.2.2⟩
  reset id s reason h hps :=
    have hst : St [id] s (s.modStreamW id fun st => st.setReset reason .library) :=
      ⟨modStreamW_lt _ _ _ (fun _ => by inert_tac), modStreamW_ev' _ _ _ (setReset_same _ _ _),
       modStreamW_fk _ _ _ (fun _ => by flg_tac)⟩
    ⟨h.1.st hst (liveAll1 h.2.2.1), by have := h.2.1; safe_auto, hst.lt.keys.live.mpr h.2.2.1, hst.ev⟩
  fin id s t c _ h :=
    ⟨⟨PI.finish id c h.1 h.2.2.1 h.2.2.2, by have := h.2.1; safe_auto⟩, fun _ _ => PI.finish id c h.1 h.2.2.1 h.2.2.2⟩
  ta id s h hps := ⟨h.1.ta id _ (fun hb => hb), by have := h.2.1; safe_auto⟩
end

/-- **`Prioritize::pop_frame` keeps the bundle** -/
theorem popFrame_pi {E : Nat → Prop} {s : Streams} (h : PI E s) (hs : ConnFlowP.SafeInv s) (fuel maxLen : Nat) :
    PI E (Streams.popFrame fuel s maxLen).1 := by
  rw [ConnWakeP.popFrameC.eq]; exact (pi_popRule sdNP_sendData maxLen).run fuel s ⟨h, hs⟩

/-- **`Prioritize::pop_frame` keeps `NPI`** (hence does not panic), the ledger invariant and the flag facts -/
theorem popFrame_npi {E : Nat → Prop} {s : Streams} (h : NPI E s) (he : ErrOK s) (hs : ConnFlowP.SafeInv s) (hf : FI s)
    (fuel maxLen : Nat) :
    NPI E (Streams.popFrame fuel s maxLen).1 ∧ ErrOK (Streams.popFrame fuel s maxLen).1 ∧
    ConnFlowP.SafeInv (Streams.popFrame fuel s maxLen).1 ∧ FI (Streams.popFrame fuel s maxLen).1 :=
  have r := popFrame_pi ⟨h, he, hf⟩ hs fuel maxLen
  ⟨r.npi, r.err, hs.popFrame fuel maxLen, r.fi⟩

/-- a DATA frame handed out is not longer than `max_len` (so `dst.buffer(frame)` accepts it) -/
theorem popFrame_len_le {s s' : Streams} (hs : ConnFlowP.SafeInv s) {fuel maxLen len : Nat} {eos : Bool} {fr : DataFrame}
    (hp : Streams.popFrame fuel s maxLen = (s', some (.data len eos fr))) : len ≤ maxLen := by
  obtain ⟨_, _, _, h, _⟩ := ConnFlowP.data_frame_bounds hs hp
  exact h

end H2V.Lemmas.ConnNoPanicP
