import H2V.Lemmas.ConnFlowPReach
import H2V.Lemmas.ConnFlowPMoves
import H2V.Lemmas.ConnWakePTear
/-
  C16: the send ledger `Σ stream.available + conn.available = conn.window`.

  ConnFlowP leaves one gap (`C16.capacity_lost_only_by_release_partial`): `transition_after` may release a
  closed, unreferenced stream that still holds capacity.  Here:
    * `a9_reach`, `a_run`: a state that IS reachable in ConnFlowP's `Reach` (the stream-layer API with
      ARBITRARY `Writer` arguments for `poll_complete`) in which 7000 octets of connection capacity are
      gone for good.  The history needs `poll_complete` to be called with three unrelated writers: one
      that takes a DATA chunk and keeps its remainder, a fresh one, and one that "hands back" a remainder
      it never took.  A connection has ONE codec; the real code and the connection model (`Conn`) cannot
      do this.  So the full statement is false for `Reach` and can only be true — and proved — at a level
      where `Streams` and `Writer` are coupled (`Conn`).
    * `release_loses_nothing_of_tight`: what a coupled proof has to supply, as a state predicate:
      `Tight s` = every `Stream::is_closed()` entry holds no capacity.  Under it `transition_after`
      keeps the total EXACTLY, with no exception.
-/
namespace H2V.Lemmas.ConnPartP
open H2V H2V.Model H2V.Model.Conn H2V.Lemmas.ConnFlowP

namespace LedgerCex
/-- client, default builder except `max_concurrent_reset_streams = 0` (only makes the release immediate) -/
def a0 : Streams := (Conn.init { resetMax := 0 }).streams
/-- a request with a body to follow: stream 1, key 0 -/
def a1 : Streams := (a0.sendRequest false [] false none).1
/-- the connection writes the HEADERS -/
def a2 : Streams := (Streams.pollComplete 10 a1 {} {} "c").1
/-- the application reserves 10 000 octets of capacity … -/
def a3 : Streams := a2.refReserveCapacity 0 10000
/-- … and sends 3000 octets of DATA -/
def a4 : Streams := (a3.refSendData 0 3000 false).1
/-- `poll_complete` with a writer whose max frame size is 2000 and a transport that takes nothing: the
    first 2000 octets are in the codec (in flight), 1000 wait to be reclaimed -/
def a5 : Streams := (Streams.pollComplete 10 a4 { maxFrameSize := 2000 } { budget := some 0 } "c").1
/-- all handles dropped: implicit reset CANCEL scheduled; the capacity beyond what is buffered goes back -/
def a6 : Streams := a5.dropStreamRef 0
/-- `poll_complete` with ANOTHER writer (fresh): the in-flight remainder is not handed back; the
    stream's own queue is empty, RST_STREAM goes out -/
def a7 : Streams := (Streams.pollComplete 10 a6 {} {} "c").1
/-- WINDOW_UPDATE(1, 1) from the peer: `try_assign_capacity` tops the stream up to its old request -/
def a8 : Streams := (a7.recvWindowUpdate 1 1).1
/-- `poll_complete` with a third writer that "hands back" a 1000-octet remainder: it is sent (after the
    RST_STREAM), the stream is closed, unreferenced — released, with 7000 octets of capacity -/
def a9 : Streams :=
  (Streams.pollComplete 10 a8 { lastDataFrame := some { key := 0, sid := 1, rest := 1000, eos := false } } {} "c").1

theorem a9_reach : Reach a9 :=
  .pollComplete _ _ _ _ (.recvWindowUpdate 1 1 (by decide) (.pollComplete _ _ _ _ (.dropStreamRef 0
    (.pollComplete _ _ _ _ (.refSendData 0 3000 false (.refReserveCapacity 0 10000 (.pollComplete _ _ _ _
      (.sendRequest false [] false none (.init ⟨rfl, rfl⟩)))))))))

/-- the history, evaluated once.  The intermediate states: the chunk in the codec
    (`in_flight_data_frame = DataFrame(0)`, 1000 octets still counted as buffered); after the drop 1000
    octets of capacity are kept for them; after the foreign `poll_complete` the stream is
    `Reset(CANCEL, Library)` with 1000 octets "buffered" and the marker still set; the WINDOW_UPDATE raises its
    capacity to 8000.  The end: the store is empty, no `assert!` has fired, and
    `Σ available + conn.available = 55 535` although the connection window is `62 535` -/
theorem a_run :
    (a5.prio.inFlightDataFrame = .dataFrame 0 ∧ (a5.stream 0).bufferedSendData = 1000 ∧ (a5.stream 0).pendingSend = [] ∧
     (a6.stream 0).sendFlow.available.val = 1000 ∧ (a6.stream 0).requestedSendCapacity = 8000 ∧
     (a7.stream 0).state = { inner := .closed (.error (.reset 1 8 .library)) } ∧ (a7.stream 0).bufferedSendData = 1000 ∧
     a7.prio.inFlightDataFrame = .dataFrame 0 ∧
     (a8.stream 0).sendFlow.available.val = 8000) ∧
    (a9.store.slab = [] ∧ a9.panicked = none ∧ total a9 = 55535 ∧ a9.prio.flow.windowSize.val = 62535) := by
  decide +kernel
end LedgerCex

def Tight (s : Streams) : Prop := ∀ x ∈ s.store.slab, x.isClosed = true → x.sendFlow.available.val = 0

section
open H2V.Lemmas.ConnWakeP

/-- `transition_after` in front of the `is_released` test (its first two stages): the reset slot given back, the id
    unlinked, the concurrency slot given back — `state`, `pending_send`, `buffered_send_data` of every entry stay -/
theorem taMid_frame (t : Streams) (id : Nat) (b : Bool) :
    GStep True Frame t ((t.taResetCount id b).taClose (t.stream id) id) := by
  have h1 : GStep True Frame t (t.taResetCount id b) := .of_step_fs (Streams.taResetCount_step (by decide) t id b)
  generalize t.taResetCount id b = s at h1 ⊢
  unfold Streams.taClose
  split
  · have h2 : GStep True Frame t (if (!(t.stream id).isPendingResetExpiration) = true
        then { s with store := s.store.unlink (t.stream id).id } else s) := by
      split
      · exact g_unlink trivial _ h1
      · exact h1
    dsimp only
    split
    · exact h2.trans (.of_step_fs (.decNumStreams _ id))
    · exact h2
  · exact h1

theorem released_was_closed (t : Streams) (id : Nat) (b : Bool)
    (hrel : (((t.taResetCount id b).taClose (t.stream id) id).stream id).isReleased = true) :
    ∃ a, t.store.get? id = some a ∧ a.isClosed = true := by
  have fr := taMid_frame t id b
  generalize (t.taResetCount id b).taClose (t.stream id) id = m at hrel fr
  have hcl : (m.stream id).isClosed = true := by
    unfold Stream.isReleased at hrel
    simp only [Bool.and_eq_true] at hrel
    exact hrel.1.1.1.1.1.1.1
  cases ha : t.store.get? id with
  | none =>
    have := fr.fresh id ha
    simp [Streams.stream, this, Stream.isClosed, State.isClosed] at hcl
  | some a =>
    refine ⟨a, rfl, ?_⟩
    rcases fr.keep id a ha with ⟨_, hn⟩ | ⟨c, hc, hac⟩
    · simp [Streams.stream, hn, Stream.isClosed, State.isClosed] at hcl
    · rw [stream_eq_of_get? hc] at hcl
      unfold Stream.isClosed at hcl ⊢
      rw [← hac.state, ← hac.buffered, ← hac.pendingSend]; exact hcl
end

/-- under `Tight`, `transition_after` keeps `Σ available + conn.available` exactly — whatever it
    unlinks or releases -/
theorem release_loses_nothing_of_tight {t : Streams} (hk : KeysOk t.store) (ht : Tight t) (id : Nat) (b : Bool) :
    total (t.transitionAfter id b) = total t := by
  by_cases hrel : (((t.taResetCount id b).taClose (t.stream id) id).stream id).isReleased = true
  · obtain ⟨a, ha, hcl⟩ := released_was_closed t id b hrel
    rcases transitionAfter_total hk id b with h | ⟨st, -, -, -, ⟨x, hx, hxk, hfl⟩, h⟩
    · exact h
    · -- keys are unique: `x` is the entry `a`
      have hax : x = a := by
        have := Store.get?_of_mem hk.1 hx
        rw [hxk, ha] at this; exact (Option.some.inj this).symm
      subst hax
      have h0 := ht x hx hcl
      rw [h, ← hfl, h0]; omega
  · -- nothing is removed: keys, flows and the queues of `Prioritize` are as before
    obtain ⟨t1, hx, hc⟩ := transitionAfter_cases t id b
    rcases hc with hc | ⟨-, -, -, -, -, -⟩
    · rw [hc]; exact hx.total hk
    · -- (the release branch of `transitionAfter_cases` cannot be the one taken here: decide by the model's text)
      rw [Streams.transitionAfter_eq, Streams.taRelease, if_neg hrel]
      have hx' : XFr t ((t.taResetCount id b).taClose (t.stream id) id) := by
        unfold Streams.taResetCount Streams.taClose; xfr_auto
      exact hx'.total hk

/-- the codec holds a DATA frame whose remainder has not been reclaimed (`Next::Data` or `last_data_frame`) -/
def Holds (w : Writer) : Prop := w.lastDataFrame.isSome = true ∨ w.next.isSome = true

/-- `in_flight_data_frame` is set only while the codec holds the frame -/
def MarkerCoupled (s : Streams) (w : Writer) : Prop := s.prio.inFlightDataFrame ≠ .nothing → Holds w

/-- **`pop_frame` never sees an outstanding remainder when stream layer and codec are coupled**: after
    `reclaim_frame(dst)` — which `poll_complete` runs before every `pop_frame` — a codec that `has_capacity()`
    (the condition under which `pop_frame` is called at all) means `in_flight_data_frame = Nothing`.  Steps
    `a7` and `a9` of the counterexample are exactly a `poll_complete` whose writer violates `MarkerCoupled`. -/
theorem reclaimFrame_then_capacity (s : Streams) (w : Writer) (hc : MarkerCoupled s w) :
    MarkerCoupled (s.reclaimFrame w).1 (s.reclaimFrame w).2.1 ∧
    ((s.reclaimFrame w).2.1.hasCapacity = true → (s.reclaimFrame w).1.prio.inFlightDataFrame = .nothing) := by
  unfold Streams.reclaimFrame Writer.takeLastDataFrame
  cases hl : w.lastDataFrame with
  | some fr =>
    simp only
    have hm : (s.reclaimFrameInner fr).1.prio.inFlightDataFrame = .nothing := by
      unfold Streams.reclaimFrameInner
      simp only
      have hq : ∀ (t : Streams) (k : Nat), (t.qPush .pendingSend k).1.prio.inFlightDataFrame = t.prio.inFlightDataFrame := by
        intro t k
        unfold Streams.qPush
        split
        · rfl
        · show ((t.modStream k _).setQ .pendingSend _).prio.inFlightDataFrame = _
          rw [← Streams.modStream_prio t k fun st => st.setQueued .pendingSend true]; rfl
      (repeat' split) <;> first | rfl | (rw [Streams.panic_prio]; rfl) | (rw [hq, Streams.modStream_prio]; rfl) |
        (rw [Streams.modStream_prio]; rfl)
    exact ⟨fun h => absurd hm h, fun _ => hm⟩
  | none =>
    simp only
    refine ⟨fun h => ?_, fun hcap => ?_⟩
    · rcases hc h with h' | h'
      · rw [hl] at h'; cases h'
      · exact Or.inr h'
    · cases hm : s.prio.inFlightDataFrame with
      | nothing => rfl
      | dataFrame k =>
        exfalso
        rcases hc (by rw [hm]; intro h; cases h) with h' | h'
        · rw [hl] at h'; cases h'
        · unfold Writer.hasCapacity at hcap
          simp only [Bool.and_eq_true] at hcap
          cases hn : w.next with
          | none => rw [hn] at h'; cases h'
          | some nd => rw [hn] at hcap; simp at hcap
      | drop =>
        exfalso
        rcases hc (by rw [hm]; intro h; cases h) with h' | h'
        · rw [hl] at h'; cases h'
        · unfold Writer.hasCapacity at hcap
          simp only [Bool.and_eq_true] at hcap
          cases hn : w.next with
          | none => rw [hn] at h'; cases h'
          | some nd => rw [hn] at hcap; simp at hcap

theorem bufferData_holds (w : Writer) (len : Nat) (flagEos : Bool) (fr : DataFrame) (hlen : len ≤ w.maxFrameSize) :
    ∃ w', w.bufferData len flagEos fr = some w' ∧ Holds w' := by
  unfold Writer.bufferData
  simp only [show ¬ len > w.maxFrameSize from by omega, if_false]
  split
  · split
    · exact ⟨_, rfl, Or.inr rfl⟩
    · exact ⟨_, rfl, Or.inr rfl⟩
  · exact ⟨_, rfl, Or.inl rfl⟩

/-- `dst.buffer(DATA)` sets the marker and hands the frame to the codec together -/
theorem bufferOut_data_coupled (s : Streams) (w : Writer) (len : Nat) (flagEos : Bool) (fr : DataFrame)
    (hlen : len ≤ w.maxFrameSize) :
    MarkerCoupled (s.bufferOut w (.data len flagEos fr)).1 (s.bufferOut w (.data len flagEos fr)).2 := by
  intro _
  obtain ⟨w', hw, hh⟩ := bufferData_holds w len flagEos fr hlen
  unfold Streams.bufferOut
  simp only [hw]
  exact hh

end H2V.Lemmas.ConnPartP
