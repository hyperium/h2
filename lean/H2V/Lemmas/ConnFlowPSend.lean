import H2V.Lemmas.ConnFlowPAssign
import H2V.Lemmas.ConnPopRule
/-
  ConnFlowP — the arithmetic of the flow-changing steps of `prioritize.rs` / `send.rs`: a window grows (WINDOW_UPDATE on
  a stream, on the connection), the DATA arm of `pop_frame` charges stream and connection (`ConnWakeP.pfData`); what
  `pop_frame` keeps (`popFrameC_keeps`, an instance of the shared rule of `ConnPopRule`).
-/
namespace H2V.Lemmas.ConnFlowP
open H2V H2V.Model H2V.Model.Conn H2V.Lemmas.Comp
open H2V.Lemmas.ConnWakeP (sendDataC sendDataC_def popFrameC pfData)

theorem SafeInvG.weaken {g : Int} {s : Streams} (h : SafeInvG g s) : SafeInv s :=
  ⟨Int.le_refl _, h.keys, h.st, h.a0, h.whi, by have := h.ledger; have := h.g0; omega⟩

@[simp] theorem store_wake (s : Streams) (w : List String) : (s.wake w).store = s.store := rfl
@[simp] theorem store_setStream (s : Streams) (x : Stream) : (s.setStream x).store = s.store.set x := rfl
@[simp] theorem prio_wake (s : Streams) (w : List String) : (s.wake w).prio = s.prio := rfl
@[simp] theorem prio_setStream (s : Streams) (x : Stream) : (s.setStream x).prio = s.prio := rfl
attribute [simp] panic_store panic_prio modStream_prio modStreamW_prio Streams.modPrio_store Streams.modPrio_prio

/-- a stream window grows (`inc < 2^31`: the wire format has 31 bits) -/
theorem incWindow_step {s : Streams} (h : SafeInv s) (id inc : Nat) (hinc : inc ≤ 2147483647) {fl : FlowControl}
    (he : (s.stream id).sendFlow.incWindow inc = (fl, .ok ())) :
    SafeInv (s.modStream id fun st => { st with sendFlow := fl }) := by
  cases hget : s.store.get? id with
  | none => rw [Streams.modStream_of_none hget]; exact h.fr ((Fr.refl _).panic _)
  | some st =>
    have hm := get?_mem hget
    rw [Streams.stream_of_get? hget] at he
    have hok := h.st st hm.1
    have hu := Upd.modStream hget (fun st => { st with sendFlow := fl }) rfl
    have hi := incWindow_ok he
    rw [Flow.incWindow_eq, u32AsI32_small hinc] at he
    split at he
    · rename_i hc
      simp only [Prod.mk.injEq, and_true] at he
      subst he
      have h0 := hok.av0; have hw := hok.avw; have hlo := hok.wlo; have hhi := hok.whi
      have hc1 := (inI32_iff _).1 hc.1
      refine h.upd hu (Int.le_refl _) ⟨h0, ?_, ?_, ?_⟩ ?_ ?_ ?_
      · intro hp; have := hw hp; simp only; omega
      · simp only; omega32
      · simp only; omega32
      · rw [modStream_prio]; exact h.a0
      · rw [modStream_prio]; exact h.whi
      · rw [modStream_prio]; simp only; omega
    · simp at he

/-- the connection window grows: the increment is pending credit until `assign_connection_capacity` hands it on -/
theorem incConn_step {s : Streams} (h : SafeInv s) (inc : Nat) (hinc : inc ≤ 2147483647) {fl : FlowControl}
    (he : s.prio.flow.incWindow inc = (fl, .ok ())) : SafeInvG inc (s.modPrio fun p => { p with flow := fl }) := by
  rw [Flow.incWindow_eq, u32AsI32_small hinc] at he
  split at he
  · rename_i hc
    simp only [Prod.mk.injEq, and_true] at he
    subst he
    have hc2 := hc.2
    have hM : (Generated.Consts.MAX_WINDOW_SIZE : Int) = 2147483647 := by decide
    refine h.conn rfl (Int.natCast_nonneg _) h.a0 ?_ ?_
    · show s.prio.flow.windowSize.val + (inc : Int) ≤ I32_MAX; omega32
    · show s.prio.flow.available.val - s.prio.flow.available.val + ((inc : Int) - 0) ≤
        s.prio.flow.windowSize.val + (inc : Int) - s.prio.flow.windowSize.val
      omega
  · simp at he

theorem sendDataC_kf (capf : Stream → Nat → Nat) (x : Stream) (len m : Nat) :
    (sendDataC capf x len m).1.key = x.key ∧ (sendDataC capf x len m).1.sendFlow = (x.sendFlow.sendData len).1 := by
  rw [sendDataC_def]; dsimp only; split
  · exact ⟨(notifyCapacity_kf _).1, (notifyCapacity_kf _).2⟩
  · exact ⟨rfl, rfl⟩

theorem sendData_kf (x : Stream) (len m : Nat) :
    (x.sendData len m).1.key = x.key ∧ (x.sendData len m).1.sendFlow = (x.sendFlow.sendData len).1 := by
  rw [ConnWakeP.sendDataC.eq]; exact sendDataC_kf _ x len m

theorem flOk_send {f : FlowControl} (hf : FlOk f) {n : Nat} (h1 : n ≤ f.available.asSize)
    (h2 : n = 0 ∨ n ≤ f.windowSz) :
    FlOk (f.sendData n).1 ∧ (f.sendData n).1.available.val = f.available.val - n ∧
      (f.sendData n).1.windowSize.val = f.windowSize.val - n ∧ (f.sendData n).2 = .ok () := by
  by_cases hn : n = 0
  · subst hn; rw [sendData_zero]; exact ⟨hf, by simp, by simp, rfl⟩
  · have h2' : n ≤ f.windowSz := by rcases h2 with h | h; exact absurd h hn; exact h
    have hle := hf.asSize_le
    have hlt := hf.windowSz_lt
    have h0 := hf.av0; have hw := hf.avw; have hlo := hf.wlo; have hhi := hf.whi
    unfold FlowControl.windowSz at *
    rw [asSize_eq] at h1 h2' hle hlt
    rw [asSize_eq] at hle
    have hs : u32AsI32 n = (n : Int) := u32AsI32_small (by omega)
    rw [Flow.sendData_eq, hs]
    simp only [hn, if_false]
    have hnl : ¬ f.windowSize.val < (n : Int) := by omega
    have hi1 : inI32 (f.windowSize.val - (n : Int)) = true := (inI32_iff _).2 (by omega32)
    have hi2 : inI32 (f.available.val - (n : Int)) = true := (inI32_iff _).2 (by omega32)
    rw [if_neg hnl, if_pos hi1, if_pos hi2]
    refine ⟨⟨?_, ?_, ?_, ?_⟩, rfl, rfl, rfl⟩ <;> simp only <;> omega32

theorem conn_send {f : FlowControl} (h0 : 0 ≤ f.available.val) {n : Nat}
    (hn : f.available.val + n ≤ f.windowSize.val) (hW : f.windowSize.val ≤ I32_MAX) :
    ((f.assignCapacity n).1.sendData n).1.available.val = f.available.val ∧
    ((f.assignCapacity n).1.sendData n).1.windowSize.val = f.windowSize.val - n ∧
    ((f.assignCapacity n).1.sendData n).2 = .ok () := by
  have hc := conn_assign (f := f) h0 (n := n) (by omega)
  by_cases hz : n = 0
  · subst hz; rw [sendData_zero]; exact ⟨by rw [hc.1]; simp, by rw [hc.2]; simp, rfl⟩
  · have hs : u32AsI32 n = (n : Int) := u32AsI32_small (by omega32)
    rw [Flow.sendData_eq, hs, hc.1, hc.2]
    simp only [hz, if_false]
    have hnl : ¬ f.windowSize.val < (n : Int) := by omega
    have hi1 : inI32 (f.windowSize.val - (n : Int)) = true := (inI32_iff _).2 (by omega32)
    have hi2 : inI32 (f.available.val + (n : Int) - (n : Int)) = true := (inI32_iff _).2 (by omega32)
    rw [if_neg hnl, if_pos hi1, if_pos hi2]
    exact ⟨by simp only; omega, rfl, rfl⟩

theorem set_of_none {a : Store} {x : Stream} (h : a.get? x.key = none) : (a.set x).slab = a.slab := by
  unfold Store.get? at h
  unfold Store.set
  simp only
  have := List.find?_eq_none.1 h
  conv => rhs; rw [← List.map_id' a.slab]
  apply List.map_congr_left
  intro y hy
  have := this y hy
  simp only [this, Bool.false_eq_true, if_false]

/-- whatever state ends up holding the charged stream and the charged connection flow is safe -/
theorem emit_safe {s1 : Streams} (h : SafeInv s1) (id len : Nat)
    (hlen1 : len ≤ (s1.stream id).sendFlow.available.asSize)
    (hlen2 : len = 0 ∨ len ≤ (s1.stream id).sendFlow.windowSz)
    (st' : Stream) (hk : st'.key = (s1.stream id).key)
    (hfl : st'.sendFlow = ((s1.stream id).sendFlow.sendData len).1)
    (S5 : Streams) (hstore : S5.store = s1.store.set st')
    (hflow : S5.prio.flow = ((s1.prio.flow.assignCapacity len).1.sendData len).1) : SafeInv S5 := by
  cases hget : s1.store.get? id with
  | none =>
    have hb : s1.stream id = { key := id, id := 0 } := by unfold Streams.stream; rw [hget]; rfl
    have hl0 : len = 0 := by
      rw [hb] at hlen1
      have : ({ key := id, id := 0 } : Stream).sendFlow.available.asSize = 0 := rfl
      omega
    subst hl0
    have hk' : st'.key = id := by rw [hk, hb]
    have hslab : S5.store.slab = s1.store.slab := by rw [hstore]; exact set_of_none (by rw [hk']; exact hget)
    have hnext : S5.store.nextKey = s1.store.nextKey := by rw [hstore]; rfl
    have hc := conn_assign (f := s1.prio.flow) h.a0 (n := 0) (by have := h.whi; have := h.av_le; omega32)
    have hfl' : S5.prio.flow.available.val = s1.prio.flow.available.val ∧
        S5.prio.flow.windowSize.val = s1.prio.flow.windowSize.val := by
      rw [hflow, sendData_zero]; exact ⟨by rw [hc.1]; simp, by rw [hc.2]⟩
    refine ⟨Int.le_refl _, ⟨by rw [hslab]; exact h.keys.1, by rw [hslab, hnext]; exact h.keys.2⟩,
      by rw [hslab]; exact h.st, by rw [hfl'.1]; exact h.a0, by rw [hfl'.2]; exact h.whi, ?_⟩
    rw [hslab, hfl'.1, hfl'.2]; exact h.ledger
  | some st =>
    have hm := get?_mem hget
    rw [Streams.stream_of_get? hget] at hlen1 hlen2 hk hfl
    have hok := h.st st hm.1
    have hs := flOk_send hok hlen1 hlen2
    have hle := h.st_le hm.1
    have hl : (len : Int) ≤ st.sendFlow.available.val := by
      rw [asSize_eq] at hlen1; have := hok.av0; omega
    have hc := conn_send (f := s1.prio.flow) h.a0 (n := len) (by omega) h.whi
    have hu : Upd s1 S5 id st st' := ⟨hget, hk.trans hm.2, by rw [hstore], by rw [hstore]; rfl⟩
    refine h.upd hu (Int.le_refl _) (by rw [hfl]; exact hs.1) ?_ ?_ ?_
    · rw [hflow, hc.1]; exact h.a0
    · rw [hflow, hc.2.1]; have := h.whi; omega
    · rw [hflow, hc.1, hc.2.1, hfl, hs.2.1]; omega

/-- a function that behaves like `Stream::send_data` on key and send flow -/
def SdOk (sd : Stream → Nat → Nat → Stream × List String × Bool) : Prop :=
  ∀ x len m, (sd x len m).1.key = x.key ∧ (sd x len m).1.sendFlow = (x.sendFlow.sendData len).1

theorem pfData_store (sd : Stream → Nat → Nat → Stream × List String × Bool) (s : Streams) (id len : Nat)
    (rest : List SFrame) :
    (pfData sd s id len rest).store =
      (s.modStream id fun st => { st with pendingSend := rest }).store.set
        (sd ((s.modStream id fun st => { st with pendingSend := rest }).stream id) len
          (s.modStream id fun st => { st with pendingSend := rest }).prio.maxBufferSize).1 := by
  unfold ConnWakeP.pfData; dsimp only
  split <;> split <;> simp only [Streams.modPrio_store, store_wake, store_setStream, panic_store]

theorem pfData_flow (sd : Stream → Nat → Nat → Stream × List String × Bool) (s : Streams) (id len : Nat)
    (rest : List SFrame) :
    (pfData sd s id len rest).prio.flow = ((s.prio.flow.assignCapacity len).1.sendData len).1 := by
  unfold ConnWakeP.pfData; dsimp only
  split <;> split <;>
    simp only [Streams.modPrio_prio, prio_wake, prio_setStream, panic_prio, modStream_prio]

/-- the DATA arm of `pop_frame` (`ConnWakeP.pfData`: the stream is charged by `Stream::send_data`, then the
    connection by `assign_capacity` + `send_data`) for a chunk the stream has capacity and window for -/
theorem SafeInv.pfData {sd : Stream → Nat → Nat → Stream × List String × Bool} (hsd : SdOk sd) {s : Streams}
    (h : SafeInv s) (id len : Nat) (rest : List SFrame)
    (h1 : len ≤ (s.stream id).sendFlow.available.asSize)
    (h2 : len = 0 ∨ len ≤ (s.stream id).sendFlow.windowSz) : SafeInv (pfData sd s id len rest) := by
  have e := stream_modStream_flow (s := s) id id (fun st : Stream => { st with pendingSend := rest }) (fun _ => ⟨rfl, rfl⟩)
  have hs1 : SafeInv (s.modStream id fun st => { st with pendingSend := rest }) :=
    h.fr ((Fr.refl _).modStream _ _ (fun _ => ⟨rfl, rfl⟩))
  have hk := hsd ((s.modStream id fun st => { st with pendingSend := rest }).stream id) len
    (s.modStream id fun st => { st with pendingSend := rest }).prio.maxBufferSize
  refine emit_safe hs1 id len (by rw [e]; exact h1) (by rw [e]; exact h2) _ hk.1 hk.2 _ (pfData_store sd s id len rest) ?_
  rw [pfData_flow, modStream_prio]

theorem sendDataC_req (capf : Stream → Nat → Nat) (x : Stream) (len m : Nat) :
    (sendDataC capf x len m).1.requestedSendCapacity < 4294967296 := by
  rw [sendDataC_def]; dsimp only; split
  · rw [notifyCapacity_req]; exact wrapSubU32_lt _ _
  · exact wrapSubU32_lt _ _

theorem sendData_req (x : Stream) (len m : Nat) : (x.sendData len m).1.requestedSendCapacity < 4294967296 := by
  rw [ConnWakeP.sendDataC.eq]; exact sendDataC_req _ x len m

theorem ReqOk.pfData {sd : Stream → Nat → Nat → Stream × List String × Bool}
    (hsd : ∀ x len m, (sd x len m).1.requestedSendCapacity < 4294967296) {t : Streams} (h : ReqOk t) (id len : Nat)
    (rest : List SFrame) : ReqOk (pfData sd t id len rest) := by
  refine ReqOk.same (s := (t.modStream id fun st => { st with pendingSend := rest }).setStream
    (sd ((t.modStream id fun st => { st with pendingSend := rest }).stream id) len
      (t.modStream id fun st => { st with pendingSend := rest }).prio.maxBufferSize).1) ?_ ?_
  · refine ReqOk.setStream ?_ (hsd _ _ _)
    exact h.modStream _ _ (fun _ => rfl)
  · rw [pfData_store]; rfl

theorem pfData_pc (sd : Stream → Nat → Nat → Stream × List String × Bool) (s : Streams) (id len : Nat)
    (rest : List SFrame) :
    (pfData sd s id len rest).prio.pendingCapacity = s.prio.pendingCapacity := by
  unfold ConnWakeP.pfData; dsimp only
  split <;> split <;>
    simp only [Streams.modPrio_prio, prio_wake, prio_setStream, panic_prio, modStream_prio]

theorem emit_avail {s : Streams} (h : SafeInv s) (id len : Nat)
    (h1 : len ≤ (s.stream id).sendFlow.available.asSize) :
    ((s.prio.flow.assignCapacity len).1.sendData len).1.available.val = s.prio.flow.available.val := by
  cases hget : s.store.get? id with
  | none =>
    have hb : s.stream id = { key := id, id := 0 } := by unfold Streams.stream; rw [hget]; rfl
    have hl0 : len = 0 := by
      rw [hb] at h1
      have : ({ key := id, id := 0 } : Stream).sendFlow.available.asSize = 0 := rfl
      omega
    subst hl0
    have := h.av_le
    exact (conn_send (f := s.prio.flow) h.a0 (n := 0) (by omega) h.whi).1
  | some st =>
    have hm := get?_mem hget
    rw [Streams.stream_of_get? hget] at h1
    have hok := h.st st hm.1
    have hle := h.st_le hm.1
    have hl : (len : Int) ≤ st.sendFlow.available.val := by
      rw [asSize_eq] at h1; have := hok.av0; omega
    exact (conn_send (f := s.prio.flow) h.a0 (n := len) (by omega) h.whi).1

/-- `pop_frame` keeps what every strong frame step, `reclaim_all_capacity` and the charge of a fitting chunk keep -/
theorem popFrameC_keeps {sd : Stream → Nat → Nat → Stream × List String × Bool} {I : Streams → Prop}
    (hsfr : ∀ {s t : Streams}, SFr s t → I s → I t) (hrec : ∀ s k, I s → I (s.reclaimAllCapacity k))
    (hemit : ∀ s k len rest, I s → len ≤ (s.stream k).sendFlow.available.asSize →
      (len = 0 ∨ len ≤ (s.stream k).sendFlow.windowSz) → I (pfData sd s k len rest))
    (fuel maxLen : Nat) (s : Streams) (h : I s) : I (popFrameC sd fuel s maxLen).1 :=
  (inv_popRule (maxLen := maxLen) (fun s => hsfr (.of_step (.qPop s _ rfl))) (fun s k => hsfr (.of_step (.qPush s _ k rfl)))
    (fun s k b => hsfr (transitionAfter_sfr s k b))
    (fun s k hs => hrec _ k (hsfr (.of_step (Streams.clearQueue_step (by decide) s k)) hs))
    hemit (fun s k rest => hsfr (SFr.modStream_at rfl rfl (Or.inl rfl) (SFr.refl s)))
    (fun s k => hsfr (.of_step (Streams.ppActivate_step (by decide) s k)))
    (fun s k r => hsfr (SFr.modStreamW_at (setReset_kf _ r _).1 (setReset_kf _ r _).2 (Or.inl (setReset_req _ r _)) (SFr.refl s)))).run
    fuel s h

theorem sdOk_sendData : SdOk Stream.sendData := sendData_kf

end H2V.Lemmas.ConnFlowP
