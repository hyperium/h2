import H2V.Lemmas.ConnCtlPGoAwaySent
import H2V.Lemmas.ConnCtlPViewFrames
import H2V.Lemmas.ConnCtlPSettings
import H2V.Lemmas.ConnLoops
/-
  ConnCtlP — C15: `Connection::poll` keeps the GOAWAY invariant, and the GOAWAY frames it
  hands to the codec carry non-increasing last-stream-ids (`SentOK`).  The only frame that moves
  `last_processed_id` is HEADERS, which `recv_headers` accepts only at or below `max_stream_id`, and
  `poll2` reads frames only while `close_now` is unset — when `max_stream_id` is what was announced.
-/
set_option autoImplicit false
set_option linter.unusedSimpArgs false
namespace H2V.Lemmas.ConnCtlP
open H2V H2V.Model H2V.Model.Conn

/-- a step that leaves `goAway`, `last_processed_id` and `max_stream_id` alone -/
def Keep15 (c c' : Conn) : Prop :=
  c'.goAway = c.goAway ∧ (view c'.streams).lpi = (view c.streams).lpi ∧ (view c'.streams).rmax = (view c.streams).rmax ∧
  ((view c.streams).connErr.isSome = true → (view c'.streams).connErr.isSome = true)

theorem Keep15.refl (c : Conn) : Keep15 c c := ⟨rfl, rfl, rfl, id⟩
theorem Keep15.trans {a b c : Conn} (h1 : Keep15 a b) (h2 : Keep15 b c) : Keep15 a c :=
  ⟨h2.1.trans h1.1, h2.2.1.trans h1.2.1, h2.2.2.1.trans h1.2.2.1, fun h => h2.2.2.2 (h1.2.2.2 h)⟩
theorem Keep15.of_view {c c' : Conn} (hg : c'.goAway = c.goAway) (hv : view c'.streams = view c.streams) : Keep15 c c' :=
  ⟨hg, by rw [hv], by rw [hv], by rw [hv]; exact id⟩

theorem Keep15.of_step {c c' : Conn} (hg : c'.goAway = c.goAway) (h : Streams.Step kindsNoIds c.streams c'.streams) :
    Keep15 c c' := ⟨hg, ids_of_step h⟩

theorem Keep15.inv {c c' : Conn} (h : Keep15 c c') (hi : GoAwayInv c) : GoAwayInv c' :=
  hi.keep (by rw [h.1]) (by rw [h.1]) (by rw [h.1]; exact fun _ => id) h.2.2.1 (.inl (Nat.le_of_eq h.2.1))
/-- what a step of `poll` must satisfy: invariant kept, announced id monotone -/
def Step15 (c c' : Conn) : Prop := GoAwayInv c' ∧ GaLe c c'

theorem Keep15.step {c c' : Conn} (h : Keep15 c c') (hi : GoAwayInv c) : Step15 c c' :=
  ⟨h.inv hi, fun m hm => ⟨m, by unfold gaLast at *; rw [h.1]; exact hm, Nat.le_refl _⟩, h.2.2.2⟩

theorem Step15.trans {a b c : Conn} (h1 : Step15 a b) (h2 : GoAwayInv b → Step15 b c) : Step15 a c :=
  ⟨(h2 h1.1).1, h1.2.trans (h2 h1.1).2⟩

/-- the two writers of `goAway`.  `go_away(id, e)` at a call site where `last_processed_id ≤ id ≤ max_stream_id` and `id` is not
    above the announced id … -/
theorem dynGoAway_step15 (c : Conn) (id : Nat) (e : Reason) (h1 : (view c.streams).lpi ≤ id) (h2 : id ≤ (view c.streams).rmax)
    (h3 : ∀ m, gaLast c = some m → id ≤ m) : Step15 c (c.dynGoAway id e) := by
  obtain ⟨d1, d2, -, d4, -, -⟩ := dynGoAway_inv c id e h1 h2 fun ga hga => h3 _ (by unfold gaLast; rw [hga]; rfl)
  obtain ⟨-, dv, -, -, -⟩ := recvGoAway_ok c.streams id h2
  refine ⟨d1, fun m hm => ⟨id, by unfold gaLast; rw [d4]; rfl, h3 m hm⟩, fun hs => ?_⟩
  rw [d2, dv]; exact hs

/-- … and `go_away_now(last_processed_id, e, d)`, the ids of the streams being left alone -/
theorem Step15.of_goAwayNow {c c' : Conn} (hi : GoAwayInv c) (e : Reason) (d : Bytes) (isUser : Bool)
    (hg : c'.goAway = (({ c.goAway with isUserInitiated := isUser } : GoAway).goAwayNow
      { lastStreamId := c.streams.recv.lastProcessedId, reason := e, debugData := d }).1)
    (hs : (view c'.streams).lpi = (view c.streams).lpi ∧ (view c'.streams).rmax = (view c.streams).rmax ∧
      ((view c.streams).connErr.isSome = true → (view c'.streams).connErr.isSome = true)) : Step15 c c' :=
  ⟨hi.goAwayNow e d isUser hg hs.1 hs.2.1,
    fun m hm => ⟨c.streams.recv.lastProcessedId,
      by unfold gaLast; rw [hg, (goAwayNow_result c e d isUser).2.1]; rfl, hi.lpi_le_gaLast hm⟩, hs.2.2⟩

theorem ackAndApply_keep (c : Conn) (v : List (Nat × Nat)) : Keep15 c (ackAndApply c v).1 := by
  refine .of_step ?_ (by rw [(ackAndApply_spec c v).2.1]; exact Streams.applyRemoteSettings_step (by decide) ..)
  unfold ackAndApply
  dsimp only
  split <;> rfl

theorem settingsPollSendT_keep (c : Conn) :
    Keep15 c (settingsPollSendT c).1.1 ∧ sentG (settingsPollSendT c).2 = [] := by
  have hloc : ∀ c : Conn, Keep15 c (settingsLocalSendT c).1.1 ∧ sentG (settingsLocalSendT c).2 = [] := by
    intro c
    obtain ⟨k, l, h⟩ := settingsLocalSendT_frame c
    refine ⟨by rw [h]; exact Keep15.of_view rfl rfl, ?_⟩
    unfold settingsLocalSendT
    (repeat' split) <;> rfl
  have hrem : Keep15 c (settingsRemotePartT c).1.1 ∧ sentG (settingsRemotePartT c).2 = [] := by
    unfold settingsRemotePartT
    cases hr : c.settings.remote with
    | none => exact ⟨Keep15.refl c, rfl⟩
    | some v =>
      dsimp only
      rcases h : c.codecPollReady with ⟨c1, st⟩
      obtain ⟨-, -, h3, h4, -, -⟩ := codecPollReady_eq c c1 st h
      have k1 : Keep15 c c1 := Keep15.of_view h3 (by rw [h4])
      cases st with
      | pending => exact ⟨k1, rfl⟩
      | err e => exact ⟨k1, rfl⟩
      | ok => exact ⟨k1.trans (ackAndApply_keep c1 v), rfl⟩
  unfold settingsPollSendT
  rcases hR : settingsRemotePartT c with ⟨⟨c1, st⟩, e1⟩
  rw [hR] at hrem
  cases st with
  | ok =>
    dsimp only
    unfold settingsLocalPartT
    obtain ⟨l1, l2⟩ := hloc { c1 with settings := { c1.settings with remote := none } }
    exact ⟨(hrem.1.trans (Keep15.of_view rfl rfl)).trans l1, by simp [hrem.2, l2]⟩
  | pending => exact hrem
  | err e => exact hrem

/-- `poll_ready` writes neither `goAway` nor `last_processed_id` / `max_stream_id`, and sends no GOAWAY -/
theorem keepReady : ReadyRule (fun _ => True) (fun c evs c' => Keep15 c c' ∧ sentG evs = []) (fun _ _ _ => False)
    (fun _ => True) (fun _ => True) (fun _ => True) where
  trans h1 h2 := ⟨h1.1.trans h2.1, by simp [h1.2, h2.2]⟩
  transF _ h := h
  pong c _ _ := by
    obtain ⟨k, p, h⟩ := sendPendingPongT_frame c
    refine ⟨trivial, ⟨by rw [h]; exact Keep15.of_view rfl rfl, ?_⟩, fun _ => trivial⟩
    unfold sendPendingPongT
    (repeat' split) <;> rfl
  ping c _ _ := by
    obtain ⟨k, p, u, h⟩ := sendPendingPing_frame c
    rw [h]
    exact ⟨trivial, ⟨Keep15.of_view rfl rfl, rfl⟩, trivial⟩
  settings c _ _ := Or.inl ⟨trivial, settingsPollSendT_keep c, fun _ => trivial⟩
  refusal c _ _ :=
    ⟨trivial, ⟨Keep15.of_view rfl (view_of_step (Streams.pollSendPendingRefusal_step (by decide) 4 c.streams c.codec.w c.codec.io c.cx)), rfl⟩,
      trivial⟩

theorem pollReadyT_keep (c : Conn) : Keep15 c (pollReadyT c).1.1 ∧ sentG (pollReadyT c).2 = [] :=
  ((pollReadyT_rule keepReady c trivial trivial).resolve_right fun ⟨_, _, _, f⟩ => f).2.1

theorem pingTail_step15 (c c1 : Conn) (sh : Bool) (hi : GoAwayInv c) (hg : c1.goAway = c.goAway)
    (hv : view c1.streams = view c.streams) : Step15 c (Conn.pingTail c1 sh).1 := by
  have k1 : Keep15 c c1 := Keep15.of_view hg hv
  unfold Conn.pingTail
  cases sh with
  | false => exact k1.step hi
  | true =>
    simp only [if_true]
    have k2 : Keep15 c (if c1.goAway.isGoingAway then c1 else c1.panic "received unexpected shutdown ping") := by
      split
      · exact k1
      · exact k1.trans (Keep15.of_view rfl (by simp [Conn.panic]))
    generalize (if c1.goAway.isGoingAway then c1 else c1.panic "received unexpected shutdown ping") = c2 at k2 ⊢
    exact (k2.step hi).trans fun i2 =>
      dynGoAway_step15 c2 _ NO_ERROR (Nat.le_refl _) i2.lpi_le_max fun _ hm => i2.lpi_le_gaLast hm

/-- `recv_frame` while `close_now` is unset keeps the invariant; the announced id can only go down
    (the ACK of the shutdown PING) -/
theorem recvFrame_step15 (c : Conn) (frame : Option Frame.Frame) (hi : GoAwayInv c) (hcn : c.goAway.closeNow = false) :
    Step15 c (c.recvFrame frame).1 := by
  -- stated for any `s`: with the call in place of `s`, `{ c with streams := s }.streams` is compared with it by unfolding it
  have keep : ∀ s : Streams, Streams.Step kindsNoIds c.streams s → Step15 c { c with streams := s } :=
    fun s hs => (Keep15.of_step (c := c) (c' := { c with streams := s }) rfl hs).step hi
  have lift : ∀ (r : Streams × Except PErr Unit), Streams.Step kindsNoIds c.streams r.1 → Step15 c (Conn.recvLift c r).1 := fun r hs => by
    rw [Conn.recvLift_fst]; exact keep r.1 hs
  cases frame with
  | none => exact keep _ (Streams.recvEof_step (by decide) ..)
  | some f =>
    cases f with
    | headers sid eos dep blk =>
      unfold Conn.recvFrame
      dsimp only
      obtain ⟨l, hl1, hl2⟩ := view_recvHeaders c.streams (Conn.headersIn sid eos blk)
      rcases hr : c.streams.recvHeaders (Conn.headersIn sid eos blk) with ⟨s, r⟩
      rw [hr] at hl1
      dsimp only at hl1
      have hr : (view s).rmax = (view c.streams).rmax := by rw [hl1]
      have hinv : GoAwayInv ({ c with streams := s } : Conn) := by
        refine hi.keep rfl rfl (fun _ => id) hr (.inr ⟨hcn, ?_⟩)
        show (view s).lpi ≤ _
        rw [hl1]
        rcases hl2 with hl2 | ⟨hl2, -, hl4⟩ <;> rw [hl2]
        · exact hi.lpi_le_max
        · exact hl4
      cases r <;> exact ⟨hinv, GaLe.of_eq rfl (by show (view s).connErr = _; rw [hl1])⟩
    | data sid payload eos padLen => exact lift _ (Streams.recvData_step (by decide) ..)
    | reset sid code => exact lift _ (Streams.recvReset_step (by decide) ..)
    | pushPromise sid promised blk => exact lift _ (Streams.recvPushPromise_step (by decide) ..)
    | windowUpdate sid inc => exact lift _ (Streams.recvWindowUpdate_step (by decide) ..)
    | priority sid dep w e => exact (Keep15.refl c).step hi
    | settings ack vals => exact (Keep15.refl c).step hi
    | goAway last code debug =>
      unfold Conn.recvFrame
      dsimp only
      have k := recvGoAwayFrame_ids c.streams last code debug
      rcases hr : c.streams.recvGoAwayFrame last code debug with ⟨s, r⟩
      rw [hr] at k
      cases r with
      | error e => exact Keep15.step (c := c) (c' := { c with streams := s }) ⟨rfl, k⟩ hi
      | ok u =>
        exact Keep15.step (c := c)
          (c' := { c with streams := s, error := some { lastStreamId := last, reason := code, debugData := debug } }) ⟨rfl, k⟩ hi
    | ping ack payload =>
      rw [Conn.recvFrame_ping_eq]
      apply pingTail_step15 c _ _ hi
      · dsimp only; split <;> rfl
      · dsimp only; split <;> simp [Conn.panic]

theorem recvSettings_keep (c : Conn) (ack : Bool) (vals : List (Nat × Nat)) : Keep15 c (c.recvSettings ack vals).1 := by
  cases ack with
  | false =>
    unfold Conn.recvSettings
    simp only [Bool.false_eq_true, if_false]
    split
    · exact Keep15.of_view rfl (by simp [Conn.panic])
    · exact Keep15.of_view rfl rfl
  | true =>
    cases hl : c.settings.loc with
    | waitingAck loc =>
      rw [recvSettings_ack_eq c vals loc hl]
      dsimp only
      have hs := Streams.applyLocalSettingsFrame_step (K := kindsNoIds) (by decide) c.streams loc
      rcases hr : c.streams.applyLocalSettingsFrame loc with ⟨s, r⟩
      rw [hr] at hs
      cases r <;> exact .of_step rfl hs
    | toSend l => rw [recvSettings_ack_unsolicited c vals (by intro l' h; rw [hl] at h; cases h)]; exact Keep15.refl c
    | synced => rw [recvSettings_ack_unsolicited c vals (by intro l' h; rw [hl] at h; cases h)]; exact Keep15.refl c

theorem goAwayNowData_step15 (c : Conn) (e : Reason) (d : Bytes) (hi : GoAwayInv c) : Step15 c (c.goAwayNowData e d) :=
  .of_goAwayNow hi e d c.goAway.isUserInitiated (by rw [goAwayNowData_eq c e d hi])
    (by rw [(goAwayNowData_inv c e d hi).2]; exact ⟨rfl, rfl, id⟩)

theorem keep15_handleError (c : Conn) (err : PErr) : Keep15 c { c with streams := (c.streams.handleError err).1 } :=
  .of_step rfl (Streams.handleError_step (by decide) ..)

theorem handleGoAway_step15 (c : Conn) (r : Reason) (d : Bytes) (i : Initiator) (hi : GoAwayInv c) :
    Step15 c (c.handleGoAway r d i) := by
  rcases handleGoAway_cases c r d i with ⟨-, h⟩ | h <;> rw [h]
  · exact (Keep15.of_view (c := c) (c' := { c with state := .closing r i }) rfl rfl).step hi
  · exact ((keep15_handleError c (.goAway d r i)).step hi).trans (fun h1 => goAwayNowData_step15 _ r d h1)

theorem handlePoll2Result_step15 (c : Conn) (res : Except PErr Unit) (hi : GoAwayInv c) :
    Step15 c (c.handlePoll2Result res).1 := by
  unfold Conn.handlePoll2Result
  cases res with
  | ok u => exact (Keep15.of_view (c := c) (c' := { c with state := .closing NO_ERROR .library }) rfl rfl).step hi
  | error e =>
    cases e with
    | goAway d r i => exact handleGoAway_step15 c r d i hi
    | reset id r i =>
      dsimp only
      split
      · exact (Keep15.refl c).step hi
      · rcases hs : c.streams.innerSendReset id r with ⟨s, rr⟩
        have hv : view s = view c.streams := by
          have := view_innerSendReset c.streams id r; rw [hs] at this; exact this
        have k : Keep15 c { c with streams := s } := Keep15.of_view rfl hv
        cases rr with
        | ok u => exact k.step hi
        | error g => exact (k.step hi).trans (fun h1 => handleGoAway_step15 _ _ _ _ h1)
    | io kind msg =>
      dsimp only
      have k := keep15_handleError c (.io kind msg)
      split
      · exact Keep15.step (c := c) ⟨rfl, k.2.1, k.2.2.1, k.2.2.2⟩ hi
      · exact k.step hi

theorem Step15.sent {c c1 : Conn} {evs : List Ev} (h : Step15 c c1) (hq : sentG evs = []) : SentOK c evs c1 :=
  SentOK.quiet hq h.2

theorem Step15.ok {c c1 : Conn} {evs : List Ev} (h : Step15 c c1) (hq : sentG evs = []) :
    GoAwayInv c1 ∧ SentOK c evs c1 := ⟨h.1, h.sent hq⟩

theorem Keep15.ok {c c' : Conn} (hi : GoAwayInv c) (hg : c'.goAway = c.goAway) (hv : view c'.streams = view c.streams) :
    GoAwayInv c' ∧ SentOK c [] c' := ((Keep15.of_view hg hv).step hi).ok rfl

theorem sendPendingGoAwayT_reason (c : Conn) (r : Reason) (h : (sendPendingGoAwayT c).1.2 = .reason r) :
    (sendPendingGoAwayT c).1.1.goAway.pending = none := by
  unfold sendPendingGoAwayT at h ⊢
  cases hp : c.goAway.pending with
  | none =>
    rw [hp] at h
    dsimp only at h ⊢
    (repeat' split) <;> exact hp
  | some f =>
    rw [hp] at h
    dsimp only at h ⊢
    rcases hc : c.codecPollReady with ⟨c1, st⟩
    rw [hc] at h
    cases st with
    | pending => cases h
    | err e => cases h
    | ok => rfl

theorem sendPendingGoAwayT_goesOn (c : Conn) (hi : GoAwayInv c) (hgo : GoesOn (sendPendingGoAwayT c).1) :
    (sendPendingGoAwayT c).1.1.goAway.closeNow = false := by
  obtain ⟨-, g2, -, -, -, -, -, -, -, g10⟩ := sendPendingGoAwayT_spec c
  cases hc : (sendPendingGoAwayT c).1.1.goAway.closeNow with
  | false => rfl
  | true =>
    exfalso
    rcases hgo with h | ⟨r, h, hns⟩
    · have := g10 ⟨by rw [← g2]; exact hc, hi.close_ga (by rw [← g2]; exact hc)⟩
      rw [h] at this
      exact this
    · simp [GoAway.shouldCloseNow, sendPendingGoAwayT_reason c r h, hc] at hns

theorem recvStep_step15 (c : Conn) (frame : Option Frame.Frame) (hi : GoAwayInv c) (hcn : c.goAway.closeNow = false) :
    Step15 c (recvStep c frame).1 := by
  have hs := recvFrame_step15 c frame hi hcn
  unfold recvStep
  rcases hF : c.recvFrame frame with ⟨c1, r1⟩
  rw [hF] at hs
  cases r1 with
  | error e => exact hs
  | ok rf =>
    cases rf with
    | «continue» => exact hs
    | done => exact hs
    | settings a v =>
      dsimp only
      have ks := recvSettings_keep c1 a v
      rcases hS : c1.recvSettings a v with ⟨c2, r2⟩
      rw [hS] at ks
      have hs2 : Step15 c c2 := hs.trans fun h1 => ks.step h1
      cases r2 <;> exact hs2

/-- the only frame that moves `last_processed_id` is HEADERS, accepted only at or below
    `max_stream_id`; `poll2` reads frames only while `close_now` is unset (the gates), when
    `max_stream_id` is what was announced -/
theorem sentRule2 : Poll2Rule GoAwayInv SentOK (fun _ _ _ => False)
    (fun c => c.goAway.closeNow = false) (fun c => c.goAway.closeNow = false) (fun c _ => c.goAway.closeNow = false) where
  trans := SentOK.trans
  transF _ h := h
  panic _ _ hi := Keep15.ok hi rfl (by simp [Conn.panic])
  goAway c hi := ⟨(sendPendingGoAwayT_sent c hi).1, (sendPendingGoAwayT_sent c hi).2.1, sendPendingGoAwayT_goesOn c hi⟩
  ready c hi hg :=
    have ⟨p1, p2⟩ := pollReadyT_keep c
    Or.inl ⟨(p1.step hi).1, (p1.step hi).sent p2, fun _ => by rw [p1.1]; exact hg⟩
  next _ hi hg := ⟨Keep15.ok hi rfl rfl, hg⟩
  recv c frame hi hg := Or.inl ((recvStep_step15 c frame hi hg).ok (by unfold frameEv; (repeat' split) <;> rfl))

end H2V.Lemmas.ConnCtlP
