import H2V.Lemmas.HpackEncInt
import H2V.Lemmas.HpackEncTable
import H2V.Lemmas.HpackEncIndex
import H2V.Lemmas.HpackEncBlock
import H2V.Lemmas.HpackEncSync
/-
  C10 — h2's HPACK encoder (`H2V.Model.Hpack.Encoder`, abstract mirror of `src/hpack/encoder.rs` +
  `src/hpack/table.rs`) stays in sync with a conforming RFC 7541 decoder, for every history of
  SETTINGS_HEADER_TABLE_SIZE changes and header blocks.  Reference: `H2V.Spec.Hpack` (decoder) and
  `H2V.Spec.HpackSync` (monitor).  Everything is in the namespace `H2V.Lemmas.HpackEnc`.

  Hypotheses on the input (`WF`, all decidable): name and value are octet strings (`Bytes.Valid`)
  shorter than 2^59 (so that the Huffman-coded length is a `usize`: the model's `encode_int` writes
  at most 11 continuation octets); a `nameless` field is never first in its block and has the name
  of the field before it (what the `HeaderMap` iterator guarantees).  A non-empty name is *not*
  needed.
-/
