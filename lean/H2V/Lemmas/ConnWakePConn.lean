import H2V.Lemmas.ConnWakePReach
import H2V.Lemmas.ConnFlush
import H2V.Lemmas.ConnCtlPTrace
/-
  ConnWakeP — the connection object (`ConnProto.lean`): the connection future completes once the
  state machine is `Closed` (and one poll after `Closing` when the transport lets `shutdown` finish);
  dropping the connection resolves every stream (`recv_eof(true)`) and the ping handle;
  `poll_complete` answers `Ready` only after parking the connection task.
-/
namespace H2V.Lemmas.ConnWakeP
open H2V H2V.Model H2V.Model.Conn

/-- `Connection::poll` in state `Closing` when the transport lets `shutdown` finish: `Ready` -/
theorem protoPoll_closing (n : Nat) (c : Conn) (r : Reason) (i : Initiator) (h : c.state = .closing r i)
    (w : Writer) (io : Tio) (hs : shutdownW c.codec.w c.codec.io c.cx = (w, io, .ready)) :
    ∃ c', Conn.protoPoll (n + 2) c = (c', .ready (({ c with codec := { c.codec with w := w, io := io }, state := .closed r i } : Conn).takeError r i).2) := by
  unfold Conn.protoPoll
  simp only [h, hs]
  rw [ConnCtlP.protoPoll_closed n _ r i rfl]
  exact ⟨_, rfl⟩

theorem flush_pending_parks {w w' : Writer} {io io' : Tio} {tag : String} (h : flush w io tag = (w', io', .pending)) :
    io'.writeWaker = some tag := by
  rcases flush_cases w io tag with e | ⟨_, _, _, _, _, _, e | e⟩ <;> rw [e] at h <;> cases h
  rfl

theorem shutdownW_pending_parks {w w' : Writer} {io io' : Tio} {tag : String} (h : shutdownW w io tag = (w', io', .pending)) :
    io'.writeWaker = some tag := by
  rcases shutdownW_cases w io tag with ⟨_, e⟩ | ⟨w1, io1, r1, hf, ⟨_, e⟩ | ⟨_, e⟩⟩ <;> rw [e] at h <;> cases h
  exact flush_pending_parks hf

/-- … and when the transport does not, the connection task is parked on the transport's write waker -/
theorem protoPoll_closing_pending (n : Nat) (c c' : Conn) (r : Reason) (i : Initiator) (h : c.state = .closing r i)
    (hp : Conn.protoPoll (n + 2) c = (c', .pending)) : c'.codec.io.writeWaker = some c.cx := by
  unfold Conn.protoPoll at hp
  simp only [h] at hp
  rcases hs : shutdownW c.codec.w c.codec.io c.cx with ⟨w, io, r'⟩
  rw [hs] at hp
  cases r' with
  | ready =>
    simp only at hp
    rw [ConnCtlP.protoPoll_closed n _ r i rfl] at hp; cases hp
  | err k => cases hp
  | pending =>
    simp only at hp
    cases hp
    exact shutdownW_pending_parks hs

/-- `Drop for UserPingsRx` (the connection goes away): the pong waiter is woken, and every later
    `poll_pong` is `Ready(Err(BrokenPipe))` -/
theorem dropUserPingsRx_resolves (c : Conn) (u : UserPings) (h : c.pingPong.userPings = some u) (tag : String) :
    (∀ t, u.pongTask = some t → t ∈ newWakes c.streams c.dropUserPingsRx.streams) ∧
    (c.dropUserPingsRx.userPollPong tag).2 = some false := by
  unfold Conn.dropUserPingsRx
  simp only [h]
  refine ⟨fun t ht => ?_, ?_⟩
  · simp [newWakes, Streams.wake, ht]
  · unfold Conn.userPollPong
    simp only
    have h1 : (Generated.Consts.USER_STATE_CLOSED == Generated.Consts.USER_STATE_RECEIVED_PONG) = false := by decide
    simp [h1]

/-- `UserPings::poll_pong`: `Pending` ⇒ the caller is parked in `pong_task` and no pong has arrived -/
theorem userPollPong_pending (c c' : Conn) (tag : String) (h : c.userPollPong tag = (c', none)) :
    c.pingPong.userPings = none ∨ ∃ u, c'.pingPong.userPings = some u ∧ u.pongTask = some tag ∧
      u.state ≠ Generated.Consts.USER_STATE_RECEIVED_PONG ∧ u.state ≠ Generated.Consts.USER_STATE_CLOSED := by
  unfold Conn.userPollPong at h
  split at h
  · next hn => exact Or.inl hn
  · next u hu =>
    simp only at h
    split at h
    · cases h
    · next h1 =>
      split at h
      · cases h
      · next h2 =>
        obtain ⟨rfl, _⟩ := Prod.mk.inj h
        exact Or.inr ⟨_, rfl, rfl, by simpa using h1, by simpa using h2⟩

/-- a received PONG for the user's PING wakes the pong waiter -/
theorem recvPing_wakes_pong (p : PingPong) (u : UserPings) (hu : p.userPings = some u)
    (hs : u.state = Generated.Consts.USER_STATE_PENDING_PONG) (hp : p.pendingPing = none) :
    (p.recvPing true Generated.Consts.PING_USER_PAYLOAD).2.2.1 = u.pongTask.toList := by
  unfold PingPong.recvPing
  simp [hp, hu, hs]

/-- `UserPings::send_ping` wakes the connection task parked in `ping_task` -/
theorem userSendPing_wakes (c : Conn) (u : UserPings) (hu : c.pingPong.userPings = some u)
    (hs : u.state = Generated.Consts.USER_STATE_EMPTY) :
    (c.userSendPing).2 = none ∧ ∀ t, u.pingTask = some t → t ∈ newWakes c.streams c.userSendPing.1.streams := by
  unfold Conn.userSendPing
  simp only [hu, hs, beq_self_eq_true, if_true]
  refine ⟨trivial, fun t ht => ?_⟩
  simp [newWakes, Streams.wake, ht]

theorem reclaimFrame_task (s : Streams) (w : Writer) : (s.reclaimFrame w).1.actions.task = s.actions.task := by
  unfold Streams.reclaimFrame
  split
  · next w1 frame _ =>
    show (s.reclaimFrameInner frame).1.actions.task = _
    unfold Streams.reclaimFrameInner
    simp only
    split
    · simp [Streams.panic_actions, Streams.modPrio]
    · simp [Streams.modPrio]
    · split
      · simp only
        split
        · rw [Streams.qPush_task]; simp [Streams.modStream_actions, Streams.modPrio]
        · simp [Streams.modStream_actions, Streams.modPrio]
      · simp [Streams.modPrio]
  · rfl

/-- the return points of `Streams::poll_complete`, each once: out of fuel; `poll_ready` or `flush` not `Ready`; done
    (the connection task registered under the lock, the flush complete, nothing reclaimed) -/
theorem pollComplete_ret {Q : Streams × Writer × Tio × WRes → Prop} {tag : String}
    (hfuel : ∀ (s : Streams) (w : Writer) (io : Tio), Q (s.panic "model: poll_complete out of fuel", w, io, .pending))
    (hpr : ∀ (s : Streams) w io w1 io1 r, pollReadyW w io tag = (w1, io1, r) → r ≠ .ready → Q (s, w1, io1, r))
    (hfl : ∀ (s : Streams) w io w1 io1 r, flush w io tag = (w1, io1, r) → r ≠ .ready →
      Q ({ s with actions := { s.actions with task := some tag } }, w1, io1, r))
    (hdone : ∀ (s : Streams) w io w1 io1 s' w', flush w io tag = (w1, io1, .ready) →
      Streams.reclaimFrame { s with actions := { s.actions with task := some tag } } w1 = (s', w', false) →
      Q (s', w', io1, .ready)) :
    ∀ (n : Nat) (s : Streams) (w : Writer) (io : Tio), Q (Streams.pollComplete n s w io tag) := by
  intro n
  induction n with
  | zero => intro s w io; exact hfuel s w io
  | succ n ih =>
    intro s w io
    unfold Streams.pollComplete
    rcases hp : pollReadyW w io tag with ⟨w1, io1, r1⟩
    cases r1 with
    | pending => exact hpr s w io w1 io1 _ hp (by simp)
    | err k => exact hpr s w io w1 io1 _ hp (by simp)
    | ready =>
      simp only
      rcases hb : Streams.bufferPending (n + 1) s w1 with ⟨s2, w2, st⟩
      cases st with
      | codecFull => exact ih _ _ _
      | complete =>
        simp only
        rcases hf : flush w2 io1 tag with ⟨w3, io3, r3⟩
        cases r3 with
        | pending => exact hfl s2 w2 io1 w3 io3 _ hf (by simp)
        | err k => exact hfl s2 w2 io1 w3 io3 _ hf (by simp)
        | ready =>
          simp only
          rcases hr : Streams.reclaimFrame { s2 with actions := { s2.actions with task := some tag } } w3 with ⟨s4, w4, b⟩
          cases b with
          | true => exact ih _ _ _
          | false => exact hdone s2 w2 io1 w3 io3 s4 w4 hf hr

/-- `Streams::poll_complete` answers `Ready` only after registering the connection task (under the
    lock, after `buffer_pending` found nothing more to write) -/
theorem pollComplete_ready_parks (n : Nat) (s s' : Streams) (w w' : Writer) (io io' : Tio) (tag : String)
    (h : Streams.pollComplete n s w io tag = (s', w', io', .ready)) : s'.actions.task = some tag := by
  have key := pollComplete_ret (tag := tag) (Q := fun r => r.2.2.2 = .ready → r.1.actions.task = some tag)
    (fun _ _ _ h => by cases h) (fun _ _ _ _ _ r _ hr h => absurd h hr) (fun _ _ _ _ _ r _ hr h => absurd h hr)
    (fun s _ _ w1 _ s' w' _ hr _ => by
      have := reclaimFrame_task { s with actions := { s.actions with task := some tag } } w1
      rw [hr] at this; exact this) n s w io
  rw [h] at key; exact key rfl

theorem unsetFrame_fields (x : Writer) :
    x.unsetFrame.next = none ∧ x.unsetFrame.bufLen = 0 ∧ x.unsetFrame.cap = x.cap ∧
    x.unsetFrame.chainThreshold = x.chainThreshold := by
  rcases unsetFrame_cases x with ⟨h, e⟩ | ⟨_, _, e⟩ <;> rw [e]
  · exact ⟨h, rfl, rfl, rfl⟩
  · exact ⟨rfl, rfl, rfl, rfl⟩

theorem flush_ready_capacity {w w' : Writer} {io io' : Tio} {tag : String} (h : flush w io tag = (w', io', .ready)) :
    w'.next = none ∧ w'.bufLen = 0 ∧ w'.cap = w.cap ∧ w'.chainThreshold = w.chainThreshold := by
  rcases flush_cases w io tag with e | ⟨_, _, _, _, _, _, e | e⟩ <;> rw [e] at h <;> cases h
  exact unsetFrame_fields _

/-- `FramedWrite::poll_ready` answers `Pending` only with the transport holding the waker — or, after a
    complete flush, when the buffer's capacity is below the minimum (never the case: the capacity only grows) -/
theorem pollReadyW_pending_parks {w w' : Writer} {io io' : Tio} {tag : String}
    (h : pollReadyW w io tag = (w', io', .pending)) (hcap : w'.cap ≥ w'.minBufferCapacity) :
    io'.writeWaker = some tag := by
  rcases pollReadyW_cases w io tag with ⟨_, e⟩ | ⟨w1, io1, r1, hf, e⟩ <;> rw [e] at h
  · cases h
  · obtain ⟨rfl, h2⟩ := Prod.mk.inj h
    obtain ⟨rfl, hr⟩ := Prod.mk.inj h2
    by_cases hc : r1 = .ready ∧ w1.hasCapacity = false
    · obtain ⟨rfl, hc⟩ := hc
      obtain ⟨h1, h2, -, -⟩ := flush_ready_capacity hf
      simp only [Writer.hasCapacity, h1, h2, Option.isNone_none, Bool.true_and, decide_eq_false_iff_not] at hc
      exact absurd hcap hc
    · rw [if_neg hc] at hr; subst hr; exact flush_pending_parks hf

/-- `Streams::poll_complete` answers `Pending` only with the transport holding the connection's waker -/
theorem pollComplete_pending_parks (n : Nat) (s s' : Streams) (w w' : Writer) (io io' : Tio) (tag : String)
    (h : Streams.pollComplete n s w io tag = (s', w', io', .pending)) (hp : s'.panicked = none)
    (hcap : w'.cap ≥ w'.minBufferCapacity) : io'.writeWaker = some tag := by
  have key := pollComplete_ret (tag := tag) (Q := fun r => r.2.2.2 = .pending → r.1.panicked = none →
      r.2.1.cap ≥ r.2.1.minBufferCapacity → r.2.2.1.writeWaker = some tag)
    (fun s _ _ _ hp _ => absurd hp (Streams.panic_panicked_ne_none s _))
    (fun _ _ _ _ _ r hpr _ hr _ hc => by subst hr; exact pollReadyW_pending_parks hpr hc)
    (fun _ _ _ _ _ r hf _ hr _ _ => by subst hr; exact flush_pending_parks hf)
    (fun _ _ _ _ _ _ _ _ _ h => by cases h) n s w io
  rw [h] at key; exact key rfl hp hcap

/-- **`Connection::poll` answers `Pending` only after parking the polling task** `c'.cx`: in
    `Actions.task` (woken by every handle operation that gives the connection work — C06 (D)) or,
    when the codec cannot take more, on the transport's write waker.  (On top of that `poll2`
    parks it on the read waker when it runs out of input.)  For every state, fuel, configuration;
    `hp`: the model did not flag a panic (none is reachable) — `hcap`: the write buffer's capacity is
    at least `chain_threshold + 9`, which holds from `Conn.init` on since the capacity only grows. -/
theorem protoPoll_pending_parks (n : Nat) (c c' : Conn) (h : Conn.protoPoll n c = (c', .pending))
    (hp : c'.streams.panicked = none) (hcap : c'.codec.w.cap ≥ c'.codec.w.minBufferCapacity) :
    c'.streams.actions.task = some c'.cx ∨ c'.codec.io.writeWaker = some c'.cx := by
  induction n generalizing c with
  | zero =>
    unfold Conn.protoPoll at h
    obtain ⟨rfl, _⟩ := Prod.mk.inj h
    exact absurd hp (Streams.panic_panicked_ne_none _ _)
  | succ n ih =>
    unfold Conn.protoPoll at h
    split at h
    · -- Open
      rcases hp2 : Conn.poll2 (n + 1) c with ⟨c1, r1⟩
      rw [hp2] at h
      cases r1 with
      | ready res =>
        simp only at h
        rcases hh : c1.handlePoll2Result res with ⟨c2, r2⟩
        rw [hh] at h
        cases r2 with
        | ok u => exact ih _ h
        | error e => cases h
      | pending =>
        simp only at h
        rcases hpc : Streams.pollComplete (n + 1) c1.streams c1.codec.w c1.codec.io c1.cx with ⟨s2, w2, io2, r2⟩
        rw [hpc] at h
        cases r2 with
        | pending =>
          simp only at h
          obtain ⟨rfl, _⟩ := Prod.mk.inj h
          exact Or.inr (pollComplete_pending_parks _ _ _ _ _ _ _ _ hpc hp hcap)
        | err k => cases h
        | ready =>
          simp only at h
          split at h
          · exact ih _ h
          · obtain ⟨rfl, _⟩ := Prod.mk.inj h
            exact Or.inl (pollComplete_ready_parks _ _ _ _ _ _ _ _ hpc)
    · -- Closing
      next r i hst =>
      rcases hs : shutdownW c.codec.w c.codec.io c.cx with ⟨w, io, r'⟩
      rw [hs] at h
      cases r' with
      | ready => exact ih _ h
      | err k => cases h
      | pending =>
        simp only at h
        obtain ⟨rfl, _⟩ := Prod.mk.inj h
        exact Or.inr (shutdownW_pending_parks hs)
    · -- Closed
      cases h

/-- the client's `Connection::poll` likewise (its self-wake only writes to the wake log) -/
theorem clientPoll_pending_parks (n : Nat) (c c' : Conn) (h : Conn.clientPoll n c = (c', .pending))
    (hp : c'.streams.panicked = none) (hcap : c'.codec.w.cap ≥ c'.codec.w.minBufferCapacity) :
    c'.streams.actions.task = some c'.cx ∨ c'.codec.io.writeWaker = some c'.cx := by
  unfold Conn.clientPoll at h
  simp only at h
  rcases hpp : Conn.protoPoll n (if (!c.hasStreamsOrOtherReferences) = true then c.goAwayNow NO_ERROR else c) with ⟨c1, r1⟩
  rw [hpp] at h
  simp only at h
  obtain ⟨hc, hr⟩ := Prod.mk.inj h
  subst hr
  have hcase : c' = c1 ∨ c' = { c1 with streams := c1.streams.wake [c1.cx] } := by
    rw [← hc]
    by_cases hh : ((match (PollRes.pending : PollRes) with | .pending => true | _ => false) &&
        (if (!c.hasStreamsOrOtherReferences) = true then c.goAwayNow NO_ERROR else c).hasStreamsOrOtherReferences &&
        !c1.hasStreamsOrOtherReferences) = true
    · rw [if_pos hh]; exact Or.inr rfl
    · rw [if_neg hh]; exact Or.inl rfl
  have e1 : c'.streams.actions.task = c1.streams.actions.task := by rcases hcase with e | e <;> rw [e] <;> rfl
  have e2 : c'.streams.panicked = c1.streams.panicked := by rcases hcase with e | e <;> rw [e] <;> rfl
  have e3 : c'.codec = c1.codec := by rcases hcase with e | e <;> rw [e]
  have e4 : c'.cx = c1.cx := by rcases hcase with e | e <;> rw [e]
  rw [e1, e3, e4]
  exact protoPoll_pending_parks n _ c1 hpp (e2 ▸ hp) (e3 ▸ hcap)

theorem Resolved.of_sstep {w : List String} {a b : Stream} (h : Resolved a) (hs : SStep w a b) : Resolved b := by
  obtain ⟨c, h1, h2, h3, h4⟩ := h
  exact ⟨hs.closed c, (h1 ▸ hs.sendTask).none_of_none, (h2 ▸ hs.openTask).none_of_none,
    (h3 ▸ hs.recvTask).none_of_none, (h4 ▸ hs.pushTask).none_of_none⟩

theorem Done.of_step {k : Nat} {t t' : Streams} (h : Done k t) (hk : k < t.store.nextKey) (hs : Step none t t') :
    Done k t' := by
  rcases h with h | ⟨b, hb, hres⟩
  · exact Or.inl (hs.fresh k hk h)
  · rcases hs.keep k b hk hb with h' | ⟨c, hc, hbc⟩
    · exact Or.inl h'
    · exact Or.inr ⟨c, hc, hres.of_sstep hbc⟩

theorem dropSr_step (s : Streams) (sr : SendRequest) :
    Step none s (let s := s.dropHandle; match sr.pending with | some p => s.dropStreamRef p | none => s) := by
  dsimp only
  split
  · exact .of_step ((Streams.dropHandle_step (by decide) s).trans (Streams.dropStreamRef_step (by decide) _ _))
  · exact .of_step (Streams.dropHandle_step (by decide) s)

/-- what is left of the stream layer after the harness's `ConnKind::Client(conn, sr, clones)` was dropped -/
theorem dropConnKind_streams (c : Conn) (sr : Option SendRequest) (clones : List SendRequest) :
    Step none (c.streams.recvEof true) (dropConnKind c sr clones).streams := by
  unfold dropConnKind
  -- (behind a variable: unifying against the unfolded `recv_eof` is what costs)
  generalize c.streams.recvEof true = t
  dsimp only
  have h1 : Step none t ({ c with streams := t } : Conn).dropUserPingsRx.streams := by
    unfold Conn.dropUserPingsRx
    split
    · exact Step.refl _ _
    · exact (wake_i _ _)
  refine h1.trans ?_
  refine (Step.of_step (Streams.dropHandle_step (by decide) _)).trans ?_
  refine Step.trans ?_ (foldl_i _ dropSr_step clones _)
  split
  · exact dropSr_step _ _
  · exact Step.refl _ _

/-- **`Drop for Connection`** (and the drop of the `SendRequest` handles with it): every stream that was
    linked in the id map is released or `Resolved`, and every waker that was parked on it is woken —
    however the connection ended before, whatever the streams were doing. -/
theorem dropConnKind_resolves (c : Conn) (sr : Option SendRequest) (clones : List SendRequest) (hg : Good c.streams) :
    ∀ e ∈ c.streams.store.ids, ∀ a, c.streams.store.get? e.2 = some a →
      (dropConnKind c sr clones).streams.store.get? e.2 = none ∨
      ∃ a', (dropConnKind c sr clones).streams.store.get? e.2 = some a' ∧ Resolved a' ∧
        ∀ t, (a.sendTask = some t ∨ a.openTask = some t ∨ a.recvTask = some t ∨ a.pushTask = some t) →
          t ∈ newWakes c.streams (dropConnKind c sr clones).streams := by
  intro e he a ha
  have h1 := (recvEof_all c.streams hg.ids hg.bounded true).2 e he a ha
  have hs1 : Step none c.streams (c.streams.recvEof true) := .of_step (Streams.recvEof_step (by decide) _ true)
  have hs2 := dropConnKind_streams c sr clones
  have hk : e.2 < (c.streams.recvEof true).store.nextKey := Nat.lt_of_lt_of_le (hg.linked e he) hs1.nextKey
  have hd : Done e.2 (c.streams.recvEof true) := by
    rcases h1 with h | ⟨a', ha', hres, _⟩
    · exact Or.inl h
    · exact Or.inr ⟨a', ha', hres⟩
  rcases hd.of_step hk hs2 with h | ⟨b, hb, hres⟩
  · exact Or.inl h
  · refine Or.inr ⟨b, hb, hres, ?_⟩
    have hs := hs1.trans hs2
    exact woken_of_resolved hres (hs.sstep hg.bounded ha hb)

end H2V.Lemmas.ConnWakeP
