import H2V.Lemmas.ConnFlowPMain
/-
  C16 — the send-capacity API tells the truth.
  Property theorems only (lemmas: `H2V/Lemmas/ConnFlowP*.lean`; what is partial and why:
  `H2V/Lemmas/ConnFlowPNOTES.md`).  Vocabulary as in `H2V/Props/C02.lean`, plus
    * `sumCap m slab` — Σ over the slab of what `capacity()` reports;
    * `total s`       — all the send capacity there is: `sumAv slab` + the connection's `available`;
    * `giveBack s id n` — `claim_capacity(n)` on the stream + `assign_capacity(n)` on the connection: the
                        first half of `reclaim_all_capacity`, `reclaim_reserved_capacity`, a lowered
                        `reserve_capacity`;
    * `SafeInvG n s`  — the invariant with `n` octets in transit between a stream and the connection;
    * `ReqOk s`       — every `requested_send_capacity` is a `u32` (holds in every reachable state and is
                        preserved by every model function, `Reach.reqOk`).
-/
namespace H2V.Props.C16
open H2V H2V.Model H2V.Model.Conn H2V.Lemmas.ConnFlowP

/-- **Reported capacity is usable.**  In every reachable state, what `SendStream::capacity()` reports
    for a stream is at most the capacity assigned to it, at most the stream's send window, at most
    the connection send window and at most `max_send_buffer_size`: that many octets pass `pop_frame`'s
    tests (`C02.data_frame_within_windows`) without any further grant from the peer. -/
theorem reported_capacity_is_usable {s : Streams} (h : Reach s) (k : Nat) :
    s.sendCapacity k ≤ (s.stream k).sendFlow.available.asSize ∧
    s.sendCapacity k ≤ (s.stream k).sendFlow.windowSz ∧
    (s.sendCapacity k : Int) ≤ s.prio.flow.windowSize.val ∧
    s.sendCapacity k ≤ s.prio.maxBufferSize :=
  h.safe.sendCapacity_le k

/-- **The total assigned across streams never exceeds the connection window** — neither the capacity
    assigned (`Σ available`) nor what the API reports (`Σ capacity()`), even together with what the
    connection still holds unassigned. -/
theorem total_assigned_le_connection_window {s : Streams} (h : Reach s) :
    sumAv s.store.slab + s.prio.flow.available.val ≤ s.prio.flow.windowSize.val ∧
    (sumCap s.prio.maxBufferSize s.store.slab : Int) + s.prio.flow.available.val ≤ s.prio.flow.windowSize.val ∧
    0 ≤ s.prio.flow.available.val :=
  ⟨by simpa using h.safe.ledger, h.safe.sumCap_le, h.safe.a0⟩

example (g : Conn.Cfg) : Reach (Conn.init g).streams := init_reach g

/-- **A capacity notification never reports zero**: `poll_capacity` never answers
    `Ready(Some(Ok(0)))` (any state, any stream, any waker) … -/
theorem poll_capacity_never_zero (s : Streams) (id : Nat) (tag : String) : (s.pollCapacity id tag).2 ≠ .cap 0 :=
  pollCapacity_ne_zero s id tag

/-- … what it reports is the positive capacity the stream has at that moment (in a reachable state:
    usable in the sense of `reported_capacity_is_usable`) … -/
theorem poll_capacity_reports_current_capacity {s : Streams} {id n : Nat} {tag : String}
    (h : (s.pollCapacity id tag).2 = .cap n) : n = (s.pollCapacity id tag).1.sendCapacity id ∧ 0 < n :=
  pollCapacity_cap h

/-- … and it answers `Pending` only after storing the caller's waker in the stream's `send_task`. -/
theorem poll_capacity_pending_registers_waker {s : Streams} {id : Nat} {tag : String} {st : Stream}
    (hget : s.store.get? id = some st) (h : (s.pollCapacity id tag).2 = .pending) :
    ((s.pollCapacity id tag).1.stream id).sendTask = some tag :=
  pollCapacity_pending hget h

/-- **A wait for capacity is woken when capacity arrives**: when `try_assign_capacity` makes what
    `capacity()` reports for a stream grow, the waker parked in the stream's `send_task` is in the
    wake log afterwards and `send_capacity_inc` is set (the woken `poll_capacity` reports the capacity
    instead of parking again).  `try_assign_capacity` is the only function that assigns capacity. -/
theorem capacity_growth_wakes_waiter {s : Streams} {id : Nat} {st : Stream} {tag : String}
    (hget : s.store.get? id = some st) (ht : st.sendTask = some tag)
    (hgrow : s.sendCapacity id < (s.tryAssignCapacity id).sendCapacity id) :
    tag ∈ (s.tryAssignCapacity id).wakes ∧ ((s.tryAssignCapacity id).stream id).sendCapacityInc = true :=
  tryAssign_wakes hget ht hgrow

/-- **… or when the stream can no longer send**: `Stream::set_reset` (our reset, a library reset, and
    what `recv_reset` / `handle_error` / `recv_eof` do through `notify_send`) wakes the waker parked in
    `send_task`. -/
theorem reset_wakes_waiter (x : Stream) (r : Reason) (i : Initiator) :
    ((x.setReset r i).1.sendTask = none ∧ ∀ t, x.sendTask = some t → t ∈ (x.setReset r i).2) ∧
    (x.notifySend.1.sendTask = none ∧ ∀ t, x.sendTask = some t → t ∈ x.notifySend.2) :=
  ⟨setReset_wakes x r i, notifySend_wakes x⟩

/-- **Unused capacity returns to the connection, exactly.**  `reclaim_all_capacity` (stream reset,
    error, queue cleared) first gives back everything the stream holds: the stream is left with 0,
    the connection gets exactly that much, the total is unchanged, the invariant holds; then it runs
    `assign_connection_capacity`'s loop on that state. -/
theorem unused_capacity_returns_exactly {s : Streams} (h : SafeInv s) {id : Nat} {st : Stream}
    (hget : s.store.get? id = some st) (hpos : st.sendFlow.available.asSize > 0) :
    s.reclaimAllCapacity id =
      Streams.assignConnectionCapacityLoop
        ((giveBack s id st.sendFlow.available.asSize).prio.pendingCapacity.length + 2)
        (giveBack s id st.sendFlow.available.asSize) ∧
    total (giveBack s id st.sendFlow.available.asSize) = total s ∧
    ((giveBack s id st.sendFlow.available.asSize).stream id).sendFlow.available.val = 0 ∧
    (giveBack s id st.sendFlow.available.asSize).prio.flow.available.val =
      s.prio.flow.available.val + st.sendFlow.available.val ∧
    SafeInv (giveBack s id st.sendFlow.available.asSize) :=
  reclaim_all_is_exact h hget hpos

/-- the same for any part `n ≤ available` (`reclaim_reserved_capacity`: what exceeds the buffered
    data when the handles are dropped; a lowered `reserve_capacity`: what exceeds the new request) -/
theorem partial_give_back_is_exact {s : Streams} (h : SafeInv s) {id n : Nat} {st : Stream}
    (hget : s.store.get? id = some st) (hn : n ≤ st.sendFlow.available.asSize) :
    total (giveBack s id n) = total s ∧
    ((giveBack s id n).stream id).sendFlow.available.val = st.sendFlow.available.val - n ∧
    (giveBack s id n).prio.flow.available.val = s.prio.flow.available.val + n ∧
    (giveBack s id n).prio.flow.windowSize = s.prio.flow.windowSize ∧
    (giveBack s id n).store.slab.map (·.key) = s.store.slab.map (·.key) ∧
    SafeInv (giveBack s id n) :=
  giveBack_exact h hget hn

/-- **… when the stream is reset by the user**: after `StreamRef::send_reset` the stream (every slab
    entry with its store key) holds no send capacity, is not send-streaming and has nothing buffered —
    so `try_assign_capacity` cannot hand it anything again (`KeyP id ColdSt`).  What it held went
    through `giveBack` (`unused_capacity_returns_exactly`).  Hypotheses: the stream was not reset
    already and was not closed-and-flushed (in those cases `send_reset` does nothing). -/
theorem reset_stream_holds_no_capacity {s : Streams} (h : SafeInv s) (id : Nat) (r : Reason)
    (hnr : (s.stream id).state.isReset = false)
    (hne : ((s.stream id).state.isClosed &&
      ((s.stream id).pendingSend.isEmpty && (s.stream id).bufferedSendData == 0)) = false) :
    KeyP id ColdSt (s.refSendReset id r) :=
  refSendReset_cold h id r hnr hne

/-- **… when the peer resets it**: after an accepted RST_STREAM (`Inner::recv_reset`) the stream holds
    no send capacity and cannot get any. -/
theorem peer_reset_stream_holds_no_capacity {s : Streams} (h : SafeInv s) {id k : Nat} (reason : Reason)
    (hid : id ≠ 0) (hmax : ¬ id > s.recv.maxStreamId) (hfind : s.store.findKey? id = some k)
    (hpo : (s.stream k).isPendingOpen = false) (hok : (s.recvRecvReset k reason).2 = .ok ()) :
    KeyP k ColdSt (s.recvReset id reason).1 :=
  recvReset_cold h reason hid hmax hfind hpo hok

/-- **… when its handles are dropped or the request is lowered**: `reclaim_reserved_capacity` gives
    back exactly `available − buffered`, a lowered `reserve_capacity` exactly `available − (request +
    buffered)`, both through `giveBack` (exact by `partial_give_back_is_exact`) followed by
    `assign_connection_capacity`'s loop. -/
theorem dropped_or_lowered_capacity_returns_exactly {s : Streams} (h : SafeInv s) {id c : Nat} {st : Stream}
    (hget : s.store.get? id = some st) :
    (st.sendFlow.available.asSize > st.bufferedSendData →
      s.reclaimReservedCapacity id =
        Streams.assignConnectionCapacityLoop
          ((giveBack s id (st.sendFlow.available.asSize - st.bufferedSendData)).prio.pendingCapacity.length + 2)
          (giveBack s id (st.sendFlow.available.asSize - st.bufferedSendData))) ∧
    (c + st.bufferedSendData < st.requestedSendCapacity → st.sendFlow.available.asSize > c + st.bufferedSendData →
      s.reserveCapacity id c =
        Streams.assignConnectionCapacityLoop
          ((giveBack (s.modStream id fun x => { x with requestedSendCapacity := usizeAsU32 (c + st.bufferedSendData) }) id
            (st.sendFlow.available.asSize - (c + st.bufferedSendData))).prio.pendingCapacity.length + 2)
          (giveBack (s.modStream id fun x => { x with requestedSendCapacity := usizeAsU32 (c + st.bufferedSendData) }) id
            (st.sendFlow.available.asSize - (c + st.bufferedSendData)))) :=
  ⟨reclaimReserved_exact h hget, reserveLower_exact h hget⟩

/-- **… and reaches other waiting streams.**  `assign_connection_capacity` stops only when the
    connection has nothing left or no stream waits in `pending_capacity` (the model's fuel is enough
    for that), whatever `inc` octets it was called with. -/
theorem returned_capacity_reaches_waiting_streams {s : Streams} {inc : Nat} (h : SafeInvG inc s) (hr : ReqOk s) :
    (s.assignConnectionCapacity inc).prio.flow.available.val ≤ 0 ∨
    (s.assignConnectionCapacity inc).prio.pendingCapacity = [] :=
  assignConnectionCapacity_drains h hr

/-- a concrete state: one open stream (key 0, id 1) with a 10-octet DATA frame queued, 10 octets of
    capacity assigned, stream window 100, connection window 65 535 of which 65 525 unassigned -/
def exState : Streams :=
  { store := { slab := [{ key := 0, id := 1, state := { inner := .open .streaming .streaming },
                          isPendingSend := true, sendFlow := ⟨⟨100⟩, ⟨10⟩⟩, requestedSendCapacity := 10,
                          bufferedSendData := 10, pendingSend := [.data 10 true] }],
               ids := [(1, 0)], nextKey := 1 },
    actions := { send := { prioritize := { pendingSend := [0], flow := ⟨⟨65535⟩, ⟨65525⟩⟩ } } } }

example : SafeInvG 0 exState ∧ ReqOk exState := by
  refine ⟨⟨Int.le_refl _, ⟨by decide, by intro x hx; simp [exState] at hx; subst hx; decide⟩, ?_, by decide, by decide, by decide⟩, ?_⟩
  · intro x hx; simp [exState] at hx; subst hx
    exact ⟨by decide, by intro _; decide, by decide, by decide⟩
  · intro x hx; simp [exState] at hx; subst hx; decide

/-- the hypotheses of the two reset theorems and of the give-back theorems are met by `exState` -/
example : (exState.stream 0).state.isReset = false ∧
    ((exState.stream 0).state.isClosed &&
      ((exState.stream 0).pendingSend.isEmpty && (exState.stream 0).bufferedSendData == 0)) = false ∧
    (1 : Nat) ≠ 0 ∧ ¬ (1 > exState.recv.maxStreamId) ∧ exState.store.findKey? 1 = some 0 ∧
    (exState.stream 0).isPendingOpen = false ∧ (exState.recvRecvReset 0 8).2 = .ok () ∧
    (∃ st, exState.store.get? 0 = some st ∧ st.sendFlow.available.asSize > 0) := by
  refine ⟨rfl, rfl, by decide, by decide, rfl, rfl, rfl, ⟨_, rfl, by decide⟩⟩

/-- `ReqOk` is no restriction on reachable states -/
theorem requested_capacity_is_u32 {s : Streams} (h : Reach s) : ReqOk s := h.reqOk

/-- **Assigning is exact too**: `try_assign_capacity` moves capacity from the connection to the
    stream and loses none (total unchanged, no stream appears or disappears, no window changes). -/
theorem assignment_is_exact {s : Streams} (h : SafeInv s) (id : Nat) :
    total (s.tryAssignCapacity id) = total s ∧
    (s.tryAssignCapacity id).prio.flow.windowSize = s.prio.flow.windowSize ∧
    (s.tryAssignCapacity id).store.slab.map (·.key) = s.store.slab.map (·.key) :=
  tryAssign_exact h id

/-
  FULL STATEMENT (not proven): in every reachable state the ledger is exact,
      `sumAv s.store.slab + s.prio.flow.available.val = s.prio.flow.windowSize.val`,
  i.e. no capacity is ever lost.  With `assignment_is_exact`, `partial_give_back_is_exact`,
  `C02.data_frame_within_windows` (`Charged`), the WINDOW_UPDATE / SETTINGS lemmas, what is missing is
  exactly one fact: a stream that `transition_after` releases holds no capacity.  The theorem below
  says that this is the *only* place where capacity can disappear.
-/
/-- **Capacity can get lost in one place only** (partial form of “nothing is ever lost”):
    `transition_after` keeps the total, except when it releases — removes from the slab — a closed,
    unreferenced stream that still holds capacity; then exactly that stream's capacity is gone. -/
theorem capacity_lost_only_by_release_partial {t : Streams} (hk : KeysOk t.store) (id : Nat) (b : Bool) :
    total (t.transitionAfter id b) = total t ∨
    ∃ st : Stream, st.key = id ∧ st.isClosed = true ∧ st.refCount = 0 ∧
      (∃ x ∈ t.store.slab, x.key = id ∧ x.sendFlow = st.sendFlow) ∧
      total (t.transitionAfter id b) = total t - st.sendFlow.available.val :=
  transitionAfter_total hk id b

example : KeysOk exState.store := ⟨by decide, by intro x hx; simp [exState] at hx; subst hx; decide⟩

end H2V.Props.C16

#print axioms H2V.Props.C16.reported_capacity_is_usable
#print axioms H2V.Props.C16.total_assigned_le_connection_window
#print axioms H2V.Props.C16.poll_capacity_never_zero
#print axioms H2V.Props.C16.poll_capacity_reports_current_capacity
#print axioms H2V.Props.C16.poll_capacity_pending_registers_waker
#print axioms H2V.Props.C16.capacity_growth_wakes_waiter
#print axioms H2V.Props.C16.reset_wakes_waiter
#print axioms H2V.Props.C16.unused_capacity_returns_exactly
#print axioms H2V.Props.C16.partial_give_back_is_exact
#print axioms H2V.Props.C16.reset_stream_holds_no_capacity
#print axioms H2V.Props.C16.peer_reset_stream_holds_no_capacity
#print axioms H2V.Props.C16.dropped_or_lowered_capacity_returns_exactly
#print axioms H2V.Props.C16.returned_capacity_reaches_waiting_streams
#print axioms H2V.Props.C16.requested_capacity_is_u32
#print axioms H2V.Props.C16.assignment_is_exact
#print axioms H2V.Props.C16.capacity_lost_only_by_release_partial
