import H2V.Lemmas.ConnPartPGaProp
/-
  C15 (cover) — a received GOAWAY fails EVERY locally initiated stream above its last-stream-id (and
  every stream still waiting to be opened), with the peer's reason, and touches NO other stream.
  Closes the gap left by `C15.recv_goaway_fails_stream_partial` (per selected stream only) and by
  `C07.goaway_received_resolves_streams_above_last_id` (resolved, but neither the reason nor the
  frame, nor the streams in `pending_open`).
  Property theorems only; lemmas: `H2V/Lemmas/ConnPartPGa*.lean`, notes: `H2V/Lemmas/ConnPartPNOTES.md`.

  Vocabulary.  `s.recvGoAwayFrame last reason debug` = `Inner::recv_go_away` (streams.rs):
  `Send::recv_go_away(last)`, then `store.for_each(|stream| if (stream.id > last ||
  stream.is_pending_open) && peer.is_local_init(stream.id) { counts.transition(stream, |..| {
  recv.handle_error(&err, stream); send.handle_error(buffer, stream, counts) }) })`, then
  `conn_error = Some(err)`, with `err = Error::remote_go_away(debug, reason)`.
  `Good s`: the store invariant of ConnWakeP (slab keys below `next_key`, the id map is a map whose
  entries name slab entries with that id) — holds in every reachable state (`store_invariant_holds`).
  `s.store.ids`: the id map `(stream id, key)`; `s.store.get? k`: the slab entry with key `k`.
  `newWakes s s'`: the waker tags woken between `s` and `s'`.  `SlotStep w x y`: the waker slot `y` is
  the slot `x`, or is empty and the tag that was parked in `x` is in `w` (woken).
  `failState err a`: `a.state.handle_error(err)`, except for a stream in `pending_open` whose implicit
  reset was scheduled (then: a plain library reset); characterised by `failed_state_carries_peer_reason`.
-/
set_option autoImplicit false
namespace H2V.Props.C15Cover
open H2V H2V.Model H2V.Model.Conn H2V.Lemmas.ConnWakeP H2V.Lemmas.ConnPartP

/-- **`for_each` coverage, the failed half.**  In every reachable state (`Good s`), after an accepted
    GOAWAY(last, reason, debug) EVERY stream the id map knows that is locally initiated and has
    `id > last` — or is still waiting in `pending_open`, whatever its id — is either released (removed
    from the slab: it was closed and unreferenced) or: its state is `failState(remote GOAWAY(debug,
    reason))`, its send queue is empty, nothing is buffered or requested, all four waker slots are empty
    and every tag that was parked on it has been woken; its id, handle count, receive queue, receive
    windows and `is_pending_open` flag are what they were.  (`Store::for_each` really reaches every entry
    although `transition_after` swap-removes the visited one, and an earlier visit never changes a
    later stream's state, id or `is_pending_open`.) -/
theorem goaway_fails_every_stream_above_cutoff (s s' : Streams) (h : Good s) (last : Nat) (reason : Reason)
    (debug : Bytes) (hok : s.recvGoAwayFrame last reason debug = (s', .ok ())) :
    ∀ e ∈ s.store.ids, ∀ a, s.store.get? e.2 = some a →
      s.counts.isLocalInit a.id = true → (a.id > last ∨ a.isPendingOpen = true) →
      s'.store.get? e.2 = none ∨
      ∃ b, s'.store.get? e.2 = some b ∧
        b.state = failState (PErr.remoteGoAway debug reason) a ∧
        b.pendingSend = [] ∧ b.bufferedSendData = 0 ∧ b.requestedSendCapacity = 0 ∧
        b.sendTask = none ∧ b.openTask = none ∧ b.recvTask = none ∧ b.pushTask = none ∧
        (∀ t, (a.sendTask = some t ∨ a.openTask = some t ∨ a.recvTask = some t ∨ a.pushTask = some t) →
          t ∈ newWakes s s') ∧
        b.id = a.id ∧ b.refCount = a.refCount ∧ b.pendingRecv = a.pendingRecv ∧ b.recvFlow = a.recvFlow ∧
        b.inFlightRecvData = a.inFlightRecvData ∧ b.isPendingOpen = a.isPendingOpen :=
  recvGoAwayFrame_fails_all s s' h last reason debug hok

/-- **… with the peer's reason and debug data.**  `failState`: a stream that was not closed ends as
    `Closed(Error(GoAway(debug, reason, Remote)))` — `Closed(ErrorAfterEndStream(..))` when the peer had
    already ended it, so that the complete response is still delivered —; a stream that was closed
    keeps its state (its earlier cause wins), except that a stream still in `pending_open` whose implicit
    reset was only scheduled (all handles dropped before it was opened) becomes a plain library reset
    with the scheduled reason: no RST_STREAM is owed on a stream that was never opened. -/
theorem failed_state_carries_peer_reason (a : Stream) (debug : Bytes) (reason : Reason) :
    (a.state.isClosed = false →
      (failState (PErr.remoteGoAway debug reason) a).inner =
        .closed (if a.state.isRecvEndStream then .errorAfterEndStream (.goAway debug reason .remote)
                 else .error (.goAway debug reason .remote))) ∧
    (a.state.isClosed = true →
      failState (PErr.remoteGoAway debug reason) a = a.state ∨
      (a.isPendingOpen = true ∧ ∃ r, a.state.getScheduledReset = some r ∧
        failState (PErr.remoteGoAway debug reason) a = { inner := .closed (.error (.reset a.id r .library)) })) :=
  failState_remoteGoAway a debug reason

/-- **`for_each` coverage, the untouched half (frame).**  After an accepted GOAWAY(last, …) no slab
    entry appears, and EVERY other slab entry — peer-initiated, or at or below `last` and not in
    `pending_open`; linked in the id map or not — is still there and is the entry it was, up to the six
    fields that the hand-out of the connection capacity freed by the failed streams
    (`reclaim_all_capacity → assign_connection_capacity`) may write on a stream that waits for
    capacity: `send_flow.available`, `send_task`/`open_task` (unchanged, or taken and woken),
    `send_capacity_inc` (never cleared), `is_pending_send_capacity`, `is_pending_send`.  In particular
    its state, queued frames, received events, handle count, windows, content-length bookkeeping and
    `is_counted` are untouched, and if the id map pointed to it, it still does (frames of the peer for
    it are still routed to it): streams at or below the cut-off run on. -/
theorem goaway_leaves_other_streams_untouched (s s' : Streams) (h : Good s) (last : Nat) (reason : Reason)
    (debug : Bytes) (hok : s.recvGoAwayFrame last reason debug = (s', .ok ())) :
    (∀ k, s.store.get? k = none → s'.store.get? k = none) ∧
    ∀ k a, s.store.get? k = some a →
      ¬ (s.counts.isLocalInit a.id = true ∧ (a.id > last ∨ a.isPendingOpen = true)) →
      ∃ b, s'.store.get? k = some b ∧
        b = { a with sendFlow := { a.sendFlow with available := b.sendFlow.available },
                     sendTask := b.sendTask, openTask := b.openTask, sendCapacityInc := b.sendCapacityInc,
                     isPendingSendCapacity := b.isPendingSendCapacity, isPendingSend := b.isPendingSend } ∧
        SlotStep (newWakes s s') a.sendTask b.sendTask ∧ SlotStep (newWakes s s') a.openTask b.openTask ∧
        (a.sendCapacityInc = true → b.sendCapacityInc = true) ∧
        (∀ e ∈ s.store.ids, e.2 = k → e ∈ s'.store.ids) :=
  recvGoAwayFrame_keeps_others s s' h last reason debug hok

/-- **the same coverage for `Inner::handle_error(err)`** — what runs when WE send the GOAWAY of a fatal
    error (`handle_go_away`), on an I/O error and on `abrupt_shutdown`: `conn_error = err`; no entry appears;
    EVERY stream the id map knows — whoever initiated it, whatever its id — is released, or ends with state
    `failState err` (`Closed(Error(err))`, `ErrorAfterEndStream` when the peer had ended it; a closed stream
    keeps its cause), send queue empty, nothing buffered or requested, nobody parked and everybody that was
    parked woken, everything else as before (`Failed`, spelled out by `goaway_fails_every_stream_above_cutoff`);
    every slab entry the id map does NOT know (unlinked earlier, kept by a handle) is not visited: it is the
    same entry up to the six capacity-assignment fields (`Unt`). -/
theorem handle_error_fails_every_linked_stream (s : Streams) (h : Good s) (err : PErr) :
    (s.handleError err).1.actions.connError = some err ∧
    (∀ k, s.store.get? k = none → (s.handleError err).1.store.get? k = none) ∧
    (∀ e ∈ s.store.ids, ∀ a, s.store.get? e.2 = some a →
      (s.handleError err).1.store.get? e.2 = none ∨
      ∃ b, (s.handleError err).1.store.get? e.2 = some b ∧
        b.state = failState err a ∧ b.pendingSend = [] ∧ b.bufferedSendData = 0 ∧ b.requestedSendCapacity = 0 ∧
        b.sendTask = none ∧ b.openTask = none ∧ b.recvTask = none ∧ b.pushTask = none ∧
        (∀ t, (a.sendTask = some t ∨ a.openTask = some t ∨ a.recvTask = some t ∨ a.pushTask = some t) →
          t ∈ newWakes s (s.handleError err).1) ∧
        b.id = a.id ∧ b.refCount = a.refCount ∧ b.pendingRecv = a.pendingRecv ∧ b.recvFlow = a.recvFlow ∧
        b.inFlightRecvData = a.inFlightRecvData ∧ b.isPendingOpen = a.isPendingOpen) ∧
    (∀ k a, s.store.get? k = some a → (∀ e ∈ s.store.ids, e.2 ≠ k) →
      ∃ b, (s.handleError err).1.store.get? k = some b ∧
        b = { a with sendFlow := { a.sendFlow with available := b.sendFlow.available },
                     sendTask := b.sendTask, openTask := b.openTask, sendCapacityInc := b.sendCapacityInc,
                     isPendingSendCapacity := b.isPendingSendCapacity, isPendingSend := b.isPendingSend }) := by
  obtain ⟨h1, h2, h3, h4⟩ := handleError_cover s h err
  refine ⟨h1, h2, fun e he a ha => ?_, fun k a ha hnl => ?_⟩
  · rcases h3 e he a ha with hn | ⟨b, hb, hf, hw⟩
    · exact Or.inl hn
    · exact Or.inr ⟨b, hb, hf.spelled hw⟩
  · obtain ⟨b, hb, hu⟩ := h4 k a ha hnl
    exact ⟨b, hb, hu.eq⟩

/-- non-vacuity: `handle_error(library GOAWAY PROTOCOL_ERROR)` on `Demo.d5` fails all three streams (the wake
    order shows the `swap_remove` walk: entry 0 is unlinked, the last entry — stream 5, waiter `q` — takes its
    place and is visited next, then stream 3, waiter `s1`) -/
example : ((Demo.d5.handleError (PErr.libraryGoAway PROTOCOL_ERROR)).1.stream 0).state =
      { inner := .closed (.error (.goAway [] PROTOCOL_ERROR .library)) } ∧
    ((Demo.d5.handleError (PErr.libraryGoAway PROTOCOL_ERROR)).1.stream 2).state =
      { inner := .closed (.error (.goAway [] PROTOCOL_ERROR .library)) } ∧
    (Demo.d5.handleError (PErr.libraryGoAway PROTOCOL_ERROR)).1.store.ids = [] ∧
    (Demo.d5.handleError (PErr.libraryGoAway PROTOCOL_ERROR)).1.wakes = ["q", "s1"] := by decide +kernel

/-- **the hypothesis `Good s` is no restriction**: it holds in every state reachable from the initial
    state of either role through the operations of the stream layer (ConnWakeP's `Reachable`) -/
theorem store_invariant_holds (s : Streams) (h : Reachable s) : Good s := reachable_good h

/-
  Non-vacuity.  `Demo.d5`: a client (default builder) whose peer allows 2 concurrent streams; three
  requests were made through `send_request`: streams 1 and 3 (keys 0, 1) are open, stream 5 (key 2)
  waits in `pending_open`; the body sender of stream 3 is parked for capacity (`s1`), the request
  future of stream 5 for its slot (`q`).  Everything below is evaluated by the kernel (`decide`).
-/
open Demo in
example : Good d5 ∧ d5.store.ids = [(1, 0), (3, 1), (5, 2)] ∧ d5.counts.isLocalInit 3 = true ∧
    (d5.stream 1).sendTask = some "s1" ∧ (d5.stream 2).openTask = some "q" ∧ (d5.stream 2).isPendingOpen = true ∧
    (d5.stream 0).state.isClosed = false ∧ (d5.stream 1).state.isClosed = false :=
  ⟨d5_good, by decide +kernel⟩

/-- GOAWAY(last = 1, NO_ERROR, debug [7]): stream 1 untouched, streams 3 and 5 failed with the peer's
    GOAWAY and unlinked, both waiters woken -/
example : (Demo.d5.recvGoAwayFrame 1 0 [7]).2 = .ok () ∧
    (Demo.d5.recvGoAwayFrame 1 0 [7]).1.store.ids = [(1, 0)] ∧
    ((Demo.d5.recvGoAwayFrame 1 0 [7]).1.stream 0).state = (Demo.d5.stream 0).state ∧
    ((Demo.d5.recvGoAwayFrame 1 0 [7]).1.stream 1).state = { inner := .closed (.error (.goAway [7] 0 .remote)) } ∧
    ((Demo.d5.recvGoAwayFrame 1 0 [7]).1.stream 2).state = { inner := .closed (.error (.goAway [7] 0 .remote)) } ∧
    (Demo.d5.recvGoAwayFrame 1 0 [7]).1.wakes = ["s1", "q"] := by decide +kernel

/-- GOAWAY(last = 2^31-1, …) — the first GOAWAY of a graceful shutdown: streams 1 and 3 run on
    (stream 3 keeps its parked waiter), stream 5, not yet opened, is failed although 5 ≤ last -/
example : (Demo.d5.recvGoAwayFrame 2147483647 0 [7]).2 = .ok () ∧
    (Demo.d5.recvGoAwayFrame 2147483647 0 [7]).1.store.ids = [(1, 0), (3, 1)] ∧
    ((Demo.d5.recvGoAwayFrame 2147483647 0 [7]).1.stream 1).state = (Demo.d5.stream 1).state ∧
    ((Demo.d5.recvGoAwayFrame 2147483647 0 [7]).1.stream 1).sendTask = some "s1" ∧
    ((Demo.d5.recvGoAwayFrame 2147483647 0 [7]).1.stream 2).state = { inner := .closed (.error (.goAway [7] 0 .remote)) } ∧
    (Demo.d5.recvGoAwayFrame 2147483647 0 [7]).1.wakes = ["q"] := by decide +kernel

end H2V.Props.C15Cover

#print axioms H2V.Props.C15Cover.goaway_fails_every_stream_above_cutoff
#print axioms H2V.Props.C15Cover.failed_state_carries_peer_reason
#print axioms H2V.Props.C15Cover.goaway_leaves_other_streams_untouched
#print axioms H2V.Props.C15Cover.handle_error_fails_every_linked_stream
#print axioms H2V.Props.C15Cover.store_invariant_holds
