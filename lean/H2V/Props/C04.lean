import H2V.Lemmas.ConnResetPHist
import H2V.Lemmas.ConnResetPLife
/-
  C04 — every frame sequence an endpoint emits obeys the HTTP/2 stream life cycle.
  PROPERTY THEOREMS ONLY (proofs: H2V/Lemmas/ConnResetP*.lean, State machine vs RFC:
  H2V/Lemmas/CompState.lean; partial results and the finding: H2V/Lemmas/ConnResetPNOTES.md).
  `Op` / `run`: a history = any list of the operations the connection and the handles perform on the
  stream layer (H2V/Lemmas/ConnResetPHist.lean).
-/
namespace H2V.Props.C04
open H2V H2V.Model H2V.Model.Conn H2V.Lemmas.ConnResetP

/-- **Identifiers: `next`, then `next + 2`, never wrapped.**  `Send::open` hands out the current
    `next_stream_id` and moves it two further — to `Err(overflow)` once it would pass 2^31-1. -/
theorem stream_id_handed_out (s : Streams) (id : Nat) (h : s.actions.send.nextStreamId = some id) :
    s.sendOpenId.2 = .ok id ∧
    s.sendOpenId.1.actions.send.nextStreamId = (if id + 2 > 2147483647 then none else some (id + 2)) :=
  sendOpenId_ok s id h

example : ({} : Streams).actions.send.nextStreamId = some 1 := rfl

/-- **Consecutive identifiers are strictly increasing with the same parity and stay ≤ 2^31-1.** -/
theorem stream_ids_increase (s : Streams) (id id' : Nat) (h : s.sendOpenId.2 = .ok id)
    (h' : s.sendOpenId.1.sendOpenId.2 = .ok id') : id' = id + 2 ∧ id' ≤ 2147483647 :=
  sendOpenId_twice s id id' h h'

example : ({} : Streams).sendOpenId.2 = .ok 1 ∧ ({} : Streams).sendOpenId.1.sendOpenId.2 = .ok 3 := by decide

/-- **When identifiers run out, new requests are refused, not wrapped** (`UserError::OverflowedStreamId`),
    and the state is untouched. -/
theorem request_refused_when_ids_exhausted (s : Streams) (isHead : Bool) (f : List Hpack.Field) (eos : Bool) (p : Option Nat)
    (hc : s.actions.connError = none) (h : s.actions.send.nextStreamId = none) :
    s.sendRequest isHead f eos p = (s, .error (.user .overflowedStreamId)) :=
  sendRequest_overflow s isHead f eos p hc h

/-- the last identifier 2^31-1 is handed out, then the field is `Err` -/
example : let s : Streams := { actions := { send := { nextStreamId := some 2147483647 } } }
    s.sendOpenId.2 = .ok 2147483647 ∧ s.sendOpenId.1.actions.send.nextStreamId = none := by decide

/-- **A stream never returns to idle.**  In every history, a slab entry whose state has left `Idle`
    stays out of `Idle` (so a frame queued after the state moved is never written "on an idle stream"). -/
theorem never_back_to_idle (s : Streams) (hs : s.store.slab = []) (ops ops' : List Op) (k : Nat) (st st' : Stream)
    (h : (run s ops).store.get? k = some st) (h' : (run (run s ops) ops').store.get? k = some st')
    (hi : st.state.isIdle = false) : st'.state.isIdle = false :=
  (run_srel (run s ops) ops' (run_keysBelow s ops (keysBelow_empty s hs)) h h').nonIdle hi

example : ((run {} [.sendRequest false [] false none]).store.get? 0).map (·.state.isIdle) = some false := by decide

/-- **A closed stream stays closed** in every history (no frame type reopens it). -/
theorem closed_stays_closed (s : Streams) (hs : s.store.slab = []) (ops ops' : List Op) (k : Nat) (st st' : Stream)
    (h : (run s ops).store.get? k = some st) (h' : (run (run s ops) ops').store.get? k = some st')
    (hc : st.state.isClosed = true) : st'.state.isClosed = true :=
  (run_srel (run s ops) ops' (run_keysBelow s ops (keysBelow_empty s hs)) h h').closed hc

example : ((run {} [.sendRequest false [] false none, .refSendReset 0 8]).store.get? 0).map (·.state.isClosed) = some true := by
  decide

/-- **DATA after END_STREAM / RST_STREAM / before HEADERS is refused**: `send_data` needs our side to be
    streaming; otherwise it fails and changes nothing (nothing is queued). -/
theorem data_needs_send_streaming (s : Streams) (k len : Nat) (eos : Bool) (h : (s.stream k).state.isSendStreaming = false) :
    (s.prioSendData k len eos).1 = s ∧ ∃ e, (s.prioSendData k len eos).2 = .error e :=
  prioSendData_not_streaming s k len eos h

/-- **Trailers likewise.** -/
theorem trailers_need_send_streaming (s : Streams) (k : Nat) (f : List Hpack.Field)
    (h : (s.stream k).state.isSendStreaming = false) :
    (s.sendTrailers k f).1 = s ∧ ∃ e, (s.sendTrailers k f).2 = .error e :=
  sendTrailers_not_streaming s k f h

/-- **HEADERS where RFC 9113 §5.1 forbids sending HEADERS are refused** (`Spec.Lifecycle.step … (sendH eos) = none`:
    half-closed (local), closed, reserved (remote)): the call fails, nothing is queued. -/
theorem headers_refused_where_rfc_forbids (s : Streams) (k : Nat) (eos : Bool) (f : List Hpack.Field)
    (h : Spec.Lifecycle.step (H2V.Lemmas.Comp.phase (s.stream k).state) (.sendH eos) = none) :
    (s.sendHeaders k eos f).1 = s ∧ ∃ e, (s.sendHeaders k eos f).2 = .error e :=
  sendHeaders_refused s k eos f h

/-- **1xx HEADERS after the final response / END_STREAM / reset are refused.** -/
theorem informational_refused_after_response (s : Streams) (k : Nat) (f : List Hpack.Field)
    (h : ((s.stream k).state.isSendStreaming || (s.stream k).state.isSendClosed) = true) :
    (s.sendInterimInformationalHeaders k f).1 = s ∧ ∃ e, (s.sendInterimInformationalHeaders k f).2 = .error e :=
  sendInformational_refused s k f h

/-- **PUSH_PROMISE is only queued on a parent we may still send on** (finding F29 of this work, repaired:
    `Send::send_push_promise` used not to look at the parent's state and wrote PUSH_PROMISE after
    END_STREAM / RST_STREAM).  If `send_push_promise` succeeds, the parent is not send-closed; for a
    request stream (not idle, not a reserved (local) pushed stream) that is exactly RFC 9113 §6.6:
    the parent is open or half-closed (remote) — `Spec.Lifecycle.canSend`. -/
theorem push_promise_only_on_sendable_parent (s : Streams) (parent k promised : Nat) (f : List Hpack.Field)
    (h : (s.sendPushPromise parent k promised f).2 = .ok ())
    (hi : H2V.Lemmas.Comp.phase (s.stream parent).state ≠ .idle)
    (hr : H2V.Lemmas.Comp.phase (s.stream parent).state ≠ .reservedLocal) :
    (s.stream parent).state.isSendClosed = false ∧
    Spec.Lifecycle.canSend (H2V.Lemmas.Comp.phase (s.stream parent).state) = true :=
  ⟨sendPushPromise_ok_parent s parent k promised f h,
   canSend_of_not_sendClosed _ (sendPushPromise_ok_parent s parent k promised f h) hi hr⟩

/-- **…and refused otherwise**: on a send-closed parent (END_STREAM sent or queued, reset, failed,
    half-closed (local)) `send_push_promise` fails and queues nothing. -/
theorem push_promise_refused_on_closed_parent (s : Streams) (parent k promised : Nat) (f : List Hpack.Field)
    (h : (s.stream parent).state.isSendClosed = true) :
    (s.sendPushPromise parent k promised f).1 = s ∧ ∃ e, (s.sendPushPromise parent k promised f).2 = .error e :=
  sendPushPromise_send_closed s parent k promised f h

/-- the stream layer of a server that has accepted one request on stream 1 (END_STREAM received, the
    application holds the `SendResponse`): what `recv_headers` + `next_incoming` leave behind -/
def serverWithRequest : Streams :=
  { counts := { isServer := true, numRecvStreams := 1 },
    actions := { send := { nextStreamId := some 2 }, recv := { nextStreamId := some 3, lastProcessedId := 1 } },
    store := { slab := [{ key := 0, id := 1, state := ⟨.halfClosedRemote .awaitingHeaders⟩, refCount := 1, isCounted := true,
                          sendFlow := (FlowControl.new.incWindow 65535).1,
                          recvFlow := ((FlowControl.new.incWindow 65535).1.assignCapacity 65535).1 }],
               ids := [(1, 0)], nextKey := 1 },
    refs := 2 }

/-- non-vacuity of both: before the response a push is accepted and comes out of `pop_frame` on stream 1;
    after the response with END_STREAM (the history that used to put `PP:1:2` on the closed stream 1) the
    push is refused and `pop_frame` has nothing to send -/
example :
    (match (Streams.popFrame 4 (serverWithRequest.refSendPushPromise 0 true []).1 16384).2 with
     | some (.pushPromise 1 2 _) => true
     | _ => false) = true ∧
    (let s := run serverWithRequest [.refSendResponse 0 [] true, .pollComplete 10 {} {} "c"]
     (s.stream 0).state.isSendClosed = true ∧ (s.refSendPushPromise 0 true []).2 = .error .inactiveStreamId ∧
     (match (Streams.popFrame 4 (s.refSendPushPromise 0 true []).1 16384).2 with
      | none => true
      | _ => false) = true) := by decide

end H2V.Props.C04

#print axioms H2V.Props.C04.stream_id_handed_out
#print axioms H2V.Props.C04.stream_ids_increase
#print axioms H2V.Props.C04.request_refused_when_ids_exhausted
#print axioms H2V.Props.C04.never_back_to_idle
#print axioms H2V.Props.C04.closed_stays_closed
#print axioms H2V.Props.C04.data_needs_send_streaming
#print axioms H2V.Props.C04.trailers_need_send_streaming
#print axioms H2V.Props.C04.headers_refused_where_rfc_forbids
#print axioms H2V.Props.C04.informational_refused_after_response
#print axioms H2V.Props.C04.push_promise_only_on_sendable_parent
#print axioms H2V.Props.C04.push_promise_refused_on_closed_parent
