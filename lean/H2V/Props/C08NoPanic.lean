import H2V.Lemmas.ConnNoPanicPReach
import H2V.Lemmas.ConnNoPanicPHist
import H2V.Lemmas.ConnNoPanicPAll
import H2V.Lemmas.ConnNoPanicPAll2
import H2V.Lemmas.ConnNoPanicPAll3
import H2V.Lemmas.ConnNoPanicPAll5
import H2V.Lemmas.ConnNoPanicPConnTop
import H2V.Lemmas.ConnNoPanicPFiWitness
import H2V.Lemmas.ConnNoPanicPDsOh
import H2V.Lemmas.ConnNoPanicPFuel
/-
  C08 — no peer input (and no use of the documented API) can make an endpoint panic.
  PROPERTY THEOREMS ONLY; proofs in H2V/Lemmas/ConnNoPanicP*.lean, status and the site-by-site
  classification of every `assert!` / `unwrap` / `expect` / `unreachable!` in
  H2V/Lemmas/ConnNoPanicPNOTES.md.

  THE GENERAL THEOREMS are at the end of the file: `no_panic_in_any_reachable_connection_partial` (every reachable `Conn`:
  `panicked = none`, or one of the model's own out-of-fuel markers) and, at the stream layer,
  `no_panic_stream_layer_with_write_path_partial`; before them the per-function theorems and the stages
  (`Reach` → handles → invariants of the other families → no-push class → accept path → write path → connection).

  The model records the first `assert!`/`expect`/`unwrap` of the real code that would have fired, and
  the first use of a dangling `store::Key` (`store.resolve(key)` panics), in `Streams.panicked`.
  A theorem "`….panicked = none`" therefore says: none of these sites fired during the call.

  `NPQ s` ("good state"): no panic so far; slab keys pairwise distinct and below `next_key`; the
  `pending_capacity` queue holds exactly the live slab entries whose `is_pending_send_capacity` flag
  is set, each once (so the key that `assign_connection_capacity` pops — deep inside almost every
  function of prioritize.rs/send.rs — resolves); every stream's assigned send capacity is an `i32`.
  `Live s k`: the slab has an entry with key `k`.
  The first three parts of `NPQ` are proved for every reachable un-panicked state by the ConnCountsP
  family (`H2V.Props.C19.queues_hold_no_stale_keys`, `bookkeeping_returns_to_idle`); the last is what
  `i32` arithmetic gives (`FlowControl` only stores results of `checked_add`/`checked_sub`).
-/
namespace H2V.Props.C08NoPanic
open H2V H2V.Model H2V.Model.Conn H2V.Lemmas.ConnNoPanicP

/-- **`StreamRef::send_data` cannot panic.**  From a good state, with a live stream key, the body of
    `Prioritize::send_data` (buffer accounting, `try_assign_capacity`, `State::send_close` on END_STREAM,
    `reserve_capacity(0)` → `assign_connection_capacity`, `queue_frame`/`schedule_send`) reaches none of its
    panic sites — in particular `panic!("send_close: unexpected state")` is dead code (the state was checked
    to be send-streaming and nothing in between touches it), and every key popped from `pending_capacity`
    resolves — and it leaves a good state behind.  All arguments arbitrary. -/
theorem send_data_cannot_panic {s : Streams} (h : NPQ s) {k : Nat} (hk : Live s k) (len : Nat) (eos : Bool) :
    (s.prioSendData k len eos).1.panicked = none ∧ NPQ (s.prioSendData k len eos).1 :=
  (prioSendData_lt s k len eos).run1 h hk

/-- non-vacuity: an open stream with a handle; END_STREAM data is accepted and the stream is send-closed -/
example : NPQ wS ∧ Live wS 0 ∧ (wS.prioSendData 0 10 true).2 = .ok () ∧
    ((wS.prioSendData 0 10 true).1.stream 0).state.isSendClosed = true := ⟨wS_npq, wS_live, by decide, by decide⟩

/-- **`SendStream::send_trailers` cannot panic** (same `send_close` site, same reason). -/
theorem send_trailers_cannot_panic {s : Streams} (h : NPQ s) {k : Nat} (hk : Live s k) (f : List Hpack.Field) :
    (s.sendTrailers k f).1.panicked = none ∧ NPQ (s.sendTrailers k f).1 :=
  (sendTrailers_lt s k f).run1 h hk

example : NPQ wS ∧ Live wS 0 ∧ (wS.sendTrailers 0 []).2 = .ok () := ⟨wS_npq, wS_live, by decide⟩

/-- **`Send::send_reset` cannot panic** (user reset, library reset, reset after a stream error): `set_reset`,
    the `pending_open` special case, `clear_queue`, `queue_frame(RST_STREAM)`, `reclaim_all_capacity` →
    `assign_connection_capacity` use only live keys. -/
theorem send_reset_cannot_panic {s : Streams} (h : NPQ s) {k : Nat} (hk : Live s k) (r : Reason) (i : Initiator) :
    (s.sendSendReset k r i).panicked = none ∧ NPQ (s.sendSendReset k r i) :=
  (sendSendReset_lt s k r i).run1 h hk

example : NPQ wS ∧ Live wS 0 ∧ ((wS.sendSendReset 0 CANCEL .user).stream 0).pendingSend = [.reset CANCEL] :=
  ⟨wS_npq, wS_live, by decide⟩

/-- **`reserve_capacity` / `poll_capacity` / `poll_reset` cannot panic.** -/
theorem capacity_calls_cannot_panic {s : Streams} (h : NPQ s) {k : Nat} (hk : Live s k) (cap : Nat) (tag : String)
    (m : PollReset) :
    (s.refReserveCapacity k cap).panicked = none ∧ (s.pollCapacity k tag).1.panicked = none ∧
    (s.pollReset k m tag).1.panicked = none :=
  ⟨((refReserveCapacity_lt s k cap).run1 h hk).1, ((pollCapacity_lt s k tag).run1 h hk).1,
   ((pollReset_lt s k m tag).run1 h hk).1⟩

example : NPQ wS ∧ Live wS 0 ∧ ((wS.refReserveCapacity 0 100).stream 0).requestedSendCapacity = 100 :=
  ⟨wS_npq, wS_live, by decide⟩

/-- **The implicit reset of a dropped stream cannot panic**: `maybe_cancel` → `schedule_implicit_reset` →
    `reclaim_reserved_capacity`, whose `expect("window size should be greater than reserved")` is dead:
    the reserved amount `available − buffered` (computed in `u32`) is positive and at most `available`,
    which is an `i32`, so `claim_capacity` cannot leave the `i32` range. -/
theorem implicit_reset_cannot_panic {s : Streams} (h : NPQ s) {k : Nat} (hk : Live s k) :
    (s.maybeCancel k).panicked = none ∧ NPQ (s.maybeCancel k) :=
  (maybeCancel_lt s k).run1 h hk

/-- non-vacuity: the last handle of an open stream is gone → CANCEL scheduled -/
example : let s := wS.modStream 0 fun st => { st with refCount := 0 }
    ((s.maybeCancel 0).stream 0).state.getScheduledReset = some CANCEL := by decide

/-- **`Recv::recv_headers` cannot panic — the counting asserts of `inc_num_recv_streams` included**
    (positive statement for finding F31: before the repair a server that promised more streams than the
    client's `max_concurrent_streams` and then opened them made the client panic in
    `assert!(self.can_inc_num_recv_streams())`; `recv_headers` now refuses the stream when the limit
    is reached).  For every HEADERS frame, every live stream, every good state: neither
    `assert!(self.can_inc_num_recv_streams())` nor `assert!(!stream.is_counted)` fires — both are
    tested by `recv_headers` itself right before the call and nothing in between touches the counters. -/
theorem recv_headers_cannot_panic {s : Streams} (h : NPQ s) {k : Nat} (hk : Live s k) (hd : HeadersIn) :
    (s.recvRecvHeaders k hd).1.panicked = none ∧ NPQ (s.recvRecvHeaders k hd).1 :=
  (recvRecvHeaders_lt s k hd).run1 h hk

/-- non-vacuity, on the F31 witness shape: a reserved (promised) stream while the receive limit is reached:
    the response HEADERS is refused with a stream error instead of counted -/
example : let x : Stream := { key := 0, id := 2, state := { inner := .reservedRemote } }
    let s : Streams := { counts := { maxRecvStreams := 1, numRecvStreams := 1 }, store := { slab := [x], ids := [(2, 0)], nextKey := 1 } }
    (s.recvRecvHeaders 0 { sid := 2, eos := false, status := some [50, 48, 48] }).1.panicked = none ∧
    (s.recvRecvHeaders 0 { sid := 2, eos := false, status := some [50, 48, 48] }).1.counts.numRecvStreams = 1 := by decide

/-- **`Recv::recv_data` cannot panic** for a frame whose flow-controlled length is a legal frame length
    (`≤ MAX_WINDOW_SIZE`; a frame is at most 2^24 octets): the two `FlowControl::send_data` asserts
    (`window_size >= sz`) are dead — `recv_data` / `consume_connection_window` test `window_size() < sz`
    first and nothing in between touches the window. -/
theorem recv_data_cannot_panic {s : Streams} (h : NPQ s) {k : Nat} (hk : Live s k) (payload : Bytes) (eos : Bool)
    (pad : Option Nat)
    (hlen : payload.length + (match pad with | some p => p + 1 | none => 0) ≤ Generated.Consts.MAX_WINDOW_SIZE) :
    (s.recvRecvData k payload eos pad).1.panicked = none ∧ NPQ (s.recvRecvData k payload eos pad).1 :=
  (recvRecvData_lt s k payload eos pad hlen).run1 h hk

/-- non-vacuity: DATA on an open stream with receive window -/
example : let fl : FlowControl := { windowSize := { val := 65535 }, available := { val := 65535 } }
    let x : Stream := { key := 0, id := 1, state := { inner := .open .streaming .streaming }, recvFlow := fl }
    let s : Streams := { actions := { recv := { flow := fl } }, store := { slab := [x], ids := [(1, 0)], nextKey := 1 } }
    ((s.recvRecvData 0 [1, 2, 3] false none).1.stream 0).pendingRecv = [.data [1, 2, 3] true] := by decide

/-- the `assert!` inside `FlowControl::send_data` is dead behind the caller's window check, for every
    window and every size (all of `u32`, including sizes with the top bit set) -/
theorem window_assert_dead_behind_check (f : FlowControl) (sz : Nat) (h : ¬ f.windowSz < sz) :
    (f.sendData sz).2 ≠ .error .assertFailed :=
  sendData_no_assert' f sz h

example : ¬ ({ windowSize := { val := 10 }, available := { val := 10 } } : FlowControl).windowSz < 10 := by decide

/-- **RST_STREAM from the peer, errors, EOF on one stream cannot panic**: `Recv::recv_reset` (the
    `inc_num_remote_reset_streams` assert is guarded by its own `can_inc` test), `Recv::handle_error`,
    `Recv::recv_eof`, `Send::handle_error`, `Recv::enqueue_reset_expiration` (guarded likewise). -/
theorem stream_teardown_cannot_panic {s : Streams} (h : NPQ s) {k : Nat} (hk : Live s k) (r : Reason) (e : PErr) :
    (s.recvRecvReset k r).1.panicked = none ∧ (s.recvHandleError k e).panicked = none ∧
    (s.recvRecvEof k).panicked = none ∧ (s.sendHandleError k).panicked = none ∧
    (s.enqueueResetExpiration k).panicked = none :=
  ⟨((recvRecvReset_lt s k r).run1 h hk).1, ((recvHandleError_lt s k e).run1 h hk).1, ((recvRecvEof_lt s k).run1 h hk).1,
   ((sendHandleError_lt s k).run1 h hk).1, ((enqueueResetExpiration_lt s k).run1 h hk).1⟩

example : NPQ wS ∧ Live wS 0 ∧ ((wS.recvRecvReset 0 CANCEL).1.stream 0).state.isClosed = true := ⟨wS_npq, wS_live, by decide⟩

/-- **A stream error answered with RST_STREAM cannot panic** (`Actions::reset_on_recv_stream_err`): the
    `inc_num_local_error_resets` assert is guarded by `can_inc_num_local_error_resets`, the reset itself is
    `send_reset_cannot_panic`. -/
theorem stream_error_reset_cannot_panic {s : Streams} (h : NPQ s) {k : Nat} (hk : Live s k) (res : Except PErr Unit) :
    (s.resetOnRecvStreamErr k res).1.panicked = none ∧ NPQ (s.resetOnRecvStreamErr k res).1 :=
  (resetOnRecvStreamErr_ltw s k res).run1 h hk

example : NPQ wS ∧ Live wS 0 ∧
    ((wS.resetOnRecvStreamErr 0 (.error (.reset 1 PROTOCOL_ERROR .library))).1.stream 0).pendingSend = [.reset PROTOCOL_ERROR] :=
  ⟨wS_npq, wS_live, by decide⟩

/-- **WINDOW_UPDATE cannot panic**: connection level (`assign_connection_capacity` pops only live keys and
    its `transition` never releases a stream) and stream level (including the FLOW_CONTROL_ERROR reset). -/
theorem window_update_cannot_panic {s : Streams} (h : NPQ s) {k : Nat} (hk : Live s k) (inc : Nat) :
    (s.recvConnectionWindowUpdate inc).1.panicked = none ∧ (s.sendRecvStreamWindowUpdate k inc).1.panicked = none :=
  ⟨((recvConnectionWindowUpdate_lt s inc).run0 h).1, ((sendRecvStreamWindowUpdate_lt s k inc).run1 h hk).1⟩

example : NPQ wS ∧ Live wS 0 ∧ ((wS.sendRecvStreamWindowUpdate 0 5).1.stream 0).sendFlow.windowSize.val = 65540 :=
  ⟨wS_npq, wS_live, by decide⟩

/-- **The receive-side handle calls cannot panic**: `poll_data`, `poll_trailers`, `poll_informational`,
    `release_capacity`, `clear_recv_buffer` (`Drop for RecvStream`). -/
theorem recv_handles_cannot_panic {s : Streams} (h : NPQ s) {k : Nat} (hk : Live s k) (tag : String) (cap : Nat) :
    (s.refPollData k tag).1.panicked = none ∧ (s.recvPollTrailers k tag).1.panicked = none ∧
    (s.recvPollInformational k tag).1.panicked = none ∧ (s.refReleaseCapacity k cap).1.panicked = none ∧
    (s.refClearRecvBuffer k).panicked = none :=
  ⟨((refPollData_lt s k tag).run1 h hk).1, ((recvPollTrailers_lt s k tag).run1 h hk).1,
   ((recvPollInformational_lt s k tag).run1 h hk).1, ((refReleaseCapacity_lt s k cap).run1 h hk).1,
   ((refClearRecvBuffer_lt s k).run1 h hk).1⟩

example : NPQ wS ∧ Live wS 0 ∧ (wS.refPollData 0 "b").1.panicked = none := ⟨wS_npq, wS_live, by decide⟩


/-- **No panic in any reachable state of the stream layer** (partial: the operations listed below; full
    statement wanted: every operation of `Connection::poll` and of every handle).
    `Reach s`: `s` is obtained from a blank stream layer (empty store, zero counters, any configuration, either role) by any
    finite sequence, in any order and with arbitrary arguments, of: the frame entry points `recv_headers`, `recv_data`,
    `recv_reset`, `recv_window_update`, `Inner::send_reset` (stream errors found by `poll`), `Recv::go_away`; the connection events
    `handle_error` (connection error), `recv_go_away` (GOAWAY frame), `recv_eof`, `apply_remote_settings`,
    `apply_local_settings`, `clear_expired_reset_streams`; and the
    handle calls `send_request`, `poll_ready`, clone/drop of `SendRequest`, clone and drop of a stream handle,
    `send_response`, `send_informational`, `send_data`, `send_trailers`, `send_reset`, `reserve_capacity`,
    `poll_capacity`, `poll_reset`, `poll_data`, `poll_trailers`, `poll_informational`, `release_capacity`,
    `Drop for RecvStream`.  Preconditions of the steps (`Step`): a handle call names a live slab entry (a handle keeps its
    stream alive: `H2V.Props.C08.referenced_stream_is_never_released`), `drop` needs `ref_count > 0` and no promised
    streams left on the stream (`dropPPP`), a DATA frame has a legal length, `recv_headers` is not called while a refusal is
    pending (`Connection::poll` sends it first), `Recv::go_away` is called with an id below `max_stream_id`
    (`H2V.Props.C15.goaway_invariant_in_every_reachable_state`), and the next stream id is not yet in the id map.
    Hypothesis `ErrOK s`: fewer than `max_local_error_reset_streams` (default 1024) library-initiated resets so far —
    inherited from `H2V.Props.C05.slots_are_accounted_per_direction`, needed for the two per-direction asserts of
    `dec_num_streams`.
    Conclusion: NONE of the panic sites of the stream layer has fired: no `assert!` of counts.rs (`inc_num_*`,
    `dec_num_streams`, the reset counters), no `FlowControl::send_data` assert on the receive side, no
    `send_close: unexpected state`, no `expect("window size should be greater than reserved")`,
    no `assert!(stream.state.is_closed())`, no "Initiator::User should not error", no `Store::insert` assert, and no
    dangling `store::Key` (`store.resolve` / `Index<Key>` panics) — whether the key came from a handle, from
    `find_mut(id)`, or from the `pending_capacity` queue.
    `recv_eof(true)` (only when the connection is dropped) additionally assumes `AccOK` (`pending_accept` holds live, flagged,
    pairwise distinct keys).
    NOT covered yet (see ConnNoPanicPNOTES.md): `poll_complete` (`pop_frame`, `reclaim_frame`), PUSH_PROMISE,
    `next_incoming`/`take_request`, `poll_response`, `set_target_window_size`. -/
theorem no_panic_in_any_reachable_state_partial {s : Streams} (h : Reach s) (he : H2V.Lemmas.ConnCountsP.ErrOK s) :
    s.panicked = none :=
  (reach_npi h he).np

/-- non-vacuity: request sent, response head and DATA received, DATA sent, stream reset by the user -/
example : Reach wR5 ∧ H2V.Lemmas.ConnCountsP.ErrOK wR5 ∧ (wR5.stream 0).state.isClosed = true :=
  ⟨wR5_reach, wR5_facts.1, wR5_facts.2.1⟩

/-- **No panic in any history that respects the handle discipline** (partial in the same sense as the previous
    theorem: same operations).  `HReach s H`: a history of operations (ConnResetP's `Op`: every call the connection and the
    handles make on the stream layer, arbitrary arguments, any order) starting from a blank stream layer, where `H` is the
    multiset of stream handles the application holds: `send_request` adds the key it returns, `clone` adds, `drop`
    removes, and a handle call is only made through a handle in `H`.  This replaces the hypotheses "the key is live" and
    "`ref_count > 0`" of the previous theorem by what the API guarantees.  Conclusion: no panic site has fired —
    in particular `assert!(self.ref_count > 0)` in `drop_stream_ref` and every `store.resolve(key)` behind a handle —
    and every handle in `H` names a live slab entry whose `ref_count` is at least the number of handles held on it
    (`HOK`).  Remaining preconditions per operation: `opPre` (see the previous theorem). -/
theorem no_panic_under_handle_discipline_partial {s : Streams} {H : List Nat} (h : HReach s H)
    (he : H2V.Lemmas.ConnCountsP.ErrOK s) : s.panicked = none ∧ HOK s H :=
  ⟨(hreach_npi h he).1.np, (hreach_npi h he).2⟩

/-- non-vacuity: request, response head, DATA in, DATA out, handle cloned, both handles dropped, EOF: everything released -/
example : HReach (H2V.Lemmas.ConnResetP.run wBlank wOps) [] ∧ H2V.Lemmas.ConnCountsP.ErrOK (H2V.Lemmas.ConnResetP.run wBlank wOps) ∧
    (H2V.Lemmas.ConnResetP.run wBlank wOps).store.slab.length = 0 :=
  ⟨wOps_hreach, wOps_facts.1, wOps_facts.2.2⟩

/-- **No panic, 35 operations, fewer preconditions** (partial; supersedes the two theorems above where it applies).
    `AReach s H`: as `HReach`, starting from the stream layer of a new connection (`Init2`: empty store, both connection
    windows 65 535), with three more operations (`set_target_window_size`, the server's `push_request`, and
    `send_request` WITHOUT the precondition "next stream id not in the id map") and with the bounds the frame decoder
    guarantees as argument preconditions (WINDOW_UPDATE increment and SETTINGS_INITIAL_WINDOW_SIZE ≤ 2^31-1:
    `H2V.Props.C02.decoder_delivers_31_bit_values`).  Conclusion `Good s H`: no panic site has fired; the handles are
    accounted (`HOK`); every locally initiated slab entry has an id below `next_stream_id` (`IBS` — this is what makes
    `assert!(self.ids.insert(id, index).is_none())` of `Store::insert` dead in `send_request` and `push_request`);
    ConnRecvP's connection-level receive-window invariant (which makes `Window::checked_size`'s "negative Window" assert
    dead in `set_target_window_size`) and ConnFlowP's send-side `SafeInv` hold. -/
theorem no_panic_35_operations_partial {s : Streams} {H : List Nat} (h : AReach s H)
    (he : H2V.Lemmas.ConnCountsP.ErrOK s) : s.panicked = none ∧ Good s H :=
  ⟨(areach_good h he).npi.np, areach_good h he⟩

/-- non-vacuity: request, response head, DATA both ways, connection window raised, clone, two drops, EOF -/
example : AReach (H2V.Lemmas.ConnResetP.run wInit wOps2) [] ∧ H2V.Lemmas.ConnCountsP.ErrOK (H2V.Lemmas.ConnResetP.run wInit wOps2) ∧
    (H2V.Lemmas.ConnResetP.run wInit wOps2).store.slab.length = 0 :=
  ⟨wOps2_areach, wOps2_facts.1, wOps2_facts.2⟩

/-- **No panic on a connection without server push, 37 operations** (partial: five operations are still missing, see
    NOTES).  `BReach s H`: as `AReach`, for a connection that never accepts a PUSH_PROMISE (`NoPush`: every server, and every
    client that announced SETTINGS_ENABLE_PUSH = 0 — nobody writes `recv.is_push_enabled` after the constructor).  There every
    `pending_push_promises` list stays empty (`NoPPP`), so (a) dropping a handle needs NO hypothesis any more (the
    `dropPPP s k = []` of the theorems above is discharged), and (b) a PUSH_PROMISE frame from the peer, with any
    arguments, is answered by a connection error and leaves the stream layer literally unchanged. -/
theorem no_panic_without_server_push_partial {s : Streams} {H : List Nat} (h : BReach s H)
    (he : H2V.Lemmas.ConnCountsP.ErrOK s) : s.panicked = none ∧ Good3 s H :=
  ⟨(breach_good h he).good.npi.np, breach_good h he⟩

/-- non-vacuity: request, a PUSH_PROMISE (refused), response head, DATA, clone, two drops, EOF: everything released -/
example : BReach (H2V.Lemmas.ConnResetP.run wInit3 wOps3) [] ∧ H2V.Lemmas.ConnCountsP.ErrOK (H2V.Lemmas.ConnResetP.run wInit3 wOps3) ∧
    (H2V.Lemmas.ConnResetP.run wInit3 wOps3).store.slab.length = 0 :=
  ⟨wOps3_breach, wOps3_facts.1, wOps3_facts.2⟩

/-- **`poll_pushed` cannot panic there** (`.expect("Headers not set on pushed stream")`, the site added with repair F32):
    through any held handle it finds nothing to take, keeps the invariant and never hands out a new handle. -/
theorem poll_pushed_cannot_panic_without_push {s : Streams} {H : List Nat} (h : BReach s H)
    (he : H2V.Lemmas.ConnCountsP.ErrOK s) {k : Nat} (hk : k ∈ H) (t : String) :
    (s.refPollPushed k t).1.panicked = none ∧ NPI (fun _ => False) (s.refPollPushed k t).1 ∧
    ∀ c m u f, (s.refPollPushed k t).2 ≠ .pushed c m u f :=
  ⟨(refPollPushed_good3 (breach_good h he) hk t).1, (refPollPushed_good3 (breach_good h he) hk t).2.1,
   (refPollPushed_good3 (breach_good h he) hk t).2.2.2.2⟩

/-- non-vacuity: after `send_request` the application holds the handle with key 0 -/
example : BReach (H2V.Lemmas.ConnResetP.run wInit3 [.sendRequest false [] false none]) [0] ∧
    H2V.Lemmas.ConnCountsP.ErrOK (H2V.Lemmas.ConnResetP.run wInit3 [.sendRequest false [] false none]) ∧ 0 ∈ [0] :=
  ⟨wOps3a_breach, wOps3a_facts, List.mem_singleton.mpr rfl⟩

/-- **No panic on a connection without server push, 40 operations** (partial: `poll_complete`, `send_pending_refusal` and
    `poll_response` are still missing here, see NOTES).  `NReach s H`: as `BReach`, with the server accept path
    (`next_incoming` — it adds the handle it returns to `H` —, `take_request`), `clearWakes`, and `recv_eof(true)` WITHOUT
    hypothesis.  New in the invariant (`Good4`): `J` (ConnNoPanicPAcc*) — every stream queued in `pending_accept` has no handle yet,
    its receive queue starts with the request head, and the number of queued streams the peer has reset is at most
    `num_remote_reset_streams` (so `assert!(self.num_remote_reset_streams > 0)` of `dec_num_remote_reset_streams` is dead in
    `next_incoming`) — and ConnRecvP's stream-level receive-window invariant `JF`.  Preconditions that are new:
    `take_request k` needs the request head still in place (`ReqHead`; `nreach_accept`: it is, right after `next_incoming`,
    which is the only way server.rs calls it); `handle_error` is not called with `Error::Reset(_, _, Remote)` (connection.rs
    never does; see the counterexample below); an acknowledged local SETTINGS frame could be applied (answer `Ok`). -/
theorem no_panic_without_server_push_40_partial {s : Streams} {H : List Nat} (h : NReach s H)
    (he : H2V.Lemmas.ConnCountsP.ErrOK s) : s.panicked = none ∧ Good4 s H :=
  ⟨(nreach_good h he).g3.good.npi.np, nreach_good h he⟩

/-- non-vacuity: a server receives `GET /`, accepts it (`next_incoming`, `take_request`), answers with END_STREAM, drops the
    handle, EOF with `clear_pending_accept` -/
example : NReach (H2V.Lemmas.ConnResetP.run wInitS wOpsS) [] ∧ H2V.Lemmas.ConnCountsP.ErrOK (H2V.Lemmas.ConnResetP.run wInitS wOpsS) ∧
    (H2V.Lemmas.ConnResetP.run wInitS wOpsS).panicked = none :=
  ⟨wOpsS_nreach, wOpsS_facts.1, wOpsS_facts.2⟩

/-- **The server accept path cannot panic**: in every such state `next_incoming` keeps the invariant, and when it returns a
    stream, `take_request` on it finds the request head (`unreachable!("server stream queue must start with Headers")` is dead). -/
theorem server_accept_path_cannot_panic {s : Streams} {H : List Nat} (h : NReach s H)
    (he : H2V.Lemmas.ConnCountsP.ErrOK s) :
    s.nextIncoming.1.panicked = none ∧
    ∀ k, s.nextIncoming.2 = some k → ((s.nextIncoming.1).recvTakeRequest k).1.panicked = none ∧
      ((s.nextIncoming.1).recvTakeRequest k).2.isSome = true :=
  nreach_accept_path h he

/-- non-vacuity: after the request has arrived (a reachable state) `next_incoming` returns key 0 -/
example : NReach (H2V.Lemmas.ConnResetP.run wInitS [.recvHeaders cxReq]) [] ∧
    H2V.Lemmas.ConnCountsP.ErrOK (H2V.Lemmas.ConnResetP.run wInitS [.recvHeaders cxReq]) ∧
    (H2V.Lemmas.ConnResetP.run wInitS [.recvHeaders cxReq]).nextIncoming.2 = some 0 :=
  ⟨wOpsS1_nreach, wOpsS1_facts.1, wOpsS1_facts.2⟩

/-- **Model-only observation** (not a defect of h2; recorded as the precondition `NotRR` above): with an arbitrary error
    argument, `Streams::handle_error(Error::Reset(1, NO_ERROR, Initiator::Remote))` marks a queued stream "reset by the
    peer" without counting it, and the next `next_incoming` fires `assert!(self.num_remote_reset_streams > 0)`.
    connection.rs passes only GOAWAY / I/O / user errors to `handle_error` (ConnNoPanicPConn* proves this for the model's
    `ConnProto`: `ConnP`), and with a GOAWAY error the same history is fine. -/
theorem handle_error_with_remote_reset_counterexample :
    (H2V.Lemmas.ConnResetP.run cxInit cxOps).panicked = some "assertion failed: self.num_remote_reset_streams > 0" ∧
    (H2V.Lemmas.ConnResetP.run cxInit [.recvHeaders cxReq, .handleError (.goAway [] 0 .remote), .nextIncoming]).panicked = none :=
  handleError_remoteReset_counterexample

/-- **No panic in the stream layer but the model's own fuel markers — all operations, with the write path, NO residual
    hypothesis** (partial only in the class: no accepted server push, no `push_request`).
    `WReach NoPushReq RT s w H T`: histories of (stream layer `s`, the codec's writer `w`, handles held `H`, response futures
    that have not returned yet `T`) from the stream layer of a new connection and an empty writer: every constructor of
    ConnResetP's `Op` outside the write path except `push_request` (arbitrary arguments, any order; `opPre5`),
    `Streams::poll_complete` and `send_pending_refusal` run against the CURRENT writer (any fuel, any transport state), the
    connection's own writer steps (`WStep`: control frames, `poll_ready`, `flush`, `shutdown`, the two peer settings), and
    the two fuel markers of the connection model.  Conclusion: either no panic site has fired and the invariant bundle
    `GoodW` holds, or the recorded message is one of the model's four out-of-fuel markers (`FuelAll`; the Rust loops have no
    fuel; a recorded message is never overwritten: `op_sticky`).  So every `assert!`/`expect`/`unwrap`/`unreachable!`/
    dangling-key site of streams.rs, recv.rs, send.rs, prioritize.rs, counts.rs, store.rs and flow_control.rs that the model
    records is dead — including `pop_frame`'s two `FlowControl::send_data` asserts, `reclaim_frame`,
    `assert!(!stream.is_counted)` of `inc_num_send_streams`, `.expect("unexpected flow control state")`, and
    "poll_response called after response returned".
    Preconditions (`opPre5`; all are argument / API-discipline conditions except `refused`, `max_stream_id`, `ReqHead`,
    which the connection layer / the accept path guarantee: next theorems):
    * frames: `s.recv.refused = none` at HEADERS (the connection sends the refusal first), `max_stream_id ≥ id` at
      `Recv::go_away` (ConnCtlP), DATA length ≤ 2^31-1, WINDOW_UPDATE increment and SETTINGS_INITIAL_WINDOW_SIZE ≤ 2^31-1
      (decoder), `handle_error` not with `Reset(_, _, Remote)`, an acknowledged local SETTINGS frame answers `Ok`;
    * handles: a call only through a held handle (`opKey3`); `take_request` while the request head is in place and not on
      a client stream awaiting its response; `poll_response` only until it has returned the response (`T`);
      `send_informational` only on the handle of a PEER-initiated stream (the type `SendResponse`; counterexamples
      below); `send_data` with `buffered + len < 2^64`; `set_target_window_size ≤ 2^31-1`;
    * `ErrOK s`: the quota of library-initiated resets is not exhausted (NOTES §5).
    The invariant includes `OXs` (a locally initiated entry whose send half is unopened carries nothing; a stream
    waiting in `pending_open` is never scheduled and its front frame is not DATA, or it is closed without DATA — what
    `Send::send_reset`'s pending_open branch needs) and `NoPPQ` (no PUSH_PROMISE frame is queued). -/
theorem no_panic_stream_layer_with_write_path_partial {s : Streams} {w : Writer} {H T : List Nat}
    (h : WReach NoPushReq RT s w H T) (he : H2V.Lemmas.ConnCountsP.ErrOK s) :
    (s.panicked = none ∧ GoodW (fun s => OXs s ∧ NoPPQ s) s w H T) ∨ ∃ m, s.panicked = some m ∧ FuelAll m :=
  wreach_final h he

/-- non-vacuity: a client sends a request, `poll_complete` writes it, the response arrives, the response future returns it, the
    handle is dropped, `poll_complete`, EOF: nothing panicked, everything released -/
example : WReach NoPushReq RT wS5 wP2.2.1 [] [] ∧ H2V.Lemmas.ConnCountsP.ErrOK wS5 ∧ wS5.panicked = none ∧ wS5.store.slab.length = 0 :=
  ⟨wS5_wreach, wS5_facts.1, wS5_facts.2.1, wS5_facts.2.2⟩

/-- **The same with `push_request`** (server push used by the application): one residual STATE hypothesis — `OXs` in the
    state after each `poll_complete` (only there; `WReach AllOps OXs`).  `OXs` is proved invariant for every operation
    (`push_request` included) except `poll_complete` when PUSH_PROMISE frames are queued: open is `ppActivate` →
    `queue_open` on the entry that `Inner::send_reset` re-creates for a forgotten promised id when the send-stream limit is
    reached (NOTES §5).  Typing precondition in addition: `push_request` only on the handle of a peer-initiated stream. -/
theorem no_panic_stream_layer_with_push_request_partial {s : Streams} {w : Writer} {H T : List Nat}
    (h : WReach AllOps OXs s w H T) (he : H2V.Lemmas.ConnCountsP.ErrOK s) :
    (s.panicked = none ∧ GoodW OXs s w H T) ∨ ∃ m, s.panicked = some m ∧ FuelAll m :=
  wreach_residual h he

/-- non-vacuity: the relation contains the initial states (its other constructors are those of the previous theorem, with a
    promise after `poll_complete`) -/
example : WReach AllOps OXs wInit3 {} [] [] := .init wInit3_init2 wInit3_nopush rfl rfl

/-- **Model-only observation** (typing precondition `fiPre`; not reachable through h2's public API): informational
    headers sent through the handle of a PUSHED stream (`SendPushedResponse` has no `send_informational`) let the promised
    stream be counted when its PUSH_PROMISE is written and again queued in `pending_open` by `send_response`; the next
    `poll_complete` fires `assert!(!stream.is_counted)`. -/
theorem informational_on_pushed_handle_counterexample :
    (H2V.Lemmas.ConnResetP.run fiS0 (fiOps.take 7)).panicked = none ∧
    ((H2V.Lemmas.ConnResetP.run fiS0 (fiOps.take 7)).stream 1).isCounted = true ∧
    ((H2V.Lemmas.ConnResetP.run fiS0 (fiOps.take 7)).stream 1).isPendingOpen = true ∧
    (H2V.Lemmas.ConnResetP.run fiS0 fiOps).panicked = some "assertion failed: !stream.is_counted" :=
  fi_untyped_counterexample

/-- **Model-only observation** (same typing violation): afterwards a pushed stream can wait in `pending_open` with
    `pending_send = [DATA(10), RST_STREAM]` and `buffered_send_data = 0` — `OH` and the accounting invariant `DSum` fail
    (in the Rust the next `pop_frame` would underflow `buffered_send_data` in a debug build). -/
theorem pending_open_with_data_front_counterexample :
    (H2V.Lemmas.ConnResetP.run ohInit ohOps).panicked = none ∧ ¬ DSum (H2V.Lemmas.ConnResetP.run ohInit ohOps) :=
  ⟨oh_counterexample.1, oh_counterexample_not_dsum⟩

/-- **The connection layer adds no panic and calls the stream layer only within its preconditions**: in every
    reachable connection `CReach A c H T` — a new client (`Conn.init`, ENABLE_PUSH = 0) or server (`Conn.initServer`)
    connection with a legal configuration (`CfgOK`: max_frame_size ≤ 2^24-1, `CwsOK`: connection window ≤ 2^31-1, both
    asserted by the real builder; SETTINGS_INITIAL_WINDOW_SIZE left at its default), then any sequence of: `poll`
    (`protoPoll` / the client's `clientPoll`, any fuel), `set_target_window_size`, graceful and abrupt shutdown, the PING
    handle, every handle call of the application (`isHandleOp`, preconditions `opPre5`, restriction `A`), dropping the
    `Connection` object (`recv_eof(true)`; the handles live on), and the environment (transport input/output state, waker,
    wake-ups) — the connection invariant `ConnOK` holds (ConnCtlP's GOAWAY
    invariant, the shutdown-PING invariant, the decoder bounds: under it none of the SEVEN `Conn.panic` asserts of ConnProto
    can fire — ConnNoPanicPConn*), and the stream layer together with the codec's writer is in a state of the final stream-layer
    relation `WReach` with NO residual promise (`RT`): whatever octets the peer sends, every call the connection makes on
    the stream layer satisfies the preconditions of the stream-layer theorem (`refused = none` at HEADERS, `max_stream_id ≥ id`,
    frame bounds from the decoder, `handle_error` only with GOAWAY / I/O errors, …), and `poll_complete` always runs
    against the connection's own writer. -/
theorem reachable_connection_is_a_stream_layer_history {A : H2V.Lemmas.ConnResetP.Op → Prop} (hA : ∀ s o, ConnP' s o → A o) {c : Conn} {H T : List Nat}
    (h : CReach A c H T) : ConnOK c ∧ WReach A RT c.streams c.codec.w H T :=
  ⟨(creach_wreach hA h).1, (creach_wreach hA h).2.2⟩

/-- non-vacuity: a new client connection, polled, a request sent through `SendRequest`, polled again: one stream, no panic;
    and the connection layer itself never calls `push_request` -/
example : (∃ H T, CReach NoPushReq wC3 H T) ∧ H2V.Lemmas.ConnCountsP.ErrOK wC3.streams ∧ wC3.streams.panicked = none ∧
    wC3.streams.store.slab.length = 1 ∧ (∀ s o, ConnP' s o → NoPushReq o) :=
  ⟨wC3_creach, wC3_facts.1, wC3_facts.2.1, wC3_facts.2.2, connP'_noPushReq⟩

/-- **NO ENDPOINT PANIC IN ANY REACHABLE CONNECTION** (the general theorem of C08; partial only in the class of
    connections): for every connection reachable as in the previous theorem whose application does not call `push_request`
    (`NoPushReq`: every client; every server that does not use server push) — whatever the peer sends, however the
    transport chops reads and writes, whatever (API-conforming) calls the application makes in whatever order — either
    nothing has panicked: none of the connection layer's asserts, no `assert!` / `expect` / `unwrap` / `unreachable!` /
    dangling `store::Key` of the stream layer, and all invariants hold (`ConnOK`, `GoodW`); or the recorded message is one
    of the MODEL's out-of-fuel markers (`FuelAll`: the model's loops carry fuel, the Rust loops do not).
    No open lemma, no residual state hypothesis.  Class restrictions: the endpoint does not accept server push (servers;
    clients with ENABLE_PUSH = 0), does not call `push_request`, leaves SETTINGS_INITIAL_WINDOW_SIZE at its default and does
    not call `set_initial_window_size`; `ErrOK`: the quota of library-initiated resets (default 1024) is not exhausted. -/
theorem no_panic_in_any_reachable_connection_partial {c : Conn} {H T : List Nat} (h : CReach NoPushReq c H T)
    (he : H2V.Lemmas.ConnCountsP.ErrOK c.streams) :
    (c.streams.panicked = none ∧ ConnOK c ∧ GoodW (fun s => OXs s ∧ NoPPQ s) c.streams c.codec.w H T) ∨
    ∃ m, c.streams.panicked = some m ∧ FuelAll m :=
  creach_good_final h he

/-- non-vacuity: the witness connection of the previous example is in the class -/
example : (∃ H T, CReach NoPushReq wC3 H T) ∧ H2V.Lemmas.ConnCountsP.ErrOK wC3.streams := ⟨wC3_creach, wC3_facts.1⟩

/-- **The same for servers that use `push_request`, modulo ONE open lemma** (partial, CONDITIONAL).
    `PcOX`: "`Streams::poll_complete` keeps `OXs`" (in a good, un-panicked state; every other operation is proved to keep
    it, and `poll_complete` itself when no PUSH_PROMISE frame is queued — NOTES §5). -/
-- (`PcOX` is the open lemma and has no proof yet; non-vacuity of `CReach AllOps c H T`: its constructors are those of `CReach NoPushReq`)
theorem no_panic_in_any_reachable_connection_modulo_poll_complete_partial (hpc : PcOX) {c : Conn} {H T : List Nat}
    (h : CReach AllOps c H T) (he : H2V.Lemmas.ConnCountsP.ErrOK c.streams) :
    (c.streams.panicked = none ∧ ConnOK c ∧ GoodW OXs c.streams c.codec.w H T) ∨
    ∃ m, c.streams.panicked = some m ∧ FuelAll m :=
  creach_good_pc hpc h he

/-- **The invariant behind it, in every reachable state**: besides `panicked = none`, (a) `find_mut(id)` hands out
    only keys that resolve, to an entry with that stream id, and the id map is a map (`IdsOK`); (b) the good-state
    conditions `NPQ` that the per-function theorems above assume. -/
theorem id_map_keys_resolve_everywhere {s : Streams} (h : Reach s) (he : H2V.Lemmas.ConnCountsP.ErrOK s) :
    NPQ s ∧ (∀ id k, s.store.findKey? id = some k → Live s k ∧ (s.stream k).id = id) ∧
    (s.store.ids.map (·.1)).Nodup :=
  let n := reach_npi h he
  ⟨n.npq, fun _ _ hf => n.ids.findKey hf, n.ids.nodup⟩

example : Reach wR5 ∧ wR5.store.findKey? 1 = some 0 := ⟨wR5_reach, by decide⟩

/-- **Every covered operation is panic-free from any state satisfying the invariant** (not only from reachable ones:
    the invariant `NPI` is inductive).  `he'`: the quota hypothesis on the state after the call. -/
theorem covered_operations_keep_the_invariant {s s' : Streams} (h : Step s s') (hn : NPI (fun _ => False) s)
    (he' : H2V.Lemmas.ConnCountsP.ErrOK s') : NPI (fun _ => False) s' ∧ s'.panicked = none :=
  ⟨h.npi hn he', (h.npi hn he').np⟩

example : NPI (fun _ => False) wBlank ∧ Step wBlank (wBlank.sendRequest false [] false none).1 :=
  ⟨blank_npi wBlank_blank rfl (fun q => by cases q <;> rfl), .sendRequest _ false [] false none (by intro id h; cases h; rfl)⟩

/-- **The asserts of `Counts::transition_after` / `dec_num_streams` cannot fire** wherever the counting invariants
    hold (`NPI`, e.g. every reachable state) and the transition is the closing half of `counts.transition`
    (`b` = "was pending reset expiration before", so `b → reset_at` still set): `num_local_reset_streams > 0`,
    `stream.is_counted`, `num_send_streams > 0`, `num_recv_streams > 0`; and the result satisfies the invariant
    again (the released entry is unlinked from the id map before it leaves the slab, so no `find_mut` key dangles). -/
theorem transition_after_asserts_hold {s : Streams} (hn : NPI (fun _ => False) s) (he : H2V.Lemmas.ConnCountsP.ErrOK s)
    (k : Nat) (b : Bool) (hb : b = true → (s.stream k).resetAt = true) :
    (s.transitionAfter k b).panicked = none ∧ NPI (fun _ => False) (s.transitionAfter k b) :=
  ⟨(transitionAfter_npi hn he k b hb).np, transitionAfter_npi hn he k b hb⟩

example : NPI (fun _ => False) wR5 ∧ H2V.Lemmas.ConnCountsP.ErrOK wR5 ∧ (wR5.stream 0).resetAt = true :=
  ⟨reach_npi wR5_reach wR5_facts.1, wR5_facts.1, by decide⟩

/-- **`assert!(stream.state.is_closed())` in `Inner::recv_reset` is dead, `StreamRef::send_reset` never takes its
    `panic!("Initiator::User should not error sending reset")` branch** — both as part of: RST_STREAM from the peer and
    a reset by the user keep the invariant from any state satisfying it. -/
theorem resets_keep_the_invariant {s : Streams} (hn : NPI (fun _ => False) s) (he : H2V.Lemmas.ConnCountsP.ErrOK s)
    (id : Nat) (r : Reason) {k : Nat} (hk : Live s k) :
    (s.recvReset id r).1.panicked = none ∧ (s.refSendReset k r).panicked = none :=
  ⟨(recvReset_npi hn id r he).np, (refSendReset_npi hn hk r he).np⟩

example : NPI (fun _ => False) wR4 ∧ Live wR4 0 :=
  ⟨reach_npi (by
      have r0 : Reach wBlank := .init wBlank_blank rfl (fun q => by cases q <;> rfl)
      have r1 : Reach wR1 := .step r0 (.sendRequest _ false [] false none (by intro id h; cases h; rfl))
      have r2 : Reach wR2 := .step r1 (.recvHeaders _ _ (by decide))
      have r3 : Reach wR3 := .step r2 (.recvData _ 1 [1, 2, 3] false none (by unfold FrameLenOK; decide))
      exact .step r3 (.refSendData _ 0 (live_of_isSome (by decide)) 10 false)) (by unfold H2V.Lemmas.ConnCountsP.ErrOK; decide),
   live_of_isSome (by decide)⟩

/-- **The remaining silent loops terminate** (complements `H2V.Props.C08.clear_queue_loops_terminate`): in the model every
    loop carries fuel; for `Store::try_for_each` (both variants: `handle_error`, `recv_go_away`, `recv_eof`, the two
    SETTINGS_INITIAL_WINDOW_SIZE walks) `len - i + 1` units suffice — each round moves the index forward or shortens the
    range — and for `Recv::send_stream_window_updates` `pending_window_updates.len() + 1`; with that much fuel the result no
    longer depends on the fuel.  The callers pass `2·len + 1` resp. `len + 1`. -/
theorem remaining_silent_loops_terminate :
    (∀ (f : Streams → Nat → Streams × Option PErr) (n m i len : Nat) (s : Streams), len - i < n → len - i < m →
      Streams.tryForEach f n i len s = Streams.tryForEach f m i len s) ∧
    (∀ (f : Nat → Streams → Nat → Streams × Nat × Option PErr) (n m i len acc : Nat) (s : Streams), len - i < n → len - i < m →
      Streams.tryForEachAcc f n i len acc s = Streams.tryForEachAcc f m i len acc s) ∧
    (∀ (n m : Nat) (s : Streams) (w : Writer), s.recv.pendingWindowUpdates.length < n → s.recv.pendingWindowUpdates.length < m →
      Streams.sendStreamWindowUpdates n s w = Streams.sendStreamWindowUpdates m s w) :=
  ⟨tryForEach_fuel, tryForEachAcc_fuel, sendStreamWindowUpdates_fuel⟩

/-- the fuel `Store::try_for_each` passes is on the safe side -/
example (s : Streams) : s.store.ids.length - 0 < 2 * s.store.ids.length + 1 := storeTryForEach_fuel_enough s

end H2V.Props.C08NoPanic

#print axioms H2V.Props.C08NoPanic.send_data_cannot_panic
#print axioms H2V.Props.C08NoPanic.send_trailers_cannot_panic
#print axioms H2V.Props.C08NoPanic.send_reset_cannot_panic
#print axioms H2V.Props.C08NoPanic.capacity_calls_cannot_panic
#print axioms H2V.Props.C08NoPanic.implicit_reset_cannot_panic
#print axioms H2V.Props.C08NoPanic.recv_headers_cannot_panic
#print axioms H2V.Props.C08NoPanic.recv_data_cannot_panic
#print axioms H2V.Props.C08NoPanic.window_assert_dead_behind_check
#print axioms H2V.Props.C08NoPanic.stream_teardown_cannot_panic
#print axioms H2V.Props.C08NoPanic.stream_error_reset_cannot_panic
#print axioms H2V.Props.C08NoPanic.window_update_cannot_panic
#print axioms H2V.Props.C08NoPanic.recv_handles_cannot_panic
#print axioms H2V.Props.C08NoPanic.no_panic_in_any_reachable_state_partial
#print axioms H2V.Props.C08NoPanic.id_map_keys_resolve_everywhere
#print axioms H2V.Props.C08NoPanic.covered_operations_keep_the_invariant
#print axioms H2V.Props.C08NoPanic.transition_after_asserts_hold
#print axioms H2V.Props.C08NoPanic.resets_keep_the_invariant
#print axioms H2V.Props.C08NoPanic.no_panic_under_handle_discipline_partial
#print axioms H2V.Props.C08NoPanic.no_panic_35_operations_partial
#print axioms H2V.Props.C08NoPanic.remaining_silent_loops_terminate
#print axioms H2V.Props.C08NoPanic.no_panic_without_server_push_partial
#print axioms H2V.Props.C08NoPanic.poll_pushed_cannot_panic_without_push
#print axioms H2V.Props.C08NoPanic.no_panic_without_server_push_40_partial
#print axioms H2V.Props.C08NoPanic.server_accept_path_cannot_panic
#print axioms H2V.Props.C08NoPanic.handle_error_with_remote_reset_counterexample
#print axioms H2V.Props.C08NoPanic.no_panic_stream_layer_with_write_path_partial
#print axioms H2V.Props.C08NoPanic.informational_on_pushed_handle_counterexample
#print axioms H2V.Props.C08NoPanic.pending_open_with_data_front_counterexample
#print axioms H2V.Props.C08NoPanic.reachable_connection_is_a_stream_layer_history
#print axioms H2V.Props.C08NoPanic.no_panic_in_any_reachable_connection_modulo_poll_complete_partial
#print axioms H2V.Props.C08NoPanic.no_panic_stream_layer_with_push_request_partial
#print axioms H2V.Props.C08NoPanic.no_panic_in_any_reachable_connection_partial
