import H2V.Lemmas.ConnFlowPMain
/-
  C02 — never sends more DATA than the peer's stream and connection windows allow.
  Property theorems only (lemmas: `H2V/Lemmas/ConnFlowP*.lean`; what is partial and why:
  `H2V/Lemmas/ConnFlowPNOTES.md`).

  Vocabulary (defined in the lemma files, about the model `H2V/Model/Conn*.lean`):
    * `Reach s`      — `s : Streams` is reachable from a new connection by any sequence of the stream-layer
                       API calls that the connection (`ConnProto.lean`) and the user handles
                       (`ConnDriver.lean`) make; WINDOW_UPDATE increments and SETTINGS_INITIAL_WINDOW_SIZE
                       are 31-bit values, which is what `decode_frame` delivers (`decoder_delivers_31_bit_values`);
    * `ReachH s g d` — the same with two ghost numbers: `g` = credit granted for the connection (65 535 +
                       accepted WINDOW_UPDATE increments on stream 0), `d` = DATA octets `pop_frame`
                       returned inside `poll_complete` so far;
    * `SafeInv s`    — the send-side safety invariant (`ConnFlowPInv.lean`); it holds in every reachable
                       state *and between any two model functions inside an API call*: every function of
                       `prioritize.rs`, `send.rs`, `recv.rs`, `streams.rs` preserves it;
    * `sumAv slab`   — Σ over the slab of `stream.send_flow.available` (capacity assigned to streams);
    * `WFr s s1`     — `s1` comes from `s` by steps that change no send window;
    * `Charged s1 s' k len` — from `s1` to `s'` exactly `len` octets were charged to the connection window
                       and to the window and the capacity of the stream with store key `k`, nothing else;
    * `PopRel s m r` — the specification of `pop_frame`: if `r` carries a DATA frame there is the state `s1`
                       (`WFr s s1`, `SafeInv s1`) where the chunk fits (`DataCut`) and from which it is
                       `Charged`; otherwise `WFr s r.1`;
    * `pollLog`      — the `pop_frame` calls `poll_complete` makes; `sentIn` their DATA octets.
-/
namespace H2V.Props.C02
open H2V H2V.Model H2V.Model.Conn H2V.Lemmas.ConnFlowP

/-- **Send ledger (safety direction), every reachable state.**  The capacity assigned to streams plus
    the capacity the connection still holds never exceeds the connection send window (= credit
    granted − DATA sent, see `sent_never_exceeds_granted`); no stream holds negative capacity; a
    stream that holds capacity holds at most its own send window — so a stream whose window a
    SETTINGS change made zero or negative holds nothing and gets nothing out; all windows stay in `i32`. -/
theorem send_ledger_safe {s : Streams} (h : Reach s) :
    sumAv s.store.slab + s.prio.flow.available.val ≤ s.prio.flow.windowSize.val ∧
    0 ≤ s.prio.flow.available.val ∧ s.prio.flow.windowSize.val ≤ 2147483647 ∧
    ∀ x ∈ s.store.slab,
      0 ≤ x.sendFlow.available.val ∧
      (0 < x.sendFlow.available.val → x.sendFlow.available.val ≤ x.sendFlow.windowSize.val) ∧
      -2147483648 ≤ x.sendFlow.windowSize.val ∧ x.sendFlow.windowSize.val ≤ 2147483647 :=
  ⟨by simpa using h.safe.ledger, h.safe.a0, h.safe.whi, fun x hx =>
    ⟨(h.safe.st x hx).av0, (h.safe.st x hx).avw, (h.safe.st x hx).wlo, (h.safe.st x hx).whi⟩⟩

/-- non-vacuity: a new connection's stream layer is reachable, for every builder configuration,
    client and server -/
theorem new_connection_is_reachable (g : Conn.Cfg) (ecp : Bool) (peerFirst : Bytes) :
    ReachH (Conn.init g).streams 65535 0 ∧ ReachH (Conn.initServer g ecp peerFirst).streams 65535 0 :=
  ⟨init_reachH g, initServer_reachH g ecp peerFirst⟩

/-- **History form, connection.**  Along every history: connection send window = credit granted −
    DATA octets handed to the codec, and `0 ≤ sent ≤ granted`: the flow-controlled octets written for
    the connection as a whole never exceed the credit the peer has granted so far (the initial
    65 535 plus the WINDOW_UPDATE increments actually received and accepted). -/
theorem sent_never_exceeds_granted {s : Streams} {g d : Int} (h : ReachH s g d) :
    s.prio.flow.windowSize.val = g - d ∧ 0 ≤ d ∧ d ≤ g ∧ Reach s :=
  history_ledger h

/-- **Every DATA frame fits the windows at the moment it is cut, and is charged exactly.**
    `pop_frame` is the only place where DATA leaves the stream layer.  If, from a state `s`
    satisfying the invariant, it returns a DATA frame of `len` octets for the stream with store key
    `fr.key`, there is the state `s1` at the moment the chunk was cut — reached from `s` without any
    window changing — in which `len ≤ max_len` (the peer's max frame size), `len ≤` the connection
    send window, `len ≤` the capacity assigned to the stream, and unless `len = 0`, `len ≤` the
    stream's send window; from `s1` to the result exactly `len` is charged to the connection window,
    the stream window and the stream's capacity, and nothing else changes. -/
theorem data_frame_within_windows {s s' : Streams} (h : SafeInv s) {fuel maxLen len : Nat} {eos : Bool}
    {fr : DataFrame} (hp : Streams.popFrame fuel s maxLen = (s', some (.data len eos fr))) :
    ∃ s1, WFr s s1 ∧ SafeInv s1 ∧
      len ≤ maxLen ∧
      (len : Int) ≤ s1.prio.flow.windowSize.val ∧
      (len : Int) ≤ (s1.stream fr.key).sendFlow.available.val ∧
      (0 < len → (len : Int) ≤ (s1.stream fr.key).sendFlow.windowSize.val) ∧
      s1.prio.flow.windowSize = s.prio.flow.windowSize ∧
      Charged s1 s' fr.key len :=
  data_frame_bounds h hp

/-- **While a window is zero or negative only zero-length DATA is sent against it.** -/
theorem only_empty_data_on_exhausted_window {s s' : Streams} (h : SafeInv s) {fuel maxLen len : Nat} {eos : Bool}
    {fr : DataFrame} (hp : Streams.popFrame fuel s maxLen = (s', some (.data len eos fr))) :
    ∃ s1, WFr s s1 ∧
      (s1.prio.flow.windowSize.val ≤ 0 → len = 0) ∧
      ((s1.stream fr.key).sendFlow.windowSize.val ≤ 0 → len = 0) :=
  empty_data_on_exhausted_window h hp

/-- **… for every DATA frame `poll_complete` writes, from every reachable state**: each `pop_frame`
    call it makes (`pollLog`) starts in a state satisfying the invariant and obeys `PopRel` (so the
    two theorems above apply to every frame), and these calls account for the *whole* change of the
    connection window — no DATA escapes the log. -/
theorem every_data_frame_of_poll_complete_fits {s : Streams} (h : Reach s) (fuel : Nat) (w : Writer) (io : Tio)
    (tag : String) :
    (∀ c ∈ pollLog fuel s w io tag, SafeInv c.pre ∧ PopRel c.pre c.maxLen c.out) ∧
    (Streams.pollComplete fuel s w io tag).1.prio.flow.windowSize.val =
      s.prio.flow.windowSize.val - sentIn (pollLog fuel s w io tag) :=
  poll_complete_frames h fuel w io tag

/-- at the moment a chunk is cut neither `FlowControl::send_data` call can fail: the `assert!`s
    (panics) and checked subtractions of `send_data` on the stream and on the connection hold -/
theorem flow_control_asserts_hold {s1 : Streams} (h : SafeInv s1) {k len maxLen : Nat} (hc : DataCut s1 k len maxLen) :
    ((s1.stream k).sendFlow.sendData len).2 = .ok () ∧
    ((s1.prio.flow.assignCapacity len).1.sendData len).2 = .ok () :=
  send_data_cannot_fail h hc

/-- **Windows move only when DATA goes out** (or WINDOW_UPDATE / SETTINGS come in): when `pop_frame`
    returns anything but DATA no send window changed; the capacity-moving functions of
    `prioritize.rs` change no window. -/
theorem windows_untouched_without_data {s : Streams} (h : SafeInv s) (fuel maxLen id n : Nat)
    (hne : ∀ len e fr, (Streams.popFrame fuel s maxLen).2 ≠ some (.data len e fr)) :
    WFr s (Streams.popFrame fuel s maxLen).1 ∧
    WFr s (s.tryAssignCapacity id) ∧ WFr s (s.assignConnectionCapacity n) ∧ WFr s (s.reserveCapacity id n) ∧
    WFr s (s.reclaimAllCapacity id) ∧ WFr s (s.reclaimReservedCapacity id) :=
  ⟨no_data_no_window_change h fuel maxLen hne,
   (WFr.refl s).tryAssignCapacity id, (WFr.refl s).assignConnectionCapacity n, (WFr.refl s).reserveCapacity id n,
   (WFr.refl s).reclaimAllCapacity id, (WFr.refl s).reclaimReservedCapacity id⟩

/-- the invariant survives the window events themselves, from any state satisfying it (in
    particular in the middle of an API call): all the DATA `poll_complete` writes, a WINDOW_UPDATE, a
    SETTINGS_INITIAL_WINDOW_SIZE change up or down (stream windows may go negative) -/
theorem invariant_preserved_by_the_window_events {s : Streams} (h : SafeInv s) :
    (∀ fuel w io tag, SafeInv (Streams.pollComplete fuel s w io tag).1) ∧
    (∀ id inc, inc ≤ 2147483647 → SafeInv (s.recvWindowUpdate id inc).1) ∧
    (∀ vals b, SettingsOk vals → SafeInv (s.applyRemoteSettings vals b).1) :=
  ⟨fun fuel w io tag => SafeInv.pollComplete fuel h w io tag,
   fun id inc hinc => ((Mv.refl false s).recvWindowUpdate id inc hinc).safe h,
   fun vals b hv => ((Mv.refl false s).applyRemoteSettings vals b hv).safe h⟩

/-- the two argument bounds `Reach` asks for are met by whatever the frame decoder yields: a
    WINDOW_UPDATE increment is below `2^31`, SETTINGS_INITIAL_WINDOW_SIZE at most `2^31 - 1`
    (`FrameOk`), for every frame `decode_frame` returns -/
theorem decoder_delivers_31_bit_values {r r' : CodecRead.Reader} {bytes : Bytes} {f : Frame.Frame}
    (h : CodecRead.decodeFrame r bytes = (r', .frame f)) : FrameOk f :=
  decodeFrame_ok h


/-- a concrete state: one open stream (key 0, id 1) with a 10-octet DATA frame queued, 10 octets of
    capacity assigned, stream window 100, connection window 65 535 of which 65 525 unassigned -/
def exState : Streams :=
  { store := { slab := [{ key := 0, id := 1, state := { inner := .open .streaming .streaming },
                          isPendingSend := true, sendFlow := ⟨⟨100⟩, ⟨10⟩⟩, requestedSendCapacity := 10,
                          bufferedSendData := 10, pendingSend := [.data 10 true] }],
               ids := [(1, 0)], nextKey := 1 },
    actions := { send := { prioritize := { pendingSend := [0], flow := ⟨⟨65535⟩, ⟨65525⟩⟩ } } } }

example : SafeInv exState := by
  refine ⟨Int.le_refl _, ⟨by decide, by intro x hx; simp [exState] at hx; subst hx; decide⟩, ?_, by decide, by decide, by decide⟩
  intro x hx
  simp [exState] at hx; subst hx
  exact ⟨by decide, by intro _; decide, by decide, by decide⟩

/-- `pop_frame` does return a DATA frame from it (hypothesis `hp` of the DATA theorems) -/
example : Streams.popFrame 4 exState 16384 =
    ((Streams.popFrame 4 exState 16384).1, some (.data 10 true { key := 0, sid := 1, rest := 0, eos := true })) := by
  rfl

/-- … and nothing from an empty one (hypothesis `hne`) -/
example : ∀ len e fr, (Streams.popFrame 4 ({} : Streams) 16384).2 ≠ some (.data len e fr) := by
  intro len e fr h; cases h

/-- a WINDOW_UPDATE frame that decodes (hypothesis of `decoder_delivers_31_bit_values`) -/
example : ∃ r' f, CodecRead.decodeFrame (CodecRead.Reader.new 16384) [0, 0, 4, 8, 0, 0, 0, 0, 0, 0x80, 0, 1, 0] =
    (r', .frame f) := ⟨_, _, rfl⟩

end H2V.Props.C02

#print axioms H2V.Props.C02.send_ledger_safe
#print axioms H2V.Props.C02.new_connection_is_reachable
#print axioms H2V.Props.C02.sent_never_exceeds_granted
#print axioms H2V.Props.C02.data_frame_within_windows
#print axioms H2V.Props.C02.only_empty_data_on_exhausted_window
#print axioms H2V.Props.C02.every_data_frame_of_poll_complete_fits
#print axioms H2V.Props.C02.flow_control_asserts_hold
#print axioms H2V.Props.C02.windows_untouched_without_data
#print axioms H2V.Props.C02.invariant_preserved_by_the_window_events
#print axioms H2V.Props.C02.decoder_delivers_31_bit_values
