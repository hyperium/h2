import H2V.Lemmas.ConnPartPLedger
/-
  C16 (cover) — "capacity a stream does not use returns to the connection": the send ledger
      Σ stream.available + conn.available = conn.window
  and the restriction of `C16.capacity_lost_only_by_release_partial` ("`transition_after` keeps the total,
  EXCEPT when it releases a closed, unreferenced stream that still holds capacity").
  Property theorems only; lemmas: `H2V/Lemmas/ConnPartPLedger.lean`, notes: `H2V/Lemmas/ConnPartPNOTES.md`.

  Result.  (1) The full statement — the ledger is exact in every state of ConnFlowP's `Reach` — is FALSE:
  `ledger_exact_counterexample`.  `Reach` is the stream-layer API with ARBITRARY `Writer` arguments for
  `poll_complete`; the witness calls it with three unrelated writers, which a connection (one codec) cannot do.
  It is NOT a defect of h2; it shows that the exception cannot be removed at this level of abstraction: the
  remainder of a DATA frame has to come back from the writer that took the chunk.
  (2) What a proof at the coupled level (`Conn`) has to supply is one state predicate, `Tight`; under it the
  exception is gone: `release_exact_under_tight_partial`; and the coupling itself is made precise:
  `pop_frame_runs_without_outstanding_remainder_partial`.

  Vocabulary (ConnFlowP): `Reach s`, `total s = Σ available + conn.available`, `KeysOk` (slab keys unique and
  below `next_key`: part of `SafeInv`, every reachable state).
-/
set_option autoImplicit false
namespace H2V.Props.C16Cover
open H2V H2V.Model H2V.Model.Conn H2V.Lemmas.ConnFlowP H2V.Lemmas.ConnPartP

/-- **the ledger is NOT exact in every `Reach` state** (finding about the abstraction, not about h2).
    `LedgerCex.a9` is reached by: `send_request` (stream 1), `poll_complete` (HEADERS written),
    `reserve_capacity(10000)`, `send_data(3000)`, `poll_complete` with a writer of max frame size 2000 on a
    blocked transport (2000 octets in the codec, a 1000-octet remainder in flight), drop of all handles
    (implicit CANCEL scheduled; the excess goes back, 1000 kept for the remainder), `poll_complete` with a
    FRESH writer (the remainder is not handed back; the stream's queue is empty, so RST_STREAM goes out and
    the stream is `Reset` with 1000 octets still "buffered" and its old request of 8000 still recorded),
    WINDOW_UPDATE(1, 1) (`try_assign_capacity` tops the stream up to 8000), `poll_complete` with a third
    writer that hands back a 1000-octet remainder (sent — after the RST_STREAM —, the stream is closed,
    unreferenced: released while holding 7000).  At the end the store is empty, no `assert!` has fired, and
    `Σ available + conn.available = 55 535` while the connection window is `62 535`: 7000 octets are gone
    for good. -/
theorem ledger_exact_counterexample :
    Reach LedgerCex.a9 ∧ LedgerCex.a9.store.slab = [] ∧ LedgerCex.a9.panicked = none ∧
    total LedgerCex.a9 = 55535 ∧ LedgerCex.a9.prio.flow.windowSize.val = 62535 :=
  ⟨LedgerCex.a9_reach, LedgerCex.a_run.2⟩

/-- the mechanism, step by step: the chunk in the codec (`in_flight_data_frame = DataFrame(0)`, 1000 octets
    still counted as buffered, own queue empty); after the drop 1000 octets of capacity are kept for them and
    the request of 8000 stays recorded; after the foreign `poll_complete` the stream is `Reset(CANCEL,
    Library)` with 1000 octets "buffered" and the marker still set; the WINDOW_UPDATE raises its capacity to
    8000 -/
theorem ledger_counterexample_mechanism :
    LedgerCex.a5.prio.inFlightDataFrame = .dataFrame 0 ∧ (LedgerCex.a5.stream 0).bufferedSendData = 1000 ∧
    (LedgerCex.a5.stream 0).pendingSend = [] ∧
    (LedgerCex.a6.stream 0).sendFlow.available.val = 1000 ∧ (LedgerCex.a6.stream 0).requestedSendCapacity = 8000 ∧
    (LedgerCex.a7.stream 0).state = { inner := .closed (.error (.reset 1 8 .library)) } ∧
    (LedgerCex.a7.stream 0).bufferedSendData = 1000 ∧ LedgerCex.a7.prio.inFlightDataFrame = .dataFrame 0 ∧
    (LedgerCex.a8.stream 0).sendFlow.available.val = 8000 :=
  LedgerCex.a_run.1

/-
  FULL STATEMENT (not proven): in every reachable CONNECTION (stream layer and codec coupled) the ledger is exact,
      `total c.streams = c.streams.prio.flow.windowSize.val`,
  equivalently: every stream `transition_after` releases holds no capacity.  The counterexample above shows that
  "every `Reach` state" (arbitrary writers) is too much to ask.  Proven below: (a) the exception of
  `C16.capacity_lost_only_by_release_partial` disappears under ONE state predicate, `Tight`; (b) the coupling that
  the counterexample breaks — `in_flight_data_frame` is set only while the codec holds the frame — makes
  `pop_frame` run only with `in_flight_data_frame = Nothing`, and `dst.buffer(DATA)` establishes it.  Missing:
  `Tight` (and `MarkerCoupled`) as invariants of every reachable connection — see the notes for the list of
  invariants this needs through all ≈170 functions.
-/
/-- **under `Tight` the exception is gone**: in a state with unique slab keys in which every entry that
    `Stream::is_closed()` (state `Closed`, own queue empty, nothing buffered) holds no send capacity,
    `transition_after` keeps `Σ available + conn.available` EXACTLY — whatever it unlinks, un-counts or
    releases.  (`Tight` is what a proof at the coupled `Conn` level has to establish; it is the ONE fact
    ConnFlowP found missing.  It is not proved here for reachable connections — see the notes for the
    invariants it needs and the paths checked by hand.) -/
theorem release_exact_under_tight_partial {t : Streams} (hk : KeysOk t.store) (ht : Tight t) (id : Nat) (b : Bool) :
    total (t.transitionAfter id b) = total t :=
  release_loses_nothing_of_tight hk ht id b

/-- **`pop_frame` never sees an outstanding DATA remainder when stream layer and codec are coupled.**
    `MarkerCoupled s w`: `in_flight_data_frame ≠ Nothing` only while the codec holds a DATA frame (`Next::Data`
    or `last_data_frame`).  After `reclaim_frame(dst)` — which `poll_complete` runs before every `pop_frame` — the
    coupling still holds, and a codec that `has_capacity()` (the condition under which `pop_frame` is called at
    all) means `in_flight_data_frame = Nothing`.  And `dst.buffer(DATA)` (`buffer_out`) sets the marker and hands
    the frame to the codec together, for every chunk within the max frame size (what `pop_frame` cuts:
    `C02.data_frame_within_windows`).  (Partial: that every OTHER function keeps `MarkerCoupled` — none but
    `buffer_out` sets the marker, `clear_queue` turns `DataFrame` into `Drop`, only `reclaim_frame` clears it —
    is by inspection, not proved.) -/
theorem pop_frame_runs_without_outstanding_remainder_partial (s : Streams) (w : Writer) (hc : MarkerCoupled s w) :
    MarkerCoupled (s.reclaimFrame w).1 (s.reclaimFrame w).2.1 ∧
    ((s.reclaimFrame w).2.1.hasCapacity = true → (s.reclaimFrame w).1.prio.inFlightDataFrame = .nothing) ∧
    (∀ (t : Streams) (v : Writer) (len : Nat) (flagEos : Bool) (fr : DataFrame), len ≤ v.maxFrameSize →
      MarkerCoupled (t.bufferOut v (.data len flagEos fr)).1 (t.bufferOut v (.data len flagEos fr)).2) :=
  ⟨(reclaimFrame_then_capacity s w hc).1, (reclaimFrame_then_capacity s w hc).2,
   fun t v len flagEos fr h => bufferOut_data_coupled t v len flagEos fr h⟩

/-- non-vacuity, and the link to the counterexample: a fresh stream layer is coupled with a fresh writer; the
    two foreign `poll_complete` calls of the counterexample are calls whose writer is NOT coupled with the stream
    layer (marker `DataFrame(0)`, codec empty) -/
example : MarkerCoupled LedgerCex.a0 {} ∧ ¬ MarkerCoupled LedgerCex.a6 {} ∧ LedgerCex.a6.prio.inFlightDataFrame = .dataFrame 0 := by
  refine ⟨fun h => absurd rfl h, fun h => ?_, by decide +kernel⟩
  have hm : LedgerCex.a6.prio.inFlightDataFrame = .dataFrame 0 := by decide +kernel
  rcases h (by rw [hm]; intro e; cases e) with h | h <;> cases h

/-- non-vacuity: `C16.exState`-like state — one open stream holding 10 octets of capacity — is `Tight` (no
    entry is closed) and has unique keys; and `Tight` is not trivially true: the state before the release
    in the counterexample is NOT tight (a closed entry with 7000) -/
def exState : Streams :=
  { store := { slab := [{ key := 0, id := 1, state := { inner := .open .streaming .streaming },
                          isPendingSend := true, sendFlow := ⟨⟨100⟩, ⟨10⟩⟩, requestedSendCapacity := 10,
                          bufferedSendData := 10, pendingSend := [.data 10 true] }],
               ids := [(1, 0)], nextKey := 1 },
    actions := { send := { prioritize := { pendingSend := [0], flow := ⟨⟨65535⟩, ⟨65525⟩⟩ } } } }

example : KeysOk exState.store ∧ Tight exState := by
  refine ⟨⟨by decide, by intro x hx; simp [exState] at hx; subst hx; decide⟩, ?_⟩
  intro x hx hc
  simp [exState] at hx; subst hx
  revert hc; decide

end H2V.Props.C16Cover

#print axioms H2V.Props.C16Cover.ledger_exact_counterexample
#print axioms H2V.Props.C16Cover.ledger_counterexample_mechanism
#print axioms H2V.Props.C16Cover.release_exact_under_tight_partial
#print axioms H2V.Props.C16Cover.pop_frame_runs_without_outstanding_remainder_partial
