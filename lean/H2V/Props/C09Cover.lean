import H2V.Lemmas.ConnPartPRstWu
/-
  C09 (cover) — "violations confined to one stream get at least a RST_STREAM while other streams keep
  working": the RST_STREAM is really OWED — queued on the stream, the stream scheduled in the connection's
  `pending_send` queue, and it comes out of `pop_frame` — for EVERY stream-level error of the receive
  path, with the code the error carries; the other streams' entries are kept.  Closes the gap left by
  `C09.stream_errors_are_contained` (which shows that the error is answered by `reset_on_recv_stream_err`
  and that the connection lives, but not what that call leaves behind).
  Property theorems only; lemmas: `H2V/Lemmas/ConnPartPRst*.lean`, notes: `H2V/Lemmas/ConnPartPNOTES.md`.

  The receive path of h2 has TWO dispatchers for a stream error `Err(Error::Reset(id, reason, Library))`:
    (1) in place — `Inner::recv_headers / recv_data / recv_window_update / recv_push_promise` end with
        `actions.reset_on_recv_stream_err(buffer, stream, counts, res)`;
    (2) the few that LEAVE `Inner::recv_*` (`escaping_stream_errors` lists them all) travel up to
        `Connection::handle_poll2_result`, which calls `Inner::send_reset(id, reason)`.
  Both run, after the quota check (`max_local_error_reset_streams`, C18 `error_reset_flood_is_cut_off`),
  `send.send_reset(reason, initiator, …); recv.enqueue_reset_expiration(stream); stream.notify_recv()`.

  Vocabulary.  `KeysBelow s.store`: every slab key is below `next_key` (every reachable state:
  `C08.keys_below_next`).  `QOK .pendingSend s`: the connection's `pending_send` queue holds exactly the
  entries whose `is_pending_send` link is set (every reachable un-panicked state: ConnCountsP `Reach.qok`,
  quoted as `C19.queues_hold_no_stale_keys`).  `CoreEq a b`: key, id, state, `pending_send`, `ref_count`
  equal.  `st.isSendReady`: not waiting in `pending_open`, not an unannounced pushed stream.
-/
set_option autoImplicit false
namespace H2V.Props.C09Cover
open H2V H2V.Model H2V.Model.Conn H2V.Lemmas.ConnResetP H2V.Lemmas.ConnPartP

/-- **(1) a stream error answered in place leaves the RST_STREAM owed.**  Stream entry `st` at key `k`,
    not reset yet and not (closed with nothing unsent), quota not exhausted.  After
    `reset_on_recv_stream_err(Err(Reset(_, reason, init)))`: the result is `Ok(())` (the connection goes
    on); the entry is still in the slab, closed with `Reset(st.id, reason, init)`; its queue is exactly
    `[RST_STREAM(reason)]` — everything else it had queued is discarded (`[HEADERS, RST_STREAM(reason)]`
    for a stream still waiting in `pending_open`); if the stream is send-ready its `is_pending_send` link
    is set and — the queue being consistent, no `assert!` having fired — it IS in the connection's
    `pending_send` queue, so `pop_frame` will reach it (`owed_rst_stream_is_emitted`);
    every OTHER entry that exists afterwards kept key, id, state, queue and handle count, and every
    other entry that had a frame queued still exists (an entry that disappears was closed, unreferenced
    and had nothing queued: released by the capacity hand-out of `reclaim_all_capacity`). -/
theorem stream_error_queues_rst_stream (s : Streams) (k sid : Nat) (reason : Reason) (init : Initiator) (st : Stream)
    (hkb : KeysBelow s.store) (hg : s.store.get? k = some st)
    (hq : s.counts.canIncNumLocalErrorResets = true) (hr : st.state.isReset = false)
    (hne : (st.state.isClosed && (st.pendingSend.isEmpty && st.bufferedSendData == 0)) = false) :
    (s.resetOnRecvStreamErr k (.error (.reset sid reason init))).2 = .ok () ∧
    (∃ st', (s.resetOnRecvStreamErr k (.error (.reset sid reason init))).1.store.get? k = some st' ∧ st'.id = st.id ∧
      st'.state = ⟨.closed (.error (.reset st.id reason init))⟩ ∧
      st'.pendingSend = (if st.isPendingOpen then st.pendingSend.head?.toList else []) ++ [.reset reason] ∧
      (st.isSendReady = true → st'.isPendingSend = true ∧
        (H2V.Lemmas.ConnCountsP.QOK .pendingSend s →
          (s.resetOnRecvStreamErr k (.error (.reset sid reason init))).1.panicked = none →
          k ∈ (s.resetOnRecvStreamErr k (.error (.reset sid reason init))).1.prio.pendingSend))) ∧
    (∀ k' st'', k' ≠ k → k' < s.store.nextKey →
      (s.resetOnRecvStreamErr k (.error (.reset sid reason init))).1.store.get? k' = some st'' →
      ∃ st0, s.store.get? k' = some st0 ∧ CoreEq st0 st'') ∧
    (∀ k' st0, k' ≠ k → s.store.get? k' = some st0 → st0.pendingSend ≠ [] →
      ∃ st'', (s.resetOnRecvStreamErr k (.error (.reset sid reason init))).1.store.get? k' = some st'' ∧ CoreEq st0 st'') :=
  resetOnRecvStreamErr_owes s k sid reason init st hkb hg hq hr hne

/-- **instance of (1): a WINDOW_UPDATE that overflows a stream's send window** (RFC 9113 §6.9.1, the
    example of `C09.stream_errors_are_contained`).  `Send::recv_stream_window_update` resets the stream
    FIRST (`send_reset(FLOW_CONTROL_ERROR)`) and then hands the stream error to the dispatcher, which
    finds the stream reset and queues nothing more.  Stream `st` (key `k`, stream id `id ≠ 0`), not in
    `pending_open`, still sending (or with data buffered), not reset, quota not exhausted, the increment
    taking the window beyond 2^31-1: the frame's result is `Ok(())`, RST_STREAM(FLOW_CONTROL_ERROR) is
    the stream's only queued frame, the stream is scheduled, the other streams are kept. -/
theorem window_update_overflow_queues_rst_stream (s : Streams) (id inc k : Nat) (st : Stream) (h0 : id ≠ 0)
    (hk : s.store.findKey? id = some k) (hg : s.store.get? k = some st) (hp : st.isPendingOpen = false)
    (hc : ¬ (st.state.isSendClosed = true ∧ st.bufferedSendData = 0))
    (ho : ¬ (inI32 (st.sendFlow.windowSize.val + u32AsI32 inc) = true ∧
            st.sendFlow.windowSize.val + u32AsI32 inc ≤ (Generated.Consts.MAX_WINDOW_SIZE : Int)))
    (hkb : KeysBelow s.store) (hr : st.state.isReset = false)
    (hq : s.counts.canIncNumLocalErrorResets = true) :
    (s.recvWindowUpdate id inc).2 = .ok () ∧
    (∃ st', (s.recvWindowUpdate id inc).1.store.get? k = some st' ∧ st'.id = st.id ∧
      st'.state = ⟨.closed (.error (.reset st.id FLOW_CONTROL_ERROR .library))⟩ ∧
      st'.pendingSend = (if st.isPendingOpen then st.pendingSend.head?.toList else []) ++ [.reset FLOW_CONTROL_ERROR] ∧
      (st.isSendReady = true → st'.isPendingSend = true ∧
        (H2V.Lemmas.ConnCountsP.QOK .pendingSend s → (s.recvWindowUpdate id inc).1.panicked = none →
          k ∈ (s.recvWindowUpdate id inc).1.prio.pendingSend))) ∧
    (∀ k' st'', k' ≠ k → k' < s.store.nextKey → (s.recvWindowUpdate id inc).1.store.get? k' = some st'' →
      ∃ st0, s.store.get? k' = some st0 ∧ CoreEq st0 st'') ∧
    (∀ k' st0, k' ≠ k → s.store.get? k' = some st0 → st0.pendingSend ≠ [] →
      ∃ st'', (s.recvWindowUpdate id inc).1.store.get? k' = some st'' ∧ CoreEq st0 st'') :=
  recvWindowUpdate_overflow_owes s id inc k st h0 hk hg hp hc ho hkb hr hq

/-- **instance of (1): the entry point `Inner::recv_data` as a whole.**  When `Recv::recv_data` answers a stream
    error `Reset(sid, reason, init)` for a DATA frame on a known stream (DATA beyond the stream's window →
    FLOW_CONTROL_ERROR, more DATA than `content-length` → PROTOCOL_ERROR, …) — `s1`/`st1` being the stream
    layer / the stream's entry at that moment — `Inner::recv_data` gives the frame's octets back to the
    connection window, runs the dispatcher inside the `transition` closure, then `transition_after`: its result
    is `Ok(())`, and in the state it returns the RST_STREAM(reason) is the stream's only queued frame, the
    stream is scheduled (and in the queue, the queue of the INITIAL state being consistent), the other entries
    are kept.  (`recv_headers` / `recv_push_promise` have the same shape: `transition(closure ending in
    reset_on_recv_stream_err)`; not spelled out.) -/
theorem recv_data_stream_error_queues_rst_stream (s : Streams) (id : Nat) (p : Bytes) (eos : Bool) (pad : Option Nat)
    (k : Nat) (s1 : Streams) (sid : Nat) (reason : Reason) (init : Initiator) (st1 : Stream)
    (hf : s.store.findKey? id = some k)
    (h1 : s.recvRecvData k p eos pad = (s1, .error (.reset sid reason init)))
    (hkb : KeysBelow s1.store) (hg : s1.store.get? k = some st1)
    (hq : s1.counts.canIncNumLocalErrorResets = true) (hr : st1.state.isReset = false)
    (hne : (st1.state.isClosed && (st1.pendingSend.isEmpty && st1.bufferedSendData == 0)) = false) :
    (s.recvData id p eos pad).2 = .ok () ∧
    (∃ st', (s.recvData id p eos pad).1.store.get? k = some st' ∧ st'.id = st1.id ∧
      st'.state = ⟨.closed (.error (.reset st1.id reason init))⟩ ∧
      st'.pendingSend = (if st1.isPendingOpen then st1.pendingSend.head?.toList else []) ++ [.reset reason] ∧
      (st1.isSendReady = true → st'.isPendingSend = true ∧
        (H2V.Lemmas.ConnCountsP.QOK .pendingSend s → (s.recvData id p eos pad).1.panicked = none →
          k ∈ (s.recvData id p eos pad).1.prio.pendingSend))) ∧
    (∀ k' st'', k' ≠ k → k' < s1.store.nextKey → (s.recvData id p eos pad).1.store.get? k' = some st'' →
      ∃ st0, s1.store.get? k' = some st0 ∧ CoreEq st0 st'') ∧
    (∀ k' st0, k' ≠ k → s1.store.get? k' = some st0 → st0.pendingSend ≠ [] →
      ∃ st'', (s.recvData id p eos pad).1.store.get? k' = some st'' ∧ CoreEq st0 st'') :=
  recvData_stream_error_owes s id p eos pad k s1 sid reason init st1 hf h1 hkb hg hq hr hne

/-- **when no RST_STREAM is queued — and why that is right.**  `Send::send_reset` leaves a stream alone
    that is reset already (`state.is_reset()`: by us — its RST_STREAM is queued or has gone out, a second
    one must not follow, C17 — or by the peer — none is owed), and on a stream that is closed with
    nothing unsent (END_STREAM both ways, or an earlier GOAWAY/IO error) it only records the reason. -/
theorem no_rst_stream_for_reset_or_finished_stream (s : Streams) (k : Nat) (reason : Reason) (init : Initiator) :
    ((s.stream k).state.isReset = true → s.sendSendReset k reason init = s) ∧
    ((s.stream k).state.isReset = false →
      ((s.stream k).state.isClosed && ((s.stream k).pendingSend.isEmpty && (s.stream k).bufferedSendData == 0)) = true →
      s.sendSendReset k reason init = s.modStreamW k fun st => st.setReset reason init) :=
  sendSendReset_no_rst s k reason init

/-- **(2) the stream errors that LEAVE the receive entry points — all of them.**  `recv_reset` and
    `recv_window_update` never answer a stream error (`reset_on_recv_stream_err` itself never hands one
    on); `recv_data` only STREAM_CLOSED for a stream the id map has forgotten (nothing but connection flow
    control has run: the store is untouched); `recv_headers` the same (client; nothing at all has run), and
    PROTOCOL_ERROR for trailers without END_STREAM (the `return Err(..)` out of the `transition` closure);
    `recv_push_promise` only REFUSED_STREAM for the promised stream, when the initiating stream is one we
    have reset.  Each carries the frame's own stream id (the promised id) and `Initiator::Library`. -/
theorem escaping_stream_errors (s : Streams) (sid : Nat) (rs : Reason) (i : Initiator) :
    (∀ id reason, (s.recvReset id reason).2 ≠ .error (.reset sid rs i)) ∧
    (∀ id inc, (s.recvWindowUpdate id inc).2 ≠ .error (.reset sid rs i)) ∧
    (∀ id p eos pad, (s.recvData id p eos pad).2 = .error (.reset sid rs i) →
      s.store.findKey? id = none ∧ sid = id ∧ rs = STREAM_CLOSED ∧ i = .library ∧
      (s.recvData id p eos pad).1.store = s.store) ∧
    (∀ hd, (s.recvHeaders hd).2 = .error (.reset sid rs i) →
      sid = hd.sid ∧ i = .library ∧
      ((rs = STREAM_CLOSED ∧ s.store.findKey? hd.sid = none ∧ s.counts.isServer = false ∧ (s.recvHeaders hd).1 = s) ∨
       (rs = PROTOCOL_ERROR ∧ hd.eos = false))) ∧
    (∀ id hd, (s.recvPushPromise id hd).2 = .error (.reset sid rs i) →
      sid = hd.sid ∧ rs = REFUSED_STREAM ∧ i = .library ∧
      ∃ k, s.store.findKey? id = some k ∧ (s.stream k).state.isLocalError = true) :=
  ⟨fun id reason => recvReset_noStreamErr s id reason sid rs i,
   fun id inc => recvWindowUpdate_noStreamErr s id inc sid rs i,
   fun id p eos pad h => recvData_streamErr s id p eos pad sid rs i h,
   fun hd h => recvHeaders_streamErr s hd sid rs i h,
   fun id hd h => recvPushPromise_streamErr s id hd sid rs i h⟩

/-- **(2) … are handed to `Inner::send_reset`** by `Connection::handle_poll2_result`; a quota failure
    there becomes the connection error ENHANCE_YOUR_CALM (`handle_go_away`). -/
theorem escaped_stream_error_reaches_send_reset (c : Conn) (id : Nat) (reason : Reason) :
    c.handlePoll2Result (.error (.reset id reason .library)) =
      (match c.streams.innerSendReset id reason with
       | (s, .ok _) => ({ c with streams := s }, .ok ())
       | (s, .error g) => (({ c with streams := s }).handleGoAway g.reason (Http.str g.debugData) .library, .ok ())) :=
  handlePoll2Result_reset c id reason

/-- **(2) `Inner::send_reset(id, reason)` for a stream the id map does not know** (STREAM_CLOSED for a
    forgotten stream, REFUSED_STREAM for a promised one): a fresh entry is created under the next key and
    owes RST_STREAM(id, reason): closed with `Reset(id, reason, Library)`, queue `[RST_STREAM(reason)]`,
    scheduled; every entry that was there before and still is kept key, id, state, queue and handle
    count; every entry that had a frame queued still is there. -/
theorem escaped_error_on_unknown_stream_queues_rst_stream (s : Streams) (id : Nat) (reason : Reason)
    (hf : s.store.findKey? id = none) (hkb : KeysBelow s.store)
    (hq : s.counts.canIncNumLocalErrorResets = true) :
    (s.innerSendReset id reason).2 = .ok () ∧
    (∃ st', (s.innerSendReset id reason).1.store.get? s.store.nextKey = some st' ∧ st'.id = id ∧
      st'.state = ⟨.closed (.error (.reset id reason .library))⟩ ∧ st'.pendingSend = [.reset reason] ∧
      st'.isPendingSend = true) ∧
    (∀ k' st'', k' < s.store.nextKey → (s.innerSendReset id reason).1.store.get? k' = some st'' →
      ∃ st0, s.store.get? k' = some st0 ∧ CoreEq st0 st'') ∧
    (∀ k' st0, s.store.get? k' = some st0 → st0.pendingSend ≠ [] →
      ∃ st'', (s.innerSendReset id reason).1.store.get? k' = some st'' ∧ CoreEq st0 st'') :=
  innerSendReset_unknown_owes s id reason hf hkb hq

/-- **(2) `Inner::send_reset(id, reason)` for a stream the id map knows** (trailers without END_STREAM):
    as in (1), through `Actions::send_reset` (followed by `transition_after`). -/
theorem escaped_error_on_known_stream_queues_rst_stream (s : Streams) (id k : Nat) (reason : Reason) (st : Stream)
    (hf : s.store.findKey? id = some k) (hkb : KeysBelow s.store) (hg : s.store.get? k = some st)
    (hq : s.counts.canIncNumLocalErrorResets = true) (hr : st.state.isReset = false)
    (hne : (st.state.isClosed && (st.pendingSend.isEmpty && st.bufferedSendData == 0)) = false) :
    (s.innerSendReset id reason).2 = .ok () ∧
    (∃ st', (s.innerSendReset id reason).1.store.get? k = some st' ∧ st'.id = st.id ∧
      st'.state = ⟨.closed (.error (.reset st.id reason .library))⟩ ∧
      st'.pendingSend = (if st.isPendingOpen then st.pendingSend.head?.toList else []) ++ [.reset reason] ∧
      (st.isSendReady = true → st'.isPendingSend = true ∧
        (H2V.Lemmas.ConnCountsP.QOK .pendingSend s → (s.innerSendReset id reason).1.panicked = none →
          k ∈ (s.innerSendReset id reason).1.prio.pendingSend))) ∧
    (∀ k' st'', k' ≠ k → k' < s.store.nextKey → (s.innerSendReset id reason).1.store.get? k' = some st'' →
      ∃ st0, s.store.get? k' = some st0 ∧ CoreEq st0 st'') ∧
    (∀ k' st0, k' ≠ k → s.store.get? k' = some st0 → st0.pendingSend ≠ [] →
      ∃ st'', (s.innerSendReset id reason).1.store.get? k' = some st'' ∧ CoreEq st0 st'') :=
  innerSendReset_known_owes s id k reason st hf hkb hg hq hr hne

/-- **the owed RST_STREAM comes out of `pop_frame`.**  When the stream at the head of the connection's
    `pending_send` queue has RST_STREAM(reason) at the head of its own queue, `pop_frame` returns
    RST_STREAM(stream id, reason) — with the code that was queued.  (That `pop_frame` emits a RST_STREAM
    ONLY for a stream that owes it, and at most one per entry, is C17.) -/
theorem owed_rst_stream_is_emitted (fuel : Nat) (s : Streams) (maxLen : Nat) (k : Nat) (rest : List Nat) (st : Stream)
    (r : Reason) (more : List SFrame) (hq : s.prio.pendingSend = k :: rest) (hg : s.store.get? k = some st)
    (hp : st.pendingSend = .reset r :: more) :
    (Streams.popFrame (fuel + 1) s maxLen).2 = some (.reset st.id r) :=
  popFrame_emits_rst fuel s maxLen k rest st r more hq hg hp

/-
  Non-vacuity.  `exRecv`: one stream (key 0, id 1) open in both directions with a 10-octet DATA frame
  queued, linked in the id map, nothing scheduled.
-/
/-- a concrete state: one open stream (key 0, id 1) with DATA queued -/
def exRecv : Streams :=
  { store := { slab := [{ key := 0, id := 1, state := { inner := .open .streaming .streaming }, refCount := 1,
                          bufferedSendData := 10, requestedSendCapacity := 10, pendingSend := [.data 10 false],
                          isCounted := true }],
               ids := [(1, 0)], nextKey := 1 },
    counts := { numSendStreams := 1 } }

/-- `exRecv` with a send window of 1 on the stream (so that an increment of 2^31-1 overflows it) -/
def exRecvW : Streams :=
  { exRecv with store := { exRecv.store with slab := exRecv.store.slab.map fun x => { x with sendFlow := ⟨⟨1⟩, ⟨0⟩⟩ } } }

/-- `exRecv` with a connection receive window of 65 535 and a stream receive window of 5 octets -/
def exRecvD : Streams :=
  { exRecv with
    store := { exRecv.store with slab := exRecv.store.slab.map fun x => { x with recvFlow := ⟨⟨5⟩, ⟨5⟩⟩ } },
    actions := { exRecv.actions with recv := { exRecv.actions.recv with flow := ⟨⟨65535⟩, ⟨65535⟩⟩ } } }

theorem exRecv_keysBelow : KeysBelow exRecv.store := by
  intro k st h
  have : st ∈ exRecv.store.slab := List.mem_of_find?_eq_some h
  have hk : st.key = k := by simpa using List.find?_some h
  simp [exRecv] at this
  subst this; subst hk; decide

theorem exRecv_qok : H2V.Lemmas.ConnCountsP.QOK .pendingSend exRecv := by
  refine ⟨fun k => ⟨fun h => by simp [exRecv, Streams.getQ, Streams.prio] at h, ?_⟩, by decide⟩
  rintro ⟨x, hx, hf⟩
  have : x ∈ exRecv.store.slab := List.mem_of_find?_eq_some hx
  simp [exRecv] at this
  subst this
  cases hf

/-- the hypotheses of (1) hold for `exRecv`, stream key 0; the result, evaluated: FLOW_CONTROL_ERROR (3)
    is queued as the stream's only frame (the DATA is gone), the stream is scheduled, no panic -/
example : KeysBelow exRecv.store ∧ H2V.Lemmas.ConnCountsP.QOK .pendingSend exRecv ∧
    (exRecv.store.get? 0).isSome = true ∧ exRecv.counts.canIncNumLocalErrorResets = true ∧
    (exRecv.stream 0).state.isReset = false ∧ (exRecv.stream 0).isSendReady = true ∧
    ((exRecv.stream 0).state.isClosed && ((exRecv.stream 0).pendingSend.isEmpty && (exRecv.stream 0).bufferedSendData == 0)) = false ∧
    ((exRecv.resetOnRecvStreamErr 0 (.error (.reset 1 3 .library))).1.stream 0).pendingSend = [.reset 3] ∧
    (exRecv.resetOnRecvStreamErr 0 (.error (.reset 1 3 .library))).1.prio.pendingSend = [0] ∧
    (exRecv.resetOnRecvStreamErr 0 (.error (.reset 1 3 .library))).1.panicked = none :=
  ⟨exRecv_keysBelow, exRecv_qok, by decide +kernel⟩

/-- the hypotheses of the WINDOW_UPDATE instance hold for `exRecvW` and WINDOW_UPDATE(1, 2^31-1); the result -/
example : exRecvW.store.findKey? 1 = some 0 ∧ (exRecvW.stream 0).isPendingOpen = false ∧
    ¬ ((exRecvW.stream 0).state.isSendClosed = true ∧ (exRecvW.stream 0).bufferedSendData = 0) ∧
    ¬ (inI32 ((exRecvW.stream 0).sendFlow.windowSize.val + u32AsI32 2147483647) = true ∧
        (exRecvW.stream 0).sendFlow.windowSize.val + u32AsI32 2147483647 ≤ (Generated.Consts.MAX_WINDOW_SIZE : Int)) ∧
    (exRecvW.recvWindowUpdate 1 2147483647).2 = .ok () ∧
    ((exRecvW.recvWindowUpdate 1 2147483647).1.stream 0).pendingSend = [.reset FLOW_CONTROL_ERROR] ∧
    (exRecvW.recvWindowUpdate 1 2147483647).1.prio.pendingSend = [0] := by
  decide +kernel

/-- the `recv_data` instance on `exRecvD` (`exRecv` with a stream receive window of 5 octets): 10 octets of DATA on
    stream 1 overrun the stream window — `Recv::recv_data` answers the stream error FLOW_CONTROL_ERROR,
    `Inner::recv_data` answers `Ok(())` and leaves RST_STREAM(FLOW_CONTROL_ERROR) queued and the stream scheduled -/
example : exRecvD.store.findKey? 1 = some 0 ∧
    (exRecvD.recvRecvData 0 [1,2,3,4,5,6,7,8,9,10] false none).2 = .error (.reset 1 FLOW_CONTROL_ERROR .library) ∧
    (exRecvD.recvData 1 [1,2,3,4,5,6,7,8,9,10] false none).2 = .ok () ∧
    ((exRecvD.recvData 1 [1,2,3,4,5,6,7,8,9,10] false none).1.stream 0).pendingSend = [.reset FLOW_CONTROL_ERROR] ∧
    (exRecvD.recvData 1 [1,2,3,4,5,6,7,8,9,10] false none).1.prio.pendingSend = [0] := by
  decide +kernel

/-- … and `pop_frame` then hands RST_STREAM(1, FLOW_CONTROL_ERROR) to the codec -/
example : (match (Streams.popFrame 4 (exRecv.resetOnRecvStreamErr 0 (.error (.reset 1 3 .library))).1 16384).2 with
    | some (.reset 1 3) => true
    | _ => false) = true := by decide +kernel

/-- (2): DATA for a stream the client has forgotten (id 3 < next_stream_id would be needed for
    "forgotten"; here id 1 on a store that does not know it) — `Inner::send_reset` creates the entry and
    queues RST_STREAM(STREAM_CLOSED = 5) -/
example : ({} : Streams).store.findKey? 1 = none ∧ ({} : Streams).counts.canIncNumLocalErrorResets = true ∧
    ((({} : Streams).innerSendReset 1 5).1.stream 0).pendingSend = [.reset 5] ∧
    (({} : Streams).innerSendReset 1 5).1.prio.pendingSend = [0] := by decide +kernel

example : KeysBelow ({} : Streams).store := fun k st h => by cases h

end H2V.Props.C09Cover

#print axioms H2V.Props.C09Cover.stream_error_queues_rst_stream
#print axioms H2V.Props.C09Cover.window_update_overflow_queues_rst_stream
#print axioms H2V.Props.C09Cover.recv_data_stream_error_queues_rst_stream
#print axioms H2V.Props.C09Cover.no_rst_stream_for_reset_or_finished_stream
#print axioms H2V.Props.C09Cover.escaping_stream_errors
#print axioms H2V.Props.C09Cover.escaped_stream_error_reaches_send_reset
#print axioms H2V.Props.C09Cover.escaped_error_on_unknown_stream_queues_rst_stream
#print axioms H2V.Props.C09Cover.escaped_error_on_known_stream_queues_rst_stream
#print axioms H2V.Props.C09Cover.owed_rst_stream_is_emitted
