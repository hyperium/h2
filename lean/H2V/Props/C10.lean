import H2V.Props.C10Tables
import H2V.Lemmas.HpackEnc
import H2V.Lemmas.Huffman
import H2V.Lemmas.HpackDec
import H2V.Props.C11
import H2V.Props.C12
/-
  C10 — HPACK encoder and decoder stay in sync.  Property theorems only.
-/
namespace H2V.Props.C10
open H2V H2V.Model.Hpack H2V.Lemmas.HpackEnc

/-- **decode(encode(h)) = h for every history.** From `Encoder::new(n)` against a conforming RFC 7541
    decoder that starts with the same table size, for EVERY sequence of peer
    SETTINGS_HEADER_TABLE_SIZE changes (any values, repeated, including 0) and submitted header
    lists (any names, values, repeats, sensitive values, the `HeaderMap` "nameless" yields; octets
    < 256, lengths < 2^59), `Encoder::encode` never panics and every emitted block is accepted by
    the reference monitor `Spec.HpackSync.Mon.block`: the reference decoder reads back exactly the
    submitted fields in order, the table never exceeds what the peer allows, and a reduction is
    signalled at the start of the block (minimum first). -/
theorem roundtrip_history (n : Nat) (ops : List Op) (hwf : WF ops) :
    runOk (Encoder.new n) (Spec.HpackSync.Mon.init (min n 4096)) ops :=
  Lemmas.HpackEnc.roundtrip_history n ops hwf

/-- the encoder's dynamic table: exact size accounting, never above its maximum, maximum never above
    4096, in every reachable state -/
theorem table_bounded (n : Nat) (ops : List Op) (hwf : WF ops) (e : Encoder) (m : Spec.HpackSync.Mon)
    (hrun : run (Encoder.new n) (Spec.HpackSync.Mon.init (min n 4096)) ops = some (e, m)) :
    e.size = Spec.Hpack.tableSize e.entries ∧ e.size ≤ e.maxSize ∧ e.maxSize ≤ 4096 :=
  Lemmas.HpackEnc.table_bounded n ops hwf e m hrun

/-- at every block end the table maximum is exactly min(what the peer allowed, 4096) and no size
    update is left pending -/
theorem table_bounded_block_end (n : Nat) (ops : List Op) (fs : List Field)
    (hwf : WF (ops ++ [.block fs])) (e : Encoder) (m : Spec.HpackSync.Mon)
    (hrun : run (Encoder.new n) (Spec.HpackSync.Mon.init (min n 4096)) (ops ++ [.block fs]) = some (e, m)) :
    e.size ≤ e.maxSize ∧ e.maxSize = min m.allowed 4096 ∧ e.sizeUpdate = none :=
  Lemmas.HpackEnc.table_bounded_block_end n ops fs hwf e m hrun

/-- a reduction of the allowed table size is signalled by a size update at the very start of the
    next block, with a value not above the reduced size -/
theorem reduction_signalled_first (e : Encoder) (m : Spec.HpackSync.Mon) (v : Nat) (fs : List Field)
    (hs : Sync e m) (hv : v < e.maxSize) (e' : Encoder) (bytes : Bytes)
    (henc : (e.updateMaxSize v).encode fs = some (e', bytes)) :
    ∃ u, Spec.HpackSync.leadingSizeUpdate bytes = some u ∧ u ≤ v :=
  Lemmas.HpackEnc.reduction_signalled_first e m v fs hs hv e' bytes henc

/-- **… including h2's own decoder.** The monitor of `roundtrip_history` is the RFC 7541 reference;
    this ties the encoder's output to the *mirror of `hpack/decoder.rs`* as well: whenever the
    reference accepts an emitted block as `fields` (which `roundtrip_history` gives for every
    history) and h2's own decoder, in a state whose abstraction is the reference's state, accepts
    the block, it reads back exactly the submitted fields in order and its dynamic table is again
    the reference's — so the two stay in lock-step for the next block (C10 ∘ C11 `decode_sound`).
    That h2's decoder does accept is not claimed here (it refuses some blocks the RFC allows, e.g.
    an empty field name); the byte-exact correspondence runs cover that direction. -/
theorem own_decoder_reads_back_the_submitted_fields
    (m m' : Spec.HpackSync.Mon) (fields : List Spec.Hpack.Field) (bytes : Bytes)
    (hblock : m.block fields bytes = .ok m')
    (d : Decoder) (habs : Lemmas.HpackDec.abs d = m.st)
    (hi : Lemmas.HpackDec.Table.Inv d.table) (hv : Bytes.Valid bytes) (hc : d.continuing = false)
    (hr : (d.decode bytes).result = .ok ()) :
    (d.decode bytes).fields = fields ∧ Lemmas.HpackDec.abs (d.decode bytes).dec = m'.st := by
  have hs := (Lemmas.HpackDec.decode_sound (fun bs h => Lemmas.Huffman.decode_eq_spec bs h) d bytes hi hv hc hr).1
  rw [habs] at hs
  obtain ⟨st', hd, -, -, rfl⟩ := Lemmas.HpackEnc.mon_block_inv hblock
  rw [hs] at hd
  cases hd
  exact ⟨rfl, rfl⟩

/-- the reference monitor over a sequence of (submitted fields, emitted block) pairs -/
def monBlocks (m : Spec.HpackSync.Mon) : List (List Spec.Hpack.Field × Bytes) → Option Spec.HpackSync.Mon
  | [] => some m
  | (fs, b) :: rest =>
    match m.block fs b with
    | .ok m' => monBlocks m' rest
    | .error _ => none

theorem monBlocks_specBlocks (l : List (List Spec.Hpack.Field × Bytes)) (m m' : Spec.HpackSync.Mon)
    (hm : monBlocks m l = some m') :
    C11.specBlocks m.st (l.map (·.2)) = some (l.map (·.1), m'.st) := by
  induction l generalizing m with
  | nil => simp only [monBlocks, Option.some.injEq] at hm; subst hm; rfl
  | cons b rest ih =>
    obtain ⟨fields, bytes⟩ := b
    simp only [monBlocks] at hm
    split at hm
    · rename_i m1 hb
      obtain ⟨st', hd, -, -, rfl⟩ := Lemmas.HpackEnc.mon_block_inv hb
      simp only [List.map_cons, C11.specBlocks, hd, ih _ hm, Option.map_some]
    · cases hm

/-- **lock-step over whole histories, blocks cut into CONTINUATION fragments.** For ANY sequence of
    emitted blocks that the reference monitor accepts for the submitted field lists (what
    `roundtrip_history` gives), each cut into a HEADERS fragment and any CONTINUATION fragments:
    if h2's own decoder — started from a state abstracting to the reference's, fed fragment by
    fragment, carrying its table from block to block — accepts them all, it hands out exactly the
    submitted field lists, in order, and ends with the reference's dynamic table. -/
theorem own_decoder_lockstep_history
    (blocks : List (List Spec.Hpack.Field × Bytes × List Bytes))
    (m m' : Spec.HpackSync.Mon) (d : Decoder)
    (habs : Lemmas.HpackDec.abs d = m.st)
    (hi : Lemmas.HpackDec.Table.Inv d.table) (hc : d.continuing = false)
    (hv : ∀ b ∈ blocks, Bytes.Valid (b.2.1 ++ b.2.2.flatten))
    (hm : monBlocks m (blocks.map fun b => (b.1, b.2.1 ++ b.2.2.flatten)) = some m')
    (fs : List (List Header)) (d' : Decoder)
    (hd : C11.blocksOk d (blocks.map fun b => (b.2.1, b.2.2)) = some (fs, d')) :
    fs = blocks.map (·.1) ∧ Lemmas.HpackDec.abs d' = m'.st := by
  have h1 := C11.history_of_fragmented_blocks_sound _ d hi hc (fun b hb => by
    obtain ⟨b0, hb0, rfl⟩ := List.mem_map.1 hb; exact hv b0 hb0) fs d' hd
  have h2 := monBlocks_specBlocks _ m m' hm
  rw [habs, List.map_map] at h1
  rw [List.map_map, List.map_map] at h2
  exact Prod.mk.inj (Option.some.inj (h1.symm.trans h2))

/-- **… cut by h2's own writer.** The HPACK block of a HEADERS / PUSH_PROMISE frame, cut by
    `splitBlock` (the mirror of `frame::headers` + `Continuation::encode`) under ANY peer max frame
    size, appears on the wire — as seen by the independent RFC 9113 parser — as one head frame plus
    CONTINUATION frames, and feeding exactly those fragments one by one to the decoder mirror, if it
    accepts, yields what the RFC 7541 reference assigns to the uncut block (C12
    `parse_serialize_header_block` ∘ C11 `fragments_decode_sound`): the cut points the writer
    chooses never change what is read back. -/
theorem block_cut_by_the_writer_reads_back (fuel maxFrame kind flags sid : Nat) (pre hpack : Bytes) (F maxSize : Nat)
    (hpre : pre.length < maxFrame) (hmax : maxFrame < 2 ^ 24) (hs0 : sid ≠ 0) (hs : sid < 2 ^ 31)
    (hfuel : hpack.length < fuel) (hF : fuel < F) (hms : maxFrame ≤ maxSize) :
    ∃ frag0 frags,
      Spec.Frame.frames F maxSize (Model.Frame.splitBlock fuel maxFrame kind flags sid pre hpack) =
        (Spec.Frame.ofParts kind (if frags.isEmpty then flags else flags - 4) sid (pre ++ frag0)
          :: (Lemmas.Codec.contFrames sid frags).map .ok, []) ∧
      ∀ (d : Decoder), Lemmas.HpackDec.Table.Inv d.table → Bytes.Valid hpack → d.continuing = false →
        (frags.foldl Lemmas.HpackDec.feed (d.decode frag0)).result = .ok () →
        Spec.Hpack.decode (Lemmas.HpackDec.abs d) hpack
          = .ok ((frags.foldl Lemmas.HpackDec.feed (d.decode frag0)).fields,
                 Lemmas.HpackDec.abs (frags.foldl Lemmas.HpackDec.feed (d.decode frag0)).dec) := by
  obtain ⟨frag0, frags, hcat, -, -, hframes⟩ :=
    C12.parse_serialize_header_block fuel maxFrame kind flags sid pre hpack F maxSize hpre hmax hs0 hs hfuel hF hms
  refine ⟨frag0, frags, hframes, ?_⟩
  intro d hi hv hc hr
  subst hcat
  exact (C11.fragments_decode_sound d frag0 frags hi hv hc hr).1

-- non-vacuity: a concrete history (shrink to 100, two blocks with a repeated and a nameless field) is well-formed
example : WF [.setMax 100, .block [⟨([120, 45, 97], [49]), false, false⟩, ⟨([120, 45, 97], [50]), false, true⟩],
              .block [⟨([120, 45, 97], [49]), false, false⟩]] := by decide

-- non-vacuity of `own_decoder_reads_back_the_submitted_fields`: from the initial states the abstraction
-- agrees, and a block with an indexed field and a literal that enters the table is accepted by both
open H2V.Model.Hpack in
example : Lemmas.HpackDec.abs (Decoder.new 4096) = (Spec.HpackSync.Mon.init 4096).st := by decide +kernel
open H2V.Model.Hpack in
example : (match (Spec.HpackSync.Mon.init 4096).block ((Decoder.new 4096).decode [130, 64, 1, 97, 1, 98]).fields
              [130, 64, 1, 97, 1, 98] with | .ok _ => true | .error _ => false) = true ∧
    (match ((Decoder.new 4096).decode [130, 64, 1, 97, 1, 98]).result with
      | .ok _ => true | .error _ => false) = true := by decide +kernel

-- non-vacuity of the lock-step theorem: two blocks (the first cut inside the literal that enters the
-- table, the second referring to the new entry) are accepted by the monitor and by the decoder mirror
open H2V.Model.Hpack in
example :
    (monBlocks (Spec.HpackSync.Mon.init 4096)
      [([([58, 109, 101, 116, 104, 111, 100], [71, 69, 84]), ([97], [98])], [130, 64, 1, 97, 1, 98]),
       ([([97], [98])], [190])]).isSome = true ∧
    (C11.blocksOk (Decoder.new 4096) [([130, 64, 1], [[97], [1, 98]]), ([190], [[]])]).isSome = true := by
  decide +kernel

-- non-vacuity: the arithmetic hypotheses of `block_cut_by_the_writer_reads_back` are met by a 6-octet
-- block under a 4-octet frame limit (two CONTINUATION frames)
example := block_cut_by_the_writer_reads_back 10 4 1 4 1 [] [130, 64, 1, 97, 1, 98] 11 16384
  (by decide) (by decide) (by decide) (by decide) (by decide) (by decide) (by decide)

end H2V.Props.C10
