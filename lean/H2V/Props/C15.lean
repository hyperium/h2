import H2V.Lemmas.ConnCtlPGoAwayRecv
import H2V.Lemmas.ConnCtlPGoAwaySent
import H2V.Lemmas.ConnCtlPHist
import H2V.Lemmas.ConnCtlPGoAwayHist
/-
  C15 — GOAWAY / shutdown: monotone last-stream-id, in-flight streams finish, the rest fail.
  Property theorems; a fact only one of them states is proved under it (lemmas with more than one user:
  `H2V/Lemmas/ConnCtlP*.lean`, notes: `H2V/Lemmas/ConnCtlPNOTES.md`).

  Vocabulary.  `GoAwayInv c`: the GOAWAY invariant of a connection (`last_processed_id ≤
  max_stream_id`; the id announced by the last GOAWAY built bounds `last_processed_id` and, before
  `go_away_now`, equals `max_stream_id`; the frame waiting to be written is the one announced).
  `view s`: the configuration-like fields of the stream layer (`lpi` = `recv.last_processed_id`,
  `rmax` = `recv.max_stream_id`, `connErr`, …).  `Halting`/`Dead`: `go_away_now` has run / the
  connection has left `Open`.  `Ev`, `protoPollT`, `Hist`: see `H2V/Props/C14.lean`.
-/
set_option autoImplicit false
set_option linter.unusedSimpArgs false
namespace H2V.Props.C15
open H2V H2V.Model H2V.Model.Conn H2V.Lemmas.ConnCtlP

/-- a server that has exchanged SETTINGS with its peer and — set by hand, to keep the kernel
    evaluation of the examples cheap (no HPACK decoding) — has processed the peer's stream 1, whose
    entry (key 0) is still in the store -/
def demoServer : Conn :=
  let c := (Conn.protoPoll 50 (Conn.initServer {} false [0,0,0,4,0,0,0,0,0])).1
  let s := c.streams.modRecv fun r => { r with lastProcessedId := 1, nextStreamId := some 3 }
  { c with streams := { s with store := (s.store.insert (Stream.new 1 65535 65535)).1 } }

/-- **the GOAWAY invariant holds initially**, for both roles and every builder configuration -/
theorem invariant_initially (g : Conn.Cfg) (ecp : Bool) (peer : Bytes) :
    GoAwayInv (Conn.init g) ∧ GoAwayInv (Conn.initServer g ecp peer) :=
  ⟨goAwayInv_init g, goAwayInv_initServer g ecp peer⟩

/-- **the `assert!` of `GoAway::go_away` ("GOAWAY stream IDs shouldn't be higher") is exactly
    monotonicity of the announced id** -/
theorem go_away_assert_is_monotonicity (g : GoAway) (f : GoAwayFrame) :
    (g.goAway f).2 = true ↔ ∀ ga, g.goingAway = some ga → f.lastStreamId ≤ ga.lastProcessedId :=
  GoAway.goAway_ok_iff g f

/-- **`go_away_now` never trips it**: under the invariant, `go_away_now(reason)` — the path of every
    connection error, of the idle close and of `abrupt_shutdown` — announces `last_processed_id`,
    which is at or below the id announced before; the GOAWAY(last_processed_id, reason, debug) is
    queued unless exactly this GOAWAY was announced already; no panic is recorded; the invariant
    holds afterwards. -/
theorem go_away_now_monotone (c : Conn) (e : Reason) (d : Bytes) (h : GoAwayInv c) :
    GoAwayInv (c.goAwayNowData e d) ∧ (c.goAwayNowData e d).streams = c.streams ∧
    (c.goAwayNowData e d).goAway.goingAway = some { lastProcessedId := c.streams.recv.lastProcessedId, reason := e } ∧
    (∀ ga, c.goAway.goingAway = some ga → c.streams.recv.lastProcessedId ≤ ga.lastProcessedId) := by
  refine ⟨(goAwayNowData_inv c e d h).1, (goAwayNowData_inv c e d h).2, ?_, fun ga hga => h.lpi_le_ga ga hga⟩
  rw [goAwayNowData_eq c e d h]
  exact (goAwayNow_result c e d c.goAway.isUserInitiated).2.1

example : GoAwayInv (Conn.init {}) := goAwayInv_init {}
example : GoAwayInv demoServer := by
  constructor <;> first | decide | (intro ga hga; revert hga; decide) | (intro f hf; revert hf; decide) | (intro h; revert h; decide)

/-- **`DynConnection::go_away(id, reason)` at its call sites** (`go_away_gracefully`: id = 2^31-1 on a
    connection not going away; the ACK of the shutdown PING: id = `last_processed_id`): with
    `last_processed_id ≤ id ≤ max_stream_id` and `id` at or below the announced id, neither the
    `assert!` of `GoAway::go_away` nor the one of `Recv::go_away` fires, GOAWAY(id, reason) is queued,
    `max_stream_id` becomes `id`, the invariant holds afterwards. -/
theorem go_away_call_sites (c : Conn) (id : Nat) (e : Reason)
    (h1 : (view c.streams).lpi ≤ id) (h2 : id ≤ (view c.streams).rmax)
    (h3 : ∀ ga, c.goAway.goingAway = some ga → id ≤ ga.lastProcessedId) :
    GoAwayInv (c.dynGoAway id e) ∧ (c.dynGoAway id e).streams = c.streams.recvGoAway id ∧
    (c.dynGoAway id e).goAway.pending = some { lastStreamId := id, reason := e } ∧
    (c.dynGoAway id e).goAway.goingAway = some { lastProcessedId := id, reason := e } ∧
    (c.dynGoAway id e).goAway.closeNow = c.goAway.closeNow ∧
    (c.dynGoAway id e).streams.panicked = c.streams.panicked :=
  dynGoAway_inv c id e h1 h2 h3

/-- **the frame written is the frame announced, and ids written never increase**: under the
    invariant `send_pending_go_away` hands to the codec exactly the pending frame, whose id is the
    announced one (`SentOK`: sent ids are sorted non-increasingly, bounded above by what was
    announced before and below by what is announced after); runs compose (`SentOK.trans`). -/
theorem sent_goaways_monotone (c : Conn) (h : GoAwayInv c) :
    GoAwayInv (sendPendingGoAwayT c).1.1 ∧ SentOK c (sendPendingGoAwayT c).2 (sendPendingGoAwayT c).1.1 :=
  ⟨(sendPendingGoAwayT_sent c h).1, (sendPendingGoAwayT_sent c h).2.1⟩

theorem sent_goaways_compose {a b c : Conn} {e1 e2 : List Ev} (h1 : SentOK a e1 b) (h2 : SentOK b e2 c) :
    SentOK a (e1 ++ e2) c := h1.trans h2

/-- **after GOAWAY(last) was sent, frames of the peer on streams above `last` are not processed**:
    `go_away(last, …)` sets `max_stream_id = last`; HEADERS and RST_STREAM above it are dropped
    without any change, DATA above it only passes connection flow control (`ignore_data`), a
    PUSH_PROMISE on an initiating stream above it is dropped. -/
theorem frames_above_cutoff_ignored (c : Conn) (last : Nat) (e : Reason) :
    (c.dynGoAway last e).streams.recv.maxStreamId = last ∧
    (∀ (s : Streams) (h : HeadersIn), h.sid > s.recv.maxStreamId → s.recvHeaders h = (s, .ok ())) ∧
    (∀ (s : Streams) (id : Nat) (r : Reason), id ≠ 0 → id > s.recv.maxStreamId → s.recvReset id r = (s, .ok ())) ∧
    (∀ (s : Streams) (id : Nat) (payload : Bytes) (eos : Bool) (pad : Option Nat),
      s.store.findKey? id = none → id > s.recv.maxStreamId →
      s.recvData id payload eos pad =
        (match s.ignoreData (usizeAsU32 (payload.length + (match pad with | some p => p + 1 | none => 0))) with
         | (s, .error e) => (s, .error e)
         | (s, .ok _) => (s, .ok ()))) := by
  refine ⟨dynGoAway_max c last e, ?_, ?_, ?_⟩
  · intro s h hm
    unfold Streams.recvHeaders
    simp [hm]
  · intro s id r h0 hm
    unfold Streams.recvReset
    simp [h0, hm]
  · intro s id payload eos pad hk hm
    unfold Streams.recvData
    simp only [hk, hm, if_true]
    rfl

/-- **a received GOAWAY fails exactly the locally initiated streams above its last-stream-id (and
    those still waiting to be opened)**: `Inner::recv_go_away` is, literally, the check that the id
    does not exceed an earlier GOAWAY's (else PROTOCOL_ERROR), then for each stream of the store:
    `handle_error(remote GOAWAY(debug, reason))` iff `(id > last ∨ pending_open) ∧ locally
    initiated` — every other stream is passed over —, then `conn_error := remote GOAWAY`. -/
theorem recv_goaway_selects_streams (s : Streams) (last : Nat) (reason : Reason) (debug : Bytes) :
    s.recvGoAwayFrame last reason debug =
      (if last > s.actions.send.maxStreamId then (s, .error (PErr.libraryGoAway PROTOCOL_ERROR))
       else
        let s := s.modSend fun sd => { sd with maxStreamId := last }
        let err := PErr.remoteGoAway debug reason
        let s := s.storeForEach fun s id =>
          let st := s.stream id
          if (st.id > last || st.isPendingOpen) && s.counts.isLocalInit st.id then
            (s.transition id fun s => ((s.recvHandleError id err).sendHandleError id, ())).1
          else s
        ({ s with actions := { s.actions with connError := some err } }, .ok ())) :=
  recvGoAwayFrame_eq s last reason debug

/-- **… with the peer's reason and debug data** (partial: the effect of `Recv::handle_error` on the
    selected stream; that `Store::for_each` visits every stream, and that the rest of the closure —
    `Send::handle_error`, `transition_after` — does not change the state again, is not proven):
    the stream's state becomes `state.handle_error(err)`, which for a stream that was not closed is
    `Closed(Error(GoAway(debug, reason, Remote)))` (`ErrorAfterEndStream` if the peer had already
    ended the stream) and for a closed stream is the state itself. -/
theorem recv_goaway_fails_stream_partial (s : Streams) (k : Nat) (st : Stream) (debug : Bytes) (reason : Reason)
    (h : s.store.get? k = some st) :
    ((s.recvHandleError k (PErr.remoteGoAway debug reason)).stream k).state =
      st.state.handleError (PErr.remoteGoAway debug reason) ∧
    (st.state.isClosed = true → st.state.handleError (PErr.remoteGoAway debug reason) = st.state) ∧
    (st.state.isClosed = false →
      (st.state.handleError (PErr.remoteGoAway debug reason)).inner =
        .closed (if st.state.isRecvEndStream then .errorAfterEndStream (.goAway debug reason .remote)
                 else .error (.goAway debug reason .remote))) := by
  refine ⟨?_, (handleError_remoteGoAway st.state debug reason).1, (handleError_remoteGoAway st.state debug reason).2⟩
  · generalize PErr.remoteGoAway debug reason = err
    unfold Streams.recvHandleError Streams.stream
    dsimp only
    rw [Streams.modStreamW_get? _ k _ (fun x => by rw [Stream.notifyPush_fst]), Streams.modStreamW_get? _ k _ (fun x => by rw [Stream.notifyRecv_fst]),
      Streams.modStreamW_get? _ k _ (fun x => by rw [Stream.notifySend_fst]),
      Streams.modStream_get? s k (fun st => { st with state := st.state.handleError err }) (fun _ => rfl), h]
    simp only [if_true, Option.map, Stream.notifyPush_fst, Stream.notifyRecv_fst, Stream.notifySend_fst]
    rfl

/-- non-vacuity: the demo server holds a stream under key 0 -/
example : (demoServer.streams.store.get? 0).map (·.id) = some 1 := by decide

/-- **a GOAWAY whose last-stream-id is above an earlier one's is a connection error** -/
theorem recv_goaway_increasing_is_error (s : Streams) (last : Nat) (reason : Reason) (debug : Bytes)
    (h : last > s.actions.send.maxStreamId) :
    s.recvGoAwayFrame last reason debug = (s, .error (PErr.libraryGoAway PROTOCOL_ERROR)) := by
  rw [recvGoAwayFrame_eq, if_pos h]

/-- **no new request after a GOAWAY was received (or any connection error)**: while `conn_error` is
    set, `send_request` and `poll_ready` fail with that error and change nothing. -/
theorem no_new_requests_after_goaway (s : Streams) (e : PErr) (h : s.actions.connError = some e)
    (isHead : Bool) (fields : List Hpack.Field) (eos : Bool) (pending : Option Nat) (tag : String) :
    s.sendRequest isHead fields eos pending = (s, .error (.proto e)) ∧
    s.pollPendingOpen pending tag = (s, .error (.proto e)) := by
  refine ⟨sendRequest_after_connError s e h isHead fields eos pending, ?_⟩
  · unfold Streams.pollPendingOpen Streams.ensureNoConnError
    simp [h]

/-- **the connection's result reports the peer's code and debug data**: `recv_frame(GOAWAY)`
    remembers the frame; in the `Closed` state `Connection::poll` answers `take_error`, which is the
    REMOTE GOAWAY error with the peer's reason and debug data whenever the peer's reason is not
    NO_ERROR (and `Ok` / our own reason otherwise). -/
theorem result_reports_peer_goaway (c : Conn) (last code : Nat) (debug : Bytes) (s : Streams) (u : Unit)
    (h : c.streams.recvGoAwayFrame last code debug = (s, .ok u)) (ours : Reason) (i : Initiator) (fuel : Nat) :
    c.recvFrame (some (.goAway last code debug)) =
      ({ c with streams := s, error := some { lastStreamId := last, reason := code, debugData := debug } }, .ok .continue) ∧
    (∀ c' : Conn, c'.error = some { lastStreamId := last, reason := code, debugData := debug } → code ≠ NO_ERROR →
      c'.state = .closed ours i →
      (Conn.protoPoll (fuel + 1) c').2 = .ready (.error (PErr.remoteGoAway debug code))) := by
  refine ⟨?_, fun c' he hc hs => ?_⟩
  · unfold Conn.recvFrame
    dsimp only
    rw [h]
  rw [protoPoll_closed fuel c' ours i hs]
  exact congrArg PollRes.ready ((takeError_spec c' ours i).2.1 _ he hc)

/-- **graceful shutdown, stage 1** — `graceful_shutdown` on a connection that is not going away
    queues GOAWAY(2^31-1, NO_ERROR) — nothing is cut off yet — and arms the shutdown PING. -/
theorem graceful_stage1 (c : Conn) (h : GoAwayInv c) (hn : c.goAway.goingAway = none)
    (hp : c.pingPong.pendingPing = none) :
    GoAwayInv c.goAwayGracefully ∧
    c.goAwayGracefully.goAway.pending = some { lastStreamId := STREAM_ID_MAX, reason := NO_ERROR } ∧
    c.goAwayGracefully.goAway.goingAway = some { lastProcessedId := STREAM_ID_MAX, reason := NO_ERROR } ∧
    c.goAwayGracefully.goAway.closeNow = c.goAway.closeNow ∧
    c.goAwayGracefully.streams.recv.maxStreamId = STREAM_ID_MAX ∧
    c.goAwayGracefully.streams.panicked = c.streams.panicked ∧
    c.goAwayGracefully.pingPong.pendingPing =
      some { payload := Generated.Consts.PING_SHUTDOWN_PAYLOAD, sent := false } := by
  have hmax := h.none_max hn
  have h1 : (view c.streams).lpi ≤ STREAM_ID_MAX := by rw [← hmax]; exact h.lpi_le_max
  have h2 : STREAM_ID_MAX ≤ (view c.streams).rmax := by rw [hmax]; exact Nat.le_refl _
  obtain ⟨d1, d2, d3, d4, d5, d6⟩ := dynGoAway_inv c STREAM_ID_MAX NO_ERROR h1 h2 (by intro ga hga; rw [hn] at hga; cases hga)
  have hpp : (c.dynGoAway STREAM_ID_MAX NO_ERROR).pingPong = c.pingPong := (Conn.dynGoAway_keeps c _ _).2.2.2
  have heq : c.goAwayGracefully =
      { (c.dynGoAway STREAM_ID_MAX NO_ERROR) with pingPong := (c.dynGoAway STREAM_ID_MAX NO_ERROR).pingPong.pingShutdown } := by
    unfold Conn.goAwayGracefully
    have : c.goAway.isGoingAway = false := by simp [GoAway.isGoingAway, hn]
    simp only [this, Bool.false_eq_true, if_false]
    rw [hpp, hp]
    simp [hpp]
  rw [heq]
  refine ⟨d1.congr rfl rfl, d3, d4, d5, ?_, d6, rfl⟩
  show (c.dynGoAway STREAM_ID_MAX NO_ERROR).streams.recv.maxStreamId = STREAM_ID_MAX
  exact dynGoAway_max c _ _

example : demoServer.goAway.goingAway = none ∧ demoServer.pingPong.pendingPing = none := by decide

/-- **graceful shutdown, stage 2** — the ACK of the shutdown PING queues the second GOAWAY with the
    real cut-off `last_processed_id` and makes it effective (`max_stream_id`): requests the peer
    sent before it saw the first GOAWAY are all at or below it and run to completion, later ones
    are ignored. -/
theorem graceful_stage2 (c : Conn) (h : GoAwayInv c) (pp : PendingPing)
    (hping : c.pingPong.pendingPing = some pp) (hpay : pp.payload = Generated.Consts.PING_SHUTDOWN_PAYLOAD)
    (hpong : c.pingPong.pendingPong = none) (hga : c.goAway.goingAway.isSome = true) :
    let c' := (c.recvFrame (some (.ping true Generated.Consts.PING_SHUTDOWN_PAYLOAD))).1
    (c.recvFrame (some (.ping true Generated.Consts.PING_SHUTDOWN_PAYLOAD))).2 = .ok .continue ∧
    GoAwayInv c' ∧ c'.pingPong.pendingPing = none ∧
    c'.goAway.pending = some { lastStreamId := c.streams.recv.lastProcessedId, reason := NO_ERROR } ∧
    c'.goAway.goingAway = some { lastProcessedId := c.streams.recv.lastProcessedId, reason := NO_ERROR } ∧
    c'.streams.recv.maxStreamId = c.streams.recv.lastProcessedId ∧
    c'.streams.panicked = c.streams.panicked := by
  intro c'
  have hrp : c.pingPong.recvPing true Generated.Consts.PING_SHUTDOWN_PAYLOAD =
      ({ c.pingPong with pendingPing := none }, .shutdown, [], true) := by
    unfold PingPong.recvPing
    simp [hping, hpay, hpong]
  have hc' : c' = ({ c with pingPong := { c.pingPong with pendingPing := none }, streams := c.streams.wake [] } : Conn).dynGoAway
      c.streams.recv.lastProcessedId NO_ERROR := by
    show (c.recvFrame _).1 = _
    unfold Conn.recvFrame
    dsimp only
    rw [hrp]
    simp [GoAway.isGoingAway, hga]
    rfl
  have h0 : GoAwayInv ({ c with pingPong := { c.pingPong with pendingPing := none }, streams := c.streams.wake [] } : Conn) :=
    h.congr rfl (view_wake _ _)
  obtain ⟨d1, d2, d3, d4, d5, d6⟩ := dynGoAway_inv
    ({ c with pingPong := { c.pingPong with pendingPing := none }, streams := c.streams.wake [] } : Conn)
    c.streams.recv.lastProcessedId NO_ERROR (Nat.le_refl _) h.lpi_le_max (fun ga hg => h.lpi_le_ga ga hg)
  refine ⟨?_, ?_, ?_, ?_, ?_, ?_, ?_⟩
  · unfold Conn.recvFrame
    dsimp only
    rw [hrp]
    simp [GoAway.isGoingAway, hga]
  · rw [hc']; exact d1
  · rw [hc', (Conn.dynGoAway_keeps _ _ _).2.2.2]
  · rw [hc']; exact d3
  · rw [hc']; exact d4
  · rw [hc']; exact dynGoAway_max _ _ _
  · rw [hc']; exact d6

/-- non-vacuity of stages 1–2 and of the monotone ids on a concrete run: the demo server shuts down
    gracefully, the peer acknowledges the PING: GOAWAY(2^31-1) then GOAWAY(1) are sent -/
example :
    let c1 := (protoPollT 50 demoServer.goAwayGracefully).1.1
    let c2 : Conn := { c1 with codec := { c1.codec with io := { c1.codec.io with
      rd := [0,0,8,6,1,0,0,0,0] ++ Generated.Consts.PING_SHUTDOWN_PAYLOAD } } }
    (sentG (protoPollT 50 demoServer.goAwayGracefully).2).map (·.lastStreamId) = [2147483647] ∧
    (sentG (protoPollT 50 c2).2).map (·.lastStreamId) = [1] ∧
    (protoPollT 50 c2).1.1.streams.recv.maxStreamId = 1 := by decide

/-- **graceful shutdown, stage 3** — once the real cut-off is announced, `should_close_on_idle`
    holds; `Connection::poll` then runs `go_away_now(NO_ERROR)` as soon as `poll_complete` is done
    and no stream is counted any more — after which it reads nothing, flushes, and closes
    (`C14`/`C09`: a halting connection only writes its GOAWAY). -/
theorem graceful_stage3 (g : GoAway) :
    g.shouldCloseOnIdle = true ↔
      g.closeNow = false ∧ ∃ ga, g.goingAway = some ga ∧ ga.lastProcessedId ≠ STREAM_ID_MAX := by
  unfold GoAway.shouldCloseOnIdle
  cases hg : g.goingAway with
  | none => simp
  | some ga => cases hc : g.closeNow <;> simp

/-- **abrupt shutdown / connection error: nothing is processed afterwards** — once `go_away_now`
    has run (`Halting`) or the state left `Open`, `Connection::poll` reads no frame and acknowledges
    nothing: the only frames it hands to the codec are GOAWAYs, and it stays that way. -/
theorem nothing_processed_after_go_away_now (fuel : Nat) (c : Conn) (h : Dead c) :
    OnlyGoAway (protoPollT fuel c).2 ∧ Dead (protoPollT fuel c).1.1 :=
  ⟨(protoPollT_dead fuel c h).1, (protoPollT_dead fuel c h).2.1⟩

/-- `abrupt_shutdown(reason)` makes the connection halting -/
example (c : Conn) (e : Reason) : Halting (c.goAwayFromUser e) := (inert_goAwayFromUser c e).2

/-- **the GOAWAY invariant holds in every reachable state — so none of the GOAWAY `assert!`s can
    fire.**  `Hist15 c0 evs c`: the connection got from `c0` to `c` by any interleaving of
    `proto::Connection::poll` / `client::Connection::poll` (any waker, any fuel, any transport
    state), `graceful_shutdown`, `abrupt_shutdown(reason)`, and calls that leave `goAway`,
    `last_processed_id`, `max_stream_id` alone (`Keep15` — every handle call and transport event of
    the driver, see `driver_calls_keep`).  Together with `go_away_call_sites` /
    `go_away_now_monotone` (under the invariant the asserts hold at each call site) this is: the
    `assert!`s of `GoAway::go_away` ("GOAWAY stream IDs shouldn't be higher") and of `Recv::go_away`
    (`max_stream_id >= last_processed_id`) never fire. -/
theorem goaway_invariant_in_every_reachable_state {c0 c : Conn} {evs : List Ev} (h : Hist15 c0 evs c)
    (h0 : GoAwayInv c0) : GoAwayInv c :=
  (hist15 h h0).1

/-- **the last-stream-ids of the GOAWAY frames an endpoint sends never increase** — over every
    history: in the order handed to the codec the ids are sorted non-increasingly, each is at most
    what was announced before the history started (if anything) and at least what is announced at
    its end. -/
theorem goaway_last_stream_ids_never_increase {c0 c : Conn} {evs : List Ev} (h : Hist15 c0 evs c)
    (h0 : GoAwayInv c0) :
    (sentG evs).Pairwise (fun a b => b.lastStreamId ≤ a.lastStreamId) ∧
    (∀ f ∈ sentG evs, ∃ m', gaLast c = some m' ∧ m' ≤ f.lastStreamId) ∧
    (∀ f ∈ sentG evs, ∀ m, gaLast c0 = some m → f.lastStreamId ≤ m) :=
  ⟨(hist15 h h0).2.sorted, (hist15 h h0).2.lower, (hist15 h h0).2.upper⟩

/-- **no GOAWAY sent is below a stream the endpoint has processed**: every GOAWAY frame of the
    history announces at least the `last_processed_id` of the state reached — the highest
    peer-initiated stream `recv_headers` has counted (and `accepted_request_is_counted_partial`: a
    request is counted before it is queued for the application). -/
theorem goaways_cover_processed_streams {c0 c : Conn} {evs : List Ev} (h : Hist15 c0 evs c) (h0 : GoAwayInv c0) :
    ∀ f ∈ sentG evs, c.streams.recv.lastProcessedId ≤ f.lastStreamId := by
  obtain ⟨hi, hs⟩ := hist15 h h0
  intro f hf
  obtain ⟨m', hm, hle⟩ := hs.lower f hf
  exact Nat.le_trans (hi.lpi_le_gaLast hm) hle

/-- non-vacuity, and graceful shutdown end to end on a concrete connection: the demo server (no
    stream in flight) shuts down gracefully, is polled, the peer's PING ACK arrives (a transport
    event: `Keep15`), it is polled again — GOAWAY(2^31-1) then GOAWAY(1) were sent, the connection is
    `Closed` with NO_ERROR and the transport was shut down -/
example : ∃ evs c, Hist15 demoServer evs c ∧ (sentG evs).map (·.lastStreamId) = [2147483647, 1] ∧
    c.streams.recv.lastProcessedId = 1 ∧ c.state = .closed NO_ERROR .library ∧ c.codec.io.shutdownCalled = true := by
  let c1 := (protoPollT 50 { demoServer.goAwayGracefully with cx := "c" }).1.1
  let c2 : Conn := { c1 with codec := { c1.codec with io := { c1.codec.io with
    rd := [0,0,8,6,1,0,0,0,0] ++ Generated.Consts.PING_SHUTDOWN_PAYLOAD } } }
  have h1 : Hist15 demoServer _ c1 := Hist15.serverPoll "c" 50 (Hist15.graceful Hist15.init)
  have h2 : Hist15 demoServer _ c2 := Hist15.call c2 h1 (Keep15.of_view rfl rfl)
  exact ⟨_, _, Hist15.serverPoll "c" 50 h2, by decide, by decide, by decide, by decide⟩

/-- **no new stream is started after a GOAWAY was received — ever**: once `conn_error` is set (by
    `recv_go_away`, and likewise by any connection error, transport error or end of input) it stays
    set over every history (polls, shutdown calls, all handle calls), so every later `send_request`
    fails with a connection-level error and changes nothing.  (`Hist15` steps of kind `call` are
    required not to clear `conn_error`; no function of the model does — `driver_calls_keep`.) -/
theorem no_new_requests_ever_after_goaway {c0 c : Conn} {evs : List Ev} (h : Hist15 c0 evs c) (h0 : GoAwayInv c0)
    (he : c0.streams.actions.connError.isSome = true) :
    ∃ e, c.streams.actions.connError = some e ∧
      ∀ isHead fields eos pending, c.streams.sendRequest isHead fields eos pending = (c.streams, .error (.proto e)) := by
  have := (hist15 h h0).2.mono.2 he
  cases hc : c.streams.actions.connError with
  | none => rw [show (view c.streams).connErr = c.streams.actions.connError from rfl, hc] at this; cases this
  | some e => exact ⟨e, rfl, fun a b d p => sendRequest_after_connError c.streams e hc a b d p⟩

/-- **every user-side call of the driver is such a step**: the handle functions of `Streams`
    (`send_request`, `poll_ready`, `send_data`, `send_trailers`, `send_reset`, `reserve_capacity`,
    `poll_capacity`, `poll_reset`, `send_response`, `send_informational`, `push_request`,
    `next_incoming`/`take_request`, `poll_response`, `poll_informational`, `poll_data`,
    `poll_trailers`, `release_capacity`, `clear_recv_buffer`, clones and drops of handles,
    `set_target_window_size`) write nothing of the view — in particular not `last_processed_id` /
    `max_stream_id` / `conn_error`.  (The same for everything `Connection::poll` calls except
    `recv_headers`, `recv_go_away`, `handle_error`, `recv_eof`, `apply_*_settings`: files
    `ConnCtlPView*.lean`, `view_of_step` and the frame lemmas that follow from it.) -/
theorem driver_calls_keep (s : Streams) :
    (∀ a b c d, view (s.sendRequest a b c d).1 = view s) ∧ (∀ a b, view (s.pollPendingOpen a b).1 = view s) ∧
    (∀ k n e, view (s.refSendData k n e).1 = view s) ∧ (∀ k f, view (s.refSendTrailers k f).1 = view s) ∧
    (∀ k r, view (s.refSendReset k r) = view s) ∧ (∀ k n, view (s.refReserveCapacity k n) = view s) ∧
    (∀ k t, view (s.pollCapacity k t).1 = view s) ∧ (∀ k m t, view (s.pollReset k m t).1 = view s) ∧
    (∀ k f e, view (s.refSendResponse k f e).1 = view s) ∧ (∀ k f, view (s.refSendInformationalHeaders k f).1 = view s) ∧
    (∀ k v f, view (s.refSendPushPromise k v f).1 = view s) ∧ view s.nextIncoming.1 = view s ∧
    (∀ k, view (s.recvTakeRequest k).1 = view s) ∧ (∀ n k t, view (Streams.recvPollResponse n s k t).1 = view s) ∧
    (∀ k t, view (s.recvPollInformational k t).1 = view s) ∧ (∀ k t, view (s.refPollData k t).1 = view s) ∧
    (∀ k t, view (s.recvPollTrailers k t).1 = view s) ∧ (∀ k n, view (s.refReleaseCapacity k n).1 = view s) ∧
    (∀ k, view (s.refClearRecvBuffer k) = view s) ∧ (∀ k, view (s.cloneStreamRef k) = view s) ∧
    (∀ k, view (s.dropStreamRef k) = view s) ∧ view s.cloneHandle = view s ∧ view s.dropHandle = view s ∧
    (∀ n, view (s.setTargetConnectionWindow n).1 = view s) ∧ (∀ t, view (s.wake t) = view s) := by
  -- each call is a step of the stream layer (`Streams.f_step`, found by its name) whose footprint has none of the kinds
  -- `view` reads (`kindsView`, checked by `decide`); cloning the handle does not touch the state `view` reads
  repeat' apply And.intro
  all_goals intros; first | exact view_of_step (by stp_step <;> first | exact .refl _ | decide) | rfl

/-- **a request is counted in `last_processed_id` before it is queued for the application**
    (partial: stated for `Recv::recv_headers` on a fresh stream entry — state `Idle`, not counted,
    which is what `Inner::recv_headers` creates for an unknown id; that every key in `pending_accept`
    names such an entry needs per-key store invariants that are not proven): `recv_headers` writes
    nothing of the view but `last_processed_id`, only upwards and only to the frame's stream id, and
    unless it fails with a state/stream error the result is at or above that id — in particular
    when the request is queued in `pending_accept` (`.ok`). -/
theorem accepted_request_is_counted_partial (s : Streams) (k : Nat) (h : HeadersIn) :
    ∃ l, view (s.recvRecvHeaders k h).1 = { view s with lpi := l } ∧
      (l = (view s).lpi ∨ (l = h.sid ∧ (view s).lpi < h.sid)) ∧
      ((s.stream k).state.inner = .idle → (s.stream k).isCounted = false →
        (∀ e, (s.recvRecvHeaders k h).2 ≠ .state e) → h.sid ≤ l) :=
  view_recvRecvHeaders s k h

end H2V.Props.C15

#print axioms H2V.Props.C15.goaway_invariant_in_every_reachable_state
#print axioms H2V.Props.C15.goaway_last_stream_ids_never_increase
#print axioms H2V.Props.C15.goaways_cover_processed_streams
#print axioms H2V.Props.C15.no_new_requests_ever_after_goaway
#print axioms H2V.Props.C15.driver_calls_keep
#print axioms H2V.Props.C15.accepted_request_is_counted_partial
#print axioms H2V.Props.C15.invariant_initially
#print axioms H2V.Props.C15.go_away_assert_is_monotonicity
#print axioms H2V.Props.C15.go_away_now_monotone
#print axioms H2V.Props.C15.go_away_call_sites
#print axioms H2V.Props.C15.sent_goaways_monotone
#print axioms H2V.Props.C15.sent_goaways_compose
#print axioms H2V.Props.C15.frames_above_cutoff_ignored
#print axioms H2V.Props.C15.recv_goaway_selects_streams
#print axioms H2V.Props.C15.recv_goaway_fails_stream_partial
#print axioms H2V.Props.C15.recv_goaway_increasing_is_error
#print axioms H2V.Props.C15.no_new_requests_after_goaway
#print axioms H2V.Props.C15.result_reports_peer_goaway
#print axioms H2V.Props.C15.graceful_stage1
#print axioms H2V.Props.C15.graceful_stage2
#print axioms H2V.Props.C15.graceful_stage3
#print axioms H2V.Props.C15.nothing_processed_after_go_away_now
