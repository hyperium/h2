import H2V.Lemmas.ConnCountsPLocal
import H2V.Lemmas.ConnCountsPIdle
import H2V.Lemmas.ConnCountsPWitness
import H2V.Lemmas.ConnCountsPFree
import H2V.Lemmas.ConnCountsPQueueR
import H2V.Lemmas.ConnCountsPConn
/-
  C19 — finished streams are forgotten and an idle client connection closes itself.
  Property theorems only (lemmas: `H2V/Lemmas/ConnCountsP*.lean`, notes: `ConnCountsPNOTES.md`).
  The theorems are about the executable model `H2V/Model/Conn*.lean` of h2's stream layer and
  connection loop (validated line by line against the real code, see `Model/ConnNOTES.md`).
-/
namespace H2V.Props.C19
open H2V H2V.Model H2V.Model.Conn H2V.Lemmas.ConnCountsP

/-- **A released stream is removed at once.**  `Counts::transition_after` is the code every
    stream-touching operation of h2 ends with (`counts.transition(stream, ..)`).  Whatever the state
    before and whatever flag it is called with: afterwards the slab holds no entry under that key
    which `is_released()` (closed in both directions, nothing left to send, no handle, in no queue,
    not remembered as a reset stream) — such an entry has been taken out of the slab.  Corresponds
    to the candidate invariant "is_released ⇒ removed" of `ConnInv.lean` at the point where h2
    re-establishes it. -/
theorem released_entry_is_removed (s : Streams) (k : Nat) (b : Bool) (st : Stream)
    (h : (s.transitionAfter k b).store.get? k = some st) : st.isReleased = false :=
  transitionAfter_no_released s k b st h

/-- non-vacuity: a referenced stream survives `transition_after` (so the hypothesis is met) … -/
example : ((({ store := { slab := [{ key := 0, id := 1, refCount := 1 }], ids := [(1, 0)], nextKey := 1 } } : Streams).transitionAfter 0 false).store.get? 0).isSome = true := by
  decide
/-- … and an unreferenced, closed, flushed one is gone -/
example : ((({ store := { slab := [{ key := 0, id := 1, state := { inner := .closed .endStream } }], ids := [(1, 0)], nextKey := 1 } } : Streams).transitionAfter 0 false).store.get? 0).isSome = false := by
  decide

/-- **The memory of a locally reset stream is kept until it expires.**  `Ev s s'` is the closure of
    the elementary steps that every function of the stream layer is made of, *except* the expiry pass
    over `pending_reset_expired` (`clear_expired_reset_streams` / `clear_all_reset_streams`, which only
    `Connection::poll2` and `recv_eof` run).  Along any such evolution a stream that is remembered as
    locally reset (`reset_at` set, i.e. queued in `pending_reset_expired`) stays in the store with
    the flag set: late frames of the peer for it are recognised, and it is not released early. -/
theorem pending_reset_entry_kept {s s' : Streams} (h : Ev s s') (k : Nat) (hk : (s.stream k).resetAt = true) :
    (s'.stream k).resetAt = true ∧ (s'.store.get? k).isSome = true := by
  have := h.mono.resetAt k hk
  obtain ⟨x, hx, _⟩ := stream_resetAt_live this
  exact ⟨this, by rw [hx]; rfl⟩

/-- instances of the previous theorem: writing frames (`Prioritize::pop_frame`, all of it: DATA
    splitting, implicit resets, PUSH_PROMISE activation) and receiving a RST_STREAM keep it -/
theorem pending_reset_entry_kept_popFrame (fuel : Nat) (s : Streams) (maxLen k : Nat) (hk : (s.stream k).resetAt = true) :
    ((Streams.popFrame fuel s maxLen).1.stream k).resetAt = true :=
  (pending_reset_entry_kept (popFrame_ev fuel s maxLen) k hk).1
theorem pending_reset_entry_kept_recvReset (s : Streams) (id : Nat) (r : Reason) (k : Nat) (hk : (s.stream k).resetAt = true) :
    (((s.recvRecvReset id r).1.sendHandleError id).stream k).resetAt = true :=
  (pending_reset_entry_kept (.trans (.of_step (Streams.recvRecvReset_step (by decide) s id r)) (sendHandleError_ev _ id)) k hk).1

/-- non-vacuity: a state with a remembered reset stream -/
example : ((({ store := { slab := [{ key := 0, id := 1, resetAt := true }], ids := [(1, 0)], nextKey := 1 } } : Streams).stream 0).resetAt) = true := by
  decide

/-- **A stream that somebody still refers to is never forgotten, and forgetting one stream never
    disturbs another.**  `transition_after(k, ..)` keeps — with the same stream id and the same
    `ref_count` — every slab entry other than `k`, and `k` itself whenever a handle still refers to
    it (`ref_count > 0`: `StreamRef`, `OpaqueStreamRef`, a pending accept).  So a user handle never
    becomes a stale reference through the release path. -/
theorem referenced_entry_is_kept (s : Streams) (k j : Nat) (b : Bool) (x : Stream) (hx : s.store.get? j = some x)
    (hkeep : j ≠ k ∨ x.refCount ≠ 0) :
    ∃ x', (s.transitionAfter k b).store.get? j = some x' ∧ x'.refCount = x.refCount ∧ x'.id = x.id :=
  transitionAfter_keeps s k j b x hx hkeep

/-- non-vacuity: a closed, flushed stream with one handle left -/
example : ∃ x, ({ store := { slab := [{ key := 0, id := 1, refCount := 1, state := { inner := .closed .endStream } }], ids := [(1, 0)], nextKey := 1 } } : Streams).store.get? 0 = some x ∧ (0 ≠ 0 ∨ x.refCount ≠ 0) :=
  ⟨_, rfl, .inr (by decide)⟩

/-- **Stream storage is never reached through a stale queue entry — in every reachable state.**
    h2 links streams into intrusive queues by slab key (`pending_send`, `pending_capacity`,
    `pending_open`, `pending_window_updates`, `pending_reset_expired`); a queued key whose slab entry
    is gone would make `store.resolve(key)` panic ("dangling store key").  As long as no `assert!`
    has fired, for each of these five queues:
    * every queued key is a live slab entry whose link flag (`is_pending_*`, resp. `reset_at`) is set;
    * every live entry whose flag is set is in the queue (a flagged stream is not lost);
    * no key is queued twice.
    (`pending_accept` is not covered: its link flag is shared with the parent stream's
    `pending_push_promises` queue.) -/
theorem queues_hold_no_stale_keys {s : Streams} (h : Reach s) (hp : s.panicked = none) (q : QName) (hq : q ≠ .pendingAccept) :
    (∀ k ∈ s.getQ q, ∃ x, s.store.get? k = some x ∧ x.isQueued q = true) ∧
    (∀ k x, s.store.get? k = some x → x.isQueued q = true → k ∈ s.getQ q) ∧
    (s.getQ q).Nodup := by
  have hi := h.qok hp q hq
  exact ⟨fun k hk => (hi.mem k).mp hk, fun k x hx hf => (hi.mem k).mpr ⟨x, hx, hf⟩, hi.nodup⟩

/-- non-vacuity: after `send_request` the new stream sits in `pending_open` -/
example : Reach wS1 ∧ wS1.panicked = none ∧ wS1.prio.pendingOpen = [0] :=
  ⟨.step (.init (.client {} rfl)) (.sendRequest _ false wGet true none), by decide +kernel, by decide +kernel⟩

/-- **Idle close, step 1.**  `client::Connection::poll` on a connection with no counted stream and
    no handle besides the connection's own (`!has_streams_or_other_references()`) behaves like
    `go_away_now(NO_ERROR)` followed by the normal poll. -/
theorem idle_client_poll_starts_with_goaway (fuel : Nat) (c : Conn) (h : c.hasStreamsOrOtherReferences = false) :
    (c.clientPoll fuel).2 = (Conn.protoPoll fuel (c.goAwayNow NO_ERROR)).2 :=
  clientPoll_idle fuel c h

/-- **Idle close, step 2.**  After `go_away_now(NO_ERROR)` the connection is going away with
    `NO_ERROR` and `last_stream_id = last_processed_id`, it will close as soon as the frame is out
    (`close_now`), and the GOAWAY(NO_ERROR) frame is pending — unless exactly this GOAWAY had been
    announced before, in which case what was pending stays pending. -/
theorem idle_goaway_is_no_error (c : Conn) :
    (c.goAwayNow NO_ERROR).goAway.closeNow = true ∧
    (∃ ga, (c.goAwayNow NO_ERROR).goAway.goingAway = some ga ∧ ga.reason = NO_ERROR ∧
           ga.lastProcessedId = c.streams.recv.lastProcessedId) ∧
    ((c.goAwayNow NO_ERROR).goAway.pending =
        some { lastStreamId := c.streams.recv.lastProcessedId, reason := NO_ERROR, debugData := [] } ∨
     (c.goAway.goingAway = some { lastProcessedId := c.streams.recv.lastProcessedId, reason := NO_ERROR } ∧
      (c.goAwayNow NO_ERROR).goAway.pending = c.goAway.pending)) :=
  goAwayNow_noError c

/-- **Idle close, a complete run** (also the non-vacuity witness of step 1): a fresh client whose
    only `SendRequest` has been dropped is idle; one `poll` writes `GOAWAY(last=0, NO_ERROR)` behind
    the preface and SETTINGS, calls `poll_shutdown` on the transport and completes with `Ok(())`. -/
theorem idle_client_run :
    idleClient.hasStreamsOrOtherReferences = false ∧
    isDone (idleClient.clientPoll 50).2 = true ∧
    (idleClient.clientPoll 50).1.codec.io.tx = ["PREFACE", "S:0:0:-", "G:0:0:0:-"] ∧
    (idleClient.clientPoll 50).1.codec.io.shutdownCalled = true :=
  idleClient_run

/-- **The bookkeeping returns to the idle values — in every reachable state.**
    (`Reach`: see `H2V.Props.C05.slots_are_accounted_everywhere`.)  As long as no `assert!` has fired:
    * the counter of remembered reset streams is exactly the length of `pending_reset_expired`
      (positive statement for quirk Q2 of ConnNOTES.md, fixed in the real code): when the last
      remembered stream has expired the counter is 0 again;
    * when the store is empty (every stream closed, flushed, released), both concurrency counters
      are 0 — nothing is retained for finished streams;
    * the store never holds two entries under one key, and a key is never handed out twice
      (every key in the slab is below `next_key`): a handle that still holds a key cannot be
      redirected to another stream's entry. -/
theorem bookkeeping_returns_to_idle {s : Streams} (h : Reach s) (hp : s.panicked = none) :
    s.counts.numLocalResetStreams = s.recv.pendingResetExpired.length ∧
    (s.store.slab = [] → s.counts.numSendStreams = 0 ∧ s.counts.numRecvStreams = 0) ∧
    (s.store.slab.map (·.key)).Nodup ∧ (∀ x ∈ s.store.slab, x.key < s.store.nextKey) := by
  have hi := (h.inv.2.2 hp).1
  refine ⟨hi.reset, ?_, h.inv.1.nodup, h.inv.1.fresh⟩
  intro he
  have := hi.sum
  unfold cntAll at this
  rw [he] at this
  simp only [List.countP_nil] at this
  omega

/-- non-vacuity -/
example : Reach wS2 ∧ wS2.panicked = none := ⟨wS2_reach, wS2_facts.1⟩

/-- **FINDING (Q3 of ConnNOTES.md, real code, still open): a finished stream can stay in the slab
    for ever.**  A reachable state without panic (client, `max_concurrent_reset_streams = 0`, an
    upload larger than the connection window that is reset and whose handles are dropped while it
    is parked in `pending_capacity`, then a WINDOW_UPDATE) in which the only slab entry is closed,
    has `ref_count = 0`, is in none of the six queues and not in the id map — and another
    `poll_complete` leaves it there.  So "`is_released()` ⇒ removed" holds at every
    `transition_after` (`released_entry_is_removed`) but NOT between operations: the `continue` of
    `Prioritize::assign_connection_capacity` drops the stream from `pending_capacity` without a
    `transition`.  (The counters are unaffected: `bookkeeping_returns_to_idle`.) -/
theorem finished_stream_retained_counterexample :
    Reach q3g.1 ∧ q3g.1.panicked = none ∧
    (q3f.1.store.slab.map fun x => (x.id, x.refCount, x.isPendingSendCapacity)) = [(1, 0, true)] ∧
    q3g.1.store.ids = [] ∧
    (q3g.1.store.slab.map fun x => (x.id, x.refCount, x.isClosed,
        x.isPendingSend || x.isPendingSendCapacity || x.isPendingOpen || x.isPendingAccept || x.isPendingWindowUpdate || x.resetAt))
      = [(1, 0, true, false)] ∧
    (q3g.1.prio.pendingSend, q3g.1.prio.pendingCapacity, q3g.1.prio.pendingOpen) = ([], [], []) ∧
    (q3g.1.recv.pendingWindowUpdates, q3g.1.recv.pendingAccept, q3g.1.recv.pendingResetExpired) = ([], [], []) ∧
    (wPoll q3g).1.store.slab.length = 1 :=
  ⟨q3_reach, q3_counterexample⟩

/-- **FINDING (Q1 of ConnNOTES.md, real code, still open): a stream is forgotten before its
    RST_STREAM is written, and then reset a second time through a second slab entry.**  A reachable
    state without panic (client, `max_concurrent_reset_streams = 0`, both handles of a request
    dropped while the response is in flight): `transition_after` unlinks the stream from the id
    map although its implicit RST_STREAM(CANCEL) is still to be generated (`Stream::is_closed()` is
    already true for `ScheduledLibraryReset` with an empty queue); the response HEADERS is then "for a
    forgotten stream" (`STREAM_CLOSED`), `Inner::send_reset` inserts a SECOND slab entry with the
    same stream id, the bogus reset is counted in `num_local_error_reset_streams`, and the peer
    receives `RST_STREAM(CANCEL)` and `RST_STREAM(STREAM_CLOSED)` for stream 1. -/
theorem stream_forgotten_too_early_counterexample :
    Reach q1d.1 ∧ q1d.1.panicked = none ∧
    q1c.1.store.ids = [] ∧
    (q1c.1.store.slab.map fun x => (x.id, x.pendingSend.length, x.isPendingSend)) = [(1, 0, true)] ∧
    (q1d.1.store.slab.filter (·.id == 1)).length = 2 ∧
    q1d.1.counts.numLocalErrorResetStreams = 1 ∧
    q1e.2.2.tx.drop 3 = ["R:1:8", "R:1:5"] :=
  ⟨q1_reach, q1_counterexample.1, q1_counterexample.2.1, q1_counterexample.2.2.1, q1_counterexample.2.2.2.2.1,
   q1_counterexample.2.2.2.2.2.1, q1_counterexample.2.2.2.2.2.2⟩

/-- **The store and its queues are consistent in every state of a running connection.**
    (`ConnReach`: every connection state reachable from a fresh client or server connection by polls
    of the connection future — whatever the peer sent —, user calls and transport events; see
    `H2V.Props.C05.limits_hold_in_every_connection_state`.)  As long as no `assert!` has fired: no
    two slab entries share a key and no key is reused; the counter of remembered reset streams is the
    length of `pending_reset_expired`; and each of the five scheduling queues holds exactly the live
    entries whose link flag is set, each once — no stale key anywhere. -/
theorem store_is_consistent_in_every_connection_state {c : Conn} (h : ConnReach c) (hp : c.streams.panicked = none) :
    (c.streams.store.slab.map (·.key)).Nodup ∧ (∀ x ∈ c.streams.store.slab, x.key < c.streams.store.nextKey) ∧
    c.streams.counts.numLocalResetStreams = c.streams.recv.pendingResetExpired.length ∧
    (∀ q, q ≠ QName.pendingAccept →
      (∀ k, k ∈ c.streams.getQ q ↔ ∃ x, c.streams.store.get? k = some x ∧ x.isQueued q = true) ∧ (c.streams.getQ q).Nodup) := by
  have hb := bookkeeping_returns_to_idle h.reach hp
  exact ⟨hb.2.2.1, hb.2.2.2, hb.1, fun q hne => ⟨(h.reach.qok hp q hne).mem, (h.reach.qok hp q hne).nodup⟩⟩

/-- non-vacuity: a fresh client after its first `poll` -/
example : ConnReach ((Conn.init {}).clientPoll 50).1 ∧ ((Conn.init {}).clientPoll 50).1.streams.panicked = none :=
  ⟨.step (.client {} rfl) (.clientPoll 50 _), by decide +kernel⟩

#print axioms released_entry_is_removed
#print axioms pending_reset_entry_kept
#print axioms pending_reset_entry_kept_popFrame
#print axioms pending_reset_entry_kept_recvReset
#print axioms referenced_entry_is_kept
#print axioms queues_hold_no_stale_keys
#print axioms idle_client_poll_starts_with_goaway
#print axioms idle_goaway_is_no_error
#print axioms idle_client_run
#print axioms bookkeeping_returns_to_idle
#print axioms finished_stream_retained_counterexample
#print axioms stream_forgotten_too_early_counterexample
#print axioms store_is_consistent_in_every_connection_state

end H2V.Props.C19
