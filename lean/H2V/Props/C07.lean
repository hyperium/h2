import H2V.Lemmas.ConnWakePGoAway
/-
  C07 — when a connection ends, every outstanding handle resolves: nothing hangs.
  Property theorems only; lemmas and definitions in `H2V/Lemmas/ConnWakeP*.lean` (see ConnWakePNOTES.md).

  Vocabulary (all about the frozen model `H2V/Model/Conn*.lean`, a line-by-line mirror of
  `src/proto/streams/*` and `src/proto/connection.rs`):
    `Streams`            the shared state behind the `Mutex` (`streams::Inner` + `SendBuffer`)
    `s.recvEof b`        `Inner::recv_eof` — what EOF on the transport AND `Drop for Connection` run
    `s.handleError e`    `Inner::handle_error` — I/O error, fatal protocol error, `abrupt_shutdown`, GOAWAY sent
    `Resolved a`         stream entry `a` is `Closed` and none of `send_task / open_task / recv_task / push_task` is occupied
    `Keep a a'`          `a'` has the receive queue, reference count and "END_STREAM received" of `a`
    `EndedAt s s' k a`   the entry `a` that was at key `k` in `s` is, in `s'`, released (no handle left) or
                         `Resolved`, `Keep`-related to `a`, and every tag that was parked on `a` is in the
                         part of the wake log written between `s` and `s'`
    `Good s`             the store invariant (keys unique, id map is a map onto live entries) — holds in
                         every state reachable by the model's operations (`reachable_good`)
    `Step none s s'`     the frame relation every non-`poll_*` operation satisfies (C06)
-/
namespace H2V.Props.C07
open H2V H2V.Model H2V.Model.Conn H2V.Lemmas.ConnWakeP H2V.Lemmas.Comp

/-- **EOF / dropped connection.**  After `Inner::recv_eof` — run when the transport reports EOF and by
    `Drop for Connection` however the connection ended — the connection error is set, and EVERY stream
    that the id map knew is released or closed with all four waker slots empty, every waker that was
    parked on it (response future, body/trailers reader, capacity/reset waiter, `poll_ready`, pushed
    streams) has been woken, and its receive queue, handle count and END_STREAM flag are untouched.
    For every state with the store invariant (i.e. every reachable state), whatever is queued, however
    many streams, whatever their states. -/
theorem recv_eof_resolves_every_linked_stream (s : Streams) (h : Good s) (clearPendingAccept : Bool) :
    (s.recvEof clearPendingAccept).actions.connError.isSome = true ∧
    ∀ e ∈ s.store.ids, ∀ a, s.store.get? e.2 = some a → EndedAt s (s.recvEof clearPendingAccept) e.2 a :=
  recvEof_all s h.ids h.bounded clearPendingAccept

/-- **I/O error, fatal protocol error, abrupt shutdown.**  The same for `Inner::handle_error(err)`, and
    `conn_error` is exactly `err` afterwards. -/
theorem handle_error_resolves_every_linked_stream (s : Streams) (h : Good s) (err : PErr) :
    (s.handleError err).1.actions.connError = some err ∧
    ∀ e ∈ s.store.ids, ∀ a, s.store.get? e.2 = some a → EndedAt s (s.handleError err).1 e.2 a :=
  handleError_all s h.ids h.bounded err

/-- **GOAWAY received.**  After `Inner::recv_go_away(last_stream_id)` (accepted: `Ok`) `conn_error` is the remote
    GOAWAY — so no new request is accepted (`send_request_refused_after_end`) — and every locally
    initiated stream ABOVE `last_stream_id` that the id map knew is released or closed with all parked
    wakers woken (it will never be processed by the peer), its receive queue / handles / END_STREAM flag
    untouched.  (Streams at or below `last_stream_id` go on; they are resolved by their own completion
    or by the later end of the connection.) -/
theorem goaway_received_resolves_streams_above_last_id (s s' : Streams) (h : Good s) (last : Nat) (r : Reason)
    (d : Bytes) (hok : s.recvGoAwayFrame last r d = (s', .ok ())) :
    s'.actions.connError = some (PErr.remoteGoAway d r) ∧
    ∀ e ∈ s.store.ids, e.1 > last → s.counts.isLocalInit e.1 = true →
      ∀ a, s.store.get? e.2 = some a → EndedAt s s' e.2 a :=
  recvGoAwayFrame_all s s' h last r d hok

example : (exOpen.recvGoAwayFrame 0 0 []).2 = .ok () ∧ exOpen.counts.isLocalInit 1 = true ∧
    (exOpen.recvGoAwayFrame 0 0 []).1.wakes = ["s0", "p0"] := by
  refine ⟨by decide, by decide, by decide⟩

/-- non-vacuity: a state with a linked open stream, a parked response future `p0` and a parked
    capacity waiter `s0`; `recv_eof` wakes both and closes the stream -/
example : Good exOpen ∧ exOpen.store.ids = [(1, 0)] ∧ (exOpen.recvEof true).wakes = ["s0", "p0"] ∧
    ((exOpen.recvEof true).stream 0).state.isClosed = true := by
  refine ⟨exOpen_good, by decide, by decide, by decide⟩

/-- **Nothing waits on a closed stream** (1): `poll_capacity` is `Ready(None)`. -/
theorem poll_capacity_ready_when_closed (s : Streams) (k : Nat) (tag : String)
    (h : (s.stream k).state.isClosed = true) : s.pollCapacity k tag = (s, .none) :=
  pollCapacity_closed h

/-- (2) `poll_data` never answers `Pending`; (3) neither does `poll_trailers` once the queue is drained;
    (4) nor `poll_response` (with the fuel the driver gives it: queue length + 1). -/
theorem recv_polls_ready_when_closed (s : Streams) (k : Nat) (tag : String)
    (h : (s.stream k).state.isClosed = true) :
    (∀ s', s.recvPollData k tag ≠ (s', .pending)) ∧
    ((s.stream k).pendingRecv = [] → ∀ s', s.recvPollTrailers k tag ≠ (s', .pending)) ∧
    (∀ s', Streams.recvPollResponse ((s.stream k).pendingRecv.length + 1) s k tag ≠ (s', .pending)) := by
  obtain ⟨a, ha, hst⟩ := get?_of_closed h
  refine ⟨recvPollData_closed h, recvPollTrailers_closed h, ?_⟩
  rw [hst] at h ⊢
  exact recvPollResponse_closed _ ha (Nat.lt_succ_self _) h

/-- (5) `poll_reset` is `Ready` on a closed stream — EXCEPT when the stream ended cleanly
    (`Closed(EndStream)`): see `poll_reset_after_clean_end_hangs_counterexample`. -/
theorem poll_reset_ready_when_closed_partial (s : Streams) (k : Nat) (mode : PollReset) (tag : String)
    (h : (s.stream k).state.isClosed = true) (he : (s.stream k).state.inner ≠ .closed .endStream) :
    (s.pollReset k mode tag).2 ≠ .ok none ∧ (s.pollReset k mode tag).1 = s :=
  pollReset_closed h he

example : (W1.w3.stream 0).state.isClosed = true := by decide

/-- **FINDING (recorded as F28).**  Full-strength C07 for reset waits FAILS: a stream that ended cleanly
    (request and response complete) keeps its `SendStream::poll_reset` waiter parked for ever — also
    after the connection died and was dropped: `ensure_reason` says `Ok(None)` for `Closed(EndStream)`,
    and `recv_eof`/`handle_error` only walk the id map, from which the closed stream was unlinked.
    The state is reached from `Conn.init {}` through the model's API (see `ConnWakePFindings.lean`) and
    on the real code. -/
theorem poll_reset_after_clean_end_hangs_counterexample :
    W1.w5.actions.connError.isSome = true ∧ W1.w5.wakes = [] ∧ (W1.w5.stream 0).sendTask = some "s0" ∧
    (W1.w5.pollReset 0 .streaming "s0").2 = .ok none :=
  W1.pollReset_endStream_hangs_counterexample

/-- **No new work after the end.**  Once `conn_error` is set (`recv_eof`, `handle_error`, GOAWAY received)
    `SendRequest::poll_ready` and `send_request` answer `Ready(Err(conn_error))`, whatever the pending
    stream, the request, the limits. -/
theorem send_request_refused_after_end (s : Streams) (e : PErr) (h : s.actions.connError = some e)
    (p : Option Nat) (tag : String) (isHead : Bool) (f : List Hpack.Field) (eos : Bool) :
    s.pollPendingOpen p tag = (s, .error (.proto e)) ∧ s.sendRequest isHead f eos p = (s, .error (.proto e)) :=
  ⟨pollPendingOpen_connError p tag h, sendRequest_connError isHead f eos p h⟩

example : (exOpen.recvEof true).actions.connError.isSome = true := by decide

/-- **A complete message survives the end.**  A stream that had received END_STREAM keeps that fact through
    `State::recv_eof` / `handle_error` (the state becomes `Closed(ErrorAfterEndStream)` or stays
    `Closed(EndStream)`), the teardown keeps its receive queue (`Keep` in `EndedAt`), buffered DATA is
    handed out first, and when the queue is drained `poll_data` reports a clean end, not an error. -/
theorem complete_message_still_delivered (s : Streams) (k : Nat) (tag : String)
    (h : (s.stream k).state.isRecvEndStream = true) :
    (∀ p b rest, (s.stream k).pendingRecv = .data p b :: rest → (s.recvPollData k tag).2 = .data p b) ∧
    ((s.stream k).pendingRecv = [] → s.recvPollData k tag = (s, .none)) :=
  ⟨fun _ _ _ hq => recvPollData_data hq, fun hq => recvPollData_eos_end h hq⟩

/-- non-vacuity: response with DATA + END_STREAM buffered, stream `Closed(EndStream)` -/
example : (W2.w5.stream 0).state.isRecvEndStream = true ∧ (W2.w5.stream 0).pendingRecv = [.data [1, 2, 3] false] := by decide

/-- **Closed stays closed, woken stays woken.**  Whatever the connection task or any handle does next (any
    non-`poll_*` operation with any arguments), a stream entry that is `Closed` stays `Closed` (or is
    released), and `conn_error` stays set: the answers above remain valid for every later poll. -/
theorem closed_is_forever (op : Op) (s : Streams) (hb : KeysBounded s.store) (k : Nat) (a : Stream)
    (ha : s.store.get? k = some a) (hc : a.state.isClosed = true) :
    ((op.apply s).store.get? k = none ∨ ∃ b, (op.apply s).store.get? k = some b ∧ b.state.isClosed = true) ∧
    (s.actions.connError.isSome = true → (op.apply s).actions.connError.isSome = true) := by
  refine ⟨?_, (op.step s).connError⟩
  rcases (op.step s).keep k a (hb.get? ha) ha with h | ⟨b, hb', hab⟩
  · exact Or.inl h
  · exact Or.inr ⟨b, hb', hab.closed hc⟩

example : KeysBounded W1.w3.store ∧ (W1.w3.store.get? 0).isSome = true ∧ (W1.w3.stream 0).state.isClosed = true := by
  refine ⟨fun a ha => ?_, by decide, by decide⟩
  have : W1.w3.store.slab.all (fun a => decide (a.key < W1.w3.store.nextKey)) = true := by decide
  exact of_decide_eq_true (List.all_eq_true.mp this a ha)

/-- **The store invariant is not a restriction**: it holds in the initial state of both roles and is kept
    by every operation (35 non-`poll_*` operations and 8 `poll_*`/parking operations, any arguments),
    hence in every reachable state; so the two theorems at the top apply to every reachable state. -/
theorem store_invariant_reachable (s : Streams) (h : Reachable s) : Good s := reachable_good h

theorem recv_eof_resolves_every_linked_stream_reachable (s : Streams) (h : Reachable s) (clearPendingAccept : Bool) :
    (s.recvEof clearPendingAccept).actions.connError.isSome = true ∧
    ∀ e ∈ s.store.ids, ∀ a, s.store.get? e.2 = some a → EndedAt s (s.recvEof clearPendingAccept) e.2 a :=
  recv_eof_resolves_every_linked_stream s (reachable_good h) clearPendingAccept

/-- non-vacuity: the client state after one `send_request` is reachable and has a linked stream -/
example : Reachable W1.w1 ∧ W1.w1.store.ids = [(1, 0)] :=
  ⟨Reachable.op (.sendRequest false [] true none) (.client {}), by decide⟩

/-- **The connection future completes.**  In state `Closed` `Connection::poll` is `Ready` (with the error
    `take_error` computes) on every poll; in state `Closing` it is `Ready` one step later as soon as the
    transport lets `shutdown` (final flush + `poll_shutdown`) finish, and until then the task is parked on
    the transport's write waker. -/
theorem connection_future_completes (n : Nat) (c : Conn) (r : Reason) (i : Initiator) :
    (c.state = .closed r i → Conn.protoPoll (n + 1) c = ((c.takeError r i).1, .ready (c.takeError r i).2)) ∧
    (c.state = .closing r i → ∀ w io, shutdownW c.codec.w c.codec.io c.cx = (w, io, .ready) →
      ∃ c', Conn.protoPoll (n + 2) c =
        (c', .ready (({ c with codec := { c.codec with w := w, io := io }, state := .closed r i } : Conn).takeError r i).2)) ∧
    (c.state = .closing r i → ∀ c', Conn.protoPoll (n + 2) c = (c', .pending) → c'.codec.io.writeWaker = some c.cx) :=
  ⟨H2V.Lemmas.ConnCtlP.protoPoll_closed n c r i, fun h w io hs => protoPoll_closing n c r i h w io hs,
   fun h c' hp => protoPoll_closing_pending n c c' r i h hp⟩

example : ({ state := .closed 0 .library } : Conn).state = .closed 0 .library := rfl

/-- **Dropping the connection resolves everything.**  After `Drop for Connection` (`recv_eof(true)`) and the
    drop of the `SendRequest` handles — in whatever state the connection was: mid-exchange, after an
    error, after GOAWAY, never polled — every stream the id map knew is released or `Resolved` and every
    waker parked on it was woken; and the ping handle: the pong waiter is woken and every later
    `poll_pong` is `Ready(Err(BrokenPipe))`. -/
theorem drop_connection_resolves_everything (c : Conn) (sr : Option SendRequest) (clones : List SendRequest)
    (hg : Good c.streams) :
    (∀ e ∈ c.streams.store.ids, ∀ a, c.streams.store.get? e.2 = some a →
      (dropConnKind c sr clones).streams.store.get? e.2 = none ∨
      ∃ a', (dropConnKind c sr clones).streams.store.get? e.2 = some a' ∧ Resolved a' ∧
        ∀ t, (a.sendTask = some t ∨ a.openTask = some t ∨ a.recvTask = some t ∨ a.pushTask = some t) →
          t ∈ newWakes c.streams (dropConnKind c sr clones).streams) ∧
    (∀ u, c.pingPong.userPings = some u → ∀ tag,
      (∀ t, u.pongTask = some t → t ∈ newWakes c.streams c.dropUserPingsRx.streams) ∧
      (c.dropUserPingsRx.userPollPong tag).2 = some false) :=
  ⟨dropConnKind_resolves c sr clones hg, fun u hu tag => dropUserPingsRx_resolves c u hu tag⟩

example : Good (Conn.init {}).streams := init_good {}

end H2V.Props.C07

#print axioms H2V.Props.C07.recv_eof_resolves_every_linked_stream
#print axioms H2V.Props.C07.handle_error_resolves_every_linked_stream
#print axioms H2V.Props.C07.goaway_received_resolves_streams_above_last_id
#print axioms H2V.Props.C07.poll_capacity_ready_when_closed
#print axioms H2V.Props.C07.recv_polls_ready_when_closed
#print axioms H2V.Props.C07.poll_reset_ready_when_closed_partial
#print axioms H2V.Props.C07.poll_reset_after_clean_end_hangs_counterexample
#print axioms H2V.Props.C07.send_request_refused_after_end
#print axioms H2V.Props.C07.complete_message_still_delivered
#print axioms H2V.Props.C07.closed_is_forever
#print axioms H2V.Props.C07.store_invariant_reachable
#print axioms H2V.Props.C07.recv_eof_resolves_every_linked_stream_reachable
#print axioms H2V.Props.C07.connection_future_completes
#print axioms H2V.Props.C07.drop_connection_resolves_everything
