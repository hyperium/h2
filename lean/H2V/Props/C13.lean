import H2V.Lemmas.ConnHttpPConn
import H2V.Lemmas.ConnHttpPCex
/-
  C13 — malformed HTTP messages are neither delivered nor generated.
  Property theorems only (lemmas: `H2V/Lemmas/ConnHttpP*.lean`, notes: `H2V/Lemmas/ConnHttpPNOTES.md`).

  Vocabulary.  `g` is the *field list of a header block*: the concatenation, over all the fragments of
  the block (HEADERS / PUSH_PROMISE + CONTINUATION), of the fields HPACK decoded (`ghostNext`, carried
  next to the reader; by `H2V.Lemmas.HpackDec.split_invariance_list` it is what decoding the
  concatenated fragments yields).  `Spec.Http.common / request / response / trailers g` are the rule
  violations of RFC 9113 §8 per `H2V/Spec/Http.lean`.  `Delivers P s s'` says: every receive queue
  (`pending_recv`) of `s'` is empty, or what it was in `s`, or that plus ONE new event satisfying `P`.
-/
namespace H2V.Props.C13
open H2V H2V.Model H2V.Model.Frame H2V.Model.Hpack H2V.Model.Conn H2V.Model.CodecRead H2V.Lemmas.ConnHttpP

/-- The reader invariant (dynamic table holds only fields `Header::new` accepted; the partial block
    stands for the ghost list) holds after ANY sequence of frames — well-formed or not, header blocks
    fragmented anyhow — and settings changes, from a fresh reader. No hypothesis. -/
theorem reader_invariant_reachable (maxFrameSize : Nat) (ops : List ROp) :
    RInv (runROps (Reader.new maxFrameSize, []) ops).1 (runROps (Reader.new maxFrameSize, []) ops).2 :=
  rinv_reachable maxFrameSize ops

/-- **Uppercase / ill-formed field names, unknown pseudo-header fields, bad `:status` never get past
    HPACK**: every field `Decoder::decode` hands to `HeaderBlock::load` has a lower-case well-formed
    name, one of the six known pseudo-header names if it starts with `:`, and a three-digit `:status`
    (anything else is an HPACK error = connection error). Hypothesis: the table invariant, which
    `reader_invariant_reachable` establishes. -/
theorem hpack_hands_over_wellformed_fields_only (d : Decoder) (src : Bytes) (ht : TableOk d.table) :
    TableOk (d.decode src).dec.table ∧ ∀ x ∈ (d.decode src).fields, fieldOk x = true :=
  decode_ok d src ht

example : TableOk (Decoder.new 4096).table := new_tableOk _

/-- **Connection-specific fields, `te` ≠ trailers, duplicated pseudo-header fields, pseudo-header
    fields behind regular ones are never delivered, however the block is fragmented**: a HEADERS or
    PUSH_PROMISE frame that `decode_frame` delivers carries a block that is unflagged and — unless it
    is over-size (then the stream layer refuses it: 431 / reset) — its complete field list `g'` violates
    none of the rules common to all header sections, and the block holds exactly the pseudo-header
    values and regular fields of `g'`. -/
theorem delivered_block_obeys_common_rules (r : Reader) (g : List Header) (bytes : Bytes) (blk : HeaderBlock)
    (hi : RInv r g) (hd : dfBlock (decodeFrame r bytes).2 = some blk) :
    blk.isMalformed = false ∧
    (blk.isOverSize = true ∨
      (Spec.Http.common (ghostNext g r bytes) = [] ∧ PseudoExact (ghostNext g r bytes) blk.pseudo ∧
        blk.fields = groupInto [] (regular (ghostNext g r bytes)))) :=
  ⟨(delivered_block_common r g bytes blk hi hd).1, (delivered_block_common r g bytes blk hi hd).2.2.2⟩

example : RInv rd0 [] ∧ (dfBlock (decodeFrame rd0 getFrame).2).isSome = true := ⟨rinv_new _, by decide +kernel⟩

/-- **From the wire to the block, any fragmentation.** After ANY sequence of frames from a fresh reader, a
    HEADERS / PUSH_PROMISE block that the next frame completes is unflagged and stands for the field
    list `(d0.decode src).fields`, where `src` is the CONCATENATION of the block's fragments (collected by
    the transparent ghost `wireNext`) and `d0` the HPACK decoder when the block began; that decoding
    succeeded; all its fields passed `Header::new`. (With `H2V.Lemmas.HpackDec.decode_sound` this is the
    RFC 7541 decoding of the block.) No hypothesis beyond "the frame delivers a block". -/
theorem delivered_block_is_decoding_of_concatenated_fragments (maxFrameSize : Nat) (frames : List Bytes) (bytes : Bytes)
    (blk : HeaderBlock)
    (hd : dfBlock (decodeFrame (runFrames (Reader.new maxFrameSize, [], none) frames).1 bytes).2 = some blk) :
    ∃ d0 src, (d0.decode src).result = .ok () ∧ blk.isMalformed = false ∧ BlockInv blk (d0.decode src).fields ∧
      (∀ x ∈ (d0.decode src).fields, fieldOk x = true) ∧
      wireNext (runFrames (Reader.new maxFrameSize, [], none) frames).2.2
        (runFrames (Reader.new maxFrameSize, [], none) frames).1 bytes = some (d0, src) :=
  delivered_block_is_decoding_of_concatenation maxFrameSize frames bytes blk hd

/-- a request cut into three fragments (the last cut inside a literal): `src` is the concatenation, the
    block is delivered -/
example :
    (wireNext (runFrames (rd0, [], none) [cut1, cut2]).2.2 (runFrames (rd0, [], none) [cut1, cut2]).1 cut3).map (·.2)
      = some [0x82, 0x86, 0x84, 0x41, 1, 97] ∧
    (dfBlock (decodeFrame (runFrames (rd0, [], none) [cut1, cut2]).1 cut3).2).isSome = true :=
  ⟨fragmented_block_witness.1, fragmented_block_witness.2.2.1⟩

/-- **Once malformed, always malformed** (the repaired finding N1): when a fragment has raised the
    flag, no later fragment of the block makes `HeaderBlock::load` answer `Ok`. -/
theorem malformed_flag_survives_fragments (b : HeaderBlock) (src : Bytes) (maxList : Nat) (dec : Decoder)
    (hb : b.isMalformed = true) :
    (HeaderBlock.load b src maxList dec).2.2.2 ≠ .ok () ∧ (HeaderBlock.load b src maxList dec).1.isMalformed = true :=
  load_malformed_sticky b src maxList dec hb

example : ({ isMalformed := true } : HeaderBlock).isMalformed = true := rfl

/-- **A rule-violating field anywhere in a block is noticed by the `load` call that decodes it**: if the
    block so far stands for `fs` and the fields of `fs` plus those this call decodes violate a common
    rule, the call ends with the block flagged malformed or over-size — or with the fatal
    `HeaderListWayTooLarge`. -/
theorem violating_field_raises_flag (b : HeaderBlock) (fs : List Header) (src : Bytes) (maxList : Nat) (dec : Decoder)
    (hb : BlockInv b fs) (hok : ∀ x ∈ fs ++ loadedFields dec src, fieldOk x = true)
    (hbad : Spec.Http.common (fs ++ loadedFields dec src) ≠ []) :
    (HeaderBlock.load b src maxList dec).2.2.2 = .error .headerListWayTooLarge ∨
    (HeaderBlock.load b src maxList dec).1.isMalformed = true ∨
    (HeaderBlock.load b src maxList dec).1.isOverSize = true :=
  violating_field_flag b fs src maxList dec hb hok hbad

example : BlockInv {} [] := blockInv_empty

/-- **Receive path for HEADERS, every state, both roles, requests, responses, interim responses,
    trailers.** Let `blk` be a delivered block standing for the field list `g` (see
    `delivered_block_obeys_common_rules`). Whatever the state `s` of the stream layer, after
    `Inner::recv_headers` every receive queue is empty, or unchanged, or has gained ONE event `ev` with
    `ValidEvent`:
    * a `request` (server only): `Spec.Http.request g = []` — NO rule is violated (since the repair of
      findings N2 / N3 without exception) — and the fields handed over are exactly the regular
      fields of `g`;
    * a `headers` / `informational` response (client only): the only rules that may be violated are
      `missing-status` (delivered as 200) and `request-pseudo-in-response` (known findings F5b, F5a);
    * `trailers`: only `pseudo-in-trailers` may be violated (known finding F5c); the fields handed over
      are exactly the regular fields of `g` (over-size trailers are refused: finding N6, repaired).
    In particular a head with a `:status` in a request, without `:method`, without `:scheme`, without or
    with an empty `:path`, CONNECT without `:authority` or with `:scheme`/`:path`, `:protocol` without
    extended CONNECT … is never queued. -/
theorem recv_headers_hands_over_only_checked_messages (s : Streams) (blk : HeaderBlock) (g : List Header)
    (sid : Nat) (eos : Bool) (hm : blk.isMalformed = false) (hb : BlockInv blk g)
    (hok : ∀ x ∈ g, fieldOk x = true) :
    Delivers (fun _ ev => ValidEvent (cfgOf s) g ev) s (s.recvHeaders (Conn.headersIn sid eos blk)).1 :=
  recvHeaders_valid s blk g sid eos hm hb hok

/-- the hypotheses are met by every block `decode_frame` delivers, and the conclusion is not vacuous:
    a valid GET is queued as a request -/
example : queuesAfter srv0 rd0 getFrame = some [[.request [71, 69, 84] [104, 116, 116, 112, 58, 47, 47, 97, 47] []]] :=
  valid_request_delivered.1

/-- … and when `Recv::recv_headers` answers anything but `Ok` (stream error, connection error,
    over-size, unsupported), NOTHING is queued anywhere — for every state and every head. -/
theorem rejected_head_queues_nothing (s : Streams) (k : Nat) (h : HeadersIn)
    (hr : (s.recvRecvHeaders k h).2.isOk = false) : Quiet s (s.recvRecvHeaders k h).1 :=
  (recvRecvHeaders_delivers s k h).2 hr

example : ((srv0.recvRecvHeaders 0 { sid := 1, eos := true, status := none }).2).isOk = false := by decide +kernel

/-- **Announced = stored.** When the reference reads a content-length `n` off the field list (every
    value non-empty, all digits, all equal) and the head is accepted on a live stream that is not a response
    to HEAD, the stream's ledger starts at `n`; and a head carrying END_STREAM is accepted only with
    `n = 0` (or status 204 / 304). -/
theorem accepted_head_sets_content_length (s : Streams) (k : Nat) (blk : HeaderBlock) (g : List Header) (sid : Nat)
    (eos : Bool) (cl0 : ContentLength) (n : Nat) (hf : blk.fields = groupInto [] (regular g))
    (live : clOf s k = some cl0) (hnh : cl0 ≠ .head) (hspec : Spec.Http.contentLength g = some (some n))
    (hok : (s.recvRecvHeaders k (Conn.headersIn sid eos blk)).2.isOk = true) :
    clOf (s.recvRecvHeaders k (Conn.headersIn sid eos blk)).1 k = some (.remaining n) ∧
    ¬(eos = true ∧ n > 0 ∧ statusNot204304 (Conn.headersIn sid eos blk) = true) :=
  accepted_head_content_length s k blk g sid eos cl0 n hf live hnh hspec hok

/-- **The code agrees with the reference on content-length.** An accepted head (live stream, not a
    response to HEAD) either carries no content-length (`Spec.Http.contentLength g = none`, ledger
    untouched) or is one for which the reference reads a number `n` — every value non-empty, all digits,
    all equal (RFC 9110 §8.6) — and `n` is what the ledger starts from; END_STREAM on the head only goes
    with 0 (or status 204 / 304). -/
theorem accepted_head_content_length_agrees (s : Streams) (k : Nat) (blk : HeaderBlock) (g : List Header) (sid : Nat)
    (eos : Bool) (cl0 : ContentLength) (hf : blk.fields = groupInto [] (regular g))
    (live : clOf s k = some cl0) (hnh : cl0 ≠ .head)
    (hok : (s.recvRecvHeaders k (Conn.headersIn sid eos blk)).2.isOk = true) :
    (Spec.Http.contentLength g = none ∧ clOf (s.recvRecvHeaders k (Conn.headersIn sid eos blk)).1 k = some cl0) ∨
    (∃ n, Spec.Http.contentLength g = some (some n) ∧
      clOf (s.recvRecvHeaders k (Conn.headersIn sid eos blk)).1 k = some (.remaining n) ∧
      ¬(eos = true ∧ n > 0 ∧ statusNot204304 (Conn.headersIn sid eos blk) = true)) :=
  accepted_head_agrees_with_reference s k blk g sid eos cl0 hf live hnh hok

/-- **An announcement the reference cannot read is refused** (findings N4a / N4b repaired): when
    `Spec.Http.contentLength g = some none` — a value empty or not all digits, or values that differ —
    `Recv::recv_headers` does not answer `Ok`; it is a stream error PROTOCOL_ERROR by
    `head_refusals_are_protocol_errors`, which fails the stream by `refused_head_fails_stream`. -/
theorem head_with_bad_content_length_is_refused (s : Streams) (k : Nat) (blk : HeaderBlock) (g : List Header)
    (sid : Nat) (eos : Bool) (cl0 : ContentLength) (hf : blk.fields = groupInto [] (regular g))
    (live : clOf s k = some cl0) (hnh : cl0 ≠ .head) (hspec : Spec.Http.contentLength g = some none) :
    (s.recvRecvHeaders k (Conn.headersIn sid eos blk)).2.isOk = false :=
  unreadable_content_length_refused s k blk g sid eos cl0 hf live hnh hspec

/-- **The one difference between reference and code, on the safe side**: when the reference reads `n` and
    no value is longer than 19 octets, every value passes `parse_u64` with `n` — the only readable
    announcements the code refuses are those of more than 19 digits (`u64`). -/
theorem readable_content_length_parses_up_to_19_digits (g : List Header) (n : Nat)
    (hspec : Spec.Http.contentLength g = some (some n))
    (hlen : ∀ v ∈ Spec.Http.get g "content-length", v.length ≤ 19) :
    Spec.Http.get g "content-length" ≠ [] ∧ ∀ v ∈ Spec.Http.get g "content-length", parseU64 v = some n :=
  spec_content_length_parses g n hspec hlen

example : Spec.Http.contentLength (fieldsOf rd0 twoClFrame) = some none ∧
    Spec.Http.contentLength (fieldsOf rd0 sameClFrame) = some (some 5) ∧
    Spec.Http.get (fieldsOf rd0 sameClFrame) "content-length" = [[53], [53]] := by decide +kernel

example : Spec.Http.get (fieldsOf rd0 twoClFrame) "content-length" = [[53], [55]] ∧ parseU64 [53] = some 5 ∧
    parseU64 [55] = some 7 ∧ parseU64 [] = none := by decide +kernel

example : Spec.Http.contentLength (fieldsOf rd0 oneClFrame) = some (some 5) ∧
    ((hdrOf rd0 oneClFrame).map fun h => clOf (rhEntry srv0 h).1 0) = some (some .omitted) ∧
    ((hdrOf rd0 oneClFrame).map fun h => ((rhEntry srv0 h).1.recvRecvHeaders 0 h).2.isOk) = some true ∧
    ((hdrOf rd0 oneClFrame).map fun h => clOf (srv0.recvHeaders h).1 0) = some (some (.remaining 5)) :=
  ⟨content_length_witness.1, content_length_witness.2.1, content_length_witness.2.2.1, content_length_witness.2.2.2.1⟩

/-- **The ledger, for all DATA length sequences.** Along every history of a stream's body — DATA
    frames that `recv_data` answered `Ok` while the stream was not being ignored, interleaved with
    arbitrary other steps that leave `content_length` alone — what is left is `announced − received`,
    and received never exceeds announced: a DATA frame beyond the content-length is not answered
    `Ok` (it is a stream error PROTOCOL_ERROR). -/
theorem body_never_exceeds_content_length {k : Nat} {s s' : Streams} {t n : Nat} (h : BodyTrace k s t s')
    (hcl : clOf s k = some (.remaining n)) : t ≤ n ∧ clOf s' k = some (.remaining (n - t)) :=
  bodyTrace_ledger h hcl

/-- **A body that ends with END_STREAM on DATA is exactly as long as announced** — short of it, the
    frame is answered with a stream error, not `Ok`. -/
theorem body_ended_by_data_is_exact {k : Nat} {s s1 : Streams} {t n : Nat} (h : BodyTrace k s t s1)
    (hcl : clOf s k = some (.remaining n)) (payload : Bytes) (pad : Option Nat)
    (hnl : (s1.stream k).state.isLocalError = false) (hok : (s1.recvRecvData k payload true pad).2 = .ok ()) :
    t + payload.length = n :=
  body_end_by_data h hcl payload pad hnl hok

/-- **A body that ends with trailers is exactly as long as announced.** -/
theorem body_ended_by_trailers_is_exact {k : Nat} {s s1 : Streams} {t n : Nat} (h : BodyTrace k s t s1)
    (hcl : clOf s k = some (.remaining n)) (hd : HeadersIn) (hok : (s1.recvRecvTrailers k hd).2 = .ok ()) : t = n :=
  body_end_by_trailers h hcl hd hok

/-- **HEAD**: every DATA frame accepted on a response to HEAD is empty. -/
theorem head_response_body_is_empty {k : Nat} {s s' : Streams} {t : Nat} (h : BodyTrace k s t s')
    (hcl : clOf s k = some .head) : t = 0 :=
  (bodyTrace_head h hcl).1

example : clOf (cli0.sendRequest true [Conn.field ":method" "HEAD", Conn.field ":scheme" "http",
    Conn.field ":authority" "example.com", Conn.field ":path" "/"] true none).1 0 = some .head := by decide +kernel

/-- non-vacuity: a request announcing 5 octets; 5 octets with END_STREAM are accepted, so `BodyTrace` with
    `t = 5 = n` is inhabited -/
example : ∃ s, clOf s 0 = some (.remaining 5) ∧ (s.stream 0).state.isLocalError = false ∧
    (s.recvRecvData 0 [104, 101, 108, 108, 111] true none).2.toOption = some () := by
  refine ⟨((hdrOf rd0 oneClFrame).map fun h => (srv0.recvHeaders h).1).getD srv0, ?_⟩
  decide +kernel

/-- **DATA is handed over only through `recv_data`'s checks**: at most one `data` event, with this
    payload, to this stream; any error answer queues nothing. -/
theorem recv_data_hands_over_only_its_payload (s : Streams) (id : Nat) (payload : Bytes) (eos : Bool) (pad : Option Nat) :
    Delivers (fun k' ev => k' = id ∧ ev = .data payload (!eos)) s (s.recvRecvData id payload eos pad).1 ∧
    (∀ e, (s.recvRecvData id payload eos pad).2 = .error e → Quiet s (s.recvRecvData id payload eos pad).1) :=
  recvRecvData_delivers s id payload eos pad


/-- **"The stream (or connection) is failed instead", heads.** When `Recv::recv_headers` refuses a head
    with a stream error (every refusal of a malformed head is `library_reset(PROTOCOL_ERROR)`), the
    transition closure of `Inner::recv_headers` ends in one of two ways: the connection error
    ENHANCE_YOUR_CALM "too_many_internal_resets", or `Ok` with the stream — if it is still in the store —
    `Failed`: in the state `Closed(Error(Reset(id, reason, Library)))` (or whatever reset state it was in
    before). For every state. -/
theorem refused_head_fails_stream (s : Streams) (k : Nat) (h : HeadersIn) (i : Nat) (reason : Reason) (init : Initiator)
    (hrh : (s.stream k).state.isRecvHeaders = true) (hr : (s.recvRecvHeaders k h).2 = .state (.reset i reason init)) :
    FailsStream (s.recvRecvHeaders k h).1 k reason init (s.transition k fun s => rhBody s k h) :=
  refused_head_fails s k h i reason init hrh hr

/-- … and `Recv::recv_headers` refuses in no other way: a connection error PROTOCOL_ERROR (the frame does
    not fit the stream's state), a stream error PROTOCOL_ERROR, or a stream error REFUSED_STREAM. -/
theorem head_refusals_are_protocol_errors (s : Streams) (k : Nat) (h : HeadersIn) (e : PErr)
    (hr : (s.recvRecvHeaders k h).2 = .state e) :
    e = PErr.libraryGoAway Conn.PROTOCOL_ERROR ∨ (∃ i, e = PErr.libraryReset i Conn.PROTOCOL_ERROR) ∨
    (∃ i, e = PErr.libraryReset i REFUSED_STREAM) :=
  recvRecvHeaders_refusals s k h e hr

/-- REFUSED_STREAM is not about the message: it is answered only when the receive-stream limit has been
    reached while the (promised) stream was merely reserved (`rhRefuse`, decided before the head is looked
    at; repair of the peer-triggerable panic F31) — so every refusal of a MALFORMED head is
    PROTOCOL_ERROR. -/
theorem refused_stream_only_for_the_concurrency_limit (s : Streams) (k : Nat) (h : HeadersIn) (i : Nat)
    (hr : (s.recvRecvHeaders k h).2 = .state (PErr.libraryReset i REFUSED_STREAM)) :
    ∃ st' ini, (s.stream k).state.recvOpen h.eos h.isInformational = (st', .ok ini) ∧ rhRefuse s k st' ini = true :=
  recvRecvHeaders_refused_stream s k h i hr

/-- reachable: one pushed stream allowed, two promised, the response on the first takes the slot, the
    response on the second is refused with REFUSED_STREAM -/
example : ((hdrOf rd0 (respFrame 4)).map fun h => stateErrOf (cliLim3.streams.recvRecvHeaders 2 h).2) =
    some (some (.reset 4 REFUSED_STREAM .library)) := refused_stream_witness.1

/-- hypotheses met, conclusion visible: a request head carrying `:status` is refused that way; afterwards
    the stream is reset, RST_STREAM(PROTOCOL_ERROR) is queued and nothing was handed over -/
example :
    ((hdrOf rd0 statusReqFrame).map fun h => stateErrOf ((rhEntry srv0 h).1.recvRecvHeaders 0 h).2) =
      some (some (.reset 1 Conn.PROTOCOL_ERROR .library)) ∧
    ((hdrOf rd0 statusReqFrame).map fun h => ((rhEntry srv0 h).1.stream 0).state.isRecvHeaders) = some true :=
  ⟨status_in_request_refused.1, status_in_request_refused.2.1⟩

/-- … trailers refused with a stream error (content-length not used up) fail the stream the same way -/
theorem refused_trailers_fail_stream (s : Streams) (k : Nat) (h : HeadersIn) (i : Nat) (reason : Reason)
    (init : Initiator) (hrh : (s.stream k).state.isRecvHeaders = false) (heos : h.eos = true)
    (hr : (s.recvRecvTrailers k h).2 = .error (.reset i reason init)) :
    FailsStream (s.recvRecvTrailers k h).1 k reason init (s.transition k fun s => rhBody s k h) :=
  refused_trailers_fail s k h i reason init hrh heos hr

example : ((hdrOf rd0 oneClFrame).map fun h => ((srv0.recvHeaders h).1.stream 0).state.isRecvHeaders) = some false ∧
    ((hdrOf rd0 oneClFrame).map fun h =>
      errOf ((srv0.recvHeaders h).1.recvRecvTrailers 0 { sid := 1, eos := true, status := none }).2) =
        some (some (.reset 1 Conn.PROTOCOL_ERROR .library)) :=
  ⟨content_length_witness.2.2.2.2.1, content_length_witness.2.2.2.2.2⟩

/-- **"A body that ends short of or beyond its content-length is reported as an error", part 1**: such
    a DATA frame is never answered `Ok` … -/
theorem data_violating_content_length_is_refused (s : Streams) (k : Nat) (payload : Bytes) (eos : Bool)
    (padLen : Option Nat) (cl : ContentLength) (hk : clOf s k = some cl) (hnl : (s.stream k).state.isLocalError = false)
    (hbad : decCL cl payload.length = none ∨
      (eos = true ∧ ∀ cl', decCL cl payload.length = some cl' → zeroCL cl' = false)) :
    (s.recvRecvData k payload eos padLen).2 ≠ .ok () :=
  data_against_content_length_refused s k payload eos padLen cl hk hnl hbad

example : decCL (.remaining 5) 6 = none ∧ decCL (.remaining 5) 4 = some (.remaining 1) ∧ zeroCL (.remaining 1) = false := by
  decide

/-- … part 2: a DATA frame refused with a stream error fails the stream (or the connection) … -/
theorem refused_data_fails_stream (s : Streams) (k : Nat) (payload : Bytes) (eos : Bool) (padLen : Option Nat)
    (i : Nat) (reason : Reason) (init : Initiator) (hr : (s.recvRecvData k payload eos padLen).2 = .error (.reset i reason init)) :
    FailsStream (s.recvRecvData k payload eos padLen).1 k reason init (s.transition k fun s => rdBody s k payload eos padLen) :=
  refused_data_fails s k payload eos padLen i reason init hr

example : ((hdrOf rd0 oneClFrame).map fun h =>
    errOf ((srv0.recvHeaders h).1.recvRecvData 0 [1, 2, 3, 4, 5, 6] false none).2) =
      some (some (.reset 1 Conn.PROTOCOL_ERROR .library)) := data_against_content_length_witness.1

/-- … part 3: on a `Failed` stream (not reset before) whose receive queue is drained, `poll_data`,
    `poll_trailers` and `poll_response` all answer the reset error — never "end of stream". -/
theorem failed_stream_polls_answer_error (s : Streams) (k : Nat) (tag : String) (fuel : Nat) (st : Stream)
    (reason : Reason) (init : Initiator) (hf : Failed st reason init (s.stream k)) (hnr : st.state.isReset = false)
    (hq : (s.stream k).pendingRecv = []) :
    (∃ s', s.recvPollData k tag = (s', .err (.reset st.id reason init))) ∧
    (∃ s', s.recvPollTrailers k tag = (s', .err (.reset st.id reason init))) ∧
    (∃ s', Streams.recvPollResponse (fuel + 1) s k tag = (s', .err (.reset st.id reason init))) :=
  failed_polls s k tag fuel st reason init hf hnr hq

example : ((hdrOf rd0 statusReqFrame).map fun h => (srv0.recvHeaders h).1.store.slab.map fun st => st.state.isReset) = some [true] ∧
    ((hdrOf rd0 statusReqFrame).map fun h => (srv0.recvHeaders h).1.store.slab.map fun st => st.pendingRecv) = some [[]] ∧
    ((hdrOf rd0 statusReqFrame).map fun h => pollErr ((srv0.recvHeaders h).1.recvPollData 0 "b0").2) =
      some (some (.reset 1 Conn.PROTOCOL_ERROR .library)) :=
  ⟨status_in_request_refused.2.2.1, status_in_request_refused.2.2.2.1, refused_head_poll_witness⟩

/-- **Pushes.** `Inner::recv_push_promise`, every state: all that reaches any receive queue is at most one
    `request` event for a promised request that passed `convert_poll_message` and
    `PushPromise::validate_request` (`PromiseAccepted`; in the reference's terms see
    `recv_frame_hands_over_only_valid_messages`). -/
theorem recv_push_promise_hands_over_only_checked_requests (s : Streams) (id : Nat) (h : HeadersIn) :
    Delivers (fun _ ev => PromiseAccepted h ev) s (s.recvPushPromise id h).1 :=
  recvPushPromise_delivers s id h

/-- **The connection invariant**: both handshakes establish `CInv` (the reader invariant of the codec's
    read half), and `Connection::poll` (`proto`, and the client's wrapper) keeps it, for any fuel, any
    transport content, any state. (Every other API call leaves the read half alone.) -/
theorem connection_invariant (g : Conn.Cfg) (ecp : Bool) (peerFirst : Bytes) :
    CInv (Conn.init g) ∧ CInv (Conn.initServer g ecp peerFirst) ∧
    (∀ fuel c, CInv c → CInv (Conn.protoPoll fuel c).1) ∧ (∀ fuel c, CInv c → CInv (Conn.clientPoll fuel c).1) :=
  ⟨init_cinv g, initServer_cinv g ecp peerFirst, protoPoll_cinv, clientPoll_cinv⟩

/-- **`poll_next` yields good frames only**: under the invariant, a frame it yields carries — if it is a
    HEADERS or PUSH_PROMISE frame — an unflagged block that stands for a list of fields that passed
    HPACK. -/
theorem poll_next_yields_good_frames (fuel : Nat) (c : Codec) (tag : String) (h : RInv' c.r) :
    RInv' (pollNext fuel c tag).1.r ∧ ∀ f, (pollNext fuel c tag).2 = .frame f → GoodFrame f :=
  pollNext_good fuel c tag h

example : RInv' (Conn.init {}).codec.r := init_cinv {}

/-- **One turn of the read loop, every connection state, every frame type** (`none` = end of input):
    for a frame as `poll_next` yields it, everything `DynConnection::recv_frame` puts into any receive
    queue is ONE event satisfying `ValidFrameEvent`: for HEADERS a `ValidEvent` (see
    `recv_headers_hands_over_only_checked_messages`), for DATA its own payload, for PUSH_PROMISE a GET /
    HEAD request obeying every rule of `Spec.Http.request`; RST_STREAM,
    SETTINGS, PING, GOAWAY, WINDOW_UPDATE, PRIORITY and end of input hand over nothing. -/
theorem recv_frame_hands_over_only_valid_messages (c : Conn) (f : Option Frame.Frame)
    (hgood : ∀ fr, f = some fr → GoodFrame fr) :
    Delivers (fun _ ev => ValidFrameEvent (cfgOf c.streams) f ev) c.streams (c.recvFrame f).1.streams :=
  recvFrame_valid c f hgood

example : GoodFrame (.data 1 [1, 2, 3] false none) := fun _ hb => by cases hb

/-- **The send API refuses connection-specific fields and a leading `te` ≠ trailers, before touching
    anything**: `check_headers` answers only `MalformedHeaders`, and on that answer `send_headers`
    (requests and responses), `send_trailers`, `send_interim_informational_headers` return the state
    unchanged. -/
theorem send_api_refuses_untouched (s : Streams) (id : Nat) (eos : Bool) (fields : List Hpack.Field) (e : UserError)
    (h : Streams.checkHeaders fields = .error e) :
    e = .malformedHeaders ∧ s.sendHeaders id eos fields = (s, .error e) ∧ s.sendTrailers id fields = (s, .error e) ∧
    s.sendInterimInformationalHeaders id fields = (s, .error e) :=
  ⟨checkHeaders_err fields e h, sendHeaders_refuses s id eos fields e h, sendTrailers_refuses s id fields e h,
    sendInterim_refuses s id fields e h⟩

example : (Streams.checkHeaders [Conn.field "connection" "close"]).toOption = none := by decide +kernel

/-- **What the send API accepts** (request, response, interim response, trailers, push promise) has no
    connection-specific field and no `te` field other than `trailers` at all (since the repair of finding
    N5 every `te` value is looked at). -/
theorem send_api_accepts_only_checked (fields : List Hpack.Field)
    (h : (∃ s id eos, (Streams.sendHeaders s id eos fields).2 = .ok ()) ∨
         (∃ s id, (Streams.sendTrailers s id fields).2 = .ok ()) ∨
         (∃ s id, (Streams.sendInterimInformationalHeaders s id fields).2 = .ok ()) ∨
         (∃ s p pk pid, (Streams.sendPushPromise s p pk pid fields).2 = .ok ()) ∨
         (∃ s isHead eos p r, (Streams.sendRequest s isHead fields eos p).2 = .ok r)) :
    "connection-specific-field" ∉ Spec.Http.common (wireFields fields) ∧
    "te-not-trailers" ∉ Spec.Http.common (wireFields fields) ∧
    (∀ f ∈ fields, f.h.1 = Spec.Http.ascii "te" → f.h.2 = Spec.Http.ascii "trailers") :=
  send_accepts_checked fields h

example : ∃ r, (cli0.sendRequest false [Conn.field ":method" "GET", Conn.field ":scheme" "http",
    Conn.field ":authority" "example.com", Conn.field ":path" "/"] true none).2.toOption = some r :=
  ⟨(0, false), by decide +kernel⟩

/-- N2 (found here, since repaired): CONNECT without `:authority` — formerly handed to the application —
    is refused: nothing queued, stream reset, RST_STREAM(PROTOCOL_ERROR) queued -/
theorem connect_without_authority_rejected :
    Spec.Http.request (fieldsOf rd0 connectOnly) false = ["connect-without-authority"] ∧
    queuesAfter srv0 rd0 connectOnly = some [[]] ∧ resetsAfter srv0 rd0 connectOnly = some [true] ∧
    sendQueuesAfter srv0 rd0 connectOnly = some [[.reset Conn.PROTOCOL_ERROR]] :=
  server_vectors.2.1

/-- N3 (found here, since repaired): a GET with `:scheme` only — no `:path`, no `:authority` — is refused -/
theorem get_without_path_rejected :
    Spec.Http.request (fieldsOf rd0 getSchemeOnly) false = ["missing-path"] ∧
    queuesAfter srv0 rd0 getSchemeOnly = some [[]] ∧ resetsAfter srv0 rd0 getSchemeOnly = some [true] ∧
    sendQueuesAfter srv0 rd0 getSchemeOnly = some [[.reset Conn.PROTOCOL_ERROR]] :=
  server_vectors.2.2.1

/-- F5b (known): a response without `:status` is delivered as 200 -/
theorem response_without_status_counterexample :
    queuesAfter cli1 rd0 noStatusResp = some [[.headers [50, 48, 48] [([120, 45, 97], [[49]])]]] ∧
    Spec.Http.response (fieldsOf rd0 noStatusResp) = ["missing-status"] :=
  client_vectors.2.1

/-- F5a (known): a response carrying `:path` is delivered -/
theorem response_with_request_pseudo_counterexample :
    queuesAfter cli1 rd0 pathResp = some [[.headers [50, 48, 48] []]] ∧
    Spec.Http.response (fieldsOf rd0 pathResp) = ["request-pseudo-in-response"] :=
  client_vectors.2.2.1

/-- F5c (known): trailers carrying `:status` are delivered -/
theorem trailers_with_pseudo_counterexample :
    ((hdrOf rd0 okResp).bind fun h => queuesAfter (cli1.recvHeaders h).1 (decodeFrame rd0 okResp).1 statusTrailers)
      = some [[.headers [50, 48, 48] [], .trailers []]] ∧
    Spec.Http.trailers (fieldsOf (decodeFrame rd0 okResp).1 statusTrailers) = ["pseudo-in-trailers"] :=
  client_vectors.2.2.2.1

/-- N4a (found here, since repaired): two different `content-length` values — formerly the first counted —
    are refused -/
theorem two_content_lengths_rejected :
    Spec.Http.contentLength (fieldsOf rd0 twoClFrame) = some none ∧
    queuesAfter srv0 rd0 twoClFrame = some [[]] ∧ resetsAfter srv0 rd0 twoClFrame = some [true] ∧
    sendQueuesAfter srv0 rd0 twoClFrame = some [[.reset Conn.PROTOCOL_ERROR]] :=
  content_length_vectors.1

/-- N4b (found here, since repaired): an empty `content-length` value — formerly read as 0 — is refused -/
theorem empty_content_length_rejected :
    Spec.Http.contentLength (fieldsOf rd0 emptyClFrame) = some none ∧ parseU64 [] = none ∧
    queuesAfter srv0 rd0 emptyClFrame = some [[]] ∧ resetsAfter srv0 rd0 emptyClFrame = some [true] :=
  content_length_vectors.2.1

/-- a REPEATED content-length with equal values (RFC 9110 §8.6): reference and code agree — the reference
    reads 5, the head is accepted, the ledger starts at 5 -/
theorem repeated_equal_content_length_agrees :
    Spec.Http.contentLength (fieldsOf rd0 sameClFrame) = some (some 5) ∧
    ((hdrOf rd0 sameClFrame).map fun h => clOf (srv0.recvHeaders h).1 0) = some (some (.remaining 5)) ∧
    ((queuesAfter srv0 rd0 sameClFrame).map fun q => q.map (·.length)) = some [1] :=
  content_length_vectors.2.2

/-- N6 (found here, since repaired): trailers beyond SETTINGS_MAX_HEADER_LIST_SIZE — formerly handed over
    without the fields that did not fit — are refused: no `trailers` event, stream reset PROTOCOL_ERROR -/
theorem oversize_trailers_rejected :
    ((hdrOf rd200 postFrame).bind fun h =>
      (hdrOf (decodeFrame rd200 postFrame).1 bigTrailers).map fun t =>
        (t.isOverSize, ((srv0.recvHeaders h).1.recvHeaders t).1.store.slab.map fun st =>
          (st.state.isReset, st.pendingRecv.length))) = some (true, [(true, 1)]) ∧
    ((hdrOf rd200 postFrame).bind fun h =>
      (hdrOf (decodeFrame rd200 postFrame).1 bigTrailers).map fun t =>
        ((srv0.recvHeaders h).1.recvHeaders t).1.store.slab.map fun st => st.pendingSend) =
      some [[.reset Conn.PROTOCOL_ERROR]] ∧
    (ghostNext [] (decodeFrame rd200 postFrame).1 bigTrailers).map (·.1) = [[120, 45, 97], [120, 45, 98]] :=
  server_vectors.2.2.2.2

/-- N5 (found here, since repaired): `te: trailers` followed by `te: gzip` — formerly emitted — is refused
    by `check_headers` -/
theorem send_second_te_rejected :
    (Streams.checkHeaders [Conn.field "te" "trailers", Conn.field "te" "gzip"]).toOption = none ∧
    (Streams.checkHeaders [Conn.field "te" "trailers", Conn.field "te" "trailers"]).toOption = some () ∧
    Spec.Http.common (wireFields [Conn.field "te" "trailers", Conn.field "te" "gzip"]) = ["te-not-trailers"] :=
  client_vectors.2.2.2.2.1

/-- F8 (known by reading): the send side does not hold DATA against its own content-length -/
theorem send_body_beyond_content_length_counterexample :
    let r := cli0.sendRequest false [Conn.field ":method" "POST", Conn.field ":scheme" "http",
      Conn.field ":authority" "example.com", Conn.field ":path" "/", Conn.field "content-length" "5"] false none
    r.2.toOption = some (0, false) ∧ (r.1.refSendData 0 10 true).2.toOption = some () ∧
      (r.1.refSendData 0 0 true).2.toOption = some () :=
  client_vectors.2.2.2.2.2

/-- N1 (found here, since repaired): the block with `connection: close` cut inside the following field is
    now refused with a stream error PROTOCOL_ERROR -/
theorem split_malformed_block_rejected :
    dfErr (decodeFrame (decodeFrame rd0 splitMalformed1).1 splitMalformed2).2 = some (.reset 1 CodecRead.PROTOCOL_ERROR) ∧
    Spec.Http.common (ghostNext (ghostNext [] rd0 splitMalformed1) (decodeFrame rd0 splitMalformed1).1 splitMalformed2)
      = ["connection-specific-field"] :=
  server_vectors.2.2.2.1

end H2V.Props.C13

#print axioms H2V.Props.C13.reader_invariant_reachable
#print axioms H2V.Props.C13.hpack_hands_over_wellformed_fields_only
#print axioms H2V.Props.C13.delivered_block_obeys_common_rules
#print axioms H2V.Props.C13.delivered_block_is_decoding_of_concatenated_fragments
#print axioms H2V.Props.C13.malformed_flag_survives_fragments
#print axioms H2V.Props.C13.violating_field_raises_flag
#print axioms H2V.Props.C13.recv_headers_hands_over_only_checked_messages
#print axioms H2V.Props.C13.rejected_head_queues_nothing
#print axioms H2V.Props.C13.accepted_head_sets_content_length
#print axioms H2V.Props.C13.accepted_head_content_length_agrees
#print axioms H2V.Props.C13.head_with_bad_content_length_is_refused
#print axioms H2V.Props.C13.readable_content_length_parses_up_to_19_digits
#print axioms H2V.Props.C13.body_never_exceeds_content_length
#print axioms H2V.Props.C13.body_ended_by_data_is_exact
#print axioms H2V.Props.C13.body_ended_by_trailers_is_exact
#print axioms H2V.Props.C13.head_response_body_is_empty
#print axioms H2V.Props.C13.recv_data_hands_over_only_its_payload
#print axioms H2V.Props.C13.refused_head_fails_stream
#print axioms H2V.Props.C13.head_refusals_are_protocol_errors
#print axioms H2V.Props.C13.refused_stream_only_for_the_concurrency_limit
#print axioms H2V.Props.C13.refused_trailers_fail_stream
#print axioms H2V.Props.C13.data_violating_content_length_is_refused
#print axioms H2V.Props.C13.refused_data_fails_stream
#print axioms H2V.Props.C13.failed_stream_polls_answer_error
#print axioms H2V.Props.C13.recv_push_promise_hands_over_only_checked_requests
#print axioms H2V.Props.C13.connection_invariant
#print axioms H2V.Props.C13.poll_next_yields_good_frames
#print axioms H2V.Props.C13.recv_frame_hands_over_only_valid_messages
#print axioms H2V.Props.C13.send_api_refuses_untouched
#print axioms H2V.Props.C13.send_api_accepts_only_checked
#print axioms H2V.Props.C13.connect_without_authority_rejected
#print axioms H2V.Props.C13.get_without_path_rejected
#print axioms H2V.Props.C13.response_without_status_counterexample
#print axioms H2V.Props.C13.response_with_request_pseudo_counterexample
#print axioms H2V.Props.C13.trailers_with_pseudo_counterexample
#print axioms H2V.Props.C13.two_content_lengths_rejected
#print axioms H2V.Props.C13.empty_content_length_rejected
#print axioms H2V.Props.C13.repeated_equal_content_length_agrees
#print axioms H2V.Props.C13.oversize_trailers_rejected
#print axioms H2V.Props.C13.send_second_te_rejected
#print axioms H2V.Props.C13.send_body_beyond_content_length_counterexample
#print axioms H2V.Props.C13.split_malformed_block_rejected
