import H2V.Lemmas.ConnRecvPPoll
import H2V.Lemmas.ConnRecvPExact
/-
  C03 — Receive windows are conserved: never over-credited, never leaked.
  Property theorems only (lemmas: `H2V/Lemmas/ConnRecvP*.lean`, notes: `ConnRecvPNOTES.md`).

  Full statement of the property (from the catalogue): the window an endpoint advertises never
  exceeds what the application configured (nor 2^31-1); every flow-controlled byte it receives —
  handed to the application and later released, padding, or discarded because the stream was reset,
  refused, unknown, beyond a GOAWAY or its receive handle was dropped — is credited back exactly
  once; once the application has released everything and the peer has exhausted a window, that
  window returns to its configured size; no stream or connection is left permanently short of credit.

  What is proved here, about the model `H2V/Model/Conn*.lean`, for ALL histories:
    * "never over-credited", "conserved", "credited back exactly", "returns to its configured size"
      at CONNECTION level: theorems 1–6, for every state reachable through any sequence of calls of
      the stream layer with any arguments (`Reach`); theorem 10: a stream without handle gives
      everything back exactly once; theorem 11: the connection part in every state of a whole
      connection (`Connection::poll` included);
    * the same at STREAM level: theorems 7–9, for histories in which `apply_local_settings` and
      `Inner::send_reset` did not fail (`ReachOk`; a failure is a connection error, see the notes).
  The last clause, "no connection is ever left permanently short of credit", was FALSE for the
  pinned code: DATA received on a pushed stream that the application never polls was never
  credited back to the connection window (found here, reproduced on the real code, repaired as F30
  in `drop_stream_ref`, repair mirrored in the model).  With the repair the history that used to
  leak is the positive statement `Lemmas.ConnRecvP.pushed_stream_data_credited_back`, and
  `dropStreamRef_inv` covers the new `release_closed_capacity` calls for every history.  What is
  still only an inequality in the invariant is Σ streams' in-flight ≤ connection's in-flight (an
  equality would say "every in-flight octet belongs to a stream that is still in the store"; it is
  deliberately broken at connection teardown, `clear_all_pending_accept`) — see the notes, §2.

  Vocabulary (defined in the lemma files):
    `Reach g s` / `ReachOk g s`  `s : Streams` is reachable from a new connection by the calls listed in
                 `Lemmas.ConnRecvP.Op` (every function of the stream layer that `ConnProto.lean` and
                 `ConnDriver.lean` call), with any arguments; `g` records what the application
                 configured on the way: `g.target` the connection window configured last,
                 `g.hiTarget` the largest one so far, `g.hiInit` the largest acknowledged
                 SETTINGS_INITIAL_WINDOW_SIZE so far
    `cW s`, `cA s`, `cI s`       the connection's receive `window_size` (what the peer may still send),
                 `available` (window + credit not yet announced) and `in_flight_data` (received, not
                 yet released)
    `sumInfl slab`               Σ over the store of the streams' `in_flight_recv_data`
    `linked s k`                 the id map still points to the slab entry with key `k`
-/
namespace H2V.Props.C03
open H2V H2V.Model H2V.Model.Conn H2V.Lemmas.ConnRecvP H2V.Lemmas.Comp

/-- the state used in the non-vacuity examples: a new client connection on which the application
    raised the connection window to 200 000 (`set_target_window_size`) -/
def exConnOps : List Op := [.setTargetConnectionWindow 200000]
def exConn : Streams := runOps leakStart exConnOps
theorem exConn_reach : Reach (Ghost.init.setTarget 200000) exConn :=
  (reachOk_runOps (.init leakStart_init) exConnOps (by decide +kernel)).reach

/-- … and one on which a request went out on stream 1, a response with 40 000 octets of DATA
    arrived and the application released them -/
def exStreamOps : List Op :=
  [.sendRequest false [] false none, .cloneStreamRef 0, .pollComplete 20 {} {} "c",
   .recvHeaders { sid := 1, eos := false, status := some [50, 48, 48] },
   .recvData 1 (List.replicate 40000 0) false none, .refReleaseCapacity 0 40000]
def exStream : Streams := runOps leakStart exStreamOps
theorem exStream_reach : ReachOk Ghost.init exStream :=
  reachOk_runOps (.init leakStart_init) exStreamOps (by decide +kernel)

/-- what the examples of theorems 6–9 need of this history: before the release it is accepted, and
    afterwards the one stream (request sent, response arriving, 40 000 octets received and released) is
    live and owes the peer its whole window.  Stated as one fact so that the kernel runs the history
    (the 40 000-octet frame is the expensive step) once here, besides `exStream_reach`. -/
theorem exStream_live :
    (((runOps leakStart (exStreamOps.take 5)).releaseCapacity 0 40000 true).2 = .ok () ∧
      ((runOps leakStart (exStreamOps.take 5)).store.get? 0).isSome = true) ∧
    ∃ x ∈ exStream.store.slab, x.key ∈ exStream.store.ids.map (·.2) ∧
      x.state.isClosed = false ∧ x.isRecv = true ∧ x.state.isRecvStreaming = true ∧
      x.recvFlow.unclaimedCapacity = some 40000 ∧ x.inFlightRecvData = 0 ∧
      2 * x.recvFlow.windowSize.val ≤ (exStream.recv.initWindowSz : Int) ∧
      x.recvFlow.windowSize.val < (exStream.recv.initWindowSz : Int) := by decide +kernel

/-- **1. Conservation at connection level, every history.**  In every reachable state the octets
    the connection can still announce plus the octets in flight are exactly the configured window:
    `available + in_flight_data = target`.  Every received flow-controlled octet is therefore either
    in flight or back in `available` — whatever happened to it (delivered, padding, discarded, stream
    error).  And the streams never account for more than the connection does:
    `Σ in_flight_recv_data ≤ in_flight_data` (equality is what fails in the finding). -/
theorem connection_window_conserved {g : Ghost} {s : Streams} (h : Reach g s) :
    cA s + (cI s : Int) = (g.target : Int) ∧ sumInfl s.store.slab ≤ cI s := by
  have hi := reach_inv h
  exact ⟨hi.cons, by have := hi.sum; omega⟩

example : Reach (Ghost.init.setTarget 200000) exConn := exConn_reach

/-- **2. Never over-credited at connection level, every history.**  The window the peer sees is
    never negative, and together with what is in flight it never exceeds the largest window the
    application has configured so far, itself at most 2^31-1.  In particular
    `window ≤ hiTarget ≤ 2^31-1`; and as long as the application has not lowered the window
    (`hiTarget = target`) the window never exceeds `available = target − in_flight_data`. -/
theorem connection_window_never_over_credited {g : Ghost} {s : Streams} (h : Reach g s) :
    0 ≤ cW s ∧ cW s + (cI s : Int) ≤ (g.hiTarget : Int) ∧ g.hiTarget ≤ 2147483647 ∧
    (g.hiTarget = g.target → cW s ≤ cA s) := by
  have hi := reach_inv h
  refine ⟨hi.w0, hi.wI, hi.hiMax, fun he => ?_⟩
  have h1 := hi.wI; have h2 := hi.cons
  rw [he] at h1; omega

/-- **3. A connection WINDOW_UPDATE credits exactly what is owed.**  When
    `send_connection_window_update` emits a frame (`unclaimed_capacity()` is `Some(incr)` and the
    codec has room), the increment is exactly `available − window`, the frame is WINDOW_UPDATE(0, incr),
    and afterwards `window = available = target − in_flight_data ≤ target`; `available` and
    `in_flight_data` do not move. -/
theorem connection_window_update_exact {g : Ghost} {s : Streams} (h : Reach g s) (w : Writer) (incr : Nat)
    (hu : s.recv.flow.unclaimedCapacity = some incr) (hcap : w.hasCapacity = true) :
    (incr : Int) = cA s - cW s ∧ 0 < incr ∧
    (s.sendConnectionWindowUpdate w).2.1 = w.bufferSimple 4 s!"W:0:{incr}" ∧
    cW (s.sendConnectionWindowUpdate w).1 = (g.target : Int) - (cI s : Int) ∧
    cA (s.sendConnectionWindowUpdate w).1 = cA s ∧ cI (s.sendConnectionWindowUpdate w).1 = cI s := by
  have hi := reach_inv h
  obtain ⟨h1, h2, h3, h4, h5, h6⟩ := connWindowUpdate_exact hi w incr hu hcap
  exact ⟨h1, h2, h3, by rw [h4]; have := hi.cons; omega, h5, h6⟩

example : exConn.recv.flow.unclaimedCapacity = some 134465 ∧ (({} : Writer).hasCapacity = true) := by decide +kernel

/-- **4. The connection window returns to its configured size.**  Once everything has been released
    (`in_flight_data = 0`) and the peer has used at least half of the window, `available` equals the
    target, a WINDOW_UPDATE of exactly `target − window` is owed, and sending it (theorem 3) makes
    the window equal to the target again. -/
theorem connection_window_restored {g : Ghost} {s : Streams} (h : Reach g s) (h0 : cI s = 0)
    (hhalf : 2 * cW s ≤ (g.target : Int)) (hlt : cW s < (g.target : Int)) (w : Writer) (hcap : w.hasCapacity = true) :
    cA s = (g.target : Int) ∧ s.recv.flow.unclaimedCapacity = some (g.target - (cW s).toNat) ∧
    cW (s.sendConnectionWindowUpdate w).1 = (g.target : Int) := by
  have hi := reach_inv h
  obtain ⟨h1, h2⟩ := connWindow_restored hi h0 hhalf hlt
  have h3 := (connection_window_update_exact h w _ h2 hcap).2.2.2.1
  exact ⟨h1, h2, by rw [h3, h0]; omega⟩

example : cI exConn = 0 ∧ 2 * cW exConn ≤ ((Ghost.init.setTarget 200000).target : Int) ∧
    cW exConn < ((Ghost.init.setTarget 200000).target : Int) := by decide +kernel

/-- **5. Discarded DATA is credited back at once, exactly.**  `ignore_data(sz)` is what
    `Inner::recv_data` and `Recv::recv_data` do with DATA for a stream that was reset locally, is
    unknown ("forgotten") or lies beyond a GOAWAY.  When it answers `Ok`, the connection's
    `available` and `in_flight_data` are exactly what they were before the frame; only the window
    the peer sees is `sz` lower, which the next WINDOW_UPDATE (theorem 3) gives back.
    (For DATA that ends in a stream error, on a stream whose `RecvStream` was dropped, and for
    padding, the same is part of theorem 1: `Inner::recv_data` preserves the invariant whatever the
    stream and the outcome.) -/
theorem discarded_data_credited_back {g : Ghost} {s : Streams} (h : Reach g s) (sz : Nat)
    (hok : (s.ignoreData sz).2 = .ok ()) :
    cW (s.ignoreData sz).1 = cW s - sz ∧ cA (s.ignoreData sz).1 = cA s ∧ cI (s.ignoreData sz).1 = cI s :=
  ignoreData_exact (reach_inv h) sz hok

example : (exConn.ignoreData 1000).2 = .ok () := by decide +kernel

/-- **6. An application release is credited exactly once.**  `release_capacity(cap)` = `Ok` (it is
    refused when `cap` exceeds what the stream has in flight) moves exactly `cap` octets from the
    connection's `in_flight_data` to its `available` and from the stream's `in_flight_recv_data` to the
    stream's `available`; the windows the peer sees do not move (WINDOW_UPDATEs are separate:
    theorems 3 and 8). -/
theorem release_credited_exactly_once {g : Ghost} {s : Streams} (h : Reach g s) (id cap : Nat) (useTask : Bool)
    (hok : (s.releaseCapacity id cap useTask).2 = .ok ()) :
    cap ≤ (s.stream id).inFlightRecvData ∧
    cW (s.releaseCapacity id cap useTask).1 = cW s ∧ cA (s.releaseCapacity id cap useTask).1 = cA s + cap ∧
    cI (s.releaseCapacity id cap useTask).1 = cI s - cap ∧
    ∀ x, s.store.get? id = some x → ∃ x', (s.releaseCapacity id cap useTask).1.store.get? id = some x' ∧
      x'.inFlightRecvData = x.inFlightRecvData - cap ∧ x'.recvFlow = (x.recvFlow.assignCapacity cap).1 :=
  releaseCapacity_exact (reach_inv h) id cap useTask hok

example : ((runOps leakStart (exStreamOps.take 5)).releaseCapacity 0 40000 true).2 = .ok () ∧
    ((runOps leakStart (exStreamOps.take 5)).store.get? 0).isSome = true := exStream_live.1

/-- **7. Conservation and no over-crediting at stream level.**  In every state reachable without the
    two connection errors, for every stream in the store: the stream window the peer sees never
    exceeds the stream's `available`; for a stream the protocol still knows (`linked`) and that is not
    closed, `available + in_flight_recv_data ≤ init_window_sz` (the acknowledged
    SETTINGS_INITIAL_WINDOW_SIZE, however often it went up or down mid-stream) — so the advertised
    stream window is at most `init_window_sz − in_flight_recv_data` — with EQUALITY as long as the
    `RecvStream` handle exists (`is_recv`): every octet received on the stream is in flight or back
    in `available`.  (After `RecvStream` is dropped h2 returns the stream's octets to the connection
    only — the stream's own window is abandoned, which is the documented behaviour F3.) -/
theorem stream_window_conserved {g : Ghost} {s : Streams} (h : ReachOk g s) {x : Stream} (hx : x ∈ s.store.slab) :
    x.recvFlow.windowSize.val ≤ x.recvFlow.available.val ∧
    (linked s x.key → x.state.isClosed = false →
      x.recvFlow.windowSize.val + (x.inFlightRecvData : Int) ≤ (s.recv.initWindowSz : Int) ∧
      x.recvFlow.available.val + (x.inFlightRecvData : Int) ≤ (s.recv.initWindowSz : Int) ∧
      (x.isRecv = true → x.recvFlow.available.val + (x.inFlightRecvData : Int) = (s.recv.initWindowSz : Int))) := by
  have ok := (reachOk_inv h).streams rfl x hx
  refine ⟨ok.wa, fun hl hc => ?_⟩
  rcases ok.bud hl with hcl | hb
  · rw [hc] at hcl; cases hcl
  · exact ⟨by have := ok.wa; have := hb.1; omega, hb.1, hb.2⟩

example : ∃ x ∈ exStream.store.slab, x.key ∈ exStream.store.ids.map (·.2) ∧ x.state.isClosed = false ∧
    x.isRecv = true :=
  let ⟨x, hx, hl, hc, hr, _⟩ := exStream_live.2; ⟨x, hx, hl, hc, hr⟩

/-- **8. A stream WINDOW_UPDATE credits exactly what is owed.**  For a stream in the receive-streaming
    state whose `unclaimed_capacity()` is `Some(incr)` (that is when `send_stream_window_updates` emits
    WINDOW_UPDATE(id, incr)): `incr = available − window` exactly, `inc_window(incr)` succeeds and makes
    the window equal to `available` (≤ `init_window_sz − in_flight_recv_data` by theorem 7). -/
theorem stream_window_update_exact {g : Ghost} {s : Streams} (h : ReachOk g s) {x : Stream} (hx : x ∈ s.store.slab)
    (hrs : x.state.isRecvStreaming = true) {incr : Nat} (hu : x.recvFlow.unclaimedCapacity = some incr) :
    (incr : Int) = x.recvFlow.available.val - x.recvFlow.windowSize.val ∧
    x.recvFlow.incWindow incr = ({ x.recvFlow with windowSize := ⟨x.recvFlow.available.val⟩ }, .ok ()) := by
  have hi := reachOk_inv h
  have := (hi.streams rfl x hx).update hrs hu hi.initMax
  exact ⟨this.1, this.2.1⟩

example : ∃ x ∈ exStream.store.slab, x.state.isRecvStreaming = true ∧ x.recvFlow.unclaimedCapacity = some 40000 :=
  let ⟨x, hx, _, _, _, hs, hu, _⟩ := exStream_live.2; ⟨x, hx, hs, hu⟩

/-- **9. A stream window returns to its configured size.**  For a stream the protocol knows, not
    closed, whose `RecvStream` exists: once the application has released everything
    (`in_flight_recv_data = 0`) `available` equals `init_window_sz`; if moreover the peer has used at
    least half of the window, a WINDOW_UPDATE of exactly `init_window_sz − window` is owed, which
    (theorem 8) makes the window `init_window_sz` again. -/
theorem stream_window_restored {g : Ghost} {s : Streams} (h : ReachOk g s) {x : Stream} (hx : x ∈ s.store.slab)
    (hl : linked s x.key) (hc : x.state.isClosed = false) (hr : x.isRecv = true) (h0 : x.inFlightRecvData = 0)
    (hhalf : 2 * x.recvFlow.windowSize.val ≤ (s.recv.initWindowSz : Int))
    (hlt : x.recvFlow.windowSize.val < (s.recv.initWindowSz : Int)) :
    x.recvFlow.available.val = (s.recv.initWindowSz : Int) ∧
    x.recvFlow.unclaimedCapacity = some ((s.recv.initWindowSz : Int) - x.recvFlow.windowSize.val).toNat :=
  streamWindow_restored (reachOk_inv h) hx hl hc hr h0 hhalf hlt

example : ∃ x ∈ exStream.store.slab, x.key ∈ exStream.store.ids.map (·.2) ∧ x.state.isClosed = false ∧
    x.isRecv = true ∧ x.inFlightRecvData = 0 ∧
    2 * x.recvFlow.windowSize.val ≤ (exStream.recv.initWindowSz : Int) ∧
    x.recvFlow.windowSize.val < (exStream.recv.initWindowSz : Int) :=
  let ⟨x, hx, hl, hc, hr, _, _, h0, hh, hlt⟩ := exStream_live.2; ⟨x, hx, hl, hc, hr, h0, hh, hlt⟩

/-- **10. A stream whose last handle is gone gives everything back, exactly once.**
    `release_closed_capacity(stream)` is what `drop_stream_ref` calls when no handle of a stream is
    left — on the stream itself and (since the repair F30) on every stream promised on it that the
    application never polled.  Whatever the stream holds, `n = in_flight_recv_data` octets, moves from
    the connection's `in_flight_data` to its `available`, once (`n ≤ in_flight_data`, no wrap); the
    window the peer sees does not move (the next WINDOW_UPDATE, theorem 3, announces it); afterwards
    the stream has nothing in flight and nothing buffered, so nothing can be given back twice. -/
theorem dropped_stream_credited_exactly_once {g : Ghost} {s : Streams} (h : Reach g s) (id : Nat) {x : Stream}
    (hx : s.store.get? id = some x) :
    x.inFlightRecvData ≤ cI s ∧
    cW (s.releaseClosedCapacity id) = cW s ∧
    cA (s.releaseClosedCapacity id) = cA s + x.inFlightRecvData ∧
    cI (s.releaseClosedCapacity id) = cI s - x.inFlightRecvData ∧
    ∃ x', (s.releaseClosedCapacity id).store.get? id = some x' ∧ x'.inFlightRecvData = 0 ∧
      x'.recvFlow = x.recvFlow ∧ x'.pendingRecv = [] :=
  releaseClosedCapacity_exact (reach_inv h) id hx

/-- non-vacuity: the history of F30 before the handles are dropped — the never-polled pushed stream
    (key 1) holds 10 octets; `pushed_stream_data_credited_back` is the whole history: after the two
    `drop_stream_ref` nothing is in flight and `available` is back at 65 535 -/
example : Reach Ghost.init (runOps leakStart (leakOps.take 6)) ∧
    ((runOps leakStart (leakOps.take 6)).store.get? 1).map (·.inFlightRecvData) = some 10 :=
  ⟨(reachOk_runOps (.init leakStart_init) (leakOps.take 6) (by decide +kernel)).reach, by decide +kernel⟩

example : cI (runOps leakStart leakOps) = 0 ∧ cA (runOps leakStart leakOps) = 65535 :=
  ⟨pushed_stream_data_credited_back.2.1, pushed_stream_data_credited_back.2.2.1⟩

/-- **11. Every connection, whatever the peer, the transport and the application do.**  `CReach T H c`:
    the connection `c` (codec, SETTINGS/PING/GOAWAY state machines and stream layer: `Conn` of
    `ConnProto.lean`) is reachable from a new client or server connection — built with legal window
    sizes — through any sequence of `Connection::poll` (any octets from the peer, chopped in any way,
    any write back-pressure), `set_target_window_size` / `set_initial_window_size` (≤ 2^31-1),
    graceful or abrupt shutdown, pings, and calls the handles make on the stream layer; `T` is the
    connection window the application configured last, `H` the largest so far.  Then the connection's
    books balance: `available + in_flight_data = T`, the advertised window is never negative and
    `window + in_flight_data ≤ H ≤ 2^31-1`, and the streams together hold at most what the
    connection counts as in flight.  (This is theorems 1–2 without the hand-made list of stream-layer
    calls: `recv_frame`, `poll2`, `poll`, the SETTINGS ACK path … are proved to make only such calls,
    with valid arguments — in particular `apply_local_settings` only ever gets the values this
    endpoint sent.) -/
theorem every_connection_window_conserved {T H : Nat} {c : Conn} (h : CReach T H c) :
    cA c.streams + (cI c.streams : Int) = (T : Int) ∧ 0 ≤ cW c.streams ∧
    cW c.streams + (cI c.streams : Int) ≤ (H : Int) ∧ H ≤ 2147483647 ∧
    sumInfl c.streams.store.slab ≤ cI c.streams := by
  obtain ⟨g, hi, ht, hh⟩ := creach_inv h
  rw [← ht, ← hh]
  exact ⟨hi.cons, hi.w0, hi.wI, hi.hiMax, by have := hi.sum; omega⟩

/-- non-vacuity: a new client connection, the window raised to 200 000, polled once -/
example : CReach 200000 200000
    ((COp.clientPoll 100).apply ((COp.setTargetWindowSize 200000).apply (Conn.init {}))) :=
  .step (.clientPoll 100)
    (.step (.setTargetWindowSize 200000) (.client {} ⟨fun _ h => (nomatch h), fun _ h => (nomatch h)⟩)
      (show (200000 : Nat) ≤ 2147483647 by decide)) trivial

end H2V.Props.C03

#print axioms H2V.Props.C03.connection_window_conserved
#print axioms H2V.Props.C03.connection_window_never_over_credited
#print axioms H2V.Props.C03.connection_window_update_exact
#print axioms H2V.Props.C03.connection_window_restored
#print axioms H2V.Props.C03.discarded_data_credited_back
#print axioms H2V.Props.C03.release_credited_exactly_once
#print axioms H2V.Props.C03.stream_window_conserved
#print axioms H2V.Props.C03.stream_window_update_exact
#print axioms H2V.Props.C03.stream_window_restored
#print axioms H2V.Props.C03.dropped_stream_credited_exactly_once
#print axioms H2V.Props.C03.every_connection_window_conserved
