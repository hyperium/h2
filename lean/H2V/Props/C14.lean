import H2V.Lemmas.ConnCtlPHist
import H2V.Lemmas.ConnCtlPPing
/-
  C14 — SETTINGS and PING are acknowledged exactly once, in order; settings apply at the ACK.
  Property theorems; a fact only one of them states is proved under it (lemmas with more than one user:
  `H2V/Lemmas/ConnCtlP*.lean`, notes: `H2V/Lemmas/ConnCtlPNOTES.md`).

  Vocabulary.  `Ev` are ghost events of `Connection::poll`: `protoPollT` / `clientPollT` are the
  model's `Conn.protoPoll` / `Conn.clientPoll` plus the list of events, emitted at the very calls
  that take a frame from the peer (`rxSettings`, `rxPing`) or hand an acknowledgement to the codec
  (`ackSettings`, `pong`); `protoPollT_erasure` / `clientPollT_erasure` below say that they compute
  exactly the model's values.  `Hist c0 evs c`: the connection got from `c0` to `c` by any
  interleaving of polls (any waker, any fuel = any amount of input, any write budget — the transport
  is part of the state) and user-side calls, emitting `evs`.  `rxS/ackS/rxP/pongP/ansP` project the
  event list onto the SETTINGS received / acknowledged, PING payloads received / echoed / taken
  out of `pending_pong`.
-/
set_option autoImplicit false
set_option linter.unusedSimpArgs false
namespace H2V.Props.C14
open H2V H2V.Model H2V.Model.Conn H2V.Lemmas.ConnCtlP

/-- the instrumented polls ARE the model's polls (first component), for every state and fuel -/
theorem protoPollT_erasure (fuel : Nat) (c : Conn) : (protoPollT fuel c).1 = Conn.protoPoll fuel c :=
  protoPollT_fst fuel c
theorem clientPollT_erasure (fuel : Nat) (c : Conn) : (clientPollT fuel c).1 = Conn.clientPoll fuel c :=
  clientPollT_fst fuel c

/-- a concrete client connection whose transport holds SETTINGS(empty), PING(1..8),
    SETTINGS(MAX_CONCURRENT_STREAMS=5) — used by the non-vacuity examples -/
def demoPeer : Bytes :=
  [0,0,0,4,0,0,0,0,0] ++ [0,0,8,6,0,0,0,0,0, 1,2,3,4,5,6,7,8] ++ [0,0,6,4,0,0,0,0,0, 0,3,0,0,0,5]
def demo (budget : Option Nat) : Conn :=
  let c0 := Conn.init {}
  { c0 with codec := { c0.codec with io := { c0.codec.io with rd := demoPeer, budget := budget } } }

/-- **SETTINGS are acknowledged exactly once, in arrival order, never more** — over EVERY history of
    a connection that starts with nothing owed: the SETTINGS frames acknowledged so far are a prefix
    of the SETTINGS frames received so far (same frames, same order: each ACK answers "its" frame and
    there is never an ACK without a frame), at most one received frame is not yet acknowledged, and
    while the connection is alive (has not started its final GOAWAY / left the `Open` state) the
    only unacknowledged one is the frame sitting in `settings.remote` — this includes every write
    back-pressure pattern, since the transport's budget is part of the state. -/
theorem settings_acked_exactly_once_in_order {c0 c : Conn} {evs : List Ev} (h : Hist c0 evs c)
    (h0 : c0.settings.remote = none) :
    ackS evs <+: rxS evs ∧ (rxS evs).length ≤ (ackS evs).length + 1 ∧
    (¬ Dead c → ackS evs ++ owedS c = rxS evs) := by
  have e0 : owedS c0 = [] := by simp [owedS, h0]
  rcases hist_ledger h with l | ⟨hd, l⟩
  · have := l.settings
    rw [e0, List.nil_append] at this
    refine ⟨⟨owedS c, this⟩, ?_, fun _ => this⟩
    rw [← this, List.length_append]
    have : (owedS c).length ≤ 1 := by unfold owedS; cases c.settings.remote <;> simp
    omega
  · have := l.settings
    rw [e0, List.nil_append] at this
    exact ⟨⟨[], by simp [this]⟩, by rw [this]; omega, fun hn => absurd hd hn⟩

/-- non-vacuity: one poll of the demo connection receives two SETTINGS and acknowledges both, in order -/
example : ∃ evs c, Hist (demo none) evs c ∧ (demo none).settings.remote = none ∧
    rxS evs = [[], [(3, 5)]] ∧ ackS evs = [[], [(3, 5)]] :=
  ⟨_, _, Hist.clientPoll "c" 20 Hist.init, by decide, by decide, by decide⟩
/-- the demo connection with a full write buffer and a transport that accepts nothing -/
def demoFull : Conn :=
  let c0 := demo (some 0)
  { c0 with codec := { c0.codec with w := { c0.codec.w with
      buf := c0.codec.w.buf ++ [{ bytes := 16000, done := none }], bufLen := c0.codec.w.bufLen + 16000 } } }
/-- lift the write budget (the harness's `cn_budget inf`): an inert call -/
def unblock (c : Conn) : Conn := { c with codec := { c.codec with io := { c.codec.io with budget := none } } }
theorem unblock_inert (c : Conn) : Inert c (unblock c) := inert_streams_codec c c.streams _ c.cx c.unsupported

/-- … under write back-pressure the first SETTINGS is received but stays owed: no ACK, no further
    read, the connection alive; once the transport takes octets again the ACK goes out, then the
    PING and the second SETTINGS are read and answered — same ledger -/
example : ∃ evs c, Hist demoFull evs c ∧ rxS evs = [[]] ∧ ackS evs = [] ∧ owedS c = [[]] ∧ ¬ Dead c := by
  refine ⟨_, _, Hist.clientPoll "c" 20 Hist.init, by decide, by decide, by decide, ?_⟩
  unfold Dead Halting; decide
example : ∃ evs c, Hist demoFull evs c ∧ rxS evs = [[], [(3, 5)]] ∧ ackS evs = [[], [(3, 5)]] ∧ owedS c = [] :=
  ⟨_, _, Hist.clientPoll "c" 20 (Hist.call _ (Hist.clientPoll "c" 20 Hist.init) (unblock_inert _)),
    by decide, by decide, by decide⟩

/-- **PINGs are answered exactly once, in arrival order, with their own payload** — over every
    history: the payloads taken out of `pending_pong` followed by the one still pending are exactly
    the payloads received, in order; at most one is pending; and every payload taken out was echoed
    in a PING ACK unless the transport answered an I/O error at that very moment (`pongLost`). -/
theorem pings_answered_exactly_once_in_order {c0 c : Conn} {evs : List Ev} (h : Hist c0 evs c)
    (h0 : c0.pingPong.pendingPong = none) :
    ansP evs ++ owedP c = rxP evs ∧ (rxP evs).length ≤ (ansP evs).length + 1 ∧
    ((∀ p, Ev.pongLost p ∉ evs) → pongP evs = ansP evs) := by
  have e0 : owedP c0 = [] := by simp [owedP, h0]
  have hp : ansP evs ++ owedP c = rxP evs := by
    rcases hist_ledger h with l | ⟨-, l⟩ <;> simpa [e0] using l.pings
  refine ⟨hp, ?_, ?_⟩
  · rw [← hp, List.length_append]
    have : (owedP c).length ≤ 1 := by unfold owedP; cases c.pingPong.pendingPong <;> simp
    omega
  · intro hl
    clear hp h
    induction evs with
    | nil => rfl
    | cons e t ih =>
      have := ih fun p hp => hl p (List.mem_cons_of_mem _ hp)
      cases e with
      | pongLost p => exact absurd (List.mem_cons_self ..) (hl p)
      | pong p => exact congrArg (p :: ·) this
      | _ => exact this

example : ∃ evs c, Hist (demo none) evs c ∧ (demo none).pingPong.pendingPong = none ∧
    rxP evs = [[1,2,3,4,5,6,7,8]] ∧ pongP evs = [[1,2,3,4,5,6,7,8]] :=
  ⟨_, _, Hist.clientPoll "c" 20 Hist.init, by decide, by decide, by decide⟩

/-- **the next frame is read only when nothing is owed**: `Connection::poll_ready` answers
    `Ready(Ok)` only with `settings.remote` and `ping_pong.pending_pong` empty — so the
    `assert!(self.remote.is_none())` / `assert!(self.pending_pong.is_none())` of `recv_settings` /
    `recv_ping`, which `poll2` reaches only after `poll_ready`, cannot fire, and a second SETTINGS
    or PING never overwrites an unanswered one. -/
theorem read_gated_by_poll_ready (c c' : Conn) (h : c.pollReady = (c', .ok)) :
    c'.settings.remote = none ∧ c'.pingPong.pendingPong = none := by
  have := (pollReadyT_spec c).2
  rw [pollReadyT_fst, h] at this
  exact this rfl

example : stepOk (demo none).pollReady.2 = true := by decide

/-- **a received SETTINGS frame is only remembered**: until its ACK is written nothing is applied and
    nothing is sent — `recv_settings` changes `settings.remote` and nothing else. -/
theorem received_settings_only_remembered (c : Conn) (vals : List (Nat × Nat)) (h : c.settings.remote = none) :
    c.recvSettings false vals = ({ c with settings := { c.settings with remote := some vals } }, .ok ()) :=
  recvSettings_nonack c vals h

example : (demo none).settings.remote = none := by decide

/-- the model's `Settings::poll_send` is literally: the remote half (ACK + apply, `ackAndApply`, when
    a frame is owed and the codec has room), then the local half -/
theorem poll_send_structure (c : Conn) :
    c.settingsPollSend = (match settingsRemotePart c with
      | (c, .ok) => settingsLocalPart c
      | r => r) ∧
    (∀ vals c1, c.settings.remote = some vals → c.codecPollReady = (c1, .ok) →
      settingsRemotePart c = ackAndApply c1 vals) := by
  refine ⟨settingsPollSend_eq c, fun vals c1 h1 h2 => ?_⟩
  unfold settingsRemotePart
  rw [h1]; dsimp only; rw [h2]

/-- **the peer's values govern what is sent from the ACK on**: the step that hands the SETTINGS ACK
    to the codec (exactly one 9-octet frame appended to the write buffer) is the step that applies
    the values of the frame it answers: the streams afterwards are `apply_remote_settings(values)`
    of the streams before (concurrency limit, initial window with the deltas on all streams, push
    switch), and on success the writer's max frame size and the HPACK encoder's table size are the
    frame's (unchanged when the frame does not carry them). -/
theorem settings_apply_at_the_ack (c : Conn) (vals : List (Nat × Nat)) :
    (ackAndApply c vals).1.codec.w.buf = c.codec.w.buf ++ [{ bytes := 9, done := some "S:0:1:-" }] ∧
    (ackAndApply c vals).1.streams =
      (c.streams.applyRemoteSettings vals (!c.settings.hasReceivedRemoteInitialSettings)).1 ∧
    (ackAndApply c vals).1.settings.hasReceivedRemoteInitialSettings = true ∧
    ((ackAndApply c vals).2 = .ok →
      (ackAndApply c vals).1.codec.w.maxFrameSize = (getS vals 5).getD c.codec.w.maxFrameSize ∧
      (ackAndApply c vals).1.codec.w.hpack =
        (match getS vals 1 with | some v => c.codec.w.hpack.updateMaxSize v | none => c.codec.w.hpack)) ∧
    (stepOk (ackAndApply c vals).2 = true ↔
      ∃ u, (c.streams.applyRemoteSettings vals (!c.settings.hasReceivedRemoteInitialSettings)).2 = .ok u) :=
  ackAndApply_spec c vals

/-- … and not before: while the codec cannot take the ACK (write back-pressure), `poll_send`
    changes neither the streams nor the writer's frame-size limit, and keeps the frame owed. -/
theorem settings_not_applied_under_backpressure (c : Conn) (vals : List (Nat × Nat))
    (hr : c.settings.remote = some vals) (hb : stepOk c.codecPollReady.2 = false) :
    (settingsRemotePart c).1.streams = c.streams ∧ (settingsRemotePart c).1.settings = c.settings ∧
    (settingsRemotePart c).1.codec.w.maxFrameSize = c.codec.w.maxFrameSize ∧
    stepOk (settingsRemotePart c).2 = false := by
  unfold settingsRemotePart
  rw [hr]
  dsimp only
  rcases h : c.codecPollReady with ⟨c1, st⟩
  obtain ⟨h1, h2, h3, h4, h5, h6⟩ := codecPollReady_eq c c1 st h
  rw [h] at hb
  have hm : c1.codec.w.maxFrameSize = c.codec.w.maxFrameSize := by
    have := congrArg Prod.fst h; subst this
    exact (codecPollReady_limits c).1
  cases st with
  | ok => simp [stepOk] at hb
  | pending => exact ⟨h4, h1, hm, rfl⟩
  | err e => exact ⟨h4, h1, hm, rfl⟩

/-- **locally changed settings are not enforced when they are queued or sent**: `send_settings`
    changes neither streams nor codec, and writing the frame (`ToSend → WaitingAck`) leaves the
    streams and the reader (max frame size, header list size, HPACK decoder) untouched. -/
theorem local_settings_deferred (c : Conn) (vals : List (Nat × Nat)) :
    (c.sendSettings vals).1.streams = c.streams ∧ (c.sendSettings vals).1.codec = c.codec ∧
    (settingsLocalSend c).1.streams = c.streams ∧ (settingsLocalSend c).1.codec.r = c.codec.r :=
  ⟨(sendSettings_defers c vals).1, (sendSettings_defers c vals).2.1,
   (settingsLocalSend_defers c).1, (settingsLocalSend_defers c).2.1⟩

/-- **… they are enforced when the peer's ACK arrives**: with a local SETTINGS `loc` waiting for
    its ACK, `recv_settings(ACK)` sets the reader's max frame size / max header list size to the
    values sent, runs `apply_local_settings(loc)` on the streams (initial window of every stream),
    and returns to `Synced`; the writer is untouched. -/
theorem local_settings_enforced_at_peer_ack (c : Conn) (vals loc : List (Nat × Nat))
    (h : c.settings.loc = .waitingAck loc) :
    (c.recvSettings true vals).1.codec.r.maxFrameLen = (getS loc 5).getD c.codec.r.maxFrameLen ∧
    (c.recvSettings true vals).1.codec.r.maxHeaderListSize = (getS loc 6).getD c.codec.r.maxHeaderListSize ∧
    (c.recvSettings true vals).1.streams = (c.streams.applyLocalSettingsFrame loc).1 ∧
    (c.recvSettings true vals).1.codec.w = c.codec.w ∧
    ((c.recvSettings true vals).2 = .ok () → (c.recvSettings true vals).1.settings.loc = .synced) ∧
    (c.recvSettings true vals).1.settings.remote = c.settings.remote := by
  rw [recvSettings_ack_eq c vals loc h]
  obtain ⟨r1, r2, -⟩ := applyLocalToReader_spec c.codec.r loc
  dsimp only
  rcases hs : c.streams.applyLocalSettingsFrame loc with ⟨s, r⟩
  cases r with
  | error e => exact ⟨r1, r2, rfl, rfl, (fun hh => by cases hh), rfl⟩
  | ok u => exact ⟨r1, r2, rfl, rfl, fun _ => rfl, rfl⟩

/-- non-vacuity: a fresh client is waiting for the ACK of its handshake SETTINGS -/
example : (Conn.init { mfs := some 20000 }).settings.loc = .waitingAck [(5, 20000)] := by decide

/-- **an acknowledgement that answers nothing is a connection error**: a SETTINGS ACK while no
    local SETTINGS waits for one makes `recv_settings` fail with the library GOAWAY error
    PROTOCOL_ERROR, without touching the state (what the connection does with such an error —
    GOAWAY(PROTOCOL_ERROR), no further reads — is `C09.connection_error_is_fatal`). -/
theorem unsolicited_settings_ack_is_protocol_error (c : Conn) (vals : List (Nat × Nat))
    (h : ∀ l, c.settings.loc ≠ .waitingAck l) :
    c.recvSettings true vals = (c, .error (PErr.libraryGoAway PROTOCOL_ERROR)) :=
  recvSettings_ack_unsolicited c vals h

example : ∀ l, ({ (Conn.init {}) with settings := { loc := .synced } } : Conn).settings.loc ≠ .waitingAck l := by
  intro l h; cases h

/-- **the PING ACK echoes the payload received**: with the codec ready `send_pending_pong` appends
    exactly one 17-octet PING ACK frame carrying the payload stored by `recv_ping` and empties the
    slot; with the codec not ready (back-pressure) the payload stays pending. -/
theorem pong_echoes_payload (c : Conn) (payload : Bytes) (h : c.pingPong.pendingPong = some payload) :
    (c.codecPollReady.2 = .ok →
      c.sendPendingPong.2 = .ok ∧ c.sendPendingPong.1.pingPong.pendingPong = none ∧
      c.sendPendingPong.1.codec.w.buf = c.codecPollReady.1.codec.w.buf ++
        [{ bytes := 17, done := some ("P:0:1:" ++ Hex.ofBytes payload) }]) ∧
    (c.codecPollReady.2 = .pending →
      c.sendPendingPong.2 = .pending ∧ c.sendPendingPong.1.pingPong.pendingPong = some payload) :=
  sendPendingPong_spec c payload h

example : stepOk ({ (demo none) with pingPong := { pendingPong := some [9,9,9,9,9,9,9,9] } } : Conn).codecPollReady.2 = true := by
  decide

/-- **a PING ACK nobody asked for is ignored**: it matches neither the shutdown ping nor a user ping
    in flight ⇒ `recv_frame` swallows it, no error, no state change (but an empty wake-up list). -/
theorem unsolicited_ping_ack_ignored (c : Conn) (payload : Bytes)
    (hp : c.pingPong.pendingPong = none)
    (h1 : ∀ pp, c.pingPong.pendingPing = some pp → pp.payload ≠ payload)
    (h2 : ∀ u, c.pingPong.userPings = some u →
      ¬ (payload = Generated.Consts.PING_USER_PAYLOAD ∧ u.state = Generated.Consts.USER_STATE_PENDING_PONG)) :
    c.recvFrame (some (.ping true payload)) = ({ c with streams := c.streams.wake [] }, .ok .continue) := by
  unfold Conn.recvFrame
  dsimp only
  rw [recvPing_ack_unsolicited c.pingPong payload h1 h2]
  simp [hp]

example : (demo none).pingPong.pendingPong = none ∧ (demo none).pingPong.pendingPing = none ∧
    (demo none).pingPong.userPings = none := by decide

/-- **the ACK of a user ping is delivered to the user**: PING ACK with the user payload while the
    user's ping is in flight ⇒ the pong is recorded (`poll_pong` will answer `Ready`) and the task
    registered by `poll_pong` is woken. -/
theorem user_ping_ack_delivered (p : PingPong) (u : UserPings) (hu : p.userPings = some u)
    (hs : u.state = Generated.Consts.USER_STATE_PENDING_PONG)
    (h1 : ∀ pp, p.pendingPing = some pp → pp.payload ≠ Generated.Consts.PING_USER_PAYLOAD) :
    p.recvPing true Generated.Consts.PING_USER_PAYLOAD =
      ({ p with userPings := some { u with state := Generated.Consts.USER_STATE_RECEIVED_PONG, pongTask := none } },
       .unknown, u.pongTask.toList, p.pendingPong.isNone) := by
  unfold PingPong.recvPing
  simp only [if_true]
  cases hp : p.pendingPing with
  | none => simp [hu, hs]
  | some pp =>
    have hne := h1 pp hp
    have : (pp.payload == Generated.Consts.PING_USER_PAYLOAD) = false := by simpa using hne
    simp [this, hu, hs]

example : ∃ (p : PingPong) (u : UserPings), p.userPings = some u ∧
    u.state = Generated.Consts.USER_STATE_PENDING_PONG ∧ p.pendingPing = none :=
  ⟨{ userPings := some { state := Generated.Consts.USER_STATE_PENDING_PONG } }, _, rfl, rfl, rfl⟩

/-- the demo client after its SETTINGS exchange -/
def demoSynced : Conn :=
  let c0 := Conn.init {}
  (Conn.clientPoll 50 { c0 with codec := { c0.codec with io := { c0.codec.io with rd := [0,0,0,4,0,0,0,0,0] } } }).1

/-- … holding (set by hand: sending a request needs `http` string constants the kernel cannot
    evaluate) an open stream 1 whose send window the peer has raised to 2^31-1, and a SETTINGS frame
    that raises INITIAL_WINDOW_SIZE by one — legal, and unanswerable without overflow -/
def demoOverflow : Conn :=
  let st := Stream.new 1 65535 65535
  let fl : FlowControl := { windowSize := { val := 2147483647 }, available := { val := 0 } }
  let big : Stream := { st with state := { inner := .open .streaming .awaitingHeaders }, sendFlow := fl, isCounted := true, refCount := 1 }
  let s := demoSynced.streams
  let cnt : Counts := { s.counts with numSendStreams := 1 }
  let s' : Streams := { s with store := (s.store.insert big).1, counts := cnt }
  let io : Tio := { demoSynced.codec.io with rd := [0,0,6,4,0,0,0,0,0, 0,4,0,1,0,0], tx := [] }
  { demoSynced with streams := s', codec := { demoSynced.codec with io := io } }

/-- **why `ackS ++ owed = rxS` is stated for live connections only**: when `apply_remote_settings`
    fails (here: the new initial window overflows a stream's send window — connection error
    FLOW_CONTROL_ERROR) the ACK has already been handed to the codec and `settings.remote` is NOT
    cleared: one frame received, one ACK sent, and the same frame still "owed".  No second ACK can
    follow: the connection is dead (GOAWAY(FLOW_CONTROL_ERROR) sent, state `Closed`), which is why the
    prefix statement of `settings_acked_exactly_once_in_order` holds unconditionally. -/
theorem stale_remote_after_failed_apply_counterexample :
    rxS (clientPollT 50 demoOverflow).2 = [[(4, 65536)]] ∧ ackS (clientPollT 50 demoOverflow).2 = [[(4, 65536)]] ∧
    owedS (clientPollT 50 demoOverflow).1.1 = [[(4, 65536)]] ∧
    (sentG (clientPollT 50 demoOverflow).2).map (·.reason) = [FLOW_CONTROL_ERROR] ∧
    (clientPollT 50 demoOverflow).1.1.state = .closed FLOW_CONTROL_ERROR .library := by decide

/-- the demo client with a PING to answer, a full write buffer and a transport whose writes fail -/
def demoBrokenPipe : Conn :=
  let io : Tio := { demoSynced.codec.io with rd := [0,0,8,6,0,0,0,0,0, 1,2,3,4,5,6,7,8], wrErr := some "BrokenPipe" }
  let w0 := demoSynced.codec.w
  let w : Writer := { w0 with buf := w0.buf ++ [{ bytes := 16000, done := none }], bufLen := w0.bufLen + 16000 }
  { demoSynced with codec := { demoSynced.codec with io := io, w := w } }

/-- **why `pongP = ansP` needs "no `pongLost`"**: `send_pending_pong` takes the payload out of
    `pending_pong` before `poll_ready?`; when the transport answers an I/O error at that moment the
    PING is never answered and no longer pending (the error is returned by `poll`: the connection is
    dying anyway). -/
theorem pong_lost_on_write_error_counterexample :
    (clientPollT 50 demoBrokenPipe).2 = [.rxPing [1,2,3,4,5,6,7,8], .pongLost [1,2,3,4,5,6,7,8]] ∧
    pongP (clientPollT 50 demoBrokenPipe).2 = [] ∧ (clientPollT 50 demoBrokenPipe).1.1.pingPong.pendingPong = none := by
  decide

end H2V.Props.C14

#print axioms H2V.Props.C14.protoPollT_erasure
#print axioms H2V.Props.C14.clientPollT_erasure
#print axioms H2V.Props.C14.settings_acked_exactly_once_in_order
#print axioms H2V.Props.C14.pings_answered_exactly_once_in_order
#print axioms H2V.Props.C14.read_gated_by_poll_ready
#print axioms H2V.Props.C14.received_settings_only_remembered
#print axioms H2V.Props.C14.poll_send_structure
#print axioms H2V.Props.C14.settings_apply_at_the_ack
#print axioms H2V.Props.C14.settings_not_applied_under_backpressure
#print axioms H2V.Props.C14.local_settings_deferred
#print axioms H2V.Props.C14.local_settings_enforced_at_peer_ack
#print axioms H2V.Props.C14.unsolicited_settings_ack_is_protocol_error
#print axioms H2V.Props.C14.pong_echoes_payload
#print axioms H2V.Props.C14.unsolicited_ping_ack_ignored
#print axioms H2V.Props.C14.user_ping_ack_delivered
#print axioms H2V.Props.C14.stale_remote_after_failed_apply_counterexample
#print axioms H2V.Props.C14.pong_lost_on_write_error_counterexample
