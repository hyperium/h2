import H2V.Lemmas.ConnWakePPush
/-
  C06 — progress: no lost wake-up.  Property theorems only; lemmas and definitions in
  `H2V/Lemmas/ConnWakeP*.lean` (see ConnWakePNOTES.md).

  The liveness statement is turned into safety statements about the waker slots of the model (tags
  instead of `Waker`s; `wake()` appends the tag to `Streams.wakes`):
    (A) WAITING ⇒ REGISTERED: a `poll_*` that answers `Pending` has parked the caller's tag in the slot
        of the stream, and the condition it waits for is false at that moment;
    (B) NO SILENT DROP: no operation other than a `poll_*` empties a slot without writing its tag to
        the wake log, fills a slot, or clears `send_capacity_inc`;
    (C) EVENT ⇒ WAKE: whenever `pending_recv` gets a new entry the receive waker is woken; whenever
        `send_capacity_inc` rises the send and open wakers are woken; (closing a stream through
        `recv_eof`/`handle_error`/`set_reset`/`recv_reset` wakes all four: C07);
    (D) the connection task (`Actions.task`) is woken whenever a handle gives it work.
  `Step none s s'` (ConnWakePBasic.lean) is the conjunction of (B) and (C) for every stream entry plus
  "Closed is absorbing, conn_error is sticky, the connection task is unchanged or taken and woken".
-/
namespace H2V.Props.C06
open H2V H2V.Model H2V.Model.Conn H2V.Lemmas.ConnWakeP H2V.Lemmas.Comp

/-- **(B)+(C) for ALL operations.**  Every operation of the stream layer other than the `poll_*` functions —
    every received frame, settings change, `poll_complete`'s `buffer_pending`, teardown, and every handle
    operation, with ANY arguments in ANY state — is a `Step`. -/
theorem no_waker_dropped_silently (op : Op) (s : Streams) : Step none s (op.apply s) := op.step s

/-- (B) spelled out for one stream: a waker parked in `recv_task` before the operation is still parked
    afterwards or its tag is in the part of the wake log the operation wrote (or the stream entry was
    released: no handle left).  Same for `send_task`, `open_task`, `push_task`. -/
theorem parked_waker_kept_or_woken (op : Op) (s : Streams) (hb : KeysBounded s.store) (k : Nat) (a : Stream)
    (ha : s.store.get? k = some a) :
    (op.apply s).store.get? k = none ∨ ∃ b, (op.apply s).store.get? k = some b ∧
      (∀ t, a.recvTask = some t → b.recvTask = some t ∨ t ∈ newWakes s (op.apply s)) ∧
      (∀ t, a.sendTask = some t → b.sendTask = some t ∨ t ∈ newWakes s (op.apply s)) ∧
      (∀ t, a.openTask = some t → b.openTask = some t ∨ t ∈ newWakes s (op.apply s)) ∧
      (∀ t, a.pushTask = some t → b.pushTask = some t ∨ t ∈ newWakes s (op.apply s)) := by
  have key : ∀ {w : List String} {x y : Option String}, SlotStep w x y → ∀ t, x = some t → y = some t ∨ t ∈ w := by
    intro w x y h t ht
    rcases h with e | ⟨_, e⟩
    · exact Or.inl (e ▸ ht)
    · exact Or.inr (e t ht)
  rcases (op.step s).keep k a (hb.get? ha) ha with h | ⟨b, hb', hab⟩
  · exact Or.inl h
  · exact Or.inr ⟨b, hb', key hab.recvTask, key hab.sendTask, key hab.openTask, key hab.pushTask⟩

example : KeysBounded exOpen.store ∧ exOpen.store.get? 0 ≠ none := ⟨exOpen_good.bounded, by decide⟩

/-- (C) spelled out, receive side: if an operation leaves a stream with a receive queue that is not a
    suffix of the old one (something was pushed: response head, DATA, trailers, a promised request), the
    waker parked in `recv_task` was woken and the slot is empty. -/
theorem new_recv_event_wakes_reader (op : Op) (s : Streams) (hb : KeysBounded s.store) (k : Nat) (a b : Stream)
    (ha : s.store.get? k = some a) (hb' : (op.apply s).store.get? k = some b)
    (hnew : ¬ ∃ n, b.pendingRecv = a.pendingRecv.drop n) :
    b.recvTask = none ∧ ∀ t, a.recvTask = some t → t ∈ newWakes s (op.apply s) := by
  rcases ((op.step s).sstep hb ha hb').recvPush with h | h
  · exact absurd h hnew
  · exact h

/-- non-vacuity: a response head arriving on the parked stream of `exOpen` grows the queue and wakes `p0` -/
example : (exOpen.stream 0).pendingRecv.length = 0 ∧
    (((Op.recvHeaders { sid := 1, eos := false, status := some [50, 48, 48] }).apply exOpen).stream 0).pendingRecv.length = 1 ∧
    ((Op.recvHeaders { sid := 1, eos := false, status := some [50, 48, 48] }).apply exOpen).wakes = ["p0"] := by decide

/-- (C) spelled out, send side: if `send_capacity_inc` of a stream is raised by an operation (capacity was
    assigned: WINDOW_UPDATE, SETTINGS, capacity given back by another stream, DATA written), the wakers in
    `send_task` (`poll_capacity`) and `open_task` were woken; and no operation ever clears the flag
    (only `poll_capacity` does): a task that saw `Pending` cannot miss the increase. -/
theorem capacity_increase_wakes_sender (op : Op) (s : Streams) (hb : KeysBounded s.store) (k : Nat) (a b : Stream)
    (ha : s.store.get? k = some a) (hb' : (op.apply s).store.get? k = some b) :
    (a.sendCapacityInc = true → b.sendCapacityInc = true) ∧
    (a.sendCapacityInc = false → b.sendCapacityInc = true →
      b.sendTask = none ∧ b.openTask = none ∧
      ∀ t, (a.sendTask = some t ∨ a.openTask = some t) → t ∈ newWakes s (op.apply s)) := by
  have hab := (op.step s).sstep hb ha hb'
  refine ⟨hab.capKeep, fun h1 h2 => ?_⟩
  rcases hab.capRise with h | h
  · rw [h1, h2] at h; cases h
  · exact h

/-- non-vacuity: `reserve_capacity(65535)` on an open stream assigns capacity and raises its flag -/
example : (Op.refReserveCapacity 0 65535).apply R1.r3 = R1.r4 ∧ (R1.r3.stream 0).sendCapacityInc = false ∧
    (R1.r4.stream 0).sendCapacityInc = true := ⟨rfl, by decide, by decide⟩

/-- **(A) `poll_capacity`**: `Pending` ⇒ the caller is parked in `send_task`, the stream is send-streaming,
    no capacity was assigned since the last poll or the capacity is zero, and the flag is clear (so
    the next increase wakes). -/
theorem poll_capacity_pending_is_registered (s s' : Streams) (k : Nat) (tag : String) (a : Stream)
    (ha : s.store.get? k = some a) (h : s.pollCapacity k tag = (s', .pending)) :
    (s'.stream k).sendTask = some tag ∧ a.state.isSendStreaming = true ∧
    (a.sendCapacityInc = false ∨ a.capacity s.prio.maxBufferSize = 0) ∧
    (s'.stream k).sendCapacityInc = false ∧ s'.wakes = s.wakes :=
  pollCapacity_pending ha h

example : (match (exOpen.pollCapacity 0 "s0").2 with | .pending => true | _ => false) = true := by decide

/-- **(A) `poll_reset`**: `Pending` ⇒ parked in `send_task`, and the stream has no reset reason yet. -/
theorem poll_reset_pending_is_registered (s s' : Streams) (k : Nat) (mode : PollReset) (tag : String) (a : Stream)
    (ha : s.store.get? k = some a) (h : s.pollReset k mode tag = (s', .ok none)) :
    (s'.stream k).sendTask = some tag ∧ a.state.ensureReason mode = .ok none ∧ s'.wakes = s.wakes :=
  pollReset_pending ha h

example : (W1.w3.pollReset 0 .streaming "s0").2 = .ok none := W1.parked.1

/-- **(A) `poll_data` / `poll_trailers` / `poll_response`**: `Pending` ⇒ parked in `recv_task`; the queue is
    empty and the receive side still open (for `poll_trailers`: or unread DATA is in front). -/
theorem recv_polls_pending_are_registered (s s' : Streams) (k : Nat) (tag : String) (a : Stream)
    (ha : s.store.get? k = some a) :
    (s.refPollData k tag = (s', .pending) →
      (s'.stream k).recvTask = some tag ∧ a.pendingRecv = [] ∧ a.state.ensureRecvOpen = .ok true ∧ s'.wakes = s.wakes) ∧
    (s.recvPollTrailers k tag = (s', .pending) →
      (s'.stream k).recvTask = some tag ∧ s'.wakes = s.wakes ∧
      ((a.pendingRecv = [] ∧ a.state.ensureRecvOpen = .ok true) ∨
       ∃ e rest, a.pendingRecv = e :: rest ∧ ∀ f, e ≠ .trailers f)) ∧
    (Streams.recvPollResponse (a.pendingRecv.length + 1) s k tag = (s', .pending) →
      (s'.stream k).recvTask = some tag ∧ (s'.stream k).state.ensureRecvOpen = .ok true ∧
      (s'.stream k).pendingRecv = [] ∧ s'.wakes = s.wakes) :=
  ⟨refPollData_pending ha, recvPollTrailers_pending ha, recvPollResponse_pending _ ha (Nat.lt_succ_self _)⟩

example : (match (exOpen.refPollData 0 "b0").2 with | .pending => true | _ => false) = true ∧
    (match (Streams.recvPollResponse 1 exOpen 0 "p0").2 with | .pending => true | _ => false) = true := by decide

/-- **(A) `SendRequest::poll_ready`**: `Pending` ⇒ its pending stream still waits in `pending_open`, no
    connection error, and the caller is parked in that stream's `open_task` (the slot of its own since
    fix F10), which `notify_send` wakes when `pop_pending_open` opens the stream. -/
theorem poll_ready_pending_is_registered (s s' : Streams) (p : Option Nat) (tag : String)
    (h : s.pollPendingOpen p tag = (s', .ok false)) :
    ∃ k, p = some k ∧ (s.stream k).isPendingOpen = true ∧ s.actions.connError = none ∧
      (∀ a, s.store.get? k = some a → (s'.stream k).openTask = some tag) ∧ s'.wakes = s.wakes :=
  pollPendingOpen_pending h

/-- non-vacuity: right after `send_request` the stream waits in `pending_open` -/
example : (W1.w1.pollPendingOpen (some 0) "q").2 = .ok false := by decide

/-- **(D) the connection task is woken when a handle gives it work** — `TaskWoken s s'`: the slot
    `Actions.task` is empty in `s'` and the tag parked in `s` is in the wake log written in between.
    `queue_frame` / `schedule_send` on a stream that may send (not waiting in `pending_open`, not an
    unannounced pushed stream): -/
theorem queued_frame_wakes_connection (s : Streams) (k : Nat) (f : SFrame) (h : (s.stream k).isSendReady = true) :
    TaskWoken s (s.queueFrame k f) ∧ TaskWoken s (s.scheduleSend k) :=
  ⟨queueFrame_woken f h, scheduleSend_woken h⟩

example : (exOpen.stream 0).isSendReady = true := by decide

/-- (D) a successful `send_request` (the new stream goes to `pending_open` — explicit wake — or is
    scheduled), for every request in every state with bounded keys (every reachable state) -/
theorem send_request_wakes_connection (s s' : Streams) (isHead : Bool) (f : List Hpack.Field) (eos : Bool)
    (p : Option Nat) (r : Nat × Bool) (hb : KeysBounded s.store) (h : s.sendRequest isHead f eos p = (s', .ok r)) :
    TaskWoken s s' :=
  sendRequest_woken hb h

example : KeysBounded W1.w0.store ∧ (W1.w0.sendRequest false [] true none).2 = .ok (0, false) := by
  refine ⟨fun a ha => ?_, W1.request_ok⟩
  have : W1.w0.store.slab = [] := by decide
  rw [this] at ha; cases ha

/-- (D) response head / trailers queued on a stream that may send -/
theorem send_headers_and_trailers_wake_connection (s : Streams) (k : Nat) (eos : Bool) (f : List Hpack.Field)
    (hr : (s.stream k).isSendReady = true) :
    ((s.sendHeaders k eos f).2 = .ok () → TaskWoken s (s.sendHeaders k eos f).1) ∧
    ((s.sendTrailers k f).2 = .ok () → TaskWoken s (s.sendTrailers k f).1) :=
  ⟨fun h => sendHeaders_woken h hr, fun h => sendTrailers_woken h hr⟩

example : (exOpen.sendTrailers 0 []).2 = .ok () := by decide

/-- (D) `send_reset` from a handle that has something to tell the peer (the stream was not reset before
    and is not both closed and flushed) -/
theorem send_reset_wakes_connection (s : Streams) (k : Nat) (r : Reason)
    (h1 : (s.stream k).state.isReset = false)
    (h2 : ((s.stream k).state.isClosed && ((s.stream k).pendingSend.isEmpty && (s.stream k).bufferedSendData == 0)) = false)
    (h3 : (s.stream k).isSendReady = true) : TaskWoken s (s.refSendReset k r) :=
  refSendReset_woken r h1 h2 h3

example : (exOpen.stream 0).state.isReset = false ∧ (exOpen.stream 0).isSendReady = true ∧
    ((exOpen.stream 0).state.isClosed && ((exOpen.stream 0).pendingSend.isEmpty && (exOpen.stream 0).bufferedSendData == 0)) = false := by
  decide

/-- (D) `send_data` from a handle (ok) on a stream that may send: the connection task is woken — or the
    stream has buffered DATA and not one octet of send capacity (`NoCapacity`): nothing is sendable, and
    `try_assign_capacity` schedules the stream when capacity arrives -/
theorem send_data_wakes_connection_or_has_no_capacity (s : Streams) (k len : Nat) (eos : Bool)
    (hok : (s.refSendData k len eos).2 = .ok ()) (hr : (s.stream k).isSendReady = true) :
    TaskWoken s (s.refSendData k len eos).1 ∨ NoCapacity (s.refSendData k len eos).1 k :=
  refSendData_woken hok hr

example : (exOpen.refSendData 0 10 false).2 = .ok () ∧ (exOpen.stream 0).isSendReady = true := by decide

/-- (D) the LAST handle of a stream that is not closed is dropped (the application lost interest
    mid-flight): the implicit reset is scheduled and the connection task is woken -/
theorem drop_last_handle_wakes_connection (s : Streams) (k : Nat) (h1 : (s.stream k).refCount = 1)
    (hc : (s.stream k).state.isClosed = false) (hr : (s.stream k).isSendReady = true) :
    TaskWoken s (s.dropStreamRef k) :=
  dropStreamRef_woken h1 hc hr

example : ((exOpen.dropStreamRef 0).stream 0).refCount = 1 ∧ ((exOpen.dropStreamRef 0).stream 0).state.isClosed = false ∧
    ((exOpen.dropStreamRef 0).stream 0).isSendReady = true := by decide

/-- (D) `reserve_capacity` that gives capacity back (it is handed to the streams waiting for it, which
    are scheduled).  BEFORE fix 6a8a003 (finding F27, found with this model and reproduced on the real
    code) nobody woke the connection task here: buffered DATA of another stream was sendable and stayed
    queued until something else happened. -/
theorem reserve_capacity_release_wakes_connection (s : Streams) (k c : Nat)
    (h : ((s.reserveCapacity k c).stream k).requestedSendCapacity < (s.stream k).requestedSendCapacity) :
    TaskWoken s (s.refReserveCapacity k c) :=
  refReserveCapacity_woken h

/-- … on the witness of F27: stream 1 is scheduled AND the parked connection task `c` is woken -/
theorem reserve_capacity_release_wakes_connection_example :
    R1.r6.prio.pendingSend = [] ∧ R1.r6.actions.task = some "c" ∧
    R1.r7.prio.pendingSend = [1] ∧ R1.r7.wakes = ["c"] ∧ R1.r7.actions.task = none :=
  R1.reserve_capacity_wakes_connection_example

/-- (D) `release_capacity` that makes a WINDOW_UPDATE due — for the connection, or for the stream (which
    is then queued in `pending_window_updates`); `set_target_window_size`; the last handle dropped -/
theorem release_capacity_wakes_connection (s : Streams) (k c : Nat) :
    ((s.modRecv fun r => { r with inFlightData := wrapSubU32 r.inFlightData c, flow := (r.flow.assignCapacity c).1 }).recv.flow.unclaimedCapacity.isSome = true →
      TaskWoken s (s.releaseConnectionCapacity c true)) ∧
    (¬ c > (s.stream k).inFlightRecvData →
      (((s.releaseConnectionCapacity c true).modStream k fun st => { st with inFlightRecvData := wrapSubU32 st.inFlightRecvData c, recvFlow := (st.recvFlow.assignCapacity c).1 }).stream k).recvFlow.unclaimedCapacity.isSome = true →
      TaskWoken s (s.refReleaseCapacity k c).1) ∧
    (s.refs = 2 → TaskWoken s s.dropHandle) :=
  ⟨releaseConnectionCapacity_woken, refReleaseCapacity_woken, dropHandle_woken⟩

example : (Conn.init {}).streams.refs = 2 := by decide

/-- **(D) the connection task is parked whenever `Connection::poll` answers `Pending`.**  For every
    connection state, fuel and input: the polling task `c'.cx` is registered in `Actions.task` — the slot
    every handle operation above wakes — or, when the codec cannot take more, on the transport's write
    waker.  `Streams::poll_complete` itself answers `Ready` only after registering under the lock, after
    `buffer_pending` found nothing more to write (no window between "nothing to do" and "parked").
    `hp`: the model flagged no panic (no firing site is reachable); `hcap`: the write buffer's capacity is
    at least `chain_threshold + 9` (true from `Conn.init` on: the capacity only grows). -/
theorem connection_poll_pending_is_parked (n : Nat) (c c' : Conn)
    (hp : c'.streams.panicked = none) (hcap : c'.codec.w.cap ≥ c'.codec.w.minBufferCapacity) :
    (Conn.protoPoll n c = (c', .pending) →
      c'.streams.actions.task = some c'.cx ∨ c'.codec.io.writeWaker = some c'.cx) ∧
    (Conn.clientPoll n c = (c', .pending) →
      c'.streams.actions.task = some c'.cx ∨ c'.codec.io.writeWaker = some c'.cx) :=
  ⟨fun h => protoPoll_pending_parks n c c' h hp hcap, fun h => clientPoll_pending_parks n c c' h hp hcap⟩

theorem poll_complete_ready_is_parked (n : Nat) (s s' : Streams) (w w' : Writer) (io io' : Tio) (tag : String)
    (h : Streams.pollComplete n s w io tag = (s', w', io', .ready)) : s'.actions.task = some tag :=
  pollComplete_ready_parks n s s' w w' io io' tag h

/-- non-vacuity: the first poll of a fresh client connection (SETTINGS flushed, nothing to read) is
    `Pending` and has parked `c` in `Actions.task` -/
example : (match (Conn.clientPoll 10 (Conn.init {})).2 with | .pending => true | _ => false) = true ∧
    (Conn.clientPoll 10 (Conn.init {})).1.streams.actions.task = some "c" ∧
    (Conn.clientPoll 10 (Conn.init {})).1.streams.panicked = none := by decide

/-- **User PING**: `send_ping` wakes the connection task parked in `ping_task` (registered by
    `send_pending_ping` before it looks at the state: fix F7); the PONG wakes the waiter in `pong_task`;
    `poll_pong` answers `Pending` only after parking there with no pong received. -/
theorem user_ping_wakes (c : Conn) (u : UserPings) (hu : c.pingPong.userPings = some u) :
    (u.state = Generated.Consts.USER_STATE_EMPTY →
      (c.userSendPing).2 = none ∧ ∀ t, u.pingTask = some t → t ∈ newWakes c.streams c.userSendPing.1.streams) ∧
    (u.state = Generated.Consts.USER_STATE_PENDING_PONG → c.pingPong.pendingPing = none →
      (c.pingPong.recvPing true Generated.Consts.PING_USER_PAYLOAD).2.2.1 = u.pongTask.toList) ∧
    (∀ c' tag, c.userPollPong tag = (c', none) →
      ∃ u', c'.pingPong.userPings = some u' ∧ u'.pongTask = some tag ∧
        u'.state ≠ Generated.Consts.USER_STATE_RECEIVED_PONG ∧ u'.state ≠ Generated.Consts.USER_STATE_CLOSED) := by
  refine ⟨fun hs => userSendPing_wakes c u hu hs, fun hs hp => recvPing_wakes_pong c.pingPong u hu hs hp,
    fun c' tag h => ?_⟩
  rcases userPollPong_pending c c' tag h with hn | h
  · rw [hu] at hn; cases hn
  · exact h

example : ((Conn.init {}).takeUserPings.1).pingPong.userPings = some {} := by decide

/-- **F32 (positive), the step the repair added**: when the receive side of a stream has ended,
    `notify_push_if_recv_ended` (called by `recv_headers` and `recv_data` right after `notify_recv`) leaves
    `push_task` empty and the tag that was parked there (`PushPromises::poll_push_promise`) is in the wake log. -/
theorem end_stream_step_wakes_push_waiter (s : Streams) (k : Nat) (a : Stream) (ha : s.store.get? k = some a)
    (he : a.state.isRecvEndStream = true) :
    ((s.notifyPushIfRecvEnded k).stream k).pushTask = none ∧
    ∀ t, a.pushTask = some t → t ∈ newWakes s (s.notifyPushIfRecvEnded k) :=
  notifyPushIfRecvEnded_post ha he

example : (W3.h5.stream 0).state.isRecvEndStream = true := by decide

/-- F32 (positive), trailers: `recv_trailers` (always END_STREAM) that is accepted leaves `push_task` empty and
    has woken the tag parked there — for every state with bounded keys (every reachable state), any trailers. -/
theorem trailers_wake_push_waiter (s : Streams) (k : Nat) (h : HeadersIn) (a : Stream) (hb : KeysBounded s.store)
    (ha : s.store.get? k = some a) (hok : (s.recvRecvTrailers k h).2 = .ok ()) :
    ((s.recvRecvTrailers k h).1.stream k).pushTask = none ∧
    ∀ t, a.pushTask = some t → t ∈ newWakes s (s.recvRecvTrailers k h).1 :=
  recvRecvTrailers_wakes_push hb ha hok

example : (W3.p4.recvRecvTrailers 0 { sid := 1, eos := true, status := none }).2 = .ok () ∧
    (W3.p4.stream 0).pushTask = some "q0" := by decide

/-- F32 (positive), END_STREAM on DATA and on the response head — on the witnesses (client, default builder,
    reached from `Conn.init {}` through the model API): `q0` parked in `poll_pushed` is woken, the slot is
    empty, and a new poll answers "no more".  (General theorems: `end_stream_step_wakes_push_waiter` for the
    step, `data_end_stream_wakes_push_waiter` for `recv_data` as a whole, `trailers_wake_push_waiter`.) -/
theorem end_stream_wakes_push_waiter_examples :
    ((W3.p4.stream 0).pushTask = some "q0" ∧ (W3.p5.stream 0).state.isRecvEndStream = true ∧ "q0" ∈ W3.p5.wakes ∧
      (W3.p5.stream 0).pushTask = none) ∧
    ((W3.h4.stream 0).pushTask = some "q0" ∧ "q0" ∈ W3.h5.wakes ∧ (W3.h5.stream 0).pushTask = none) :=
  ⟨⟨W3.data_end_stream_wakes_push_example.2.1, W3.data_end_stream_wakes_push_example.2.2.1,
    W3.data_end_stream_wakes_push_example.2.2.2.1, W3.data_end_stream_wakes_push_example.2.2.2.2.1⟩,
   W3.headers_end_stream_wakes_push_example⟩

/-- **F32 (positive), DATA with END_STREAM — `recv_data` as a whole.**  Whenever `recv_data(.., END_STREAM)` answers
    `Ok` (no panic flag) on a stream whose receive side had not ended and has ended in the result, `push_task` is
    empty and the tag that was parked there (`poll_pushed`) is in the part of the wake log the call wrote — on
    EVERY `Ok` path, including the early return for a dropped `RecvStream` (`!stream.is_recv`).  That path was
    FINDING W3, found with this model as a counterexample to this very statement and repaired by 334158d. -/
theorem data_end_stream_wakes_push_waiter (s : Streams) (k : Nat) (p : Bytes) (pad : Option Nat) (a : Stream)
    (hb : KeysBounded s.store) (ha : s.store.get? k = some a) (hne : a.state.isRecvEndStream = false)
    (hok : (s.recvRecvData k p true pad).2 = .ok ()) (hp : (s.recvRecvData k p true pad).1.panicked = none)
    (he : ((s.recvRecvData k p true pad).1.stream k).state.isRecvEndStream = true) :
    ((s.recvRecvData k p true pad).1.stream k).pushTask = none ∧
    ∀ t, a.pushTask = some t → t ∈ newWakes s (s.recvRecvData k p true pad).1 :=
  recvRecvData_eos_wakes_push hb ha hne hok hp he

/-- non-vacuity, on the old W3 witness: body handle dropped, `q0` parked in `poll_pushed`, DATA+END_STREAM: woken -/
theorem data_end_stream_after_dropped_body_wakes_push_example :
    (W3.d5.stream 0).pushTask = some "q0" ∧ (W3.d5.stream 0).isRecv = false ∧
    (W3.d5.recvData 1 [1, 2, 3] true none).2 = .ok () ∧
    (W3.d6.stream 0).state.isRecvEndStream = true ∧ "q0" ∈ W3.d6.wakes ∧ (W3.d6.stream 0).pushTask = none :=
  W3.dropped_body_end_stream_wakes_push_example

example : (W3.d5.stream 0).state.isRecvEndStream = false ∧ (W3.d5.recvRecvData 0 [1, 2, 3] true none).2 = .ok () ∧
    (W3.d5.recvRecvData 0 [1, 2, 3] true none).1.panicked = none ∧
    ((W3.d5.recvRecvData 0 [1, 2, 3] true none).1.stream 0).state.isRecvEndStream = true := by decide

/-- **(A) `poll_pushed`**: `Pending` ⇒ the caller is parked in `push_task`, no promised stream is queued and the
    receive side is still open; once the receive side has ended (or the stream is closed) it never waits. -/
theorem poll_pushed_pending_is_registered (s s' : Streams) (k : Nat) (tag : String) (a : Stream)
    (ha : s.store.get? k = some a) :
    (s.refPollPushed k tag = (s', .pending) →
      (s'.stream k).pushTask = some tag ∧ a.pendingPushPromises = [] ∧ a.state.ensureRecvOpen = .ok true ∧
      s'.wakes = s.wakes) ∧
    ((a.state.isRecvEndStream = true ∨ a.state.isClosed = true) → ∀ s'', s.recvPollPushed k tag ≠ (s'', .pending)) :=
  ⟨refPollPushed_pending ha, fun h => recvPollPushed_ended (by rw [stream_eq_of_get? ha]; exact h)⟩

example : (match (W3.p3.refPollPushed 0 "q0").2 with | .pending => true | _ => false) = true :=
  W3.data_end_stream_wakes_push_example.1

/-- **F35 (positive).**  `drop_stream_ref` of the last reference besides the connection's own (`refs = 2` before the
    call: a `SendRequest` drops its `Streams` handle BEFORE its `pending` stream reference, so that reference can
    be the last one) wakes the parked connection task — for every stream, in every state: the idle client gets
    polled, sees that nobody is left and closes itself.  Before the repair nothing woke it. -/
theorem drop_last_reference_wakes_connection (s : Streams) (k : Nat) (hrefs : s.refs = 2) :
    TaskWoken s (s.dropStreamRef k) :=
  dropStreamRef_last_ref_woken hrefs

/-- … on the witness: `SendRequest` with a pending stream dropped while the connection task `c` is parked -/
theorem drop_last_reference_wakes_connection_example :
    F35.f2.refs = 2 ∧ F35.f2.actions.task = some "c" ∧ F35.f3.refs = 1 ∧ "c" ∈ F35.f3.wakes ∧
    F35.f3.actions.task = none :=
  F35.last_stream_ref_wakes_connection_example

end H2V.Props.C06

#print axioms H2V.Props.C06.no_waker_dropped_silently
#print axioms H2V.Props.C06.parked_waker_kept_or_woken
#print axioms H2V.Props.C06.new_recv_event_wakes_reader
#print axioms H2V.Props.C06.capacity_increase_wakes_sender
#print axioms H2V.Props.C06.poll_capacity_pending_is_registered
#print axioms H2V.Props.C06.poll_reset_pending_is_registered
#print axioms H2V.Props.C06.recv_polls_pending_are_registered
#print axioms H2V.Props.C06.poll_ready_pending_is_registered
#print axioms H2V.Props.C06.queued_frame_wakes_connection
#print axioms H2V.Props.C06.send_request_wakes_connection
#print axioms H2V.Props.C06.send_headers_and_trailers_wake_connection
#print axioms H2V.Props.C06.send_reset_wakes_connection
#print axioms H2V.Props.C06.send_data_wakes_connection_or_has_no_capacity
#print axioms H2V.Props.C06.drop_last_handle_wakes_connection
#print axioms H2V.Props.C06.reserve_capacity_release_wakes_connection
#print axioms H2V.Props.C06.reserve_capacity_release_wakes_connection_example
#print axioms H2V.Props.C06.release_capacity_wakes_connection
#print axioms H2V.Props.C06.connection_poll_pending_is_parked
#print axioms H2V.Props.C06.poll_complete_ready_is_parked
#print axioms H2V.Props.C06.user_ping_wakes
#print axioms H2V.Props.C06.end_stream_step_wakes_push_waiter
#print axioms H2V.Props.C06.trailers_wake_push_waiter
#print axioms H2V.Props.C06.end_stream_wakes_push_waiter_examples
#print axioms H2V.Props.C06.data_end_stream_wakes_push_waiter
#print axioms H2V.Props.C06.data_end_stream_after_dropped_body_wakes_push_example
#print axioms H2V.Props.C06.poll_pushed_pending_is_registered
#print axioms H2V.Props.C06.drop_last_reference_wakes_connection
#print axioms H2V.Props.C06.drop_last_reference_wakes_connection_example
